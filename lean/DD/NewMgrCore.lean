/-
  DD.NewMgrCore — the constructor `BDD(levels)` as a function that does not depend on the line
  protocol: `DD.newMgr` (DD.Driver) is this function with the driver's result type
  (`newMgr_eq_core`, DDProofs.ConstructorDriver).  It exists so that theorems about the constructor can be
  stated without importing the line protocol (the driver's result type is `DD.DRes`, the result
  type of the history vocabulary of DDProofs.Reach is `DD.Res`).
-/
import DD.Ops
open Std

namespace DD

/-- `BDD(levels)`: `_assert_valid_ordering(levels)`, then `add_var(var, level)` for each item of
the dictionary, in its order -/
def newMgrCore (levels : List (String × Int)) : Except Err Unit × Mgr :=
  let n := levels.length
  let nums := levels.map (·.2)
  let okv := (List.range n).all (fun i => nums.contains (i : Int)) && nums.all (fun k => 0 ≤ k && k < n)
  if !okv then (.error .assertion, {}) else
  let x : M Unit := do
    for (v, l) in levels do
      let _ ← addVar v (some l)
    return ()
  x {}

end DD
