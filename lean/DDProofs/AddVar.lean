/-
  DDProofs.AddVar — `add_var(var, level)` as ONE equation, for any state and any arguments:
  the name is declared already (answered, or refused when another level is asked for), or it is
  declared now at a free level (the next one when none is given), or the level is taken or
  negative.
-/
import DD.Ops
open Std

namespace DD

abbrev Mgr.withVar (m : Mgr) (var : String) (j : Nat) : Mgr :=
  { m with tbl := { m.tbl with vars := m.tbl.vars.insert var j, l2v := m.tbl.l2v.insert j var } }

theorem addVar_run (var : String) (level : Option Int) (m : Mgr) :
    addVar var level m =
      match m.tbl.vars[var]? with
      | some vl =>
        (match level with
         | none => (.ok vl, m)
         | some lv => if lv = vl then (.ok vl, m) else (.error .value, m))
      | none =>
        if level.getD m.nvars < 0 then (.error .assertion, m) else
        match m.tbl.l2v[(level.getD m.nvars).toNat]? with
        | some _ => (.error .value, m)
        | none => (.ok (level.getD m.nvars).toNat, m.withVar var (level.getD m.nvars).toNat) := by
  unfold addVar
  simp only [bind, M.bind', M.get, pure]
  cases m.tbl.vars[var]? with
  | some vl =>
    cases level with
    | none => rfl
    | some lv => by_cases h : lv = (vl : Int) <;> simp [h, M.pure', M.throw]
  | none =>
    by_cases h : level.getD m.nvars < 0
    · simp [h, M.bind', M.throw]
    · simp only [h, ↓reduceIte]
      cases m.tbl.l2v[(level.getD m.nvars).toNat]? <;> rfl

end DD
