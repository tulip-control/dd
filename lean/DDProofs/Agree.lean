/-
  DDProofs.Agree — the (syntactic) support of a reference, "agree" lemmas (the value of a
  reference only depends on the levels of its support, all of which are ≥ its own level),
  and the small-step vocabulary shared by the specifications of the substitution
  recursions (`Step`).
-/
import DDProofs.Ite
open Std

namespace DD

/-- `i` is the level of a node reachable from `u` -/
inductive InSupp (t : Tbl) : Int → Nat → Prop
  | here {u : Int} {n : Nd} : u.natAbs ≠ 1 → t.node? u.natAbs = some n → InSupp t u n.lvl
  | lo {u : Int} {n : Nd} {i : Nat} : u.natAbs ≠ 1 → t.node? u.natAbs = some n →
      InSupp t n.lo i → InSupp t u i
  | hi {u : Int} {n : Nd} {i : Nat} : u.natAbs ≠ 1 → t.node? u.natAbs = some n →
      InSupp t n.hi i → InSupp t u i

theorem InSupp.ge {t : Tbl} (hw : WF t) {u : Int} {i : Nat} (h : InSupp t u i) :
    t.levelOf u ≤ i := by
  induction h with
  | here h1 hn => rw [levelOf_node t _ _ h1 hn]; exact Nat.le_refl _
  | lo h1 hn _ ih =>
    rw [levelOf_node t _ _ h1 hn]
    have := hw.lo_lt _ _ hn
    omega
  | hi h1 hn _ ih =>
    rw [levelOf_node t _ _ h1 hn]
    have := hw.hi_lt _ _ hn
    omega

theorem InSupp.lt_nvars {t : Tbl} (hw : WF t) {u : Int} {i : Nat} (h : InSupp t u i) :
    i < t.nvars := by
  induction h with
  | here h1 hn => exact hw.lvl_lt _ _ hn
  | lo _ _ _ ih => exact ih
  | hi _ _ _ ih => exact ih

theorem InSupp.neg {t : Tbl} {u : Int} {i : Nat} (h : InSupp t u i) : InSupp t (-u) i := by
  cases h with
  | here h1 hn => exact .here (by simpa using h1) (by simpa using hn)
  | lo h1 hn h => exact .lo (by simpa using h1) (by simpa using hn) h
  | hi h1 hn h => exact .hi (by simpa using h1) (by simpa using hn) h

theorem InSupp.ext {m t : Tbl} (he : Ext m t) {u : Int} {i : Nat} (h : InSupp m u i) :
    InSupp t u i := by
  induction h with
  | here h1 hn => exact .here h1 (he.nodes _ _ hn)
  | lo h1 hn _ ih => exact .lo h1 (he.nodes _ _ hn) ih
  | hi h1 hn _ ih => exact .hi h1 (he.nodes _ _ hn) ih

theorem den_agree_supp (t : Tbl) (hw : WF t) (u : Int) (hm : t.Mem u) (a b : Asg)
    (hab : ∀ i, InSupp t u i → a i = b i) : den t u a = den t u b := by
  revert hab
  refine ref_induction hw (fun u => (∀ i, InSupp t u i → a i = b i) → den t u a = den t u b)
    (fun u h1 _ => by rw [den_terminal t h1, den_terminal t h1])
    (fun u n h1 hn ihlo ihhi hab => ?_) u hm
  rw [den_node t hw u n _ h1 hn, den_node t hw u n _ h1 hn,
    ihhi fun i hi => hab i (.hi h1 hn hi), ihlo fun i hi => hab i (.lo h1 hn hi),
    hab n.lvl (.here h1 hn)]

theorem den_agree_ge (t : Tbl) (hw : WF t) (u : Int) (hm : t.Mem u) (a b : Asg)
    (hab : ∀ i, t.levelOf u ≤ i → i < t.nvars → a i = b i) : den t u a = den t u b :=
  den_agree_supp t hw u hm a b (fun i hi => hab i (hi.ge hw) (hi.lt_nvars hw))

/-- what an operation that only adds nodes (`find_or_add`, `_ite`, the substitution recursions)
does to the manager: invariant kept, old nodes unchanged, and the variable order, the reordering
flags, the schedule and the roots (`Frame`) as they were -/
structure Step (m m' : Mgr) : Prop where
  inv : Inv m'
  ext : Ext m.tbl m'.tbl
  frame : Frame m m'

theorem Step.refl {m : Mgr} (h : Inv m) : Step m m := ⟨h, Ext.refl _, Frame.refl _⟩
theorem Step.trans {a b c : Mgr} (h1 : Step a b) (h2 : Step b c) : Step a c :=
  ⟨h2.inv, h1.ext.trans h2.ext, h1.frame.trans h2.frame⟩
theorem Step.off {m m' : Mgr} (h : Step m m') (hoff : m.lastLen = none) : m'.lastLen = none :=
  h.frame.lastLen.trans hoff
theorem Step.nvars {m m' : Mgr} (h : Step m m') : m'.nvars = m.nvars := h.ext.nvars.symm
theorem Step.ofCtx {m m1 : Mgr} (hs : Step { m with ctx := true } m1) :
    Step m { m1 with ctx := m.ctx } :=
  ⟨hs.inv.setCtx _, hs.ext, hs.frame.restoreCtx⟩

theorem FoaPost'.step {m : Mgr} {i : Nat} {v w r : Int} {m' : Mgr} (h : FoaPost' m i v w r m') :
    Step m m' := ⟨h.inv, h.ext, h.frame⟩

theorem ItePost.step {m : Mgr} {g u v r : Int} {m' : Mgr} (h : ItePost m g u v r m') :
    Step m m' := ⟨h.inv, h.ext, h.frame⟩

theorem mem_one (t : Tbl) : t.Mem 1 := Or.inl rfl
theorem mem_neg_one (t : Tbl) : t.Mem (-1) := Or.inl rfl
theorem levelOf_one (t : Tbl) : t.levelOf 1 = t.nvars := levelOf_term t 1 rfl
theorem levelOf_neg_one (t : Tbl) : t.levelOf (-1) = t.nvars := levelOf_term t (-1) rfl

theorem node_succ_ne_zero {t : Tbl} (hw : WF t) {k : Nat} {n : Nd} (hn : t.node? k = some n) :
    ¬ (n.lo = 0 ∨ n.hi = 0) := by
  intro h
  rcases h with h | h
  · exact mem_ne_zero hw (hw.lo_mem _ _ hn) h
  · exact mem_ne_zero hw (hw.hi_mem _ _ hn) h

end DD
