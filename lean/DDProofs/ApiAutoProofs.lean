/-
  DDProofs.ApiAutoProofs — the `Function` methods inherited from `dd._abc.Operator` and the
  remaining `dd.autoref.BDD` wrappers, as corollaries of the C08 theorems:

  * the read-only ones (`count`, `pick`, `__hash__`, `__str__`, `var_at_level`, …) return what the
    core function returns for the node of the live `Function` and change NOTHING;
  * `exist`, `forall`, `let` ARE `BDD.quantify` / `BDD.let` on the wrapped manager (definitional),
    so they inherit `AKeeps` (invariant and count equation kept, one new handle, every live
    `Function` keeps its node and meaning).
-/
import DD.ApiAuto
import DDProofs.AutoProofs
open Std

namespace DD

variable {off : Bool}

theorem fCount_live (a : AMgr) (hi : AInv off a) (hs : Nat) (u : Int) (n : Option Int)
    (hh : a.handles[hs]? = some u) : fCount hs n a = (count a.m.tbl u n, a) := by
  show (nodeIn hs >>= fun u => AM.liftE fun m => count m.tbl u n) a = _
  rw [AM.bind_ok (hi.nodeIn hh)]
  rfl

/-- `f.pick(care_vars)` / `bdd.pick(f, care_vars)`: the first assignment `pick_iter` yields, `None`
when it yields nothing -/
theorem fPick_live (a : AMgr) (hi : AInv off a) (hs : Nat) (u : Int) (care : Option (List String))
    (hh : a.handles[hs]? = some u) :
    fPick hs care a = ((pickIter a.m.tbl u care).map List.head?, a) := by
  show ((nodeIn hs >>= fun u => AM.liftE fun m => pickIter m.tbl u care) >>=
    fun l => pure l.head?) a = _
  rw [AM.bind_eq, AM.bind_ok (hi.nodeIn hh)]
  unfold AM.liftE
  dsimp only
  cases pickIter a.m.tbl u care <;> rfl

/-- `hash(f)` = the node (`-2` for the node `-1`: CPython never returns the hash `-1`); two live
`Function`s on the same node hash alike, which is all `__eq__` needs -/
theorem fHash_live (a : AMgr) (hs : Nat) (u : Int) (hh : a.handles[hs]? = some u) :
    fHash hs a = (.ok (pyHash u), a) := by
  unfold fHash
  rw [AM.bind_ok (nodeOwn_eval hh)]
  rfl

/-- `str(f)` = `'@' + str(int(f))`: the text `_add_int` / the parser's `@n` read back -/
theorem fStr_live (a : AMgr) (hs : Nat) (u : Int) (hh : a.handles[hs]? = some u) :
    fStr hs a = (.ok s!"@{u}", a) := by
  unfold fStr
  rw [AM.bind_ok (nodeOwn_eval hh)]
  rfl

theorem aVarLevels_eq (a : AMgr) : aVarLevels a = (.ok (varLevels a.m.tbl), a) := rfl

theorem aLevelOfVar_eq (a : AMgr) (v : String) :
    aLevelOfVar v a = ((levelOfVar v a.m).1, a) :=
  liftM_read_eq (levelOfVar_read v) a

theorem aVarAtLevel_eq (a : AMgr) (i : Int) :
    aVarAtLevel i a = ((varAtLevel i a.m).1, a) :=
  liftM_read_eq (fun m => (varAtLevel_read i m).1) a

theorem fExist_eq (hs : Nat) (vs : List String) (h : Nat) :
    fExist hs vs h = aQuantify hs (vs.map Key.name) false h := rfl

theorem fForall_eq (hs : Nat) (vs : List String) (h : Nat) :
    fForall hs vs h = aQuantify hs (vs.map Key.name) true h := rfl

theorem fLet_eq (d : ALetArg) (hs h : Nat) : fLet d hs h = aLet d hs h := rfl

theorem aToExpr_eval (a : AMgr) (hi : AInv off a) (ju : Nat) (u : Int)
    (hu : a.handles[ju]? = some u) : aToExpr ju a = (toExpr a.m.tbl u, a) := by
  unfold aToExpr
  rw [AM.bind_ok (hi.nodeIn hu)]
  rfl

end DD
