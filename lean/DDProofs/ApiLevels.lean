/-
  DDProofs.ApiLevels — `BDD.levels(skip_terminals)`: for EVERY iteration order of the `_succ`
  dict, every stored node is yielded exactly once with its own triple, the terminal exactly when it
  is not skipped, nothing else, and the levels never increase along the sequence (bottom first).
  `iter(bdd)` (`iterNodes`) is one such order: the references `u > 0`, ascending.
-/
import DD.ApiCore
import DDProofs.Sem
open Std

namespace DD

/-- `ord` is a listing of the keys of `self._succ` — the terminal and every stored node — each
once: what `list(bdd._succ)` is, whatever the insertion history -/
structure SuccOrder (t : Tbl) (ord : List Nat) : Prop where
  nodup : ord.Nodup
  mem : ∀ u, u ∈ ord ↔ (u = 1 ∨ (t.node? u).isSome)

theorem mem_succ_keys (t : Tbl) (u : Nat) : u ∈ t.succ.keys ↔ (t.node? u).isSome := by
  rw [TreeMap.mem_keys, TreeMap.mem_iff_isSome_getElem?]
  rfl

theorem succOrderOk_iff (t : Tbl) (ord : List Nat) : succOrderOk t ord = true ↔ SuccOrder t ord := by
  have hc : ∀ u, t.succ.contains u = (t.node? u).isSome := fun u => TreeMap.contains_eq_isSome_getElem?
  unfold succOrderOk
  simp only [Bool.and_eq_true, decide_eq_true_eq, List.all_eq_true, Bool.or_eq_true, beq_iff_eq,
    List.contains_eq_mem, hc, mem_succ_keys]
  constructor
  · rintro ⟨⟨⟨hnd, h1⟩, hall⟩, hkeys⟩
    exact ⟨hnd, fun u => ⟨hall u, fun hu => hu.elim (fun h => h ▸ h1) (hkeys u)⟩⟩
  · intro h
    exact ⟨⟨⟨h.nodup, (h.mem 1).mpr (Or.inl rfl)⟩, fun u hu => (h.mem u).mp hu⟩,
      fun u hu => (h.mem u).mpr (Or.inr hu)⟩

/-- `iter(bdd)` lists exactly the references `u > 0` of the manager: the terminal, which the
model's `succ` leaves out, then the stored nodes -/
theorem mem_iterNodes (t : Tbl) (u : Nat) : u ∈ iterNodes t ↔ t.Mem (u : Int) := by
  unfold iterNodes Tbl.Mem
  rw [List.mem_cons, mem_succ_keys]
  rfl

theorem iterNodes_length (t : Tbl) : (iterNodes t).length = t.succ.size + 1 := by
  unfold iterNodes
  rw [List.length_cons, TreeMap.length_keys]

theorem iterNodes_sorted (t : Tbl) (hw : WF t) : (iterNodes t).Pairwise (· < ·) := by
  unfold iterNodes
  rw [List.pairwise_cons]
  constructor
  · intro k hk
    obtain ⟨n, hn⟩ := Option.isSome_iff_exists.mp ((mem_succ_keys t k).mp hk)
    have := hw.ge_two k n hn
    omega
  · exact (TreeMap.ordered_keys (t := t.succ)).imp (fun h => Nat.compare_eq_lt.mp h)

/-- the listing the driver takes when no order was recorded (`succOrd`) -/
theorem SuccOrder.ascending (t : Tbl) (hw : WF t) : SuccOrder t (1 :: t.succ.keys) :=
  ⟨(iterNodes_sorted t hw).imp Nat.ne_of_lt, fun u => (mem_iterNodes t u).trans (by simp [Tbl.Mem])⟩

theorem levelItem?_some {t : Tbl} {i u : Nat} {it : LevelItem} (h : levelItem? t i u = some it) :
    it.1 = u ∧ it.2.1 = i ∧
    ((u = 1 ∧ t.nvars = i ∧ it.2.2 = none) ∨
     (u ≠ 1 ∧ ∃ n, t.node? u = some n ∧ n.lvl = i ∧ it.2.2 = some (n.lo, n.hi))) := by
  unfold levelItem? at h
  by_cases h1 : u = 1
  · rw [if_pos h1] at h
    by_cases h2 : t.nvars = i
    · rw [if_pos h2] at h
      cases h
      exact ⟨h1.symm, rfl, Or.inl ⟨h1, h2, rfl⟩⟩
    · rw [if_neg h2] at h; cases h
  · rw [if_neg h1] at h
    cases hn : t.succ[u]? with
    | none => rw [hn] at h; cases h
    | some n =>
      rw [hn] at h
      simp only at h
      by_cases h2 : n.lvl = i
      · rw [if_pos h2] at h
        cases h
        exact ⟨rfl, rfl, Or.inr ⟨h1, n, hn, h2, rfl⟩⟩
      · rw [if_neg h2] at h; cases h

theorem levelItem?_node {t : Tbl} (hw : WF t) {u : Nat} {n : Nd} (hn : t.node? u = some n) :
    levelItem? t n.lvl u = some (u, n.lvl, some (n.lo, n.hi)) := by
  have h2 := hw.ge_two u n hn
  unfold levelItem?
  rw [if_neg (by omega)]
  have : t.succ[u]? = some n := hn
  rw [this]
  simp

theorem levelItem?_term (t : Tbl) : levelItem? t t.nvars 1 = some (1, t.nvars, none) := by
  simp [levelItem?]

theorem mem_levelsIter {t : Tbl} {skip : Bool} {ord : List Nat} {it : LevelItem} :
    it ∈ levelsIter t skip ord ↔
      ∃ i, i < (if skip then t.nvars else t.nvars + 1) ∧ ∃ u ∈ ord, levelItem? t i u = some it := by
  unfold levelsIter levelsAt
  simp only [List.mem_flatMap, List.mem_reverse, List.mem_range, List.mem_filterMap]

theorem levelsAt_lvl {t : Tbl} {ord : List Nat} {i : Nat} {it : LevelItem}
    (h : it ∈ levelsAt t ord i) : it.2.1 = i := by
  simp only [levelsAt, List.mem_filterMap] at h
  obtain ⟨u, _, hu⟩ := h
  exact (levelItem?_some hu).2.1

theorem range_reverse_pairwise (n : Nat) : (List.range n).reverse.Pairwise (fun a b => b < a) := by
  rw [List.pairwise_reverse]
  exact List.pairwise_lt_range

theorem levelsAt_fst (t : Tbl) (ord : List Nat) (i : Nat) :
    ((levelsAt t ord i).map (·.1)).Sublist ord := by
  unfold levelsAt
  induction ord with
  | nil => simp
  | cons u us ih =>
    rw [List.filterMap_cons]
    cases h : levelItem? t i u with
    | none => exact ih.trans (List.sublist_cons_self _ _)
    | some it =>
      simp only [List.map_cons]
      rw [(levelItem?_some h).1]
      exact ih.cons_cons _

/-- `levels(skip_terminals)`, for every iteration order of `_succ`: (1) every stored node is
yielded with its level and its two edges; (2) the terminal is yielded — as `(1, len(vars), None,
None)` — exactly when `skip_terminals` is false; (3) nothing else is yielded; (4) no node twice;
(5) levels never increase along the sequence: the bottom level (the terminal's) comes first, the
roots' level last -/
theorem levelsIter_spec (t : Tbl) (hw : WF t) (skip : Bool) (ord : List Nat) (ho : SuccOrder t ord) :
    (∀ u n, t.node? u = some n → (u, n.lvl, some (n.lo, n.hi)) ∈ levelsIter t skip ord) ∧
    ((1, t.nvars, none) ∈ levelsIter t skip ord ↔ skip = false) ∧
    (∀ it ∈ levelsIter t skip ord,
      (it = (1, t.nvars, none) ∧ skip = false) ∨
      ∃ n, t.node? it.1 = some n ∧ it = (it.1, n.lvl, some (n.lo, n.hi))) ∧
    ((levelsIter t skip ord).map (·.1)).Nodup ∧
    (levelsIter t skip ord).Pairwise (fun x y => y.2.1 ≤ x.2.1) := by
  refine ⟨fun u n hn => ?_, ?_, fun it hit => ?_, ?_, ?_⟩
  · rw [mem_levelsIter]
    refine ⟨n.lvl, ?_, u, (ho.mem u).mpr (Or.inr (by simp [hn])), levelItem?_node hw hn⟩
    have := hw.lvl_lt u n hn
    split <;> omega
  · rw [mem_levelsIter]
    constructor
    · rintro ⟨i, hi, u, _, hu⟩
      obtain ⟨h1, h2, h3⟩ := levelItem?_some hu
      simp only at h2
      cases skip with
      | false => rfl
      | true => simp only [if_true] at hi; omega
    · intro hs
      subst hs
      exact ⟨t.nvars, by simp, 1, (ho.mem 1).mpr (Or.inl rfl), levelItem?_term t⟩
  · rw [mem_levelsIter] at hit
    obtain ⟨i, hi, u, _, hu⟩ := hit
    obtain ⟨h1, h2, h3⟩ := levelItem?_some hu
    obtain ⟨a, b, c⟩ := it
    simp only at h1 h2 h3
    subst h1 h2
    rcases h3 with ⟨hu1, hnv, hc⟩ | ⟨_, n, hn, hl, hc⟩
    · left
      subst hu1 hc
      refine ⟨by rw [hnv], ?_⟩
      cases skip with
      | false => rfl
      | true => simp only [if_true] at hi; omega
    · right
      exact ⟨n, hn, by rw [hl, hc]⟩
  · unfold levelsIter
    rw [List.map_flatMap, List.Nodup, List.pairwise_flatMap]
    refine ⟨fun i _ => (levelsAt_fst t ord i).nodup ho.nodup, ?_⟩
    refine (range_reverse_pairwise _).imp ?_
    intro i j hji
    intro x hx y hx' he
    subst he
    simp only [levelsAt, List.mem_map, List.mem_filterMap] at hx hx'
    obtain ⟨it, ⟨u, _, hu⟩, rfl⟩ := hx
    obtain ⟨it', ⟨u', _, hu'⟩, he⟩ := hx'
    obtain ⟨h1, h2, h3⟩ := levelItem?_some hu
    obtain ⟨h1', h2', h3'⟩ := levelItem?_some hu'
    have huu : u = u' := by rw [← h1, ← h1', he]
    subst huu
    rcases h3 with ⟨hu1, hnv, _⟩ | ⟨hne, n, hn, hl, _⟩
    · rcases h3' with ⟨_, hnv', _⟩ | ⟨hne', _⟩
      · omega
      · exact hne' hu1
    · rcases h3' with ⟨hu1', _⟩ | ⟨_, n', hn', hl', _⟩
      · exact hne hu1'
      · rw [hn] at hn'
        cases hn'
        omega
  · unfold levelsIter
    rw [List.pairwise_flatMap]
    refine ⟨fun i _ => ?_, ?_⟩
    · apply List.pairwise_of_forall_mem_list
      intro x hx y hy
      rw [levelsAt_lvl hx, levelsAt_lvl hy]
      exact Nat.le_refl _
    · refine (range_reverse_pairwise _).imp ?_
      intro i j hji x hx y hy
      rw [levelsAt_lvl hx, levelsAt_lvl hy]
      omega

end DD
