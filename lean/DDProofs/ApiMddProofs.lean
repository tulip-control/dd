/-
  DDProofs.ApiMddProofs — `MDD.to_expr(u)`: for a well-formed MDD table whose levels all have a
  variable, the call returns normally for every reference and the printed conditional chain,
  evaluated under an assignment of integers to the variable NAMES, has the value of the reference
  under the corresponding assignment of the levels (`denM`) — for every assignment, in range or
  not (out of range no branch applies and both sides are the value of "no successor").
-/
import DD.ApiMdd
import DDProofs.MddSem
import DDProofs.SatList
open Std

namespace DD

/-- the assignment of the levels induced by an assignment of the variable names -/
def MTbl.liftN (t : MTbl) (σ : String → Nat) : MAsg := fun i =>
  match t.varAt? i with
  | some v => σ v.name
  | none => 0

/-- every level has a variable (`var_at_level` never raises `KeyError`) -/
def MTbl.Named (t : MTbl) : Prop := ∀ i, i < t.nvars → (t.varAt? i).isSome

theorem mIdxOf_contains (kids : List Int) (x : Int) (j : Nat) :
    (mIdxOf kids x).contains j = (kids[j]? == some x) := by
  unfold mIdxOf
  rw [Bool.eq_iff_iff]
  simp only [List.contains_eq_mem, List.mem_filter, List.mem_range, decide_eq_true_eq]
  refine ⟨fun h => h.2, fun h => ⟨?_, h⟩⟩
  by_cases hj : j < kids.length
  · exact hj
  · rw [List.getElem?_eq_none (by omega)] at h; cases h

theorem mChain_eval_none (var : String) (kids : List Int) (σ : String → Nat)
    (hj : kids[σ var]? = none) :
    ∀ bs : List (Int × MExpr), (mChain var kids bs).eval σ = false := by
  intro bs
  induction bs with
  | nil => rfl
  | cons b bs ih =>
    obtain ⟨x, e⟩ := b
    rw [mChain, MExpr.eval]
    rw [mIdxOf_contains, hj]
    simpa using ih

theorem mChain_eval_some (var : String) (kids : List Int) (σ : String → Nat) (k : Int)
    (val : Int → Bool) (E : Int → MExpr) (hj : kids[σ var]? = some k) :
    ∀ (c : List Int), (∀ x ∈ c, (E x).eval σ = val x) → k ∈ c →
      (mChain var kids (c.map fun x => (x, E x))).eval σ = val k := by
  intro c
  induction c with
  | nil => intro _ h; cases h
  | cons x c ih =>
    intro hE hk
    rw [List.map_cons, mChain, MExpr.eval]
    by_cases hxk : x = k
    · subst hxk
      rw [mIdxOf_contains, hj, beq_self_eq_true]
      simpa using hE x List.mem_cons_self
    · rw [mIdxOf_contains, hj, beq_false_of_ne fun h => hxk (Option.some.inj h).symm]
      have hk' : k ∈ c := by
        rcases List.mem_cons.mp hk with h | h
        · exact absurd h.symm hxk
        · exact h
      simpa using ih (fun y hy => hE y (List.mem_cons_of_mem _ hy)) hk'

theorem mToExprF_spec (t : MTbl) (hw : MWF t) (hN : t.Named) :
    ∀ (f : Nat) (u : Int), t.Mem u → t.nvars + 1 ≤ f + t.levelOf u →
      ∃ e, mToExprF f t u = .ok e ∧ ∀ σ, e.eval σ = denM t u (t.liftN σ) := by
  intro f
  induction f with
  | zero =>
    intro u hm hf
    have := t.levelOf_le hw u
    omega
  | succ f ih =>
    intro u hm hf
    rw [mToExprF]
    by_cases h1 : u = 1
    · subst h1
      exact ⟨.const true, by simp, fun σ => by rw [denM_one]; rfl⟩
    rw [if_neg h1]
    by_cases h2 : u = -1
    · subst h2
      exact ⟨.const false, by simp, fun σ => by rw [denM_neg_one]; rfl⟩
    rw [if_neg h2]
    have habs : u.natAbs ≠ 1 := by omega
    rcases hm with hm | hm
    · exact absurd hm habs
    obtain ⟨n, hn⟩ := Option.isSome_iff_exists.mp hm
    have hn' : t.succ[u.natAbs]? = some n := hn
    rw [hn']
    simp only
    have hlt := hw.lvl_lt _ _ hn
    obtain ⟨v, hv⟩ := Option.isSome_iff_exists.mp (hN n.lvl hlt)
    rw [hv]
    simp only
    have hlvl : t.levelOf u = n.lvl := t.levelOf_node u n habs hn
    -- the distinct successors and their expressions
    let E : Int → MExpr := fun x => match mToExprF f t x with | .ok e => e | .error _ => .fail
    have hkids : ∀ x ∈ dedup n.kids, mToExprF f t x = .ok (E x) ∧
        ∀ σ, (E x).eval σ = denM t x (t.liftN σ) := by
      intro x hx
      have hxk : x ∈ n.kids := mem_dedup.mp hx
      have hxm := hw.kids_mem _ _ hn x hxk
      have hxl := hw.kids_lt _ _ hn x hxk
      obtain ⟨e, he, hev⟩ := ih x hxm (by omega)
      have hEx : E x = e := by simp only [E, he]
      rw [hEx]
      exact ⟨he, hev⟩
    have hbs : mapME (fun x => (mToExprF f t x).map fun e => (x, e)) (dedup n.kids) =
        .ok ((dedup n.kids).map fun x => (x, E x)) :=
      mapME_ok _ _ _ (fun x hx => by rw [(hkids x hx).1]; rfl)
    rw [hbs]
    -- at least one successor
    obtain ⟨k0, rest, hk0, _⟩ := hw.head_pos _ _ hn
    have hk0m : k0 ∈ dedup n.kids :=
      mem_dedup.mpr (by rw [hk0]; exact List.mem_cons_self)
    cases hc : dedup n.kids with
    | nil => rw [hc] at hk0m; cases hk0m
    | cons c0 cs =>
      rw [List.map_cons]
      simp only
      rw [← List.map_cons (f := fun x => (x, E x)), ← hc]
      -- value of the chain under `σ`
      have hchain : ∀ σ, (mChain v.name n.kids ((dedup n.kids).map fun x => (x, E x))).eval σ =
          (match n.kids[(t.liftN σ) n.lvl]? with
            | some k => denM t k (t.liftN σ)
            | none => false) := by
        intro σ
        have hlift : (t.liftN σ) n.lvl = σ v.name := by simp [MTbl.liftN, hv]
        rw [hlift]
        cases hj : n.kids[σ v.name]? with
        | none => exact mChain_eval_none v.name n.kids σ hj _
        | some k =>
          simp only
          have hkm : k ∈ dedup n.kids := mem_dedup.mpr (List.mem_of_getElem? hj)
          exact mChain_eval_some v.name n.kids σ k (fun x => denM t x (t.liftN σ)) E hj
            (dedup n.kids) (fun x hx => (hkids x hx).2 σ) hkm
      by_cases hneg : u < 0
      · rw [if_pos hneg]
        refine ⟨_, rfl, fun σ => ?_⟩
        rw [MExpr.eval, hchain σ, denM_node t hw u n _ habs hn]
        cases n.kids[t.liftN σ n.lvl]? <;> simp [hneg]
      · rw [if_neg hneg]
        refine ⟨_, rfl, fun σ => ?_⟩
        rw [hchain σ, denM_node t hw u n _ habs hn]
        cases n.kids[t.liftN σ n.lvl]? <;> simp [hneg]

/-- a reference that is no node: `KeyError` -/
theorem mToExpr_not_mem (t : MTbl) (u : Int) (h1 : u.natAbs ≠ 1) (hn : t.succ[u.natAbs]? = none) :
    mToExpr t u = .error .key := by
  unfold mToExpr
  rw [mToExprF, if_neg (by omega), if_neg (by omega), hn]

end DD
