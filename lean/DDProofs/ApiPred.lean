/-
  DDProofs.ApiPred — `BDD.update_predecessors()`: for every iteration order of `_succ`, afterwards
  `_pred` maps the triple of every stored node to that node and is otherwise what it was.  Hence,
  in a manager whose `_pred` has only LOST entries (the situation the class docstring describes:
  nodes were put into `_succ` without `find_or_add`), the call restores the invariant `Inv`.
  Entries that name something that is not a stored node are NOT removed (the loop only writes).
-/
import DDProofs.ApiLevels
import DDProofs.PredNodesOrder
open Std

namespace DD

theorem updPredStep_other (t : Tbl) (p : TreeMap (List Int) Nat) (u : Nat) (k : List Int)
    (h : u = 1 ∨ ∀ n, t.node? u = some n → n.key ≠ k) : (updPredStep t p u)[k]? = p[k]? := by
  unfold updPredStep
  by_cases h1 : u = 1
  · rw [if_pos h1]
  · rw [if_neg h1]
    cases hn : t.succ[u]? with
    | none => rfl
    | some n =>
      simp only
      rcases h with h | h
      · exact absurd h h1
      · have hne : n.key ≠ k := h n hn
        simp [TreeMap.getElem?_insert, hne]

theorem updPredStep_self (t : Tbl) (p : TreeMap (List Int) Nat) (u : Nat) (n : Nd)
    (h1 : u ≠ 1) (hn : t.node? u = some n) : (updPredStep t p u)[n.key]? = some u := by
  unfold updPredStep
  rw [if_neg h1]
  have : t.succ[u]? = some n := hn
  rw [this]
  simp

theorem foldl_updPred_other (t : Tbl) (k : List Int) :
    ∀ (ord : List Nat) (p : TreeMap (List Int) Nat),
      (∀ u ∈ ord, u = 1 ∨ ∀ n, t.node? u = some n → n.key ≠ k) →
      (ord.foldl (updPredStep t) p)[k]? = p[k]? := by
  intro ord
  induction ord with
  | nil => intro p _; rfl
  | cons u us ih =>
    intro p h
    rw [List.foldl_cons, ih _ (fun u' hu' => h u' (List.mem_cons_of_mem _ hu')),
      updPredStep_other t p u k (h u List.mem_cons_self)]

theorem foldl_updPred_self (t : Tbl) (hw : WFU t) (u : Nat) (n : Nd) (h1 : u ≠ 1)
    (hn : t.node? u = some n) :
    ∀ (ord : List Nat) (p : TreeMap (List Int) Nat), u ∈ ord →
      (ord.foldl (updPredStep t) p)[n.key]? = some u := by
  intro ord
  induction ord with
  | nil => intro p h; cases h
  | cons u0 us ih =>
    intro p h
    rw [List.foldl_cons]
    by_cases hmem : u ∈ us
    · exact ih _ hmem
    · have hu0 : u = u0 := by
        rcases List.mem_cons.mp h with h | h
        · exact h
        · exact absurd h hmem
      subst hu0
      -- no later step overwrites the entry: no two stored nodes share a triple (`WFU.unique`)
      rw [foldl_updPred_other t n.key us _ ?_, updPredStep_self t p u n h1 hn]
      intro u' hu'
      by_cases h1' : u' = 1
      · exact Or.inl h1'
      · right
        intro n' hn' hk
        have : n' = n := Nd.key_inj hk
        subst this
        have := hw.unique u' u n' hn' hn
        subst this
        exact hmem hu'

/-- `update_predecessors()`, any iteration order: returns normally, touches nothing but `_pred`;
afterwards the triple of EVERY stored node is mapped to that node, and a key that is the triple of
no stored node keeps whatever entry it had -/
theorem updatePredecessors_spec (m : Mgr) (hw : WFU m.tbl) (ord : List Nat)
    (ho : SuccOrder m.tbl ord) :
    ∃ p, updatePredecessors ord m = (.ok (), { m with pred := p }) ∧
      (∀ u n, m.tbl.node? u = some n → p[n.key]? = some u) ∧
      (∀ k, (∀ u n, m.tbl.node? u = some n → n.key ≠ k) → p[k]? = m.pred[k]?) := by
  refine ⟨ord.foldl (updPredStep m.tbl) m.pred, rfl, fun u n hn => ?_, fun k hk => ?_⟩
  · have h2 := hw.ge_two u n hn
    exact foldl_updPred_self m.tbl hw u n (by omega) hn ord m.pred
      ((ho.mem u).mpr (Or.inr (by simp [hn])))
  · exact foldl_updPred_other m.tbl k ord m.pred (fun u _ => Or.inr (fun n hn => hk u n hn))

/-- if moreover no entry of `_pred` was wrong before (`PredNodes`: every entry is the triple of
the stored node it names — e.g. `_pred` lost entries, or is empty), then afterwards `_pred` is
EXACTLY the inverse of `_succ` -/
theorem updatePredecessors_exact (m : Mgr) (hw : WFU m.tbl) (hp : PredNodes m) (ord : List Nat)
    (ho : SuccOrder m.tbl ord) :
    ∃ p, updatePredecessors ord m = (.ok (), { m with pred := p }) ∧
      ∀ (n : Nd) (u : Nat), p[n.key]? = some u ↔ m.tbl.node? u = some n := by
  obtain ⟨p, he, h1, h2⟩ := updatePredecessors_spec m hw ord ho
  refine ⟨p, he, fun n u => ⟨fun h => ?_, fun h => h1 u n h⟩⟩
  by_cases hex : ∃ u' n', m.tbl.node? u' = some n' ∧ n'.key = n.key
  · obtain ⟨u', n', hn', hk⟩ := hex
    have : n' = n := Nd.key_inj hk
    subst this
    rw [h1 u' n' hn'] at h
    cases h
    exact hn'
  · have hno : ∀ u' n', m.tbl.node? u' = some n' → n'.key ≠ n.key :=
      fun u' n' hn' hk => hex ⟨u', n', hn', hk⟩
    rw [h2 n.key hno] at h
    obtain ⟨n', hn', hk⟩ := hp n.key u h
    exact absurd hk (hno u n' hn')

/-- a manager that satisfies the invariant except that entries were REMOVED from `_pred` -/
structure InvLostPred (m : Mgr) : Prop where
  wf : WFU m.tbl
  pred : PredNodes m
  freeGe : 2 ≤ m.minFree
  free : m.tbl.node? m.minFree = none
  refOne : m.ref.contains 1 = true
  refDom : ∀ u n, m.tbl.node? u = some n → m.ref.contains u = true
  cache : ∀ g u v w, m.cache[iteKey g u v]? = some w → CacheEntryOK m.tbl g u v w

/-- `update_predecessors()` on such a manager restores the invariant: `Inv` holds afterwards
(and nothing but `_pred` changed) -/
theorem updatePredecessors_restores (m : Mgr) (h : InvLostPred m) (ord : List Nat)
    (ho : SuccOrder m.tbl ord) :
    ∃ p, updatePredecessors ord m = (.ok (), { m with pred := p }) ∧ Inv { m with pred := p } := by
  obtain ⟨p, he, hp⟩ := updatePredecessors_exact m h.wf h.pred ord ho
  exact ⟨p, he, ⟨h.wf, hp, h.freeGe, h.free, h.refOne, h.refDom, h.cache⟩⟩

/-- forgetting entries of `_pred` (`predDrop`, `predClear`) leads from a good manager whose
`_pred` has only triples as keys to such a manager -/
theorem predClear_lost (m : Mgr) (h : Inv m) : InvLostPred (predClear m).2 :=
  ⟨h.wf, fun k u hk => by
      have : (∅ : TreeMap (List Int) Nat)[k]? = some u := hk
      simp at this,
    h.freeGe, h.free, h.refOne, h.refDom, h.cache⟩

theorem predDrop_lost (m : Mgr) (h : Inv m) (hp : PredNodes m) (u : Nat) :
    InvLostPred (predDrop u m).2 := by
  unfold predDrop
  cases hn : m.tbl.succ[u]? with
  | none => exact ⟨h.wf, hp, h.freeGe, h.free, h.refOne, h.refDom, h.cache⟩
  | some n =>
    refine ⟨h.wf, fun k v hk => ?_, h.freeGe, h.free, h.refOne, h.refDom, h.cache⟩
    have hk' : (m.pred.erase n.key)[k]? = some v := hk
    rw [TreeMap.getElem?_erase] at hk'
    split at hk'
    · cases hk'
    · exact hp k v hk'

end DD
