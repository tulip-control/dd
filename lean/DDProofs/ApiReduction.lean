/-
  DDProofs.ApiReduction — `BDD.reduction()`: the bottom-up copy of a manager into a NEW manager
  through `find_or_add`, for EVERY iteration order of the `_succ` dict.  From a manager in a good
  state the call returns normally and leaves `self` as it was; the new manager has the same
  variable order, is itself in a good state (counts exact for an EMPTY ledger) and holds for every
  reference of the source one denoting the same function (`ReductionPost`).  No lookup in `umap`
  fails because `levels(skip_terminals=True)` lists the successors of a node before the node.
-/
import DDProofs.ApiLevels
import DDProofs.MgrCopyProofs
open Std

namespace DD

theorem freshLike_node? (t : Tbl) (u : Nat) : (freshLike t).tbl.node? u = none :=
  nodeFree_node? _ _ u

theorem freshLike_nvars (t : Tbl) : (freshLike t).tbl.nvars = t.nvars := rfl

theorem freshLike_inv (t : Tbl) : Inv (freshLike t) := nodeFree_inv _ _

theorem freshLike_refExact (t : Tbl) : RefExact (freshLike t) (fun _ => 0) :=
  nodeFree_refExact _ _

/-- the invariant of the loop of `reduction`, on the new manager `b` and on `umap` -/
structure RedInv (t : Tbl) (b : Mgr) (umap : TreeMap Nat Int) : Prop where
  inv : Inv b
  vars : b.tbl.vars = t.vars
  l2v : b.tbl.l2v = t.l2v
  exact : RefExact b (fun _ => 0)
  off : b.lastLen = none
  ctx : b.ctx = false
  cache : b.cache = ({} : TreeMap (List Int) Int)
  roots : b.roots = []
  sched : b.sched = []
  one : umap[1]? = some 1
  ok : ∀ u r, umap[u]? = some r →
    (u = 1 ∨ (t.node? u).isSome) ∧ 0 < r ∧ b.tbl.Mem r ∧
    t.levelOf (u : Int) ≤ b.tbl.levelOf r ∧ ∀ a, den b.tbl r a = den t (u : Int) a

theorem RedInv.nvars {t : Tbl} {b : Mgr} {umap : TreeMap Nat Int} (h : RedInv t b umap) :
    b.tbl.nvars = t.nvars := by
  simp only [Tbl.nvars, h.vars]

theorem redInv_init (t : Tbl) : RedInv t (freshLike t) (({} : TreeMap Nat Int).insert 1 1) := by
  have hget : ∀ u, ((∅ : TreeMap Nat Int).insert 1 1)[u]? = if 1 = u then some 1 else none :=
    fun u => getElem?_insert_eq ∅ 1 1 u
  refine ⟨freshLike_inv t, rfl, rfl, freshLike_refExact t, rfl, rfl, rfl, rfl, rfl, ?_, ?_⟩
  · rw [hget]; simp
  · intro u r h
    rw [hget] at h
    by_cases h1 : 1 = u
    · rw [if_pos h1] at h
      cases h
      subst h1
      refine ⟨Or.inl rfl, by omega, Or.inl rfl, ?_, fun a => ?_⟩
      · show t.levelOf (1 : Int) ≤ (freshLike t).tbl.levelOf 1
        rw [levelOf_term _ _ (by rfl), levelOf_term _ _ (by rfl)]
        exact Nat.le_refl _
      · show den _ 1 a = den t (1 : Int) a
        rw [den_one, den_one]
    · rw [if_neg h1] at h; cases h

theorem RedInv.flip_ok {t : Tbl} {b : Mgr} {umap : TreeMap Nat Int} (h : RedInv t b umap)
    (hw : WF t) {v : Int} {p : Int} (hv : t.Mem v) (hp : umap[v.natAbs]? = some p) :
    b.tbl.Mem (flip p v) ∧ t.levelOf v ≤ b.tbl.levelOf (flip p v) ∧
    ∀ a, den b.tbl (flip p v) a = den t v a := by
  obtain ⟨_, _, hm, hl, hd⟩ := h.ok _ _ hp
  rw [levelOf_natAbs] at hl
  unfold flip
  by_cases hneg : v < 0
  · rw [if_pos hneg]
    have hvn : (v.natAbs : Int) = -v := by omega
    refine ⟨mem_neg hm, by rw [levelOf_neg]; exact hl, fun a => ?_⟩
    rw [den_neg _ h.inv.wf.toWF _ _ hm, hd a, hvn, den_neg _ hw _ _ hv, Bool.not_not]
  · rw [if_neg hneg]
    have hvn : (v.natAbs : Int) = v := by omega
    exact ⟨hm, hl, fun a => by rw [hd a, hvn]⟩

theorem reductionStep_spec (t : Tbl) (hw : WF t) (b : Mgr) (umap : TreeMap Nat Int)
    (h : RedInv t b umap) (u : Nat) (n : Nd) (hn : t.node? u = some n)
    (p q : Int) (hp : umap[n.lo.natAbs]? = some p) (hq : umap[n.hi.natAbs]? = some q) :
    ∃ b' r, reductionStep (u, n.lvl, some (n.lo, n.hi)) (b, umap) = .ok (b', umap.insert u r) ∧
      RedInv t b' (umap.insert u r) ∧ Ext b.tbl b'.tbl := by
  have hu2 := hw.ge_two u n hn
  have hu0 : u ≠ 0 := by omega
  obtain ⟨hmp, hlp, hdp⟩ := h.flip_ok hw (hw.lo_mem u n hn) hp
  obtain ⟨hmq, hlq, hdq⟩ := h.flip_ok hw (hw.hi_mem u n hn) hq
  have hlvl : n.lvl < b.tbl.nvars := by rw [h.nvars]; exact hw.lvl_lt u n hn
  obtain ⟨r, b', he, hpost⟩ := findOrAddCore_spec b h.inv n.lvl (flip p n.lo) (flip q n.hi) hlvl hmp hmq
    (Nat.lt_of_lt_of_le (hw.lo_lt u n hn) hlp) (Nat.lt_of_lt_of_le (hw.hi_lt u n hn) hlq)
  have hWb' := hpost.inv.wf.toWF
  obtain ⟨hu1, hnu⟩ := node_natCast hu2 hn
  have hden : ∀ a, den b'.tbl r a = den t (u : Int) a := by
    intro a
    rw [hpost.den a, hdp a, hdq a, den_node t hw (u : Int) n a hu1 hnu]
    have : ¬ ((u : Int) < 0) := by omega
    simp [this]
  -- its sign: positive, by the all-true assignment
  have hrpos : 0 < r := by
    apply pos_of_den_alltrue b'.tbl hWb' r hpost.mem
    rw [hden, den_alltrue t hw (u : Int) (Or.inr (by simp [hn]))]
    exact decide_eq_true (by omega)
  refine ⟨b', r, ?_, ?_, hpost.ext⟩
  · unfold reductionStep
    simp only [if_neg hu0, hp, hq]
    rw [findOrAdd_eq_core _ (Or.inl h.ctx) _ _ _, he]
    simp only
    rw [if_neg (by omega)]
  · have hget := fun k => getElem?_insert_eq umap u r k
    refine ⟨hpost.inv, by rw [hpost.frame.vars]; exact h.vars, by rw [hpost.frame.l2v]; exact h.l2v,
      ?_, by rw [hpost.frame.lastLen]; exact h.off, by rw [hpost.frame.ctx]; exact h.ctx,
      by rw [hpost.cacheSame]; exact h.cache, by rw [hpost.frame.roots]; exact h.roots,
      by rw [hpost.frame.sched]; exact h.sched, ?_, ?_⟩
    · have := findOrAddCore_refExact b (fun _ => 0) n.lvl (flip p n.lo) (flip q n.hi)
        h.inv.wf.toWF.closed h.exact
      rw [he] at this
      exact this
    · rw [hget, if_neg (by omega)]; exact h.one
    · intro k r' hk
      rw [hget] at hk
      by_cases hku : u = k
      · rw [if_pos hku] at hk
        cases hk
        subst hku
        refine ⟨Or.inr (by simp [hn]), hrpos, hpost.mem, ?_, hden⟩
        rw [levelOf_node t (u : Int) n hu1 hnu]
        exact hpost.lvl
      · rw [if_neg hku] at hk
        obtain ⟨h1, h2, h3, h4, h5⟩ := h.ok k r' hk
        refine ⟨h1, h2, hpost.ext.mem h3, ?_, fun a => ?_⟩
        · rw [hpost.ext.levelOf h3]; exact h4
        · rw [den_ext hpost.ext h.inv.wf.toWF r' a h3]; exact h5 a

/-- `its` are the tuples `(u, i, v, w)` of the stored nodes `us`, in the order of `us` -/
def ItemsOf (t : Tbl) : List Nat → List LevelItem → Prop
  | [], its => its = []
  | u :: us, its => ∃ n rest, t.node? u = some n ∧ its = (u, n.lvl, some (n.lo, n.hi)) :: rest ∧
      ItemsOf t us rest

theorem reductionLoop_spec (t : Tbl) (hw : WF t) :
    ∀ (us : List Nat) (its : List LevelItem) (b : Mgr) (umap : TreeMap Nat Int),
      ItemsOf t us its → RedInv t b umap →
      (∀ (pre post : List Nat) (u : Nat) (n : Nd), us = pre ++ u :: post → t.node? u = some n →
        ∀ c, (c = n.lo.natAbs ∨ c = n.hi.natAbs) → (umap[c]?).isSome ∨ c ∈ pre) →
      ∃ b' umap', reductionLoop its (b, umap) = .ok (b', umap') ∧ RedInv t b' umap' ∧
        (∀ k : Nat, (umap[k]?).isSome → (umap'[k]?).isSome) ∧ (∀ u ∈ us, (umap'[u]?).isSome) := by
  intro us
  induction us with
  | nil =>
    intro its b umap hits h _
    cases hits
    exact ⟨b, umap, rfl, h, fun _ hk => hk, fun _ hu => by cases hu⟩
  | cons u us ih =>
    intro its b umap hits h hch
    obtain ⟨n, rest, hn, rfl, hrest⟩ := hits
    have hlo := hch [] us u n rfl hn n.lo.natAbs (Or.inl rfl)
    have hhi := hch [] us u n rfl hn n.hi.natAbs (Or.inr rfl)
    simp only [List.not_mem_nil, or_false] at hlo hhi
    obtain ⟨p, hp⟩ := Option.isSome_iff_exists.mp hlo
    obtain ⟨q, hq⟩ := Option.isSome_iff_exists.mp hhi
    obtain ⟨b1, r, he, h1, _⟩ := reductionStep_spec t hw b umap h u n hn p q hp hq
    have hget : ∀ k : Nat, (umap[k]?).isSome → ((umap.insert u r)[k]?).isSome := by
      intro k hk
      rw [TreeMap.getElem?_insert]
      split
      · rfl
      · exact hk
    have hself : ((umap.insert u r)[u]?).isSome := by
      rw [TreeMap.getElem?_insert]; simp
    obtain ⟨b', umap', he', h', hmono, hall⟩ := ih rest b1 (umap.insert u r) hrest h1 (by
      intro pre post u' n' hsplit hn' c hc
      rcases hch (u :: pre) post u' n' (by rw [hsplit]; rfl) hn' c hc with hc' | hc'
      · exact Or.inl (hget c hc')
      · rcases List.mem_cons.mp hc' with hcu | hcp
        · left; rw [hcu]; exact hself
        · exact Or.inr hcp)
    refine ⟨b', umap', ?_, h', fun k hk => hmono k (hget k hk), fun x hx => ?_⟩
    · show reductionLoop (_ :: rest) (b, umap) = _
      rw [reductionLoop, he]
      exact he'
    · rcases List.mem_cons.mp hx with hxu | hxs
      · rw [hxu]; exact hmono u hself
      · exact hall x hxs

theorem itemsOf_of_levels (t : Tbl) (hw : WF t) (ord : List Nat) (ho : SuccOrder t ord) :
    ItemsOf t ((levelsIter t true ord).map (·.1)) (levelsIter t true ord) := by
  obtain ⟨_, hterm, hall, _, _⟩ := levelsIter_spec t hw true ord ho
  have hno : (1, t.nvars, (none : Option (Int × Int))) ∉ levelsIter t true ord := by
    intro h; have := hterm.mp h; cases this
  generalize levelsIter t true ord = L at hall hno
  induction L with
  | nil => rfl
  | cons it rest ih =>
    have h0 := hall it List.mem_cons_self
    rcases h0 with ⟨_, hs⟩ | ⟨n, hn, hit⟩
    · cases hs
    · refine ⟨n, rest, hn, ?_, ih (fun x hx => hall x (List.mem_cons_of_mem _ hx))
        (fun hx => hno (List.mem_cons_of_mem _ hx))⟩
      conv => lhs; rw [hit]

/-- in a listing whose levels never increase and which contains every stored node, the successors
of a node are listed before it -/
theorem children_first (t : Tbl) (hw : WF t) (ord : List Nat) (ho : SuccOrder t ord)
    (pre post : List Nat) (u : Nat) (n : Nd)
    (hsplit : (levelsIter t true ord).map (·.1) = pre ++ u :: post) (hn : t.node? u = some n)
    (c : Nat) (hc : c = n.lo.natAbs ∨ c = n.hi.natAbs) : c = 1 ∨ c ∈ pre := by
  obtain ⟨hnodes, _, hall, hnd, hpw⟩ := levelsIter_spec t hw true ord ho
  have hcm : t.Mem (c : Int) ∧ n.lvl < t.levelOf (c : Int) := by
    rcases hc with rfl | rfl
    · exact ⟨mem_natAbs (hw.lo_mem u n hn), by rw [levelOf_natAbs]; exact hw.lo_lt u n hn⟩
    · exact ⟨mem_natAbs (hw.hi_mem u n hn), by rw [levelOf_natAbs]; exact hw.hi_lt u n hn⟩
  obtain ⟨hcmem, hclvl⟩ := hcm
  by_cases hc1 : c = 1
  · exact Or.inl hc1
  right
  rcases hcmem with h1 | h1
  · simp at h1; exact absurd h1 hc1
  obtain ⟨nc, hnc⟩ := Option.isSome_iff_exists.mp h1
  simp only [Int.natAbs_natCast] at hnc
  have hclvl' : n.lvl < nc.lvl := by
    rw [levelOf_node t (c : Int) nc (by simpa using hc1) (by simpa using hnc)] at hclvl
    exact hclvl
  have hcin : c ∈ (levelsIter t true ord).map (·.1) :=
    List.mem_map.mpr ⟨_, hnodes c nc hnc, rfl⟩
  rw [hsplit] at hcin
  rcases List.mem_append.mp hcin with hpre | hrest
  · exact hpre
  · exfalso
    rcases List.mem_cons.mp hrest with hcu | hpost
    · subst hcu
      rw [hn] at hnc; cases hnc; omega
    · -- `u` before `c` in the listing: level of `c` ≤ level of `u`
      have hpw' : ((levelsIter t true ord).map (·.1)).Pairwise
          (fun x y => ∀ nx ny, t.node? x = some nx → t.node? y = some ny → ny.lvl ≤ nx.lvl) := by
        rw [List.pairwise_map]
        refine List.Pairwise.imp_of_mem ?_ hpw
        intro x y hx hy hxy nx ny hnx hny
        rcases hall x hx with ⟨rfl, hs⟩ | ⟨nx', hnx', hxe⟩
        · cases hs
        rcases hall y hy with ⟨rfl, hs⟩ | ⟨ny', hny', hye⟩
        · cases hs
        rw [hnx] at hnx'; cases hnx'
        rw [hny] at hny'; cases hny'
        rw [hxe, hye] at hxy
        exact hxy
      rw [hsplit, List.pairwise_append] at hpw'
      have := (List.pairwise_cons.mp hpw'.2.1).1 c hpost n nc hn hnc
      omega

theorem reductionLoop_total (t : Tbl) (hw : WF t) (ord : List Nat) (ho : SuccOrder t ord) :
    ∃ b umap, reductionLoop (levelsIter t true ord)
        (freshLike t, ({} : TreeMap Nat Int).insert 1 1) = .ok (b, umap) ∧
      RedInv t b umap ∧ ∀ u : Int, t.Mem u ↔ (umap[u.natAbs]?).isSome := by
  obtain ⟨b, umap, he, hinv, _, hall⟩ := reductionLoop_spec t hw
    ((levelsIter t true ord).map (·.1)) (levelsIter t true ord)
    (freshLike t) (({} : TreeMap Nat Int).insert 1 1) (itemsOf_of_levels t hw ord ho)
    (redInv_init t) (by
      intro pre post u n hsplit hn c hc
      rcases children_first t hw ord ho pre post u n hsplit hn c hc with h1 | h1
      · left; subst h1; rw [(redInv_init t).one]; rfl
      · exact Or.inr h1)
  refine ⟨b, umap, he, hinv, fun u => ⟨fun hu => ?_, fun hu => ?_⟩⟩
  · rcases hu with h1 | h1
    · rw [h1, hinv.one]; rfl
    · obtain ⟨n, hn⟩ := Option.isSome_iff_exists.mp h1
      exact hall _ (List.mem_map.mpr ⟨_, (levelsIter_spec t hw true ord ho).1 _ n hn, rfl⟩)
  · obtain ⟨r, hr⟩ := Option.isSome_iff_exists.mp hu
    exact (hinv.ok _ _ hr).1

/-- the translation `u ↦ _flip(umap[abs(u)], u)` of a reference -/
def trRef (umap : TreeMap Nat Int) (u : Int) : Int := flip ((umap[u.natAbs]?).getD 0) u

theorem reductionRoots_ok (umap : TreeMap Nat Int) :
    ∀ (roots : List Int), (∀ v ∈ roots, (umap[v.natAbs]?).isSome) →
      reductionRoots umap roots = .ok (roots.map (trRef umap)) := by
  intro roots
  induction roots with
  | nil => intro _; rfl
  | cons v vs ih =>
    intro h
    obtain ⟨p, hp⟩ := Option.isSome_iff_exists.mp (h v List.mem_cons_self)
    rw [reductionRoots, hp, ih (fun x hx => h x (List.mem_cons_of_mem _ hx))]
    simp [trRef, hp]

theorem reductionRoots_err (umap : TreeMap Nat Int) :
    ∀ (roots : List Int), (∃ v ∈ roots, umap[v.natAbs]? = none) →
      reductionRoots umap roots = .error .key
  | [], ⟨_, hv, _⟩ => by cases hv
  | w :: ws, ⟨v, hv, hnone⟩ => by
    rw [reductionRoots]
    cases hw : umap[w.natAbs]? with
    | none => rfl
    | some p =>
      have hvw : v ∈ ws := (List.mem_cons.mp hv).resolve_left fun h => by
        subst h; rw [hnone] at hw; cases hw
      simp only
      rw [reductionRoots_err umap ws ⟨v, hvw, hnone⟩]

/-- what `reduction()` returns for a source table `t` with roots `roots`: a manager `b` in a good
state with the order of the source, in which every reference of the source has a translation
with the same meaning -/
structure ReductionPost (t : Tbl) (roots : List Int) (b : Mgr) (tr : Int → Int) : Prop where
  good : GoodState b (fun _ => 0)
  vars : b.tbl.vars = t.vars
  l2v : b.tbl.l2v = t.l2v
  cacheEmpty : b.cache.isEmpty = true
  /-- every reference of the source is translated to a reference of the new manager … -/
  mem : ∀ u, t.Mem u → b.tbl.Mem (tr u)
  /-- … that commutes with complementation … -/
  neg : ∀ u, t.Mem u → tr (-u) = -tr u
  /-- … and denotes the same function of the levels … -/
  den : ∀ u, t.Mem u → ∀ a, den b.tbl (tr u) a = den t u a
  /-- … and of the variable names -/
  denN : ∀ u, t.Mem u → ∀ σ, denN b.tbl (tr u) σ = denN t u σ
  /-- `bdd.roots` = the translated roots of `self` -/
  roots : ∀ r, r ∈ b.roots ↔ ∃ v ∈ roots, r = tr v
  /-- the result is canonical: equal functions ⇔ equal references -/
  canon : ∀ r r', b.tbl.Mem r → b.tbl.Mem r' → (r = r' ↔ ∀ a, DD.den b.tbl r a = DD.den b.tbl r' a)
  /-- distinct references of the source stay distinct (no two nodes are merged) -/
  inj : ∀ u v, t.Mem u → t.Mem v → tr u = tr v → u = v

theorem flip_neg_arg (p u : Int) (hu : u ≠ 0) : flip p (-u) = -flip p u := by
  unfold flip
  by_cases h : u < 0
  · have : ¬ (-u < 0) := by omega
    rw [if_pos h, if_neg this]; omega
  · have : -u < 0 := by omega
    rw [if_neg h, if_pos this]

theorem reductionBody_of_loop {t : Tbl} (hO : OrderOK t) (roots : List Int) {ord : List Nat} {b : Mgr}
    {umap : TreeMap Nat Int}
    (he : reductionLoop (levelsIter t true ord) (freshLike t, ({} : TreeMap Nat Int).insert 1 1) =
      .ok (b, umap)) :
    reductionBody t roots ord = (reductionRoots umap roots).map fun rs => { b with roots := dedup rs } := by
  unfold reductionBody
  rw [copyValidOrdering_of_orderOK hO]
  simp only [Bool.not_true, Bool.false_eq_true, if_false]
  rw [he]
  dsimp only
  cases reductionRoots umap roots <;> rfl

theorem reductionBody_spec (t : Tbl) (hw : WFU t) (hO : OrderOK t) (roots : List Int)
    (hroots : ∀ v ∈ roots, t.Mem v) (ord : List Nat) (ho : SuccOrder t ord) :
    ∃ b tr, reductionBody t roots ord = .ok b ∧ ReductionPost t roots b tr ∧ b.sched = [] := by
  have hW := hw.toWF
  obtain ⟨b, umap, he, hinv, hmem⟩ := reductionLoop_total t hW ord ho
  have hdom := fun u hu => (hmem u).mp hu
  have hflip : ∀ u : Int, t.Mem u → b.tbl.Mem (trRef umap u) ∧
      ∀ a, den b.tbl (trRef umap u) a = den t u a := by
    intro u hu
    obtain ⟨p, hp⟩ := Option.isSome_iff_exists.mp (hdom u hu)
    have := hinv.flip_ok hW hu hp
    simp only [trRef, hp, Option.getD_some]
    exact ⟨this.1, this.2.2⟩
  have hOb : OrderOK b.tbl := hO.congr hinv.vars hinv.l2v
  have hcanon := fun r r' hr hr' => (canonical b.tbl hinv.inv.wf r r' hr hr')
  refine ⟨{ b with roots := dedup (roots.map (trRef umap)) }, trRef umap, ?_, ?_, hinv.sched⟩
  · rw [reductionBody_of_loop hO roots he,
      reductionRoots_ok umap roots (fun v hv => hdom v (hroots v hv))]
    rfl
  · refine ⟨⟨hinv.inv.congr rfl rfl rfl rfl rfl, hOb, hinv.exact.congr rfl rfl, hinv.off, hinv.ctx⟩, hinv.vars, hinv.l2v, ?_, fun u hu => (hflip u hu).1, ?_,
      fun u hu => (hflip u hu).2, ?_, ?_, fun r r' hr hr' => (hcanon r r' hr hr').symm, ?_⟩
    · show b.cache.isEmpty = true
      rw [hinv.cache]; rfl
    · intro u hu
      have hu0 : u ≠ 0 := mem_ne_zero hW hu
      show flip _ (-u) = -flip _ u
      rw [Int.natAbs_neg]
      exact flip_neg_arg _ u hu0
    · intro u hu σ
      show den b.tbl (trRef umap u) (b.tbl.lift σ) = den t u (t.lift σ)
      have : b.tbl.lift σ = t.lift σ := by
        funext i
        simp only [Tbl.lift, Tbl.nameOf, hinv.l2v]
      rw [this]
      exact (hflip u hu).2 _
    · intro r
      show r ∈ dedup (roots.map (trRef umap)) ↔ _
      rw [mem_dedup, List.mem_map]
      constructor
      · rintro ⟨v, hv, rfl⟩; exact ⟨v, hv, rfl⟩
      · rintro ⟨v, hv, rfl⟩; exact ⟨v, hv, rfl⟩
    · intro u v hu hv huv
      apply (canonical t hw u v hu hv).mp
      intro a
      rw [← (hflip u hu).2 a, ← (hflip v hv).2 a, huv]

theorem reduction_of_body (m : Mgr) (ord : List Nat) (x : Except Err Mgr)
    (hne : x ≠ .error .needsReordering) (h : reductionBody m.tbl m.roots ord = x) :
    reduction ord m = (x, m) := by
  have hm : ({ ({ m with ctx := true } : Mgr) with ctx := m.ctx } : Mgr) = m := by cases m; rfl
  unfold reduction
  cases x with
  | ok b =>
    rw [tryToReorder_ok (fun m => (reductionBody m.tbl m.roots ord, m)) m b { m with ctx := true }
      (by rw [← h]), hm]
  | error e =>
    rw [tryToReorder_err (fun m => (reductionBody m.tbl m.roots ord, m)) m e { m with ctx := true }
      (by rw [← h]) fun he => hne (he ▸ rfl), hm]

/-- `BDD.reduction()` on a manager in a good state (every reachable state), for every iteration
order of `_succ`: returns normally, `self` is unchanged, the result is as `ReductionPost` says -/
theorem reduction_spec (m : Mgr) (hI : Inv m) (hO : OrderOK m.tbl)
    (hroots : ∀ v ∈ m.roots, m.tbl.Mem v) (ord : List Nat) (ho : SuccOrder m.tbl ord) :
    ∃ b tr, reduction ord m = (.ok b, m) ∧ ReductionPost m.tbl m.roots b tr := by
  obtain ⟨b, tr, he, hp, _⟩ := reductionBody_spec m.tbl hI.wf hO m.roots hroots ord ho
  exact ⟨b, tr, reduction_of_body m ord _ nofun he, hp⟩

/-- a root of `self` that is not a node makes the call raise `KeyError` (after the copy of all
nodes); `self` is unchanged -/
theorem reduction_bad_root (m : Mgr) (hI : Inv m) (hO : OrderOK m.tbl) (ord : List Nat)
    (ho : SuccOrder m.tbl ord) (v : Int) (hv : v ∈ m.roots) (hnm : ¬ m.tbl.Mem v) :
    reduction ord m = (.error .key, m) := by
  obtain ⟨b, umap, he, _, hmem⟩ := reductionLoop_total m.tbl hI.wf.toWF ord ho
  have hnone : umap[v.natAbs]? = none :=
    Option.not_isSome_iff_eq_none.mp fun h => hnm ((hmem v).mpr h)
  refine reduction_of_body m ord _ nofun ?_
  rw [reductionBody_of_loop hO m.roots he, reductionRoots_err umap m.roots ⟨v, hv, hnone⟩]
  rfl

end DD
