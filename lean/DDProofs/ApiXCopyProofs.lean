/-
  DDProofs.ApiXCopyProofs — `dd._copy.copy_bdd` / `copy_bdds_from` (the copy through the public
  `Function` interface, `DD.xcopyF`): with reordering not enabled in the target and every variable
  of the support declared there, the call returns normally, the target keeps its invariant and
  only gains nodes, and the result denotes the same function of the variable NAMES (the statement
  of C11, for any two orders); copies of regular references are regular; and the counts stay
  exact (`Lite`), which is what the autoref layer needs.
-/
import DD.ApiXCopy
import DDProofs.ReachTotal
import DDProofs.LetCopy
open Std

namespace DD

theorem XLook.frame {lm : List (Nat × Nat)} {S : Tbl} {m m' : Mgr} {u : Int}
    (h : XLook lm S m.tbl u) (hs : Step m m') : XLook lm S m'.tbl u := by
  intro i hi
  obtain ⟨v, j, h1, h2, h3, h4⟩ := h i hi
  have hn : m'.tbl.nvars = m.tbl.nvars := hs.nvars
  exact ⟨v, j, h1, by rw [hs.frame.vars]; exact h2, h3, by rw [hn]; exact h4⟩

/-- `_copy._copy_bdd`: the analogue of `copyBddF_spec` -/
theorem xcopyF_spec (S : Tbl) (hS : WF S) (lm : List (Nat × Nat)) :
    ∀ (fu : Nat) (m : Mgr) (u : Int) (cache : HashMap Nat Int),
    Inv m → m.lastLen = none → S.Mem u → CMemo lm S m.tbl cache → XLook lm S m.tbl u →
    S.nvars + 1 ≤ fu + S.levelOf u →
    ∃ r c' m', xcopyF S fu u cache m = (.ok (r, c'), m') ∧ Step m m' ∧
      CMemo lm S m'.tbl c' ∧ CPost lm S m'.tbl u r := by
  intro fu
  induction fu with
  | zero =>
    intro m u cache _ _ hu _ _ hfu
    have := levelOf_le S hS u
    omega
  | succ fu ih =>
    intro m u cache hI hoff hu hmemo hlm hfu
    have hW := hI.wf.toWF
    unfold xcopyF
    by_cases hu1 : u = 1
    · subst hu1
      simp only [if_true]
      exact ⟨1, cache, m, rfl, Step.refl hI, hmemo, Or.inl rfl, Iff.rfl,
        fun a => by rw [den_one, den_one]⟩
    rw [if_neg hu1]
    by_cases hu2 : u = -1
    · subst hu2
      simp only [if_true]
      exact ⟨-1, cache, m, rfl, Step.refl hI, hmemo, Or.inl rfl, Iff.rfl,
        fun a => by rw [den_neg_one, den_neg_one]⟩
    rw [if_neg hu2]
    have h1 : u.natAbs ≠ 1 := by omega
    cases hc : cache[u.natAbs]? with
    | some r =>
      simp only
      obtain ⟨_, hp⟩ := hmemo _ r hc
      have hrpos : 0 < r := hp.sign.mpr (by omega)
      exact ⟨_, cache, m, rfl, Step.refl hI, hmemo, hp.flip hS hW hu hrpos⟩
    | none =>
      simp only
      obtain ⟨n, hn⟩ := mem_node hu h1
      have hn' : S.succ[u.natAbs]? = some n := hn
      rw [hn']
      simp only
      have hlu := levelOf_node S u n h1 hn
      have hlo := hS.lo_lt _ _ hn
      have hhi := hS.hi_lt _ _ hn
      have hlom := hS.lo_mem _ _ hn
      have hhim := hS.hi_mem _ _ hn
      obtain ⟨p, c1, m1, he1, hs1, hm1, hp1⟩ := ih m n.lo cache hI hoff hlom hmemo
        (fun i hi => hlm i (.lo h1 hn hi)) (by omega)
      rw [he1]
      simp only
      have hW1 := hs1.inv.wf.toWF
      obtain ⟨q, c2, m2, he2, hs2, hm2, hp2⟩ := ih m1 n.hi c1 hs1.inv (hs1.off hoff) hhim hm1
        (XLook.frame (fun i hi => hlm i (.hi h1 hn hi)) hs1) (by omega)
      rw [he2]
      simp only
      have hW2 := hs2.inv.wf.toWF
      have hs12 := hs1.trans hs2
      have hp1_2 := hp1.ext hW1 hs2.ext
      have hqpos : 0 < q := hp2.sign.mpr (hS.hi_pos _ _ hn)
      obtain ⟨name, jnew, hname, hvar, hj, hjlt⟩ := hlm n.lvl (.here h1 hn)
      rw [hname]
      simp only
      have hn2 : m2.tbl.nvars = m.tbl.nvars := hs12.nvars
      have hjlt2 : jnew < m2.nvars := by show jnew < m2.tbl.nvars; rw [hn2]; exact hjlt
      obtain ⟨g, m3, he3, hk3, hg3, hd3⟩ := var_spec m2 hs2.inv (hs12.off hoff) name jnew
        (by rw [hs12.frame.vars]; exact hvar) hjlt2
      have hs3 := hk3.toStep
      rw [he3]
      simp only
      have hW3 := hs3.inv.wf.toWF
      have hs123 := hs12.trans hs3
      have hp1_3 := hp1_2.ext hW2 hs3.ext
      have hp2_3 := hp2.ext hW2 hs3.ext
      obtain ⟨r, m4, he4, hp4⟩ := ite_spec_off' m3 hs3.inv (hs123.off hoff) g q p
        hg3 hp2_3.mr hp1_3.mr
      rw [he4]
      simp only
      have hs4 := hs123.trans hp4.step
      have hW4 := hp4.inv.wf.toWF
      have hrpos : 0 < r := by
        apply pos_of_den_alltrue m4.tbl hW4 r hp4.mem
        rw [hp4.den, hd3]
        simp only [if_true]
        have := den_alltrue m3.tbl hW3 q hp2_3.mr
        rw [this]; simpa using hqpos
      have hnn : S.node? ((u.natAbs : Int)).natAbs = some n := by simpa using hn
      have hk : 0 < u.natAbs := Int.natAbs_pos.mpr (mem_ne_zero hS hu)
      have hpos : CPost lm S m4.tbl (u.natAbs : Int) r := by
        refine ⟨hp4.mem, ⟨fun _ => Int.natCast_pos.mpr hk, fun _ => hrpos⟩, fun a => ?_⟩
        rw [hp4.den a, den_node S hS (u.natAbs : Int) n _ (by simpa using h1) hnn,
          hp1_3.den a, hp2_3.den a, hd3 a]
        have h2 : ¬ ((u.natAbs : Int) < 0) := Int.not_lt.mpr (Int.natCast_nonneg _)
        have h3 : cmap lm a n.lvl = a jnew := by simp [cmap, hj]
        simp [h2, h3]
      exact ⟨_, _, m4, rfl, hs4,
        (((hm2.ext hW2 hs3.ext).ext hW3 hp4.ext).insert hk hpos),
        hpos.flip hS hW4 hu hrpos⟩

theorem XLook.denName {lm : List (Nat × Nat)} {s t t1 : Tbl} {u r : Int} (hl : XLook lm s t u)
    (hS : WF s) (hu : s.Mem u) (hVt : VarsBij t) (hl2v : t1.l2v = t.l2v)
    (hp : CPost lm s t1 u r) : denName t1 r = denName s u :=
  funext fun a => hl.den hS hu hp _ _ fun i v j _ hv hj => by
    simp [nameAsg, hv, hl2v, hVt.v2l _ _ hj]

/-- `dd._copy.copy_bdd(u, target)`: `s` is the node table of the manager of `u`, `m` the target;
every variable of the support of `u` is declared in the target.  The copy denotes the same
function of the variable names (for ANY two orders); the target keeps its invariant and only
gains nodes. -/
theorem xcopyBody_spec (s : Tbl) (hS : WF s) (hVs : VarsBij s) (m : Mgr) (hI : Inv m)
    (hoff : m.lastLen = none) (hVm : VarsBij m.tbl) (u : Int) (hu : s.Mem u)
    (hsup : ∀ i v, InSupp s u i → s.l2v[i]? = some v → m.tbl.vars.contains v = true) :
    ∃ r m', xcopyBody s u m = (.ok r, m') ∧ Inv m' ∧ Ext m.tbl m'.tbl ∧ m'.tbl.Mem r ∧
      Frame m m' ∧ (0 < r ↔ 0 < u) ∧ denName m'.tbl r = denName s u := by
  have hl := XLook.of_declared hS hVs hVm hsup
  obtain ⟨r, c', m1, he, hs, _, hp⟩ := xcopyF_spec s hS (copyMap s m.tbl)
    (s.nvars + 2) m u {} hI hoff hu (CMemo.empty _ _ _) hl (by omega)
  refine ⟨r, m1, ?_, hs.inv, hs.ext, hp.mr, hs.frame, hp.sign, hl.denName hS hu hVm hs.frame.l2v hp⟩
  unfold xcopyBody
  rw [he]

theorem xcopyList_spec (S : Tbl) (hS : WF S) (lm : List (Nat × Nat)) :
    ∀ (us : List Int) (m : Mgr) (cache : HashMap Nat Int),
    Inv m → m.lastLen = none → (∀ u ∈ us, S.Mem u) → CMemo lm S m.tbl cache →
    (∀ u ∈ us, XLook lm S m.tbl u) →
    ∃ rs m', xcopyList S us cache m = (.ok rs, m') ∧ Step m m' ∧ rs.length = us.length ∧
      ∀ p ∈ us.zip rs, CPost lm S m'.tbl p.1 p.2 := by
  intro us
  induction us with
  | nil =>
    intro m cache hI _ _ _ _
    exact ⟨[], m, rfl, Step.refl hI, rfl, fun p hp => by cases hp⟩
  | cons u us ih =>
    intro m cache hI hoff hmem hmemo hlook
    obtain ⟨r, c1, m1, he1, hs1, hm1, hp1⟩ := xcopyF_spec S hS lm (S.nvars + 2) m u cache hI hoff
      (hmem u List.mem_cons_self) hmemo (hlook u List.mem_cons_self) (by omega)
    obtain ⟨rs, m2, he2, hs2, hlen, hall⟩ := ih m1 c1 hs1.inv (hs1.off hoff)
      (fun x hx => hmem x (List.mem_cons_of_mem _ hx)) hm1
      (fun x hx => (hlook x (List.mem_cons_of_mem _ hx)).frame hs1)
    refine ⟨r :: rs, m2, ?_, hs1.trans hs2, by simp [hlen], ?_⟩
    · simp only [xcopyList, he1, he2]
    · intro p hp
      rw [List.zip_cons_cons] at hp
      rcases List.mem_cons.mp hp with h | h
      · subst h
        exact hp1.ext hs1.inv.wf.toWF hs2.ext
      · exact hall p h

/-- `dd._copy.copy_bdds_from(roots, target)`: every element of the result denotes, by variable
name, the function of the corresponding root (one memo serves all roots) -/
theorem xcopyList_denName (s : Tbl) (hS : WF s) (hVs : VarsBij s) (m : Mgr) (hI : Inv m)
    (hoff : m.lastLen = none) (hVm : VarsBij m.tbl) (us : List Int) (hu : ∀ u ∈ us, s.Mem u)
    (hsup : ∀ u ∈ us, ∀ i v, InSupp s u i → s.l2v[i]? = some v → m.tbl.vars.contains v = true) :
    ∃ rs m', xcopyList s us {} m = (.ok rs, m') ∧ Inv m' ∧ Ext m.tbl m'.tbl ∧ Frame m m' ∧
      rs.length = us.length ∧
      ∀ p ∈ us.zip rs, m'.tbl.Mem p.2 ∧ (0 < p.2 ↔ 0 < p.1) ∧ denName m'.tbl p.2 = denName s p.1 := by
  have hl : ∀ u ∈ us, XLook (copyMap s m.tbl) s m.tbl u := fun u hu' =>
    XLook.of_declared hS hVs hVm (hsup u hu')
  obtain ⟨rs, m1, he, hs, hlen, hall⟩ := xcopyList_spec s hS (copyMap s m.tbl) us m {} hI hoff hu
    (CMemo.empty _ _ _) hl
  refine ⟨rs, m1, he, hs.inv, hs.ext, hs.frame, hlen, fun p hp => ?_⟩
  have hpu : p.1 ∈ us := (List.of_mem_zip hp).1
  have hpost := hall p hp
  exact ⟨hpost.mr, hpost.sign, (hl p.1 hpu).denName hS (hu p.1 hpu) hVm hs.frame.l2v hpost⟩

/-! ### counts: the state stays `Lite` for ARBITRARY arguments -/

theorem xcopyF_lite (ext : Nat → Nat) (src : Tbl) :
    ∀ (fu : Nat) (u : Int) (cache : HashMap Nat Int) (m : Mgr), Lite ext m →
    LiteOut ext (xcopyF src fu u cache m) := by
  intro fu
  induction fu with
  | zero => intro u cache m h; exact h.err _ (by simp)
  | succ fu ih =>
    intro u cache m h
    unfold xcopyF
    -- a terminal or a memo hit returns at once
    split
    · exact h.ok _
    split
    · exact h.ok _
    split
    · exact h.ok _
    -- the source node, the copies of `low` and of `high`
    split
    · exact h.err _ (by simp)
    split
    · next heq => exact (ih _ _ _ h).of_eq heq
    next heq =>
    have h1 := (ih _ _ _ h).of_eq heq
    split
    · next heq => exact (ih _ _ _ h1.1).of_eq heq
    next heq =>
    have h2 := (ih _ _ _ h1.1).of_eq heq
    -- the name of the level, `bdd.var`, `bdd.ite`
    split
    · exact h2.1.err _ (by simp)
    split
    · next heq => exact ((var_lite ext _ _ h2.1).of_eq heq).reErr
    next heq =>
    have h3 := (var_lite ext _ _ h2.1).of_eq heq
    split
    · next heq => exact ((ite_lite ext _ _ _ _ h3.1).of_eq heq).reErr
    next heq =>
    have h4 := (ite_lite ext _ _ _ _ h3.1).of_eq heq
    exact h4.1.ok _

theorem xcopyBody_lite (ext : Nat → Nat) (s : Tbl) (u : Int) (m : Mgr) (h : Lite ext m) :
    LiteOut ext (xcopyBody s u m) := by
  unfold xcopyBody
  have h1 := xcopyF_lite ext s (s.nvars + 2) u {} m h
  generalize xcopyF s (s.nvars + 2) u {} m = res at h1 ⊢
  obtain ⟨r, m1⟩ := res
  cases r with
  | error e => exact h1.reErr
  | ok rc => exact ⟨h1.1, by simp⟩

end DD
