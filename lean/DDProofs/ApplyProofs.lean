/-
  DDProofs.ApplyProofs — `apply`.  Where a call ends is a function of the operator, the operands
  and the table (`applyEnd`: an answer of its own checks, the negated operand, the one call of
  `ite`, the one call of `quantify`); the
  texts of `apply` in the model — over any `ite` / `quantify`, and the choice-driven one — are
  that end run (`applyG_applyC_eq_end`), and `applyEnd_ok` says what is known of an end.
  `applyG_rel_quant` is the reading for two instances on the same arguments.  Then the three paths
  on which `apply` does not fail, and the propositional connectives: `apply_conn_eq` says that such
  a call is the decorated `ite` on three atoms of the table row (`IteOnAtoms`), derived from the
  regenerated table's `decide`d soundness.
-/
import DD.Capacity2
import DD.DynChoice
import DDProofs.IteOutcome
import DDProofs.ApplyTable
import DDProofs.PlainErrors
open Std

namespace DD

theorem applyG_model : applyG ite quantify = apply := rfl

/-- the operator is not a quantifier alias (the hypothesis of `C17_apply`) -/
def NonQuantOp (op : String) : Prop :=
  ∀ row, findRow op Gen.applyTable = some row → ∀ fa f b, row.templ ≠ .quant fa f b

inductive ApplyEnd
  | err (e : Err)
  | neg
  | ite (a b c : Int)
  | quant (b : Int) (q : List Key) (fa : Bool)

/-- where `apply(op, u, v, w)` ends, as a function of the table: an exception of its own checks,
the negated operand, the decorated `ite`, or the decorated `quantify` -/
def applyEnd (op : String) (u : Int) (v w : Option Int) (m : Mgr) : ApplyEnd :=
  match assertOperatorArity op v w with
  | .error e => .err e
  | .ok _ =>
    if !m.mem u then .err .value else
    if optNotMem m v then .err .value else
    if optNotMem m w then .err .value else
    match findRow op Gen.applyTable with
    | none => .err .value
    | some row =>
      match row.templ with
      | .neg => .neg
      | .ite a b c' =>
        match v with
        | none => .err .value
        | some vv =>
          match (if atomUsesW a || atomUsesW b || atomUsesW c' then w else some (w.getD 0)) with
          | none => .err .value
          | some ww =>
            match atomVal u vv ww a, atomVal u vv ww b, atomVal u vv ww c' with
            | .ok a, .ok b, .ok c' => .ite a b c'
            | .error e, _, _ => .err e
            | _, .error e, _ => .err e
            | _, _, .error e => .err e
      | .quant fa frm body =>
        match v with
        | none => .err .value
        | some vv =>
          match atomVal u vv 0 frm, atomVal u vv 0 body with
          | .ok f, .ok b =>
            match support m.tbl f with
            | .error e => .err e
            | .ok q => .quant b (q.map Key.name) fa
          | .error e, _ => .err e
          | _, .error e => .err e
      | .notImpl => .err .notImplemented
      | .bad => .err .other

/-- the texts of `apply` — over any `ite` / `quantify` (DD.Capacity2; the model's own at `ite`,
`quantify`) and the choice-driven one (DD.DynChoice) — end where `applyEnd` says -/
theorem applyG_applyC_eq_end (iteX : Int → Int → Int → M Int) (quantX : Int → List Key → Bool → M Int)
    (c : Choice) (op : String) (u : Int) (v w : Option Int) (log : List SchedItem) (m : Mgr) :
    (applyG iteX quantX op u v w m = match applyEnd op u v w m with
      | .err e => (.error e, m)
      | .neg => (.ok (-u), m)
      | .ite a b c => iteX a b c m
      | .quant b q fa => quantX b q fa m) ∧
    applyC c op u v w log m = match applyEnd op u v w m with
      | .err e => (.error e, m)
      | .neg => (.ok (-u, log), m)
      | .ite a b c' => tryToReorderC c (iteRaw a b c') log m
      | .quant b q fa => tryToReorderC c (quantifyBody b q fa) log m := by
  unfold applyG applyC applyEnd
  -- case on what the texts test, in their order: every test decides all of them at once
  cases assertOperatorArity op v w with
  | error e => exact ⟨rfl, rfl⟩
  | ok _ =>
  dsimp only
  cases !m.mem u with
  | true => exact ⟨rfl, rfl⟩
  | false =>
  cases optNotMem m v with
  | true => exact ⟨rfl, rfl⟩
  | false =>
  cases optNotMem m w with
  | true => exact ⟨rfl, rfl⟩
  | false =>
  simp only [Bool.false_eq_true, ↓reduceIte]
  cases findRow op Gen.applyTable with
  | none => exact ⟨rfl, rfl⟩
  | some row =>
  dsimp only
  cases row.templ with
  | neg => exact ⟨rfl, rfl⟩
  | notImpl => exact ⟨rfl, rfl⟩
  | bad => exact ⟨rfl, rfl⟩
  | ite a b c =>
    dsimp only
    cases v with
    | none => exact ⟨rfl, rfl⟩
    | some vv =>
    dsimp only
    cases (if atomUsesW a || atomUsesW b || atomUsesW c then w else some (w.getD 0)) with
    | none => exact ⟨rfl, rfl⟩
    | some ww =>
    dsimp only
    cases atomVal u vv ww a <;> cases atomVal u vv ww b <;> cases atomVal u vv ww c <;> exact ⟨rfl, rfl⟩
  | quant fa frm body =>
    dsimp only
    cases v with
    | none => exact ⟨rfl, rfl⟩
    | some vv =>
    dsimp only
    cases atomVal u vv 0 frm <;> cases atomVal u vv 0 body <;> try exact ⟨rfl, rfl⟩
    dsimp only
    cases support m.tbl _ <;> exact ⟨rfl, rfl⟩

theorem applyG_eq_end (iteX : Int → Int → Int → M Int) (quantX : Int → List Key → Bool → M Int)
    (op : String) (u : Int) (v w : Option Int) (m : Mgr) :
    applyG iteX quantX op u v w m = match applyEnd op u v w m with
      | .err e => (.error e, m)
      | .neg => (.ok (-u), m)
      | .ite a b c => iteX a b c m
      | .quant b q fa => quantX b q fa m :=
  (applyG_applyC_eq_end iteX quantX .default op u v w [] m).1

theorem apply_eq_end (op : String) (u : Int) (v w : Option Int) (m : Mgr) :
    apply op u v w m = match applyEnd op u v w m with
      | .err e => (.error e, m)
      | .neg => (.ok (-u), m)
      | .ite a b c => ite a b c m
      | .quant b q fa => quantify b q fa m :=
  applyG_eq_end ite quantify op u v w m

theorem applyC_eq_end (c : Choice) (op : String) (u : Int) (v w : Option Int) (log : List SchedItem)
    (m : Mgr) :
    applyC c op u v w log m = match applyEnd op u v w m with
      | .err e => (.error e, m)
      | .neg => (.ok (-u, log), m)
      | .ite a b c' => tryToReorderC c (iteRaw a b c') log m
      | .quant b q fa => tryToReorderC c (quantifyBody b q fa) log m :=
  (applyG_applyC_eq_end ite quantify c op u v w log m).2

/-- what is known of an end of `apply(op, …)`: a refusal is neither internal signal, a
quantification comes from a quantifier row of the table -/
def ApplyEnd.Ok (op : String) : ApplyEnd → Prop
  | .err e => ∀ s, Signal s → e ≠ s
  | .quant _ _ fa => ∃ row f b, findRow op Gen.applyTable = some row ∧ row.templ = .quant fa f b
  | _ => True

theorem applyEnd_ok (op : String) (u : Int) (v w : Option Int) (m : Mgr) :
    (applyEnd op u v w m).Ok op := by
  have lit : ∀ e : Err, e ≠ .needsReordering → e ≠ .sched → ∀ s, Signal s → e ≠ s :=
    fun e h1 h2 s hs => by rcases hs with rfl | rfl <;> assumption
  have of : ∀ {α : Type} {x : Except Err α} {e : Err}, (∀ s, Signal s → x ≠ .error s) → x = .error e →
      ∀ s, Signal s → e ≠ s := fun hx h s hs he => hx s hs (he ▸ h)
  have atom : ∀ {x y z a e}, atomVal x y z a = .error e → ∀ s, Signal s → e ≠ s :=
    of fun s hs => atomVal_plain _ _ _ _ s hs
  have value := lit .value (by decide) (by decide)
  unfold applyEnd
  cases har : assertOperatorArity op v w with
  | error e => exact of (fun s hs => assertOperatorArity_plain op v w s hs) har
  | ok _ =>
  dsimp only
  cases !m.mem u with
  | true => exact value
  | false =>
  cases optNotMem m v with
  | true => exact value
  | false =>
  cases optNotMem m w with
  | true => exact value
  | false =>
  simp only [Bool.false_eq_true, ↓reduceIte]
  cases hr : findRow op Gen.applyTable with
  | none => exact value
  | some row =>
  dsimp only
  cases ht : row.templ with
  | neg => trivial
  | notImpl => exact lit .notImplemented (by decide) (by decide)
  | bad => exact lit .other (by decide) (by decide)
  | ite a b c =>
    dsimp only
    cases v with
    | none => exact value
    | some vv =>
    dsimp only
    cases (if atomUsesW a || atomUsesW b || atomUsesW c then w else some (w.getD 0)) with
    | none => exact value
    | some ww =>
    dsimp only
    cases ha : atomVal u vv ww a with
    | error e => exact atom ha
    | ok xa =>
    cases hb : atomVal u vv ww b with
    | error e => exact atom hb
    | ok xb =>
    cases hc : atomVal u vv ww c with
    | error e => exact atom hc
    | ok xc => trivial
  | quant fa frm body =>
    dsimp only
    cases v with
    | none => exact value
    | some vv =>
    dsimp only
    cases hf : atomVal u vv 0 frm with
    | error e => exact atom hf
    | ok f =>
    cases hb : atomVal u vv 0 body with
    | error e => exact atom hb
    | ok b =>
    dsimp only
    cases hq : support m.tbl f with
    | error e => exact of (fun s hs => support_plain m.tbl f s hs) hq
    | ok q => exact ⟨row, frm, body, hr, ht⟩

theorem applyEnd_err_ne {op : String} {u : Int} {v w : Option Int} {m : Mgr} {e : Err}
    (h : applyEnd op u v w m = .err e) : e ≠ .sched := by
  have hok := applyEnd_ok op u v w m
  rw [h] at hok
  exact hok _ (.inr rfl)

/-- RELATIONAL lemma: two instances of `applyG` on the same arguments and state are related by
`P` as soon as `P` relates (i) an answer that is not the reordering signal given with the state
unchanged, to itself, (ii) the two `ite`s on the same operands, and (iii), if the operator is a
quantifier alias, the two `quantify`s on the same operands -/
theorem applyG_rel_quant (ite1 ite2 : Int → Int → Int → M Int)
    (Q1 Q2 : Int → List Key → Bool → M Int) (op : String) (u : Int) (v w : Option Int) (m : Mgr)
    (P : Except Err Int × Mgr → Except Err Int × Mgr → Prop)
    (hsame : ∀ r : Except Err Int, r ≠ .error .needsReordering → P (r, m) (r, m))
    (hite : ∀ a b c, P (ite1 a b c m) (ite2 a b c m))
    (hquant : ∀ row fa f b, findRow op Gen.applyTable = some row → row.templ = .quant fa f b →
      ∀ x q, P (Q1 x q fa m) (Q2 x q fa m)) :
    P (applyG ite1 Q1 op u v w m) (applyG ite2 Q2 op u v w m) := by
  have hok := applyEnd_ok op u v w m
  rw [applyG_eq_end, applyG_eq_end]
  generalize applyEnd op u v w m = E at hok
  cases E with
  | err e => exact hsame _ fun h => hok _ (.inl rfl) (by cases h; rfl)
  | neg => exact hsame _ nofun
  | ite a b c => exact hite a b c
  | quant b q fa =>
    obtain ⟨row, f, bd, hr, ht⟩ := hok
    exact hquant row fa f bd hr ht b q

/-- the operator is not a quantifier alias: no hypothesis on the two `quantify`s -/
theorem applyG_rel (ite1 ite2 : Int → Int → Int → M Int) (Q1 Q2 : Int → List Key → Bool → M Int)
    (op : String) (u : Int) (v w : Option Int) (m : Mgr) (hnq : NonQuantOp op)
    (P : Except Err Int × Mgr → Except Err Int × Mgr → Prop)
    (hsame : ∀ r : Except Err Int, r ≠ .error .needsReordering → P (r, m) (r, m))
    (hite : ∀ a b c, P (ite1 a b c m) (ite2 a b c m)) :
    P (applyG ite1 Q1 op u v w m) (applyG ite2 Q2 op u v w m) :=
  applyG_rel_quant ite1 ite2 Q1 Q2 op u v w m P hsame hite
    (fun row fa f b hr ht => absurd ht (hnq row hr fa f b))

/-- where `apply(op, u, v, w)` ends: an answer of its own checks (not the signal) with nothing
changed, the decorated `ite`, or the decorated `quantify` -/
theorem apply_elim {P : Except Err Int × Mgr → Prop} (op : String) (u : Int) (v w : Option Int)
    (m : Mgr) (hsame : ∀ r : Except Err Int, r ≠ .error .needsReordering → P (r, m))
    (hite : ∀ a b c, P (ite a b c m)) (hquant : ∀ b q fa, P (quantify b q fa m)) :
    P (apply op u v w m) :=
  applyG_rel_quant ite ite quantify quantify op u v w m (fun x _ => P x) hsame hite
    (fun _ fa _ _ _ _ b q => hquant b q fa)

theorem optNotMem_false {m : Mgr} {x : Option Int} (h : ∀ y, x = some y → m.tbl.Mem y) :
    optNotMem m x = false := by
  cases x with
  | none => rfl
  | some y => simp [optNotMem, (Mgr.mem_iff m y).mpr (h y rfl)]

theorem applyG_neg (iteX : Int → Int → Int → M Int) (quantX : Int → List Key → Bool → M Int)
    {op : String} {u : Int} {v w : Option Int} {m : Mgr} {row : ApplyRow}
    (har : assertOperatorArity op v w = .ok ()) (hu : m.tbl.Mem u)
    (hv : ∀ y, v = some y → m.tbl.Mem y) (hw : ∀ y, w = some y → m.tbl.Mem y)
    (hrow : findRow op Gen.applyTable = some row) (ht : row.templ = .neg) :
    applyG iteX quantX op u v w m = (.ok (-u), m) := by
  unfold applyG
  simp only [har, (Mgr.mem_iff m u).mpr hu, optNotMem_false hv, optNotMem_false hw, hrow, ht,
    Bool.not_true, Bool.false_eq_true, if_false]

theorem applyG_ite (iteX : Int → Int → Int → M Int) (quantX : Int → List Key → Bool → M Int)
    {op : String} {u vv ww xa xb xc : Int} {w : Option Int} {m : Mgr} {row : ApplyRow} {a b c : Atom}
    (har : assertOperatorArity op (some vv) w = .ok ()) (hu : m.tbl.Mem u) (hv : m.tbl.Mem vv)
    (hw : ∀ y, w = some y → m.tbl.Mem y)
    (hrow : findRow op Gen.applyTable = some row) (ht : row.templ = .ite a b c)
    (hww : (if atomUsesW a || atomUsesW b || atomUsesW c then w else some (w.getD 0)) = some ww)
    (ha : atomVal u vv ww a = .ok xa) (hb : atomVal u vv ww b = .ok xb)
    (hc : atomVal u vv ww c = .ok xc) :
    applyG iteX quantX op u (some vv) w m = iteX xa xb xc m := by
  unfold applyG
  simp only [har, (Mgr.mem_iff m u).mpr hu, optNotMem_false (x := some vv) (fun y h => by cases h; exact hv),
    optNotMem_false hw, hrow, ht, hww, ha, hb, hc, Bool.not_true, Bool.false_eq_true, if_false]

theorem applyG_quant (iteX : Int → Int → Int → M Int) (quantX : Int → List Key → Bool → M Int)
    {op : String} {u vv f b : Int} {w : Option Int} {m : Mgr} {row : ApplyRow} {fa : Bool}
    {frm body : Atom} {q : List String}
    (har : assertOperatorArity op (some vv) w = .ok ()) (hu : m.tbl.Mem u) (hv : m.tbl.Mem vv)
    (hw : ∀ y, w = some y → m.tbl.Mem y)
    (hrow : findRow op Gen.applyTable = some row) (ht : row.templ = .quant fa frm body)
    (hf : atomVal u vv 0 frm = .ok f) (hb : atomVal u vv 0 body = .ok b)
    (hq : support m.tbl f = .ok q) :
    applyG iteX quantX op u (some vv) w m = quantX b (q.map Key.name) fa m := by
  unfold applyG
  simp only [har, (Mgr.mem_iff m u).mpr hu, optNotMem_false (x := some vv) (fun y h => by cases h; exact hv),
    optNotMem_false hw, hrow, ht, hf, hb, hq, Bool.not_true, Bool.false_eq_true, if_false]

theorem rowSound_cases {r : ApplyRow} {al : String} {c : Conn} (hc : docConn al = some c)
    (h : rowSound r al = true) :
    (c = .not ∧ r.templ = .neg) ∨
    (c = .forall_ ∧ r.templ = .quant true .u .v) ∨
    (c = .exists_ ∧ r.templ = .quant false .u .v) ∨
    ∃ a b d, r.templ = .ite a b d ∧ c ≠ .forall_ ∧ c ≠ .exists_ ∧ c ≠ .not ∧
      atomOk a = true ∧ atomOk b = true ∧ atomOk d = true ∧
      (atomUsesW a || atomUsesW b || atomUsesW d) = (c.arity == 3) ∧
      ∀ u v w, (if atomB u v w a then atomB u v w b else atomB u v w d) = c.eval u v w := by
  unfold rowSound at h
  rw [hc] at h
  split at h
  · next h1 h2 => exact Or.inl ⟨Option.some.inj h1, h2⟩
  · next h1 h2 => exact Or.inr (Or.inl ⟨Option.some.inj h1, h2⟩)
  · next h1 h2 => exact Or.inr (Or.inr (Or.inl ⟨Option.some.inj h1, h2⟩))
  · next c' a b d h1 h2 =>
    cases h1
    exact Or.inr (Or.inr (Or.inr ⟨a, b, d, h2, iteTemplate_sound h⟩))
  · cases h

theorem table_unary (op : String) (hc : docConn op = some .not) (hall : Gen.allOps.contains op = true) :
    ∃ row, findRow op Gen.applyTable = some row ∧ row.templ = .neg := by
  obtain ⟨row, hrow, hs⟩ := row_of_op vocab_complete applyTable_sound hall
  rcases rowSound_cases hc hs with ⟨-, ht⟩ | ⟨h, -⟩ | ⟨h, -⟩ | ⟨a, b, d, -, -, -, hn, -⟩
  · exact ⟨row, hrow, ht⟩
  · cases h
  · cases h
  · exact absurd rfl hn

/-- `apply(op, u)` for every spelling of negation -/
theorem apply_not_spec (m : Mgr) (hI : Inv m) (op : String) (hc : docConn op = some .not)
    (hall : Gen.allOps.contains op = true) (u : Int) (hu : m.tbl.Mem u) :
    apply op u none none m = (.ok (-u), m) ∧ m.tbl.Mem (-u) ∧
      ∀ a, den m.tbl (-u) a = !den m.tbl u a := by
  obtain ⟨row, hrow, ht⟩ := table_unary op hc hall
  exact ⟨applyG_neg ite quantify (assertOperatorArity_ok hc rfl rfl) hu nofun nofun hrow ht,
    mem_neg hu, fun a => den_neg m.tbl hI.wf.toWF u a hu⟩

theorem not_is_negation : docConn "not" = some .not ∧ Gen.allOps.contains "not" = true := by
  decide

/-- the row of a propositional connective other than negation: three operand atoms whose
if-then-else is the connective, and that mention `w` exactly when the connective is ternary -/
theorem table_conn (op : String) (c : Conn) (hc : docConn op = some c) (h2 : 2 ≤ c.arity)
    (hq1 : c ≠ .forall_) (hq2 : c ≠ .exists_) (hall : Gen.allOps.contains op = true) :
    ∃ row a b d, findRow op Gen.applyTable = some row ∧ row.templ = .ite a b d ∧
      atomOk a = true ∧ atomOk b = true ∧ atomOk d = true ∧
      (atomUsesW a || atomUsesW b || atomUsesW d) = (c.arity == 3) ∧
      ∀ u v w : Bool, (if atomB u v w a then atomB u v w b else atomB u v w d) = c.eval u v w := by
  obtain ⟨row, hrow, hs⟩ := row_of_op vocab_complete applyTable_sound hall
  rcases rowSound_cases hc hs with ⟨h, -⟩ | ⟨h, -⟩ | ⟨h, -⟩ | ⟨a, b, d, ht, -, -, -, hoa, hob, hod, hw, htab⟩
  · subst h; exact absurd h2 (by decide)
  · exact absurd h hq1
  · exact absurd h hq2
  · exact ⟨row, a, b, d, hrow, ht, hoa, hob, hod, hw, htab⟩

/-- an operand atom is a node when the operands it mentions are, and denotes the Boolean atom of
their values (`wb` stands for the value of `ww`, which matters only if the atom mentions it) -/
theorem atomVal_den (t : Tbl) (hw : WF t) (u v ww : Int) (hu : t.Mem u) (hv : t.Mem v)
    (a : Atom) (hok : atomOk a = true) (hww : atomUsesW a = true → t.Mem ww) :
    ∃ x, atomVal u v ww a = .ok x ∧
      ∀ asg wb, (atomUsesW a = true → wb = den t ww asg) →
        den t x asg = atomB (den t u asg) (den t v asg) wb a := by
  obtain ⟨x, hx⟩ := atomVal_ok u v ww hok
  exact ⟨x, hx, (atomVal_sem (S := t.Mem) (D := fun asg y => den t y asg)
    (fun y h => ⟨mem_neg h, fun asg => den_neg t hw y asg h⟩) ⟨Or.inl rfl, den_one t⟩ hx hu hv hww).2⟩

/-- an operand atom of a table row stays in any set of references that has the constant and is
closed under negation (the nodes of a manager, the references a caller holds) -/
theorem atomVal_closed {S : Int → Prop} (hneg : ∀ x, S x → S (-x)) (h1 : S 1) {u v w x : Int}
    {a : Atom} (h : atomVal u v w a = .ok x) (hu : S u) (hv : S v)
    (hw : atomUsesW a = true → S w) : S x :=
  (atomVal_sem (ι := Empty) (D := fun i _ => nomatch i)
    (fun y hy => ⟨hneg y hy, fun i => nomatch i⟩) ⟨h1, fun i => nomatch i⟩ h hu hv hw).1

/-- the call `x` of `apply` on the operands `u`, `v` and (for a ternary connective) `w` IS the
decorated `ite` on three operand atoms of the table row: they lie in every set closed under negation
that has the constant and the operands, and their if-then-else is the connective `c` of the operands
(an absent `w` reads `false`).  What `apply` then guarantees is what `ite` guarantees: `.spec` with
reordering not enabled, `.out` / `.transparentS` (DDProofs.DynApply) under the decorator. -/
def IteOnAtoms (m : Mgr) (c : Conn) (u v : Int) (w : Option Int) (x : Except Err Int × Mgr) : Prop :=
  ∃ xa xb xd, x = ite xa xb xd m ∧
    (∀ S : Int → Prop, (∀ y, S y → S (-y)) → S 1 → S u → S v → w.elim True S →
      S xa ∧ S xb ∧ S xd) ∧
    ∀ a, (if den m.tbl xa a then den m.tbl xb a else den m.tbl xd a) =
      c.eval (den m.tbl u a) (den m.tbl v a) (w.elim false (den m.tbl · a))

/-- `apply(op, u, v)` / `apply(op, u, v, w)` for every alias of a binary or ternary propositional
connective of the vocabulary -/
theorem apply_conn_eq (m : Mgr) (hW : WF m.tbl) (op : String) (c : Conn) (hc : docConn op = some c)
    (h2 : 2 ≤ c.arity) (hq1 : c ≠ .forall_) (hq2 : c ≠ .exists_)
    (hall : Gen.allOps.contains op = true) (u v : Int) (w : Option Int)
    (hw : w.isSome = decide (c.arity = 3)) (mu : m.tbl.Mem u) (mv : m.tbl.Mem v)
    (mw : w.elim True m.tbl.Mem) :
    IteOnAtoms m c u v w (apply op u (some v) w m) := by
  obtain ⟨row, a, b, d, hrow, ht, hoa, hob, hod, huses, htab⟩ := table_conn op c hc h2 hq1 hq2 hall
  -- an atom that mentions `w` sits in a ternary row, and then `w` is given
  have hsome : (atomUsesW a || atomUsesW b || atomUsesW d) = true → ∃ y, w = some y := by
    intro h
    rw [huses, beq_iff_eq] at h
    rw [decide_eq_true h, Option.isSome_iff_exists] at hw
    exact hw
  have ha : atomUsesW a = true → ∃ y, w = some y := fun h => hsome (by simp [h])
  have hb : atomUsesW b = true → ∃ y, w = some y := fun h => hsome (by simp [h])
  have hd : atomUsesW d = true → ∃ y, w = some y := fun h => hsome (by simp [h])
  have at_w : ∀ {P : Int → Prop}, w.elim True P → (∃ y, w = some y) → P (w.getD 0) := by
    rintro P hP ⟨y, rfl⟩; exact hP
  have val_w : ∀ asg, (∃ y, w = some y) → w.elim false (den m.tbl · asg) = den m.tbl (w.getD 0) asg := by
    rintro asg ⟨y, rfl⟩; rfl
  obtain ⟨xa, hxa, dxa⟩ := atomVal_den m.tbl hW u v (w.getD 0) mu mv a hoa fun h => at_w mw (ha h)
  obtain ⟨xb, hxb, dxb⟩ := atomVal_den m.tbl hW u v (w.getD 0) mu mv b hob fun h => at_w mw (hb h)
  obtain ⟨xd, hxd, dxd⟩ := atomVal_den m.tbl hW u v (w.getD 0) mu mv d hod fun h => at_w mw (hd h)
  refine ⟨xa, xb, xd, ?_, fun S hneg h1 hu hv hSw =>
    ⟨atomVal_closed hneg h1 hxa hu hv fun h => at_w hSw (ha h),
      atomVal_closed hneg h1 hxb hu hv fun h => at_w hSw (hb h),
      atomVal_closed hneg h1 hxd hu hv fun h => at_w hSw (hd h)⟩, fun asg => ?_⟩
  · refine applyG_ite ite quantify (assertOperatorArity_ok hc (decide_eq_true h2).symm hw) mu mv
      (fun y hy => by subst hy; exact mw) hrow ht ?_ hxa hxb hxd
    split
    · next h => obtain ⟨y, rfl⟩ := hsome h; rfl
    · rfl
  · rw [dxa asg _ fun h => val_w asg (ha h), dxb asg _ fun h => val_w asg (hb h),
      dxd asg _ fun h => val_w asg (hd h)]
    exact htab _ _ _

/-- with reordering not enabled the call returns the connective of the operands -/
theorem IteOnAtoms.spec {m : Mgr} {c : Conn} {u v : Int} {w : Option Int} {x : Except Err Int × Mgr}
    (h : IteOnAtoms m c u v w x) (hI : Inv m) (hoff : m.lastLen = none) (hu : m.tbl.Mem u)
    (hv : m.tbl.Mem v) (hw : w.elim True m.tbl.Mem) :
    ∃ r m', x = (.ok r, m') ∧ Inv m' ∧ Ext m.tbl m'.tbl ∧ m'.tbl.Mem r ∧ Frame m m' ∧
      ∀ a, den m'.tbl r a =
        c.eval (den m.tbl u a) (den m.tbl v a) (w.elim false (den m.tbl · a)) := by
  obtain ⟨xa, xb, xd, rfl, hS, hden⟩ := h
  obtain ⟨ma, mb, md⟩ := hS m.tbl.Mem (fun _ => mem_neg) (Or.inl rfl) hu hv hw
  obtain ⟨r, m', hite, hp⟩ := ite_spec_off' m hI hoff xa xb xd ma mb md
  exact ⟨r, m', hite, hp.inv, hp.ext, hp.mem, hp.frame, fun a => (hp.den a).trans (hden a)⟩

/-- `apply(op, u, v)` for every propositional binary alias of the vocabulary: the result denotes
the documented connective of the operands (reordering not enabled) -/
theorem apply_binary_spec (m : Mgr) (hI : Inv m) (hoff : m.lastLen = none)
    (op : String) (c : Conn) (hc : docConn op = some c) (h2 : c.arity = 2)
    (hq1 : c ≠ .forall_) (hq2 : c ≠ .exists_) (hall : Gen.allOps.contains op = true)
    (u v : Int) (hu : m.tbl.Mem u) (hv : m.tbl.Mem v) :
    ∃ r m', apply op u (some v) none m = (.ok r, m') ∧ Inv m' ∧ Ext m.tbl m'.tbl ∧
      m'.tbl.Mem r ∧ Frame m m' ∧
      ∀ a, den m'.tbl r a = c.eval (den m.tbl u a) (den m.tbl v a) false :=
  (apply_conn_eq m hI.wf.toWF op c hc (by omega) hq1 hq2 hall u v none (by simp [h2]) hu hv
    trivial).spec hI hoff hu hv trivial

/-- `apply('ite', u, v, w)` for every alias of the ternary conditional (reordering not enabled) -/
theorem apply_ite_spec (m : Mgr) (hI : Inv m) (hoff : m.lastLen = none)
    (op : String) (hc : docConn op = some .ite) (hall : Gen.allOps.contains op = true)
    (u v w : Int) (hu : m.tbl.Mem u) (hv : m.tbl.Mem v) (hw : m.tbl.Mem w) :
    ∃ r m', apply op u (some v) (some w) m = (.ok r, m') ∧ Inv m' ∧ Ext m.tbl m'.tbl ∧
      m'.tbl.Mem r ∧ Frame m m' ∧
      ∀ a, den m'.tbl r a = if den m.tbl u a then den m.tbl v a else den m.tbl w a :=
  (apply_conn_eq m hI.wf.toWF op .ite hc (by decide) nofun nofun hall u v (some w) rfl hu hv
    hw).spec hI hoff hu hv hw

end DD
