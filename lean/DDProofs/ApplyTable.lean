/-
  DDProofs.ApplyTable — what `BDD.apply` and `MDD.apply` share (`DD/Apply.lean`): the regenerated
  table (`findRow`, the check of an if-then-else row), the operator vocabulary
  (`assertOperatorArity`) and the template atoms (`atomVal`).  Stated over any table, any per-alias
  check, and any reading of references that negation complements.
-/
import DDProps.Tables
namespace DD

theorem findRow_some {op : String} : ∀ {tbl : List ApplyRow} {r : ApplyRow},
    findRow op tbl = some r → r ∈ tbl ∧ r.aliases.contains op = true := by
  intro tbl
  induction tbl with
  | nil => intro r h; simp [findRow] at h
  | cons x xs ih =>
    intro r h
    simp only [findRow] at h
    split at h
    · next hc => cases h; exact ⟨List.mem_cons_self, hc⟩
    · have := ih h; exact ⟨List.mem_cons_of_mem _ this.1, this.2⟩

theorem findRow_isSome_of_filter {op : String} : ∀ {tbl : List ApplyRow},
    0 < (tbl.filter fun r => r.aliases.contains op).length → ∃ r, findRow op tbl = some r := by
  intro tbl
  induction tbl with
  | nil => intro h; simp at h
  | cons x xs ih =>
    intro h
    by_cases hc : x.aliases.contains op = true
    · exact ⟨x, by rw [findRow, if_pos hc]⟩
    · rw [findRow, if_neg hc]
      apply ih
      rw [List.filter_cons, if_neg (by simpa using hc)] at h
      exact h

theorem bools_all_iff (p : Bool → Bool) : bools.all p = true ↔ ∀ b, p b = true := by
  simp [bools]

theorem checked_of_find {chk : ApplyRow → String → Bool} {tbl : List ApplyRow}
    (hs : (tbl.all fun r => r.aliases.all fun al => chk r al) = true) {op : String} {row : ApplyRow}
    (h : findRow op tbl = some row) : chk row op = true := by
  obtain ⟨h1, h2⟩ := findRow_some h
  exact List.all_eq_true.mp (List.all_eq_true.mp hs row h1) op (List.contains_iff_mem.mp h2)

theorem row_of_op {chk : ApplyRow → String → Bool} {tbl : List ApplyRow}
    (hv : vocabComplete tbl = true)
    (hs : (tbl.all fun r => r.aliases.all fun al => chk r al) = true)
    {op : String} (hall : Gen.allOps.contains op = true) :
    ∃ row, findRow op tbl = some row ∧ chk row op = true := by
  simp only [vocabComplete, Bool.and_eq_true, List.all_eq_true, beq_iff_eq] at hv
  obtain ⟨row, hrow⟩ := findRow_isSome_of_filter (op := op) (tbl := tbl)
    (by rw [hv.1.1 op (List.contains_iff_mem.mp hall)]; exact Nat.one_pos)
  exact ⟨row, hrow, checked_of_find hs hrow⟩

/-- the check `rowSound` and `mddRowSound` make of an if-then-else row -/
theorem iteTemplate_sound {c : Conn} {a b d : Atom}
    (h : (c != .forall_ && c != .exists_ && c != .not &&
      atomOk a && atomOk b && atomOk d &&
      ((atomUsesW a || atomUsesW b || atomUsesW d) == (c.arity == 3)) &&
      bools.all fun u => bools.all fun v => bools.all fun w =>
        (if atomB u v w a then atomB u v w b else atomB u v w d) == c.eval u v w) = true) :
    c ≠ .forall_ ∧ c ≠ .exists_ ∧ c ≠ .not ∧
      atomOk a = true ∧ atomOk b = true ∧ atomOk d = true ∧
      (atomUsesW a || atomUsesW b || atomUsesW d) = (c.arity == 3) ∧
      ∀ u v w, (if atomB u v w a then atomB u v w b else atomB u v w d) = c.eval u v w := by
  simp only [Bool.and_eq_true, bne_iff_ne, ne_eq, beq_iff_eq, bools_all_iff] at h
  obtain ⟨⟨⟨⟨⟨⟨⟨n1, n2⟩, n3⟩, hoa⟩, hob⟩, hod⟩, hw⟩, htab⟩ := h
  exact ⟨n1, n2, n3, hoa, hob, hod, hw, htab⟩

theorem Conn.arity_one_two_three (c : Conn) : c.arity = 1 ∨ c.arity = 2 ∨ c.arity = 3 := by
  cases c <;> simp [Conn.arity]

theorem docConn_allOps {op : String} {c : Conn} (h : docConn op = some c) :
    Gen.allOps.contains op = true := by
  unfold docConn at h
  split at h <;> first | decide | (cases h)

theorem assertOperatorArity_ok {op : String} {c : Conn} (hc : docConn op = some c)
    {v w : Option Int}
    (hv : v.isSome = decide (2 ≤ c.arity)) (hw : w.isSome = decide (c.arity = 3)) :
    assertOperatorArity op v w = .ok () := by
  have hall := docConn_allOps hc
  have hvc := vocab_complete
  simp only [vocabComplete, Bool.and_eq_true, List.all_eq_true] at hvc
  have har := hvc.2 op (List.contains_iff_mem.mp hall)
  rw [hc] at har
  simp only [Bool.and_eq_true, beq_iff_eq] at har
  unfold assertOperatorArity
  rw [hall, ← har.1.1, ← har.1.2, ← har.2, ← Option.not_isSome, ← Option.not_isSome, hv, hw]
  rcases c.arity_one_two_three with h | h | h <;> rw [h] <;> rfl

theorem atomVal_ok (u v w : Int) {a : Atom} (h : atomOk a = true) : ∃ x, atomVal u v w a = .ok x := by
  cases a <;> first | exact ⟨_, rfl⟩ | (simp [atomOk] at h)

/-- The operand an atom of a row stands for.  `S` is a set of references with the constant, closed
under negation; `D i` is a family of readings of references that negation complements.  The
operand is in `S`, and every reading of it is the Boolean atom of the readings of `u`, `v`, `w`
(`W` stands for the reading of `w`, which need not be in `S` unless the atom mentions it).
For `BDD.apply`: `S = t.Mem`, `D asg x = den t x asg` (or `S` = the references a caller holds and
no reading, `ι = Empty`); for `MDD.apply`: `S = t.Mem`, `D a x = denM t x a`. -/
theorem atomVal_sem {ι : Type} {S : Int → Prop} {D : ι → Int → Bool}
    (hneg : ∀ x, S x → S (-x) ∧ ∀ i, D i (-x) = !D i x) (h1 : S 1 ∧ ∀ i, D i 1 = true)
    {u v w x : Int} {a : Atom} (h : atomVal u v w a = .ok x)
    (hu : S u) (hv : S v) (hw : atomUsesW a = true → S w) :
    S x ∧ ∀ i (W : Bool), (atomUsesW a = true → W = D i w) → D i x = atomB (D i u) (D i v) W a := by
  cases a <;> simp only [atomVal, Except.ok.injEq] at h <;> try subst h
  · exact ⟨hu, fun _ _ _ => rfl⟩
  · exact ⟨hv, fun _ _ _ => rfl⟩
  · exact ⟨hw rfl, fun _ W hW => (hW rfl).symm⟩
  · exact ⟨(hneg _ hu).1, fun i _ _ => (hneg _ hu).2 i⟩
  · exact ⟨(hneg _ hv).1, fun i _ _ => (hneg _ hv).2 i⟩
  · exact ⟨(hneg _ (hw rfl)).1, fun i W hW => by rw [(hneg _ (hw rfl)).2, hW rfl]; rfl⟩
  · exact ⟨h1.1, fun i _ _ => h1.2 i⟩
  · exact ⟨(hneg _ h1.1).1, fun i _ _ => by rw [(hneg _ h1.1).2, h1.2]; rfl⟩
  · cases h

end DD
