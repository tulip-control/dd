/-
  DDProofs.AutoCopyVars — `copy_vars(source, target)` for a target whose declarations are
  compatible with the source (`VarsCompat`; an empty target in particular), nodes or not: from
  `copyVarsCore_spec` / `copyVarsCore_inv` (C11) the target ends with exactly the source's order and
  every stored node keeps its meaning by name.  With incompatible declarations the levels written by
  `copy_vars` can leave a gap or move a used level (finding F7).
-/
import DDProofs.Reach5
import DDProofs.AutoProofs
open Std

namespace DD

/-- `copy_vars` into ANY target whose declarations are compatible with the source (the target may
store nodes): every mode.  From `copyVarsCore_spec` / `copyVarsCore_inv` (C11 `C11_copy_vars`): the
manager invariant, the order invariant and exact counts of the target are kept, and so is the
meaning BY NAME of every stored node (the levels below the old number of variables keep their
names). -/
theorem copyVars_keepsAt_compat {off : Bool} (src : Tbl) (hO : OrderOK src) (names : List String)
    (hperm : names.Perm src.vars.keys) (m : Mgr) (hc : VarsCompat src m.tbl) :
    CoreKeepsAt off m (copyVarsCore src names) := by
  intro ext hm r m' he
  obtain ⟨m2, hrun, hv, hl, c1, c2, c3, c4, c5, c6, c7, c8⟩ := copyVarsCore_spec src hO names hperm m hc
  obtain ⟨ho, _, _, hinv, hre⟩ := copyVarsCore_inv src hO names hperm m hc hrun
  have hs : m2.sched = m.sched := by
    have := (copyVarsCore_any src names m hm.inv).1.sched
    rw [hrun] at this; exact this
  rw [hrun] at he
  cases he
  obtain ⟨hI', hden⟩ := hinv hm.inv
  refine ⟨⟨hI', ho, hre ext hm.counts, by rw [c7]; exact hm.ctx, by rw [hs]; exact hm.sched,
    by rw [c8]; exact hm.roots, fun h => by rw [c6]; exact hm.mode h⟩, fun u hu _ => ?_⟩
  exact ⟨(hden u hu).1, denN_of_vars_kept hm.inv.wf.toWF hm.order ho
    (fun x i h1 => by rw [hv]; exact hc.vars x i h1) hu (hden u hu).2⟩

theorem copyVars_keepsAt_noNodes {off : Bool} (src : Tbl) (hO : OrderOK src) (names : List String)
    (hperm : names.Perm src.vars.keys) (m : Mgr) (hc : VarsCompat src m.tbl)
    (hnone : ∀ u : Nat, m.tbl.node? u = none) :
    CoreKeepsAt off m (copyVarsCore src names) := copyVars_keepsAt_compat src hO names hperm m hc

theorem aCopyVars_keepsAt_compat {off : Bool} (a : AMgr) (src : Tbl) (hO : OrderOK src)
    (names : List String) (hperm : names.Perm src.vars.keys) (hc : VarsCompat src a.m.tbl) (h : Nat) :
    AKeepsAt off a h (aCopyVars src names) :=
  Auto.liftM_keepsAt session a (copyVars_keepsAt_compat src hO names hperm a.m hc) h

end DD
