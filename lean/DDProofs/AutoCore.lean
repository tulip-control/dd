/-
  DDProofs.AutoCore — discharge of the hypotheses of the autoref theorems
  (`CoreKeeps` / `CoreKeepsAt`) from the core theorems, for managers in which dynamic
  reordering is not enabled (`lastLen = none`, mode `off = true`), and for `collect_garbage`,
  `add_var`, `declare` in every mode.

  Sources: for the decorated calls their rows of `Decorated` read with reordering not enabled
  (`Decorated.off`, DDProofs.DynRejected); the raw `find_or_add`, which makes no request between two
  calls, in every mode (`findOrAddCore_total`, `findOrAddCore_refExact`); `collectGarbage_spec`
  (DDProofs.GcSpec), `addVar_new_spec` (DDProofs.VarsProofs).
-/
import DD.ApiAuto
import DDProofs.AutoTemps
import DDProofs.DynRejectedExpr
import DDProofs.ImageDynTotal
open Std

namespace DD

/-- every variable of the support of `u` in the source is declared in the target (as `CopyPre`
of DDProofs.DynCopy) -/
def CopyPreA (s : Tbl) (u : Int) (t : Tbl) : Prop :=
  ∀ i v, InSupp s u i → s.l2v[i]? = some v → t.vars.contains v = true

/-- `AutoMInv true` without the flag (inside a decorated call the flag is set) -/
structure MInvC (ext : Nat → Nat) (m : Mgr) : Prop where
  inv : Inv m
  order : OrderOK m.tbl
  counts : RefExact m ext
  sched : m.sched = []
  roots : m.roots = []
  off : m.lastLen = none

namespace Auto

variable {K : Bool → (Nat → Nat) → Mgr → Prop} {I : Bool → AMgr → Prop} {off : Bool}

theorem keepsAtOff_of (ss : Session K I) {α : Type} {op : M α} {m : Mgr}
    (hk : ∀ ext, Inv m → RefExact m ext → m.lastLen = none → Kept m (op m).2)
    (hl : ∀ ext, Lite ext m → RefExact (op m).2 ext) : CoreKeepsAt K true m op := by
  intro ext hm r m' he
  have l : Lite ext m := (ss.inv hm).lite (ss.counts hm) (ss.lastLen hm rfl)
  have k := hk ext (ss.inv hm) l.exact l.off
  have e := hl ext l
  rw [he] at k e
  exact ss.keeps_of_kept hm k e

theorem decorated_keepsOff (ss : Session K I) {op : M Int} (hd : ∀ m, Decorated m (op m)) :
    CoreKeeps K true op := by
  intro m ext hm r m' he
  obtain ⟨_, hk, hrk⟩ := (hd m).off (ss.inv hm) (ss.lastLen hm rfl)
  rw [he] at hk hrk
  exact ss.keeps_of_kept hm hk (hrk ext (ss.counts hm)).1

/-- between two calls (`ctx = false`) the raw `find_or_add` makes no request, whatever `_last_len`
is: it is `findOrAddCore` -/
theorem findOrAdd_keepsAt (ss : Session K I) (m : Mgr) (i v w : Int)
    (hg : 0 ≤ i → FoaGuard m i.toNat v w) : CoreKeepsAt K off m (findOrAdd i v w) := by
  intro ext hm r m' he
  rw [findOrAdd_quiet m (.inl (ss.ctx hm))] at he
  split at he
  · cases he
    exact ⟨hm, HeldExt.refl _ _⟩
  · have k := findOrAddCore_total m (ss.inv hm) i.toNat v w (hg (by omega))
    have r' := findOrAddCore_refExact m ext i.toNat v w (ss.inv hm).wf.toWF.closed (ss.counts hm)
    rw [he] at k r'
    exact ss.keeps_of_kept hm k r'

theorem gc_keeps (ss : Session K I) : CoreKeeps K off (collectGarbage none) := by
  intro m ext hm r m' he
  obtain ⟨m2, h2, hp⟩ := collectGarbage_spec m ext (ss.inv hm) (ss.counts hm)
  rw [h2] at he
  cases he
  refine ⟨ss.keep hm hp.inv ((ss.order hm).congr hp.sub.vars hp.sub.l2v) hp.refExact hp.sub.ctx
    hp.sub.sched hp.sub.roots (by simp only [Mgr.nvars, Tbl.nvars, hp.sub.vars]; exact Nat.le_refl _)
    hp.sub.lastLen, ?_⟩
  intro u hu hpos
  have hmem : m'.tbl.Mem u :=
    reach_survives hp.sub hp.inv.toInvS hp.refExact (ss.inv hm).toInvS (GcReach.root hpos)
  exact ⟨hmem, denN_sub hp.sub hp.inv.wf.toWF u hmem⟩

/-- `add_var(name, level)` under the no-gap guard (finding F7), any mode: nothing happens, or a
new variable is appended at the bottom level — invariant, order, exact counts and all switches are
kept; the names of the existing levels stay, so every node keeps its meaning by name -/
theorem addVar_keepsAt (ss : Session K I) (m : Mgr) (name : String) (level : Option Int)
    (hg : ∀ l : Int, level = some l → m.tbl.vars[name]? = none → l ≤ (m.nvars : Int)) :
    CoreKeepsAt K off m (addVar name level) := by
  intro ext hm r m' he
  have e2 : (addVar name level m).2 = m' := by rw [he]
  have hi := ss.inv hm
  have hO := ss.order hm
  rcases addVar_cases m hO name level hg with hsame | ⟨hnew, hrun⟩
  · rw [hsame] at e2
    subst e2
    exact ⟨hm, HeldExt.refl _ _⟩
  · rw [hrun] at e2
    subst e2
    obtain ⟨hI, hO', hn, _, hmono, hden, _, _⟩ := addVar_new_spec m hi hO name hnew
    refine ⟨ss.keep hm hI hO' ((ss.counts hm).congr_nodes (fun _ => rfl) rfl) rfl rfl rfl
      (by show m.tbl.nvars ≤ (addVarState m name).tbl.nvars; omega) rfl, fun u hu _ => ?_⟩
    exact ⟨(hden u hu).1, denN_of_vars_kept hi.wf.toWF hO hO' hmono hu (hden u hu).2⟩

theorem CoreKeepsAt.bind {α β : Type} {x : M α} {f : α → M β} {m : Mgr}
    (hx : CoreKeepsAt K off m x)
    (hf : ∀ v m1, x m = (.ok v, m1) → CoreKeepsAt K off m1 (f v)) : CoreKeepsAt K off m (x >>= f) := by
  intro ext hm r m' he
  cases hxm : x m with
  | mk r1 m1 =>
    obtain ⟨i1, h1⟩ := hx ext hm r1 m1 hxm
    cases r1 with
    | error e' =>
      rw [M.bind_err hxm] at he
      cases he
      exact ⟨i1, h1⟩
    | ok v =>
      rw [M.bind_ok hxm] at he
      obtain ⟨i2, h2⟩ := hf v m1 hxm ext i1 r m' he
      exact ⟨i2, h1.trans h2⟩

theorem CoreKeepsAt.pure {α : Type} (v : α) (m : Mgr) : CoreKeepsAt K off m (pure v : M α) :=
  CoreKeeps.of_read (pure_readM v) m

/-- `declare(*names)` in EVERY mode (`add_var` never reorders) -/
theorem declare_keeps (ss : Session K I) (names : List String) : CoreKeeps K off (declare names) := by
  intro m
  unfold declare
  refine CoreKeepsAt.bind ?_ (fun _ m1 _ => CoreKeepsAt.pure _ m1)
  induction names generalizing m with
  | nil => exact CoreKeepsAt.pure _ m
  | cons v rest ih =>
    rw [List.forIn_cons]
    refine CoreKeepsAt.bind (CoreKeepsAt.bind (addVar_keepsAt ss m v none (fun l hl => nomatch hl))
      (fun _ m1 _ => CoreKeepsAt.pure _ m1)) (fun s m1 _ => ?_)
    cases s with
    | done b => exact CoreKeepsAt.pure _ m1
    | yield b => exact ih m1

/-- ARBITRARY arguments, either mode: every method that needs no precondition keeps the invariant,
touches no handle other than the new one(s), and every live `Function` keeps its node and its
meaning by name, whether it returns or raises; of the core only `hd` is used: every row of
`Decorated` keeps the manager invariant.  The conjunct `C` for `configure` is the caller's: with
reordering not enabled the call must not enable it. -/
theorem ops_total (ss : Session K I)
    (hd : ∀ {op : M Int}, (∀ m, Decorated m (op m)) → CoreKeeps K off op) (h : Nat) {C : Prop}
    (hC : C) :
    (∀ name, AKeeps I off h (aVar name h)) ∧
    (∀ b, AKeeps I off h (aConst b h)) ∧
    (∀ op hu hv hw, AKeeps I off h (aApply op hu hv hw h)) ∧
    (∀ hg hu hv, AKeeps I off h (aIte hg hu hv h)) ∧
    (∀ d hu, AKeeps I off h (aLet d hu h)) ∧
    (∀ hu q fa, AKeeps I off h (aQuantify hu q fa h)) ∧
    (∀ d, AKeeps I off h (aCube d h)) ∧
    (∀ i, AKeeps I off h (aAddInt i h)) ∧
    (∀ hu, AKeeps I off h (aCopyBddSame hu h)) ∧
    (∀ e, AKeeps I off h (aAddExpr e h)) ∧
    (∀ op hs ho, AKeeps I off h (fApply op hs ho h)) ∧
    (∀ high hs, AKeeps I off h (fChild high hs h)) ∧
    (∀ hs, AKeeps I off h (fCopy hs h)) ∧
    (∀ hu h2, h ≠ h2 → AKeepsL I off [h, h2] (aSucc hu h h2)) ∧
    (∀ hs ho, AKeeps0 I off (fEq hs ho)) ∧
    (∀ hs ho, AKeeps0 I off (fNe hs ho)) ∧
    (∀ hs ho, AKeeps0 I off (fLe hs ho)) ∧
    (∀ hs ho, AKeeps0 I off (fLt hs ho)) ∧
    AKeeps I off h aCollectGarbage ∧
    C ∧
    (∀ ns, AKeeps I off h (aDeclare ns)) ∧
    (∀ (src : AMgr) hu, AKeeps I off h (aCopyTo src hu h)) ∧
    (∀ (src : AMgr) hu, AKeeps I off h (aCopyBddTo src hu h)) ∧
    (∀ pre ht hs rn q fa, AKeeps I off h (aImage pre ht hs rn q fa h)) :=
  ⟨fun n => wrapResult_keeps ss (hd (var_decorated n)) h, fun b => aConst_keeps ss b h,
   fun op hu hv hw => aApply_keeps ss op (fun u v w => hd (apply_decorated op u v w)) hu hv hw h,
   fun hg hu hv => aIte_keeps ss (fun g u v => hd (ite_decorated g u v)) hg hu hv h,
   fun d hu => aLet_keeps ss (fun d u => hd (letOp_decorated d u)) d hu h,
   fun hu q fa => aQuantify_keeps ss q fa (fun m u _ => hd (quantify_decorated u q fa) m) hu h,
   fun d => wrapResult_keeps ss (hd (cube_decorated d)) h,
   fun i => aAddInt_keeps ss i h, fun hu => aCopyBddSame_keeps ss hu h,
   fun e => wrapResult_keeps ss (hd (addExpr_decorated e)) h,
   fun op hs ho => fApply_keeps ss op (fun u v => hd (apply_decorated op u v none)) hs ho h,
   fun high hs => fChild_keeps ss high hs h, fun hs => fCopy_keeps ss hs h,
   fun hu h2 hne => aSucc_keepsL ss hu h h2 hne,
   fun hs ho => fEq_keeps0 ss hs ho, fun hs ho => fNe_keeps0 ss hs ho,
   fun hs ho => fLe_keeps ss (fun op u v => hd (apply_decorated op u v none)) hs ho,
   fun hs ho => fLt_keeps ss (fun op u v => hd (apply_decorated op u v none)) hs ho,
   liftM_keeps ss (gc_keeps ss) h,
   hC,
   fun ns => liftM_keeps ss (declare_keeps ss ns) h,
   fun src hu a => aCopyTo_keepsAt ss a src hu h fun u _ => hd (copyBdd_decorated _ u) a.m,
   fun src hu a => aCopyBddTo_keepsAt ss a src hu h fun u _ => hd (copyBdd_decorated _ u) a.m,
   fun pre ht hs rn q fa => aImage_keeps ss (fun t s rn q f => hd (image_decorated t s rn q f))
     (fun t s rn q f => hd (preimage_decorated t s rn q f)) pre ht hs rn q fa h⟩

/-- `image` / `preimage` of autoref, ARBITRARY arguments: the decorated bodies `_image_of` /
`_preimage_of` are rows of `Decorated` (DDProofs.ImageDynTotal), so invariant, exact counts and
every existing node are kept whether the call returns or raises.  (What the result DENOTES is C13;
the findings F5/F5b about `preimage` concern the denotation, not the frame proved here.) -/
theorem aImage_keepsOff (ss : Session K I) (pre : Bool) (ht hs : Nat) (rn : List (Key × Key))
    (q : List Key) (fa : Bool) (h : Nat) : AKeeps I true h (aImage pre ht hs rn q fa h) :=
  aImage_keeps ss (fun t s rn q f => decorated_keepsOff ss (image_decorated t s rn q f))
    (fun t s rn q f => decorated_keepsOff ss (preimage_decorated t s rn q f)) pre ht hs rn q fa h

end Auto

theorem ite_keepsOff (g u v : Int) : CoreKeeps true (ite g u v) :=
  ⟨Auto.decorated_keepsOff session (ite_decorated g u v)⟩

theorem apply_keepsOff (op : String) (u : Int) (v w : Option Int) : CoreKeeps true (apply op u v w) :=
  ⟨Auto.decorated_keepsOff session (apply_decorated op u v w)⟩

theorem var_keepsOff (name : String) : CoreKeeps true (var name) :=
  ⟨Auto.decorated_keepsOff session (var_decorated name)⟩

theorem quantify_keepsOff (u : Int) (q : List Key) (fa : Bool) : CoreKeeps true (quantify u q fa) :=
  ⟨Auto.decorated_keepsOff session (quantify_decorated u q fa)⟩

theorem letOp_keepsOff (d : LetArg) (u : Int) : CoreKeeps true (letOp d u) :=
  ⟨Auto.decorated_keepsOff session (letOp_decorated d u)⟩

theorem cube_keepsOff (d : List (String × Bool)) : CoreKeeps true (cube d) :=
  ⟨Auto.decorated_keepsOff session (cube_decorated d)⟩

theorem gc_keeps {off : Bool} : CoreKeeps off (collectGarbage none) := ⟨Auto.gc_keeps session⟩

theorem addVar_keepsAt {off : Bool} (m : Mgr) (name : String) (level : Option Int)
    (hg : ∀ l : Int, level = some l → m.tbl.vars[name]? = none → l ≤ (m.nvars : Int)) :
    CoreKeepsAt off m (addVar name level) := Auto.addVar_keepsAt session m name level hg

theorem declare_keeps {off : Bool} (names : List String) : CoreKeeps off (declare names) :=
  ⟨Auto.declare_keeps session names⟩

theorem findOrAdd_keepsAtOff (m : Mgr) (i v w : Int) (hg : 0 ≤ i → FoaGuard m i.toNat v w) :
    CoreKeepsAt true m (findOrAdd i v w) := Auto.findOrAdd_keepsAt session m i v w hg

/-- `copy_bdd(u, source, this)` (the copy is total: none of the hypotheses is needed for the frame) -/
theorem copyBdd_keepsAtOff (s : Tbl) (hS : WF s) (hOs : OrderOK s) (u : Int) (hu : s.Mem u) (m : Mgr)
    (hO : OrderOK m.tbl) (hsup : CopyPreA s u m.tbl) : CoreKeepsAt true m (copyBdd s u) :=
  Auto.decorated_keepsOff session (copyBdd_decorated s u) m

theorem image_keepsOff (t s : Int) (rn : List (Key × Key)) (q : List Key) (fa : Bool) :
    CoreKeeps true (image t s rn q fa) :=
  ⟨Auto.decorated_keepsOff session (image_decorated t s rn q fa)⟩

theorem preimage_keepsOff (t s : Int) (rn : List (Key × Key)) (q : List Key) (fa : Bool) :
    CoreKeeps true (preimage t s rn q fa) :=
  ⟨Auto.decorated_keepsOff session (preimage_decorated t s rn q fa)⟩

end DD
