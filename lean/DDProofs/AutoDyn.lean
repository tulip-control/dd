/-
  DDProofs.AutoDyn — the autoref hypotheses that involve an explicit REORDERING:
  `reorder()` / `reorder(order)` (C07), in every mode; the operators with a single operand, which
  never touch the manager; and the well-formed calls with reordering possibly enabled, as instances
  of the guarantee for arbitrary arguments.
-/
import DDProofs.AutoFew
import DDProps.C07
open Std

namespace DD

/-- an operation with a single operand (`~`, `not`, `!`, or a refused call) never changes the manager -/
theorem apply_unary_state (op : String) (u : Int) (m : Mgr) : (apply op u none none m).2 = m := by
  unfold apply
  cases assertOperatorArity op none none with
  | error e => rfl
  | ok _ =>
    simp only
    split
    · rfl
    split
    · rfl
    split
    · rfl
    -- the row: without a second operand the `ite` and quantifier rows raise `ValueError` at once
    split <;> rfl

theorem heldExt_of_reorder {ext : Nat → Nat} {m m' : Mgr} (hI : Inv m) (hc : RefExact m ext)
    (hR : ReorderInv ext m') (hrel : ReorderRel ext m m') : HeldExt m.tbl m'.tbl ext :=
  fun _ _ hpos => hrel.held.heldX hI hR.inv hc hR.refExact (Or.inr hpos)

theorem heldX_of_handle (a : AMgr) {j : Nat} {u : Int} (hj : a.handles[j]? = some u) : HeldX (hext a) u :=
  Or.inr (hext_pos_of_handle a j u hj)

theorem nodesAny_own (a : AMgr) : ∀ (d : List (String × Nat)) (l : List (String × Int)),
    (∀ p ∈ d, ∃ v, a.handles[p.2]? = some v) → (nodesAny d a).1 = .ok l →
    l.map (·.1) = d.map (·.1) ∧ ∀ p ∈ l, HeldX (hext a) p.2
  | [], l, _, h => by
    cases h
    exact ⟨rfl, fun p hp => nomatch hp⟩
  | (k, hv) :: rest, l, hown, h => by
    obtain ⟨v, hvh⟩ := hown (k, hv) List.mem_cons_self
    unfold nodesAny at h
    rw [AM.bind_ok (nodeAny_eval hvh), (nodesAny_read rest).bind_eq] at h
    cases hx : (nodesAny rest a).1 with
    | error e => rw [hx] at h; cases h
    | ok l' =>
      rw [hx] at h
      cases h
      obtain ⟨e1, e2⟩ := nodesAny_own a rest l' (fun p hp => hown p (List.mem_cons_of_mem _ hp)) hx
      refine ⟨by simp [e1], fun p hp => ?_⟩
      rcases List.mem_cons.mp hp with rfl | hp'
      · exact heldX_of_handle a hvh
      · exact e2 p hp'

/-- `support(u)`: the names of exactly the levels `u` depends on, all of them declared -/
theorem support_declared (m : Mgr) (hI : Inv m) (hO : OrderOK m.tbl) (u : Int) (hu : m.tbl.Mem u) :
    ∃ ls : List Nat, (∀ i, i ∈ ls ↔ dependsOn m.tbl u i) ∧
      support m.tbl u = .ok (ls.map m.tbl.nameOf) ∧
      ∀ s ∈ ls.map m.tbl.nameOf, m.tbl.vars.contains s = true := by
  obtain ⟨ls, _, _, hdep, hs⟩ := support_spec hI.wf hO.toVarsOK u hu
  refine ⟨ls, hdep, hs, fun s hs' => ?_⟩
  obtain ⟨i, hi, rfl⟩ := List.mem_map.mp hs'
  have hlt : i < m.tbl.nvars := dependsOn_lt_nvars hI.wf hu ((hdep i).mp hi)
  have hl := hO.toVarsOK.l2v_eq hlt
  have hv := (hO.inv _ i).mpr hl
  rw [TreeMap.contains_eq_isSome_getElem?, hv]; rfl

namespace Auto

variable {K : Bool → (Nat → Nat) → Mgr → Prop} {I : Bool → AMgr → Prop} {off : Bool}

/-- `~f` (any unary alias): never changes the manager, any mode -/
theorem fApply_unary_keeps (ss : Session K I) (op : String) (hs h : Nat) :
    AKeeps I off h (fApply op hs none h) := by
  rw [fApply_eq]
  exact fun a => AKeepsAt.bind_read ss a (nodeOwn_read hs) fun s _ =>
    AKeepsAt.bind_read ss a (optNode_read nodeSame_read none) fun o ho => by
      cases ho
      exact wrapResult_keepsAt ss a (CoreKeeps.of_read (apply_unary_state op s) a.m) h

end Auto

theorem AutoMInv.of_reorderRel {off : Bool} {ext : Nat → Nat} {m m' : Mgr} (hm : AutoMInv off ext m)
    (hR : ReorderInv ext m') (hs : m'.sched = []) (hrel : ReorderRel ext m m') :
    AutoMInv off ext m' ∧ HeldExt m.tbl m'.tbl ext :=
  ⟨⟨hR.inv, hR.order, hR.refExact, hrel.ctx.trans hm.ctx, hs, hrel.roots.trans hm.roots,
    fun e => hrel.lastLen.trans (hm.mode e)⟩, heldExt_of_reorder hm.inv hm.counts hR hrel⟩

/-- `reorder(bdd)` (sifting) with at least two variables (with one, the code raises
`ValueError`: C07 `sift_single_variable_raises`) -/
theorem reorder_sift_keepsAt {off : Bool} (m : Mgr) (h2 : 2 ≤ m.nvars) :
    CoreKeepsAt off m (reorder none) := by
  intro ext hm r m' he
  obtain ⟨m2, hrun, hR, _, hs, hrel⟩ := C07_sift_total ext m hm.reorderInv h2 hm.sched
  rw [hrun] at he
  cases he
  exact hm.of_reorderRel hR hs hrel

/-- `reorder(bdd, order)` for a complete order of the declared variables -/
theorem reorder_order_keepsAt {off : Bool} (m : Mgr) (o : List (String × Int)) (ho : ReqOrder o m) :
    CoreKeepsAt off m (reorder (some o)) := by
  intro ext hm r m' he
  obtain ⟨m2, hrun, hR, hs, hrel, _⟩ := C07_reorder_order_total ext m hm.reorderInv hm.sched o ho
  rw [hrun] at he
  cases he
  exact hm.of_reorderRel hR hs hrel

/-! ### dynamic reordering ENABLED (mode `off = false`), well-formed calls

Instances of the guarantee for ARBITRARY arguments (`coreKeeps false`, DDProofs.AutoFew): for the frame
the hypotheses about operands and names are not needed. -/

theorem aIte_keepsAtDyn (a : AMgr) (hg hu hv h : Nat) : AKeepsAt false a h (aIte hg hu hv h) :=
  Auto.aIte_keeps session (fun g u v => coreKeeps false (ite_decorated g u v)) hg hu hv h a

/-- `apply(op, u, v)` for every binary propositional alias -/
theorem aApply_binary_keepsAtDyn (a : AMgr) (op : String) (c : Conn) (hc : docConn op = some c)
    (h2 : c.arity = 2) (hq1 : c ≠ .forall_) (hq2 : c ≠ .exists_)
    (hall : Gen.allOps.contains op = true) (hu hv h : Nat) :
    AKeepsAt false a h (aApply op hu (some hv) none h) :=
  Auto.aApply_keeps session op (fun u v w => coreKeeps false (apply_decorated op u v w)) hu (some hv) none h a

/-- `apply('\A' | '\E' | 'forall' | 'exists', u, v)`: `v` is quantified over the support of `u` -/
theorem aApply_quant_keepsAtDyn (a : AMgr) (op : String) (c : Conn) (hc : docConn op = some c)
    (hq : c = .forall_ ∨ c = .exists_) (hall : Gen.allOps.contains op = true) (hu hv h : Nat) :
    AKeepsAt false a h (aApply op hu (some hv) none h) :=
  Auto.aApply_keeps session op (fun u v w => coreKeeps false (apply_decorated op u v w)) hu (some hv) none h a

/-- `let` with `Function` values -/
theorem aLet_funs_keepsAtDyn (a : AMgr) (d : List (String × Nat)) (hne : d ≠ [])
    (hdecl : ∀ p ∈ d, a.m.tbl.vars.contains p.1 = true)
    (hown : ∀ p ∈ d, ∃ v, a.handles[p.2]? = some v) (hu h : Nat) :
    AKeepsAt false a h (aLet (.funs d) hu h) :=
  Auto.aLet_keeps session (fun d u => coreKeeps false (letOp_decorated d u)) (.funs d) hu h a

theorem fLe_keepsDyn (hs ho : Nat) : AKeeps0 false (fLe hs ho) := fLe_keepsAll false hs ho

theorem fLt_keepsDyn (hs ho : Nat) : AKeeps0 false (fLt hs ho) := fLt_keepsAll false hs ho

end DD
