/-
  DDProofs.AutoDynTotal — `find_or_add(var, low, high)` of autoref under its documented guard in
  EVERY mode, from `Auto.findOrAdd_keepsAt` (DDProofs.AutoCore: between two calls the raw
  `find_or_add` makes no request and only adds a node); and `image` / `preimage` with reordering
  possibly enabled and ARBITRARY arguments, from their rows of `Decorated`.  (Every other method
  with arbitrary arguments: `Auto.ops_total`, DDProofs.AutoCore.)
-/
import DDProofs.AutoFew
open Std

namespace DD

namespace Auto

variable {K : Bool → (Nat → Nat) → Mgr → Prop} {I : Bool → AMgr → Prop} {off : Bool}

/-- `find_or_add(var, low, high)` when the level of `var` is above both children: EVERY mode -/
theorem aFindOrAdd_keepsAtAll (ss : Session K I) (a : AMgr) (var : String) (hlow hhigh h : Nat)
    (hg : ∀ level lo hi, (levelOfVar var a.m).1 = .ok level → (nodeAny hlow a).1 = .ok lo →
      (nodeAny hhigh a).1 = .ok hi → FoaGuard a.m level lo hi) :
    AKeepsAt I off a h (aFindOrAdd var hlow hhigh h) :=
  aFindOrAdd_keepsAt ss a var hlow hhigh h fun level lo hi h1 h2 h3 =>
    findOrAdd_keepsAt ss a.m level lo hi (fun _ => by simpa using hg level lo hi h1 h2 h3)

end Auto

theorem findOrAdd_keepsAt {off : Bool} (m : Mgr) (i v w : Int)
    (hg : 0 ≤ i → FoaGuard m i.toNat v w) : CoreKeepsAt off m (findOrAdd i v w) :=
  Auto.findOrAdd_keepsAt session m i v w hg

theorem aFindOrAdd_keepsAtAll {off : Bool} (a : AMgr) (var : String) (hlow hhigh h : Nat)
    (hg : ∀ level lo hi, (levelOfVar var a.m).1 = .ok level → (nodeAny hlow a).1 = .ok lo →
      (nodeAny hhigh a).1 = .ok hi → FoaGuard a.m level lo hi) :
    AKeepsAt off a h (aFindOrAdd var hlow hhigh h) :=
  Auto.aFindOrAdd_keepsAtAll session a var hlow hhigh h hg

/-- module-level `image` / `preimage` on `Function`s, ARBITRARY arguments (ids not in use,
`Function`s of another manager, any renaming, any `qvars`), reordering possibly enabled -/
theorem aImage_keepsDynTotal (pre : Bool) (ht hs : Nat) (rn : List (Key × Key)) (q : List Key)
    (fa : Bool) (h : Nat) : AKeeps false h (aImage pre ht hs rn q fa h) :=
  Auto.aImage_keeps session (fun t s rn q f => coreKeeps false (image_decorated t s rn q f))
    (fun t s rn q f => coreKeeps false (preimage_decorated t s rn q f)) pre ht hs rn q fa h

end DD
