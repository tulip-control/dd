/-
  DDProofs.AutoFew — the decorated core operations in the mode `off = false` = EVERY
  configuration: dynamic reordering enabled or not, ANY number of declared variables, ARBITRARY
  arguments.  Every row of `Decorated` is a good step from any good state (`Decorated.step4`,
  DDProofs.Reach2), which makes two cases:
    * at least two variables : `tryToReorder_total_dyn` (C17);
    * fewer, the switch on or off : `tryToReorder_few_any` (DDProofs.Reach2) — a request that fires
      ends in the `ValueError` of sifting with reordering left DISABLED, in a state that satisfies
      the invariant for the same ledger and keeps every held reference.
  So the usual script start `b = autoref.BDD(); b.configure(reordering=True); b.declare(...)` is
  inside the mode.  `coreKeeps_false_of3` gives `CoreKeeps false` for an arbitrary operation from
  three sources: two variables, reordering not enabled, fewer than two.
-/
import DDProofs.AutoCore
import DDProofs.Reach2
open Std

namespace DD

theorem AutoMInv.good3 {off : Bool} {ext : Nat → Nat} {m : Mgr} (h : AutoMInv off ext m) : Good3 m ext :=
  ⟨h.inv, h.order, h.counts, h.ctx, h.sched, h.roots⟩

theorem Good3.autoMInv {ext : Nat → Nat} {m : Mgr} (h : Good3 m ext) : AutoMInv false ext m :=
  ⟨h.inv, h.order, h.exact, h.ctx, h.sched, h.roots, fun h => nomatch h⟩

theorem AutoMInv.dynInv {off : Bool} {ext : Nat → Nat} {m : Mgr} (h : AutoMInv off ext m)
    (h2 : 2 ≤ m.nvars) : DynInv ext m :=
  ⟨h.inv, h.order, h.counts, h.ctx, h.sched, (fun r hr => by rw [h.roots] at hr; cases hr), h2⟩

/-- the threshold `_last_len` and the countdown to the next request are not part of the invariant
in the mode `off = false` -/
theorem AInv.setRequest {off : Bool} {a : AMgr} (h : AInv off a) (l f : Option Nat) :
    AInv false { a with m := { a.m with lastLen := l, fireIn := f } } :=
  ⟨(h.minv.good3.setRequest l f).autoMInv, h.hmem⟩

/-- the three sources of `CoreKeeps false` -/
theorem coreKeeps_false_of3 {α : Type} {op : M α}
    (hdyn : ∀ (ext : Nat → Nat) (m : Mgr), DynInv ext m → DynTotal ext m (op m))
    (hoff : CoreKeeps true op)
    (hfew : ∀ (ext : Nat → Nat) (m : Mgr), Good3 m ext → m.nvars < 2 → Few3 m ext (op m)) :
    CoreKeeps false op := by
  refine ⟨fun m ext hm r m' he => ?_⟩
  by_cases h2 : 2 ≤ m.nvars
  · obtain ⟨_, hk⟩ := hdyn ext m (hm.dynInv h2)
    rw [he] at hk
    exact ⟨⟨hk.inv.inv, hk.inv.order, hk.inv.refs, hk.inv.ctx, hk.inv.sched,
      by rw [hk.roots]; exact hm.roots, fun h => nomatch h⟩, fun u _ hpos => hk.held u (Or.inr hpos)⟩
  · by_cases ho : m.lastLen = none
    · have hmT : AutoMInv true ext m :=
        ⟨hm.inv, hm.order, hm.counts, hm.ctx, hm.sched, hm.roots, fun _ => ho⟩
      obtain ⟨h1, h3⟩ := hoff.keeps m ext hmT r m' he
      exact ⟨⟨h1.inv, h1.order, h1.counts, h1.ctx, h1.sched, h1.roots, fun h => nomatch h⟩, h3⟩
    · have hf := hfew ext m hm.good3 (by omega)
      rw [he] at hf
      exact ⟨hf.1.autoMInv, fun u _ hpos => hf.2.1 u hpos⟩

/-- a decorated call with ANY arguments (a row of `Decorated`): a good step from any good state
(`Decorated.step4`) -/
theorem coreKeeps_of_decorated {op : M Int} (hd : ∀ m, Decorated m (op m)) : CoreKeeps false op := by
  refine ⟨fun m ext hm r m' he => ?_⟩
  have hs := (hd m).step4 hm.good3 Res.ref
  rw [he] at hs
  exact ⟨hs.good.autoMInv, fun u _ hpos => hs.held u hpos⟩

theorem apply_keepsDyn (op : String) (u : Int) (v w : Option Int) : CoreKeeps false (apply op u v w) :=
  coreKeeps_of_decorated (apply_decorated op u v w)

theorem image_keepsDyn (t s : Int) (rn : List (Key × Key)) (q : List Key) (fa : Bool) :
    CoreKeeps false (image t s rn q fa) :=
  coreKeeps_of_decorated (image_decorated t s rn q fa)

theorem preimage_keepsDyn (t s : Int) (rn : List (Key × Key)) (q : List Key) (fa : Bool) :
    CoreKeeps false (preimage t s rn q fa) :=
  coreKeeps_of_decorated (preimage_decorated t s rn q fa)

/-- what the methods of `autoref.BDD` and `Function` need of the core, in either mode: every
decorated call (a row of `Decorated`) keeps the manager invariant, whatever its arguments -/
theorem coreKeeps : ∀ (off : Bool) {op : M Int}, (∀ m, Decorated m (op m)) →
    Auto.CoreKeeps AutoMInv off op
  | true, _, hd => Auto.decorated_keepsOff session hd
  | false, _, hd => (coreKeeps_of_decorated hd).keeps

/-- `f.<op>(g)`, `~f` in both modes, ANY operator string and operands -/
theorem fApply_keepsAll (off : Bool) (op : String) (hs : Nat) (ho : Option Nat) (h : Nat) :
    AKeeps off h (fApply op hs ho h) :=
  Auto.fApply_keeps session op (fun u v => coreKeeps off (apply_decorated op u v none)) hs ho h

theorem fLe_keepsAll (off : Bool) (hs ho : Nat) : AKeeps0 off (fLe hs ho) :=
  Auto.fLe_keeps session (fun op u v => coreKeeps off (apply_decorated op u v none)) hs ho

theorem fLt_keepsAll (off : Bool) (hs ho : Nat) : AKeeps0 off (fLt hs ho) :=
  Auto.fLt_keeps session (fun op u v => coreKeeps off (apply_decorated op u v none)) hs ho

end DD
