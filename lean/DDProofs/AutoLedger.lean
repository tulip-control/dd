/-
  DDProofs.AutoLedger — counting over finite maps with natural-number keys:
  `msum t w = Σ_{(k ↦ b) ∈ t} w b`, defined as a sum up to a bound above every key, so that
  `insert` / `erase` change exactly one summand.  Used for `hcount handles k`, the number of live
  handles on node `k` (the in-degree `indeg` of a node is such a sum too, DDProofs.RefCount).
-/
import Std.Data.TreeMap.Lemmas
import DD.Auto
import DDProofs.RefErase
open Std

namespace DD

/-- `Σ_{i < n} f i` -/
def sumTo (f : Nat → Nat) : Nat → Nat
  | 0 => 0
  | n + 1 => sumTo f n + f n

theorem sumTo_eq_sumRange (f : Nat → Nat) : ∀ n, sumTo f n = sumRange f n
  | 0 => rfl
  | n + 1 => congrArg (· + f n) (sumTo_eq_sumRange f n)

def listBound : List Nat → Nat
  | [] => 0
  | a :: l => max (a + 1) (listBound l)

theorem lt_listBound : ∀ (l : List Nat) (a : Nat), a ∈ l → a < listBound l
  | [], _, h => by simp at h
  | b :: l, a, h => by
    rw [listBound]
    rcases List.mem_cons.mp h with h | h
    · subst h; omega
    · have := lt_listBound l a h; omega

section msum
variable {β : Type}

def mbound (t : TreeMap Nat β) : Nat := listBound t.keys

theorem lt_mbound (t : TreeMap Nat β) (i : Nat) (h : t.contains i = true) : i < mbound t :=
  lt_listBound _ _ (TreeMap.mem_keys.mpr (TreeMap.contains_iff_mem.mp h))

def mterm (t : TreeMap Nat β) (w : β → Nat) (i : Nat) : Nat :=
  match t[i]? with
  | some b => w b
  | none => 0

/-- `Σ_{(k ↦ b) ∈ t} w b` -/
def msum (t : TreeMap Nat β) (w : β → Nat) : Nat := sumTo (mterm t w) (mbound t)

theorem mterm_of_not_contains (t : TreeMap Nat β) (w : β → Nat) (i : Nat) (h : t.contains i = false) :
    mterm t w i = 0 := by
  unfold mterm
  rw [TreeMap.getElem?_eq_none_of_contains_eq_false h]

theorem msum_eq_of_bound (t : TreeMap Nat β) (w : β → Nat) (B : Nat)
    (hB : ∀ i, t.contains i = true → i < B) : msum t w = sumRange (mterm t w) B := by
  unfold msum
  rw [sumTo_eq_sumRange]
  have hz : ∀ (n : Nat), (∀ i, t.contains i = true → i < n) → ∀ i, n ≤ i → mterm t w i = 0 := by
    intro n hn i hi
    apply mterm_of_not_contains
    cases hc : t.contains i
    · rfl
    · have := hn i hc; omega
  by_cases hle : mbound t ≤ B
  · exact (sumRange_stable (hz _ (lt_mbound t)) B hle).symm
  · exact sumRange_stable (hz _ hB) (mbound t) (by omega)

theorem msum_update (t t' : TreeMap Nat β) (w : β → Nat) (j : Nat)
    (h : ∀ i : Nat, i ≠ j → t'[i]? = t[i]?) : msum t' w + mterm t w j = msum t w + mterm t' w j := by
  have hj : j < max (j + 1) (max (mbound t) (mbound t')) := Nat.lt_of_lt_of_le (Nat.lt_succ_self j) (Nat.le_max_left _ _)
  rw [msum_eq_of_bound t w _ (fun i hi => Nat.lt_of_lt_of_le (lt_mbound t i hi)
        (Nat.le_trans (Nat.le_max_left _ _) (Nat.le_max_right (j + 1) _))),
      msum_eq_of_bound t' w _ (fun i hi => Nat.lt_of_lt_of_le (lt_mbound t' i hi)
        (Nat.le_trans (Nat.le_max_right _ _) (Nat.le_max_right (j + 1) _)))]
  exact sumRange_update j _ hj fun i hi => by unfold mterm; rw [h i hi]

theorem msum_insert_new (t : TreeMap Nat β) (w : β → Nat) (j : Nat) (b : β)
    (hj : t.contains j = false) : msum (t.insert j b) w = msum t w + w b := by
  have h := msum_update t (t.insert j b) w j fun i hi => getElem?_insert_ne t j i b hi
  rw [mterm_of_not_contains t w j hj] at h
  unfold mterm at h
  rw [TreeMap.getElem?_insert_self] at h
  exact h

theorem msum_erase (t : TreeMap Nat β) (w : β → Nat) (j : Nat) (b : β)
    (hj : t[j]? = some b) : msum (t.erase j) w + w b = msum t w := by
  have h := msum_update t (t.erase j) w j fun i hi => getElem?_erase_ne t j i hi
  unfold mterm at h
  rw [TreeMap.getElem?_erase_self, hj] at h
  exact h

theorem msum_pos (t : TreeMap Nat β) (w : β → Nat) (h : 0 < msum t w) :
    ∃ (i : Nat) (b : β), t[i]? = some b ∧ 0 < w b := by
  obtain ⟨i, _, hi⟩ := sumRange_pos _ (msum_eq_of_bound t w _ (lt_mbound t) ▸ h)
  unfold mterm at hi
  cases hb : t[i]? with
  | none => rw [hb] at hi; simp at hi
  | some b => rw [hb] at hi; exact ⟨i, b, hb, hi⟩

theorem msum_of_isEmpty (t : TreeMap Nat β) (w : β → Nat) (h : t.isEmpty = true) : msum t w = 0 :=
  msum_eq_of_bound t w 0 fun i hc => by
    have := TreeMap.isEmpty_eq_false_of_contains hc
    rw [h] at this; cases this

theorem msum_congr (t t' : TreeMap Nat β) (w : β → Nat) (h : ∀ i : Nat, t'[i]? = t[i]?) : msum t' w = msum t w :=
  Nat.add_right_cancel ((msum_update t t' w 0 fun i _ => h i).trans (by unfold mterm; rw [h 0]))

end msum

/-- number of live handles that point to node `k` -/
def hcount (h : TreeMap Nat Int) (k : Nat) : Nat := msum h (fun u => if u.natAbs = k then 1 else 0)

theorem hcount_insert (h : TreeMap Nat Int) (j : Nat) (u : Int) (hj : h.contains j = false) :
    hcount (h.insert j u) = extInc (hcount h) u.natAbs :=
  funext fun k => (msum_insert_new h _ j u hj).trans (extInc_eq_add (hcount h) u.natAbs k).symm

theorem hcount_of_handle (h : TreeMap Nat Int) (j : Nat) (u : Int) (hj : h[j]? = some u) :
    hcount h = extInc (hcount (h.erase j)) u.natAbs :=
  funext fun k => ((extInc_eq_add (hcount (h.erase j)) u.natAbs k).trans (msum_erase h _ j u hj)).symm

theorem hcount_erase (h : TreeMap Nat Int) (j : Nat) (u : Int) (hj : h[j]? = some u) :
    hcount (h.erase j) = extDec (hcount h) u.natAbs := by
  rw [hcount_of_handle h j u hj, extDec_extInc]

theorem hcount_of_isEmpty (h : TreeMap Nat Int) (k : Nat) (he : h.isEmpty = true) : hcount h k = 0 :=
  msum_of_isEmpty h _ he

theorem hcount_pos_of_handle (h : TreeMap Nat Int) (j : Nat) (u : Int) (hj : h[j]? = some u) :
    0 < hcount h u.natAbs := by
  rw [hcount_of_handle h j u hj]
  exact extInc_self_pos _ _

/-- external references of an `autoref.BDD`: the live `Function`s (the reference that
`_init_terminal` gives to node 1 is accounted for by `RefExact` itself) -/
def hext (a : AMgr) : Nat → Nat := fun k => hcount a.handles k

theorem hext_pos_of_handle (a : AMgr) (h : Nat) (u : Int) (hh : a.handles[h]? = some u) :
    0 < hext a u.natAbs := hcount_pos_of_handle a.handles h u hh

theorem RefExact.extCongr {m : Mgr} {ext ext' : Nat → Nat} (h : RefExact m ext)
    (he : ∀ k, ext k = ext' k) : RefExact m ext' := by
  have : ext = ext' := funext he
  rw [← this]; exact h

theorem RefExact.lookup {m : Mgr} {ext : Nat → Nat} (h : RefExact m ext) (k : Nat) :
    m.ref[k]? = if (k = 1 ∨ (m.tbl.node? k).isSome) then
      some (indeg m.tbl k + ext k + (if k = 1 then 1 else 0)) else none :=
  h.ref_eq k

end DD
