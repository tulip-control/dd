/-
  DDProofs.AutoMonad — the monad `AM` of the autoref model: the equations of `>>=`, `finally'`,
  `onErr`; the outcomes of a composite operation (`AM.Out`, for DDProofs.AutoTemps); the operations
  that leave the session as it is (`ARead`).  The operand tests `nodeOwn`, `nodeSame`, `nodeIn`,
  `nodeAny` are reads whose answer is a lookup in the registry: one equation per test, from which
  one reads off what a successful test says about the registry and what a test answers on a live
  `Function`; likewise `f.level`, `f.var`, `len(f)`.  `_wrap(u)` is `Function(u, bdd)`.
-/
import DD.Auto
import DDProofs.Inv
open Std

namespace DD

theorem AM.bind_eq (x : AM α) (f : α → AM β) (a : AMgr) :
    (x >>= f) a = match x a with
      | (.ok v, a1) => f v a1
      | (.error e, a1) => (.error e, a1) := rfl

theorem AM.bind_ok {x : AM α} {f : α → AM β} {a a1 : AMgr} {v : α} (h : x a = (.ok v, a1)) :
    (x >>= f) a = f v a1 := by
  rw [AM.bind_eq, h]

theorem AM.finally_eq (x : AM α) (c : AM Unit) (a : AMgr) :
    AM.finally' x c a = ((x a).1, (c (x a).2).2) := rfl

theorem AM.onErr_eq (x : AM α) (c : AM Unit) (a : AMgr) :
    AM.onErr x c a = match x a with
      | (.ok v, a') => (.ok v, a')
      | (.error e, a') => (.error e, (c a').2) := rfl

theorem AM.ends_iff {x : AM α} {a : AMgr} {Q : AMgr → Prop} :
    (∀ r a', x a = (r, a') → Q a') ↔ Q (x a).2 :=
  ⟨fun h => h _ _ rfl, fun h _ _ he => by rw [he] at h; exact h⟩

theorem liftM_eval {op : M α} {a : AMgr} {r : Except Err α} {m' : Mgr} (he : op a.m = (r, m')) :
    AM.liftM op a = (r, { a with m := m' }) := by
  unfold AM.liftM; rw [he]

theorem liftE_eval {x : Mgr → Except Err α} {a : AMgr} {r : Except Err α} (he : x a.m = r) :
    AM.liftE x a = (r, a) := by
  unfold AM.liftE; rw [he]

def AM.Out (x : AM α) (b : AMgr) (Q : α → AMgr → Prop) (E : AMgr → Prop) : Prop :=
  match x b with
  | (.ok v, b') => Q v b'
  | (.error _, b') => E b'

theorem AM.Out.intro {x : AM α} {b : AMgr} {Q : α → AMgr → Prop} {E : AMgr → Prop}
    (hQ : ∀ v b', x b = (.ok v, b') → Q v b') (hE : ∀ e b', x b = (.error e, b') → E b') :
    AM.Out x b Q E := by
  unfold AM.Out
  cases h : x b with
  | mk r b' =>
    cases r with
    | ok v => exact hQ v b' h
    | error e => exact hE e b' h

theorem AM.Out.ends {x : AM α} {b : AMgr} {P : AMgr → Prop} (h : AM.Out x b (fun _ => P) P) :
    P (x b).2 := by
  unfold AM.Out at h
  generalize x b = r at h ⊢
  obtain ⟨_ | _, b'⟩ := r <;> exact h

theorem AM.Out.of_state {x : AM α} {b : AMgr} {P : AMgr → Prop} (h : P (x b).2) :
    AM.Out x b (fun _ => P) P :=
  AM.Out.intro (fun _ _ he => by rw [he] at h; exact h) (fun _ _ he => by rw [he] at h; exact h)

theorem AM.Out.mono {x : AM α} {b : AMgr} {Q Q' : α → AMgr → Prop} {E E' : AMgr → Prop}
    (h : AM.Out x b Q E) (hQ : ∀ v b', Q v b' → Q' v b') (hE : ∀ b', E b' → E' b') :
    AM.Out x b Q' E' := by
  unfold AM.Out at h ⊢
  generalize x b = r at h ⊢
  obtain ⟨e | v, b'⟩ := r
  · exact hE b' h
  · exact hQ v b' h

theorem AM.Out.bind {x : AM α} {f : α → AM β} {b : AMgr} {Q : α → AMgr → Prop}
    {R : β → AMgr → Prop} {E : AMgr → Prop} (hx : AM.Out x b Q E)
    (hf : ∀ v b', Q v b' → AM.Out (f v) b' R E) : AM.Out (x >>= f) b R E := by
  unfold AM.Out at hx ⊢
  rw [AM.bind_eq]
  generalize x b = r at hx ⊢
  obtain ⟨e | v, b'⟩ := r
  · exact hx
  · exact hf v b' hx

theorem AM.Out.pure {b : AMgr} {Q : α → AMgr → Prop} {E : AMgr → Prop} (v : α) (h : Q v b) :
    AM.Out (pure v) b Q E := h

theorem AM.Out.finally' {x : AM α} {c : AM Unit} {b : AMgr} {Q R : α → AMgr → Prop}
    {E' E : AMgr → Prop} (hx : AM.Out x b Q E') (hQ : ∀ v b', Q v b' → R v (c b').2)
    (hE : ∀ b', E' b' → E (c b').2) : AM.Out (AM.finally' x c) b R E := by
  unfold AM.Out at hx ⊢
  rw [AM.finally_eq]
  generalize x b = r at hx ⊢
  obtain ⟨e | v, b'⟩ := r
  · exact hE b' hx
  · exact hQ v b' hx

theorem AM.Out.onErr {x : AM α} {c : AM Unit} {b : AMgr} {Q : α → AMgr → Prop}
    {E' E : AMgr → Prop} (hx : AM.Out x b Q E') (hE : ∀ b', E' b' → E (c b').2) :
    AM.Out (AM.onErr x c) b Q E := by
  unfold AM.Out at hx ⊢
  rw [AM.onErr_eq]
  generalize x b = r at hx ⊢
  obtain ⟨e | v, b'⟩ := r
  · exact hE b' hx
  · exact hx

/-- both `_wrap` and `Function.__init__` test `u in bdd` first -/
theorem wrapF_eq_wrap (h : Nat) (u : Int) : wrapF h u = wrap h u := by
  funext a
  unfold wrap
  split
  · next hm => unfold wrapF; rw [if_pos hm]
  · rfl

theorem wrapF_ok_handle {h : Nat} {u : Int} {a a' : AMgr} {v : Unit}
    (he : wrapF h u a = (.ok v, a')) : a'.handles[h]? = some u := by
  unfold wrapF at he
  split at he
  · cases he
  · split at he
    · cases he; exact TreeMap.getElem?_insert_self
    · cases he

def MRead (x : M α) : Prop := ∀ m, (x m).2 = m

def ARead (x : AM α) : Prop := ∀ a, (x a).2 = a

theorem MRead.state_eq {x : M α} (hx : MRead x) {m m' : Mgr} {r : Except Err α}
    (he : x m = (r, m')) : m' = m := by
  have h := hx m
  rw [he] at h
  exact h

theorem ARead.state_eq {x : AM α} (hx : ARead x) {a a' : AMgr} {r : Except Err α}
    (he : x a = (r, a')) : a' = a := by
  have h := hx a
  rw [he] at h
  exact h

theorem ARead.bind_eq {x : AM α} (hx : ARead x) (f : α → AM β) (a : AMgr) :
    (x >>= f) a = match (x a).1 with
      | .ok v => f v a
      | .error e => (.error e, a) := by
  have h2 := hx a
  rw [AM.bind_eq]
  cases hxa : x a with
  | mk r a1 =>
    rw [hxa] at h2
    cases h2
    cases r <;> rfl

theorem ARead.out_bind {x : AM α} (hx : ARead x) {f : α → AM β} {b : AMgr} {R : β → AMgr → Prop}
    {E : AMgr → Prop} (hE : E b) (hf : ∀ v, (x b).1 = .ok v → AM.Out (f v) b R E) :
    AM.Out (x >>= f) b R E := by
  unfold AM.Out
  rw [hx.bind_eq]
  cases hv : (x b).1 with
  | error e => exact hE
  | ok v => exact hf v hv

theorem AM.bind_read_state (x : AM α) {f : α → AM β} (hf : ∀ v, ARead (f v)) (a : AMgr) :
    ((x >>= f) a).2 = (x a).2 := by
  rw [AM.bind_eq]
  cases hxa : x a with
  | mk r a1 =>
    cases r with
    | error e => rfl
    | ok v => exact hf v a1

theorem AM.ends_then_read {x : AM α} {f : α → AM β} (hf : ∀ v, ARead (f v)) {a : AMgr}
    {Q : AMgr → Prop} (h : ∀ r a', x a = (r, a') → Q a') : ∀ r a', (x >>= f) a = (r, a') → Q a' :=
  AM.ends_iff.mpr (AM.bind_read_state x hf a ▸ AM.ends_iff.mp h)

theorem ARead.pure (v : α) : ARead (pure v : AM α) := fun _ => rfl
theorem ARead.throw (e : Err) : ARead (AM.throw e : AM α) := fun _ => rfl
theorem ARead.get : ARead AM.get := fun _ => rfl
theorem ARead.liftE (x : Mgr → Except Err α) : ARead (AM.liftE x) := fun _ => rfl

theorem ARead.bind {x : AM α} {f : α → AM β} (hx : ARead x) (hf : ∀ v, ARead (f v)) :
    ARead (x >>= f) :=
  fun a => (AM.bind_read_state x hf a).trans (hx a)

theorem ARead.ite {c : Prop} [Decidable c] {x y : AM α} (hx : ARead x) (hy : ARead y) :
    ARead (if c then x else y) := by
  split <;> assumption

theorem ARead.liftM {x : M α} (hx : MRead x) : ARead (AM.liftM x) :=
  fun a => congrArg (fun m => ({ a with m := m } : AMgr)) (hx a.m)

theorem liftM_read_eq {x : M α} (hx : MRead x) (a : AMgr) : AM.liftM x a = ((x a.m).1, a) := by
  show ((x a.m).1, { a with m := (x a.m).2 }) = _
  rw [hx a.m]

theorem ARead.check (b : Bool) (e : Err) : ARead (AM.check b e) := by
  intro a; unfold AM.check; split <;> rfl

theorem nodeOwn_run (h : Nat) (a : AMgr) : nodeOwn h a =
    (match a.handles[h]? with
      | some u => .ok u
      | none => .error .other, a) := by
  unfold nodeOwn
  cases a.handles[h]? <;> rfl

theorem nodeSame_run (h : Nat) (a : AMgr) : nodeSame h a =
    (match a.handles[h]? with
      | some u => .ok u
      | none => match a.foreign[h]? with
        | some _ => .error .value
        | none => .error .other, a) := by
  unfold nodeSame
  cases a.handles[h]? with
  | some u => rfl
  | none => cases a.foreign[h]? <;> rfl

theorem nodeAny_run (h : Nat) (a : AMgr) : nodeAny h a =
    (match a.handles[h]? with
      | some u => .ok u
      | none => match a.foreign[h]? with
        | some u => .ok u
        | none => .error .other, a) := by
  unfold nodeAny
  cases a.handles[h]? with
  | some u => rfl
  | none => cases a.foreign[h]? <;> rfl

theorem nodeIn_run (h : Nat) (a : AMgr) : nodeIn h a =
    (match a.handles[h]? with
      | some u => if a.m.mem u then .ok u else .error .value
      | none => match a.foreign[h]? with
        | some _ => .error .value
        | none => .error .other, a) := by
  unfold nodeIn
  rw [AM.bind_eq, nodeSame_run]
  cases a.handles[h]? with
  | some u =>
    show (AM.check (a.m.mem u) .value >>= fun _ => (pure u : AM Int)) a =
      (if a.m.mem u then .ok u else .error .value, a)
    cases a.m.mem u <;> rfl
  | none => cases a.foreign[h]? <;> rfl

theorem nodeOwn_read (h : Nat) : ARead (nodeOwn h) := fun a => by rw [nodeOwn_run]
theorem nodeSame_read (h : Nat) : ARead (nodeSame h) := fun a => by rw [nodeSame_run]
theorem nodeAny_read (h : Nat) : ARead (nodeAny h) := fun a => by rw [nodeAny_run]
theorem nodeIn_read (h : Nat) : ARead (nodeIn h) := fun a => by rw [nodeIn_run]

theorem nodeIn_handle_mem (hu : Nat) (a : AMgr) (u : Int) (h : (nodeIn hu a).1 = .ok u) :
    a.handles[hu]? = some u ∧ a.m.tbl.Mem u := by
  rw [nodeIn_run] at h
  cases hh : a.handles[hu]? with
  | none => rw [hh] at h; revert h; cases a.foreign[hu]? <;> exact fun h => nomatch h
  | some v =>
    rw [hh] at h
    cases hm : a.m.mem v with
    | false => simp only [hm] at h; cases h
    | true => simp only [hm, if_true] at h; cases h; exact ⟨rfl, (Mgr.mem_iff a.m u).mp hm⟩

theorem nodeIn_handle (hu : Nat) (a : AMgr) (u : Int) (h : (nodeIn hu a).1 = .ok u) :
    a.handles[hu]? = some u := (nodeIn_handle_mem hu a u h).1

theorem nodeOwn_eval {a : AMgr} {h : Nat} {u : Int} (hu : a.handles[h]? = some u) :
    nodeOwn h a = (.ok u, a) := by
  rw [nodeOwn_run, hu]

theorem nodeSame_eval {a : AMgr} {h : Nat} {u : Int} (hu : a.handles[h]? = some u) :
    nodeSame h a = (.ok u, a) := by
  rw [nodeSame_run, hu]

theorem succOf_node {t : Tbl} {u : Int} {n : Nd} (h1 : u.natAbs ≠ 1) (hn : t.succ[u.natAbs]? = some n) :
    succOf t u = .ok (n.lvl, some (n.lo, n.hi)) := by
  unfold succOf
  rw [if_neg h1, hn]

theorem liftE_succOf {a : AMgr} {u : Int} {n : Nd} (h1 : u.natAbs ≠ 1)
    (hn : a.m.tbl.succ[u.natAbs]? = some n) :
    (AM.liftE fun m => succOf m.tbl u) a = (.ok (n.lvl, some (n.lo, n.hi)), a) :=
  liftE_eval (succOf_node h1 hn)

theorem fLevel_eval (a : AMgr) (hs : Nat) (u : Int) (n : Nd)
    (hu : a.handles[hs]? = some u) (h1 : u.natAbs ≠ 1) (hn : a.m.tbl.succ[u.natAbs]? = some n) :
    fLevel hs a = (.ok n.lvl, a) := by
  have h2 := liftE_succOf (a := a) h1 hn
  unfold fLevel
  rw [AM.bind_ok (nodeOwn_eval hu), AM.bind_ok h2]
  rfl

theorem fVar_eval_of (a : AMgr) (hs : Nat) (u : Int) (n : Nd) {x : String}
    (hu : a.handles[hs]? = some u) (h1 : u.natAbs ≠ 1) (hn : a.m.tbl.succ[u.natAbs]? = some n)
    (hx : varAtLevel (n.lvl : Int) a.m = (.ok x, a.m)) : fVar hs a = (.ok (some x), a) := by
  have h2 := liftE_succOf (a := a) h1 hn
  have h3 := liftM_eval (a := a) hx
  unfold fVar
  rw [AM.bind_ok (nodeOwn_eval hu), AM.bind_ok h2]
  show (AM.liftM (varAtLevel (n.lvl : Int)) >>= fun v => pure (some v)) a = _
  rw [AM.bind_ok h3]
  rfl

theorem liftE_succOf_term {a : AMgr} {u : Int} (h1 : u.natAbs = 1) :
    (AM.liftE fun m => succOf m.tbl u) a = (.ok (a.m.tbl.nvars, none), a) :=
  liftE_eval (by unfold succOf; rw [if_pos h1])

/-- `u.level` on a live handle: the level of the node, `len(vars)` for the terminal -/
theorem fLevel_levelOf (a : AMgr) (hs : Nat) (u : Int) (hu : a.handles[hs]? = some u)
    (hm : a.m.tbl.Mem u) : fLevel hs a = (.ok (a.m.tbl.levelOf u), a) := by
  by_cases h1 : u.natAbs = 1
  · unfold fLevel
    rw [AM.bind_ok (nodeOwn_eval hu), AM.bind_ok (liftE_succOf_term h1), levelOf_term _ _ h1]
    rfl
  · obtain ⟨n, hn⟩ := Option.isSome_iff_exists.mp (hm.resolve_left h1)
    rw [fLevel_eval a hs u n hu h1 hn, levelOf_node _ _ _ h1 hn]

theorem fVar_term (a : AMgr) (hs : Nat) (u : Int) (hu : a.handles[hs]? = some u)
    (h1 : u.natAbs = 1) : fVar hs a = (.ok none, a) := by
  unfold fVar
  rw [AM.bind_ok (nodeOwn_eval hu), AM.bind_ok (liftE_succOf_term h1)]
  rfl

theorem fLen_eval_of (a : AMgr) (hs : Nat) (u : Int) {l : List Nat} (hu : a.handles[hs]? = some u)
    (e : descendants a.m.tbl [u] = .ok l) : fLen hs a = (.ok l.length, a) := by
  have h2 : (AM.liftE fun m => descendants m.tbl [u]) a = (.ok l, a) := liftE_eval e
  unfold fLen
  rw [AM.bind_ok (nodeOwn_eval hu), AM.bind_ok h2]
  rfl

theorem nodeAny_eval {a : AMgr} {h : Nat} {u : Int} (hu : a.handles[h]? = some u) :
    nodeAny h a = (.ok u, a) := by
  rw [nodeAny_run, hu]

theorem nodeIn_eval {a : AMgr} {h : Nat} {u : Int} (hu : a.handles[h]? = some u)
    (hm : a.m.tbl.Mem u) : nodeIn h a = (.ok u, a) := by
  rw [nodeIn_run, hu]
  simp only [(Mgr.mem_iff a.m u).mpr hm, if_true]

theorem optNode_read {f : Nat → AM Int} (hf : ∀ h, ARead (f h)) (hv : Option Nat) :
    ARead (optNode f hv) := by
  cases hv with
  | none => exact ARead.pure _
  | some hv => exact ARead.bind (hf hv) fun _ => ARead.pure _

theorem optNode_eval {f : Nat → AM Int} {a : AMgr} {h : Nat} {u : Int} (hf : f h a = (.ok u, a)) :
    optNode f (some h) a = (.ok (some u), a) := by
  show (f h >>= fun u => pure (some u)) a = _
  rw [AM.bind_ok hf]
  rfl

theorem optNode_some_ok {f : Nat → AM Int} (hf : ARead (f hv)) (a : AMgr) (vo : Option Int)
    (h : (optNode f (some hv) a).1 = .ok vo) : ∃ v, vo = some v ∧ (f hv a).1 = .ok v := by
  change ((f hv >>= fun u => pure (some u)) a).1 = _ at h
  rw [hf.bind_eq] at h
  cases hx : (f hv a).1 with
  | error e => rw [hx] at h; cases h
  | ok v => rw [hx] at h; cases h; exact ⟨v, rfl, rfl⟩

theorem nodesAny_read : ∀ d, ARead (nodesAny d)
  | [] => ARead.pure _
  | (_, hv) :: rest => by
    unfold nodesAny
    exact ARead.bind (nodeAny_read hv) fun _ => ARead.bind (nodesAny_read rest) fun _ => ARead.pure _

theorem nodesAny_eval (a : AMgr) (node : Nat → Int) : ∀ (d : List (String × Nat)),
    (∀ p ∈ d, a.handles[p.2]? = some (node p.2)) →
    nodesAny d a = (.ok (d.map fun p => (p.1, node p.2)), a)
  | [], _ => rfl
  | (k, j) :: d, h => by
    unfold nodesAny
    rw [AM.bind_ok (nodeAny_eval (h (k, j) List.mem_cons_self)),
      AM.bind_ok (nodesAny_eval a node d (fun p hp => h p (List.mem_cons_of_mem _ hp)))]
    rfl

theorem aLetArgs_read (d : ALetArg) : ARead (aLetArgs d) := by
  cases d with
  | bools d => exact ARead.pure _
  | names d => exact ARead.pure _
  | funs d => exact ARead.bind (nodesAny_read d) fun _ => ARead.pure _

theorem levelOfVar_read (v : String) : MRead (levelOfVar v) := by
  intro m
  unfold levelOfVar
  change (M.bind' M.get _ m).2 = m
  unfold M.bind' M.get M.ofOption
  simp only
  cases m.tbl.vars[v]? <;> rfl

theorem addIntA_read (i : Int) : MRead (addIntA i) := by
  intro m
  unfold addIntA
  change (M.bind' M.get _ m).2 = m
  unfold M.bind' M.get
  simp only
  cases m.mem i <;> rfl

theorem pure_readM (v : α) : MRead (pure v : M α) := fun _ => rfl

end DD
