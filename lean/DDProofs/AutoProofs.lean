/-
  DDProofs.AutoProofs — the invariant of the autoref layer for sessions without a recorded
  iteration schedule, as an instance of DDProofs.AutoSession.

  `AInv off a`    : `Inv a.m`, every live handle points to a stored node,
                    `RefExact a.m (number of live handles on the node)`, and — when
                    `off = true` — dynamic reordering is not enabled (`lastLen = none`).
                    `off = false` is the invariant for every configuration.
-/
import DDProofs.AutoSession
import DDProofs.Reach
open Std

namespace DD

variable {off : Bool}

/-- `off = true` : dynamic reordering is not enabled;  `off = false` : EVERY configuration — it may
be enabled or not, with any number of declared variables (with fewer than two, a reordering
request that fires ends in the `ValueError` of sifting, C07 `sift_single_variable_raises`, in a
state that is good all the same: `tryToReorder_few`) -/
def ModeOK (off : Bool) (m : Mgr) : Prop :=
  off = true → m.lastLen = none

theorem ModeOK.transfer {off : Bool} {m m' : Mgr} (h : ModeOK off m) (hl : m'.lastLen = m.lastLen)
    (_hn : m.nvars ≤ m'.nvars) : ModeOK off m' :=
  fun ho => by rw [hl]; exact h ho

/-- the part of the invariant that speaks about the wrapped manager alone, relative to a
ledger `ext` of references held from outside: the manager invariant, the name maps (C14), exact
counts (C06), between two calls (`ctx = false`), no recorded iteration schedule, no registered
roots (`autoref` never sets `bdd.roots`), and the mode -/
structure AutoMInv (off : Bool) (ext : Nat → Nat) (m : Mgr) : Prop where
  inv : Inv m
  order : OrderOK m.tbl
  counts : RefExact m ext
  ctx : m.ctx = false
  sched : m.sched = []
  roots : m.roots = []
  mode : ModeOK off m

theorem AutoMInv.extCongr {ext ext' : Nat → Nat} {m : Mgr} (h : AutoMInv off ext m)
    (he : ∀ k, ext k = ext' k) : AutoMInv off ext' m :=
  ⟨h.inv, h.order, h.counts.extCongr he, h.ctx, h.sched, h.roots, h.mode⟩

theorem AutoMInv.reorderInv {ext : Nat → Nat} {m : Mgr} (h : AutoMInv off ext m) : ReorderInv ext m :=
  ⟨h.inv, h.order, h.counts, Or.inl h.ctx, fun r hr => by rw [h.roots] at hr; cases hr⟩

structure AInv (off : Bool) (a : AMgr) : Prop where
  minv : AutoMInv off (hext a) a.m
  hmem : ∀ (h : Nat) (u : Int), a.handles[h]? = some u → a.m.tbl.Mem u

theorem AInv.inv {a : AMgr} (h : AInv off a) : Inv a.m := h.minv.inv
theorem AInv.order {a : AMgr} (h : AInv off a) : OrderOK a.m.tbl := h.minv.order
theorem AInv.counts {a : AMgr} (h : AInv off a) : RefExact a.m (hext a) := h.minv.counts
theorem AInv.mode {a : AMgr} (h : AInv off a) : ModeOK off a.m := h.minv.mode

theorem GoodParts.autoMInv {m : Mgr} {ext : Nat → Nat} (h : GoodParts m ext) : AutoMInv true ext m :=
  ⟨h.inv, h.order, h.exact, h.ctx, h.sched, h.roots, fun _ => h.off⟩

/-- a fresh `autoref.BDD()` (the driver's constructor): no `Function` alive -/
theorem AInv.of_goodParts {m : Mgr} (h : GoodParts m (fun _ => 0)) :
    AInv true ({ m := m } : AMgr) :=
  ⟨h.autoMInv.extCongr fun k => (hcount_of_isEmpty _ k TreeMap.isEmpty_emptyc).symm,
   fun hd u hh => by
    rw [show ({ m := m } : AMgr).handles = (∅ : TreeMap Nat Int) from rfl,
      TreeMap.getElem?_emptyc] at hh
    cases hh⟩

/-- the `u in self` test passes on a live `Function` -/
theorem AInv.nodeIn {a : AMgr} (hi : AInv off a) {h : Nat} {u : Int} (hu : a.handles[h]? = some u) :
    nodeIn h a = (.ok u, a) := nodeIn_eval hu (hi.hmem h u hu)

theorem AInv.toDyn {a : AMgr} (h : AInv true a) : AInv false a :=
  ⟨⟨h.minv.inv, h.minv.order, h.minv.counts, h.minv.ctx, h.minv.sched, h.minv.roots,
    fun hf => Bool.noConfusion hf⟩, h.hmem⟩

/-- the value theorems of the mode `off = false` are stated for at least two declared variables
(with fewer, a reordering request that fires ends in the `ValueError` of sifting — the call is then
covered by the every-outcome theorems `C08_ops_dyn_total`, not by a theorem about its value) -/
def Two (off : Bool) (a : AMgr) : Prop := off = false → 2 ≤ a.m.nvars

theorem Two.of_tbl {off : Bool} {a b : AMgr} (h : Two off a) (ht : b.m.tbl = a.m.tbl) : Two off b := by
  intro ho
  show 2 ≤ b.m.tbl.nvars
  rw [ht]; exact h ho

/-- `transfer` uses `hs`: "no recorded schedule" survives a step that keeps the schedule -/
theorem session : Auto.Session AutoMInv AInv where
  inv h := h.inv
  order h := h.order
  counts h := h.counts
  ctx h := h.ctx
  roots h := h.roots
  lastLen h := h.mode
  transfer h hi ho hr hc hs hro _ hl :=
    ⟨hi, ho, hr, hc.trans h.ctx, hs.trans h.sched, hro.trans h.roots, hl⟩
  minv h := h.minv
  hmem h := h.hmem
  intro h1 h2 := ⟨h1, h2⟩

/-- `Auto.CoreKeepsAt` (DDProofs.AutoSession) for `AutoMInv`, written out -/
def CoreKeepsAt (off : Bool) (m : Mgr) (op : M α) : Prop :=
  ∀ (ext : Nat → Nat), AutoMInv off ext m → ∀ r m', op m = (r, m') →
    AutoMInv off ext m' ∧ HeldExt m.tbl m'.tbl ext

/-- … in every start state -/
structure CoreKeeps (off : Bool) (op : M α) : Prop where
  keeps : ∀ m : Mgr, CoreKeepsAt off m op

/-- `Auto.AKeeps` for `AInv`, written out: the operation creates at most the handle `h`, keeps the
invariant, touches no other handle, and every `Function` that was alive keeps its node and its
meaning, whether it returns or raises -/
def AKeeps (off : Bool) (h : Nat) (x : AM α) : Prop :=
  ∀ a, AInv off a → a.handles.contains h = false → ∀ r a', x a = (r, a') →
    AInv off a' ∧ (∀ j : Nat, j ≠ h → a'.handles[j]? = a.handles[j]?) ∧
    (∀ (j : Nat) (u : Int), a.handles[j]? = some u →
      a'.m.tbl.Mem u ∧ ∀ asg, denN a'.m.tbl u asg = denN a.m.tbl u asg)

/-- the guarantee for one start state -/
def AKeepsAt (off : Bool) (a : AMgr) (h : Nat) (x : AM α) : Prop :=
  AInv off a → a.handles.contains h = false → ∀ r a', x a = (r, a') →
    AInv off a' ∧ (∀ j : Nat, j ≠ h → a'.handles[j]? = a.handles[j]?) ∧
    (∀ (j : Nat) (u : Int), a.handles[j]? = some u →
      a'.m.tbl.Mem u ∧ ∀ asg, denN a'.m.tbl u asg = denN a.m.tbl u asg)

/-- … at most the handles in the list `H` (`BDD.succ` creates two; comparisons create none) -/
def AKeepsL (off : Bool) (H : List Nat) (x : AM α) : Prop :=
  ∀ a, AInv off a → (∀ h, h ∈ H → a.handles.contains h = false) → ∀ r a', x a = (r, a') →
    AInv off a' ∧ (∀ j : Nat, j ∉ H → a'.handles[j]? = a.handles[j]?) ∧
    (∀ (j : Nat) (u : Int), a.handles[j]? = some u →
      a'.m.tbl.Mem u ∧ ∀ asg, denN a'.m.tbl u asg = denN a.m.tbl u asg)

/-- … for one start state -/
def AKeepsLAt (off : Bool) (a : AMgr) (H : List Nat) (x : AM α) : Prop :=
  AInv off a → (∀ h, h ∈ H → a.handles.contains h = false) → ∀ r a', x a = (r, a') →
    AInv off a' ∧ (∀ j : Nat, j ∉ H → a'.handles[j]? = a.handles[j]?) ∧
    (∀ (j : Nat) (u : Int), a.handles[j]? = some u →
      a'.m.tbl.Mem u ∧ ∀ asg, denN a'.m.tbl u asg = denN a.m.tbl u asg)

/-- … none (the comparisons: their temporaries are released) -/
def AKeeps0 (off : Bool) (x : AM α) : Prop :=
  ∀ a, AInv off a → ∀ r a', x a = (r, a') →
    AInv off a' ∧ (∀ j : Nat, a'.handles[j]? = a.handles[j]?) ∧
    (∀ (j : Nat) (u : Int), a.handles[j]? = some u →
      a'.m.tbl.Mem u ∧ ∀ asg, denN a'.m.tbl u asg = denN a.m.tbl u asg)

theorem AKeeps0.keeps {x : AM α} (h0 : AKeeps0 off x) (h : Nat) : AKeeps off h x :=
  Auto.AKeeps0.keeps h0 h

theorem AKeeps0.toL {x : AM α} (h0 : AKeeps0 off x) : AKeepsL off [] x := Auto.AKeeps0.toL h0

theorem AKeeps.inv_end {α} {h : Nat} {x : AM α} (hk : AKeeps off h x) {a : AMgr} (hi : AInv off a)
    (hf : a.handles.contains h = false) : AInv off (x a).2 := (hk a hi hf _ _ rfl).1

theorem AKeepsAt.toL {x : AM α} {h : Nat} {a : AMgr} (hk : AKeepsAt off a h x) :
    AKeepsLAt off a [h] x := Auto.AKeepsAt.toL hk

theorem wrap_keeps (h : Nat) (u : Int) : AKeeps off h (wrap h u) :=
  wrapF_eq_wrap h u ▸ Auto.wrapF_keeps session h u

/-- one step of a history in which the handles in `P` are never dropped: any operation that
creates at most the (fresh) handles `H` and has the guarantee `AKeepsLAt` in the current state
(`AKeepsL off H x` gives it in every state), or the drop of a live handle outside `P` -/
inductive AStep (off : Bool) (P : Nat → Prop) : AMgr → AMgr → Prop
  | op {α : Type} (H : List Nat) (x : AM α) (a : AMgr) (hk : AKeepsLAt off a H x)
      (hf : ∀ h, h ∈ H → a.handles.contains h = false) (r : Except Err α) (a' : AMgr)
      (he : x a = (r, a')) : AStep off P a a'
  | drop (h : Nat) (hP : ¬ P h) (a a' : AMgr) (u : Int) (hl : a.handles[h]? = some u)
      (he : drop h a = (.ok (), a')) : AStep off P a a'

inductive AReach (off : Bool) (P : Nat → Prop) : AMgr → AMgr → Prop
  | refl (a : AMgr) : AReach off P a a
  | step {a b c : AMgr} : AReach off P a b → AStep off P b c → AReach off P a c

/-- every live `Function` keeps denoting the same function (by variable name) through any
sequence of operations, collections and reorderings, no matter when other `Function`s are
dropped; and the count equation holds throughout -/
theorem autoref_live_den (P : Nat → Prop) {a a' : AMgr} (hi : AInv off a) (hr : AReach off P a a') :
    AInv off a' ∧ ∀ h, P h → ∀ u, a.handles[h]? = some u →
      a'.handles[h]? = some u ∧ a'.m.tbl.Mem u ∧
      ∀ asg, denN a'.m.tbl u asg = denN a.m.tbl u asg := by
  induction hr with
  | refl => exact Auto.LiveDen.refl session P hi
  | step _ hs ih =>
    cases hs with
    | op H x _ hk hf r _ he => exact Auto.LiveDen.op ih hk hf he
    | drop h hP _ _ v hl he => exact Auto.LiveDen.drop session ih hP hl he

/-- the count equation without the terminal's own reference (the state inside
`dd.bdd.BDD.__del__` after `decref(1)`): `ref k = indeg k + ext k`, no other keys -/
def RefExact0 (m : Mgr) (ext : Nat → Nat) : Prop :=
  ∀ k : Nat, m.ref[k]? = if (k = 1 ∨ (m.tbl.node? k).isSome) then some (indeg m.tbl k + ext k) else none

/-- what `collect_garbage()` is assumed to do in that state (a statement about `dd.bdd`
alone; `collectGarbage_spec` proves it for states that still have the terminal's reference):
it succeeds, keeps invariant and equation, and leaves no stored node with count zero -/
structure GcSpec0 : Prop where
  gc : ∀ (m : Mgr) (ext : Nat → Nat), Inv m → RefExact0 m ext →
    ∃ m', collectGarbage none m = (.ok (), m') ∧ Inv m' ∧ RefExact0 m' ext ∧
      ∀ (u : Nat) (n : Nd), m'.tbl.node? u = some n → m'.ref[u]? ≠ some 0

/-- once every `Function` of a manager is gone, the manager's shutdown check
(`dd.bdd.BDD.__del__`) passes, WHATEVER garbage is still stored: the terminal's own reference is
released, the collection removes every node, and every count is zero — no hypothesis -/
theorem autoref_shutdown {off : Bool} (a : AMgr) (hi : AInv off a) (he : a.handles.isEmpty = true) :
    ∃ m', shutdown a.m = (.ok (), m') ∧ (∀ u : Nat, m'.tbl.node? u = none) ∧
      (∀ (k c : Nat), m'.ref[k]? = some c → c = 0) :=
  Auto.autoref_shutdown session a hi he

/-- the same under an assumption about the collection that `autoref_shutdown` does not need -/
theorem autoref_shutdown_of_gcSpec0 (gs : GcSpec0) (a : AMgr) (hi : AInv off a)
    (he : a.handles.isEmpty = true) :
    ∃ m', shutdown a.m = (.ok (), m') ∧ (∀ u : Nat, m'.tbl.node? u = none) ∧
      (∀ (k c : Nat), m'.ref[k]? = some c → c = 0) :=
  autoref_shutdown a hi he

end DD
