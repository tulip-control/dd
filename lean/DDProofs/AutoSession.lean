/-
  DDProofs.AutoSession — the invariant of the autoref layer and its preservation, once for every
  invariant of the wrapped manager with the properties collected in `Auto.Session K I`:
  `K off ext m` is the invariant of the manager relative to a ledger `ext` of references held from
  outside the table, `I off a` is `K off (hext a) a.m` for the ledger "number of live `Function`s on
  the node", with every live `Function` on a stored node.  What a method keeps follows from what its
  core operation keeps (`CoreKeeps`; discharged in DDProofs.AutoCore, AutoFew, AutoDyn).  Instances:
  `AutoMInv` / `AInv` (DDProofs.AutoProofs), `S.AutoMInv` / `S.AInv` (DDProofs.SchedAutoProofs).
-/
import DDProofs.AutoShutdown
import DDProofs.AutoMonad
import DDProofs.Total
import DDProofs.VarsProofs
import DDProofs.Decorator
open Std

namespace DD

def HeldExt (t t' : Tbl) (ext : Nat → Nat) : Prop :=
  ∀ u : Int, t.Mem u → 0 < ext u.natAbs → t'.Mem u ∧ ∀ σ : AsgN, denN t' u σ = denN t u σ

theorem HeldExt.refl (t : Tbl) (ext : Nat → Nat) : HeldExt t t ext := fun _ hu _ => ⟨hu, fun _ => rfl⟩

theorem HeldExt.trans {t t' t'' : Tbl} {ext : Nat → Nat} (h1 : HeldExt t t' ext)
    (h2 : HeldExt t' t'' ext) : HeldExt t t'' ext := fun u hu hp =>
  have a1 := h1 u hu hp
  byName_trans a1 (h2 u a1.1 hp)

theorem heldExt_of_kept {m m' : Mgr} (hI : Inv m) (h : Kept m m') (ext : Nat → Nat) :
    HeldExt m.tbl m'.tbl ext := fun _ hu _ => h.ext.byName h.frame.l2v hI.wf.toWF hu

namespace Auto

/-- What the proofs about `dd.autoref` use of the invariant `K off ext m` of the wrapped manager
(`off = true`: dynamic reordering is not enabled) and of the invariant `I off a` of the session.
`transfer` rebuilds `K` after a step that keeps the switches; of `hs` and `hn` each instance needs
one: `AutoMInv` says that no schedule is recorded, `S.AutoMInv` that two variables are declared when
reordering may be enabled. -/
structure Session (K : Bool → (Nat → Nat) → Mgr → Prop) (I : Bool → AMgr → Prop) : Prop where
  inv {off ext m} : K off ext m → Inv m
  order {off ext m} : K off ext m → OrderOK m.tbl
  counts {off ext m} : K off ext m → RefExact m ext
  ctx {off ext m} : K off ext m → m.ctx = false
  roots {off ext m} : K off ext m → m.roots = []
  lastLen {off ext m} : K off ext m → off = true → m.lastLen = none
  transfer {off ext ext' m m'} : K off ext m → Inv m' → OrderOK m'.tbl → RefExact m' ext' →
    m'.ctx = m.ctx → (hs : m'.sched = m.sched) → m'.roots = m.roots → (hn : m.nvars ≤ m'.nvars) →
    (off = true → m'.lastLen = none) → K off ext' m'
  minv {off a} : I off a → K off (hext a) a.m
  hmem {off a} : I off a → ∀ (h : Nat) (u : Int), a.handles[h]? = some u → a.m.tbl.Mem u
  intro {off a} : K off (hext a) a.m →
    (∀ (h : Nat) (u : Int), a.handles[h]? = some u → a.m.tbl.Mem u) → I off a

variable {K : Bool → (Nat → Nat) → Mgr → Prop} {I : Bool → AMgr → Prop} {off : Bool}

theorem Session.keep (ss : Session K I) {ext ext' : Nat → Nat} {m m' : Mgr} (h : K off ext m)
    (hi : Inv m') (ho : OrderOK m'.tbl) (hr : RefExact m' ext') (hc : m'.ctx = m.ctx)
    (hs : m'.sched = m.sched) (hro : m'.roots = m.roots) (hn : m.nvars ≤ m'.nvars)
    (hl : m'.lastLen = m.lastLen) : K off ext' m' :=
  ss.transfer h hi ho hr hc hs hro hn fun e => hl.trans (ss.lastLen h e)

theorem Session.setRef (ss : Session K I) {ext ext' : Nat → Nat} {m : Mgr} (h : K off ext m)
    (ref' : TreeMap Nat Nat) (hi : Inv { m with ref := ref' })
    (hr : RefExact { m with ref := ref' } ext') : K off ext' { m with ref := ref' } :=
  ss.keep h hi (show OrderOK m.tbl from ss.order h) hr rfl rfl rfl (Nat.le_refl _) rfl

theorem Session.ainv (ss : Session K I) {a : AMgr} (h : I off a) : Inv a.m := ss.inv (ss.minv h)
theorem Session.acounts (ss : Session K I) {a : AMgr} (h : I off a) : RefExact a.m (hext a) :=
  ss.counts (ss.minv h)

/-- what the autoref layer needs from a core operation in ONE start state, whatever the
outcome (a result or an exception): the manager invariant and the count equation relative
to the *same* external references are kept, externally referenced nodes survive with their
meaning, and (mode `off = true`) reordering stays disabled -/
def CoreKeepsAt (K : Bool → (Nat → Nat) → Mgr → Prop) (off : Bool) (m : Mgr) (op : M α) : Prop :=
  ∀ (ext : Nat → Nat), K off ext m → ∀ r m', op m = (r, m') →
    K off ext m' ∧ HeldExt m.tbl m'.tbl ext

def CoreKeeps (K : Bool → (Nat → Nat) → Mgr → Prop) (off : Bool) (op : M α) : Prop :=
  ∀ m : Mgr, CoreKeepsAt K off m op

theorem CoreKeeps.of_read {x : M α} (h : MRead x) : CoreKeeps K off x := by
  intro m ext hm r m' he
  cases h.state_eq he
  exact ⟨hm, HeldExt.refl _ _⟩

theorem Session.keeps_of_kept (ss : Session K I) {ext : Nat → Nat} {m m' : Mgr} (h : K off ext m)
    (k : Kept m m') (hr : RefExact m' ext) : K off ext m' ∧ HeldExt m.tbl m'.tbl ext :=
  ⟨ss.keep h k.inv ((ss.order h).frame k.frame) hr k.frame.ctx k.frame.sched k.frame.roots
      (by rw [Mgr.nvars, Mgr.nvars, k.ext.nvars]; exact Nat.le_refl _) k.frame.lastLen,
    heldExt_of_kept (ss.inv h) k ext⟩

def Lives (a a' : AMgr) : Prop :=
  ∀ (j : Nat) (u : Int), a.handles[j]? = some u →
    a'.m.tbl.Mem u ∧ ∀ asg, denN a'.m.tbl u asg = denN a.m.tbl u asg

theorem Session.lives (ss : Session K I) {a : AMgr} (hi : I off a) : Lives a a :=
  fun j u hj => ⟨ss.hmem hi j u hj, fun _ => rfl⟩

theorem Lives.of_tbl {a b b' : AMgr} (h : Lives a b) (ht : b'.m.tbl = b.m.tbl) : Lives a b' :=
  fun j u hj => by rw [ht]; exact h j u hj

theorem Lives.trans {a b c : AMgr} (h1 : Lives a b) (h2 : Lives b c)
    (hh : ∀ (j : Nat) (u : Int), a.handles[j]? = some u → b.handles[j]? = some u) : Lives a c :=
  fun j u hj => byName_trans (h1 j u hj) (h2 j u (hh j u hj))

/-- the guarantee of an autoref operation that creates at most the handle `h`, for one start
state: the invariant is kept, no other handle is touched, every `Function` that was alive keeps
its node and its meaning (whether the operation returns or raises) -/
def AKeepsAt (I : Bool → AMgr → Prop) (off : Bool) (a : AMgr) (h : Nat) (x : AM α) : Prop :=
  I off a → a.handles.contains h = false → ∀ r a', x a = (r, a') →
    I off a' ∧ (∀ j : Nat, j ≠ h → a'.handles[j]? = a.handles[j]?) ∧ Lives a a'

def AKeeps (I : Bool → AMgr → Prop) (off : Bool) (h : Nat) (x : AM α) : Prop :=
  ∀ a, AKeepsAt I off a h x

/-- the same for an operation that creates at most the handles in the list `H` (`BDD.succ`
creates two; comparisons create none) -/
def AKeepsLAt (I : Bool → AMgr → Prop) (off : Bool) (a : AMgr) (H : List Nat) (x : AM α) : Prop :=
  I off a → (∀ h, h ∈ H → a.handles.contains h = false) → ∀ r a', x a = (r, a') →
    I off a' ∧ (∀ j : Nat, j ∉ H → a'.handles[j]? = a.handles[j]?) ∧ Lives a a'

def AKeepsL (I : Bool → AMgr → Prop) (off : Bool) (H : List Nat) (x : AM α) : Prop :=
  ∀ a, AKeepsLAt I off a H x

def AKeeps0 (I : Bool → AMgr → Prop) (off : Bool) (x : AM α) : Prop :=
  ∀ a, I off a → ∀ r a', x a = (r, a') →
    I off a' ∧ (∀ j : Nat, a'.handles[j]? = a.handles[j]?) ∧ Lives a a'

theorem AKeepsAt.toL {x : AM α} {h : Nat} {a : AMgr} (hk : AKeepsAt I off a h x) :
    AKeepsLAt I off a [h] x := by
  intro hi hf r a' he
  obtain ⟨i, s, d⟩ := hk hi (hf h List.mem_cons_self) r a' he
  exact ⟨i, fun j hj => s j (fun e => hj (e ▸ List.mem_cons_self)), d⟩

theorem AKeeps.toL {x : AM α} {h : Nat} (hk : AKeeps I off h x) : AKeepsL I off [h] x :=
  fun a => (hk a).toL

theorem AKeeps0.toL {x : AM α} (h0 : AKeeps0 I off x) : AKeepsL I off [] x :=
  fun a hi _ r a' he =>
    let ⟨i, s, d⟩ := h0 a hi r a' he
    ⟨i, fun j _ => s j, d⟩

theorem AKeeps0.keeps {x : AM α} (h0 : AKeeps0 I off x) (h : Nat) : AKeeps I off h x :=
  fun a hi _ r a' he =>
    let ⟨i, s, d⟩ := h0 a hi r a' he
    ⟨i, fun j _ => s j, d⟩

theorem AKeepsAt.bind_read (ss : Session K I) {x : AM α} {f : α → AM β} {h : Nat} (a : AMgr)
    (hx : ARead x) (hf : ∀ v, (x a).1 = .ok v → AKeepsAt I off a h (f v)) :
    AKeepsAt I off a h (x >>= f) := by
  intro hi hfr
  rw [hx.bind_eq]
  cases hv : (x a).1 with
  | error e => intro r a' he; cases he; exact ⟨hi, fun _ _ => rfl, ss.lives hi⟩
  | ok v => exact hf v hv hi hfr

theorem AKeeps.bind_read (ss : Session K I) {x : AM α} {f : α → AM β} {h : Nat} (hx : ARead x)
    (hf : ∀ v, AKeeps I off h (f v)) : AKeeps I off h (x >>= f) :=
  fun a => AKeepsAt.bind_read ss a hx fun v _ => hf v a

theorem AKeeps0.of_read (ss : Session K I) {x : AM α} (hx : ARead x) : AKeeps0 I off x := by
  intro a hi r a' he
  cases hx.state_eq he
  exact ⟨hi, fun _ => rfl, ss.lives hi⟩

theorem AKeeps.of_read (ss : Session K I) {x : AM α} (h : Nat) (hx : ARead x) : AKeeps I off h x :=
  (AKeeps0.of_read ss hx).keeps h

theorem AKeepsAt.then_read {x : AM α} {f : α → AM β} {h : Nat} (a : AMgr)
    (hx : AKeepsAt I off a h x) (hf : ∀ v, ARead (f v)) : AKeepsAt I off a h (x >>= f) :=
  fun hi hfr => AM.ends_then_read hf (hx hi hfr)

theorem AKeeps.then_read {x : AM α} {f : α → AM β} {h : Nat} (hx : AKeeps I off h x)
    (hf : ∀ v, ARead (f v)) : AKeeps I off h (x >>= f) :=
  fun a => AKeepsAt.then_read a (hx a) hf

theorem AKeeps0.then_read {x : AM α} {f : α → AM β} (hx : AKeeps0 I off x)
    (hf : ∀ v, ARead (f v)) : AKeeps0 I off (x >>= f) :=
  fun a hi => AM.ends_then_read hf (hx a hi)

theorem AKeepsL.bind {x : AM α} {f : α → AM β} {H1 H2 : List Nat} (hx : AKeepsL I off H1 x)
    (hf : ∀ v, AKeepsL I off H2 (f v)) (hd : ∀ h ∈ H2, h ∉ H1) :
    AKeepsL I off (H1 ++ H2) (x >>= f) := by
  intro a hi hfr r a' he
  rw [AM.bind_eq] at he
  cases hxa : x a with
  | mk r1 a1 =>
    rw [hxa] at he
    obtain ⟨i1, s1, d1⟩ := hx a hi (fun h hh => hfr h (List.mem_append_left _ hh)) r1 a1 hxa
    have s1' : ∀ j : Nat, j ∉ H1 ++ H2 → a1.handles[j]? = a.handles[j]? := fun j hj =>
      s1 j fun h => hj (List.mem_append_left _ h)
    cases r1 with
    | error e => cases he; exact ⟨i1, s1', d1⟩
    | ok v =>
      have hf1 : ∀ h ∈ H2, a1.handles.contains h = false := fun h hh => by
        rw [TreeMap.contains_eq_isSome_getElem?, s1 h (hd h hh), ← TreeMap.contains_eq_isSome_getElem?]
        exact hfr h (List.mem_append_right _ hh)
      obtain ⟨i2, s2, d2⟩ := hf v a1 i1 hf1 r a' he
      refine ⟨i2, fun j hj => (s2 j fun h => hj (List.mem_append_right _ h)).trans (s1' j hj),
        d1.trans d2 fun j w hj => ?_⟩
      -- a live `Function` is none of the new ids
      rw [s1 j fun h => ?_]
      · exact hj
      · rw [TreeMap.getElem?_eq_none_of_contains_eq_false (hfr j (List.mem_append_left _ h))] at hj
        cases hj

/-- `Function(u, bdd)` with a fresh handle id on a stored node -/
theorem wrapF_spec (ss : Session K I) (a : AMgr) (h : Nat) (u : Int) (hi : I off a)
    (hf : a.handles.contains h = false) (hu : a.m.tbl.Mem u) :
    ∃ a', wrapF h u a = (.ok (), a') ∧ I off a' ∧ a'.m.tbl = a.m.tbl ∧
      a'.handles = a.handles.insert h u ∧ a'.foreign = a.foreign := by
  obtain ⟨c, _, he, hre⟩ := DD.incref_spec a.m (hext a) u (ss.acounts hi) hu
  have hinv : Inv { a.m with ref := a.m.ref.insert u.natAbs (c + 1) } := by
    have := (incref_kept a.m (ss.ainv hi) u).inv
    rw [he] at this; exact this
  refine ⟨{ a with m := { a.m with ref := a.m.ref.insert u.natAbs (c + 1) },
                   handles := a.handles.insert h u },
    ?_, ss.intro (ss.setRef (ss.minv hi) _ hinv ?_) ?_, rfl, rfl, rfl⟩
  · unfold wrapF
    rw [(Mgr.mem_iff a.m u).mpr hu, he]
    rfl
  · exact hre.extCongr fun k => (congrFun (hcount_insert a.handles h u hf) k).symm
  · intro j v hj
    show a.m.tbl.Mem v
    have hj' : (a.handles.insert h u)[j]? = some v := hj
    rw [getElem?_insert_eq] at hj'
    split at hj'
    · cases hj'; exact hu
    · exact ss.hmem hi j v hj'

/-- `Function.__del__` of a live handle -/
theorem drop_spec (ss : Session K I) (a : AMgr) (h : Nat) (u : Int) (hi : I off a)
    (hh : a.handles[h]? = some u) :
    ∃ a', drop h a = (.ok (), a') ∧ I off a' ∧ a'.m.tbl = a.m.tbl ∧
      a'.handles = a.handles.erase h ∧ a'.foreign = a.foreign := by
  obtain ⟨c, _, he, hre⟩ :=
    DD.decref_spec a.m (hext a) u (ss.acounts hi) (hext_pos_of_handle a h u hh)
  have hinv : Inv { a.m with ref := a.m.ref.insert u.natAbs c } := by
    have := (decref_kept a.m (ss.ainv hi) u).inv
    rw [he] at this; exact this
  refine ⟨{ a with m := { a.m with ref := a.m.ref.insert u.natAbs c }, handles := a.handles.erase h },
    ?_, ss.intro (ss.setRef (ss.minv hi) _ hinv ?_) ?_, rfl, rfl, rfl⟩
  · unfold drop
    rw [hh]
    simp only [he]
  · exact hre.extCongr fun k => (congrFun (hcount_erase a.handles h u hh) k).symm
  · intro j v hj
    show a.m.tbl.Mem v
    have hj' : (a.handles.erase h)[j]? = some v := hj
    rw [getElem?_erase_eq] at hj'
    split at hj'
    · cases hj'
    · exact ss.hmem hi j v hj'

theorem ref_eq_of_handles_eq (ss : Session K I) {a b : AMgr} (ha : I off a) (hb : I off b)
    (ht : b.m.tbl = a.m.tbl)
    (hh : ∀ j : Nat, b.handles[j]? = a.handles[j]?) : ∀ k : Nat, b.m.ref[k]? = a.m.ref[k]? := by
  intro k
  rw [(ss.acounts hb).lookup k, (ss.acounts ha).lookup k, ht]
  have : hext b k = hext a k := by
    unfold hext hcount
    rw [msum_congr a.handles b.handles _ hh]
  rw [this]

/-- creating a `Function` and dropping it again leaves every count (and the table) as it was -/
theorem drop_wrap_id (ss : Session K I) (a : AMgr) (h : Nat) (u : Int) (hi : I off a)
    (hf : a.handles.contains h = false) (hu : a.m.tbl.Mem u) :
    ∃ a1 a2, wrap h u a = (.ok (), a1) ∧ drop h a1 = (.ok (), a2) ∧ I off a2 ∧
      a2.m.tbl = a.m.tbl ∧ (∀ k : Nat, a2.m.ref[k]? = a.m.ref[k]?) ∧
      (∀ j : Nat, a2.handles[j]? = a.handles[j]?) := by
  rw [← wrapF_eq_wrap]
  obtain ⟨a1, h1, i1, t1, hh1, _⟩ := wrapF_spec ss a h u hi hf hu
  have hl : a1.handles[h]? = some u := by rw [hh1, TreeMap.getElem?_insert_self]
  obtain ⟨a2, h2, i2, t2, hh2, _⟩ := drop_spec ss a1 h u i1 hl
  have hsame : ∀ j : Nat, a2.handles[j]? = a.handles[j]? := by
    intro j
    rw [hh2, hh1]
    by_cases hj : j = h
    · subst hj
      rw [TreeMap.getElem?_erase_self, TreeMap.getElem?_eq_none_of_contains_eq_false hf]
    · rw [getElem?_erase_ne _ _ _ hj, getElem?_insert_ne _ _ _ _ hj]
  exact ⟨a1, a2, h1, h2, i2, t2.trans t1, ref_eq_of_handles_eq ss hi i2 (t2.trans t1) hsame, hsame⟩

/-- `Function(…)` of an arbitrary integer with a fresh id: either the node is stored and the
handle is created, or `ValueError` and nothing changes -/
theorem wrapF_total (ss : Session K I) (a : AMgr) (h : Nat) (u : Int) (hi : I off a)
    (hf : a.handles.contains h = false) (r : Except Err Unit) (a' : AMgr)
    (he : wrapF h u a = (r, a')) :
    I off a' ∧ a'.m.tbl = a.m.tbl ∧ (∀ j : Nat, j ≠ h → a'.handles[j]? = a.handles[j]?) ∧
    ((r = .ok () ∧ a'.handles[h]? = some u ∧ a.m.tbl.Mem u) ∨ ((∃ e, r = .error e) ∧ a' = a)) := by
  by_cases hu : a.m.tbl.Mem u
  · obtain ⟨a2, hw, i2, t2, hh2, _⟩ := wrapF_spec ss a h u hi hf hu
    rw [hw] at he
    cases he
    refine ⟨i2, t2, fun j hj => ?_, Or.inl ⟨rfl, ?_, hu⟩⟩
    · rw [hh2]; exact getElem?_insert_ne _ _ _ _ hj
    · rw [hh2, TreeMap.getElem?_insert_self]
  · have hm : (!a.m.mem u) = true := by
      cases hb : a.m.mem u
      · rfl
      · exact absurd ((Mgr.mem_iff a.m u).mp hb) hu
    unfold wrapF at he
    rw [if_pos hm] at he
    cases he
    exact ⟨hi, rfl, fun _ _ => rfl, Or.inr ⟨⟨_, rfl⟩, rfl⟩⟩

theorem wrapF_keeps (ss : Session K I) (h : Nat) (u : Int) : AKeeps I off h (wrapF h u) := by
  intro a hi hfr r a' he
  obtain ⟨i2, t2, hfr2, _⟩ := wrapF_total ss a h u hi hfr r a' he
  exact ⟨i2, hfr2, (ss.lives hi).of_tbl t2⟩

theorem liftM_total (ss : Session K I) {op : M α} (a : AMgr) (hs : CoreKeepsAt K off a.m op)
    (hi : I off a) (r : Except Err α) (a' : AMgr) (he : AM.liftM op a = (r, a')) :
    I off a' ∧ a'.handles = a.handles ∧ Lives a a' := by
  unfold AM.liftM at he
  cases hop : op a.m with
  | mk r0 m' =>
    rw [hop] at he
    cases he
    obtain ⟨h1, h3⟩ := hs (hext a) (ss.minv hi) r m' hop
    -- a live `Function` is an external reference of its node
    have hd : Lives a { a with m := m' } :=
      fun j u hj => h3 u (ss.hmem hi j u hj) (hext_pos_of_handle a j u hj)
    exact ⟨ss.intro h1 fun j u hj => (hd j u hj).1, rfl, hd⟩

theorem liftM_keepsAt (ss : Session K I) {op : M α} (a : AMgr) (hs : CoreKeepsAt K off a.m op)
    (h : Nat) : AKeepsAt I off a h (AM.liftM op) := by
  intro hi _ r a' he
  obtain ⟨i', hh, hd⟩ := liftM_total ss a hs hi r a' he
  exact ⟨i', fun _ _ => by rw [hh], hd⟩

theorem liftM_keeps (ss : Session K I) {op : M α} (hs : CoreKeeps K off op) (h : Nat) :
    AKeeps I off h (AM.liftM op) :=
  fun a => liftM_keepsAt ss a (hs a.m) h

/-- `r = self._bdd.<op>(…); return self._wrap(r)`: only the frame property of the core
operation is needed — `_wrap` itself refuses an integer that is not a stored node -/
theorem wrapResult_keepsAt (ss : Session K I) {core : M Int} (a : AMgr)
    (hs : CoreKeepsAt K off a.m core) (h : Nat) : AKeepsAt I off a h (wrapResult h core) := by
  intro hi hfr r a' he
  unfold wrapResult at he
  cases hop : AM.liftM core a with
  | mk r0 a1 =>
    obtain ⟨i1, hh1, hd⟩ := liftM_total ss a hs hi r0 a1 hop
    cases r0 with
    | error e =>
      rw [AM.bind_eq, hop] at he
      cases he
      exact ⟨i1, fun _ _ => by rw [hh1], hd⟩
    | ok v =>
      rw [AM.bind_ok hop] at he
      have hw : AKeeps I off h (wrap h v) := wrapF_eq_wrap h v ▸ wrapF_keeps ss h v
      obtain ⟨i2, hs2, hd2⟩ :=
        (hw.then_read fun _ => ARead.pure v) a1 i1 (by rw [hh1]; exact hfr) r a' he
      exact ⟨i2, fun j hj => by rw [hs2 j hj, hh1], hd.trans hd2 fun j u hj => by rw [hh1]; exact hj⟩

theorem wrapResult_keeps (ss : Session K I) {core : M Int} (hs : CoreKeeps K off core) (h : Nat) :
    AKeeps I off h (wrapResult h core) := fun a => wrapResult_keepsAt ss a (hs a.m) h

theorem wrapResult_eval (ss : Session K I) (a : AMgr) (hi : I off a) (h : Nat)
    (hf : a.handles.contains h = false) {core : M Int} (hk : CoreKeepsAt K off a.m core) {r : Int}
    {m' : Mgr} (he : core a.m = (.ok r, m')) (hr : m'.tbl.Mem r) :
    ∃ a', wrapResult h core a = (.ok r, a') ∧ a'.m.tbl = m'.tbl ∧
      a'.handles = a.handles.insert h r ∧ I off a' ∧ Lives a a' := by
  have h1 := liftM_eval (a := a) he
  obtain ⟨i1, _, d1⟩ := liftM_total ss a hk hi _ _ h1
  obtain ⟨a', hw, i', ht, hh, _⟩ := wrapF_spec ss { a with m := m' } h r i1 hf hr
  refine ⟨a', ?_, ht, hh, i', d1.of_tbl ht⟩
  unfold wrapResult
  rw [AM.bind_ok h1, ← wrapF_eq_wrap, AM.bind_ok hw]
  rfl

theorem aConst_keeps (ss : Session K I) (b : Bool) (h : Nat) : AKeeps I off h (aConst b h) :=
  wrapResult_keeps ss (CoreKeeps.of_read (pure_readM _)) h

theorem aAddInt_keeps (ss : Session K I) (i : Int) (h : Nat) : AKeeps I off h (aAddInt i h) :=
  wrapResult_keeps ss (CoreKeeps.of_read (addIntA_read i)) h

theorem aApply_keeps (ss : Session K I) (op : String) (hs : ∀ u v w, CoreKeeps K off (apply op u v w))
    (hu : Nat) (hv hw : Option Nat) (h : Nat) : AKeeps I off h (aApply op hu hv hw h) :=
  AKeeps.bind_read ss (nodeIn_read hu) fun u =>
  AKeeps.bind_read ss (ARead.check _ _) fun _ =>
  AKeeps.bind_read ss (optNode_read nodeIn_read hv) fun v =>
  AKeeps.bind_read ss (optNode_read nodeIn_read hw) fun w => wrapResult_keeps ss (hs u v w) h

theorem aIte_keeps (ss : Session K I) (hs : ∀ g u v, CoreKeeps K off (ite g u v)) (hg hu hv : Nat)
    (h : Nat) : AKeeps I off h (aIte hg hu hv h) :=
  AKeeps.bind_read ss (nodeIn_read hg) fun g =>
  AKeeps.bind_read ss (nodeIn_read hu) fun u =>
  AKeeps.bind_read ss (nodeIn_read hv) fun v => wrapResult_keeps ss (hs g u v) h

/-- `quantify(u, qvars, forall)`: the core hypothesis is only needed for stored operands -/
theorem aQuantify_keeps (ss : Session K I) (q : List Key) (fa : Bool)
    (hs : ∀ (m : Mgr) (u : Int), m.tbl.Mem u → CoreKeepsAt K off m (quantify u q fa))
    (hu : Nat) (h : Nat) : AKeeps I off h (aQuantify hu q fa h) :=
  fun a => AKeepsAt.bind_read ss a (nodeIn_read hu) fun u hv =>
    wrapResult_keepsAt ss a (hs a.m u (nodeIn_handle_mem hu a u hv).2) h

theorem aCopyBddSame_keeps (ss : Session K I) (hu : Nat) (h : Nat) :
    AKeeps I off h (aCopyBddSame hu h) :=
  AKeeps.bind_read ss (nodeOwn_read hu) fun _ =>
    wrapResult_keeps ss (CoreKeeps.of_read (pure_readM _)) h

theorem aImage_keeps (ss : Session K I) (hI : ∀ t s rn q f, CoreKeeps K off (image t s rn q f))
    (hP : ∀ t s rn q f, CoreKeeps K off (preimage t s rn q f)) (pre : Bool) (ht hs : Nat)
    (rn : List (Key × Key)) (q : List Key) (fa : Bool) (h : Nat) :
    AKeeps I off h (aImage pre ht hs rn q fa h) :=
  AKeeps.bind_read ss (nodeOwn_read ht) fun t =>
  AKeeps.bind_read ss (nodeSame_read hs) fun s => by
    cases pre
    · exact wrapResult_keeps ss (hI t s rn q fa) h
    · exact wrapResult_keeps ss (hP t s rn q fa) h

/-- `Function._apply` ends with `Function(r, self.bdd)`, which is what `_wrap(r)` does -/
theorem fApply_eq (op : String) (hs : Nat) (ho : Option Nat) (h : Nat) :
    fApply op hs ho h = (do
      let s ← nodeOwn hs
      let o ← optNode nodeSame ho
      wrapResult h (apply op s o none)) := by
  simp only [fApply, wrapResult, ← wrapF_eq_wrap]

/-- `Function.__invert__ / __and__ / __or__ / implies / equiv` -/
theorem fApply_keeps (ss : Session K I) (op : String) (hsp : ∀ u v, CoreKeeps K off (apply op u v none))
    (hs : Nat) (ho : Option Nat) (h : Nat) : AKeeps I off h (fApply op hs ho h) := by
  rw [fApply_eq]
  exact AKeeps.bind_read ss (nodeOwn_read hs) fun s =>
    AKeeps.bind_read ss (optNode_read nodeSame_read ho) fun o => wrapResult_keeps ss (hsp s o) h

theorem aLet_keeps (ss : Session K I) (hs : ∀ d u, CoreKeeps K off (letOp d u)) (d : ALetArg)
    (hu : Nat) (h : Nat) : AKeeps I off h (aLet d hu h) := by
  unfold aLet
  refine AKeeps.bind_read ss (nodeIn_read hu) fun u => ?_
  split
  · exact AKeeps.of_read ss h (ARead.pure _)
  · refine AKeeps.bind_read ss (aLetArgs_read d) fun d' => ?_
    exact (wrapResult_keeps ss (hs d' u) h).then_read fun _ => ARead.pure _

theorem fChild_keeps (ss : Session K I) (high : Bool) (hs : Nat) (h : Nat) :
    AKeeps I off h (fChild high hs h) := by
  unfold fChild
  refine AKeeps.bind_read ss (nodeOwn_read hs) fun s => ?_
  refine AKeeps.bind_read ss (ARead.liftE _) fun p => ?_
  obtain ⟨_, c⟩ := p
  cases c with
  | none => exact AKeeps.of_read ss h (ARead.pure _)
  | some vw =>
    obtain ⟨v, w⟩ := vw
    exact (wrapF_keeps ss h _).then_read fun _ => ARead.pure _

theorem fCopy_keeps (ss : Session K I) (hs : Nat) (h : Nat) : AKeeps I off h (fCopy hs h) :=
  AKeeps.bind_read ss (nodeOwn_read hs) fun s =>
    (wrapF_keeps ss h s).then_read fun _ => ARead.pure _

/-- `configure(reordering=…)` only changes the threshold (no hypothesis; in mode `off = true`
the call must not enable reordering) -/
theorem configure_keeps (ss : Session K I) (r : Option Bool) (hr : off = true → r ≠ some true) :
    CoreKeeps K off (configure r) := by
  intro m ext hm r' m' he
  have key : ∀ l, (off = true → l = none) →
      K off ext { m with lastLen := l } ∧ HeldExt m.tbl ({ m with lastLen := l } : Mgr).tbl ext :=
    fun l hl => ⟨ss.transfer hm ((ss.inv hm).setLastLen l)
      (show OrderOK m.tbl from ss.order hm) ((ss.counts hm).congr rfl rfl) rfl rfl rfl
      (Nat.le_refl _) hl, HeldExt.refl _ _⟩
  cases r with
  | none =>
    rw [configure_none_eq] at he
    cases he
    exact ⟨hm, HeldExt.refl _ _⟩
  | some b =>
    cases b with
    | true =>
      rw [configure_true_eq] at he
      cases he
      exact key _ (fun ho => absurd rfl (hr ho))
    | false =>
      rw [configure_false_eq] at he
      cases he
      exact key _ (fun _ => rfl)

theorem aConfigure_keeps (ss : Session K I) (r : Option Bool) (hr : off = true → r ≠ some true)
    (h : Nat) : AKeeps I off h (aConfigure r) :=
  liftM_keeps ss (configure_keeps ss r hr) h

/-- `find_or_add(var, low, high)`: the wrapper adds no test of its own, so the guarantee
holds exactly when the core `find_or_add` keeps the invariants for the level and children
that are read from the current state (its documented precondition: the level is above both
children) -/
theorem aFindOrAdd_keepsAt (ss : Session K I) (a : AMgr) (var : String) (hlow hhigh h : Nat)
    (hfoa : ∀ level lo hi, (levelOfVar var a.m).1 = .ok level → (nodeAny hlow a).1 = .ok lo →
      (nodeAny hhigh a).1 = .ok hi → CoreKeepsAt K off a.m (findOrAdd level lo hi)) :
    AKeepsAt I off a h (aFindOrAdd var hlow hhigh h) :=
  AKeepsAt.bind_read ss a (ARead.liftM (levelOfVar_read var)) fun level h1 =>
  AKeepsAt.bind_read ss a (nodeAny_read hlow) fun lo h2 =>
  AKeepsAt.bind_read ss a (nodeAny_read hhigh) fun hi h3 =>
    wrapResult_keepsAt ss a (hfoa level lo hi h1 h2 h3) h

/-- a node read from another session `src`, copied into `a`: a guarantee about the *target* `a`
(the source is only read); the core hypothesis is needed for the node that the read returns -/
theorem copyFrom_keepsAt (ss : Session K I) (a : AMgr) (p : Except Err Int × AMgr) (core : Int → M Int)
    (h : Nat) (hs : ∀ u, p.1 = .ok u → CoreKeepsAt K off a.m (core u)) :
    AKeepsAt I off a h (fun dst => match p with
      | (.error e, _) => (.error e, dst)
      | (.ok u, _) => wrapResult h (core u) dst) := by
  intro hi hfr r a' he
  obtain ⟨r1, s1⟩ := p
  cases r1 with
  | error e => cases he; exact ⟨hi, fun _ _ => rfl, ss.lives hi⟩
  | ok u => exact wrapResult_keepsAt ss a (hs u rfl) h hi hfr r a' he

theorem aCopyTo_keepsAt (ss : Session K I) (a : AMgr) (src : AMgr) (hu h : Nat)
    (hs : ∀ u, (nodeIn hu src).1 = .ok u → CoreKeepsAt K off a.m (copyBdd src.m.tbl u)) :
    AKeepsAt I off a h (aCopyTo src hu h) :=
  copyFrom_keepsAt ss a (nodeIn hu src) _ h hs

theorem aCopyBddTo_keepsAt (ss : Session K I) (a : AMgr) (src : AMgr) (hu h : Nat)
    (hs : ∀ u, (nodeOwn hu src).1 = .ok u → CoreKeepsAt K off a.m (copyBdd src.m.tbl u)) :
    AKeepsAt I off a h (aCopyBddTo src hu h) :=
  copyFrom_keepsAt ss a (nodeOwn hu src) _ h hs

/-- from `a` to `b` the handles in `P` (those a history never drops) kept node and meaning by name,
and `b` satisfies the invariant -/
def LiveDen (I : Bool → AMgr → Prop) (off : Bool) (P : Nat → Prop) (a b : AMgr) : Prop :=
  I off b ∧ ∀ h, P h → ∀ u, a.handles[h]? = some u →
    b.handles[h]? = some u ∧ b.m.tbl.Mem u ∧ ∀ asg, denN b.m.tbl u asg = denN a.m.tbl u asg

theorem LiveDen.refl (ss : Session K I) (P : Nat → Prop) {a : AMgr} (hi : I off a) :
    LiveDen I off P a a :=
  ⟨hi, fun h _ u hu => ⟨hu, ss.hmem hi h u hu, fun _ => rfl⟩⟩

theorem LiveDen.op {P : Nat → Prop} {a b c : AMgr} (hb : LiveDen I off P a b) {H : List Nat}
    {x : AM α} (hk : AKeepsLAt I off b H x) (hf : ∀ h, h ∈ H → b.handles.contains h = false)
    {r : Except Err α} (he : x b = (r, c)) : LiveDen I off P a c := by
  obtain ⟨ic, hfr, hd⟩ := hk hb.1 hf r c he
  refine ⟨ic, fun j hj u hu => ?_⟩
  obtain ⟨l1, _, d1⟩ := hb.2 j hj u hu
  have hne : j ∉ H := by
    intro hjh
    rw [TreeMap.getElem?_eq_none_of_contains_eq_false (hf j hjh)] at l1
    cases l1
  obtain ⟨m2, d2⟩ := hd j u l1
  exact ⟨by rw [hfr j hne]; exact l1, m2, fun asg => (d2 asg).trans (d1 asg)⟩

theorem LiveDen.drop (ss : Session K I) {P : Nat → Prop} {a b c : AMgr} (hb : LiveDen I off P a b)
    {h : Nat} (hP : ¬ P h) {v : Int} (hl : b.handles[h]? = some v) (he : drop h b = (.ok (), c)) :
    LiveDen I off P a c := by
  obtain ⟨a2, he2, i2, t2, hh2, _⟩ := drop_spec ss b h v hb.1 hl
  rw [he2] at he
  cases he
  refine ⟨i2, fun j hj u hu => ?_⟩
  obtain ⟨l1, m1, d1⟩ := hb.2 j hj u hu
  have hne : j ≠ h := fun hjh => hP (hjh ▸ hj)
  refine ⟨by rw [hh2, getElem?_erase_ne _ _ _ hne]; exact l1, by rw [t2]; exact m1, fun asg => ?_⟩
  rw [t2]; exact d1 asg

theorem counts_of_isEmpty (ss : Session K I) {a : AMgr} (hi : I off a) (he : a.handles.isEmpty = true) :
    RefExact a.m (fun _ => 0) :=
  (ss.acounts hi).extCongr fun _ => hcount_of_isEmpty _ _ he

/-- once every `Function` of a manager is gone, the manager's shutdown check
(`dd.bdd.BDD.__del__`) passes — whatever garbage is still stored: after the terminal's own
reference is released and a collection, only the terminal remains and every count is zero -/
theorem autoref_shutdown (ss : Session K I) (a : AMgr) (hi : I off a) (he : a.handles.isEmpty = true) :
    ∃ m', shutdown a.m = (.ok (), m') ∧ (∀ u : Nat, m'.tbl.node? u = none) ∧
      (∀ (k c : Nat), m'.ref[k]? = some c → c = 0) :=
  shutdown_of_no_ext a.m (ss.ainv hi) (counts_of_isEmpty ss hi he)

/-- all `Function`s dropped, then `collect_garbage()`, then the manager dies: the shutdown check
passes, only the terminal is left, every count is zero -/
theorem autoref_collect_then_shutdown (ss : Session K I) (a : AMgr) (hi : I off a)
    (he : a.handles.isEmpty = true) :
    ∃ m1 m2, collectGarbage none a.m = (.ok (), m1) ∧ (∀ u : Nat, m1.tbl.node? u = none) ∧
      shutdown m1 = (.ok (), m2) ∧ (∀ u : Nat, m2.tbl.node? u = none) ∧
      (∀ (k c : Nat), m2.ref[k]? = some c → c = 0) := by
  obtain ⟨m1, hg, i1, r1, hn1⟩ := collect_of_no_ext a.m (ss.ainv hi) (counts_of_isEmpty ss hi he)
  obtain ⟨m2, hs, hn2, hz2⟩ := shutdown_of_no_ext m1 i1 r1
  exact ⟨m1, m2, hg, hn1, hs, hn2, hz2⟩

end Auto

end DD
