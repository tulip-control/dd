/-
  DDProofs.AutoShutdown — `dd.bdd.BDD.__del__` when every `Function` is gone and garbage is
  still stored: the terminal's own reference is released FIRST, then the collection runs.
  After the release the state is not `RefExact` any more (its `+1` for the terminal is built in),
  so `collectGarbage_spec` does not apply directly.  Simulation: the collection never reads
  `ref[1]` to decide anything (the terminal is excluded from the worklist by `abs(u) != 1`) —
  it only decrements it; so the run on the state with `ref[1]` one lower mirrors, step by step,
  the run on the `RefExact` state, and ends with `ref[1]` one lower: 0.  `RefSim` is that relation
  on the two `_ref` maps; a step of the collection is an `erase` and two decrements, which keep it.
-/
import DDProofs.AutoLedger
import DDProofs.GcSpec
import DDProofs.MonadM
open Std

namespace DD

/-- `m'` is `m` with the count of the terminal one lower (and `m` has it ≥ 1) -/
structure Sim1 (m m' : Mgr) : Prop where
  tbl : m'.tbl = m.tbl
  pred : m'.pred = m.pred
  minFree : m'.minFree = m.minFree
  cache : m'.cache = m.cache
  ref : ∀ k : Nat, k ≠ 1 → m'.ref[k]? = m.ref[k]?
  one : ∃ c, m.ref[(1 : Nat)]? = some (c + 1) ∧ m'.ref[(1 : Nat)]? = some c

/-- the second map is the first with the count of the terminal one lower -/
structure RefSim (r rt : TreeMap Nat Nat) : Prop where
  ref : ∀ k : Nat, k ≠ 1 → rt[k]? = r[k]?
  one : ∃ c, r[(1 : Nat)]? = some (c + 1) ∧ rt[(1 : Nat)]? = some c

theorem RefSim.erase {r rt : TreeMap Nat Nat} (h : RefSim r rt) {u : Nat} (hu : u ≠ 1) :
    RefSim (r.erase u) (rt.erase u) := by
  refine ⟨fun k hk => ?_, ?_⟩
  · rw [getElem?_erase_eq, getElem?_erase_eq, h.ref k hk]
  · obtain ⟨c, h1, h2⟩ := h.one
    exact ⟨c, by rw [getElem?_erase_ne _ _ _ (Ne.symm hu), h1],
      by rw [getElem?_erase_ne _ _ _ (Ne.symm hu), h2]⟩

theorem RefSim.dec {r rt : TreeMap Nat Nat} (h : RefSim r rt) {k c : Nat} (hk : r[k]? = some (c + 1))
    (h1 : k = 1 → 0 < c) :
    ∃ ct, rt[k]? = some (ct + 1) ∧ RefSim (r.insert k c) (rt.insert k ct) ∧ (k ≠ 1 → ct = c) := by
  obtain ⟨c1, e1, e2⟩ := h.one
  by_cases hk1 : k = 1
  · subst hk1
    rw [e1] at hk
    have hc : c1 = c := by cases hk; rfl
    subst hc
    have hp := h1 rfl
    have hc1 : c1 - 1 + 1 = c1 := by omega
    have hct : rt[(1 : Nat)]? = some (c1 - 1 + 1) := by rw [e2, hc1]
    refine ⟨c1 - 1, hct, ⟨fun j hj => ?_, c1 - 1, ?_, ?_⟩, fun hne => absurd rfl hne⟩
    · rw [getElem?_insert_ne _ _ _ _ hj, getElem?_insert_ne _ _ _ _ hj, h.ref j hj]
    · rw [TreeMap.getElem?_insert_self, hc1]
    · rw [TreeMap.getElem?_insert_self]
  · refine ⟨c, by rw [h.ref k hk1]; exact hk, ⟨fun j hj => ?_, c1, ?_, ?_⟩, fun _ => rfl⟩
    · rw [getElem?_insert_eq, getElem?_insert_eq, h.ref j hj]
    · rw [getElem?_insert_ne _ _ _ _ (Ne.symm hk1), e1]
    · rw [getElem?_insert_ne _ _ _ _ (Ne.symm hk1), e2]

theorem zeroTest_congr {c c' : Nat} {p : Prop} [Decidable p] (h : p → c' = c) :
    (decide (c' = 0) && decide p) = (decide (c = 0) && decide p) := by
  by_cases hp : p
  · rw [h hp]
  · simp only [hp, decide_false, Bool.and_false]

/-- the worklist does not look at the count of the terminal: a count is tested for 0 only together
with "the child is not the terminal" -/
theorem gcWork_congr (n : Nd) (work : List Nat) {ra rb ra' rb' : Nat} (hpos : 0 < n.hi)
    (ha : n.lo.natAbs ≠ 1 → ra' = ra) (hb : n.hi.natAbs ≠ 1 → rb' = rb) :
    gcWork n work ra' rb' = gcWork n work ra rb := by
  have hlo : n.lo.natAbs ≠ 1 → (if n.hi.natAbs = n.lo.natAbs then rb' else ra') =
      (if n.hi.natAbs = n.lo.natAbs then rb else ra) := fun h => by
    split
    · next e => exact hb (e ▸ h)
    · exact ha h
  unfold gcWork
  simp only [zeroTest_congr hlo, zeroTest_congr (p := n.hi ≠ 1) fun h => hb (by omega)]

theorem sim_step (m mt : Mgr) (ext : Nat → Nat) (u : Nat) (work : List Nat)
    (hs : InvS m) (hr : RefExact m ext) (h0 : m.ref[u]? = some 0) (hsim : Sim1 m mt) :
    ∃ work' m' mt', gcStep u work m = (.ok work', m') ∧ gcStep u work mt = (.ok work', mt') ∧
      Sim1 m' mt' := by
  obtain ⟨n, ra, rb, hu1, hn, -, hf, ga, hrb, ha1, hb1, -⟩ := gcStep_pre m ext u hs hr h0
  have hp : m.pred[n.key]? = some u := (hs.pred n u).mpr hn
  have hpos := hs.wf.toWF.hi_pos _ _ hn
  have hrun := gcStep_run m u n work ra rb hu1 hn hp h0 hf hpos ga hrb
  -- the other state: the same three updates of `_ref`
  obtain ⟨ra', gaT, s2, hra'⟩ := (RefSim.erase ⟨hsim.ref, hsim.one⟩ hu1).dec ga ha1
  obtain ⟨rb', hrbT, s3, hrb'⟩ := s2.dec hrb hb1
  have hrunT := gcStep_run mt u n work ra' rb' hu1 (by rw [hsim.tbl]; exact hn)
    (by rw [hsim.pred]; exact hp) (by rw [hsim.ref u hu1]; exact h0) (by rw [hsim.minFree]; exact hf)
    hpos gaT hrbT
  rw [gcWork_congr n work hpos hra' hrb'] at hrunT
  refine ⟨_, _, _, hrun, hrunT, ⟨?_, ?_, ?_, hsim.cache, s3.ref, s3.one⟩⟩
  · show ({ mt.tbl with succ := mt.tbl.succ.erase u } : Tbl) = { m.tbl with succ := m.tbl.succ.erase u }
    rw [hsim.tbl]
  · show mt.pred.erase n.key = m.pred.erase n.key
    rw [hsim.pred]
  · show min u mt.minFree = min u m.minFree
    rw [hsim.minFree]

theorem sim_loop : ∀ (f : Nat) (m mt : Mgr) (ext : Nat → Nat) (work : List Nat), GcInv m ext work →
    Sim1 m mt → m.tbl.succ.size ≤ f →
    ∃ mf mtf, gcLoop f work m = (.ok (), mf) ∧ gcLoop f work mt = (.ok (), mtf) ∧ Sim1 mf mtf ∧
      GcRun m work mf := by
  intro f
  induction f with
  | zero =>
    intro m mt ext work hi hsim hf
    cases work with
    | nil => exact ⟨m, mt, rfl, rfl, hsim, GcRun.done m⟩
    | cons u rest =>
      exfalso
      obtain ⟨n, m', work', -, -, hp, -⟩ := hi.step (u := u) (by simp)
      have := hp.size; omega
  | succ f ih =>
    intro m mt ext work hi hsim hf
    cases work with
    | nil => exact ⟨m, mt, rfl, rfl, hsim, GcRun.done m⟩
    | cons u rest =>
      obtain ⟨n, m', work', -, hrun, hp, hi'⟩ := hi.step (u := u) (by simp)
      rw [List.erase_cons_head] at hrun
      obtain ⟨w2, m2, mt2, hr2, hrt2, hsim2⟩ :=
        sim_step m mt ext u rest hi.invS hi.refExact (hi.zero u (by simp)) hsim
      rw [hrun] at hr2
      cases hr2
      obtain ⟨mf, mtf, hl, hlt, hsf, hrf⟩ := ih m' mt2 ext work' hi' hsim2 (by have := hp.size; omega)
      refine ⟨mf, mtf, ?_, ?_, hsf, GcRun.step (u := u) (by simp) (by rw [List.erase_cons_head]; exact hrun) hrf⟩
      · show (gcStep u rest >>= fun work => gcLoop f work) m = _
        simp only [bind, M.bind', hrun]
        exact hl
      · show (gcStep u rest >>= fun work => gcLoop f work) mt = _
        simp only [bind, M.bind', hrt2]
        exact hlt

/-- with no external reference at all, a table without zero-count nodes is empty:
a node of least level has no parent -/
theorem no_nodes_of_no_ext (m : Mgr) (hi : Inv m)
    (hc : ∀ (u : Nat) (n : Nd), m.tbl.node? u = some n → m.ref[u]? = some (indeg m.tbl u))
    (hz : ∀ (u : Nat) (n : Nd), m.tbl.node? u = some n → m.ref[u]? ≠ some 0) :
    ∀ (u : Nat), m.tbl.node? u = none := by
  have key : ∀ (L : Nat) (u : Nat) (n : Nd), m.tbl.node? u = some n → n.lvl = L → False := by
    intro L
    induction L using Nat.strongRecOn with
    | _ L ih =>
      intro u n hn hl
      have hr := hc u n hn
      have hpos : 0 < indeg m.tbl u := by
        cases hd : indeg m.tbl u with
        | zero => rw [hd] at hr; exact absurd hr (hz u n hn)
        | succ k => omega
      obtain ⟨i, p, hp, hedge⟩ := indeg_pos hpos
      have hu2 := hi.wf.ge_two u n hn
      have hlev : ∀ (e : Int), e.natAbs = u → m.tbl.levelOf e = n.lvl := by
        intro e he
        unfold Tbl.levelOf
        rw [he]
        have : ¬ u = 1 := by omega
        simp [this, hn]
      have : p.lvl < n.lvl := by
        rcases hedge with h1 | h1
        · have := hi.wf.lo_lt i p hp; rw [hlev _ h1] at this; exact this
        · have := hi.wf.hi_lt i p hp; rw [hlev _ h1] at this; exact this
      exact ih p.lvl (by omega) i p hp rfl
  intro u
  cases hn : m.tbl.node? u with
  | none => rfl
  | some n => exact (key n.lvl u n hn rfl).elim

theorem indeg_zero_of_no_nodes (t : Tbl) (h : ∀ u : Nat, t.node? u = none) (k : Nat) : indeg t k = 0 := by
  cases hd : indeg t k with
  | zero => rfl
  | succ j =>
    obtain ⟨i, p, hp, _⟩ := indeg_pos (t := t) (u := k) (by omega)
    rw [h i] at hp; cases hp

theorem no_nodes_of_exact (m : Mgr) (hI : Inv m) (hr : RefExact m (fun _ => 0))
    (hz : ∀ u : Nat, m.ref[u]? ≠ some 0) : ∀ u : Nat, m.tbl.node? u = none :=
  no_nodes_of_no_ext m hI
    (fun u n hn => by
      have h2 := hI.wf.ge_two u n hn
      rw [hr.lookup u, if_pos (Or.inr (by rw [hn]; rfl))]
      have : ¬ u = 1 := by omega
      simp [this])
    (fun u _ _ => hz u)

/-- `dd.bdd.BDD.__del__` step by step: the terminal's own reference is released, the collection
runs, the assertion passes when every count that is left is zero -/
theorem shutdown_run (m m2 : Mgr) (c : Nat) (h1 : m.ref[(1 : Nat)]? = some (c + 1))
    (hgc : collectGarbage none { m with ref := m.ref.insert 1 c } = (.ok (), m2))
    (hz : ∀ (k c : Nat), m2.ref[k]? = some c → c = 0) : shutdown m = (.ok (), m2) := by
  have hany : (m2.ref.toList.any (fun (kv : Nat × Nat) => kv.2 != 0)) = false := by
    rw [List.any_eq_false]
    intro kv hkv
    have := hz kv.1 kv.2 (TreeMap.mem_toList_iff_getElem?_eq_some.mp hkv)
    simp [this]
  have hd : decref 1 m = (.ok (), { m with ref := m.ref.insert 1 c }) := decref_eq m 1 c h1
  unfold shutdown
  rw [M.bind_ok (refOf_eq m 1 _ h1), if_pos (Nat.succ_pos c), M.bind_ok hd, M.bind_ok hgc,
    M.bind_ok (M.get_eq m2), hany]
  rfl

/-- a manager without outside references: the shutdown check (`dd.bdd.BDD.__del__`) passes,
WHATEVER garbage is still stored: the terminal's own reference is released, the collection removes
every node, and every count is zero -/
theorem shutdown_of_no_ext (m : Mgr) (hI : Inv m) (hr : RefExact m (fun _ => 0)) :
    ∃ m', shutdown m = (.ok (), m') ∧ (∀ u : Nat, m'.tbl.node? u = none) ∧
      (∀ (k c : Nat), m'.ref[k]? = some c → c = 0) := by
  have hone : m.tbl.Mem (1 : Int) := Or.inl rfl
  have hr1 : m.ref[(1 : Nat)]? = some (indeg m.tbl 1 + 1) := by
    have := hr.get hone
    simpa using this
  -- the lowered state and the simulation
  have hsim : Sim1 m { m with ref := m.ref.insert 1 (indeg m.tbl 1) } :=
    ⟨rfl, rfl, rfl, rfl, fun k hk => getElem?_insert_ne _ _ _ _ hk,
      ⟨indeg m.tbl 1, hr1, TreeMap.getElem?_insert_self⟩⟩
  suffices h : ∃ m2, collectGarbage none { m with ref := m.ref.insert 1 (indeg m.tbl 1) } = (.ok (), m2) ∧
      (∀ u : Nat, m2.tbl.node? u = none) ∧ (∀ (k c : Nat), m2.ref[k]? = some c → c = 0) by
    obtain ⟨m2, hg, hn, hz⟩ := h
    exact ⟨m2, shutdown_run m m2 _ hr1 hg hz, hn, hz⟩
  generalize ({ m with ref := m.ref.insert 1 (indeg m.tbl 1) } : Mgr) = mt at hsim ⊢
  -- the worklist of the lowered state is a complete worklist of the exact state
  have hroots : ∀ r ∈ gcRoots none mt, (mt.ref[r.natAbs]?).isSome := by
    intro r hr'
    exact (gcRoots_none_mem mt r.natAbs).mp ⟨r, hr', rfl⟩
  obtain ⟨L, hL, hnd, hmem⟩ := unusedOf_spec mt _ hroots
  have hzero : ∀ w ∈ L, m.ref[w]? = some 0 := by
    intro w hw
    obtain ⟨r, _, _, h0, hw1⟩ := (hmem w).mp hw
    rw [← hsim.ref w hw1]; exact h0
  have hinv : GcInv m (fun _ => 0) L := ⟨hI.toInvS, hr, hzero, hnd⟩
  have hcomp : GcComplete m L := by
    intro k hk
    have hk1 : k ≠ 1 := by
      intro h; subst h
      rw [hr1] at hk; cases hk
    have hkt : mt.ref[k]? = some 0 := by rw [hsim.ref k hk1]; exact hk
    rw [hmem]
    obtain ⟨r, hr', hrk⟩ := (gcRoots_none_mem mt k).mpr (by rw [hkt]; rfl)
    exact ⟨r, hr', hrk, hkt, hk1⟩
  obtain ⟨mf, mtf, hl, hlt, hsf, hrun⟩ :=
    sim_loop (m.tbl.succ.size + 1) m mt (fun _ => 0) L hinv hsim (by omega)
  obtain ⟨hif, hsub, _, hnz⟩ := hrun.spec hinv
  obtain ⟨hIf, hRf, _⟩ := gcFinish_post hif hsub
  -- nothing is left on the exact side
  have hnone : ∀ u : Nat, (gcFinish mf).tbl.node? u = none :=
    no_nodes_of_exact (gcFinish mf) hIf hRf (hnz hcomp)
  have hzeroT : ∀ (k c : Nat), (gcFinish mtf).ref[k]? = some c → c = 0 := by
    intro k c hk
    have hk' : mtf.ref[k]? = some c := hk
    by_cases hk1 : k = 1
    · subst hk1
      obtain ⟨c0, h1, h2⟩ := hsf.one
      have hl1 := hRf.lookup 1
      rw [indeg_zero_of_no_nodes _ hnone 1] at hl1
      have : (gcFinish mf).ref[(1 : Nat)]? = some (c0 + 1) := h1
      rw [this] at hl1
      simp at hl1
      rw [h2] at hk'
      cases hk'
      omega
    · rw [hsf.ref k hk1] at hk'
      have hlk := hRf.lookup k
      have : (gcFinish mf).ref[k]? = some c := hk'
      rw [this, if_neg (by
        intro h
        rcases h with h | h
        · exact hk1 h
        · rw [hnone k] at h; cases h)] at hlk
      cases hlk
  -- the collection on the lowered state
  refine ⟨gcFinish mtf, ?_, fun u => ?_, hzeroT⟩
  · rw [collectGarbage_eq]
    have hsz : mt.tbl.succ.size = m.tbl.succ.size := by rw [hsim.tbl]
    simp only [gcBody, hL, hsz, hlt]
    have hs1 := hsub.size
    rw [if_pos (by
      show mtf.tbl.succ.size + 1 ≤ mt.tbl.succ.size + 1
      rw [hsf.tbl, hsz]; omega)]
  · show mtf.tbl.node? u = none
    rw [hsf.tbl]; exact hnone u

/-- a manager without outside references: `collect_garbage()` succeeds and leaves only the
terminal -/
theorem collect_of_no_ext (m : Mgr) (hI : Inv m) (hr : RefExact m (fun _ => 0)) :
    ∃ m', collectGarbage none m = (.ok (), m') ∧ Inv m' ∧ RefExact m' (fun _ => 0) ∧
      ∀ u : Nat, m'.tbl.node? u = none := by
  obtain ⟨m', hg, hp⟩ := collectGarbage_spec m _ hI hr
  exact ⟨m', hg, hp.inv, hp.refExact, no_nodes_of_exact m' hp.inv hp.refExact hp.noZero⟩

end DD
