/-
  DDProofs.AutoTemps — operations of `dd.autoref` that create temporaries
  (`Function.__le__`, `__lt__`, `BDD.succ`): the temporaries are released, the
  registry ends as it started (plus the results), live `Function`s keep their
  meaning.
-/
import DDProofs.AutoProofs
open Std

namespace DD

theorem freshH_spec (a : AMgr) : ∃ t, freshH a = (.ok t, a) ∧ a.handles[t]? = none := by
  refine ⟨_, rfl, TreeMap.getElem?_eq_none_of_contains_eq_false ?_⟩
  cases hc : a.handles.contains (max (match a.handles.maxKey? with | some k => k + 1 | none => 0)
      (match a.foreign.maxKey? with | some k => k + 1 | none => 0)) with
  | false => rfl
  | true =>
    exfalso
    have hm := TreeMap.contains_iff_mem.mp hc
    cases hk : a.handles.maxKey? with
    | none =>
      have := TreeMap.maxKey?_eq_none_iff.mp hk
      have h2 := TreeMap.isEmpty_eq_false_of_contains hc
      rw [this] at h2; cases h2
    | some km =>
      have := (TreeMap.maxKey?_eq_some_iff_mem_and_forall.mp hk).2 _ hm
      rw [hk] at this
      simp only at this
      rw [Nat.isLE_compare] at this
      omega

theorem freshH_out {f : Nat → AM β} {b : AMgr} {R : β → AMgr → Prop} {E : AMgr → Prop}
    (hf : ∀ t, b.handles[t]? = none → AM.Out (f t) b R E) : AM.Out (freshH >>= f) b R E := by
  obtain ⟨t, ht, hn⟩ := freshH_spec b
  unfold AM.Out
  rw [AM.bind_eq, ht]
  exact hf t hn

namespace Auto

variable {K : Bool → (Nat → Nat) → Mgr → Prop} {I : Bool → AMgr → Prop} {off : Bool}

theorem drop_step (ss : Session K I) (a : AMgr) (t : Nat) (hi : I off a) (r : Except Err Unit) (a' : AMgr)
    (he : drop t a = (r, a')) :
    I off a' ∧ a'.m.tbl = a.m.tbl ∧ (∀ j : Nat, j ≠ t → a'.handles[j]? = a.handles[j]?) ∧
    a'.handles[t]? = none := by
  cases hl : a.handles[t]? with
  | none =>
    have : (r, a') = (.error .other, a) := by
      rw [← he]; unfold drop; rw [hl]
    cases this
    exact ⟨hi, rfl, fun _ _ => rfl, hl⟩
  | some u =>
    obtain ⟨a2, h2, i2, t2, hh2, _⟩ := drop_spec ss a t u hi hl
    rw [h2] at he
    cases he
    refine ⟨i2, t2, fun j hj => ?_, ?_⟩
    · rw [hh2]; exact getElem?_erase_ne _ _ _ hj
    · rw [hh2]; exact TreeMap.getElem?_erase_self

/-- the state `b` reached from `a` inside an operation: the ids in `T` (the temporaries and results
that may be alive) were free in `a`, every other id is as in `a`, live `Function`s of `a` keep their
meaning -/
structure Ch (I : Bool → AMgr → Prop) (off : Bool) (T : Nat → Prop) (a b : AMgr) : Prop where
  inv : I off b
  fresh : ∀ t, T t → a.handles[t]? = none
  same : ∀ j : Nat, ¬ T j → b.handles[j]? = a.handles[j]?
  den : Lives a b

theorem Ch.refl (ss : Session K I) {a : AMgr} (hi : I off a) : Ch I off (fun _ => False) a a :=
  ⟨hi, fun _ h => h.elim, fun _ _ => rfl, ss.lives hi⟩

theorem Ch.free {T : Nat → Prop} {a b : AMgr} (c : Ch I off T a b) {t : Nat} (ht : b.handles[t]? = none) :
    a.handles[t]? = none := by
  by_cases hm : T t
  · exact c.fresh t hm
  · rw [← c.same t hm]; exact ht

theorem Ch.close {T : Nat → Prop} {a b : AMgr} (c : Ch I off T a b) {F : Nat → Prop} (hT : ∀ j, T j → F j) :
    I off b ∧ (∀ j : Nat, ¬ F j → b.handles[j]? = a.handles[j]?) ∧ Lives a b :=
  ⟨c.inv, fun j hj => c.same j fun h => hj (hT j h), c.den⟩

theorem Ch.close0 {T : Nat → Prop} {a b : AMgr} (c : Ch I off T a b) (hT : ∀ j, ¬ T j) :
    I off b ∧ (∀ j : Nat, b.handles[j]? = a.handles[j]?) ∧ Lives a b :=
  ⟨c.inv, fun j => c.same j (hT j), c.den⟩

theorem Ch.core (ss : Session K I) {T : Nat → Prop} {a b : AMgr} (c : Ch I off T a b) {op : M α}
    (hs : CoreKeepsAt K off b.m op) :
    AM.Out (AM.liftM op) b (fun _ b' => Ch I off T a b' ∧ b'.handles = b.handles)
      (fun b' => Ch I off T a b' ∧ b'.handles = b.handles) := by
  refine AM.Out.of_state (P := fun b' => Ch I off T a b' ∧ b'.handles = b.handles) ?_
  obtain ⟨i', hh, hd⟩ := liftM_total ss b hs c.inv (AM.liftM op b).1 (AM.liftM op b).2 rfl
  refine ⟨⟨i', c.fresh, fun j hj => by rw [hh]; exact c.same j hj,
    c.den.trans hd fun j u hj => ?_⟩, hh⟩
  rw [c.same j fun hm => by rw [c.fresh j hm] at hj; cases hj]
  exact hj

theorem Ch.wrapF (ss : Session K I) {T : Nat → Prop} {a b : AMgr} (c : Ch I off T a b) {t : Nat} (u : Int)
    (hf : b.handles[t]? = none) :
    AM.Out (wrapF t u) b
      (fun _ b' => Ch I off (fun j => j = t ∨ T j) a b' ∧ b'.handles[t]? = some u ∧
        ∀ j : Nat, j ≠ t → b'.handles[j]? = b.handles[j]?)
      (fun b' => b' = b) := by
  refine AM.Out.intro (fun v b' he => ?_) (fun e b' he => ?_)
  · obtain ⟨i', ht, hfr, hres⟩ := wrapF_total ss b t u c.inv (contains_false_of_none hf) _ b' he
    rcases hres with ⟨_, hl, _⟩ | ⟨⟨e, h⟩, _⟩
    · refine ⟨⟨i', ?_, ?_, c.den.of_tbl ht⟩, hl, hfr⟩
      · rintro t' (rfl | h)
        · exact c.free hf
        · exact c.fresh t' h
      · intro j hj
        rw [hfr j fun h => hj (Or.inl h)]
        exact c.same j fun h => hj (Or.inr h)
    · cases h
  · obtain ⟨_, _, _, hres⟩ := wrapF_total ss b t u c.inv (contains_false_of_none hf) _ b' he
    rcases hres with ⟨h, _⟩ | ⟨_, h⟩
    · cases h
    · exact h

/-- `Function.__del__` of the temporary `t`; the caller names the ids `T'` that may still be alive -/
theorem Ch.drop (ss : Session K I) {T T' : Nat → Prop} {a b : AMgr} (c : Ch I off T a b) {t : Nat}
    (hT : T t) (hsub : ∀ j, T' j → T j) (hcov : ∀ j, T j → j = t ∨ T' j) :
    Ch I off T' a (drop t b).2 ∧
    (∀ j : Nat, j ≠ t → (drop t b).2.handles[j]? = b.handles[j]?) ∧
    (∀ u, b.handles[t]? = some u → (drop t b).1 = .ok ()) := by
  obtain ⟨i', ht, hfr, hn⟩ := drop_step ss b t c.inv (DD.drop t b).1 (DD.drop t b).2 rfl
  refine ⟨⟨i', fun j hj => c.fresh j (hsub j hj), fun j hj => ?_, c.den.of_tbl ht⟩, hfr,
    fun u hu => by unfold DD.drop; rw [hu]⟩
  by_cases hjt : j = t
  · rw [hjt, hn, c.fresh t hT]
  · rw [hfr j hjt]
    exact c.same j fun h => (hcov j h).elim hjt hj

theorem Ch.drop_last (ss : Session K I) {T : Nat → Prop} {a b : AMgr} (c : Ch I off T a b) {t : Nat}
    (hT : T t) (hcov : ∀ j, T j → j = t) :
    I off (DD.drop t b).2 ∧ (∀ j : Nat, (DD.drop t b).2.handles[j]? = a.handles[j]?) ∧
      Lives a (DD.drop t b).2 :=
  (c.drop ss (T' := fun _ => False) hT (fun _ h => h.elim) fun j h => .inl (hcov j h)).1.close0
    fun _ h => h

theorem drop_out (t : Nat) (b : AMgr) :
    AM.Out (drop t) b (fun _ b' => b' = (drop t b).2) (fun _ => b.handles[t]? = none) := by
  refine AM.Out.intro (fun _ b' he => by rw [he]) (fun e b' he => ?_)
  unfold DD.drop at he
  cases h : b.handles[t]? with
  | none => rfl
  | some u => rw [h] at he; cases he

theorem fLeOr_out (ss : Session K I) (hor : ∀ u v, CoreKeeps K off (apply "or" u (some v) none))
    {T : Nat → Prop} {a b : AMgr} (c : Ch I off T a b) (ho : Nat) (n1 : Int) (t2 : Nat)
    (hf : b.handles[t2]? = none) :
    AM.Out (fLeOr ho n1 t2) b
      (fun n2 b' => Ch I off (fun j => j = t2 ∨ T j) a b' ∧ b'.handles[t2]? = some n2 ∧
        ∀ j : Nat, j ≠ t2 → b'.handles[j]? = b.handles[j]?)
      (fun b' => Ch I off T a b' ∧ b'.handles = b.handles) := by
  unfold fLeOr
  refine (nodeSame_read ho).out_bind ⟨c, rfl⟩ fun o _ => ?_
  refine (c.core ss (hor o n1 b.m)).bind fun n2 b2 ⟨c2, hh2⟩ => ?_
  refine ((c2.wrapF ss n2 (by rw [hh2]; exact hf)).mono (fun _ _ h => h)
    (fun b3 h => by rw [h]; exact ⟨c2, hh2⟩)).bind fun _ b3 ⟨c3, hl3, hfr3⟩ => ?_
  exact AM.Out.pure n2 ⟨c3, hl3, fun j hj => by rw [hfr3 j hj, hh2]⟩

/-- `Function.__le__`: the three temporaries are released; nothing else changes -/
theorem fLe_keeps (ss : Session K I) (hap : ∀ op u v, CoreKeeps K off (apply op u v none)) (hs ho : Nat) :
    AKeeps0 I off (fLe hs ho) := by
  intro a hi
  have c0 := Ch.refl ss hi
  refine AM.ends_iff.mpr (AM.Out.ends
    (P := fun b => I off b ∧ (∀ j : Nat, b.handles[j]? = a.handles[j]?) ∧ Lives a b) ?_)
  unfold fLe
  refine (nodeOwn_read hs).out_bind (c0.close0 fun _ h => h) fun s _ => ?_
  refine freshH_out fun t1 hn1 => ?_
  refine ((c0.core ss (hap "not" s none a.m)).mono (fun _ _ h => h) fun _ h => h.1.close0 fun _ h => h).bind
    fun n1 a3 ⟨c3, hh3⟩ => ?_
  refine ((c3.wrapF ss n1 (by rw [hh3]; exact hn1)).mono (fun _ _ h => h)
    fun _ h => h ▸ c3.close0 fun _ h => h).bind fun _ a4 ⟨c4, hl4, _⟩ => ?_
  refine freshH_out fun t2 hn2 => ?_
  have h21 : t1 ≠ t2 := fun h => by rw [h, hn2] at hl4; cases hl4
  -- `t2 = other | t1`; `t1` is released when that has been evaluated or has raised
  refine (AM.Out.finally' (fLeOr_out ss (fun u v => hap "or" u (some v)) c4 ho n1 t2 hn2)
    (R := fun n2 b => Ch I off (· = t2) a b ∧ b.handles[t2]? = some n2)
    (fun n2 b ⟨c5, hl5, _⟩ => ?ok) (fun b ⟨c5, _⟩ => ?err)).bind fun n2 a6 ⟨c6, hl6⟩ => ?_
  case ok =>
    obtain ⟨c6, hfr6, _⟩ := c5.drop ss (t := t1) (.inr (.inl rfl)) (fun _ h => .inl h)
      fun _ h => h.elim .inr fun h => .inl (h.elim id False.elim)
    exact ⟨c6, by rw [hfr6 t2 (Ne.symm h21)]; exact hl5⟩
  case err =>
    exact c5.drop_last ss (t := t1) (.inl rfl) fun _ h => h.elim id False.elim
  refine freshH_out fun t3 hn3 => ?_
  have h32 : t2 ≠ t3 := fun h => by rw [h, hn3] at hl6; cases hl6
  -- `t3 = self.bdd.true`; when that raises, `t2` is released
  rw [← wrapF_eq_wrap]
  refine (AM.Out.onErr (c6.wrapF ss 1 hn3) fun b hb => ?err).bind fun _ a7 ⟨c7, _, hfr7⟩ => ?_
  case err =>
    rw [hb]
    exact c6.drop_last ss (t := t2) rfl fun _ h => h
  have hl7 : a7.handles[t2]? = some n2 := by rw [hfr7 t2 h32]; exact hl6
  -- `t2` is released, then `t3`
  obtain ⟨c8, _, _⟩ := c7.drop ss (T' := (· = t3)) (t := t2) (.inr rfl) (fun _ h => .inl h)
    fun _ h => h.symm
  refine ((drop_out t2 a7).mono (fun _ _ h => h) fun _ h => by rw [hl7] at h; cases h).bind
    fun _ a8 h8 => ?_
  subst h8
  exact (AM.Out.of_state (c8.drop_last ss (t := t3) rfl fun _ h => h)).bind
    fun _ _ h => AM.Out.pure _ h

theorem fEq_read (hs ho : Nat) : ARead (fEq hs ho) := by
  unfold fEq
  exact ARead.bind (nodeOwn_read hs) fun _ => ARead.bind (nodeSame_read ho) fun _ => ARead.pure _

theorem fNe_read (hs ho : Nat) : ARead (fNe hs ho) := by
  unfold fNe
  exact ARead.bind (nodeSame_read ho) fun _ => ARead.bind (fEq_read hs ho) fun _ => ARead.pure _

theorem fCmpOther_read (op : String) (hs : Nat) (x : AOther) : ARead (fCmpOther op hs x) := by
  unfold fCmpOther
  refine ARead.bind (nodeOwn_read hs) fun _ => ?_
  split
  · exact ARead.pure _
  · split
    · exact ARead.pure _
    · exact ARead.throw _

theorem fXor_read (hs ho : Nat) : ARead (fXor hs ho) := by
  unfold fXor
  exact ARead.bind (nodeOwn_read hs) fun _ => ARead.bind (nodeAny_read ho) fun _ => ARead.throw _

theorem fLt_keeps (ss : Session K I) (hap : ∀ op u v, CoreKeeps K off (apply op u v none)) (hs ho : Nat) :
    AKeeps0 I off (fLt hs ho) := by
  unfold fLt
  refine (fLe_keeps ss hap hs ho).then_read fun le => ?_
  cases le
  · exact ARead.pure _
  · exact fNe_read hs ho

theorem fEq_keeps0 (ss : Session K I) (hs ho : Nat) : AKeeps0 I off (fEq hs ho) :=
  AKeeps0.of_read ss (fEq_read hs ho)
theorem fNe_keeps0 (ss : Session K I) (hs ho : Nat) : AKeeps0 I off (fNe hs ho) :=
  AKeeps0.of_read ss (fNe_read hs ho)

/-- `BDD.succ(u)`: at most the two given handles are created (both or none) -/
theorem aSucc_keepsL (ss : Session K I) (hu h1 h2 : Nat) (hne : h1 ≠ h2) :
    AKeepsL I off [h1, h2] (aSucc hu h1 h2) := by
  intro a hi hf
  have hf1 : a.handles[h1]? = none :=
    TreeMap.getElem?_eq_none_of_contains_eq_false (hf h1 List.mem_cons_self)
  have hf2 : a.handles[h2]? = none :=
    TreeMap.getElem?_eq_none_of_contains_eq_false (hf h2 (List.mem_cons_of_mem _ List.mem_cons_self))
  have c0 := Ch.refl ss hi
  have hm : ∀ {T : Nat → Prop} {b : AMgr}, Ch I off T a b → (∀ j, T j → j = h1 ∨ j = h2) →
      I off b ∧ (∀ j : Nat, j ∉ [h1, h2] → b.handles[j]? = a.handles[j]?) ∧ Lives a b :=
    fun c hT => c.close fun j h => by
      simp only [List.mem_cons, List.not_mem_nil, or_false]
      exact hT j h
  refine AM.ends_iff.mpr (AM.Out.ends
    (P := fun b => I off b ∧ (∀ j : Nat, j ∉ [h1, h2] → b.handles[j]? = a.handles[j]?) ∧ Lives a b) ?_)
  have e0 := hm c0 fun _ h => h.elim
  unfold aSucc
  refine (nodeAny_read hu).out_bind e0 fun u _ => ?_
  refine (ARead.liftE _).out_bind e0 fun p _ => ?_
  obtain ⟨i, c⟩ := p
  cases c with
  | none => exact AM.Out.pure _ e0
  | some vw =>
    obtain ⟨v, w⟩ := vw
    -- the two wrappers: the first dies when the second raises
    show AM.Out (aSuccWrap h1 h2 v w >>= _) a _ _
    unfold aSuccWrap
    rw [← wrapF_eq_wrap, ← wrapF_eq_wrap]
    refine (((c0.wrapF ss v hf1).mono (fun _ _ h => h) fun _ h => h ▸ e0).bind
      fun _ a1 ⟨c1, _, hfr1⟩ => ?_).bind fun _ _ h => AM.Out.pure _ h
    refine (AM.Out.onErr (c1.wrapF ss w (by rw [hfr1 h2 (Ne.symm hne)]; exact hf2)) fun b hb => ?_).mono
      (fun _ b h => hm h.1 fun j h' => h'.elim Or.inr fun h'' => h''.elim Or.inl False.elim) fun _ h => h
    rw [hb]
    exact hm (c1.drop ss (T' := fun _ => False) (t := h1) (.inl rfl) (fun _ h => h.elim)
      fun _ h => h).1 fun _ h => h.elim

end Auto

end DD
