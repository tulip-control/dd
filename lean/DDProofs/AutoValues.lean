/-
  DDProofs.AutoValues — what the methods of `dd.autoref` RETURN: the node under the new
  `Function`, the truth value of a comparison, the variable / children / size seen through
  a `Function`; and the documented result of a decorated core call in a session of either mode
  (`DocBody.good`, `DocBody.session`), on which the values of the `BDD` methods rest
  (DDProofs.AutoValues2).  (The invariant side — registry, counters, live meanings — is in
  AutoProofs / AutoTemps / AutoCore / AutoDyn.)
-/
import DDProps.C18
import DDProofs.AutoDyn
import DDProofs.DynApply
open Std

namespace DD

variable {off : Bool}

/-- what a value theorem passes on to the next call: the declared names and `Two` -/
def KeepsVars (off : Bool) (m m' : Mgr) : Prop :=
  (∀ s, m'.tbl.vars.contains s = m.tbl.vars.contains s) ∧ (off = false → 2 ≤ m'.nvars)

/-- counterpart of `tryToReorder_transparentS` for `_last_len = None`: no request fires, the body
returns its documented result; the declared names stay -/
theorem tryToReorder_off_doc_vars {α} (f : M α) (ops : List Int) (Pre : Tbl → Prop)
    (Doc : Tbl → α → Tbl → Prop)
    (hbody : ∀ m0 : Mgr, Inv m0 → m0.ctx = true → OrderOK m0.tbl → Pre m0.tbl →
      (∀ u ∈ ops, m0.tbl.Mem u) → Outcome m0 (fun r m1 => Doc m0.tbl r m1.tbl) (f m0))
    (m : Mgr) (hI : Inv m) (hO : OrderOK m.tbl) (hoff : m.lastLen = none)
    (hops : ∀ u ∈ ops, m.tbl.Mem u) (hpre0 : Pre m.tbl) :
    ∃ r m', tryToReorder f m = (.ok r, m') ∧ Doc m.tbl r m'.tbl ∧
      (∀ s, m'.tbl.vars.contains s = m.tbl.vars.contains s) ∧ m'.nvars = m.nvars := by
  have h1 := hbody { m with ctx := true } (hI.setCtx true) rfl hO hpre0 hops
  rcases h1.cases with ⟨r, m1, he, hs, hd⟩ | ⟨m1, _, _, ha⟩
  · exact ⟨r, { m1 with ctx := m.ctx }, tryToReorder_ok f m r m1 he, hd, hs.names, hs.nvars⟩
  · exact absurd hoff ha.not_off

theorem tryToReorder_off_doc {α} (f : M α) (ops : List Int) (Pre : Tbl → Prop)
    (Doc : Tbl → α → Tbl → Prop)
    (hbody : ∀ m0 : Mgr, Inv m0 → m0.ctx = true → OrderOK m0.tbl → Pre m0.tbl →
      (∀ u ∈ ops, m0.tbl.Mem u) → Outcome m0 (fun r m1 => Doc m0.tbl r m1.tbl) (f m0))
    (m : Mgr) (hI : Inv m) (hO : OrderOK m.tbl) (hoff : m.lastLen = none)
    (hops : ∀ u ∈ ops, m.tbl.Mem u) (hpre0 : Pre m.tbl) :
    ∃ r m', tryToReorder f m = (.ok r, m') ∧ Doc m.tbl r m'.tbl :=
  let ⟨r, m', he, hd, _⟩ := tryToReorder_off_doc_vars f ops Pre Doc hbody m hI hO hoff hops hpre0
  ⟨r, m', he, hd⟩

/-- a decorated operation with a documented body in a manager between two calls, either mode: with
reordering not enabled (every state, also with fewer than two variables) the operands are stored
nodes and no request can fire, so the body returns; with two variables they are held and the
result comes from the transparency theorem.  The declared names stay, and so do two variables. -/
theorem DocBody.good {α} {f : M α} {ops : List Int} {Pre : Tbl → Prop} {Doc : Tbl → α → Tbl → Prop}
    (hb : DocBody f ops Pre Doc) (m : Mgr) (ext : Nat → Nat) (h : Good3 m ext)
    (hu : (m.lastLen = none ∧ ∀ w ∈ ops, m.tbl.Mem w) ∨ (2 ≤ m.nvars ∧ ∀ w ∈ ops, HeldX ext w))
    (hpre : Pre m.tbl) : ∃ r m', tryToReorder f m = (.ok r, m') ∧ Doc m.tbl r m'.tbl ∧
      (∀ s, m'.tbl.vars.contains s = m.tbl.vars.contains s) ∧ (2 ≤ m.nvars → 2 ≤ m'.nvars) := by
  rcases hu with ⟨hoff, hm⟩ | ⟨h2, hh⟩
  · obtain ⟨r, m', he, hd, hn, hv⟩ :=
      tryToReorder_off_doc_vars f ops Pre Doc hb.body m h.inv h.order hoff hm hpre
    exact ⟨r, m', he, hd, hn, fun h2 => hv ▸ h2⟩
  · obtain ⟨r, m', he, hp⟩ :=
      (hb.dynS ext m (h.dynInv h2).toS hh hpre).default (h.dynInv h2).sched
    exact ⟨r, m', he, hp.doc, hp.names, fun _ => hp.inv.nvars⟩

/-- … in a session, both modes: the operands are held (nodes under live `Function`s, their
negations, the terminal) -/
theorem DocBody.session {α} {f : M α} {ops : List Int} {Pre : Tbl → Prop}
    {Doc : Tbl → α → Tbl → Prop} (hb : DocBody f ops Pre Doc) (off : Bool) (a : AMgr)
    (hi : AInv off a) (ht : Two off a) (hops : ∀ u ∈ ops, HeldX (hext a) u) (hpre : Pre a.m.tbl) :
    ∃ r m', tryToReorder f a.m = (.ok r, m') ∧ Doc a.m.tbl r m'.tbl ∧ KeepsVars off a.m m' := by
  obtain ⟨r, m', he, hd, hn, h2⟩ := hb.good a.m (hext a) hi.minv.good3
    (by
      cases off
      · exact .inr ⟨ht rfl, hops⟩
      · exact .inl ⟨hi.mode rfl, fun w hw => (hops w hw).mem hi.counts⟩) hpre
  exact ⟨r, m', he, hd, hn, fun ho => h2 (ht ho)⟩

/-- every alias of a binary or ternary propositional connective, in both modes, on operands under
live `Function`s: the core operation returns, keeps the invariant, and its result is the connective
of the operands BY NAME — the call IS the decorated `ite` on three operand atoms of the table row
(`apply_conn_eq`) -/
theorem applyConn_ok (off : Bool) (b : AMgr) (hb : AInv off b) (ht : Two off b) (op : String) (c : Conn)
    (hc : docConn op = some c) (h2 : 2 ≤ c.arity) (hq1 : c ≠ .forall_) (hq2 : c ≠ .exists_)
    (hall : Gen.allOps.contains op = true) (u v : Int) (w : Option Int)
    (hw : w.isSome = decide (c.arity = 3)) (hu : HeldX (hext b) u) (hv : HeldX (hext b) v)
    (hww : w.elim True (HeldX (hext b))) :
    CoreKeepsAt off b.m (apply op u (some v) w) ∧
    ∃ r m', apply op u (some v) w b.m = (.ok r, m') ∧ m'.tbl.Mem r ∧
      ∀ σ, denN m'.tbl r σ =
        c.eval (denN b.m.tbl u σ) (denN b.m.tbl v σ) (w.elim false (denN b.m.tbl · σ)) := by
  refine ⟨coreKeeps off (apply_decorated op u (some v) w) b.m, ?_⟩
  have mw : w.elim True b.m.tbl.Mem := by
    cases w with
    | none => trivial
    | some y => exact hww.mem hb.counts
  obtain ⟨xa, xb, xd, heq, hS, hden⟩ := apply_conn_eq b.m hb.inv.wf.toWF op c hc h2 hq1 hq2 hall u v w
    hw (hu.mem hb.counts) (hv.mem hb.counts) mw
  obtain ⟨ha, hb', hd⟩ := hS (HeldX (hext b)) (fun _ => HeldX.neg) (HeldX.one _) hu hv hww
  obtain ⟨r, m', he, hdoc, -⟩ := (ite_docBody xa xb xd).session off b hb ht (by simp [ha, hb', hd])
    trivial
  exact ⟨r, m', heq ▸ he, hdoc.1, fun σ => (hdoc.2 σ).trans (hden _)⟩

theorem applyBin_ok (off : Bool) (b : AMgr) (hb : AInv off b) (ht : Two off b) (op : String) (c : Conn)
    (hc : docConn op = some c) (h2 : c.arity = 2) (hq1 : c ≠ .forall_) (hq2 : c ≠ .exists_)
    (hall : Gen.allOps.contains op = true) (j1 j2 : Nat) (v w : Int) (hv : b.handles[j1]? = some v)
    (hw : b.handles[j2]? = some w) :
    CoreKeepsAt off b.m (apply op v (some w) none) ∧
    ∃ r m', apply op v (some w) none b.m = (.ok r, m') ∧ m'.tbl.Mem r ∧
      ∀ σ, denN m'.tbl r σ = c.eval (denN b.m.tbl v σ) (denN b.m.tbl w σ) false :=
  applyConn_ok off b hb ht op c hc (by omega) hq1 hq2 hall v w none (by simp [h2])
    (heldX_of_handle b hv) (heldX_of_handle b hw) trivial

/-- `~f` -/
theorem fApply_not_eval (a : AMgr) (hi : AInv off a) (op : String) (hc : docConn op = some .not)
    (hall : Gen.allOps.contains op = true) (hs h : Nat)
    (hf : a.handles.contains h = false) (u : Int) (hu : a.handles[hs]? = some u) :
    ∃ a', fApply op hs none h a = (.ok (-u), a') ∧ a'.m.tbl = a.m.tbl ∧
      a'.handles = a.handles.insert h (-u) := by
  obtain ⟨he, hm, _⟩ := apply_not_spec a.m hi.inv op hc hall u (hi.hmem hs u hu)
  have h1 := liftM_eval (a := a) he
  obtain ⟨a', hw, _, ht, hh, _⟩ := Auto.wrapF_spec session a h (-u) hi hf hm
  refine ⟨a', ?_, ht, hh⟩
  unfold fApply
  rw [AM.bind_ok (nodeOwn_eval hu)]
  rw [AM.bind_ok (show optNode nodeSame none a = (.ok none, a) from rfl), AM.bind_ok h1,
    AM.bind_ok hw]
  rfl

/-- `f.<op>(g)` for a binary propositional alias, both modes: returns; the new `Function`
sits on the node the core operation returned; that node means the documented connective of
the operands by name -/
theorem fApply_binary_value (a : AMgr) (hi : AInv off a) (ht : Two off a) (op : String) (c : Conn)
    (hc : docConn op = some c) (h2 : c.arity = 2) (hq1 : c ≠ .forall_) (hq2 : c ≠ .exists_)
    (hall : Gen.allOps.contains op = true) (hs ho h : Nat)
    (hf : a.handles.contains h = false) (u v : Int)
    (hu : a.handles[hs]? = some u) (hv : a.handles[ho]? = some v) :
    ∃ (r : Int) (a' : AMgr), fApply op hs (some ho) h a = (.ok r, a') ∧
      a'.handles = a.handles.insert h r ∧
      (∃ m1, apply op u (some v) none a.m = (.ok r, m1) ∧ a'.m.tbl = m1.tbl) ∧
      a'.m.tbl.Mem r ∧
      ∀ σ, denN a'.m.tbl r σ = c.eval (denN a.m.tbl u σ) (denN a.m.tbl v σ) false := by
  obtain ⟨hk, r, m1, he, hr, hd⟩ := applyBin_ok off a hi ht op c hc h2 hq1 hq2 hall hs ho u v hu hv
  obtain ⟨a', hx, ht, hh, _⟩ := Auto.wrapResult_eval session a hi h hf hk he hr
  refine ⟨r, a', ?_, hh, ⟨m1, he, ht⟩, by rw [ht]; exact hr, fun σ => by rw [ht]; exact hd σ⟩
  rw [Auto.fApply_eq, AM.bind_ok (nodeOwn_eval hu), AM.bind_ok (optNode_eval (nodeSame_eval hv))]
  exact hx

/-- the Python operators of `Function` spell their connective in the generated tables -/
theorem or_is_disjunction : docConn "or" = some .or ∧ Gen.allOps.contains "or" = true := by
  decide +kernel
theorem and_is_conjunction : docConn "and" = some .and ∧ Gen.allOps.contains "and" = true := by
  decide +kernel
theorem implies_is_implication :
    docConn "implies" = some .implies ∧ Gen.allOps.contains "implies" = true := by decide +kernel
theorem equiv_is_equivalence :
    docConn "equiv" = some .equiv ∧ Gen.allOps.contains "equiv" = true := by decide +kernel

theorem eq_one_iff_denN {t : Tbl} (hw : WFU t) (hO : OrderOK t) (r : Int) (hr : t.Mem r) :
    r = 1 ↔ ∀ σ, denN t r σ = true :=
  (eq_iff_denN hw hO r 1 hr (Or.inl rfl)).trans
    (forall_congr' fun σ => by rw [show denN t 1 σ = true from den_one _ _])

/-- `f <= g` on live operands returns, and returns `True` iff `f` implies `g` (canonicity: the node
of `g | ~f` is the terminal iff it denotes `true`) -/
theorem fLe_eval (a : AMgr) (hi : AInv off a) (h2 : Two off a) (hs ho : Nat) (u v : Int)
    (hu : a.handles[hs]? = some u) (hv : a.handles[ho]? = some v) :
    ∃ (b : Bool) (a' : AMgr), fLe hs ho a = (.ok b, a') ∧
      (b = true ↔ ∀ σ, denN a.m.tbl u σ = true → denN a.m.tbl v σ = true) := by
  have hmu := hi.hmem hs u hu
  -- t1 = ~f
  obtain ⟨t1, hf1, hn1⟩ := freshH_spec a
  obtain ⟨he1, hm1, _⟩ := apply_not_spec a.m hi.inv "not" not_is_negation.1 not_is_negation.2 u hmu
  have h1 := liftM_eval (a := a) he1
  obtain ⟨a2, hw2, i2, ht2, hh2, _⟩ :=
    Auto.wrapF_spec session a t1 (-u) hi (contains_false_of_none hn1) hm1
  have hl2 : a2.handles[t1]? = some (-u) := by rw [hh2]; exact TreeMap.getElem?_insert_self
  have h1o : ho ≠ t1 := ne_of_some_none hv hn1
  have hv2 : a2.handles[ho]? = some v := by rw [hh2, getElem?_insert_ne _ _ _ _ h1o]; exact hv
  -- t2 = g | t1
  obtain ⟨t2, hf2, hn2⟩ := freshH_spec a2
  obtain ⟨hk, r, m3, he3, hr3, hd3⟩ := applyBin_ok off a2 i2 (h2.of_tbl ht2) "or" .or or_is_disjunction.1
    rfl (nomatch ·) (nomatch ·) or_is_disjunction.2 ho t1 v (-u) hv2 hl2
  have hd3 : ∀ σ, denN m3.tbl r σ = (denN a2.m.tbl v σ || denN a2.m.tbl (-u) σ) := hd3
  obtain ⟨a4, hx4, ht4, hh4, i4, _⟩ :=
    Auto.wrapResult_eval session a2 i2 t2 (contains_false_of_none hn2) hk he3 hr3
  have hor4 : fLeOr ho (-u) t2 a2 = (.ok r, a4) := by
    rw [show fLeOr ho (-u) t2 = nodeSame ho >>= fun o => wrapResult t2 (apply "or" o (some (-u)) none)
      by simp only [fLeOr, wrapResult, ← wrapF_eq_wrap], AM.bind_ok (nodeSame_eval hv2)]
    exact hx4
  have h12 : t1 ≠ t2 := ne_of_some_none hl2 hn2
  have hl4 : a4.handles[t1]? = some (-u) := by
    rw [hh4, getElem?_insert_ne _ _ _ _ h12]; exact hl2
  have hl4' : a4.handles[t2]? = some r := by rw [hh4]; exact TreeMap.getElem?_insert_self
  -- t1 released
  obtain ⟨a5, hd5, i5, ht5, hh5, _⟩ := Auto.drop_spec session a4 t1 (-u) i4 hl4
  have hl5 : a5.handles[t2]? = some r := by
    rw [hh5, getElem?_erase_ne _ _ _ (Ne.symm h12)]; exact hl4'
  -- t3 = true
  obtain ⟨t3, hf3, hn3⟩ := freshH_spec a5
  obtain ⟨a6, hw6, i6, ht6, hh6, _⟩ :=
    Auto.wrapF_spec session a5 t3 1 i5 (contains_false_of_none hn3) (Or.inl rfl)
  have h23 : t2 ≠ t3 := ne_of_some_none hl5 hn3
  have hl6 : a6.handles[t2]? = some r := by
    rw [hh6, getElem?_insert_ne _ _ _ _ h23]; exact hl5
  have hl6' : a6.handles[t3]? = some 1 := by rw [hh6]; exact TreeMap.getElem?_insert_self
  obtain ⟨a7, hd7, i7, ht7, hh7, _⟩ := Auto.drop_spec session a6 t2 r i6 hl6
  have hl7 : a7.handles[t3]? = some 1 := by
    rw [hh7, getElem?_erase_ne _ _ _ (Ne.symm h23)]; exact hl6'
  obtain ⟨a8, hd8, _⟩ := Auto.drop_spec session a7 t3 1 i7 hl7
  refine ⟨r == 1, a8, ?_, ?_⟩
  · unfold fLe
    rw [AM.bind_ok (nodeOwn_eval hu), AM.bind_ok hf1, AM.bind_ok h1, AM.bind_ok hw2,
      AM.bind_ok hf2]
    have hfin : AM.finally' (fLeOr ho (-u) t2) (drop t1) a2 = (.ok r, a5) := by
      rw [AM.finally_eq, hor4, hd5]
    rw [AM.bind_ok hfin, AM.bind_ok hf3]
    have hon : AM.onErr (wrap t3 1) (drop t2) a5 = (.ok (), a6) := by
      rw [AM.onErr_eq, ← wrapF_eq_wrap, hw6]
    rw [AM.bind_ok hon, AM.bind_ok hd7, AM.bind_ok hd8]
    rfl
  · have hiff := eq_one_iff_denN (ht4 ▸ i4.inv.wf) (ht4 ▸ i4.order) r hr3
    have hn : ∀ σ, denN a.m.tbl (-u) σ = !denN a.m.tbl u σ :=
      fun σ => den_neg a.m.tbl hi.inv.wf.toWF u _ hmu
    rw [beq_iff_eq, hiff]
    constructor
    · intro h σ hu1
      have := h σ
      rw [hd3 σ, ht2, hn σ, hu1] at this
      simpa using this
    · intro h σ
      rw [hd3 σ, ht2, hn σ]
      cases hx : denN a.m.tbl u σ with
      | false => simp
      | true => simp [h σ hx]

/-- `f == g`: a comparison of the two integers -/
theorem fEq_eval (a : AMgr) (hs ho : Nat) (u v : Int)
    (hu : a.handles[hs]? = some u) (hv : a.handles[ho]? = some v) :
    fEq hs ho a = (.ok (u == v), a) := by
  unfold fEq
  rw [AM.bind_ok (nodeOwn_eval hu), AM.bind_ok (nodeSame_eval hv)]
  rfl

theorem fNe_eval (a : AMgr) (hs ho : Nat) (u v : Int)
    (hu : a.handles[hs]? = some u) (hv : a.handles[ho]? = some v) :
    fNe hs ho a = (.ok (!(u == v)), a) := by
  unfold fNe
  rw [AM.bind_ok (nodeSame_eval hv), AM.bind_ok (fEq_eval a hs ho u v hu hv)]
  rfl

/-- `f < g` on live operands returns, and returns `True` iff `f` implies `g` and they differ -/
theorem fLt_eval (a : AMgr) (hi : AInv off a) (h2 : Two off a) (hs ho : Nat) (u v : Int)
    (hu : a.handles[hs]? = some u) (hv : a.handles[ho]? = some v) :
    ∃ (b : Bool) (a' : AMgr), fLt hs ho a = (.ok b, a') ∧
      (b = true ↔ (∀ σ, denN a.m.tbl u σ = true → denN a.m.tbl v σ = true) ∧
        ¬ ∀ σ, denN a.m.tbl u σ = denN a.m.tbl v σ) := by
  obtain ⟨b, a1, he, hb⟩ := fLe_eval a hi h2 hs ho u v hu hv
  obtain ⟨_, hsame, _⟩ := fLe_keepsAll off hs ho a hi _ _ he
  have hq := eq_iff_denN hi.inv.wf hi.order u v (hi.hmem hs u hu) (hi.hmem ho v hv)
  cases b with
  | false =>
    refine ⟨false, a1, ?_, ?_⟩
    · unfold fLt; rw [AM.bind_ok he]; rfl
    · constructor
      · intro h; cases h
      · intro h; exact hb.mpr h.1
  | true =>
    have hu1 : a1.handles[hs]? = some u := by rw [hsame]; exact hu
    have hv1 : a1.handles[ho]? = some v := by rw [hsame]; exact hv
    refine ⟨!(u == v), a1, ?_, ?_⟩
    · unfold fLt; rw [AM.bind_ok he]; exact fNe_eval a1 hs ho u v hu1 hv1
    · rw [← hq]
      have := hb.mp rfl
      simp only [Bool.not_eq_true', beq_eq_false_iff_ne, ne_eq]
      exact ⟨fun h => ⟨this, h⟩, fun h => h.2⟩

theorem varAtLevel_eval {m : Mgr} (hO : OrderOK m.tbl) {i : Nat} (hi : i < m.tbl.nvars) :
    varAtLevel (i : Int) m = (.ok (m.tbl.nameOf i), m) := by
  obtain ⟨x, hx⟩ := hO.total i hi
  have hn : ¬ ((i : Int) < 0) := by omega
  unfold varAtLevel Tbl.nameOf
  simp only [M.bind_eq, M.get_eq, if_neg hn, Int.toNat_natCast, hx, M.ofOption_some,
    Option.getD_some]

/-- `f.var` on a non-terminal node: the name at the level of the node -/
theorem fVar_eval (a : AMgr) (hi : AInv off a) (hs : Nat) (u : Int) (n : Nd)
    (hu : a.handles[hs]? = some u) (h1 : u.natAbs ≠ 1) (hn : a.m.tbl.succ[u.natAbs]? = some n) :
    fVar hs a = (.ok (some (a.m.tbl.nameOf n.lvl)), a) :=
  fVar_eval_of a hs u n hu h1 hn
    (varAtLevel_eval hi.order (hi.inv.wf.toWF.lvl_lt _ _ hn))

/-- `f.low` / `f.high` on a non-terminal node: a new `Function` on the stored child -/
theorem fChild_eval (a : AMgr) (hi : AInv off a) (high : Bool) (hs h : Nat) (u : Int) (n : Nd)
    (hf : a.handles.contains h = false)
    (hu : a.handles[hs]? = some u) (h1 : u.natAbs ≠ 1) (hn : a.m.tbl.succ[u.natAbs]? = some n) :
    ∃ a', fChild high hs h a = (.ok (some (if high then n.hi else n.lo)), a') ∧
      a'.m.tbl = a.m.tbl ∧ a'.handles = a.handles.insert h (if high then n.hi else n.lo) := by
  have h2 := liftE_succOf (a := a) h1 hn
  have hm : a.m.tbl.Mem (if high then n.hi else n.lo) := by
    cases high
    · exact hi.inv.wf.toWF.lo_mem _ _ hn
    · exact hi.inv.wf.toWF.hi_mem _ _ hn
  obtain ⟨a', hw, _, ht, hh, _⟩ := Auto.wrapF_spec session a h _ hi hf hm
  refine ⟨a', ?_, ht, hh⟩
  unfold fChild
  rw [AM.bind_ok (nodeOwn_eval hu), AM.bind_ok h2]
  show (wrapF h (if high then n.hi else n.lo) >>= fun _ => pure (some (if high then n.hi else n.lo))) a = _
  rw [AM.bind_ok hw]
  rfl

/-- `len(f)` / `f.dag_size`: the number of nodes reachable from the node of `f` -/
theorem fLen_eval (a : AMgr) (hi : AInv off a) (hs : Nat) (u : Int) (hu : a.handles[hs]? = some u) :
    ∃ l : List Nat, fLen hs a = (.ok l.length, a) ∧ l.Pairwise (· < ·) ∧
      (∀ v, v ∈ l ↔ Reach a.m.tbl u.natAbs v) ∧ 1 ∈ l :=
  C18_fLen_spec a hi.inv.wf.toWF hs u hu (hi.hmem hs u hu)

/-- `bdd.succ(u)` on a non-terminal node: the level and two new `Function`s on the stored
children -/
theorem aSucc_eval (a : AMgr) (hi : AInv off a) (hu h1 h2 : Nat) (hne : h1 ≠ h2)
    (hf1 : a.handles.contains h1 = false) (hf2 : a.handles.contains h2 = false)
    (u : Int) (n : Nd) (hl : a.handles[hu]? = some u) (h1' : u.natAbs ≠ 1)
    (hn : a.m.tbl.succ[u.natAbs]? = some n) :
    ∃ a', aSucc hu h1 h2 a = (.ok (n.lvl, some (n.lo, n.hi)), a') ∧ a'.m.tbl = a.m.tbl ∧
      a'.handles = (a.handles.insert h1 n.lo).insert h2 n.hi := by
  have hp := liftE_succOf (a := a) h1' hn
  obtain ⟨a1, hw1, i1, ht1, hh1, _⟩ :=
    Auto.wrapF_spec session a h1 n.lo hi hf1 (hi.inv.wf.toWF.lo_mem _ _ hn)
  have hf2' : a1.handles.contains h2 = false := by
    rw [hh1, TreeMap.contains_insert, hf2]
    simp [Nat.compare_eq_eq, hne]
  obtain ⟨a2, hw2, _, ht2, hh2, _⟩ := Auto.wrapF_spec session a1 h2 n.hi i1 hf2'
    (by rw [ht1]; exact hi.inv.wf.toWF.hi_mem _ _ hn)
  refine ⟨a2, ?_, ht2.trans ht1, by rw [hh2, hh1]⟩
  have hsw : aSuccWrap h1 h2 n.lo n.hi a = (.ok (), a2) := by
    unfold aSuccWrap
    rw [← wrapF_eq_wrap, ← wrapF_eq_wrap, AM.bind_ok hw1, AM.onErr_eq, hw2]
  unfold aSucc
  rw [AM.bind_ok (nodeAny_eval hl), AM.bind_ok hp]
  show (aSuccWrap h1 h2 n.lo n.hi >>= fun _ => pure (n.lvl, some (n.lo, n.hi))) a = _
  rw [AM.bind_ok hsw]
  rfl

end DD
