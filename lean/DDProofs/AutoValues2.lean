/-
  DDProofs.AutoValues2 — what the METHODS OF `autoref.BDD` return, in both modes: `_wrap` around a
  core call that returns its documented result (`wrapResult_value`, `wrapResult_step`), and the
  methods whose value other files build on (`var`, `ite`, the constants, `let`, `add_expr`).

  The documented results BY VARIABLE NAME are the `…Doc` predicates of the C09 development
  (`IteDoc`, `ConnDoc`, `Ite3Doc`, `VarDoc`, `QuantDoc`, `CofDoc`, `ComposeDoc`, `RenameDoc`,
  `CubeDoc`, `ExprDoc`).  Each decorated operation has ONE documented body (`X_docBody : DocBody …`,
  DDProofs.DynOps …), read in a session of either mode by `DocBody.session` (DDProofs.AutoValues).
  The value theorems of the single methods are proved where they are stated, DDProps.C08Values2.
-/
import DDProofs.AutoValues
import DDProofs.DynExpr
open Std

namespace DD

variable {off : Bool}

theorem var_doc2 (off : Bool) (a : AMgr) (hi : AInv off a) (ht : Two off a) (name : String)
    (hd : a.m.tbl.vars.contains name = true) :
    ∃ r m', var name a.m = (.ok r, m') ∧ VarDoc name a.m.tbl r m'.tbl ∧ KeepsVars off a.m m' :=
  (var_docBody name).session off a hi ht nofun hd

theorem ite_doc2 (off : Bool) (a : AMgr) (hi : AInv off a) (ht : Two off a) (g u v : Int)
    (jg ju jv : Nat) (hg : a.handles[jg]? = some g) (hu : a.handles[ju]? = some u)
    (hv : a.handles[jv]? = some v) :
    ∃ r m', ite g u v a.m = (.ok r, m') ∧ IteDoc g u v a.m.tbl r m'.tbl ∧ KeepsVars off a.m m' :=
  (ite_docBody g u v).session off a hi ht
    (by simp [heldX_of_handle a hg, heldX_of_handle a hu, heldX_of_handle a hv]) trivial

/-- `apply` with a quantifier alias is `quantify` of the SECOND operand over the support of the
first (any mode: a computation) -/
theorem apply_quant_eq (m : Mgr) (op : String) (c : Conn) (hc : docConn op = some c)
    (hq : c = .forall_ ∨ c = .exists_) (hall : Gen.allOps.contains op = true)
    (u v : Int) (hu : m.tbl.Mem u) (mv : m.tbl.Mem v)
    (names : List String) (hsupp : support m.tbl u = .ok names) :
    apply op u (some v) none m = quantify v (names.map Key.name) (decide (c = .forall_)) m :=
  apply_quant_eq_quantify m op c hc hq hall u v hu mv names hsupp

/-- what holds of the result `r` and the final state `a'` of a method that returns a new
`Function` `h`: the handle sits on `r`; `r` is documented by `Doc` relative to the table of the
call; the invariant (count equation included) holds; no other handle is touched; every
`Function` that was alive keeps its meaning by name -/
def AResult (off : Bool) (a : AMgr) (h : Nat) (Doc : Tbl → Int → Tbl → Prop) (r : Int)
    (a' : AMgr) : Prop :=
  a'.handles[h]? = some r ∧ Doc a.m.tbl r a'.m.tbl ∧ AInv off a' ∧
  (∀ j : Nat, j ≠ h → a'.handles[j]? = a.handles[j]?) ∧
  (∀ (j : Nat) (w : Int), a.handles[j]? = some w →
    a'.m.tbl.Mem w ∧ ∀ σ, denN a'.m.tbl w σ = denN a.m.tbl w σ)

/-- the method returns, and `AResult` -/
def AValue (off : Bool) (a : AMgr) (h : Nat) (x : AM Int) (Doc : Tbl → Int → Tbl → Prop) : Prop :=
  ∃ (r : Int) (a' : AMgr), x a = (.ok r, a') ∧ AResult off a h Doc r a'

theorem AValue.of_eq {a : AMgr} {h : Nat} {x y : AM Int} {Doc : Tbl → Int → Tbl → Prop}
    (he : x a = y a) (hv : AValue off a h y Doc) : AValue off a h x Doc := by
  unfold AValue at *
  rw [he]; exact hv

/-- `r = self._bdd.<op>(...); return self._wrap(r)` around a core operation that returns its
documented result -/
theorem wrapResult_value (a : AMgr) (hi : AInv off a) (h : Nat)
    (hf : a.handles.contains h = false) (core : M Int) (Doc : Tbl → Int → Tbl → Prop)
    (hk : CoreKeepsAt off a.m core) (hmem : ∀ t r t', Doc t r t' → t'.Mem r)
    (hd : ∃ r m', core a.m = (.ok r, m') ∧ Doc a.m.tbl r m'.tbl) :
    AValue off a h (wrapResult h core) Doc := by
  obtain ⟨r, m', he, hdoc⟩ := hd
  obtain ⟨a', hx, ht, hh, i', hd'⟩ := Auto.wrapResult_eval session a hi h hf hk he (hmem _ _ _ hdoc)
  exact ⟨r, a', hx, by rw [hh]; exact TreeMap.getElem?_insert_self,
    by rw [ht]; exact hdoc, i', fun j hj => by rw [hh]; exact getElem?_insert_ne _ _ _ _ hj, hd'⟩

/-- one new `Function` `t ↦ r` of a session: everything else is as it was -/
structure DStep (off : Bool) (a : AMgr) (t : Nat) (r : Int) (a' : AMgr) : Prop where
  at_t : a'.handles[t]? = some r
  same : ∀ j : Nat, j ≠ t → a'.handles[j]? = a.handles[j]?
  inv : AInv off a'
  two : Two off a'
  names : ∀ s, a'.m.tbl.vars.contains s = a.m.tbl.vars.contains s
  den : ∀ (j : Nat) (w : Int), a.handles[j]? = some w →
    a'.m.tbl.Mem w ∧ ∀ σ, denN a'.m.tbl w σ = denN a.m.tbl w σ

/-- … with the names and the number of variables: `KeepsVars` is a statement about the two
tables, so it rides along as a part of the documented result -/
theorem wrapResult_step (a : AMgr) (hi : AInv off a) (h : Nat)
    (hf : a.handles.contains h = false) (core : M Int) (Doc : Tbl → Int → Tbl → Prop)
    (hk : CoreKeepsAt off a.m core) (hmem : ∀ t r t', Doc t r t' → t'.Mem r)
    (hd : ∃ r m', core a.m = (.ok r, m') ∧ Doc a.m.tbl r m'.tbl ∧ KeepsVars off a.m m') :
    ∃ r a', wrapResult h core a = (.ok r, a') ∧ DStep off a h r a' ∧ Doc a.m.tbl r a'.m.tbl := by
  obtain ⟨r, a', he, hat, ⟨hdoc, hn, h2⟩, i', hs', hd'⟩ := wrapResult_value a hi h hf core
    (fun t r t' => Doc t r t' ∧ (∀ s, t'.vars.contains s = t.vars.contains s) ∧
      (off = false → 2 ≤ t'.nvars)) hk (fun _ _ _ d => hmem _ _ _ d.1) hd
  exact ⟨r, a', he, ⟨hat, hs', i', h2, hn, hd'⟩, hdoc⟩

theorem AValue.of_step {a : AMgr} {h : Nat} {x : AM Int} {Doc : Tbl → Int → Tbl → Prop}
    (hs : ∃ r a', x a = (.ok r, a') ∧ DStep off a h r a' ∧ Doc a.m.tbl r a'.m.tbl) :
    AValue off a h x Doc :=
  let ⟨r, a', he, s, hd⟩ := hs
  ⟨r, a', he, s.at_t, hd, s.inv, s.same, s.den⟩

theorem aVar_step (a : AMgr) (hi : AInv off a) (ht : Two off a) (name : String) (h : Nat)
    (hf : a.handles.contains h = false) (hd : a.m.tbl.vars.contains name = true) :
    ∃ r a', aVar name h a = (.ok r, a') ∧ DStep off a h r a' ∧ VarDoc name a.m.tbl r a'.m.tbl :=
  wrapResult_step a hi h hf (var name) (VarDoc name) (coreKeeps off (var_decorated name) a.m)
    (fun _ _ _ d => d.1) (var_doc2 off a hi ht name hd)

theorem aIte_step (a : AMgr) (hi : AInv off a) (ht : Two off a) (jg ju jv h : Nat)
    (hf : a.handles.contains h = false) (g u v : Int)
    (hg : a.handles[jg]? = some g) (hu : a.handles[ju]? = some u) (hv : a.handles[jv]? = some v) :
    ∃ r a', aIte jg ju jv h a = (.ok r, a') ∧ DStep off a h r a' ∧ IteDoc g u v a.m.tbl r a'.m.tbl := by
  unfold aIte
  rw [AM.bind_ok (hi.nodeIn hg), AM.bind_ok (hi.nodeIn hu), AM.bind_ok (hi.nodeIn hv)]
  exact wrapResult_step a hi h hf (ite g u v) (IteDoc g u v) (coreKeeps off (ite_decorated g u v) a.m)
    (fun _ _ _ d => d.1) (ite_doc2 off a hi ht g u v jg ju jv hg hu hv)

/-- a new `Function` made without touching the table (`~ f`, a constant, `u.low`) -/
theorem DStep.of_tblSame {a a' : AMgr} {t : Nat} {r : Int} (hi : AInv off a) (ht : Two off a)
    (hf : a.handles.contains t = false) {α : Type} {x : AM α} {v : Except Err α} (hk : AKeeps off t x)
    (he : x a = (v, a')) (htb : a'.m.tbl = a.m.tbl) (hat : a'.handles[t]? = some r) :
    DStep off a t r a' := by
  obtain ⟨i', hs', hd'⟩ := hk a hi hf _ _ he
  refine ⟨hat, hs', i', ht.of_tbl htb, fun s => by rw [htb], hd'⟩

/-- `bdd.true` / `bdd.false` -/
theorem aConst_step (d : AMgr) (hi : AInv off d) (ht : Two off d) (b : Bool) (t : Nat)
    (hn : d.handles[t]? = none) :
    ∃ d', aConst b t d = (.ok (if b then 1 else -1), d') ∧ DStep off d t (if b then 1 else -1) d' ∧
      d'.m.tbl = d.m.tbl := by
  have hf := contains_false_of_none hn
  obtain ⟨d', he, htb, hh, _⟩ := Auto.wrapResult_eval session d hi t hf
    (Auto.CoreKeeps.of_read (pure_readM (if b then (1 : Int) else -1)) d.m) rfl
    (by cases b <;> exact Or.inl rfl)
  exact ⟨d', he, DStep.of_tblSame hi ht hf (Auto.aConst_keeps session b t) he htb
    (by rw [hh]; exact TreeMap.getElem?_insert_self), htb⟩

/-- `bdd.apply(op, u, v)` / `bdd.apply(op, u, v, w)` on live `Function`s is the core `apply` on
their nodes, wrapped -/
theorem aApply_eval (a : AMgr) (hi : AInv off a) (op : String) (ju jv : Nat) (jw : Option Nat)
    (h : Nat) (u v : Int) (w : Option Int) (hu : a.handles[ju]? = some u)
    (hv : a.handles[jv]? = some v) (hw : optNode nodeIn jw a = (.ok w, a)) :
    aApply op ju (some jv) jw h a = wrapResult h (apply op u (some v) w) a := by
  unfold aApply
  rw [AM.bind_ok (hi.nodeIn hu),
    AM.bind_ok (show AM.check (!((some jv).isNone && jw.isSome)) .value a = (.ok (), a) from rfl),
    AM.bind_ok (optNode_eval (hi.nodeIn hv)), AM.bind_ok hw]

theorem aAddExpr_value (a : AMgr) (hi : AInv off a) (ht : Two off a) (s : String) (t : Ast) (h : Nat)
    (hf : a.handles.contains h = false) (hp : parse (tokenize s) = some t)
    (hM : Meaningful a.m.tbl t) (hh : ∀ u ∈ t.atNodes, ∃ j : Nat, a.handles[j]? = some u) :
    AValue off a h (aAddExpr s h) (ExprDoc t) :=
  .of_step (wrapResult_step a hi h hf (addExpr s) (ExprDoc t) (coreKeeps off (addExpr_decorated s) a.m)
    (fun _ _ _ d => d.1) (by
      unfold addExpr
      rw [addExprToks_parsed hp]
      exact (evalAst_docBody t).session off a hi ht
        (fun u hu => let ⟨_, hj⟩ := hh u hu; heldX_of_handle a hj) hM))

/-- `let` with a non-empty dictionary whose arguments resolve to `d'`, around the documented result
of the core `let` -/
theorem aLet_value (a : AMgr) (hi : AInv off a) (d : ALetArg) (ju h : Nat)
    (hf : a.handles.contains h = false) (u : Int) (hu : a.handles[ju]? = some u)
    (hne : d.isEmpty = false) (d' : LetArg) (hargs : aLetArgs d a = (.ok d', a))
    (Doc : Tbl → Int → Tbl → Prop) (hmem : ∀ t r t', Doc t r t' → t'.Mem r)
    (hd : ∃ r m', letOp d' u a.m = (.ok r, m') ∧ Doc a.m.tbl r m'.tbl ∧ KeepsVars off a.m m') :
    ∃ r a', aLet d ju h a = (.ok (r, false), a') ∧ AResult off a h Doc r a' := by
  obtain ⟨r, a', hw, hres⟩ := AValue.of_step
    (wrapResult_step a hi h hf _ Doc (coreKeeps off (letOp_decorated d' u) a.m) hmem hd)
  refine ⟨r, a', ?_, hres⟩
  unfold aLet
  rw [AM.bind_ok (hi.nodeIn hu)]
  simp only [hne, Bool.false_eq_true, if_false]
  rw [AM.bind_ok hargs, AM.bind_ok hw]
  rfl

end DD
