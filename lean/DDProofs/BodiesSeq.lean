/-
  DDProofs.BodiesSeq — the bodies that `_try_to_reorder` decorates (`cofactor`, `quantify`,
  `compose`, `rename`, `copy_bdd`, `cube`, over any `find_or_add` / nested `ite`) in
  sequenced form, walked once for every property of computations that sequencing preserves
  (`SeqClosed`): a body has the property as soon as the calls it makes have it (the recursions:
  DDProofs.RecursionsSeq).  What a body raises itself is a literal exception or the exception of a
  pure helper, which is never one of the two internal signals (`X_plain`, DDProofs.PlainErrors).
-/
import DD.Capacity3Expr
import DDProofs.RecursionsSeq
import DD.Capacity3Cube
open Std

namespace DD

theorem PErr.toErr_plain (e : PErr) (s : Err) (hs : Signal s) : e.toErr ≠ s := by
  rcases hs with rfl | rfl
  · cases e <;> nofun
  · cases e <;> nofun

theorem cofactorBodyG_eq (foa : Int → Int → Int → M Int) (u : Int) (values : List (Key × Bool)) :
    cofactorBodyG foa u values = M.get >>= fun m0 =>
      liftE (mapToLevelE m0.tbl (values.map (·.1))) >>= fun lv =>
      if !m0.mem u then M.throw .value else
      cofactorFG foa ((lv.zip (values.map (·.2))).reverse) (m0.nvars + 2) u (sortNat (dedup lv)) {}
        >>= fun rc => pure rc.1 := by
  funext m
  unfold cofactorBodyG
  rw [M.get_bind]
  rcases mapToLevelE m.tbl _ with e | lv
  · rfl
  dsimp only
  show _ = (if _ then _ else _ : M Int) m
  split
  · rfl
  rcases hx : cofactorFG foa ((lv.zip (values.map (·.2))).reverse) (m.nvars + 2) u (sortNat (dedup lv)) {} m
    with ⟨e | rc, m1⟩
  · rw [M.bind_err hx]
  · rw [M.bind_ok hx]; rfl

theorem quantifyBodyG_eq (foa iteX : Int → Int → Int → M Int) (u : Int) (qvars : List Key) (fa : Bool) :
    quantifyBodyG foa iteX u qvars fa = M.get >>= fun m0 =>
      liftE (mapToLevelE m0.tbl qvars) >>= fun lv =>
      quantifyFG foa iteX lv fa (m0.nvars + 2) u (sortNat (dedup lv)) {} >>= fun rc => pure rc.1 := by
  funext m
  unfold quantifyBodyG
  rw [M.get_bind]
  rcases mapToLevelE m.tbl qvars with e | lv
  · rfl
  dsimp only
  show _ = (quantifyFG foa iteX lv fa (m.nvars + 2) u (sortNat (dedup lv)) {} >>= _) m
  rcases hx : quantifyFG foa iteX lv fa (m.nvars + 2) u (sortNat (dedup lv)) {} m with ⟨e | rc, m1⟩
  · rw [M.bind_err hx]
  · rw [M.bind_ok hx]; rfl

theorem composeBodyG_eq (foa iteX : Int → Int → Int → M Int) (f : Int) (varSub : List (String × Int)) :
    composeBodyG foa iteX f varSub = M.get >>= fun m0 =>
      match varSub with
      | [(v, g)] =>
        liftE (levelOfVarE m0.tbl v) >>= fun j =>
        composeFG foa iteX j (2 * m0.nvars + 4) f g {} >>= fun rc => pure rc.1
      | _ =>
        liftE (mapME (subLevelE m0.tbl) varSub) >>= fun sub =>
        vectorComposeFG foa iteX sub (m0.nvars + 2) f {} >>= fun rc => pure rc.1 := by
  funext m
  rw [M.get_bind]
  split
  · next v g =>
    unfold composeBodyG
    dsimp only
    rcases levelOfVarE m.tbl v with e | j
    · rfl
    dsimp only
    show _ = (composeFG foa iteX j (2 * m.nvars + 4) f g {} >>= _) m
    rcases hx : composeFG foa iteX j (2 * m.nvars + 4) f g {} m with ⟨e | rc, m1⟩
    · rw [M.bind_err hx]
    · rw [M.bind_ok hx]; rfl
  · next hne =>
    unfold composeBodyG
    split
    · next v g => exact absurd rfl (hne v g)
    rcases mapME (subLevelE m.tbl) varSub with e | sub
    · rfl
    dsimp only
    show _ = (vectorComposeFG foa iteX sub (m.nvars + 2) f {} >>= _) m
    rcases hx : vectorComposeFG foa iteX sub (m.nvars + 2) f {} m with ⟨e | rc, m1⟩
    · rw [M.bind_err hx]
    · rw [M.bind_ok hx]; rfl

theorem renameBodyG_eq (foa iteX : Int → Int → Int → M Int) (u : Int) (dvars : List (String × String)) :
    renameBodyG foa iteX u dvars = M.get >>= fun m0 =>
      if !m0.mem u then M.throw .value else
      if dvars.isEmpty then pure u else
      liftE (renameMap m0.tbl dvars) >>= fun lm =>
      copyBddFG foa iteX none lm (m0.nvars + 2) u {} >>= fun rc => pure rc.1 := by
  funext m
  unfold renameBodyG
  rw [M.get_bind]
  split
  · rfl
  split
  · rfl
  rcases renameMap m.tbl dvars with e | lm
  · rfl
  dsimp only
  show _ = (copyBddFG foa iteX none lm (m.nvars + 2) u {} >>= _) m
  rcases hx : copyBddFG foa iteX none lm (m.nvars + 2) u {} m with ⟨e | rc, m1⟩
  · rw [M.bind_err hx]
  · rw [M.bind_ok hx]; rfl

theorem copyBddBodyG_eq (foa iteX : Int → Int → Int → M Int) (src : Tbl) (u : Int) :
    copyBddBodyG foa iteX src u = M.get >>= fun m0 =>
      copyBddFG foa iteX (some src) (copyMap src m0.tbl) (src.nvars + 2) u {} >>= fun rc => pure rc.1 := by
  funext m
  unfold copyBddBodyG
  rw [M.get_bind]
  rcases hx : copyBddFG foa iteX (some src) (copyMap src m.tbl) (src.nvars + 2) u {} m with ⟨e | rc, m1⟩
  · rw [M.bind_err hx]
  · rw [M.bind_ok hx]; rfl

section
variable {C : ∀ {α : Type}, M α → Prop} (hC : SeqClosed C)
include hC

theorem forIn_seq {α β : Type} (f : α → β → M (ForInStep β)) (hf : ∀ a b, C (f a b)) :
    ∀ (l : List α) (b : β), C (forIn l b f : M β)
  | [], b => hC.pure b
  | a :: rest, b => by
    rw [List.forIn_cons]
    refine hC.bind (hf a b) fun r => ?_
    cases r with
    | done b' => exact hC.pure b'
    | yield b' => exact forIn_seq f hf rest b'

theorem cubeBodyG_seq (varX : String → M Int) (applyX : String → Int → Option Int → Option Int → M Int)
    (hv : ∀ name, C (varX name)) (ha : ∀ op u v w, C (applyX op u v w)) (dvars : List (String × Bool)) :
    C (cubeBodyG varX applyX dvars) :=
  hC.bind (forIn_seq hC _ (fun _ _ => hC.bind (hv _) fun _ => hC.bind (ha _ _ _ _) fun _ => hC.pure _)
    dvars 1) fun r => hC.pure r

variable (foa iteX : Int → Int → Int → M Int)

theorem cofactorBodyG_seq (hfoa : ∀ i v w, C (foa i v w)) (u : Int) (values : List (Key × Bool)) :
    C (cofactorBodyG foa u values) := by
  rw [cofactorBodyG_eq]
  exact hC.read (fun _ => hC.bind (hC.liftP (mapToLevelE_plain _ _)) fun _ =>
    hC.ite _ (hC.raise _)
      (hC.bind (cofactorFG_seq hC foa hfoa _ _ _ _ _) fun _ => hC.pure _))

theorem quantifyBodyG_seq (hfoa : ∀ i v w, C (foa i v w)) (hite : ∀ g u v, C (iteX g u v)) (u : Int)
    (qvars : List Key) (fa : Bool) : C (quantifyBodyG foa iteX u qvars fa) := by
  rw [quantifyBodyG_eq]
  exact hC.read (fun _ => hC.bind (hC.liftP (mapToLevelE_plain _ _)) fun _ =>
    hC.bind (quantifyFG_seq hC foa iteX hfoa hite _ _ _ _ _ _) fun _ => hC.pure _)

theorem composeBodyG_seq (hfoa : ∀ i v w, C (foa i v w)) (hite : ∀ g u v, C (iteX g u v)) (f : Int)
    (varSub : List (String × Int)) : C (composeBodyG foa iteX f varSub) := by
  rw [composeBodyG_eq]
  refine hC.read fun m0 => ?_
  split
  · exact hC.bind (hC.liftP (levelOfVarE_plain _ _)) fun _ =>
      hC.bind (composeFG_seq hC foa iteX hfoa hite _ _ _ _ _) fun _ => hC.pure _
  · exact hC.bind (hC.liftP fun s hs => mapME_plain _ (fun vg => subLevelE_plain _ vg s hs) _) fun _ =>
      hC.bind (vectorComposeFG_seq hC foa iteX (fun j => hfoa j (-1) 1) hite _ _ _ _) fun _ => hC.pure _

theorem renameBodyG_seq (hvar : ∀ j : Nat, C (foa j (-1) 1)) (hite : ∀ g u v, C (iteX g u v)) (u : Int)
    (dvars : List (String × String)) : C (renameBodyG foa iteX u dvars) := by
  rw [renameBodyG_eq]
  exact hC.read (fun _ => hC.ite _ (hC.raise _) (hC.ite _ (hC.pure _)
    (hC.bind (hC.liftP (renameMap_plain _ _)) fun _ =>
    hC.bind (copyBddFG_seq hC foa iteX hvar hite _ _ _ _ _) fun _ => hC.pure _)))

theorem copyBddBodyG_seq (hvar : ∀ j : Nat, C (foa j (-1) 1)) (hite : ∀ g u v, C (iteX g u v))
    (src : Tbl) (u : Int) : C (copyBddBodyG foa iteX src u) := by
  rw [copyBddBodyG_eq]
  exact hC.read fun _ => hC.bind (copyBddFG_seq hC foa iteX hvar hite _ _ _ _ _) fun _ => hC.pure _

omit foa iteX in
theorem addInt_seq (i : Int) : C (addInt i) :=
  hC.read (fun _ => hC.ite _ (hC.bind (hC.raise _) fun _ => hC.pure _)
    (hC.pure _))

omit foa iteX in
theorem evalAstG_seq (varX : String → M Int) (applyX : String → Int → Option Int → Option Int → M Int)
    (quantX : Int → List Key → Bool → M Int) (renameX : Int → List (String × String) → M Int)
    (hv : ∀ x, C (varX x)) (ha : ∀ op u v w, C (applyX op u v w)) (hq : ∀ u q fa, C (quantX u q fa))
    (hr : ∀ u d, C (renameX u d)) : ∀ t : Ast, C (evalAstG varX applyX quantX renameX t)
  | .var x => hv x
  | .bool _ => hC.pure _
  | .num _ _ => addInt_seq hC _
  | .not e => hC.bind (evalAstG_seq varX applyX quantX renameX hv ha hq hr e) fun _ => ha _ _ _ _
  | .bin _ l r => hC.bind (evalAstG_seq varX applyX quantX renameX hv ha hq hr l) fun _ =>
      hC.bind (evalAstG_seq varX applyX quantX renameX hv ha hq hr r) fun _ => ha _ _ _ _
  | .ite a b c => hC.bind (evalAstG_seq varX applyX quantX renameX hv ha hq hr a) fun _ =>
      hC.bind (evalAstG_seq varX applyX quantX renameX hv ha hq hr b) fun _ =>
      hC.bind (evalAstG_seq varX applyX quantX renameX hv ha hq hr c) fun _ => ha _ _ _ _
  | .quant _ _ e => hC.bind (evalAstG_seq varX applyX quantX renameX hv ha hq hr e) fun _ => hq _ _ _
  | .subst _ e => hC.bind (evalAstG_seq varX applyX quantX renameX hv ha hq hr e) fun _ => hr _ _

omit foa iteX in
theorem evalForestG_seq (ev : Ast → M Int) (hev : ∀ t, C (ev t)) : ∀ ts : List Ast, C (evalForestG ev ts)
  | [] => hC.pure ()
  | t :: ts => hC.bind (hev t) fun _ => evalForestG_seq ev hev ts

omit foa iteX in
theorem addExprToksG_seq (ev : Ast → M Int) (hev : ∀ t, C (ev t)) (toks : List Tok) :
    C (addExprToksG ev toks) := by
  unfold addExprToksG
  cases parseE toks with
  | ok t => exact hev t
  | error fe =>
    exact hC.bind (evalForestG_seq hC ev hev fe.1) fun _ =>
      hC.throw _ (PErr.toErr_plain _ _ (Or.inl rfl)) (PErr.toErr_plain _ _ (Or.inr rfl))

end

end DD
