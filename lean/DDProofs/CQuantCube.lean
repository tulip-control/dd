/-
  DDProofs.CQuantCube — the two ways in which the back ends obtain the variables of the
  quantifier spellings of `apply` (`'\A'`, `'\E'`, `'forall'`, `'exists'`), compared on Boolean
  functions:

  * `dd.bdd` and `dd.cudd_zdd` quantify the second operand over `support(u)`;
  * `dd.cudd` and `dd.sylvan` pass `u.node` itself as the CUBE argument of
    `Cudd_bddExistAbstract(f, cube)` / `sylvan_exists(a, variables)`, whose documented meaning is:
    abstract the variables that occur in the positive cube.

  A positive cube `x₁ ∧ … ∧ xₙ` depends exactly on `x₁ … xₙ` (`dependsOn_cubeOf`), and
  quantifying over a list of variables only depends on which variables occur in it
  (`quantL_congr`): for a cube the two readings coincide (`quant_cube_eq_support`).
-/
import DDProofs.QuantSem
namespace DD.CQuant

abbrev Asg := Nat → Bool
abbrev BFun := Asg → Bool

def upd (a : Asg) (x : Nat) (b : Bool) : Asg := fun y => if y = x then b else a y

/-- one variable quantified -/
def quant1 (fa : Bool) (x : Nat) (f : BFun) : BFun := fun a =>
  if fa then f (upd a x false) && f (upd a x true) else f (upd a x false) || f (upd a x true)

/-- the variables of a list quantified, one after the other -/
def quantL (fa : Bool) : List Nat → BFun → BFun
  | [], f => f
  | x :: xs, f => quant1 fa x (quantL fa xs f)

/-- the positive cube of a list of variables -/
def cubeOf (S : List Nat) : BFun := fun a => S.all a

/-- `f` depends on the variable `x` (`x` is in the support of `f`) -/
def DependsOn (f : BFun) (x : Nat) : Prop := ∃ a : Asg, f (upd a x (!a x)) ≠ f a

theorem upd_same (a : Asg) (x : Nat) (b : Bool) : upd a x b x = b := by simp [upd]

theorem upd_other (a : Asg) (x y : Nat) (b : Bool) (h : y ≠ x) : upd a x b y = a y := by simp [upd, h]

theorem all_upd_of_not_mem (S : List Nat) (a : Asg) (x : Nat) (b : Bool) (h : x ∉ S) :
    S.all (upd a x b) = S.all a := by
  induction S with
  | nil => rfl
  | cons y ys ih =>
    have hy : y ≠ x := fun e => h (by simp [e])
    have hys : x ∉ ys := fun e => h (by simp [e])
    simp only [List.all_cons, upd_other a x y b hy, ih hys]

theorem dependsOn_cubeOf (S : List Nat) (x : Nat) : DependsOn (cubeOf S) x ↔ x ∈ S := by
  constructor
  · intro ⟨a, ha⟩
    apply Classical.byContradiction
    intro hx
    exact ha (all_upd_of_not_mem S a x _ hx)
  · intro hx
    refine ⟨fun _ => true, ?_⟩
    have h1 : cubeOf S (fun _ => true) = true := by
      simp [cubeOf]
    have h2 : cubeOf S (upd (fun _ => true) x (!true)) = false := by
      simp only [cubeOf]
      apply Bool.eq_false_iff.mpr
      intro hall
      have := List.all_eq_true.mp hall x hx
      simp [upd] at this
    rw [h1, h2]
    simp

/-- iterating `quant1` over a list computes `qsem`, the quantification of the BDD development -/
theorem quantL_iff_qsem (fa : Bool) (S : List Nat) (f : BFun) (a : Asg) :
    quantL fa S f a = true ↔ qsem fa S f a := by
  induction S generalizing a with
  | nil => exact (qsem_nil fa f a).symm
  | cons x xs ih =>
    rw [qsem_cons]
    cases fa
    · simp only [quantL, quant1, Bool.false_eq_true, ↓reduceIte, Bool.or_eq_true, ih]; rfl
    · simp only [quantL, quant1, ↓reduceIte, Bool.and_eq_true, ih]; rfl

theorem quantL_exists (S : List Nat) (f : BFun) (a : Asg) :
    quantL false S f a = true ↔ ∃ b : Asg, (∀ y, y ∉ S → b y = a y) ∧ f b = true :=
  quantL_iff_qsem false S f a

theorem quantL_forall (S : List Nat) (f : BFun) (a : Asg) :
    quantL true S f a = true ↔ ∀ b : Asg, (∀ y, y ∉ S → b y = a y) → f b = true :=
  quantL_iff_qsem true S f a

theorem quantL_congr (fa : Bool) (S L : List Nat) (h : ∀ x, x ∈ L ↔ x ∈ S) (f : BFun) :
    quantL fa L f = quantL fa S f :=
  funext fun a => Bool.eq_iff_iff.mpr <|
    (quantL_iff_qsem fa L f a).trans <| (qsem_congr fa L S h f a).trans (quantL_iff_qsem fa S f a).symm

/-- For a positive cube `u = cubeOf S`: quantifying `v` over the variables of the cube (the
reading of `dd.cudd` / `dd.sylvan`) is quantifying `v` over any list `L` of the support of `u`
(the reading of `dd.bdd` / `dd.cudd_zdd`). -/
theorem quant_cube_eq_support (fa : Bool) (S L : List Nat) (v : BFun)
    (hL : ∀ x, x ∈ L ↔ DependsOn (cubeOf S) x) :
    quantL fa S v = quantL fa L v :=
  (quantL_congr fa S L (fun x => (hL x).trans (dependsOn_cubeOf S x)) v).symm

/-- not every operand is a cube: `x₀ ∨ x₁` is not -/
theorem or_not_cube (S : List Nat) : cubeOf S ≠ fun a => a 0 || a 1 := by
  intro h
  cases S with
  | nil =>
    have := congrFun h (fun _ => false)
    simp [cubeOf] at this
  | cons y ys =>
    by_cases hy : y = 0
    · have := congrFun h (fun z => decide (z = 1))
      simp [cubeOf, hy] at this
    · have := congrFun h (fun z => decide (z = 0))
      simp [cubeOf, hy] at this

end DD.CQuant
