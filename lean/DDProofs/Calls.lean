/-
  DDProofs.Calls — what a history is made of.  The calls of the public interface with ARBITRARY
  arguments (`UOp`; `UOp2` adds the explicit reorderings and `undeclare_vars`, `UOp3` adds
  `configure`), their interpreters (`runOp…`), the ghost ledger of the references the user holds
  (`ledger…`), the documented caller obligations that the code does not check (`OpGuard…`; for a
  reordering call with a recorded iteration order also: the model does not report that order as
  impossible, which is about the model and no obligation of the caller), and the
  run of a list of calls from a state `St` (`step…`, `run…`, `Ops…Guarded`, `results…`).
  Definitions only: what every call keeps is proved in DDProofs.Reach, Reach2, Reach3.
-/
import DD.Apply
import DDProofs.Total
import DDProofs.RefCount
open Std

namespace DD

inductive Res
  | ref (u : Int)
  | lvl (n : Nat)
  | unit
deriving Repr, DecidableEq, Inhabited

/-- the public surface covered by the "every history" theorems; ARBITRARY arguments -/
inductive UOp
  | declare (name : String) (level : Option Int)          -- `add_var(name, level=None)`
  | var (name : String)                                   -- `bdd.var(name)`
  | findOrAdd (i : Int) (v w : Int)                       -- `find_or_add(i, v, w)`
  | ite (g u v : Int)                                     -- `bdd.ite(g, u, v)`
  | apply (op : String) (u : Int) (v w : Option Int)      -- `bdd.apply(op, u, v, w)`: any string, any arity
  | neg (u : Int)                                         -- `bdd.apply('not', u)`
  | cofactor (u : Int) (values : List (Key × Bool))       -- `bdd.cofactor(u, values)` / `let` with Booleans
  | quantify (u : Int) (qvars : List Key) (forall_ : Bool) -- `bdd.quantify` / `exist` / `forall`
  | compose (f : Int) (varSub : List (String × Int))      -- `bdd.compose(f, var_sub)` / `let` with nodes
  | rename (u : Int) (dvars : List (String × String))     -- `bdd.rename(u, dvars)` / `let` with names
  | let_ (d : LetArg) (u : Int)                           -- `bdd.let(definitions, u)`
  | incref (u : Int)
  | decref (u : Int)
  | collectGarbage
deriving Inhabited

def mapRes {α : Type} (f : α → Res) (x : Except Err α × Mgr) : Except Err Res × Mgr :=
  (match x.1 with
    | .ok a => .ok (f a)
    | .error e => .error e, x.2)

def runOp : UOp → Mgr → Except Err Res × Mgr
  | .declare name level, m => mapRes .lvl (addVar name level m)
  | .var name, m => mapRes .ref (var name m)
  | .findOrAdd i v w, m => mapRes .ref (findOrAdd i v w m)
  | .ite g u v, m => mapRes .ref (ite g u v m)
  | .apply op u v w, m => mapRes .ref (apply op u v w m)
  | .neg u, m => mapRes .ref (apply "not" u none none m)
  | .cofactor u values, m => mapRes .ref (cofactor u values m)
  | .quantify u qvars fa, m => mapRes .ref (quantify u qvars fa m)
  | .compose f varSub, m => mapRes .ref (compose f varSub m)
  | .rename u dvars, m => mapRes .ref (rename u dvars m)
  | .let_ d u, m => mapRes .ref (letOp d u m)
  | .incref u, m => mapRes (fun _ => .unit) (incref u m)
  | .decref u, m => mapRes (fun _ => .unit) (decref u m)
  | .collectGarbage, m => mapRes (fun _ => .unit) (collectGarbage none m)

/-- the operations wrapped by the decorator `_try_to_reorder` -/
def UOp.decorated : UOp → Bool
  | .var _ | .ite _ _ _ | .apply _ _ _ _ | .neg _ | .cofactor _ _ | .quantify _ _ _
  | .compose _ _ | .rename _ _ | .let_ _ _ => true
  | _ => false

/-- the ghost ledger of references the user holds: changed by the user's own
`incref` / `decref` of an existing node only -/
def ledger : UOp → Mgr → (Nat → Nat) → (Nat → Nat)
  | .incref u, m, ext => if m.mem u then extInc ext u.natAbs else ext
  | .decref u, m, ext => if m.mem u then extDec ext u.natAbs else ext
  | _, _, ext => ext

/-- the documented caller obligations that the code does not check -/
def OpGuard (m : Mgr) (ext : Nat → Nat) : UOp → Prop
  | .findOrAdd i v w => 0 ≤ i → FoaGuard m i.toNat v w
  | .decref u => m.tbl.Mem u → 0 < ext u.natAbs
  | .declare name level =>
    match level with
    | none => True
    | some l => m.tbl.vars[name]? = none → l ≤ (m.nvars : Int)
  | _ => True

instance (m : Mgr) (i : Nat) (v w : Int) : Decidable (FoaGuard m i v w) := by
  unfold FoaGuard; infer_instance

instance (m : Mgr) (ext : Nat → Nat) (op : UOp) : Decidable (OpGuard m ext op) := by
  cases op with
  | declare name level =>
    cases level with
    | none => exact isTrue trivial
    | some l => simp only [OpGuard]; infer_instance
  | findOrAdd i v w => simp only [OpGuard]; infer_instance
  | decref u => simp only [OpGuard]; infer_instance
  | _ => exact isTrue trivial

/-- a state of a history: the manager and the user's ledger -/
structure St where
  m : Mgr
  ext : Nat → Nat

def St.init : St := ⟨{}, fun _ => 0⟩

def step (op : UOp) (s : St) : St := ⟨(runOp op s.m).2, ledger op s.m s.ext⟩

def run : List UOp → St → St
  | [], s => s
  | op :: ops, s => run ops (step op s)

/-- every call of the history respects the caller obligations at the state it is issued in -/
def OpsGuarded : List UOp → St → Prop
  | [], _ => True
  | op :: ops, s => OpGuard s.m s.ext op ∧ OpsGuarded ops (step op s)

/-- the answers of the calls of a history, in order -/
def results : List UOp → St → List (Except Err Res)
  | [], _ => []
  | op :: ops, s => (runOp op s.m).1 :: results ops (step op s)

instance decOpsGuarded : (ops : List UOp) → (s : St) → Decidable (OpsGuarded ops s)
  | [], _ => isTrue trivial
  | op :: ops, s => by
    unfold OpsGuarded
    exact @instDecidableAnd _ _ _ (decOpsGuarded ops (step op s))

/-- the user operations `UOp` plus explicit reorderings and `undeclare_vars` -/
inductive UOp2
  | base (op : UOp)
  | swap (sch : List SchedItem) (x y : VarOrLevel)                  -- `bdd.swap(x, y)`
  | sift (sch : List SchedItem)                                     -- `reorder(bdd)`
  | reorderTo (sch : List SchedItem) (order : List (String × Int))  -- `reorder(bdd, order)`
  | undeclare (vrs : List String)                                   -- `bdd.undeclare_vars(*vrs)`
deriving Inhabited

/-- run `f` with the recorded iteration orders `sch`; what is left of them is dropped -/
def withSched {α : Type} (sch : List SchedItem) (f : M α) (g : α → Res) (m : Mgr) :
    Except Err Res × Mgr :=
  ((mapRes g (f { m with sched := sch })).1, { (f { m with sched := sch }).2 with sched := [] })

def runOp2 : UOp2 → Mgr → Except Err Res × Mgr
  | .base op, m => runOp op m
  | .swap sch x y, m => withSched sch (swap x y false) (fun _ => .unit) m
  | .sift sch, m => withSched sch (reorder none) (fun _ => .unit) m
  | .reorderTo sch o, m => withSched sch (reorder (some o)) (fun _ => .unit) m
  | .undeclare vrs, m => mapRes (fun _ => .unit) (undeclareVars vrs m)

/-- the ghost ledger: only the user's own `incref` / `decref` change it -/
def ledger2 : UOp2 → Mgr → (Nat → Nat) → (Nat → Nat)
  | .base op, m, ext => ledger op m ext
  | _, _, ext => ext

def UOp2.decorated : UOp2 → Bool
  | .base b => b.decorated
  | _ => false

/-- the model's report that a recorded iteration order is impossible -/
def isSchedErr {α : Type} : Except Err α → Bool
  | .error .sched => true
  | _ => false

/-- the caller obligations of the embedded operations (`OpGuard`); for the reordering calls
only: the recorded iteration orders are possible ones -/
def OpGuard2 (m : Mgr) (ext : Nat → Nat) : UOp2 → Prop
  | .base op => OpGuard m ext op
  | .swap sch x y => isSchedErr (swap x y false { m with sched := sch }).1 = false
  | .sift sch => isSchedErr (reorder none { m with sched := sch }).1 = false
  | .reorderTo sch o => isSchedErr (reorder (some o) { m with sched := sch }).1 = false
  | .undeclare _ => True

instance (m : Mgr) (ext : Nat → Nat) (op : UOp2) : Decidable (OpGuard2 m ext op) := by
  cases op <;> simp only [OpGuard2] <;> infer_instance

def step2 (op : UOp2) (s : St) : St := ⟨(runOp2 op s.m).2, ledger2 op s.m s.ext⟩

def run2 : List UOp2 → St → St
  | [], s => s
  | op :: ops, s => run2 ops (step2 op s)

/-- every call of the history respects the obligations at the state it is issued in -/
def Ops2Guarded : List UOp2 → St → Prop
  | [], _ => True
  | op :: ops, s => OpGuard2 s.m s.ext op ∧ Ops2Guarded ops (step2 op s)

/-- the answers of the calls of a history, in order -/
def results2 : List UOp2 → St → List (Except Err Res)
  | [], _ => []
  | op :: ops, s => (runOp2 op s.m).1 :: results2 ops (step2 op s)

instance decOps2Guarded : (ops : List UOp2) → (s : St) → Decidable (Ops2Guarded ops s)
  | [], _ => isTrue trivial
  | op :: ops, s => by
    unfold Ops2Guarded
    exact @instDecidableAnd _ _ _ (decOps2Guarded ops (step2 op s))

inductive UOp3
  | op (o : UOp2)
  | configure (reordering : Bool)                 -- `bdd.configure(reordering=...)`
deriving Inhabited

def runOp3 : UOp3 → Mgr → Except Err Res × Mgr
  | .op o, m => runOp2 o m
  | .configure b, m => mapRes (fun _ => .unit) (configure (some b) m)

def ledger3 : UOp3 → Mgr → (Nat → Nat) → (Nat → Nat)
  | .op o, m, ext => ledger2 o m ext
  | .configure _, _, ext => ext

/-- the obligations of `UOp2` — nothing else -/
def OpGuard3 (m : Mgr) (ext : Nat → Nat) : UOp3 → Prop
  | .op o => OpGuard2 m ext o
  | .configure _ => True

instance (m : Mgr) (ext : Nat → Nat) (op : UOp3) : Decidable (OpGuard3 m ext op) := by
  cases op <;> simp only [OpGuard3] <;> infer_instance

def step3 (op : UOp3) (s : St) : St := ⟨(runOp3 op s.m).2, ledger3 op s.m s.ext⟩

def run3 : List UOp3 → St → St
  | [], s => s
  | op :: ops, s => run3 ops (step3 op s)

def Ops3Guarded : List UOp3 → St → Prop
  | [], _ => True
  | op :: ops, s => OpGuard3 s.m s.ext op ∧ Ops3Guarded ops (step3 op s)

def results3 : List UOp3 → St → List (Except Err Res)
  | [], _ => []
  | op :: ops, s => (runOp3 op s.m).1 :: results3 ops (step3 op s)

instance decOps3Guarded : (ops : List UOp3) → (s : St) → Decidable (Ops3Guarded ops s)
  | [], _ => isTrue trivial
  | op :: ops, s => by
    unfold Ops3Guarded
    exact @instDecidableAnd _ _ _ (decOps3Guarded ops (step3 op s))

end DD
