/-
  DDProofs.Canon — canonicity (the core of C02): two references of a reduced, ordered, unique
  table denote the same function iff they are equal (complemented edges included).
-/
import DDProofs.Sem
open Std

namespace DD

def upd (a : Asg) (i : Nat) (b : Bool) : Asg := fun j => if j = i then b else a j

@[simp] theorem upd_same (a : Asg) (i : Nat) (b : Bool) : upd a i b i = b := by simp [upd]
theorem upd_other (a : Asg) (i j : Nat) (b : Bool) (h : j ≠ i) : upd a i b j = a j := by simp [upd, h]

theorem upd_comm (a : Asg) (i j : Nat) (b c : Bool) (h : i ≠ j) :
    upd (upd a i b) j c = upd (upd a j c) i b := by
  funext k; unfold upd; by_cases h1 : k = j <;> by_cases h2 : k = i <;> simp [h1, h2] <;> omega

theorem upd_eq_self (a : Asg) (i : Nat) : upd a i (a i) = a := by
  funext k; unfold upd; by_cases h : k = i <;> simp [h]

theorem upd_upd_same (a : Asg) (v : Nat) (x y : Bool) : upd (upd a v x) v y = upd a v y := by
  funext k; unfold upd; by_cases h : k = v <;> simp [h]

structure WFU (m : Tbl) : Prop extends WF m where
  unique : ∀ u u' n, m.node? u = some n → m.node? u' = some n → u = u'

theorem den_indep (m : Tbl) (hw : WF m) (u : Int) (hm : m.Mem u) (i : Nat) (b : Bool) (a : Asg)
    (hi : i < m.levelOf u) : den m u (upd a i b) = den m u a := by
  revert hi
  refine ref_induction hw (fun u => i < m.levelOf u → den m u (upd a i b) = den m u a)
    (fun u h1 _ => by rw [den_terminal m h1, den_terminal m h1]) (fun u n h1 hn ihlo ihhi hi => ?_) u hm
  rw [levelOf_node m u n h1 hn] at hi
  rw [den_node m hw u n _ h1 hn, den_node m hw u n _ h1 hn,
    ihlo (Nat.lt_trans hi (hw.lo_lt _ _ hn)), ihhi (Nat.lt_trans hi (hw.hi_lt _ _ hn)),
    upd_other _ _ _ _ (Nat.ne_of_gt hi)]

theorem den_alltrue (m : Tbl) (hw : WF m) (u : Int) (hm : m.Mem u) :
    den m u (fun _ => true) = decide (0 < u) := by
  refine ref_induction hw (fun u => den m u (fun _ => true) = decide (0 < u))
    (fun u h1 => den_terminal m h1 _) (fun u n h1 hn _ ihhi => ?_) u hm
  have hu0 : u ≠ 0 := mem_ne_zero hw (Or.inr (Option.isSome_iff_exists.mpr ⟨n, hn⟩))
  rw [den_node m hw u n _ h1 hn, if_pos rfl, ihhi, decide_eq_true (hw.hi_pos _ _ hn)]
  -- the high edge is regular, so the sign of `u` alone decides
  rw [Bool.xor_true, ← decide_not]
  exact decide_eq_decide.mpr (by omega)

theorem pos_of_den_alltrue (t : Tbl) (hw : WF t) (r : Int) (hr : t.Mem r)
    (h : den t r (fun _ => true) = true) : 0 < r :=
  of_decide_eq_true ((den_alltrue t hw r hr).symm.trans h)

theorem den_hi_eq (m : Tbl) (hw : WF m) (u : Int) (n : Nd) (hpos : 0 < u) (h1 : u.natAbs ≠ 1)
    (hn : m.node? u.natAbs = some n) (a : Asg) :
    den m n.hi a = den m u (upd a n.lvl true) := by
  rw [den_node m hw u n _ h1 hn, decide_eq_false (Int.not_lt.mpr (Int.le_of_lt hpos)), Bool.false_xor,
    upd_same, if_pos rfl]
  exact (den_indep m hw n.hi (hw.hi_mem _ _ hn) n.lvl true a (hw.hi_lt _ _ hn)).symm

theorem den_lo_eq (m : Tbl) (hw : WF m) (u : Int) (n : Nd) (hpos : 0 < u) (h1 : u.natAbs ≠ 1)
    (hn : m.node? u.natAbs = some n) (a : Asg) :
    den m n.lo a = den m u (upd a n.lvl false) := by
  rw [den_node m hw u n _ h1 hn, decide_eq_false (Int.not_lt.mpr (Int.le_of_lt hpos)), Bool.false_xor,
    upd_same, if_neg Bool.false_ne_true]
  exact (den_indep m hw n.lo (hw.lo_mem _ _ hn) n.lvl false a (hw.lo_lt _ _ hn)).symm

/-- canonicity for the pairs of references whose smaller level is within `k` of the bottom -/
abbrev CanonAt (m : Tbl) (k : Nat) : Prop :=
  ∀ u v, m.Mem u → m.Mem v → m.nvars < k + min (m.levelOf u) (m.levelOf v) →
    (∀ a, den m u a = den m v a) → u = v

/-- a positive node cannot equal a reference that starts strictly below its level: its two
cofactors would be equal -/
theorem canon_lt (m : Tbl) (hw : WFU m) (k : Nat) (ih : CanonAt m k)
    (u v : Int) (n : Nd) (hpos : 0 < u) (h1 : u.natAbs ≠ 1) (hn : m.node? u.natAbs = some n)
    (hv : m.Mem v) (hlt : n.lvl < m.levelOf v)
    (hb : m.nvars < k + 1 + n.lvl) (he : ∀ a, den m u a = den m v a) : False := by
  have hW := hw.toWF
  have : n.hi = n.lo := by
    apply ih n.hi n.lo (hW.hi_mem _ _ hn) (hW.lo_mem _ _ hn)
    · have := hW.hi_lt _ _ hn
      have := hW.lo_lt _ _ hn
      omega
    · intro a
      rw [den_hi_eq m hW u n hpos h1 hn a, den_lo_eq m hW u n hpos h1 hn a, he, he,
        den_indep m hW v hv n.lvl true a hlt, den_indep m hW v hv n.lvl false a hlt]
  exact hW.lo_ne_hi _ _ hn this.symm

theorem canon_le (m : Tbl) (hw : WFU m) (k : Nat) (ih : CanonAt m k)
    (u v : Int) (hu : 0 < u) (hv : 0 < v) (hmu : m.Mem u) (hmv : m.Mem v)
    (hle : m.levelOf u ≤ m.levelOf v) (hb : m.nvars < k + 1 + m.levelOf u)
    (he : ∀ a, den m u a = den m v a) : u = v := by
  have hW := hw.toWF
  have hvn : ∀ nv, v.natAbs ≠ 1 → m.node? v.natAbs = some nv → m.levelOf v < m.nvars :=
    fun nv hv1 hnv => by rw [levelOf_node m v nv hv1 hnv]; exact hW.lvl_lt _ _ hnv
  rcases hmu.term_or_node with hu1 | ⟨nu, hu1, hnu⟩
  · rw [levelOf_term m u hu1] at hle
    rcases hmv.term_or_node with hv1 | ⟨nv, hv1, hnv⟩
    · omega
    · exact absurd (hvn nv hv1 hnv) (Nat.not_lt.mpr hle)
  · rw [levelOf_node m u nu hu1 hnu] at hle hb
    rcases Nat.lt_or_eq_of_le hle with hlt | heq
    · exact (canon_lt m hw k ih u v nu hu hu1 hnu hmv hlt hb he).elim
    · rcases hmv.term_or_node with hv1 | ⟨nv, hv1, hnv⟩
      · have := levelOf_term m v hv1
        have := hW.lvl_lt _ _ hnu
        omega
      · rw [levelOf_node m v nv hv1 hnv] at heq
        have hhi : nu.hi = nv.hi := by
          apply ih nu.hi nv.hi (hW.hi_mem _ _ hnu) (hW.hi_mem _ _ hnv)
          · have := hW.hi_lt _ _ hnu; have := hW.hi_lt _ _ hnv; omega
          · intro a
            rw [den_hi_eq m hW u nu hu hu1 hnu a, den_hi_eq m hW v nv hv hv1 hnv a, heq, he]
        have hlo : nu.lo = nv.lo := by
          apply ih nu.lo nv.lo (hW.lo_mem _ _ hnu) (hW.lo_mem _ _ hnv)
          · have := hW.lo_lt _ _ hnu; have := hW.lo_lt _ _ hnv; omega
          · intro a
            rw [den_lo_eq m hW u nu hu hu1 hnu a, den_lo_eq m hW v nv hv hv1 hnv a, heq, he]
        have := hw.unique _ _ _ hnu (Nd.ext heq hlo hhi ▸ hnv)
        omega

theorem canon_all (m : Tbl) (hw : WFU m) : ∀ k, CanonAt m k := by
  have hW := hw.toWF
  intro k
  induction k with
  | zero => intro u v _ _ hb _; have := levelOf_le m hW u; omega
  | succ k ih =>
    intro u v hmu hmv hb he
    have hpos : ∀ u v, 0 < u → 0 < v → m.Mem u → m.Mem v →
        m.nvars < k + 1 + min (m.levelOf u) (m.levelOf v) → (∀ a, den m u a = den m v a) → u = v := by
      intro u v hu hv hmu hmv hb he
      rcases Nat.le_total (m.levelOf u) (m.levelOf v) with hle | hle
      · exact canon_le m hw k ih u v hu hv hmu hmv hle (by omega) he
      · exact (canon_le m hw k ih v u hv hu hmv hmu hle (by omega) fun a => (he a).symm).symm
    -- equal signs by the all-true assignment (high edges are regular), then the regular case
    -- `hpos` on the levels in either order
    have hs1 := den_alltrue m hW u hmu
    have hs2 := den_alltrue m hW v hmv
    rw [he] at hs1
    have hsign : decide (0 < u) = decide (0 < v) := hs1.symm.trans hs2
    have hu0 := mem_ne_zero hW hmu
    have hv0 := mem_ne_zero hW hmv
    by_cases hp : 0 < u
    · exact hpos u v hp (by simpa [hp] using hsign) hmu hmv (by omega) he
    · have hpv : ¬ 0 < v := by simpa [hp] using hsign
      have : -u = -v := by
        apply hpos (-u) (-v) (by omega) (by omega) (mem_neg hmu) (mem_neg hmv)
        · rw [levelOf_neg, levelOf_neg]; omega
        · intro a; rw [den_neg m hW u a hmu, den_neg m hW v a hmv, he]
      omega

theorem canonical (m : Tbl) (hw : WFU m) (u v : Int) (hu : m.Mem u) (hv : m.Mem v) :
    (∀ a, den m u a = den m v a) ↔ u = v := by
  constructor
  · exact canon_all m hw (m.nvars + 1) u v hu hv (by omega)
  · intro h; subst h; intro a; rfl

end DD
