/-
  DDProofs.CapacityDecorated — the public operations with `max_nodes = cap` (C17, capacity): for each,
  the twin over `findOrAdd` / `ite` IS the model's operation (`XG_model`), and the operation with
  capacity — ANY arguments, dynamic reordering enabled or not, whatever it returns or raises,
  `RuntimeError('full')` half-way included — is a row of `Decorated` (`XCap_decorated`): the
  instance `max_nodes = cap` of the body over ANY `find_or_add` / nested `ite` (`XBodyG_totE`,
  DDProofs.DynRejectedOps, DynRejectedExpr) at `findOrAddCap_foaX`, `iteCap_nestedX`.  The readings
  of `Decorated` then give `DynTotal` and the rest (DDProps.C17Capacity2, C17Capacity3).
-/
import DDProofs.CapacityIte
import DDProofs.DynRejectedExpr
import DDProofs.DynSubst
open Std

namespace DD

/-! ### `BDD.apply` with capacity, the operators that do not quantify: `apply` is a case analysis in
front of ONE call `self.ite(a, b, c)`, so everything about `iteCap` lifts through the relational
lemma on `applyG` (`applyG_rel`, DDProofs.ApplyProofs) -/

/-- reordering not enabled: the first attempt of `_ite` is never aborted, whatever the operands -/
theorem iteRaw_noSignal_off (m : Mgr) (hI : Inv m) (hoff : m.lastLen = none) (g u v : Int) :
    (iteRaw g u v { m with ctx := true }).1 ≠ .error .needsReordering :=
  fun he => ((iteRaw_totE { m with ctx := true } (hI.setCtx true) g u v).2 he).not_off hoff

/-- `BDD.ite` with capacity against `BDD.ite`, ARBITRARY integers, reordering not enabled -/
theorem iteCap_vs_ite_off (cap : Nat) (m : Mgr) (hI : Inv m) (hoff : m.lastLen = none) (g u v : Int) :
    (CapOK cap m (ite g u v m).2 → iteCap cap g u v m = ite g u v m) ∧
    (¬ CapOK cap m (ite g u v m).2 → (iteCap cap g u v m).1 = .error .runtime) :=
  ⟨tryToReorder_sim_first cap _ _ (iteCapRaw_sim cap g u v) m (iteRaw_noSignal_off m hI hoff g u v),
   fun hn => (tryToReorder_sim_first_full cap _ _ (iteCapRaw_sim cap g u v) m
     (iteRaw_noSignal_off m hI hoff g u v) hn).1⟩

/-- `BDD.apply` with capacity, operators that do not quantify, ANY arity and operands, dynamic
reordering enabled or not, whatever it returns or raises (`RuntimeError('full')` half-way
included): a row of `Decorated` -/
theorem applyCap_decorated (cap : Nat) (op : String) (u : Int) (v w : Option Int)
    (hnq : NonQuantOp op) (m : Mgr) : Decorated m (applyCap cap op u v w m) := by
  unfold applyCap
  exact applyG_rel (iteCap cap) (iteCap cap) quantify quantify op u v w m hnq
    (fun rc _ => Decorated m rc) .same (fun a b c => iteCap_decorated cap a b c m)

/-! ### `BDD.quantify` and the quantifier aliases of `apply`: the instance `max_nodes = cap` of the
body over ANY `find_or_add` / nested `ite` with three-outcome specifications (`quantifyBodyG_totE`) -/

theorem quantifyG_model : quantifyG findOrAdd ite = quantify := by
  funext u q fa
  unfold quantifyG quantify
  rw [quantifyBodyG_model]

theorem iteCap_nestedX (cap : Nat) : IteNestedX (fun e => e = .runtime) (iteCap cap) :=
  iteNestedX_of_raw (iteCapRaw cap) fun m g u v hI hg hu hv => iteCapRaw_outX cap m g u v hI hg hu hv

/-- `BDD.quantify` with capacity: ANY node, ANY names or levels, reordering enabled or not,
whatever it returns or raises (`RuntimeError('full')` half-way included): a row of `Decorated`
(`.total`: `DynTotal`) -/
theorem quantifyCap_decorated (cap : Nat) (u : Int) (qvars : List Key) (fa : Bool) (m : Mgr) :
    Decorated m (quantifyCap cap u qvars fa m) :=
  .body _ fun m0 hI hc => quantifyBodyG_totE _ _ _ (findOrAddCap_foaX cap) (iteCap_nestedX cap)
    m0 hI hc u qvars fa

/-- `BDD.apply` with capacity, EVERY operator (quantifier aliases included), ANY arity and
operands -/
theorem applyCapQ_decorated (cap : Nat) (op : String) (u : Int) (v w : Option Int) (m : Mgr) :
    Decorated m (applyCapQ cap op u v w m) :=
  applyG_rel_quant (iteCap cap) (iteCap cap) (quantifyCap cap) (quantifyCap cap) op u v w m
    (fun rc _ => Decorated m rc) .same (fun a b c => iteCap_decorated cap a b c m)
    (fun _ fa _ _ _ _ x q => quantifyCap_decorated cap x q fa m)

/-! ### `BDD.cofactor`, `let` with Boolean values -/

theorem cofactorG_model : cofactorG findOrAdd = cofactor := by
  funext u d
  unfold cofactorG cofactor
  rw [cofactorBodyG_model]

/-- `BDD.cofactor` with capacity: ANY node, ANY dictionary, whatever it returns or raises -/
theorem cofactorCap_decorated (cap : Nat) (u : Int) (values : List (Key × Bool)) (m : Mgr) :
    Decorated m (cofactorCap cap u values m) :=
  .body _ fun m0 hI _ => cofactorBodyG_totE _ _ (findOrAddCap_foaX cap) m0 hI u values

/-- `BDD.let({name: bool}, u)` with capacity -/
theorem letBoolsCap_decorated (cap : Nat) (d : List (Key × Bool)) (u : Int) (m : Mgr) :
    Decorated m (letBoolsG (cofactorCap cap) d u m) := by
  unfold letBoolsG
  split
  · exact .same _ nofun
  · exact cofactorCap_decorated cap u _ m

theorem letBoolsG_model (d : List (Key × Bool)) (u : Int) :
    letBoolsG cofactor d u = letOp (.bools d) u := by
  unfold letBoolsG letOp
  cases d <;> rfl

/-! ### `BDD.compose`, `let` with functions: `_vector_compose` only calls `ite` and the node of a
variable, both total on arbitrary integers -/

theorem composeG_model : composeG findOrAdd ite = compose := by
  funext f d
  unfold composeG compose
  rw [composeBodyG_model]

theorem letRefsG_model (d : List (String × Int)) (u : Int) :
    letRefsG compose d u = letOp (.refs d) u := by
  unfold letRefsG letOp
  cases d <;> rfl

/-- `BDD.compose` with capacity: ANY node, ANY dictionary, whatever it returns or raises -/
theorem composeCap_decorated (cap : Nat) (f : Int) (varSub : List (String × Int)) (m : Mgr) :
    Decorated m (composeCap cap f varSub m) :=
  .body _ fun m0 hI hc => composeBodyG_totE _ _ _ (findOrAddCap_foaX cap) (iteCap_nestedX cap)
    (findOrAddCap_varTotX cap) (iteCap_totX cap) m0 hI hc f varSub

theorem letRefsCap_decorated (cap : Nat) (d : List (String × Int)) (u : Int) (m : Mgr) :
    Decorated m (letRefsG (composeCap cap) d u m) := by
  unfold letRefsG
  split
  · exact .same _ nofun
  · exact composeCap_decorated cap u _ m

/-! ### `BDD.rename`, `let` with names, `copy_bdd` into a manager with capacity: `_copy_bdd` only calls
the node of a variable and the nested `ite` (`copyBddBodyG_totE`) -/

theorem renameG_model : renameG findOrAdd ite = rename := by
  funext u d
  unfold renameG rename
  rw [renameBodyG_model]

theorem copyBddG_model : copyBddG findOrAdd ite = copyBdd := by
  funext src u
  unfold copyBddG copyBdd
  rw [copyBddBodyG_model]

theorem letNamesG_model (d : List (String × String)) (u : Int) :
    letNamesG rename d u = letOp (.names d) u := by
  unfold letNamesG letOp
  cases d <;> rfl

/-- `BDD.rename` with capacity: ANY node, ANY renaming, whatever it returns or raises -/
theorem renameCap_decorated (cap : Nat) (u : Int) (dvars : List (String × String)) (m : Mgr) :
    Decorated m (renameCap cap u dvars m) :=
  .body _ fun m0 hI hc =>
    renameBodyG_totE _ _ (findOrAddCap_varTotX cap) (iteCap_totX cap) m0 hI hc u dvars

theorem letNamesCap_decorated (cap : Nat) (d : List (String × String)) (u : Int) (m : Mgr) :
    Decorated m (letNamesG (renameCap cap) d u m) := by
  unfold letNamesG
  split
  · exact .same _ nofun
  · exact renameCap_decorated cap u _ m

/-- `copy_bdd(u, from, to)` into a manager with `max_nodes = cap`: ANY source table, ANY node -/
theorem copyBddCap_decorated (cap : Nat) (src : Tbl) (u : Int) (m : Mgr) :
    Decorated m (copyBddCap cap src u m) :=
  .body _ fun m0 hI hc =>
    copyBddBodyG_totE _ _ (findOrAddCap_varTotX cap) (iteCap_totX cap) src m0 hI hc u

/-! ### `BDD.cube`: a loop of nested decorated calls, each total on arbitrary arguments -/

theorem varCap_nestedTot (cap : Nat) : VarNestedTot (varCap cap) :=
  fun m hI hc name => (varCap_decorated cap name m).nested hI hc

theorem quantifyCap_nestedTot (cap : Nat) : QuantNestedTot (quantifyCap cap) :=
  fun m hI hc b q fa => (quantifyCap_decorated cap b q fa m).nested hI hc

theorem applyCapQ_nestedTot (cap : Nat) : ApplyNestedTot (applyCapQ cap) :=
  fun m hI hc op u v w => (applyCapQ_decorated cap op u v w m).nested hI hc

/-- `BDD.cube` with capacity: ANY names (undeclared ones included), whatever it returns or raises -/
theorem cubeCap_decorated (cap : Nat) (dvars : List (String × Bool)) (m : Mgr) :
    Decorated m (cubeCap cap dvars m) :=
  .body _ fun m0 hI hc =>
    cubeBodyG_totE _ _ (varCap_nestedTot cap) (applyCapQ_nestedTot cap) m0 hI hc dvars

/-! ### `BDD.add_expr`: the evaluation of ANY syntax tree (and of the sub-formulas reduced before
a syntax error) is a sequence of nested decorated calls (`evalAstG_totE`) -/

theorem addExprG_model : addExprG (evalAstG var apply quantify rename) = addExpr := by
  funext s
  unfold addExprG addExpr
  rw [funext evalAstG_model, addExprToksG_model]

theorem renameCap_nestedTot (cap : Nat) : RenameNestedTot (renameCap cap) :=
  fun m hI hc u d => (renameCap_decorated cap u d m).nested hI hc

/-- `BDD.add_expr` with capacity: ANY text (syntax error at any token, undeclared variable, unknown
`@n`), whatever it returns or raises — refused half-way through the formula included -/
theorem addExprCap_decorated (cap : Nat) (s : String) (m : Mgr) :
    Decorated m (addExprCap cap s m) :=
  .body _ fun m0 hI hc => addExprToksG_totE _
    (evalAstG_totE _ _ _ _ (varCap_nestedTot cap) (applyCapQ_nestedTot cap)
      (quantifyCap_nestedTot cap) (renameCap_nestedTot cap)) (tokenize s) m0 hI hc

end DD
