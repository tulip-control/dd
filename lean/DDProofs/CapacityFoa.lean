/-
  DDProofs.CapacityFoa — `find_or_add` of a manager with `max_nodes = cap` against the
  capacity-free `findOrAddCore`.  The bounded search for a free number finds what the unbounded
  one finds, or nothing when that is not below the capacity (`nextFreeCap_eq`); so one case
  analysis (`findOrAddCapWith_cases`) serves the three variants of DD.Capacity, and what a refusal
  leaves is what the `except` handler of the variant makes of the store: the manager of the call,
  its content (`Mgr.SameContent`), or the stored node.  This is part (b) of C17's statement about
  `max_nodes` (DESIGN §6); (a) is the refinement of DDProofs.CapacitySim, (c) the lift to `_ite` of
  DDProofs.CapacityIte.
-/
import DD.Capacity
import DD.Driver
import DDProofs.RefCount
open Std

namespace DD

theorem nextFree_succ_pos (s : TreeMap Nat Nd) (f i : Nat) (h : i = 1 ∨ s.contains i = true) :
    nextFree s (f+1) i = nextFree s f (i+1) := by
  simp only [nextFree]; rw [if_pos h]

theorem nextFree_succ_neg (s : TreeMap Nat Nd) (f i : Nat) (h : ¬ (i = 1 ∨ s.contains i = true)) :
    nextFree s (f+1) i = i := by
  simp only [nextFree]; rw [if_neg h]

theorem nextFreeCap_eq (s : TreeMap Nat Nd) (cap : Nat) : ∀ f i,
    nextFreeCap s cap f i = if nextFree s f i < cap then some (nextFree s f i) else none := by
  intro f
  induction f with
  | zero => intro i; rfl
  | succ f ih =>
    intro i
    simp only [nextFreeCap]
    by_cases hc : cap ≤ i
    · have hge := nextFree_ge s (f+1) i
      rw [if_pos hc, if_neg (by omega)]
    · rw [if_neg hc]
      by_cases hk : i = 1 ∨ s.contains i = true
      · rw [if_pos hk, nextFree_succ_pos s f i hk]; exact ih (i+1)
      · rw [if_neg hk, nextFree_succ_neg s f i hk, if_pos (by omega)]

theorem nextFree_gt (s : TreeMap Nat Nd) (f i : Nat) (h : s.contains i = true) :
    i < nextFree s (f+1) i := by
  simp only [nextFree]
  rw [if_pos (Or.inr h)]
  exact Nat.lt_of_lt_of_le (Nat.lt_succ_self i) (nextFree_ge s f (i+1))

theorem increfTwo_minFree (r v w : Int) (m1 : Mgr) : (increfTwo r v w m1).2.minFree = m1.minFree := by
  obtain ⟨rf, e, -⟩ := increfTwo_cases r v w m1
  rw [e]

theorem newMinFree_gt (m : Mgr) (t : Nd) : m.minFree < newMinFree m t :=
  nextFree_gt _ _ _ (TreeMap.contains_insert_self)

theorem findOrAddCapWith_stores (onFull : Mgr → Mgr → Nd → Mgr) (cap : Nat) (m : Mgr) (i : Nat)
    (v w : Int) (h : FoaStores m i v w) :
    findOrAddCapWith onFull cap i v w m =
      if newMinFree m (foaNode i v w) < cap then
        increfTwo ((if w < 0 then -1 else 1) * (m.minFree : Int)) (foaNode i v w).lo (foaNode i v w).hi
          { storeNode m (foaNode i v w) with minFree := newMinFree m (foaNode i v w) }
      else (.error .runtime, onFull m (storeNode m (foaNode i v w)) (foaNode i v w)) := by
  obtain ⟨c1, c2, c3, c4, hp, c5, c6⟩ := h
  unfold foaNode at hp
  unfold findOrAddCapWith
  simp only [c1, if_false, c2, c3, Bool.not_true, Bool.false_eq_true, c4, hp, c5, c6]
  rw [nextFreeCap_eq]
  by_cases hlt : newMinFree m (foaNode i v w) < cap
  · rw [if_pos hlt]
    have hlt' := hlt
    unfold newMinFree foaNode at hlt'
    rw [if_pos hlt']
    rfl
  · rw [if_neg hlt]
    have hlt' := hlt
    unfold newMinFree foaNode at hlt'
    rw [if_neg hlt']
    rfl

theorem findOrAddCapWith_not_stores (onFull : Mgr → Mgr → Nd → Mgr) (cap : Nat) (m : Mgr) (i : Nat)
    (v w : Int) (h : ¬ FoaStores m i v w) :
    findOrAddCapWith onFull cap i v w m = findOrAddCore i v w m := by
  unfold FoaStores foaNode at h
  unfold findOrAddCapWith findOrAddCore
  -- the two texts are the same up to the store; `h` says one of the six exits before it is taken
  by_cases c1 : m.nvars ≤ i
  · rw [if_pos c1, if_pos c1]
  rw [if_neg c1, if_neg c1]
  cases c2 : m.mem v with
  | false => rfl
  | true =>
  cases c3 : m.mem w with
  | false => rfl
  | true =>
  dsimp only
  by_cases c4 : (if w < 0 then -v else v) = (if w < 0 then -w else w)
  · rw [if_pos c4, if_pos c4]
  rw [if_neg c4, if_neg c4]
  cases hp : m.pred[(⟨i, if w < 0 then -v else v, if w < 0 then -w else w⟩ : Nd).key]? with
  | some u => rfl
  | none =>
  dsimp only
  by_cases c5 : m.minFree ≤ 1
  · rw [if_pos c5, if_pos c5]
  rw [if_neg c5, if_neg c5]
  by_cases c6 : m.tbl.succ.contains m.minFree = true
  · rw [if_pos c6, if_pos c6]
  exact absurd ⟨c1, c2, c3, c4, hp, c5, c6⟩ h

/-- ONE case analysis for the three variants.  A call of `find_or_add` on a manager with
`max_nodes = cap` either (A) is the capacity-free call — and then that call created nothing
(`_min_free` unchanged) or moved `_min_free` to a number below the capacity — or (B) found the
unique-table entry missing, stored the node `t` at `_min_free`, and was refused because the
next free number is not below the capacity: the answer is `RuntimeError` and the state is what
the `except` clause makes of the manager of the call and the manager with the node stored. -/
theorem findOrAddCapWith_cases (onFull : Mgr → Mgr → Nd → Mgr) (cap i : Nat) (v w : Int) (m : Mgr) :
    (findOrAddCapWith onFull cap i v w m = findOrAddCore i v w m ∧
      m.minFree ≤ (findOrAddCore i v w m).2.minFree ∧
      ((findOrAddCore i v w m).2.minFree = m.minFree ∨ (findOrAddCore i v w m).2.minFree < cap)) ∨
    (∃ t : Nd, m.pred[t.key]? = none ∧ 2 ≤ m.minFree ∧ m.tbl.succ.contains m.minFree = false ∧
      findOrAddCapWith onFull cap i v w m = (.error .runtime, onFull m (storeNode m t) t) ∧
      cap ≤ (findOrAddCore i v w m).2.minFree ∧ m.minFree < (findOrAddCore i v w m).2.minFree) := by
  by_cases hs : FoaStores m i v w
  · have hcore : findOrAddCore i v w m = _ := (findOrAddCore_nf i v w m).trans (if_pos hs)
    have hcap := findOrAddCapWith_stores onFull cap m i v w hs
    have hmf : (findOrAddCore i v w m).2.minFree = newMinFree m (foaNode i v w) := by
      rw [hcore, increfTwo_minFree]
    have hgt := newMinFree_gt m (foaNode i v w)
    by_cases hlt : newMinFree m (foaNode i v w) < cap
    · left
      rw [if_pos hlt] at hcap
      exact ⟨hcap.trans hcore.symm, by omega, Or.inr (by omega)⟩
    · right
      rw [if_neg hlt] at hcap
      obtain ⟨_, _, _, _, hp, c5, c6⟩ := hs
      exact ⟨foaNode i v w, hp, by omega, Bool.eq_false_iff.mpr c6, hcap, by omega, by omega⟩
  · have h2 : (findOrAddCore i v w m).2 = m := by rw [findOrAddCore_nf, if_neg hs]
    left
    exact ⟨findOrAddCapWith_not_stores onFull cap m i v w hs, by rw [h2]; exact Nat.le_refl _, Or.inl (by rw [h2])⟩

theorem findOrAddCore_ne_runtime (i : Nat) (v w : Int) (m : Mgr) :
    (findOrAddCore i v w m).1 ≠ .error .runtime := by
  rcases findOrAddCore_answer i v w m with ⟨r, h⟩ | h | h | h <;> rw [h] <;> simp

theorem findOrAddCore_minFree_mono (i : Nat) (v w : Int) (m : Mgr) :
    m.minFree ≤ (findOrAddCore i v w m).2.minFree := by
  rcases findOrAddCapWith_cases (fun m _ _ => m) 0 i v w m with ⟨_, h, _⟩ | ⟨_, _, _, _, _, _, h⟩
  · exact h
  · exact Nat.le_of_lt h

/-- what a `RuntimeError` of any variant is: case (B) of `findOrAddCapWith_cases` -/
theorem findOrAddCapWith_full (onFull : Mgr → Mgr → Nd → Mgr) (cap i : Nat) (v w : Int) (m m' : Mgr)
    (h : findOrAddCapWith onFull cap i v w m = (.error .runtime, m')) :
    ∃ t : Nd, m.pred[t.key]? = none ∧ 2 ≤ m.minFree ∧ m.tbl.succ.contains m.minFree = false ∧
      m' = onFull m (storeNode m t) t ∧
      cap ≤ (findOrAddCore i v w m).2.minFree ∧ m.minFree < (findOrAddCore i v w m).2.minFree := by
  rcases findOrAddCapWith_cases onFull cap i v w m with ⟨he, _, _⟩ | ⟨t, h1, h2, h3, he, h4, h5⟩
  · rw [he] at h
    exact absurd (by rw [h]) (findOrAddCore_ne_runtime i v w m)
  · rw [he] at h
    exact ⟨t, h1, h2, h3, (by injection h with _ h'; exact h'.symm), h4, h5⟩

/-- C17/(b), abstract variant: the `RuntimeError` of a full manager leaves the manager EXACTLY as
it was — node table, unique table, counts, `_min_free`, computed table, every other field -/
theorem findOrAddCapCore_full (cap i : Nat) (v w : Int) (m m' : Mgr)
    (h : findOrAddCapCore cap i v w m = (.error .runtime, m')) : m' = m := by
  obtain ⟨t, _, _, _, he, _, _⟩ := findOrAddCapWith_full _ cap i v w m m' h
  exact he

/-- the same through the wrapper with the reordering request: only the harness trigger of the
request may have been consumed (`requestReordering` touches no other field) -/
theorem findOrAddCap_full (cap : Nat) (i v w : Int) (m m' : Mgr)
    (h : findOrAddCap cap i v w m = (.error .runtime, m')) :
    ∃ f, m' = { m with fireIn := f } := by
  unfold findOrAddCap findOrAddOver at h
  by_cases hc : m.ctx = true
  · rw [if_pos hc] at h
    rcases requestReordering_cases m with ⟨f, hr⟩ | ⟨f, hr, _⟩
    · rw [hr] at h
      simp only at h
      by_cases hi : i < 0
      · rw [if_pos hi] at h; simp at h
      · rw [if_neg hi] at h
        exact ⟨f, findOrAddCapCore_full cap _ v w _ _ h⟩
    · rw [hr] at h; simp at h
  · rw [if_neg hc] at h
    simp only at h
    by_cases hi : i < 0
    · rw [if_pos hi] at h; simp at h
    · rw [if_neg hi] at h
      refine ⟨m.fireIn, ?_⟩
      rw [findOrAddCapCore_full cap _ v w _ _ h]

/-- two managers with the same CONTENT: every lookup in the three dictionaries of nodes and every
other field, i.e. equality up to the representation of the dictionaries — what `state` dumps, and
everything the model reads -/
structure Mgr.SameContent (a b : Mgr) : Prop where
  succ : ∀ k : Nat, a.tbl.succ[k]? = b.tbl.succ[k]?
  pred : ∀ k : List Int, a.pred[k]? = b.pred[k]?
  ref : ∀ k : Nat, a.ref[k]? = b.ref[k]?
  vars : a.tbl.vars = b.tbl.vars
  l2v : a.tbl.l2v = b.tbl.l2v
  minFree : a.minFree = b.minFree
  cache : a.cache = b.cache
  lastLen : a.lastLen = b.lastLen
  ctx : a.ctx = b.ctx
  fireIn : a.fireIn = b.fireIn
  sched : a.sched = b.sched
  roots : a.roots = b.roots

theorem Mgr.SameContent.refl (m : Mgr) : Mgr.SameContent m m :=
  ⟨fun _ => rfl, fun _ => rfl, fun _ => rfl, rfl, rfl, rfl, rfl, rfl, rfl, rfl, rfl, rfl⟩

theorem Mgr.SameContent.dump {a b : Mgr} (h : Mgr.SameContent a b) :
    dumpState a = dumpState b ∧ a.len = b.len := by
  have h1 : a.tbl.succ.toList = b.tbl.succ.toList :=
    TreeMap.equiv_iff_toList_eq.mp (TreeMap.Equiv.of_forall_constGet?_eq h.succ)
  have h2 : a.pred.toList = b.pred.toList :=
    TreeMap.equiv_iff_toList_eq.mp (TreeMap.Equiv.of_forall_constGet?_eq h.pred)
  have h3 : a.ref.toList = b.ref.toList :=
    TreeMap.equiv_iff_toList_eq.mp (TreeMap.Equiv.of_forall_constGet?_eq h.ref)
  have h4 : a.tbl.succ.size = b.tbl.succ.size :=
    (TreeMap.Equiv.of_forall_constGet?_eq h.succ).size_eq
  refine ⟨?_, by unfold Mgr.len; rw [h4]⟩
  unfold dumpState
  rw [h1, h2, h3, h.vars, h.l2v, h.minFree, h.cache, h.lastLen, h.ctx, h.roots]

theorem getElem?_erase_insert {κ β} {cmp : κ → κ → Ordering} [Std.TransCmp cmp]
    [Std.LawfulEqCmp cmp] (t : TreeMap κ β cmp) (k : κ) (v : β) (h : t[k]? = none) (a : κ) :
    ((t.insert k v).erase k)[a]? = t[a]? := by
  rw [TreeMap.getElem?_erase, TreeMap.getElem?_insert]
  by_cases hk : cmp k a = .eq
  · have : k = a := Std.LawfulEqCmp.eq_of_compare hk
    subst this
    simp [h]
  · simp [hk]

theorem undoStore_same (m : Mgr) (t : Nd) (hp : m.pred[t.key]? = none)
    (hs : m.tbl.succ.contains m.minFree = false) (hr : m.ref[m.minFree]? = none) :
    Mgr.SameContent (undoStore m (storeNode m t) t) m := by
  have hs' : m.tbl.succ[m.minFree]? = none := by
    rw [TreeMap.contains_eq_isSome_getElem?] at hs
    cases hh : m.tbl.succ[m.minFree]? with
    | none => rfl
    | some x => rw [hh] at hs; cases hs
  exact ⟨getElem?_erase_insert _ _ _ hs', getElem?_erase_insert _ _ _ hp,
    getElem?_erase_insert _ _ _ hr, rfl, rfl, rfl, rfl, rfl, rfl, rfl, rfl, rfl⟩

/-- C17/(b), the code as it is: after `RuntimeError('full')` the manager has the content it had
before the call (hence the same dump and `len`).  The hypothesis says that `_min_free` is not a
stale key of `_ref`; it holds whenever the counts are exact (`findOrAddCapLit_full_exact`). -/
theorem findOrAddCapLit_full (cap i : Nat) (v w : Int) (m m' : Mgr)
    (hr : m.ref[m.minFree]? = none)
    (h : findOrAddCapLit cap i v w m = (.error .runtime, m')) : Mgr.SameContent m' m := by
  obtain ⟨t, hp, _, hs, he, _, _⟩ := findOrAddCapWith_full _ cap i v w m m' h
  rw [he]
  exact undoStore_same m t hp hs hr

/-- the free number `_min_free` names has no counter: the keys of `_ref` are the terminal and the
stored nodes -/
theorem RefExact.minFree_none {m : Mgr} {ext : Nat → Nat} (hx : RefExact m ext) (hI : Inv m) :
    m.ref[m.minFree]? = none := by
  cases hh : m.ref[m.minFree]? with
  | none => rfl
  | some c =>
    exfalso
    rcases (hx.dom m.minFree).mp (by rw [hh]; rfl) with h1 | h1
    · have := hI.freeGe; omega
    · rw [hI.free] at h1; cases h1

theorem findOrAddCapLit_full_exact (cap i : Nat) (v w : Int) (m m' : Mgr) (ext : Nat → Nat)
    (hI : Inv m) (hx : RefExact m ext)
    (h : findOrAddCapLit cap i v w m = (.error .runtime, m')) :
    Mgr.SameContent m' m ∧ dumpState m' = dumpState m ∧ m'.len = m.len := by
  have hr := hx.minFree_none hI
  have hs := findOrAddCapLit_full cap i v w m m' hr h
  exact ⟨hs, hs.dump.1, hs.dump.2⟩

/-- why the recursive layer of DD.Capacity may stand on the abstract variant: the literal one is
equal to it whenever the call is not refused; both are refused together, and then the literal one
leaves the content of what the abstract one leaves -/
theorem findOrAddCapLit_same (cap i : Nat) (v w : Int) (m : Mgr) (hr : m.ref[m.minFree]? = none) :
    findOrAddCapLit cap i v w m = findOrAddCapCore cap i v w m ∨
    (findOrAddCapCore cap i v w m = (.error .runtime, m) ∧
      ∃ m', findOrAddCapLit cap i v w m = (.error .runtime, m') ∧ Mgr.SameContent m' m) := by
  rcases findOrAddCapWith_cases undoStore cap i v w m with ⟨he, _, h3⟩ | ⟨t, hp, _, hs, he, h4, h5⟩
  · left
    rcases findOrAddCapWith_cases (fun m _ _ => m) cap i v w m with ⟨he', _, _⟩ | ⟨_, _, _, _, _, h4, h5⟩
    · exact he.trans he'.symm
    · rcases h3 with h3 | h3 <;> omega
  · right
    rcases findOrAddCapWith_cases (fun m _ _ => m) cap i v w m with ⟨_, _, h3⟩ | ⟨_, _, _, _, he', _, _⟩
    · rcases h3 with h3 | h3 <;> omega
    · exact ⟨he', _, he, undoStore_same m t hp hs hr⟩

/-- C17/(b), the code BEFORE 9f1005b: after `RuntimeError('full')` the node is stored under the
number `_min_free` still names, with count 0, and the counts of its successors are the old
ones — NOT the manager of the call -/
theorem findOrAddCapOld_full (cap i : Nat) (v w : Int) (m m' : Mgr)
    (h : findOrAddCapOld cap i v w m = (.error .runtime, m')) :
    ∃ t : Nd, m' = storeNode m t ∧ m'.tbl.node? m'.minFree = some t ∧ m'.ref[m'.minFree]? = some 0 ∧
      (∀ k, k ≠ m.minFree → m'.ref[k]? = m.ref[k]?) ∧ m' ≠ m := by
  obtain ⟨t, _, _, hs, he, _, _⟩ := findOrAddCapWith_full _ cap i v w m m' h
  subst he
  have hnode : (storeNode m t).tbl.node? (storeNode m t).minFree = some t := by
    show (m.tbl.succ.insert m.minFree t)[m.minFree]? = some t
    simp
  refine ⟨t, rfl, hnode, ?_, ?_, ?_⟩
  · show (m.ref.insert m.minFree 0)[m.minFree]? = some 0
    simp
  · intro k hk
    exact getElem?_insert_ne m.ref m.minFree k 0 hk
  · intro heq
    have h1 : m.tbl.node? m.minFree = some t := by
      have := hnode
      rw [heq] at this
      exact this
    have h2 := node?_none_of_not_contains m.tbl m.minFree hs
    rw [h2] at h1
    cases h1

end DD
