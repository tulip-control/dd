/-
  DDProofs.CapacityIte — part (c) of C17's statement about `max_nodes` (DESIGN §6; (a), (b) are
  DDProofs.CapacitySim, CapacityFoa): the refusal of a full manager LIFTED to the recursive `_ite`
  and to the decorated entry points.

  `_ite` over ANY `find_or_add` that meets the three-outcome specification `OutcomeX E` of
  `find_or_add` meets that of `_ite`, with the same exceptions (`iteG_outX`, DDProofs.IteOutcome),
  and is total on arbitrary integers (`iteRawG_totE`, DDProofs.DynRejectedOps).
  Instance: `findOrAddCap cap` (exceptions: `RuntimeError` only), hence `iteCapF`, `iteCapRaw`;
  then the decorator theorems of DDProofs.DynRejected give the caller's view.
-/
import DDProofs.CapacitySim
import DDProofs.Reach
open Std

namespace DD

/-- `find_or_add` with capacity: the capacity-free call, or `RuntimeError` with nothing changed
(but the harness trigger) -/
theorem findOrAddCap_cases (cap : Nat) (i v w : Int) (m : Mgr) :
    findOrAddCap cap i v w m = findOrAdd i v w m ∨
    ∃ f, findOrAddCap cap i v w m = (.error .runtime, { m with fireIn := f }) := by
  rcases (findOrAddCap_sim cap i v w).dichotomy m with h | h
  · exact Or.inl h
  · obtain ⟨f, hf⟩ := findOrAddCap_full cap i v w m _ (eq_of_fst_error h)
    exact Or.inr ⟨f, by rw [eq_of_fst_error h, hf]⟩

theorem findOrAddCap_foaX (cap : Nat) : FoaX (fun e => e = .runtime) (findOrAddCap cap) := by
  intro m i v w hI hi hv hw hlv hlw
  rcases findOrAddCap_cases cap (i : Int) v w m with h | ⟨f, h⟩
  · rw [h]; exact (findOrAdd_out m hI i v w hi hv hw hlv hlw).toX
  · rw [h]; exact ⟨StepK.setFire hI f, (fun he => by cases he), Or.inr rfl⟩

theorem iteCapF_outX (cap f : Nat) (m : Mgr) (g u v : Int) (hI : Inv m)
    (hg : m.tbl.Mem g) (hu : m.tbl.Mem u) (hv : m.tbl.Mem v)
    (hf : m.nvars + 1 ≤ f + min (m.tbl.levelOf g) (min (m.tbl.levelOf u) (m.tbl.levelOf v))) :
    OutcomeX (fun e => e = .runtime) m (fun r m' => ItePost m g u v r m') (iteCapF cap f g u v m) :=
  iteG_outX _ _ (findOrAddCap_foaX cap) f m g u v hI hg hu hv hf

theorem iteCapRaw_outX (cap : Nat) (m : Mgr) (g u v : Int) (hI : Inv m)
    (hg : m.tbl.Mem g) (hu : m.tbl.Mem u) (hv : m.tbl.Mem v) :
    OutcomeX (fun e => e = .runtime) m (fun r m' => ItePost m g u v r m') (iteCapRaw cap g u v m) :=
  iteCapF_outX cap (m.nvars + 2) m g u v hI hg hu hv (by omega)

theorem iteCapRaw_totE (cap : Nat) (m : Mgr) (hI : Inv m) (g u v : Int) :
    TotE m (iteCapRaw cap g u v m) :=
  iteRawG_totE _ _ (findOrAddCap_foaX cap) m hI g u v

/-- (c) `RuntimeError('full')` half-way — in the first attempt or in the retry after sifting — is
one more exception of a `TotE` body: `BDD.ite` with capacity has its row like any decorated call -/
theorem iteCap_decorated (cap : Nat) (g u v : Int) (m : Mgr) : Decorated m (iteCap cap g u v m) :=
  .body _ fun m0 hI _ => iteCapRaw_totE cap m0 hI g u v

theorem iteCap_totX (cap : Nat) : IteTotX (iteCap cap) :=
  fun m hI hc g u v => (iteCap_decorated cap g u v m).nested hI hc

theorem findOrAddCap_varTotX (cap : Nat) : VarTotX (findOrAddCap cap) := by
  intro m hI j
  rcases findOrAddCap_cases cap (j : Int) (-1) 1 m with h | ⟨f, h⟩
  · rw [h]; exact varNode_totE m hI j
  · rw [h]; exact TotE.err (StepK.setFire hI f) _ (by decide)

theorem varCapBody_totE (cap : Nat) (m : Mgr) (hI : Inv m) (name : String) :
    TotE m (varBodyG (findOrAddCap cap) name m) :=
  varBodyG_totE _ (findOrAddCap_varTotX cap) m hI name

theorem varCap_decorated (cap : Nat) (name : String) (m : Mgr) : Decorated m (varCap cap name m) :=
  .body _ fun m0 hI _ => varCapBody_totE cap m0 hI name

/-- (c) with held operands, any recorded schedule: `BDD.ite` with capacity returns the if-then-else
of the operands as they were (by name), or raises `RuntimeError` (or the model's `.sched`); in
every case everything is kept -/
theorem iteCap_resultIn (cap : Nat) (ext : Nat → Nat) (m : Mgr) (hD : DynInvS ext m) (g u v : Int)
    (hg : HeldX ext g) (hu : HeldX ext u) (hv : HeldX ext v) :
    DynResultIn (fun e => e = .runtime) ext (IteDoc g u v) m (iteCap cap g u v m) := by
  refine tryToReorder_resultIn _ ext (iteCapRaw cap g u v) [g, u, v] (fun _ => True)
    (IteDoc g u v) ?_ (ite_docBody g u v).pre (ite_docBody g u v).doc m hD
    (by simp [hg, hu, hv]) trivial
  intro m0 hI0 _ _ _ hmem
  exact (iteCapRaw_outX cap m0 g u v hI0 (hmem g (by simp)) (hmem u (by simp))
    (hmem v (by simp))).mono fun _ _ _ hp => hp.doc

/-- GENERIC: WHICH exception a decorated call can raise.  If the body, inside a context, on
operands in the manager, raises only the reordering signal or exceptions of `E` (and otherwise
only adds nodes), then the decorated call from `DynInv ext m` with held operands raises only
exceptions of `E` — whether the failure happens in the first attempt or in the retry after
sifting (the signal itself never escapes: `tryToReorder_rejected`). -/
theorem tryToReorder_raises {α} (ext : Nat → Nat) (hS : SiftContract ext) (E : Err → Prop) (f : M α)
    (ops : List Int)
    (hbody : ∀ m0 : Mgr, Inv m0 → m0.ctx = true → OrderOK m0.tbl → (∀ u ∈ ops, m0.tbl.Mem u) →
      OutcomeX E m0 (fun _ _ => True) (f m0))
    (m : Mgr) (hD : DynInv ext m) (hops : ∀ u ∈ ops, HeldX ext u) (e : Err) (m' : Mgr)
    (h : tryToReorder f m = (.error e, m')) : E e := by
  -- the decorator theorem with nothing documented: an exception is one of the body's (`E`), or
  -- the model's `.sched`, which needs a recorded schedule
  have hr := tryToReorder_resultIn E ext f ops (fun _ => True) (fun _ _ _ => True)
    (fun m0 hI hc hO _ hm => hbody m0 hI hc hO hm) (fun _ _ _ _ => trivial)
    (fun _ _ _ _ _ _ _ => trivial) m hD.toS hops trivial
  rw [h] at hr
  exact hr.raises hD.sched

/-- reordering not enabled, operands in the manager: the ONLY exception `BDD.ite` with capacity
can raise is `RuntimeError`, and then the caller's `GoodState` is kept for the same ledger —
every theorem of the development applies to the state after the refusal -/
theorem iteCap_off (cap : Nat) (ext : Nat → Nat) (m : Mgr) (hG : GoodState m ext) (g u v : Int)
    (hg : m.tbl.Mem g) (hu : m.tbl.Mem u) (hv : m.tbl.Mem v) :
    (∃ r m', iteCap cap g u v m = (.ok r, m') ∧ ItePost m g u v r m' ∧ GoodState m' ext) ∨
    (∃ m', iteCap cap g u v m = (.error .runtime, m') ∧ Kept m m' ∧ GoodState m' ext) := by
  -- requests are disabled: the call has the outcome of its body (`tryToReorder_quiet`)
  have h : OutcomeX (fun e => e = .runtime) m (fun r m' => ItePost m g u v r m')
      (iteCap cap g u v m) :=
    tryToReorder_quiet _ (.inr hG.off)
      (iteCapRaw_outX cap { m with ctx := true } g u v (hG.inv.setCtx true) hg hu hv)
      fun _ _ hp => ItePost.ofCtx hp
  have hgood : ∀ {m'}, StepK m m' → Kept m m' ∧ GoodState m' ext := fun hs =>
    have hk := hs.step.kept
    ⟨hk, hG.of_kept hk (hs.keep ext hG.exact).1⟩
  generalize iteCap cap g u v m = res at h ⊢
  obtain ⟨r, m'⟩ := res
  cases r with
  | ok r => exact .inl ⟨r, m', rfl, h.2, (hgood h.1).2⟩
  | error e =>
    rcases OutcomeX.err h with ⟨_, ha⟩ | ⟨_, he⟩
    · -- the signal needs an armed context; reordering is off
      exact (ha.not_off hG.off).elim
    · subst he
      exact .inr ⟨m', rfl, hgood h.1⟩

end DD
