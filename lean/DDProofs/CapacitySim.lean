/-
  DDProofs.CapacitySim — refinement: a computation on a manager with `max_nodes = cap` against
  the same computation of the capacity-free model.  `CapOK cap m m'` (about the capacity-FREE run
  from `m` to `m'`): nothing was created or the final `_min_free` is below the capacity; between
  two collections `_min_free` only grows, and the node created at `_min_free = u` needs the next
  free number to be `< cap`, so this is exactly "every free integer the run needs is `< cap`".
  `CapSim cap xc x`: under `CapOK` the run with capacity IS the capacity-free run, otherwise it
  raises `RuntimeError`; closed under `pure`, `bind`, the layers of `find_or_add`, and `_ite`.
-/
import DDProofs.CapacityFoa
import DDProofs.MonadM
import DDProofs.Decorator
import DDProofs.Ite
open Std

namespace DD

/-- the capacity-free run from `m` to `m'` needed no number `≥ cap` -/
def CapOK (cap : Nat) (m m' : Mgr) : Prop := m'.minFree = m.minFree ∨ m'.minFree < cap

instance (cap : Nat) (m m' : Mgr) : Decidable (CapOK cap m m') := by unfold CapOK; infer_instance

theorem CapOK.split {cap : Nat} {m m1 m2 : Mgr} (h1 : m.minFree ≤ m1.minFree)
    (h2 : m1.minFree ≤ m2.minFree) : CapOK cap m m2 ↔ CapOK cap m m1 ∧ CapOK cap m1 m2 := by
  unfold CapOK
  omega

/-- pointwise: results `rc` (with capacity) and `r` (capacity-free) of a call from `m` -/
structure CapSimAt {α} (cap : Nat) (rc r : Except Err α × Mgr) (m : Mgr) : Prop where
  mono : m.minFree ≤ r.2.minFree
  agree : CapOK cap m r.2 → rc = r
  full : ¬ CapOK cap m r.2 → rc.1 = .error .runtime

/-- `xc` is `x` on a manager with `max_nodes = cap` -/
def CapSim {α} (cap : Nat) (xc x : M α) : Prop := ∀ m, CapSimAt cap (xc m) (x m) m

theorem CapSimAt.same {α} {cap : Nat} {r : Except Err α × Mgr} {m : Mgr} (h : r.2.minFree = m.minFree) :
    CapSimAt cap r r m :=
  ⟨by rw [h]; exact Nat.le_refl _, fun _ => rfl, fun hn => absurd (Or.inl h) hn⟩

/-- sequencing, pointwise (the shape of `M.bind'`) -/
theorem CapSimAt.bind {α β} {cap : Nat} {xc x : M α} {fc f : α → M β} {m : Mgr}
    (hx : CapSimAt cap (xc m) (x m) m)
    (hf : ∀ a m1, x m = (.ok a, m1) → CapSimAt cap (fc a m1) (f a m1) m1) :
    CapSimAt cap (M.bind' xc fc m) (M.bind' x f m) m := by
  obtain ⟨hm1, ha1, hf1⟩ := hx
  have hfull : ¬ CapOK cap m (x m).2 → (M.bind' xc fc m).1 = .error .runtime :=
    fun hn => M.bind'_error (hf1 hn)
  unfold M.bind' at hfull ⊢
  generalize hres : x m = res at hm1 ha1 hf1 hf hfull
  obtain ⟨r, m1⟩ := res
  cases r with
  | error e => exact ⟨hm1, fun hc => by rw [ha1 hc], hfull⟩
  | ok a =>
    obtain ⟨hm2, ha2, hf2⟩ := hf a m1 rfl
    have hsplit := CapOK.split (cap := cap) (show m.minFree ≤ m1.minFree from hm1) hm2
    refine ⟨Nat.le_trans hm1 hm2, fun hc => ?_, fun hn => ?_⟩
    · rw [ha1 (hsplit.mp hc).1]
      exact ha2 (hsplit.mp hc).2
    · by_cases hc1 : CapOK cap m m1
      · rw [ha1 hc1]
        exact hf2 fun hc2 => hn (hsplit.mpr ⟨hc1, hc2⟩)
      · exact hfull hc1

theorem CapSim.bind {α β} {cap : Nat} {xc x : M α} {fc f : α → M β} (hx : CapSim cap xc x)
    (hf : ∀ a, CapSim cap (fc a) (f a)) : CapSim cap (xc >>= fc) (x >>= f) :=
  fun m => CapSimAt.bind (hx m) (fun a m1 _ => hf a m1)

theorem CapSim.pure {α} (cap : Nat) (a : α) : CapSim cap (pure a : M α) (pure a) :=
  fun _ => CapSimAt.same rfl

theorem CapSim.throw {α} (cap : Nat) (e : Err) : CapSim cap (M.throw e : M α) (M.throw e) :=
  fun _ => CapSimAt.same rfl

/-- any computation that leaves `_min_free` alone (reads, `incref`, `decref`, the computed
table, the context flag, the threshold) -/
theorem CapSim.same {α} (cap : Nat) (x : M α) (h : ∀ m, (x m).2.minFree = m.minFree) :
    CapSim cap x x := fun m => CapSimAt.same (h m)

/-- whatever is known about the capacity-free run holds of the run with capacity, under the
side condition -/
theorem CapSim.transfer {α} {cap : Nat} {xc x : M α} (h : CapSim cap xc x) (m : Mgr)
    (P : Except Err α × Mgr → Prop) (hp : P (x m)) (hc : CapOK cap m (x m).2) : P (xc m) := by
  rw [(h m).agree hc]; exact hp

/-- the side condition is sharp: for a capacity-free run that does not itself raise
`RuntimeError`, the run with capacity agrees with it IF AND ONLY IF `CapOK` -/
theorem CapSim.iff {α} {cap : Nat} {xc x : M α} (h : CapSim cap xc x) (m : Mgr)
    (hx : (x m).1 ≠ .error .runtime) : xc m = x m ↔ CapOK cap m (x m).2 := by
  constructor
  · intro he
    apply Classical.byContradiction
    intro hn
    have := (h m).full hn
    rw [he] at this
    exact hx this
  · exact (h m).agree

theorem CapSim.dichotomy {α} {cap : Nat} {xc x : M α} (h : CapSim cap xc x) (m : Mgr) :
    xc m = x m ∨ (xc m).1 = .error .runtime := by
  by_cases hc : CapOK cap m (x m).2
  · exact Or.inl ((h m).agree hc)
  · exact Or.inr ((h m).full hc)

theorem findOrAddCapCore_sim (cap i : Nat) (v w : Int) :
    CapSim cap (findOrAddCapCore cap i v w) (findOrAddCore i v w) := by
  intro m
  rcases findOrAddCapWith_cases (fun m _ _ => m) cap i v w m with ⟨he, h2, h3⟩ | ⟨t, _, _, _, he, h4, h5⟩
  · exact ⟨h2, fun _ => he, fun hn => absurd h3 hn⟩
  · refine ⟨Nat.le_of_lt h5, fun hc => ?_, fun _ => ?_⟩
    · rcases hc with hc | hc <;> omega
    · show (findOrAddCapCore cap i v w m).1 = _
      unfold findOrAddCapCore
      rw [he]

theorem requestReordering_minFree (m : Mgr) : (requestReordering m).2.minFree = m.minFree := by
  rcases requestReordering_cases m with ⟨f, h⟩ | ⟨f, h, _⟩ <;> rw [h]

/-- the wrapper (reordering request, sign of the level) over related cores -/
theorem findOrAddOver_sim (cap : Nat) (foaC foa : Nat → Int → Int → M Int)
    (h : ∀ i v w, CapSim cap (foaC i v w) (foa i v w)) (i v w : Int) :
    CapSim cap (findOrAddOver foaC i v w) (findOrAddOver foa i v w) := by
  intro m
  unfold findOrAddOver
  have hq : (if m.ctx = true then requestReordering m else (Except.ok (), m)).2.minFree = m.minFree := by
    split
    · exact requestReordering_minFree m
    · rfl
  generalize (if m.ctx = true then requestReordering m else (Except.ok (), m)) = res at hq
  obtain ⟨r, m1⟩ := res
  have hq' : m1.minFree = m.minFree := hq
  cases r with
  | error e => exact CapSimAt.same hq'
  | ok a =>
    simp only
    by_cases hi : i < 0
    · rw [if_pos hi, if_pos hi]; exact CapSimAt.same hq'
    · rw [if_neg hi, if_neg hi]
      have h1 := h i.toNat v w m1
      refine ⟨by rw [← hq']; exact h1.mono, fun hc => h1.agree ?_, fun hn => h1.full ?_⟩
      · unfold CapOK at hc ⊢; rw [hq']; exact hc
      · unfold CapOK at hn ⊢; rw [hq']; exact hn

theorem findOrAddOver_core : findOrAddOver findOrAddCore = findOrAdd := by
  funext i v w m
  rfl

theorem findOrAddCap_sim (cap : Nat) (i v w : Int) :
    CapSim cap (findOrAddCap cap i v w) (findOrAdd i v w) := by
  have := findOrAddOver_sim cap (findOrAddCapCore cap) findOrAddCore (findOrAddCapCore_sim cap) i v w
  rw [findOrAddOver_core] at this
  exact this

theorem iteG_sim (cap : Nat) (foaC foa : Int → Int → Int → M Int)
    (h : ∀ i v w, CapSim cap (foaC i v w) (foa i v w)) :
    ∀ f g u v, CapSim cap (iteG foaC f g u v) (iteG foa f g u v) := by
  intro f
  induction f with
  | zero => intro g u v m; exact CapSimAt.same rfl
  | succ f ih =>
    intro g u v m
    -- every exit of `_ite` but the one through the two recursive calls and `find_or_add`
    -- leaves `_min_free` alone
    unfold iteG
    split
    · exact CapSimAt.same rfl
    · split
      · exact CapSimAt.same rfl
      · split
        · exact CapSimAt.same rfl
        · split
          · simp only
            split
            · refine CapSimAt.bind (ih _ _ _ m) (fun p m1 _ => ?_)
              refine CapSimAt.bind (ih _ _ _ m1) (fun q m2 _ => ?_)
              refine CapSimAt.bind (h _ _ _ m2) (fun w m3 _ => ?_)
              exact CapSimAt.same rfl
            · exact CapSimAt.same rfl
            · exact CapSimAt.same rfl
            · exact CapSimAt.same rfl
          · exact CapSimAt.same rfl

theorem iteCapF_sim (cap f : Nat) (g u v : Int) : CapSim cap (iteCapF cap f g u v) (iteF f g u v) := by
  have := iteG_sim cap (findOrAddCap cap) findOrAdd (findOrAddCap_sim cap) f g u v
  rw [iteG_findOrAdd] at this
  exact this

theorem iteCapRaw_sim (cap : Nat) (g u v : Int) : CapSim cap (iteCapRaw cap g u v) (iteRaw g u v) := by
  intro m
  rw [iteRaw_eq]
  exact iteCapF_sim cap (m.nvars + 2) g u v m

theorem varBodyG_findOrAdd (name : String) :
    varBodyG findOrAdd name = (do
      let m ← M.get
      match m.tbl.vars[name]? with
      | none => M.throw .value
      | some j => findOrAdd j (-1) 1) := by
  funext m
  unfold varBodyG
  simp only [bind, M.bind', M.get]
  cases m.tbl.vars[name]? <;> rfl

theorem varCapBody_sim (cap : Nat) (name : String) :
    CapSim cap (varBodyG (findOrAddCap cap) name) (varBodyG findOrAdd name) := by
  intro m
  unfold varBodyG
  cases m.tbl.vars[name]? with
  | none => exact CapSimAt.same rfl
  | some j => exact findOrAddCap_sim cap _ _ _ m

/-- the decorator around related bodies, when the first attempt of the capacity-free body is
not aborted by a reordering request (reordering disabled, or enabled and no request due): the
decorated call with capacity is the decorated capacity-free call under the same side condition,
stated on what the DECORATED call leaves -/
theorem tryToReorder_sim_first {α} (cap : Nat) (xc x : M α) (h : CapSim cap xc x) (m : Mgr)
    (hne : (x { m with ctx := true }).1 ≠ .error .needsReordering)
    (hc : CapOK cap m (tryToReorder x m).2) : tryToReorder xc m = tryToReorder x m := by
  rw [tryToReorder_first x m (.inl hne)] at hc ⊢
  have e := (h { m with ctx := true }).agree hc
  rw [tryToReorder_first xc m (.inl (e ▸ hne)), e]

/-- and when the side condition fails (first attempt not aborted): `RuntimeError`, with the
context flag restored -/
theorem tryToReorder_sim_first_full {α} (cap : Nat) (xc x : M α) (h : CapSim cap xc x) (m : Mgr)
    (hne : (x { m with ctx := true }).1 ≠ .error .needsReordering)
    (hc : ¬ CapOK cap m (tryToReorder x m).2) :
    (tryToReorder xc m).1 = .error .runtime ∧ (tryToReorder xc m).2.ctx = m.ctx := by
  have hc' : ¬ CapOK cap { m with ctx := true } (x { m with ctx := true }).2 := by
    rw [tryToReorder_first x m (.inl hne)] at hc; exact hc
  have hf := eq_of_fst_error ((h { m with ctx := true }).full hc')
  rw [tryToReorder_err xc m .runtime _ hf (by decide)]
  exact ⟨rfl, rfl⟩

end DD
