/-
  DDProofs.CapacitySwap — what is NOT true at capacity (finding F22): `BDD.swap` calls
  `find_or_add` in the middle of its rewrite of two levels, so a `RuntimeError('full')` there
  leaves a manager that violates the invariant.  `swapG` is the text of `DD.swap` with
  `findOrAdd` abstracted (`swapG_findOrAdd`); `swapCap cap = swapG (findOrAddCap cap)`.
  Concrete refutation on a reachable manager: `swapCap_breaks_inv`.
-/
import DDProofs.Reach
open Std

namespace DD

theorem moveDepStepG_findOrAdd (x y u : Nat) (v w : Int) :
    moveDepStepG findOrAdd x y u v w = moveDepStep x y u v w := rfl

theorem moveDepG_findOrAdd (x y : Nat) (done : List Nat) :
    ∀ l, moveDepG findOrAdd x y done l = moveDep x y done l := by
  intro l
  induction l with
  | nil => rfl
  | cons a l ih =>
    obtain ⟨u, v, w⟩ := a
    unfold moveDepG moveDep
    rw [ih, moveDepStepG_findOrAdd]

/-- the layer instantiated with the capacity-free `find_or_add` is the model of `swap` -/
theorem swapG_findOrAdd : swapG findOrAdd = swap := by
  funext xa ya given
  have h1 : ∀ x y ox oy, swapNodesG findOrAdd x y ox oy = swapNodes x y ox oy := by
    intro x y ox oy
    unfold swapNodesG swapNodes
    simp only [moveDepG_findOrAdd]
  have h2 : ∀ x y o ox oy, swapWithG findOrAdd x y o ox oy = swapWith x y o ox oy := by
    intro x y o ox oy
    unfold swapWithG swapWith
    rw [h1]
  have h3 : ∀ x y, swapBodyG findOrAdd x y = swapBody x y := by
    intro x y
    unfold swapBodyG swapBody
    simp only [h2]
  unfold swapG swap
  simp only [h3]

/-! ### the refutation

`swapM`: variables `a < b < c`; nodes 3 = `b`, 4 = `c`, 5 = `ite(a, b, c)` held by the caller;
collected (`_min_free = 2`, `len = 4`).  `swap(0, 1)` must rebuild node 5 from two NEW nodes at
level 1 (`¬c` … `(1, -4, 1)` and `(1, 4, 1)`).  With `max_nodes = 7` the first is stored at 2
(6 is free), the second is refused at 6.  At that point node 3 has been moved to level 0, the
unique-table entries of nodes 3 and 5 were popped, the children of node 5 decref'ed. -/

def swapOps : List UOp :=
  [.declare "a" none, .declare "b" none, .declare "c" none,
   .var "a", .var "b", .var "c", .ite 2 3 4, .incref 5, .collectGarbage]

def swapSt : St := run swapOps St.init
def swapM : Mgr := swapSt.m

theorem swapM_good : GoodState swapM swapSt.ext := reachable_inv swapOps (by decide)

/-- F22: from a GOOD state, `swap` at capacity raises `RuntimeError` and leaves a manager that
does NOT satisfy the invariant (node 5 is stored but missing from the unique table; it sits at
level 0 above node 3, which is at level 0 too) — whereas the capacity-free `swap` succeeds -/
theorem swapCap_breaks_inv :
    raisedErr (swapCap 7 (.level 0) (.level 1) false swapM).1 = some .runtime ∧
    ¬ Inv (swapCap 7 (.level 0) (.level 1) false swapM).2 ∧
    raisedErr (swap (.level 0) (.level 1) false swapM).1 = none := by
  -- the two runs; the four facts are read off them
  have h : raisedErr (swapCap 7 (.level 0) (.level 1) false swapM).1 = some .runtime ∧
      raisedErr (swap (.level 0) (.level 1) false swapM).1 = none ∧
      (swapCap 7 (.level 0) (.level 1) false swapM).2.tbl.node? 5 = some ⟨0, 4, 3⟩ ∧
      (swapCap 7 (.level 0) (.level 1) false swapM).2.pred[(⟨0, 4, 3⟩ : Nd).key]? = none := by
    decide +kernel
  refine ⟨h.1, fun hI => ?_, h.2.1⟩
  have := (hI.pred _ _).mpr h.2.2.1
  rw [h.2.2.2] at this
  cases this

end DD
