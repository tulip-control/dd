/-
  DDProofs.Cofactor — specification of `_cofactor` (restriction of variables to constants):
  the result denotes the operand under the overridden assignment.  Proved once over ANY
  `find_or_add` with a three-outcome specification (`cofactorFG_outX`); the model's recursion
  (`cofactorF_out`, no other exception) and reordering not enabled (`cofactorF_spec`) are read off.
-/
import DDProofs.Memo
import DDProofs.IteOutcome
import DDProofs.MemoTable
import DDProofs.RecursionsModel
open Std

namespace DD

/-- the assignment `a` with the levels of `values` overridden (first entry of a level wins) -/
def ovr (values : List (Nat × Bool)) (a : Asg) : Asg := fun i =>
  match values.lookup i with
  | some b => b
  | none => a i

/-- what `_cofactor` returns for `u` (also: what its memo may contain) -/
structure CofEntry (values : List (Nat × Bool)) (t : Tbl) (u r : Int) : Prop where
  mu : t.Mem u
  mr : t.Mem r
  lvl : t.levelOf u ≤ t.levelOf r
  den : ∀ a, den t r a = den t u (ovr values a)

def CofMemo (values : List (Nat × Bool)) (t : Tbl) (c : HashMap Int Int) : Prop :=
  ∀ u r, c[u]? = some r → CofEntry values t u r

theorem CofEntry.ext {values : List (Nat × Bool)} {m t : Tbl} (hw : WF m) (he : Ext m t)
    {u r : Int} (h : CofEntry values m u r) : CofEntry values t u r := by
  refine ⟨he.mem h.mu, he.mem h.mr, ?_, ?_⟩
  · rw [he.levelOf h.mu, he.levelOf h.mr]; exact h.lvl
  · intro a
    rw [den_ext he hw r a h.mr, den_ext he hw u _ h.mu]; exact h.den a

theorem CofEntry.lt_of_ext {values : List (Nat × Bool)} {m t : Tbl} (he : Ext m t) {u r : Int}
    (h : CofEntry values t u r) (hu : m.Mem u) {k : Nat} (hk : k < m.levelOf u) : k < t.levelOf r := by
  rw [← he.levelOf hu] at hk
  exact Nat.lt_of_lt_of_le hk h.lvl

theorem CofMemo.ext {values : List (Nat × Bool)} {m t : Tbl} (hw : WF m) (he : Ext m t)
    {c : HashMap Int Int} (h : CofMemo values m c) : CofMemo values t c :=
  fun u r hc => (h u r hc).ext hw he

theorem CofMemo.empty (values : List (Nat × Bool)) (t : Tbl) : CofMemo values t {} := memo_empty

theorem CofMemo.insert {values : List (Nat × Bool)} {t : Tbl} {c : HashMap Int Int}
    (h : CofMemo values t c) {u r : Int} (he : CofEntry values t u r) :
    CofMemo values t (c.insert u r) := memo_insert h he

theorem mem_dropWhile_of_not {α} (p : α → Bool) (a : α) :
    ∀ l : List α, a ∈ l → p a = false → a ∈ l.dropWhile p := by
  intro l
  induction l with
  | nil => intro h; cases h
  | cons b l ih =>
    intro h hp
    rw [List.dropWhile_cons]
    split
    · next hb =>
      rcases List.mem_cons.mp h with h | h
      · subst h; rw [hp] at hb; cases hb
      · exact ih h hp
    · exact h

theorem den_term_any (t : Tbl) (u : Int) (h1 : u.natAbs = 1) (a b : Asg) :
    den t u a = den t u b :=
  (den_terminal t h1 a).trans (den_terminal t h1 b).symm

/-- `_cofactor` over a `find_or_add` with a three-outcome specification has one: in ANY manager
satisfying the invariant it keeps its memo sound and returns a reference that denotes the
operand under the overridden assignment (and whose level is not above the operand's), or is
aborted by a reordering request, or raises an exception of `E`, having only added nodes. -/
theorem cofactorFG_outX (E : Err → Prop) (foa : Int → Int → Int → M Int) (hfoa : FoaX E foa)
    (values : List (Nat × Bool)) :
    ∀ (f : Nat) (m : Mgr) (u : Int) (ordvar : List Nat) (cache : HashMap Int Int),
    Inv m → m.tbl.Mem u → CofMemo values m.tbl cache →
    (∀ j, (values.lookup j).isSome = true → m.tbl.levelOf u ≤ j → j ∈ ordvar) →
    m.nvars + 1 ≤ f + m.tbl.levelOf u →
    OutcomeX2 E m (fun r c m' => CofMemo values m'.tbl c ∧ CofEntry values m'.tbl u r)
      (cofactorFG foa values f u ordvar cache m) := by
  intro f
  induction f with
  | zero =>
    intro m u ordvar cache hI hu _ _ hf
    have := levelOf_le m.tbl hI.wf.toWF u
    have : m.nvars = m.tbl.nvars := rfl
    omega
  | succ f ih =>
    intro m u ordvar cache hI hu hmemo hord hf
    have hW := hI.wf.toWF
    unfold cofactorFG
    by_cases h1 : u.natAbs = 1
    · simp only [h1, if_true]
      exact ⟨StepK.refl hI, hmemo, hu, hu, Nat.le_refl _, fun a => den_term_any _ u h1 _ _⟩
    · simp only [h1, if_false]
      cases hc : cache[u]? with
      | some r => exact ⟨StepK.refl hI, hmemo, hmemo u r hc⟩
      | none =>
        simp only
        obtain ⟨n, hN⟩ := node_open hW hu h1
        rw [hN.get]
        simp only [hN.nz, if_false]
        have hlu := hN.lvl
        have hlo := hN.lo
        have hhi := hN.hi
        have hnv : m.nvars = m.tbl.nvars := rfl
        -- the skipped prefix only holds levels above the node
        have hord' : ∀ j, (values.lookup j).isSome = true → n.lvl ≤ j →
            j ∈ ordvar.dropWhile (· < n.lvl) := by
          intro j hj hle
          exact mem_dropWhile_of_not _ j ordvar (hord j hj (by omega)) (by simpa using hle)
        generalize ordvar.dropWhile (· < n.lvl) = ov at hord' ⊢
        by_cases hemp : ov.isEmpty = true
        · -- valuation exhausted: nothing to override from here on
          simp only [hemp, if_true]
          refine ⟨StepK.refl hI, hmemo, hu, hu, Nat.le_refl _, ?_⟩
          intro a
          apply den_agree_ge m.tbl hW u hu
          intro i hi _
          simp only [ovr]
          cases hl : values.lookup i with
          | none => rfl
          | some b =>
            exfalso
            have := hord' i (by simp [hl]) (by omega)
            rw [List.isEmpty_iff.mp hemp] at this
            cases this
        · simp only [hemp, Bool.false_eq_true, if_false]
          cases hl : values.lookup n.lvl with
          | some val =>
            simp only
            -- restrict this level: continue in the chosen successor
            have hcm : m.tbl.Mem (if val then n.hi else n.lo) := by
              cases val
              · exact hN.lom
              · exact hN.him
            have hcl : n.lvl < m.tbl.levelOf (if val then n.hi else n.lo) := by
              cases val
              · exact hlo
              · exact hhi
            refine (ih m (if val then n.hi else n.lo) ov cache hI hcm hmemo
              (fun j hj hle => hord' j hj (by omega)) (by omega)).elim ?_
              fun _ _ => OutcomeX.fail (StepK.refl hI)
            intro r0 c1 m1 hs1 ⟨hm1, hp1⟩
            have hW1 := hs1.inv.wf.toWF
            have hent : CofEntry values m1.tbl u (if u < 0 then -r0 else r0) := by
              refine ⟨hs1.ext.mem hu, mem_flip u hp1.mr, ?_, ?_⟩
              · rw [levelOf_flip, hs1.ext.levelOf hu, hlu]
                exact Nat.le_of_lt (hp1.lt_of_ext hs1.ext hcm hcl)
              · intro a
                rw [den_flip m1.tbl hW1 r0 u a hp1.mr, hp1.den a,
                  den_node m1.tbl hW1 u n _ h1 (hs1.ext.nodes _ _ hN.get)]
                have : ovr values a n.lvl = val := by simp [ovr, hl]
                rw [this]
                cases val <;> rfl
            exact ⟨hs1, hm1.insert hent, hent⟩
          | none =>
            simp only
            refine (ih m n.lo ov cache hI hN.lom hmemo (fun j hj hle => hord' j hj (by omega))
              (by omega)).elim ?_ fun _ _ => OutcomeX.fail (StepK.refl hI)
            intro p c1 m1 hs1 ⟨hm1, hp1⟩
            simp only
            have hhil1 : m1.tbl.levelOf n.hi = m.tbl.levelOf n.hi := hs1.ext.levelOf hN.him
            refine (ih m1 n.hi ov c1 hs1.inv (hs1.ext.mem hN.him) hm1
              (fun j hj hle => hord' j hj (by omega)) (by rw [hs1.nvars]; omega)).elim ?_
              fun _ _ => OutcomeX.fail hs1
            intro q c2 m2 hs2 ⟨hm2, hp2⟩
            simp only
            have hW2 := hs2.inv.wf.toWF
            have hp1' := hp1.ext hs1.inv.wf.toWF hs2.ext
            have hs12 := hs1.trans hs2
            refine (hfoa m2 n.lvl p q hs2.inv (by rw [hs12.nvars]; exact hN.lt) hp1'.mr hp2.mr
              (hp1'.lt_of_ext hs12.ext hN.lom hlo) (hp2.lt_of_ext hs12.ext hN.him hhi)).elim ?_
              fun _ _ => OutcomeX.fail hs12
            intro r3 m3 hk3 hp3
            have hs3 := hs12.trans hk3
            have hW3 := hp3.inv.wf.toWF
            have hent : CofEntry values m3.tbl u (if u < 0 then -r3 else r3) := by
              refine ⟨hs3.ext.mem hu, mem_flip u hp3.mem, ?_, ?_⟩
              · rw [levelOf_flip, hs3.ext.levelOf hu, hlu]; exact hp3.lvl
              · intro a
                rw [den_flip m3.tbl hW3 r3 u a hp3.mem, hp3.den a,
                  den_node m3.tbl hW3 u n _ h1 (hs3.ext.nodes _ _ hN.get),
                  ← den_ext hp3.ext hW2 q a hp2.mr, ← den_ext hp3.ext hW2 p a hp1'.mr,
                  (hp1'.ext hW2 hp3.ext).den a, (hp2.ext hW2 hp3.ext).den a]
                have : ovr values a n.lvl = a n.lvl := by simp [ovr, hl]
                rw [this]
            exact ⟨hs3, (hm2.ext hW2 hp3.ext).insert hent, hent⟩

theorem cofactorF_out (values : List (Nat × Bool)) :
    ∀ (f : Nat) (m : Mgr) (u : Int) (ordvar : List Nat) (cache : HashMap Int Int),
    Inv m → m.tbl.Mem u → CofMemo values m.tbl cache →
    (∀ j, (values.lookup j).isSome = true → m.tbl.levelOf u ≤ j → j ∈ ordvar) →
    m.nvars + 1 ≤ f + m.tbl.levelOf u →
    Outcome2 m (fun r c m' => CofMemo values m'.tbl c ∧ CofEntry values m'.tbl u r)
      (cofactorF values f u ordvar cache m) := by
  intro f m u ordvar cache hI hu hmemo hord hf
  rw [← cofactorFG_model]
  exact (cofactorFG_outX _ _ findOrAdd_foaX values f m u ordvar cache hI hu hmemo hord
    hf).toOutcome

/-- `_cofactor`: with reordering not enabled the recursion is total, only adds nodes, keeps
its memo sound and returns a reference that denotes the operand under the overridden
assignment (and whose level is not above the operand's). -/
theorem cofactorF_spec (values : List (Nat × Bool)) :
    ∀ (f : Nat) (m : Mgr) (u : Int) (ordvar : List Nat) (cache : HashMap Int Int),
    Inv m → m.lastLen = none → m.tbl.Mem u → CofMemo values m.tbl cache →
    (∀ j, (values.lookup j).isSome = true → m.tbl.levelOf u ≤ j → j ∈ ordvar) →
    m.nvars + 1 ≤ f + m.tbl.levelOf u →
    ∃ r c' m', cofactorF values f u ordvar cache m = (.ok (r, c'), m') ∧ Step m m' ∧
      CofMemo values m'.tbl c' ∧ CofEntry values m'.tbl u r := by
  intro f m u ordvar cache hI hoff hu hmemo hord hf
  obtain ⟨r, c', m', he, hs, hm, hp⟩ :=
    (cofactorF_out values f m u ordvar cache hI hu hmemo hord hf).off hoff
  exact ⟨r, c', m', he, hs.step, hm, hp⟩

end DD
