/-
  DDProofs.Compose — specification of `_compose` (substitution of a function for a single
  variable; memo keyed by the pair `(f, g)`; simultaneous descent on `min(i, k)`).  Proved once
  over ANY `find_or_add` / nested `ite` with three-outcome specifications (`composeFG_outX`); the
  model's recursion (`composeF_out`) and reordering not enabled (`composeF_spec`) are read off.
-/
import DDProofs.Cofactor
open Std

namespace DD

/-- what `_compose` guarantees about the reference it returns for `(f, g)` -/
structure KPost (j : Nat) (t : Tbl) (f g r : Int) : Prop where
  mf : t.Mem f
  mg : t.Mem g
  mr : t.Mem r
  lvl : min (t.levelOf f) (t.levelOf g) ≤ t.levelOf r
  den : ∀ a, den t r a = den t f (upd a j (den t g a))

def KMemo (j : Nat) (t : Tbl) (c : HashMap (Int × Int) Int) : Prop :=
  ∀ (f g r : Int), c[(f, g)]? = some r → KPost j t f g r

theorem KPost.ext {j : Nat} {m t : Tbl} (hw : WF m) (he : Ext m t) {f g r : Int}
    (h : KPost j m f g r) : KPost j t f g r := by
  refine ⟨he.mem h.mf, he.mem h.mg, he.mem h.mr, ?_, ?_⟩
  · rw [he.levelOf h.mf, he.levelOf h.mg, he.levelOf h.mr]; exact h.lvl
  · intro a
    rw [den_ext he hw r a h.mr, den_ext he hw g a h.mg, den_ext he hw f _ h.mf]
    exact h.den a

theorem KPost.lt_of_ext {j : Nat} {m t : Tbl} (he : Ext m t) {f g r : Int} (h : KPost j t f g r)
    (hf : m.Mem f) (hg : m.Mem g) {k : Nat} (hkf : k < m.levelOf f) (hkg : k < m.levelOf g) :
    k < t.levelOf r := by
  rw [← he.levelOf hf] at hkf
  rw [← he.levelOf hg] at hkg
  exact Nat.lt_of_lt_of_le (Nat.lt_min.mpr ⟨hkf, hkg⟩) h.lvl

theorem KMemo.ext {j : Nat} {m t : Tbl} (hw : WF m) (he : Ext m t)
    {c : HashMap (Int × Int) Int} (h : KMemo j m c) : KMemo j t c :=
  fun f g r hc => (h f g r hc).ext hw he

theorem KMemo.empty (j : Nat) (t : Tbl) : KMemo j t {} :=
  fun f g => memo_empty (P := fun k r => KPost j t k.1 k.2 r) (f, g)

theorem KMemo.insert {j : Nat} {t : Tbl} {c : HashMap (Int × Int) Int}
    (h : KMemo j t c) {f g r : Int} (he : KPost j t f g r) :
    KMemo j t (c.insert (f, g) r) :=
  fun f' g' => memo_insert (P := fun k r => KPost j t k.1 k.2 r) (fun k => h k.1 k.2) he (f', g')

/-- `_compose` over a `find_or_add` and a nested `ite` with three-outcome specifications has
one: it keeps its memo sound and the result denotes `f` with the variable at level `j` replaced
by `g`, or the call is aborted by a reordering request, or raises an exception of `E`, having
only added nodes. -/
theorem composeFG_outX (E : Err → Prop) (foa iteX : Int → Int → Int → M Int)
    (hfoa : FoaX E foa) (hite : IteNestedX E iteX) (j : Nat) :
    ∀ (fu : Nat) (m : Mgr) (f g : Int) (cache : HashMap (Int × Int) Int),
    Inv m → Quiet m → m.tbl.Mem f → m.tbl.Mem g → KMemo j m.tbl cache →
    2 * m.nvars + 1 ≤ fu + m.tbl.levelOf f + m.tbl.levelOf g →
    OutcomeX2 E m (fun r c m' => KMemo j m'.tbl c ∧ KPost j m'.tbl f g r)
      (composeFG foa iteX j fu f g cache m) := by
  intro fu
  induction fu with
  | zero =>
    intro m f g cache hI _ hf hg _ hfu
    have := levelOf_le m.tbl hI.wf.toWF f
    have := levelOf_le m.tbl hI.wf.toWF g
    have : m.nvars = m.tbl.nvars := rfl
    omega
  | succ fu ih =>
    intro m f g cache hI hq hf hg hmemo hfu
    have hW := hI.wf.toWF
    have hnv : m.nvars = m.tbl.nvars := rfl
    unfold composeFG
    by_cases h1 : f.natAbs = 1
    · simp only [h1, if_true]
      exact ⟨(StepK.refl hI), hmemo, hf, hg, hf, Nat.min_le_left _ _,
        fun a => den_term_any _ f h1 _ _⟩
    · simp only [h1, if_false]
      cases hc : cache[(f, g)]? with
      | some r => exact ⟨(StepK.refl hI), hmemo, hmemo f g r hc⟩
      | none =>
        simp only
        obtain ⟨n, hN⟩ := node_open hW hf h1
        rw [hN.get]
        simp only [hN.nz, if_false]
        have hlf := hN.lvl
        have hlo := hN.lo
        have hhi := hN.hi
        have hltn := hN.lt
        by_cases hjlt : j < n.lvl
        · -- `f` does not depend on the variable
          simp only [hjlt, if_true]
          refine ⟨(StepK.refl hI), hmemo, hf, hg, hf, Nat.min_le_left _ _, ?_⟩
          intro a
          exact (den_indep m.tbl hW f hf j _ a (by omega)).symm
        · simp only [hjlt, if_false]
          by_cases hjeq : n.lvl = j
          · -- the node of the variable: `ite(g, high, low)`
            simp only [hjeq, if_true]
            refine (hite m hI hq g n.hi n.lo hg hN.him hN.lom).elim ?_ fun _ _ => OutcomeX.fail (StepK.refl hI)
            intro r0 m1 hs1 hp1
            have hW1 := hp1.inv.wf.toWF
            have hent : KPost j m1.tbl f g (if f < 0 then -r0 else r0) := by
              refine ⟨hs1.ext.mem hf, hs1.ext.mem hg, mem_flip f hp1.mem, ?_, ?_⟩
              · rw [levelOf_flip, hs1.ext.levelOf hf, hs1.ext.levelOf hg, hlf]
                have := hp1.lvl
                omega
              · intro a
                rw [den_flip m1.tbl hW1 r0 f a hp1.mem, hp1.den a,
                  den_node m1.tbl hW1 f n _ h1 (hs1.ext.nodes _ _ hN.get), hjeq, upd_same,
                  den_ext hs1.ext hW g a hg, den_ext hs1.ext hW n.hi _ hN.him,
                  den_ext hs1.ext hW n.lo _ hN.lom,
                  den_indep m.tbl hW n.hi hN.him j _ a (by omega),
                  den_indep m.tbl hW n.lo hN.lom j _ a (by omega)]
            exact ⟨hs1, (hmemo.ext hW hs1.ext).insert hent, hent⟩
          · simp only [hjeq, if_false]
            have hnj : n.lvl < j := by omega
            rw [Tbl.levelOf?_eq _ _ hg]
            simp only
            generalize hz : min n.lvl (m.tbl.levelOf g) = z
            have hzn : z < m.tbl.nvars := by omega
            obtain ⟨f0, f1, hcf, mf0, mf1, lf0, lf1, df⟩ :=
              topCofactor_spec m.tbl hW f hf z (by omega) hzn
            obtain ⟨g0, g1, hcg, mg0, mg1, lg0, lg1, dg⟩ :=
              topCofactor_spec m.tbl hW g hg z (by omega) hzn
            obtain ⟨lf0', lf1'⟩ := topCofactor_lvl m.tbl hW f hf z (by omega) hzn f0 f1 hcf
            obtain ⟨lg0', lg1'⟩ := topCofactor_lvl m.tbl hW g hg z (by omega) hzn g0 g1 hcg
            rw [hcf, hcg]
            simp only
            refine (ih m f0 g0 cache hI hq mf0 mg0 hmemo (by omega)).elim ?_
              fun _ _ => OutcomeX.fail (StepK.refl hI)
            intro p c1 m1 hs1 ⟨hm1, hp1⟩
            simp only
            refine (ih m1 f1 g1 c1 hs1.inv (hq.step hs1) (hs1.ext.mem mf1) (hs1.ext.mem mg1) hm1
              (by rw [hs1.nvars, hs1.ext.levelOf mf1, hs1.ext.levelOf mg1]; omega)).elim ?_
              fun _ _ => OutcomeX.fail hs1
            intro q c2 m2 hs2 ⟨hm2, hp2⟩
            simp only
            have hW2 := hs2.inv.wf.toWF
            have hs12 := hs1.trans hs2
            have hp1_2 := hp1.ext hs1.inv.wf.toWF hs2.ext
            refine (hfoa m2 z p q hs2.inv (by rw [hs12.nvars]; exact hzn) hp1_2.mr hp2.mr
              (hp1_2.lt_of_ext hs12.ext mf0 mg0 lf0 lg0) (hp2.lt_of_ext hs12.ext mf1 mg1 lf1 lg1)).elim ?_
              fun _ _ => OutcomeX.fail hs12
            intro r m3 hk3 hp3
            have hs3 := hs12.trans hk3
            have hzj : z ≠ j := by omega
            have hent : KPost j m3.tbl f g r := by
              refine ⟨hs3.ext.mem hf, hs3.ext.mem hg, hp3.mem, ?_, ?_⟩
              · rw [hs3.ext.levelOf hf, hs3.ext.levelOf hg]
                have := hp3.lvl
                omega
              · intro a
                rw [hp3.den a, ← den_ext hp3.ext hW2 q a hp2.mr,
                  ← den_ext hp3.ext hW2 p a hp1_2.mr, (hp1_2.ext hW2 hp3.ext).den a,
                  (hp2.ext hW2 hp3.ext).den a,
                  den_ext hs3.ext hW f _ hf, den_ext hs3.ext hW g a hg,
                  den_ext hs3.ext hW f1 _ mf1, den_ext hs3.ext hW g1 a mg1,
                  den_ext hs3.ext hW f0 _ mf0, den_ext hs3.ext hW g0 a mg0,
                  df, dg a, upd_other _ _ _ _ hzj]
                cases a z <;> simp
            exact ⟨hs3, (hm2.ext hW2 hp3.ext).insert hent, hent⟩

theorem composeF_out (j : Nat) :
    ∀ (fu : Nat) (m : Mgr) (f g : Int) (cache : HashMap (Int × Int) Int),
    Inv m → Quiet m → m.tbl.Mem f → m.tbl.Mem g → KMemo j m.tbl cache →
    2 * m.nvars + 1 ≤ fu + m.tbl.levelOf f + m.tbl.levelOf g →
    Outcome2 m (fun r c m' => KMemo j m'.tbl c ∧ KPost j m'.tbl f g r)
      (composeF j fu f g cache m) := by
  intro fu m f g cache hI hq hf hg hmemo hfu
  rw [← composeFG_model]
  exact (composeFG_outX _ _ _ findOrAdd_foaX ite_nestedX j fu m f g cache hI hq hf hg hmemo
    hfu).toOutcome

/-- `_compose`: total when reordering is not enabled; the result denotes `f` with the variable
at level `j` replaced by `g`. -/
theorem composeF_spec (j : Nat) :
    ∀ (fu : Nat) (m : Mgr) (f g : Int) (cache : HashMap (Int × Int) Int),
    Inv m → m.lastLen = none → m.tbl.Mem f → m.tbl.Mem g → KMemo j m.tbl cache →
    2 * m.nvars + 1 ≤ fu + m.tbl.levelOf f + m.tbl.levelOf g →
    ∃ r c' m', composeF j fu f g cache m = (.ok (r, c'), m') ∧ Step m m' ∧
      KMemo j m'.tbl c' ∧ KPost j m'.tbl f g r := by
  intro fu m f g cache hI hoff hf hg hmemo hfu
  obtain ⟨r, c', m', he, hs, hm, hp⟩ :=
    (composeF_out j fu m f g cache hI (Or.inr hoff) hf hg hmemo hfu).off hoff
  exact ⟨r, c', m', he, hs.step, hm, hp⟩

end DD
