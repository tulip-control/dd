/-
  DDProofs.Constructor — the constructor `BDD(levels)` (C02): a table that passes
  `_assert_valid_ordering` and has distinct names (a `dict`) yields a manager without nodes in a good
  state; any other raises `AssertionError` and there is no manager.  Proved once, for the declarations
  `addVars` from the empty manager (`addVars_good`).  The model's three transcriptions read it off:
  * `mkBDD` (DD.Dump; natural levels), the call inside `_load_manager`: `mkBDD_good`;
  * `newMgrCore` (DD.NewMgrCore; integer levels, a `for` loop), what the driver runs: on natural levels
    it is `mkBDD` (`mkBDD_eq_newMgrCore`), a negative level is refused by the check: `newMgrCore_good`;
  * `dddmpNewMgr` (DD.Dddmp): its loop is `addVars` (`dddmpAddVars_nat`, DDProofs.DddmpProofs).
-/
import DD.NewMgrCore
import DDProofs.ManagerPickle
import DDProofs.Reach
import DDProofs.MapBijection
open Std

namespace DD

/-- `_assert_valid_ordering(levels)` -/
def newMgrCheck (levels : List (String × Int)) : Bool :=
  ((List.range levels.length).all fun i => (levels.map (·.2)).contains (i : Int)) &&
  (levels.map (·.2)).all fun k => decide (0 ≤ k) && decide (k < (levels.length : Int))

theorem newMgrCore_refused (levels : List (String × Int)) (h : newMgrCheck levels = false) :
    newMgrCore levels = (.error .assertion, {}) := by
  unfold newMgrCore
  unfold newMgrCheck at h
  simp only [h, Bool.not_false, if_true]

theorem newMgrCheck_nonneg (levels : List (String × Int)) (h : newMgrCheck levels = true) :
    ∀ p ∈ levels, 0 ≤ p.2 := by
  unfold newMgrCheck at h
  simp only [Bool.and_eq_true, List.all_eq_true, List.mem_map, decide_eq_true_eq] at h
  exact fun p hp => (h.2 p.2 ⟨p, hp, rfl⟩).1

example : newMgrCore [("a", 2), ("b", 0)] = (.error .assertion, {}) := newMgrCore_refused _ (by decide)

theorem validOrdering_facts (levels : List (String × Nat)) (h : validOrdering levels = true) :
    (levels.map (·.2)).Nodup ∧ (∀ k ∈ levels.map (·.2), k < levels.length) ∧
    (∀ i, i < levels.length → i ∈ levels.map (·.2)) := by
  unfold validOrdering at h
  simp only [Bool.and_eq_true, List.all_eq_true, decide_eq_true_eq, List.mem_range,
    List.contains_iff_mem] at h
  obtain ⟨h1, h2⟩ := h
  have hp := (perm_of_nodup_subset_length List.nodup_range
    (fun i hi => h1 i (List.mem_range.mp hi)) (l₂ := levels.map (·.2)) (by simp)).symm
  exact ⟨(hp.nodup_iff).mpr List.nodup_range, h2, h1⟩

/-- the declarations of `BDD(levels)` for a valid table with distinct names: from the empty
manager they run through and leave a manager without nodes, in a good state, declaring exactly
the given variables at the given levels (in both views), nothing else set -/
theorem addVars_good (levels : List (String × Nat)) (hnames : (levels.map (·.1)).Nodup)
    (hvalid : validOrdering levels = true) :
    ∃ m, addVars levels {} = (.ok (), m) ∧ GoodState m (fun _ => 0) ∧
      (∀ (v : String) (l : Nat), m.tbl.vars[v]? = some l ↔ (v, l) ∈ levels) ∧
      (∀ (l : Nat) (v : String), m.tbl.l2v[l]? = some v ↔ (v, l) ∈ levels) ∧
      m.tbl.nvars = levels.length ∧ SameRest {} m ∧ m.sched = [] ∧ m.fireIn = none := by
  obtain ⟨hnd, hlt, hcov⟩ := validOrdering_facts levels hvalid
  have hpw : levels.Pairwise (fun a b => a.1 ≠ b.1 ∧ a.2 ≠ b.2) :=
    (List.pairwise_map.mp hnames).and (List.pairwise_map.mp hnd)
  obtain ⟨m, e, V, L, S, hsc, hfi⟩ :=
    addVars_spec levels {} hpw (by intro v l _; exact ⟨by simp, by simp⟩)
  have V' : ∀ (v : String) (l : Nat), m.tbl.vars[v]? = some l ↔ (v, l) ∈ levels := by
    intro v l; rw [V]; simp
  have L' : ∀ (l : Nat) (v : String), m.tbl.l2v[l]? = some v ↔ (v, l) ∈ levels := by
    intro l v; rw [L]; simp
  obtain ⟨hO, hn⟩ : OrderOK m.tbl ∧ m.tbl.nvars = levels.length := by
    apply OrderOK.of_bij fun v i => (V' v i).trans (L' i v).symm
    · intro v l h
      exact hlt l (List.mem_map.mpr ⟨(v, l), (V' v l).mp h, rfl⟩)
    · intro i hi
      obtain ⟨⟨v, l⟩, hm, rfl⟩ := List.mem_map.mp (hcov i hi)
      exact ⟨v, (L' l v).mpr hm⟩
  have hI := (Inv.init.more_vars (m' := m) S.succ S.pred S.ref S.cache S.minFree (Nat.zero_le _)).1
  exact ⟨m, e, ⟨hI, hO, GoodState.init.exact.congrSucc S.succ S.ref, S.lastLen, S.ctx⟩,
    V', L', hn, S, hsc, hfi⟩

theorem mkBDD_of_addVars {levels : List (String × Nat)} {m : Mgr} (hvalid : validOrdering levels = true)
    (h : addVars levels {} = (.ok (), m)) : mkBDD levels = .ok m := by
  unfold mkBDD
  rw [hvalid, h]; rfl

/-- `BDD(levels)` for a valid table with distinct names: a manager without nodes, in a good
state, declaring exactly the given variables at the given levels (in both views) -/
theorem mkBDD_good (levels : List (String × Nat)) (hnames : (levels.map (·.1)).Nodup)
    (hvalid : validOrdering levels = true) :
    ∃ m, mkBDD levels = .ok m ∧ GoodState m (fun _ => 0) ∧
      (∀ (v : String) (l : Nat), m.tbl.vars[v]? = some l ↔ (v, l) ∈ levels) ∧
      (∀ (l : Nat) (v : String), m.tbl.l2v[l]? = some v ↔ (v, l) ∈ levels) ∧
      m.tbl.nvars = levels.length ∧ m.tbl.succ = ({} : Mgr).tbl.succ ∧ m.roots = [] := by
  obtain ⟨m, e, hg, V, L, hn, S, -, -⟩ := addVars_good levels hnames hvalid
  exact ⟨m, mkBDD_of_addVars hvalid e, hg, V, L, hn, S.succ, S.roots⟩

theorem mkBDD_refuses (levels : List (String × Nat)) (h : validOrdering levels = false) :
    mkBDD levels = .error .assertion := by
  unfold mkBDD; rw [h]; rfl

/-- natural levels read as the integers the driver passes -/
def castLevels (levels : List (String × Nat)) : List (String × Int) :=
  levels.map fun p => (p.1, (p.2 : Int))

/-- the result of `newMgrCore` in the result type of `mkBDD`: an exception carries no manager -/
def asMkBDD (r : Except Err Unit × Mgr) : Except Err Mgr :=
  match r with
  | (.ok _, m) => .ok m
  | (.error e, _) => .error e

@[simp] theorem castLevels_length (levels : List (String × Nat)) :
    (castLevels levels).length = levels.length := by simp [castLevels]

theorem castLevels_names (levels : List (String × Nat)) :
    (castLevels levels).map (·.1) = levels.map (·.1) := by
  simp [castLevels, List.map_map, Function.comp_def]

theorem castLevels_nums (levels : List (String × Nat)) :
    (castLevels levels).map (·.2) = (levels.map (·.2)).map fun (k : Nat) => (k : Int) := by
  simp [castLevels, List.map_map, Function.comp_def]

theorem mem_castLevels (levels : List (String × Nat)) (v : String) (i : Nat) :
    (v, (i : Int)) ∈ castLevels levels ↔ (v, i) ∈ levels := by
  unfold castLevels
  rw [List.mem_map]
  constructor
  · rintro ⟨⟨w, k⟩, hp, he⟩
    simp only [Prod.mk.injEq] at he
    obtain ⟨rfl, hk⟩ := he
    have : k = i := by omega
    subst this
    exact hp
  · intro h
    exact ⟨(v, i), h, rfl⟩

/-- the two transcriptions of `_assert_valid_ordering` agree -/
theorem newMgrCheck_cast (levels : List (String × Nat)) :
    newMgrCheck (castLevels levels) = validOrdering levels := by
  unfold newMgrCheck validOrdering
  rw [castLevels_length, castLevels_nums]
  congr 1
  · apply List.all_congr rfl
    intro i
    rw [Bool.eq_iff_iff]
    simp only [List.contains_iff_mem, List.mem_map]
    constructor
    · rintro ⟨k, hk, he⟩
      have : k = i := by omega
      subst this
      exact hk
    · intro h
      exact ⟨i, h, rfl⟩
  · rw [List.all_map]
    apply List.all_congr rfl
    intro k
    rw [Bool.eq_iff_iff]
    simp only [Function.comp_apply, Bool.and_eq_true, decide_eq_true_eq]
    omega

/-- the `for` loop of `newMgrCore` is the recursion `addVars`, from every manager -/
theorem forIn_cast_eq_addVars : ∀ (levels : List (String × Nat)) (m : Mgr),
    (forIn (castLevels levels) PUnit.unit fun (x : String × Int) (_ : PUnit) => do
        let _ ← addVar x.fst (some x.snd)
        pure (ForInStep.yield PUnit.unit) : M PUnit) m = addVars levels m
  | [], _ => rfl
  | (v, l) :: rest, m => by
    show (forIn ((v, (l : Int)) :: castLevels rest) PUnit.unit _ : M PUnit) m = _
    rw [List.forIn_cons]
    unfold addVars
    rcases hx : addVar v (some (l : Int)) m with ⟨e | x, m1⟩
    · have h1 : (addVar v (some (l : Int)) >>= fun _ => (pure (ForInStep.yield PUnit.unit) : M _)) m =
          (.error e, m1) := M.bind_err hx
      exact M.bind_err h1
    · have h1 : (addVar v (some (l : Int)) >>= fun _ => (pure (ForInStep.yield PUnit.unit) : M _)) m =
          (.ok (.yield PUnit.unit), m1) := M.bind_ok hx
      exact (M.bind_ok h1).trans (forIn_cast_eq_addVars rest m1)

theorem mkBDD_eq_newMgrCore (levels : List (String × Nat)) :
    mkBDD levels = asMkBDD (newMgrCore (castLevels levels)) := by
  have hchk := newMgrCheck_cast levels
  unfold newMgrCheck at hchk
  unfold mkBDD newMgrCore
  simp only [hchk]
  cases hv : validOrdering levels with
  | false => rfl
  | true =>
    simp only [Bool.not_true, Bool.false_eq_true, if_false]
    show _ = asMkBDD (((forIn (castLevels levels) PUnit.unit _ : M PUnit) >>= fun _ => pure ()) {})
    rw [M.bind_eq, forIn_cast_eq_addVars levels {}]
    unfold asMkBDD
    rcases addVars levels {} with ⟨e | x, m1⟩ <;> rfl

theorem newMgrCore_negative (levels : List (String × Int)) (h : ∃ p ∈ levels, p.2 < 0) :
    newMgrCore levels = (.error .assertion, {}) := by
  apply newMgrCore_refused
  obtain ⟨p, hp, hneg⟩ := h
  unfold newMgrCheck
  rw [Bool.and_eq_false_iff]
  right
  rw [List.all_eq_false]
  refine ⟨p.2, List.mem_map_of_mem hp, ?_⟩
  simp only [Bool.and_eq_true, decide_eq_true_eq, not_and]
  omega

theorem eq_castLevels_of_nonneg (levels : List (String × Int)) (h : ∀ p ∈ levels, 0 ≤ p.2) :
    levels = castLevels (levels.map fun p => (p.1, p.2.toNat)) := by
  unfold castLevels
  rw [List.map_map]
  conv => lhs; rw [← List.map_id levels]
  apply List.map_congr_left
  intro p hp
  have := h p hp
  simp only [id, Function.comp_apply]
  ext
  · rfl
  · simp only; omega

theorem asMkBDD_ok {r : Except Err Unit × Mgr} {m : Mgr} (h : asMkBDD r = .ok m) : r = (.ok (), m) := by
  obtain ⟨x, m1⟩ := r
  cases x with
  | error e => cases h
  | ok u => cases h; rfl

theorem newMgrCore_of_mkBDD (levels : List (String × Int)) (hchk : newMgrCheck levels = true) :
    ∃ nat : List (String × Nat), levels = castLevels nat ∧ validOrdering nat = true ∧
      ∀ m, mkBDD nat = .ok m → newMgrCore levels = (.ok (), m) := by
  have hcast := eq_castLevels_of_nonneg levels (newMgrCheck_nonneg levels hchk)
  refine ⟨_, hcast, by rw [← newMgrCheck_cast, ← hcast]; exact hchk, fun m hm => ?_⟩
  rw [mkBDD_eq_newMgrCore, ← hcast] at hm
  exact asMkBDD_ok hm

/-- **`BDD(levels)`**: for a dictionary (distinct names) whose levels are `0..n-1` the constructor
returns a good manager: no node, the two maps inverse bijections giving every variable the level
asked for, counts exact with nothing held, reordering not enabled.  The variables are declared
one by one AT THEIR LEVEL, in dictionary order — with `{'a': 1, 'b': 0}` level 1 is occupied while
level 0 is still free (a transient gap; `add_var` on its own would leave it, finding F7). -/
theorem newMgrCore_good (levels : List (String × Int)) (hnames : (levels.map (·.1)).Nodup)
    (hchk : newMgrCheck levels = true) :
    (newMgrCore levels).1 = .ok () ∧ GoodParts (newMgrCore levels).2 (fun _ => 0) ∧
    (∀ (v : String) (i : Nat), (newMgrCore levels).2.tbl.vars[v]? = some i ↔ (v, (i : Int)) ∈ levels) ∧
    (∀ u : Nat, (newMgrCore levels).2.tbl.node? u = none) ∧
    (∀ (l : Nat) (v : String), (newMgrCore levels).2.tbl.l2v[l]? = some v ↔ (v, (l : Int)) ∈ levels) ∧
    (newMgrCore levels).2.tbl.nvars = levels.length ∧
    (newMgrCore levels).2.tbl.succ = ({} : Mgr).tbl.succ := by
  obtain ⟨nat, hcast, hvalid, hrun⟩ := newMgrCore_of_mkBDD levels hchk
  obtain ⟨m, e, hg, hv, hl, hn, S, hsched, -⟩ :=
    addVars_good nat (by rw [← castLevels_names, ← hcast]; exact hnames) hvalid
  rw [hrun m (mkBDD_of_addVars hvalid e)]
  refine ⟨rfl, ⟨hg.inv, hg.order, hg.exact, hg.off, hg.ctx, hsched, S.roots⟩, fun v l => ?_, fun u => ?_,
    fun l v => ?_, ?_, S.succ⟩
  · rw [hv v l, hcast, mem_castLevels]
  · unfold Tbl.node?; rw [S.succ]; rfl
  · rw [hl l v, hcast, mem_castLevels]
  · rw [hn, hcast, castLevels_length]

/-- non-vacuity: the order `{'a': 1, 'b': 0}` — after the first declaration level 1 is occupied
and level 0 is not -/
example : (newMgrCore [("a", 1), ("b", 0)]).1 = .ok () ∧
    GoodParts (newMgrCore [("a", 1), ("b", 0)]).2 (fun _ => 0) :=
  let h := newMgrCore_good [("a", 1), ("b", 0)] (by decide) (by decide)
  ⟨h.1, h.2.1⟩

end DD
