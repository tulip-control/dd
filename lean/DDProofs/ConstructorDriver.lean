/-
  DDProofs.ConstructorDriver — the driver's `newMgr` IS `newMgrCore` (DD.NewMgrCore) with the
  driver's result type, so the theorems of DDProofs.Constructor are theorems about the constructor
  the correspondence runs.  A file of its own so that DDProofs.Constructor, and the histories that
  start from it, do not import the line protocol (DD.NewMgrCore).
-/
import DD.Driver
import DDProofs.Constructor
open Std

namespace DD

theorem newMgr_eq_core (levels : List (String × Int)) :
    newMgr levels = ((newMgrCore levels).1.map (fun _ => DRes.unit), (newMgrCore levels).2) := by
  unfold newMgr newMgrCore
  simp only []
  split
  · rfl
  · show M.bind' _ _ _ = (Except.map _ (M.bind' _ _ _).1, (M.bind' _ _ _).2)
    unfold M.bind'
    generalize (forIn levels PUnit.unit fun (x : String × Int) (_ : PUnit) => do
          let _ ← addVar x.fst (some x.snd)
          pure (ForInStep.yield PUnit.unit)) ({} : Mgr) = r
    obtain ⟨r1, m1⟩ := r
    cases r1 <;> rfl

/-- `BDD(levels)` as the driver runs it -/
theorem newMgr_good (levels : List (String × Int)) (hnames : (levels.map (·.1)).Nodup)
    (hchk : newMgrCheck levels = true) :
    (newMgr levels).1 = .ok .unit ∧ GoodParts (newMgr levels).2 (fun _ => 0) ∧
    (∀ (v : String) (i : Nat), (newMgr levels).2.tbl.vars[v]? = some i ↔ (v, (i : Int)) ∈ levels) ∧
    (∀ u : Nat, (newMgr levels).2.tbl.node? u = none) := by
  obtain ⟨h1, h2, h3, h4, -⟩ := newMgrCore_good levels hnames hchk
  rw [newMgr_eq_core]
  exact ⟨by rw [h1]; rfl, h2, h3, h4⟩

theorem newMgr_refused (levels : List (String × Int)) (h : newMgrCheck levels = false) :
    newMgr levels = (.error .assertion, {}) := by
  rw [newMgr_eq_core, newMgrCore_refused levels h]
  rfl

example : (newMgr [("a", 1), ("b", 0)]).1 = .ok .unit ∧
    GoodParts (newMgr [("a", 1), ("b", 0)]).2 (fun _ => 0) :=
  let h := newMgr_good [("a", 1), ("b", 0)] (by decide) (by decide)
  ⟨h.1, h.2.1⟩

end DD
