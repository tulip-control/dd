/-
  DDProofs.Copy — specification of `_copy_bdd(u, level_map, old_bdd, bdd, cache)`: the copy
  denotes the source function read through the level map.  One theorem covers `rename`
  (`old_bdd is bdd`) and `copy_bdd` between managers; it is about the model's `copyBddF` itself
  (`copyBddFG`, over any `find_or_add` / `ite`, has its walk in DDProofs.RecursionsSeq and no value
  specification).
-/
import DD.Ops
import DDProofs.IteOutcome
import DDProofs.Memo
import DDProofs.MemoTable
import DDProofs.SatBasic
open Std

namespace DD

/-- the assignment of the source levels induced, through the level map, by an assignment of
the target levels -/
def cmap (lm : List (Nat × Nat)) (a : Asg) : Asg := fun i =>
  match lm.lookup i with
  | some j => a j
  | none => false

/-- how the table that `_copy_bdd` reads relates to the fixed source table `S` -/
def SrcOK (src : Option Tbl) (S : Tbl) (t : Tbl) : Prop :=
  match src with
  | none => Ext S t
  | some s => s = S

theorem SrcOK.ext {src : Option Tbl} {S m t : Tbl} (h : SrcOK src S m) (he : Ext m t) :
    SrcOK src S t := by
  cases src with
  | none => exact Ext.trans h he
  | some s => exact h

theorem SrcOK.node {src : Option Tbl} {S t : Tbl} (h : SrcOK src S t) {k : Nat} {n : Nd}
    (hn : S.node? k = some n) : (src.getD t).succ[k]? = some n := by
  cases src with
  | none => exact h.nodes _ _ hn
  | some s =>
    have : s = S := h
    subst this
    exact hn

/-- what `_copy_bdd` guarantees about the reference it returns for the source reference `u` -/
structure CPost (lm : List (Nat × Nat)) (S t : Tbl) (u r : Int) : Prop where
  mr : t.Mem r
  sign : 0 < r ↔ 0 < u
  den : ∀ a, den t r a = den S u (cmap lm a)

/-- the memo is keyed by the unsigned source node and holds a positive target reference -/
def CMemo (lm : List (Nat × Nat)) (S t : Tbl) (c : HashMap Nat Int) : Prop :=
  ∀ (k : Nat) (r : Int), c[k]? = some r → 0 < k ∧ CPost lm S t (k : Int) r

theorem CPost.ext {lm : List (Nat × Nat)} {S m t : Tbl} (hw : WF m) (he : Ext m t)
    {u r : Int} (h : CPost lm S m u r) : CPost lm S t u r :=
  ⟨he.mem h.mr, h.sign, fun a => by rw [den_ext he hw r a h.mr]; exact h.den a⟩

theorem CMemo.ext {lm : List (Nat × Nat)} {S m t : Tbl} (hw : WF m) (he : Ext m t)
    {c : HashMap Nat Int} (h : CMemo lm S m c) : CMemo lm S t c :=
  fun k r hc => ⟨(h k r hc).1, (h k r hc).2.ext hw he⟩

theorem CMemo.empty (lm : List (Nat × Nat)) (S t : Tbl) : CMemo lm S t {} := memo_empty

theorem CMemo.insert {lm : List (Nat × Nat)} {S t : Tbl} {c : HashMap Nat Int}
    (h : CMemo lm S t c) {k : Nat} {r : Int} (hk : 0 < k) (he : CPost lm S t (k : Int) r) :
    CMemo lm S t (c.insert k r) := memo_insert h ⟨hk, he⟩

theorem CPost.flip {lm : List (Nat × Nat)} {S t : Tbl} (hS : WF S) (hw : WF t) {u r : Int}
    (hu : S.Mem u) (hr : 0 < r) (h : CPost lm S t (u.natAbs : Int) r) :
    CPost lm S t u (if u < 0 then -r else r) := by
  have h0 := mem_ne_zero hS hu
  refine ⟨mem_flip u h.mr, ?_, ?_⟩
  · by_cases hneg : u < 0
    · simp only [hneg, if_true]; omega
    · simp only [hneg, if_false]; omega
  · intro a
    rw [den_flip t hw r u a h.mr, h.den a, den_natAbs hS hu]

theorem mul_pos_of_same_sign (p v : Int) (hp : p ≠ 0) (hv : v ≠ 0) (h : 0 < p ↔ 0 < v) :
    0 < p * v := by
  by_cases hpv : 0 < v
  · exact Int.mul_pos (h.mpr hpv) hpv
  · have h1 : v < 0 := by omega
    have h2 : p < 0 := by
      have : ¬ 0 < p := fun hh => hpv (h.mp hh)
      omega
    exact Int.mul_pos_of_neg_of_neg h2 h1

/-- `_copy_bdd`: inside a reordering context of the target (or with requests disabled there),
when every level of the support of `u` is mapped to a declared target level, the recursion keeps
its memo sound and the copy denotes the source function through the level map (copies of regular
references are regular), or the call is aborted by a reordering request, having only added
nodes. -/
theorem copyBddF_out (src : Option Tbl) (lm : List (Nat × Nat)) (S : Tbl) (hS : WF S) :
    ∀ (fu : Nat) (m : Mgr) (u : Int) (cache : HashMap Nat Int),
    Inv m → Quiet m → SrcOK src S m.tbl → S.Mem u → CMemo lm S m.tbl cache →
    (∀ i, InSupp S u i → ∃ j, lm.lookup i = some j ∧ j < m.nvars) →
    S.nvars + 1 ≤ fu + S.levelOf u →
    Outcome2 m (fun r c m' => CMemo lm S m'.tbl c ∧ CPost lm S m'.tbl u r)
      (copyBddF src lm fu u cache m) := by
  intro fu
  induction fu with
  | zero =>
    intro m u cache _ _ _ hu _ _ hfu
    have := levelOf_le S hS u
    omega
  | succ fu ih =>
    intro m u cache hI hq hsrc hu hmemo hlm hfu
    have hW := hI.wf.toWF
    unfold copyBddF
    by_cases h1 : u.natAbs = 1
    · simp only [h1, if_true]
      refine ⟨StepK.refl hI, hmemo, Or.inl h1, Iff.rfl, fun a => ?_⟩
      rw [den_terminal _ h1, den_terminal _ h1]
    · simp only [h1, if_false]
      cases hc : cache[u.natAbs]? with
      | some r =>
        simp only
        obtain ⟨_, hp⟩ := hmemo _ r hc
        have hrpos : 0 < r := hp.sign.mpr (by omega)
        simp only [hrpos, not_true_eq_false, if_false]
        exact ⟨StepK.refl hI, hmemo, hp.flip hS hW hu hrpos⟩
      | none =>
        simp only
        obtain ⟨n, hN⟩ := node_open hS hu h1
        have hn : S.node? u.natAbs = some n := hN.get
        rw [hsrc.node hn]
        simp only [hN.nz, if_false]
        have hlu := hN.lvl
        have hlo := hN.lo
        have hhi := hN.hi
        refine (ih m n.lo cache hI hq hsrc hN.lom hmemo (fun i hi => hlm i (.lo h1 hn hi))
          (by omega)).elim ?_ fun _ => Outcome.abort (StepK.refl hI)
        intro p c1 m1 hs1 ⟨hm1, hp1⟩
        simp only
        refine (ih m1 n.hi c1 hs1.inv (hq.step hs1) (hsrc.ext hs1.ext) hN.him hm1
          (fun i hi => by rw [hs1.nvars]; exact hlm i (.hi h1 hn hi)) (by omega)).elim ?_
          fun _ => Outcome.abort hs1
        intro q c2 m2 hs2 ⟨hm2, hp2⟩
        simp only
        have hW2 := hs2.inv.wf.toWF
        have hs12 := hs1.trans hs2
        have hp1_2 := hp1.ext hs1.inv.wf.toWF hs2.ext
        -- the three assertions on signs
        have hplo : 0 < p * n.lo :=
          mul_pos_of_same_sign p n.lo (mem_ne_zero hW2 hp1_2.mr) (mem_ne_zero hS hN.lom) hp1.sign
        have hqpos : 0 < q := hp2.sign.mpr (hS.hi_pos _ _ hn)
        simp only [hplo, hqpos, not_true_eq_false, if_false]
        obtain ⟨jnew, hj, hjlt⟩ := hlm n.lvl (.here h1 hn)
        rw [hj]
        simp only
        refine (varNode_out m2 hs2.inv jnew (by rw [hs12.nvars]; exact hjlt)).elim ?_
          fun _ => Outcome.abort hs12
        intro g m3 hs3 ⟨hg3, _, hd3⟩
        simp only
        have hW3 := hs3.inv.wf.toWF
        have hs123 := hs12.trans hs3
        have hp1_3 := hp1_2.ext hW2 hs3.ext
        have hp2_3 := hp2.ext hW2 hs3.ext
        refine (ite_nested_spec m3 hs3.inv (hq.step hs123) g q p hg3 hp2_3.mr hp1_3.mr).elim ?_
          fun _ => Outcome.abort hs123
        intro r m4 hk4 hp4
        simp only
        have hs4 := hs123.trans hk4
        have hW4 := hp4.inv.wf.toWF
        -- the copy of a regular reference is regular
        have hrpos : 0 < r := by
          apply pos_of_den_alltrue m4.tbl hW4 r hp4.mem
          rw [hp4.den, hd3]
          simp only [if_true]
          have := den_alltrue m3.tbl hW3 q hp2_3.mr
          rw [this]; simpa using hqpos
        simp only [hrpos, not_true_eq_false, if_false]
        have hn' : S.node? ((u.natAbs : Int)).natAbs = some n := by simpa using hn
        have hu0 := mem_ne_zero hS hu
        have hk : 0 < u.natAbs := by omega
        have hpos : CPost lm S m4.tbl (u.natAbs : Int) r := by
          refine ⟨hp4.mem, ⟨fun _ => by omega, fun _ => hrpos⟩, ?_⟩
          intro a
          rw [hp4.den a, den_node S hS (u.natAbs : Int) n _ (by simpa using h1) hn',
            hp1_3.den a, hp2_3.den a, hd3 a]
          have h2 : ¬ ((u.natAbs : Int) < 0) := by omega
          have h3 : cmap lm a n.lvl = a jnew := by simp [cmap, hj]
          simp [h2, h3]
        exact ⟨hs4, ((hm2.ext hW2 hs3.ext).ext hW3 hp4.ext).insert hk hpos,
          hpos.flip hS hW4 hu hrpos⟩

/-- `_copy_bdd`: total when reordering is not enabled in the target and every level of the
support of `u` is mapped to a declared target level; the copy denotes the source function
through the level map; copies of regular references are regular. -/
theorem copyBddF_spec (src : Option Tbl) (lm : List (Nat × Nat)) (S : Tbl) (hS : WF S) :
    ∀ (fu : Nat) (m : Mgr) (u : Int) (cache : HashMap Nat Int),
    Inv m → m.lastLen = none → SrcOK src S m.tbl → S.Mem u → CMemo lm S m.tbl cache →
    (∀ i, InSupp S u i → ∃ j, lm.lookup i = some j ∧ j < m.nvars) →
    S.nvars + 1 ≤ fu + S.levelOf u →
    ∃ r c' m', copyBddF src lm fu u cache m = (.ok (r, c'), m') ∧ Step m m' ∧
      CMemo lm S m'.tbl c' ∧ CPost lm S m'.tbl u r := by
  intro fu m u cache hI hoff hsrc hu hmemo hlm hfu
  obtain ⟨r, c', m', he, hs, hm, hp⟩ :=
    (copyBddF_out src lm S hS fu m u cache hI (Or.inr hoff) hsrc hu hmemo hlm hfu).off hoff
  exact ⟨r, c', m', he, hs.step, hm, hp⟩

end DD
