/-
  DDProofs.CopyVars — `copy_vars(source, target)` reproduces names and levels (C11).
  The loop `for var in source.vars: target.add_var(var, level=source.level_of_var(var))`
  on a target whose declarations are compatible with the source (in particular an empty one); at the
  end what it leaves of the target's invariant and counts (`copyVarsCore_inv`).
-/
import DD.Auto
import DDProofs.PickleSteps
import DDProofs.MapBijection
open Std

namespace DD

/-- the target's declarations agree with the source's, and its own two maps are inverse -/
structure VarsCompat (src t : Tbl) : Prop where
  vars : ∀ (v : String) (i : Nat), t.vars[v]? = some i → src.vars[v]? = some i
  inv : ∀ (v : String) (i : Nat), t.vars[v]? = some i ↔ t.l2v[i]? = some v

theorem copyVars_step (src : Tbl) (hO : OrderOK src) (m : Mgr) (hc : VarsCompat src m.tbl)
    (v : String) (l : Nat) (hv : src.vars[v]? = some l) :
    ∃ m', addVar v (some (l : Int)) m = (.ok l, m') ∧ VarsCompat src m'.tbl ∧
      m'.tbl.vars[v]? = some l ∧
      (∀ (w : String) (i : Nat), m.tbl.vars[w]? = some i → m'.tbl.vars[w]? = some i) ∧
      SameRest m m' := by
  cases hex : m.tbl.vars[v]? with
  | some vl =>
    obtain rfl : l = vl := Option.some.inj (hv.symm.trans (hc.vars v vl hex))
    exact ⟨m, (addVar_existing m v l hex).2, hc, hex, fun _ _ h => h, SameRest.refl m⟩
  | none =>
    -- the level is free in the target: its holder would be `v` in the source
    have hfree : m.tbl.l2v[l]? = none := by
      cases hh : m.tbl.l2v[l]? with
      | none => rfl
      | some w =>
        have hw : m.tbl.vars[w]? = some l := (hc.inv w l).mpr hh
        have h1 : src.l2v[l]? = some w := (hO.inv w l).mp (hc.vars w l hw)
        obtain rfl : w = v := Option.some.inj (h1.symm.trans ((hO.inv v l).mp hv))
        rw [hex] at hw
        cases hw
    refine ⟨m.withVar v l, addVar_fresh m v l hex hfree,
      ⟨fun w i hw => ?_, inverse_insert hc.inv hex hfree⟩, ?_,
      fun w i => getElem?_insert_of_ne_none hex, ⟨rfl, rfl, rfl, rfl, rfl, rfl, rfl, rfl⟩⟩
    · have hw' : (m.tbl.vars.insert v l)[w]? = some i := hw
      rw [TreeMap.getElem?_insert] at hw'
      split at hw'
      · next heq =>
        rw [← LawfulEqOrd.eq_of_compare heq, ← Option.some.inj hw']; exact hv
      · exact hc.vars w i hw'
    · show (m.tbl.vars.insert v l)[v]? = some l
      simp

/-- `f` is the loop body of `copy_vars`, known only through what it does on a declared source
variable -/
theorem copyVars_loop (src : Tbl) (hO : OrderOK src)
    (f : String → PUnit → M (ForInStep PUnit))
    (hf : ∀ (v : String) (l : Nat) (m m' : Mgr), src.vars[v]? = some l →
      addVar v (some (l : Int)) m = (.ok l, m') → f v PUnit.unit m = (.ok (.yield PUnit.unit), m')) :
    ∀ (names : List String) (m : Mgr), VarsCompat src m.tbl → (∀ v ∈ names, v ∈ src.vars) →
    ∃ m', (forIn names PUnit.unit f) m = (.ok PUnit.unit, m') ∧
      VarsCompat src m'.tbl ∧
      (∀ v ∈ names, m'.tbl.vars[v]? = src.vars[v]?) ∧
      (∀ (w : String) (i : Nat), m.tbl.vars[w]? = some i → m'.tbl.vars[w]? = some i) ∧
      SameRest m m'
  | [], m, hc, _ => ⟨m, rfl, hc, (fun _ h => by cases h), (fun _ _ h => h), SameRest.refl m⟩
  | v :: rest, m, hc, hin => by
    obtain ⟨l, hl⟩ : ∃ l, src.vars[v]? = some l :=
      Option.isSome_iff_exists.mp (TreeMap.mem_iff_isSome_getElem?.mp (hin v List.mem_cons_self))
    obtain ⟨m1, hrun, hc1, hv1, hmono1, ho1⟩ := copyVars_step src hO m hc v l hl
    obtain ⟨m2, hrun2, hc2, hall2, hmono2, ho2⟩ :=
      copyVars_loop src hO f hf rest m1 hc1 (fun w hw => hin w (List.mem_cons_of_mem _ hw))
    refine ⟨m2, ?_, hc2, ?_, fun w i h => hmono2 w i (hmono1 w i h), ho1.trans ho2⟩
    · rw [List.forIn_cons]
      show (f v PUnit.unit >>= _) m = _
      rw [M.bind_ok (hf v l m m1 hl hrun)]
      exact hrun2
    · intro w hw
      rcases List.mem_cons.mp hw with rfl | hw
      · rw [hl]; exact hmono2 _ _ hv1
      · exact hall2 w hw

/-- C11 (`copy_vars`): for a source whose order is a bijection and a target whose declarations are
compatible with it (an empty target in particular), with the source's variables visited in any
order (`names` is a permutation of the source's names: the dictionary order), the call returns
normally and afterwards the target declares EXACTLY the source's variables at the source's
levels, in both views; nodes, counts, caches and configuration are untouched. -/
theorem copyVarsCore_spec (src : Tbl) (hO : OrderOK src) (names : List String)
    (hperm : names.Perm src.vars.keys) (m : Mgr) (hc : VarsCompat src m.tbl) :
    ∃ m', copyVarsCore src names m = (.ok (), m') ∧
      (∀ v : String, m'.tbl.vars[v]? = src.vars[v]?) ∧ (∀ i : Nat, m'.tbl.l2v[i]? = src.l2v[i]?) ∧
      m'.tbl.succ = m.tbl.succ ∧ m'.ref = m.ref ∧ m'.pred = m.pred ∧ m'.cache = m.cache ∧
      m'.minFree = m.minFree ∧ m'.lastLen = m.lastLen ∧ m'.ctx = m.ctx ∧ m'.roots = m.roots := by
  have hin : ∀ v ∈ names, v ∈ src.vars := fun v hv => by
    have := (hperm.mem_iff).mp hv
    exact TreeMap.mem_keys.mp this
  obtain ⟨m', hrun, hc', hall, _, ⟨c1, c3, c2, c5, c4, c6, c7, c8⟩⟩ :=
    copyVars_loop src hO
      (fun v (_ : PUnit) => (copyVarStep src v).bind' fun _ => M.pure' (ForInStep.yield PUnit.unit))
      (by
        intro v l m0 m1 hl hrun
        have hstep : copyVarStep src v m0 = (.ok (), m1) := by
          unfold copyVarStep
          simp only [hl]
          rw [hrun]
        show (copyVarStep src v >>= _) m0 = _
        rw [M.bind_ok hstep]
        rfl)
      names m hc hin
  have hvars : ∀ v : String, m'.tbl.vars[v]? = src.vars[v]? := by
    intro v
    by_cases hv : v ∈ src.vars
    · exact hall v ((hperm.mem_iff).mpr (TreeMap.mem_keys.mpr hv))
    · have hnone : src.vars[v]? = none := by
        rw [TreeMap.mem_iff_isSome_getElem?] at hv
        simpa using hv
      rw [hnone]
      cases hh : m'.tbl.vars[v]? with
      | none => rfl
      | some i =>
        have := hc'.vars v i hh
        rw [hnone] at this; cases this
  refine ⟨m', ?_, hvars, ?_, c1, c2, c3, c4, c5, c6, c7, c8⟩
  · unfold copyVarsCore
    have hguard : (!(names.length == src.vars.keys.length &&
        names.all (src.vars.keys.contains ·))) = false := by
      have h1 : names.length = src.vars.keys.length := hperm.length_eq
      have h2 : names.all (src.vars.keys.contains ·) = true := by
        rw [List.all_eq_true]
        intro v hv
        simpa using (hperm.mem_iff).mp hv
      simp only [h1, beq_self_eq_true, Bool.true_and, h2, Bool.not_true]
    simp only [bind, pure, hguard, Bool.false_eq_true, if_false]
    show ((_ : M PUnit) >>= _) m = _
    rw [M.bind_ok hrun]
    rfl
  · intro i
    cases hs : src.l2v[i]? with
    | some v =>
      have : src.vars[v]? = some i := (hO.inv v i).mpr hs
      exact (hc'.inv v i).mp ((hvars v).trans this)
    | none =>
      cases hh : m'.tbl.l2v[i]? with
      | none => rfl
      | some w =>
        have h1 : m'.tbl.vars[w]? = some i := (hc'.inv w i).mpr hh
        rw [hvars w] at h1
        have := (hO.inv w i).mp h1
        rw [hs] at this; cases this

theorem VarsCompat.empty (src : Tbl) : VarsCompat src ({} : Mgr).tbl :=
  ⟨fun v i h => by
    have h' : (∅ : TreeMap String Nat)[v]? = some i := h
    simp at h',
   fun v i => by
    show (∅ : TreeMap String Nat)[v]? = some i ↔ (∅ : TreeMap Nat String)[i]? = some v
    simp⟩

/-! `copy_vars` leaves the TARGET in a state with the full invariant (C11): more variables over the
same node table (`Inv.more_vars`), the same exact counts; a target whose two order maps equal those
of a source with a good order has a good order -/

theorem copyVarsCore_inv (src : Tbl) (hO : OrderOK src) (names : List String)
    (hperm : names.Perm src.vars.keys) (m : Mgr) (hc : VarsCompat src m.tbl) {m' : Mgr}
    (hrun : copyVarsCore src names m = (.ok (), m')) :
    OrderOK m'.tbl ∧ m'.tbl.nvars = src.nvars ∧ m.tbl.nvars ≤ m'.tbl.nvars ∧
      (Inv m → Inv m' ∧ ∀ u, m.tbl.Mem u → m'.tbl.Mem u ∧ ∀ a, den m'.tbl u a = den m.tbl u a) ∧
      (∀ ext, RefExact m ext → RefExact m' ext) := by
  obtain ⟨m'', hrun', hv, hl, c1, c2, c3, c4, c5, -⟩ := copyVarsCore_spec src hO names hperm m hc
  rw [hrun] at hrun'
  cases hrun'
  obtain ⟨ho, hn⟩ := hO.of_lookups hv hl
  have hle : m.tbl.nvars ≤ m'.tbl.nvars := by
    unfold Tbl.nvars
    apply treeMap_size_le_of_sub
    intro v i h
    rw [hv]; exact hc.vars v i h
  exact ⟨ho, hn, hle, fun hI => hI.more_vars c1 c3 c2 c4 c5 hle, fun ext hr => hr.congrSucc c1 c2⟩

end DD
