/-
  DDProofs.DddmpDecide — `DddmpFile.WF` is decidable (the header is computed, every clause of
  `DddmpBodyWF` is a bounded check over the node list): concrete files are shown well-formed
  by evaluation, for the non-vacuity examples of the C16 theorems.
-/
import DDProofs.DddmpProofs
open Std

namespace DD

instance decExSome {α : Type} (o : Option α) (P : α → Prop) [DecidablePred P] :
    Decidable (∃ k, o = some k ∧ P k) :=
  match o with
  | none => isFalse (by rintro ⟨k, h, _⟩; cases h)
  | some a =>
    if h : P a then isTrue ⟨a, rfl, h⟩
    else isFalse (by rintro ⟨k, hk, hp⟩; cases hk; exact h hp)

instance (f : DddmpFile) (i2p : List (DddmpTok × Int)) (k c : Int) : Decidable (DddmpChildOK f i2p k c) := by
  unfold DddmpChildOK; infer_instance

instance (n : DddmpNode) : Decidable n.IsTerm := by
  unfold DddmpNode.IsTerm; infer_instance

instance (f : DddmpFile) (i2p levels : List (DddmpTok × Int)) (n : DddmpNode) :
    Decidable (n.IsNode f i2p levels) := by
  unfold DddmpNode.IsNode; infer_instance

instance (f : DddmpFile) (i2p levels : List (DddmpTok × Int)) (nv : Int) :
    Decidable (DddmpBodyWF f i2p levels nv) :=
  decidable_of_iff (0 ≤ nv ∧ f.nnodes = some (f.nodes.length : Int) ∧ (f.nodes.map (·.u)).Nodup ∧
      (levels.map (·.1.show)).Nodup ∧ (levels.map (·.2)).Nodup ∧
      (∀ p ∈ levels, 0 ≤ p.2 ∧ p.2 ≤ nv) ∧ (∀ n ∈ f.nodes, n.IsTerm ∨ n.IsNode f i2p levels))
    ⟨fun ⟨a, b, c, d, e, g, h⟩ => ⟨a, b, c, d, e, g, h⟩,
     fun ⟨a, b, c, d, e, g, h⟩ => ⟨a, b, c, d, e, g, h⟩⟩

instance (f : DddmpFile) : Decidable f.WF :=
  match hh : dddmpHeader f, hn : f.nvars with
  | .ok (i2p, levels, roots), some nv =>
    if h : DddmpBodyWF f i2p levels nv ∧ ∀ ρ ∈ roots, ∃ x ∈ f.nodes, x.u = (ρ.natAbs : Int) then
      isTrue ⟨i2p, levels, roots, nv, hh, hn, h.1, h.2⟩
    else isFalse (by
      rintro ⟨i2p', levels', roots', nv', hh', hn', hb, hr⟩
      rw [hh] at hh'; rw [hn] at hn'
      cases hh'; cases hn'
      exact h ⟨hb, hr⟩)
  | .error _, _ => isFalse (by
      rintro ⟨i2p', levels', roots', nv', hh', -⟩
      rw [hh] at hh'; cases hh')
  | .ok _, none => isFalse (by
      rintro ⟨i2p', levels', roots', nv', -, hn', -⟩
      rw [hn] at hn'; cases hn')

end DD
