/-
  DDProofs.DddmpFormat — the file semantics `evalFile` (stated through the two tables of
  `_parse_header`) composed with the mode lemmas of `DDProofs/DddmpHeader.lean` into ONE
  statement: on a well-formed file with distinct header entries, `evalFile` is `evalFormat`,
  the evaluation of the node list by the DDDMP reading rule `dddmpNameOf` (header LINES
  only), and it obeys the Shannon rule of the format for every listed line, with
  complemented else-edges and signed root entries.
-/
import DDProofs.DddmpHeader
open Std

namespace DD

theorem evalFileF_eq_evalNodesF (i2p levels : List (DddmpTok × Int)) (nodes : List DddmpNode)
    (α : String → Bool) :
    ∀ fuel x, evalFileF i2p levels nodes α fuel x =
      evalNodesF (dddmpVarOf i2p levels) nodes α fuel x := by
  intro fuel
  induction fuel with
  | zero => intro x; rfl
  -- the two recursions of the model have the same text
  | succ fuel ih => intro x; simp only [evalFileF, evalNodesF, ih]

theorem evalNodesF_congr {varOf varOf' : DddmpTok → Option DddmpTok} {nodes : List DddmpNode}
    (h : ∀ n ∈ nodes, n.info ≠ .str "T" → varOf n.info = varOf' n.info) (α : String → Bool) :
    ∀ fuel x, evalNodesF varOf nodes α fuel x = evalNodesF varOf' nodes α fuel x := by
  intro fuel
  induction fuel with
  | zero => intro x; rfl
  | succ fuel ih =>
    intro x
    rw [evalNodesF, evalNodesF]
    cases hf : nodes.find? (fun n => decide (n.u = (x.natAbs : Int))) with
    | none => rfl
    | some n =>
      simp only
      by_cases ht : n.info = .str "T"
      · simp [ht]
      · simp only [ht, if_false]
        rw [h n (List.mem_of_find?_eq_some hf) ht]
        cases varOf' n.info with
        | none => rfl
        | some var => simp only [ih]

/-- the entries of the header lists that identify variables are distinct (in the lists the
mode of the file uses) -/
structure DddmpHeaderOK (f : DddmpFile) : Prop where
  ids : f.varinfo = some 0 → (f.ids.getD []).Nodup
  permids : f.varinfo ≠ some 3 → (f.permids.getD []).Nodup
  ordered : (f.orderedvarnames.getD []).Nodup
  supp : f.orderedvarnames = none → (f.suppvarnames.getD []).Nodup

section HeaderOK
variable {f : DddmpFile} (hH : DddmpHeaderOK f)
include hH

theorem DddmpHeaderOK.ids_nodup (hv : f.varinfo = some 0) {ids : List Int} (hi : f.ids = some ids) :
    ids.Nodup := by
  have := hH.ids hv
  rwa [hi] at this

theorem DddmpHeaderOK.permids_nodup (hv3 : f.varinfo ≠ some 3) {permids : List Int}
    (hp : f.permids = some permids) : permids.Nodup := by
  have := hH.permids hv3
  rwa [hp] at this

theorem DddmpHeaderOK.ordered_nodup {ov : List DddmpTok} (ho : f.orderedvarnames = some ov) :
    ov.Nodup := by
  have := hH.ordered
  rwa [ho] at this

theorem DddmpHeaderOK.supp_nodup (ho : f.orderedvarnames = none) {sv : List DddmpTok}
    (hs : f.suppvarnames = some sv) : sv.Nodup := by
  have := hH.supp ho
  rwa [hs] at this

end HeaderOK

instance (f : DddmpFile) : Decidable (DddmpHeaderOK f) :=
  decidable_of_iff ((f.varinfo = some 0 → (f.ids.getD []).Nodup) ∧
      (f.varinfo ≠ some 3 → (f.permids.getD []).Nodup) ∧ (f.orderedvarnames.getD []).Nodup ∧
      (f.orderedvarnames = none → (f.suppvarnames.getD []).Nodup))
    ⟨fun ⟨a, b, c, d⟩ => ⟨a, b, c, d⟩, fun ⟨a, b, c, d⟩ => ⟨a, b, c, d⟩⟩

theorem lenNe_false {α : Type} {l : List α} {n : Option Int} (h : lenNe l n = false) :
    n = some (l.length : Int) := by
  simpa [lenNe] using h

theorem lenGuard_ok {c : Bool} {k : Unit → Except Err Unit}
    (h : (if c = true then throw Err.assertion >>= k else k ()) = .ok ()) :
    k () = .ok () ∧ c = false := by
  cases c with
  | true => cases h
  | false => exact ⟨h, rfl⟩

/-- what `_assert_consistent` has checked when it returns: the three required lists are there,
and every list that is there has the announced length -/
theorem assertConsistent_inv {f : DddmpFile} (hc : dddmpAssertConsistent f = .ok ()) :
    ∃ ids permids rootids, f.ids = some ids ∧ f.permids = some permids ∧ f.rootids = some rootids ∧
      lenNe ids f.nsuppvars = false ∧ lenNe permids f.nsuppvars = false ∧
      (∀ sv, f.suppvarnames = some sv → lenNe sv f.nsuppvars = false) ∧
      (∀ ov, f.orderedvarnames = some ov → lenNe ov f.nvars = false) := by
  unfold dddmpAssertConsistent at hc
  -- `k5 … k1`: the checks that follow the first, the second, … guard; a guard that raises makes
  -- the result an error, so each of them has returned to the next
  extract_lets k1 k2 k3 k4 k5 at hc
  obtain ⟨hc, hsv⟩ : k5 () = .ok () ∧ ∀ sv, f.suppvarnames = some sv → lenNe sv f.nsuppvars = false := by
    split at hc
    · next sv hs =>
      exact ⟨(lenGuard_ok hc).1, fun _ e => Option.some.inj (hs.symm.trans e) ▸ (lenGuard_ok hc).2⟩
    · next hs => exact ⟨hc, fun _ e => nomatch hs.symm.trans e⟩
  obtain ⟨hc, hov⟩ : k4 () = .ok () ∧ ∀ ov, f.orderedvarnames = some ov → lenNe ov f.nvars = false := by
    dsimp only [k5] at hc
    split at hc
    · next ov hs =>
      exact ⟨(lenGuard_ok hc).1, fun _ e => Option.some.inj (hs.symm.trans e) ▸ (lenGuard_ok hc).2⟩
    · next hs => exact ⟨hc, fun _ e => nomatch hs.symm.trans e⟩
  obtain ⟨hc, ids, hi, hil⟩ : k3 () = .ok () ∧ ∃ l, f.ids = some l ∧ lenNe l f.nsuppvars = false := by
    dsimp only [k4] at hc
    split at hc
    · cases hc
    · next l hs => exact ⟨(lenGuard_ok hc).1, l, hs, (lenGuard_ok hc).2⟩
  obtain ⟨hc, permids, hp, hpl⟩ : k2 () = .ok () ∧ ∃ l, f.permids = some l ∧ lenNe l f.nsuppvars = false := by
    dsimp only [k3] at hc
    split at hc
    · cases hc
    · next l hs => exact ⟨(lenGuard_ok hc).1, l, hs, (lenGuard_ok hc).2⟩
  have hc : k1 () = .ok () := by
    dsimp only [k2] at hc
    split at hc
    · exact (lenGuard_ok hc).1
    · exact hc
  dsimp only [k1] at hc
  split at hc
  · cases hc
  · next rootids hr => exact ⟨ids, permids, rootids, hi, hp, hr, hil, hpl, hsv, hov⟩

theorem dddmpHeader_consistent {f : DddmpFile} {i2p levels : List (DddmpTok × Int)} {roots : List Int}
    (h : dddmpHeader f = .ok (i2p, levels, roots)) : dddmpAssertConsistent f = .ok () := by
  unfold dddmpHeader at h
  split at h
  · cases h
  · next u hu => cases u; exact hu

theorem dddmpHeader_lengths {f : DddmpFile} {i2p levels : List (DddmpTok × Int)} {roots : List Int}
    (h : dddmpHeader f = .ok (i2p, levels, roots)) {ids permids : List Int}
    (hi : f.ids = some ids) (hp : f.permids = some permids) :
    ids.length = permids.length ∧ (∀ sv, f.suppvarnames = some sv → permids.length = sv.length) ∧
      (∀ ov, f.orderedvarnames = some ov → f.nvars = some (ov.length : Int)) := by
  obtain ⟨_, _, _, hi', hp', -, h1, h2, h3, h4⟩ := assertConsistent_inv (dddmpHeader_consistent h)
  cases hi.symm.trans hi'
  cases hp.symm.trans hp'
  have e1 := lenNe_false h1
  have e2 := lenNe_false h2
  refine ⟨?_, ?_, fun ov ho => lenNe_false (h4 ov ho)⟩
  · rw [e1] at e2
    have := Option.some.inj e2
    omega
  · intro sv hs
    have e3 := lenNe_false (h3 sv hs)
    rw [e2] at e3
    have := Option.some.inj e3
    omega

section Reading
variable {f : DddmpFile} {i2p levels : List (DddmpTok × Int)} {roots : List Int}

/-- `levels_supp` from `DddmpHeaderOK`: the lengths agree (`_assert_consistent`), the lists have no
repeated entry -/
theorem levels_supp_of_headerOK (h : dddmpHeader f = .ok (i2p, levels, roots)) (hH : DddmpHeaderOK f)
    (hv3 : f.varinfo ≠ some 3) (ho : f.orderedvarnames = none) {sv : List DddmpTok}
    (hs : f.suppvarnames = some sv) {permids : List Int} (hp : f.permids = some permids) :
    permids.length = sv.length ∧ (levels.map (·.2)).Nodup ∧ levels.map (·.2) = sortInts permids ∧
      ∀ {j : Nat} {k : Int} {var : DddmpTok}, permids[j]? = some k → sv[j]? = some var →
        (var, k) ∈ levels := by
  obtain ⟨ids, permids', _, hi, hp', _, _, _, _⟩ := dddmpHeader_inv h
  rw [hp] at hp'
  cases hp'
  have hlen := (dddmpHeader_lengths h hi hp).2.1 sv hs
  exact ⟨hlen, levels_supp h ho hs hp (hH.supp_nodup ho hs) (hH.permids_nodup hv3 hp) hlen⟩

/-- the support variable listed at position `j`, whose level `permids[j]` is one of the
header's levels: it is the variable the header puts on that level, and `dddmpSuppName` names it -/
theorem suppVar_of_level (h : dddmpHeader f = .ok (i2p, levels, roots)) (hH : DddmpHeaderOK f)
    (hv3 : f.varinfo ≠ some 3) {permids : List Int}
    (hp : f.permids = some permids) {j : Nat} {k : Int} (hjk : permids[j]? = some k)
    (hkl : k ∈ levels.map (·.2)) :
    ∃ var, (var, k) ∈ levels ∧ (levels.map (·.2)).Nodup ∧ dddmpSuppName f j = some var := by
  cases ho : f.orderedvarnames with
  | some ov =>
    have hond : ov.Nodup := hH.ordered_nodup ho
    have hL := levels_ordered_eq h ho
    rw [hL, enumDict_eq hond] at hkl
    obtain ⟨q, hq, rfl⟩ := List.mem_map.mp hkl
    obtain ⟨p, hp', rfl⟩ := List.mem_map.mp hq
    have hov : ov[p.2]? = some p.1 := List.mem_zipIdx_iff_getElem?.mp hp'
    obtain ⟨hm, hvals⟩ := levels_ordered h ho hond hov
    refine ⟨p.1, hm, hvals, ?_⟩
    simp only at hjk
    simp [dddmpSuppName, ho, hp, hjk, hov]
  | none =>
    cases hs : f.suppvarnames with
    | none =>
      -- no names: the loader's table is that of the names `permids[0], permids[1], …`
      have hpnd : permids.Nodup := hH.permids_nodup hv3 hp
      have hond : (permids.map DddmpTok.num).Nodup :=
        nodup_map_of_inj_on _ _ (fun a _ b _ h => by cases h; rfl) hpnd
      have hL := levels_nameless_eq h ho hs hp
      rw [hL, enumDict_eq hond] at hkl
      obtain ⟨q, hq, rfl⟩ := List.mem_map.mp hkl
      obtain ⟨p, hp', rfl⟩ := List.mem_map.mp hq
      have hov : (permids.map DddmpTok.num)[p.2]? = some p.1 := List.mem_zipIdx_iff_getElem?.mp hp'
      refine ⟨p.1, ?_, ?_, ?_⟩
      · rw [hL]; exact enumDict_mem hond hov
      · rw [hL]; exact enumDict_vals hond
      · simp only at hjk
        rw [List.getElem?_map] at hov
        cases hpk : permids[p.2]? with
        | none => rw [hpk] at hov; cases hov
        | some v =>
          rw [hpk] at hov
          simp only [Option.map_some, Option.some.injEq] at hov
          simp [dddmpSuppName, ho, hs, hp, hjk, hpk, hov]
    | some sv =>
      obtain ⟨hlen', hvals, -, hm⟩ := levels_supp_of_headerOK h hH hv3 ho hs hp
      have hj : j < sv.length := by
        have := (List.getElem?_eq_some_iff.mp hjk).1
        omega
      have hjv : sv[j]? = some sv[j] := List.getElem?_eq_getElem hj
      exact ⟨sv[j], hm hjk hjv, hvals, by simp [dddmpSuppName, ho, hs, hjv]⟩

/-- on the label of a well-formed non-terminal line (it resolves through `info2permid` to one
of the header's levels) the loader's two tables and the DDDMP reading rule name the same
variable -/
theorem dddmpVarOf_eq_nameOf (h : dddmpHeader f = .ok (i2p, levels, roots)) (hH : DddmpHeaderOK f)
    {info : DddmpTok} {k : Int} (hne : info ≠ .str "T")
    (hk : dictGet i2p info = some k) (hkl : k ∈ levels.map (·.2)) :
    ∃ var, dddmpVarOf i2p levels info = some var ∧ dddmpNameOf f info = some var := by
  obtain ⟨ids, permids, _, hi, hp, _, hI, hL, _⟩ := dddmpHeader_inv h
  obtain ⟨t, nv, ht, _, hi2p⟩ := dddmpInfo2permid_inv hI
  have hkt : dictGet t info = some k := by
    rw [hi2p, i2p_get_of_table hne] at hk; exact hk
  obtain ⟨hlen, _, _⟩ := dddmpHeader_lengths h hi hp
  unfold dddmpInfoTable at ht
  split at ht
  · -- `.varinfo 0`
    next hv =>
    have hv3 : f.varinfo ≠ some 3 := by rw [hv]; decide
    have hnd : ids.Nodup := hH.ids_nodup hv hi
    obtain ⟨j, i, rfl, hji, hjk⟩ := (infoTable_varinfo0 hv (t := t)
      (by rw [dddmpInfoTable, hv]; exact ht) hnd hlen _ _).mp hkt
    obtain ⟨var, hm, hvals, hsn⟩ := suppVar_of_level h hH hv3 hp hjk hkl
    refine ⟨var, dddmpVarOf_of_mem hvals hk hm, ?_⟩
    simp [dddmpNameOf, hv, hi, posOf_of_getElem? hnd hji, hsn]
  · -- `.varinfo 1`
    next hv =>
    have hv3 : f.varinfo ≠ some 3 := by rw [hv]; decide
    have hpnd : permids.Nodup := hH.permids_nodup hv3 hp
    obtain ⟨rfl, hk'⟩ := (infoTable_varinfo1 hv (ids := ids) (t := t)
      (by rw [dddmpInfoTable, hv]; exact ht) hpnd _ _).mp hkt
    obtain ⟨j, hjk⟩ := List.mem_iff_getElem?.mp hk'
    obtain ⟨var, hm, hvals, hsn⟩ := suppVar_of_level h hH hv3 hp hjk hkl
    refine ⟨var, dddmpVarOf_of_mem hvals hk hm, ?_⟩
    simp [dddmpNameOf, hv, hp, posOf_of_getElem? hpnd hjk, hsn]
  · cases ht
  · -- `.varinfo 3`
    next hv =>
    split at ht
    · cases ht
    · next ov ho =>
      have hond : ov.Nodup := hH.ordered_nodup ho
      have ht' : t = enumDict ov := by
        simp only [pure, Except.pure, Except.ok.injEq] at ht
        exact ht.symm
      rw [ht', enumDict_eq hond] at hkt
      obtain ⟨p, hpz, hpe⟩ := List.mem_map.mp (dictGet_some_mem _ hkt)
      have hov : ov[p.2]? = some p.1 := List.mem_zipIdx_iff_getElem?.mp hpz
      simp only [Prod.mk.injEq] at hpe
      obtain ⟨rfl, rfl⟩ := hpe
      refine ⟨p.1, dddmpVarOf_varinfo3 h hv ho hond hov hne, ?_⟩
      have : p.1 ∈ ov := List.mem_of_getElem? hov
      simp [dddmpNameOf, hv, ho, this]
  · cases ht
  · cases ht

end Reading

/-- on a well-formed file with distinct header entries (with or without names), the semantics the load
theorems are stated with IS the evaluation of the node list by the DDDMP reading rule -/
theorem evalFile_eq_evalFormat {f : DddmpFile} (hf : f.WF) (hH : DddmpHeaderOK f)
    (α : String → Bool) (x : Int) :
    evalFile f α x = evalFormat f α x := by
  obtain ⟨i2p, levels, roots, nv, hh, hnv, hw, _⟩ := hf
  rw [evalFile_eq hh hnv, evalFileF_eq_evalNodesF]
  unfold evalFormat
  rw [hnv]
  simp only [Option.getD_some]
  apply evalNodesF_congr
  intro n hn hne
  rcases hw.line n hn with ht | hnode
  · exact absurd ht.2.1 hne
  · obtain ⟨_, _, _, _, k, hk, hkl, _, _⟩ := hnode
    obtain ⟨var, h1, h2⟩ := dddmpVarOf_eq_nameOf hh hH hne hk hkl
    rw [h1, h2]

/-- `ev` reads the node list of `f` by the rule "the non-terminal line labelled `info` is a
node of the variable `var` whenever `lineVar info var`": the terminal line is the constant
true, a negative number is the complement, every non-terminal line has a variable, and its
value is `if var then [then-column] else [else-column]` (Shannon). -/
structure DddmpShannon (f : DddmpFile) (lineVar : DddmpTok → DddmpTok → Prop)
    (ev : (String → Bool) → Int → Bool) : Prop where
  term : (∃ n ∈ f.nodes, n.IsTerm) → ∀ α, ev α 1 = true
  sign : ∀ α x, ev α x = ((decide (x < 0)) ^^ ev α (x.natAbs : Int))
  total : ∀ n ∈ f.nodes, ¬ n.IsTerm → ∃ var, lineVar n.info var
  node : ∀ n ∈ f.nodes, ¬ n.IsTerm → ∀ var, lineVar n.info var → ∀ α,
    ev α n.u = if α var.show then ev α n.thn else ev α n.els

/-- `evalFile` obeys the Shannon rule of the format with the reading `dddmpNameOf`
(`evalFileF_node` composed with `dddmpVarOf_eq_nameOf`) -/
theorem evalFile_shannon {f : DddmpFile} (hf : f.WF) (hH : DddmpHeaderOK f) :
    DddmpShannon f (fun info var => dddmpNameOf f info = some var) (evalFile f) := by
  obtain ⟨i2p, levels, roots, nv, hh, hnv, hw, _⟩ := hf
  have hT := dddmpHeader_T hh hnv
  have hev := evalFile_eq hh hnv
  have hline : ∀ n ∈ f.nodes, ¬ n.IsTerm → ∃ k var, n.IsNode f i2p levels ∧
      dictGet i2p n.info = some k ∧ (var, k) ∈ levels ∧ dddmpNameOf f n.info = some var := by
    intro n hn hnt
    rcases hw.line n hn with ht | hnode
    · exact absurd ht hnt
    · obtain ⟨_, hne, _, _, k, hk, hkl, _, _⟩ := id hnode
      obtain ⟨var, h1, h2⟩ := dddmpVarOf_eq_nameOf hh hH hne hk hkl
      exact ⟨k, var, hnode, hk, dddmpVarOf_mem hk h1, h2⟩
  refine ⟨?_, ?_, ?_, ?_⟩
  · rintro ⟨n, hn, ht⟩ α
    rw [hev]; exact hw.evalFileF_term α hn ht
  · intro α x
    rw [hev, hev]; exact evalFileF_abs _ _ _ _ _ _
  · intro n hn hnt
    obtain ⟨_, var, _, _, _, h2⟩ := hline n hn hnt
    exact ⟨var, h2⟩
  · intro n hn hnt var hv α
    obtain ⟨k, var', hnode, hk, hm, h2⟩ := hline n hn hnt
    rw [hv] at h2
    cases h2
    rw [hev, hev, hev]
    exact hw.evalFileF_node hT α hn hnode hk hm

theorem evalFile_eq_evalFormat_fun {f : DddmpFile} (hf : f.WF) (hH : DddmpHeaderOK f) :
    evalFile f = evalFormat f :=
  funext fun α => funext fun x => evalFile_eq_evalFormat hf hH α x

theorem evalFormat_shannon {f : DddmpFile} (hf : f.WF) (hH : DddmpHeaderOK f) :
    DddmpShannon f (fun info var => dddmpNameOf f info = some var) (evalFormat f) :=
  evalFile_eq_evalFormat_fun hf hH ▸ evalFile_shannon hf hH

theorem DddmpShannon.reading {f : DddmpFile} {R R' : DddmpTok → DddmpTok → Prop}
    {ev : (String → Bool) → Int → Bool} (h : DddmpShannon f R ev)
    (hRR : ∀ info var, R info var ↔ R' info var) : DddmpShannon f R' ev :=
  ⟨h.term, h.sign, fun n hn hnt => (h.total n hn hnt).imp fun var hv => (hRR _ _).mp hv,
    fun n hn hnt var hv => h.node n hn hnt var ((hRR _ _).mpr hv)⟩

section Modes
variable {f : DddmpFile}

/-- `.varinfo 3`: the label is the name -/
theorem dddmpNameOf_varinfo3 (hv : f.varinfo = some 3) {ov : List DddmpTok}
    (ho : f.orderedvarnames = some ov) (info var : DddmpTok) :
    dddmpNameOf f info = some var ↔ (info = var ∧ var ∈ ov) := by
  simp only [dddmpNameOf, hv, ho, Option.getD_some]
  constructor
  · intro h
    split at h
    · next hc =>
      cases h
      exact ⟨rfl, by simpa using hc⟩
    · cases h
  · rintro ⟨rfl, hm⟩
    simp [hm]

/-- `.varinfo 0` and `.varinfo 1`: the label is an entry of `.ids` / of `.permids`; the line is
a node of the support variable listed at the position of that entry -/
theorem dddmpNameOf_pos {l : List Int}
    (hl : (f.varinfo = some 0 ∧ f.ids = some l) ∨ (f.varinfo = some 1 ∧ f.permids = some l))
    (hnd : l.Nodup) (info var : DddmpTok) :
    dddmpNameOf f info = some var ↔
      ∃ (j : Nat) (i : Int), info = .num i ∧ l[j]? = some i ∧ dddmpSuppName f j = some var := by
  have key : ∀ i, dddmpNameOf f (.num i) = (posOf i l).bind (dddmpSuppName f) := by
    intro i
    rcases hl with ⟨hv, hi⟩ | ⟨hv, hp⟩
    · simp only [dddmpNameOf, hv, hi, Option.getD_some]
    · simp only [dddmpNameOf, hv, hp, Option.getD_some]
  constructor
  · intro h
    cases info with
    | str s => rcases hl with ⟨hv, -⟩ | ⟨hv, -⟩ <;> simp [dddmpNameOf, hv] at h
    | num i =>
      rw [key] at h
      cases hpo : posOf i l with
      | none => rw [hpo] at h; cases h
      | some j => rw [hpo] at h; exact ⟨j, i, rfl, posOf_some hpo, h⟩
  · rintro ⟨j, i, rfl, hji, h⟩
    rw [key, posOf_of_getElem? hnd hji]; exact h

/-- the support variable at position `j`, with `.orderedvarnames`: the name listed at its level -/
theorem dddmpSuppName_ordered {ov : List DddmpTok} (ho : f.orderedvarnames = some ov)
    {permids : List Int} (hp : f.permids = some permids) (j : Nat) (var : DddmpTok) :
    dddmpSuppName f j = some var ↔ ∃ k : Nat, permids[j]? = some (k : Int) ∧ ov[k]? = some var := by
  simp only [dddmpSuppName, ho, hp, Option.getD_some]
  cases hjk : permids[j]? with
  | none => simp
  | some k =>
    simp only [Option.some.injEq]
    constructor
    · intro h
      split at h
      · next hk0 => exact ⟨k.toNat, (Int.toNat_of_nonneg hk0).symm, h⟩
      · cases h
    · rintro ⟨k', rfl, h⟩
      simpa using h

/-- … with `.suppvarnames` only: the name listed at position `j` -/
theorem dddmpSuppName_supp (ho : f.orderedvarnames = none) {sv : List DddmpTok}
    (hs : f.suppvarnames = some sv) (j : Nat) : dddmpSuppName f j = sv[j]? := by
  simp only [dddmpSuppName, ho, hs]

/-- … without names: the `int` the loader invents for its level -/
theorem dddmpSuppName_nameless (ho : f.orderedvarnames = none) (hs : f.suppvarnames = none)
    {permids : List Int} (hp : f.permids = some permids) (j : Nat) (var : DddmpTok) :
    dddmpSuppName f j = some var ↔
      ∃ (k : Nat) (v : Int), permids[j]? = some (k : Int) ∧ permids[k]? = some v ∧ var = .num v := by
  simp only [dddmpSuppName, ho, hs, hp, Option.getD_some]
  cases hjk : permids[j]? with
  | none => simp
  | some k =>
    simp only [Option.some.injEq]
    constructor
    · intro h
      split at h
      · next hk0 =>
        obtain ⟨v, hv, rfl⟩ := Option.map_eq_some_iff.mp h
        exact ⟨k.toNat, v, (Int.toNat_of_nonneg hk0).symm, hv, rfl⟩
      · cases h
    · rintro ⟨k', v, rfl, hv, rfl⟩
      simp [hv]

/-- `.varinfo 0` with `.orderedvarnames`: the line labelled `ids[j]` is a node of the
variable `orderedvarnames[permids[j]]` -/
theorem dddmpNameOf_varinfo0_ordered (hv : f.varinfo = some 0) {ids permids : List Int}
    (hi : f.ids = some ids) (hp : f.permids = some permids) (hnd : ids.Nodup)
    {ov : List DddmpTok} (ho : f.orderedvarnames = some ov) (info var : DddmpTok) :
    dddmpNameOf f info = some var ↔
      ∃ (j : Nat) (i : Int) (k : Nat), info = .num i ∧ ids[j]? = some i ∧
        permids[j]? = some (k : Int) ∧ ov[k]? = some var := by
  simp only [dddmpNameOf_pos (.inl ⟨hv, hi⟩) hnd, dddmpSuppName_ordered ho hp]
  exact ⟨fun ⟨j, i, e, hji, k, hjk, hk⟩ => ⟨j, i, k, e, hji, hjk, hk⟩,
    fun ⟨j, i, k, e, hji, hjk, hk⟩ => ⟨j, i, e, hji, k, hjk, hk⟩⟩

/-- `.varinfo 1` with `.orderedvarnames`: the line labelled `permids[j] = k` is a node of the
variable `orderedvarnames[k]` -/
theorem dddmpNameOf_varinfo1_ordered (hv : f.varinfo = some 1) {permids : List Int}
    (hp : f.permids = some permids) (hnd : permids.Nodup)
    {ov : List DddmpTok} (ho : f.orderedvarnames = some ov) (info var : DddmpTok) :
    dddmpNameOf f info = some var ↔
      ∃ k : Nat, info = .num (k : Int) ∧ (k : Int) ∈ permids ∧ ov[k]? = some var := by
  simp only [dddmpNameOf_pos (.inr ⟨hv, hp⟩) hnd, dddmpSuppName_ordered ho hp]
  constructor
  · rintro ⟨j, i, rfl, hji, k, hjk, hk⟩
    cases hji.symm.trans hjk
    exact ⟨k, rfl, List.mem_of_getElem? hji, hk⟩
  · rintro ⟨k, rfl, hm, hk⟩
    obtain ⟨j, hjk⟩ := List.mem_iff_getElem?.mp hm
    exact ⟨j, k, rfl, hjk, k, hjk, hk⟩

/-- `.varinfo 0` without `.orderedvarnames`: the line labelled `ids[j]` is a node of the
variable `suppvarnames[j]` -/
theorem dddmpNameOf_varinfo0_supp (hv : f.varinfo = some 0) {ids : List Int}
    (hi : f.ids = some ids) (hnd : ids.Nodup) (ho : f.orderedvarnames = none) {sv : List DddmpTok}
    (hs : f.suppvarnames = some sv) (info var : DddmpTok) :
    dddmpNameOf f info = some var ↔
      ∃ (j : Nat) (i : Int), info = .num i ∧ ids[j]? = some i ∧ sv[j]? = some var := by
  simp only [dddmpNameOf_pos (.inl ⟨hv, hi⟩) hnd, dddmpSuppName_supp ho hs]

/-- `.varinfo 1` without `.orderedvarnames`: the line labelled `permids[j]` is a node of
the variable `suppvarnames[j]` -/
theorem dddmpNameOf_varinfo1_supp (hv : f.varinfo = some 1) {permids : List Int}
    (hp : f.permids = some permids) (hnd : permids.Nodup) (ho : f.orderedvarnames = none)
    {sv : List DddmpTok} (hs : f.suppvarnames = some sv) (info var : DddmpTok) :
    dddmpNameOf f info = some var ↔
      ∃ (j : Nat) (k : Int), info = .num k ∧ permids[j]? = some k ∧ sv[j]? = some var := by
  simp only [dddmpNameOf_pos (.inr ⟨hv, hp⟩) hnd, dddmpSuppName_supp ho hs]

/-- `.varinfo 0` without any names: the line labelled `ids[j]` is a node of the variable the
loader calls `permids[permids[j]]` (a Python `int`) -/
theorem dddmpNameOf_varinfo0_nameless (hv : f.varinfo = some 0) {ids permids : List Int}
    (hi : f.ids = some ids) (hp : f.permids = some permids) (hnd : ids.Nodup)
    (ho : f.orderedvarnames = none) (hs : f.suppvarnames = none) (info var : DddmpTok) :
    dddmpNameOf f info = some var ↔
      ∃ (j : Nat) (i : Int) (k : Nat) (v : Int), info = .num i ∧ ids[j]? = some i ∧
        permids[j]? = some (k : Int) ∧ permids[k]? = some v ∧ var = .num v := by
  simp only [dddmpNameOf_pos (.inl ⟨hv, hi⟩) hnd, dddmpSuppName_nameless ho hs hp]
  exact ⟨fun ⟨j, i, e, hji, k, v, h⟩ => ⟨j, i, k, v, e, hji, h⟩,
    fun ⟨j, i, k, v, e, hji, h⟩ => ⟨j, i, e, hji, k, v, h⟩⟩

/-- `.varinfo 1` without any names: the line labelled with the level `k` (an entry of
`.permids`) is a node of the variable the loader calls `permids[k]` -/
theorem dddmpNameOf_varinfo1_nameless (hv : f.varinfo = some 1) {permids : List Int}
    (hp : f.permids = some permids) (hnd : permids.Nodup)
    (ho : f.orderedvarnames = none) (hs : f.suppvarnames = none) (info var : DddmpTok) :
    dddmpNameOf f info = some var ↔
      ∃ (k : Nat) (v : Int), info = .num (k : Int) ∧ (k : Int) ∈ permids ∧
        permids[k]? = some v ∧ var = .num v := by
  simp only [dddmpNameOf_pos (.inr ⟨hv, hp⟩) hnd, dddmpSuppName_nameless ho hs hp]
  constructor
  · rintro ⟨j, i, rfl, hji, k, v, hjk, hkv, rfl⟩
    cases hji.symm.trans hjk
    exact ⟨k, v, rfl, List.mem_of_getElem? hji, hkv, rfl⟩
  · rintro ⟨k, v, rfl, hm, hkv, rfl⟩
    obtain ⟨j, hjk⟩ := List.mem_iff_getElem?.mp hm
    exact ⟨j, k, rfl, hjk, k, v, hjk, hkv, rfl⟩

end Modes

theorem DddmpLoaded.mono {levels : List (DddmpTok × Int)} {m : Mgr} (h : DddmpLoaded levels m)
    {var var' : DddmpTok} {k k' : Int} {i i' : Nat} (hm : (var, k) ∈ levels) (hm' : (var', k') ∈ levels)
    (hi : m.tbl.vars[var.show]? = some i) (hi' : m.tbl.vars[var'.show]? = some i') (hlt : k < k') :
    i < i' := by
  obtain ⟨j, hS, _, hj⟩ := h.rank var k hm
  obtain ⟨j', hS', _, hj'⟩ := h.rank var' k' hm'
  rw [hi] at hj; rw [hi'] at hj'
  cases hj; cases hj'
  exact sorted_index_lt (sortInts_sorted _) hS hS' hlt

/-- with `.orderedvarnames`: the order of the loaded manager IS that list -/
theorem DddmpLoaded.ordered {m : Mgr} {ov : List DddmpTok} (h : DddmpLoaded (enumDict ov) m)
    (hnd : ov.Nodup) :
    m.nvars = ov.length ∧ ∀ (k : Nat) (var : DddmpTok), ov[k]? = some var →
      m.tbl.vars[var.show]? = some k ∧ m.tbl.l2v[k]? = some var.show := by
  constructor
  · rw [h.nvars, enumDict_eq hnd]; simp
  · intro k var hk
    obtain ⟨i, hS, hl, hv⟩ := h.rank var k (enumDict_mem hnd hk)
    have hsorted : sortInts ((enumDict ov).map (·.2)) = (enumDict ov).map (·.2) := by
      apply sortInts_of_sorted
      rw [enumDict_vals_eq hnd, List.pairwise_map]
      exact (List.pairwise_le_range' (s := 0) (n := ov.length)).imp (fun h => by omega)
    rw [hsorted, enumDict_vals_eq hnd] at hS
    have hik : i = k := by
      rw [List.getElem?_map] at hS
      cases hr : (List.range' 0 ov.length)[i]? with
      | none => rw [hr] at hS; cases hS
      | some v =>
        rw [hr] at hS
        obtain ⟨hlt, hval⟩ := List.getElem?_eq_some_iff.mp hr
        rw [List.getElem_range'] at hval
        simp only [Option.map_some, Option.some.injEq] at hS
        omega
    subst hik
    exact ⟨hv, hl⟩

/-- without `.orderedvarnames`: the variable of file level `k` sits at the rank of `k` among
the sorted `.permids` -/
theorem DddmpLoaded.supp {levels : List (DddmpTok × Int)} {m : Mgr} (h : DddmpLoaded levels m)
    {permids : List Int} (hv : levels.map (·.2) = sortInts permids) :
    m.nvars = permids.length ∧ ∀ var k, (var, k) ∈ levels →
      ∃ i : Nat, (sortInts permids)[i]? = some k ∧ m.tbl.vars[var.show]? = some i ∧
        m.tbl.l2v[i]? = some var.show := by
  constructor
  · rw [h.nvars]
    have := congrArg List.length hv
    simp only [List.length_map] at this
    rw [this]
    exact (sortInts_perm permids).length_eq
  · intro var k hm
    obtain ⟨i, hS, hl, hvv⟩ := h.rank var k hm
    rw [hv, sortInts_of_sorted _ (sortInts_sorted _)] at hS
    exact ⟨i, hS, hvv, hl⟩

section OrderModes
variable {f : DddmpFile} {i2p levels : List (DddmpTok × Int)} {roots : List Int}

/-- with `.orderedvarnames`: the loaded manager declares exactly that list, in that order -/
theorem DddmpLoaded.of_ordered {m : Mgr} (h : dddmpHeader f = .ok (i2p, levels, roots))
    (hH : DddmpHeaderOK f) {ov : List DddmpTok} (ho : f.orderedvarnames = some ov)
    (hL : DddmpLoaded levels m) :
    m.nvars = ov.length ∧ ∀ (k : Nat) (var : DddmpTok), ov[k]? = some var →
      m.tbl.vars[var.show]? = some k ∧ m.tbl.l2v[k]? = some var.show := by
  have hond : ov.Nodup := hH.ordered_nodup ho
  rw [levels_ordered_eq h ho] at hL
  exact hL.ordered hond

/-- without `.orderedvarnames`: the loaded manager declares the `.suppvarnames`, the `j`-th
of them at the rank of `permids[j]` among the `.permids` (gaps closed, relative order kept) -/
theorem DddmpLoaded.of_supp {m : Mgr} (h : dddmpHeader f = .ok (i2p, levels, roots))
    (hH : DddmpHeaderOK f) (hv3 : f.varinfo ≠ some 3) (ho : f.orderedvarnames = none)
    {sv : List DddmpTok} (hs : f.suppvarnames = some sv) {permids : List Int}
    (hp : f.permids = some permids) (hL : DddmpLoaded levels m) :
    m.nvars = permids.length ∧ ∀ (j : Nat) (var : DddmpTok) (k : Int), sv[j]? = some var →
      permids[j]? = some k → ∃ i : Nat, (sortInts permids)[i]? = some k ∧
        m.tbl.vars[var.show]? = some i ∧ m.tbl.l2v[i]? = some var.show := by
  obtain ⟨-, -, hvals, hm⟩ := levels_supp_of_headerOK h hH hv3 ho hs hp
  obtain ⟨hn, hr⟩ := hL.supp hvals
  exact ⟨hn, fun j var k hjv hjk => hr var k (hm hjk hjv)⟩

/-- without any names: the loaded manager declares the Python `int`s `permids[0], permids[1], …`
in that order (level `L` is the variable `permids[L]`) -/
theorem DddmpLoaded.of_nameless {m : Mgr} (h : dddmpHeader f = .ok (i2p, levels, roots))
    (hH : DddmpHeaderOK f) (hv3 : f.varinfo ≠ some 3) (ho : f.orderedvarnames = none)
    (hs : f.suppvarnames = none) {permids : List Int} (hp : f.permids = some permids)
    (hL : DddmpLoaded levels m) :
    m.nvars = permids.length ∧ ∀ (L : Nat) (v : Int), permids[L]? = some v →
      m.tbl.vars[(DddmpTok.num v).show]? = some L ∧ m.tbl.l2v[L]? = some (DddmpTok.num v).show := by
  have hpnd : permids.Nodup := hH.permids_nodup hv3 hp
  have hond : (permids.map DddmpTok.num).Nodup :=
    nodup_map_of_inj_on _ _ (fun a _ b _ h => by cases h; rfl) hpnd
  rw [levels_nameless_eq h ho hs hp] at hL
  obtain ⟨hn, hr⟩ := hL.ordered hond
  refine ⟨by simpa using hn, fun L v hLv => hr L (.num v) ?_⟩
  rw [List.getElem?_map, hLv]; rfl

end OrderModes

/-- `DddmpRootsDenote` with the semantics `ev` -/
def DddmpRootsDenoteBy (ev : (String → Bool) → Int → Bool) (f : DddmpFile) (m : Mgr) : Prop :=
  (∀ ρ ∈ f.rootids.getD [], ∃ r ∈ m.roots, m.tbl.Mem r ∧
      ∀ α, den m.tbl r (dddmpAsgOf m.tbl α) = ev α ρ) ∧
  (∀ r ∈ m.roots, ∃ ρ ∈ f.rootids.getD [],
      ∀ α, den m.tbl r (dddmpAsgOf m.tbl α) = ev α ρ)

theorem dddmpRootsDenote_iff (f : DddmpFile) (m : Mgr) :
    DddmpRootsDenote f m ↔ DddmpRootsDenoteBy (evalFile f) f m := Iff.rfl

end DD
