/-
  DDProofs.DddmpHeader — `evalFile` identifies the variable of a node line through the two
  tables `_parse_header` builds (`info2permid`, `levels`).  These lemmas spell out, mode by
  mode, which variable that is in terms of the header lines of the file, i.e. they tie the
  specification to the FORMAT rather than to the loader's tables:

  * `.varinfo 3`: the `info` column is the variable's name;
  * `.varinfo 0`: `info` is an entry `ids[j]`; `.varinfo 1`: `info` is an entry `permids[j]`;
    the variable is `orderedvarnames[permids[j]]` when `.orderedvarnames` is present,
    else `suppvarnames[j]`.

  Files with neither `.orderedvarnames` nor `.suppvarnames` have no names; the loader
  invents the `int` `permids[L]` as the name of level `L` (`levels_nameless_eq`).
-/
import DDProofs.DddmpProofs
open Std

namespace DD

theorem enumDict_eq {l : List DddmpTok} (h : l.Nodup) :
    enumDict l = l.zipIdx.map fun p => (p.1, (p.2 : Int)) :=
  dictOf_nodup _ (by rw [zipIdx_items_fst (fun x => x) l, List.map_id']; exact h)

theorem enumDict_mem {l : List DddmpTok} (h : l.Nodup) {k : Nat} {var : DddmpTok} (hk : l[k]? = some var) :
    (var, (k : Int)) ∈ enumDict l := by
  rw [enumDict_eq h]
  exact List.mem_map.mpr ⟨(var, k), List.mk_mem_zipIdx_iff_getElem?.mpr hk, rfl⟩

theorem enumDict_keys {l : List DddmpTok} (h : l.Nodup) : ((enumDict l).map (·.1)).Nodup := by
  rw [enumDict_eq h, zipIdx_items_fst (fun x => x) l, List.map_id']; exact h

theorem enumDict_vals_eq {l : List DddmpTok} (h : l.Nodup) :
    (enumDict l).map (·.2) = (List.range' 0 l.length).map (fun (i : Nat) => (i : Int)) := by
  rw [enumDict_eq h, zipIdx_items_snd (fun x => x) l]

theorem enumDict_vals {l : List DddmpTok} (h : l.Nodup) : ((enumDict l).map (·.2)).Nodup := by
  rw [enumDict_vals_eq h]
  exact nodup_map_of_inj_on _ _ (fun a _ b _ h => by omega) (List.nodup_range' (step := 1))

theorem enumDict_get {l : List DddmpTok} (h : l.Nodup) {k : Nat} {var : DddmpTok} (hk : l[k]? = some var) :
    dictGet (enumDict l) var = some (k : Int) :=
  dictGet_of_mem _ (enumDict_keys h) (enumDict_mem h hk)

theorem dddmpInfoTable_ok_modes {f : DddmpFile} {ids permids : List Int} {t : List (DddmpTok × Int)}
    (h : dddmpInfoTable f ids permids = .ok t) :
    f.varinfo = some 0 ∨ f.varinfo = some 1 ∨
      (f.varinfo = some 3 ∧ ∃ ov, f.orderedvarnames = some ov) := by
  unfold dddmpInfoTable at h
  split at h
  · next hv => exact Or.inl hv
  · next hv => exact Or.inr (Or.inl hv)
  · cases h
  · next hv =>
    split at h
    · cases h
    · next ov ho => exact Or.inr (Or.inr ⟨hv, ov, ho⟩)
  · cases h
  · cases h

/-- the modes 2 (auxiliary ids) and 4 (none) -/
theorem dddmpInfo2permid_notImplemented {f : DddmpFile} (hv : f.varinfo = some 2 ∨ f.varinfo = some 4)
    (ids permids : List Int) : dddmpInfo2permid f ids permids = .error .notImplemented := by
  have ht : dddmpInfoTable f ids permids = .error .notImplemented := by
    unfold dddmpInfoTable
    rcases hv with hv | hv <;> rw [hv] <;> rfl
  unfold dddmpInfo2permid
  rw [ht]

theorem dddmpInfo2permid_inv {f : DddmpFile} {ids permids : List Int} {i2p : List (DddmpTok × Int)}
    (h : dddmpInfo2permid f ids permids = .ok i2p) :
    ∃ t nv, dddmpInfoTable f ids permids = .ok t ∧ f.nvars = some nv ∧
      i2p = dictSet t (.str "T") (nv + 1) := by
  unfold dddmpInfo2permid at h
  split at h
  · cases h
  · next t ht =>
    split at h
    · cases h
    · next nv hnv =>
      simp only [Except.ok.injEq] at h
      exact ⟨t, nv, ht, hnv, h.symm⟩

theorem i2p_get_of_table {t : List (DddmpTok × Int)} {nv : Int} {info : DddmpTok} (hne : info ≠ .str "T") :
    dictGet (dictSet t (.str "T") (nv + 1)) info = dictGet t info :=
  dictGet_dictSet_ne _ _ _ _ hne

section Modes
variable {f : DddmpFile} {i2p levels : List (DddmpTok × Int)} {roots : List Int}

theorem levels_ordered_eq (h : dddmpHeader f = .ok (i2p, levels, roots))
    {ov : List DddmpTok} (ho : f.orderedvarnames = some ov) : levels = enumDict ov := by
  obtain ⟨_, permids, _, _, _, _, _, hL, _⟩ := dddmpHeader_inv h
  simp [dddmpLevels, ho] at hL
  exact hL.symm

/-- `.varinfo 3`: a node line labelled with a name of `.orderedvarnames` is a node of that
variable -/
theorem dddmpVarOf_varinfo3 (h : dddmpHeader f = .ok (i2p, levels, roots))
    (hv : f.varinfo = some 3) {ov : List DddmpTok} (ho : f.orderedvarnames = some ov) (hnd : ov.Nodup)
    {k : Nat} {var : DddmpTok} (hk : ov[k]? = some var) (hT : var ≠ .str "T") :
    dddmpVarOf i2p levels var = some var := by
  obtain ⟨ids, permids, _, _, _, _, hI, -, _⟩ := dddmpHeader_inv h
  obtain ⟨t, nv, ht, _, rfl⟩ := dddmpInfo2permid_inv hI
  have ht' : t = enumDict ov := by
    simp [dddmpInfoTable, hv, ho, pure, Except.pure] at ht
    exact ht.symm
  have hL' := levels_ordered_eq h ho
  subst ht' hL'
  exact dddmpVarOf_of_mem (enumDict_vals hnd)
    (by rw [i2p_get_of_table hT]; exact enumDict_get hnd hk) (enumDict_mem hnd hk)

/-- the table of `.varinfo 0`: `ids[j] ↦ permids[j]` -/
theorem infoTable_varinfo0 (hv : f.varinfo = some 0) {ids permids : List Int} {t : List (DddmpTok × Int)}
    (ht : dddmpInfoTable f ids permids = .ok t) (hnd : ids.Nodup) (hlen : ids.length = permids.length)
    (info : DddmpTok) (k : Int) :
    dictGet t info = some k ↔ ∃ (j : Nat) (i : Int), info = .num i ∧ ids[j]? = some i ∧ permids[j]? = some k := by
  have ht' : t = dictOf ((ids.zip permids).map fun p => (DddmpTok.num p.1, p.2)) := by
    simp only [dddmpInfoTable, hv, pure, Except.pure, Except.ok.injEq] at ht
    exact ht.symm
  have hkeys : (((ids.zip permids).map fun p => (DddmpTok.num p.1, p.2)).map (·.1)).Nodup := by
    rw [List.map_map, show ((fun x : DddmpTok × Int => x.1) ∘ fun p : Int × Int => (DddmpTok.num p.1, p.2)) =
      DddmpTok.num ∘ Prod.fst from rfl, ← List.map_map, List.map_fst_zip (by omega)]
    exact nodup_map_of_inj_on _ _ (fun a _ b _ h => by cases h; rfl) hnd
  rw [ht', dictGet_dictOf_iff hkeys, List.mem_map]
  constructor
  · rintro ⟨p, hpz, hpe⟩
    obtain ⟨j, hj⟩ := List.mem_iff_getElem?.mp hpz
    obtain ⟨hji, hjk⟩ := List.getElem?_zip_eq_some.mp hj
    cases hpe
    exact ⟨j, p.1, rfl, hji, hjk⟩
  · rintro ⟨j, i, rfl, hji, hjk⟩
    exact ⟨(i, k), List.mem_of_getElem? (List.getElem?_zip_eq_some.mpr ⟨hji, hjk⟩), rfl⟩

/-- the table of `.varinfo 1`: `permids[j] ↦ permids[j]` -/
theorem infoTable_varinfo1 (hv : f.varinfo = some 1) {ids permids : List Int} {t : List (DddmpTok × Int)}
    (ht : dddmpInfoTable f ids permids = .ok t) (hnd : permids.Nodup) (info : DddmpTok) (k : Int) :
    dictGet t info = some k ↔ info = .num k ∧ k ∈ permids := by
  have ht' : t = dictOf (permids.map fun k => (DddmpTok.num k, k)) := by
    simp only [dddmpInfoTable, hv, pure, Except.pure, Except.ok.injEq] at ht
    exact ht.symm
  have hkeys : ((permids.map fun k => (DddmpTok.num k, k)).map (·.1)).Nodup := by
    rw [List.map_map]
    exact nodup_map_of_inj_on _ _ (fun a _ b _ h => by
      simp only [Function.comp] at h; cases h; rfl) hnd
  rw [ht', dictGet_dictOf_iff hkeys, List.mem_map]
  constructor
  · rintro ⟨k', hk', hpe⟩
    cases hpe
    exact ⟨rfl, hk'⟩
  · rintro ⟨rfl, hk⟩
    exact ⟨k, hk, rfl⟩

theorem i2p_varinfo0 (h : dddmpHeader f = .ok (i2p, levels, roots)) (hv : f.varinfo = some 0)
    {ids permids : List Int} (hi : f.ids = some ids) (hp : f.permids = some permids)
    (hnd : ids.Nodup) (hlen : ids.length = permids.length)
    {j : Nat} {i k : Int} (hji : ids[j]? = some i) (hjk : permids[j]? = some k) :
    dictGet i2p (.num i) = some k := by
  obtain ⟨ids', permids', _, hi', hp', _, hI, _, _⟩ := dddmpHeader_inv h
  cases hi.symm.trans hi'; cases hp.symm.trans hp'
  obtain ⟨t, nv, ht, _, rfl⟩ := dddmpInfo2permid_inv hI
  rw [i2p_get_of_table (by simp)]
  exact (infoTable_varinfo0 hv ht hnd hlen _ _).mpr ⟨j, i, rfl, hji, hjk⟩

theorem i2p_varinfo1 (h : dddmpHeader f = .ok (i2p, levels, roots)) (hv : f.varinfo = some 1)
    {permids : List Int} (hp : f.permids = some permids) (hnd : permids.Nodup)
    {k : Int} (hk : k ∈ permids) :
    dictGet i2p (.num k) = some k := by
  obtain ⟨_, permids', _, _, hp', _, hI, _, _⟩ := dddmpHeader_inv h
  cases hp.symm.trans hp'
  obtain ⟨t, nv, ht, _, rfl⟩ := dddmpInfo2permid_inv hI
  rw [i2p_get_of_table (by simp)]
  exact (infoTable_varinfo1 hv ht hnd _ _).mpr ⟨rfl, hk⟩

/-- with `.orderedvarnames`: the variable at level `k` is `orderedvarnames[k]` -/
theorem levels_ordered (h : dddmpHeader f = .ok (i2p, levels, roots))
    {ov : List DddmpTok} (ho : f.orderedvarnames = some ov) (hnd : ov.Nodup)
    {k : Nat} {var : DddmpTok} (hk : ov[k]? = some var) :
    (var, (k : Int)) ∈ levels ∧ (levels.map (·.2)).Nodup :=
  levels_ordered_eq h ho ▸ ⟨enumDict_mem hnd hk, enumDict_vals hnd⟩

/-- without any list of names: the loader's `levels` table is the one `.orderedvarnames` would
give for the names `permids[0], permids[1], …` (Python `int`s) -/
theorem levels_nameless_eq (h : dddmpHeader f = .ok (i2p, levels, roots))
    (ho : f.orderedvarnames = none) (hs : f.suppvarnames = none)
    {permids : List Int} (hp : f.permids = some permids) :
    levels = enumDict (permids.map DddmpTok.num) := by
  obtain ⟨_, permids', _, _, hp', _, _, hL, _⟩ := dddmpHeader_inv h
  rw [hp] at hp'
  cases hp'
  simp only [dddmpLevels, ho, hs, Except.ok.injEq] at hL
  rw [← hL, enumDict, List.zipIdx_map, List.map_map]
  rfl

/-- without `.orderedvarnames`: the variable at level `permids[j]` is `suppvarnames[j]` -/
theorem levels_supp (h : dddmpHeader f = .ok (i2p, levels, roots))
    (ho : f.orderedvarnames = none) {sv : List DddmpTok} (hs : f.suppvarnames = some sv)
    {permids : List Int} (hp : f.permids = some permids)
    (hsnd : sv.Nodup) (hpnd : permids.Nodup) (hlen : permids.length = sv.length) :
    (levels.map (·.2)).Nodup ∧ levels.map (·.2) = sortInts permids ∧
      ∀ {j : Nat} {k : Int} {var : DddmpTok}, permids[j]? = some k → sv[j]? = some var →
        (var, k) ∈ levels := by
  obtain ⟨_, permids', _, _, hp', _, _, hL, _⟩ := dddmpHeader_inv h
  rw [hp] at hp'
  cases hp'
  -- `permid2var`
  have hzk : ((permids.zip sv).map (·.1)).Nodup := by
    rw [List.map_fst_zip (by omega)]; exact hpnd
  have hz : dictOf (permids.zip sv) = permids.zip sv := dictOf_nodup _ hzk
  have hsp := sortInts_perm permids
  -- the variable of a level
  let vo : Int → DddmpTok := fun k => (dictGet (permids.zip sv) k).getD default
  have hvo : ∀ k, k ∈ permids → ∃ (j : Nat) (var : DddmpTok), permids[j]? = some k ∧ sv[j]? = some var ∧
      dictGet (permids.zip sv) k = some var := by
    intro k hk
    obtain ⟨j, hj⟩ := List.getElem?_of_mem hk
    have hjl : j < sv.length := by
      have := (List.getElem?_eq_some_iff.mp hj).1
      omega
    refine ⟨j, sv[j], hj, List.getElem?_eq_getElem hjl, ?_⟩
    apply dictGet_of_mem _ hzk
    exact List.mem_of_getElem? (List.getElem?_zip_eq_some.mpr ⟨hj, List.getElem?_eq_getElem hjl⟩)
  have hm : (sortInts permids).mapM (dddmpLevelItem (permids.zip sv)) =
      .ok ((sortInts permids).map fun k => (vo k, k)) := by
    apply mapM_ok
    intro k hk
    obtain ⟨_, var, _, _, hg⟩ := hvo k (hsp.mem_iff.mp hk)
    simp [dddmpLevelItem, vo, hg]
  have hL' : levels = dictOf ((sortInts permids).map fun k => (vo k, k)) := by
    simp [dddmpLevels, ho, hs, hz, hm] at hL
    exact hL.symm
  -- names of the levels are distinct
  have hvoinj : ∀ a ∈ sortInts permids, ∀ b ∈ sortInts permids, vo a = vo b → a = b := by
    intro a ha b hb hab
    obtain ⟨ja, va, hja, hva, hga⟩ := hvo a (hsp.mem_iff.mp ha)
    obtain ⟨jb, vb, hjb, hvb, hgb⟩ := hvo b (hsp.mem_iff.mp hb)
    have e : va = vb := by simpa [vo, hga, hgb] using hab
    subst e
    -- `sv` has no duplicates: same position
    have hjj : ja = jb := nodup_getElem?_inj hsnd hva hvb
    subst hjj
    rw [hja] at hjb
    exact Option.some.inj hjb
  have hkeys : (((sortInts permids).map fun k => (vo k, k)).map (·.1)).Nodup := by
    rw [List.map_map]
    exact nodup_map_of_inj_on _ _ hvoinj (hsp.nodup_iff.mpr hpnd)
  rw [hL', dictOf_nodup _ hkeys]
  have : ((sortInts permids).map fun k => (vo k, k)).map (·.2) = sortInts permids := by
    rw [List.map_map]
    simp [Function.comp_def]
  rw [this]
  refine ⟨hsp.nodup_iff.mpr hpnd, rfl, fun {j k var} hjk hjv => ?_⟩
  refine List.mem_map.mpr ⟨k, hsp.mem_iff.mpr (List.mem_of_getElem? hjk), ?_⟩
  obtain ⟨j', var', hj', hv', hg⟩ := hvo k (List.mem_of_getElem? hjk)
  have hjj : j' = j := nodup_getElem?_inj hpnd hj' hjk
  subst hjj
  rw [hjv] at hv'
  cases hv'
  simp [vo, hg]

/-- `.varinfo 0` with `.orderedvarnames`: the line labelled `ids[j]` is a node of the
variable `orderedvarnames[permids[j]]` -/
theorem dddmpVarOf_varinfo0_ordered (h : dddmpHeader f = .ok (i2p, levels, roots))
    (hv : f.varinfo = some 0) {ids permids : List Int} (hi : f.ids = some ids)
    (hp : f.permids = some permids) (hnd : ids.Nodup) (hlen : ids.length = permids.length)
    {ov : List DddmpTok} (ho : f.orderedvarnames = some ov) (hond : ov.Nodup)
    {j k : Nat} {i : Int} {var : DddmpTok} (hji : ids[j]? = some i) (hjk : permids[j]? = some (k : Int))
    (hk : ov[k]? = some var) :
    dddmpVarOf i2p levels (.num i) = some var := by
  obtain ⟨hm, hvals⟩ := levels_ordered h ho hond hk
  exact dddmpVarOf_of_mem hvals (i2p_varinfo0 h hv hi hp hnd hlen hji hjk) hm

/-- `.varinfo 1` with `.orderedvarnames`: the line labelled `permids[j] = k` is a node of the
variable `orderedvarnames[k]` -/
theorem dddmpVarOf_varinfo1_ordered (h : dddmpHeader f = .ok (i2p, levels, roots))
    (hv : f.varinfo = some 1) {permids : List Int} (hp : f.permids = some permids)
    (hnd : permids.Nodup) {ov : List DddmpTok} (ho : f.orderedvarnames = some ov) (hond : ov.Nodup)
    {k : Nat} {var : DddmpTok} (hkp : (k : Int) ∈ permids) (hk : ov[k]? = some var) :
    dddmpVarOf i2p levels (.num (k : Int)) = some var := by
  obtain ⟨hm, hvals⟩ := levels_ordered h ho hond hk
  exact dddmpVarOf_of_mem hvals (i2p_varinfo1 h hv hp hnd hkp) hm

/-- `.varinfo 0` without `.orderedvarnames`: the line labelled `ids[j]` is a node of the
variable `suppvarnames[j]` -/
theorem dddmpVarOf_varinfo0_supp (h : dddmpHeader f = .ok (i2p, levels, roots))
    (hv : f.varinfo = some 0) {ids permids : List Int} (hi : f.ids = some ids)
    (hp : f.permids = some permids) (hnd : ids.Nodup) (hpnd : permids.Nodup)
    (hlen : ids.length = permids.length)
    (ho : f.orderedvarnames = none) {sv : List DddmpTok} (hs : f.suppvarnames = some sv)
    (hsnd : sv.Nodup) (hlen' : permids.length = sv.length)
    {j : Nat} {i k : Int} {var : DddmpTok} (hji : ids[j]? = some i) (hjk : permids[j]? = some k)
    (hjv : sv[j]? = some var) :
    dddmpVarOf i2p levels (.num i) = some var := by
  obtain ⟨hvals, -, hm⟩ := levels_supp h ho hs hp hsnd hpnd hlen'
  exact dddmpVarOf_of_mem hvals (i2p_varinfo0 h hv hi hp hnd hlen hji hjk) (hm hjk hjv)

/-- `.varinfo 1` without `.orderedvarnames`: the line labelled `permids[j]` is a node of the
variable `suppvarnames[j]` -/
theorem dddmpVarOf_varinfo1_supp (h : dddmpHeader f = .ok (i2p, levels, roots))
    (hv : f.varinfo = some 1) {permids : List Int} (hp : f.permids = some permids)
    (hpnd : permids.Nodup)
    (ho : f.orderedvarnames = none) {sv : List DddmpTok} (hs : f.suppvarnames = some sv)
    (hsnd : sv.Nodup) (hlen' : permids.length = sv.length)
    {j : Nat} {k : Int} {var : DddmpTok} (hjk : permids[j]? = some k) (hjv : sv[j]? = some var) :
    dddmpVarOf i2p levels (.num k) = some var := by
  obtain ⟨hvals, -, hm⟩ := levels_supp h ho hs hp hsnd hpnd hlen'
  exact dddmpVarOf_of_mem hvals (i2p_varinfo1 h hv hp hpnd (List.mem_of_getElem? hjk)) (hm hjk hjv)

end Modes

end DD
