/-
  DDProofs.DddmpProofs — `dd.dddmp.load` (`DD/Dddmp.lean`) against the file semantics `evalFile`
  of the model.  The vocabulary of the C16 statements is defined here: well-formed files
  (`DddmpFile.WF`), what `load` leaves (`DddmpLoaded`, `DddmpRootsDenote`).  The proof follows the
  rebuild loop with the invariant `DddmpSt … D`: the node lines in `D` (those of the levels
  already passed) are on `umap` and denote, by variable name, what `evalFile` says.
-/
import DDProofs.DddmpLists
import DDProofs.Constructor
open Std

namespace DD

/-- the hypothesis of the `…_of_foaSpec` statements: a part of `findOrAddCore_spec`; it holds (`foaSpec`) -/
structure FoaSpec : Prop where
  spec : ∀ (m : Mgr) (i : Nat) (v w : Int), Inv m → i < m.nvars → m.tbl.Mem v → m.tbl.Mem w →
    i < m.tbl.levelOf v → i < m.tbl.levelOf w →
    ∃ r m', findOrAddCore i v w m = (.ok r, m') ∧ Inv m' ∧ Ext m.tbl m'.tbl ∧ m'.tbl.Mem r ∧
      i ≤ m'.tbl.levelOf r ∧
      (∀ a, den m'.tbl r a = if a i then den m.tbl w a else den m.tbl v a)
  /-- the fields `find_or_add` leaves alone (`FoaPost.frame`, `.fire`, `.cacheSame`) -/
  side : ∀ (m : Mgr) (i : Nat) (v w : Int), Inv m → i < m.nvars → m.tbl.Mem v → m.tbl.Mem w →
    i < m.tbl.levelOf v → i < m.tbl.levelOf w →
    Frame m (findOrAddCore i v w m).2 ∧ (findOrAddCore i v w m).2.fireIn = m.fireIn ∧
      (findOrAddCore i v w m).2.cache = m.cache

theorem foaSpec : FoaSpec :=
  ⟨fun m i v w hI hi hv hw hlv hlw => by
    obtain ⟨r, m', he, hp⟩ := findOrAddCore_spec m hI i v w hi hv hw hlv hlw
    exact ⟨r, m', he, hp.inv, hp.ext, hp.mem, hp.lvl, hp.den⟩,
   fun m i v w hI hi hv hw hlv hlw => by
    obtain ⟨r, m', he, hp⟩ := findOrAddCore_spec m hI i v w hi hv hw hlv hlw
    rw [he]
    exact ⟨hp.frame, hp.fire, hp.cacheSame⟩⟩

/-- assignment of levels induced by an assignment of names, in a manager; `asgOfMap t.l2v` is `asgOf t`
(DDProofs/ParseSem.lean), which differs from `Tbl.lift` only on a level without a name (`false` here,
`σ ""` there): `denN_eq_asgOf` (DDProofs/DynExpr.lean) -/
def asgOfMap (l2v : TreeMap Nat String) (α : String → Bool) : Asg := fun i =>
  match l2v[i]? with
  | some v => α v
  | none => false

def dddmpAsgOf (t : Tbl) (α : String → Bool) : Asg := asgOfMap t.l2v α

/-- the node `c` (a "then" or "else" column) is listed and lies strictly below level `k` -/
def DddmpChildOK (f : DddmpFile) (i2p : List (DddmpTok × Int)) (k : Int) (c : Int) : Prop :=
  ∃ n' ∈ f.nodes, n'.u = (c.natAbs : Int) ∧ ∃ k', dictGet i2p n'.info = some k' ∧ k < k'

/-- a terminal line `1 T _ 0 0` -/
def DddmpNode.IsTerm (n : DddmpNode) : Prop :=
  n.u = 1 ∧ n.info = .str "T" ∧ n.thn = 0 ∧ n.els = 0

/-- a non-terminal line: number > 1, label resolves to the level of a variable, regular
then-edge, both children listed at deeper levels -/
def DddmpNode.IsNode (f : DddmpFile) (i2p levels : List (DddmpTok × Int)) (n : DddmpNode) : Prop :=
  1 < n.u ∧ n.info ≠ .str "T" ∧ 0 < n.thn ∧ n.els ≠ 0 ∧
    ∃ k, dictGet i2p n.info = some k ∧ k ∈ levels.map (·.2) ∧
      DddmpChildOK f i2p k n.thn ∧ DddmpChildOK f i2p k n.els

structure DddmpBodyWF (f : DddmpFile) (i2p levels : List (DddmpTok × Int)) (nv : Int) : Prop where
  nvNonneg : 0 ≤ nv
  nnodes : f.nnodes = some (f.nodes.length : Int)
  idsNodup : (f.nodes.map (·.u)).Nodup
  /-- variable names are distinct (as they reach `BDD.vars`) -/
  namesNodup : (levels.map (·.1.show)).Nodup
  levelsNodup : (levels.map (·.2)).Nodup
  /-- levels (permids) are in `0 .. nvars` -/
  levelRange : ∀ p ∈ levels, 0 ≤ p.2 ∧ p.2 ≤ nv
  /-- every line is a terminal line or a non-terminal line whose children come deeper -/
  line : ∀ n ∈ f.nodes, n.IsTerm ∨ n.IsNode f i2p levels

/-- a well-formed file: the header is accepted, and the node list is consistent with it.  The
terminal line carries the number 1 (`load` starts from `umap = {-1: -1, 1: 1}` and skips that
line); the numbering of the other lines is arbitrary -/
def DddmpFile.WF (f : DddmpFile) : Prop :=
  ∃ i2p levels roots nv, dddmpHeader f = .ok (i2p, levels, roots) ∧ f.nvars = some nv ∧
    DddmpBodyWF f i2p levels nv ∧
    -- every root entry is the (signed) number of a listed node
    ∀ ρ ∈ roots, ∃ x ∈ f.nodes, x.u = (ρ.natAbs : Int)

theorem dddmpVarOf_of_mem {i2p levels : List (DddmpTok × Int)} (h : (levels.map (·.2)).Nodup)
    {info var : DddmpTok} {k : Int} (hk : dictGet i2p info = some k) (hm : (var, k) ∈ levels) :
    dddmpVarOf i2p levels info = some var := by
  simp [dddmpVarOf, hk, find?_of_key_nodup (·.2) h hm]

theorem dddmpVarOf_mem {i2p levels : List (DddmpTok × Int)} {info var : DddmpTok} {k : Int}
    (hk : dictGet i2p info = some k) (h : dddmpVarOf i2p levels info = some var) : (var, k) ∈ levels := by
  simp only [dddmpVarOf, hk] at h
  cases hfd : levels.find? (fun p => decide (p.2 = k)) with
  | none => rw [hfd] at h; cases h
  | some p =>
    rw [hfd] at h
    simp only [Option.map_some, Option.some.injEq] at h
    have hpk : p.2 = k := by simpa using List.find?_some hfd
    rw [← h, ← hpk]
    exact List.mem_of_find?_eq_some hfd

theorem evalFileF_abs (i2p levels : List (DddmpTok × Int)) (nodes : List DddmpNode) (α : String → Bool)
    (fuel : Nat) (x : Int) :
    evalFileF i2p levels nodes α fuel x =
      ((decide (x < 0)) ^^ evalFileF i2p levels nodes α fuel (x.natAbs : Int)) := by
  cases fuel with
  | zero =>
    have h0 : ¬ ((x.natAbs : Int) < 0) := by omega
    simp [evalFileF, h0]
  | succ fuel =>
    have h0 : ¬ ((x.natAbs : Int) < 0) := by omega
    rw [evalFileF, evalFileF]
    simp [h0]

theorem evalFile_eq {f : DddmpFile} {i2p levels : List (DddmpTok × Int)} {roots : List Int} {nv : Int}
    (hh : dddmpHeader f = .ok (i2p, levels, roots)) (hnv : f.nvars = some nv) (α : String → Bool) (y : Int) :
    evalFile f α y = evalFileF i2p levels f.nodes α (nv + 2).toNat y := by
  simp only [evalFile, hh, hnv, Option.getD_some]

section WFFile
variable {f : DddmpFile} {i2p levels : List (DddmpTok × Int)} {nv : Int}

theorem DddmpBodyWF.find_u (hw : DddmpBodyWF f i2p levels nv) {n : DddmpNode} (hn : n ∈ f.nodes)
    {x : Int} (hx : n.u = x) : f.nodes.find? (fun n' => decide (n'.u = x)) = some n :=
  hx ▸ find?_of_key_nodup (·.u) hw.idsNodup hn

theorem DddmpBodyWF.lineLevel (hw : DddmpBodyWF f i2p levels nv)
    (hT : dictGet i2p (.str "T") = some (nv + 1)) {n : DddmpNode} (hn : n ∈ f.nodes) :
    ∃ k, dictGet i2p n.info = some k ∧ 0 ≤ k ∧ k ≤ nv + 1 ∧ (n.info = .str "T" → k = nv + 1) := by
  have h0 := hw.nvNonneg
  rcases hw.line n hn with ht | hnode
  · exact ⟨nv + 1, by rw [ht.2.1]; exact hT, by omega, Int.le_refl _, fun _ => rfl⟩
  · obtain ⟨_, hne, _, _, k, hk, hkl, _, _⟩ := hnode
    obtain ⟨p, hp, rfl⟩ := List.mem_map.mp hkl
    have := hw.levelRange p hp
    exact ⟨p.2, hk, this.1, by omega, fun e => absurd e hne⟩

/-- enough fuel gives the same value: a child of a line at level `k` stands at a level `k' > k` and
needs one unit for itself and one per level down to the terminal's `nv + 1` -/
theorem DddmpBodyWF.evalFileF_stable (hw : DddmpBodyWF f i2p levels nv)
    (hT : dictGet i2p (.str "T") = some (nv + 1)) (α : String → Bool) :
    ∀ (fuel : Nat) (k c : Int), DddmpChildOK f i2p k c → (nv + 1 - k).toNat ≤ fuel →
      evalFileF i2p levels f.nodes α fuel c = evalFileF i2p levels f.nodes α (fuel + 1) c := by
  intro fuel
  induction fuel with
  | zero =>
    intro k c ⟨n, hn, _, k', hk, hlt⟩ hf
    obtain ⟨k₂, hk₂, _, hle, _⟩ := hw.lineLevel hT hn
    rw [hk] at hk₂
    cases hk₂
    omega
  | succ fuel ih =>
    intro k c ⟨n, hn, hu, k', hk, hlt⟩ hf
    rw [evalFileF, evalFileF]
    simp only [hw.find_u hn hu]
    by_cases hti : n.info = .str "T"
    · simp [hti]
    · simp only [hti, if_false]
      rcases hw.line n hn with ht | hnode
      · exact absurd ht.2.1 hti
      · obtain ⟨_, _, _, _, k₁, hk₁, hkl, hc1, hc2⟩ := hnode
        rw [hk] at hk₁
        cases hk₁
        obtain ⟨p, hp, hpk⟩ := List.mem_map.mp hkl
        have hvar : dddmpVarOf i2p levels n.info = some p.1 :=
          dddmpVarOf_of_mem hw.levelsNodup hk (by rw [← hpk]; exact hp)
        simp only [hvar]
        rw [ih k' _ hc1 (by omega), ih k' _ hc2 (by omega)]

/-- Shannon expansion of a non-terminal line at the fuel `evalFile` uses -/
theorem DddmpBodyWF.evalFileF_node (hw : DddmpBodyWF f i2p levels nv)
    (hT : dictGet i2p (.str "T") = some (nv + 1)) (α : String → Bool)
    {n : DddmpNode} (hn : n ∈ f.nodes) (hnode : n.IsNode f i2p levels)
    {var : DddmpTok} {k : Int} (hk : dictGet i2p n.info = some k) (hv : (var, k) ∈ levels) :
    evalFileF i2p levels f.nodes α (nv + 2).toNat n.u =
      if α var.show then evalFileF i2p levels f.nodes α (nv + 2).toNat n.thn
      else evalFileF i2p levels f.nodes α (nv + 2).toNat n.els := by
  have h0 := hw.nvNonneg
  have hF : (nv + 2).toNat = (nv + 1).toNat + 1 := by omega
  obtain ⟨hu1, hti, _, _, k₁, hk₁, _, hc1, hc2⟩ := hnode
  rw [hk] at hk₁
  cases hk₁
  have hkr := hw.levelRange _ hv
  rw [hF, evalFileF]
  have hneg : ¬ (n.u < 0) := by omega
  have habs : (n.u.natAbs : Int) = n.u := by omega
  have hfind := hw.find_u hn habs.symm
  have hvar : dddmpVarOf i2p levels n.info = some var := dddmpVarOf_of_mem hw.levelsNodup hk hv
  simp only [hfind, hti, if_false, hvar, hneg, decide_false, Bool.false_xor]
  simp only at hkr
  rw [hw.evalFileF_stable hT α _ k _ hc1 (by omega), hw.evalFileF_stable hT α _ k _ hc2 (by omega)]

theorem DddmpBodyWF.evalFileF_term (hw : DddmpBodyWF f i2p levels nv) (α : String → Bool)
    {n : DddmpNode} (hn : n ∈ f.nodes) (ht : n.IsTerm) :
    evalFileF i2p levels f.nodes α (nv + 2).toNat 1 = true := by
  have h0 := hw.nvNonneg
  have hF : (nv + 2).toNat = (nv + 1).toNat + 1 := by omega
  rw [hF, evalFileF]
  simp [hw.find_u hn ht.1, ht.2.1]

end WFFile

/-- the entry `_parse_body` stores for a node line -/
def dddmpEntryOf (i2p : List (DddmpTok × Int)) (n : DddmpNode) : Int × DddmpEntry :=
  (n.u, ⟨(dictGet i2p n.info).getD 0,
         if n.els = 0 then none else some n.els,
         if n.thn = 0 then none else some n.thn⟩)

/-- the level of the new manager at which the line `y` is rebuilt -/
def DddmpLvl (i2p : List (DddmpTok × Int)) (o2n : List (Int × Int)) (y : DddmpNode) (i : Nat) : Prop :=
  ∃ k, dictGet i2p y.info = some k ∧ dictGet o2n k = some (i : Int)

theorem DddmpLvl.det {i2p : List (DddmpTok × Int)} {o2n : List (Int × Int)} {y : DddmpNode} {i i' : Nat}
    (h : DddmpLvl i2p o2n y i) (h' : DddmpLvl i2p o2n y i') : i = i' := by
  obtain ⟨k, hk, hi⟩ := h
  obtain ⟨k', hk', hi'⟩ := h'
  rw [hk] at hk'
  cases hk'
  rw [hi] at hi'
  have := Option.some.inj hi'
  omega

/-- everything the loop needs to know about the tables computed before it -/
structure DddmpRCtx (f : DddmpFile) (i2p levels : List (DddmpTok × Int)) (nv : Int)
    (o2n : List (Int × Int)) (n : Nat) (l2v0 : TreeMap Nat String) : Prop where
  wf : DddmpBodyWF f i2p levels nv
  hT : dictGet i2p (.str "T") = some (nv + 1)
  rank : ∀ var k, (var, k) ∈ levels →
    ∃ i : Nat, dictGet o2n k = some (i : Int) ∧ i < n ∧ l2v0[i]? = some var.show
  mono : ∀ (k k' : Int) (i i' : Nat), k ∈ levels.map (·.2) → k' ∈ levels.map (·.2) → k < k' →
    dictGet o2n k = some (i : Int) → dictGet o2n k' = some (i' : Int) → i < i'

/-- the file node `y` has been rebuilt correctly: `umap` sends its number to a reference
of the manager, not above its level, denoting (by variable name) what the file says -/
def DddmpGood (f : DddmpFile) (i2p levels : List (DddmpTok × Int)) (nv : Int) (o2n : List (Int × Int))
    (l2v0 : TreeMap Nat String) (m : Mgr) (umap : List (Int × Int)) (y : DddmpNode) : Prop :=
  ∃ r, dictGet umap y.u = some r ∧ m.tbl.Mem r ∧
    (∀ i, DddmpLvl i2p o2n y i → i ≤ m.tbl.levelOf r) ∧
    ∀ α, den m.tbl r (asgOfMap l2v0 α) = evalFileF i2p levels f.nodes α (nv + 2).toNat y.u

/-- loop invariant: the nodes in `D` have been rebuilt -/
structure DddmpSt (f : DddmpFile) (i2p levels : List (DddmpTok × Int)) (nv : Int) (o2n : List (Int × Int))
    (n : Nat) (l2v0 : TreeMap Nat String) (m : Mgr) (umap : List (Int × Int))
    (D : DddmpNode → Prop) : Prop where
  inv : Inv m
  ctx : m.ctx = false
  l2v : m.tbl.l2v = l2v0
  nvars : m.nvars = n
  term : dictGet umap 1 = some 1
  good : ∀ y ∈ f.nodes, y.IsNode f i2p levels → D y → DddmpGood f i2p levels nv o2n l2v0 m umap y
  /-- the rest of the reachable-state invariant: order maps, exact counts (nobody holds a
  reference: `find_or_add` counts stored edges only), reordering not enabled, nothing else set -/
  order : OrderOK m.tbl
  exact : RefExact m (fun _ => 0)
  off : m.lastLen = none
  sched : m.sched = []
  noRoots : m.roots = []
  fire : m.fireIn = none
  cache : m.cache = {}

section Rebuild
variable {f : DddmpFile} {i2p levels : List (DddmpTok × Int)} {nv : Int} {o2n : List (Int × Int)}
  {n : Nat} {l2v0 : TreeMap Nat String}

theorem DddmpRCtx.lvl_of_node (C : DddmpRCtx f i2p levels nv o2n n l2v0) {x : DddmpNode}
    (hnode : x.IsNode f i2p levels) :
    ∃ (k : Int) (var : DddmpTok) (i : Nat), dictGet i2p x.info = some k ∧ (var, k) ∈ levels ∧
      dictGet o2n k = some (i : Int) ∧ i < n ∧ l2v0[i]? = some var.show ∧
      DddmpChildOK f i2p k x.thn ∧ DddmpChildOK f i2p k x.els := by
  obtain ⟨_, _, _, _, k, hk, hkl, hc1, hc2⟩ := hnode
  obtain ⟨p, hp, hpk⟩ := List.mem_map.mp hkl
  obtain ⟨var, k'⟩ := p
  simp only at hpk
  subst hpk
  obtain ⟨i, hi, hin, hl⟩ := C.rank var k' hp
  exact ⟨k', var, i, hk, hp, hi, hin, hl, hc1, hc2⟩

/-- what the loop finds in `umap` for a child of a node at level `j` -/
theorem DddmpSt.child {m : Mgr} {umap : List (Int × Int)} {D : DddmpNode → Prop}
    (C : DddmpRCtx f i2p levels nv o2n n l2v0)
    (hs : DddmpSt f i2p levels nv o2n n l2v0 m umap D) {j : Nat} (hj : j < n)
    (hD : ∀ y ∈ f.nodes, ∀ i, DddmpLvl i2p o2n y i → j < i → D y)
    {k : Int} (hk : k ∈ levels.map (·.2)) (hkj : dictGet o2n k = some (j : Int))
    {c : Int} (hc : DddmpChildOK f i2p k c) :
    ∃ r, dictGet umap (c.natAbs : Int) = some r ∧ m.tbl.Mem r ∧ j < m.tbl.levelOf r ∧
      ∀ α, den m.tbl r (asgOfMap l2v0 α) =
        evalFileF i2p levels f.nodes α (nv + 2).toNat (c.natAbs : Int) := by
  obtain ⟨n', hn', hu', k', hk', hlt⟩ := hc
  rcases C.wf.line n' hn' with ht | hnode
  · refine ⟨1, ?_, Or.inl rfl, ?_, ?_⟩
    · rw [← hu', ht.1]; exact hs.term
    · rw [levelOf_term _ _ rfl]
      have := hs.nvars
      unfold Mgr.nvars at this
      omega
    · intro α
      rw [den_one, ← hu', ht.1, C.wf.evalFileF_term α hn' ht]
  · obtain ⟨k₂, var, i', hk₂, hv, hi', _, _, _, _⟩ := C.lvl_of_node hnode
    rw [hk'] at hk₂
    cases hk₂
    have hji : j < i' := C.mono k k' j i' hk (List.mem_map.mpr ⟨(var, k'), hv, rfl⟩) hlt hkj hi'
    have hl : DddmpLvl i2p o2n n' i' := ⟨k', hk', hi'⟩
    obtain ⟨r, hr, hm, hlev, hden⟩ := hs.good n' hn' hnode (hD n' hn' i' hl hji)
    refine ⟨r, by rw [← hu']; exact hr, hm, ?_, ?_⟩
    · have := hlev i' hl
      omega
    · intro α
      rw [hden α, hu']

theorem DddmpSt.weaken {m : Mgr} {umap : List (Int × Int)} {D D' : DddmpNode → Prop}
    (hs : DddmpSt f i2p levels nv o2n n l2v0 m umap D)
    (h : ∀ y ∈ f.nodes, y.IsNode f i2p levels → D' y → D y) :
    DddmpSt f i2p levels nv o2n n l2v0 m umap D' :=
  { hs with good := fun y hy hyn hd => hs.good y hy hyn (h y hy hyn hd) }

/-- one iteration of the inner loop of `load` -/
theorem DddmpSt.step {m : Mgr} {umap : List (Int × Int)} {D : DddmpNode → Prop}
    (C : DddmpRCtx f i2p levels nv o2n n l2v0)
    (hs : DddmpSt f i2p levels nv o2n n l2v0 m umap D) {j : Nat} (hj : j < n)
    (hD : ∀ y ∈ f.nodes, ∀ i, DddmpLvl i2p o2n y i → j < i → D y)
    {x : DddmpNode} (hx : x ∈ f.nodes) :
    ∃ m' umap', dddmpRebuildNode o2n (j : Int) umap (dddmpEntryOf i2p x) m = (.ok umap', m') ∧
      DddmpSt f i2p levels nv o2n n l2v0 m' umap'
        (fun y => D y ∨ (y = x ∧ DddmpLvl i2p o2n y j)) := by
  rcases C.wf.line x hx with ht | hnode
  · -- a terminal line: nothing happens
    refine ⟨m, umap, ?_, hs.weaken ?_⟩
    · simp [dddmpRebuildNode, dddmpEntryOf, ht.2.2.1, ht.2.2.2]
    · intro y hy hyn hd
      rcases hd with hd | ⟨rfl, _⟩
      · exact hd
      · exfalso
        have := hyn.1
        rw [ht.1] at this
        omega
  · obtain ⟨k, var, i, hk, hv, hi, hin, hl, hc1, hc2⟩ := C.lvl_of_node hnode
    have hkmem : k ∈ levels.map (·.2) := List.mem_map.mpr ⟨(var, k), hv, rfl⟩
    have hu1 := hnode.1
    have hthn := hnode.2.2.1
    have hels := hnode.2.2.2.1
    have hthn0 : x.thn ≠ 0 := by omega
    by_cases hij : i = j
    · subst hij
      obtain ⟨q, hq, hqm, hql, hqd⟩ := hs.child C hj hD hkmem hi hc1
      obtain ⟨p, hp, hpm, hpl, hpd⟩ := hs.child C hj hD hkmem hi hc2
      have hthnabs : (x.thn.natAbs : Int) = x.thn := by omega
      rw [hthnabs] at hq hqd
      have hwf := hs.inv.wf.toWF
      -- the else-edge, with its complement mark
      have hp'm : m.tbl.Mem (if x.els < 0 then -p else p) := mem_flip x.els hpm
      have hp'l : i < m.tbl.levelOf (if x.els < 0 then -p else p) := by rw [levelOf_flip]; exact hpl
      have hp'd : ∀ α, den m.tbl (if x.els < 0 then -p else p) (asgOfMap l2v0 α) =
          evalFileF i2p levels f.nodes α (nv + 2).toNat x.els := fun α => by
        rw [evalFileF_abs _ _ _ _ _ x.els, ← hpd α, den_flip _ hwf _ _ _ hpm]
      have hinv := hs.nvars
      obtain ⟨r, m', hfo, P⟩ :=
        findOrAddCore_spec m hs.inv i _ q (by unfold Mgr.nvars at *; omega) hp'm hqm hp'l hql
      have hext := P.ext
      have hex' : RefExact m' (fun _ => 0) := by
        have := findOrAddCore_refExact m _ i (if x.els < 0 then -p else p) q hwf.closed hs.exact
        rwa [hfo] at this
      have huabs : (x.u.natAbs : Int) = x.u := by omega
      refine ⟨m', dictSet umap x.u r, ?_, ?_⟩
      · simp [dddmpRebuildNode, dddmpEntryOf, hels, hthn0, hk, hi, hp, hq,
          findOrAdd_eq_core _ (Or.inl hs.ctx) _ _ _, hfo, huabs]
      · refine ⟨P.inv, P.frame.ctx.trans hs.ctx, P.frame.l2v.trans hs.l2v, ?_, ?_, ?_,
          hs.order.congr P.frame.vars P.frame.l2v, hex', P.frame.lastLen.trans hs.off,
          P.frame.sched.trans hs.sched, P.frame.roots.trans hs.noRoots, P.fire.trans hs.fire,
          P.cacheSame.trans hs.cache⟩
        · have := hext.nvars
          unfold Mgr.nvars at *
          omega
        · rw [dictGet_dictSet_ne _ _ _ _ (by omega)]
          exact hs.term
        · intro y hy hyn hd
          by_cases hyu : y.u = x.u
          · have hyx : y = x := eq_of_key_nodup (·.u) C.wf.idsNodup hy hx hyu
            subst hyx
            refine ⟨r, dictGet_dictSet_same _ _ _, P.mem, ?_, ?_⟩
            · intro i' hl'
              exact hl'.det ⟨k, hk, hi⟩ ▸ P.lvl
            · intro α
              rw [P.den, C.wf.evalFileF_node C.hT α hy hyn hk hv, hqd α, hp'd α]
              have : asgOfMap l2v0 α i = α var.show := by simp [asgOfMap, hl]
              rw [this]
          · have hdy : D y := by
              rcases hd with hd | ⟨rfl, _⟩
              · exact hd
              · exact absurd rfl hyu
            obtain ⟨r', hr', hm', hlev', hden'⟩ := hs.good y hy hyn hdy
            refine ⟨r', ?_, hext.mem hm', ?_, ?_⟩
            · rw [dictGet_dictSet_ne _ _ _ _ hyu]; exact hr'
            · intro i' hl'
              rw [hext.levelOf hm']
              exact hlev' i' hl'
            · intro α
              rw [den_ext hext hwf _ _ hm']
              exact hden' α
    · -- a node of another level: nothing happens in this pass
      have hij' : ¬ ((i : Int) = (j : Int)) := by omega
      refine ⟨m, umap, ?_, hs.weaken ?_⟩
      · simp [dddmpRebuildNode, dddmpEntryOf, hels, hk, hi, hij']
      · intro y hy hyn hd
        rcases hd with hd | ⟨rfl, hl'⟩
        · exact hd
        · exact absurd (hl'.det ⟨k, hk, hi⟩).symm hij

/-- one pass `for u, (k, v, w) in bdd_succ.items()` at level `j` -/
theorem DddmpSt.levelPass (C : DddmpRCtx f i2p levels nv o2n n l2v0)
    {j : Nat} (hj : j < n) :
    ∀ (rest : List DddmpNode), (∀ x ∈ rest, x ∈ f.nodes) →
    ∀ (m : Mgr) (umap : List (Int × Int)) (D : DddmpNode → Prop),
      DddmpSt f i2p levels nv o2n n l2v0 m umap D →
      (∀ y ∈ f.nodes, ∀ i, DddmpLvl i2p o2n y i → j < i → D y) →
      ∃ m' umap', dddmpRebuildLevel o2n (j : Int) (rest.map (dddmpEntryOf i2p)) umap m =
          (.ok umap', m') ∧
        DddmpSt f i2p levels nv o2n n l2v0 m' umap'
          (fun y => D y ∨ (y ∈ rest ∧ DddmpLvl i2p o2n y j)) := by
  intro rest
  induction rest with
  | nil =>
    intro _ m umap D hs _
    exact ⟨m, umap, rfl, hs.weaken (fun y _ _ hd => by simpa using hd)⟩
  | cons x rest ih =>
    intro hsub m umap D hs hD
    obtain ⟨m1, umap1, h1, hs1⟩ := hs.step C hj hD (hsub x List.mem_cons_self)
    obtain ⟨m2, umap2, h2, hs2⟩ := ih (fun y hy => hsub y (List.mem_cons_of_mem _ hy)) m1 umap1 _ hs1
      (fun y hy i hl hji => Or.inl (hD y hy i hl hji))
    refine ⟨m2, umap2, ?_, hs2.weaken ?_⟩
    · simp only [List.map_cons, dddmpRebuildLevel, h1, h2]
    · intro y _ _ hd
      rcases hd with hd | ⟨hy, hl⟩
      · exact Or.inl (Or.inl hd)
      · rcases List.mem_cons.mp hy with rfl | hy
        · exact Or.inl (Or.inr ⟨rfl, hl⟩)
        · exact Or.inr ⟨hy, hl⟩

/-- the loop `for j in range(n - 1, -1, -1)` from `c - 1` down to `0` -/
theorem DddmpSt.levelPasses (C : DddmpRCtx f i2p levels nv o2n n l2v0) :
    ∀ (c : Nat), c ≤ n → ∀ (m : Mgr) (umap : List (Int × Int)),
      DddmpSt f i2p levels nv o2n n l2v0 m umap (fun y => ∃ i, DddmpLvl i2p o2n y i ∧ c ≤ i) →
      ∃ m' umap', dddmpRebuild o2n (f.nodes.map (dddmpEntryOf i2p)) c umap m = (.ok umap', m') ∧
        DddmpSt f i2p levels nv o2n n l2v0 m' umap' (fun _ => True) := by
  intro c
  induction c with
  | zero =>
    intro _ m umap hs
    refine ⟨m, umap, rfl, hs.weaken ?_⟩
    intro y _ hyn _
    obtain ⟨k, _, i, hk, _, hi, _⟩ := C.lvl_of_node hyn
    exact ⟨i, ⟨k, hk, hi⟩, Nat.zero_le _⟩
  | succ c ih =>
    intro hc m umap hs
    obtain ⟨m1, umap1, h1, hs1⟩ := DddmpSt.levelPass C (j := c) (by omega) f.nodes
      (fun _ h => h) m umap _ hs (fun y _ i hl hji => ⟨i, hl, by omega⟩)
    obtain ⟨m2, umap2, h2, hs2⟩ := ih (by omega) m1 umap1 (hs1.weaken (by
      intro y _ _ hd
      obtain ⟨i, hl, hci⟩ := hd
      rcases Nat.eq_or_lt_of_le hci with he | hlt
      · subst he; exact Or.inr ⟨‹_›, hl⟩
      · exact Or.inl ⟨i, hl, by omega⟩))
    exact ⟨m2, umap2, by simp only [dddmpRebuild, h1, h2], hs2⟩

theorem DddmpSt.rebuild (H : FoaSpec) (C : DddmpRCtx f i2p levels nv o2n n l2v0) :
    ∀ (c : Nat), c ≤ n → ∀ (m : Mgr) (umap : List (Int × Int)),
      DddmpSt f i2p levels nv o2n n l2v0 m umap (fun y => ∃ i, DddmpLvl i2p o2n y i ∧ c ≤ i) →
      ∃ m' umap', dddmpRebuild o2n (f.nodes.map (dddmpEntryOf i2p)) c umap m = (.ok umap', m') ∧
        DddmpSt f i2p levels nv o2n n l2v0 m' umap' (fun _ => True) :=
  DddmpSt.levelPasses C

end Rebuild

theorem dddmpInfo2permid_T {f : DddmpFile} {ids permids : List Int} {i2p : List (DddmpTok × Int)} {nv : Int}
    (h : dddmpInfo2permid f ids permids = .ok i2p) (hn : f.nvars = some nv) :
    dictGet i2p (.str "T") = some (nv + 1) := by
  unfold dddmpInfo2permid at h
  split at h
  · cases h
  · simp only [hn, Except.ok.injEq] at h
    rw [← h]
    exact dictGet_dictSet_same _ _ _

theorem dddmpHeader_inv {f : DddmpFile} {i2p levels : List (DddmpTok × Int)} {roots : List Int}
    (h : dddmpHeader f = .ok (i2p, levels, roots)) :
    ∃ ids permids rootids, f.ids = some ids ∧ f.permids = some permids ∧ f.rootids = some rootids ∧
      dddmpInfo2permid f ids permids = .ok i2p ∧ dddmpLevels f permids = .ok levels ∧
      roots = dedupInts rootids := by
  unfold dddmpHeader at h
  split at h
  · cases h
  · split at h
    · next ids permids rootids hi hp hr =>
      split at h
      · cases h
      · next i2p' h1 =>
        split at h
        · cases h
        · next levels' h2 =>
          simp only [Except.ok.injEq, Prod.mk.injEq] at h
          obtain ⟨rfl, rfl, rfl⟩ := h
          exact ⟨ids, permids, rootids, hi, hp, hr, h1, h2, rfl⟩
    · cases h

theorem dddmpHeader_T {f : DddmpFile} {i2p levels : List (DddmpTok × Int)} {roots : List Int} {nv : Int}
    (h : dddmpHeader f = .ok (i2p, levels, roots)) (hn : f.nvars = some nv) :
    dictGet i2p (.str "T") = some (nv + 1) := by
  obtain ⟨_, _, _, _, _, _, h1, _, _⟩ := dddmpHeader_inv h
  exact dddmpInfo2permid_T h1 hn

theorem dddmpBodyLoop_ok {f : DddmpFile} {i2p levels : List (DddmpTok × Int)} {nv : Int}
    (hw : DddmpBodyWF f i2p levels nv) (hT : dictGet i2p (.str "T") = some (nv + 1)) :
    ∀ (rest : List DddmpNode) (acc : List (Int × DddmpEntry)), (∀ x ∈ rest, x ∈ f.nodes) →
      (acc.map (·.1) ++ rest.map (·.u)).Nodup →
      dddmpBodyLoop i2p acc rest = .ok (acc ++ rest.map (dddmpEntryOf i2p)) := by
  intro rest
  induction rest with
  | nil => intro acc _ _; simp [dddmpBodyLoop]
  | cons x rest ih =>
    intro acc hsub hnd
    have hx := hsub x List.mem_cons_self
    obtain ⟨k, hk, _, _, _⟩ := hw.lineLevel hT hx
    have hthn : ¬ (x.thn < 0) := by
      rcases hw.line x hx with ht | hnode
      · rw [ht.2.2.1]; omega
      · have := hnode.2.2.1; omega
    have hnot : x.u ∉ acc.map (·.1) := by
      intro hm
      have := (List.nodup_append.mp hnd).2.2 _ hm x.u (by simp)
      exact this rfl
    have hadd : dddmpAddNode i2p acc x = .ok (acc ++ [dddmpEntryOf i2p x]) := by
      simp only [dddmpAddNode, hk, hthn, if_false]
      rw [dictSet_of_not_mem _ _ _ hnot]
      simp [dddmpEntryOf, hk]
    rw [dddmpBodyLoop, hadd]
    simp only
    rw [ih _ (fun y hy => hsub y (List.mem_cons_of_mem _ hy))]
    · simp
    · simpa [dddmpEntryOf, List.append_assoc] using hnd

theorem dddmpBody_ok {f : DddmpFile} {i2p levels : List (DddmpTok × Int)} {nv : Int}
    (hw : DddmpBodyWF f i2p levels nv) (hT : dictGet i2p (.str "T") = some (nv + 1)) :
    dddmpBody f i2p = .ok (f.nodes.map (dddmpEntryOf i2p)) := by
  have := dddmpBodyLoop_ok hw hT f.nodes [] (fun _ h => h) (by simpa using hw.idsNodup)
  simp [dddmpBody, this, lenNe, hw.nnodes]

theorem dddmpReindex_ok (L : List (DddmpTok × Int)) (hkeys : (L.map (·.1)).Nodup)
    (hvals : (L.map (·.2)).Nodup) :
    ∃ (N : List (DddmpTok × Nat)) (o2n : List (Int × Int)),
      dddmpReindex L = .ok (N.map fun p => (p.1, (p.2 : Int)), o2n) ∧
      N.map (·.2) = List.range L.length ∧ (N.map (·.1)).Perm (L.map (·.1)) ∧
      (∀ var k, (var, k) ∈ L → ∃ i : Nat, dictGet o2n k = some (i : Int) ∧
        (var, i) ∈ N ∧ (sortInts (L.map (·.2)))[i]? = some k) := by
  -- `perm`: the variable at an old level
  obtain ⟨P, hP⟩ : ∃ P, P = L.map fun p => (p.2, p.1) := ⟨_, rfl⟩
  have hPk : P.map (·.1) = L.map (·.2) := by rw [hP, List.map_map]; rfl
  have hperm : dictOf (L.map fun p => (p.2, p.1)) = P := by
    rw [← hP]; exact dictOf_nodup _ (hPk ▸ hvals)
  let vo : Int → DddmpTok := fun k => (dictGet P k).getD default
  have hvo : ∀ var k, (var, k) ∈ L → dictGet P k = some var := fun var k hm =>
    dictGet_of_mem _ (hPk ▸ hvals) (hP ▸ List.mem_map.mpr ⟨(var, k), hm, rfl⟩)
  have hvo' : ∀ var k, (var, k) ∈ L → vo k = var := fun var k hm => by simp [vo, hvo var k hm]
  -- the sorted old levels, and `new_levels`: the variable of the `i`-th of them at level `i`
  obtain ⟨S, hS⟩ : ∃ S, S = sortInts (L.map (·.2)) := ⟨_, rfl⟩
  have hSperm : S.Perm (L.map (·.2)) := hS ▸ sortInts_perm _
  have hSmem : ∀ k, k ∈ S → ∃ var, (var, k) ∈ L := by
    intro k hk
    obtain ⟨p, hp, rfl⟩ := List.mem_map.mp (hSperm.mem_iff.mp hk)
    exact ⟨p.1, hp⟩
  obtain ⟨N, hN⟩ : ∃ N, N = S.zipIdx.map fun p => (vo p.1, p.2) := ⟨_, rfl⟩
  obtain ⟨NL, hNN⟩ : ∃ NL, NL = N.map fun p => (p.1, (p.2 : Int)) := ⟨_, rfl⟩
  have hNL : NL = S.zipIdx.map fun p => (vo p.1, (p.2 : Int)) := by rw [hNN, hN, List.map_map]; rfl
  have hNLk : NL.map (·.1) = S.map vo := hNL ▸ zipIdx_items_fst vo S
  have hNLv : NL.map (·.2) = (List.range L.length).map (fun (i : Nat) => (i : Int)) := by
    rw [hNL, zipIdx_items_snd, List.range_eq_range', hSperm.length_eq, List.length_map]
  have hNLkperm : (NL.map (·.1)).Perm (L.map (·.1)) := by
    have h1 := hSperm.map vo
    rw [List.map_map, List.map_congr_left (f := vo ∘ fun p : DddmpTok × Int => p.2)
      (g := fun p => p.1) fun p hp => hvo' p.1 p.2 hp] at h1
    exact hNLk ▸ h1
  have hNLnd : (NL.map (·.1)).Nodup := hNLkperm.nodup_iff.mpr hkeys
  -- the two dictionary comprehensions in between have distinct keys
  have hm1 : S.zipIdx.mapM (dddmpPermItem P) = .ok (NL.map fun p => (p.2, p.1)) := by
    rw [hNL, List.map_map]
    apply mapM_ok
    intro p hp
    obtain ⟨var, hv⟩ := hSmem p.1 (List.mem_of_getElem? (List.mem_zipIdx_iff_getElem?.mp hp))
    simp [dddmpPermItem, vo, hvo var p.1 hv]
  have hp2 : dictOf (NL.map fun p => (p.2, p.1)) = NL.map fun p => (p.2, p.1) := by
    apply dictOf_nodup
    rw [List.map_map, show ((fun x : Int × DddmpTok => x.1) ∘ fun p : DddmpTok × Int => (p.2, p.1)) =
      (·.2) from rfl, hNLv]
    exact nodup_map_of_inj_on _ _ (fun a _ b _ h => by omega) List.nodup_range
  have hNLeq : dictOf ((NL.map fun p => (p.2, p.1)).map fun p => (p.2, p.1)) = NL := by
    rw [List.map_map, show ((fun p : Int × DddmpTok => (p.2, p.1)) ∘ fun p : DddmpTok × Int => (p.2, p.1)) =
      id from rfl, List.map_id]
    exact dictOf_nodup _ hNLnd
  -- position of an old level among the sorted levels
  have hpos : ∀ var k, (var, k) ∈ L → ∃ i : Nat, S[i]? = some k ∧ dictGet NL var = some (i : Int) := by
    intro var k hm
    obtain ⟨i, hi⟩ := List.getElem?_of_mem (hSperm.mem_iff.mpr (List.mem_map.mpr ⟨(var, k), hm, rfl⟩))
    refine ⟨i, hi, dictGet_of_mem _ hNLnd ?_⟩
    rw [hNL]
    exact List.mem_map.mpr ⟨(k, i), List.mk_mem_zipIdx_iff_getElem?.mpr hi, by simp [hvo' var k hm]⟩
  -- `old2new`
  obtain ⟨O, hO⟩ : ∃ O, O = L.map fun p => (p.2, (dictGet NL p.1).getD 0) := ⟨_, rfl⟩
  have hOk : (O.map (·.1)).Nodup := by rw [hO, List.map_map]; exact hvals
  have hm2 : L.mapM (dddmpO2nItem NL) = .ok O := by
    rw [hO]
    apply mapM_ok
    intro p hp
    obtain ⟨i, _, hi⟩ := hpos p.1 p.2 hp
    simp [dddmpO2nItem, hi]
  have hfst : N.map (·.1) = NL.map (·.1) := by rw [hNN, List.map_map]; rfl
  refine ⟨N, O, ?_, ?_, hfst ▸ hNLkperm, ?_⟩
  · rw [← hNN]
    unfold dddmpReindex
    simp only [hperm, hPk, ← hS, hm1, hp2, hNLeq, hm2, dictOf_nodup O hOk]
  · rw [hN, List.map_map, List.range_eq_range', ← hSperm.length_eq.trans (List.length_map _),
      ← List.zipIdx_map_snd 0 S]
    rfl
  · intro var k hm
    obtain ⟨i, hi, hd⟩ := hpos var k hm
    refine ⟨i, dictGet_of_mem _ hOk ?_, ?_, hS ▸ hi⟩
    · rw [hO]
      exact List.mem_map.mpr ⟨(var, k), hm, by simp [hd]⟩
    · rw [hN]
      exact List.mem_map.mpr ⟨(k, i), List.mk_mem_zipIdx_iff_getElem?.mpr hi, by simp [hvo' var k hm]⟩

/-- the declaration loop of `BDD(new_levels)` on natural levels is `addVars` -/
theorem dddmpAddVars_nat : ∀ (N : List (DddmpTok × Nat)) (m : Mgr),
    dddmpAddVars (N.map fun p => (p.1, (p.2 : Int))) m = addVars (N.map fun p => (p.1.show, p.2)) m
  | [], _ => rfl
  | (var, l) :: rest, m => by
    show (match addVar var.show (some (l : Int)) m with
      | (.error e, m') => ((.error e : Except Err Unit), m')
      | (.ok _, m') => dddmpAddVars (rest.map fun p : DddmpTok × Nat => (p.1, (p.2 : Int))) m') =
      (match addVar var.show (some (l : Int)) m with
      | (.error e, m1) => ((.error e : Except Err Unit), m1)
      | (.ok _, m1) => addVars (rest.map fun p : DddmpTok × Nat => (p.1.show, p.2)) m1)
    rcases addVar var.show (some (l : Int)) m with ⟨e | a, m1⟩
    · rfl
    · exact dddmpAddVars_nat rest m1

/-- `BDD(new_levels)` is the constructor of `addVars_good`: a good manager (nobody holds a
reference) with the name of `new_levels` at each level, nothing else set -/
theorem dddmpNewMgr_ok (N : List (DddmpTok × Nat)) (hv : N.map (·.2) = List.range N.length)
    (hnames : (N.map (·.1.show)).Nodup) :
    ∃ m, dddmpNewMgr (N.map fun p => (p.1, (p.2 : Int))) = .ok m ∧ GoodState m (fun _ => 0) ∧
      m.nvars = N.length ∧ (∀ var i, (var, i) ∈ N → m.tbl.l2v[i]? = some var.show) ∧
      m.sched = [] ∧ m.roots = [] ∧ m.fireIn = none ∧ m.cache = {} := by
  have hsnd : (N.map fun p => (p.1.show, p.2)).map (·.2) = List.range N.length := by
    rw [List.map_map]; exact hv
  have hvalid : validOrdering (N.map fun p => (p.1.show, p.2)) = true := by
    simp [validOrdering, hsnd]
  obtain ⟨m, hrun, hg, -, hL, hn, hS, h1, h2⟩ :=
    addVars_good (N.map fun p => (p.1.show, p.2)) (by rw [List.map_map]; exact hnames) hvalid
  refine ⟨m, ?_, hg, by rw [List.length_map] at hn; exact hn,
    fun var i hm => (hL i var.show).mpr (List.mem_map.mpr ⟨(var, i), hm, rfl⟩), h1, hS.roots, h2,
    hS.cache⟩
  have hokv : ((List.range N.length).all (fun i => ((N.map (·.2)).map Nat.cast).contains (i : Int)) &&
      ((N.map (·.2)).map Nat.cast).all (fun k : Int => decide (0 ≤ k) && decide (k < (N.length : Int)))) = true := by
    rw [hv]
    simp only [Bool.and_eq_true, List.all_eq_true, List.contains_iff_mem, List.mem_map,
      decide_eq_true_eq, List.mem_range]
    exact ⟨fun i hi => ⟨i, hi, rfl⟩, fun k ⟨i, hi, e⟩ => by omega⟩
  unfold dddmpNewMgr
  simp only [List.length_map, List.map_map, Function.comp_def] at hokv ⊢
  simp only [hokv, dddmpAddVars_nat, hrun]
  rfl

/-- what `load` leaves besides the nodes: the rest of the reachable-state invariant (order
maps inverse bijections onto `0..n-1`, counts exact with NOBODY holding a reference — the
loader takes no reference on the roots —, dynamic reordering not enabled, outside a context,
no schedule, empty computed table), and the ORDER: the manager has one variable per entry of
the header's `levels` table, and the variable of file level `k` sits at the rank of `k` among
the file levels (gaps in `.permids` closed, relative order kept) -/
structure DddmpLoaded (levels : List (DddmpTok × Int)) (m : Mgr) : Prop where
  order : OrderOK m.tbl
  exact : RefExact m (fun _ => 0)
  off : m.lastLen = none
  ctx : m.ctx = false
  sched : m.sched = []
  fire : m.fireIn = none
  cache : m.cache = {}
  nvars : m.nvars = levels.length
  rank : ∀ var k, (var, k) ∈ levels → ∃ i : Nat, (sortInts (levels.map (·.2)))[i]? = some k ∧
    m.tbl.l2v[i]? = some var.show ∧ m.tbl.vars[var.show]? = some i

theorem DddmpLoaded.setRoots {levels : List (DddmpTok × Int)} {m : Mgr} (h : DddmpLoaded levels m)
    (rs : List Int) : DddmpLoaded levels { m with roots := rs } :=
  ⟨h.order, h.exact.congr rfl rfl, h.off, h.ctx, h.sched, h.fire, h.cache, h.nvars, h.rank⟩

/-- the rebuild succeeds on a well-formed file; the manager satisfies the invariant; `umap`
sends every node number of the file to a reference that denotes, by variable name, what
the node list says — however the non-terminal lines are numbered -/
theorem dddmpLoadCore_good {f : DddmpFile} {i2p levels : List (DddmpTok × Int)} {roots : List Int}
    {nv : Int} (hh : dddmpHeader f = .ok (i2p, levels, roots)) (hnv : f.nvars = some nv)
    (hw : DddmpBodyWF f i2p levels nv) :
    ∃ m umap, dddmpLoadCore f = .ok (m, umap, roots) ∧ Inv m ∧
      (∀ x ∈ f.nodes, ∃ r, dictGet umap x.u = some r ∧ m.tbl.Mem r ∧
        ∀ α, den m.tbl r (dddmpAsgOf m.tbl α) = evalFile f α x.u) ∧
      m.roots = [] ∧ DddmpLoaded levels m := by
  have hT := dddmpHeader_T hh hnv
  have hbody := dddmpBody_ok hw hT
  have hkeys : (levels.map (·.1)).Nodup :=
    nodup_of_map_nodup DddmpTok.show _ (by rw [List.map_map]; exact hw.namesNodup)
  obtain ⟨NL, o2n, hre, hNLv, hNLperm, hrank⟩ := dddmpReindex_ok levels hkeys hw.levelsNodup
  have hlen : NL.length = levels.length := by
    have := congrArg List.length hNLv
    simpa using this
  have hNLnames : (NL.map (·.1.show)).Nodup := by
    have := (hNLperm.map DddmpTok.show).nodup_iff.mpr (by rw [List.map_map]; exact hw.namesNodup)
    rwa [List.map_map] at this
  obtain ⟨m0, hnm, hg0, hsize, hW, h0s, h0r, h0f, h0c⟩ := dddmpNewMgr_ok NL (by rw [hlen]; exact hNLv) hNLnames
  have hSlen : (sortInts (levels.map (·.2))).length = levels.length := by
    simpa using (sortInts_perm (levels.map (·.2))).length_eq
  have C : DddmpRCtx f i2p levels nv o2n NL.length m0.tbl.l2v := by
    refine ⟨hw, hT, ?_, ?_⟩
    · intro var k hm
      obtain ⟨i, hi, hmem, hS⟩ := hrank var k hm
      refine ⟨i, hi, ?_, hW var i hmem⟩
      have := (List.getElem?_eq_some_iff.mp hS).1
      omega
    · intro k k' i i' hk hk' hlt hi hi'
      obtain ⟨p, hp, rfl⟩ := List.mem_map.mp hk
      obtain ⟨p', hp', rfl⟩ := List.mem_map.mp hk'
      obtain ⟨j, hj, _, hS⟩ := hrank p.1 p.2 hp
      obtain ⟨j', hj', _, hS'⟩ := hrank p'.1 p'.2 hp'
      rw [hi] at hj
      rw [hi'] at hj'
      have e1 : i = j := by have := Option.some.inj hj; omega
      have e2 : i' = j' := by have := Option.some.inj hj'; omega
      subst e1 e2
      exact sorted_index_lt (sortInts_sorted _) hS hS' hlt
  have hs0 : DddmpSt f i2p levels nv o2n NL.length m0.tbl.l2v m0 dddmpUmap0
      (fun y => ∃ i, DddmpLvl i2p o2n y i ∧ NL.length ≤ i) := by
    refine ⟨hg0.inv, hg0.ctx, rfl, hsize, by decide, ?_, hg0.order, hg0.exact, hg0.off, h0s, h0r, h0f, h0c⟩
    intro y _ hyn hd
    exfalso
    obtain ⟨i, hl, hge⟩ := hd
    obtain ⟨k, _, i', hk, _, hi', hlt, _⟩ := C.lvl_of_node hyn
    have := hl.det ⟨k, hk, hi'⟩
    omega
  obtain ⟨m, umap, hrb, hs⟩ := DddmpSt.levelPasses C NL.length (Nat.le_refl _) _ _ hs0
  refine ⟨m, umap, ?_, hs.inv, ?_, hs.noRoots, hs.order, hs.exact, hs.off, hs.ctx, hs.sched, hs.fire,
    hs.cache, ?_, ?_⟩
  · simp only [dddmpLoadCore, hh, hbody, hre, hnm, List.length_map, hrb]
  · intro x hx
    have hev := evalFile_eq hh hnv
    have hasg : ∀ α, dddmpAsgOf m.tbl α = asgOfMap m0.tbl.l2v α := by
      intro α
      show asgOfMap m.tbl.l2v α = _
      rw [hs.l2v]
    rcases hw.line x hx with ht | hnode
    · refine ⟨1, by rw [ht.1]; exact hs.term, Or.inl rfl, ?_⟩
      intro α
      rw [den_one, hev, ht.1, hw.evalFileF_term α hx ht]
    · obtain ⟨r, hr, hm, _, hden⟩ := hs.good x hx hnode trivial
      refine ⟨r, hr, hm, ?_⟩
      intro α
      rw [hasg, hev]
      exact hden α
  · rw [hs.nvars, hlen]
  · intro var k hm
    obtain ⟨i, _, hmem, hS⟩ := hrank var k hm
    have hl : m.tbl.l2v[i]? = some var.show := by rw [hs.l2v]; exact hW var i hmem
    exact ⟨i, hS, hl, (hs.order.inv _ _).mpr hl⟩

theorem dddmpLoadCore_nodes_of_foaSpec (H : FoaSpec) (f : DddmpFile) (hf : f.WF) :
    ∃ m umap roots, dddmpLoadCore f = .ok (m, umap, roots) ∧ Inv m ∧
      ∀ x ∈ f.nodes, ∃ r, dictGet umap x.u = some r ∧ m.tbl.Mem r ∧
        ∀ α, den m.tbl r (dddmpAsgOf m.tbl α) = evalFile f α x.u := by
  obtain ⟨_, _, roots, _, hh, hnv, hw, _⟩ := hf
  obtain ⟨m, umap, h, hi, hn, _⟩ := dddmpLoadCore_good hh hnv hw
  exact ⟨m, umap, roots, h, hi, hn⟩

/-- the roots of `m` denote, by variable name and as a set of functions, the root entries
of the file (`bdd.roots` is a `set`: which root entry became which element is not
observable) -/
def DddmpRootsDenote (f : DddmpFile) (m : Mgr) : Prop :=
  (∀ ρ ∈ f.rootids.getD [], ∃ r ∈ m.roots, m.tbl.Mem r ∧
      ∀ α, den m.tbl r (dddmpAsgOf m.tbl α) = evalFile f α ρ) ∧
  (∀ r ∈ m.roots, ∃ ρ ∈ f.rootids.getD [],
      ∀ α, den m.tbl r (dddmpAsgOf m.tbl α) = evalFile f α ρ)

/-- each root entry, translated through `umap` with its sign, denotes its function -/
theorem dddmpLoadCore_spec {f : DddmpFile} {i2p levels : List (DddmpTok × Int)} {roots : List Int}
    {nv : Int} (hh : dddmpHeader f = .ok (i2p, levels, roots)) (hnv : f.nvars = some nv)
    (hw : DddmpBodyWF f i2p levels nv) (hroots : ∀ ρ ∈ roots, ∃ x ∈ f.nodes, x.u = (ρ.natAbs : Int)) :
    ∃ m umap, dddmpLoadCore f = .ok (m, umap, roots) ∧ Inv m ∧
      (∀ x ∈ f.nodes, ∃ r, dictGet umap x.u = some r ∧ m.tbl.Mem r ∧
        ∀ α, den m.tbl r (dddmpAsgOf m.tbl α) = evalFile f α x.u) ∧
      (∀ ρ ∈ f.rootids.getD [], ∃ r, dictGet umap (ρ.natAbs : Int) = some r ∧
        m.tbl.Mem (if ρ > 0 then r else -r) ∧
        ∀ α, den m.tbl (if ρ > 0 then r else -r) (dddmpAsgOf m.tbl α) = evalFile f α ρ) ∧
      roots = dedupInts (f.rootids.getD []) ∧ DddmpLoaded levels m := by
  obtain ⟨m, umap, hload, hinv, hnodes, _, hgood⟩ := dddmpLoadCore_good hh hnv hw
  obtain ⟨_, _, rootids, _, _, hrid, _, _, hrd⟩ := dddmpHeader_inv hh
  refine ⟨m, umap, hload, hinv, hnodes, ?_, ?_, hgood⟩
  · intro ρ hρ
    rw [hrid] at hρ
    simp only [Option.getD_some] at hρ
    have hρ' : ρ ∈ roots := by rw [hrd]; exact (mem_dedupInts _ _).mpr hρ
    obtain ⟨x, hx, hxu⟩ := hroots ρ hρ'
    obtain ⟨r, hr, hm, hden⟩ := hnodes x hx
    refine ⟨r, by rw [← hxu]; exact hr, ?_, ?_⟩
    · split
      · exact hm
      · exact mem_neg hm
    · intro α
      have hev := evalFile_eq hh hnv α
      have hx0 : 0 < x.u := by
        rcases hw.line x hx with ht | hn
        · rw [ht.1]; omega
        · have := hn.1; omega
      have hev2 : evalFile f α ρ = ((decide (ρ < 0)) ^^ evalFile f α x.u) := by
        rw [hev, hev, evalFileF_abs, hxu]
      rw [hev2, ← hden α]
      split
      · next hpos =>
        have : ¬ (ρ < 0) := by omega
        simp only [this, decide_false, Bool.false_bne]
      · next hpos =>
        have : ρ < 0 := by omega
        rw [den_neg _ hinv.wf.toWF _ _ hm]
        simp only [this, decide_true, Bool.true_bne]
  · rw [hrd, hrid]; rfl

/-- `dd.dddmp.load` on a well-formed file (the non-terminal lines numbered in any way, levels with
or without gaps): it succeeds; the manager is `DddmpLoaded` for the `levels` table of the file's
header, hence a good state for the empty ledger; every node number of the file is mapped to a
reference denoting (by variable name) what the node list says, and `roots` denotes exactly the
functions of the root entries of the file -/
theorem dddmpLoad_loaded (f : DddmpFile) (hf : f.WF) :
    ∃ m umap i2p levels roots, dddmpHeader f = .ok (i2p, levels, roots) ∧ DddmpLoaded levels m ∧
      loadDddmpU f = .ok (m, umap) ∧ loadDddmp f = .ok m ∧ GoodState m (fun _ => 0) ∧
      (∀ x ∈ f.nodes, ∃ r, dictGet umap x.u = some r ∧ m.tbl.Mem r ∧
        ∀ α, den m.tbl r (dddmpAsgOf m.tbl α) = evalFile f α x.u) ∧
      DddmpRootsDenote f m ∧ ∀ r ∈ m.roots, m.tbl.Mem r := by
  obtain ⟨i2p, levels, roots, nv, hh, hnv, hw, hroots⟩ := hf
  obtain ⟨m, umap, hload, hinv, hnodes, hroots, hmr, hgood⟩ := dddmpLoadCore_spec hh hnv hw hroots
  let g : Int → Int := fun ρ =>
    if ρ > 0 then (dictGet umap (ρ.natAbs : Int)).getD 0 else -(dictGet umap (ρ.natAbs : Int)).getD 0
  have hg : ∀ ρ ∈ f.rootids.getD [], dddmpRootItem umap ρ = .ok (g ρ) ∧ m.tbl.Mem (g ρ) ∧
      ∀ α, den m.tbl (g ρ) (dddmpAsgOf m.tbl α) = evalFile f α ρ := by
    intro ρ hρ
    obtain ⟨r, hr, hm, hden⟩ := hroots ρ hρ
    have e : g ρ = if ρ > 0 then r else -r := by simp [g, hr]
    rw [e]
    refine ⟨?_, hm, hden⟩
    simp [dddmpRootItem, hr]
  have hmem : ∀ ρ, ρ ∈ roots ↔ ρ ∈ f.rootids.getD [] := by
    intro ρ; rw [hmr]; exact mem_dedupInts _ _
  have hmap : roots.mapM (dddmpRootItem umap) = .ok (roots.map g) :=
    mapM_ok _ _ _ (fun ρ hρ => (hg ρ ((hmem ρ).mp hρ)).1)
  have hU : loadDddmpU f = .ok ({ m with roots := dedupInts (roots.map g) }, umap) := by
    simp [loadDddmpU, hload, hmap]
  have hL := hgood.setRoots (dedupInts (roots.map g))
  refine ⟨_, umap, i2p, levels, roots, hh, hL, hU, by simp [loadDddmp, hU, Except.map],
    ⟨hinv.congr rfl rfl rfl rfl rfl, hL.order, hL.exact, hL.off, hL.ctx⟩, hnodes, ⟨?_, ?_⟩, ?_⟩
  · intro ρ hρ
    refine ⟨g ρ, ?_, (hg ρ hρ).2.1, (hg ρ hρ).2.2⟩
    exact (mem_dedupInts _ _).mpr (List.mem_map.mpr ⟨ρ, (hmem ρ).mpr hρ, rfl⟩)
  · intro r hr
    obtain ⟨ρ, hρ, rfl⟩ := List.mem_map.mp ((mem_dedupInts _ _).mp hr)
    exact ⟨ρ, (hmem ρ).mp hρ, (hg ρ ((hmem ρ).mp hρ)).2.2⟩
  · intro r hr
    obtain ⟨ρ, hρ, rfl⟩ := List.mem_map.mp ((mem_dedupInts _ _).mp hr)
    exact (hg ρ ((hmem ρ).mp hρ)).2.1

theorem dddmpLoad_spec_of_foaSpec (H : FoaSpec) (f : DddmpFile) (hf : f.WF) :
    ∃ m umap, loadDddmpU f = .ok (m, umap) ∧ loadDddmp f = .ok m ∧ Inv m ∧
      (∀ x ∈ f.nodes, ∃ r, dictGet umap x.u = some r ∧ m.tbl.Mem r ∧
        ∀ α, den m.tbl r (dddmpAsgOf m.tbl α) = evalFile f α x.u) ∧
      DddmpRootsDenote f m := by
  obtain ⟨m, umap, _, _, _, _, _, h1, h2, hg, h4, h5, _⟩ := dddmpLoad_loaded f hf
  exact ⟨m, umap, h1, h2, hg.inv, h4, h5⟩

end DD
