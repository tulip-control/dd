/-
  DDProofs.DddmpTextProofs — the text layer of `dd/dddmp.py` (`DD/DddmpText.lean`): a header line is
  REFUSED (`.mode` other than `A`, `.rootnames`; the first in file order decides), IGNORED (`.ver`,
  `.mode A`, `.dd`, `.add`: `load` returns the same) or stored; the header parser is the grammar
  followed by the actions; the file is cut at the first line that STARTS WITH `.nodes` / `.end`;
  on a text that parses, `loadDddmpText` is `loadDddmp` of the parsed content.
-/
import DD.DddmpText
open Std

namespace DD

/-- the exception a header line raises while the header is parsed, if any -/
def DddmpLine.refusal : DddmpLine → Option Err
  | .mode s => if s = "A" then none else some .other      -- `Exception` (binary mode `B`, unknown mode)
  | .rootnames _ => some .notImplemented                  -- `NotImplementedError`
  | _ => none

theorem dddmpApplyLine_cases (f : DddmpFile) (l : DddmpLine) :
    (∃ e, l.refusal = some e ∧ dddmpApplyLine f l = .error e) ∨
      (l.refusal = none ∧ ∃ f', dddmpApplyLine f l = .ok f') := by
  cases l with
  | mode s => by_cases hs : s = "A" <;> simp [dddmpApplyLine, DddmpLine.refusal, hs]
  | rootnames l => simp [dddmpApplyLine, DddmpLine.refusal]
  | _ => simp [dddmpApplyLine, DddmpLine.refusal]

theorem dddmpApplyLines_cases : ∀ (ls : List DddmpLine) (f : DddmpFile),
    (∃ e, (ls.filterMap DddmpLine.refusal).head? = some e ∧ dddmpApplyLines f ls = .error e) ∨
      ((∀ l ∈ ls, l.refusal = none) ∧ ∃ f', dddmpApplyLines f ls = .ok f')
  | [], f => .inr ⟨nofun, f, rfl⟩
  | l :: ls, f => by
    rw [dddmpApplyLines, List.filterMap_cons]
    rcases dddmpApplyLine_cases f l with ⟨e, hr, he⟩ | ⟨hr, f', he⟩
    · exact .inl ⟨e, by rw [hr]; rfl, by rw [he]⟩
    · rw [hr, he]
      exact (dddmpApplyLines_cases ls f').imp id fun ⟨h, hf⟩ => ⟨List.forall_mem_cons.mpr ⟨hr, h⟩, hf⟩

/-- the lines whose action stores nothing the loader reads -/
def DddmpLine.ignored : DddmpLine → Bool
  | .ver _ _ _ | .mode _ | .dd _ | .add => true
  | _ => false

/-- the content of the file without the ignored fields -/
def DddmpFile.content (f : DddmpFile) : DddmpFile :=
  { f with ver := none, mode := none, ddname := none, add := false }

/-- everything `load` computes is a function of the content: `.ver`, `.mode A`, `.dd` and
`.add` (an ADD file!) change nothing -/
theorem loadDddmpU_content (f : DddmpFile) : loadDddmpU f.content = loadDddmpU f := rfl
theorem loadDddmp_content (f : DddmpFile) : loadDddmp f.content = loadDddmp f := rfl
theorem evalFile_content (f : DddmpFile) : evalFile f.content = evalFile f := rfl
theorem evalFormat_content (f : DddmpFile) : evalFormat f.content = evalFormat f := rfl
theorem dddmpHeader_content (f : DddmpFile) : dddmpHeader f.content = dddmpHeader f := rfl

theorem loadDddmpU_congr {f g : DddmpFile} (h : g.content = f.content) :
    loadDddmpU g = loadDddmpU f := by
  rw [← loadDddmpU_content g, h, loadDddmpU_content]

theorem dddmpApplyLine_ignored {f f' : DddmpFile} {l : DddmpLine} (h : dddmpApplyLine f l = .ok f')
    (hi : l.ignored = true) : f'.content = f.content := by
  cases l <;> simp [DddmpLine.ignored] at hi <;> simp only [dddmpApplyLine] at h
  · cases h; rfl
  · split at h
    · cases h; rfl
    · cases h
  · cases h; rfl
  · cases h; rfl

theorem dddmpApplyLine_congr {f f' g : DddmpFile} {l : DddmpLine} (h : dddmpApplyLine f l = .ok f')
    (hg : g.content = f.content) : ∃ g', dddmpApplyLine g l = .ok g' ∧ g'.content = f'.content := by
  -- field by field: the fields `content` keeps agree; every action writes ONE field, the same on both sides
  have hc := hg
  simp only [DddmpFile.content, DddmpFile.mk.injEq] at hc
  obtain ⟨h1, h2, h3, h4, h5, h6, h7, h8, h9, h10, h11, h12, -⟩ := hc
  cases l <;> simp only [dddmpApplyLine] at h ⊢
  case mode s =>
    split at h
    · next hs =>
      cases h
      simp only [hs, if_true]
      refine ⟨_, rfl, ?_⟩
      simp [DddmpFile.content, *]
    · cases h
  case rootnames => cases h
  all_goals
    cases h
    refine ⟨_, rfl, ?_⟩
    simp [DddmpFile.content, *]

/-- erasing the ignored lines from the header changes neither the acceptance of the file nor
the content, hence (`loadDddmpU_congr`) nothing of what `load` returns -/
theorem dddmpApplyLines_filter (ls : List DddmpLine) : ∀ (f g f1 : DddmpFile),
    dddmpApplyLines f ls = .ok f1 → g.content = f.content →
    ∃ g1, dddmpApplyLines g (ls.filter fun l => !l.ignored) = .ok g1 ∧ g1.content = f1.content := by
  induction ls with
  | nil =>
    intro f g f1 h hg
    simp only [dddmpApplyLines, Except.ok.injEq] at h
    subst h
    exact ⟨g, rfl, hg⟩
  | cons l ls ih =>
    intro f g f1 h hg
    rw [dddmpApplyLines] at h
    cases hl : dddmpApplyLine f l with
    | error e => rw [hl] at h; cases h
    | ok f' =>
      rw [hl] at h
      by_cases hi : l.ignored = true
      · simp only [List.filter_cons, hi, Bool.not_true, Bool.false_eq_true, if_false]
        exact ih f' g f1 h (hg.trans (dddmpApplyLine_ignored hl hi).symm)
      · have hi' : l.ignored = false := by simpa using hi
        obtain ⟨g', hg', hc'⟩ := dddmpApplyLine_congr hl hg
        simp only [List.filter_cons, hi', Bool.not_false, if_true, dddmpApplyLines, hg']
        exact ih f' g' f1 h hc'

/-- the grammar alone: the `line`s of the header, `none` for a lexical or syntax error -/
def dddmpSyntaxF : Nat → List HTok → Bool → Option (List DddmpLine)
  | 0, _, _ => none
  | _ + 1, [], illegal => if illegal then none else some []
  | f + 1, .kw k :: ts, illegal =>
    match pLine k ts with
    | none => none
    | some (line, rest) =>
      if !lookaheadOk rest illegal then none else (dddmpSyntaxF f rest illegal).map (line :: ·)
  | _ + 1, _ :: _, _ => none

/-- on a header that is in the grammar, the result of the parse is the sequence of the actions -/
theorem dddmpParseHeaderF_of_syntax : ∀ (n : Nat) (toks : List HTok) (ill : Bool) (ls : List DddmpLine)
    (acc : DddmpFile), dddmpSyntaxF n toks ill = some ls →
    dddmpParseHeaderF n toks ill acc = dddmpApplyLines acc ls := by
  intro n
  induction n with
  | zero => intro toks ill ls acc h; simp [dddmpSyntaxF] at h
  | succ n ih =>
    intro toks ill ls acc h
    cases toks with
    | nil =>
      simp only [dddmpSyntaxF] at h
      split at h
      · cases h
      · next hi => cases h; simp [dddmpParseHeaderF, hi, dddmpApplyLines]
    | cons t ts =>
      cases t with
      | kw k =>
        simp only [dddmpSyntaxF] at h
        simp only [dddmpParseHeaderF]
        cases hp : pLine k ts with
        | none => rw [hp] at h; cases h
        | some pr =>
          obtain ⟨line, rest⟩ := pr
          rw [hp] at h
          simp only at h ⊢
          split at h
          · cases h
          · next hla =>
            simp only [hla, if_false]
            cases hs : dddmpSyntaxF n rest ill with
            | none => rw [hs] at h; cases h
            | some ls' =>
              rw [hs] at h
              simp only [Option.map_some, Option.some.injEq] at h
              subst h
              rw [dddmpApplyLines]
              cases ha : dddmpApplyLine acc line with
              | error e => rfl
              | ok acc' => exact ih rest ill ls' acc' hs
      | _ => simp [dddmpSyntaxF] at h

/-! ### the dispatch of lines

The marks are tested at the START of a line (`hasNodesMark`, `hasEndMark` = `isPrefixOf`).  The
`isInfixC` lemmas describe the substring test `'.nodes' in line` of finding F23, for
`C16_substring_dispatch_cut`. -/

/-- a header line whose keyword is not `.nodes…` is no `.nodes` mark, whatever NAMES follow -/
theorem noNodesMark_of_keyword {k rest : List Char}
    (h : (['.', 'n', 'o', 'd', 'e', 's'] : List Char).isPrefixOf k = false) (hk : 6 ≤ k.length) :
    hasNodesMark (k ++ rest) = false := by
  unfold hasNodesMark
  match k, hk with
  | a :: b :: c :: d :: e :: f :: k', _ =>
    simp only [List.cons_append, List.isPrefixOf] at h ⊢
    simpa using h

theorem isInfixC_of_prefix (m x : List Char) (h : m.isPrefixOf x = true) : isInfixC m x = true := by
  cases x with
  | nil =>
    cases m with
    | nil => rfl
    | cons _ _ => simp [List.isPrefixOf] at h
  | cons c r => simp [isInfixC, h]

theorem isPrefixOf_append_right (m x b : List Char) (h : m.isPrefixOf x = true) :
    m.isPrefixOf (x ++ b) = true := by
  rw [List.isPrefixOf_iff_prefix] at h ⊢
  exact h.trans (List.prefix_append _ _)

theorem isInfixC_append_right (m : List Char) : ∀ (x b : List Char), isInfixC m x = true →
    isInfixC m (x ++ b) = true := by
  intro x
  induction x with
  | nil =>
    intro b h
    have hm : m = [] := by simpa [isInfixC] using h
    subst hm
    cases b <;> simp [isInfixC, List.isPrefixOf]
  | cons c r ih =>
    intro b h
    simp only [isInfixC, Bool.or_eq_true] at h
    simp only [List.cons_append, isInfixC, Bool.or_eq_true]
    rcases h with h | h
    · exact Or.inl (isPrefixOf_append_right m (c :: r) b h)
    · exact Or.inr (ih b h)

theorem isInfixC_append_left (m : List Char) : ∀ (a x : List Char), isInfixC m x = true →
    isInfixC m (a ++ x) = true := by
  intro a
  induction a with
  | nil => intro x h; exact h
  | cons c r ih =>
    intro x h
    simp only [List.cons_append, isInfixC, Bool.or_eq_true]
    exact Or.inr (ih x h)

/-- a line that contains the mark anywhere — e.g. in the NAME of a variable — has it -/
theorem isInfixC_append (m a x b : List Char) (h : isInfixC m x = true) :
    isInfixC m (a ++ x ++ b) = true := by
  rw [List.append_assoc]
  exact isInfixC_append_left m a _ (isInfixC_append_right m x b h)

/-- the header ends at the FIRST line that has the `.nodes` mark -/
theorem dddmpHeaderLines_cut (pre : List (List Char)) (l : List Char) (post : List (List Char))
    (hpre : ∀ x ∈ pre, hasNodesMark x = false) (hl : hasNodesMark l = true) :
    dddmpHeaderLines (pre ++ l :: post) = pre := by
  unfold dddmpHeaderLines
  rw [List.takeWhile_append_of_pos fun x hx => by rw [hpre x hx]; rfl]
  simp [hl]

theorem dropWhile_cut (pre : List (List Char)) (l : List Char) (post : List (List Char))
    (hpre : ∀ x ∈ pre, hasNodesMark x = false) (hl : hasNodesMark l = true) :
    ((pre ++ l :: post).dropWhile fun x => !hasNodesMark x) = l :: post := by
  rw [List.dropWhile_append_of_pos fun x hx => by rw [hpre x hx]; rfl]
  simp [hl]

/-- the body ends at the first line after `.nodes` that has the `.end` mark; the lines after it
are never read -/
theorem dddmpBodyLines_cut (pre : List (List Char)) (l : List Char) (body : List (List Char))
    (l' : List Char) (post : List (List Char))
    (hpre : ∀ x ∈ pre, hasNodesMark x = false) (hl : hasNodesMark l = true)
    (hbody : ∀ x ∈ body, hasEndMark x = false) (hl' : hasEndMark l' = true) :
    dddmpBodyLines (pre ++ l :: (body ++ l' :: post)) = body := by
  unfold dddmpBodyLines
  rw [dropWhile_cut pre l _ hpre hl, List.drop_succ_cons, List.drop_zero,
    List.takeWhile_append_of_pos fun x hx => by rw [hbody x hx]; rfl]
  simp [hl']

theorem loadDddmp_header_error {f : DddmpFile} {e : Err} (h : dddmpHeader f = .error e) :
    loadDddmp f = .error e := by
  simp [loadDddmp, loadDddmpU, dddmpLoadCore, h, Except.map]

/-- `dd.dddmp.load` on a text of which every part parses = `loadDddmp` on the parsed content -/
theorem loadDddmpText_of_parse {s : List Char} {f : DddmpFile} (h : dddmpParseText s = some f) :
    loadDddmpText s = loadDddmp f := by
  unfold dddmpParseText at h
  unfold loadDddmpText
  cases hh : dddmpHeaderOfText s with
  | error e => rw [hh] at h; simp at h
  | ok f0 =>
    rw [hh] at h
    cases hg : goodPrefix (dddmpNodesOfText s) with
    | mk nodes bad =>
      rw [hg] at h
      cases bad with
      | true => simp at h
      | false =>
        simp only [Option.some.injEq] at h
        subst h
        simp only
        cases hd : dddmpHeader f0 with
        | error e =>
          have : dddmpHeader { f0 with nodes := nodes } = .error e := hd
          rw [loadDddmp_header_error this]
        | ok r =>
          obtain ⟨i2p, levels, roots⟩ := r
          rfl

end DD
