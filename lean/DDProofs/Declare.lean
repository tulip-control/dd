/-
  DDProofs.Declare — `bdd.declare(*names)`, the first step of every `load_json`: the relation
  `Declared` between the managers before and after, which holds from every state with `Inv` and
  `OrderOK` (`declare_ok`).
-/
import DDProofs.VarsProofs
import DDProofs.Names
import DDProofs.Reach
import DDProofs.NatMap
open Std
namespace DD

theorem declare_nil (m : Mgr) : declare [] m = (.ok (), m) := by
  simp [declare, pure]
  rfl

theorem declare_cons (v : String) (vs : List String) (m : Mgr) :
    declare (v :: vs) m = match addVar v none m with
      | (.ok _, m1) => declare vs m1
      | (.error e, m1) => (.error e, m1) := by
  simp only [declare, List.forIn_cons, bind, M.bind']
  cases addVar v none m with
  | mk r m1 =>
    cases r with
    | ok a => simp [pure, M.pure']
    | error e => rfl

/-- what `bdd.declare(*names)` does to a manager with consistent order tables: every name is
declared afterwards, known names keep their level, no other name appears; nodes, counts, unique
table, `roots`, the switches and the schedule are untouched; every node keeps its function of
the variable NAMES -/
structure Declared (names : List String) (m m' : Mgr) : Prop where
  inv : Inv m'
  order : OrderOK m'.tbl
  declared : ∀ v ∈ names, (m'.tbl.vars[v]?).isSome
  vars : ∀ (v : String) (i : Nat), m.tbl.vars[v]? = some i → m'.tbl.vars[v]? = some i
  only : ∀ v : String, (m'.tbl.vars[v]?).isSome → (m.tbl.vars[v]?).isSome ∨ v ∈ names
  nvars : m.nvars ≤ m'.nvars
  succ : m'.tbl.succ = m.tbl.succ
  pred : m'.pred = m.pred
  ref : m'.ref = m.ref
  roots : m'.roots = m.roots
  lastLen : m'.lastLen = m.lastLen
  ctx : m'.ctx = m.ctx
  sched : m'.sched = m.sched
  held : ∀ u, m.tbl.Mem u → m'.tbl.Mem u ∧ ∀ σ, denN m'.tbl u σ = denN m.tbl u σ

theorem Declared.refs {names : List String} {m m' : Mgr} (h : Declared names m m') {ext : Nat → Nat}
    (hr : RefExact m ext) : RefExact m' ext :=
  hr.congr_nodes (fun k => by unfold Tbl.node?; rw [h.succ]) h.ref

theorem Declared.contains {names : List String} {m m' : Mgr} (h : Declared names m m') {v : String}
    (hv : m.tbl.vars.contains v = true) : m'.tbl.vars.contains v = true := by
  rw [TreeMap.contains_eq_isSome_getElem?] at hv ⊢
  obtain ⟨i, hi⟩ := Option.isSome_iff_exists.mp hv
  rw [h.vars v i hi]; rfl

theorem Declared.good {names : List String} {m m' : Mgr} (h : Declared names m m') {e : Nat → Nat}
    (hg : GoodState m e) : GoodState m' e :=
  ⟨h.inv, h.order, h.refs hg.exact, h.lastLen.trans hg.off, h.ctx.trans hg.ctx⟩

theorem Declared.reorderInv {names : List String} {m m' : Mgr} (h : Declared names m m') {e : Nat → Nat}
    (hg : GoodState m e) (hr : ∀ r ∈ m.roots, 0 < e r.natAbs) : ReorderInv e m' :=
  (h.good hg).reorderInv (h.roots ▸ hr)

theorem declare_ok (names : List String) :
    ∀ (m : Mgr), Inv m → OrderOK m.tbl → ∃ m', declare names m = (.ok (), m') ∧ Declared names m m' := by
  induction names with
  | nil =>
    intro m hI hO
    exact ⟨m, declare_nil m, hI, hO, by simp, fun _ _ h => h, fun _ h => Or.inl h, Nat.le_refl _, rfl, rfl, rfl,
      rfl, rfl, rfl, rfl, fun u hu => ⟨hu, fun _ => rfl⟩⟩
  | cons v vs ih =>
    intro m hI hO
    rw [declare_cons]
    cases hex : m.tbl.vars[v]? with
    | some i =>
      rw [(addVar_existing m v i hex).1]
      obtain ⟨m', e1, d⟩ := ih m hI hO
      refine ⟨m', e1, { d with declared := ?_, only := fun x hx => (d.only x hx).imp id (List.mem_cons_of_mem _) }⟩
      intro x hx
      rcases List.mem_cons.mp hx with rfl | h'
      · simp [d.vars _ i hex]
      · exact d.declared x h'
    | none =>
      rw [addVar_new m v hex hO.l2v_none]
      obtain ⟨hI1, hO1, hn1, hv, hmono, hden, hs1, hr1⟩ := addVar_new_spec m hI hO v hex
      obtain ⟨m', e1, d⟩ := ih (addVarState m v) hI1 hO1
      refine ⟨m', e1, d.inv, d.order, ?_, fun x i hx => d.vars x i (hmono x i hx), ?_, ?_, d.succ.trans hs1, d.pred,
        d.ref.trans hr1, d.roots, d.lastLen, d.ctx, d.sched, ?_⟩
      · intro x hx
        rcases List.mem_cons.mp hx with rfl | h'
        · simp [d.vars _ _ hv]
        · exact d.declared x h'
      · intro x hx
        rcases d.only x hx with h' | h'
        · have h'' : ((m.tbl.vars.insert v m.nvars)[x]?).isSome := h'
          rw [getElem?_insert_eq] at h''
          by_cases hxv : v = x
          · exact Or.inr (hxv ▸ List.mem_cons_self)
          · rw [if_neg hxv] at h''
            exact Or.inl h''
        · exact Or.inr (List.mem_cons_of_mem _ h')
      · have : (addVarState m v).nvars = m.nvars + 1 := hn1
        have := d.nvars
        omega
      · intro u hu
        obtain ⟨a1, a2⟩ := hden u hu
        obtain ⟨b1, b2⟩ := d.held u a1
        exact ⟨b1, fun σ => (b2 σ).trans (denN_of_vars_kept hI.wf.toWF hO hO1 hmono hu a2 σ)⟩

end DD
