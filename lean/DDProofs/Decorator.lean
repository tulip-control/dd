/-
  DDProofs.Decorator — the decorator `_try_to_reorder` as a function.  `tryToReorder_run` is its
  normal form in terms of the first attempt, for either value of the context flag;
  `tryToReorder_nested` (inside a context) and `tryToReorder_outer` (outside one) are its two
  readings, `tryToReorder_first` with `_ok` / `_err` the ends at which the flag does not matter.
  Calls with requests possible are studied from `_outer` (DDProofs.DynGeneric), calls made by a
  recursion from `_nested` / `_ok` / `_err` (`tryToReorder_quiet`, DDProofs.OutcomeX).  At the end
  `configure`, by the three values of its argument.
-/
import DD.Dyn
open Std

namespace DD

theorem Mgr.setCtx_self (m : Mgr) (h : m.ctx = true) : ({ m with ctx := true } : Mgr) = m := by
  cases m
  cases h
  rfl

/-- `_try_to_reorder(f)` as a function of the first attempt, run with the flag set.  The flag is
restored after each attempt; the signal is served only outside a context: requests disabled,
sifting (an exception of sifting reaches the caller as it is), one retry, `_last_len` re-armed
whatever the retry does; in the retry the signal would be swallowed by the second `with` block
and `r` unbound (`.other`) — unless sifting left the flag set, which it does not (C07). -/
theorem tryToReorder_run {α} (f : M α) (m : Mgr) :
    tryToReorder f m =
      match f { m with ctx := true } with
      | (.ok a, m1) => (.ok a, { m1 with ctx := m.ctx })
      | (.error e, m1) =>
        if e = .needsReordering ∧ m.ctx = false then
          match reorder none { m1 with ctx := m.ctx, lastLen := none } with
          | (.error e, m3) => (.error e, m3)
          | (.ok (), m3) =>
            match f { m3 with ctx := true } with
            | (.ok a, m4) =>
              (.ok a, { m4 with ctx := m3.ctx, lastLen := some (Gen.growthFactor * m3.len) })
            | (.error e, m4) =>
              (.error (if e = .needsReordering && !m3.ctx then .other else e),
                { m4 with ctx := m3.ctx, lastLen := some (Gen.growthFactor * m3.len) })
        else (.error e, { m1 with ctx := m.ctx }) := by
  unfold tryToReorder withCtx
  simp only [bind, M.bind', pure]
  rcases f { m with ctx := true } with ⟨e | a, m1⟩
  · by_cases he : e = .needsReordering ∧ m.ctx = false
    · simp only [he, if_true, and_self, decide_true, Bool.not_false, Bool.and_self, M.bind',
        M.modify, M.get]
      rcases reorder none _ with ⟨e3 | u, m3⟩
      · rfl
      · simp only
        rcases f { m3 with ctx := true } with ⟨e4 | a, m4⟩
        · cases h4 : (decide (e4 = Err.needsReordering) && !m3.ctx) <;> simp only [h4] <;> rfl
        · rfl
    · have : (decide (e = .needsReordering) && !m.ctx) = false := by
        cases hc : m.ctx <;> simp_all
      simp only [this, he, if_false, Bool.false_eq_true]
  · rfl

/-- the decorator is transparent when the body succeeds -/
theorem tryToReorder_ok {α} (f : M α) (m : Mgr) (a : α) (m1 : Mgr)
    (h : f { m with ctx := true } = (.ok a, m1)) :
    tryToReorder f m = (.ok a, { m1 with ctx := m.ctx }) := by
  rw [tryToReorder_run, h]

/-- the decorator passes other exceptions through (state kept, flag restored) -/
theorem tryToReorder_err {α} (f : M α) (m : Mgr) (e : Err) (m1 : Mgr)
    (h : f { m with ctx := true } = (.error e, m1)) (hne : e ≠ .needsReordering) :
    tryToReorder f m = (.error e, { m1 with ctx := m.ctx }) := by
  rw [tryToReorder_run, h]
  exact if_neg fun h => hne h.1

/-- a first attempt is the whole call, flag restored, unless it ends in the signal outside a
context: no other outcome is looked at, and inside a context the signal is re-raised -/
theorem tryToReorder_first {α} (f : M α) (m : Mgr)
    (h : (f { m with ctx := true }).1 ≠ .error .needsReordering ∨ m.ctx = true) :
    tryToReorder f m =
      ((f { m with ctx := true }).1, { (f { m with ctx := true }).2 with ctx := m.ctx }) := by
  rw [tryToReorder_run]
  generalize f { m with ctx := true } = res at h ⊢
  obtain ⟨e | a, m1⟩ := res
  · exact if_neg fun h' => h.elim (fun hn => hn (by rw [h'.1])) fun hc =>
      Bool.noConfusion (hc.symm.trans h'.2)
  · rfl

/-- the nested decorator (`_reordering_context` already set): the body runs, the flag stays set,
and every exception, the reordering signal included, is re-raised -/
theorem tryToReorder_nested {α} (f : M α) (m : Mgr) (h : m.ctx = true) :
    tryToReorder f m = ((f m).1, { (f m).2 with ctx := true }) := by
  rw [tryToReorder_first f m (.inr h), Mgr.setCtx_self m h, h]

theorem tryToReorder_nested_eq {α} (f : M α) (m : Mgr) (h : m.ctx = true)
    (hf : (f m).2.ctx = m.ctx) : tryToReorder f m = f m := by
  rw [tryToReorder_nested f m h, Mgr.setCtx_self _ (hf.trans h)]

theorem tryToReorder_outer {α} (f : M α) (m : Mgr) (hctx : m.ctx = false) :
    tryToReorder f m =
      match f { m with ctx := true } with
      | (.ok a, m1) => (.ok a, { m1 with ctx := m.ctx })
      | (.error e, m1) =>
        if e = .needsReordering then
          match reorder none { m1 with ctx := m.ctx, lastLen := none } with
          | (.error e, m3) => (.error e, m3)
          | (.ok (), m3) =>
            match f { m3 with ctx := true } with
            | (.ok a, m4) =>
              (.ok a, { m4 with ctx := m3.ctx, lastLen := some (Gen.growthFactor * m3.len) })
            | (.error e, m4) =>
              (.error (if e = .needsReordering && !m3.ctx then .other else e),
                { m4 with ctx := m3.ctx, lastLen := some (Gen.growthFactor * m3.len) })
        else (.error e, { m1 with ctx := m.ctx }) := by
  rw [tryToReorder_run]
  rcases f { m with ctx := true } with ⟨e | a, m1⟩
  · by_cases he : e = .needsReordering
    · exact (if_pos ⟨he, hctx⟩).trans (if_pos he).symm
    · exact (if_neg fun h => he h.1).trans (if_neg he).symm
  · rfl

/-- first attempt aborted by a request, sifting, second attempt rejected: the exception of the
second attempt reaches the caller, the flag is restored and `_last_len` is re-armed (the
`finally` of the repaired code, F11).  (The path on which the retry returns is `C09_retry_path`,
DDProps.C09.) -/
theorem tryToReorder_retry_err {α} (f : M α) (m m1 m3 m4 : Mgr) (e : Err)
    (hctx : m.ctx = false)
    (h1 : f { m with ctx := true } = (.error .needsReordering, m1))
    (h2 : reorder none { m1 with ctx := m.ctx, lastLen := none } = (.ok (), m3))
    (h3 : f { m3 with ctx := true } = (.error e, m4)) (hne : e ≠ .needsReordering) :
    tryToReorder f m =
      (.error e, { m4 with ctx := m3.ctx, lastLen := some (Gen.growthFactor * m3.len) }) := by
  rw [tryToReorder_outer f m hctx, h1]
  simp only [if_true, h2, h3, hne, decide_false, Bool.false_and, Bool.false_eq_true, if_false]

theorem configure_none_eq (m : Mgr) : configure none m = (.ok m.lastLen.isSome, m) := rfl

theorem configure_false_eq (m : Mgr) :
    configure (some false) m = (.ok m.lastLen.isSome, { m with lastLen := none }) := rfl

theorem configure_true_eq (m : Mgr) :
    configure (some true) m =
      (.ok m.lastLen.isSome, { m with lastLen := some (max Gen.reorderStarts m.len) }) := rfl

end DD
