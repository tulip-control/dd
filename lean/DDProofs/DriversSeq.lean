/-
  DDProofs.DriversSeq — the callers of `swap` in DD.Order (`_shift`, `_reorder_var`, the sifting
  loop, the bubble sort of `_sort_to_order`, `reorder_to_pairs`, and the entry points
  `_apply_sifting`, `reorder`, `swap(x, y)`), walked once for every property of computations that
  sequencing preserves (`SeqClosed`): a driver has the property as soon as the level swap it calls
  has it.  Each proof is the function's text, one rule per line of the text.
-/
import DDProofs.SwapSeq
open Std

namespace DD

/-- what the entry points of reordering call: the swap of two levels with the level sets given,
the full collection, and the iteration order of `for var in names` -/
structure ReorderPrims (C : ∀ {α : Type}, M α → Prop) : Prop where
  swap : ∀ a b, C (swap a b true)
  gc : C (collectGarbage none)
  names : C takeSiftOrder

section
variable {C : ∀ {α : Type}, M α → Prop} (hC : SeqClosed C)
include hC

variable (hswap : ∀ a b, C (swap a b true))
include hswap

theorem shiftLoop_seq : ∀ (f : Nat) (i e d : Int) (sizes : List (Nat × Nat)), C (shiftLoop f i e d sizes)
  | 0, _, _, _, _ => hC.ite _ (hC.pure _) (hC.raise _)
  | f+1, _, _, _, _ =>
    hC.ite _ (hC.pure _) (hC.bind (hswap _ _) fun ⟨_, _⟩ => shiftLoop_seq f _ _ _ _)

theorem shift_seq (s e : Nat) : C (shift s e) :=
  hC.read (fun _ =>
    hC.bind (hC.assert _) fun _ =>
    hC.bind (hC.assert _) fun _ =>
    shiftLoop_seq hC hswap _ _ _ _ _)

theorem reorderVar_seq (var : String) : C (reorderVar var) := by
  refine hC.read (fun _ =>
    hC.ite _ (hC.raise _) <|
    hC.bind (hC.assert _) fun _ =>
    hC.bind (levelOfVar_seq hC var) fun _ => ?_)
  -- `(start, end_) = (n, 0) if 2 * level >= n else (0, n)`
  split
  exact
    hC.bind (shift_seq hC hswap _ _) fun _ =>
    hC.bind (shift_seq hC hswap _ _) fun _ =>
    hC.bind (hC.ofOption _) fun _ =>
    hC.bind (shift_seq hC hswap _ _) fun _ =>
    hC.read (fun _ =>
      hC.bind (hC.assert _) fun _ =>
      hC.bind (hC.assert _) fun _ =>
      hC.pure _)

theorem siftVars_seq : ∀ names : List String, C (siftVars names)
  | [] => hC.pure _
  | v :: rest => hC.bind (reorderVar_seq hC hswap v) fun _ => siftVars_seq rest

theorem sortStep_seq (order : List (String × Int)) (i : Nat) : C (sortStep order i) :=
  hC.bind (checkRoots_seq hC) fun _ =>
  hC.bind (varAtLevel_seq hC _) fun _ =>
  hC.bind (varAtLevel_seq hC _) fun _ =>
  hC.bind (hC.ofOption _) fun _ =>
  hC.bind (hC.ofOption _) fun _ =>
  hC.ite _ (hC.bind (hswap _ _) fun _ => hC.pure _) (hC.pure _)

theorem sortInner_seq (order : List (String × Int)) : ∀ l : List Nat, C (sortInner order l)
  | [] => hC.pure _
  | i :: rest => hC.bind (sortStep_seq hC hswap order i) fun _ => sortInner_seq order rest

theorem sortOuter_seq (order : List (String × Int)) (n : Nat) : ∀ k, C (sortOuter order n k)
  | 0 => hC.pure _
  | k+1 => hC.bind (sortInner_seq hC hswap order _) fun _ => sortOuter_seq order n k

theorem sortToOrder_seq (order : List (String × Int)) : C (sortToOrder order) :=
  hC.read (fun _ =>
    hC.ite _ (hC.raise _) (sortOuter_seq hC hswap order _ _))

theorem pairStep_seq (x y : String) : C (pairStep x y) := by
  refine
    hC.bind (levelOfVar_seq hC x) fun _ =>
    hC.bind (levelOfVar_seq hC y) fun _ =>
    hC.bind (hC.assert _) fun _ =>
    hC.ite _ ?_ (hC.pure _)
  -- `jx, jy = (jy, jx) if jx > jy else (jx, jy)`
  split
  exact hC.bind (shift_seq hC hswap _ _) fun _ => hC.pure _

theorem reorderToPairs_seq : ∀ pairs : List (String × String), C (reorderToPairs pairs)
  | [] => hC.pure _
  | (x, y) :: rest => hC.bind (pairStep_seq hC hswap x y) fun _ => reorderToPairs_seq rest

end

section
variable {C : ∀ {α : Type}, M α → Prop} (hC : SeqClosed C) (hp : ReorderPrims C)
include hC hp

/-- `swap(x, y)` without level sets: the full collection, then the swap -/
theorem swap_public_seq (xa ya : VarOrLevel) : C (swap xa ya false) :=
  show C (collectGarbage none >>= fun _ => swap xa ya true) from hC.bind hp.gc fun _ => hp.swap xa ya

theorem applySifting_seq : C applySifting :=
  hC.bind hp.gc fun _ =>
  hC.read (fun _ =>
    hC.bind hp.names fun _ =>
    hC.ite _ (hC.raise _) <|
    hC.bind (siftVars_seq hC hp.swap _) fun _ =>
    hC.read fun _ => hC.assert _)

theorem reorder_seq : ∀ order : Option (List (String × Int)), C (reorder order)
  | none => applySifting_seq hC hp
  | some o => sortToOrder_seq hC hp.swap o

end

end DD
