/-
  DDProofs.DumpExamples — closed contents and managers for C12: the inputs of the findings
  F2 / F12 / F3 (`fileNoRoots`, `fileConstRoot`, `fileBA` into `mgrAB`) with the facts the general
  theorems ask of them.
-/
import DDProofs.Reach
import DDProofs.PickleDump
open Std
namespace DD

/-- a pickle of the empty manager written without roots / with the root TRUE -/
def fileNoRoots : PickleFile := { vars := [], succ := [⟨1, 0, none, none⟩], roots := .none }
def fileConstRoot : PickleFile := { vars := [], succ := [⟨1, 0, none, none⟩], roots := .list [1] }

theorem fileNoRoots_eq : dumpPickle {} .none = .ok fileNoRoots := by decide +kernel
theorem fileConstRoot_eq : dumpPickle {} (.list [1]) = .ok fileConstRoot := by decide +kernel

theorem wf_terminal_only (r : Roots) : PickleWF { vars := [], succ := [⟨1, 0, none, none⟩], roots := r } := by
  have hf : ∀ k e, PEntry.find [(⟨1, 0, none, none⟩ : PEntry)] k = some e → k = 1 := by
    intro k e h
    have := PEntry.find_id h
    have hm := List.mem_of_find?_eq_some h
    simp at hm
    subst hm
    exact this.symm
  refine ⟨?_, ⟨?_⟩, ?_, ?_⟩
  · intro var i h; simp at h
  · intro k e h h1; exact absurd (hf k e h) h1
  · intro var i h; simp at h
  · intro k e h h1; exact absurd (hf k e h) h1

theorem varsOK_empty : DmpVarsOK ({} : Mgr).tbl := OrderOK.empty.toDmp

/-- F2: a pickle written without roots loads back as an empty list -/
theorem load_roots_none_ok : (loadPickle fileNoRoots true {}).1 = .ok (.list []) := by
  decide +kernel

/-- F12: a constant root comes back as itself -/
theorem load_constant_root_ok : (loadPickle fileConstRoot true {}).1 = .ok (.list [1]) := by
  decide +kernel

/-- the function `b ∧ a` dumped from a manager with order `b < a` -/
def fileBA : PickleFile :=
  { vars := [("a", 1), ("b", 0)]
    succ := [⟨1, 2, none, none⟩, ⟨2, 1, some (-1), some 1⟩, ⟨3, 0, some (-1), some 2⟩]
    roots := .list [3] }

/-- a fresh manager declaring `x < y` -/
def mgr2 (x y : String) : Mgr :=
  { tbl := { vars := (({} : TreeMap String Nat).insert x 0).insert y 1
             l2v := (({} : TreeMap Nat String).insert 0 x).insert 1 y } }

theorem mgr2_nodeFree (x y : String) : NodeFree (mgr2 x y) :=
  ⟨fun _ => TreeMap.getElem?_emptyc, fun _ => TreeMap.getElem?_emptyc,
   fun _ => TreeMap.getElem?_emptyc, Nat.le_refl 2, TreeMap.contains_insert_self⟩

theorem mgr2_vars (x y : String) (v : String) :
    (mgr2 x y).tbl.vars[v]? = if v = y then some 1 else if v = x then some 0 else none := by
  unfold mgr2
  dsimp only
  rw [getElem?_insert_eq, getElem?_insert_eq, TreeMap.getElem?_emptyc]
  simp only [eq_comm (a := v)]

abbrev mgrAB : Mgr := mgr2 "a" "b"
abbrev mgrBA : Mgr := mgr2 "b" "a"
theorem mgrAB_nodeFree : NodeFree mgrAB := mgr2_nodeFree _ _
theorem mgrAB_vars (v : String) :
    mgrAB.tbl.vars[v]? = if v = "b" then some 1 else if v = "a" then some 0 else none := mgr2_vars _ _ v

/-- `mgrAB` is `bdd = BDD(); bdd.declare('a', 'b')`: its two maps are those of a reachable state -/
theorem mgrAB_eq : mgrAB = (run [.declare "a" none, .declare "b" none] St.init).m := rfl

theorem mgrAB_order : OrderOK mgrAB.tbl :=
  mgrAB_eq ▸ (reachable_inv [.declare "a" none, .declare "b" none] (by decide)).order

theorem mgrAB_bij : DmpVarsBij mgrAB.tbl := mgrAB_order.toDmp.bij
theorem mgrAB_contig : Contig mgrAB.tbl := mgrAB_order.toDmp.contig

/-- the manager `fileBA` was written from: order `b < a`, node 2 = `a`, node 3 = `b ∧ a` -/
def srcBA : St :=
  run [.declare "b" none, .declare "a" none, .findOrAdd 1 (-1) 1, .findOrAdd 0 (-1) 2] St.init

theorem srcBA_good : GoodState srcBA.m srcBA.ext := reachable_inv _ (by decide)

theorem fileBA_eq : dumpPickle srcBA.m (.list [3]) = .ok fileBA := by decide +kernel

theorem fileBA_wf : PickleWF fileBA :=
  dumpPickle_wf srcBA_good.inv srcBA_good.order.toDmp fileBA_eq

/-- F3 (`b ∧ a` written under b < a, loaded with `levels=False` into a < b): the loader builds the
ordered diagram of `a ∧ b` — node 4 on `a` over node 3 on `b` -/
theorem load_levels_false_ordered :
    (loadPickle fileBA false mgrAB).1 = .ok (.list [4]) ∧
    (loadPickle fileBA false mgrAB).2.tbl.node? 4 = some ⟨0, -1, 3⟩ ∧
    (loadPickle fileBA false mgrAB).2.tbl.node? 3 = some ⟨1, -1, 1⟩ := by
  decide +kernel

end DD
