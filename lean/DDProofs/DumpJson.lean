/-
  DDProofs.DumpJson — `_copy.load_json` on a `dd.autoref.BDD` (C12), well-formed content.  The JSON
  loader finds variables by NAME (it has no level map), so its shelf is read by name (`S.ShelfN`) and
  the receiving manager enters only through a mode (`LoadMode`: what a decorated call keeps and may
  raise, `var` and `ite` by name): `_make_node` and the loop over the lines (`makeNodesE_lines`) are
  proved once for every mode.  Here: the mode "dynamic reordering not enabled" (`offMode`) and the
  reader's half of the round trip, with exact reference counts (the ledger: DDProofs.LedgerCalc).
-/
import DDProofs.DumpJsonWriter
import DDProofs.PredNodesJson
import DDProofs.Declare
open Std
namespace DD

theorem denN_term (t : Tbl) (u : Int) (σ : AsgN) (h : u.natAbs = 1) : denN t u σ = decide (0 < u) :=
  den_terminal _ h _

theorem denN_alltrue (t : Tbl) (hw : WF t) (u : Int) (hu : t.Mem u) :
    denN t u (fun _ => true) = decide (0 < u) :=
  den_alltrue t hw u hu

theorem denBy_eq_denN (t : Tbl) (hw : WF t) (hnamed : ∀ l, l < t.nvars → (t.l2v[l]?).isSome)
    (u : Int) (hu : t.Mem u) (α : String → Bool) : denBy t u α = denN t u α := by
  unfold denBy denN
  apply den_agree_lt_nvars t hw u hu
  intro i hi
  obtain ⟨v, hv⟩ := Option.isSome_iff_exists.mp (hnamed i hi)
  simp [Tbl.asg, Tbl.lift, Tbl.nameOf, hv]

theorem RootsRel.denBy_of_denN {t : Tbl} (hW : WF t) (hO : OrderOK t) {ev : Int → (String → Bool) → Bool}
    {a b : Roots} (R : RootsRel (fun u r => t.Mem r ∧ ∀ σ, denN t r σ = ev u σ) a b) :
    RootsRel (fun u r => t.Mem r ∧ ∀ α, denBy t r α = ev u α) a b :=
  R.imp fun _ r ⟨h1, h2⟩ => ⟨h1, fun α =>
    (denBy_eq_denN t hW (fun l hl => by obtain ⟨v, hv⟩ := hO.total l hl; simp [hv]) r h1 α).trans (h2 α)⟩

/-- the shelf `cache` (file id ↦ node of the receiving manager): every entry is a regular
node denoting, over the levels of the manager, what the file says for that id -/
def ShelfOK (succ : List PEntry) (lm : List (Nat × Nat)) (n : Nat) (t : Tbl)
    (cache : List (Nat × Int)) : Prop :=
  ∀ k u, cache.lookup k = some u → 0 < u ∧ t.Mem u ∧ k ≠ 1 ∧ (PEntry.find succ k).isSome ∧
    ∀ a, den t u a = evalL succ lm (n + 1) (k : Int) a

/-- the shelf, by name: every entry is a regular node of the manager that denotes — as a function
of the variable names — what the file says for its id -/
def S.ShelfN (f : PickleFile) (t : Tbl) (cache : List (Nat × Int)) : Prop :=
  ∀ k u, cache.lookup k = some u → 0 < u ∧ t.Mem u ∧ k ≠ 1 ∧ (PEntry.find f.succ k).isSome ∧
    ∀ σ, denN t u σ = evalPickle f (k : Int) σ

theorem S.shelfN_ids {f : PickleFile} {t : Tbl} {cache : List (Nat × Int)} (hn : (cache.map (·.1)).Nodup)
    (hc : S.ShelfN f t cache) : ∀ p ∈ cache, p.1 ≠ 1 :=
  fun p hp => (hc p.1 p.2 (lookup_of_mem_nodup cache hn p.1 p.2 hp)).2.2.1

theorem S.ShelfN.keep {f : PickleFile} {t t' : Tbl} {cache : List (Nat × Int)} (hc : S.ShelfN f t cache)
    (h : ∀ k y, cache.lookup k = some y → t'.Mem y ∧ ∀ σ, denN t' y σ = denN t y σ) : S.ShelfN f t' cache :=
  fun k y hk =>
    have ⟨a1, _, a3, a4, a5⟩ := hc k y hk
    ⟨a1, (h k y hk).1, a3, a4, fun σ => ((h k y hk).2 σ).trans (a5 σ)⟩

theorem S.ShelfN.ext {f : PickleFile} {t t' : Tbl} {cache : List (Nat × Int)} (hc : S.ShelfN f t cache)
    (hW : WF t) (X : Ext t t') (hl : t'.l2v = t.l2v) : S.ShelfN f t' cache :=
  hc.keep fun k y hk => X.byName hl hW (hc k y hk).2.1

theorem S.ShelfN.snoc {f : PickleFile} {t : Tbl} {cache : List (Nat × Int)} {k : Nat} {u : Int}
    (hc : S.ShelfN f t cache) (hu : 0 < u ∧ t.Mem u ∧ k ≠ 1 ∧ (PEntry.find f.succ k).isSome ∧
      ∀ σ, denN t u σ = evalPickle f (k : Int) σ) : S.ShelfN f t (cache ++ [(k, u)]) := by
  intro k' x hkx
  rcases lookup_snoc.mp hkx with h | ⟨_, rfl, rfl⟩
  · exact hc k' x h
  · exact hu

theorem S.ShelfN.edge {f : PickleFile} (hw : PickleWF f) {t : Tbl} (hW : WF t) {cache : List (Nat × Int)}
    (hc : S.ShelfN f t cache) (uid : Int) (hres : uid.natAbs = 1 ∨ (cache.lookup uid.natAbs).isSome) :
    t.Mem (shelfEdge cache uid) ∧ (0 < shelfEdge cache uid ↔ 0 < uid) ∧
      ∀ σ, denN t (shelfEdge cache uid) σ = evalPickle f uid σ := by
  by_cases h1 : uid.natAbs = 1
  · rw [shelfEdge_term h1]
    exact ⟨Or.inl h1, Iff.rfl, fun σ => by rw [denN_term _ _ _ h1, evalPickle_term _ _ _ h1]⟩
  obtain ⟨k, hk⟩ := Option.isSome_iff_exists.mp (hres.resolve_left h1)
  obtain ⟨kpos, kmem, _, kfind, kden⟩ := hc _ k hk
  rw [shelfEdge_node h1 hk]
  have hu0 : uid ≠ 0 := by
    obtain ⟨e', he'⟩ := Option.isSome_iff_exists.mp kfind
    obtain ⟨_, _, _, _, _, _, h2, _⟩ := hw.succ.node _ e' he' h1
    omega
  refine ⟨mem_flip uid kmem, by split <;> omega, fun σ => ?_⟩
  rw [denN, den_flip t hW k uid _ kmem, ← denN, kden σ,
    ← evalPickle_abs hw uid σ (Or.inr (by simpa using kfind))]

theorem LCalc.nodeFromInt_shelf {e : Nat → Nat} (C : LCalc e) {l : List Nat} {m : Mgr} (h : C.G l m)
    {f : PickleFile} {cache : List (Nat × Int)} (hc : S.ShelfN f m.tbl cache) (uid : Int)
    (hres : uid.natAbs = 1 ∨ (cache.lookup uid.natAbs).isSome) :
    ∃ r, DD.nodeFromInt cache uid m = (.ok (shelfEdge cache uid), { m with ref := r }) ∧
      C.G ((shelfEdge cache uid).natAbs :: l) { m with ref := r } :=
  C.nodeFromInt h cache uid (hres.imp id fun hs =>
    have ⟨k, hk⟩ := Option.isSome_iff_exists.mp hs
    ⟨k, hk, (hc _ k hk).2.1⟩)

/-- `_make_node` on a new line up to the point where both successors are `Function`s (either
`load_order`): only `_ref` has changed -/
theorem LCalc.makeNode_edges {e : Nat → Nat} (C : LCalc e) {f : PickleFile} (hw : PickleWF f) (lb : Bool)
    {vat : List (Nat × String)} {ln : JLine} {l : List Nat} {m : Mgr} (h : C.G l m)
    {cache : List (Nat × Int)} (hc : S.ShelfN f m.tbl cache) (hnew : cache.lookup ln.id = none)
    (hline : PEntry.find f.succ ln.id = some ⟨ln.id, ln.lvl, some ln.lo, some ln.hi⟩) (hid : ln.id ≠ 1)
    (hlo : ln.lo.natAbs = 1 ∨ (cache.lookup ln.lo.natAbs).isSome)
    (hhi : ln.hi.natAbs = 1 ∨ (cache.lookup ln.hi.natAbs).isSome)
    {name : String} (hvat : vat.lookup ln.lvl = some name) :
    ∃ r2, makeNode lb vat ln cache m =
        ((makeNodeBody lb cache ln (shelfEdge cache ln.lo) (shelfEdge cache ln.hi) name { m with ref := r2 }).1,
          dropList [shelfEdge cache ln.hi, shelfEdge cache ln.lo]
            (makeNodeBody lb cache ln (shelfEdge cache ln.lo) (shelfEdge cache ln.hi) name { m with ref := r2 }).2) ∧
      C.G ((shelfEdge cache ln.hi).natAbs :: (shelfEdge cache ln.lo).natAbs :: l) { m with ref := r2 } ∧
      m.tbl.Mem (shelfEdge cache ln.lo) ∧ m.tbl.Mem (shelfEdge cache ln.hi) ∧ 0 < shelfEdge cache ln.hi ∧
      (∀ σ, denN m.tbl (shelfEdge cache ln.lo) σ = evalPickle f ln.lo σ) ∧
      ∀ σ, denN m.tbl (shelfEdge cache ln.hi) σ = evalPickle f ln.hi σ := by
  obtain ⟨v', w', hv', hw', -, hwpos, hk2, -⟩ := hw.succ.node _ _ hline hid
  cases hv'; cases hw'
  have hW := (C.inv h).wf.toWF
  obtain ⟨r1, elo, g1⟩ := C.nodeFromInt_shelf h hc ln.lo hlo
  obtain ⟨r2, ehi, g2⟩ := C.nodeFromInt_shelf g1 hc ln.hi hhi
  obtain ⟨mlo, -, dlo⟩ := hc.edge hw hW ln.lo hlo
  obtain ⟨mhi, shi, dhi⟩ := hc.edge hw hW ln.hi hhi
  exact ⟨r2, makeNode_new (by omega) hnew elo ehi hvat, g2, mlo, mhi, shi.mpr hwpos, dlo, dhi⟩

/-- A mode of the receiving manager, as `_make_node` (`load_order=False`) sees it: the ledger calculus
`C`; what a decorated call keeps while the loader holds the references `l` (`Keeps`), and what it keeps
in addition when it returns (`Ok`); the exceptions it may end in, seen from the state it started in (`E`);
and the two decorated calls the loader makes, `bdd.var` on a declared name and `bdd.ite` on operands
held by live `Function`s, specified by variable NAME.  A change of `_ref` alone is kept (`kRef`, `okRef`). -/
structure LoadMode (e : Nat → Nat) where
  C : LCalc e
  Keeps : List Nat → Mgr → Mgr → Prop
  Ok : Mgr → Mgr → Prop
  E : Mgr → Err → Prop
  refl : ∀ {l m}, C.G l m → Keeps l m m
  kRef : ∀ {l m}, C.G l m → ∀ r, Keeps l m { m with ref := r }
  trans : ∀ {l a b c}, Keeps l a b → Keeps l b c → Keeps l a c
  mono : ∀ {k l a b}, Keeps (k :: l) a b → Keeps l a b
  names : ∀ {l m m'}, Keeps l m m' → ∀ s : String, m'.tbl.vars.contains s = m.tbl.vars.contains s
  held : ∀ {l m m'}, C.G l m → Keeps l m m' → ∀ w : Int, w.natAbs ∈ l → m.tbl.Mem w →
    m'.tbl.Mem w ∧ ∀ σ, denN m'.tbl w σ = denN m.tbl w σ
  okRefl : ∀ m, Ok m m
  okRef : ∀ m r, Ok m { m with ref := r }
  okTrans : ∀ {a b c}, Ok a b → Ok b c → Ok a c
  eBack : ∀ {a b er}, Ok a b → E b er → E a er
  var : ∀ {l m} (name : String), C.G l m → m.tbl.vars.contains name = true →
    (∃ g m', DD.var name m = (.ok g, m') ∧ C.G l m' ∧ Keeps l m m' ∧ Ok m m' ∧ m'.tbl.Mem g ∧
      ∀ σ, denN m'.tbl g σ = σ name) ∨
    (∃ er m', DD.var name m = (.error er, m') ∧ E m er ∧ C.G l m' ∧ Keeps l m m')
  ite : ∀ {l m} (g u v : Int), C.G l m → g.natAbs ∈ l → u.natAbs ∈ l → v.natAbs ∈ l →
    (∃ r m', DD.ite g u v m = (.ok r, m') ∧ C.G l m' ∧ Keeps l m m' ∧ Ok m m' ∧ m'.tbl.Mem r ∧
      ∀ σ, denN m'.tbl r σ = if denN m.tbl g σ then denN m.tbl u σ else denN m.tbl v σ) ∨
    (∃ er m', DD.ite g u v m = (.error er, m') ∧ E m er ∧ C.G l m' ∧ Keeps l m m')

/-- `_make_node` (`load_order=False`) for a line of a well-formed file that is not on the shelf yet,
EVERY outcome: the node `ite(var, high, low)` is built, gets one persistent reference and goes on the
shelf; or one of the two decorated calls ended in an exception of the mode.  Either way every
temporary `Function` is released and the shelf keeps its meaning -/
theorem LoadMode.makeNode {e : Nat → Nat} (Md : LoadMode e) {f : PickleFile} (hw : PickleWF f)
    (vat : List (Nat × String)) (ln : JLine) (l : List Nat) (m : Mgr) (h : Md.C.G l m)
    (cache : List (Nat × Int)) (hc : S.ShelfN f m.tbl cache)
    (hheld : ∀ k u, cache.lookup k = some u → u.natAbs ∈ l)
    (hnew : cache.lookup ln.id = none)
    (hline : PEntry.find f.succ ln.id = some ⟨ln.id, ln.lvl, some ln.lo, some ln.hi⟩) (hid : ln.id ≠ 1)
    (hlo : ln.lo.natAbs = 1 ∨ (cache.lookup ln.lo.natAbs).isSome)
    (hhi : ln.hi.natAbs = 1 ∨ (cache.lookup ln.hi.natAbs).isSome)
    (name : String) (hvat : vat.lookup ln.lvl = some name) (hname : f.nameAt ln.lvl = some name)
    (hdecl : m.tbl.vars.contains name = true) :
    (∃ u m', makeNode false vat ln cache m = (.ok (cache ++ [(ln.id, u)]), m') ∧
      Md.C.G (u.natAbs :: l) m' ∧ S.ShelfN f m'.tbl (cache ++ [(ln.id, u)]) ∧
      Md.Keeps l m m' ∧ Md.Ok m m') ∨
    (∃ er m', makeNode false vat ln cache m = (.error er, m') ∧ Md.E m er ∧ Md.C.G l m' ∧
      S.ShelfN f m'.tbl cache ∧ Md.Keeps l m m') := by
  obtain ⟨r2, hrun, g2, mlo, mhi, hhipos, dlo, dhi⟩ :=
    Md.C.makeNode_edges hw false h hc hnew hline hid hlo hhi hvat
  generalize shelfEdge cache ln.lo = lo at *
  generalize shelfEdge cache ln.hi = hi at *
  let m2 : Mgr := { m with ref := r2 }
  rw [makeNodeBody_false] at hrun
  have K2 : Md.Keeps l m m2 := Md.kRef h r2
  -- the shelf keeps its meaning when the loader's references are kept
  have shelf : ∀ {m' : Mgr}, Md.Keeps l m m' → S.ShelfN f m'.tbl cache := fun K =>
    hc.keep fun k y hky => Md.held h K y (hheld k y hky) (hc k y hky).2.1
  -- `bdd.var(var)`
  rcases Md.var name (m := m2) g2 hdecl with ⟨g, m3, evar, g3, K3, O3, mg, dg⟩ | ⟨er, m3, evar, hE, g3, K3⟩
  rotate_left
  · obtain ⟨r, ed, gl⟩ := dropListC Md.C [hi, lo] m3 l g3
    have K : Md.Keeps l m { m3 with ref := r } :=
      Md.trans K2 (Md.mono (Md.mono (Md.trans K3 (Md.kRef g3 r))))
    rw [M.bind_err evar] at hrun
    exact Or.inr ⟨er, _, hrun.trans (congrArg _ ed), Md.eBack (Md.okRef m r2) hE, gl, shelf K, K⟩
  obtain ⟨r4, ewg, g4⟩ := Md.C.wrap g3 g mg
  let m4 : Mgr := { m3 with ref := r4 }
  obtain ⟨mhi3, dhi3⟩ := Md.held g2 K3 hi List.mem_cons_self mhi
  obtain ⟨mlo3, dlo3⟩ := Md.held g2 K3 lo (List.mem_cons_of_mem _ List.mem_cons_self) mlo
  rw [M.bind_ok evar, M.bind_ok ewg, withTemps_run, M.bind_ok (containsCheck_ok g m4 mg),
    M.bind_ok (containsCheck_ok hi m4 mhi3), M.bind_ok (containsCheck_ok lo m4 mlo3)] at hrun
  -- `bdd.ite(g, high, low)`
  rcases Md.ite g hi lo (m := m4) g4 List.mem_cons_self (List.mem_cons_of_mem _ List.mem_cons_self)
    (List.mem_cons_of_mem _ (List.mem_cons_of_mem _ List.mem_cons_self)) with
    ⟨u, m5, eite, g5, K5, O5, mu, du⟩ | ⟨er, m5, eite, hE, g5, K5⟩
  -- what is kept from `m` to the state `m5` after `ite`, whatever happens to `_ref` then
  all_goals have K : ∀ r, Md.Keeps l m { m5 with ref := r } := fun r =>
    Md.trans K2 (Md.mono (Md.mono (Md.trans K3 (Md.trans (Md.kRef g3 r4) (Md.mono (Md.trans K5 (Md.kRef g5 r)))))))
  rotate_left
  · obtain ⟨r, ed, gl⟩ := dropListC Md.C [g, hi, lo] m5 l g5
    rw [M.bind_err eite] at hrun
    exact Or.inr ⟨er, _, hrun.trans (congrArg _ ed),
      Md.eBack (Md.okRef m r2) (Md.eBack O3 (Md.eBack (Md.okRef m3 r4) hE)), gl, shelf (K r), K r⟩
  have hW5 := (Md.C.inv g5).wf.toWF
  have hupos : 0 < u := by
    have h3 := du (fun _ => true)
    rw [denN_alltrue _ hW5 u mu, show denN m4.tbl g (fun _ => true) = true from dg _, if_pos rfl,
      denN_alltrue _ (Md.C.inv g4).wf.toWF hi mhi3] at h3
    simpa [hhipos] using h3
  obtain ⟨r6, esh, g6⟩ := Md.C.shelve g5 u mu (by omega) cache ln.id
  obtain ⟨r, ed, gl⟩ := dropListC Md.C [g, hi, lo] { m5 with ref := r6 } (u.natAbs :: l)
    (Md.C.perm g6 (List.perm_middle (l₁ := [g.natAbs, hi.natAbs, lo.natAbs])).symm)
  have O : Md.Ok m { m5 with ref := r } :=
    Md.okTrans (Md.okRef m r2) (Md.okTrans O3 (Md.okTrans (Md.okRef m3 r4) (Md.okTrans O5 (Md.okRef m5 r))))
  rw [M.bind_ok eite, esh] at hrun
  refine Or.inl ⟨u, _, hrun.trans (congrArg _ ed), gl,
    (shelf (K r)).snoc ⟨hupos, mu, hid, by simp [hline], fun σ => ?_⟩, K r, O⟩
  -- by name: the new node is `ite(var, high, low)` of what the shelf says for the two successors
  show denN m5.tbl u σ = _
  rw [du σ, show denN m4.tbl g σ = σ name from dg σ, show m4.tbl = m3.tbl from rfl, dhi3 σ, dlo3 σ]
  rw [evalPickle_node hw (ln.id : Int) σ ⟨ln.id, ln.lvl, some ln.lo, some ln.hi⟩ ln.lo ln.hi name
    (by simpa using hid) (by simpa using hline) rfl rfl hname, dhi σ, dlo σ]
  simp [show ¬ ((ln.id : Int) < 0) by omega]

theorem ChildrenFirst.split {l : List JLine} (h : ChildrenFirst l) :
    ∀ pre ln post, l = pre ++ ln :: post → EdgeOK pre ln.lo ∧ EdgeOK pre ln.hi := by
  induction h with
  | nil => intro pre ln post he; simp at he
  | snoc hl hlo hhi ih =>
    rename_i l0 x
    intro pre ln post he
    rcases List.eq_nil_or_concat post with hp | ⟨post', y, hp⟩
    · subst hp
      have : l0 ++ [x] = pre ++ [ln] := he
      obtain ⟨h1, h2⟩ := List.append_inj' this rfl
      simp only [List.cons.injEq, and_true] at h2
      subst h1 h2
      exact ⟨hlo, hhi⟩
    · subst hp
      have : l0 ++ [x] = (pre ++ ln :: post') ++ [y] := by
        rw [he]; simp
      obtain ⟨h1, _⟩ := List.append_inj' this rfl
      exact ih pre ln post' h1

/-- The loop over the node lines of a file whose children come first, for a step `_make_node` that
is specified (`hstep`).  `P l c m`: what holds between two lines — `l` the references the loader
holds, `c` the shelf; `R l`: what a line keeps; `E`, `Q`: the exceptions a line may end in, and what
holds then.  A new line finds its successors on the shelf; it puts its node there, held once more.
The loop goes through with every line on the shelf, or stops at the first line that fails -/
theorem makeNodesE_lines {lo : Bool} {vat : List (Nat × String)}
    {P Q : List Nat → List (Nat × Int) → Mgr → Prop} {R : List Nat → Mgr → Mgr → Prop} {E : Err → Prop}
    {LineP : Mgr → JLine → Prop}
    (hid : ∀ m ln, LineP m ln → 1 < ln.id)
    (hrefl : ∀ l c m, P l c m → R l m m)
    (htrans : ∀ l a b c, R l a b → R l b c → R l a c)
    (hmono : ∀ k l a b, R (k :: l) a b → R l a b)
    (hline : ∀ l m m' ln, R l m m' → LineP m ln → LineP m' ln)
    (hstep : ∀ ln l c m, LineP m ln → P l c m → c.lookup ln.id = none →
      (ln.lo.natAbs = 1 ∨ (c.lookup ln.lo.natAbs).isSome) → (ln.hi.natAbs = 1 ∨ (c.lookup ln.hi.natAbs).isSome) →
      (∃ u m', makeNode lo vat ln c m = (.ok (c ++ [(ln.id, u)]), m') ∧
        P (u.natAbs :: l) (c ++ [(ln.id, u)]) m' ∧ R l m m') ∨
      (∃ e m', makeNode lo vat ln c m = (.error e, m') ∧ E e ∧ Q l c m' ∧ R l m m')) :
    ∀ (rest pre : List JLine) (c : List (Nat × Int)) (m : Mgr) (l : List Nat),
      ChildrenFirst (pre ++ rest) → (∀ ln ∈ rest, LineP m ln) → (∀ l' ∈ pre, (c.lookup l'.id).isSome) →
      P l c m → (c.map (·.1)).Nodup →
      ∃ added m', R l m m' ∧ ((c ++ added).map (·.1)).Nodup ∧
        ((makeNodesE lo vat rest c m = (.ok (), c ++ added, m') ∧
            P ((shelfRefs added).reverse ++ l) (c ++ added) m' ∧
            ∀ l' ∈ rest, ((c ++ added).lookup l'.id).isSome) ∨
          ∃ e, makeNodesE lo vat rest c m = (.error e, c ++ added, m') ∧ E e ∧
            Q ((shelfRefs added).reverse ++ l) (c ++ added) m') := by
  intro rest
  induction rest with
  | nil =>
    intro pre c m l _ _ _ hP hn
    exact ⟨[], m, hrefl l c m hP, by simpa using hn, Or.inl ⟨by simp [makeNodesE], by simpa [shelfRefs] using hP, by simp⟩⟩
  | cons ln rest ih =>
    intro pre c m l hcf hlines hpre hP hn
    have hL := hlines ln List.mem_cons_self
    obtain ⟨elo, ehi⟩ := hcf.split pre ln rest rfl
    have toShelf : ∀ x : Int, EdgeOK pre x → x.natAbs = 1 ∨ (c.lookup x.natAbs).isSome :=
      fun x hx => hx.imp id fun ⟨l', hl', hid⟩ => hid ▸ hpre l' hl'
    have hcf' : ChildrenFirst ((pre ++ [ln]) ++ rest) := by simpa using hcf
    rw [makeNodesE]
    by_cases hin : (c.lookup ln.id).isSome = true
    · rw [makeNode_skip lo vat ln c m (hid m ln hL) hin]
      obtain ⟨added, m', r, n, hcase⟩ := ih (pre ++ [ln]) c m l hcf' (fun l hl => hlines l (List.mem_cons_of_mem _ hl))
        (fun l' hl' => (List.mem_append.mp hl').elim (hpre l') fun h' => by simp at h'; exact h' ▸ hin) hP hn
      exact ⟨added, m', r, n, hcase.imp_left fun ⟨e, p, a⟩ =>
        ⟨e, p, List.forall_mem_cons.mpr ⟨lookup_isSome_append hin _, a⟩⟩⟩
    have hnew : c.lookup ln.id = none := Option.not_isSome_iff_eq_none.mp hin
    rcases hstep ln l c m hL hP hnew (toShelf _ elo) (toShelf _ ehi) with ⟨u, m5, emk, p5, r5⟩ | ⟨e, m5, emk, he, q5, r5⟩
    rotate_left
    · simp only [emk]
      exact ⟨[], m5, r5, by simpa using hn, Or.inr ⟨e, by simp, he, by simpa [shelfRefs] using q5⟩⟩
    simp only [emk]
    have hsnoc : (c ++ [(ln.id, u)]).lookup ln.id = some u := lookup_snoc.mpr (Or.inr ⟨hnew, rfl, rfl⟩)
    obtain ⟨added, m', r, n, hcase⟩ := ih (pre ++ [ln]) (c ++ [(ln.id, u)]) m5 (u.natAbs :: l) hcf'
      (fun l' hl' => hline l m m5 l' r5 (hlines l' (List.mem_cons_of_mem _ hl')))
      (fun l' hl' => (List.mem_append.mp hl').elim (fun h' => lookup_isSome_append (hpre l' h') _)
        fun h' => by simp at h'; rw [h', hsnoc]; rfl)
      p5 (nodup_snoc_key c hn ln.id u hnew)
    have hl : (shelfRefs ((ln.id, u) :: added)).reverse ++ l = (shelfRefs added).reverse ++ (u.natAbs :: l) := by
      simp [shelfRefs]
    refine ⟨(ln.id, u) :: added, m', htrans l m m5 m' r5 (hmono _ l m5 m' r), by simpa using n, ?_⟩
    rw [hl, List.append_cons c (ln.id, u) added]
    have hln := lookup_isSome_append (show ((c ++ [(ln.id, u)]).lookup ln.id).isSome by rw [hsnoc]; rfl) added
    refine hcase.imp_left ?_
    rintro ⟨e, p, a⟩
    exact ⟨e, p, List.forall_mem_cons.mpr ⟨hln, a⟩⟩

/-- what the loader needs to know about one node line: it is the line the file resolves its id
to, and the variable the file names at its level is declared -/
structure S.LineN (f : PickleFile) (vat : List (Nat × String)) (vars : TreeMap String Nat) (ln : JLine) : Prop where
  id : ln.id ≠ 1
  find : PEntry.find f.succ ln.id = some ⟨ln.id, ln.lvl, some ln.lo, some ln.hi⟩
  name : ∃ name, vat.lookup ln.lvl = some name ∧ f.nameAt ln.lvl = some name ∧ vars.contains name = true

theorem S.LineN.one_lt {f : PickleFile} (hw : PickleWF f) {vat : List (Nat × String)}
    {vars : TreeMap String Nat} {ln : JLine} (h : S.LineN f vat vars ln) : 1 < ln.id := by
  obtain ⟨_, _, _, _, _, _, h2, _⟩ := hw.succ.node _ _ h.find h.id
  omega

theorem LoadMode.makeNodesE {e : Nat → Nat} (Md : LoadMode e) {f : PickleFile} (hw : PickleWF f)
    (vat : List (Nat × String)) (rest pre : List JLine) (cache : List (Nat × Int)) (m : Mgr) (l : List Nat)
    (hcf : ChildrenFirst (pre ++ rest)) (hlines : ∀ ln ∈ rest, S.LineN f vat m.tbl.vars ln)
    (hpre : ∀ l' ∈ pre, (cache.lookup l'.id).isSome) (h : Md.C.G l m)
    (hc : S.ShelfN f m.tbl cache) (hheld : ∀ k u, cache.lookup k = some u → u.natAbs ∈ l)
    (hn : (cache.map (·.1)).Nodup) :
    ∃ added m', Md.Keeps l m m' ∧ ((cache ++ added).map (·.1)).Nodup ∧
      Md.C.G (added.map (·.2.natAbs) ++ l) m' ∧ S.ShelfN f m'.tbl (cache ++ added) ∧
      ((makeNodesE false vat rest cache m = (.ok (), cache ++ added, m') ∧ Md.Ok m m' ∧
          ∀ l' ∈ rest, ((cache ++ added).lookup l'.id).isSome) ∨
        ∃ er, makeNodesE false vat rest cache m = (.error er, cache ++ added, m') ∧ Md.E m er) := by
  -- between two lines: the shelf is held, and `Ok` from the start
  obtain ⟨added, m', r, n, hcase⟩ := makeNodesE_lines (lo := false) (vat := vat)
    (P := fun l c m1 => Md.C.G l m1 ∧ S.ShelfN f m1.tbl c ∧
      (∀ k u, c.lookup k = some u → u.natAbs ∈ l) ∧ Md.Ok m m1)
    (Q := fun l c m1 => Md.C.G l m1 ∧ S.ShelfN f m1.tbl c)
    (R := fun l a b => Md.Keeps l a b) (E := fun er => Md.E m er)
    (LineP := fun m1 ln => S.LineN f vat m1.tbl.vars ln)
    (fun _ _ hL => hL.one_lt hw)
    (fun _ _ _ p => Md.refl p.1) (fun _ _ _ _ => Md.trans) (fun _ _ _ _ => Md.mono)
    (fun _ _ _ _ q hL => ⟨hL.id, hL.find, hL.name.imp fun nm ⟨a, b, c⟩ => ⟨a, b, (Md.names q nm).trans c⟩⟩)
    (fun ln l c m1 hL ⟨g, sc, hh, o⟩ hnew hlo hhi => by
      obtain ⟨name, hvat, hname, hdecl⟩ := hL.name
      rcases Md.makeNode hw vat ln l m1 g c sc hh hnew hL.find hL.id hlo hhi name hvat hname hdecl with
        ⟨u, m5, emk, g5, c5, q5, o5⟩ | ⟨er, m5, emk, hE, g5, c5, q5⟩
      · refine Or.inl ⟨u, m5, emk, ⟨g5, c5, fun k x hkx => ?_, Md.okTrans o o5⟩, q5⟩
        exact (lookup_snoc.mp hkx).elim (fun h' => List.mem_cons_of_mem _ (hh k x h')) fun h' => h'.2.2 ▸ List.mem_cons_self
      · exact Or.inr ⟨er, m5, emk, Md.eBack o hE, ⟨g5, c5⟩, q5⟩)
    rest pre cache m l hcf hlines hpre ⟨h, hc, hheld, Md.okRefl m⟩ hn
  have hp : ((shelfRefs added).reverse ++ l).Perm (added.map (·.2.natAbs) ++ l) :=
    (List.reverse_perm _).append_right l
  rcases hcase with ⟨emk, ⟨g, c, _, o⟩, a⟩ | ⟨er, emk, hE, g, c⟩
  · exact ⟨added, m', r, n, Md.C.perm g hp, c, Or.inl ⟨emk, o, a⟩⟩
  · exact ⟨added, m', r, n, Md.C.perm g hp, c, Or.inr ⟨er, emk, hE⟩⟩

/-- the mode "dynamic reordering not enabled": steps only add nodes (`KeptW`: every node keeps its
triple), no decorated call fails -/
def offMode (e : Nat → Nat) : LoadMode e where
  C := offCalc e
  Keeps := fun _ a b => KeptW a b
  Ok := fun _ _ => True
  E := fun _ _ => False
  refl := fun _ => (offCalc e).refl _
  kRef := fun _ r => (offCalc e).kRef _ r
  trans := (offCalc e).trans
  mono := id
  names := fun (k : KeptW _ _) s => by rw [k.2.vars]
  held := fun {l m m'} (g : GoodState m (extAdd e l)) (k : KeptW m m') w _ hm =>
    k.1.byName k.2.l2v g.inv.wf.toWF hm
  okRefl := fun _ => trivial
  okRef := fun _ _ => trivial
  okTrans := fun _ _ => trivial
  eBack := fun _ h => h
  var := fun {l m} name (g : GoodState m (extAdd e l)) hdecl => by
    obtain ⟨j, hvar⟩ := (vars_contains_iff m.tbl name).mp hdecl
    obtain ⟨r, m3, evar, k3, mg, dg⟩ := var_spec _ g.inv g.off name j hvar (g.order.lt name j hvar)
    have g3 : GoodState m3 (extAdd e l) :=
      g.of_kept k3 (by have := (var_lite _ name _ g.lite).1.exact; rwa [evar] at this)
    refine Or.inl ⟨r, m3, evar, g3, k3.toW, trivial, mg, fun σ => ?_⟩
    -- the levels are named as in `m`, and the level of `var` is named `var`
    show den m3.tbl r (m3.tbl.lift σ) = _
    rw [dg, lift_congr k3.toW.2.l2v σ]
    unfold Tbl.lift; rw [g.order.nameOf_level hvar]
  ite := fun {l m} a u v (g : GoodState m (extAdd e l)) ha hu hv => by
    obtain ⟨r, m5, eite, p5⟩ := ite_spec_off' m g.inv g.off a u v ((offCalc e).mem g ha) ((offCalc e).mem g hu)
      ((offCalc e).mem g hv)
    have g5 : GoodState m5 (extAdd e l) := g.of_kept ⟨p5.inv, p5.ext, p5.frame⟩
      (by have := (ite_lite _ a u v m g.lite).1.exact; rwa [eite] at this)
    refine Or.inl ⟨r, m5, eite, g5, ⟨p5.ext, p5.frame⟩, trivial, p5.mem, fun σ => ?_⟩
    show den m5.tbl r (m5.tbl.lift σ) = _
    rw [p5.den, lift_congr p5.frame.l2v σ]
    rfl

/-- the loop of the checks at the end of the `try:` (`load_order=False`) on ANY shelf that is held:
the `ref < 2` assertion passes for every entry; nothing is released -/
theorem checkLoop_false_spec (e : Nat → Nat) (cache : List (Nat × Int)) (hn : (cache.map (·.1)).Nodup)
    (h1 : ∀ p ∈ cache, p.1 ≠ 1) :
    ∀ (ents : List (Nat × Int)) (prev : Option Int) (m : Mgr) (L : List Nat),
      (∀ p ∈ ents, p ∈ cache) → (∀ p ∈ ents, p.2.natAbs ∈ L) →
      GoodState m (extAdd e (prev.toList.map Int.natAbs ++ L)) →
      ∃ last r, checkLoop false cache ents prev m = (.ok (), last, { m with ref := r }) ∧
        GoodState { m with ref := r } (extAdd e (last.toList.map Int.natAbs ++ L)) :=
  checkLoop_falseC (offCalc e) cache hn h1

theorem JsonFile.mem_varAtLevel (f : JsonFile) {i : Nat} {v : String} :
    (i, v) ∈ f.varAtLevel ↔ (v, i) ∈ f.levelOfVar := by
  rw [JsonFile.varAtLevel, List.foldl_flip_cons_eq_append, List.append_nil, List.mem_reverse, List.mem_map]
  exact ⟨fun ⟨_, h, e⟩ => by cases e; exact h, fun h => ⟨(v, i), h, rfl⟩⟩

/-- what `_copy.load_json` needs of a JSON content besides `PickleWF f.toPickle`: children
come first, the roots are a container, every node line is the line its id resolves to -/
structure JsonWF (f : JsonFile) : Prop where
  wf : PickleWF f.toPickle
  order : ChildrenFirst f.nodes
  roots : f.roots ≠ .none
  res : RootsResolvable f.toPickle
  lines : ∀ ln ∈ f.nodes, ln.id ≠ 1 ∧ PEntry.find f.toPickle.succ ln.id = some ln.entry

theorem JsonWF.vat_lookup {f : JsonFile} (hf : JsonWF f) {v : String} {i : Nat} (h : (v, i) ∈ f.levelOfVar) :
    f.varAtLevel.lookup i = some v := by
  obtain ⟨x, hx, hm⟩ := lookup_of_mem_keys (List.mem_map.mpr ⟨_, f.mem_varAtLevel.mpr h, rfl⟩)
  have a := hf.wf.names v i h
  rw [hf.wf.names x i (f.mem_varAtLevel.mp hm)] at a
  cases a
  exact hx

theorem JsonWF.lineVar {f : JsonFile} (hf : JsonWF f) {ln : JLine} (hln : ln ∈ f.nodes) :
    ∃ v, (v, ln.lvl) ∈ f.levelOfVar ∧ f.toPickle.nameAt ln.lvl = some v :=
  have ⟨hid, hfind⟩ := hf.lines ln hln
  have ⟨v, hv⟩ := hf.wf.lvls ln.id _ hfind hid
  ⟨v, hv, hf.wf.names v ln.lvl hv⟩

theorem JsonWF.rootsOnShelf {f : JsonFile} (hf : JsonWF f) {cache : List (Nat × Int)}
    (h : ∀ ln ∈ f.nodes, (cache.lookup ln.id).isSome) :
    ∀ k ∈ f.roots.values, k.natAbs = 1 ∨ (cache.lookup k.natAbs).isSome := by
  intro k hk
  rcases hf.res k hk with h1 | ⟨en, hen, hid⟩
  · exact Or.inl h1
  · have hen' : en ∈ (⟨1, f.levelOfVar.length, none, none⟩ : PEntry) :: f.nodes.map JLine.entry := hen
    rcases List.mem_cons.mp hen' with h' | h'
    · subst h'; exact Or.inl hid.symm
    · obtain ⟨ln, hln, rfl⟩ := List.mem_map.mp h'
      exact Or.inr (by rw [← hid]; exact h ln hln)

theorem S.lineN_of_wf {f : JsonFile} (hf : JsonWF f) {vars : TreeMap String Nat}
    (hdecl : ∀ v ∈ f.levelOfVar.map (·.1), vars.contains v = true) :
    ∀ ln ∈ f.nodes, S.LineN f.toPickle
      f.varAtLevel vars ln :=
  fun ln hln =>
    have ⟨hid, hfind⟩ := hf.lines ln hln
    have ⟨v, hv, hn⟩ := hf.lineVar hln
    ⟨hid, hfind, v, hf.vat_lookup hv, hn, hdecl v (List.mem_map.mpr ⟨_, hv, rfl⟩)⟩

theorem S.ShelfN.roots {f : JsonFile} (hf : JsonWF f) {t : Tbl} (hW : WF t) {shelf : List (Nat × Int)}
    (hc : S.ShelfN f.toPickle t shelf) (hks : ∀ k ∈ f.roots.values, k.natAbs = 1 ∨ (shelf.lookup k.natAbs).isSome) :
    RootsRel (fun k u => t.Mem u ∧ ∀ σ, denN t u σ = evalJson f k σ) f.roots
      (f.roots.rebuild (f.roots.values.map (shelfEdge shelf))) ∧
    (f.roots.rebuild (f.roots.values.map (shelfEdge shelf))).values = f.roots.values.map (shelfEdge shelf) :=
  Roots.rebuild_rel f.roots hf.roots _ (Forall2.of_map fun k hk =>
    have ⟨a, _, b⟩ := hc.edge hf.wf hW k (hks k hk)
    ⟨a, b⟩)

theorem loadJson_false_spec (f : JsonFile) (hf : JsonWF f) (tgt : Mgr) (e : Nat → Nat)
    (hg : GoodState tgt e) (hpn : PredNodes tgt) (hroots : ∀ r ∈ tgt.roots, tgt.tbl.Mem r) :
    ∃ roots' m', loadJson f false tgt = (.ok roots', m') ∧
      GoodState m' (extAdd e (roots'.values.map Int.natAbs)) ∧ PredNodes m' ∧
      (∀ u n, tgt.tbl.node? u = some n → m'.tbl.node? u = some n) ∧
      RootsRel (fun u r => m'.tbl.Mem r ∧ ∀ α, denBy m'.tbl r α = evalJson f u α) f.roots roots' := by
  obtain ⟨m1, ed, d⟩ := declare_ok (f.levelOfVar.map (·.1)) tgt hg.inv hg.order
  have g1 := d.good hg
  obtain ⟨shelf, m2, (kw : KeptW m1 m2), n2, (g2 : GoodState m2 _), c2, ⟨emk, -, a2⟩ | ⟨_, _, hE⟩⟩ :=
    (offMode e).makeNodesE hf.wf _ f.nodes [] [] m1 [] (by simpa using hf.order)
      (S.lineN_of_wf hf fun v hv => by rw [TreeMap.contains_eq_isSome_getElem?]; exact d.declared v hv)
      (by simp) (show GoodState m1 (extAdd e []) by rwa [extAdd_nil])
      (fun k u h => by simp at h) (fun k u h => by simp at h) (by simp)
  rotate_left
  · exact hE.elim
  simp only [List.nil_append, List.append_nil] at emk g2 c2 n2 a2
  have hk2 : KeysOK m2 := keysOK_makeNodesE (hpn.keysOK.congr d.pred) emk
  have k2 : Kept m1 m2 := kw.kept g2.inv
  have hks := hf.rootsOnShelf a2
  obtain ⟨r, efin, g⟩ := jsonAfterLines_false (offCalc e) f hf.roots m1 m2 shelf emk n2 (S.shelfN_ids n2 c2) g2 hks
    (hk2.predNodes g2.inv) (fun r hr => by
      rw [k2.frame.roots, d.roots] at hr
      exact k2.ext.mem (d.held r (hroots r hr)).1)
  have g' : GoodState { m2 with ref := r } _ := g
  have hk' : KeysOK ({ m2 with ref := r } : Mgr) := hk2.congr rfl
  obtain ⟨hrel, hvals⟩ := c2.roots hf g2.inv.wf.toWF hks
  refine ⟨_, _, by rw [loadJson_false_eq, jsonTry_header_ok f false tgt m1 (jsonHeader_false f tgt m1 ed)]; exact efin,
    by rw [hvals]; exact g', hk'.predNodes g'.inv, fun u nd hnd => k2.ext.nodes _ _ ?_,
    hrel.denBy_of_denN g2.inv.wf.toWF g2.order⟩
  unfold Tbl.node? at hnd ⊢
  rw [d.succ]; exact hnd

theorem dumpJson_lines {m : Mgr} {roots : Roots} {f : JsonFile} (h : dumpJson m roots = .ok f) :
    ∀ ln ∈ f.nodes, ln.id ≠ 1 ∧ PEntry.find f.toPickle.succ ln.id = some ln.entry := by
  obtain ⟨nodes, j, hst, -⟩ := dumpJson_stores h
  intro ln hln
  obtain ⟨h1, hs⟩ := j.line ln hln
  obtain ⟨n, hn, hf⟩ := hst.inn ln.id ((j.ids _).mpr ⟨ln, hln, rfl⟩) h1
  rw [hs] at hn
  cases hn
  exact ⟨h1, hf⟩

theorem dumpJson_jsonWF {m : Mgr} (hI : Inv m) (hv : DmpVarsOK m.tbl) {roots : Roots} {f : JsonFile}
    (h : dumpJson m roots = .ok f) : JsonWF f := by
  obtain ⟨nodes, -, hst, hr⟩ := dumpJson_stores h
  obtain ⟨_, hroots, hsome, _⟩ := dumpJson_parts h
  exact ⟨hst.wf hI.wf.toWF hv, dumpJson_childrenFirst h, by rw [hroots]; exact hsome,
    stores_resolvable hst (by show ∀ u ∈ f.roots.values, _; rw [hroots]; exact hr), dumpJson_lines h⟩

theorem loadedAs_of_dump {src : Mgr} (hIs : Inv src) (hvs : DmpVarsOK src.tbl) {roots : Roots} {f : JsonFile}
    (hd : dumpJson src roots = .ok f) {t : Tbl} {roots' : Roots}
    (R : RootsRel (fun u r => t.Mem r ∧ ∀ α, denBy t r α = evalJson f u α) f.roots roots') :
    LoadedAs src.tbl roots t roots' := by
  obtain ⟨_, hroots', hev⟩ := dumpJson_spec hIs hvs hd
  exact (hroots' ▸ R).loadedAs hev

theorem dmpDrop_lastLen (u : Int) (m : Mgr) : (dmpDrop u m).2.lastLen = m.lastLen := by
  simp only [dmpDrop, decref]
  split
  · rfl
  · split <;> rfl

theorem dropList_lastLen (us : List Int) (m : Mgr) : (dropList us m).lastLen = m.lastLen := by
  induction us generalizing m with
  | nil => rfl
  | cons u rest ih => rw [dropList, ih, dmpDrop_lastLen]

theorem dropOpt_lastLen (o : Option Int) (m : Mgr) : (dropOpt o m).lastLen = m.lastLen := by
  cases o with
  | none => rfl
  | some u => exact dmpDrop_lastLen u m

/-- an observation outside the numbered findings: `_load_json(load_order=True)` saves the *dict*
returned by `configure` and passes it back as the value of `reordering`: after a successful load
dynamic reordering is ENABLED, whatever it was before -/
theorem loadJson_loadOrder_enables_reordering (f : JsonFile) (m m' : Mgr) (r : Roots)
    (h : loadJson f true m = (.ok r, m')) : m'.lastLen.isSome = true := by
  unfold loadJson at h
  simp only [if_true] at h
  obtain ⟨_, m1, _, h⟩ := M.bind_ok_inv h
  generalize jsonTry f true m1 = tr at h
  obtain ⟨rt, cache, prev, m6⟩ := tr
  cases rt with
  | error e =>
    unfold jsonFinish at h
    dsimp only at h
    split at h <;> simp at h
  | ok us =>
  unfold jsonFinish at h
  simp only [if_true] at h
  generalize (releaseFailed cache cache prev m6) = rl at h
  obtain ⟨rr, last, m7⟩ := rl
  dsimp only at h
  cases hfin : (liftE rr >>= fun _ => do
      dmpAssertConsistent
      let _ ← configure (some true)
      pure ()) m7 with
  | mk res m8 =>
    rw [hfin] at h
    cases res with
    | error e => simp at h
    | ok a =>
      simp only [Prod.mk.injEq] at h
      obtain ⟨_, hm⟩ := h
      subst hm
      rw [dropOpt_lastLen]
      obtain ⟨_, m9, _, h2⟩ := M.bind_ok_inv hfin
      obtain ⟨_, m10, hac, h3⟩ := M.bind_ok_inv h2
      obtain ⟨_, m11, hcf, h4⟩ := M.bind_ok_inv h3
      simp only [pure, M.pure', Prod.mk.injEq] at h4
      obtain ⟨_, hm⟩ := h4
      subst hm
      simp only [configure, bind, M.bind', M.get, M.set, pure, M.pure'] at hcf
      simp only [Prod.mk.injEq] at hcf
      obtain ⟨_, hm⟩ := hcf
      subst hm
      rfl

end DD
