/-
  DDProofs.DumpJsonDyn — `_copy.load_json` on a `dd.autoref.BDD` whose manager has dynamic
  reordering ENABLED (C12), with the model's default iteration order (`DynInv`: no recorded
  schedule).  `load_order=False`: the case `sched = []` of DDProofs.SchedDumpJsonDyn — no decorated
  call can report a schedule mismatch, so the load returns, and no schedule is left.
  `load_order=True`: `configure(reordering=False)` comes first, so the run is the one of
  DDProofs.DumpJsonOrder from the same manager with the switch off.
-/
import DDProofs.SchedDumpJsonDyn
open Std
namespace DD

structure DynL (e0 : Nat → Nat) (l : List Nat) (m : Mgr) : Prop where
  dyn : DynInv (extAdd e0 l) m
  roots0 : ∀ r ∈ m.roots, 0 < e0 r.natAbs

theorem DynL.toS {e0 : Nat → Nat} {l : List Nat} {m : Mgr} (h : DynL e0 l m) : S.DynL e0 l m :=
  ⟨h.dyn.toS, h.roots0⟩

theorem S.DynL.default {e0 : Nat → Nat} {l : List Nat} {m : Mgr} (h : S.DynL e0 l m) (hs : m.sched = []) :
    DD.DynL e0 l m := ⟨h.dyn.toDynInv hs, h.roots0⟩

theorem DynL.setRef {e0 : Nat → Nat} {l l' : List Nat} {m : Mgr} (h : DynL e0 l m) (r : TreeMap Nat Nat)
    (hI : Inv { m with ref := r }) (hr : RefExact { m with ref := r } (extAdd e0 l')) :
    DynL e0 l' { m with ref := r } :=
  ((S.ledger e0).setRef l' r h.toS hI hr).default h.dyn.sched

theorem DynInv.declared {ext : Nat → Nat} {names : List String} {m m' : Mgr} (hD : DynInv ext m)
    (d : Declared names m m') : DynInv ext m' :=
  (hD.toS.declared d).toDynInv (d.sched.trans hD.sched)

/-- the predicate `S.ShelfN` (DDProofs/DumpJson.lean), under the name `C12_makeNode_dyn` states it with -/
def ShelfN (f : PickleFile) (t : Tbl) (cache : List (Nat × Int)) : Prop :=
  ∀ k u, cache.lookup k = some u → 0 < u ∧ t.Mem u ∧ k ≠ 1 ∧ (PEntry.find f.succ k).isSome ∧
    ∀ σ, denN t u σ = evalPickle f (k : Int) σ

/-- what a step of the loader keeps, with reordering possibly served inside -/
structure DynKeeps (ext : Nat → Nat) (m m' : Mgr) : Prop where
  enabled : m'.lastLen.isSome = m.lastLen.isSome
  names : ∀ s, m'.tbl.vars.contains s = m.tbl.vars.contains s
  roots : m'.roots = m.roots
  held : ∀ w, HeldX ext w → m'.tbl.Mem w ∧ ∀ σ, denN m'.tbl w σ = denN m.tbl w σ

theorem DynKeeps.setRef {ext : Nat → Nat} {m m' : Mgr} (h : DynKeeps ext m m') (r : TreeMap Nat Nat) :
    DynKeeps ext m { m' with ref := r } := ⟨h.enabled, h.names, h.roots, h.held⟩

/-- `_make_node` (`load_order=False`) with dynamic reordering possibly ENABLED: `var` and `ite`
are the decorated methods, every operand is held by a live `Function` -/
theorem makeNode_dyn {f : PickleFile} (hw : PickleWF f) (vat : List (Nat × String)) (ln : JLine)
    (e0 : Nat → Nat) (l : List Nat) (m : Mgr) (h : DynL e0 l m) (hk : KeysOK m)
    (cache : List (Nat × Int)) (hc : ShelfN f m.tbl cache)
    (hheld : ∀ k u, cache.lookup k = some u → u.natAbs ∈ l)
    (hnew : cache.lookup ln.id = none)
    (hline : PEntry.find f.succ ln.id = some ⟨ln.id, ln.lvl, some ln.lo, some ln.hi⟩) (hid : ln.id ≠ 1)
    (hlo : ln.lo.natAbs = 1 ∨ (cache.lookup ln.lo.natAbs).isSome)
    (hhi : ln.hi.natAbs = 1 ∨ (cache.lookup ln.hi.natAbs).isSome)
    (name : String) (hvat : vat.lookup ln.lvl = some name) (hname : f.nameAt ln.lvl = some name)
    (hdecl : m.tbl.vars.contains name = true) :
    ∃ u m', makeNode false vat ln cache m = (.ok (cache ++ [(ln.id, u)]), m') ∧
      DynL e0 (u.natAbs :: l) m' ∧ KeysOK m' ∧ ShelfN f m'.tbl (cache ++ [(ln.id, u)]) ∧
      DynKeeps (extAdd e0 l) m m' := by
  rcases (S.schedMode e0).makeNode hw vat ln l m h.toS cache hc hheld hnew hline hid hlo hhi name hvat
    hname hdecl with ⟨u, m', e, (g : S.DynL e0 _ m'), c, (q : S.DynKeepsW _ m m'), o⟩ | ⟨_, _, _, ⟨_, hs⟩, _⟩
  · exact ⟨u, m', e, g.default (o.2 h.dyn.sched), (ksm_makeNode false vat ln cache m hk).of_eq e, c, o.1, q.names,
      q.roots, q.held⟩
  · exact absurd h.dyn.sched hs

theorem releaseFailed_dyn (e0 : Nat → Nat) (cache : List (Nat × Int)) (hn : (cache.map (·.1)).Nodup)
    (h1 : ∀ p ∈ cache, p.1 ≠ 1) :
    ∀ (ents : List (Nat × Int)) (prev : Option Int) (m : Mgr) (L : List Nat),
      (∀ p ∈ ents, p ∈ cache) →
      DynL e0 (prev.toList.map Int.natAbs ++ (shelfRefs ents ++ L)) m →
      ∃ last r, releaseFailed cache ents prev m = (.ok (), last, { m with ref := r }) ∧
        DynL e0 (last.toList.map Int.natAbs ++ L) { m with ref := r } :=
  fun ents prev m L hsub h =>
    have ⟨last, r, e, g⟩ := S.releaseFailed_dyn e0 cache hn h1 ents prev m L hsub h.toS
    ⟨last, r, e, g.default h.dyn.sched⟩

/-- the state after `load_json(load_order=False)` into a manager with reordering possibly
enabled: as between two calls (`DynInv`) for the caller's ledger plus one reference per returned
`Function`; no stray unique-table entry (`assert_consistent` passes); reordering enabled iff it
was; the caller's names and the file's names are declared; `bdd.roots` untouched; every
reference the caller holds is still a node and denotes the same function of the variable NAMES;
the result has the shape of the file's container and denotes, by name, what the file says -/
structure JsonLoadedDyn (f : JsonFile) (ext : Nat → Nat) (tgt : Mgr) (roots' : Roots) (m' : Mgr) : Prop where
  dyn : DynInv (extAdd ext (roots'.values.map Int.natAbs)) m'
  pred : PredNodes m'
  reordering : m'.lastLen.isSome = tgt.lastLen.isSome
  oldNames : ∀ v : String, tgt.tbl.vars.contains v = true → m'.tbl.vars.contains v = true
  fileNames : ∀ v ∈ f.levelOfVar.map (·.1), m'.tbl.vars.contains v = true
  regRoots : m'.roots = tgt.roots
  held : ∀ w, HeldX ext w → m'.tbl.Mem w ∧ ∀ σ, denN m'.tbl w σ = denN tgt.tbl w σ
  roots : RootsRel (fun u r => m'.tbl.Mem r ∧ ∀ σ, denN m'.tbl r σ = evalJson f u σ) f.roots roots'

/-- C12 for `_copy.load_json(load_order=False)` with dynamic reordering ENABLED in the receiving
manager (any threshold; a request may come at any `find_or_add` of the decorated `var` / `ite`
the loader calls, sifting runs and the call is retried) -/
def json_load_dyn_statement : Prop :=
  ∀ (f : JsonFile) (tgt : Mgr) (ext : Nat → Nat), JsonWF f → DynInv ext tgt → PredNodes tgt →
    ∃ roots' m', loadJson f false tgt = (.ok roots', m') ∧ JsonLoadedDyn f ext tgt roots' m'

theorem json_load_dyn_holds : json_load_dyn_statement := by
  intro f tgt ext hf hD hpn
  rcases S.loadJson_dyn_outcomes f hf tgt ext hD.toS hpn with ⟨roots', m', el, L, s⟩ | ⟨_, hs, _⟩
  · exact ⟨roots', m', el, L.dyn.toDynInv (s hD.sched), L.pred, L.reordering, L.oldNames, L.fileNames,
      L.regRoots, L.held, L.roots⟩
  · exact absurd hD.sched hs

/-- JSON round trip with reordering possibly enabled in the receiving manager -/
def json_roundtrip_dyn_statement : Prop :=
  ∀ (src : Mgr) (roots : Roots) (f : JsonFile) (tgt : Mgr) (ext : Nat → Nat),
    Inv src → DmpVarsOK src.tbl → dumpJson src roots = .ok f → DynInv ext tgt → PredNodes tgt →
    ∃ roots' m', loadJson f false tgt = (.ok roots', m') ∧ JsonLoadedDyn f ext tgt roots' m' ∧
      LoadedAs src.tbl roots m'.tbl roots'

theorem json_roundtrip_dyn_holds : json_roundtrip_dyn_statement := by
  intro src roots f tgt ext hIs hvs hd hD hpn
  obtain ⟨roots', m', el, L⟩ := json_load_dyn_holds f tgt ext (dumpJson_jsonWF hIs hvs hd) hD hpn
  exact ⟨roots', m', el, L, loadedAs_byName hIs hvs hd L.dyn.inv.wf.toWF L.dyn.order L.roots⟩

theorem loadJson_true_off (f : JsonFile) (tgt : Mgr) :
    loadJson f true tgt = loadJson f true { tgt with lastLen := none } := by
  rw [loadJson_true_eq, loadJson_true_eq]

theorem DynInv.goodOff {ext : Nat → Nat} {m : Mgr} (h : DynInv ext m) :
    GoodState { m with lastLen := none } ext := goodOff_of h.inv h.order h.refs h.ctx

end DD
