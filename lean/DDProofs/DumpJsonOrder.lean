/-
  DDProofs.DumpJsonOrder — `_copy.load_json(load_order=True)` on a `dd.autoref.BDD` (C12):
  `reorder(order)` to the order of the file, then `find_or_add(var, low, high)` by name,
  the `ref < 3` assertion, `assert_consistent`.  The assertion passes because every line belongs to a
  root or is another line's child (`Rooted`): besides the check's and the shelf's reference there is
  a root `Function`, another shelf entry for the same node, or a stored edge (`shelf_three`).
-/
import DDProofs.DumpJson
import DDProps.C07
open Std
namespace DD

theorem findOrAddCore_shape (m : Mgr) (hI : Inv m) {ext : Nat → Nat} (hr : RefExact m ext) (i : Nat) (v w : Int)
    (hw : 0 < w) (r : Int) (m' : Mgr) (h : findOrAddCore i v w m = (.ok r, m')) :
    (v = w ∧ r = v) ∨ (0 < r ∧ m'.tbl.node? r.natAbs = some ⟨i, v, w⟩) := by
  have hn : ¬ w < 0 := by omega
  rcases findOrAddCore_eq m i v w hr.isSome ⟨i, v, w⟩ (by simp [hn]) with
    ⟨e, he, -⟩ | ⟨-, -, -, ⟨hvw, he⟩ | ⟨-, u, hu, he⟩ | ⟨-, -, h2, -, c1, c2, -, -, he⟩⟩
  · rw [he] at h; cases h
  · rw [he] at h; cases h
    exact Or.inl ⟨hvw, rfl⟩
  · rw [he, if_neg hn] at h; cases h
    have hnode := (hI.pred ⟨i, v, w⟩ u).mp hu
    have := hI.wf.ge_two _ _ hnode
    exact Or.inr ⟨by omega, by simpa using hnode⟩
  · rw [he, if_neg hn] at h; cases h
    exact Or.inr ⟨by omega, by simp [Tbl.node?, storeNode]⟩

/-- what the shelf satisfies in addition when nodes are made with `find_or_add` at the level of
the file (`load_order=True`): levels, the made node has its children as successors (or IS the
child, when both edges coincide), the children of an entry are on the shelf -/
structure ShelfT (succ : List PEntry) (t : Tbl) (cache : List (Nat × Int)) : Prop where
  lvl : ∀ k u e, cache.lookup k = some u → PEntry.find succ k = some e → e.lvl ≤ t.levelOf u
  kids : ∀ k u e c uc, cache.lookup k = some u → PEntry.find succ k = some e →
    (e.lo = some c ∨ e.hi = some c) → c.natAbs ≠ 1 → cache.lookup c.natAbs = some uc →
    uc.natAbs = u.natAbs ∨ ∃ nd, t.node? u.natAbs = some nd ∧
      (nd.lo.natAbs = uc.natAbs ∨ nd.hi.natAbs = uc.natAbs)
  closed : ∀ k u e c, cache.lookup k = some u → PEntry.find succ k = some e →
    (e.lo = some c ∨ e.hi = some c) → c.natAbs ≠ 1 → (cache.lookup c.natAbs).isSome

theorem ShelfT.nil (succ : List PEntry) (t : Tbl) : ShelfT succ t [] :=
  ⟨by intro k u e h; simp at h, by intro k u e c uc h; simp at h, by intro k u e c h; simp at h⟩

/-- `_make_node` for a new line, `load_order=True` (the level map is the identity: the manager
has the order of the file) -/
theorem makeNodeT_off {f : PickleFile} (hw : PickleWF f) (vat : List (Nat × String)) (ln : JLine)
    (e : Nat → Nat) (l : List Nat) (m : Mgr) (h : GoodState m (extAdd e l))
    (cache : List (Nat × Int)) (hc : S.ShelfN f m.tbl cache) (ht : ShelfT f.succ m.tbl cache)
    (hnew : cache.lookup ln.id = none)
    (hline : PEntry.find f.succ ln.id = some ⟨ln.id, ln.lvl, some ln.lo, some ln.hi⟩) (hid : ln.id ≠ 1)
    (hlo : ln.lo.natAbs = 1 ∨ (cache.lookup ln.lo.natAbs).isSome)
    (hhi : ln.hi.natAbs = 1 ∨ (cache.lookup ln.hi.natAbs).isSome)
    (name : String) (hvat : vat.lookup ln.lvl = some name) (hname : f.nameAt ln.lvl = some name)
    (hvar : m.tbl.vars[name]? = some ln.lvl) :
    ∃ u m', makeNode true vat ln cache m = (.ok (cache ++ [(ln.id, u)]), m') ∧
      Kept m m' ∧ GoodState m' (extAdd e (u.natAbs :: l)) ∧
      S.ShelfN f m'.tbl (cache ++ [(ln.id, u)]) ∧ ShelfT f.succ m'.tbl (cache ++ [(ln.id, u)]) := by
  obtain ⟨v', w', hv', hw', -, -, -, rlo, rhi, llo, lhi⟩ := hw.succ.node _ _ hline hid
  cases hv'; cases hw'
  have hjlt : ln.lvl < m.nvars := h.order.lt name _ hvar
  have hW := h.inv.wf.toWF
  -- low, high: what the shelf says about a child
  have child : ∀ c : Int, (c.natAbs = 1 ∨ (cache.lookup c.natAbs).isSome) → FRef f.succ c →
      ln.lvl < flevel f.succ f.vars.length c → ln.lvl < m.tbl.levelOf (shelfEdge cache c) ∧
      (c.natAbs ≠ 1 → ∃ uc, cache.lookup c.natAbs = some uc ∧ uc.natAbs = (shelfEdge cache c).natAbs) := by
    intro c hres hr hl
    by_cases h1 : c.natAbs = 1
    · rw [shelfEdge_term h1, levelOf_term _ _ h1]
      exact ⟨hjlt, fun h' => absurd h1 h'⟩
    obtain ⟨k, hk⟩ := Option.isSome_iff_exists.mp (hres.resolve_left h1)
    obtain ⟨ec, hec⟩ := Option.isSome_iff_exists.mp (hr.resolve_left h1)
    have := ht.lvl _ _ ec hk hec
    have hfl : flevel f.succ f.vars.length c = ec.lvl := by simp [flevel, h1, hec]
    rw [shelfEdge_node h1 hk, levelOf_flip]
    exact ⟨by omega, fun _ => ⟨k, hk, by split <;> simp⟩⟩
  obtain ⟨llo', clo⟩ := child ln.lo hlo rlo llo
  obtain ⟨lhi', chi⟩ := child ln.hi hhi rhi lhi
  obtain ⟨r2, erun, g2, mlo, mhi, hhipos, dlo, dhi⟩ :=
    (offCalc e).makeNode_edges hw true h hc hnew hline hid hlo hhi hvat
  generalize shelfEdge cache ln.lo = lo at *
  generalize shelfEdge cache ln.hi = hi at *
  let m2 : Mgr := { m with ref := r2 }
  have g2' : GoodState m2 (extAdd e (hi.natAbs :: lo.natAbs :: l)) := g2
  -- `find_or_add` by name
  have hfo := findOrAdd_spec m2 g2'.inv ln.lvl lo hi hjlt mlo mhi llo' lhi'
  have hcore : findOrAdd (ln.lvl : Int) lo hi m2 = findOrAddCore ln.lvl lo hi m2 := by
    rw [findOrAdd_quiet m2 (Or.inr g2'.off)]
    simp [show ¬ ((ln.lvl : Int) < 0) by omega]
  cases hfe : findOrAdd (ln.lvl : Int) lo hi m2 with
  | mk res m3 =>
    rw [hfe] at hfo
    cases res with
    | error er =>
      have := hfo.2.armed.1
      rw [g2'.ctx] at this
      cases this
    | ok u =>
      have P3 : FoaPost' m2 ln.lvl lo hi u m3 := hfo
      have hshape := findOrAddCore_shape m2 g2'.inv g2'.exact ln.lvl lo hi hhipos u m3 (by rw [← hcore]; exact hfe)
      have hupos : 0 < u := by
        rcases hshape with ⟨h1, h2⟩ | ⟨h1, _⟩
        · rw [h2, h1]; exact hhipos
        · exact h1
      have g3 : GoodState m3 (extAdd e (hi.natAbs :: lo.natAbs :: l)) := g2'.of_kept ⟨P3.inv, P3.ext, P3.frame⟩
        (by have := findOrAdd_refExact m2 _ (ln.lvl : Int) lo hi g2'.inv.wf.toWF.closed g2'.exact; rwa [hfe] at this)
      obtain ⟨r6, esh, g6⟩ := (offCalc e).shelve g3 u P3.mem (by omega) cache ln.id
      obtain ⟨r, ed, gl⟩ := dropListC (offCalc e) [hi, lo] { m3 with ref := r6 } (u.natAbs :: l)
        ((offCalc e).perm g6 (List.perm_middle (l₁ := [hi.natAbs, lo.natAbs])).symm)
      have gl' : GoodState { m3 with ref := r } (extAdd e (u.natAbs :: l)) := gl
      have hrun : makeNode true vat ln cache m = (.ok (cache ++ [(ln.id, u)]), { m3 with ref := r }) := by
        have a1 : ln.lvl < m2.tbl.levelOf lo := llo'
        have a2 : ln.lvl < m2.tbl.levelOf hi := lhi'
        rw [erun, makeNodeBody_true,
          M.bind_ok (levelOfVar_ok m2 name ln.lvl hvar), M.bind_ok (functionLevel_ok m2 lo mlo),
          M.bind_ok (functionLevel_ok m2 hi mhi), if_neg (by simp [a1, a2]), M.bind_ok hfe, esh]
        exact congrArg _ ed
      have kw : KeptW m { m3 with ref := r } :=
        (offCalc e).trans ((offCalc e).kRef m r2) ((offCalc e).trans ⟨P3.ext, P3.frame⟩ ((offCalc e).kRef m3 r))
      have X : Ext m.tbl m3.tbl := P3.ext
      refine ⟨u, _, hrun, kw.kept gl'.inv, gl',
        (hc.ext hW X kw.2.l2v).snoc ⟨hupos, P3.mem, hid, by simp [hline], fun σ => ?_⟩, ?_, ?_, ?_⟩
      · -- the levels are named as in `m`, and the level of the line is named `var`
        have hev := evalPickle_node hw (ln.id : Int) σ ⟨ln.id, ln.lvl, some ln.lo, some ln.hi⟩ ln.lo ln.hi name
          (by simpa using hid) (by simpa using hline) rfl rfl hname
        show den m3.tbl u (m3.tbl.lift σ) = _
        rw [lift_congr kw.2.l2v σ, P3.den, hev, ← dhi σ, ← dlo σ,
          show m.tbl.lift σ ln.lvl = σ name by unfold Tbl.lift; rw [h.order.nameOf_level hvar]]
        simp [denN, m2, show ¬ ((ln.id : Int) < 0) by omega]
      · intro k x en hkx hen
        rcases lookup_snoc.mp hkx with hck | ⟨-, rfl, rfl⟩
        · show en.lvl ≤ m3.tbl.levelOf x
          rw [X.levelOf (hc k x hck).2.1]
          exact ht.lvl k x en hck hen
        · rw [hline] at hen
          cases hen
          exact P3.lvl
      · intro k x en c uc hkx hen hchild h1 huc
        rcases lookup_snoc.mp hkx with hck | ⟨-, rfl, rfl⟩
        · -- the child of an old entry is an old entry
          obtain ⟨uc0, huc0⟩ := Option.isSome_iff_exists.mp (ht.closed k x en c hck hen hchild h1)
          obtain rfl : uc0 = uc := Option.some.inj ((lookup_snoc.mpr (Or.inl huc0)).symm.trans huc)
          exact (ht.kids k x en c uc0 hck hen hchild h1 huc0).imp id fun ⟨nd, hnd, h'⟩ => ⟨nd, X.nodes _ _ hnd, h'⟩
        · rw [hline] at hen
          cases hen
          simp only [Option.some.injEq] at hchild
          have hrel : ∃ uc0, cache.lookup c.natAbs = some uc0 ∧ (uc0.natAbs = lo.natAbs ∨ uc0.natAbs = hi.natAbs) := by
            rcases hchild with rfl | rfl
            · exact (clo h1).imp fun _ h' => ⟨h'.1, Or.inl h'.2⟩
            · exact (chi h1).imp fun _ h' => ⟨h'.1, Or.inr h'.2⟩
          obtain ⟨uc0, huc0, hrel⟩ := hrel
          obtain rfl : uc0 = uc := Option.some.inj ((lookup_snoc.mpr (Or.inl huc0)).symm.trans huc)
          rcases hshape with ⟨h1', h2'⟩ | ⟨_, hnode⟩
          · left
            rcases hrel with hr | hr
            · rw [hr, h2']
            · rw [hr, h2', h1']
          · exact Or.inr ⟨_, hnode, hrel.imp Eq.symm Eq.symm⟩
      · intro k x en c hkx hen hchild h1
        rcases lookup_snoc.mp hkx with hck | ⟨-, rfl, -⟩
        · exact lookup_isSome_append (ht.closed k x en c hck hen hchild h1) _
        · rw [hline] at hen
          cases hen
          simp only [Option.some.injEq] at hchild
          have : ∃ uc0, cache.lookup c.natAbs = some uc0 := by
            rcases hchild with rfl | rfl
            · exact (clo h1).imp fun _ h' => h'.1
            · exact (chi h1).imp fun _ h' => h'.1
          exact this.elim fun uc0 huc0 => lookup_isSome_append (by rw [huc0]; rfl) _

/-- the loop over the node lines, `load_order=True`: the variable of every line is at the line's
level (`hlvl`: the manager has the order of the file) -/
theorem makeNodesE_offT {f : PickleFile} (hw : PickleWF f) (vat : List (Nat × String)) (lines : List JLine)
    (m : Mgr) (e : Nat → Nat) (hcf : ChildrenFirst lines) (hlines : ∀ ln ∈ lines, S.LineN f vat m.tbl.vars ln)
    (hlvl : ∀ ln ∈ lines, ∀ name, vat.lookup ln.lvl = some name → m.tbl.vars[name]? = some ln.lvl)
    (h : GoodState m e) :
    ∃ shelf m', makeNodesE true vat lines [] m = (.ok (), shelf, m') ∧ Kept m m' ∧
      GoodState m' (extAdd e (shelfRefs shelf)) ∧ S.ShelfN f m'.tbl shelf ∧ ShelfT f.succ m'.tbl shelf ∧
      (shelf.map (·.1)).Nodup ∧ (∀ ln ∈ lines, (shelf.lookup ln.id).isSome) := by
  obtain ⟨shelf, m', r, nd, ⟨emk, ⟨g, c, t⟩, a⟩ | ⟨_, _, he, _⟩⟩ := makeNodesE_lines (lo := true) (vat := vat)
    (P := fun l c m1 => GoodState m1 (extAdd e l) ∧ S.ShelfN f m1.tbl c ∧ ShelfT f.succ m1.tbl c)
    (Q := fun _ _ _ => True) (R := fun _ a b => Kept a b) (E := fun _ => False)
    (LineP := fun m1 ln => S.LineN f vat m1.tbl.vars ln ∧
      ∀ name, vat.lookup ln.lvl = some name → m1.tbl.vars[name]? = some ln.lvl)
    (fun _ _ hL => hL.1.one_lt hw)
    (fun _ _ _ p => Kept.refl p.1.inv) (fun _ _ _ _ => Kept.trans) (fun _ _ _ _ q => q)
    (fun _ _ _ _ q hL => by rw [q.frame.vars]; exact hL)
    (fun ln l c m1 hL ⟨g, sc, st⟩ hnew hlo hhi => by
      obtain ⟨name, hvat, hname, -⟩ := hL.1.name
      obtain ⟨u, m5, emk, k5, g5, c5, t5⟩ := makeNodeT_off hw vat ln e l m1 g c sc st hnew hL.1.find hL.1.id
        hlo hhi name hvat hname (hL.2 name hvat)
      exact Or.inl ⟨u, m5, emk, ⟨g5, c5, t5⟩, k5⟩)
    lines [] [] m [] (by simpa using hcf) (fun ln hln => ⟨hlines ln hln, hlvl ln hln⟩) (by simp)
    ⟨by rw [extAdd_nil]; exact h, fun k u h => by simp at h, ShelfT.nil _ _⟩ (by simp)
  · simp only [List.nil_append, List.append_nil] at emk g c t nd a
    exact ⟨shelf, m', emk, r, (offCalc e).perm g (List.reverse_perm _), c, t, nd, a⟩
  · exact he.elim

/-- every shelf entry still to be released is referenced once more: by a root `Function`,
by a later entry for the same node, or by a stored edge -/
def JustL (t : Tbl) (e : Nat → Nat) : List (Nat × Int) → Prop
  | [] => True
  | p :: rest => (0 < e p.2.natAbs ∨ (∃ q ∈ rest, q.2.natAbs = p.2.natAbs) ∨ 0 < indeg t p.2.natAbs) ∧
      JustL t e rest

/-- a justified entry has at least three references while the shelf holds its own: the shelf
holds the node once for this entry and once more for every later entry of the same node -/
theorem justL_three (cache : List (Nat × Int)) (t : Tbl) (e : Nat → Nat) :
    ∀ ents : List (Nat × Int), ents <:+ cache → JustL t e ents →
      ∀ p ∈ ents, 3 ≤ indeg t p.2.natAbs + extAdd e (p.2.natAbs :: shelfRefs cache) p.2.natAbs := by
  intro ents
  induction ents with
  | nil => intro _ _ p hp; cases hp
  | cons q rest ih =>
    intro hsuf ⟨hj0, hjr⟩ p hp
    rcases List.mem_cons.mp hp with rfl | hp'
    · obtain ⟨pre, hpre⟩ := hsuf
      have hcnt : 1 + (rest.map (·.2.natAbs)).count p.2.natAbs ≤ (shelfRefs cache).count p.2.natAbs := by
        rw [← hpre]
        simp only [shelfRefs, List.map_append, List.map_cons, List.count_append, List.count_cons_self]
        omega
      rw [extAdd_cons_self]
      rcases hj0 with h' | ⟨q, hq, hqe⟩ | h'
      · omega
      · have : 0 < (rest.map (·.2.natAbs)).count p.2.natAbs :=
          List.count_pos_iff.mpr (List.mem_map.mpr ⟨q, hq, hqe⟩)
        omega
      · omega
    · exact ih ((List.suffix_cons q rest).trans hsuf) hjr p hp'

/-- the loop of the checks at the end of the `try:` of `_load_json` with `load_order=True`: the
`ref < 3` assertion passes as well when every entry has three references while the shelf holds its
own (nothing is released here: EVERY entry of the shelf still holds its reference) -/
theorem checkLoopT_held (cache : List (Nat × Int)) (hn : (cache.map (·.1)).Nodup) (h1 : ∀ p ∈ cache, p.1 ≠ 1)
    (ents : List (Nat × Int)) (prev : Option Int) (m : Mgr) (e : Nat → Nat) (hsub : ∀ p ∈ ents, p ∈ cache)
    (h3 : ∀ p ∈ ents, 3 ≤ indeg m.tbl p.2.natAbs + extAdd e (p.2.natAbs :: shelfRefs cache) p.2.natAbs)
    (h : GoodState m (extAdd e (prev.toList.map Int.natAbs ++ shelfRefs cache))) :
    ∃ last r, checkLoop true cache ents prev m = (.ok (), last, { m with ref := r }) ∧
      GoodState { m with ref := r } (extAdd e (last.toList.map Int.natAbs ++ shelfRefs cache)) := by
  obtain ⟨last, r, g, hok | ⟨_, _, p, hp, hlt⟩⟩ := checkLoopC (offCalc e) true cache hn h1 ents prev m
    (shelfRefs cache) hsub (fun p hp => List.mem_map.mpr ⟨p, hsub p hp, rfl⟩) h
  · exact ⟨last, r, hok, g⟩
  · exact absurd (h3 p hp) (by omega)

theorem checkLoopT_spec {succ : List PEntry} {lm : List (Nat × Nat)} {n : Nat}
    (cache : List (Nat × Int)) (hn : (cache.map (·.1)).Nodup) :
    ∀ (ents : List (Nat × Int)) (prev : Option Int) (m : Mgr) (e : Nat → Nat),
      ents <:+ cache → ShelfOK succ lm n m.tbl cache → JustL m.tbl e ents →
      GoodState m (extAdd e (prev.toList.map Int.natAbs ++ shelfRefs cache)) →
      ∃ last r, checkLoop true cache ents prev m = (.ok (), last, { m with ref := r }) ∧
        GoodState { m with ref := r } (extAdd e (last.toList.map Int.natAbs ++ shelfRefs cache)) :=
  fun ents prev m e hsuf hc hj h => checkLoopT_held cache hn
    (fun p hp => (hc p.1 p.2 (lookup_of_mem_nodup cache hn p.1 p.2 hp)).2.2.1) ents prev m e
    (fun _ hp => hsuf.subset hp) (justL_three cache m.tbl e ents hsuf hj) h

/-- line `ln'` has `k` as a child -/
def ChildLine (ln' : JLine) (k : Nat) : Prop := ln'.lo.natAbs = k ∨ ln'.hi.natAbs = k

theorem dumpJsonF_rooted (t : Tbl) :
    ∀ f u cache out cache' out', dumpJsonF t f u cache out = .ok (cache', out') →
      (∀ ln ∈ out, ln ∈ out') ∧
      ∀ ln ∈ out', ln ∈ out ∨ ln.id = u.natAbs ∨ ∃ ln' ∈ out', ChildLine ln' ln.id := by
  intro f
  induction f with
  | zero => intro u cache out cache' out' h; simp [dumpJsonF] at h
  | succ f ih =>
    intro u cache out cache' out' h
    rcases dumpJsonF_ok h with ⟨-, -, rfl⟩ | ⟨-, -, n, c1, o1, c2, o2, -, e1, e2, -, rfl⟩
    · exact ⟨fun _ h => h, fun ln hl => Or.inl hl⟩
    obtain ⟨s1, j1⟩ := ih _ _ _ _ _ e1
    obtain ⟨s2, j2⟩ := ih _ _ _ _ _ e2
    have top : (⟨u.natAbs, n.lvl, n.lo, n.hi⟩ : JLine) ∈ o2 ++ [⟨u.natAbs, n.lvl, n.lo, n.hi⟩] :=
      List.mem_append_right _ (List.mem_singleton.mpr rfl)
    refine ⟨fun ln hl => List.mem_append_left _ (s2 ln (s1 ln hl)), ?_⟩
    intro ln hl
    rcases List.mem_append.mp hl with hl | hl
    · rcases j2 ln hl with h' | h' | ⟨ln', hl', hch⟩
      · rcases j1 ln h' with h'' | h'' | ⟨ln', hl', hch⟩
        · exact Or.inl h''
        · exact Or.inr (Or.inr ⟨_, top, Or.inl h''.symm⟩)
        · exact Or.inr (Or.inr ⟨ln', List.mem_append_left _ (s2 _ hl'), hch⟩)
      · exact Or.inr (Or.inr ⟨_, top, Or.inr h'.symm⟩)
      · exact Or.inr (Or.inr ⟨ln', List.mem_append_left _ hl', hch⟩)
    · rw [List.mem_singleton] at hl; subst hl; exact Or.inr (Or.inl rfl)

theorem dumpJsonRoots_rooted (t : Tbl) :
    ∀ roots cache out cache' out', dumpJsonRoots t roots cache out = .ok (cache', out') →
      (∀ ln ∈ out, ln ∈ out') ∧
      ∀ ln ∈ out', ln ∈ out ∨ (∃ r ∈ roots, r.natAbs = ln.id) ∨ ∃ ln' ∈ out', ChildLine ln' ln.id := by
  intro roots
  induction roots with
  | nil =>
    intro cache out cache' out' h
    simp [dumpJsonRoots] at h
    obtain ⟨rfl, rfl⟩ := h
    exact ⟨fun _ h => h, fun ln hl => Or.inl hl⟩
  | cons u rest ih =>
    intro cache out cache' out' h
    obtain ⟨c1, o1, e1, h⟩ := dumpJsonRoots_ok h
    obtain ⟨s1, j1⟩ := dumpJsonF_rooted t _ _ _ _ _ _ e1
    obtain ⟨s2, j2⟩ := ih _ _ _ _ h
    refine ⟨fun ln hl => s2 ln (s1 ln hl), ?_⟩
    intro ln hl
    rcases j2 ln hl with h' | ⟨r, hr, hrid⟩ | h'
    · rcases j1 ln h' with h'' | h'' | ⟨ln', hl', hch⟩
      · exact Or.inl h''
      · exact Or.inr (Or.inl ⟨u, List.mem_cons_self, h''.symm⟩)
      · exact Or.inr (Or.inr ⟨ln', s2 _ hl', hch⟩)
    · exact Or.inr (Or.inl ⟨r, List.mem_cons_of_mem _ hr, hrid⟩)
    · exact Or.inr (Or.inr h')

/-- every node line belongs to a root or is a child of another line -/
def Rooted (f : JsonFile) : Prop :=
  ∀ ln ∈ f.nodes, (∃ r ∈ f.roots.values, r.natAbs = ln.id) ∨ ∃ ln' ∈ f.nodes, ChildLine ln' ln.id

theorem dumpJson_rooted {m : Mgr} {roots : Roots} {f : JsonFile} (h : dumpJson m roots = .ok f) :
    Rooted f := by
  obtain ⟨_, hroots, _, cache, hc⟩ := dumpJson_parts h
  obtain ⟨_, j⟩ := dumpJsonRoots_rooted m.tbl _ _ _ _ _ hc
  intro ln hln
  rcases j ln hln with h' | h' | h'
  · simp at h'
  · left; rw [hroots]; exact h'
  · exact Or.inr h'

theorem two_le_count_shelfRefs : ∀ (l : List (Nat × Int)) (k k' : Nat) (u u' : Int), (k, u) ∈ l → (k', u') ∈ l → k ≠ k' →
    u'.natAbs = u.natAbs → 2 ≤ (shelfRefs l).count u.natAbs := by
  intro l
  induction l with
  | nil => intro k k' u u' h; cases h
  | cons p l ih =>
    intro k k' u u' h h' hk hu
    have one : ∀ (k : Nat) (w : Int), (k, w) ∈ l → w.natAbs = u.natAbs → 1 ≤ (shelfRefs l).count u.natAbs :=
      fun k w hw he => List.count_pos_iff.mpr (List.mem_map.mpr ⟨(k, w), hw, he⟩)
    have hc : (shelfRefs (p :: l)).count u.natAbs =
        (shelfRefs l).count u.natAbs + if p.2.natAbs = u.natAbs then 1 else 0 := by
      simp only [shelfRefs, List.map_cons, List.count_cons, beq_iff_eq]
    rw [hc]
    rcases List.mem_cons.mp h with h1 | h1
    · subst h1
      rcases List.mem_cons.mp h' with h2 | h2
      · cases h2; exact absurd rfl hk
      · have := one k' u' h2 hu
        rw [if_pos rfl]
        omega
    · rcases List.mem_cons.mp h' with h2 | h2
      · subst h2
        have := one k u h1 rfl
        rw [if_pos hu]
        omega
      · have := ih k k' u u' h1 h2 hk hu
        omega

/-- a line of a well-formed file is not its own child: the child's level is larger -/
theorem not_own_child {f : PickleFile} (hw : PickleWF f) {k lvl : Nat} {lo hi : Int}
    (hfind : PEntry.find f.succ k = some ⟨k, lvl, some lo, some hi⟩) (hk : k ≠ 1) :
    lo.natAbs ≠ k ∧ hi.natAbs ≠ k := by
  obtain ⟨v', w', hv', hw', -, -, -, -, -, llo, lhi⟩ := hw.succ.node _ _ hfind hk
  cases hv'; cases hw'
  constructor
  · intro h
    simp only [flevel, h, hk, ↓reduceIte, hfind] at llo
    exact absurd llo (Nat.lt_irrefl _)
  · intro h
    simp only [flevel, h, hk, ↓reduceIte, hfind] at lhi
    exact absurd lhi (Nat.lt_irrefl _)

/-- every entry of a shelf made with `find_or_add` has three references while the shelf holds its
own and the one fetched for the check: a root `Function`, ANOTHER entry for the same node (the
parent line's node IS the child when both its edges coincide), or a stored edge -/
theorem shelf_three {succ : List PEntry} {t : Tbl} {e : Nat → Nat} (cache : List (Nat × Int))
    (hn : (cache.map (·.1)).Nodup) (ht : ShelfT succ t cache)
    (hroot : ∀ k u, (k, u) ∈ cache → 0 < e u.natAbs ∨
      ∃ k' u' en c, k' ≠ k ∧ cache.lookup k' = some u' ∧ PEntry.find succ k' = some en ∧
        (en.lo = some c ∨ en.hi = some c) ∧ c.natAbs = k ∧ k ≠ 1) :
    ∀ p ∈ cache, 3 ≤ indeg t p.2.natAbs + extAdd e (p.2.natAbs :: shelfRefs cache) p.2.natAbs := by
  rintro ⟨k, u⟩ hp
  have hlk := lookup_of_mem_nodup cache hn k u hp
  have hone : 1 ≤ (shelfRefs cache).count u.natAbs :=
    List.count_pos_iff.mpr (List.mem_map.mpr ⟨(k, u), hp, rfl⟩)
  show 3 ≤ indeg t u.natAbs + extAdd e (u.natAbs :: shelfRefs cache) u.natAbs
  rw [extAdd_cons_self]
  rcases hroot k u hp with h' | ⟨k', u', en, c, hkk, hk', hen, hch, hck, hk1⟩
  · omega
  · rcases ht.kids k' u' en c u hk' hen hch (by rw [hck]; exact hk1) (by rw [hck]; exact hlk) with h'' | ⟨nd, hnd, h''⟩
    · have := two_le_count_shelfRefs cache k k' u u' hp (lookup_some_mem k' u' cache hk') (Ne.symm hkk) h''.symm
      omega
    · have : 0 < indeg t u.natAbs := by
        rcases h'' with h3 | h3
        · rw [← h3]; exact indeg_pos_of_lo hnd
        · rw [← h3]; exact indeg_pos_of_hi hnd
      omega


/-- `_copy.load_json(load_order=True)` into a manager in which dynamic reordering is not enabled
and whose variables are among those of the file (else `reorder(order)` refuses), with the
model's default iteration orders (`sched = []`) -/
theorem loadJson_true_spec (f : JsonFile) (hf : JsonWF f) (hrt : Rooted f)
    (hnd : (f.levelOfVar.map (·.1)).Nodup) (tgt : Mgr) (e : Nat → Nat)
    (hg : GoodState tgt e) (hpn : PredNodes tgt) (hheld : ∀ r ∈ tgt.roots, 0 < e r.natAbs)
    (hs0 : tgt.sched = [])
    (hsub : ∀ v : String, tgt.tbl.vars.contains v = true → v ∈ f.levelOfVar.map (·.1)) :
    ∃ roots' m', loadJson f true tgt = (.ok roots', m') ∧ Inv m' ∧ OrderOK m'.tbl ∧
      RefExact m' (extAdd e (roots'.values.map Int.natAbs)) ∧ PredNodes m' ∧
      m'.lastLen.isSome = true ∧ m'.ctx = false ∧
      (∀ v l, (v, l) ∈ f.levelOfVar → m'.tbl.vars[v]? = some l) ∧
      (∀ u : Nat, 0 < e u → m'.tbl.Mem (u : Int)) ∧
      RootsRel (fun u r => m'.tbl.Mem r ∧ ∀ α, denBy m'.tbl r α = evalJson f u α) f.roots roots' := by
  have hwf := hf.wf
  -- 0. `configure(reordering=False)`: it is not enabled
  have h0 : ({ tgt with lastLen := none } : Mgr) = tgt := by
    have := hg.off
    cases tgt
    cases this
    rfl
  -- 1. declare: the variables are exactly those of the file
  obtain ⟨m1, ed, d⟩ := declare_ok (f.levelOfVar.map (·.1)) tgt hg.inv hg.order
  have g1 := d.good hg
  have hO := g1.order
  have hkeys : ∀ v : String, m1.tbl.vars.contains v = true ↔ v ∈ f.levelOfVar.map (·.1) := by
    intro v
    rw [TreeMap.contains_eq_isSome_getElem?]
    exact ⟨fun hv => (d.only v hv).elim
      (fun h' => hsub v (by rw [TreeMap.contains_eq_isSome_getElem?]; exact h')) id, d.declared v⟩
  have hnv : m1.nvars = f.levelOfVar.length := by
    have := size_eq_of_keys m1.tbl.vars _ hnd hkeys
    simpa [Mgr.nvars, Tbl.nvars] using this
  -- 2. `reorder(order)`
  let order : List (String × Int) := f.levelOfVar.map fun x => (x.1, (x.2 : Int))
  have hlook : ∀ v l, (v, l) ∈ f.levelOfVar → order.lookup v = some (l : Int) :=
    fun v l h => lookup_map_snd (fun l : Nat => (l : Int)) f.levelOfVar hnd v l h
  have hlookinv : ∀ v p, order.lookup v = some p → ∃ l : Nat, p = (l : Int) ∧ (v, l) ∈ f.levelOfVar := by
    intro v p hp
    have hm := lookup_some_mem v p order hp
    simp only [order, List.mem_map] at hm
    obtain ⟨⟨a, b⟩, hab, heq⟩ := hm
    simp only [Prod.mk.injEq] at heq
    obtain ⟨rfl, rfl⟩ := heq
    exact ⟨b, rfl, hab⟩
  have hreq : ReqOrder order m1 := by
    refine ⟨by simp [order, hnv], ?_, ?_, ?_⟩
    · intro i hi
      obtain ⟨v, hv⟩ := hO.total i hi
      have hvv := (hO.inv v i).mpr hv
      have hvin : v ∈ f.levelOfVar.map (·.1) :=
        (hkeys v).mp (by rw [TreeMap.contains_eq_isSome_getElem?, hvv]; rfl)
      obtain ⟨⟨a, l⟩, hal, rfl⟩ := List.mem_map.mp hvin
      exact ⟨a, l, hv, hlook a l hal⟩
    · intro v p hp
      obtain ⟨l, rfl, hl⟩ := hlookinv v p hp
      have := hwf.bound v l hl
      refine ⟨by omega, ?_⟩
      rw [hnv]
      have hlen : f.toPickle.vars.length = f.levelOfVar.length := rfl
      omega
    · intro v v' p h1 h2
      obtain ⟨l, rfl, hl⟩ := hlookinv v _ h1
      obtain ⟨l', hl'e, hl'⟩ := hlookinv v' _ h2
      obtain rfl : l' = l := by omega
      exact Option.some.inj ((hf.vat_lookup hl).symm.trans (hf.vat_lookup hl'))
  have hRI : ReorderInv e m1 :=
    ⟨g1.inv, g1.order, g1.exact, Or.inl g1.ctx, by intro r hr; rw [d.roots] at hr; exact hheld r hr⟩
  obtain ⟨m2, ero, RI2, hs2, RR2, hvars2⟩ := C07_reorder_order_total e m1 hRI (d.sched.trans hs0) order hreq
  have hk2 : KeysOK m2 := by
    have := reorder_predNodes (some order) m1 (hpn.congr d.pred d.succ) (by rw [ero]; exact RI2.inv)
    rw [ero] at this; exact this.keysOK
  have g2 : GoodState m2 e :=
    ⟨RI2.inv, RI2.order, RI2.refExact, by rw [RR2.lastLen]; exact g1.off, by rw [RR2.ctx]; exact g1.ctx⟩
  have hv2 : ∀ v l, (v, l) ∈ f.levelOfVar → m2.tbl.vars[v]? = some l := by
    intro v l hvl
    have := (hvars2 v (l : Int) (hlook v l hvl)
      ((hkeys v).mpr (List.mem_map.mpr ⟨(v, l), hvl, rfl⟩))).1
    simpa using this
  -- 3. the node lines
  obtain ⟨added, m3, emk, k3, g3, c3, t3, n3, a3⟩ := makeNodesE_offT hwf _ f.nodes m2 e hf.order
    (S.lineN_of_wf hf fun v hv => by
      obtain ⟨⟨a, l⟩, hal, rfl⟩ := List.mem_map.mp hv
      exact (vars_contains_iff _ _).mpr ⟨l, hv2 a l hal⟩)
    (fun ln hln name hvat => by
      obtain ⟨v, hv, _⟩ := hf.lineVar hln
      obtain rfl : v = name := Option.some.inj ((hf.vat_lookup hv).symm.trans hvat)
      exact hv2 v ln.lvl hv)
    g2
  have hk3 : KeysOK m3 := keysOK_makeNodesE hk2 emk
  -- 4. the roots; every shelf entry will have three references in the loop of the checks
  have hks := hf.rootsOnShelf a3
  have hthree := shelf_three (e := extAdd e ((f.roots.values.map (shelfEdge added)).map Int.natAbs)) added n3 t3 (by
    intro k u hku
    have hlk := lookup_of_mem_nodup added n3 k u hku
    obtain ⟨_, _, hk1, hfk, _⟩ := c3 k u hlk
    have hkline : ∃ ln ∈ f.nodes, ln.id = k := by
      obtain ⟨en, hen⟩ := Option.isSome_iff_exists.mp hfk
      have hmem' : en ∈ (⟨1, f.levelOfVar.length, none, none⟩ : PEntry) :: f.nodes.map JLine.entry :=
        List.mem_of_find?_eq_some hen
      rcases List.mem_cons.mp hmem' with h' | h'
      · subst h'; exact absurd (PEntry.find_id hen).symm hk1
      · obtain ⟨ln, hln, rfl⟩ := List.mem_map.mp h'
        exact ⟨ln, hln, PEntry.find_id hen⟩
    obtain ⟨ln, hln, rfl⟩ := hkline
    rcases hrt ln hln with ⟨r, hr, hrid⟩ | ⟨ln', hln', hch⟩
    · -- a root `Function` is alive
      left
      have habs : (shelfEdge added r).natAbs = u.natAbs := by
        rw [shelfEdge_node (by rw [hrid]; exact hk1) (by rw [hrid]; exact hlk)]
        split <;> simp
      have : 0 < ((f.roots.values.map (shelfEdge added)).map Int.natAbs).count u.natAbs :=
        List.count_pos_iff.mpr (List.mem_map.mpr ⟨_, List.mem_map.mpr ⟨r, hr, rfl⟩, habs⟩)
      simp only [extAdd]; omega
    · right
      obtain ⟨hid', hfind'⟩ := hf.lines ln' hln'
      obtain ⟨u', hu'⟩ := Option.isSome_iff_exists.mp (a3 ln' hln')
      have hno := not_own_child hwf hfind' hid'
      rcases hch with hc' | hc'
      · exact ⟨ln'.id, u', _, ln'.lo, fun h => hno.1 (hc'.trans h.symm), hu', hfind', Or.inl rfl, hc', hk1⟩
      · exact ⟨ln'.id, u', _, ln'.hi, fun h => hno.2 (hc'.trans h.symm), hu', hfind', Or.inr rfl, hc', hk1⟩)
  -- 5. the checks, the release of the shelf's references, `assert_consistent`, `configure`
  have heldMem2 : ∀ u : Nat, 0 < e u → m2.tbl.Mem (u : Int) := fun u hu => RI2.held_mem hu
  obtain ⟨r, efin, g⟩ := jsonAfterLines_wf (offCalc e) f true hf.roots m2 m3 added emk n3 (S.shelfN_ids n3 c3) g3 hks
    (fun r4 g4 => by
      have g4' : GoodState { m3 with ref := r4 }
          (extAdd (extAdd e ((f.roots.values.map (shelfEdge added)).map Int.natAbs))
            ((none : Option Int).toList.map Int.natAbs ++ shelfRefs added)) := by
        rw [extAdd_append]
        exact (offCalc e).perm g4 (by simpa using List.perm_append_comm)
      obtain ⟨last, r, eck, g0⟩ := checkLoopT_held added n3 (S.shelfN_ids n3 c3) added none { m3 with ref := r4 } _
        (fun _ hp => hp) hthree g4'
      rw [extAdd_append] at g0
      exact ⟨last, r, eck, (offCalc e).perm g0 (List.perm_append_comm.trans (.of_eq (List.append_assoc _ _ _)))⟩)
    (hk3.predNodes g3.inv) (fun r hr => by
      rw [k3.frame.roots, RR2.roots, d.roots] at hr
      have := heldMem2 r.natAbs (hheld r hr)
      exact k3.ext.mem (by unfold Tbl.Mem at this ⊢; simpa using this))
  have g' : GoodState { m3 with ref := r } _ := g
  have hk' : KeysOK ({ m3 with ref := r } : Mgr) := hk3.congr rfl
  obtain ⟨hrel, hvals⟩ := c3.roots hf g3.inv.wf.toWF hks
  refine ⟨_, cfgAfter true { m3 with ref := r }, by
      rw [loadJson_true_eq, h0, jsonTry_header_ok f true tgt m2 (jsonHeader_true f tgt m1 m2 ed ero)]
      exact efin, ?_⟩
  simp only [cfgAfter, if_true]
  refine ⟨?_, g'.order, ?_, hk'.predNodes g'.inv, rfl, g'.ctx, ?_, ?_, ?_⟩
  · exact g'.inv.setLastLen _
  · rw [hvals]; exact g'.exact.congr rfl rfl
  · intro v l hvl
    show m3.tbl.vars[v]? = some l
    rw [k3.frame.vars]; exact hv2 v l hvl
  · intro u hu
    exact k3.ext.mem (heldMem2 u hu)
  · exact hrel.denBy_of_denN g3.inv.wf.toWF g3.order

theorem dumpJson_names_nodup {m : Mgr} {roots : Roots} {f : JsonFile} (h : dumpJson m roots = .ok f) :
    (f.levelOfVar.map (·.1)).Nodup := by
  obtain ⟨hv, _⟩ := dumpJson_parts h
  rw [hv]
  have := TreeMap.distinct_keys_toList (t := m.tbl.vars)
  rw [List.Nodup, List.pairwise_map]
  exact this.imp (fun hne heq => hne (by rw [heq]; exact compare_self))

theorem dumpJson_names {m : Mgr} {roots : Roots} {f : JsonFile} (h : dumpJson m roots = .ok f) {v : String}
    (hv : m.tbl.vars.contains v = true) : v ∈ f.levelOfVar.map (·.1) := by
  rw [TreeMap.contains_eq_isSome_getElem?] at hv
  obtain ⟨l, hl⟩ := Option.isSome_iff_exists.mp hv
  rw [(dumpJson_parts h).1]
  exact List.mem_map.mpr ⟨(v, l), TreeMap.mem_toList_iff_getElem?_eq_some.mpr hl, rfl⟩

/-- what `load_order=True` needs in addition: every line belongs to a root or is the child of
another line (else the `ref < 3` assertion of the loader fails), the names of the file are
distinct, the manager declares no other variable (else `reorder(order)` refuses), every
element of `bdd.roots` is held by the user (what `reorder` requires), and the model's default
iteration orders for the swaps (`sched = []`) -/
structure LoadOrderOK (f : JsonFile) (tgt : Mgr) (e : Nat → Nat) : Prop where
  rooted : Rooted f
  names : (f.levelOfVar.map (·.1)).Nodup
  sched : tgt.sched = []
  held : ∀ r ∈ tgt.roots, 0 < e r.natAbs
  vars : ∀ v : String, tgt.tbl.vars.contains v = true → v ∈ f.levelOfVar.map (·.1)

/-- the state after a JSON load: invariant, consistent order tables, EXACT reference counts
for the ledger "`e` plus one reference per returned `Function`", no stray unique-table entry;
dynamic reordering is enabled afterwards exactly when `load_order=True` (the dict returned by
`configure` is passed back as the value of `reordering`) -/
structure JsonLoaded (f : JsonFile) (e : Nat → Nat) (lo : Bool) (roots' : Roots) (m' : Mgr) : Prop where
  inv : Inv m'
  order : OrderOK m'.tbl
  counts : RefExact m' (extAdd e (roots'.values.map Int.natAbs))
  pred : PredNodes m'
  ctx : m'.ctx = false
  reordering : m'.lastLen.isSome = lo
  held : ∀ u : Nat, 0 < e u → m'.tbl.Mem (u : Int)
  fileOrder : lo = true → ∀ v l, (v, l) ∈ f.levelOfVar → m'.tbl.vars[v]? = some l
  roots : RootsRel (fun u r => m'.tbl.Mem r ∧ ∀ α, denBy m'.tbl r α = evalJson f u α) f.roots roots'

/-- C12 for `_copy.load_json` on a `dd.autoref.BDD`, either value of `load_order`.
The one restriction: dynamic reordering is NOT ENABLED in the receiving manager
(`GoodState tgt e`: `tgt.lastLen = none`); for `load_order=True` see `LoadOrderOK`. -/
def json_load_statement : Prop :=
  ∀ (f : JsonFile) (lo : Bool) (tgt : Mgr) (e : Nat → Nat), JsonWF f → GoodState tgt e →
    PredNodes tgt → (∀ r ∈ tgt.roots, tgt.tbl.Mem r) → (lo = true → LoadOrderOK f tgt e) →
    ∃ roots' m', loadJson f lo tgt = (.ok roots', m') ∧ JsonLoaded f e lo roots' m'

theorem json_load_holds : json_load_statement := by
  intro f lo tgt e hf hg hpn hroots hlo
  cases lo with
  | false =>
    obtain ⟨roots', m', el, g, pn, N, R⟩ := loadJson_false_spec f hf tgt e hg hpn hroots
    refine ⟨roots', m', el, g.inv, g.order, g.exact, pn, g.ctx, by rw [g.off]; rfl, ?_,
      (fun h => by cases h), R⟩
    intro u hu
    have hm := hg.exact.mem_of_ext_pos hu
    rcases hm with h1 | h1
    · exact Or.inl (by simpa using h1)
    · obtain ⟨n, hn⟩ := Option.isSome_iff_exists.mp h1
      exact Or.inr (by simp [N u n hn])
  | true =>
    obtain ⟨hrt, hnd, hs0, hheld, hvars⟩ := hlo rfl
    obtain ⟨roots', m', el, I, O, X, pn, L, C, FO, H, R⟩ :=
      loadJson_true_spec f hf hrt hnd tgt e hg hpn hheld hs0 hvars
    exact ⟨roots', m', el, I, O, X, pn, C, L, H, fun _ => FO, R⟩

end DD
