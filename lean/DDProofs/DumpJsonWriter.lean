/-
  DDProofs.DumpJsonWriter — `dump_json` writes low, high, then the node's own line: `JOut` is the
  invariant of that recursion (lines = stored triples of a successor-closed set, children first), and
  it gives `Stores` for the content read as a pickle content (`JsonFile.toPickle`), hence `dumpJson_spec`.
-/
import DDProofs.PickleDump
open Std
namespace DD

def JLine.entry (ln : JLine) : PEntry := ⟨ln.id, ln.lvl, some ln.lo, some ln.hi⟩

/-- the JSON content seen as a `vars / succ / roots` content (the terminal is implicit in
JSON: `"T"` / `"F"`) -/
def JsonFile.toPickle (f : JsonFile) : PickleFile :=
  { vars := f.levelOfVar
    succ := ⟨1, f.levelOfVar.length, none, none⟩ :: f.nodes.map JLine.entry
    roots := f.roots }

/-- semantics of a node id inside a JSON file, by variable name -/
def evalJson (f : JsonFile) (u : Int) (α : String → Bool) : Bool := evalPickle f.toPickle u α

/-- an edge of a node line points to a constant or to an EARLIER line -/
def EdgeOK (l : List JLine) (c : Int) : Prop := c.natAbs = 1 ∨ ∃ l' ∈ l, l'.id = c.natAbs

/-- children are written before parents (what `_make_node` relies on) -/
inductive ChildrenFirst : List JLine → Prop
  | nil : ChildrenFirst []
  | snoc {l : List JLine} {ln : JLine} :
      ChildrenFirst l → EdgeOK l ln.lo → EdgeOK l ln.hi → ChildrenFirst (l ++ [ln])

/-- invariant of the recursion of `_dump_bdd`: `cache` = ids of the lines written so far,
each line is the stored triple of its node, the set is closed under successors, children
come first -/
structure JOut (t : Tbl) (cache : List Nat) (out : List JLine) : Prop where
  order : ChildrenFirst out
  ids : ∀ k, k ∈ cache ↔ ∃ ln ∈ out, ln.id = k
  line : ∀ ln ∈ out, ln.id ≠ 1 ∧ t.succ[ln.id]? = some ⟨ln.lvl, ln.lo, ln.hi⟩
  closed : Closed t cache

/-- a successful `_dump_bdd(u)`: `u` is a constant or already written, and nothing is written;
or both successors were written, then the line of `u` -/
theorem dumpJsonF_ok {t : Tbl} {f : Nat} {u : Int} {cache cache' : List Nat} {out out' : List JLine}
    (h : dumpJsonF t (f + 1) u cache out = .ok (cache', out')) :
    ((u.natAbs = 1 ∨ u.natAbs ∈ cache) ∧ cache' = cache ∧ out' = out) ∨
    (u.natAbs ≠ 1 ∧ u.natAbs ∉ cache ∧ ∃ n c1 o1 c2 o2, t.succ[u.natAbs]? = some n ∧
      dumpJsonF t f n.lo cache out = .ok (c1, o1) ∧ dumpJsonF t f n.hi c1 o1 = .ok (c2, o2) ∧
      cache' = u.natAbs :: c2 ∧ out' = o2 ++ [⟨u.natAbs, n.lvl, n.lo, n.hi⟩]) := by
  rw [dumpJsonF] at h
  by_cases h1 : u.natAbs = 1
  · rw [if_pos h1] at h; cases h
    exact Or.inl ⟨Or.inl h1, rfl, rfl⟩
  rw [if_neg h1] at h
  dsimp only at h
  by_cases hc : cache.contains u.natAbs = true
  · rw [if_pos hc] at h; cases h
    exact Or.inl ⟨Or.inr (by simpa using hc), rfl, rfl⟩
  rw [if_neg hc] at h
  cases hn : t.succ[u.natAbs]? with
  | none => simp [hn] at h
  | some n =>
    simp only [hn] at h
    cases e1 : dumpJsonF t f n.lo cache out with
    | error e => simp [e1] at h
    | ok r1 =>
      obtain ⟨c1, o1⟩ := r1
      simp only [e1] at h
      cases e2 : dumpJsonF t f n.hi c1 o1 with
      | error e => simp [e2] at h
      | ok r2 =>
        obtain ⟨c2, o2⟩ := r2
        simp only [e2] at h
        cases h
        exact Or.inr ⟨h1, by simpa using hc, n, c1, o1, c2, o2, rfl, e1, e2, rfl, rfl⟩

theorem dumpJsonRoots_ok {t : Tbl} {u : Int} {rest : List Int} {cache cache' : List Nat}
    {out out' : List JLine} (h : dumpJsonRoots t (u :: rest) cache out = .ok (cache', out')) :
    ∃ c1 o1, dumpJsonF t (t.nvars + 2) u cache out = .ok (c1, o1) ∧
      dumpJsonRoots t rest c1 o1 = .ok (cache', out') := by
  rw [dumpJsonRoots] at h
  cases e1 : dumpJsonF t (t.nvars + 2) u cache out with
  | error e => simp [e1] at h
  | ok r1 => obtain ⟨c1, o1⟩ := r1; rw [e1] at h; exact ⟨c1, o1, rfl, h⟩

theorem dumpJsonF_spec (t : Tbl) :
    ∀ f u cache out cache' out', dumpJsonF t f u cache out = .ok (cache', out') → JOut t cache out →
      JOut t cache' out' ∧ (∀ x ∈ cache, x ∈ cache') ∧ (u.natAbs = 1 ∨ u.natAbs ∈ cache') := by
  intro f
  induction f with
  | zero => intro u cache out cache' out' h; simp [dumpJsonF] at h
  | succ f ih =>
    intro u cache out cache' out' h hj
    rcases dumpJsonF_ok h with ⟨hu, rfl, rfl⟩ | ⟨h1, -, n, c1, o1, c2, o2, hn, e1, e2, rfl, rfl⟩
    · exact ⟨hj, fun _ h => h, hu⟩
    obtain ⟨j1, s1, m1⟩ := ih _ _ _ _ _ e1 hj
    obtain ⟨j2, s2, m2⟩ := ih _ _ _ _ _ e2 j1
    have m1' : n.lo.natAbs = 1 ∨ n.lo.natAbs ∈ c2 := m1.imp id (s2 _)
    have toEdge : ∀ c : Int, (c.natAbs = 1 ∨ c.natAbs ∈ c2) → EdgeOK o2 c :=
      fun c hc => hc.imp id (fun h => (j2.ids _).mp h)
    refine ⟨⟨.snoc j2.order (toEdge _ m1') (toEdge _ m2), ?_, ?_, ?_⟩,
      fun x hx => List.mem_cons_of_mem _ (s2 x (s1 x hx)), Or.inr List.mem_cons_self⟩
    · intro k
      rw [List.mem_cons, j2.ids k]
      constructor
      · rintro (hk | ⟨ln, hl, hid⟩)
        · exact ⟨_, List.mem_append_right _ (List.mem_singleton.mpr rfl), hk.symm⟩
        · exact ⟨ln, List.mem_append_left _ hl, hid⟩
      · rintro ⟨ln, hl, hid⟩
        rcases List.mem_append.mp hl with hl | hl
        · exact Or.inr ⟨ln, hl, hid⟩
        · rw [List.mem_singleton] at hl; subst hl; exact Or.inl hid.symm
    · intro ln hl
      rcases List.mem_append.mp hl with hl | hl
      · exact j2.line ln hl
      · rw [List.mem_singleton] at hl; subst hl; exact ⟨h1, hn⟩
    · apply j2.closed.mono (fun x hx => List.mem_cons_of_mem _ hx)
      intro r hr hnot _
      rcases List.mem_cons.mp hr with h' | h'
      · subst h'
        exact ⟨n, hn, m1'.imp id (List.mem_cons_of_mem _), m2.imp id (List.mem_cons_of_mem _)⟩
      · exact absurd h' hnot

theorem dumpJsonRoots_spec (t : Tbl) :
    ∀ roots cache out cache' out', dumpJsonRoots t roots cache out = .ok (cache', out') →
      JOut t cache out →
      JOut t cache' out' ∧ (∀ x ∈ cache, x ∈ cache') ∧ (∀ u ∈ roots, u.natAbs = 1 ∨ u.natAbs ∈ cache') := by
  intro roots
  induction roots with
  | nil =>
    intro cache out cache' out' h hj
    simp [dumpJsonRoots] at h
    obtain ⟨rfl, rfl⟩ := h
    exact ⟨hj, fun _ h => h, by simp⟩
  | cons u rest ih =>
    intro cache out cache' out' h hj
    obtain ⟨c1, o1, e1, h⟩ := dumpJsonRoots_ok h
    obtain ⟨j1, s1, m1⟩ := dumpJsonF_spec t _ _ _ _ _ _ e1 hj
    obtain ⟨j2, s2, m2⟩ := ih _ _ _ _ h j1
    refine ⟨j2, fun x hx => s2 x (s1 x hx), ?_⟩
    intro x hx
    rcases List.mem_cons.mp hx with h' | h'
    · subst h'; exact m1.imp id (s2 _)
    · exact m2 x h'

theorem dumpJson_eq (m : Mgr) {roots : Roots} (hn : roots ≠ .none) :
    dumpJson m roots =
      if roots.values.any (fun u => !m.mem u) then .error .value else
      if roots.values.isEmpty then .error .other else
      match dumpJsonRoots m.tbl roots.values [] [] with
      | .error e => .error e
      | .ok (_, out) => .ok { levelOfVar := m.tbl.vars.toList, roots := roots, nodes := out } := by
  cases roots with
  | none => exact absurd rfl hn
  | list l => rfl
  | dict d => rfl

theorem dumpJson_parts {m : Mgr} {roots : Roots} {f : JsonFile} (h : dumpJson m roots = .ok f) :
    f.levelOfVar = m.tbl.vars.toList ∧ f.roots = roots ∧ roots ≠ .none ∧
    ∃ cache, dumpJsonRoots m.tbl roots.values [] [] = .ok (cache, f.nodes) := by
  have hn : roots ≠ .none := fun hn => by subst hn; cases h
  rw [dumpJson_eq m hn] at h
  split at h
  · cases h
  split at h
  · cases h
  split at h
  · cases h
  · next c out e => cases h; exact ⟨rfl, rfl, hn, c, e⟩

theorem find_lines (out : List JLine) (k : Nat) (h1 : k ≠ 1) (n : Nat) :
    PEntry.find (⟨1, n, none, none⟩ :: out.map JLine.entry) k =
      (out.find? (fun ln => ln.id == k)).map JLine.entry := by
  unfold PEntry.find
  rw [List.find?_cons]
  have : ((⟨1, n, none, none⟩ : PEntry).id == k) = false := by
    simp; exact fun h => h1 h.symm
  rw [this, List.find?_map]
  rfl

theorem dumpJson_jout {m : Mgr} {roots : Roots} {f : JsonFile} (h : dumpJson m roots = .ok f) :
    ∃ cache, JOut m.tbl cache f.nodes ∧ ∀ u ∈ roots.values, u.natAbs = 1 ∨ u.natAbs ∈ cache := by
  obtain ⟨_, _, _, cache, hc⟩ := dumpJson_parts h
  obtain ⟨j, _, hr⟩ := dumpJsonRoots_spec m.tbl _ _ _ _ _ hc
    ⟨.nil, by simp, by simp, by intro r hr; simp at hr⟩
  exact ⟨cache, j, hr⟩

theorem dumpJson_stores {m : Mgr} {roots : Roots} {f : JsonFile} (h : dumpJson m roots = .ok f) :
    ∃ nodes, JOut m.tbl nodes f.nodes ∧ Stores m.tbl nodes f.toPickle ∧
      (∀ u ∈ roots.values, u.natAbs = 1 ∨ u.natAbs ∈ nodes) := by
  obtain ⟨cache, j, hr⟩ := dumpJson_jout h
  refine ⟨cache, j, ⟨(dumpJson_parts h).1, j.closed, ?_, ?_⟩, hr⟩
  · intro k hk h1
    obtain ⟨ln, hl, hid⟩ := (j.ids k).mp hk
    have hex : (f.nodes.find? (fun ln => ln.id == k)).isSome := by
      rw [List.find?_isSome]; exact ⟨ln, hl, by simp [hid]⟩
    obtain ⟨ln', hln'⟩ := Option.isSome_iff_exists.mp hex
    have hid' : ln'.id = k := by simpa using List.find?_some hln'
    obtain ⟨_, hs⟩ := j.line ln' (List.mem_of_find?_eq_some hln')
    rw [hid'] at hs
    refine ⟨_, hs, ?_⟩
    show PEntry.find (_ :: f.nodes.map JLine.entry) k = _
    rw [find_lines _ _ h1, hln']
    simp [JLine.entry, hid']
  · intro k hk h1
    show PEntry.find (_ :: f.nodes.map JLine.entry) k = _
    rw [find_lines _ _ h1]
    have : f.nodes.find? (fun ln => ln.id == k) = none := by
      rw [List.find?_eq_none]
      intro ln hl hid
      exact hk ((j.ids k).mpr ⟨ln, hl, by simpa using hid⟩)
    rw [this]; rfl

/-- the JSON content `dump_json` writes is well formed and denotes, by variable name, what
the manager's references denote; the roots container is stored as given -/
theorem dumpJson_spec {m : Mgr} (hI : Inv m) (hv : DmpVarsOK m.tbl) {roots : Roots} {f : JsonFile}
    (h : dumpJson m roots = .ok f) :
    PickleWF f.toPickle ∧ f.roots = roots ∧
    ∀ α, ∀ u ∈ roots.values, evalJson f u α = denBy m.tbl u α := by
  obtain ⟨nodes, -, hst, hr⟩ := dumpJson_stores h
  exact ⟨hst.wf hI.wf.toWF hv, (dumpJson_parts h).2.1,
    fun α u hu => hst.eval hI.wf.toWF hv α u (hr u hu)⟩

theorem dumpJson_childrenFirst {m : Mgr} {roots : Roots} {f : JsonFile}
    (h : dumpJson m roots = .ok f) : ChildrenFirst f.nodes :=
  have ⟨_, j, _⟩ := dumpJson_jout h
  j.order

end DD
