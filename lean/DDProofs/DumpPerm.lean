/-
  DDProofs.DumpPerm — C12 and the ORDER of the items of a file.

  The model's `dumpPickle` writes `vars` sorted by name (`Tbl.vars` is a `TreeMap`: the insertion
  order of Python's `bdd.vars` dict is not part of the model state) and `succ` in ascending id
  order (Python: iteration order of the `set` returned by `descendants`).  `dump_json` writes the
  node lines in a DETERMINED order (low, high, then the node, root by root — the model's
  `dumpJsonF` is that recursion) but `level_of_var` in dict order.  So the file Python writes is
  a PERMUTATION of the model's file, and for JSON a permutation of `level_of_var` only.

  Permuting the items of a well-formed content changes nothing the loaders' theorems speak about
  (for JSON the permuted lines must still be "children first", which is what `_make_node` relies
  on), so the round trips hold for EVERY file `f' ≈ dump(src, roots)`.  With `levels=False` into a
  fresh manager the resulting variable order IS the file's item order; the functions by name do
  not depend on it.
-/
import DDProofs.DumpTotal
import DDProofs.DumpJsonOrder
open Std
namespace DD

theorem find?_perm_unique {α : Type} (p : α → Bool) {l l' : List α} (hp : l'.Perm l)
    (hu : ∀ a ∈ l, ∀ b ∈ l, p a = true → p b = true → a = b) : l'.find? p = l.find? p := by
  cases h : l.find? p with
  | none =>
    rw [List.find?_eq_none] at h ⊢
    intro x hx
    exact h x (hp.mem_iff.mp hx)
  | some e =>
    have he := List.find?_some h
    have hm := List.mem_of_find?_eq_some h
    cases h' : l'.find? p with
    | none =>
      rw [List.find?_eq_none] at h'
      exact absurd he (by simpa using h' e (hp.mem_iff.mpr hm))
    | some e' =>
      have he' := List.find?_some h'
      have hm' := hp.mem_iff.mp (List.mem_of_find?_eq_some h')
      rw [hu e' hm' e hm he' he]

/-- no two entries of the table have the same id (a `dict`) -/
def UniqueIds (succ : List PEntry) : Prop := ∀ a ∈ succ, ∀ b ∈ succ, a.id = b.id → a = b

theorem PEntry.find_perm {l l' : List PEntry} (hp : l'.Perm l) (hu : UniqueIds l) (k : Nat) :
    PEntry.find l' k = PEntry.find l k := by
  unfold PEntry.find
  apply find?_perm_unique _ hp
  intro a ha b hb pa pb
  have h1 : a.id = k := by simpa using pa
  have h2 : b.id = k := by simpa using pb
  exact hu a ha b hb (h1.trans h2.symm)

theorem nameAt_perm {f f' : PickleFile} (hp : f'.vars.Perm f.vars)
    (hu : ∀ a ∈ f.vars, ∀ b ∈ f.vars, a.2 = b.2 → a = b) (i : Nat) : f'.nameAt i = f.nameAt i := by
  unfold PickleFile.nameAt
  rw [find?_perm_unique _ hp]
  intro a ha b hb pa pb
  have h1 : a.2 = i := by simpa using pa
  have h2 : b.2 = i := by simpa using pb
  exact hu a ha b hb (h1.trans h2.symm)

/-- the same `vars` items, the same `succ` items, in any order; the same roots container -/
structure PickleFile.Equiv (f' f : PickleFile) : Prop where
  vars : f'.vars.Perm f.vars
  succ : f'.succ.Perm f.succ
  roots : f'.roots = f.roots

theorem PickleFile.Equiv.refl (f : PickleFile) : PickleFile.Equiv f f := ⟨.refl _, .refl _, rfl⟩

theorem PickleFile.Equiv.reverse (f : PickleFile) :
    PickleFile.Equiv { vars := f.vars.reverse, succ := f.succ.reverse, roots := f.roots } f :=
  ⟨List.reverse_perm _, List.reverse_perm _, rfl⟩

theorem VarsWF.of_items_perm {vs vs' : List (String × Nat)} (h : VarsWF vs) (hp : vs'.Perm vs) : VarsWF vs' :=
  ⟨(hp.map _).nodup_iff.mpr h.names, (hp.map _).nodup_iff.mpr h.levels,
    fun var i hm => by rw [hp.length_eq]; exact h.bound var i (hp.mem_iff.mp hm)⟩

theorem evalN_perm {f f' : PickleFile} (hs : ∀ k, PEntry.find f'.succ k = PEntry.find f.succ k)
    (hn : ∀ i, f'.nameAt i = f.nameAt i) (α : String → Bool) :
    ∀ k u, evalN f' k u α = evalN f k u α := by
  intro k
  induction k with
  | zero => intro u; rfl
  | succ k ih =>
    intro u
    rw [evalN, evalN, hs]
    split
    · rfl
    · cases PEntry.find f.succ u.natAbs with
      | none => rfl
      | some e =>
        simp only [hn]
        cases e.lo <;> cases e.hi <;> cases f.nameAt e.lvl <;> simp [ih]

theorem flevel_congr {s s' : List PEntry} (hs : ∀ k, PEntry.find s' k = PEntry.find s k) (n : Nat) (u : Int) :
    flevel s' n u = flevel s n u := by
  unfold flevel; rw [hs]

theorem fref_congr {s s' : List PEntry} (hs : ∀ k, PEntry.find s' k = PEntry.find s k) (u : Int) :
    FRef s' u ↔ FRef s u := by
  unfold FRef; rw [hs]

/-- well-formedness reads a content through `find`, `nameAt`, the set of `vars` items and their
number only -/
theorem PickleWF.congr {f f' : PickleFile} (hw : PickleWF f) (hv : ∀ p, p ∈ f'.vars ↔ p ∈ f.vars)
    (hlen : f'.vars.length = f.vars.length)
    (hs : ∀ k, PEntry.find f'.succ k = PEntry.find f.succ k) (hn : ∀ i, f'.nameAt i = f.nameAt i) :
    PickleWF f' := by
  refine ⟨fun var i hm => by rw [hlen]; exact hw.bound var i ((hv _).mp hm), ⟨?_⟩,
    fun var i hm => by rw [hn]; exact hw.names var i ((hv _).mp hm), ?_⟩
  · intro k e he h1
    rw [hs] at he
    obtain ⟨v, w, a1, a2, a3, a4, a5, a6, a7, a8, a9⟩ := hw.succ.node k e he h1
    refine ⟨v, w, a1, a2, by rw [hlen]; exact a3, a4, a5, (fref_congr hs v).mpr a6,
      (fref_congr hs w).mpr a7, ?_, ?_⟩
    · rw [flevel_congr hs, hlen]; exact a8
    · rw [flevel_congr hs, hlen]; exact a9
  · intro k e he h1
    rw [hs] at he
    obtain ⟨var, hv'⟩ := hw.lvls k e he h1
    exact ⟨var, (hv _).mpr hv'⟩

/-- PERMUTING the items of a pickle content whose `vars` pairs are a bijection and whose `succ`
keys are distinct (it was a `dict`) keeps everything the loader's theorems use: well-formedness,
the bijection, resolvable roots, and the function every id denotes by variable name -/
theorem pickle_perm {f f' : PickleFile} (h : PickleFile.Equiv f' f) (hV : VarsWF f.vars)
    (hu : UniqueIds f.succ) :
    (PickleWF f → PickleWF f') ∧ VarsWF f'.vars ∧ UniqueIds f'.succ ∧
    (RootsResolvable f → RootsResolvable f') ∧ ∀ u α, evalPickle f' u α = evalPickle f u α := by
  have hs : ∀ k, PEntry.find f'.succ k = PEntry.find f.succ k := PEntry.find_perm h.succ hu
  have hn : ∀ i, f'.nameAt i = f.nameAt i := nameAt_perm h.vars fun _ ha _ hb => eq_of_key_nodup (·.2) hV.levels ha hb
  have hlen : f'.vars.length = f.vars.length := h.vars.length_eq
  refine ⟨fun hw => hw.congr (fun _ => h.vars.mem_iff) hlen hs hn, hV.of_items_perm h.vars, ?_, fun hr => ?_,
    fun u α => ?_⟩
  · intro a ha b hb hab
    exact hu a (h.succ.mem_iff.mp ha) b (h.succ.mem_iff.mp hb) hab
  · intro u hu'
    rw [h.roots] at hu'
    rcases hr u hu' with h1 | ⟨e, he, hid⟩
    · exact Or.inl h1
    · exact Or.inr ⟨e, h.succ.mem_iff.mpr he, hid⟩
  · unfold evalPickle
    rw [hlen]
    exact evalN_perm hs hn α _ u

theorem dumpPickle_uniqueIds {m : Mgr} {roots : Roots} {f : PickleFile}
    (h : dumpPickle m roots = .ok f) : UniqueIds f.succ := by
  obtain ⟨_, _, nodes, _, hm⟩ := dumpPickle_parts h
  intro a ha b hb hab
  obtain ⟨ka, _, ea⟩ := mapM_ok_mem _ nodes f.succ hm a ha
  obtain ⟨kb, _, eb⟩ := mapM_ok_mem _ nodes f.succ hm b hb
  have h1 := (entryOf_ok ea).1
  have h2 := (entryOf_ok eb).1
  have : ka = kb := by rw [← h1, ← h2]; exact hab
  subst this
  rw [ea] at eb
  cases eb; rfl

theorem dumpPickle_equiv_spec {src : Mgr} (hIs : Inv src) (hvs : DmpVarsOK src.tbl) {roots : Roots}
    {f f' : PickleFile} (hd : dumpPickle src roots = .ok f) (he : PickleFile.Equiv f' f) :
    PickleWF f' ∧ VarsWF f'.vars ∧ RootsResolvable f' ∧ f'.roots = roots ∧
    (∀ α, ∀ u ∈ roots.values, evalPickle f' u α = denBy src.tbl u α) ∧
    (∀ (v : String) (i : Nat), (v, i) ∈ f'.vars ↔ src.tbl.vars[v]? = some i) := by
  obtain ⟨a, b, _, c, d⟩ := pickle_perm he (dumpPickle_varsWF hvs hd) (dumpPickle_uniqueIds hd)
  refine ⟨a (dumpPickle_wf hIs hvs hd), b, c (dumpPickle_resolvable hIs hd),
    he.roots.trans (roots_container hd), fun α u hu => ?_, fun v i => ?_⟩
  · rw [d]; exact dumpPickle_eval hIs hvs hd α u hu
  · rw [he.vars.mem_iff, (dumpPickle_parts hd).1, TreeMap.mem_toList_iff_getElem?_eq_some]

theorem levelsCompatible_perm (t : Tbl) {vs vs' : List (String × Nat)} (hp : vs'.Perm vs)
    (h : levelsCompatible t vs = true) : levelsCompatible t vs' = true := by
  rw [levelsCompatible_iff] at h ⊢
  intro var i hm
  exact h var i (hp.mem_iff.mp hm)

/-- C12, pickle, the DEFAULT call (`levels=True`), for EVERY file whose items are those of the
dump in some order (Python: dict insertion order of `bdd.vars`, iteration order of a `set`): the
conclusion of `pickle_roundtrip_levels`; in particular the variables end at the SOURCE's levels
whatever the order of the items -/
theorem pickle_roundtrip_levels_perm (src : Mgr) (hIs : Inv src) (hOs : OrderOK src.tbl) (roots : Roots)
    (hroots : ∀ u ∈ roots.values, src.tbl.Mem u)
    (tgt : Mgr) (hI : Inv tgt) (hO : OrderOK tgt.tbl) (hc : tgt.ctx = false)
    (hcomp : levelsCompatible tgt.tbl src.tbl.vars.toList = true) :
    ∃ f, dumpPickle src roots = .ok f ∧ ∀ f', PickleFile.Equiv f' f →
      ∃ roots' m', loadPickle f' true tgt = (.ok roots', m') ∧
        Inv m' ∧ OrderOK m'.tbl ∧ (∀ ext, RefExact tgt ext → RefExact m' ext) ∧
        (∀ (v : String) (i : Nat), src.tbl.vars[v]? = some i → m'.tbl.vars[v]? = some i) ∧
        (∀ u n, tgt.tbl.node? u = some n → m'.tbl.node? u = some n) ∧
        LoadedAs src.tbl roots m'.tbl roots' := by
  have hvs : DmpVarsOK src.tbl := hOs.toDmp
  obtain ⟨f, hd⟩ := dumpPickle_total src hIs roots hroots
  refine ⟨f, hd, fun f' he => ?_⟩
  obtain ⟨hwf, hV, hres, hr, hev, hvars⟩ := dumpPickle_equiv_spec hIs hvs hd he
  have hfv := (dumpPickle_parts hd).1
  obtain ⟨roots', m', e, I, O, X, V, N, R⟩ := pickle_load_levels f' hwf hV hres tgt hI hO hc
    (levelsCompatible_perm _ he.vars (by rw [hfv]; exact hcomp))
  exact ⟨roots', m', e, I, O, X, fun v i hvi => V v i ((hvars v i).mpr hvi), N,
    LoadedFrom.loadedAs hr hev R⟩

/-- C12, pickle, the DEFAULT call `dump(file, roots)` then `load(file)` (`levels=True`) — no
hypothesis that the dump or the loader's first loop succeeds: for references of `src`, into a
FRESH manager or any manager that passes the pre-check -/
theorem pickle_roundtrip_levels (src : Mgr) (hIs : Inv src) (hOs : OrderOK src.tbl) (roots : Roots)
    (hroots : ∀ u ∈ roots.values, src.tbl.Mem u)
    (tgt : Mgr) (hI : Inv tgt) (hO : OrderOK tgt.tbl) (hc : tgt.ctx = false)
    (hcomp : levelsCompatible tgt.tbl src.tbl.vars.toList = true) :
    ∃ f roots' m', dumpPickle src roots = .ok f ∧ loadPickle f true tgt = (.ok roots', m') ∧
      Inv m' ∧ OrderOK m'.tbl ∧ (∀ ext, RefExact tgt ext → RefExact m' ext) ∧
      (∀ (v : String) (i : Nat), src.tbl.vars[v]? = some i → m'.tbl.vars[v]? = some i) ∧
      (∀ u n, tgt.tbl.node? u = some n → m'.tbl.node? u = some n) ∧
      LoadedAs src.tbl roots m'.tbl roots' := by
  obtain ⟨f, hd, H⟩ := pickle_roundtrip_levels_perm src hIs hOs roots hroots tgt hI hO hc hcomp
  obtain ⟨roots', m', h⟩ := H f (.refl f)
  exact ⟨f, roots', m', hd, h⟩

/-- C12, pickle, `levels=False`, for EVERY order of the items of the dump, into ANY manager with
a bijective order: never refused, the dumped functions by NAME -/
theorem pickle_roundtrip_any_order_perm (src : Mgr) (hIs : Inv src) (hOs : OrderOK src.tbl) (roots : Roots)
    (hroots : ∀ u ∈ roots.values, src.tbl.Mem u)
    (tgt : Mgr) (hI : Inv tgt) (hO : OrderOK tgt.tbl) (hc : tgt.ctx = false) :
    ∃ f, dumpPickle src roots = .ok f ∧ ∀ f', PickleFile.Equiv f' f →
      ∃ roots' m', loadPickle f' false tgt = (.ok roots', m') ∧ Inv m' ∧ OrderOK m'.tbl ∧
        (∀ ext, RefExact tgt ext → RefExact m' ext) ∧
        (∀ (v : String) (i : Nat), tgt.tbl.vars[v]? = some i → m'.tbl.vars[v]? = some i) ∧
        (∀ u n, tgt.tbl.node? u = some n → m'.tbl.node? u = some n) ∧
        LoadedAs src.tbl roots m'.tbl roots' := by
  have hvs : DmpVarsOK src.tbl := hOs.toDmp
  obtain ⟨f, hd⟩ := dumpPickle_total src hIs roots hroots
  refine ⟨f, hd, fun f' he => ?_⟩
  obtain ⟨hwf, _, hres, hr, hev, _⟩ := dumpPickle_equiv_spec hIs hvs hd he
  obtain ⟨roots', m', e, I, O, X, V, N, R⟩ := pickle_load_false_any f' hwf hres tgt hI hO hc
  exact ⟨roots', m', e, I, O, X, V, N, LoadedFrom.loadedAs hr hev R⟩

theorem loadVars_false_positions (n : Nat) :
    ∀ (vs : List (String × Nat)) (lm : List (Nat × Nat)) (m : Mgr), Inv m → OrderOK m.tbl →
      (vs.map (·.1)).Nodup → (∀ p ∈ vs, m.tbl.vars[p.1]? = none) → (∀ p ∈ vs, p.2 < n) →
      ∃ lm' m', loadVars false n vs lm m = (.ok lm', m') ∧
        (∀ k (hk : k < vs.length), m'.tbl.vars[(vs[k]).1]? = some (m.nvars + k)) ∧
        (∀ (v : String) (i : Nat), m.tbl.vars[v]? = some i → m'.tbl.vars[v]? = some i) ∧
        m'.nvars = m.nvars + vs.length := by
  intro vs
  induction vs with
  | nil => intro lm m _ _ _ _ _; exact ⟨lm, m, rfl, (fun k hk => by cases hk), fun _ _ h => h, rfl⟩
  | cons x rest ih =>
    intro lm m hI hO hnd hnew hb
    obtain ⟨var, i⟩ := x
    rw [List.map_cons, List.nodup_cons] at hnd
    have hex : m.tbl.vars[var]? = none := hnew (var, i) List.mem_cons_self
    rw [loadVars_cons, if_neg (not_not_intro (hb (var, i) List.mem_cons_self)),
      if_neg Bool.false_ne_true, M.bind_ok (addVar_new m var hex hO.l2v_none)]
    have hv : ∀ v, (addVarState m var).tbl.vars[v]? = if var = v then some m.nvars else m.tbl.vars[v]? :=
      fun v => getElem?_insert_eq _ _ _ _
    obtain ⟨hI', hO', -⟩ := addVar_new_spec m hI hO var hex
    have hn' : (addVarState m var).nvars = m.nvars + 1 := addVarState_nvars m var hex
    obtain ⟨lm', m', e, P, K, N⟩ := ih ((i, m.nvars) :: lm) (addVarState m var) hI' hO' hnd.2
      (fun p hp => by
        rw [hv, if_neg (fun h => hnd.1 (List.mem_map.mpr ⟨p, hp, h.symm⟩))]
        exact hnew p (List.mem_cons_of_mem _ hp))
      (fun p hp => hb p (List.mem_cons_of_mem _ hp))
    refine ⟨lm', m', e, ?_, ?_, by rw [N, hn']; simp; omega⟩
    · intro k hk
      cases k with
      | zero => simpa using K var m.nvars (by rw [hv, if_pos rfl])
      | succ k =>
        have := P k (by simpa using hk)
        rw [hn'] at this
        simpa [Nat.add_assoc, Nat.add_comm 1 k] using this
    · intro v i' hvi
      refine K v i' ?_
      rw [hv, if_neg (fun h => by subst h; rw [hex] at hvi; cases hvi)]
      exact hvi

theorem loadPickle_false_vars (f : PickleFile) (tgt : Mgr) (hI : Inv tgt) (hc : tgt.ctx = false)
    (lm : List (Nat × Nat)) (m1 : Mgr)
    (hv : loadVars false f.vars.length f.vars [] tgt = (.ok lm, m1)) :
    (loadPickle f false tgt).2.tbl.vars = m1.tbl.vars := by
  rw [loadPickle_of_compat f false tgt (fun h => by cases h), loadPickleBody_eq, M.bind_ok hv,
    bind_liftE_state]
  have k1 := (leaves_loadVars false f.vars.length f.vars [] tgt ⟨hI, hc⟩).1
  rw [hv] at k1
  exact (addsNodes_loadAll f.succ lm _ f.succ {} m1 k1).2.1.frame.vars

/-- the same `level_of_var` items and the same node lines, in any order; the same roots -/
structure JsonFile.Equiv (f' f : JsonFile) : Prop where
  vars : f'.levelOfVar.Perm f.levelOfVar
  nodes : f'.nodes.Perm f.nodes
  roots : f'.roots = f.roots

theorem JsonFile.Equiv.refl (f : JsonFile) : JsonFile.Equiv f f := ⟨.refl _, .refl _, rfl⟩

theorem JLine.entry_inj {a b : JLine} (h : a.entry = b.entry) : a = b := by
  cases a; cases b
  simp only [JLine.entry, PEntry.mk.injEq, Option.some.injEq] at h
  obtain ⟨rfl, rfl, rfl, rfl⟩ := h
  rfl

theorem JsonWF.uniqueIds {f : JsonFile} (hf : JsonWF f) : UniqueIds f.toPickle.succ := by
  have key : ∀ a ∈ f.toPickle.succ, PEntry.find f.toPickle.succ a.id = some a := by
    intro a ha
    have ha' : a ∈ (⟨1, f.levelOfVar.length, none, none⟩ : PEntry) :: f.nodes.map JLine.entry := ha
    rcases List.mem_cons.mp ha' with rfl | h
    · show List.find? _ (_ :: _) = _
      simp
    · obtain ⟨ln, hln, rfl⟩ := List.mem_map.mp h
      exact (hf.lines ln hln).2
  intro a ha b hb hab
  have h1 := key a ha
  have h2 := key b hb
  rw [hab, h2] at h1
  cases h1; rfl

theorem PickleWF.uniqueLevels {f : PickleFile} (hw : PickleWF f) :
    ∀ a ∈ f.vars, ∀ b ∈ f.vars, a.2 = b.2 → a = b := by
  intro a ha b hb hab
  have h1 := hw.names a.1 a.2 ha
  have h2 := hw.names b.1 b.2 hb
  rw [hab, h2] at h1
  cases a; cases b
  simp only at hab h1 ⊢
  cases h1; subst hab; rfl

/-- PERMUTING `level_of_var` and the node lines of a well-formed JSON content, the lines still
children-first (the one thing `_make_node` relies on): still well formed, every id denotes the
same function by name, still rooted -/
theorem json_perm {f f' : JsonFile} (h : JsonFile.Equiv f' f) (hf : JsonWF f)
    (hcf : ChildrenFirst f'.nodes) :
    JsonWF f' ∧ (∀ u α, evalJson f' u α = evalJson f u α) ∧ (Rooted f → Rooted f') := by
  have hlen : f'.levelOfVar.length = f.levelOfVar.length := h.vars.length_eq
  have hsp : f'.toPickle.succ.Perm f.toPickle.succ := by
    show ((⟨1, f'.levelOfVar.length, none, none⟩ : PEntry) :: f'.nodes.map JLine.entry).Perm
      ((⟨1, f.levelOfVar.length, none, none⟩ : PEntry) :: f.nodes.map JLine.entry)
    rw [hlen]
    exact List.Perm.cons _ (h.nodes.map _)
  have hu := hf.uniqueIds
  have hs : ∀ k, PEntry.find f'.toPickle.succ k = PEntry.find f.toPickle.succ k := PEntry.find_perm hsp hu
  have hn : ∀ i, f'.toPickle.nameAt i = f.toPickle.nameAt i :=
    nameAt_perm (f := f.toPickle) (f' := f'.toPickle) h.vars hf.wf.uniqueLevels
  have hw := hf.wf
  have hvl : f'.toPickle.vars.length = f.toPickle.vars.length := hlen
  have hwf' : PickleWF f'.toPickle := hw.congr (fun _ => h.vars.mem_iff) hvl hs hn
  refine ⟨⟨hwf', hcf, by rw [h.roots]; exact hf.roots, ?_, ?_⟩, fun u α => ?_, fun hr => ?_⟩
  · intro u hu'
    have hu'' : u ∈ f.toPickle.roots.values := by
      show u ∈ f.roots.values
      rw [← h.roots]; exact hu'
    rcases hf.res u hu'' with h1 | ⟨e, he, hid⟩
    · exact Or.inl h1
    · exact Or.inr ⟨e, hsp.mem_iff.mpr he, hid⟩
  · intro ln hln
    obtain ⟨a, b⟩ := hf.lines ln (h.nodes.mem_iff.mp hln)
    exact ⟨a, by rw [hs]; exact b⟩
  · unfold evalJson evalPickle
    rw [hvl]
    exact evalN_perm hs hn α _ u
  · intro ln hln
    rcases hr ln (h.nodes.mem_iff.mp hln) with ⟨r, hr', hid⟩ | ⟨ln', hln', hc⟩
    · exact Or.inl ⟨r, by rw [h.roots]; exact hr', hid⟩
    · exact Or.inr ⟨ln', h.nodes.mem_iff.mpr hln', hc⟩

/-- JSON round trip (either `load_order`, reordering not enabled in the target) for a file whose
`level_of_var` items and node lines are those of the dump in some order, the lines children-first
(Python writes the lines in the order of the model; `level_of_var` in the insertion order of
`bdd.vars`) -/
theorem json_roundtrip_equiv {src : Mgr} (hIs : Inv src) (hvs : DmpVarsOK src.tbl) {roots : Roots}
    {f f' : JsonFile} (hd : dumpJson src roots = .ok f) (he : JsonFile.Equiv f' f)
    (hcf : ChildrenFirst f'.nodes) (lo : Bool) (tgt : Mgr) (e : Nat → Nat) (hg : GoodState tgt e)
    (hpn : PredNodes tgt) (hr : ∀ r ∈ tgt.roots, tgt.tbl.Mem r)
    (hlo : lo = true → tgt.sched = [] ∧ (∀ r ∈ tgt.roots, 0 < e r.natAbs) ∧
      ∀ v : String, tgt.tbl.vars.contains v = true → src.tbl.vars.contains v = true) :
    ∃ roots' m', loadJson f' lo tgt = (.ok roots', m') ∧ JsonLoaded f' e lo roots' m' ∧
      LoadedAs src.tbl roots m'.tbl roots' := by
  obtain ⟨-, hroots', -⟩ := dumpJson_parts hd
  obtain ⟨_, _, hev⟩ := dumpJson_spec hIs hvs hd
  obtain ⟨hf', hev', hrt⟩ := json_perm he (dumpJson_jsonWF hIs hvs hd) hcf
  obtain ⟨roots', m', el, L⟩ := json_load_holds f' lo tgt e hf' hg hpn hr fun h =>
    have ⟨a, b, c⟩ := hlo h
    ⟨hrt (dumpJson_rooted hd), (he.vars.map _).nodup_iff.mpr (dumpJson_names_nodup hd), a, b,
      fun v hv => (he.vars.map _).mem_iff.mpr (dumpJson_names hd (c v hv))⟩
  have R := L.roots
  rw [he.roots, hroots'] at R
  exact ⟨roots', m', el, L, R.loadedAs fun α u hu => (hev' u α).trans (hev α u hu)⟩

/-- C12, JSON round trip, either value of `load_order`; reordering not enabled in the target -/
def json_roundtrip_statement : Prop :=
  ∀ (src : Mgr) (roots : Roots) (f : JsonFile) (lo : Bool) (tgt : Mgr) (e : Nat → Nat),
    Inv src → DmpVarsOK src.tbl → dumpJson src roots = .ok f →
    GoodState tgt e → PredNodes tgt → (∀ r ∈ tgt.roots, tgt.tbl.Mem r) →
    (lo = true → tgt.sched = [] ∧ (∀ r ∈ tgt.roots, 0 < e r.natAbs) ∧
      ∀ v : String, tgt.tbl.vars.contains v = true → src.tbl.vars.contains v = true) →
    ∃ roots' m', loadJson f lo tgt = (.ok roots', m') ∧ JsonLoaded f e lo roots' m' ∧
      LoadedAs src.tbl roots m'.tbl roots'

theorem json_roundtrip_holds : json_roundtrip_statement :=
  fun _ _ f lo tgt e hIs hvs hd hg hpn hroots hlo =>
    json_roundtrip_equiv hIs hvs hd (.refl f) (dumpJson_jsonWF hIs hvs hd).order lo tgt e hg hpn hroots hlo

theorem levelsCompatible_declared (t : Tbl) (vs : List (String × Nat))
    (h : ∀ var i, (var, i) ∈ vs → t.vars[var]? = some i) : levelsCompatible t vs = true := by
  rw [levelsCompatible_iff]
  intro var i hm
  have hv := h var i hm
  exact ⟨fun j hj => by rw [hv] at hj; cases hj; rfl, fun hn => by rw [hv] at hn; cases hn⟩

/-- `dump(file, roots); load(file, levels)` into a manager that already declares the source's
variables at the source's levels (possibly more variables, pre-existing nodes), either `levels`,
every order of the file's items: no hypothesis that the dump or the declaration loop succeeds -/
theorem pickle_roundtrip_declared_total (src : Mgr) (hIs : Inv src) (hOs : OrderOK src.tbl) (roots : Roots)
    (hroots : ∀ u ∈ roots.values, src.tbl.Mem u) (levels : Bool)
    (tgt : Mgr) (hI : Inv tgt) (hO : OrderOK tgt.tbl) (hc : tgt.ctx = false)
    (hdecl : ∀ (var : String) (i : Nat), src.tbl.vars[var]? = some i → tgt.tbl.vars[var]? = some i) :
    ∃ f, dumpPickle src roots = .ok f ∧ ∀ f', PickleFile.Equiv f' f →
      ∃ roots' m', loadPickle f' levels tgt = (.ok roots', m') ∧ Inv m' ∧ OrderOK m'.tbl ∧
        (∀ ext, RefExact tgt ext → RefExact m' ext) ∧
        (∀ (v : String) (i : Nat), tgt.tbl.vars[v]? = some i → m'.tbl.vars[v]? = some i) ∧
        (∀ u n, tgt.tbl.node? u = some n → m'.tbl.node? u = some n) ∧
        LoadedAs src.tbl roots m'.tbl roots' := by
  cases levels with
  | false => exact pickle_roundtrip_any_order_perm src hIs hOs roots hroots tgt hI hO hc
  | true =>
    have hcomp : levelsCompatible tgt.tbl src.tbl.vars.toList = true :=
      levelsCompatible_declared _ _ (fun var i hm =>
        hdecl var i (TreeMap.mem_toList_iff_getElem?_eq_some.mp hm))
    obtain ⟨f, hd, H⟩ := pickle_roundtrip_levels_perm src hIs hOs roots hroots tgt hI hO hc hcomp
    refine ⟨f, hd, fun f' he => ?_⟩
    obtain ⟨roots', m', e, I, O, X, _, N, R⟩ := H f' he
    have L := loadPickle_leaves f' true tgt hI hc
    rw [e] at L
    exact ⟨roots', m', e, I, O, X, L.kept.vars, N, R⟩

end DD
