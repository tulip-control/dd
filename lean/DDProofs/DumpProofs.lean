/-
  DDProofs.DumpProofs — C12 for `BDD.load` and the pickle round trip, joined from the parts:
  the first loop (LoadVarsProofs) builds the `LMOK` the node walk needs (PickleLoadWalk) —
  `pickle_load_vars` — and a dumped content (PickleDump) is one it accepts — `pickle_roundtrip`.
-/
import DDProofs.PickleLoadWalk
import DDProofs.LoadVarsProofs
import DDProofs.PickleDump
open Std
namespace DD

/-- `BDD.load` on a well-formed file content: if the loader accepts the variables
(`_load_pickle`'s first loop succeeds) and leaves no level gap, the load succeeds, the
manager invariant is kept, old nodes are untouched, the variable tables are those the first
loop left, and the result is `LoadedFrom` the file — for either value of `levels`, any variable
order of the receiving manager, constant roots, or no roots. -/
theorem pickle_load_vars (f : PickleFile) (levels : Bool)
    (m : Mgr) (hI : Inv m) (hb : DmpVarsBij m.tbl) (hc : m.ctx = false)
    (hwf : PickleWF f) (hr : RootsResolvable f)
    (lm : List (Nat × Nat)) (m1 : Mgr)
    (hv : loadVars levels f.vars.length f.vars [] m = (.ok lm, m1))
    (hg : Contig m1.tbl)
    (hperm : levels = true → levelsPermutation f.vars = true) :
    ∃ roots' m', loadPickle f levels m = (.ok roots', m') ∧ Inv m' ∧ DmpVarsBij m'.tbl ∧
      Contig m'.tbl ∧ m'.ctx = false ∧ (∀ u n, m.tbl.node? u = some n → m'.tbl.node? u = some n) ∧
      LoadedFrom f m'.tbl roots' ∧ m'.tbl.vars = m1.tbl.vars ∧ m'.tbl.l2v = m1.tbl.l2v := by
  obtain ⟨I1, B1, C1, S1, M1, R1, D1, _⟩ :=
    loadVars_spec Inv levels f.vars.length f.vars (fun m var i j m' _ hJ h => addVar_inv hJ h)
      [] m lm m1 hv hI hb
  have hl : LMOK f lm m1.tbl.asg m1.nvars := by
    constructor
    intro k e he h1
    obtain ⟨var, hvar⟩ := hwf.lvls k e he h1
    obtain ⟨j, hj⟩ := Option.isSome_iff_exists.mp (D1 var e.lvl hvar)
    rcases R1 _ _ hj with h | ⟨v, hv1, hv2⟩
    · cases h
    · exact ⟨j, v, hj, hg v j hv2, hwf.names v _ hv1, fun α => by simp [Tbl.asg, (B1 v j).mp hv2]⟩
  obtain ⟨roots', m', e1, I2, F2, X2, RR⟩ :=
    loadPickle_core f levels lm _ m m1 hv I1 (C1.trans hc) hwf hl hr
      (fun hlv => ⟨hperm hlv, by subst hlv; exact loadVars_true_compat _ _ _ _ _ _ hv hb⟩)
  refine ⟨roots', m', e1, I2, fun v l => by rw [F2.vars, F2.l2v]; exact B1 v l,
    fun v l h => by rw [← X2.nvars]; exact hg v l (F2.vars ▸ h), F2.ctx.trans (C1.trans hc),
    fun u n hn' => X2.nodes u n (by unfold Tbl.node? at hn' ⊢; rw [S1]; exact hn'),
    RR.imp fun u r ⟨h1, h2⟩ => ⟨h1, fun α => ?_⟩, F2.vars, F2.l2v⟩
  -- the order tables are those the first loop left: names are read as then
  unfold denBy Tbl.asg
  rw [F2.l2v]
  exact h2 α

theorem pickle_load (f : PickleFile) (levels : Bool)
    (m : Mgr) (hI : Inv m) (hb : DmpVarsBij m.tbl) (hc : m.ctx = false)
    (hwf : PickleWF f) (hr : RootsResolvable f)
    (lm : List (Nat × Nat)) (m1 : Mgr)
    (hv : loadVars levels f.vars.length f.vars [] m = (.ok lm, m1))
    (hg : Contig m1.tbl)
    (hperm : levels = true → levelsPermutation f.vars = true) :
    ∃ roots' m', loadPickle f levels m = (.ok roots', m') ∧ Inv m' ∧ DmpVarsBij m'.tbl ∧
      Contig m'.tbl ∧ m'.ctx = false ∧ (∀ u n, m.tbl.node? u = some n → m'.tbl.node? u = some n) ∧
      LoadedFrom f m'.tbl roots' := by
  obtain ⟨r, m', a, b, c, d, e, g, h, _⟩ := pickle_load_vars f levels m hI hb hc hwf hr lm m1 hv hg hperm
  exact ⟨r, m', a, b, c, d, e, g, h⟩

/-- C12 for `BDD.load`, conditional on the loader's first loop: every well-formed pickle content
whose variables the loader accepts (`loadVars` returns, leaving no level gap — two hypotheses about
an intermediate state of the call) loads without error into a manager satisfying the invariant,
keeps the invariant, and returns the file's roots in the same container shape denoting, by variable
name, what the file says.  No condition on `levels`, on the variable order of the receiving
manager, on constant roots, or on `roots` being present.  `pickle_load_false_any` and
`pickle_load_levels` discharge the two hypotheses for `levels=False` and `levels=True`. -/
def pickle_load_statement : Prop :=
  ∀ (f : PickleFile) (levels : Bool) (tgt : Mgr), PickleWF f → RootsResolvable f →
    Inv tgt → DmpVarsBij tgt.tbl → tgt.ctx = false →
    (levels = true → levelsPermutation f.vars = true) →
    ∀ lm m1, loadVars levels f.vars.length f.vars [] tgt = (.ok lm, m1) → Contig m1.tbl →
    ∃ roots' m', loadPickle f levels tgt = (.ok roots', m') ∧ Inv m' ∧ LoadedFrom f m'.tbl roots'

/-- C12, pickle, general form: dump `roots` (list, dict or `None`; constants allowed) of
`src`, load the content into `tgt` with either value of `levels`, whatever the variable
order of `tgt`.  The only hypotheses beyond the invariants: the loader accepts the
variables (it may refuse with `levels=True`) and leaves no level gap (F7). -/
theorem pickle_roundtrip
    (src : Mgr) (hIs : Inv src) (hvs : DmpVarsOK src.tbl)
    (roots : Roots) (f : PickleFile) (hd : dumpPickle src roots = .ok f)
    (levels : Bool) (tgt : Mgr) (hI : Inv tgt) (hb : DmpVarsBij tgt.tbl) (hc : tgt.ctx = false)
    (lm : List (Nat × Nat)) (m1 : Mgr)
    (hv : loadVars levels f.vars.length f.vars [] tgt = (.ok lm, m1))
    (hg : Contig m1.tbl) :
    ∃ roots' m', loadPickle f levels tgt = (.ok roots', m') ∧ Inv m' ∧ DmpVarsBij m'.tbl ∧
      (∀ u n, tgt.tbl.node? u = some n → m'.tbl.node? u = some n) ∧
      LoadedAs src.tbl roots m'.tbl roots' := by
  obtain ⟨roots', m', e, I, B, _, _, N, R⟩ :=
    pickle_load f levels tgt hI hb hc (dumpPickle_wf hIs hvs hd) (dumpPickle_resolvable hIs hd)
      lm m1 hv hg (fun _ => dumpPickle_levelsPerm hvs hd)
  exact ⟨roots', m', e, I, B, N, loadedAs_of_loadedFrom hIs hvs hd R⟩

/-- C12, pickle, into a manager that already declares the variables at the same levels
(in particular: into the SAME manager), either value of `levels` -/
theorem pickle_roundtrip_declared
    (src : Mgr) (hIs : Inv src) (hvs : DmpVarsOK src.tbl)
    (roots : Roots) (f : PickleFile) (hd : dumpPickle src roots = .ok f)
    (levels : Bool) (tgt : Mgr) (hI : Inv tgt) (hb : DmpVarsBij tgt.tbl) (hg : Contig tgt.tbl)
    (hc : tgt.ctx = false)
    (hdecl : ∀ (var : String) (i : Nat), src.tbl.vars[var]? = some i → tgt.tbl.vars[var]? = some i) :
    ∃ roots' m', loadPickle f levels tgt = (.ok roots', m') ∧ Inv m' ∧ DmpVarsBij m'.tbl ∧
      (∀ u n, tgt.tbl.node? u = some n → m'.tbl.node? u = some n) ∧
      LoadedAs src.tbl roots m'.tbl roots' := by
  obtain ⟨hvars, _, _⟩ := dumpPickle_parts hd
  have hlen : f.vars.length = src.tbl.nvars := by rw [hvars]; exact length_vars_toList _
  have hmem : ∀ var i, (var, i) ∈ f.vars → tgt.tbl.vars[var]? = some i ∧ i < f.vars.length := by
    intro var i h
    rw [hvars, TreeMap.mem_toList_iff_getElem?_eq_some] at h
    exact ⟨hdecl var i h, by rw [hlen]; exact hvs.contig var i h⟩
  obtain ⟨lm, hv⟩ := loadVars_declared levels f.vars.length f.vars [] tgt hmem
  exact pickle_roundtrip src hIs hvs roots f hd levels tgt hI hb hc lm tgt hv hg

end DD
