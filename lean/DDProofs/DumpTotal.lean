/-
  DDProofs.DumpTotal — `dump` cannot fail on references of the manager, the pairs a dump writes
  are a bijection onto `0..n-1` (`VarsWF`), and so the default `load(levels=True)` into a fresh or
  compatible manager, like `load(levels=False)` into any manager with a bijective order, needs no
  hypothesis about the loader's intermediate state.
-/
import DDProofs.LoadRejected
import DDProofs.DumpJsonWriter
open Std
namespace DD

theorem mapM_total {α β : Type} {f : α → Except Err β} :
    ∀ (l : List α), (∀ x ∈ l, ∃ y, f x = .ok y) → ∃ l', l.mapM f = .ok l' := by
  intro l h
  obtain ⟨l', e, _⟩ := mapM_forall₂ (P := fun _ _ => True) l (fun x hx => by
    obtain ⟨y, hy⟩ := h x hx; exact ⟨y, hy, trivial⟩)
  exact ⟨l', e⟩

/-- `BDD.dump(file.p, roots)` (and `roots=None`): every root a reference of the manager ⇒ a
content is written -/
theorem dumpPickle_total (m : Mgr) (hI : Inv m) (roots : Roots) (hr : ∀ u ∈ roots.values, m.tbl.Mem u) :
    ∃ f, dumpPickle m roots = .ok f := by
  have hW := hI.wf.toWF
  have hnodes : ∃ nodes, dumpNodes m.tbl roots = .ok nodes ∧
      ∀ k ∈ nodes, k = 1 ∨ (m.tbl.succ[k]?).isSome := by
    by_cases hn : roots = .none
    · subst hn
      refine ⟨allNodes m.tbl, rfl, fun k hk => (List.mem_cons.mp hk).imp id fun h => ?_⟩
      rw [TreeMap.mem_keys, TreeMap.mem_iff_isSome_getElem?] at h
      exact h
    · obtain ⟨nodes, e, _, _⟩ := descendants_spec hW roots.values hr
      refine ⟨nodes, by rw [dumpNodes_eq _ hn]; exact e, fun k hk => ?_⟩
      obtain ⟨c, _, _⟩ := descendants_closed hW roots.values nodes e
      by_cases h1 : k = 1
      · exact Or.inl h1
      · obtain ⟨n, hn, _⟩ := c k hk h1
        right; rw [hn]; rfl
  obtain ⟨nodes, e1, hk⟩ := hnodes
  obtain ⟨succ, e2⟩ := mapM_total (f := entryOf m.tbl) nodes (fun k hkk => by
    unfold entryOf
    by_cases h1 : k = 1
    · exact ⟨⟨1, m.tbl.nvars, none, none⟩, by simp [h1]⟩
    · rcases hk k hkk with h | h
      · exact absurd h h1
      · obtain ⟨n, hn⟩ := Option.isSome_iff_exists.mp h
        exact ⟨⟨k, n.lvl, some n.lo, some n.hi⟩, by simp [h1, hn]⟩)
  exact ⟨{ vars := m.tbl.vars.toList, succ := succ, roots := roots }, by
    unfold dumpPickle; rw [e1]; simp only [e2]⟩

theorem dumpJsonF_total (t : Tbl) (hw : WF t) :
    ∀ (f : Nat) (u : Int) (cache : List Nat) (out : List JLine), t.Mem u →
      t.nvars + 1 ≤ f + t.levelOf u → ∃ r, dumpJsonF t f u cache out = .ok r := by
  intro f
  induction f with
  | zero => intro u _ _ _ hf; have := levelOf_le t hw u; omega
  | succ f ih =>
    intro u cache out hm hf
    unfold dumpJsonF
    by_cases h1 : u.natAbs = 1
    · exact ⟨(cache, out), by simp [h1]⟩
    simp only [h1, if_false]
    by_cases hc : cache.contains u.natAbs = true
    · exact ⟨(cache, out), by rw [if_pos hc]⟩
    rw [if_neg hc]
    rcases hm with h | h
    · exact absurd h h1
    obtain ⟨n, hn⟩ := Option.isSome_iff_exists.mp h
    have hn' : t.succ[u.natAbs]? = some n := hn
    simp only [hn']
    have hlv : t.levelOf u = n.lvl := by simp [Tbl.levelOf, h1, hn]
    have hlo := hw.lo_lt _ _ hn
    have hhi := hw.hi_lt _ _ hn
    obtain ⟨r1, e1⟩ := ih n.lo cache out (hw.lo_mem _ _ hn) (by omega)
    rw [e1]
    obtain ⟨c1, o1⟩ := r1
    dsimp only
    obtain ⟨r2, e2⟩ := ih n.hi c1 o1 (hw.hi_mem _ _ hn) (by omega)
    rw [e2]
    obtain ⟨c2, o2⟩ := r2
    exact ⟨(u.natAbs :: c2, o2 ++ [⟨u.natAbs, n.lvl, n.lo, n.hi⟩]), rfl⟩

theorem dumpJsonRoots_total (t : Tbl) (hw : WF t) :
    ∀ (us : List Int) (cache : List Nat) (out : List JLine), (∀ u ∈ us, t.Mem u) →
      ∃ r, dumpJsonRoots t us cache out = .ok r := by
  intro us
  induction us with
  | nil => intro cache out _; exact ⟨_, rfl⟩
  | cons u rest ih =>
    intro cache out hm
    obtain ⟨r1, e1⟩ := dumpJsonF_total t hw (t.nvars + 2) u cache out (hm u List.mem_cons_self)
      (by have := levelOf_le t hw u; omega)
    obtain ⟨c1, o1⟩ := r1
    obtain ⟨r2, e2⟩ := ih c1 o1 (fun x hx => hm x (List.mem_cons_of_mem _ hx))
    exact ⟨r2, by rw [dumpJsonRoots, e1]; exact e2⟩

/-- `autoref.BDD.dump(file.json, roots)`: a non-empty container of references of the manager ⇒
a content is written -/
theorem dumpJson_total (m : Mgr) (hI : Inv m) (roots : Roots) (hn : roots ≠ .none)
    (hne : roots.values ≠ []) (hr : ∀ u ∈ roots.values, m.tbl.Mem u) :
    ∃ f, dumpJson m roots = .ok f := by
  obtain ⟨⟨c, out⟩, e⟩ := dumpJsonRoots_total m.tbl hI.wf.toWF roots.values [] [] hr
  have h1 : roots.values.any (fun u => !m.mem u) = false := by
    rw [List.any_eq_false]
    intro u hu
    simp [(Mgr.mem_iff m u).mpr (hr u hu)]
  have h2 : roots.values.isEmpty = false := by
    cases hv : roots.values with
    | nil => exact absurd hv hne
    | cons _ _ => rfl
  refine ⟨{ levelOfVar := m.tbl.vars.toList, roots := roots, nodes := out }, ?_⟩
  simp only [dumpJson_eq m hn, h1, h2, Bool.false_eq_true, if_false, e]

theorem dumpPickle_varsWF {m : Mgr} (hv : DmpVarsOK m.tbl) {roots : Roots} {f : PickleFile}
    (h : dumpPickle m roots = .ok f) : VarsWF f.vars := by
  rw [(dumpPickle_parts h).1]; exact varsWF_toList m.tbl hv

/-- `BDD.load(file, levels=True)` (the default) of ANY well-formed content whose pairs are a
bijection, into a manager with a bijective order that passes the pre-check (a fresh manager, or
one with some of the file's variables at the file's levels and the other levels free): returns;
invariant, order a bijection, counts exact for the same ledger, old nodes kept, roots by name -/
theorem pickle_load_levels (f : PickleFile) (hwf : PickleWF f) (hV : VarsWF f.vars)
    (hr : RootsResolvable f) (m : Mgr) (hI : Inv m) (hO : OrderOK m.tbl) (hc : m.ctx = false)
    (hcomp : levelsCompatible m.tbl f.vars = true) :
    ∃ roots' m', loadPickle f true m = (.ok roots', m') ∧ Inv m' ∧ OrderOK m'.tbl ∧
      (∀ ext, RefExact m ext → RefExact m' ext) ∧
      (∀ var i, (var, i) ∈ f.vars → m'.tbl.vars[var]? = some i) ∧
      (∀ u n, m.tbl.node? u = some n → m'.tbl.node? u = some n) ∧ LoadedFrom f m'.tbl roots' := by
  obtain ⟨lm, m1, hv, O1, N1, _⟩ := loadVars_true_total f.vars hV m hO hcomp
  obtain ⟨roots', m', e, I, O, X, hvars, K, R⟩ :=
    pickle_load_total f true m hI hO hc hwf hr lm m1 hv O1 (fun _ => hV.perm)
  exact ⟨roots', m', e, I, O, X, fun var i hm => hvars ▸ N1 var i hm, K.nodes, R⟩

/-- `BDD.load(file, levels=False)` of ANY well-formed content into any manager with a bijective
order: never refused; `Inv`, `OrderOK`, exact counts for the same ledger, old nodes and the
levels of declared variables kept, the roots by name -/
theorem pickle_load_false_any (f : PickleFile) (hwf : PickleWF f) (hr : RootsResolvable f)
    (tgt : Mgr) (hI : Inv tgt) (hO : OrderOK tgt.tbl) (hc : tgt.ctx = false) :
    ∃ roots' m', loadPickle f false tgt = (.ok roots', m') ∧ Inv m' ∧ OrderOK m'.tbl ∧
      (∀ ext, RefExact tgt ext → RefExact m' ext) ∧
      (∀ (v : String) (i : Nat), tgt.tbl.vars[v]? = some i → m'.tbl.vars[v]? = some i) ∧
      (∀ u n, tgt.tbl.node? u = some n → m'.tbl.node? u = some n) ∧ LoadedFrom f m'.tbl roots' := by
  obtain ⟨lm, m1, hv, O1⟩ := loadVars_false_total f.vars.length f.vars [] tgt hI hO hwf.bound
  obtain ⟨roots', m', e, I, O, X, _, K, R⟩ :=
    pickle_load_total f false tgt hI hO hc hwf hr lm m1 hv O1 (fun h => by cases h)
  exact ⟨roots', m', e, I, O, X, K.vars, K.nodes, R⟩

end DD
