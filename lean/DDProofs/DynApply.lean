/-
  DDProofs.DynApply — `apply` for the binary propositional connectives and for the ternary
  conditional of the regenerated table: the call IS the decorated `ite` on three operand atoms of
  the table row (`IteOnAtoms`, `apply_conn_eq`, DDProofs.ApplyProofs), so its transparency is
  that of `ite` (`.transparentS`; nested in a context or with requests disabled: `.out`); and
  the three homogeneous forms of `let`.
-/
import DDProofs.DynOps2
import DDProofs.ApplyProofs
open Std

namespace DD

/-- documented result of `apply(op, u, v)` for a binary connective, by name -/
def ConnDoc (c : Conn) (u v : Int) (t : Tbl) (r : Int) (t' : Tbl) : Prop :=
  t'.Mem r ∧ ∀ σ, denN t' r σ = c.eval (denN t u σ) (denN t v σ) false

/-- documented result of `apply('ite', u, v, w)`, by name -/
def Ite3Doc (u v w : Int) (t : Tbl) (r : Int) (t' : Tbl) : Prop :=
  t'.Mem r ∧ ∀ σ, denN t' r σ = if denN t u σ then denN t v σ else denN t w σ

/-- C09 for a call of `apply` that is `ite` on operand atoms: for held operands the connective of
the operands by name (`ConnDoc` at `w = none`, `Ite3Doc` at `c = .ite`, `w = some w`) -/
theorem IteOnAtoms.transparentS {m : Mgr} {c : Conn} {u v : Int} {w : Option Int}
    {x : Except Err Int × Mgr} (h : IteOnAtoms m c u v w x) (ext : Nat → Nat) (hD : DynInvS ext m)
    (hu : HeldX ext u) (hv : HeldX ext v) (hw : w.elim True (HeldX ext)) :
    DynOutS ext (fun t r t' => t'.Mem r ∧
        ∀ σ, denN t' r σ = c.eval (denN t u σ) (denN t v σ) (w.elim false (denN t · σ))) m x := by
  obtain ⟨xa, xb, xd, rfl, hS, hden⟩ := h
  obtain ⟨ha, hb, hd⟩ := hS (HeldX ext) (fun _ => HeldX.neg) (HeldX.one ext) hu hv hw
  refine (ite_transparentS ext m hD xa xb xd ha hb hd).mono fun r t' hdoc => ⟨hdoc.1, fun σ => ?_⟩
  rw [hdoc.2 σ]
  exact hden _

/-- C09 for `apply(op, u, v)`, every binary propositional alias of the vocabulary -/
theorem apply_binary_transparentS (ext : Nat → Nat) (m : Mgr) (hD : DynInvS ext m) (op : String)
    (c : Conn) (hc : docConn op = some c) (h2 : c.arity = 2) (hq1 : c ≠ .forall_)
    (hq2 : c ≠ .exists_) (hall : Gen.allOps.contains op = true) (u v : Int) (hu : HeldX ext u)
    (hv : HeldX ext v) :
    DynOutS ext (ConnDoc c u v) m (apply op u (some v) none m) :=
  (apply_conn_eq m hD.inv.wf.toWF op c hc (by omega) hq1 hq2 hall u v none (by simp [h2])
    (hu.mem hD.refs) (hv.mem hD.refs) trivial).transparentS ext hD hu hv trivial

/-- C09 for `apply('ite', u, v, w)` -/
theorem apply_ite_transparentS (ext : Nat → Nat) (m : Mgr) (hD : DynInvS ext m) (op : String)
    (hc : docConn op = some .ite) (hall : Gen.allOps.contains op = true) (u v w : Int)
    (hu : HeldX ext u) (hv : HeldX ext v) (hw : HeldX ext w) :
    DynOutS ext (Ite3Doc u v w) m (apply op u (some v) (some w) m) :=
  (apply_conn_eq m hD.inv.wf.toWF op .ite hc (by decide) nofun nofun hall u v (some w) rfl
    (hu.mem hD.refs) (hv.mem hD.refs) (hw.mem hD.refs)).transparentS ext hD hu hv hw

/-- … inside a context or with requests disabled: the connective of the operands, or abort having
only added nodes -/
theorem IteOnAtoms.out {m : Mgr} {c : Conn} {u v : Int} {w : Option Int}
    {x : Except Err Int × Mgr} (h : IteOnAtoms m c u v w x) (hI : Inv m) (hq : Quiet m)
    (mu : m.tbl.Mem u) (mv : m.tbl.Mem v) (mw : w.elim True m.tbl.Mem) :
    Outcome m (fun r m' => m'.tbl.Mem r ∧ ∀ a, den m'.tbl r a =
        c.eval (den m.tbl u a) (den m.tbl v a) (w.elim false (den m.tbl · a))) x := by
  obtain ⟨xa, xb, xd, rfl, hS, hden⟩ := h
  obtain ⟨ma, mb, md⟩ := hS m.tbl.Mem (fun _ => mem_neg) (Or.inl rfl) mu mv mw
  exact (ite_nested_spec m hI hq xa xb xd ma mb md).mono fun r m' _ hp =>
    ⟨hp.mem, fun a => (hp.den a).trans (hden a)⟩

theorem apply_binary_out (m : Mgr) (hI : Inv m) (hq : Quiet m) (op : String) (c : Conn)
    (hc : docConn op = some c) (h2 : c.arity = 2) (hq1 : c ≠ .forall_) (hq2 : c ≠ .exists_)
    (hall : Gen.allOps.contains op = true) (u v : Int) (mu : m.tbl.Mem u) (mv : m.tbl.Mem v) :
    Outcome m (fun r m' => m'.tbl.Mem r ∧
        ∀ a, den m'.tbl r a = c.eval (den m.tbl u a) (den m.tbl v a) false)
      (apply op u (some v) none m) :=
  (apply_conn_eq m hI.wf.toWF op c hc (by omega) hq1 hq2 hall u v none (by simp [h2]) mu mv
    trivial).out hI hq mu mv trivial

theorem apply_ite_out (m : Mgr) (hI : Inv m) (hq : Quiet m) (op : String)
    (hc : docConn op = some .ite) (hall : Gen.allOps.contains op = true) (u v w : Int)
    (mu : m.tbl.Mem u) (mv : m.tbl.Mem v) (mw : m.tbl.Mem w) :
    Outcome m (fun r m' => m'.tbl.Mem r ∧
        ∀ a, den m'.tbl r a = if den m.tbl u a then den m.tbl v a else den m.tbl w a)
      (apply op u (some v) (some w) m) :=
  (apply_conn_eq m hI.wf.toWF op .ite hc (by decide) nofun nofun hall u v (some w) rfl mu mv
    mw).out hI hq mu mv mw

theorem boolKeys_ne_nil {vals : List (String × Bool)} (hne : vals ≠ []) : boolKeys vals ≠ [] := by
  cases vals with
  | nil => exact absurd rfl hne
  | cons _ _ => simp [boolKeys]

/-- C09 for `let` with Boolean values -/
theorem let_bools_transparentS (ext : Nat → Nat) (m : Mgr) (hD : DynInvS ext m) (u : Int)
    (hu : HeldX ext u) (vals : List (String × Bool)) (hne : vals ≠ [])
    (hdecl : ∀ p ∈ vals, m.tbl.vars.contains p.1 = true) :
    DynOutS ext (CofDoc vals u) m (letOp (.bools (boolKeys vals)) u m) := by
  rw [letOp_bools _ (boolKeys_ne_nil hne)]
  exact cofactor_transparentS ext m hD u hu vals hdecl

/-- C09 for `let` with references -/
theorem let_refs_transparentS (ext : Nat → Nat) (m : Mgr) (hD : DynInvS ext m) (f : Int)
    (hf : HeldX ext f) (varSub : List (String × Int)) (hne : varSub ≠ [])
    (hdecl : ∀ p ∈ varSub, m.tbl.vars.contains p.1 = true)
    (hheld : ∀ p ∈ varSub, HeldX ext p.2) :
    DynOutS ext (ComposeDoc varSub f) m (letOp (.refs varSub) f m) := by
  rw [letOp_refs _ hne]
  exact compose_transparentS ext m hD f hf varSub hdecl hheld

/-- C09 for `let` with names -/
theorem let_names_transparentS (ext : Nat → Nat) (m : Mgr) (hD : DynInvS ext m) (u : Int)
    (hu : HeldX ext u) (dvars : List (String × String)) (hne : dvars ≠ [])
    (hd : ∀ p ∈ dvars, m.tbl.vars.contains p.2 = true) :
    DynOutS ext (RenameDoc dvars u) m (letOp (.names dvars) u m) := by
  rw [letOp_names _ hne]
  exact rename_transparentS ext m hD u hu dvars hd

end DD
