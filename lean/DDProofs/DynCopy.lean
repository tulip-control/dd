/-
  DDProofs.DynCopy — `copy_bdd(u, from_bdd, to_bdd)` into a target manager with dynamic reordering
  enabled (the body runs inside the target's `_try_to_reorder`, fix F4b): instance of the generic
  transparency theorem.  The source manager is only read, so its table is a parameter.
-/
import DDProofs.DynSched
import DDProofs.VarsBijOrder
open Std

namespace DD

/-- documented result of `copy_bdd` in the target: the same function of the variable names, and
the copy of a regular reference is regular -/
def CopyDoc (s : Tbl) (u : Int) (_t : Tbl) (r : Int) (t' : Tbl) : Prop :=
  t'.Mem r ∧ (0 < r ↔ 0 < u) ∧ ∀ σ, denN t' r σ = denN s u σ

/-- every variable of the support of the source function is declared in the target -/
def CopyPre (s : Tbl) (u : Int) (t : Tbl) : Prop :=
  ∀ i v, InSupp s u i → s.l2v[i]? = some v → t.vars.contains v = true

/-- a decidable sufficient test: EVERY variable of the source is declared in the target -/
theorem copyPre_of_check {s t : Tbl} (h : (s.l2v.toList.all fun p => t.vars.contains p.2) = true)
    (u : Int) : CopyPre s u t :=
  fun i v _ hv => List.all_eq_true.mp h (i, v) (TreeMap.mem_toList_iff_getElem?_eq_some.mpr hv)

theorem copyBddBody_out (s : Tbl) (hS : WF s) (hOs : OrderOK s) (m0 : Mgr) (hI0 : Inv m0)
    (hq : Quiet m0) (hO : OrderOK m0.tbl) (u : Int) (hu : s.Mem u) (hsup : CopyPre s u m0.tbl) :
    Outcome m0 (fun r m1 => CopyDoc s u m0.tbl r m1.tbl) (copyBddBody s u m0) := by
  refine (copyBddBody_lvl s hS (VarsBij.ofOrderOK hOs) m0 hI0 hq (VarsBij.ofOrderOK hO) u hu
    hsup).mono fun r m1 hs ⟨hr, hsg, hden⟩ => ⟨hr, hsg, fun σ => ?_⟩
  unfold denN
  rw [lift_congr hs.frame.l2v]
  refine hden _ _ fun i v j _ hv hj => ?_
  simp [Tbl.lift, Tbl.nameOf, hv, (VarsBij.ofOrderOK hO).v2l _ _ hj]

theorem copyBdd_docBody (s : Tbl) (hS : WF s) (hOs : OrderOK s) (u : Int) (hu : s.Mem u) :
    DocBody (copyBddBody s u) [] (CopyPre s u) (CopyDoc s u) where
  body m0 hI0 hc hO hpre _ := copyBddBody_out s hS hOs m0 hI0 (Or.inl hc) hO u hu hpre
  pre _ _ hB hpre i v hi hv := hB.declared (hpre i v hi hv)
  doc _ _ _ _ _ _ hd := hd

/-- C09 for `copy_bdd` into a manager with dynamic reordering enabled -/
theorem copyBdd_transparentS (ext : Nat → Nat) (s : Tbl) (hS : WF s) (hOs : OrderOK s) (m : Mgr)
    (hD : DynInvS ext m) (u : Int) (hu : s.Mem u) (hsup : CopyPre s u m.tbl) :
    DynOutS ext (CopyDoc s u) m (copyBdd s u m) :=
  (copyBdd_docBody s hS hOs u hu).dynS ext m hD nofun hsup

end DD
