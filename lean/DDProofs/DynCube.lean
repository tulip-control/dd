/-
  DDProofs.DynCube — `BDD.cube(dvars)`: a loop of the decorated `var` and `apply('and', …)`
  inside the decorator.  The nested calls run inside the context, where the decorator is
  transparent and re-raises the reordering signal; the whole loop is abort-aware, and the
  decorated `cube` is an instance of the generic transparency theorem.
-/
import DDProofs.QuantCor
import DDProofs.DynOps
import DDProofs.DynApply
open Std

namespace DD

theorem var_nested_out (m : Mgr) (hI : Inv m) (hc : m.ctx = true) (hO : OrderOK m.tbl)
    (name : String) (hdecl : m.tbl.vars.contains name = true) :
    Outcome m (fun g m' => m'.tbl.Mem g ∧ ∀ σ, denN m'.tbl g σ = σ name) (var name m) :=
  Outcome.nested hc (varBody_out m hI hO name hdecl)

/-- one iteration of the loop of `cube` -/
def cubeStep (x : String × Bool) (r : Int) : M (ForInStep Int) := do
  let u ← var x.1
  let u : Int := if x.2 then u else -u
  let r ← apply "and" u (some r) none
  pure (ForInStep.yield r)

/-- the body of `BDD.cube` -/
def cubeBody (dvars : List (String × Bool)) : M Int :=
  forIn dvars (1 : Int) cubeStep >>= fun r => pure r

theorem cube_eq (dvars : List (String × Bool)) : cube dvars = tryToReorder (cubeBody dvars) := by
  unfold cube cubeBody
  have hf : (fun (x : String × Bool) (__s : Int) =>
      (match x with
      | (name, val) => do
        let u ← var name
        let u : Int := if val then u else -u
        let r ← apply "and" u (some __s) none
        pure (ForInStep.yield r) : M (ForInStep Int))) = cubeStep := by
    funext x r
    obtain ⟨n, v⟩ := x
    rfl
  show tryToReorder (forIn dvars (1 : Int) _ >>= fun r => pure r) = _
  rw [hf]

theorem and_eval (x y : Bool) : Conn.and.eval x y false = (x && y) := by
  cases x <;> cases y <;> rfl

theorem cubeStep_out (m : Mgr) (hI : Inv m) (hc : m.ctx = true) (hO : OrderOK m.tbl)
    (name : String) (val : Bool) (hdecl : m.tbl.vars.contains name = true) (r : Int)
    (hr : m.tbl.Mem r) :
    Outcome m (fun s m' => ∃ r', s = ForInStep.yield r' ∧ m'.tbl.Mem r' ∧
        ∀ σ, denN m'.tbl r' σ = ((σ name == val) && denN m.tbl r σ))
      (cubeStep (name, val) r m) := by
  have hW := hI.wf.toWF
  unfold cubeStep
  refine Outcome.bind (var_nested_out m hI hc hO name hdecl) ?_
  intro g m1 hs1 ⟨hg, hdg⟩
  have hW1 := hs1.inv.wf.toWF
  have hmr1 : m1.tbl.Mem r := hs1.ext.mem hr
  have hgu : m1.tbl.Mem (if val then g else -g) := by
    cases val
    · exact mem_neg hg
    · exact hg
  refine Outcome.bind (apply_binary_out m1 hs1.inv (Or.inl (hs1.ctx hc)) "and" .and (by decide) (by decide)
    (by decide) (by decide) (by decide) _ r hgu hmr1) ?_
  intro r' m2 hs2 ⟨hr', hd'⟩
  refine ⟨StepK.refl hs2.inv, fun _ _ => ⟨r', rfl, hr', fun σ => ?_⟩⟩
  unfold denN
  rw [hd', and_eval, lift_congr hs2.frame.l2v]
  have e1 : den m1.tbl r (m1.tbl.lift σ) = denN m.tbl r σ := (hs1.ext.byName hs1.frame.l2v hW hr).2 σ
  have e2 : den m1.tbl (if val then g else -g) (m1.tbl.lift σ) = (σ name == val) := by
    have := hdg σ
    unfold denN at this
    cases val
    · simp only [Bool.false_eq_true, if_false]
      rw [den_neg m1.tbl hW1 g _ hg, this]
      cases σ name <;> rfl
    · simp only [if_true]
      rw [this]
      cases σ name <;> rfl
  rw [e1, e2]
  rfl

theorem cubeLoop_out : ∀ (l : List (String × Bool)) (m : Mgr) (r : Int), Inv m → m.ctx = true →
    OrderOK m.tbl → (∀ p ∈ l, m.tbl.vars.contains p.1 = true) → m.tbl.Mem r →
    Outcome m (fun r' m' => m'.tbl.Mem r' ∧
        ∀ σ, denN m'.tbl r' σ = (denN m.tbl r σ && l.all fun p => σ p.1 == p.2))
      (forIn l r cubeStep m)
  | [], m, r, hI, _, _, _, hr => by
    show Outcome m _ ((Pure.pure r : M Int) m)
    exact ⟨StepK.refl hI, hr, fun σ => by simp⟩
  | (name, val) :: l, m, r, hI, hc, hO, hdecl, hr => by
    rw [List.forIn_cons]
    refine Outcome.bind (cubeStep_out m hI hc hO name val (hdecl _ List.mem_cons_self) r hr) ?_
    intro s m1 hs1 ⟨r1, hs, hr1, hd1⟩
    subst hs
    have hdecl1 : ∀ p ∈ l, m1.tbl.vars.contains p.1 = true := by
      intro p hp
      rw [hs1.names p.1]; exact hdecl p (List.mem_cons_of_mem _ hp)
    refine (cubeLoop_out l m1 r1 hs1.inv (hs1.ctx hc) (hO.frame hs1.frame) hdecl1 hr1).mono ?_
    intro r2 m2 _ ⟨hr2, hd2⟩ _
    refine ⟨hr2, fun σ => ?_⟩
    rw [hd2 σ, hd1 σ]
    simp only [List.all_cons]
    cases (σ name == val) <;> cases denN m.tbl r σ <;> simp

/-- documented result of `cube(dvars)`: the conjunction of the literals, by name -/
def CubeDoc (dvars : List (String × Bool)) (_t : Tbl) (r : Int) (t' : Tbl) : Prop :=
  t'.Mem r ∧ ∀ σ, denN t' r σ = dvars.all fun p => σ p.1 == p.2

theorem cubeBody_out (m0 : Mgr) (hI0 : Inv m0) (hc : m0.ctx = true) (hO : OrderOK m0.tbl)
    (dvars : List (String × Bool)) (hdecl : ∀ p ∈ dvars, m0.tbl.vars.contains p.1 = true) :
    Outcome m0 (fun r m1 => CubeDoc dvars m0.tbl r m1.tbl) (cubeBody dvars m0) := by
  unfold cubeBody
  refine Outcome.bind (cubeLoop_out dvars m0 1 hI0 hc hO hdecl (mem_one _)) ?_
  intro r m1 hs ⟨hr, hd⟩
  refine ⟨StepK.refl hs.inv, fun _ => ⟨hr, fun σ => ?_⟩⟩
  rw [hd σ]
  unfold denN
  rw [den_one]
  rfl

theorem cube_docBody (dvars : List (String × Bool)) :
    DocBody (cubeBody dvars) [] (fun t => ∀ p ∈ dvars, t.vars.contains p.1 = true)
      (CubeDoc dvars) where
  body m0 hI0 hc hO hpre _ := cubeBody_out m0 hI0 hc hO dvars hpre
  pre _ _ hB hpre p hp := hB.declared (hpre p hp)
  doc _ _ _ _ _ _ hd := hd

/-- C09 for `cube` over declared variable names -/
theorem cube_transparentS (ext : Nat → Nat) (m : Mgr) (hD : DynInvS ext m)
    (dvars : List (String × Bool)) (hdecl : ∀ p ∈ dvars, m.tbl.vars.contains p.1 = true) :
    DynOutS ext (CubeDoc dvars) m (cube dvars m) :=
  cube_eq dvars ▸ (cube_docBody dvars).dynS ext m hD nofun hdecl

/-- C09 for `apply` with a quantifier alias: with `names` the answer of `support(u)` (all
declared), the result is the quantification of `v` over `names` -/
theorem apply_quant_transparentS (ext : Nat → Nat) (m : Mgr) (hD : DynInvS ext m) (op : String)
    (c : Conn) (hc : docConn op = some c) (hq : c = .forall_ ∨ c = .exists_)
    (hall : Gen.allOps.contains op = true) (u v : Int) (hu : m.tbl.Mem u) (hv : HeldX ext v)
    (names : List String) (hsupp : support m.tbl u = .ok names)
    (hdecl : ∀ s ∈ names, m.tbl.vars.contains s = true) :
    DynOutS ext (QuantDoc (decide (c = .forall_)) names v) m (apply op u (some v) none m) := by
  rw [apply_quant_eq_quantify m op c hc hq hall u v hu (hv.mem hD.refs) names hsupp]
  exact quantify_transparentS ext m hD v hv _ names hdecl

/-- taking a reference on a result keeps the state "between two calls", for the ledger with
that reference added -/
theorem DynInv.incref {ext : Nat → Nat} {m : Mgr} (h : DynInv ext m) (u : Int) (hu : m.tbl.Mem u) :
    ∃ m', incref u m = (.ok (), m') ∧ DynInv (extInc ext u.natAbs) m' ∧ m'.tbl = m.tbl ∧
      m'.lastLen = m.lastLen := by
  obtain ⟨c, _, he, hr⟩ := incref_spec m ext u h.refs hu
  have hk := incref_kept m h.inv u
  rw [he] at hk
  refine ⟨_, he, ⟨hk.inv, h.order, hr, h.ctx, h.sched, ?_, h.nvars⟩, rfl, rfl⟩
  intro r hr'
  have := h.roots r hr'
  unfold DD.extInc
  split <;> omega

end DD
