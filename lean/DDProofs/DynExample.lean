/-
  DDProofs.DynExample — non-vacuity of the hypotheses of the transparency theorems on the
  concrete manager `exM` of DDProofs.GcExample (variables `a`, `b`; nodes 2 = `a`, 3 = `b`,
  4 = `a ∧ b`; the user holds node 4):
  * `exM` (with dynamic reordering switched on) satisfies `DynInv`, so the contract of sifting
    applies to it;
  * on that state a reordering request does fire inside the decorated `ite`, sifting runs,
    the retry succeeds — the retry path of the theorems is inhabited;
  * the specification `SiftSpec` of sifting (over every state satisfying `Inv`) is refuted on
    `exM` with a recorded schedule that sifting does not accept.
-/
import DDProofs.Reach2
import DDProofs.GcExample
open Std

namespace DD

theorem exM_good3 : Good3 exM exExt :=
  have h : exM.sched = [] ∧ exM.roots = [] := by decide +kernel
  exM_good.good3 h.1 h.2

theorem exM_dynInv : DynInv exExt exM := exM_good3.dynInv (by decide +kernel)

theorem exM_reorderInv : ReorderInv exExt exM := exM_good3.reorderInv_self

/-- `exM` with dynamic reordering switched on and a request due at the next `find_or_add` -/
def exDyn : Mgr := { exM with lastLen := some 1, fireIn := some 1 }

theorem exDyn_dynInv : DynInv exExt exDyn := (exM_good3.setRequest _ _).dynInv (by decide +kernel)

theorem exExt_held4 : HeldX exExt 4 := Or.inr (by decide)

/-- inside the context the first attempt of `ite(4, 3, -1)` on `exDyn` is aborted by the request -/
theorem exDyn_first_attempt_aborts :
    (iteRaw 4 3 (-1) { exDyn with ctx := true }).1.toOption = none := by decide +kernel

/-- and the decorated call returns normally (request served: sifting, retry) with the reference
of `a ∧ b`, reordering still enabled -/
theorem exDyn_ite_ok :
    (ite 4 3 (-1) exDyn).1.toOption = some 4 ∧ (ite 4 3 (-1) exDyn).2.lastLen = some 6 ∧
      (ite 4 3 (-1) exDyn).2.ctx = false := by decide +kernel

/-- a specification of `reorder(bdd)` (sifting) over every state satisfying `Inv`, which
constrains neither the recorded schedule nor the name maps nor exact counts: it is FALSE
(`not_siftSpec`).  The C09 theorems rest on C07's theorem about sifting instead (`siftKeepS`,
DDProofs.DynGeneric). -/
structure SiftSpec : Prop where
  run : ∀ (m : Mgr), Inv m → m.lastLen = none → 2 ≤ m.nvars →
    ∃ m', reorder none m = (.ok (), m') ∧ Inv m' ∧ m'.lastLen = none ∧ m'.ctx = m.ctx ∧
      m'.nvars = m.nvars ∧
      ∀ u, m.tbl.Mem u → Held m u →
        m'.tbl.Mem u ∧ Held m' u ∧ ∀ σ, denN m'.tbl u σ = denN m.tbl u σ

/-- `exM` (two variables, three nodes) with a recorded schedule whose next item is a swap order -/
def exBadSched : Mgr := { exM with sched := [.swap []] }

theorem exBadSched_fails : (reorder none exBadSched).1.toOption = none := by decide +kernel

/-- `SiftSpec` quantifies over every state satisfying `Inv`; `Inv` does not constrain the
recorded schedule (nor the name maps, nor exact counts), and sifting fails on a state whose
schedule does not start with a sifting order: `SiftSpec` is false, theorems conditional on it
are vacuous. -/
theorem not_siftSpec : ¬ SiftSpec := by
  intro h
  have hI : Inv exBadSched := exM_inv.setSched _
  obtain ⟨m', hr, _⟩ := h.run exBadSched hI rfl (by decide)
  have := exBadSched_fails
  rw [hr] at this
  cases this

/-- what the caller of the decorated `ite` observes -/
structure DynPost (m : Mgr) (g u v r : Int) (m' : Mgr) : Prop where
  inv : Inv m'
  mem : m'.tbl.Mem r
  den : ∀ σ, denN m'.tbl r σ =
    if denN m.tbl g σ then denN m.tbl u σ else denN m.tbl v σ
  enabled : m'.lastLen.isSome = m.lastLen.isSome
  ctx : m'.ctx = m.ctx
  operands : ∀ w, m.tbl.Mem w → Held m w →
    m'.tbl.Mem w ∧ ∀ σ, denN m'.tbl w σ = denN m.tbl w σ

/-- C09 for `ite` CONDITIONAL on `SiftSpec`: the decorated `ite` with dynamic reordering ENABLED,
at whichever node creation the request fires, returns the if-then-else of the operands BY NAME,
never raises the signal, keeps the operands' meaning and leaves reordering enabled.  No sifting
satisfies `SiftSpec` (`not_siftSpec`): the statement holds for that reason alone.  What is proved
of the decorated `ite` is `ite_transparentS` (DDProofs.DynOps). -/
theorem ite_dyn_spec (hS : SiftSpec) (m : Mgr) (hI : Inv m) (hctx : m.ctx = false)
    (hn : 2 ≤ m.nvars) (g u v : Int)
    (hg : m.tbl.Mem g) (hu : m.tbl.Mem u) (hv : m.tbl.Mem v)
    (hhg : Held m g) (hhu : Held m u) (hhv : Held m v)
    (hmono : ∀ (m0 m1 : Mgr) (e : Err), iteRaw g u v m0 = (.error e, m1) →
      ∀ w, Held m0 w → Held m1 w) :
    ∃ r m', ite g u v m = (.ok r, m') ∧ DynPost m g u v r m' :=
  absurd hS not_siftSpec

end DD
