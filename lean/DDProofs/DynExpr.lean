/-
  DDProofs.DynExpr — the meaning of `BDD.add_expr`, with dynamic reordering enabled or not.

  `add_expr` is decorated with `_try_to_reorder`; its body parses the text and evaluates the
  tree bottom-up by calling the PUBLIC decorated operations (`var`, `apply`, `quantify`,
  `rename`).  Those calls are NESTED in the context of `add_expr`: their own decorators run the
  body and re-raise every exception, the reordering signal included (`Outcome.nested`).  So the
  whole evaluation has an abort-aware outcome — the reference of the documented meaning of the
  tree (`evalFormula`, by variable NAME), or an abort by a reordering request having only added
  nodes — proved here by ONE induction on the tree (`evalAst_out`), from any state in which no
  decorator would serve a request (`Quiet`: inside a context, or requests disabled;
  `Outcome.quiet`); `addExpr_out` is the same for the decorated `add_expr`.  With requests disabled
  the abort cannot happen: `evalAst_spec`, `C05_addExpr_spec` and the round trip `addExpr_toExpr`
  are the `Outcome.off` readings.  With requests enabled the decorated `add_expr` is an instance
  of the generic transparency theorem: the request may fire at whichever `find_or_add` of
  whichever nested operation; sifting runs in the wrapper of `add_expr`, and the evaluation is
  retried from the start.

  The intermediate results of the evaluation are not referenced (the translator holds plain
  integers).  That is harmless: no sifting (hence no collection) happens in the middle of an
  evaluation — an abort leaves only unreferenced nodes behind, sifting collects them, and the
  retry starts from the `@n` operands, which the user holds.
-/
import DDProofs.DynCube
import DDProofs.ParseSem
import DDProofs.ParseProofs
import DDProofs.DynOps2
import DDProofs.DynApply
open Std

namespace DD

/-- the two readings of a name assignment as a level assignment agree on the declared levels -/
theorem denN_eq_asgOf {t : Tbl} (hw : WF t) (hO : OrderOK t) (u : Int) (hu : t.Mem u) (σ : AsgN) :
    denN t u σ = den t u (asgOf t σ) := by
  unfold denN
  apply den_agree_ge t hw u hu
  intro i _ hi
  obtain ⟨v, hv⟩ := hO.total i hi
  simp [Tbl.lift, Tbl.nameOf, asgOf, hv]

/-- the references `@n` of a tree: the operands of `add_expr` that live in the manager -/
def Ast.atNodes : Ast → List Int
  | .var _ => []
  | .bool _ => []
  | .num neg d => [if neg then -(digitsToNat d : Int) else (digitsToNat d : Int)]
  | .not e => e.atNodes
  | .bin _ l r => l.atNodes ++ r.atNodes
  | .ite a b c => a.atNodes ++ (b.atNodes ++ c.atNodes)
  | .quant _ _ e => e.atNodes
  | .subst _ e => e.atNodes

/-- `Meaningful` only reads the declared NAMES and the membership of the `@n` nodes -/
theorem Meaningful.transfer {T T' : Tbl} (hn : ∀ s, T'.vars.contains s = T.vars.contains s) :
    ∀ (t : Ast), (∀ u ∈ t.atNodes, T'.Mem u) → Meaningful T t → Meaningful T' t := by
  intro t
  induction t with
  | var x => intro _ h; simp only [Meaningful] at h ⊢; rw [hn]; exact h
  | bool b => intro _ _; trivial
  | num neg d => intro hm _; exact hm _ (by simp [Ast.atNodes])
  | not e ih => intro hm h; exact ih hm h
  | bin o l r ihl ihr =>
    intro hm h
    exact ⟨h.1, ihl (fun u hu => hm u (by simp [Ast.atNodes, hu])) h.2.1,
      ihr (fun u hu => hm u (by simp [Ast.atNodes, hu])) h.2.2⟩
  | ite a b c iha ihb ihc =>
    intro hm h
    exact ⟨iha (fun u hu => hm u (by simp [Ast.atNodes, hu])) h.1,
      ihb (fun u hu => hm u (by simp [Ast.atNodes, hu])) h.2.1,
      ihc (fun u hu => hm u (by simp [Ast.atNodes, hu])) h.2.2⟩
  | quant fa ns e ih =>
    intro hm h
    exact ⟨fun x hx => by rw [hn]; exact h.1 x hx, ih hm h.2⟩
  | subst ss e ih =>
    intro hm h
    exact ⟨fun x hx => by rw [hn]; exact h.1 x hx, ih hm h.2⟩

/-- `evalFormula` reads the table only through the functions, by name, of the `@n` nodes -/
theorem evalFormula_congr {T T' : Tbl} :
    ∀ (t : Ast), (∀ u ∈ t.atNodes, ∀ σ, den T' u (asgOf T' σ) = den T u (asgOf T σ)) →
      ∀ σ, evalFormula T' t σ = evalFormula T t σ := by
  intro t
  induction t with
  | var x => intro _ σ; rfl
  | bool b => intro _ σ; rfl
  | num neg d =>
    intro h σ
    simp only [evalFormula]
    exact h _ (by simp [Ast.atNodes]) σ
  | not e ih => intro h σ; simp only [evalFormula, ih h]
  | bin o l r ihl ihr =>
    intro h σ
    simp only [evalFormula, ihl (fun u hu => h u (by simp [Ast.atNodes, hu])),
      ihr (fun u hu => h u (by simp [Ast.atNodes, hu]))]
  | ite a b c iha ihb ihc =>
    intro h σ
    simp only [evalFormula, iha (fun u hu => h u (by simp [Ast.atNodes, hu])),
      ihb (fun u hu => h u (by simp [Ast.atNodes, hu])),
      ihc (fun u hu => h u (by simp [Ast.atNodes, hu]))]
  | quant fa ns e ih =>
    intro h σ
    simp only [evalFormula]
    have : evalFormula T' e = evalFormula T e := funext (ih h)
    rw [this]
  | subst ss e ih => intro h σ; simp only [evalFormula, ih h]

theorem Meaningful.atNodes {T : Tbl} : ∀ {t : Ast}, Meaningful T t → ∀ u ∈ t.atNodes, T.Mem u := by
  intro t
  induction t with
  | var x => exact fun _ _ hu => nomatch hu
  | bool b => exact fun _ _ hu => nomatch hu
  | num neg d => exact fun h u hu => List.mem_singleton.mp hu ▸ h
  | not e ih => exact ih
  | bin o l r ihl ihr =>
    exact fun h u hu => (List.mem_append.mp hu).elim (ihl h.2.1 u) (ihr h.2.2 u)
  | ite a b c iha ihb ihc =>
    exact fun h u hu => (List.mem_append.mp hu).elim (iha h.1 u) fun hu =>
      (List.mem_append.mp hu).elim (ihb h.2.1 u) (ihc h.2.2 u)
  | quant fa ns e ih => exact fun h => ih h.2
  | subst ss e ih => exact fun h => ih h.2

theorem Meaningful.step {m m' : Mgr} (hs : Step m m') {t : Ast} (h : Meaningful m.tbl t) :
    Meaningful m'.tbl t :=
  h.transfer (fun s => by rw [hs.frame.vars]) t fun u hu => hs.ext.mem (h.atNodes u hu)

theorem evalFormula_step {m m' : Mgr} (hI : Inv m) (hs : Step m m') (t : Ast)
    (h : Meaningful m.tbl t) : ∀ an, evalFormula m'.tbl t an = evalFormula m.tbl t an :=
  evalFormula_congr t fun u hu σ => by
    rw [asgOf_congr hs.frame.l2v, den_ext hs.ext hI.wf.toWF _ _ (h.atNodes u hu)]

theorem qsemN_nil (fa : Bool) (F : AsgN → Bool) (σ : AsgN) : qsemN fa [] F σ ↔ F σ = true := by
  have heq : ∀ τ : AsgN, (∀ s, s ∉ ([] : List String) → τ s = σ s) → τ = σ :=
    fun τ h => funext fun s => h s (by simp)
  cases fa with
  | true =>
    simp only [qsemN]
    exact ⟨fun h => h σ (fun _ _ => rfl), fun h τ hτ => by rw [heq τ hτ]; exact h⟩
  | false =>
    simp only [qsemN]
    exact ⟨fun ⟨τ, hτ, h⟩ => by rw [← heq τ hτ]; exact h, fun h => ⟨σ, fun _ _ => rfl, h⟩⟩

theorem agree_upd_of_cons {x : String} {xs : List String} {τ σ : AsgN} (b : Bool)
    (h : ∀ s, s ∉ xs → τ s = updName σ x b s) : ∀ s, s ∉ x :: xs → τ s = σ s := by
  intro s hs
  have hx : s ≠ x := fun e => hs (by simp [e])
  have hxs : s ∉ xs := fun e => hs (by simp [e])
  rw [h s hxs]
  simp [updName, hx]

theorem agree_cons_upd {x : String} {xs : List String} {τ σ : AsgN}
    (h : ∀ s, s ∉ x :: xs → τ s = σ s) : ∀ s, s ∉ xs → τ s = updName σ x (τ x) s := by
  intro s hs
  by_cases hx : s = x
  · subst hx; simp [updName]
  · rw [h s (by simp [hx, hs])]
    simp [updName, hx]

theorem qsemN_cons (fa : Bool) (x : String) (xs : List String) (F : AsgN → Bool) (σ : AsgN) :
    qsemN fa (x :: xs) F σ ↔
      (match fa with
       | true => qsemN true xs F (updName σ x false) ∧ qsemN true xs F (updName σ x true)
       | false => qsemN false xs F (updName σ x false) ∨ qsemN false xs F (updName σ x true)) := by
  cases fa with
  | true =>
    simp only [qsemN]
    constructor
    · intro h
      exact ⟨fun τ hτ => h τ (agree_upd_of_cons false hτ), fun τ hτ => h τ (agree_upd_of_cons true hτ)⟩
    · intro ⟨h0, h1⟩ τ hτ
      have := agree_cons_upd hτ
      cases hb : τ x with
      | false => rw [hb] at this; exact h0 τ this
      | true => rw [hb] at this; exact h1 τ this
  | false =>
    simp only [qsemN]
    constructor
    · intro ⟨τ, hτ, hF⟩
      have := agree_cons_upd hτ
      cases hb : τ x with
      | false => rw [hb] at this; exact Or.inl ⟨τ, this, hF⟩
      | true => rw [hb] at this; exact Or.inr ⟨τ, this, hF⟩
    · intro h
      rcases h with ⟨τ, hτ, hF⟩ | ⟨τ, hτ, hF⟩
      · exact ⟨τ, agree_upd_of_cons false hτ, hF⟩
      · exact ⟨τ, agree_upd_of_cons true hτ, hF⟩

/-- quantification over a list of names (the predicate of `QuantDoc`) is the expansion over the
two values of each name (what `evalFormula` computes for `\A` / `\E`) -/
theorem qsemN_iff_quantNames (fa : Bool) (F : AsgN → Bool) :
    ∀ (ns : List String) (σ : AsgN), qsemN fa ns F σ ↔ quantNames fa ns F σ = true := by
  intro ns
  induction ns with
  | nil => intro σ; simp only [quantNames]; exact qsemN_nil fa F σ
  | cons x xs ih =>
    intro σ
    rw [qsemN_cons]
    simp only [quantNames]
    cases fa with
    | true =>
      simp only [if_true, Bool.and_eq_true]
      rw [ih, ih]
    | false =>
      simp only [Bool.false_eq_true, if_false, Bool.or_eq_true]
      rw [ih, ih]

/-- documented result of `add_expr(s)` for a text that reads as the tree `ast`: a reference that
denotes, by variable name, the value the independent evaluator `evalFormula` gives to the tree,
the `@n` being the functions of those nodes in the table `t` of the call -/
def ExprDoc (ast : Ast) (t : Tbl) (r : Int) (t' : Tbl) : Prop :=
  t'.Mem r ∧ ∀ σ, denN t' r σ = evalFormula t ast σ

/-- the value of an earlier result read in a later table -/
theorem ExprDoc.at {T : Tbl} {m1 m2 : Mgr} {t : Ast} {u : Int} (h : ExprDoc t T u m1.tbl) (hI1 : Inv m1)
    (hs : StepK m1 m2) (σ : AsgN) : den m2.tbl u (m2.tbl.lift σ) = evalFormula T t σ :=
  ((hs.ext.byName hs.frame.l2v hI1.wf.toWF h.1).2 σ).trans (h.2 σ)

/-- a result of an evaluation started later, relative to the table of the start -/
theorem ExprDoc.from {m m1 : Mgr} {T : Tbl} {t : Ast} {u : Int} (h : ExprDoc t m1.tbl u T) (hI : Inv m)
    (hs : StepK m m1) (hM : Meaningful m.tbl t) : ExprDoc t m.tbl u T :=
  ⟨h.1, fun σ => (h.2 σ).trans (evalFormula_step hI hs.step t hM σ)⟩

/-- the evaluation of a meaningful tree where no decorator serves a request (inside a reordering
context, or with requests disabled): every node of the tree is a decorated operation with the
outcome of its body (`Outcome.quiet`), so the whole evaluation either returns the reference of
`evalFormula`, or is aborted by a reordering request — fired at whichever `find_or_add` of
whichever operation — having only added nodes. -/
theorem evalAst_out : ∀ (t : Ast) (m : Mgr), Inv m → Quiet m → OrderOK m.tbl →
    Meaningful m.tbl t → Outcome m (fun r m' => ExprDoc t m.tbl r m'.tbl) (evalAst t m) := by
  intro t
  induction t with
  | var x =>
    intro m hI hq hO hM
    exact Outcome.quiet (P := VarDoc x) hq (varBody_out _ (hI.setCtx true) hO x hM)
  | bool b =>
    intro m hI _ _ _
    cases b
    · exact ⟨StepK.refl hI, mem_neg_one _, fun σ => den_neg_one _ _⟩
    · exact ⟨StepK.refl hI, mem_one _, fun σ => den_one _ _⟩
  | num neg d =>
    intro m hI _ hO hM
    rw [evalAst_num]
    simp only [(Mgr.mem_iff m _).mpr hM, if_true]
    exact ⟨StepK.refl hI, hM, fun σ => denN_eq_asgOf hI.wf.toWF hO _ hM σ⟩
  | not e ih =>
    intro m hI hq hO hM
    simp only [evalAst]
    refine Outcome.bind (ih m hI hq hO hM) ?_
    intro u m1 hs1 hu'
    obtain ⟨ha, hmn, hdn⟩ := apply_not_spec m1 hs1.inv "!" (by decide) (by decide) u hu'.1
    rw [ha]
    refine ⟨StepK.refl hs1.inv, fun _ => ⟨hmn, fun σ => ?_⟩⟩
    unfold denN
    rw [hdn, hu'.at hs1.inv (StepK.refl hs1.inv) σ]
    rfl
  | bin o l r ihl ihr =>
    intro m hI hq hO hM
    obtain ⟨ho, hMl, hMr⟩ := hM
    simp only [evalAst]
    refine Outcome.bind (ihl m hI hq hO hMl) ?_
    intro u m1 hs1 hu'
    refine Outcome.bind (ihr m1 hs1.inv (hq.step hs1) (hO.frame hs1.frame) (hMr.step hs1.step)) ?_
    intro v m2 hs2 hv'
    obtain ⟨c, hcn, h2, hq1, hq2, hall, hsem⟩ := binop_conn o ho
    refine (apply_binary_out m2 hs2.inv ((hq.step hs1).step hs2) o.value c hcn h2 hq1 hq2 hall
      u v (hs2.ext.mem hu'.1) hv'.1).mono ?_
    intro w m3 hs3 ⟨hw, hdw⟩ _ _
    refine ⟨hw, fun σ => ?_⟩
    unfold denN
    rw [hdw, hsem, lift_congr hs3.frame.l2v σ, hu'.at hs1.inv hs2 σ,
      (hv'.from hI hs1 hMr).at hs2.inv (StepK.refl hs2.inv) σ]
    rfl
  | ite a b c iha ihb ihc =>
    intro m hI hq hO hM
    obtain ⟨hMa, hMb, hMc⟩ := hM
    simp only [evalAst]
    refine Outcome.bind (iha m hI hq hO hMa) ?_
    intro u m1 hs1 hu'
    have hq1 := hq.step hs1
    refine Outcome.bind (ihb m1 hs1.inv hq1 (hO.frame hs1.frame) (hMb.step hs1.step)) ?_
    intro v m2 hs2 hv'
    have hq2 := hq1.step hs2
    have hs12 := hs1.trans hs2
    refine Outcome.bind (ihc m2 hs2.inv hq2 (hO.frame hs12.frame) (hMc.step hs12.step)) ?_
    intro w m3 hs3 hw'
    refine (apply_ite_out m3 hs3.inv (hq2.step hs3) "ite" (by decide) (by decide) u v w
      (hs3.ext.mem (hs2.ext.mem hu'.1)) (hs3.ext.mem hv'.1) hw'.1).mono ?_
    intro x m4 hs4 ⟨hx, hdx⟩ _ _ _
    refine ⟨hx, fun σ => ?_⟩
    unfold denN
    rw [hdx, lift_congr hs4.frame.l2v σ, hu'.at hs1.inv (hs2.trans hs3) σ, (hv'.from hI hs1 hMb).at hs2.inv hs3 σ,
      (hw'.from hI hs12 hMc).at hs3.inv (StepK.refl hs3.inv) σ]
    rfl
  | quant fa ns e ih =>
    intro m hI hq hO hM
    obtain ⟨hns, hMe⟩ := hM
    simp only [evalAst]
    refine Outcome.bind (ih m hI hq hO hMe) ?_
    intro u m1 hs1 ⟨hu, hdu⟩
    have hns1 : ∀ s ∈ ns, m1.tbl.vars.contains s = true := by
      intro s hs; rw [hs1.names s]; exact hns s hs
    unfold quantify
    refine (Outcome.quiet (P := QuantDoc fa ns u) (hq.step hs1) (quantifyBody_out _
      (hs1.inv.setCtx true) (Or.inl rfl) (hO.frame hs1.frame : OrderOK m1.tbl) u hu fa ns hns1)).mono ?_
    intro r m2 _ ⟨hr, hd⟩ _
    refine ⟨hr, fun σ => ?_⟩
    have hfun : denN m1.tbl u = evalFormula m.tbl e := funext hdu
    have hq := hd σ
    rw [hfun, qsemN_iff_quantNames] at hq
    simp only [evalFormula]
    cases hb : quantNames fa ns (evalFormula m.tbl e) σ with
    | true => exact hq.mpr hb
    | false =>
      cases hr' : denN m2.tbl r σ with
      | false => rfl
      | true => rw [hq.mp hr'] at hb; cases hb
  | subst ss e ih =>
    intro m hI hq hO hM
    obtain ⟨hss, hMe⟩ := hM
    simp only [evalAst]
    refine Outcome.bind (ih m hI hq hO hMe) ?_
    intro u m1 hs1 ⟨hu, hdu⟩
    have hd : ∀ p ∈ (ss.map fun s => (s.2, s.1)), m1.tbl.vars.contains p.2 = true := by
      intro p hp
      obtain ⟨s, hs, rfl⟩ := List.mem_map.mp hp
      rw [hs1.names s.1]; exact hss s hs
    unfold rename
    refine (Outcome.quiet (P := RenameDoc (ss.map fun s => (s.2, s.1)) u) (hq.step hs1)
      (renameBody_out _ (hs1.inv.setCtx true) (Or.inl rfl) (hO.frame hs1.frame : OrderOK m1.tbl) u hu _ hd)).mono ?_
    intro r m2 _ ⟨hr, hdr⟩ _
    refine ⟨hr, fun σ => ?_⟩
    rw [hdr σ, hdu]
    rfl

/-- the evaluation with requests disabled (`_last_len = None`): it returns, and the reference
denotes the meaning of the tree -/
theorem evalAst_spec (t : Ast) (m : Mgr) (hI : Inv m) (hoff : m.lastLen = none)
    (hO : OrderOK m.tbl) (hM : Meaningful m.tbl t) :
    ∃ r m', evalAst t m = (.ok r, m') ∧ Step m m' ∧ m'.tbl.Mem r ∧
      ∀ an, den m'.tbl r (asgOf m.tbl an) = evalFormula m.tbl t an := by
  obtain ⟨r, m', he, hs, hr, hd⟩ := (evalAst_out t m hI (Or.inr hoff) hO hM).off hoff
  refine ⟨r, m', he, hs.step, hr, fun an => ?_⟩
  rw [← asgOf_congr hs.frame.l2v, ← denN_eq_asgOf hs.inv.wf.toWF (hO.frame hs.frame) r hr]
  exact hd an

/-- `BDD.add_expr` on a text that reads as the tree `t`, where no request is served: the outcome
of the evaluation, through its decorator -/
theorem addExpr_out (m : Mgr) (hI : Inv m) (hq : Quiet m) (hO : OrderOK m.tbl)
    (s : String) (t : Ast) (hp : parse (tokenize s) = some t) (hM : Meaningful m.tbl t) :
    Outcome m (fun r m' => ExprDoc t m.tbl r m'.tbl) (addExpr s m) := by
  rw [addExpr_parsed hp]
  exact Outcome.quiet (P := ExprDoc t) hq (evalAst_out t _ (hI.setCtx true) (Or.inl rfl) hO hM)

theorem evalAst_docBody (t : Ast) :
    DocBody (evalAst t) t.atNodes (fun T => Meaningful T t) (ExprDoc t) where
  body m0 hI0 hc hO hpre _ := evalAst_out t m0 hI0 (Or.inl hc) hO hpre
  pre T T' hB hpre := Meaningful.transfer hB.names t (fun u hu => (hB.ops u hu).1) hpre
  doc T T' r T'' hB _ hdoc := by
    refine ⟨hdoc.1, fun σ => ?_⟩
    rw [hdoc.2 σ]
    apply evalFormula_congr t
    intro u hu τ
    rw [← denN_eq_asgOf hB.wf' hB.order' u (hB.ops u hu).1 τ,
      ← denN_eq_asgOf hB.wf hB.order u (hB.mem u hu) τ]
    exact (hB.ops u hu).2 τ

/-- C09 for `add_expr`: with dynamic reordering enabled or not, at whichever `find_or_add` of
whichever nested operation the request fires -/
theorem addExpr_transparentS (ext : Nat → Nat) (m : Mgr) (hD : DynInvS ext m)
    (s : String) (t : Ast) (hp : parse (tokenize s) = some t) (hM : Meaningful m.tbl t)
    (hheld : ∀ u ∈ t.atNodes, HeldX ext u) :
    DynOutS ext (ExprDoc t) m (addExpr s m) := by
  unfold addExpr
  rw [addExprToks_parsed hp]
  exact (evalAst_docBody t).dynS ext m hD hheld hM

end DD
