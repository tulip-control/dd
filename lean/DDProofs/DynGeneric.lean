/-
  DDProofs.DynGeneric — the decorator `_try_to_reorder`, for every body, every recorded
  iteration schedule and every outcome: one theorem, `tryToReorder_resultIn`.

  `f` is any body that, inside a reordering context, in every state satisfying the invariant
  (`Pre` on its table, the operands `ops` present) returns a result documented by `Doc`, or is
  aborted by a reordering request, or raises an exception in `Fail` — always having only added
  nodes (`OutcomeX Fail`); `Pre` and `Doc` are stated by variable name, so that they survive a
  change of the variable order that keeps the operands' meaning by name (`Bridge`).

  What sifting does between the attempts is C07's theorem (`siftKeepS`, from
  `sift_every_outcome`).  The weaker readings — any schedule without the state after `.sched`,
  default schedule — are in DDProofs.DynSched.
-/
import DDProofs.DynRejected
import DDProofs.DynSchedKeep
open Std

namespace DD

/-- the observable outcome of a decorated call, every outcome accounted for: the documented result
(with everything kept and reordering enabled iff it was); or an exception that is not the internal
signal — everything kept; reordering enabled iff it was, unless the exception is the model's
`.sched`, which can only come with a recorded schedule -/
def DynResultK {α} (ext : Nat → Nat) (Doc : Tbl → α → Tbl → Prop) (m : Mgr) :
    Except Err α × Mgr → Prop
  | (.ok r, m') => DynPostS ext Doc m r m' ∧ m'.sched <:+ m.sched
  | (.error e, m') => e ≠ .needsReordering ∧ DynKeptW ext m m' ∧
      (m'.lastLen.isSome = m.lastLen.isSome ∨ (e = .sched ∧ m.sched ≠ []))

/-- `DynResultK` saying which exceptions: those of the body (`Fail`), or the model's `.sched` -/
def DynResultIn {α} (Fail : Err → Prop) (ext : Nat → Nat) (Doc : Tbl → α → Tbl → Prop) (m : Mgr) :
    Except Err α × Mgr → Prop
  | (.ok r, m') => DynPostS ext Doc m r m' ∧ m'.sched <:+ m.sched
  | (.error e, m') => DynKeptW ext m m' ∧
      ((e ≠ .needsReordering ∧ Fail e ∧ m'.lastLen.isSome = m.lastLen.isSome) ∨
        (e = .sched ∧ m.sched ≠ []))

theorem DynResultIn.toK {α} {Fail : Err → Prop} {ext : Nat → Nat} {Doc : Tbl → α → Tbl → Prop}
    {m : Mgr} {res : Except Err α × Mgr} (h : DynResultIn Fail ext Doc m res) :
    DynResultK ext Doc m res := by
  obtain ⟨r, m'⟩ := res
  cases r with
  | ok r => exact h
  | error e =>
    rcases h.2 with ⟨hne, _, hen⟩ | ⟨rfl, hs⟩
    · exact ⟨hne, h.1, Or.inl hen⟩
    · exact ⟨nofun, h.1, Or.inr ⟨rfl, hs⟩⟩

theorem DynResultIn.raises {α} {Fail : Err → Prop} {ext : Nat → Nat} {Doc : Tbl → α → Tbl → Prop}
    {m m' : Mgr} {e : Err} (h : DynResultIn Fail ext Doc m (.error e, m')) (hs : m.sched = []) :
    Fail e := by
  rcases h.2 with ⟨_, hE, _⟩ | ⟨_, hne⟩
  · exact hE
  · exact absurd hs hne

/-- `DynResultK` without a documented result: calls with arbitrary arguments -/
def DynTotalK {α} (ext : Nat → Nat) (m : Mgr) (res : Except Err α × Mgr) : Prop :=
  res.1 ≠ .error .needsReordering ∧ DynKeptW ext m res.2 ∧
  (res.2.lastLen.isSome = m.lastLen.isSome ∨ (res.1 = .error .sched ∧ m.sched ≠ []))

theorem DynResultK.total {α} {ext : Nat → Nat} {Doc : Tbl → α → Tbl → Prop} {m : Mgr}
    {res : Except Err α × Mgr} (h : DynResultK ext Doc m res) : DynTotalK ext m res := by
  obtain ⟨r, m'⟩ := res
  cases r with
  | ok r =>
    exact ⟨nofun, ⟨h.1.inv, h.1.names, h.1.held, h.1.roots, h.2⟩, Or.inl h.1.enabled⟩
  | error e =>
    refine ⟨fun h' => h.1 (by cases h'; rfl), h.2.1, ?_⟩
    rcases h.2.2 with h' | ⟨rfl, h''⟩
    · exact Or.inl h'
    · exact Or.inr ⟨rfl, h''⟩

theorem DynTotalK.same {α} {ext : Nat → Nat} {m : Mgr} (hD : DynInvS ext m) (r : Except Err α)
    (h : r ≠ .error .needsReordering) : DynTotalK ext m (r, m) :=
  ⟨h, DynKeptW.refl hD, Or.inl rfl⟩

theorem DynInvS.reorderInv {ext : Nat → Nat} {m : Mgr} (h : DynInvS ext m) : ReorderInv ext m :=
  ⟨h.inv, h.order, h.refs, Or.inl h.ctx, h.roots⟩

/-- from the vocabulary of the reorderings (`HeldSame`: unsigned held nodes) to that of the decorated calls:
a signed reference the user holds, or a constant, is still a reference and keeps its meaning by name -/
theorem HeldSame.heldX {ext : Nat → Nat} {m m' : Mgr} (hs : HeldSame ext m m') (hI : Inv m) (hI' : Inv m')
    (hR : RefExact m ext) (hR' : RefExact m' ext) {u : Int} (hu : HeldX ext u) :
    m'.tbl.Mem u ∧ ∀ σ, denN m'.tbl u σ = denN m.tbl u σ := by
  have hm : m.tbl.Mem u := hu.mem hR
  have hm' : m'.tbl.Mem u := hu.mem hR'
  refine ⟨hm', fun σ => ?_⟩
  unfold denN
  rw [den_natAbs hI'.wf.toWF hm', den_natAbs hI.wf.toWF hm]
  congr 1
  rcases hu with h1 | h1
  · rw [h1]
    show den m'.tbl 1 _ = den m.tbl 1 _
    rw [den_one, den_one]
  · exact hs u.natAbs h1 σ

/-- from C07's vocabulary (`ReorderInv`, `RelS`) to C09's -/
theorem DynKeptW.ofRelS {ext : Nat → Nat} {m m' : Mgr} (hD : DynInvS ext m)
    (hR : ReorderInv ext m') (hrel : RelS ext m m') : DynKeptW ext m m' where
  inv := ⟨hR.inv, hR.order, hR.refExact, hrel.ctx.trans hD.ctx, hR.rootsHeld,
    hrel.nvars.symm ▸ hD.nvars⟩
  names := hrel.names
  held _ hw := hrel.held.heldX hD.inv hR.inv hD.refs hR.refExact hw
  roots := hrel.roots
  sched := hrel.sched

/-- `reorder(bdd)` from a state between two calls with requests disabled, any recorded schedule
(C07, `sift_every_outcome` and totality for the empty schedule): it returns, or the model reports
that the schedule does not fit, which takes a recorded schedule; in both cases everything is kept
and requests stay disabled -/
theorem siftKeepS (ext : Nat → Nat) (m : Mgr) (hD : DynInvS ext m) (hoff : m.lastLen = none) :
    ∃ r m', reorder none m = (r, m') ∧ (r = .ok () ∨ (r = .error .sched ∧ m.sched ≠ [])) ∧
      DynKeptW ext m m' ∧ m'.lastLen = none ∧ m'.nvars = m.nvars := by
  obtain ⟨r, m', hrun, hr, hR', hrel⟩ := sift_every_outcome ext m hD.reorderInv hD.nvars
  refine ⟨r, m', hrun, ?_, .ofRelS hD hR' hrel, hrel.lastLen.trans hoff, hrel.nvars⟩
  rcases hr with h | h
  · exact Or.inl h
  · refine Or.inr ⟨h, fun hs => ?_⟩
    obtain ⟨m'', hrun'', _⟩ := applySifting_total_default ext m hD.reorderInv hD.nvars hs
    have : reorder none m = (.ok (), m'') := hrun''
    rw [hrun, h] at this
    cases this

/-- how the table `t'` seen by the retry relates to the table `t` of the call: both orders are
bijections on the same declared names, and the operands are still there with the same meaning
by name -/
structure Bridge (ops : List Int) (t t' : Tbl) : Prop where
  wf : WF t
  wf' : WF t'
  order : OrderOK t
  order' : OrderOK t'
  nvars : t'.nvars = t.nvars
  names : ∀ s, t'.vars.contains s = t.vars.contains s
  mem : ∀ u ∈ ops, t.Mem u
  ops : ∀ u ∈ ops, t'.Mem u ∧ ∀ σ, denN t' u σ = denN t u σ

theorem Bridge.of_kept {ext : Nat → Nat} {ops : List Int} {m m' : Mgr} (hD : DynInvS ext m)
    (k : DynKeptW ext m m') (hn : m'.nvars = m.nvars) (hops : ∀ u ∈ ops, HeldX ext u) :
    Bridge ops m.tbl m'.tbl :=
  ⟨hD.inv.wf.toWF, k.inv.inv.wf.toWF, hD.order, k.inv.order, hn, k.names,
   fun u hu => (hops u hu).mem hD.refs, fun u hu => k.held u (hops u hu)⟩

theorem Bridge.declared {ops : List Int} {t t' : Tbl} (h : Bridge ops t t') {s : String}
    (hs : t.vars.contains s = true) : t'.vars.contains s = true := by
  rw [h.names s]; exact hs

theorem Bridge.denN {ops : List Int} {t t' : Tbl} (h : Bridge ops t t') {u : Int} (hu : u ∈ ops) :
    DD.denN t' u = DD.denN t u :=
  funext (h.ops u hu).2

/-- from a state as it is between two calls (`DynInvS`: whatever is in `m.sched`), reordering
enabled or not, the request firing at whichever `find_or_add`, a failure happening in the first
attempt or in the retry after sifting; `.sched` is raised by the sifting between the two attempts
when the recorded schedule does not fit -/
theorem tryToReorder_resultIn {α} (Fail : Err → Prop) (ext : Nat → Nat) (f : M α)
    (ops : List Int) (Pre : Tbl → Prop) (Doc : Tbl → α → Tbl → Prop)
    (hbody : ∀ m0 : Mgr, Inv m0 → m0.ctx = true → OrderOK m0.tbl → Pre m0.tbl →
      (∀ u ∈ ops, m0.tbl.Mem u) → OutcomeX Fail m0 (fun r m1 => Doc m0.tbl r m1.tbl) (f m0))
    (hpre : ∀ t t', Bridge ops t t' → Pre t → Pre t')
    (hdoc : ∀ t t' r t'', Bridge ops t t' → Pre t → Doc t' r t'' → Doc t r t'')
    (m : Mgr) (hD : DynInvS ext m) (hops : ∀ u ∈ ops, HeldX ext u) (hpre0 : Pre m.tbl) :
    DynResultIn Fail ext Doc m (tryToReorder f m) := by
  have h1 := hbody { m with ctx := true } (hD.inv.setCtx true) rfl hD.order hpre0
    (fun u hu => (hops u hu).mem hD.refs)
  rw [tryToReorder_outer f m hD.ctx]
  generalize f { m with ctx := true } = res1 at h1
  obtain ⟨r1, m1⟩ := res1
  -- the first attempt only added nodes; the flag is cleared again
  have hs1 : StepK m { m1 with ctx := m.ctx } := by
    cases r1 <;> exact h1.1.ofCtx true
  have k1 := DynKeptW.ofStep hD hs1
  have hen1 : m1.lastLen.isSome = m.lastLen.isSome := congrArg _ hs1.frame.lastLen
  cases r1 with
  | ok r => exact ⟨k1.post h1.2 hen1, k1.sched⟩
  | error e =>
    by_cases hne : e = .needsReordering
    case neg =>
      simp only [if_neg hne]
      exact ⟨k1, Or.inl ⟨hne, h1.2.2.resolve_left hne, hen1⟩⟩
    subst hne
    have ha := h1.2.1 rfl
    -- aborted by a request: requests disabled, sifting
    obtain ⟨rr, m3, hre, hrr, k3, hl3, hnv3⟩ :=
      siftKeepS ext { m1 with ctx := m.ctx, lastLen := none } (k1.inv.setLastLen none) rfl
    simp only [if_true, hre]
    have k : DynKeptW ext m m3 := (k1.setLastLen none).trans k3
    rcases hrr with rfl | ⟨rfl, hsch⟩
    case inr => exact ⟨k, Or.inr ⟨rfl, fun h0 => hsch (hs1.frame.sched.trans h0)⟩⟩
    -- the retry: requests are disabled, so it cannot be aborted; `_last_len` is re-armed
    have hB : Bridge ops m.tbl m3.tbl := Bridge.of_kept hD k (hnv3.trans hs1.nvars) hops
    have h2 := hbody { m3 with ctx := true } (k.inv.inv.setCtx true) rfl k.inv.order
      (hpre _ _ hB hpre0) (fun u hu => (hB.ops u hu).1)
    have hen : (some (Gen.growthFactor * m3.len)).isSome = m.lastLen.isSome := ha.2.symm
    show DynResultIn Fail ext Doc m (match f { m3 with ctx := true } with
      | (.ok a, m4) => _ | (.error e, m4) => _)
    generalize f { m3 with ctx := true } = res2 at h2
    obtain ⟨r2, m4⟩ := res2
    have k5 : DynKeptW ext m
        { m4 with ctx := m3.ctx, lastLen := some (Gen.growthFactor * m3.len) } := by
      have hs4 : StepK { m3 with ctx := true } m4 := by cases r2 <;> exact h2.1
      exact k.trans ((DynKeptW.ofStep k.inv (hs4.ofCtx true)).setLastLen _)
    cases r2 with
    | ok r => exact ⟨k5.post (hdoc _ _ _ _ hB hpre0 h2.2) hen, k5.sched⟩
    | error e =>
      have hne2 : e ≠ .needsReordering := fun he => (h2.2.1 he).not_off hl3
      simp only [hne2, decide_false, Bool.false_and, Bool.false_eq_true, if_false]
      exact ⟨k5, Or.inl ⟨hne2, h2.2.2.resolve_left hne2, hen⟩⟩

theorem tryToReorder_rejectedK {α} (ext : Nat → Nat) (f : M α)
    (ops : List Int) (Pre : Tbl → Prop) (Doc : Tbl → α → Tbl → Prop)
    (hbody : ∀ m0 : Mgr, Inv m0 → m0.ctx = true → OrderOK m0.tbl → Pre m0.tbl →
      (∀ u ∈ ops, m0.tbl.Mem u) → OutcomeE m0 (fun r m1 => Doc m0.tbl r m1.tbl) (f m0))
    (hpre : ∀ t t', Bridge ops t t' → Pre t → Pre t')
    (hdoc : ∀ t t' r t'', Bridge ops t t' → Pre t → Doc t' r t'' → Doc t r t'')
    (m : Mgr) (hD : DynInvS ext m) (hops : ∀ u ∈ ops, HeldX ext u) (hpre0 : Pre m.tbl) :
    DynResultK ext Doc m (tryToReorder f m) :=
  (tryToReorder_resultIn (fun _ => True) ext f ops Pre Doc
    (fun m0 hI hc hO hp hm => (hbody m0 hI hc hO hp hm).toX) hpre hdoc m hD hops hpre0).toK

theorem tryToReorder_total_dynK {α} (ext : Nat → Nat) (f : M α)
    (hbody : ∀ m0 : Mgr, Inv m0 → m0.ctx = true → OrderOK m0.tbl → TotE m0 (f m0))
    (m : Mgr) (hD : DynInvS ext m) : DynTotalK ext m (tryToReorder f m) :=
  (tryToReorder_rejectedK ext f [] (fun _ => True) (fun _ _ _ => True)
    (fun m0 hI hc hO _ _ => (hbody m0 hI hc hO).toE) (fun _ _ _ _ => trivial)
    (fun _ _ _ _ _ _ _ => trivial) m hD nofun trivial).total

theorem tryToReorder_transparentK {α} (ext : Nat → Nat) (f : M α)
    (ops : List Int) (Pre : Tbl → Prop) (Doc : Tbl → α → Tbl → Prop)
    (hbody : ∀ m0 : Mgr, Inv m0 → m0.ctx = true → OrderOK m0.tbl → Pre m0.tbl →
      (∀ u ∈ ops, m0.tbl.Mem u) → Outcome m0 (fun r m1 => Doc m0.tbl r m1.tbl) (f m0))
    (hpre : ∀ t t', Bridge ops t t' → Pre t → Pre t')
    (hdoc : ∀ t t' r t'', Bridge ops t t' → Pre t → Doc t' r t'' → Doc t r t'')
    (m : Mgr) (hD : DynInvS ext m) (hops : ∀ u ∈ ops, HeldX ext u) (hpre0 : Pre m.tbl) :
    DynResultK ext Doc m (tryToReorder f m) :=
  (tryToReorder_resultIn (fun _ => False) ext f ops Pre Doc
    (fun m0 hI hc hO hp hm => (hbody m0 hI hc hO hp hm).toX) hpre hdoc m hD hops hpre0).toK

/-- a decorated call with any arguments, two variables declared, any recorded schedule, every
outcome -/
theorem Decorated.totalK {m : Mgr} {ext : Nat → Nat} {x : Except Err Int × Mgr} (hd : Decorated m x)
    (hD : DynInvS ext m) : DynTotalK ext m x := by
  cases hd with
  | same r hr => exact DynTotalK.same hD r hr
  | body f hf => exact tryToReorder_total_dynK ext f (fun m0 hI hc _ => hf m0 hI hc) m hD

end DD
