/-
  DDProofs.DynImageKeys — `image` / `preimage` under dynamic reordering with the renaming and the
  quantified variables given as ANY keys (names or LEVELS) that resolve to declared levels at the
  time of the call — the hypotheses of `C13_image`, and for `preimage` the same without the one on
  the targets (nothing about neighbours, shared values or the support of the target).  The wrapper
  `_image_args_by_name` turns such arguments into the names at those levels before the decorated
  body runs, so the call IS the body on these names (`image_eq_body`, `renameByName_levels`), and
  the transparency theorems by name apply; the documented result is stated with the names the
  levels had when the call was made.
-/
import DDProofs.DynImageOps
open Std

namespace DD

/-- the names, in the order of `t`, of a renaming given by level pairs -/
def namePairs (t : Tbl) (pairs : List (Int × Int)) : List (String × String) :=
  pairs.map fun p => (t.nameOf p.1.toNat, t.nameOf p.2.toNat)

theorem resKey_idem (t : Tbl) (k : Key) : resKey t (resKey t k) = resKey t k := by
  cases k with
  | lvl i => rfl
  | name s =>
    cases hv : t.vars[s]? with
    | none => simp [resKey, hv]
    | some l => simp [resKey, hv]

theorem keyByName_inj_res (t : Tbl) (hV : VarsBij t) (k k' : Key)
    (h : keyByName t (resKey t k) = keyByName t (resKey t k')) : resKey t k = resKey t k' := by
  have h2 := congrArg (resKey t) h
  rw [resKey_keyByName t hV, resKey_keyByName t hV, resKey_idem, resKey_idem] at h2
  exact h2

theorem renameByName_eq_map (t : Tbl) (hV : VarsBij t) (rn : List (Key × Key)) :
    renameByName t rn =
      (resolveRename t rn).map fun p => (keyByName t p.1, keyByName t p.2) := by
  rw [renameByName_eq, resolveRename_eq]
  have h1 : (rn.map fun p => (keyByName t p.1, keyByName t p.2)) =
      (rn.map fun p => (resKey t p.1, resKey t p.2)).map
        fun p => (keyByName t p.1, keyByName t p.2) := by
    rw [List.map_map]
    apply List.map_congr_left
    intro p _
    simp only [Function.comp, keyByName_resKey]
  rw [h1]
  apply renameDictOf_map_inj
  intro a ha b hb hab
  rw [List.map_map] at ha hb
  obtain ⟨p, _, rfl⟩ := List.mem_map.mp ha
  obtain ⟨p', _, rfl⟩ := List.mem_map.mp hb
  exact keyByName_inj_res t hV p.1 p'.1 hab

theorem keyByName_level {t : Tbl} (hO : OrderOK t) {i : Int} (h0 : 0 ≤ i) (hi : i < (t.nvars : Int)) :
    keyByName t (.lvl i) = .name (t.nameOf i.toNat) := by
  obtain ⟨v, hv⟩ := hO.total i.toNat (by omega)
  simp [keyByName, h0, hv, Tbl.nameOf]

theorem renameByName_levels {t : Tbl} (hO : OrderOK t) (rn : List (Key × Key))
    (hnl : renameNonLevel (resolveRename t rn) = false)
    (hlv : ∀ p, p ∈ intPairs (resolveRename t rn) →
      0 ≤ p.1 ∧ p.1 < (t.nvars : Int) ∧ 0 ≤ p.2 ∧ p.2 < (t.nvars : Int)) :
    renameByName t rn = (namePairs t (intPairs (resolveRename t rn))).map
      fun p => (Key.name p.1, Key.name p.2) := by
  rw [renameByName_eq_map t (VarsBij.ofOrderOK hO)]
  have hrn := eq_map_of_nonLevel _ hnl
  generalize intPairs (resolveRename t rn) = pairs at hlv hrn ⊢
  rw [hrn]
  unfold namePairs
  rw [List.map_map, List.map_map]
  apply List.map_congr_left
  intro p hp
  obtain ⟨h1, h2, h3, h4⟩ := hlv p hp
  simp only [Function.comp, keyByName_level hO h1 h2, keyByName_level hO h3 h4]

theorem level_name {t : Tbl} (hO : OrderOK t) {i : Int} (h0 : 0 ≤ i) (hi : i < (t.nvars : Int)) :
    t.vars.contains (t.nameOf i.toNat) = true ∧ lvlOf t (t.nameOf i.toNat) = i.toNat ∧
      (i.toNat : Int) = i := by
  have h : i.toNat < t.nvars := by omega
  exact ⟨nameOf_declared hO h, hO.lvlOf_nameOf h, by omega⟩

theorem level_name_inj {t : Tbl} (hO : OrderOK t) {i j : Int} (hi0 : 0 ≤ i)
    (hi : i < (t.nvars : Int)) (hj0 : 0 ≤ j) (hj : j < (t.nvars : Int))
    (he : t.nameOf i.toNat = t.nameOf j.toNat) : i = j := by
  obtain ⟨_, e1, e2⟩ := level_name hO hi0 hi
  obtain ⟨_, e1', e2'⟩ := level_name hO hj0 hj
  rw [← e2, ← e2', ← e1, ← e1', he]

theorem resolveRename_keys_nodup (t : Tbl) (rn : List (Key × Key)) :
    ((resolveRename t rn).map (·.1)).Nodup := by
  rw [resolveRename_eq, renameDictOf_keys]
  exact List.pairwise_reverse.mpr ((nodup_dedup _).imp fun hab => hab.symm)

theorem mapToLevelE_lt {t : Tbl} (hO : OrderOK t) (qvars : List Key) (q : List Nat)
    (h : mapToLevelE t qvars = .ok q) : ∀ j ∈ q, j < t.nvars := by
  intro j hj
  obtain ⟨nm, hnm⟩ := mapToLevelE_named t (VarsBij.ofOrderOK hO) qvars q h j hj
  exact hO.lt nm j ((hO.inv nm j).mpr hnm)

theorem preimagePreL_of_levels (m : Mgr) (hO : OrderOK m.tbl) (rn : List (Key × Key))
    (qvars : List Key) (q : List Nat) (hq : mapToLevelE m.tbl qvars = .ok q)
    (hov : renameOverlap (resolveRename m.tbl rn) = false)
    (hnl : renameNonLevel (resolveRename m.tbl rn) = false)
    (hlv : ∀ p, p ∈ intPairs (resolveRename m.tbl rn) →
      0 ≤ p.1 ∧ p.1 < (m.nvars : Int) ∧ 0 ≤ p.2 ∧ p.2 < (m.nvars : Int)) :
    PreimagePreL (namePairs m.tbl (intPairs (resolveRename m.tbl rn))) (q.map m.tbl.nameOf)
      m.tbl := by
  have hkeys := resolveRename_keys_nodup m.tbl rn
  have hrn := eq_map_of_nonLevel _ hnl
  generalize intPairs (resolveRename m.tbl rn) = pairs at hlv hrn ⊢
  rw [hrn] at hov hkeys
  rw [List.map_map, List.Nodup, List.pairwise_map] at hkeys
  unfold namePairs
  refine ⟨?_, fun x hx => ?_, fun s hs => ?_, fun x x' hx hx' he => ?_⟩
  · rw [List.map_map, List.Nodup, List.pairwise_map]
    exact hkeys.imp_of_mem fun {a b} ha hb hab he => hab (congrArg Key.lvl
      (level_name_inj hO (hlv a ha).1 (hlv a ha).2.1 (hlv b hb).1 (hlv b hb).2.1 he))
  · obtain ⟨p, hp, rfl⟩ := List.mem_map.mp hx
    exact ⟨(level_name hO (hlv p hp).1 (hlv p hp).2.1).1,
      (level_name hO (hlv p hp).2.2.1 (hlv p hp).2.2.2).1⟩
  · obtain ⟨j, hj, rfl⟩ := List.mem_map.mp hs
    exact nameOf_declared hO (mapToLevelE_lt hO qvars q hq j hj)
  · obtain ⟨p, hp, rfl⟩ := List.mem_map.mp hx
    obtain ⟨p', hp', rfl⟩ := List.mem_map.mp hx'
    exact (renameOverlap_lvls _).mp hov p p' hp hp'
      (level_name_inj hO (hlv p hp).2.2.1 (hlv p hp).2.2.2 (hlv p' hp').1 (hlv p' hp').2.1 he)

theorem imagePre_of_levels (m : Mgr) (hI : Inv m) (hO : OrderOK m.tbl) (trans source : Int)
    (hu : m.tbl.Mem trans) (hv : m.tbl.Mem source) (rn : List (Key × Key)) (qvars : List Key)
    (q : List Nat) (hq : mapToLevelE m.tbl qvars = .ok q)
    (hov : renameOverlap (resolveRename m.tbl rn) = false)
    (hnl : renameNonLevel (resolveRename m.tbl rn) = false)
    (hlv : ∀ p, p ∈ intPairs (resolveRename m.tbl rn) →
      0 ≤ p.1 ∧ p.1 < (m.nvars : Int) ∧ 0 ≤ p.2 ∧ p.2 < (m.nvars : Int))
    (htg : ∀ p, p ∈ intPairs (resolveRename m.tbl rn) → ∀ l : Nat, p.2 = (l : Int) →
      l ∈ q ∨ (¬ dependsOn m.tbl trans l ∧ ¬ dependsOn m.tbl source l)) :
    ImagePre trans source (namePairs m.tbl (intPairs (resolveRename m.tbl rn)))
      (q.map m.tbl.nameOf) m.tbl := by
  have hW := hI.wf.toWF
  have hL := preimagePreL_of_levels m hO rn qvars q hq hov hnl hlv
  refine ⟨hL.keys, hL.decl, hL.qdecl, hL.noOverlap, fun x hx => ?_⟩
  obtain ⟨p, hp, rfl⟩ := List.mem_map.mp hx
  obtain ⟨hd2, e2, e3⟩ := level_name hO (hlv p hp).2.2.1 (hlv p hp).2.2.2
  refine (htg p hp _ e3.symm).imp (fun h => List.mem_map.mpr ⟨_, h, rfl⟩) fun h => ?_
  rw [← e2] at h
  exact ⟨mt (dependsOnN_iff hW hO trans hu _ hd2).mp h.1,
    mt (dependsOnN_iff hW hO source hv _ hd2).mp h.2⟩

/-- C09 for `image`, arguments as in `C13_image` (names or levels, resolving to declared levels
at the time of the call): the documented result, stated with the names the levels had -/
theorem image_keys_transparentS (ext : Nat → Nat) (m : Mgr)
    (hD : DynInvS ext m) (trans source : Int) (ht : HeldX ext trans) (hs : HeldX ext source)
    (fa : Bool) (rn : List (Key × Key)) (qvars : List Key) (q : List Nat)
    (hq : mapToLevelE m.tbl qvars = .ok q)
    (hov : renameOverlap (resolveRename m.tbl rn) = false)
    (hnl : renameNonLevel (resolveRename m.tbl rn) = false)
    (hlv : ∀ p, p ∈ intPairs (resolveRename m.tbl rn) →
      0 ≤ p.1 ∧ p.1 < (m.nvars : Int) ∧ 0 ≤ p.2 ∧ p.2 < (m.nvars : Int))
    (htg : ∀ p, p ∈ intPairs (resolveRename m.tbl rn) → ∀ l : Nat, p.2 = (l : Int) →
      l ∈ q ∨ (¬ dependsOn m.tbl trans l ∧ ¬ dependsOn m.tbl source l)) :
    DynOutS ext (ImageDoc fa (q.map m.tbl.nameOf)
        (namePairs m.tbl (intPairs (resolveRename m.tbl rn))) trans source) m
      (image trans source rn qvars fa m) := by
  have hpre := imagePre_of_levels m hD.inv hD.order trans source (ht.mem hD.refs) (hs.mem hD.refs)
    rn qvars q hq hov hnl hlv htg
  rw [image_eq_body (qvarsByName_eq m.tbl (VarsBij.ofOrderOK hD.order) qvars q hq),
    renameByName_levels hD.order rn hnl hlv]
  exact imageBody_transparentS ext m hD trans source ht hs fa _ _ hpre

/-- C09 for `preimage` under its literal preconditions, keys as names or levels resolving to
declared levels at the time of the call: any order, any renaming, any target -/
theorem preimage_keys_literal_transparentS (ext : Nat → Nat) (m : Mgr)
    (hD : DynInvS ext m) (trans target : Int) (ht : HeldX ext trans) (hs : HeldX ext target)
    (fa : Bool) (rn : List (Key × Key)) (qvars : List Key) (q : List Nat)
    (hq : mapToLevelE m.tbl qvars = .ok q)
    (hov : renameOverlap (resolveRename m.tbl rn) = false)
    (hnl : renameNonLevel (resolveRename m.tbl rn) = false)
    (hlv : ∀ p, p ∈ intPairs (resolveRename m.tbl rn) →
      0 ≤ p.1 ∧ p.1 < (m.nvars : Int) ∧ 0 ≤ p.2 ∧ p.2 < (m.nvars : Int)) :
    DynOutS ext (PreimageDoc fa (q.map m.tbl.nameOf)
        (namePairs m.tbl (intPairs (resolveRename m.tbl rn))) trans target) m
      (preimage trans target rn qvars fa m) := by
  have hpre := preimagePreL_of_levels m hD.order rn qvars q hq hov hnl hlv
  rw [preimage_eq_body (qvarsByName_eq m.tbl (VarsBij.ofOrderOK hD.order) qvars q hq),
    renameByName_levels hD.order rn hnl hlv]
  exact preimageBody_transparentS ext m hD trans target ht hs fa _ _ hpre

end DD
