/-
  DDProofs.DynImageOps — `image` and `preimage` under dynamic reordering: the documented bodies
  (`DocBody`, DDProofs.DynSched) of the two decorated functions.  The module-level functions turn
  their arguments into variable NAMES before the decorated bodies `_image_of` / `_preimage_of` run,
  so the precondition and the documented result are stated by name and survive a change of the
  variable order.  `image` returns `rename(Q qvars. trans ∧ source)` (C13) in ANY order; so does
  `preimage` with `Q qvars. trans ∧ rename(target)`: when the partners of the renaming are
  neighbours the body runs the recursion `_image`, otherwise (sifting moves single variables and
  may separate them: finding F4d) it renames the target, conjoins and quantifies
  (`preimageFallback`, DDProofs.DynPreimage).
-/
import DDProofs.DynPreimage
import DDProofs.DynOps
import DDProofs.VarsBijOrder
open Std

namespace DD

def updN (σ : AsgN) (s : String) (x : Bool) : AsgN := fun s' => if s' = s then x else σ s'

/-- the function of `u` depends on the variable named `s` -/
def dependsOnN (t : Tbl) (u : Int) (s : String) : Prop :=
  ∃ σ, denN t u (updN σ s true) ≠ denN t u (updN σ s false)

theorem not_dependsOnN_one (t : Tbl) (s : String) : ¬ dependsOnN t 1 s := by
  rintro ⟨σ, hne⟩
  exact hne (by unfold denN; rw [den_one, den_one])

theorem lift_updN {t : Tbl} (hO : OrderOK t) {s : String} (hs : t.vars.contains s = true)
    (σ : AsgN) (x : Bool) {i : Nat} (hi : i < t.nvars) :
    t.lift (updN σ s x) i = upd (t.lift σ) (lvlOf t s) x i := by
  show updN σ s x (t.nameOf i) = _
  unfold updN upd
  by_cases he : i = lvlOf t s
  · have : t.nameOf i = s := ((hO.lvlOf_eq_iff hs hi).mp he.symm).symm
    rw [if_pos this, if_pos he]
  · have : ¬ t.nameOf i = s := fun h => he ((hO.lvlOf_eq_iff hs hi).mpr h.symm).symm
    simp only [this, he, if_false]
    rfl

theorem denN_updN {t : Tbl} (hw : WF t) (hO : OrderOK t) {u : Int} (hu : t.Mem u) {s : String}
    (hs : t.vars.contains s = true) (σ : AsgN) (x : Bool) :
    denN t u (updN σ s x) = den t u (upd (t.lift σ) (lvlOf t s) x) :=
  den_agree_ge t hw u hu _ _ fun _ _ hi => lift_updN hO hs σ x hi

theorem dependsOnN_iff {t : Tbl} (hw : WF t) (hO : OrderOK t) (u : Int) (hu : t.Mem u) (s : String)
    (hs : t.vars.contains s = true) : dependsOnN t u s ↔ dependsOn t u (lvlOf t s) := by
  constructor
  · rintro ⟨σ, hne⟩
    exact ⟨t.lift σ, by rwa [← denN_updN hw hO hu hs, ← denN_updN hw hO hu hs]⟩
  · rintro ⟨a, hne⟩
    refine ⟨unlift t a (fun _ => false), ?_⟩
    have h : ∀ x, den t u (upd (t.lift (unlift t a fun _ => false)) (lvlOf t s) x) =
        den t u (upd a (lvlOf t s) x) := fun x =>
      den_agree_ge t hw u hu _ _ fun i _ hi => by
        unfold upd
        split
        · rfl
        · exact lift_unlift hO a _ hi
    rwa [denN_updN hw hO hu hs, denN_updN hw hO hu hs, h, h]

theorem dependsOnN_congr {t t' : Tbl} {u : Int} (h : ∀ σ, denN t' u σ = denN t u σ) (s : String) :
    dependsOnN t' u s ↔ dependsOnN t u s := by
  unfold dependsOnN
  constructor
  · rintro ⟨σ, hne⟩; exact ⟨σ, by rw [← h, ← h]; exact hne⟩
  · rintro ⟨σ, hne⟩; exact ⟨σ, by rw [h, h]; exact hne⟩

theorem qsem_mono_low {t : Tbl} {F : Asg → Bool} (hF : LowOnly t F) (fa : Bool) (Q : List Nat)
    (a a' : Asg) (h : ∀ i, i < t.nvars → a i = a' i) : qsem fa Q F a → qsem fa Q F a' := by
  have key : ∀ a a' : Asg, (∀ i, i < t.nvars → a i = a' i) → ∀ b, AgreeOff Q b a →
      ∃ b', AgreeOff Q b' a' ∧ F b' = F b := by
    intro a a' h b hb
    refine ⟨fun i => if i < t.nvars then b i else a' i, fun j hj => ?_, hF _ _ fun i hi => if_pos hi⟩
    by_cases hlt : j < t.nvars
    · exact (if_pos hlt).trans ((hb j hj).trans (h j hlt))
    · exact if_neg hlt
  cases fa with
  | true =>
    intro hq b hb
    obtain ⟨b', hb', he⟩ := key a' a (fun i hi => (h i hi).symm) b hb
    rw [← he]
    exact hq b' hb'
  | false =>
    rintro ⟨b, hb, hv⟩
    obtain ⟨b', hb', he⟩ := key a a' h b hb
    exact ⟨b', hb', he ▸ hv⟩

theorem qsem_congr_low {t : Tbl} {F : Asg → Bool} (hF : LowOnly t F) (fa : Bool) (Q : List Nat)
    (a a' : Asg) (h : ∀ i, i < t.nvars → a i = a' i) : qsem fa Q F a ↔ qsem fa Q F a' :=
  ⟨qsem_mono_low hF fa Q a a' h, qsem_mono_low hF fa Q a' a fun i hi => (h i hi).symm⟩

/-- `rename.get(s, s)` on names -/
def renN (l : List (String × String)) (s : String) : String := (l.lookup s).getD s

def lvlPairs (t : Tbl) (l : List (String × String)) : List (Int × Int) :=
  l.map fun p => ((lvlOf t p.1 : Int), (lvlOf t p.2 : Int))

theorem nameOf_declared {t : Tbl} (hO : OrderOK t) {i : Nat} (hi : i < t.nvars) :
    t.vars.contains (t.nameOf i) = true :=
  (vars_contains_iff t _).mpr ⟨i, hO.vars_nameOf hi⟩

theorem lookup_lvlPairs {t : Tbl} (hO : OrderOK t) {i : Nat} (hi : i < t.nvars)
    (l : List (String × String)) (hd : ∀ p ∈ l, t.vars.contains p.1 = true) :
    (lvlPairs t l).lookup (i : Int) = (l.lookup (t.nameOf i)).map fun s => (lvlOf t s : Int) := by
  have := lookup_map_inj (fun s => (lvlOf t s : Int)) (fun s => (lvlOf t s : Int)) l (t.nameOf i)
    fun p hp he => (VarsBij.ofOrderOK hO).lvlOf_inj (hd p hp) (nameOf_declared hO hi) (Int.ofNat.inj he)
  rwa [hO.lvlOf_nameOf hi] at this

theorem nameOf_renOf {t : Tbl} (hO : OrderOK t) (l : List (String × String))
    (hd : ∀ p ∈ l, t.vars.contains p.1 = true ∧ t.vars.contains p.2 = true) {i : Nat}
    (hi : i < t.nvars) : t.nameOf (renOf (lvlPairs t l) i) = renN l (t.nameOf i) := by
  unfold renOf renN
  rw [lookup_lvlPairs hO hi l (fun p hp => (hd p hp).1)]
  cases hl : l.lookup (t.nameOf i) with
  | none => simp
  | some s2 =>
    have hm := lookup_some_mem _ _ _ hl
    have hs2 := (hd _ hm).2
    obtain ⟨j, hj⟩ := (vars_contains_iff t s2).mp hs2
    simp only [Option.map_some, Option.getD_some, Int.toNat_natCast, lvlOf_eq hj]
    exact hO.nameOf_level hj

theorem keyByName_declared {t : Tbl} (hO : OrderOK t) {s : String} (hs : t.vars.contains s = true) :
    keyByName t (.name s) = .name s := by
  obtain ⟨i, hi⟩ := (vars_contains_iff t s).mp hs
  have hl := (hO.inv s i).mp hi
  simp [keyByName, hi, hl]

theorem renameByName_names {t : Tbl} (hO : OrderOK t) (l : List (String × String))
    (hkeys : (l.map (·.1)).Nodup)
    (hd : ∀ p ∈ l, t.vars.contains p.1 = true ∧ t.vars.contains p.2 = true) :
    renameByName t (l.map fun p => (Key.name p.1, Key.name p.2)) =
      l.map fun p => (Key.name p.1, Key.name p.2) := by
  rw [renameByName_eq, List.map_map]
  have : l.map ((fun p : Key × Key => (keyByName t p.1, keyByName t p.2)) ∘
      fun p : String × String => (Key.name p.1, Key.name p.2)) =
      l.map fun p => (Key.name p.1, Key.name p.2) := by
    apply List.map_congr_left
    intro p hp
    simp only [Function.comp]
    rw [keyByName_declared hO (hd p hp).1, keyByName_declared hO (hd p hp).2]
  rw [this]
  apply renameDictOf_nodup
  rw [List.map_map]
  have : ((·.1) ∘ fun p : String × String => (Key.name p.1, Key.name p.2)) = Key.name ∘ (·.1) := by
    funext p; rfl
  rw [this, ← List.map_map]
  exact List.Pairwise.map _ (fun a b hab he => hab (Key.name.inj he)) hkeys

theorem qvarsByName_names {t : Tbl} (hO : OrderOK t) (qs : List String)
    (hqd : ∀ s ∈ qs, t.vars.contains s = true) :
    qvarsByName t (qs.map Key.name) = .ok (qs.map Key.name) := by
  rw [qvarsByName_eq t (VarsBij.ofOrderOK hO) _ _ (mapToLevelE_names t qs hqd), List.map_map, List.map_map]
  congr 1
  apply List.map_congr_left
  intro s hs
  obtain ⟨i, hi⟩ := (vars_contains_iff t s).mp (hqd s hs)
  simp only [Function.comp, lvlOf_eq hi, hO.nameOf_level hi]

/-- what `image` asks of its arguments, by name: declared names, pairwise distinct keys, no key
is a value, every target quantified or outside the supports of both operands -/
structure ImagePre (trans source : Int) (l : List (String × String)) (qs : List String) (t : Tbl) :
    Prop where
  keys : (l.map (·.1)).Nodup
  decl : ∀ p ∈ l, t.vars.contains p.1 = true ∧ t.vars.contains p.2 = true
  qdecl : ∀ s ∈ qs, t.vars.contains s = true
  noOverlap : ∀ p p', p ∈ l → p' ∈ l → p.2 ≠ p'.1
  targets : ∀ p ∈ l, p.2 ∈ qs ∨ (¬ dependsOnN t trans p.2 ∧ ¬ dependsOnN t source p.2)

/-- documented result of `image(trans, source, rename, qvars, forall)`, by name: the quantified
conjunction, with every variable read at the name it is renamed to -/
def ImageDoc (fa : Bool) (qs : List String) (l : List (String × String)) (trans source : Int)
    (t : Tbl) (r : Int) (t' : Tbl) : Prop :=
  t'.Mem r ∧ ∀ σ, denN t' r σ = true ↔
    qsemN fa qs (fun τ => denN t trans τ && denN t source τ) (fun s => σ (renN l s))

theorem lowOnly_conj {t : Tbl} (hW : WF t) {u v : Int} (hu : t.Mem u) (hv : t.Mem v) (rV : Nat → Nat)
    (hr : ∀ i, i < t.nvars → rV i < t.nvars) :
    LowOnly t (fun b => den t u b && den t v (fun j => b (rV j))) := by
  intro b b' hb
  show (den t u b && den t v (fun j => b (rV j))) = (den t u b' && den t v (fun j => b' (rV j)))
  rw [den_agree_ge t hW u hu b b' (fun i _ hi => hb i hi),
    den_agree_ge t hW v hv (fun j => b (rV j)) (fun j => b' (rV j)) (fun i _ hi => hb _ (hr i hi))]

theorem imageBody_out (m0 : Mgr) (hI0 : Inv m0) (hq : Quiet m0) (hO : OrderOK m0.tbl)
    (trans source : Int) (hu : m0.tbl.Mem trans) (hv : m0.tbl.Mem source) (fa : Bool)
    (l : List (String × String)) (qs : List String) (hpre : ImagePre trans source l qs m0.tbl) :
    Outcome m0 (fun r m1 => ImageDoc fa qs l trans source m0.tbl r m1.tbl)
      (imageBody trans source (l.map fun p => (Key.name p.1, Key.name p.2)) (qs.map Key.name)
        fa m0) := by
  have hW := hI0.wf.toWF
  obtain ⟨hip, hov, hnl, _, _, hlv⟩ :=
    lvlPairs_facts (VarsBij.ofOrderOK hO) l hpre.keys hpre.decl hpre.noOverlap _ rfl (lvlPairs m0.tbl l) rfl
  have hout := imageBody_out_levels m0 hI0 hq (VarsBij.ofOrderOK hO) trans source hu hv _ _ fa _
    (mapToLevelE_names m0.tbl qs hpre.qdecl) hov hnl hlv
    (hip ▸ lvlPairs_targets fun p hp => (hpre.targets p hp).imp_right fun h =>
      ⟨mt (dependsOnN_iff hW hO trans hu _ (hpre.decl p hp).2).mpr h.1,
        mt (dependsOnN_iff hW hO source hv _ (hpre.decl p hp).2).mpr h.2⟩)
  rw [hip] at hout
  refine hout.mono fun r m1 hs ⟨hr, hden⟩ => ⟨hr, fun σ => ?_⟩
  -- the statement by level is the statement by name
  have hF : LowOnly m0.tbl (fun b => den m0.tbl trans b && den m0.tbl source b) :=
    lowOnly_conj hW hu hv id fun _ h => h
  unfold denN
  rw [hden, lift_congr hs.frame.l2v, qsem_congr_low hF fa _ (fun z => m0.tbl.lift σ (renOf (lvlPairs m0.tbl l) z))
    (m0.tbl.lift fun s => σ (renN l s)) fun i hi => congrArg σ (nameOf_renOf hO l hpre.decl hi)]
  exact qsem_lift_gen hO hF fa qs hpre.qdecl _

theorem ImagePre.bridge {trans source : Int} {l : List (String × String)} {qs : List String}
    {t t' : Tbl} (hB : Bridge [trans, source] t t') (h : ImagePre trans source l qs t) :
    ImagePre trans source l qs t' := by
  refine ⟨h.keys, fun p hp => ?_, fun s hs => ?_, h.noOverlap, fun p hp => ?_⟩
  · rw [hB.names, hB.names]; exact h.decl p hp
  · rw [hB.names]; exact h.qdecl s hs
  · rcases h.targets p hp with h1 | ⟨h1, h2⟩
    · exact Or.inl h1
    · refine Or.inr ⟨fun hh => h1 ?_, fun hh => h2 ?_⟩
      · exact (dependsOnN_congr (hB.ops trans (by simp)).2 p.2).mp hh
      · exact (dependsOnN_congr (hB.ops source (by simp)).2 p.2).mp hh

theorem image_eq_body {m : Mgr} {qvars qn : List Key} (hq : qvarsByName m.tbl qvars = .ok qn)
    (trans source : Int) (rn : List (Key × Key)) (fa : Bool) :
    image trans source rn qvars fa m =
      tryToReorder (imageBody trans source (renameByName m.tbl rn) qn fa) m := by
  unfold image
  rw [hq]

theorem imageBody_docBody (trans source : Int) (fa : Bool) (l : List (String × String))
    (qs : List String) :
    DocBody (imageBody trans source (l.map fun p => (Key.name p.1, Key.name p.2))
      (qs.map Key.name) fa) [trans, source] (ImagePre trans source l qs)
      (ImageDoc fa qs l trans source) where
  body m0 hI0 hc hO hp hmem := imageBody_out m0 hI0 (Or.inl hc) hO trans source
    (hmem trans (by simp)) (hmem source (by simp)) fa l qs hp
  pre _ _ hB hp := hp.bridge hB
  doc t t' r t'' hB _ hdoc := by
    unfold ImageDoc at hdoc ⊢
    rw [hB.denN (u := trans) (by simp), hB.denN (u := source) (by simp)] at hdoc
    exact hdoc

/-- C09 for the decorated body of `image` on declared names: operands held by the user.  Whether
or not a reordering request is served (at whichever `find_or_add`), the result is the documented
image relative to the operands as they were. -/
theorem imageBody_transparentS (ext : Nat → Nat) (m : Mgr) (hD : DynInvS ext m)
    (trans source : Int) (ht : HeldX ext trans) (hs : HeldX ext source) (fa : Bool)
    (l : List (String × String)) (qs : List String) (hpre : ImagePre trans source l qs m.tbl) :
    DynOutS ext (ImageDoc fa qs l trans source) m (tryToReorder (imageBody trans source
      (l.map fun p => (Key.name p.1, Key.name p.2)) (qs.map Key.name) fa) m) :=
  (imageBody_docBody trans source fa l qs).dynS ext m hD (by simp [ht, hs]) hpre

/-- C09 for `image`: operands held by the user, renaming and quantified variables given by
declared names -/
theorem image_transparentS (ext : Nat → Nat) (m : Mgr) (hD : DynInvS ext m)
    (trans source : Int) (ht : HeldX ext trans) (hs : HeldX ext source) (fa : Bool)
    (l : List (String × String)) (qs : List String) (hpre : ImagePre trans source l qs m.tbl) :
    DynOutS ext (ImageDoc fa qs l trans source) m (image trans source
      (l.map fun p => (Key.name p.1, Key.name p.2)) (qs.map Key.name) fa m) := by
  rw [image_eq_body (qvarsByName_names hD.order qs hpre.qdecl),
    renameByName_names hD.order l hpre.keys hpre.decl]
  exact imageBody_transparentS ext m hD trans source ht hs fa l qs hpre

theorem renameNeighbors_lvls (pairs : List (Int × Int)) :
    renameNeighbors (pairs.map fun p => (Key.lvl p.1, Key.lvl p.2)) = true ↔
      ∀ p, p ∈ pairs → (p.1 - p.2).natAbs = 1 := by
  unfold renameNeighbors
  rw [intPairs_map_lvl, List.all_eq_true]
  simp only [beq_iff_eq]

/-- the literal preconditions of `preimage`, by name: declared names, pairwise distinct keys, no
key is a value.  Nothing about the order, the shape of the renaming, or the target. -/
structure PreimagePreL (l : List (String × String)) (qs : List String) (t : Tbl) : Prop where
  keys : (l.map (·.1)).Nodup
  decl : ∀ p ∈ l, t.vars.contains p.1 = true ∧ t.vars.contains p.2 = true
  qdecl : ∀ s ∈ qs, t.vars.contains s = true
  noOverlap : ∀ p p', p ∈ l → p' ∈ l → p.2 ≠ p'.1

/-- what `preimage` asks of its arguments by name: declared names, pairwise distinct keys, no
key is a value, no two keys with the same value, the target independent of every value.  Nothing
is asked of the ORDER: when some partners are not neighbours (`AdjN` false) the body renames,
conjoins and quantifies instead of running `_image`. -/
structure PreimagePreN (target : Int) (l : List (String × String)) (qs : List String) (t : Tbl) :
    Prop where
  keys : (l.map (·.1)).Nodup
  decl : ∀ p ∈ l, t.vars.contains p.1 = true ∧ t.vars.contains p.2 = true
  qdecl : ∀ s ∈ qs, t.vars.contains s = true
  noOverlap : ∀ p p', p ∈ l → p' ∈ l → p.2 ≠ p'.1
  injective : ∀ p p', p ∈ l → p' ∈ l → p.2 = p'.2 → p.1 = p'.1
  indep : ∀ p ∈ l, ¬ dependsOnN t target p.2

theorem PreimagePreN.toL {target : Int} {l : List (String × String)} {qs : List String} {t : Tbl}
    (h : PreimagePreN target l qs t) : PreimagePreL l qs t := ⟨h.keys, h.decl, h.qdecl, h.noOverlap⟩

/-- in the order of `t` every renamed variable is a neighbour of its partner -/
def AdjN (t : Tbl) (l : List (String × String)) : Prop :=
  ∀ p ∈ l, ((lvlOf t p.1 : Int) - (lvlOf t p.2 : Int)).natAbs = 1

/-- documented result of `preimage(trans, target, rename, qvars, forall)`, by name:
`Q qvars. trans ∧ rename(target)` (the target read with every variable at its partner) -/
def PreimageDoc (fa : Bool) (qs : List String) (l : List (String × String)) (trans target : Int)
    (t : Tbl) (r : Int) (t' : Tbl) : Prop :=
  t'.Mem r ∧ ∀ σ, denN t' r σ = true ↔
    qsemN fa qs (fun τ => denN t trans τ && denN t target (fun s => τ (renN l s))) σ

/-- body of `preimage` on declared names, where no request is served, ANY order (partners neighbours: the
recursion `_image`; otherwise rename, conjoin, quantify): the documented result by name, or
abort having only added nodes -/
theorem preimageBody_out (m0 : Mgr) (hI0 : Inv m0) (hq : Quiet m0) (hO : OrderOK m0.tbl)
    (trans target : Int) (hu : m0.tbl.Mem trans) (hv : m0.tbl.Mem target) (fa : Bool)
    (l : List (String × String)) (qs : List String) (hpre : PreimagePreL l qs m0.tbl) :
    Outcome m0 (fun r m1 => PreimageDoc fa qs l trans target m0.tbl r m1.tbl)
      (preimageBody trans target (l.map fun p => (Key.name p.1, Key.name p.2)) (qs.map Key.name)
        fa m0) := by
  have hW := hI0.wf.toWF
  obtain ⟨hip, hov, _, hnb, hne, hlv⟩ :=
    lvlPairs_facts (VarsBij.ofOrderOK hO) l hpre.keys hpre.decl hpre.noOverlap _ rfl (lvlPairs m0.tbl l) rfl
  have hout := preimageBody_out_levels m0 hI0 hq (VarsBij.ofOrderOK hO) trans target hu hv _ _ fa _
    (mapToLevelE_names m0.tbl qs hpre.qdecl) hne hov hnb hlv
  rw [hip] at hout hlv
  refine hout.mono fun r m1 hs ⟨hr, hden⟩ => ⟨hr, fun σ => ?_⟩
  -- the statement by level is the statement by name
  have hF := lowOnly_conj hW hu hv (renOf (lvlPairs m0.tbl l)) fun i hi => (renOf_declared hlv i hi).2
  unfold denN
  rw [hden, lift_congr hs.frame.l2v]
  refine (qsem_lift_gen hO hF fa qs hpre.qdecl σ).trans (qsemN_congr fa qs _ _ (fun τ => ?_) σ)
  show (den m0.tbl trans (m0.tbl.lift τ) &&
      den m0.tbl target (fun j => m0.tbl.lift τ (renOf (lvlPairs m0.tbl l) j))) =
    (denN m0.tbl trans τ && denN m0.tbl target (fun s => τ (renN l s)))
  unfold denN
  congr 1
  exact den_agree_ge m0.tbl hW target hv _ _ fun i _ hi =>
    congrArg τ (nameOf_renOf hO l hpre.decl hi)

theorem PreimagePreL.bridge {ops : List Int} {l : List (String × String)} {qs : List String}
    {t t' : Tbl} (hB : Bridge ops t t') (h : PreimagePreL l qs t) : PreimagePreL l qs t' := by
  refine ⟨h.keys, fun p hp => ?_, fun s hs => ?_, h.noOverlap⟩
  · rw [hB.names, hB.names]; exact h.decl p hp
  · rw [hB.names]; exact h.qdecl s hs

theorem PreimagePreN.bridge {trans target : Int} {l : List (String × String)} {qs : List String}
    {t t' : Tbl} (hB : Bridge [trans, target] t t') (h : PreimagePreN target l qs t) :
    PreimagePreN target l qs t' := by
  refine ⟨h.keys, fun p hp => ?_, fun s hs => ?_, h.noOverlap, h.injective, fun p hp hh => ?_⟩
  · rw [hB.names, hB.names]; exact h.decl p hp
  · rw [hB.names]; exact h.qdecl s hs
  · exact h.indep p hp ((dependsOnN_congr (hB.ops target (by simp)).2 p.2).mp hh)

theorem preimage_eq_body {m : Mgr} {qvars qn : List Key} (hq : qvarsByName m.tbl qvars = .ok qn)
    (trans target : Int) (rn : List (Key × Key)) (fa : Bool) :
    preimage trans target rn qvars fa m =
      tryToReorder (preimageBody trans target (renameByName m.tbl rn) qn fa) m := by
  unfold preimage
  rw [hq]

theorem preimageBody_docBody (trans target : Int) (fa : Bool) (l : List (String × String))
    (qs : List String) :
    DocBody (preimageBody trans target (l.map fun p => (Key.name p.1, Key.name p.2))
      (qs.map Key.name) fa) [trans, target] (PreimagePreL l qs)
      (PreimageDoc fa qs l trans target) where
  body m0 hI0 hc hO hp hmem := preimageBody_out m0 hI0 (Or.inl hc) hO trans target
    (hmem trans (by simp)) (hmem target (by simp)) fa l qs hp
  pre _ _ hB hp := hp.bridge hB
  doc t t' r t'' hB _ hdoc := by
    unfold PreimageDoc at hdoc ⊢
    rw [hB.denN (u := trans) (by simp), hB.denN (u := target) (by simp)] at hdoc
    exact hdoc

/-- C09 for the decorated body of `preimage` under its LITERAL preconditions (declared names,
pairwise distinct keys, no key is a value — any order, any renaming, any target): operands held by
the user.  Whether or not a reordering request is served, and whatever sifting does to the
partners, the result is the documented preimage relative to the operands as they were. -/
theorem preimageBody_transparentS (ext : Nat → Nat) (m : Mgr) (hD : DynInvS ext m)
    (trans target : Int) (ht : HeldX ext trans) (hs : HeldX ext target)
    (fa : Bool) (l : List (String × String)) (qs : List String)
    (hpre : PreimagePreL l qs m.tbl) :
    DynOutS ext (PreimageDoc fa qs l trans target) m (tryToReorder (preimageBody trans target
      (l.map fun p => (Key.name p.1, Key.name p.2)) (qs.map Key.name) fa) m) :=
  (preimageBody_docBody trans target fa l qs).dynS ext m hD (by simp [ht, hs]) hpre

/-- C09 for `preimage` under its literal preconditions, arguments given by declared names -/
theorem preimage_literal_transparentS (ext : Nat → Nat) (m : Mgr) (hD : DynInvS ext m)
    (trans target : Int) (ht : HeldX ext trans) (hs : HeldX ext target)
    (fa : Bool) (l : List (String × String)) (qs : List String)
    (hpre : PreimagePreL l qs m.tbl) :
    DynOutS ext (PreimageDoc fa qs l trans target) m (preimage trans target
      (l.map fun p => (Key.name p.1, Key.name p.2)) (qs.map Key.name) fa m) := by
  rw [preimage_eq_body (qvarsByName_names hD.order qs hpre.qdecl),
    renameByName_names hD.order l hpre.keys hpre.decl]
  exact preimageBody_transparentS ext m hD trans target ht hs fa l qs hpre

/-- C09 for `preimage` under hypotheses that include the literal ones -/
theorem preimage_transparentS (ext : Nat → Nat) (m : Mgr) (hD : DynInvS ext m)
    (trans target : Int) (ht : HeldX ext trans) (hs : HeldX ext target)
    (fa : Bool) (l : List (String × String)) (qs : List String)
    (hpre : PreimagePreN target l qs m.tbl) :
    DynOutS ext (PreimageDoc fa qs l trans target) m (preimage trans target
      (l.map fun p => (Key.name p.1, Key.name p.2)) (qs.map Key.name) fa m) :=
  preimage_literal_transparentS ext m hD trans target ht hs fa l qs hpre.toL

end DD
