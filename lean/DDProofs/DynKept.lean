/-
  DDProofs.DynKept — the state of a manager between two decorated calls, and what a decorated
  call keeps of it.

  `DynInvS ext m`: invariant, name/level maps inverse, counts exact for the ledger `ext` of the
  references the user holds, not inside a context, the registered roots held, two variables;
  `DynInv` adds `m.sched = []` (the model's default iteration order of the Python sets).
  Between the state of the call and the state after it: `DynKeptW` (what EVERY outcome keeps,
  with the schedule consumed front to back), `DynKeptS` (… and reordering enabled iff it was),
  `DynKept` (default schedule); with the documented result: `DynPostS`, `DynPostG`.
-/
import DDProofs.SatPick
import DDProofs.VarsProofs
import DDProofs.DynRef
open Std

namespace DD

/-- what holds between two decorated calls of a manager whose user holds the references counted
by the ledger `ext`: invariant, name/level maps inverse, counts exact, not inside a context,
default iteration schedule, the registered roots held, at least two variables (sifting one
variable raises `ValueError` in `min(sizes)`; it cannot be requested naturally) -/
structure DynInv (ext : Nat → Nat) (m : Mgr) : Prop where
  inv : Inv m
  order : OrderOK m.tbl
  refs : RefExact m ext
  ctx : m.ctx = false
  sched : m.sched = []
  roots : ∀ r ∈ m.roots, 0 < ext r.natAbs
  nvars : 2 ≤ m.nvars

/-- `DynInv` without the clause `m.sched = []`: what holds between two decorated calls of a
manager, whatever iteration schedule has been recorded for the coming call -/
structure DynInvS (ext : Nat → Nat) (m : Mgr) : Prop where
  inv : Inv m
  order : OrderOK m.tbl
  refs : RefExact m ext
  ctx : m.ctx = false
  roots : ∀ r ∈ m.roots, 0 < ext r.natAbs
  nvars : 2 ≤ m.nvars

theorem DynInv.toS {ext : Nat → Nat} {m : Mgr} (h : DynInv ext m) : DynInvS ext m :=
  ⟨h.inv, h.order, h.refs, h.ctx, h.roots, h.nvars⟩

theorem DynInvS.toDynInv {ext : Nat → Nat} {m : Mgr} (h : DynInvS ext m) (hs : m.sched = []) :
    DynInv ext m :=
  ⟨h.inv, h.order, h.refs, h.ctx, hs, h.roots, h.nvars⟩

theorem dynInv_iff (ext : Nat → Nat) (m : Mgr) : DynInv ext m ↔ DynInvS ext m ∧ m.sched = [] :=
  ⟨fun h => ⟨h.toS, h.sched⟩, fun h => h.1.toDynInv h.2⟩

theorem DynInvS.setSched {ext : Nat → Nat} {m : Mgr} (h : DynInvS ext m) (s : List SchedItem) :
    DynInvS ext { m with sched := s } :=
  ⟨h.inv.setSched s, h.order, h.refs.congr rfl rfl, h.ctx, h.roots, h.nvars⟩

/-- what the driver does after each line (`{ m' with sched := [] }`) gives `DynInv` back -/
theorem DynInvS.clear {ext : Nat → Nat} {m : Mgr} (h : DynInvS ext m) :
    DynInv ext { m with sched := [] } :=
  (h.setSched []).toDynInv rfl

/-- what the driver does before each line (`{ m with sched := sch }`) -/
theorem DynInv.withSched {ext : Nat → Nat} {m : Mgr} (h : DynInv ext m) (sch : List SchedItem) :
    DynInvS ext { m with sched := sch } :=
  h.toS.setSched sch

/-- `_last_len` is not part of the invariant -/
theorem DynInvS.setLastLen {ext : Nat → Nat} {m : Mgr} (h : DynInvS ext m) (l : Option Nat) :
    DynInvS ext { m with lastLen := l } :=
  ⟨h.inv.setLastLen l, h.order, h.refs.congr rfl rfl, h.ctx, h.roots, h.nvars⟩

theorem StepK.names {m m' : Mgr} (hs : StepK m m') (s : String) :
    m'.tbl.vars.contains s = m.tbl.vars.contains s := by rw [hs.frame.vars]

theorem StepK.ctx {m m' : Mgr} (hs : StepK m m') (hc : m.ctx = true) : m'.ctx = true := by
  rw [hs.frame.ctx]; exact hc

/-- `DynInvS` across a step that only adds nodes, when the flag is (again) cleared -/
theorem DynInvS.step {ext : Nat → Nat} {m m' : Mgr} (h : DynInvS ext m) (hs : StepK m m') :
    DynInvS ext m' :=
  ⟨hs.inv, h.order.frame hs.frame, (hs.keep ext h.refs).1, hs.frame.ctx.trans h.ctx,
   by rw [hs.frame.roots]; exact h.roots, by rw [hs.nvars]; exact h.nvars⟩

/-- what EVERY decorated call leaves behind, the model's `.sched` included -/
structure DynKeptW (ext : Nat → Nat) (m m' : Mgr) : Prop where
  inv : DynInvS ext m'
  names : ∀ s, m'.tbl.vars.contains s = m.tbl.vars.contains s
  held : ∀ w, HeldX ext w → m'.tbl.Mem w ∧ ∀ σ, denN m'.tbl w σ = denN m.tbl w σ
  roots : m'.roots = m.roots
  /-- the schedule left is a suffix of the schedule given -/
  sched : m'.sched <:+ m.sched

theorem DynKeptW.refl {ext : Nat → Nat} {m : Mgr} (h : DynInvS ext m) : DynKeptW ext m m :=
  ⟨h, fun _ => rfl, fun w hw => ⟨hw.mem h.refs, fun _ => rfl⟩, rfl, List.suffix_refl _⟩

theorem DynKeptW.trans {ext : Nat → Nat} {a b c : Mgr} (h1 : DynKeptW ext a b)
    (h2 : DynKeptW ext b c) : DynKeptW ext a c :=
  ⟨h2.inv, fun s => (h2.names s).trans (h1.names s),
   fun w hw => byName_trans (h1.held w hw) (h2.held w hw),
   h2.roots.trans h1.roots, h2.sched.trans h1.sched⟩

theorem DynKeptW.ofStep {ext : Nat → Nat} {m m' : Mgr} (hD : DynInvS ext m) (hs : StepK m m') :
    DynKeptW ext m m' :=
  ⟨hD.step hs, hs.names, fun _ hw => hs.ext.byName hs.frame.l2v hD.inv.wf.toWF (hw.mem hD.refs),
    hs.frame.roots,
    by rw [hs.frame.sched]; exact List.suffix_refl _⟩

theorem DynKeptW.setLastLen {ext : Nat → Nat} {m m' : Mgr} (h : DynKeptW ext m m')
    (l : Option Nat) : DynKeptW ext m { m' with lastLen := l } :=
  ⟨h.inv.setLastLen l, h.names, h.held, h.roots, h.sched⟩

/-- the driver's view: schedule put in, remainder dropped -/
theorem DynKeptW.driver {ext : Nat → Nat} {m m' : Mgr} {sch : List SchedItem}
    (h : DynKeptW ext { m with sched := sch } m') :
    DynInv ext { m' with sched := [] } ∧
    (∀ s, m'.tbl.vars.contains s = m.tbl.vars.contains s) ∧
    (∀ w, HeldX ext w → m'.tbl.Mem w ∧ ∀ σ, denN m'.tbl w σ = denN m.tbl w σ) ∧
    m'.roots = m.roots ∧ m'.sched <:+ sch :=
  ⟨h.inv.clear, h.names, h.held, h.roots, h.sched⟩

/-- what the caller of a decorated operation observes when it returns `.ok r` in a state `m'`,
any schedule -/
structure DynPostS {α} (ext : Nat → Nat) (Doc : Tbl → α → Tbl → Prop) (m : Mgr) (r : α) (m' : Mgr) :
    Prop where
  /-- the state is again as between two calls (counts exact for the same ledger, flag cleared) -/
  inv : DynInvS ext m'
  /-- the documented result, relative to the operands as they were -/
  doc : Doc m.tbl r m'.tbl
  /-- reordering is enabled afterwards iff it was -/
  enabled : m'.lastLen.isSome = m.lastLen.isSome
  /-- the declared variables are the same -/
  names : ∀ s, m'.tbl.vars.contains s = m.tbl.vars.contains s
  /-- every reference the user holds is still there and denotes the same function by name -/
  held : ∀ w, HeldX ext w → m'.tbl.Mem w ∧ ∀ σ, denN m'.tbl w σ = denN m.tbl w σ
  /-- the recorded roots are untouched -/
  roots : m'.roots = m.roots
  /-- with no recorded schedule, none is left -/
  sched : m.sched = [] → m'.sched = []

theorem DynKeptW.post {α} {ext : Nat → Nat} {Doc : Tbl → α → Tbl → Prop} {m m' : Mgr} {r : α}
    (h : DynKeptW ext m m') (hd : Doc m.tbl r m'.tbl)
    (he : m'.lastLen.isSome = m.lastLen.isSome) : DynPostS ext Doc m r m' :=
  ⟨h.inv, hd, he, h.names, h.held, h.roots, fun h0 => List.suffix_nil.mp (h0 ▸ h.sched)⟩

/-- what EVERY decorated call — returning or raising an exception of the code — leaves behind,
any schedule -/
structure DynKeptS (ext : Nat → Nat) (m m' : Mgr) : Prop where
  inv : DynInvS ext m'
  enabled : m'.lastLen.isSome = m.lastLen.isSome
  names : ∀ s, m'.tbl.vars.contains s = m.tbl.vars.contains s
  held : ∀ w, HeldX ext w → m'.tbl.Mem w ∧ ∀ σ, denN m'.tbl w σ = denN m.tbl w σ
  roots : m'.roots = m.roots
  sched : m.sched = [] → m'.sched = []

theorem DynPostS.kept {α} {ext : Nat → Nat} {Doc : Tbl → α → Tbl → Prop} {m : Mgr} {r : α}
    {m' : Mgr} (h : DynPostS ext Doc m r m') : DynKeptS ext m m' :=
  ⟨h.inv, h.enabled, h.names, h.held, h.roots, h.sched⟩

theorem DynKeptW.toS {ext : Nat → Nat} {m m' : Mgr} (h : DynKeptW ext m m')
    (he : m'.lastLen.isSome = m.lastLen.isSome) : DynKeptS ext m m' :=
  ⟨h.inv, he, h.names, h.held, h.roots, fun h0 => List.suffix_nil.mp (h0 ▸ h.sched)⟩

theorem DynPostS.mono {α} {ext : Nat → Nat} {D D' : Tbl → α → Tbl → Prop} {m : Mgr} {r : α}
    {m' : Mgr} (h : DynPostS ext D m r m') (hd : D m.tbl r m'.tbl → D' m.tbl r m'.tbl) :
    DynPostS ext D' m r m' :=
  ⟨h.inv, hd h.doc, h.enabled, h.names, h.held, h.roots, h.sched⟩

/-- what the caller of a decorated operation observes (the result is `.ok r` in a state `m'`) -/
structure DynPostG {α} (ext : Nat → Nat) (Doc : Tbl → α → Tbl → Prop) (m : Mgr) (r : α) (m' : Mgr) :
    Prop where
  /-- the state is again as between two calls: in particular counts are exact for the same
  ledger and the flag is cleared -/
  inv : DynInv ext m'
  doc : Doc m.tbl r m'.tbl
  enabled : m'.lastLen.isSome = m.lastLen.isSome
  names : ∀ s, m'.tbl.vars.contains s = m.tbl.vars.contains s
  held : ∀ w, HeldX ext w → m'.tbl.Mem w ∧ ∀ σ, denN m'.tbl w σ = denN m.tbl w σ
  roots : m'.roots = m.roots

theorem DynPostS.toG {α} {ext : Nat → Nat} {D : Tbl → α → Tbl → Prop} {m : Mgr} {r : α}
    {m' : Mgr} (h : DynPostS ext D m r m') (hs : m.sched = []) : DynPostG ext D m r m' :=
  ⟨h.inv.toDynInv (h.sched hs), h.doc, h.enabled, h.names, h.held, h.roots⟩

theorem DynPostG.toS {α} {ext : Nat → Nat} {D : Tbl → α → Tbl → Prop} {m : Mgr} {r : α}
    {m' : Mgr} (h : DynPostG ext D m r m') : DynPostS ext D m r m' :=
  ⟨h.inv.toS, h.doc, h.enabled, h.names, h.held, h.roots, fun _ => h.inv.sched⟩

/-- the driver's view (`DD.stepLine`): the manager `m` it stores has no schedule, the recorded
schedule `sch` is put in for the call and whatever is left is dropped afterwards; between `m` and
`{ m' with sched := [] }` the post-condition is literally `DynPostG` -/
theorem DynPostS.driver {α} {ext : Nat → Nat} {D : Tbl → α → Tbl → Prop} {m : Mgr}
    {sch : List SchedItem} {r : α} {m' : Mgr} (h : DynPostS ext D { m with sched := sch } r m') :
    DynPostG ext D m r { m' with sched := [] } :=
  ⟨h.inv.clear, h.doc, h.enabled, h.names, h.held, h.roots⟩

/-- what EVERY decorated call — returning or raising — leaves behind -/
structure DynKept (ext : Nat → Nat) (m m' : Mgr) : Prop where
  /-- the state is again as between two calls: invariant, order bijection, counts exact for the
  same ledger, flag cleared, no schedule left -/
  inv : DynInv ext m'
  enabled : m'.lastLen.isSome = m.lastLen.isSome
  names : ∀ s, m'.tbl.vars.contains s = m.tbl.vars.contains s
  held : ∀ w, HeldX ext w → m'.tbl.Mem w ∧ ∀ σ, denN m'.tbl w σ = denN m.tbl w σ
  roots : m'.roots = m.roots

theorem DynKeptS.toKept {ext : Nat → Nat} {m m' : Mgr} (h : DynKeptS ext m m') (hs : m.sched = []) :
    DynKept ext m m' :=
  ⟨h.inv.toDynInv (h.sched hs), h.enabled, h.names, h.held, h.roots⟩

/-- `DynKept` from `DynKeptS` of the call run on `{ m with sched := sch }`, the remainder of the
schedule dropped (what `DD.stepLine` does) -/
theorem DynKeptS.driver {ext : Nat → Nat} {m m' : Mgr} {sch : List SchedItem}
    (h : DynKeptS ext { m with sched := sch } m') : DynKept ext m { m' with sched := [] } :=
  ⟨h.inv.clear, h.enabled, h.names, h.held, h.roots⟩

theorem DynPostG.kept {α} {ext : Nat → Nat} {Doc : Tbl → α → Tbl → Prop} {m : Mgr} {r : α}
    {m' : Mgr} (h : DynPostG ext Doc m r m') : DynKept ext m m' :=
  ⟨h.inv, h.enabled, h.names, h.held, h.roots⟩

end DD
