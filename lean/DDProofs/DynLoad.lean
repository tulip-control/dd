/-
  DDProofs.DynLoad — `BDD.load` (pickle) never reorders.

  `find_or_add` asks for a reordering only inside a reordering context
  (`if self._reordering_context: _request_reordering(self)`, repair F4a).  `BDD.load` →
  `_load_pickle` → `_load` is not decorated, opens no context and builds the nodes with the
  PRIVATE `find_or_add` / `_ite`.  So, called outside a context, `load` never looks at
  `_last_len`: for any value of it the run is, step for step, the run with `_last_len = None`,
  the field itself being carried along unchanged; `_request_reordering` is not even called
  (the harness's trigger counter `fireIn` is untouched) and the reordering signal cannot be the
  error of the call.

  Shape of the proofs: one property of computations, `Blind` (below), shown for every call on
  the path (`incref`, `find_or_add`, `_ite`, `add_var`, `Function(...)`); sequencing preserves
  it, so the three loops of `_load_pickle` have it by the walks of DDProofs.PickleSteps.
-/
import DDProofs.PickleSteps
import DDProofs.ReachLite
open Std

namespace DD

abbrev Mgr.withLL (m : Mgr) (l : Option Nat) : Mgr := { m with lastLen := l }

theorem Mgr.withLL_withLL (m : Mgr) (l l' : Option Nat) : (m.withLL l).withLL l' = m.withLL l' := rfl

/-- the manager with other values of the three reordering switches: `_last_len`, the context
flag, the harness's trigger counter -/
abbrev Mgr.withSw (m : Mgr) (l : Option Nat) (c : Bool) (f : Option Nat) : Mgr :=
  { m with lastLen := l, ctx := c, fireIn := f }

def swOut {α : Type} (l : Option Nat) (c : Bool) (f : Option Nat) (p : Except Err α × Mgr) :
    Except Err α × Mgr := (p.1, p.2.withSw l c f)

/-- started outside a reordering context, `x` does not raise the reordering signal, ends outside
a context, and neither reads nor writes `_last_len` and the trigger counter: with other values
of the two it is the same run, the two fields carried along -/
def Blind {α : Type} (x : M α) : Prop :=
  ∀ m, m.ctx = false → ∀ l f,
    (x m).1 ≠ .error .needsReordering ∧ x (m.withSw l false f) = swOut l false f (x m)

theorem Blind.same {α : Type} {x : M α} (h : Blind x) {m : Mgr} (hc : m.ctx = false) :
    (x m).2.ctx = false ∧ (x m).2.lastLen = m.lastLen ∧ (x m).2.fireIn = m.fireIn := by
  have e := (h m hc m.lastLen m.fireIn).2
  rw [show m.withSw m.lastLen false m.fireIn = m by rw [← hc]] at e
  exact ⟨congrArg (·.2.ctx) e, congrArg (·.2.lastLen) e, congrArg (·.2.fireIn) e⟩

theorem Blind.seqClosed : SeqClosed @Blind where
  pure := fun _ _ _ _ _ => ⟨nofun, rfl⟩
  throw := fun e he _ _ _ _ _ => ⟨fun h => he (by cases h; rfl), rfl⟩
  get := by
    intro β k hk hb m hc l f
    have e : m.withSw l false f = m.ghost m.sched l f := by
      obtain ⟨_, _, _, _, _, _, ctx, _, _, _⟩ := m
      cases hc
      rfl
    have h := hk m m hc l f
    rw [e] at h ⊢
    exact ⟨h.1, (congrFun (hb _ _ _ m) _).trans h.2⟩
  bind := by
    intro α β x k hx hk m hc l f
    obtain ⟨n1, e1⟩ := hx m hc l f
    have c1 := (hx.same hc).1
    rw [M.bind_eq, M.bind_eq, e1]
    generalize x m = out at n1 c1
    obtain ⟨r, m1⟩ := out
    cases r with
    | error e => exact ⟨fun h => n1 (by cases h; rfl), rfl⟩
    | ok a => exact hk a m1 c1 l f

theorem incref_switches (u : Int) (m : Mgr) (l : Option Nat) (c : Bool) (f : Option Nat) :
    incref u (m.withSw l c f) = swOut l c f (incref u m) := by
  unfold incref
  dsimp only [Mgr.withSw]
  cases m.ref[u.natAbs]? <;> rfl

theorem increfTwo_switches (r v w : Int) (m1 : Mgr) (l : Option Nat) (c : Bool) (f : Option Nat) :
    increfTwo r v w (m1.withSw l c f) = swOut l c f (increfTwo r v w m1) := by
  unfold increfTwo
  rw [incref_switches]
  obtain ⟨x, m2⟩ := incref v m1
  cases x with
  | error e => rfl
  | ok _ =>
    dsimp only [swOut]
    rw [incref_switches]
    obtain ⟨y, m3⟩ := incref w m2
    cases y <;> rfl

/-- neither does `find_or_add` without the request: whether it stores does not depend on the
switches, and what follows the store is `increfTwo` -/
theorem findOrAddCore_switches (i : Nat) (v w : Int) (m : Mgr) (l : Option Nat) (c : Bool)
    (f : Option Nat) :
    findOrAddCore i v w (m.withSw l c f) = swOut l c f (findOrAddCore i v w m) := by
  rw [findOrAddCore_nf, findOrAddCore_nf]
  by_cases h : FoaStores m i v w
  · rw [if_pos h, if_pos (show FoaStores (m.withSw l c f) i v w from h)]
    exact increfTwo_switches _ _ _ { storeNode m (foaNode i v w) with minFree := newMinFree m (foaNode i v w) } l c f
  · rw [if_neg h, if_neg (show ¬ FoaStores (m.withSw l c f) i v w from h)]
    rfl

theorem findOrAdd_blind (i v w : Int) : Blind (findOrAdd i v w) := by
  intro m hc l f
  rw [findOrAdd_quiet m (Or.inl hc), findOrAdd_quiet _ (Or.inl rfl)]
  split
  · exact ⟨nofun, rfl⟩
  · exact ⟨findOrAddCore_noNR m _ v w, findOrAddCore_switches _ v w m l false f⟩

theorem iteF_blind (f : Nat) (g u v : Int) : Blind (iteF f g u v) :=
  iteG_findOrAdd f g u v ▸ iteG_seq Blind.seqClosed findOrAdd findOrAdd_blind
    (fun _ _ _ _ _ _ _ _ => ⟨nofun, rfl⟩) f g u v

theorem iteRaw_blind (g u v : Int) : Blind (iteRaw g u v) := by
  intro m hc l f
  rw [iteRaw_eq, iteRaw_eq]
  exact iteF_blind _ g u v m hc l f

theorem addVar_blind (var : String) (level : Option Int) : Blind (addVar var level) := by
  intro m hc l f
  rw [addVar_run, addVar_run]
  dsimp only [Mgr.withSw, Mgr.nvars]
  cases m.tbl.vars[var]? with
  | some vl =>
    cases level with
    | none => exact ⟨nofun, rfl⟩
    | some lv => dsimp only; split <;> exact ⟨nofun, rfl⟩
  | none =>
    dsimp only
    by_cases h : level.getD (m.tbl.nvars : Int) < 0
    · simp only [h, ↓reduceIte]; exact ⟨nofun, rfl⟩
    · simp only [h, ↓reduceIte]
      cases m.tbl.l2v[(level.getD (m.tbl.nvars : Int)).toNat]? <;> exact ⟨nofun, rfl⟩

theorem dmpWrap_blind (u : Int) : Blind (dmpWrap u) := by
  intro m hc l f
  unfold dmpWrap
  dsimp only [Mgr.withSw, Mgr.mem]
  by_cases hm : (!m.tbl.mem u) = true
  · simp only [hm, ↓reduceIte]; exact ⟨nofun, rfl⟩
  · simp only [hm]
    refine ⟨fun h => ?_, incref_switches u m l false f⟩
    cases incref_err (m' := (incref u m).2) (Prod.ext h rfl)

theorem loadPickle_blind (f : PickleFile) (levels : Bool) : Blind (loadPickle f levels) :=
  loadPickle_seq Blind.seqClosed f levels (fun var _ => addVar_blind var _)
    (fun j => findOrAdd_blind j (-1) 1) iteRaw_blind

theorem loadPickleAutoref_blind (f : PickleFile) (levels : Bool) : Blind (loadPickleAutoref f levels) := by
  intro m hc l fi
  obtain ⟨n1, e1⟩ := loadPickle_blind f levels m hc l fi
  have c1 := ((loadPickle_blind f levels).same hc).1
  rw [loadPickleAutoref_eq, loadPickleAutoref_eq, e1]
  generalize loadPickle f levels m = out1 at n1 c1
  obtain ⟨r1, m1⟩ := out1
  cases r1 with
  | error e => exact ⟨fun h => n1 (by cases h; rfl), rfl⟩
  | ok roots =>
    dsimp only [swOut]
    obtain ⟨n2, e2⟩ := wrapList_seq Blind.seqClosed dmpWrap_blind roots.values m1 c1 l fi
    rw [e2]
    generalize wrapList roots.values m1 = out2 at n2
    obtain ⟨r2, m2⟩ := out2
    cases r2 with
    | error e => exact ⟨fun h => n2 (by cases h; rfl), rfl⟩
    | ok _ => exact ⟨nofun, rfl⟩

/-- what `Blind` says of a run with dynamic reordering enabled, at whatever threshold -/
theorem Blind.never_reorders {α : Type} {x : M α} (h : Blind x) {m : Mgr} (hc : m.ctx = false) :
    x m = ((x { m with lastLen := none }).1, { (x { m with lastLen := none }).2 with lastLen := m.lastLen }) ∧
    (x m).1 ≠ .error .needsReordering := by
  obtain ⟨c0, _, f0⟩ := h.same (m := { m with lastLen := none }) hc
  have e := (h { m with lastLen := none } hc m.lastLen m.fireIn).2
  rw [show Mgr.withSw { m with lastLen := none } m.lastLen false m.fireIn = m by rw [← hc]] at e
  refine ⟨e.trans (congrArg (Prod.mk _) ?_), (h m hc none none).1⟩
  generalize (x _).2 = m2 at c0 f0
  cases m2; cases c0; cases f0; rfl

/-- **`load` never reorders.**  For ANY value of `_last_len` — dynamic reordering enabled with
whatever threshold, or not — `BDD.load` called outside a reordering context returns exactly what
it returns with `_last_len = None`, in exactly that state except that `_last_len` is what it was;
`_request_reordering` is never called (trigger counter untouched), the context flag stays
cleared, and the reordering signal is not raised. -/
theorem loadPickle_never_reorders (f : PickleFile) (levels : Bool) (m : Mgr) (hc : m.ctx = false) :
    loadPickle f levels m =
      ((loadPickle f levels { m with lastLen := none }).1,
       { (loadPickle f levels { m with lastLen := none }).2 with lastLen := m.lastLen }) ∧
    (loadPickle f levels m).1 ≠ .error .needsReordering ∧
    (loadPickle f levels m).2.lastLen = m.lastLen ∧
    (loadPickle f levels m).2.fireIn = m.fireIn ∧
    (loadPickle f levels m).2.ctx = false :=
  have h := loadPickle_blind f levels
  ⟨(h.never_reorders hc).1, (h.never_reorders hc).2, (h.same hc).2.1, (h.same hc).2.2, (h.same hc).1⟩

end DD
