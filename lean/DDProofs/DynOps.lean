/-
  DDProofs.DynOps — the documented bodies (`DocBody`, DDProofs.DynSched) of the decorated entry
  points `ite`, `var`, `quantify` (`exist` / `forall`), `cofactor`, and C09 for each of them: the
  level-indexed specifications of the recursions are restated by variable NAME (`denN`), which
  makes them stable under a change of order.
-/
import DDProofs.DynSched
import DDProofs.SubstWrappers
import DDProofs.ReachLite
open Std

namespace DD

theorem Tbl.nameOf_eq {t : Tbl} {i : Nat} {v : String} (hl : t.l2v[i]? = some v) :
    t.nameOf i = v := by simp [Tbl.nameOf, hl]

theorem OrderOK.nameOf_level {t : Tbl} (h : OrderOK t) {s : String} {i : Nat}
    (hv : t.vars[s]? = some i) : t.nameOf i = s :=
  Tbl.nameOf_eq ((h.inv s i).mp hv)

theorem OrderOK.lvlOf_nameOf {t : Tbl} (h : OrderOK t) {i : Nat} (hi : i < t.nvars) :
    lvlOf t (t.nameOf i) = i := lvlOf_eq (h.vars_nameOf hi)

theorem OrderOK.lvlOf_eq_iff {t : Tbl} (h : OrderOK t) {s : String}
    (hs : t.vars.contains s = true) {i : Nat} (hi : i < t.nvars) :
    lvlOf t s = i ↔ s = t.nameOf i := by
  obtain ⟨j, hj⟩ := (vars_contains_iff t s).mp hs
  rw [lvlOf_eq hj]
  constructor
  · intro e; subst e; exact (h.nameOf_level hj).symm
  · intro e
    have := h.vars_nameOf hi
    rw [← e, hj] at this
    exact Option.some.inj this

theorem OrderOK.lvlOf_lt {t : Tbl} (h : OrderOK t) {s : String} (hs : t.vars.contains s = true) :
    lvlOf t s < t.nvars := by
  obtain ⟨j, hj⟩ := (vars_contains_iff t s).mp hs
  rw [lvlOf_eq hj]; exact h.lt s j hj

theorem denN_congr_decl {t : Tbl} (hw : WF t) (hO : OrderOK t) (u : Int) (hu : t.Mem u) (σ τ : AsgN)
    (h : ∀ s, t.vars.contains s = true → σ s = τ s) : denN t u σ = denN t u τ := by
  unfold denN
  apply den_agree_ge t hw u hu
  intro i _ hi
  show σ (t.nameOf i) = τ (t.nameOf i)
  exact h _ ((vars_contains_iff t _).mpr ⟨i, hO.vars_nameOf hi⟩)

/-- a substitution stated by level, `den t' r a = den t u (θ a)`, is the substitution `Θ` by name
once `θ` on lifted assignments is `Θ` lifted, at the declared levels -/
theorem denN_of_den_subst {t t' : Tbl} (hW : WF t) (hl : t'.l2v = t.l2v) {u r : Int} (hu : t.Mem u)
    {θ : Asg → Asg} {Θ : AsgN → AsgN} (hden : ∀ a, den t' r a = den t u (θ a))
    (hθ : ∀ σ i, i < t.nvars → θ (t.lift σ) i = t.lift (Θ σ) i) (σ : AsgN) :
    denN t' r σ = denN t u (Θ σ) := by
  unfold denN
  rw [hden, lift_congr hl]
  exact den_agree_ge t hW u hu _ _ fun i _ hi => hθ σ i hi

/-- a level assignment read as a name assignment (undeclared names from `σ`) -/
def unlift (t : Tbl) (b : Asg) (σ : AsgN) : AsgN := fun s =>
  match t.vars[s]? with
  | some i => b i
  | none => σ s

theorem lift_unlift {t : Tbl} (hO : OrderOK t) (b : Asg) (σ : AsgN) {i : Nat} (hi : i < t.nvars) :
    t.lift (unlift t b σ) i = b i := by
  show unlift t b σ (t.nameOf i) = b i
  simp [unlift, hO.vars_nameOf hi]

/-- documented result of `ite(g, u, v)`, by name -/
def IteDoc (g u v : Int) (t : Tbl) (r : Int) (t' : Tbl) : Prop :=
  t'.Mem r ∧ ∀ σ, denN t' r σ = if denN t g σ then denN t u σ else denN t v σ

theorem ItePost.doc {m m' : Mgr} {g u v r : Int} (hp : ItePost m g u v r m') :
    IteDoc g u v m.tbl r m'.tbl :=
  ⟨hp.mem, fun σ => by unfold denN; rw [lift_congr hp.frame.l2v, hp.den]⟩

theorem ite_docBody (g u v : Int) :
    DocBody (iteRaw g u v) [g, u, v] (fun _ => True) (IteDoc g u v) where
  body m0 hI0 _ _ _ hmem := by
    rw [iteRaw_eq]
    exact (iteF_out (m0.nvars + 2) m0 g u v hI0 (hmem g (by simp)) (hmem u (by simp))
      (hmem v (by simp)) (by omega)).mono fun _ _ _ hp => hp.doc
  pre _ _ _ _ := trivial
  doc t t' r t'' hB _ hd := by
    unfold IteDoc at hd ⊢
    rw [hB.denN (u := g) (by simp), hB.denN (u := u) (by simp), hB.denN (u := v) (by simp)] at hd
    exact hd

/-- C09 for `ite`: the operands are references the user holds -/
theorem ite_transparentS (ext : Nat → Nat) (m : Mgr) (hD : DynInvS ext m)
    (g u v : Int) (hg : HeldX ext g) (hu : HeldX ext u) (hv : HeldX ext v) :
    DynOutS ext (IteDoc g u v) m (ite g u v m) :=
  (ite_docBody g u v).dynS ext m hD (by simp [hg, hu, hv]) trivial

/-- documented result of `var(name)`: the projection on that name -/
def VarDoc (name : String) (_t : Tbl) (r : Int) (t' : Tbl) : Prop :=
  t'.Mem r ∧ ∀ σ, denN t' r σ = σ name

/-- the body of `var` on a declared name: the projection on that name, or abort -/
theorem varBody_out (m0 : Mgr) (hI0 : Inv m0) (hO : OrderOK m0.tbl) (name : String)
    (hdecl : m0.tbl.vars.contains name = true) :
    Outcome m0 (fun r m1 => VarDoc name m0.tbl r m1.tbl) (varBody name m0) := by
  obtain ⟨j, hj⟩ := (vars_contains_iff m0.tbl name).mp hdecl
  rw [varBody_eq, hj]
  refine (varNode_out m0 hI0 j (hO.lt name j hj)).mono ?_
  intro g m1 hs ⟨hg, _, hd⟩
  refine ⟨hg, fun σ => ?_⟩
  unfold denN
  rw [hd, lift_congr hs.frame.l2v]
  show σ (m0.tbl.nameOf j) = σ name
  rw [hO.nameOf_level hj]

theorem var_docBody (name : String) :
    DocBody (varBody name) [] (fun t => t.vars.contains name = true) (VarDoc name) where
  body m0 hI0 _ hO hpre _ := varBody_out m0 hI0 hO name hpre
  pre _ _ hB hpre := hB.declared hpre
  doc _ _ _ _ _ _ hd := hd

theorem var_transparentS (ext : Nat → Nat) (m : Mgr) (hD : DynInvS ext m)
    (name : String) (hdecl : m.tbl.vars.contains name = true) :
    DynOutS ext (VarDoc name) m (var name m) :=
  (var_docBody name).dynS ext m hD nofun hdecl

/-- quantification of a function of the variable names over the names of `names` -/
def qsemN (fa : Bool) (names : List String) (F : AsgN → Bool) (σ : AsgN) : Prop :=
  match fa with
  | true => ∀ τ : AsgN, (∀ s, s ∉ names → τ s = σ s) → F τ = true
  | false => ∃ τ : AsgN, (∀ s, s ∉ names → τ s = σ s) ∧ F τ = true

/-- `F` only reads the declared levels -/
def LowOnly (t : Tbl) (F : Asg → Bool) : Prop :=
  ∀ b b' : Asg, (∀ i, i < t.nvars → b i = b' i) → F b = F b'

/-- quantification over levels, read on name assignments, is quantification over names, for
any function of the declared levels -/
theorem qsem_lift_gen {t : Tbl} (hO : OrderOK t) {F : Asg → Bool} (hF : LowOnly t F) (fa : Bool)
    (names : List String) (hdecl : ∀ s ∈ names, t.vars.contains s = true) (σ : AsgN) :
    qsem fa (names.map (lvlOf t)) F (t.lift σ) ↔ qsemN fa names (fun τ => F (t.lift τ)) σ := by
  have toN : ∀ b, AgreeOff (names.map (lvlOf t)) b (t.lift σ) →
      ∃ τ : AsgN, (∀ s, s ∉ names → τ s = σ s) ∧ F (t.lift τ) = F b := by
    intro b hb
    refine ⟨unlift t b σ, ?_, hF _ _ (fun i hi => lift_unlift hO b σ hi)⟩
    intro s hs
    unfold unlift
    cases hv : t.vars[s]? with
    | none => rfl
    | some i =>
      simp only
      have hi : i ∉ names.map (lvlOf t) := by
        intro hmem
        obtain ⟨s', hs', he⟩ := List.mem_map.mp hmem
        obtain ⟨j, hj⟩ := (vars_contains_iff t s').mp (hdecl s' hs')
        rw [lvlOf_eq hj] at he
        subst he
        have e1 := hO.nameOf_level hj
        have e2 := hO.nameOf_level hv
        rw [e1] at e2
        subst e2
        exact hs hs'
      rw [hb i hi]
      show σ (t.nameOf i) = σ s
      rw [hO.nameOf_level hv]
  have ofN : ∀ τ : AsgN, (∀ s, s ∉ names → τ s = σ s) →
      ∃ b : Asg, AgreeOff (names.map (lvlOf t)) b (t.lift σ) ∧ F b = F (t.lift τ) := by
    intro τ hτ
    refine ⟨fun j => if j < t.nvars then t.lift τ j else t.lift σ j, ?_, ?_⟩
    · intro j hj
      by_cases hlt : j < t.nvars
      · simp only [hlt, if_true]
        show τ (t.nameOf j) = σ (t.nameOf j)
        apply hτ
        intro hmem
        exact hj (List.mem_map.mpr ⟨_, hmem, hO.lvlOf_nameOf hlt⟩)
      · simp [hlt]
    · apply hF
      intro i hi
      simp [hi]
  cases fa with
  | true =>
    simp only [qsem, qsemN]
    constructor
    · intro h τ hτ
      obtain ⟨b, hb, he⟩ := ofN τ hτ
      rw [← he]; exact h b hb
    · intro h b hb
      obtain ⟨τ, hτ, he⟩ := toN b hb
      rw [← he]; exact h τ hτ
  | false =>
    simp only [qsem, qsemN]
    constructor
    · intro ⟨b, hb, hv⟩
      obtain ⟨τ, hτ, he⟩ := toN b hb
      exact ⟨τ, hτ, by rw [he]; exact hv⟩
    · intro ⟨τ, hτ, hv⟩
      obtain ⟨b, hb, he⟩ := ofN τ hτ
      exact ⟨b, hb, by rw [he]; exact hv⟩

/-- … for the function of a node -/
theorem qsem_lift {t : Tbl} (hw : WF t) (hO : OrderOK t) (u : Int) (hu : t.Mem u) (fa : Bool)
    (names : List String) (hdecl : ∀ s ∈ names, t.vars.contains s = true) (σ : AsgN) :
    qsem fa (names.map (lvlOf t)) (den t u) (t.lift σ) ↔ qsemN fa names (denN t u) σ :=
  qsem_lift_gen hO (fun b b' h => den_agree_ge t hw u hu b b' fun i _ hi => h i hi) fa names
    hdecl σ

/-- documented result of `quantify(u, names, forall)`, by name -/
def QuantDoc (fa : Bool) (names : List String) (u : Int) (t : Tbl) (r : Int) (t' : Tbl) : Prop :=
  t'.Mem r ∧ ∀ σ, denN t' r σ = true ↔ qsemN fa names (denN t u) σ

/-- body of `quantify` over declared names, through ANY `find_or_add` / nested `ite` with
three-outcome specifications: documented result by name | aborted | exception of `E` -/
theorem quantifyBodyG_outX (E : Err → Prop) (foa iteX : Int → Int → Int → M Int)
    (hfoa : FoaX E foa) (hite : IteNestedX E iteX)
    (m0 : Mgr) (hI0 : Inv m0) (hq : Quiet m0) (hO : OrderOK m0.tbl) (u : Int)
    (hu : m0.tbl.Mem u) (fa : Bool) (names : List String)
    (hdecl : ∀ s ∈ names, m0.tbl.vars.contains s = true) :
    OutcomeX E m0 (fun r m1 => QuantDoc fa names u m0.tbl r m1.tbl)
      (quantifyBodyG foa iteX u (names.map Key.name) fa m0) := by
  have hW := hI0.wf.toWF
  refine (quantifyBodyG_lvl E foa iteX hfoa hite m0 hI0 hq u hu _ fa _
    (mapToLevelE_names m0.tbl names hdecl)).mono fun r m1 hs ⟨hr, _, hden⟩ => ⟨hr, fun σ => ?_⟩
  unfold denN
  rw [hden, lift_congr hs.frame.l2v]
  exact qsem_lift hW hO u hu fa names hdecl σ

/-- the model's own body, inside a context: documented result by name, or abort -/
theorem quantifyBody_out (m0 : Mgr) (hI0 : Inv m0) (hq : Quiet m0) (hO : OrderOK m0.tbl) (u : Int)
    (hu : m0.tbl.Mem u) (fa : Bool) (names : List String)
    (hdecl : ∀ s ∈ names, m0.tbl.vars.contains s = true) :
    Outcome m0 (fun r m1 => QuantDoc fa names u m0.tbl r m1.tbl)
      (quantifyBody u (names.map Key.name) fa m0) := by
  rw [← quantifyBodyG_model]
  exact (quantifyBodyG_outX _ _ _ findOrAdd_foaX ite_nestedX m0 hI0 hq hO u hu fa names
    hdecl).toOutcome

theorem qsemN_congr (fa : Bool) (names : List String) (F G : AsgN → Bool) (h : ∀ τ, F τ = G τ)
    (σ : AsgN) : qsemN fa names F σ ↔ qsemN fa names G σ := by
  have : F = G := funext h
  rw [this]

theorem quantify_docBody (u : Int) (fa : Bool) (names : List String) :
    DocBody (quantifyBody u (names.map Key.name) fa) [u]
      (fun t => ∀ s ∈ names, t.vars.contains s = true) (QuantDoc fa names u) where
  body m0 hI0 hc hO hpre hmem :=
    quantifyBody_out m0 hI0 (Or.inl hc) hO u (hmem u (by simp)) fa names hpre
  pre _ _ hB hpre s hs := hB.declared (hpre s hs)
  doc t t' r t'' hB _ hd := by
    unfold QuantDoc at hd ⊢
    rw [hB.denN (u := u) (by simp)] at hd
    exact hd

/-- C09 for `quantify` / `exist` / `forall` over declared variable names -/
theorem quantify_transparentS (ext : Nat → Nat) (m : Mgr) (hD : DynInvS ext m) (u : Int)
    (hu : HeldX ext u) (fa : Bool) (names : List String)
    (hdecl : ∀ s ∈ names, m.tbl.vars.contains s = true) :
    DynOutS ext (QuantDoc fa names u) m (quantify u (names.map Key.name) fa m) :=
  (quantify_docBody u fa names).dynS ext m hD (by simpa using hu) hdecl

/-- the name assignment `σ` overridden by a dictionary (a later item of a name wins) -/
def ovrN (vals : List (String × Bool)) (σ : AsgN) : AsgN := fun s =>
  match vals.reverse.lookup s with
  | some b => b
  | none => σ s

theorem lookup_lvlOf {β} {t : Tbl} (hO : OrderOK t) {i : Nat} (hi : i < t.nvars)
    (l : List (String × β)) (h : ∀ p ∈ l, t.vars.contains p.1 = true) :
    (l.map fun p => (lvlOf t p.1, p.2)).lookup i = l.lookup (t.nameOf i) := by
  have := lookup_map_inj (lvlOf t) (id : β → β) l (t.nameOf i)
    fun p hp he => (hO.lvlOf_eq_iff (h p hp) hi).mp (he.trans (hO.lvlOf_nameOf hi))
  rwa [hO.lvlOf_nameOf hi, Option.map_id] at this

/-- documented result of `cofactor(u, vals)` (= `let` with Boolean values), by name -/
def CofDoc (vals : List (String × Bool)) (u : Int) (t : Tbl) (r : Int) (t' : Tbl) : Prop :=
  t'.Mem r ∧ ∀ σ, denN t' r σ = denN t u (ovrN vals σ)

/-- the dictionary `{name: bool}` as the model's argument of `cofactor` -/
def boolKeys (vals : List (String × Bool)) : List (Key × Bool) :=
  vals.map fun p => (Key.name p.1, p.2)

theorem cofactorBody_out (m0 : Mgr) (hI0 : Inv m0) (hO : OrderOK m0.tbl) (u : Int)
    (hu : m0.tbl.Mem u) (vals : List (String × Bool))
    (hdecl : ∀ p ∈ vals, m0.tbl.vars.contains p.1 = true) :
    Outcome m0 (fun r m1 => CofDoc vals u m0.tbl r m1.tbl) (cofactorBody u (boolKeys vals) m0) := by
  have hW := hI0.wf.toWF
  obtain ⟨lv, hlv, hz⟩ := mapToLevelE_dict m0.tbl vals hdecl
  have h := cofactorBody_lvl m0 hI0 u hu (boolKeys vals) lv hlv
  rw [boolKeys, hz] at h
  refine h.mono fun r m1 hs ⟨hr, hden⟩ =>
    ⟨hr, denN_of_den_subst hW hs.frame.l2v hu hden fun σ i hi => ?_⟩
  show ovr _ (m0.tbl.lift σ) i = ovrN vals σ (m0.tbl.nameOf i)
  unfold ovr ovrN
  rw [← List.map_reverse,
    lookup_lvlOf hO hi vals.reverse (fun p hp => hdecl p (List.mem_reverse.mp hp))]
  rfl

theorem cofactor_docBody (u : Int) (vals : List (String × Bool)) :
    DocBody (cofactorBody u (boolKeys vals)) [u]
      (fun t => ∀ p ∈ vals, t.vars.contains p.1 = true) (CofDoc vals u) where
  body m0 hI0 _ hO hpre hmem := cofactorBody_out m0 hI0 hO u (hmem u (by simp)) vals hpre
  pre _ _ hB hpre p hp := hB.declared (hpre p hp)
  doc t t' r t'' hB _ hd := by
    unfold CofDoc at hd ⊢
    rw [hB.denN (u := u) (by simp)] at hd
    exact hd

/-- C09 for `cofactor` (`let` with Boolean values) on declared variable names -/
theorem cofactor_transparentS (ext : Nat → Nat) (m : Mgr) (hD : DynInvS ext m) (u : Int)
    (hu : HeldX ext u) (vals : List (String × Bool))
    (hdecl : ∀ p ∈ vals, m.tbl.vars.contains p.1 = true) :
    DynOutS ext (CofDoc vals u) m (cofactor u (boolKeys vals) m) :=
  (cofactor_docBody u vals).dynS ext m hD (by simpa using hu) hdecl

end DD
