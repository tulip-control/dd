/-
  DDProofs.DynOps2 — more instances of the generic transparency theorem: `compose`
  (`let` with references) and `rename` (`let` with names).
-/
import DDProofs.DynOps
import DDProofs.VarsBijOrder
open Std

namespace DD

/-- the name assignment seen by the operand of a simultaneous substitution `{name: g}` -/
def subN (t : Tbl) (varSub : List (String × Int)) (σ : AsgN) : AsgN := fun s =>
  match varSub.lookup s with
  | some g => denN t g σ
  | none => σ s

/-- documented result of `compose(f, var_sub)` (= `let` with references), by name -/
def ComposeDoc (varSub : List (String × Int)) (f : Int) (t : Tbl) (r : Int) (t' : Tbl) : Prop :=
  t'.Mem r ∧ ∀ σ, denN t' r σ = denN t f (subN t varSub σ)

/-- the level-indexed substitution read on name assignments -/
theorem vsub_lift {t : Tbl} (hO : OrderOK t) (varSub : List (String × Int))
    (hdecl : ∀ p ∈ varSub, t.vars.contains p.1 = true) (σ : AsgN) {i : Nat} (hi : i < t.nvars) :
    vsub t (subOf t varSub) (t.lift σ) i = t.lift (subN t varSub σ) i := by
  show _ = subN t varSub σ (t.nameOf i)
  unfold vsub subN subOf
  rw [lookup_lvlOf hO hi varSub hdecl]
  cases varSub.lookup (t.nameOf i) <;> rfl

theorem composeBody_out (m0 : Mgr) (hI0 : Inv m0) (hq : Quiet m0) (hO : OrderOK m0.tbl) (f : Int)
    (hf : m0.tbl.Mem f) (varSub : List (String × Int))
    (hdecl : ∀ p ∈ varSub, m0.tbl.vars.contains p.1 = true)
    (hmem : ∀ p ∈ varSub, m0.tbl.Mem p.2) :
    Outcome m0 (fun r m1 => ComposeDoc varSub f m0.tbl r m1.tbl) (composeBody f varSub m0) :=
  (composeBody_lvl m0 hI0 hq f hf varSub hdecl hmem).mono fun _ _ hs ⟨hr, hd⟩ =>
    ⟨hr, denN_of_den_subst hI0.wf.toWF hs.frame.l2v hf hd fun σ _ hi =>
      vsub_lift hO varSub hdecl σ hi⟩

/-- the substitution only reads the substituted references as functions of the names -/
theorem subN_congr {t t' : Tbl} (varSub : List (String × Int))
    (h : ∀ p ∈ varSub, denN t' p.2 = denN t p.2) : subN t' varSub = subN t varSub := by
  funext σ s
  unfold subN
  cases hl : varSub.lookup s with
  | none => rfl
  | some g => exact congrFun (h (s, g) (lookup_some_mem s g _ hl)) σ

theorem compose_docBody (f : Int) (varSub : List (String × Int)) :
    DocBody (composeBody f varSub) (f :: varSub.map (·.2))
      (fun t => ∀ p ∈ varSub, t.vars.contains p.1 = true) (ComposeDoc varSub f) := by
  have hin : ∀ p ∈ varSub, p.2 ∈ f :: varSub.map (·.2) := fun p hp =>
    List.mem_cons_of_mem _ (List.mem_map.mpr ⟨p, hp, rfl⟩)
  refine ⟨fun m0 hI0 hc hO hpre hmem => composeBody_out m0 hI0 (Or.inl hc) hO f
      (hmem f List.mem_cons_self) varSub hpre (fun p hp => hmem p.2 (hin p hp)),
    fun _ _ hB hpre p hp => hB.declared (hpre p hp), fun t t' r t'' hB _ hd => ?_⟩
  unfold ComposeDoc at hd ⊢
  rw [hB.denN List.mem_cons_self, subN_congr varSub fun p hp => hB.denN (hin p hp)] at hd
  exact hd

/-- C09 for `compose` (`let` with references): the operand and the substituted references are
held by the user, the substituted names are declared -/
theorem compose_transparentS (ext : Nat → Nat) (m : Mgr) (hD : DynInvS ext m) (f : Int)
    (hf : HeldX ext f) (varSub : List (String × Int))
    (hdecl : ∀ p ∈ varSub, m.tbl.vars.contains p.1 = true)
    (hheld : ∀ p ∈ varSub, HeldX ext p.2) :
    DynOutS ext (ComposeDoc varSub f) m (compose f varSub m) :=
  (compose_docBody f varSub).dynS ext m hD
    (List.forall_mem_cons.mpr ⟨hf, fun w hw => by
      obtain ⟨p, hp, rfl⟩ := List.mem_map.mp hw
      exact hheld p hp⟩) hdecl

/-- documented result of `rename(u, dvars)` (= `let` with names), by name: every variable is
read at its target name -/
def RenameDoc (dvars : List (String × String)) (u : Int) (t : Tbl) (r : Int) (t' : Tbl) : Prop :=
  t'.Mem r ∧ ∀ σ, denN t' r σ = denN t u (fun s => σ (tgtName dvars s))

theorem renameBody_out (m0 : Mgr) (hI0 : Inv m0) (hq : Quiet m0) (hO : OrderOK m0.tbl) (u : Int)
    (hu : m0.tbl.Mem u) (dvars : List (String × String))
    (hd : ∀ p ∈ dvars, m0.tbl.vars.contains p.2 = true) :
    Outcome m0 (fun r m1 => RenameDoc dvars u m0.tbl r m1.tbl) (renameBody u dvars m0) := by
  have hW := hI0.wf.toWF
  refine (renameBody_lvl m0 hI0 hq (VarsBij.ofOrderOK hO) u hu dvars hd).mono
    fun r m1 hs ⟨hr, hden⟩ =>
      ⟨hr, denN_of_den_subst hW hs.frame.l2v hu hden fun σ i hi => ?_⟩
  obtain ⟨v, hv⟩ := hO.total i hi
  show m0.tbl.lift σ (renLevel m0.tbl dvars i) = σ (tgtName dvars (m0.tbl.nameOf i))
  have hvd : m0.tbl.vars.contains v = true :=
    (vars_contains_iff _ _).mpr ⟨i, (hO.inv v i).mpr hv⟩
  obtain ⟨l, hl'⟩ := (vars_contains_iff m0.tbl _).mp (tgtName_declared m0.tbl dvars hd v hvd)
  simp only [renLevel, hv, Tbl.nameOf_eq hv, lvlOf_eq hl']
  show σ (m0.tbl.nameOf l) = _
  rw [hO.nameOf_level hl']

theorem rename_docBody (u : Int) (dvars : List (String × String)) :
    DocBody (renameBody u dvars) [u] (fun t => ∀ p ∈ dvars, t.vars.contains p.2 = true)
      (RenameDoc dvars u) where
  body m0 hI0 hc hO hpre hmem :=
    renameBody_out m0 hI0 (Or.inl hc) hO u (hmem u (by simp)) dvars hpre
  pre _ _ hB hpre p hp := hB.declared (hpre p hp)
  doc t t' r t'' hB _ hdoc := by
    unfold RenameDoc at hdoc ⊢
    rw [hB.denN (u := u) (by simp)] at hdoc
    exact hdoc

/-- C09 for `rename` (`let` with names): the target names are declared -/
theorem rename_transparentS (ext : Nat → Nat) (m : Mgr) (hD : DynInvS ext m) (u : Int)
    (hu : HeldX ext u) (dvars : List (String × String))
    (hd : ∀ p ∈ dvars, m.tbl.vars.contains p.2 = true) :
    DynOutS ext (RenameDoc dvars u) m (rename u dvars m) :=
  (rename_docBody u dvars).dynS ext m hD (by simpa using hu) hd

end DD
