/-
  DDProofs.DynOutcome — the abort-aware specifications: `Outcome`, the case of `OutcomeX` with no
  other exception (result, or abort by a reordering request having only added nodes), for the
  recursions of the model, whose `find_or_add` never refuses.
-/
import DDProofs.OutcomeX
open Std

namespace DD

/-- outcome of a computation started in `m`: result satisfying `Post` after a step that only
added nodes, or abort by a reordering request after such a step -/
def Outcome {α} (m : Mgr) (Post : α → Mgr → Prop) : Except Err α × Mgr → Prop
  | (.ok r, m') => StepK m m' ∧ Post r m'
  | (.error e, m') => e = .needsReordering ∧ StepK m m' ∧ Armed m

theorem Outcome.toX {α} {E : Err → Prop} {m : Mgr} {Post : α → Mgr → Prop}
    {res : Except Err α × Mgr} (h : Outcome m Post res) : OutcomeX E m Post res :=
  Ends.imp h (fun _ _ q => q) fun _ _ q => ⟨q.2.1, fun _ => q.2.2, Or.inl q.1⟩

theorem OutcomeX.toOutcome {α} {m : Mgr} {Post : α → Mgr → Prop} {res : Except Err α × Mgr}
    (h : OutcomeX (fun _ => False) m Post res) : Outcome m Post res :=
  h.elim (fun _ _ hs hp => ⟨hs, hp⟩)
    (fun _ _ hs ha hx => have he := hx.resolve_right id; ⟨he, hs, ha he⟩)

/-- case analysis on the outcome of a call scrutinised by a `match` -/
@[elab_as_elim]
theorem Outcome.elim {α} {m : Mgr} {Post : α → Mgr → Prop}
    {motive : Except Err α × Mgr → Prop} {res : Except Err α × Mgr} (h : Outcome m Post res)
    (ok : ∀ r m', StepK m m' → Post r m' → motive (.ok r, m'))
    (err : ∀ m', StepK m m' → Armed m → motive (.error .needsReordering, m')) : motive res :=
  Ends.elim h (fun r m' q => ok r m' q.1 q.2) fun _ m' q => q.1 ▸ err m' q.2.1 q.2.2

theorem Outcome.cases {α} {m : Mgr} {Post : α → Mgr → Prop} {res : Except Err α × Mgr}
    (h : Outcome m Post res) :
    (∃ r m', res = (.ok r, m') ∧ StepK m m' ∧ Post r m') ∨
    (∃ m', res = (.error .needsReordering, m') ∧ StepK m m' ∧ Armed m) :=
  h.elim (fun r m' hs hp => Or.inl ⟨r, m', rfl, hs, hp⟩) (fun m' hs ha => Or.inr ⟨m', rfl, hs, ha⟩)

theorem Outcome.mono {α} {m : Mgr} {P Q : α → Mgr → Prop} {res : Except Err α × Mgr}
    (h : Outcome m P res) (hpq : ∀ r m', StepK m m' → P r m' → Q r m') : Outcome m Q res :=
  (h.toX.mono hpq).toOutcome

theorem Outcome.after {α} {m m1 : Mgr} {P : α → Mgr → Prop} {res : Except Err α × Mgr}
    (hs : StepK m m1) (h : Outcome m1 P res) : Outcome m P res :=
  (h.toX.after hs).toOutcome

theorem Outcome.abort {α} {m m1 m' : Mgr} {Post : α → Mgr → Prop} (hs : StepK m m1)
    (hs' : StepK m1 m') (ha : Armed m1) : Outcome m Post (.error .needsReordering, m') :=
  ⟨rfl, hs.trans hs', ha.back hs.frame⟩

/-- the postcondition `Q` speaks of the start state `m`, the continuation is specified from `m1`:
it is handed the whole step `m → m2` to prove `Q` with -/
theorem Outcome.bind {α β} {x : M α} {f : α → M β} {m : Mgr} {P : α → Mgr → Prop}
    {Q : β → Mgr → Prop} (hx : Outcome m P (x m))
    (hf : ∀ a m1, StepK m m1 → P a m1 → Outcome m1 (fun b m2 => StepK m m2 → Q b m2) (f a m1)) :
    Outcome m Q ((x >>= f) m) :=
  Ends.bind hx fun a m1 _ q => Ends.imp (hf a m1 q.1 q.2)
    (fun _ _ q2 => ⟨q.1.trans q2.1, q2.2 (q.1.trans q2.1)⟩)
    fun _ _ q2 => ⟨q2.1, q.1.trans q2.2.1, q2.2.2.back q.1.frame⟩

theorem Outcome.off {α} {m : Mgr} {Post : α → Mgr → Prop} {res : Except Err α × Mgr}
    (h : Outcome m Post res) (hoff : m.lastLen = none) :
    ∃ r m', res = (.ok r, m') ∧ StepK m m' ∧ Post r m' := by
  rcases h.cases with h | ⟨m', _, _, ha⟩
  · exact h
  · exact (ha.not_off hoff).elim

/-- a decorated call nested in a context has the outcome of its body -/
theorem Outcome.nested {α} {f : M α} {m : Mgr} {P : α → Mgr → Prop} (hc : m.ctx = true)
    (h : Outcome m P (f m)) : Outcome m P (tryToReorder f m) := by
  rw [tryToReorder_nested_eq f m hc (h.toX (E := fun _ => False)).step.frame.ctx]
  exact h

/-- a decorated call where no request is served (`Quiet`: nested in a context, or requests
disabled) has the outcome of its body; the post-condition reads the tables only -/
theorem Outcome.quiet {α} {f : M α} {m : Mgr} {P : Tbl → α → Tbl → Prop} (hq : Quiet m)
    (h : Outcome { m with ctx := true } (fun r m1 => P m.tbl r m1.tbl) (f { m with ctx := true })) :
    Outcome m (fun r m1 => P m.tbl r m1.tbl) (tryToReorder f m) :=
  (tryToReorder_quiet f hq h.toX fun _ _ p => p).toOutcome

/-- `Outcome` for the recursions that return a pair (result, memo) -/
def Outcome2 {α β} (m : Mgr) (Post : α → β → Mgr → Prop) (res : Except Err (α × β) × Mgr) : Prop :=
  Outcome m (fun rc m' => Post rc.1 rc.2 m') res

theorem OutcomeX2.toOutcome {α β} {m : Mgr} {Post : α → β → Mgr → Prop}
    {res : Except Err (α × β) × Mgr} (h : OutcomeX2 (fun _ => False) m Post res) :
    Outcome2 m Post res :=
  OutcomeX.toOutcome h

@[elab_as_elim]
theorem Outcome2.elim {α β} {m : Mgr} {Post : α → β → Mgr → Prop}
    {motive : Except Err (α × β) × Mgr → Prop} {res : Except Err (α × β) × Mgr}
    (h : Outcome2 m Post res)
    (ok : ∀ r c m', StepK m m' → Post r c m' → motive (.ok (r, c), m'))
    (err : ∀ m', StepK m m' → Armed m → motive (.error .needsReordering, m')) : motive res :=
  Outcome.elim h (fun rc m' hs hp => ok rc.1 rc.2 m' hs hp) err

theorem Outcome2.cases {α β} {m : Mgr} {Post : α → β → Mgr → Prop}
    {res : Except Err (α × β) × Mgr} (h : Outcome2 m Post res) :
    (∃ r c m', res = (.ok (r, c), m') ∧ StepK m m' ∧ Post r c m') ∨
    (∃ m', res = (.error .needsReordering, m') ∧ StepK m m' ∧ Armed m) :=
  h.elim (fun r c m' hs hp => Or.inl ⟨r, c, m', rfl, hs, hp⟩)
    (fun m' hs ha => Or.inr ⟨m', rfl, hs, ha⟩)

theorem Outcome2.off {α β} {m : Mgr} {Post : α → β → Mgr → Prop}
    {res : Except Err (α × β) × Mgr} (h : Outcome2 m Post res) (hoff : m.lastLen = none) :
    ∃ r c m', res = (.ok (r, c), m') ∧ StepK m m' ∧ Post r c m' := by
  obtain ⟨⟨r, c⟩, m', he, hs, hp⟩ := Outcome.off h hoff
  exact ⟨r, c, m', he, hs, hp⟩

end DD
