/-
  DDProofs.DynPreimage — the decorated body `_preimage_of`, abort-aware, under its literal
  preconditions.  When its test `fused` holds it runs the recursion `_image`, and what the test
  established is what `_image` needs to be right for `preimage`.  For partners that are NOT
  neighbours (`preimageFallback`) it renames the target with `_copy_bdd` and the full level map,
  conjoins with `bdd.ite(trans, r, -1)`, quantifies with `bdd.quantify` — three calls nested in
  the decorator's context; no condition relates the renaming to the variable order, and none of
  the hypotheses behind findings F5 / F5b is needed on this branch (`_copy_bdd` rebuilds every
  level with `ite(var, q, p)`: a substitution).  Either way: the documented result
  `Q qvars. trans ∧ rename(target)`, or abort by a reordering request having only added nodes.
-/
import DDProofs.ImageWrap
import DDProofs.DynKept
open Std

namespace DD

theorem lookup_map_keyLvl (lm : List (Nat × Nat)) (k : Nat) :
    (lm.map fun p => (p.1, Key.lvl (p.2 : Int))).lookup k =
      (lm.lookup k).map fun j : Nat => Key.lvl (j : Int) :=
  lookup_map_inj id (fun j : Nat => Key.lvl (j : Int)) lm k fun _ _ h => h

theorem copyBddK_eq_F (lm : List (Nat × Nat)) :
    ∀ (fu : Nat) (u : Int) (cache : HashMap Nat Int) (m : Mgr),
      copyBddK (lm.map fun p => (p.1, Key.lvl (p.2 : Int))) fu u cache m =
        copyBddF none lm fu u cache m := by
  intro fu
  induction fu with
  | zero => intro u cache m; rfl
  | succ fu ih =>
    intro u cache m
    unfold copyBddK copyBddF
    -- the two bodies are the same text up to the two recursive calls and the value found in the
    -- level map: descend to these
    congr 2
    funext _
    congr 1
    funext n
    congr 2
    · exact ih _ _ _
    funext p c1 m1
    congr 1
    · exact ih _ _ _
    funext q c2 m2
    congr 2
    rw [lookup_map_keyLvl]
    cases lm.lookup n.lvl <;> rfl

def lmNat (n : Nat) (pairs : List (Int × Int)) : List (Nat × Nat) :=
  (List.range n).map fun j => (j, renOf pairs j)

theorem lookup_range_map {β} (f : Nat → β) (n i : Nat) (hi : i < n) :
    ((List.range n).map fun j => (j, f j)).lookup i = some (f i) :=
  lookup_of_mem_nodup _ (by rw [List.map_map]; exact (List.map_id' _).symm ▸ List.nodup_range)
    i (f i) (List.mem_map.mpr ⟨i, List.mem_range.mpr hi, rfl⟩)

theorem lmNat_lookup (n : Nat) (pairs : List (Int × Int)) (i : Nat) (hi : i < n) :
    (lmNat n pairs).lookup i = some (renOf pairs i) := lookup_range_map _ n i hi

theorem lookup_lvl_intPairs : ∀ (rn : List (Key × Key)), badKeys rn = [] → ∀ j : Int,
    rn.lookup (Key.lvl j) = ((intPairs rn).lookup j).map Key.lvl
  | [], _, _ => rfl
  | (.name _, _) :: rest, hb, j => lookup_lvl_intPairs rest hb j
  | (.lvl _, .name _) :: _, hb, _ => by cases hb
  | (.lvl a, .lvl b) :: rest, hb, j => by
    have hk : (Key.lvl j == Key.lvl a) = (j == a) := by
      rw [Bool.eq_iff_iff, beq_iff_eq, beq_iff_eq, Key.lvl.injEq]
    show ((Key.lvl a, Key.lvl b) :: rest).lookup (Key.lvl j) =
      (((a, b) :: intPairs rest).lookup j).map Key.lvl
    rw [List.lookup_cons, List.lookup_cons, hk, lookup_lvl_intPairs rest hb j]
    cases j == a <;> rfl

theorem preimageLevelMap_eq (n : Nat) (rn : List (Key × Key)) (hb : badKeys rn = [])
    (hval : ∀ p, p ∈ intPairs rn → 0 ≤ p.2) :
    preimageLevelMap n rn =
      (lmNat n (intPairs rn)).map fun p => (p.1, Key.lvl (p.2 : Int)) := by
  unfold preimageLevelMap lmNat
  rw [List.map_map]
  apply List.map_congr_left
  intro j _
  simp only [Function.comp]
  rw [lookup_lvl_intPairs rn hb, ← renOf_eq (intPairs rn) hval j]
  cases (intPairs rn).lookup (j : Int) <;> rfl

/-- `BDD.quantify` where no request is served (nested in a context, or requests disabled): with
`lv` the levels `_map_to_level` computes for `qvars`, the quantification of `u` over `lv`, or abort
having only added nodes -/
theorem quantify_out_lvl (m : Mgr) (hI : Inv m) (hQ : Quiet m) (u : Int) (hu : m.tbl.Mem u)
    (qvars : List Key) (fa : Bool) (lv : List Nat) (hlv : mapToLevelE m.tbl qvars = .ok lv) :
    Outcome m (fun r m' => m'.tbl.Mem r ∧ m.tbl.levelOf u ≤ m'.tbl.levelOf r ∧
        ∀ a, den m'.tbl r a = true ↔ qsem fa lv (den m.tbl u) a)
      (quantify u qvars fa m) := by
  have hb := (quantifyBodyG_lvl _ _ _ findOrAdd_foaX ite_nestedX _ (hI.setCtx true) (Or.inl rfl) u
    hu qvars fa lv hlv).toOutcome
  rw [quantifyBodyG_model] at hb
  exact Outcome.quiet (P := fun t r t' => t'.Mem r ∧ t.levelOf u ≤ t'.levelOf r ∧
    ∀ a, den t' r a = true ↔ qsem fa lv (den t u) a) hQ hb

/-- what the branch returns: `Q q. trans ∧ target[rename]`, levels -/
def PreFallbackPost (fa : Bool) (q : List Nat) (pairs : List (Int × Int)) (trans target : Int)
    (t : Tbl) (r : Int) (t' : Tbl) : Prop :=
  t'.Mem r ∧ ∀ a, den t' r a = true ↔
    qsem fa q (fun b => den t trans b && den t target (fun j => b (renOf pairs j))) a

/-- the branch of `_preimage_of` for partners that are not neighbours, where no request is served:
for a renaming whose level pairs are declared levels (no undeclared name as a value) and quantified
levels that are declared, ANY order: the documented result, or abort having only added nodes -/
theorem preimageFallback_out (m : Mgr) (hI : Inv m) (hQ : Quiet m) (trans target : Int)
    (hu : m.tbl.Mem trans) (hv : m.tbl.Mem target) (fa : Bool) (rn : List (Key × Key))
    (q : List Nat) (hb : badKeys rn = [])
    (hlv : ∀ p, p ∈ intPairs rn →
      0 ≤ p.1 ∧ p.1 < (m.nvars : Int) ∧ 0 ≤ p.2 ∧ p.2 < (m.nvars : Int))
    (hql : ∀ i, i ∈ q → m.tbl.l2v.contains i = true) :
    Outcome m (fun r m' => PreFallbackPost fa q (intPairs rn) trans target m.tbl r m'.tbl)
      (preimageFallback trans target rn q fa m) := by
  have hW := hI.wf.toWF
  have hnv : m.nvars = m.tbl.nvars := rfl
  generalize hpairs : intPairs rn = pairs at hlv ⊢
  have hrlt : ∀ i, i < m.tbl.nvars → renOf pairs i < m.tbl.nvars := fun i hi =>
    (renOf_declared hlv i hi).2
  unfold preimageFallback
  rw [preimageLevelMap_eq m.nvars rn hb (by rw [hpairs]; exact fun p hp => (hlv p hp).2.2.1),
    copyBddK_eq_F, hpairs]
  -- rename
  refine (copyBddF_out none (lmNat m.nvars pairs) m.tbl hW (m.nvars + 2) m target {} hI hQ
    (Ext.refl _) hv (CMemo.empty _ _ _)
    (fun i hi => ⟨_, lmNat_lookup m.nvars pairs i (hi.lt_nvars hW), hrlt i (hi.lt_nvars hW)⟩)
    (by omega)).elim ?_ fun _ => Outcome.abort (StepK.refl hI)
  intro r1 _ m1 hs1 ⟨_, hp1⟩
  simp only
  have hd1 : ∀ a, den m1.tbl r1 a = den m.tbl target (fun j => a (renOf pairs j)) := by
    intro a
    rw [hp1.den a]
    apply den_agree_ge m.tbl hW target hv
    intro i _ hi
    simp only [cmap, lmNat_lookup m.nvars pairs i hi]
  -- conjoin
  refine (ite_nested_spec m1 hs1.inv (hQ.step hs1) trans r1 (-1) (hs1.ext.mem hu) hp1.mr
    (mem_neg_one _)).elim ?_ fun _ => Outcome.abort hs1
  intro r2 m2 hs2 hp2
  simp only
  have hs12 := hs1.trans hs2
  have hd2 : den m2.tbl r2 =
      fun a => den m.tbl trans a && den m.tbl target (fun j => a (renOf pairs j)) := by
    funext a
    rw [hp2.den a, den_neg_one, hd1 a, den_ext hs1.ext hW trans a hu]
    cases den m.tbl trans a <;> simp
  -- quantify
  refine ((quantify_out_lvl m2 hs2.inv (hQ.step hs12) r2 hp2.mem _ fa q
    (mapToLevelE_levels m2.tbl q fun i hi => by rw [hs12.frame.l2v]; exact hql i hi)).after
      hs12).mono ?_
  intro r3 m3 _ ⟨hm3, _, hd3⟩
  exact ⟨hm3, fun a => by rw [hd3 a, hd2]⟩

/-- the decorated body `_preimage_of`, where no request is served, under the LITERAL preconditions
alone (pairs of declared levels, no key is a value, no undeclared name as a value): ANY order,
renaming and target; `Q qvars. trans ∧ rename(target)`, or abort having only added nodes.  What
the test `fused` established gives the increasing renaming `_image` needs (`renOf_mono`). -/
theorem preimageBody_out_levels (m : Mgr) (hI : Inv m) (hQ : Quiet m) (hV : VarsBij m.tbl)
    (trans target : Int) (hu : m.tbl.Mem trans) (hv : m.tbl.Mem target)
    (rn : List (Key × Key)) (qvars : List Key) (fa : Bool) (q : List Nat)
    (hq : mapToLevelE m.tbl qvars = .ok q)
    (hne : resolveRename m.tbl rn ≠ [] → 0 < m.nvars)
    (hov : renameOverlap (resolveRename m.tbl rn) = false)
    (hnb : badKeys (resolveRename m.tbl rn) = [])
    (hlv : ∀ p, p ∈ intPairs (resolveRename m.tbl rn) →
      0 ≤ p.1 ∧ p.1 < (m.nvars : Int) ∧ 0 ≤ p.2 ∧ p.2 < (m.nvars : Int)) :
    Outcome m (fun r m' =>
        PreFallbackPost fa q (intPairs (resolveRename m.tbl rn)) trans target m.tbl r m'.tbl)
      (preimageBody trans target rn qvars fa m) := by
  have hW := hI.wf.toWF
  obtain ⟨fused, hfused⟩ := preimageFused_ok hI.wf (resolveRename m.tbl rn) target hv
  rw [preimageBody_of_valid m hV trans target rn qvars fa q hq hne hov fused hfused]
  cases fused with
  | false =>
    refine preimageFallback_out m hI hQ trans target hu hv fa _ q hnb hlv fun i hi => ?_
    obtain ⟨nm, hnm⟩ := mapToLevelE_named m.tbl hV qvars q hq i hi
    rw [TreeMap.contains_eq_isSome_getElem?, hnm]
    rfl
  | true =>
    -- the three assumptions of the fused recursion are what the test established
    obtain ⟨hadj, hinj, s, hs, hdis⟩ := preimageFused_true hfused
    obtain ⟨s', hs', _, hdep⟩ := supportLevels_spec hI.wf target hv
    rw [hs] at hs'
    cases hs'
    rw [if_pos rfl, hnb]
    generalize intPairs (resolveRename m.tbl rn) = pairs at hlv hadj hinj hdis ⊢
    have hterm : (pairs.lookup (m.nvars : Int)).getD (m.nvars : Int) = (m.nvars : Int) := by
      cases hl : pairs.lookup (m.nvars : Int) with
      | none => rfl
      | some x =>
        have := (hlv _ (lookup_some_mem _ _ _ hl)).2.1
        simp only at this
        omega
    refine (imageF_out none (some pairs) [] [] q fa id (renOf pairs) (InSupp m.tbl target) m.nvars
      True
      ⟨fun z hz _ => ⟨rfl, hz⟩, fun j hj => renOf_declared hlv j (hj.lt_nvars hW), hterm,
        fun _ _ _ => rfl, fun _ _ => rfl⟩
      (fun _ => renOf_mono pairs _ (fun p hp => (hlv p hp).2.2.1) hadj hinj
        fun x hx j hj he => hdis x hx j he ((hdep j).mpr (hj.dependsOn hI.wf)))
      (2 * m.nvars + 4) m trans target {} hI hQ rfl hu hv (fun _ h => h)
      (IMemoC.empty _ _ _ _ _ _) (by omega)).elim ?_ fun _ => Outcome.abort (StepK.refl hI)
    intro r _ m' hs ⟨_, hp⟩
    exact ⟨hs, hp.mr, hp.den_entry hW hs.ext hu hv trivial⟩

end DD
