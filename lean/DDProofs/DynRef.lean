/-
  DDProofs.DynRef — reference counts through `_ite` (both outcomes: result or attempt aborted
  by a reordering request): counts stay EXACT w.r.t. the same ledger of user-held references and
  never decrease, no key of `_ref` disappears (a held node is still held when the aborted attempt
  hands over to sifting).  The ledger view of "held".
-/
import DDProofs.IteOutcome
open Std

namespace DD

/-- a node the user (or a parent) holds a reference on: sifting must keep it -/
def Held (m : Mgr) (u : Int) : Prop :=
  u.natAbs = 1 ∨ ∃ c, m.ref[u.natAbs]? = some c ∧ 0 < c

theorem Held.mono {m m' : Mgr} (h : RefMono m m') {w : Int} (hw : Held m w) : Held m' w := by
  rcases hw with h1 | ⟨c, hc, hpos⟩
  · exact Or.inl h1
  · obtain ⟨c', hc', hle⟩ := h _ _ hc
    exact Or.inr ⟨c', hc', by omega⟩

/-- the ledger view of "held": the user holds a reference (or it is the terminal) -/
def HeldX (ext : Nat → Nat) (u : Int) : Prop := u.natAbs = 1 ∨ 0 < ext u.natAbs

theorem HeldX.held {m : Mgr} {ext : Nat → Nat} (hr : RefExact m ext) {u : Int} (h : HeldX ext u) :
    Held m u := by
  rcases h with h1 | h1
  · exact Or.inl h1
  · have hm : m.tbl.Mem u := hr.mem_of_ext_pos h1
    exact Or.inr ⟨_, hr.get hm, by omega⟩

theorem HeldX.mem {m : Mgr} {ext : Nat → Nat} (hr : RefExact m ext) {u : Int} (h : HeldX ext u) :
    m.tbl.Mem u := by
  rcases h with h1 | h1
  · exact Or.inl h1
  · exact hr.mem_of_ext_pos h1

theorem HeldX.neg {ext : Nat → Nat} {u : Int} (h : HeldX ext u) : HeldX ext (-u) := by
  unfold HeldX at *
  simpa using h

theorem HeldX.one (ext : Nat → Nat) : HeldX ext 1 := Or.inl rfl

theorem HeldX.extInc {ext : Nat → Nat} {u : Int} (h : HeldX ext u) (k : Nat) :
    HeldX (DD.extInc ext k) u := by
  rcases h with h | h
  · exact Or.inl h
  · refine Or.inr ?_
    unfold DD.extInc
    split <;> omega

theorem HeldX.extInc_self (ext : Nat → Nat) (u : Int) : HeldX (DD.extInc ext u.natAbs) u := by
  refine Or.inr ?_
  simp [DD.extInc]

/-- `_ite`, whether it returns or is aborted by a reordering request: counts stay exact for the
same ledger (the new nodes are not held by the user), no count decreases, no key disappears -/
theorem iteF_refKeep : ∀ (f : Nat) (m : Mgr) (g u v : Int), Inv m →
    m.tbl.Mem g → m.tbl.Mem u → m.tbl.Mem v →
    m.nvars + 1 ≤ f + min (m.tbl.levelOf g) (min (m.tbl.levelOf u) (m.tbl.levelOf v)) →
    RefKeep m (iteF f g u v m).2 :=
  fun f m g u v hI hg hu hv hf =>
    iteG_findOrAdd f g u v ▸ (iteG_outX _ _ findOrAdd_foaX f m g u v hI hg hu hv hf).step.keep

theorem iteF_refExact (f : Nat) (m : Mgr) (ext : Nat → Nat) (g u v : Int) (hI : Inv m)
    (hr : RefExact m ext) (hg : m.tbl.Mem g) (hu : m.tbl.Mem u) (hv : m.tbl.Mem v)
    (hf : m.nvars + 1 ≤ f + min (m.tbl.levelOf g) (min (m.tbl.levelOf u) (m.tbl.levelOf v))) :
    RefExact (iteF f g u v m).2 ext :=
  (iteF_refKeep f m g u v hI hg hu hv hf ext hr).1

theorem iteF_refMono (f : Nat) (m : Mgr) (ext : Nat → Nat) (g u v : Int) (hI : Inv m)
    (hr : RefExact m ext) (hg : m.tbl.Mem g) (hu : m.tbl.Mem u) (hv : m.tbl.Mem v)
    (hf : m.nvars + 1 ≤ f + min (m.tbl.levelOf g) (min (m.tbl.levelOf u) (m.tbl.levelOf v))) :
    RefMono m (iteF f g u v m).2 :=
  (iteF_refKeep f m g u v hI hg hu hv hf ext hr).2

end DD
