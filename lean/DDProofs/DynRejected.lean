/-
  DDProofs.DynRejected — outcomes of a body that may also fail.  `OutcomeE` is `Outcome`
  (DDProofs.DynOutcome) with a third case: an exception other than the internal signal, again
  having only added nodes; both are read as `OutcomeX E` (`Outcome.toX` for any `E`,
  `OutcomeE.toX` with every exception in `E`), about which the decorator's theorem is stated
  (`tryToReorder_resultIn`, DDProofs.DynGeneric).  `DynResult` is what the caller of the decorated
  call then observes (default schedule).  `TotE` is `OutcomeE` without a documented result: what
  is proved of a body called with arbitrary arguments; around such a body the decorator with
  requests disabled keeps the manager (`tryToReorder_total_off`).

  `Decorated m x` is what every decorated public call `x = X args m` is, whatever its arguments:
  an answer at once, or `_try_to_reorder` around a `TotE` body.  There is one row `X_decorated`
  per call and one lemma `Decorated.…` per situation in which the decorator is studied.
-/
import DDProofs.DynKept
import DDProofs.Total
open Std

namespace DD

/-- outcome of a computation started in `m`: a result satisfying `Post`, or an exception — the
reordering signal only from an armed context — in both cases after a step that only added nodes -/
def OutcomeE {α} (m : Mgr) (Post : α → Mgr → Prop) : Except Err α × Mgr → Prop
  | (.ok r, m') => StepK m m' ∧ Post r m'
  | (.error e, m') => StepK m m' ∧ (e = .needsReordering → Armed m)

theorem OutcomeE.toX {α} {m : Mgr} {Post : α → Mgr → Prop} {res : Except Err α × Mgr}
    (h : OutcomeE m Post res) : OutcomeX (fun _ => True) m Post res :=
  Ends.imp h (fun _ _ q => q) fun _ _ q => ⟨q.1, q.2, Or.inr trivial⟩

theorem Outcome.toE {α} {m : Mgr} {Post : α → Mgr → Prop} {res : Except Err α × Mgr}
    (h : Outcome m Post res) : OutcomeE m Post res :=
  Ends.imp h (fun _ _ q => q) fun _ _ q => ⟨q.2.1, fun _ => q.2.2⟩

theorem OutcomeX.toE {α} {E : Err → Prop} {m : Mgr} {Post : α → Mgr → Prop}
    {res : Except Err α × Mgr} (h : OutcomeX E m Post res) : OutcomeE m Post res :=
  Ends.imp h (fun _ _ q => q) fun _ _ q => ⟨q.1, q.2.1⟩

theorem OutcomeE.mono {α} {m : Mgr} {P Q : α → Mgr → Prop} {res : Except Err α × Mgr}
    (h : OutcomeE m P res) (hpq : ∀ r m', StepK m m' → P r m' → Q r m') : OutcomeE m Q res :=
  Ends.imp h (fun r m' q => ⟨q.1, hpq r m' q.1 q.2⟩) fun _ _ q => q

theorem OutcomeE.fail {α} {m m' : Mgr} {Post : α → Mgr → Prop} {e : Err} (hs : StepK m m')
    (he : e ≠ .needsReordering) : OutcomeE m Post ((.error e, m') : Except Err α × Mgr) :=
  ⟨hs, fun h => absurd h he⟩

/-- the observable outcome of a decorated call: the documented result, or an exception that is
not the internal signal; in both cases the manager and every held reference are intact -/
def DynResult {α} (ext : Nat → Nat) (Doc : Tbl → α → Tbl → Prop) (m : Mgr) :
    Except Err α × Mgr → Prop
  | (.ok r, m') => DynPostG ext Doc m r m'
  | (.error e, m') => e ≠ .needsReordering ∧ DynKept ext m m'

theorem DynResult.kept {α} {ext : Nat → Nat} {Doc : Tbl → α → Tbl → Prop} {m : Mgr}
    {res : Except Err α × Mgr} (h : DynResult ext Doc m res) :
    res.1 ≠ .error .needsReordering ∧ DynKept ext m res.2 := by
  obtain ⟨r, m'⟩ := res
  cases r with
  | ok r => exact ⟨nofun, DynPostG.kept h⟩
  | error e => exact ⟨fun h' => h.1 (by cases h'; rfl), h.2⟩

/-- outcome of a call with arbitrary arguments: whatever it returns or raises, only nodes were
added, and the reordering signal comes only from an armed context.  Not a two-case match on the
outcome, so not an `Ends`: `Ends.elim` / `.imp` / `.bind` (DDProofs.MonadM) do not apply, and its
rules are the lemmas below. -/
def TotE {α} (m : Mgr) (res : Except Err α × Mgr) : Prop :=
  StepK m res.2 ∧ (res.1 = .error .needsReordering → Armed m)

theorem TotE.toE {α} {m : Mgr} {res : Except Err α × Mgr} (h : TotE m res) :
    OutcomeE m (fun _ _ => True) res := by
  obtain ⟨r, m'⟩ := res
  cases r with
  | ok r => exact ⟨h.1, trivial⟩
  | error e => exact ⟨h.1, fun he => h.2 (by rw [he])⟩

theorem OutcomeE.tot {α} {m : Mgr} {P : α → Mgr → Prop} {res : Except Err α × Mgr}
    (h : OutcomeE m P res) : TotE m res := by
  obtain ⟨r, m'⟩ := res
  cases r with
  | ok r => exact ⟨h.1, fun he => by cases he⟩
  | error e => exact ⟨h.1, fun he => h.2 (by cases he; rfl)⟩

theorem TotE.same {α} {m : Mgr} (hI : Inv m) (r : Except Err α) (h : r ≠ .error .needsReordering) :
    TotE m (r, m) := ⟨StepK.refl hI, fun he => absurd he h⟩

/-- a refusal computed from the arguments alone: `x` is the failed translation, never the signal -/
theorem TotE.refused {α β} {m : Mgr} (hI : Inv m) {x : Except Err β} {e : Err} (hx : x = .error e)
    (hp : x ≠ .error .needsReordering) : TotE m ((.error e, m) : Except Err α × Mgr) :=
  TotE.same hI _ fun h => hp (hx.trans (by cases h; rfl))

theorem TotE.ok {α} {m m' : Mgr} (hs : StepK m m') (a : α) : TotE m ((.ok a, m') : Except Err α × Mgr) :=
  ⟨hs, fun he => by cases he⟩

theorem TotE.err {α} {m m' : Mgr} (hs : StepK m m') (e : Err) (he : e ≠ .needsReordering) :
    TotE m ((.error e, m') : Except Err α × Mgr) :=
  ⟨hs, fun h => by cases h; exact absurd rfl he⟩

theorem TotE.trans {α} {m m1 : Mgr} {res : Except Err α × Mgr} (hs : StepK m m1) (h : TotE m1 res) :
    TotE m res :=
  ⟨hs.trans h.1, fun he => (h.2 he).back hs.frame⟩

/-- an exception of an inner call re-raised by the caller (at another result type) -/
theorem TotE.err_of {α β} {m m' : Mgr} {x : Except Err α × Mgr} {e : Err} (h : TotE m x)
    (heq : x = (.error e, m')) : TotE m ((.error e, m') : Except Err β × Mgr) := by
  rw [heq] at h
  exact ⟨h.1, fun he => h.2 (by cases he; rfl)⟩

theorem TotE.step_of {α} {m m' : Mgr} {x : Except Err α × Mgr} {a : α} (h : TotE m x)
    (heq : x = (.ok a, m')) : StepK m m' := by
  rw [heq] at h; exact h.1

theorem TotE.branch {α} {m : Mgr} {c : Prop} [Decidable c] {p q : Except Err α × Mgr}
    (hp : TotE m p) (hq : TotE m q) : TotE m (if c then p else q) := by
  split
  · exact hp
  · exact hq

theorem TotE.bind {α β} {x : M α} {f : α → M β} {m : Mgr} (hx : TotE m (x m))
    (hf : ∀ a m1, StepK m m1 → TotE m1 (f a m1)) : TotE m ((x >>= f) m) := by
  show TotE m (M.bind' x f m)
  unfold M.bind'
  generalize hres : x m = res at hx
  obtain ⟨r, m1⟩ := res
  cases r with
  | ok a => exact (hf a m1 hx.1).trans hx.1
  | error e => exact hx.err_of rfl

/-- a decorated call nested in a context behaves as its body (every exception is re-raised) -/
theorem TotE.nested {α} {f : M α} {m : Mgr} (hc : m.ctx = true) (h : TotE m (f m)) :
    TotE m (tryToReorder f m) := by
  rw [tryToReorder_nested_eq f m hc h.1.frame.ctx]
  exact h

/-- the decorated call of a body total in the sense `TotE`, dynamic reordering not enabled:
never the signal, `Kept` (invariant, every node unchanged, order and switches unchanged), and
exact counts stay exact -/
theorem tryToReorder_total_off {α} (f : M α)
    (hbody : ∀ m0 : Mgr, Inv m0 → m0.ctx = true → TotE m0 (f m0))
    (m : Mgr) (hI : Inv m) (hoff : m.lastLen = none) :
    (tryToReorder f m).1 ≠ .error .needsReordering ∧ Kept m (tryToReorder f m).2 ∧
      RefKeep m (tryToReorder f m).2 := by
  have h := hbody { m with ctx := true } (hI.setCtx true) rfl
  have hns : (f { m with ctx := true }).1 ≠ .error .needsReordering :=
    fun he => (h.2 he).not_off hoff
  have hs := StepK.ofCtx true h.1
  rw [tryToReorder_first f m (.inl hns)]
  exact ⟨hns, ⟨hs.inv, hs.ext, hs.frame⟩, hs.keep⟩

/-- what a decorated operation does, whatever its arguments: it answers at once with the manager
untouched (a refusal, a negation, an empty `let`), or it runs under `_try_to_reorder` a body that
only adds nodes (`TotE`).  Every decorated public call returns a reference, hence `Int`. -/
inductive Decorated (m : Mgr) : Except Err Int × Mgr → Prop
  | same (r : Except Err Int) (hr : r ≠ .error .needsReordering) : Decorated m (r, m)
  | body (f : M Int) (hf : ∀ m0 : Mgr, Inv m0 → m0.ctx = true → TotE m0 (f m0)) :
    Decorated m (tryToReorder f m)

/-- with reordering not enabled a decorated operation only adds nodes, keeps the counts exact and
never raises the internal signal -/
theorem Decorated.off {m : Mgr} {x : Except Err Int × Mgr} (h : Decorated m x) (hI : Inv m)
    (hoff : m.lastLen = none) : x.1 ≠ .error .needsReordering ∧ Kept m x.2 ∧ RefKeep m x.2 := by
  cases h with
  | same r hr => exact ⟨hr, Kept.refl hI, RefKeep.refl m⟩
  | body f hf => exact tryToReorder_total_off f hf m hI hoff

/-- nested in a context (as `cube`, `add_expr`, `apply` call them) a decorated operation is total
in the sense of its body: every exception, the signal included, is re-raised -/
theorem Decorated.nested {m : Mgr} {x : Except Err Int × Mgr} (h : Decorated m x) (hI : Inv m)
    (hc : m.ctx = true) : TotE m x := by
  cases h with
  | same r hr => exact TotE.same hI r hr
  | body f hf => exact TotE.nested hc (hf m hI hc)

end DD
