/-
  DDProofs.DynRejectedExpr — `BDD.add_expr(text)` for ANY text: a syntax error (detected after
  some sub-formulas were already reduced and evaluated), an undeclared variable, an unknown node
  `@n`, an undeclared name under a quantifier or in a renaming — the translator is a chain of
  decorated calls nested in the context of `add_expr`, each total in the sense `TotE`; so
  `add_expr` has its row `addExpr_decorated` in the table `Decorated` (DDProofs.DynRejected): it
  never raises the internal signal and keeps the manager and every held reference, dynamic
  reordering enabled (`Decorated.totalK`: any recorded schedule, every outcome) or not
  (`Decorated.off`, any number of variables).
-/
import DDProofs.DynRejectedOps
open Std

namespace DD

def RenameNestedTot (renameX : Int → List (String × String) → M Int) : Prop :=
  ∀ (m : Mgr), Inv m → m.ctx = true → ∀ u d, TotE m (renameX u d m)

theorem rename_nested_totE : RenameNestedTot rename :=
  fun m hI hc u dvars => (rename_decorated u dvars m).nested hI hc

/-- the evaluation of ANY syntax tree (undeclared names, unknown nodes included), nested in the
context of `add_expr`, over any `var` / `apply` / `quantify` / `rename` that are total there -/
theorem evalAstG_totE (varX : String → M Int) (applyX : String → Int → Option Int → Option Int → M Int)
    (quantX : Int → List Key → Bool → M Int) (renameX : Int → List (String × String) → M Int)
    (hv : VarNestedTot varX) (ha : ApplyNestedTot applyX) (hq : QuantNestedTot quantX)
    (hr : RenameNestedTot renameX) (t : Ast) (m : Mgr) (hI : Inv m) (hc : m.ctx = true) :
    TotE m (evalAstG varX applyX quantX renameX t m) :=
  evalAstG_seq TotE.seqClosed varX applyX quantX renameX (fun x m hI hc => hv m hI hc x)
    (fun op u v w m hI hc => ha m hI hc op u v w) (fun u q fa m hI hc => hq m hI hc u q fa)
    (fun u d m hI hc => hr m hI hc u d) t m hI hc

/-- the body of `add_expr` on ANY token string -/
theorem addExprToksG_totE (ev : Ast → M Int)
    (hev : ∀ (t : Ast) (m : Mgr), Inv m → m.ctx = true → TotE m (ev t m))
    (toks : List Tok) (m : Mgr) (hI : Inv m) (hc : m.ctx = true) :
    TotE m (addExprToksG ev toks m) :=
  addExprToksG_seq TotE.seqClosed ev hev toks m hI hc

theorem evalAstG_model : ∀ t, evalAstG var apply quantify rename t = evalAst t
  | .var x => rfl
  | .bool b => rfl
  | .num neg d => rfl
  | .not e => by unfold evalAstG evalAst; rw [evalAstG_model e]
  | .bin o l r => by unfold evalAstG evalAst; rw [evalAstG_model l, evalAstG_model r]
  | .ite a b c => by
    unfold evalAstG evalAst; rw [evalAstG_model a, evalAstG_model b, evalAstG_model c]
  | .quant fa ns e => by unfold evalAstG evalAst; rw [evalAstG_model e]
  | .subst ss e => by unfold evalAstG evalAst; rw [evalAstG_model e]

theorem evalForestG_model : ∀ ts, evalForestG evalAst ts = evalForest ts
  | [] => rfl
  | t :: ts => by unfold evalForestG evalForest; rw [evalForestG_model ts]

theorem addExprToksG_model (toks : List Tok) : addExprToksG evalAst toks = addExprToks toks := by
  unfold addExprToksG addExprToks
  simp only [evalForestG_model]
  rfl

theorem addExprToks_totE (toks : List Tok) (m : Mgr) (hI : Inv m) (hc : m.ctx = true) :
    TotE m (addExprToks toks m) := by
  rw [← addExprToksG_model]
  refine addExprToksG_totE _ (fun t => ?_) toks m hI hc
  rw [← evalAstG_model]
  exact evalAstG_totE _ _ _ _ var_nested_totE apply_nested_totE quantify_nested_totE
    rename_nested_totE t

theorem addExpr_decorated (s : String) (m : Mgr) : Decorated m (addExpr s m) :=
  .body _ fun m0 hI hc => addExprToks_totE (tokenize s) m0 hI hc

end DD
