/-
  DDProofs.DynRejectedOps — the decorated operations with ARBITRARY (possibly invalid) arguments
  and dynamic reordering possibly ENABLED: the bodies are total in the sense `TotE` (whatever
  they return or raise, only nodes were added; the reordering signal only from an armed context),
  so every decorated call — `ite`, `var`, `quantify`, `cofactor`, `compose`, `rename`, `let`,
  `apply`, `cube`, `copy_bdd` — has its row `X_decorated` in the table `Decorated`
  (DDProofs.DynRejected): by `Decorated.totalK` it keeps the manager and every held reference
  under any recorded schedule whatever it returns or raises (`DynTotalK`), and never raises the
  internal signal; `Decorated.total` is the reading for the default schedule, `Decorated.off`
  (DDProofs.DynRejected) the one for reordering not enabled, `Decorated.nested` the one inside a
  context: how the bodies of `compose`, `rename`, `copy_bdd`, `cube`, `add_expr` call `ite`, `var`,
  `quantify`, `apply`, which is why each row stands right after its body.

  Each body is stated in its text over ANY `find_or_add` / nested `ite` (DD.Capacity3…): what is
  asked of the two is that they are total themselves (`VarTotX`, `IteTotX`) — then `rename`,
  `copy_bdd`, `cube` are instances of their walks (DDProofs.BodiesSeq) — and, where the recursion
  keeps the invariant only because of what its recursive calls return (`_ite`, `_cofactor`,
  `_quantify`, `_compose`), that they meet their abort-aware specification (`FoaX`, `IteNestedX`);
  the failure cases (unknown nodes, undeclared names, unknown levels) are proved here.  The model's
  own bodies are the instance `findOrAdd`, `ite`.
-/
import DDProofs.DynCube
import DDProofs.ReachTotal
import DDProofs.BodiesSeq
import DDProofs.Compose
open Std

namespace DD

theorem TotE.seqClosed :
    SeqClosed (fun {α : Type} (x : M α) => ∀ m, Inv m → m.ctx = true → TotE m (x m)) where
  pure _ m hI _ := TotE.same hI _ nofun
  throw _ he _ m hI _ := TotE.same hI _ (fun h => he (by cases h; rfl))
  bind hx hk m hI hc := TotE.bind (hx m hI hc) fun a m1 s => hk a m1 s.inv (s.ctx hc)
  get hf _ m := hf m m

/-- `_ite` on ARBITRARY integers, requests possibly armed -/
theorem iteRawG_totE (E : Err → Prop) (foa : Int → Int → Int → M Int) (hfoa : FoaX E foa)
    (m : Mgr) (hI : Inv m) (g u v : Int) : TotE m (iteRawG foa g u v m) := by
  unfold iteRawG
  by_cases hall : m.tbl.Mem g ∧ m.tbl.Mem u ∧ m.tbl.Mem v
  · exact (iteG_outX E foa hfoa (m.nvars + 2) m g u v hI hall.1 hall.2.1 hall.2.2 (by omega)).toE.tot
  · obtain ⟨r, he, hr⟩ := iteG_invalid foa (m.nvars + 2) m hI g u v hall
    rw [he]
    exact TotE.same hI r hr

theorem iteRaw_totE (m : Mgr) (hI : Inv m) (g u v : Int) : TotE m (iteRaw g u v m) := by
  rw [← iteRawG_findOrAdd]
  exact iteRawG_totE _ _ findOrAdd_foaX m hI g u v

/-- the nested `ite` is total on ARBITRARY integers inside a context -/
def IteTotX (iteX : Int → Int → Int → M Int) : Prop :=
  ∀ (m : Mgr), Inv m → m.ctx = true → ∀ g u v : Int, TotE m (iteX g u v m)

theorem ite_decorated (g u v : Int) (m : Mgr) : Decorated m (ite g u v m) :=
  .body _ fun m0 hI _ => iteRaw_totE m0 hI g u v

theorem ite_nested_totE (m : Mgr) (hI : Inv m) (hc : m.ctx = true) (g u v : Int) :
    TotE m (ite g u v m) :=
  (ite_decorated g u v m).nested hI hc

/-- the node of the variable at ANY level through `foa` -/
def VarTotX (foa : Int → Int → Int → M Int) : Prop :=
  ∀ (m : Mgr), Inv m → ∀ j : Nat, TotE m (foa (j : Int) (-1) 1 m)

/-- the request at the head of `find_or_add` only moves the trigger, and signals only when armed -/
theorem requestReordering_totE (m : Mgr) (hI : Inv m) (hc : m.ctx = true) :
    TotE m (requestReordering m) := by
  rcases requestReordering_cases m with ⟨f, hr⟩ | ⟨f, hr, harm⟩ <;> rw [hr]
  · exact TotE.ok (.setFire hI f) _
  · exact ⟨.setFire hI f, fun _ => ⟨hc, harm⟩⟩

/-- a `find_or_add` whose arguments are refused with `e` once the request is through -/
theorem findOrAdd_refused_totE (m : Mgr) (hI : Inv m) (i v w : Int) (e : Err)
    (he : e ≠ .needsReordering)
    (hcore : ∀ m' : Mgr, m'.nvars = m.nvars →
      (if i < 0 then (.error .value, m') else findOrAddCore i.toNat v w m') = (.error e, m')) :
    TotE m (findOrAdd i v w m) := by
  rcases findOrAdd_eq m i v w with ⟨f, hc, harm, h⟩ | ⟨f, h⟩ <;> rw [h]
  · exact ⟨.setFire hI f, fun _ => ⟨hc, harm⟩⟩
  · rw [hcore { m with fireIn := f } rfl]
    exact TotE.err (.setFire hI f) e he

/-- `find_or_add(j, -1, 1)` for ANY level `j` (an unknown level is refused) -/
theorem varNode_totE (m : Mgr) (hI : Inv m) (j : Nat) : TotE m (findOrAdd (j : Int) (-1) 1 m) := by
  by_cases hj : j < m.nvars
  · exact (varNode_out m hI j hj).toE.tot
  · refine findOrAdd_refused_totE m hI j (-1) 1 .value (by simp) fun m' hn => ?_
    rw [if_neg (by omega), Int.toNat_natCast]
    exact findOrAddCore_bad_level j (-1) 1 m' (by omega)

/-- the body of `BDD.var(name)` for ANY name -/
theorem varBodyG_totE (foa : Int → Int → Int → M Int) (hvar : VarTotX foa) (m : Mgr) (hI : Inv m)
    (name : String) : TotE m (varBodyG foa name m) := by
  unfold varBodyG
  split
  · exact TotE.same hI _ (by simp)
  · exact hvar m hI _

theorem varBody_totE (m : Mgr) (hI : Inv m) (name : String) : TotE m (varBody name m) := by
  rw [varBody_eq]
  exact varBodyG_totE findOrAdd varNode_totE m hI name

theorem var_decorated (name : String) (m : Mgr) : Decorated m (var name m) :=
  var_eq name ▸ .body _ fun m0 hI _ => varBody_totE m0 hI name

theorem var_nested_totE (m : Mgr) (hI : Inv m) (hc : m.ctx = true) (name : String) :
    TotE m (var name m) :=
  (var_decorated name m).nested hI hc

/-- the body of `BDD.cofactor(u, values)` for ANY node and ANY dictionary -/
theorem cofactorBodyG_totE (E : Err → Prop) (foa : Int → Int → Int → M Int) (hfoa : FoaX E foa)
    (m : Mgr) (hI : Inv m) (u : Int) (values : List (Key × Bool)) :
    TotE m (cofactorBodyG foa u values m) := by
  unfold cofactorBodyG
  cases hlv : mapToLevelE m.tbl (values.map (·.1)) with
  | error e =>
    exact TotE.refused hI hlv (mapToLevelE_plain _ _ _ (.inl rfl))
  | ok lv =>
    simp only
    by_cases hu : m.tbl.Mem u
    · have hmem : m.mem u = true := (Mgr.mem_iff m u).mpr hu
      simp only [hmem, Bool.not_true, Bool.false_eq_true, if_false]
      have h := cofactorFG_outX E foa hfoa ((lv.zip (values.map (·.2))).reverse) (m.nvars + 2) m u
        (sortNat (dedup lv)) {} hI hu (CofMemo.empty _ _)
        (fun j hj _ => (mem_ordvar j lv).mpr (lookup_zip_reverse_mem lv _ j hj)) (by omega)
      have ht := (OutcomeX.toE h).tot
      split
      · next heq => exact ht.err_of heq
      · next heq => exact TotE.ok (ht.step_of heq) _
    · have hm : m.mem u = false := (Tbl.mem_false_iff _ _).mpr hu
      simp only [hm, Bool.not_false, if_true]
      exact TotE.same hI _ (by simp)

theorem cofactorBody_totE (m : Mgr) (hI : Inv m) (u : Int) (values : List (Key × Bool)) :
    TotE m (cofactorBody u values m) := by
  rw [← cofactorBodyG_model]
  exact cofactorBodyG_totE _ _ findOrAdd_foaX m hI u values

theorem cofactor_decorated (u : Int) (values : List (Key × Bool)) (m : Mgr) :
    Decorated m (cofactor u values m) :=
  .body _ fun m0 hI _ => cofactorBody_totE m0 hI u values

/-- `_quantify` on an integer that is no node: `KeyError` at the first look-up, nothing touched -/
theorem quantifyFG_not_mem (foa iteX : Int → Int → Int → M Int) (Q : List Nat) (fa : Bool)
    (fu : Nat) {m : Mgr} {u : Int} (hu : ¬ m.tbl.Mem u) (ordvar : List Nat) :
    quantifyFG foa iteX Q fa (fu + 1) u ordvar {} m = (.error .key, m) := by
  obtain ⟨h1, h2⟩ := not_mem_cases hu
  unfold quantifyFG
  simp only [h1, if_false, HashMap.getElem?_empty, h2]

/-- the body of `BDD.quantify(u, qvars, forall)` for ANY node and ANY set of names / levels,
inside a context -/
theorem quantifyBodyG_totE (E : Err → Prop) (foa iteX : Int → Int → Int → M Int)
    (hfoa : FoaX E foa) (hite : IteNestedX E iteX)
    (m : Mgr) (hI : Inv m) (hc : m.ctx = true) (u : Int) (qvars : List Key)
    (fa : Bool) : TotE m (quantifyBodyG foa iteX u qvars fa m) := by
  unfold quantifyBodyG
  cases hlv : mapToLevelE m.tbl qvars with
  | error e =>
    exact TotE.refused hI hlv (mapToLevelE_plain _ _ _ (.inl rfl))
  | ok lv =>
    simp only
    by_cases hu : m.tbl.Mem u
    · have h := quantifyFG_outX E foa iteX hfoa hite lv fa (m.nvars + 2) m u (sortNat (dedup lv)) {}
        hI (Or.inl hc) hu (QMemo.empty _ _ _) (fun j hj _ => (mem_ordvar j _).mpr hj) (by omega)
      have ht := (OutcomeX.toE h).tot
      split
      · next heq => exact ht.err_of heq
      · next heq => exact TotE.ok (ht.step_of heq) _
    · have : quantifyFG foa iteX lv fa (m.nvars + 2) u (sortNat (dedup lv)) {} m = (.error .key, m) :=
        quantifyFG_not_mem foa iteX lv fa (m.nvars + 1) hu _
      rw [this]
      exact TotE.same hI _ (by simp)

theorem quantifyBody_totE (m : Mgr) (hI : Inv m) (hc : m.ctx = true) (u : Int) (qvars : List Key)
    (fa : Bool) : TotE m (quantifyBody u qvars fa m) := by
  rw [← quantifyBodyG_model]
  exact quantifyBodyG_totE _ _ _ findOrAdd_foaX ite_nestedX m hI hc u qvars fa

theorem quantify_decorated (u : Int) (qvars : List Key) (fa : Bool) (m : Mgr) :
    Decorated m (quantify u qvars fa m) :=
  .body _ fun m0 hI hc => quantifyBody_totE m0 hI hc u qvars fa

theorem quantify_nested_totE (m : Mgr) (hI : Inv m) (hc : m.ctx = true) (u : Int)
    (qvars : List Key) (fa : Bool) : TotE m (quantify u qvars fa m) :=
  (quantify_decorated u qvars fa m).nested hI hc

/-- `apply` is not decorated itself: it refuses, negates, or ends in the decorated `ite` /
`quantify` (ANY operator string, arity, operands; quantifier aliases included) -/
theorem apply_decorated (op : String) (u : Int) (v w : Option Int) (m : Mgr) :
    Decorated m (apply op u v w m) :=
  apply_elim op u v w m .same (fun a b c => ite_decorated a b c m)
    fun b q fa => quantify_decorated b q fa m

/-- `_vector_compose` for ANY node, ANY substitution (unknown nodes included), any memo -/
theorem vectorComposeFG_totE (foa iteX : Int → Int → Int → M Int) (hvar : VarTotX foa)
    (hiteT : IteTotX iteX) (sub : List (Nat × Int)) (fu : Nat) (f : Int) (cache : HashMap Nat Int)
    (m : Mgr) (hI : Inv m) (hc : m.ctx = true) : TotE m (vectorComposeFG foa iteX sub fu f cache m) :=
  vectorComposeFG_seq TotE.seqClosed foa iteX (fun j m hI _ => hvar m hI j)
    (fun g u v m hI hc => hiteT m hI hc g u v) sub fu f cache m hI hc

/-- `_compose(f, j, g)` when `g` is NOT a node: nothing is built before the failure, or only
`ite` ran (which is total) -/
theorem composeFG_top_totE (foa iteX : Int → Int → Int → M Int) (hiteT : IteTotX iteX)
    (j : Nat) (fu : Nat) (f g : Int) (m : Mgr) (hI : Inv m)
    (hc : m.ctx = true) (hg : ¬ m.tbl.Mem g) : TotE m (composeFG foa iteX j (fu + 1) f g {} m) := by
  have same : ∀ {r : Except Err (Int × HashMap (Int × Int) Int)}, r ≠ .error .needsReordering →
      TotE m (r, m) := fun h => TotE.same hI _ h
  unfold composeFG
  refine TotE.branch (same nofun) ?_
  rw [HashMap.getElem?_empty]
  cases m.tbl.succ[f.natAbs]? with
  | none => exact same nofun
  | some n =>
  refine TotE.branch (same nofun) (TotE.branch (same nofun) (TotE.branch ?_ ?_))
  · have h := hiteT m hI hc g n.hi n.lo
    rcases hx : iteX g n.hi n.lo m with ⟨e | r, m1⟩
    · exact h.err_of hx
    · exact TotE.ok (h.step_of hx) _
  · rw [levelOf?_none_of_not_mem _ _ hg]
    exact same nofun

/-- `_compose(f, j, g)` on an `f` that is no node: `KeyError` at the first look-up, nothing touched -/
theorem composeFG_not_mem (foa iteX : Int → Int → Int → M Int) (j fu : Nat) {m : Mgr} {f : Int}
    (hf : ¬ m.tbl.Mem f) (g : Int) : composeFG foa iteX j (fu + 1) f g {} m = (.error .key, m) := by
  obtain ⟨h1, h2⟩ := not_mem_cases hf
  unfold composeFG
  simp only [h1, if_false, HashMap.getElem?_empty, h2]

/-- the body of `BDD.compose(f, var_sub)` for ANY node and ANY dictionary -/
theorem composeBodyG_totE (E : Err → Prop) (foa iteX : Int → Int → Int → M Int)
    (hfoa : FoaX E foa) (hite : IteNestedX E iteX) (hvar : VarTotX foa) (hiteT : IteTotX iteX)
    (m : Mgr) (hI : Inv m) (hc : m.ctx = true) (f : Int)
    (varSub : List (String × Int)) : TotE m (composeBodyG foa iteX f varSub m) := by
  unfold composeBodyG
  split
  · next v g =>
    cases hlv : levelOfVarE m.tbl v with
    | error e =>
      exact TotE.refused hI hlv (levelOfVarE_plain _ _ _ (.inl rfl))
    | ok j =>
      simp only
      have ht : TotE m (composeFG foa iteX j (2 * m.nvars + 4) f g {} m) := by
        by_cases hf : m.tbl.Mem f
        · by_cases hg : m.tbl.Mem g
          · exact (OutcomeX.toE (composeFG_outX E foa iteX hfoa hite j (2 * m.nvars + 4) m f g {} hI
              (Or.inl hc) hf hg (KMemo.empty _ _) (by omega))).tot
          · exact composeFG_top_totE foa iteX hiteT j (2 * m.nvars + 3) f g m hI hc hg
        · have : composeFG foa iteX j (2 * m.nvars + 4) f g {} m = (.error .key, m) :=
            composeFG_not_mem foa iteX j (2 * m.nvars + 3) hf g
          rw [this]
          exact TotE.same hI _ (by simp)
      split
      · next heq => exact ht.err_of heq
      · next heq => exact TotE.ok (ht.step_of heq) _
  · cases hsub : mapME (subLevelE m.tbl) varSub with
    | error e =>
      exact TotE.refused hI hsub (mapME_plain _ (fun vg => subLevelE_plain _ vg _ (.inl rfl)) _)
    | ok sub =>
      simp only
      have ht := vectorComposeFG_totE foa iteX hvar hiteT sub (m.nvars + 2) f {} m hI hc
      split
      · next heq => exact ht.err_of heq
      · next heq => exact TotE.ok (ht.step_of heq) _

theorem composeBody_totE (m : Mgr) (hI : Inv m) (hc : m.ctx = true) (f : Int)
    (varSub : List (String × Int)) : TotE m (composeBody f varSub m) := by
  rw [← composeBodyG_model]
  exact composeBodyG_totE _ _ _ findOrAdd_foaX ite_nestedX varNode_totE ite_nested_totE m hI hc f
    varSub

theorem compose_decorated (f : Int) (varSub : List (String × Int)) (m : Mgr) :
    Decorated m (compose f varSub m) :=
  .body _ fun m0 hI hc => composeBody_totE m0 hI hc f varSub

/-- `_copy_bdd` for ANY node, ANY level map, ANY source table (not even well formed), any memo -/
theorem copyBddFG_totE (foa iteX : Int → Int → Int → M Int) (hvar : VarTotX foa) (hiteT : IteTotX iteX)
    (src : Option Tbl) (lm : List (Nat × Nat)) (fu : Nat) (u : Int) (cache : HashMap Nat Int)
    (m : Mgr) (hI : Inv m) (hc : m.ctx = true) : TotE m (copyBddFG foa iteX src lm fu u cache m) :=
  copyBddFG_seq TotE.seqClosed foa iteX (fun j m hI _ => hvar m hI j)
    (fun g u v m hI hc => hiteT m hI hc g u v) src lm fu u cache m hI hc

/-- the body of `rename(u, bdd, dvars)` for ANY node and ANY renaming -/
theorem renameBodyG_totE (foa iteX : Int → Int → Int → M Int) (hvar : VarTotX foa) (hiteT : IteTotX iteX)
    (m : Mgr) (hI : Inv m) (hc : m.ctx = true) (u : Int)
    (dvars : List (String × String)) : TotE m (renameBodyG foa iteX u dvars m) :=
  renameBodyG_seq TotE.seqClosed foa iteX (fun j m hI _ => hvar m hI j)
    (fun g u v m hI hc => hiteT m hI hc g u v) u dvars m hI hc

theorem renameBody_totE (m : Mgr) (hI : Inv m) (hc : m.ctx = true) (u : Int)
    (dvars : List (String × String)) : TotE m (renameBody u dvars m) := by
  rw [← renameBodyG_model]
  exact renameBodyG_totE _ _ varNode_totE ite_nested_totE m hI hc u dvars

theorem rename_decorated (u : Int) (dvars : List (String × String)) (m : Mgr) :
    Decorated m (rename u dvars m) :=
  .body _ fun m0 hI hc => renameBody_totE m0 hI hc u dvars

/-- an empty dictionary is answered at once -/
theorem letOp_decorated (d : LetArg) (u : Int) (m : Mgr) : Decorated m (letOp d u m) := by
  unfold letOp
  split
  · exact .same _ nofun
  · exact .same _ nofun
  · exact .same _ nofun
  · exact cofactor_decorated u _ m
  · exact compose_decorated u _ m
  · exact rename_decorated u _ m

/-- the body of `copy_bdd(u, from_bdd, to_bdd)` for ANY source table and ANY (foreign) node -/
theorem copyBddBodyG_totE (foa iteX : Int → Int → Int → M Int) (hvar : VarTotX foa) (hiteT : IteTotX iteX)
    (src : Tbl) (m : Mgr) (hI : Inv m) (hc : m.ctx = true) (u : Int) :
    TotE m (copyBddBodyG foa iteX src u m) :=
  copyBddBodyG_seq TotE.seqClosed foa iteX (fun j m hI _ => hvar m hI j)
    (fun g u v m hI hc => hiteT m hI hc g u v) src u m hI hc

theorem copyBddBody_totE (src : Tbl) (m : Mgr) (hI : Inv m) (hc : m.ctx = true) (u : Int) :
    TotE m (copyBddBody src u m) := by
  rw [← copyBddBodyG_model]
  exact copyBddBodyG_totE _ _ varNode_totE ite_nested_totE src m hI hc u

/-- ANY source table and ANY node, a node foreign to the source included -/
theorem copyBdd_decorated (src : Tbl) (u : Int) (m : Mgr) : Decorated m (copyBdd src u m) :=
  .body _ fun m0 hI hc => copyBddBody_totE src m0 hI hc u

/-- what the loops written over ANY nested `var` / `quantify` / `apply` (`cubeBodyG`, `evalAstG`) ask
of them: total on arbitrary arguments inside a context -/
def VarNestedTot (varX : String → M Int) : Prop :=
  ∀ (m : Mgr), Inv m → m.ctx = true → ∀ name, TotE m (varX name m)

def QuantNestedTot (quantX : Int → List Key → Bool → M Int) : Prop :=
  ∀ (m : Mgr), Inv m → m.ctx = true → ∀ b q fa, TotE m (quantX b q fa m)

def ApplyNestedTot (applyX : String → Int → Option Int → Option Int → M Int) : Prop :=
  ∀ (m : Mgr), Inv m → m.ctx = true → ∀ op u v w, TotE m (applyX op u v w m)

/-- `apply` NESTED in a context (as `cube` calls it) -/
theorem apply_nested_totE : ApplyNestedTot apply :=
  fun m hI hc op u v w => (apply_decorated op u v w m).nested hI hc

/-- the body of `BDD.cube(dvars)` for ANY names (undeclared ones included) -/
theorem cubeBodyG_totE (varX : String → M Int) (applyX : String → Int → Option Int → Option Int → M Int)
    (hv : VarNestedTot varX) (ha : ApplyNestedTot applyX)
    (m : Mgr) (hI : Inv m) (hc : m.ctx = true) (dvars : List (String × Bool)) :
    TotE m (cubeBodyG varX applyX dvars m) :=
  cubeBodyG_seq TotE.seqClosed varX applyX (fun name m hI hc => hv m hI hc name)
    (fun op u v w m hI hc => ha m hI hc op u v w) dvars m hI hc

theorem cubeBody_totE (m : Mgr) (hI : Inv m) (hc : m.ctx = true) (dvars : List (String × Bool)) :
    TotE m (cubeBody dvars m) :=
  cubeBodyG_totE var apply var_nested_totE apply_nested_totE m hI hc dvars

theorem cube_decorated (dvars : List (String × Bool)) (m : Mgr) : Decorated m (cube dvars m) :=
  cube_eq dvars ▸ .body _ fun m0 hI hc => cubeBody_totE m0 hI hc dvars

theorem ite_total_dyn (ext : Nat → Nat) (hS : SiftContract ext) (m : Mgr) (hD : DynInv ext m)
    (g u v : Int) : DynTotal ext m (ite g u v m) :=
  (ite_decorated g u v m).total hD

theorem var_total_dyn (ext : Nat → Nat) (hS : SiftContract ext) (m : Mgr) (hD : DynInv ext m)
    (name : String) : DynTotal ext m (var name m) :=
  (var_decorated name m).total hD

end DD
