/-
  DDProofs.DynSched — two weaker readings of the theorem of DDProofs.DynGeneric, in the forms the
  properties C09 / C17 are stated in.

  ANY RECORDED SCHEDULE (`…S`): the outcome of a decorated call is "documented result, or the
  model's `.sched`" (`DynOutS`, `DynResultS`, `DynTotalS`), nothing being said of the state after
  `.sched`.  DEFAULT SCHEDULE (`DynInv`, which contains `m.sched = []`: the model's default
  iteration order of the Python sets): `.sched` cannot occur, the call returns (`DynPostG`) or is
  rejected with everything kept (`DynResult`, `DynTotal`).

  What the schedule is (`m.sched`, the iteration orders of Python `set`s recorded from the run of
  the real code) and why `.sched` is not an answer of a recorded run — the harness's tie, not a
  theorem — is said at the head of DDProps.C09Sched.
-/
import DDProofs.DynGeneric
open Std

namespace DD

/-- the outcome of a decorated call under an arbitrary recorded schedule: it returns `.ok r` with
`DynPostS`, or the model reports `.sched` (`MODEL-SCHEDULE-MISMATCH`: the recorded schedule does
not describe a run of the code from this state) — the latter only if a schedule was recorded -/
abbrev DynOutS {α} (ext : Nat → Nat) (Doc : Tbl → α → Tbl → Prop) (m : Mgr) :
    Except Err α × Mgr → Prop :=
  OkOr (fun e => e = Err.sched ∧ m.sched ≠ []) (fun r m' => DynPostS ext Doc m r m')

theorem DynOutS.mono {α} {ext : Nat → Nat} {D D' : Tbl → α → Tbl → Prop} {m : Mgr}
    {res : Except Err α × Mgr} (h : DynOutS ext D m res)
    (hd : ∀ r t', D m.tbl r t' → D' m.tbl r t') : DynOutS ext D' m res :=
  OkOr.mono (fun r m' hp => DynPostS.mono hp (hd r m'.tbl)) h

theorem DynOutS.cases {α} {ext : Nat → Nat} {D : Tbl → α → Tbl → Prop} {m : Mgr}
    {res : Except Err α × Mgr} (h : DynOutS ext D m res) :
    (∃ r m', res = (.ok r, m') ∧ DynPostS ext D m r m') ∨
    (∃ m', res = (.error .sched, m') ∧ m.sched ≠ []) := by
  obtain ⟨r, m'⟩ := res
  cases r with
  | ok r => exact Or.inl ⟨r, m', rfl, h⟩
  | error e =>
    obtain ⟨he, hs⟩ := h
    subst he
    exact Or.inr ⟨m', rfl, hs⟩

/-- `DynResultK` (DDProofs.DynGeneric) from its two halves, which are proved apart: the documented
result `DynOutS` and the every-outcome frame `DynTotalK` -/
theorem DynResultK.of {α} {ext : Nat → Nat} {Doc : Tbl → α → Tbl → Prop} {m : Mgr}
    {res : Except Err α × Mgr} (hS : DynOutS ext Doc m res) (hT : DynTotalK ext m res) :
    DynResultK ext Doc m res := by
  obtain ⟨r, m'⟩ := res
  cases r with
  | ok r => exact ⟨hS, hT.2.1.sched⟩
  | error e =>
    refine ⟨fun h => hT.1 (by rw [h]), hT.2.1, ?_⟩
    rcases hT.2.2 with h | ⟨h, h'⟩
    · exact Or.inl h
    · exact Or.inr ⟨by cases h; rfl, h'⟩

/-- in `OkOrSched` form (the vocabulary of C07) -/
theorem DynOutS.okOrSched {α} {ext : Nat → Nat} {D : Tbl → α → Tbl → Prop} {m : Mgr}
    {res : Except Err α × Mgr} (h : DynOutS ext D m res) :
    OkOrSched (fun r m' => DynPostS ext D m r m') res :=
  OkOr.monoE (fun _ he => he.1) h

/-- a body that can only be aborted: every outcome but `.sched` is the documented result -/
theorem DynResultIn.outS {α} {ext : Nat → Nat} {D : Tbl → α → Tbl → Prop} {m : Mgr}
    {res : Except Err α × Mgr} (h : DynResultIn (fun _ => False) ext D m res) :
    DynOutS ext D m res := by
  obtain ⟨r, m'⟩ := res
  cases r with
  | ok r => exact h.1
  | error e =>
    rcases h.2 with ⟨_, hf, _⟩ | hs
    · exact hf.elim
    · exact hs

/-- the observable outcome of a decorated call that may be REJECTED, any schedule: the documented
result; or an exception that is not the internal signal, the manager and every held reference
intact; or the model's report that the recorded schedule does not fit (only with a schedule) -/
def DynResultS {α} (ext : Nat → Nat) (Doc : Tbl → α → Tbl → Prop) (m : Mgr) :
    Except Err α × Mgr → Prop
  | (.ok r, m') => DynPostS ext Doc m r m'
  | (.error e, m') => (e ≠ .needsReordering ∧ DynKeptS ext m m') ∨ (e = .sched ∧ m.sched ≠ [])

/-- what the caller of a decorated call with arbitrary arguments observes, any schedule -/
def DynTotalS {α} (ext : Nat → Nat) (m : Mgr) (res : Except Err α × Mgr) : Prop :=
  (res.1 ≠ .error .needsReordering ∧ DynKeptS ext m res.2) ∨
  (res.1 = .error .sched ∧ m.sched ≠ [])

theorem DynResultK.toS {α} {ext : Nat → Nat} {Doc : Tbl → α → Tbl → Prop} {m : Mgr}
    {res : Except Err α × Mgr} (h : DynResultK ext Doc m res) : DynResultS ext Doc m res := by
  obtain ⟨r, m'⟩ := res
  cases r with
  | ok r => exact h.1
  | error e =>
    rcases h.2.2 with he | hs
    · exact Or.inl ⟨h.1, h.2.1.toS he⟩
    · exact Or.inr hs

theorem DynTotalK.toS {α} {ext : Nat → Nat} {m : Mgr} {res : Except Err α × Mgr}
    (h : DynTotalK ext m res) : DynTotalS ext m res := by
  rcases h.2.2 with he | hs
  · exact Or.inl ⟨h.1, h.2.1.toS he⟩
  · exact Or.inr hs

theorem DynTotalS.noSignal {α} {ext : Nat → Nat} {m : Mgr} {res : Except Err α × Mgr}
    (h : DynTotalS ext m res) : res.1 ≠ .error .needsReordering := by
  rcases h with h | h
  · exact h.1
  · rw [h.1]; nofun

theorem DynResultS.total {α} {ext : Nat → Nat} {Doc : Tbl → α → Tbl → Prop} {m : Mgr}
    {res : Except Err α × Mgr} (h : DynResultS ext Doc m res) : DynTotalS ext m res := by
  obtain ⟨r, m'⟩ := res
  cases r with
  | ok r => exact Or.inl ⟨nofun, DynPostS.kept h⟩
  | error e =>
    rcases h with h | h
    · exact Or.inl ⟨fun h' => h.1 (by cases h'; rfl), h.2⟩
    · exact Or.inr ⟨by rw [h.1], h.2⟩

theorem DynOutS.default {α} {ext : Nat → Nat} {D : Tbl → α → Tbl → Prop} {m : Mgr}
    {res : Except Err α × Mgr} (h : DynOutS ext D m res) (hs : m.sched = []) :
    ∃ r m', res = (.ok r, m') ∧ DynPostG ext D m r m' := by
  rcases h.cases with ⟨r, m', he, hp⟩ | ⟨_, _, hne⟩
  · exact ⟨r, m', he, hp.toG hs⟩
  · exact absurd hs hne

/-- the driver's view of the outcome -/
theorem DynOutS.driver {α} {ext : Nat → Nat} {D : Tbl → α → Tbl → Prop} {m : Mgr}
    {sch : List SchedItem} {res : Except Err α × Mgr}
    (h : DynOutS ext D { m with sched := sch } res) :
    (∃ r m', res = (.ok r, m') ∧ DynPostG ext D m r { m' with sched := [] }) ∨
    (∃ m', res = (.error .sched, m') ∧ sch ≠ []) := by
  rcases h.cases with ⟨r, m', he, hp⟩ | h
  · exact Or.inl ⟨r, m', he, hp.driver⟩
  · exact Or.inr h

/-- what the caller of a decorated call with arbitrary arguments observes -/
def DynTotal {α} (ext : Nat → Nat) (m : Mgr) (res : Except Err α × Mgr) : Prop :=
  res.1 ≠ .error .needsReordering ∧ DynKept ext m res.2

theorem DynResultS.default {α} {ext : Nat → Nat} {Doc : Tbl → α → Tbl → Prop} {m : Mgr}
    {res : Except Err α × Mgr} (h : DynResultS ext Doc m res) (hs : m.sched = []) :
    DynResult ext Doc m res := by
  obtain ⟨r, m'⟩ := res
  cases r with
  | ok r => exact DynPostS.toG h hs
  | error e =>
    rcases h with h | h
    · exact ⟨h.1, h.2.toKept hs⟩
    · exact absurd hs h.2

theorem DynTotalS.default {α} {ext : Nat → Nat} {m : Mgr} {res : Except Err α × Mgr}
    (h : DynTotalS ext m res) (hs : m.sched = []) : DynTotal ext m res := by
  rcases h with h | h
  · exact ⟨h.1, h.2.toKept hs⟩
  · exact absurd hs h.2

theorem DynTotalK.default {α} {ext : Nat → Nat} {m : Mgr} {res : Except Err α × Mgr}
    (h : DynTotalK ext m res) (hs : m.sched = []) : DynTotal ext m res := h.toS.default hs

/-- the driver's view of a call with arbitrary arguments -/
theorem DynTotalS.driver {α} {ext : Nat → Nat} {m : Mgr} {sch : List SchedItem}
    {res : Except Err α × Mgr} (h : DynTotalS ext { m with sched := sch } res) :
    (res.1 ≠ .error .needsReordering ∧ DynKept ext m { res.2 with sched := [] }) ∨
    (res.1 = .error .sched ∧ sch ≠ []) := by
  rcases h with h | h
  · exact Or.inl ⟨h.1, h.2.driver⟩
  · exact Or.inr h

/-- the CONTRACT of `reorder(bdd)` (sifting) for EVERY recorded schedule: from a state
satisfying `DynInvS` with requests disabled, it returns normally in such a state, with the same
declared variables, the same roots, every reference the user holds denoting the same function of
the variable NAMES, and no schedule left if there was none — or the model reports that the
recorded schedule does not fit (`.sched`), which requires a recorded schedule.  (Equivalently:
for every `m` with `DynInv ext m` and every `sch`, about `reorder none { m with sched := sch }`:
`SiftContractS.run_recorded`.) -/
structure SiftContractS (ext : Nat → Nat) : Prop where
  run : ∀ (m : Mgr), DynInvS ext m → m.lastLen = none →
    (∃ m', reorder none m = (.ok (), m') ∧ DynInvS ext m' ∧ m'.lastLen = none ∧
      m'.nvars = m.nvars ∧
      (∀ s, m'.tbl.vars.contains s = m.tbl.vars.contains s) ∧
      (∀ u : Int, HeldX ext u → ∀ σ, denN m'.tbl u σ = denN m.tbl u σ) ∧
      m'.roots = m.roots ∧ (m.sched = [] → m'.sched = [])) ∨
    (∃ m', reorder none m = (.error .sched, m') ∧ m.sched ≠ [])

/-- the contract of sifting holds for every ledger and every schedule: `siftKeepS` without the
state after `.sched` -/
theorem siftContractS (ext : Nat → Nat) : SiftContractS ext := by
  refine ⟨fun m hD hoff => ?_⟩
  obtain ⟨r, m', hrun, hr, k, hl, hn⟩ := siftKeepS ext m hD hoff
  rcases hr with rfl | ⟨rfl, hs⟩
  · exact Or.inl ⟨m', hrun, k.inv, hl, hn, k.names, fun u hu => (k.held u hu).2, k.roots,
      (k.toS (by rw [hl, hoff])).sched⟩
  · exact Or.inr ⟨m', hrun, hs⟩

/-- the contract in the form of the driver: a state between two calls, any schedule put in -/
theorem SiftContractS.run_recorded {ext : Nat → Nat} (hS : SiftContractS ext) (m : Mgr)
    (hD : DynInv ext m) (hoff : m.lastLen = none) (sch : List SchedItem) :
    (∃ m', reorder none { m with sched := sch } = (.ok (), m') ∧ DynInvS ext m' ∧
      m'.lastLen = none ∧ m'.nvars = m.nvars ∧
      (∀ s, m'.tbl.vars.contains s = m.tbl.vars.contains s) ∧
      (∀ u : Int, HeldX ext u → ∀ σ, denN m'.tbl u σ = denN m.tbl u σ) ∧
      m'.roots = m.roots ∧ (sch = [] → m'.sched = [])) ∨
    (∃ m', reorder none { m with sched := sch } = (.error .sched, m') ∧ sch ≠ []) :=
  hS.run { m with sched := sch } (hD.withSched sch) hoff

/-- the CONTRACT of `reorder(bdd)` (sifting) for the default schedule — the statement of C07
for sifting: from a state satisfying `DynInv` with requests disabled it returns normally in such
a state, with the same declared variables, and every reference the user holds denotes the same
function of the variable NAMES. -/
structure SiftContract (ext : Nat → Nat) : Prop where
  run : ∀ (m : Mgr), DynInv ext m → m.lastLen = none →
    ∃ m', reorder none m = (.ok (), m') ∧ DynInv ext m' ∧ m'.lastLen = none ∧
      m'.nvars = m.nvars ∧
      (∀ s, m'.tbl.vars.contains s = m.tbl.vars.contains s) ∧
      ∀ u : Int, HeldX ext u → ∀ σ, denN m'.tbl u σ = denN m.tbl u σ
  /-- sifting does not touch the recorded roots -/
  roots : ∀ (m m' : Mgr), DynInv ext m → m.lastLen = none →
    reorder none m = (.ok (), m') → m'.roots = m.roots

theorem SiftContractS.toDefault {ext : Nat → Nat} (hS : SiftContractS ext) : SiftContract ext := by
  refine ⟨fun m hD hoff => ?_, fun m m' hD hoff hrun => ?_⟩
  · rcases hS.run m hD.toS hoff with ⟨m', hrun, hD', hl, hn, hnm, hh, _, hsc⟩ | ⟨_, _, hne⟩
    · exact ⟨m', hrun, hD'.toDynInv (hsc hD.sched), hl, hn, hnm, hh⟩
    · exact absurd hD.sched hne
  · rcases hS.run m hD.toS hoff with ⟨m'', hrun'', _, _, _, _, _, hr, _⟩ | ⟨_, _, hne⟩
    · rw [hrun] at hrun''
      cases hrun''
      exact hr
    · exact absurd hD.sched hne

/-- the contract for the default schedule holds for every ledger: C07's theorem about sifting
(`siftKeepS`) read at `m.sched = []` -/
theorem siftContract (ext : Nat → Nat) : SiftContract ext := (siftContractS ext).toDefault

/-- bodies that can only be aborted (`Outcome`), any schedule: the documented result relative to
the operands as they were; the only other outcome is the model's own `.sched` error -/
theorem tryToReorder_transparentS {α} (ext : Nat → Nat) (f : M α)
    (ops : List Int) (Pre : Tbl → Prop) (Doc : Tbl → α → Tbl → Prop)
    (hbody : ∀ m0 : Mgr, Inv m0 → m0.ctx = true → OrderOK m0.tbl → Pre m0.tbl →
      (∀ u ∈ ops, m0.tbl.Mem u) → Outcome m0 (fun r m1 => Doc m0.tbl r m1.tbl) (f m0))
    (hpre : ∀ t t', Bridge ops t t' → Pre t → Pre t')
    (hdoc : ∀ t t' r t'', Bridge ops t t' → Pre t → Doc t' r t'' → Doc t r t'')
    (m : Mgr) (hD : DynInvS ext m) (hops : ∀ u ∈ ops, HeldX ext u) (hpre0 : Pre m.tbl) :
    DynOutS ext Doc m (tryToReorder f m) :=
  (tryToReorder_resultIn (fun _ => False) ext f ops Pre Doc
    (fun m0 hI hc hO hp hm => (hbody m0 hI hc hO hp hm).toX) hpre hdoc m hD hops hpre0).outS

/-- The documented result of the body `f` of a decorated operation on the operands `ops`, under
the precondition `Pre` on the table: the body returns the result `Doc` or is aborted by a reordering
request (`body`), and `Pre` and `Doc` survive a reordering that keeps the operands (`pre`, `doc`).
One instance per operation (`ite_docBody`, `quantify_docBody`, …) serves the decorator with
reordering enabled (`dynS`), a manager in either mode (`good`) and an `autoref` session (`session`). -/
structure DocBody {α} (f : M α) (ops : List Int) (Pre : Tbl → Prop) (Doc : Tbl → α → Tbl → Prop) :
    Prop where
  body : ∀ m0 : Mgr, Inv m0 → m0.ctx = true → OrderOK m0.tbl → Pre m0.tbl →
    (∀ u ∈ ops, m0.tbl.Mem u) → Outcome m0 (fun r m1 => Doc m0.tbl r m1.tbl) (f m0)
  pre : ∀ t t', Bridge ops t t' → Pre t → Pre t'
  doc : ∀ t t' r t'', Bridge ops t t' → Pre t → Doc t' r t'' → Doc t r t''

/-- C09 for a decorated operation with a documented body, any schedule -/
theorem DocBody.dynS {α} {f : M α} {ops : List Int} {Pre : Tbl → Prop} {Doc : Tbl → α → Tbl → Prop}
    (hb : DocBody f ops Pre Doc) (ext : Nat → Nat) (m : Mgr) (hD : DynInvS ext m)
    (hops : ∀ u ∈ ops, HeldX ext u) (hpre : Pre m.tbl) : DynOutS ext Doc m (tryToReorder f m) :=
  tryToReorder_transparentS ext f ops Pre Doc hb.body hb.pre hb.doc m hD hops hpre

/-- bodies that may FAIL (`OutcomeE`), any schedule -/
theorem tryToReorder_rejectedS {α} (ext : Nat → Nat) (f : M α)
    (ops : List Int) (Pre : Tbl → Prop) (Doc : Tbl → α → Tbl → Prop)
    (hbody : ∀ m0 : Mgr, Inv m0 → m0.ctx = true → OrderOK m0.tbl → Pre m0.tbl →
      (∀ u ∈ ops, m0.tbl.Mem u) → OutcomeE m0 (fun r m1 => Doc m0.tbl r m1.tbl) (f m0))
    (hpre : ∀ t t', Bridge ops t t' → Pre t → Pre t')
    (hdoc : ∀ t t' r t'', Bridge ops t t' → Pre t → Doc t' r t'' → Doc t r t'')
    (m : Mgr) (hD : DynInvS ext m) (hops : ∀ u ∈ ops, HeldX ext u) (hpre0 : Pre m.tbl) :
    DynResultS ext Doc m (tryToReorder f m) :=
  (tryToReorder_rejectedK ext f ops Pre Doc hbody hpre hdoc m hD hops hpre0).toS

/-- bodies that accept ARBITRARY arguments (`TotE`), any schedule -/
theorem tryToReorder_total_dynS {α} (ext : Nat → Nat) (_ : SiftContractS ext) (f : M α)
    (hbody : ∀ m0 : Mgr, Inv m0 → m0.ctx = true → OrderOK m0.tbl → TotE m0 (f m0))
    (m : Mgr) (hD : DynInvS ext m) : DynTotalS ext m (tryToReorder f m) :=
  (tryToReorder_total_dynK ext f hbody m hD).toS

/-- bodies that may FAIL, default schedule -/
theorem tryToReorder_rejected {α} (ext : Nat → Nat) (f : M α)
    (ops : List Int) (Pre : Tbl → Prop) (Doc : Tbl → α → Tbl → Prop)
    (hbody : ∀ m0 : Mgr, Inv m0 → m0.ctx = true → OrderOK m0.tbl → Pre m0.tbl →
      (∀ u ∈ ops, m0.tbl.Mem u) → OutcomeE m0 (fun r m1 => Doc m0.tbl r m1.tbl) (f m0))
    (hpre : ∀ t t', Bridge ops t t' → Pre t → Pre t')
    (hdoc : ∀ t t' r t'', Bridge ops t t' → Pre t → Doc t' r t'' → Doc t r t'')
    (m : Mgr) (hD : DynInv ext m) (hops : ∀ u ∈ ops, HeldX ext u) (hpre0 : Pre m.tbl) :
    DynResult ext Doc m (tryToReorder f m) :=
  (tryToReorder_rejectedS ext f ops Pre Doc hbody hpre hdoc m hD.toS hops hpre0).default hD.sched

/-- bodies that accept ARBITRARY arguments, default schedule -/
theorem tryToReorder_total_dyn {α} (ext : Nat → Nat) (f : M α)
    (hbody : ∀ m0 : Mgr, Inv m0 → m0.ctx = true → OrderOK m0.tbl → TotE m0 (f m0))
    (m : Mgr) (hD : DynInv ext m) : DynTotal ext m (tryToReorder f m) :=
  (tryToReorder_total_dynK ext f hbody m hD.toS).default hD.sched

theorem Decorated.total {m : Mgr} {ext : Nat → Nat} {x : Except Err Int × Mgr} (hd : Decorated m x)
    (hD : DynInv ext m) : DynTotal ext m x :=
  (hd.totalK hD.toS).default hD.sched

end DD
