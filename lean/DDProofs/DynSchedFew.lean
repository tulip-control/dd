/-
  DDProofs.DynSchedFew — the decorated calls with FEWER THAN TWO variables under ANY recorded
  schedule, every outcome.  The every-schedule theorems of DDProofs.DynSched* assume two declared
  variables (`DynInvS.nvars`).  With fewer, a fired request ends in an exception of sifting
  (`ValueError` / `UnboundLocalError`) — or, in the model, in `.sched` when the recorded schedule
  does not begin with the order of `for var in names` (the model reads that item BEFORE the loop
  fails, so the schedule is not untouched: one item may be consumed).  In every case the manager
  is kept (`tryToReorder_few_any`, DDProofs.Reach2); here its readings for a manager without
  registered roots (`tryToReorder_fewS`) and for a decorated call as the driver runs it (`Few3` for
  `clearSched (… { m with sched := sch })`: `Decorated.few_recorded`).
-/
import DDProofs.DynSchedReach
import DDProofs.SchedNaturalOps
open Std

namespace DD

/-- what a failed sifting keeps (the recorded schedule apart) -/
structure RelW (ext : Nat → Nat) (m m' : Mgr) : Prop where
  held : HeldSame ext m m'
  names : ∀ v : String, m'.tbl.vars.contains v = m.tbl.vars.contains v
  nvars : m'.nvars = m.nvars
  roots : m'.roots = m.roots
  ctx : m'.ctx = m.ctx
  lastLen : m'.lastLen = m.lastLen

/-- `reorder(bdd)` with fewer than two variables, ANY recorded schedule: it raises — an exception of
the code or the model's `.sched` (only with a recorded schedule) — and the manager is kept -/
theorem sift_few_resultS (ext : Nat → Nat) (m : Mgr) (h : ReorderInv ext m) (hfew : m.nvars < 2) :
    ∃ e mb, reorder none m = (.error e, mb) ∧ e ≠ .needsReordering ∧ (e = .sched → m.sched ≠ []) ∧
      ReorderInv ext mb ∧ RelW ext m mb := by
  obtain ⟨e, mb, hres, he, hR, hrel⟩ := sift_few_any ext m h hfew
  exact ⟨e, mb, hres, he.elim (fun hr => hr.1 ▸ nofun) (·.ne_signal),
    fun hs => he.elim (·.2) fun hr => absurd hs hr.ne_sched, hR,
    ⟨hrel.held, hrel.names, hrel.nvars, hrel.roots, hrel.ctx, hrel.lastLen⟩⟩

/-- `Good3` without the clause on the recorded schedule -/
structure Good3S (m : Mgr) (ext : Nat → Nat) : Prop where
  inv : Inv m
  order : OrderOK m.tbl
  exact : RefExact m ext
  ctx : m.ctx = false
  roots : m.roots = []

theorem Good3.withSchedS {m : Mgr} {ext : Nat → Nat} (h : Good3 m ext) (sch : List SchedItem) :
    Good3S { m with sched := sch } ext :=
  ⟨h.inv.setSched sch, h.order, h.exact.congr rfl rfl, h.ctx, h.roots⟩

theorem Good3S.clear {m : Mgr} {ext : Nat → Nat} (h : Good3S m ext) : Good3 { m with sched := [] } ext :=
  ⟨h.inv.setSched [], h.order, h.exact.congr rfl rfl, h.ctx, rfl, h.roots⟩

/-- what a decorated call with fewer than two variables establishes, any recorded schedule -/
def Few3S (m : Mgr) (ext : Nat → Nat) {α : Type} (res : Except Err α × Mgr) : Prop :=
  Good3S res.2 ext ∧ Held2 ext m res.2 ∧ res.1 ≠ .error .needsReordering ∧
    (res.1 = .error .sched → m.sched ≠ [])

theorem Good3S.reorderInv {m : Mgr} {ext : Nat → Nat} (h : Good3S m ext) : ReorderInv ext m :=
  ⟨h.inv, h.order, h.exact, Or.inl h.ctx, fun r hr => by rw [h.roots] at hr; cases hr⟩

theorem FewKept.good3S {m m' : Mgr} {ext : Nat → Nat} (k : FewKept ext m m') (h : Good3S m ext) :
    Good3S m' ext :=
  ⟨k.inv.inv, k.inv.order, k.inv.refExact, k.ctx, k.roots.trans h.roots⟩

/-- … around a body that does not answer `.sched` itself -/
theorem tryToReorder_fewS {α : Type} (ext : Nat → Nat) (f : M α)
    (hbody : ∀ m0 : Mgr, Inv m0 → m0.ctx = true → OrderOK m0.tbl → TotE m0 (f m0))
    (hns : NSc f)
    (m : Mgr) (h : Good3S m ext) (hfew : m.nvars < 2) : Few3S m ext (tryToReorder f m) := by
  obtain ⟨hn, k, hs⟩ := tryToReorder_few_any ext f hbody m h.reorderInv h.ctx hfew
  exact ⟨k.good3S h, fun u hu => k.held u (Or.inr hu), hn,
    fun he => (hs he).resolve_right (hns { m with ctx := true } rfl)⟩

/-- a decorated call with ANY arguments, fewer than two variables, as the driver runs it: the
schedule of the line is put in, what is left is dropped -/
theorem Decorated.few_recorded {m : Mgr} {ext : Nat → Nat} {sch : List SchedItem}
    {x : Except Err Int × Mgr} (hd : Decorated { m with sched := sch } x) (h : Good3 m ext)
    (hfew : m.nvars < 2) : Few3 m ext (clearSched x) := by
  cases hd with
  | same r hr =>
    exact ⟨(h.withSchedS sch).clear, fun u hu => ⟨h.exact.mem_of_ext_pos hu, fun _ => rfl⟩, hr⟩
  | body f hf =>
    have hS := h.withSchedS sch
    obtain ⟨hn, k, _⟩ := tryToReorder_few_any ext f (fun m0 hI hc _ => hf m0 hI hc)
      { m with sched := sch } hS.reorderInv hS.ctx hfew
    exact ⟨(k.good3S hS).clear, fun u hu => k.held u (Or.inr hu), hn⟩

/-- every decorated operation of `UOp`, ANY arguments, fewer than two variables, ANY recorded
schedule (the driver's form): the manager stays good, every held reference keeps its function of
the variable names, the internal signal does not escape -/
theorem decorated_few_recorded (ext : Nat → Nat) (m : Mgr) (h : Good3 m ext) (hfew : m.nvars < 2)
    (sch : List SchedItem) (b : UOp) (hdec : b.decorated = true) :
    Few3 m ext (clearSched (runOp b { m with sched := sch })) := by
  obtain ⟨x, hrun, hd⟩ := runOp_decorated b hdec { m with sched := sch }
  have hf := hd.few_recorded h hfew
  rw [hrun]
  exact ⟨hf.1, hf.2.1, mapRes_noSignal _ _ hf.2.2⟩

/-- in the histories with recorded schedules (DDProofs.DynSchedReach): with fewer than two variables
a decorated call with ANY recorded schedule is a good step — no guard is needed, the model's
`.sched` included -/
theorem stepS_few (m : Mgr) (ext : Nat → Nat) (h : Good3 m ext) (hfew : m.nvars < 2) (b : UOp)
    (hdec : b.decorated = true) (s : SchedItem) (sch : List SchedItem) :
    Good3 (runCallS ⟨s :: sch, .op (.base b)⟩ m).2 (ledger3 (.op (.base b)) m ext) ∧
    Held2 ext m (runCallS ⟨s :: sch, .op (.base b)⟩ m).2 ∧
    (runCallS ⟨s :: sch, .op (.base b)⟩ m).1 ≠ .error .needsReordering := by
  show Good3 (clearSched (runOp b { m with sched := s :: sch })).2 (ledger b m ext) ∧
    Held2 ext m (clearSched (runOp b { m with sched := s :: sch })).2 ∧
    (clearSched (runOp b { m with sched := s :: sch })).1 ≠ .error .needsReordering
  rw [ledger_decorated b m ext hdec]
  exact decorated_few_recorded ext m h hfew (s :: sch) b hdec

end DD
