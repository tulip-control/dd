/-
  DDProofs.DynSchedKeep — what a reordering leaves behind WHATEVER its outcome, the model's own
  schedule-mismatch report included; and: the schedule left is a SUFFIX of the schedule given.

  C07 states the outcome of `swap` / `_shift` / sifting / `_sort_to_order` as `OkOrSched Q r`:
  returned with `Q`, or the model raised `.sched`; about the STATE after `.sched` it says nothing.
  Here `KS ext m0 r` says: if the call returned, OR raised `.sched`, the state satisfies the
  reordering invariant `ReorderInv ext` and is related to `m0` by `RelS ext` — every held
  reference denotes the same function of the variable names, same declared names, `nvars`,
  `roots`, `ctx`, `_last_len`, and the remaining schedule is a suffix of `m0.sched`.  (`.sched` is
  raised only by `takeSwapOrders` / `takeSiftOrder`, between two swaps, where nothing but the
  schedule has changed since the last completed swap.)

  `KSc ext m0 x`, the same as a property of the computation `x`, is preserved by sequencing
  (`KSc.seqClosed`) and holds of the level swap (`ReorderInv.swapStep`, DDProofs.SwapDrivers), the
  full collection and the choice of the sifting order (`KSc.prims`); the callers of `swap` have it
  by their walks in DDProofs.DriversSeq.
-/
import DDProofs.SwapLevelsDrivers
import DDProofs.SiftFinal
open Std

namespace DD

/-- the outcome of a reordering started (possibly after other steps) from `m0`: if it returned or
raised the model's `.sched`, the state satisfies the reordering invariant and is related to `m0` -/
def KS {α} (ext : Nat → Nat) (m0 : Mgr) : Except Err α × Mgr → Prop
  | (.ok _, m') => ReorderInv ext m' ∧ RelS ext m0 m'
  | (.error e, m') => e = Err.sched → ReorderInv ext m' ∧ RelS ext m0 m'

theorem KS.bind {α β} {ext : Nat → Nat} {m0 : Mgr} {x : M α} {f : α → M β} {m : Mgr}
    (h : KS ext m0 (x m))
    (hf : ∀ a m1, x m = (.ok a, m1) → ReorderInv ext m1 → RelS ext m0 m1 → KS ext m0 (f a m1)) :
    KS ext m0 ((x >>= f) m) :=
  Ends.bind h fun a m1 e h1 => hf a m1 e h1.1 h1.2

theorem KS.same {α} {ext : Nat → Nat} {m0 : Mgr} (r : Except Err α) {m : Mgr} (hP : ReorderInv ext m)
    (hR : RelS ext m0 m) : KS ext m0 (r, m) := by
  cases r with
  | ok a => exact ⟨hP, hR⟩
  | error e => exact fun _ => ⟨hP, hR⟩

/-- relative to an earlier state -/
theorem KS.from {α} {ext : Nat → Nat} {m0 m : Mgr} {r : Except Err α × Mgr} (h : KS ext m r)
    (hR : RelS ext m0 m) : KS ext m0 r :=
  Ends.imp h (fun _ _ q => ⟨q.1, hR.trans q.2⟩) fun _ _ q he => ⟨(q he).1, hR.trans (q he).2⟩

/-- `KS` as a property of the computation: from every state that satisfies the reordering invariant
and is related to `m0` -/
def KSc (ext : Nat → Nat) (m0 : Mgr) {α : Type} (x : M α) : Prop :=
  ∀ m, ReorderInv ext m → RelS ext m0 m → KS ext m0 (x m)

theorem KSc.seqClosed (ext : Nat → Nat) (m0 : Mgr) : SeqClosed (@KSc ext m0) where
  pure := fun a _ h hR => KS.same (.ok a) h hR
  throw := fun e _ _ _ h hR => KS.same (.error e) h hR
  bind := fun hx hf m h hR => KS.bind (hx m h hR) fun a m1 _ h1 hR1 => hf a m1 h1 hR1
  get := fun hf _ m h hR => hf m m h hR

theorem ks_setSched_self (m : Mgr) : ({ m with sched := m.sched } : Mgr) = m := rfl

theorem swapBody_keepS (ext : Nat → Nat) (m : Mgr) (h : ReorderInv ext m) (x : Nat)
    (hx : x + 1 < m.nvars) : KS ext m (swapBody x (x + 1) m) :=
  (h.swapStep x hx).imp (fun _ _ hp => ⟨hp.1, hp.2.1⟩) fun _ _ he _ => he.2.2

theorem swap_given_keepS (ext : Nat → Nat) (m : Mgr) (h : ReorderInv ext m) (xa ya : VarOrLevel) :
    KS ext m (swap xa ya true m) := by
  rcases swap_given_normal_form xa ya m with ⟨e, h1, _⟩ | ⟨x, hx, h1, _⟩
  · rw [h1]; exact KS.same _ h (RelS.refl ext m)
  · rw [h1]; exact swapBody_keepS ext m h x hx

/-- the three calls the drivers are made of, every outcome -/
theorem KSc.prims (ext : Nat → Nat) (m0 : Mgr) : ReorderPrims (@KSc ext m0) where
  swap := fun a b m h hR => (swap_given_keepS ext m h a b).from hR
  gc := fun m h hR => by
    obtain ⟨mg, hrun, hg, -, hrel, hsub⟩ := h.collect
    rw [hrun]
    exact ⟨hg, hR.trans (.ofRel hrel (by rw [hsub.sched]; exact List.suffix_refl _))⟩
  names := fun m h hR => by
    obtain ⟨s, hsuf, hst⟩ := takeSiftOrder_cases m
    generalize takeSiftOrder m = rt at hst
    obtain ⟨rt, mt⟩ := rt
    subst hst
    exact KS.same rt (h.setSched s) (hR.trans (RelS.setSched ext m s hsuf))

/-- the public `swap(x, y)` (full collection first) -/
theorem swap_public_keepS (ext : Nat → Nat) (m : Mgr) (h : ReorderInv ext m) (xa ya : VarOrLevel) :
    KS ext m (swap xa ya false m) :=
  swap_public_seq (KSc.seqClosed ext m) (KSc.prims ext m) xa ya m h (.refl ext m)

theorem applySifting_keepS (ext : Nat → Nat) (m : Mgr) (h : ReorderInv ext m) :
    KS ext m (applySifting m) :=
  applySifting_seq (KSc.seqClosed ext m) (KSc.prims ext m) m h (.refl ext m)

/-- `reorder(bdd)` / `reorder(bdd, order)`, every outcome: if the call returns, or the model
reports a schedule mismatch, the reordering invariant holds, every held reference denotes the same
function of the names, and the schedule left is a suffix of the schedule given -/
theorem reorder_keepS (ext : Nat → Nat) (m : Mgr) (h : ReorderInv ext m)
    (order : Option (List (String × Int))) : KS ext m (reorder order m) :=
  reorder_seq (KSc.seqClosed ext m) (KSc.prims ext m) order m h (.refl ext m)

theorem reorderToPairs_keepS (ext : Nat → Nat) (m0 : Mgr) : ∀ (pairs : List (String × String))
    (m : Mgr), ReorderInv ext m → RelS ext m0 m → KS ext m0 (reorderToPairs pairs m) :=
  reorderToPairs_seq (KSc.seqClosed ext m0) (KSc.prims ext m0).swap

/-- sifting with two variables: the call returns or reports `.sched` (C07), and in BOTH cases the
state satisfies the reordering invariant, related to the start state by `RelS` -/
theorem sift_every_outcome (ext : Nat → Nat) (m : Mgr) (h : ReorderInv ext m) (h2 : 2 ≤ m.nvars) :
    ∃ r m', reorder none m = (r, m') ∧ (r = .ok () ∨ r = .error .sched) ∧
      ReorderInv ext m' ∧ RelS ext m m' := by
  have hk := reorder_keepS ext m h none
  have hn := applySifting_never_raises ext m h h2
  change OkOrSched _ (reorder none m) at hn
  generalize reorder none m = res at hk hn
  obtain ⟨r, m'⟩ := res
  cases r with
  | ok u => exact ⟨.ok (), m', rfl, Or.inl rfl, hk.1, hk.2⟩
  | error e =>
    have he : e = Err.sched := hn
    subst he
    exact ⟨_, m', rfl, Or.inr rfl, (hk rfl).1, (hk rfl).2⟩

/-- the schedule left by a reordering that returns (or reports a mismatch) is a suffix of the
schedule it was given: the model consumes the recorded orders front to back -/
theorem reorder_sched_suffix (ext : Nat → Nat) (m : Mgr) (h : ReorderInv ext m)
    (order : Option (List (String × Int))) (r : Except Err Unit) (m' : Mgr)
    (hrun : reorder order m = (r, m')) (hr : r = .ok () ∨ r = .error .sched) :
    m'.sched <:+ m.sched := by
  have hk := reorder_keepS ext m h order
  rw [hrun] at hk
  rcases hr with rfl | rfl
  · exact hk.2.sched
  · exact (hk rfl).2.sched

end DD
