/-
  DDProofs.DynSchedReach — histories in which the DECORATED calls carry a recorded iteration
  schedule, as the protocol lines of the differential check do (`DD.stepLine`: the schedule field
  of the line is put into `m.sched` before the operation runs, what is left is dropped afterwards).
  A call is a pair (schedule, operation of `UOp3`).  The guard asks of a call WITH a recorded
  schedule: the operation is a decorated one, two variables are declared (sifting one variable
  raises `ValueError`), and the model's answer is not its own `MODEL-SCHEDULE-MISMATCH` — the same
  guard `OpGuard2` puts on `sift sch` (for a schedule recorded from a real run that is the
  harness's tie, see DDProofs.DynSched).
-/
import DDProofs.Reach3
open Std

namespace DD

/-- a call of a history together with the iteration schedule recorded for it -/
structure SCall where
  sch : List SchedItem
  op : UOp3
deriving Inhabited

/-- drop what is left of the schedule (the driver's `{ m' with sched := [] }`) -/
def clearSched {α : Type} (x : Except Err α × Mgr) : Except Err α × Mgr :=
  (x.1, { x.2 with sched := [] })

/-- one call as the driver runs it: a decorated operation with a recorded schedule runs with
that schedule in `m.sched`, the remainder is dropped; everything else as in DDProofs.Reach3
(the explicit reorderings carry their own schedule) -/
def runCallS (c : SCall) (m : Mgr) : Except Err Res × Mgr :=
  match c.sch, c.op with
  | _ :: _, .op (.base b) => clearSched (runOp b { m with sched := c.sch })
  | _, o => runOp3 o m

/-- the guard of a call: that of DDProofs.Reach3; and if a schedule was recorded, the operation
is a decorated one on at least two variables and the model does not report a mismatch -/
def CallGuardS (m : Mgr) (ext : Nat → Nat) (c : SCall) : Prop :=
  match c.sch, c.op with
  | _ :: _, .op (.base b) =>
    b.decorated = true ∧ 2 ≤ m.nvars ∧ isSchedErr (runOp b { m with sched := c.sch }).1 = false
  | _ :: _, _ => False
  | [], o => OpGuard3 m ext o

instance (m : Mgr) (ext : Nat → Nat) (c : SCall) : Decidable (CallGuardS m ext c) := by
  obtain ⟨sch, op⟩ := c
  cases sch with
  | nil => exact inferInstanceAs (Decidable (OpGuard3 m ext op))
  | cons s sch =>
    cases op with
    | configure b => exact isFalse (fun h => h)
    | op o =>
      cases o with
      | base b => exact inferInstanceAs (Decidable (_ ∧ _ ∧ _))
      | swap _ _ _ => exact isFalse (fun h => h)
      | sift _ => exact isFalse (fun h => h)
      | reorderTo _ _ => exact isFalse (fun h => h)
      | undeclare _ => exact isFalse (fun h => h)

theorem mapRes_isSchedErr {α : Type} (f : α → Res) (x : Except Err α × Mgr) :
    isSchedErr (mapRes f x).1 = isSchedErr x.1 := by
  obtain ⟨r, m⟩ := x
  cases r with
  | ok a => rfl
  | error e => cases e <;> rfl

theorem step_of_dynTotalS {α : Type} {m : Mgr} {ext : Nat → Nat} (h : Good3 m ext)
    (sch : List SchedItem) (g : α → Res) (x : Except Err α × Mgr)
    (htot : DynTotalS ext { m with sched := sch } x) (hns : isSchedErr x.1 = false) :
    Good3 (clearSched (mapRes g x)).2 ext ∧ Held2 ext m (clearSched (mapRes g x)).2 ∧
    (clearSched (mapRes g x)).1 ≠ .error .needsReordering := by
  rcases htot.driver with ⟨hsig, hk⟩ | ⟨he, _⟩
  · exact ⟨hk.inv.good3 (hk.roots.trans h.roots), fun u hu => hk.held u (Or.inr hu),
      mapRes_noSignal g x hsig⟩
  · rw [he] at hns
    cases hns

/-- a decorated call with ANY arguments as a step of a history: run as the driver does, with a
recorded schedule that the model does not reject, two variables declared -/
theorem Decorated.stepS {m : Mgr} {ext : Nat → Nat} {x : Except Err Int × Mgr} (sch : List SchedItem)
    (hd : Decorated { m with sched := sch } x) (h : Good3 m ext) (h2 : 2 ≤ m.nvars)
    (hns : isSchedErr (mapRes Res.ref x).1 = false) :
    Good3 (clearSched (mapRes .ref x)).2 ext ∧ Held2 ext m (clearSched (mapRes .ref x)).2 ∧
    (clearSched (mapRes .ref x)).1 ≠ .error .needsReordering :=
  step_of_dynTotalS h sch _ _ (hd.totalK ((h.dynInv h2).withSched sch)).toS
    (mapRes_isSchedErr Res.ref x ▸ hns)

/-- one step, recorded schedules included: from a good state every guarded call leads to a
good state for the new ledger, every reference the user holds is still a node with the same
function of the variable NAMES, and the internal signal does not escape -/
theorem stepS_inv (m : Mgr) (ext : Nat → Nat) (c : SCall) (h : Good3 m ext) (hg : CallGuardS m ext c) :
    Good3 (runCallS c m).2 (ledger3 c.op m ext) ∧ Held2 ext m (runCallS c m).2 ∧
    (runCallS c m).1 ≠ .error .needsReordering := by
  obtain ⟨sch, op⟩ := c
  cases sch with
  | nil =>
    have hg' : OpGuard3 m ext op := hg
    have hr : runCallS ⟨[], op⟩ m = runOp3 op m := by
      cases op with
      | configure b => rfl
      | op o => cases o <;> rfl
    rw [hr]
    exact (runOp3_stepL m ext op h hg').few
  | cons s sch =>
    cases op with
    | configure b => exact hg.elim
    | op o =>
      cases o with
      | base b =>
        obtain ⟨hdec, h2, hns⟩ : b.decorated = true ∧ 2 ≤ m.nvars ∧
            isSchedErr (runOp b { m with sched := s :: sch }).1 = false := hg
        show Good3 (clearSched (runOp b { m with sched := s :: sch })).2 (ledger b m ext) ∧
          Held2 ext m (clearSched (runOp b { m with sched := s :: sch })).2 ∧
          (clearSched (runOp b { m with sched := s :: sch })).1 ≠ .error .needsReordering
        rw [ledger_decorated b m ext hdec]
        obtain ⟨x, hrun, hd⟩ := runOp_decorated b hdec { m with sched := s :: sch }
        rw [hrun] at hns ⊢
        exact hd.stepS (s :: sch) h h2 hns
      | swap _ _ _ => exact hg.elim
      | sift _ => exact hg.elim
      | reorderTo _ _ => exact hg.elim
      | undeclare _ => exact hg.elim

def stepS (c : SCall) (s : St) : St := ⟨(runCallS c s.m).2, ledger3 c.op s.m s.ext⟩

def runS : List SCall → St → St
  | [], s => s
  | c :: cs, s => runS cs (stepS c s)

def CallsGuardedS : List SCall → St → Prop
  | [], _ => True
  | c :: cs, s => CallGuardS s.m s.ext c ∧ CallsGuardedS cs (stepS c s)

def resultsS : List SCall → St → List (Except Err Res)
  | [], _ => []
  | c :: cs, s => (runCallS c s.m).1 :: resultsS cs (stepS c s)

instance decCallsGuardedS : (cs : List SCall) → (s : St) → Decidable (CallsGuardedS cs s)
  | [], _ => isTrue trivial
  | c :: cs, s => by
    unfold CallsGuardedS
    exact @instDecidableAnd _ _ _ (decCallsGuardedS cs (stepS c s))

def histS : Hist SCall St where
  step := stepS
  Guard s := CallGuardS s.m s.ext
  run := runS
  Guarded := CallsGuardedS
  run_nil _ := rfl
  run_cons _ _ _ := rfl
  guarded_nil _ := trivial
  guarded_cons _ _ _ := Iff.rfl

def levelS : Level SCall where
  toHist := histS
  runOp := runCallS
  step_m _ _ := rfl
  goodStep s c h hg := stepS_inv s.m s.ext c h hg

/-- every state reached from the empty manager by a guarded history whose
decorated calls run under recorded schedules is good — in particular `DynInv` holds again
(with two variables), so that every theorem of DDProps.C09Sched applies to the next call -/
theorem reachableS_inv (cs : List SCall) (hg : CallsGuardedS cs St.init) :
    Good3 (runS cs St.init).m (runS cs St.init).ext :=
  levelS.from_good cs St.init Good3.init hg

end DD
