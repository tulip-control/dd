/-
  DDProofs.DynSubst — the `lastLen = none` specifications of the memo-table recursions
  (`cofactorF_spec`, `quantifyF_spec`, `composeF_spec`, `vectorComposeF_spec`, `copyBddF_spec`)
  with their hypotheses named: each is its abort-aware specification (`*_out`) where no request
  can fire.
-/
import DDProofs.Compose
import DDProofs.Copy
import DDProofs.Quantify
import DDProofs.VectorCompose
open Std

namespace DD

theorem cofactorF_spec_off' (values : List (Nat × Bool)) (f : Nat) (m : Mgr) (u : Int)
    (ordvar : List Nat) (cache : HashMap Int Int) (hI : Inv m) (hoff : m.lastLen = none)
    (hu : m.tbl.Mem u) (hmemo : CofMemo values m.tbl cache)
    (hord : ∀ j, (values.lookup j).isSome = true → m.tbl.levelOf u ≤ j → j ∈ ordvar)
    (hf : m.nvars + 1 ≤ f + m.tbl.levelOf u) :
    ∃ r c' m', cofactorF values f u ordvar cache m = (.ok (r, c'), m') ∧ Step m m' ∧
      CofMemo values m'.tbl c' ∧ CofEntry values m'.tbl u r :=
  cofactorF_spec values f m u ordvar cache hI hoff hu hmemo hord hf

theorem quantifyF_spec_off' (Q : List Nat) (fa : Bool) (f : Nat) (m : Mgr) (u : Int)
    (ordvar : List Nat) (cache : HashMap Int Int) (hI : Inv m) (hoff : m.lastLen = none)
    (hu : m.tbl.Mem u) (hmemo : QMemo fa Q m.tbl cache)
    (hord : ∀ j, j ∈ Q → m.tbl.levelOf u ≤ j → j ∈ ordvar)
    (hf : m.nvars + 1 ≤ f + m.tbl.levelOf u) :
    ∃ r c' m', quantifyF Q fa f u ordvar cache m = (.ok (r, c'), m') ∧ Step m m' ∧
      QMemo fa Q m'.tbl c' ∧ QEntry fa Q m'.tbl u r :=
  quantifyF_spec Q fa f m u ordvar cache hI hoff hu hmemo hord hf

theorem composeF_spec_off' (j : Nat) (fu : Nat) (m : Mgr) (f g : Int)
    (cache : HashMap (Int × Int) Int) (hI : Inv m) (hoff : m.lastLen = none)
    (hf : m.tbl.Mem f) (hg : m.tbl.Mem g) (hmemo : KMemo j m.tbl cache)
    (hfu : 2 * m.nvars + 1 ≤ fu + m.tbl.levelOf f + m.tbl.levelOf g) :
    ∃ r c' m', composeF j fu f g cache m = (.ok (r, c'), m') ∧ Step m m' ∧
      KMemo j m'.tbl c' ∧ KPost j m'.tbl f g r :=
  composeF_spec j fu m f g cache hI hoff hf hg hmemo hfu

theorem vectorComposeF_spec_off' (sub : List (Nat × Int)) (fu : Nat) (m : Mgr) (f : Int)
    (cache : HashMap Nat Int) (hI : Inv m) (hoff : m.lastLen = none) (hf : m.tbl.Mem f)
    (hsub : SubMem m.tbl sub) (hmemo : VMemo sub m.tbl cache)
    (hfu : m.nvars + 1 ≤ fu + m.tbl.levelOf f) :
    ∃ r c' m', vectorComposeF sub fu f cache m = (.ok (r, c'), m') ∧ Step m m' ∧
      VMemo sub m'.tbl c' ∧ VPost sub m'.tbl f r :=
  vectorComposeF_spec sub fu m f cache hI hoff hf hsub hmemo hfu

theorem copyBddF_spec_off' (src : Option Tbl) (lm : List (Nat × Nat)) (S : Tbl) (hS : WF S)
    (fu : Nat) (m : Mgr) (u : Int) (cache : HashMap Nat Int) (hI : Inv m)
    (hoff : m.lastLen = none) (hsrc : SrcOK src S m.tbl) (hu : S.Mem u)
    (hmemo : CMemo lm S m.tbl cache)
    (hlm : ∀ i, InSupp S u i → ∃ j, lm.lookup i = some j ∧ j < m.nvars)
    (hfu : S.nvars + 1 ≤ fu + S.levelOf u) :
    ∃ r c' m', copyBddF src lm fu u cache m = (.ok (r, c'), m') ∧ Step m m' ∧
      CMemo lm S m'.tbl c' ∧ CPost lm S m'.tbl u r :=
  copyBddF_spec src lm S hS fu m u cache hI hoff hsrc hu hmemo hlm hfu

end DD
