/-
  DDProofs.Ext — extension of a node table: every node of `m` is in `t` unchanged.
  Denotations and levels of old references are preserved.
-/
import DDProofs.Sem
open Std

namespace DD

structure Ext (m t : Tbl) : Prop where
  nvars : m.nvars = t.nvars
  nodes : ∀ u n, m.node? u = some n → t.node? u = some n

theorem Ext.refl (m : Tbl) : Ext m m := ⟨rfl, fun _ _ h => h⟩
theorem Ext.trans {a b c : Tbl} (h1 : Ext a b) (h2 : Ext b c) : Ext a c :=
  ⟨h1.nvars.trans h2.nvars, fun u n h => h2.nodes u n (h1.nodes u n h)⟩

theorem Ext.mem {m t : Tbl} (h : Ext m t) {u : Int} (hm : m.Mem u) : t.Mem u := by
  rcases hm.term_or_node with h1 | ⟨n, -, hn⟩
  · exact Or.inl h1
  · exact Or.inr (by simp [h.nodes _ _ hn])

theorem Ext.levelOf {m t : Tbl} (h : Ext m t) {u : Int} (hm : m.Mem u) : t.levelOf u = m.levelOf u := by
  rcases hm.term_or_node with h1 | ⟨n, h1, hn⟩
  · rw [levelOf_term _ _ h1, levelOf_term _ _ h1, h.nvars]
  · rw [levelOf_node _ _ n h1 hn, levelOf_node _ _ n h1 (h.nodes _ _ hn)]

theorem NodeOK.ext {m t : Tbl} {n : Nd} (h : NodeOK m n) (he : Ext m t) : NodeOK t n :=
  h.mono (Nat.le_of_eq he.nvars) fun _ hu => ⟨he.mem hu, Nat.le_of_eq (he.levelOf hu).symm⟩

theorem denF_ext {m t : Tbl} (h : Ext m t) (hw : WF m) :
    ∀ f u a, m.Mem u → denF t f u a = denF m f u a := by
  intro f
  induction f with
  | zero => intros; rfl
  | succ f ih =>
    intro u a hm
    rw [denF, denF]
    rcases hm.term_or_node with h1 | ⟨n, h1, hn⟩
    · simp [h1]
    · simp only [h1, if_false, hn, h.nodes _ _ hn]
      rw [ih _ _ (hw.hi_mem _ _ hn), ih _ _ (hw.lo_mem _ _ hn)]

theorem den_ext {m t : Tbl} (h : Ext m t) (hw : WF m) (u : Int) (a : Asg) (hm : m.Mem u) :
    den t u a = den m u a := by
  unfold den
  rw [← h.nvars]
  exact denF_ext h hw _ u a hm

theorem den_ext_fun {m t : Tbl} (he : Ext m t) (hw : WF m) (u : Int) (hm : m.Mem u) :
    den t u = den m u := funext fun a => den_ext he hw u a hm

end DD
