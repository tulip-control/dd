/-
  DDProofs.FindOrAdd — `find_or_add`: its cases with the value returned and the state left
  (`findOrAddCore_eq`, `findOrAdd_eq`), and its specification: the result denotes
  `if x_i then w else v`, the invariant is preserved, old nodes are untouched.
-/
import DDProofs.Inv
import DDProofs.FindOrAddState
import DDProofs.NatMap
open Std

namespace DD

/-- the fields an operation on the node table leaves alone -/
structure Frame (m m' : Mgr) : Prop where
  vars : m'.tbl.vars = m.tbl.vars
  l2v : m'.tbl.l2v = m.tbl.l2v
  lastLen : m'.lastLen = m.lastLen
  ctx : m'.ctx = m.ctx
  sched : m'.sched = m.sched
  roots : m'.roots = m.roots

theorem Frame.refl (m : Mgr) : Frame m m := ⟨rfl, rfl, rfl, rfl, rfl, rfl⟩
theorem Frame.trans {a b c : Mgr} (h1 : Frame a b) (h2 : Frame b c) : Frame a c :=
  ⟨h2.vars.trans h1.vars, h2.l2v.trans h1.l2v, h2.lastLen.trans h1.lastLen,
   h2.ctx.trans h1.ctx, h2.sched.trans h1.sched, h2.roots.trans h1.roots⟩

/-- leaving a `with _ReorderingContext` block restores the flag -/
theorem Frame.restoreCtx {m m1 : Mgr} {c : Bool} (h : Frame { m with ctx := c } m1) :
    Frame m { m1 with ctx := m.ctx } :=
  ⟨h.vars, h.l2v, h.lastLen, rfl, h.sched, h.roots⟩

theorem nextFree_ge (s : TreeMap Nat Nd) : ∀ f i, i ≤ nextFree s f i := by
  intro f
  induction f with
  | zero => intro i; simp [nextFree]
  | succ f ih =>
    intro i
    simp only [nextFree]
    split
    · exact Nat.le_trans (Nat.le_succ i) (ih (i+1))
    · exact Nat.le_refl i

theorem range_contained_le_size : ∀ (k : Nat) (s : TreeMap Nat Nd) (i : Nat),
    (∀ j, i ≤ j → j < i + k → s.contains j = true) → k ≤ s.size := by
  intro k
  induction k with
  | zero => intros; exact Nat.zero_le _
  | succ k ih =>
    intro s i h
    have hc : s.contains (i + k) = true := h (i + k) (by omega) (by omega)
    have h' : ∀ j, i ≤ j → j < i + k → (s.erase (i + k)).contains j = true := by
      intro j h1 h2
      rw [TreeMap.contains_erase]
      have : compare (i + k) j ≠ .eq := by
        intro he
        have := (Nat.compare_eq_eq).mp he
        omega
      simp [this, h j h1 (by omega)]
    have := ih (s.erase (i + k)) i h'
    rw [TreeMap.size_erase] at this
    simp only [hc, if_true] at this
    have hpos : 0 < s.size := by
      rcases Nat.eq_zero_or_pos s.size with h0 | h0
      · have : s.isEmpty = true := by simpa [TreeMap.isEmpty_eq_size_eq_zero] using h0
        rw [TreeMap.contains_of_isEmpty this] at hc
        · cases hc
      · exact h0
    omega

theorem nextFree_scan (s : TreeMap Nat Nd) : ∀ f i, 2 ≤ i →
    (∀ j, i ≤ j → j < nextFree s f i → s.contains j = true) ∧
    (s.contains (nextFree s f i) = false ∨ nextFree s f i = i + f) := by
  intro f
  induction f with
  | zero => intro i _; exact ⟨fun j h1 h2 => absurd h2 (Nat.not_lt.mpr h1), Or.inr rfl⟩
  | succ f ih =>
    intro i hi
    simp only [nextFree]
    split
    · next hc =>
      obtain ⟨h1, h2⟩ := ih (i + 1) (by omega)
      refine ⟨fun j hj hlt => ?_, h2.imp_right (by omega)⟩
      rcases Nat.eq_or_lt_of_le hj with rfl | hl
      · exact hc.resolve_left (by omega)
      · exact h1 j hl hlt
    · next hc =>
      exact ⟨fun j h1 h2 => absurd h2 (Nat.not_lt.mpr h1),
        Or.inl (Bool.eq_false_iff.mpr fun h => hc (Or.inr h))⟩

/-- fuel `size + 2` is enough for the search: more than `size` keys in a row are impossible -/
theorem nextFree_not_contains (s : TreeMap Nat Nd) (i : Nat) (hi : 2 ≤ i) :
    s.contains (nextFree s (s.size + 2) i) = false := by
  obtain ⟨hall, h | h⟩ := nextFree_scan s (s.size + 2) i hi
  · exact h
  · have := range_contained_le_size (s.size + 2) s i (fun j h1 h2 => hall j h1 (by omega))
    omega

theorem node?_insert (t : Tbl) (u : Nat) (n : Nd) (k : Nat) :
    ({ t with succ := t.succ.insert u n } : Tbl).node? k = if u = k then some n else t.node? k := by
  simp [Tbl.node?, TreeMap.getElem?_insert]

theorem node?_insert_cases {t : Tbl} {u : Nat} {n : Nd} {k : Nat} {nd : Nd}
    (h : ({ t with succ := t.succ.insert u n } : Tbl).node? k = some nd) :
    k = u ∧ nd = n ∨ k ≠ u ∧ t.node? k = some nd := by
  rw [node?_insert] at h
  split at h
  · next he => exact Or.inl ⟨he.symm, (Option.some.inj h).symm⟩
  · next he => exact Or.inr ⟨fun hk => he hk.symm, h⟩

theorem ext_insert (t : Tbl) (u : Nat) (n : Nd) (hf : t.node? u = none) :
    Ext t { t with succ := t.succ.insert u n } := by
  refine ⟨rfl, fun k nd hk => ?_⟩
  rw [node?_insert, if_neg]
  · exact hk
  · rintro rfl; rw [hf] at hk; cases hk

theorem wfu_insert (t : Tbl) (hw : WFU t) (u : Nat) (n : Nd) (hu : 2 ≤ u) (hf : t.node? u = none)
    (h1 : n.lvl < t.nvars) (h2 : t.Mem n.lo) (h3 : t.Mem n.hi)
    (h4 : n.lvl < t.levelOf n.lo) (h5 : n.lvl < t.levelOf n.hi)
    (h6 : 0 < n.hi) (h7 : n.lo ≠ n.hi) (h8 : ∀ k, t.node? k ≠ some n) :
    WFU { t with succ := t.succ.insert u n } := by
  have he := ext_insert t u n hf
  refine ⟨WF.of_nodeOK fun k nd hk => ?_, fun k k' nd hk hk' => ?_⟩
  · rcases node?_insert_cases hk with ⟨rfl, rfl⟩ | ⟨-, hk⟩
    · exact ⟨hu, NodeOK.ext ⟨h1, h2, h3, h4, h5, h6, h7⟩ he⟩
    · exact ⟨hw.ge_two _ _ hk, (hw.toWF.nodeOK hk).ext he⟩
  · rcases node?_insert_cases hk with ⟨rfl, rfl⟩ | ⟨-, ho⟩
    · rcases node?_insert_cases hk' with ⟨rfl, -⟩ | ⟨-, hk'⟩
      · rfl
      · exact absurd hk' (h8 _)
    · rcases node?_insert_cases hk' with ⟨-, rfl⟩ | ⟨-, hk'⟩
      · exact absurd ho (h8 _)
      · exact hw.unique _ _ _ ho hk'

theorem node?_none_of_not_contains (t : Tbl) (u : Nat) (h : t.succ.contains u = false) :
    t.node? u = none := by
  rw [TreeMap.contains_eq_isSome_getElem?] at h
  exact Option.isSome_eq_false_iff.mp h |> Option.isNone_iff_eq_none.mp

theorem incref_ok (m : Mgr) (u : Int) (h : m.ref.contains u.natAbs = true) :
    ∃ c, m.ref[u.natAbs]? = some c ∧ incref u m = (.ok (), { m with ref := m.ref.insert u.natAbs (c + 1) }) := by
  rw [TreeMap.contains_eq_isSome_getElem?] at h
  obtain ⟨c, hc⟩ := Option.isSome_iff_exists.mp h
  exact ⟨c, hc, incref_eq m u c hc⟩

theorem node_natCast {t : Tbl} {u : Nat} {n : Nd} (hu : 2 ≤ u) (hn : t.node? u = some n) :
    ((u : Nat) : Int).natAbs ≠ 1 ∧ t.node? ((u : Nat) : Int).natAbs = some n := by
  rw [Int.natAbs_natCast]
  exact ⟨by omega, hn⟩

theorem natAbs_ite_neg (c : Prop) [Decidable c] (v : Int) : (if c then -v else v).natAbs = v.natAbs := by
  split <;> simp

/-- `find_or_add(i, v, w)`, all cases: a rejected call, `v = w`, a node found in the unique table,
or a node created at `minFree`.  `n` is the node looked up (`foaNode i v w`): the children with the
sign of `w` taken out; the sign goes to the result.  It is a parameter with its equation so that a
caller can name it in its own spelling (`⟨i, v, w⟩` when `0 < w`, the `normA`/`normB` of `swap`). -/
theorem findOrAddCore_eq (m : Mgr) (i : Nat) (v w : Int)
    (hdom : ∀ u : Int, m.tbl.Mem u → (m.ref[u.natAbs]?).isSome)
    (n : Nd) (hn : n = ⟨i, if w < 0 then -v else v, if w < 0 then -w else w⟩) :
    (∃ e, findOrAddCore i v w m = (.error e, m) ∧
      ¬ (i < m.nvars ∧ m.tbl.Mem v ∧ m.tbl.Mem w ∧ 2 ≤ m.minFree ∧ m.tbl.node? m.minFree = none)) ∨
    i < m.nvars ∧ m.tbl.Mem v ∧ m.tbl.Mem w ∧
      (v = w ∧ findOrAddCore i v w m = (.ok v, m) ∨
       (v ≠ w ∧ ∃ u : Nat, m.pred[n.key]? = some u ∧
         findOrAddCore i v w m = (.ok (if w < 0 then -(u : Int) else u), m)) ∨
       v ≠ w ∧ m.pred[n.key]? = none ∧ 2 ≤ m.minFree ∧ m.tbl.node? m.minFree = none ∧
         ∃ c1 c2, (m.ref.insert m.minFree 0)[v.natAbs]? = some c1 ∧
           ((m.ref.insert m.minFree 0).insert v.natAbs (c1 + 1))[w.natAbs]? = some c2 ∧
           findOrAddCore i v w m = (.ok (if w < 0 then -(m.minFree : Int) else m.minFree),
             { storeNode m n with
               ref := ((m.ref.insert m.minFree 0).insert v.natAbs (c1 + 1)).insert w.natAbs (c2 + 1)
               minFree := newMinFree m n })) := by
  have hn' : n = foaNode i v w := hn
  subst hn'
  have hsign : ∀ x : Int, (if w < 0 then (-1 : Int) else 1) * x = if w < 0 then -x else x := by
    intro x; split <;> simp
  have hvw : (foaNode i v w).lo = (foaNode i v w).hi ↔ v = w := by
    unfold foaNode; split <;> simp
  rw [findOrAddCore_nf]
  by_cases h : FoaStores m i v w
  · rw [if_pos h]
    obtain ⟨c1, c2, c3, c4, hp, c5, c6⟩ := h
    have h2 := (Mgr.mem_iff _ _).mp c2
    have h3 := (Mgr.mem_iff _ _).mp c3
    have hfree := node?_none_of_not_contains _ _ (Bool.eq_false_iff.mpr c6)
    -- the children have counters, and the fresh number is neither of them
    have hne : ∀ u : Int, m.tbl.Mem u → m.minFree ≠ u.natAbs := by
      intro u hu he
      rcases hu with hu | hu
      · omega
      · rw [← he, hfree] at hu; cases hu
    obtain ⟨k1, hk1⟩ := Option.isSome_iff_exists.mp (hdom v h2)
    have hk1' : (m.ref.insert m.minFree 0)[v.natAbs]? = some k1 :=
      (getElem?_insert_ne _ _ _ _ (hne v h2).symm).trans hk1
    obtain ⟨k2, hk2⟩ : ∃ k2, ((m.ref.insert m.minFree 0).insert v.natAbs (k1 + 1))[w.natAbs]? = some k2 := by
      obtain ⟨c, hc⟩ := Option.isSome_iff_exists.mp (hdom w h3)
      rw [TreeMap.getElem?_insert, TreeMap.getElem?_insert]
      by_cases hvw : v.natAbs = w.natAbs
      · exact ⟨k1 + 1, by simp [hvw]⟩
      · exact ⟨c, by simp [hvw, hne w h3, hc]⟩
    refine Or.inr ⟨Nat.lt_of_not_le c1, h2, h3, Or.inr (Or.inr ⟨fun e => c4 (hvw.mpr e), hp, by omega, hfree,
      k1, k2, hk1', hk2, ?_⟩)⟩
    rw [increfTwo_ok _ _ _ _ (c1 := k1) (c2 := k2) (by rw [foaNode, natAbs_ite_neg]; exact hk1')
      (by rw [foaNode, natAbs_ite_neg, natAbs_ite_neg]; exact hk2), hsign]
    simp only [foaNode, natAbs_ite_neg]
    rfl
  · rw [if_neg h]
    unfold foaNoStore
    by_cases g : m.nvars ≤ i ∨ m.mem v = false ∨ m.mem w = false
    · rw [if_pos g]
      refine Or.inl ⟨_, rfl, fun hh => ?_⟩
      rcases g with g | g | g
      · omega
      · exact (Tbl.mem_false_iff _ _).mp g hh.2.1
      · exact (Tbl.mem_false_iff _ _).mp g hh.2.2.1
    rw [if_neg g]
    have c1 : ¬ m.nvars ≤ i := fun e => g (Or.inl e)
    have c2 : m.mem v = true := by cases e : m.mem v; exact absurd (Or.inr (Or.inl e)) g; rfl
    have c3 : m.mem w = true := by cases e : m.mem w; exact absurd (Or.inr (Or.inr e)) g; rfl
    have hm := And.intro (Nat.lt_of_not_le c1) (And.intro ((Mgr.mem_iff _ _).mp c2) ((Mgr.mem_iff _ _).mp c3))
    by_cases c4 : (foaNode i v w).lo = (foaNode i v w).hi
    · rw [if_pos c4, hsign]
      refine Or.inr ⟨hm.1, hm.2.1, hm.2.2, Or.inl ⟨hvw.mp c4, ?_⟩⟩
      unfold foaNode; split <;> simp
    rw [if_neg c4]
    cases hp : m.pred[(foaNode i v w).key]? with
    | some u => exact Or.inr ⟨hm.1, hm.2.1, hm.2.2, Or.inr (Or.inl ⟨fun e => c4 (hvw.mpr e), u, rfl, by dsimp only; rw [hsign]⟩)⟩
    | none =>
      -- not stored although the unique table has no entry: an assertion on `_min_free` failed
      refine Or.inl ⟨_, rfl, fun hh => h ⟨c1, c2, c3, c4, hp, by omega, ?_⟩⟩
      rw [contains_false_of_none (t := m.tbl.succ) hh.2.2.2.2]; simp

theorem findOrAddCore_cases (m : Mgr) (i : Nat) (v w : Int)
    (hdom : ∀ u : Int, m.tbl.Mem u → (m.ref[u.natAbs]?).isSome) :
    (findOrAddCore i v w m).2 = m ∨
    (m.tbl.Mem v ∧ m.tbl.Mem w ∧ 2 ≤ m.minFree ∧ m.tbl.node? m.minFree = none ∧
      ∃ (n : Nd) (c1 c2 : Nat), n.lo.natAbs = v.natAbs ∧ n.hi.natAbs = w.natAbs ∧ n.lvl = i ∧
        (m.ref.insert m.minFree 0)[v.natAbs]? = some c1 ∧
        ((m.ref.insert m.minFree 0).insert v.natAbs (c1 + 1))[w.natAbs]? = some c2 ∧
        (findOrAddCore i v w m).2 = { storeNode m n with
          ref := ((m.ref.insert m.minFree 0).insert v.natAbs (c1 + 1)).insert w.natAbs (c2 + 1)
          minFree := newMinFree m n }) := by
  rcases findOrAddCore_eq m i v w hdom _ rfl with ⟨e, he, -⟩ |
    ⟨-, hv, hw, ⟨-, he⟩ | ⟨-, u, -, he⟩ | ⟨-, -, h2, hfree, c1, c2, hc1, hc2, he⟩⟩
  · exact Or.inl (by rw [he])
  · exact Or.inl (by rw [he])
  · exact Or.inl (by rw [he])
  · exact Or.inr ⟨hv, hw, h2, hfree, _, c1, c2, natAbs_ite_neg _ _, natAbs_ite_neg _ _, rfl, hc1, hc2,
      by rw [he]⟩

theorem requestReordering_cases (m : Mgr) :
    (∃ f, requestReordering m = (.ok (), { m with fireIn := f })) ∨
    (∃ f, requestReordering m = (.error .needsReordering, { m with fireIn := f }) ∧
      m.lastLen.isSome = true) := by
  obtain ⟨tbl, pred, ref, minFree, cache, lastLen, ctx, fireIn, sched, roots⟩ := m
  unfold requestReordering
  cases lastLen with
  | none => left; exact ⟨fireIn, rfl⟩
  | some l =>
    cases fireIn with
    | some k =>
      simp only
      split
      · right; exact ⟨none, rfl, rfl⟩
      · left; exact ⟨some (k - 1), rfl⟩
    | none =>
      simp only
      split
      · right; exact ⟨none, rfl, rfl⟩
      · left; exact ⟨none, rfl⟩

theorem findOrAdd_eq (m : Mgr) (i v w : Int) :
    (∃ f, m.ctx = true ∧ m.lastLen.isSome = true ∧
      findOrAdd i v w m = (.error .needsReordering, { m with fireIn := f })) ∨
    (∃ f, findOrAdd i v w m =
      if i < 0 then (.error .value, { m with fireIn := f })
      else findOrAddCore i.toNat v w { m with fireIn := f }) := by
  unfold findOrAdd
  by_cases hc : m.ctx = true
  · rw [if_pos hc]
    rcases requestReordering_cases m with ⟨f, hr⟩ | ⟨f, hr, harm⟩ <;> rw [hr]
    · exact Or.inr ⟨f, rfl⟩
    · exact Or.inl ⟨f, hc, harm, rfl⟩
  · rw [if_neg hc]; exact Or.inr ⟨m.fireIn, rfl⟩

/-- outside a reordering context, or with reordering off, the request is not made or answers at
once: `find_or_add` is its core -/
theorem findOrAdd_quiet (m : Mgr) (h : m.ctx = false ∨ m.lastLen = none) (i v w : Int) :
    findOrAdd i v w m = if i < 0 then (.error .value, m) else findOrAddCore i.toNat v w m := by
  unfold findOrAdd
  by_cases hc : m.ctx = true
  · have hl : m.lastLen = none := h.resolve_left (by simp [hc])
    rw [if_pos hc, requestReordering, hl]
  · rw [if_neg hc]

theorem findOrAdd_eq_core (m : Mgr) (h : m.ctx = false ∨ m.lastLen = none) (i : Nat) (a b : Int) :
    findOrAdd (i : Int) a b m = findOrAddCore i a b m := by
  rw [findOrAdd_quiet m h, if_neg (by omega), Int.toNat_natCast]

theorem findOrAdd_cases (m : Mgr) (i : Int) (v w : Int) :
    ∃ m1 : Mgr, m1.tbl = m.tbl ∧ m1.ref = m.ref ∧
      ((findOrAdd i v w m).2 = m1 ∨ (findOrAdd i v w m).2 = (findOrAddCore i.toNat v w m1).2) := by
  rcases findOrAdd_eq m i v w with ⟨f, -, -, h⟩ | ⟨f, h⟩ <;> refine ⟨{ m with fireIn := f }, rfl, rfl, ?_⟩ <;>
    rw [h]
  · exact Or.inl rfl
  · split
    · exact Or.inl rfl
    · exact Or.inr rfl

/-- what a call of `find_or_add(i, v, w)` guarantees about its result -/
structure FoaPost (m : Mgr) (i : Nat) (v w : Int) (r : Int) (m' : Mgr) : Prop where
  inv : Inv m'
  ext : Ext m.tbl m'.tbl
  mem : m'.tbl.Mem r
  lvl : i ≤ m'.tbl.levelOf r
  den : ∀ a, den m'.tbl r a = if a i then den m.tbl w a else den m.tbl v a
  frame : Frame m m'
  fire : m'.fireIn = m.fireIn
  cacheSame : m'.cache = m.cache

theorem Inv.addNode {m : Mgr} (hI : Inv m) {n : Nd} (hn : NodeOK m.tbl n) (hp : m.pred[n.key]? = none)
    {ref' : TreeMap Nat Nat}
    (href : ∀ k, k = m.minFree ∨ m.ref.contains k = true → ref'.contains k = true) :
    Inv { storeNode m n with ref := ref', minFree := newMinFree m n } := by
  have h8 : ∀ k, m.tbl.node? k ≠ some n := fun k hk => by
    rw [(hI.pred _ _).mpr hk] at hp; cases hp
  refine ⟨wfu_insert m.tbl hI.wf _ n hI.freeGe hI.free hn.lvl_lt hn.lo_mem hn.hi_mem hn.lo_lt hn.hi_lt
    hn.hi_pos hn.lo_ne_hi h8, fun nd k => ?_, Nat.le_trans hI.freeGe (nextFree_ge _ _ _),
    node?_none_of_not_contains _ _ (nextFree_not_contains _ _ hI.freeGe),
    href 1 (Or.inr hI.refOne), fun k nd hk => ?_,
    fun g a b c hc => (hI.cache g a b c hc).ext hI.wf.toWF (ext_insert _ _ n hI.free)⟩
  · show (m.pred.insert n.key m.minFree)[nd.key]? = some k ↔
      ({ m.tbl with succ := m.tbl.succ.insert m.minFree n } : Tbl).node? k = some nd
    rw [node?_insert, TreeMap.getElem?_insert]
    by_cases hnt : n = nd
    · subst hnt
      rw [compare_self, if_pos rfl]
      constructor
      · intro h; rw [if_pos (Option.some.inj h)]
      · intro h
        split at h
        · next he => rw [he]
        · exact absurd h (h8 _)
    · rw [if_neg fun he => hnt (Nd.key_inj (LawfulEqOrd.eq_of_compare he)), hI.pred]
      split
      · next he =>
        subst he
        rw [hI.free]
        exact ⟨fun h => absurd h.symm (Option.some_ne_none nd), fun h => absurd (Option.some.inj h) hnt⟩
      · exact Iff.rfl
  · rcases node?_insert_cases hk with ⟨rfl, -⟩ | ⟨-, hk⟩
    · exact href _ (Or.inl rfl)
    · exact href _ (Or.inr (hI.refDom _ _ hk))

/-- carries C01 (unique table): on a manager satisfying `Inv`, `find_or_add(i, v, w)` past its
reordering request, with both children below level `i`, cannot fail; the reference it returns
denotes `if x_i then w else v`, the invariant is kept and old nodes are untouched -/
theorem findOrAddCore_spec (m : Mgr) (hI : Inv m) (i : Nat) (v w : Int)
    (hi : i < m.nvars) (hv : m.tbl.Mem v) (hw : m.tbl.Mem w)
    (hlv : i < m.tbl.levelOf v) (hlw : i < m.tbl.levelOf w) :
    ∃ r m', findOrAddCore i v w m = (.ok r, m') ∧ FoaPost m i v w r m' := by
  have hW := hI.wf.toWF
  have hw0 : w ≠ 0 := mem_ne_zero hW hw
  have hdom : ∀ u : Int, m.tbl.Mem u → (m.ref[u.natAbs]?).isSome := fun u hu => by
    rw [← TreeMap.contains_eq_isSome_getElem?]; exact hI.refMem hu
  -- the node looked up has a regular high edge, and the sign of `w` in front of it gives back `v`, `w`
  generalize hn : (⟨i, if w < 0 then -v else v, if w < 0 then -w else w⟩ : Nd) = n
  have hnode : v ≠ w → NodeOK m.tbl n := by
    intro hvw
    subst hn
    exact ⟨hi, mem_flip w hv, mem_flip w hw, by rw [levelOf_flip]; exact hlv,
      by rw [levelOf_flip]; exact hlw, by dsimp only; split <;> omega, by dsimp only; split <;> omega⟩
  have hden : ∀ (t : Tbl) (u : Nat), WF t → Ext m.tbl t → 2 ≤ u → t.node? u = some n →
      ∀ a, den t (if w < 0 then -(u : Int) else u) a = if a i then den m.tbl w a else den m.tbl v a := by
    intro t u ht he hu hnu a
    rw [den_flip t ht u w a (Or.inr (by simp [hnu])),
      den_node t ht u n a (node_natCast hu hnu).1 (node_natCast hu hnu).2,
      decide_eq_false (by omega : ¬ (u : Int) < 0), Bool.false_xor, ← hn]
    dsimp only
    rw [den_ext he hW _ a (mem_flip w hw), den_ext he hW _ a (mem_flip w hv),
      den_flip m.tbl hW w w a hw, den_flip m.tbl hW v w a hv]
    cases decide (w < 0) <;> cases a i <;> simp
  have hmem : ∀ (t : Tbl) (u : Nat), 2 ≤ u → t.node? u = some n →
      t.Mem (if w < 0 then -(u : Int) else u) ∧ i ≤ t.levelOf (if w < 0 then -(u : Int) else u) := by
    intro t u hu hnu
    refine ⟨mem_flip w (Or.inr (by simp [hnu])), ?_⟩
    rw [levelOf_flip, levelOf_node t u n (node_natCast hu hnu).1 (node_natCast hu hnu).2, ← hn]
    exact Nat.le_refl i
  rcases findOrAddCore_eq m i v w hdom n hn.symm with ⟨e, -, hbad⟩ |
    ⟨-, -, -, ⟨rfl, he⟩ | ⟨-, u, hp, he⟩ | ⟨hvw, hp, -, -, c1, c2, -, -, he⟩⟩
  · exact absurd ⟨hi, hv, hw, hI.freeGe, hI.free⟩ hbad
  · exact ⟨v, m, he, hI, Ext.refl _, hv, Nat.le_of_lt hlv, fun a => by split <;> rfl, Frame.refl _, rfl, rfl⟩
  · have hnu := (hI.pred _ _).mp hp
    have hu := hW.ge_two _ _ hnu
    exact ⟨_, m, he, hI, Ext.refl _, (hmem _ u hu hnu).1, (hmem _ u hu hnu).2,
      hden _ u hW (Ext.refl _) hu hnu, Frame.refl _, rfl, rfl⟩
  · have hI' := hI.addNode (hnode hvw) hp
      (ref' := ((m.ref.insert m.minFree 0).insert v.natAbs (c1 + 1)).insert w.natAbs (c2 + 1))
      (fun k hk => contains_insert_mono _ _ _ _ (contains_insert_mono _ _ _ _ (by
        rcases hk with rfl | hk
        · exact TreeMap.contains_insert_self
        · exact contains_insert_mono _ _ _ _ hk)))
    have hnu : ({ m.tbl with succ := m.tbl.succ.insert m.minFree n } : Tbl).node? m.minFree = some n := by
      rw [node?_insert, if_pos rfl]
    have hext := ext_insert m.tbl m.minFree n hI.free
    exact ⟨_, _, he, hI', hext, (hmem _ _ hI.freeGe hnu).1, (hmem _ _ hI.freeGe hnu).2,
      hden _ _ hI'.wf.toWF hext hI.freeGe hnu, ⟨rfl, rfl, rfl, rfl, rfl, rfl⟩, rfl, rfl⟩

end DD
