/-
  DDProofs.FindOrAddState — `find_or_add` in normal form, with no assumption on the state it
  starts from: the call either gets as far as storing a new node at `min_free` (`FoaStores`; what
  follows is the two `incref` calls on the stored state, which only write `_ref`) or leaves the
  manager as it is and answers `foaNoStore`.  Every other statement about `findOrAddCore` is read
  off `findOrAddCore_nf`.
-/
import Std.Data.TreeMap.Lemmas
import DD.Core
open Std

namespace DD

theorem incref_cases (u : Int) (m : Mgr) :
    (m.ref[u.natAbs]? = none ∧ incref u m = (.error .key, m)) ∨
    ∃ c, m.ref[u.natAbs]? = some c ∧ incref u m = (.ok (), { m with ref := m.ref.insert u.natAbs (c + 1) }) := by
  unfold incref
  cases m.ref[u.natAbs]? with
  | none => exact Or.inl ⟨rfl, rfl⟩
  | some c => exact Or.inr ⟨c, rfl, rfl⟩

theorem incref_eq (m : Mgr) (u : Int) (c : Nat) (h : m.ref[u.natAbs]? = some c) :
    incref u m = (.ok (), { m with ref := m.ref.insert u.natAbs (c + 1) }) := by
  simp [incref, h]

theorem incref_err {u : Int} {m m' : Mgr} {e : Err} (h : incref u m = (.error e, m')) : e = .key := by
  rcases incref_cases u m with ⟨-, e'⟩ | ⟨c, -, e'⟩ <;> rw [e'] at h <;> cases h
  rfl

/-- the node `find_or_add(i, v, w)` looks up: complemented high edge normalised -/
def foaNode (i : Nat) (v w : Int) : Nd := ⟨i, if w < 0 then -v else v, if w < 0 then -w else w⟩

/-- the manager after `self._pred[t] = u; self._succ[u] = t; self._ref[u] = 0` -/
def storeNode (m : Mgr) (t : Nd) : Mgr :=
  { m with
    tbl := { m.tbl with succ := m.tbl.succ.insert m.minFree t }
    pred := m.pred.insert t.key m.minFree
    ref := m.ref.insert m.minFree 0 }

/-- the number `_next_free_int(u)` returns with `t` stored at `u = _min_free` -/
def newMinFree (m : Mgr) (t : Nd) : Nat :=
  nextFree (m.tbl.succ.insert m.minFree t) ((m.tbl.succ.insert m.minFree t).size + 2) m.minFree

/-- the tail of `find_or_add` after the store: the two `incref`s -/
def increfTwo (r : Int) (v w : Int) (m1 : Mgr) : Except Err Int × Mgr :=
  match incref v m1 with
  | (.error e, m2) => (.error e, m2)
  | (.ok _, m2) =>
    match incref w m2 with
    | (.error e, m3) => (.error e, m3)
    | (.ok _, m3) => (.ok r, m3)

/-- the call gets as far as storing a new node: valid level, known children, not eliminated,
not in the unique table, and the two assertions on `_min_free` pass -/
def FoaStores (m : Mgr) (i : Nat) (v w : Int) : Prop :=
  ¬ m.nvars ≤ i ∧ m.mem v = true ∧ m.mem w = true ∧
  ¬ (if w < 0 then -v else v) = (if w < 0 then -w else w) ∧
  m.pred[(foaNode i v w).key]? = none ∧ ¬ m.minFree ≤ 1 ∧ ¬ m.tbl.succ.contains m.minFree = true

instance (m : Mgr) (i : Nat) (v w : Int) : Decidable (FoaStores m i v w) := by
  unfold FoaStores; infer_instance

/-- the answer of a call that stores nothing -/
def foaNoStore (i : Nat) (v w : Int) (m : Mgr) : Except Err Int :=
  if m.nvars ≤ i ∨ m.mem v = false ∨ m.mem w = false then .error .value else
  if (foaNode i v w).lo = (foaNode i v w).hi then .ok ((if w < 0 then -1 else 1) * (foaNode i v w).lo) else
  match m.pred[(foaNode i v w).key]? with
  | some u => .ok ((if w < 0 then -1 else 1) * (u : Int))
  | none => .error .assertion

theorem findOrAddCore_nf (i : Nat) (v w : Int) (m : Mgr) :
    findOrAddCore i v w m =
      if FoaStores m i v w then
        increfTwo ((if w < 0 then -1 else 1) * (m.minFree : Int)) (foaNode i v w).lo (foaNode i v w).hi
          { storeNode m (foaNode i v w) with minFree := newMinFree m (foaNode i v w) }
      else (foaNoStore i v w m, m) := by
  by_cases h : FoaStores m i v w
  · rw [if_pos h]
    obtain ⟨c1, c2, c3, c4, hp, c5, c6⟩ := h
    unfold foaNode at hp
    unfold findOrAddCore
    simp only [c1, if_false, c2, c3, Bool.not_true, Bool.false_eq_true, c4, hp, c5, c6]
    rfl
  · rw [if_neg h]
    unfold FoaStores foaNode at h
    unfold findOrAddCore foaNoStore foaNode
    by_cases c1 : m.nvars ≤ i
    · simp [c1]
    by_cases c2 : m.mem v = true
    case neg => simp [c1, c2]
    by_cases c3 : m.mem w = true
    case neg => simp [c1, c2, c3]
    by_cases c4 : (if w < 0 then -v else v) = (if w < 0 then -w else w)
    · simp [c1, c2, c3, c4]
    simp only [c1, c2, c3, c4, if_false, Bool.not_true, Bool.false_eq_true, or_self, Bool.true_eq_false]
    cases hp : m.pred[(⟨i, if w < 0 then -v else v, if w < 0 then -w else w⟩ : Nd).key]? with
    | some u => rfl
    | none =>
      simp only
      by_cases c5 : m.minFree ≤ 1
      · simp [c5]
      by_cases c6 : m.tbl.succ.contains m.minFree = true
      · simp [c5, c6]
      · exact absurd ⟨c1, c2, c3, c4, hp, c5, c6⟩ h

theorem increfTwo_cases (r v w : Int) (m1 : Mgr) :
    ∃ rf, (increfTwo r v w m1).2 = { m1 with ref := rf } ∧
      ((increfTwo r v w m1).1 = .error .key ∨ (increfTwo r v w m1).1 = .ok r) := by
  unfold increfTwo
  rcases incref_cases v m1 with ⟨-, e⟩ | ⟨c, -, e⟩ <;> rw [e]
  · exact ⟨m1.ref, rfl, Or.inl rfl⟩
  · dsimp only
    rcases incref_cases w { m1 with ref := m1.ref.insert v.natAbs (c + 1) } with ⟨-, e⟩ | ⟨c', -, e⟩ <;> rw [e]
    · exact ⟨_, rfl, Or.inl rfl⟩
    · exact ⟨_, rfl, Or.inr rfl⟩

theorem increfTwo_ok (r v w : Int) (m1 : Mgr) {c1 c2 : Nat} (h1 : m1.ref[v.natAbs]? = some c1)
    (h2 : (m1.ref.insert v.natAbs (c1 + 1))[w.natAbs]? = some c2) :
    increfTwo r v w m1 =
      (.ok r, { m1 with ref := (m1.ref.insert v.natAbs (c1 + 1)).insert w.natAbs (c2 + 1) }) := by
  unfold increfTwo
  rw [incref_eq m1 v c1 h1]
  dsimp only
  rw [incref_eq _ w c2 h2]

theorem findOrAddCore_bad_level (i : Nat) (v w : Int) (m : Mgr) (h : m.nvars ≤ i) :
    findOrAddCore i v w m = (.error .value, m) := by
  rw [findOrAddCore_nf, if_neg fun hs => hs.1 h, foaNoStore, if_pos (Or.inl h)]

theorem findOrAddCore_answer (i : Nat) (v w : Int) (m : Mgr) :
    (∃ r, (findOrAddCore i v w m).1 = .ok r) ∨ (findOrAddCore i v w m).1 = .error .value ∨
      (findOrAddCore i v w m).1 = .error .assertion ∨ (findOrAddCore i v w m).1 = .error .key := by
  rw [findOrAddCore_nf]
  split
  · obtain ⟨_, -, h | h⟩ := increfTwo_cases ((if w < 0 then -1 else 1) * (m.minFree : Int)) (foaNode i v w).lo
      (foaNode i v w).hi { storeNode m (foaNode i v w) with minFree := newMinFree m (foaNode i v w) }
    · exact Or.inr (Or.inr (Or.inr h))
    · exact Or.inl ⟨_, h⟩
  · unfold foaNoStore
    split
    · exact Or.inr (Or.inl rfl)
    split
    · exact Or.inl ⟨_, rfl⟩
    split
    · exact Or.inl ⟨_, rfl⟩
    · exact Or.inr (Or.inr (Or.inl rfl))

/-- `r` is left open: the new node is entered at `min_free` in `_succ`, `_pred`, `_ref` whether or
not the two `incref` calls that follow succeed -/
theorem findOrAddCore_state (i : Nat) (v w : Int) (m : Mgr) :
    (findOrAddCore i v w m).2 = m ∨
    ∃ (n : Nd) (r : TreeMap Nat Nat), n.lvl = i ∧ m.pred[n.key]? = none ∧ 2 ≤ m.minFree ∧
      m.tbl.succ.contains m.minFree = false ∧
      (findOrAddCore i v w m).2 = { storeNode m n with ref := r, minFree := newMinFree m n } := by
  rw [findOrAddCore_nf]
  split
  · next h =>
    obtain ⟨rf, e, -⟩ := increfTwo_cases ((if w < 0 then -1 else 1) * (m.minFree : Int)) (foaNode i v w).lo
      (foaNode i v w).hi { storeNode m (foaNode i v w) with minFree := newMinFree m (foaNode i v w) }
    exact Or.inr ⟨foaNode i v w, rf, rfl, h.2.2.2.2.1, by have := h.2.2.2.2.2.1; omega,
      Bool.eq_false_iff.mpr h.2.2.2.2.2.2, e⟩
  · exact Or.inl rfl

end DD
