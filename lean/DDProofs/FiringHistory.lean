/-
  DDProofs.FiringHistory — a history in which dynamic reordering FIRES (naturally:
  `len ≥ 2 * _last_len`), evaluated by the kernel up to the call that fires.

  Seven pairs `x_i`, `y_i`, all `x` above all `y` — the worst order for `⋁ x_i ∧ y_i`.  Reordering
  is enabled before the first node is made (`_last_len = 100`); every operand is held.  Before the
  last call the manager has 193 nodes; during the last `or` (= `ite(192, 1, 193)`) the 200th node
  is requested: the attempt is aborted (`exBig_fires`, evaluated by the kernel), the manager is
  sifted and the connective computed again.  Evaluating the sifting itself is too much for the
  kernel's evaluator (minutes); `#eval` (compiled evaluator) gives, for
  `(results3 exBig St.init).map resCode3` (DDProps.Histories2), `⟪exBig⟫₃.m.len`, `⟪exBig⟫₃.m.lastLen`,
  `⟪exBig⟫₃.m.tbl.vars.toList`:

      [1000, …, 1013, 0, 2, 0, 3, 0, …, 15, 0,                       -- declare ×14, configure, var/incref ×14
       16, 0, 16, 0, 17, 0, 20, 0, 21, 0, 30, 0, 31, 0, 52, 0, 53, 0, 98, 0, 99, 0, 192, 0, 193, 0, 62]
      66                          -- nodes after the automatic sifting (193 before the call)
      some 104                    -- `_last_len` re-armed: 2 * 52
      [("x0", 2), ("x1", 4), ("x2", 6), ("x3", 7), ("x4", 9), ("x5", 11), ("x6", 1),
       ("y0", 0), ("y1", 3), ("y2", 5), ("y3", 8), ("y4", 10), ("y5", 12), ("y6", 13)]   -- pairs interleaved

  The guards of the seventy calls hold (`exBig_guarded`, kernel), so the every-history theorems of
  DDProps.Histories2, Part 2, apply to the history and to each of its prefixes (DDProps.Histories2Firing).
-/
import DDProofs.Calls
namespace DD

local notation "⟪" ops "⟫₃" => run3 ops St.init

def exBigAnds : List Int := [16, 17, 21, 31, 53, 99, 193]
def exBigOrs : List Int := [-1, 16, 20, 30, 52, 98, 192]

def exBig : List UOp3 :=
  ((List.range 7).map fun i => .op (.base (.declare s!"x{i}" none))) ++
  ((List.range 7).map fun i => .op (.base (.declare s!"y{i}" none))) ++
  [.configure true] ++
  ((List.range 7).flatMap fun (i : Nat) =>
    [.op (.base (.var s!"x{i}")), .op (.base (.incref (2 + (i : Int))))]) ++
  ((List.range 7).flatMap fun (i : Nat) =>
    [.op (.base (.var s!"y{i}")), .op (.base (.incref (9 + (i : Int))))]) ++
  ((List.range 7).flatMap fun (i : Nat) =>
    [.op (.base (.apply "and" (2 + (i : Int)) (some (9 + (i : Int))) none)),
     .op (.base (.incref (exBigAnds.getD i 0))),
     .op (.base (.apply "or" (exBigOrs.getD i 0) (some (exBigAnds.getD i 0)) none))] ++
     (if i < 6 then [.op (.base (.incref (exBigOrs.getD (i + 1) 0)))] else []))

theorem exBig_guarded : Ops3Guarded exBig St.init := by decide +kernel

def isSignal {α : Type} : Except Err α → Bool
  | .error .needsReordering => true
  | _ => false

/-- the state reached by the first 69 calls: fourteen variables, the
operands 192 and 193 of the last call are held, and the body of that call is aborted -/
theorem exBig_at69 : 2 ≤ ⟪exBig.take 69⟫₃.m.nvars ∧
    0 < ⟪exBig.take 69⟫₃.ext 192 ∧ 0 < ⟪exBig.take 69⟫₃.ext 193 ∧
    isSignal (iteRaw 192 1 193 { ⟪exBig.take 69⟫₃.m with ctx := true }).1 = true := by
  decide +kernel

/-- in the state reached by the first 69 calls the body of the last call (`or` = `ite(u, 1, v)`) IS
aborted by a reordering request — by the size test, not by the harness trigger: `fireIn` is `none`
in the empty manager and only the driver's own command sets it (DD.Driver), no call of a history -/
theorem exBig_fires :
    isSignal (iteRaw 192 1 193 { ⟪exBig.take 69⟫₃.m with ctx := true }).1 = true :=
  exBig_at69.2.2.2

end DD
