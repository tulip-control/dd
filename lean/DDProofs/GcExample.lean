/-
  A concrete small manager for the non-vacuity examples of the property files.  It is the state
  after six user calls from the empty manager, so it is good like every reachable state
  (`exM_good`).  Variables `a` (level 0), `b` (level 1); nodes 2 = `a`, 3 = `b`, 4 = `a ∧ b`; the
  user holds one reference to node 4 only, so node 2 is garbage.
-/
import DDProofs.Reach
open Std

namespace DD

def exRun : M Int := do
  let _ ← addVar "a" none
  let _ ← addVar "b" none
  let _ ← findOrAdd 0 (-1) 1   -- `var a`  = node 2
  let b ← findOrAdd 1 (-1) 1   -- `var b`  = node 3
  let c ← findOrAdd 0 (-1) b   -- `a /\ b` = node 4 (what `_ite(a, b, -1)` creates)
  incref c
  return c

def exM : Mgr := (exRun {}).2
/-- the user's ledger: one reference to node 4 -/
def exExt : Nat → Nat := fun k => if k = 4 then 1 else 0

theorem exRun_ok : (exRun {}).1.toOption = some 4 := by decide

/-- the calls of `exRun`, as a history of the user -/
def exHist : List UOp :=
  [.declare "a" none, .declare "b" none, .findOrAdd 0 (-1) 1, .findOrAdd 1 (-1) 1,
   .findOrAdd 0 (-1) 3, .incref 4]

theorem exM_eq : exM = (run exHist St.init).m := rfl
theorem exExt_eq : exExt = (run exHist St.init).ext := rfl

theorem exM_good : GoodState exM exExt := by
  rw [exM_eq, exExt_eq]; exact reachable_inv exHist (by decide)

theorem exM_inv : Inv exM := exM_good.inv
theorem exM_orderOK : OrderOK exM.tbl := exM_good.order
theorem exM_refExact : RefExact exM exExt := exM_good.exact

theorem exM_ref_iff (u c : Nat) : exM.ref[u]? = some c ↔ (u, c) ∈ [(1, 6), (2, 0), (3, 1), (4, 1)] := by
  rw [← (by decide +kernel : exM.ref.toList = [(1, 6), (2, 0), (3, 1), (4, 1)])]
  exact TreeMap.mem_toList_iff_getElem?_eq_some.symm

theorem exM_ref_zero (k : Nat) : exM.ref[k]? = some 0 ↔ k = 2 := by
  rw [exM_ref_iff]; simp

end DD
