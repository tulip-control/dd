/-
  The collection loop (C06, part 3).  The Python worklist is a `set` and `unused.pop()` may return
  any element, so the loop is the relation `GcRun` (any element is popped); the model's `gcLoop`,
  which pops the head, is one such run (`gcLoop_run`).  What a run removes does not depend on the
  order: relative to its start state every step keeps `GcMid`, and when the worklist is empty the
  nodes left are the start nodes outside `Dead`, the start worklist closed under count-0 cascades.
-/
import DDProofs.GcStep
open Std

namespace DD

theorem GcStepPost.ne_u {m m' : Mgr} {ext : Nat → Nat} {u : Nat} {n : Nd} {work work' : List Nat}
    (h : GcStepPost m ext u n work m' work') {k : Nat} {x : Nd} (hk : m'.tbl.node? k = some x) : k ≠ u := by
  intro hku; subst hku; rw [h.removed.old] at hk; cases hk

theorem GcStepPost.zero_stays {m m' : Mgr} {ext : Nat → Nat} {u : Nat} {n : Nd} {work work' : List Nat}
    (h : GcStepPost m ext u n work m' work') (hr : RefExact m ext) {k : Nat}
    (hc : m.ref[k]? = some 0) (hku : k ≠ u) : m'.ref[k]? = some 0 := by
  obtain ⟨hk1, hnode, hi0, he0⟩ := hr.zero_iff.mp hc
  rw [indeg_added h.removed] at hi0
  exact h.refExact.zero_iff.mpr ⟨hk1, by rw [← h.removed.other k hku]; exact hnode, by omega, he0⟩

theorem GcStepPost.zero_cases {m m' : Mgr} {ext : Nat → Nat} {u : Nat} {n : Nd} {work work' : List Nat}
    (h : GcStepPost m ext u n work m' work') (hr : RefExact m ext) {k : Nat}
    (hk : m'.ref[k]? = some 0) :
    k ∈ work' ∨ (¬ (n.lo.natAbs = k ∨ n.hi.natAbs = k) ∧ k ≠ u ∧ m.ref[k]? = some 0) := by
  obtain ⟨hk1, hnode, hi0, he0⟩ := h.refExact.zero_iff.mp hk
  by_cases hch : n.lo.natAbs = k ∨ n.hi.natAbs = k
  · exact Or.inl ((h.work_mem k).mpr (Or.inr ⟨hch.imp Eq.symm Eq.symm, hk1, hk⟩))
  · obtain ⟨x, hx⟩ := Option.isSome_iff_exists.mp hnode
    refine Or.inr ⟨hch, h.ne_u hx, hr.zero_iff.mpr ⟨hk1, by rw [h.removed.sub hx]; rfl, ?_, he0⟩⟩
    rw [indeg_added h.removed, hi0, edgeCount_eq_zero.mpr hch]

structure GcInv (m : Mgr) (ext : Nat → Nat) (work : List Nat) : Prop where
  invS : InvS m
  refExact : RefExact m ext
  zero : ∀ w ∈ work, m.ref[w]? = some 0
  nodup : work.Nodup

/-- the worklist contains every node whose count is 0 (full collection) -/
def GcComplete (m : Mgr) (work : List Nat) : Prop := ∀ k, m.ref[k]? = some 0 → k ∈ work

theorem GcInv.step {m : Mgr} {ext : Nat → Nat} {work : List Nat} (hi : GcInv m ext work)
    {u : Nat} (hu : u ∈ work) :
    ∃ n m' work', m.tbl.node? u = some n ∧ gcStep u (work.erase u) m = (.ok work', m') ∧
      GcStepPost m ext u n (work.erase u) m' work' ∧ GcInv m' ext work' := by
  obtain ⟨n, m', work', hn, hrun, hp⟩ := gcStep_spec m ext u (work.erase u) hi.invS hi.refExact (hi.zero u hu)
  refine ⟨n, m', work', hn, hrun, hp, hp.invS, hp.refExact, fun w hw => ?_, hp.work_nodup (hi.nodup.erase u)⟩
  rcases (hp.work_mem w).mp hw with h | ⟨-, -, h⟩
  · have := (hi.nodup.mem_erase_iff).mp h
    exact hp.zero_stays hi.refExact (hi.zero w this.2) this.1
  · exact h

/-- `m` is `m0` with some nodes removed by collection steps.  The clauses on `pred` and `minFree`
say enough for the node table left to determine both (`gc_state_unique`, DDProofs.GcSched). -/
structure GcSub (m0 m : Mgr) : Prop where
  sub : ∀ k x, m.tbl.node? k = some x → m0.tbl.node? k = some x
  vars : m.tbl.vars = m0.tbl.vars
  l2v : m.tbl.l2v = m0.tbl.l2v
  lastLen : m.lastLen = m0.lastLen
  ctx : m.ctx = m0.ctx
  fireIn : m.fireIn = m0.fireIn
  sched : m.sched = m0.sched
  roots : m.roots = m0.roots
  /-- unique-table entries of surviving nodes (and junk keys) are untouched -/
  predKeep : ∀ key, (∀ k x, m0.tbl.node? k = some x → x.key = key → (m.tbl.node? k).isSome) →
    m.pred[key]? = m0.pred[key]?
  predGone : ∀ k x, m0.tbl.node? k = some x → m.tbl.node? k = none → m.pred[x.key]? = none
  minLe : m.minFree ≤ m0.minFree
  minRemoved : ∀ k x, m0.tbl.node? k = some x → m.tbl.node? k = none → m.minFree ≤ k
  minIs : m.minFree = m0.minFree ∨ (m0.tbl.node? m.minFree).isSome
  size : m.tbl.succ.size ≤ m0.tbl.succ.size

theorem GcSub.len_le {m0 m : Mgr} (h : GcSub m0 m) : m.len ≤ m0.len := Nat.succ_le_succ h.size

theorem GcSub.refl (m : Mgr) : GcSub m m := by
  refine ⟨fun _ _ h => h, rfl, rfl, rfl, rfl, rfl, rfl, rfl, fun _ _ => rfl, ?_, Nat.le_refl _, ?_,
    Or.inl rfl, Nat.le_refl _⟩
  · intro k x h1 h2; rw [h1] at h2; cases h2
  · intro k x h1 h2; rw [h1] at h2; cases h2

theorem GcSub.node_cases {m0 m : Mgr} (h : GcSub m0 m) {k : Nat} {x : Nd} (hk : m0.tbl.node? k = some x) :
    m.tbl.node? k = some x ∨ m.tbl.node? k = none := by
  cases hm : m.tbl.node? k with
  | none => exact Or.inr rfl
  | some y => rw [← hk, h.sub k y hm]; exact Or.inl rfl

theorem GcSub.step {m0 m m' : Mgr} {ext : Nat → Nat} {u : Nat} {n : Nd} {work work' : List Nat}
    (hs : GcSub m0 m) (hp : GcStepPost m ext u n work m' work') : GcSub m0 m' := by
  have hn0 : m0.tbl.node? u = some n := hs.sub _ _ hp.removed.new
  have hgone : ∀ k x, m0.tbl.node? k = some x → m'.tbl.node? k = none →
      m.tbl.node? k = none ∨ (k = u ∧ x = n) := by
    intro k x hk hk'
    by_cases hku : k = u
    · exact Or.inr ⟨hku, Option.some.inj ((hku ▸ hk).symm.trans hn0)⟩
    · exact Or.inl (by rw [hp.removed.other k hku]; exact hk')
  refine ⟨fun k x h => hs.sub k x (hp.removed.sub h), hp.vars.trans hs.vars, hp.l2v.trans hs.l2v,
    hp.lastLen.trans hs.lastLen, hp.ctx.trans hs.ctx, hp.fireIn.trans hs.fireIn,
    hp.sched.trans hs.sched, hp.roots.trans hs.roots, ?_, ?_, ?_, ?_, ?_, ?_⟩
  · intro key hall
    have hne : key ≠ n.key := by
      intro he
      have := hall u n hn0 he.symm
      rw [hp.removed.old] at this; cases this
    rw [hp.pred key, if_neg hne]
    apply hs.predKeep key
    intro k x hk hx
    obtain ⟨y, hy⟩ := Option.isSome_iff_exists.mp (hall k x hk hx)
    rw [hp.removed.sub hy]; rfl
  · intro k x hk hk'
    rw [hp.pred]
    rcases hgone k x hk hk' with h | ⟨-, h⟩
    · rw [hs.predGone k x hk h]; split <;> rfl
    · rw [h, if_pos rfl]
  · rw [hp.minFree]; have := hs.minLe; omega
  · intro k x hk hk'
    rw [hp.minFree]
    rcases hgone k x hk hk' with h | ⟨h, -⟩
    · have := hs.minRemoved k x hk h; omega
    · omega
  · rw [hp.minFree]
    by_cases h : u ≤ m.minFree
    · rw [Nat.min_eq_left h]; right; rw [hn0]; rfl
    · rw [Nat.min_eq_right (by omega)]; exact hs.minIs
  · have := hp.size; have := hs.size; omega

/-- nodes removed by a collection started with the worklist `W` (all of count 0):
`W` itself and, transitively, every unheld node all of whose stored parents are removed -/
inductive Dead (t : Tbl) (ext : Nat → Nat) (W : Nat → Prop) : Nat → Prop
  | root {k : Nat} : W k → Dead t ext W k
  | cascade {k p : Nat} {x : Nd} : k ≠ 1 → ext k = 0 → t.node? p = some x →
      (x.lo.natAbs = k ∨ x.hi.natAbs = k) →
      (∀ q y, t.node? q = some y → (y.lo.natAbs = k ∨ y.hi.natAbs = k) → Dead t ext W q) →
      Dead t ext W k

/-- invariant of a run relative to its start state `m0` and start worklist `W` -/
structure GcMid (m0 : Mgr) (ext : Nat → Nat) (W : Nat → Prop) (m : Mgr) (work : List Nat) : Prop where
  inv : GcInv m ext work
  sub : GcSub m0 m
  cache : m.cache = m0.cache
  workDead : ∀ w ∈ work, Dead m0.tbl ext W w
  removedDead : ∀ k x, m0.tbl.node? k = some x → m.tbl.node? k = none → Dead m0.tbl ext W k
  pending : ∀ k, m.ref[k]? = some 0 →
    (W k ∨ ∃ p x, m0.tbl.node? p = some x ∧ m.tbl.node? p = none ∧ (x.lo.natAbs = k ∨ x.hi.natAbs = k)) →
    k ∈ work

theorem GcMid.init {m0 : Mgr} {ext : Nat → Nat} {W0 : List Nat} (hi : GcInv m0 ext W0) :
    GcMid m0 ext (· ∈ W0) m0 W0 := by
  refine ⟨hi, GcSub.refl m0, rfl, fun w hw => Dead.root hw, ?_, ?_⟩
  · intro k x h1 h2; rw [h1] at h2; cases h2
  · rintro k - (h | ⟨p, x, h1, h2, -⟩)
    · exact h
    · rw [h1] at h2; cases h2

theorem GcMid.step {m0 m : Mgr} {ext : Nat → Nat} {W : Nat → Prop} {work : List Nat}
    (hm : GcMid m0 ext W m work) {u : Nat} (hu : u ∈ work) {m' : Mgr} {work' : List Nat}
    (hstep : gcStep u (work.erase u) m = (.ok work', m')) : GcMid m0 ext W m' work' := by
  obtain ⟨n, m1, work1, hn, hrun1, hp, hi1⟩ := hm.inv.step hu
  rw [hstep] at hrun1
  cases hrun1
  have hn0 : m0.tbl.node? u = some n := hm.sub.sub _ _ hn
  have hsub := hm.sub.step hp
  have hremoved : ∀ k x, m0.tbl.node? k = some x → m'.tbl.node? k = none → Dead m0.tbl ext W k := by
    intro k x hk hk'
    by_cases hku : k = u
    · rw [hku]; exact hm.workDead u hu
    · exact hm.removedDead k x hk (by rw [hp.removed.other k hku]; exact hk')
  refine ⟨hi1, hsub, hp.cache.trans hm.cache, ?_, hremoved, ?_⟩
  · intro w hw
    rcases (hp.work_mem w).mp hw with h | ⟨hch, hw1, hw0⟩
    · exact hm.workDead w ((hm.inv.nodup.mem_erase_iff).mp h).2
    · -- a child of `u` whose count dropped to 0: no parent is left
      obtain ⟨-, -, hi0, he0⟩ := hp.refExact.zero_iff.mp hw0
      refine Dead.cascade (p := u) (x := n) hw1 he0 hn0 (hch.imp Eq.symm Eq.symm) fun q y hq hedge => ?_
      rcases hsub.node_cases hq with hq' | hq'
      · exact absurd hedge (indeg_eq_zero_iff.mp hi0 q y hq')
      · exact hremoved q y hq hq'
  · intro k hk hcond
    rcases hp.zero_cases hm.inv.refExact hk with h | ⟨hch, hku, h0⟩
    · exact h
    · refine (hp.work_mem k).mpr (Or.inl ((List.mem_erase_of_ne hku).mpr (hm.pending k h0 ?_)))
      refine hcond.imp id fun ⟨p, x, hpx, hp', hedge⟩ => ⟨p, x, hpx, ?_, hedge⟩
      -- the removed parent is not `u`, of which `k` is no child
      rcases hm.sub.node_cases hpx with hmp | hmp
      · have hpu : p ≠ u := fun e => hch (Option.some.inj ((e ▸ hmp).symm.trans hn) ▸ hedge)
        rw [hp.removed.other p hpu, hp'] at hmp; cases hmp
      · exact hmp

theorem GcMid.final_nodes {m0 mf : Mgr} {ext : Nat → Nat} {W : Nat → Prop}
    (h : GcMid m0 ext W mf []) (h0 : RefExact m0 ext) (hW : ∀ k, W k → m0.ref[k]? = some 0)
    (k : Nat) (x : Nd) :
    mf.tbl.node? k = some x ↔ (m0.tbl.node? k = some x ∧ ¬ Dead m0.tbl ext W k) := by
  -- a `Dead` node that survived would have count 0 (no holder, no surviving parent) and so be
  -- `pending` on the empty worklist
  have hzero : ∀ k y, mf.tbl.node? k = some y → ext k = 0 →
      (∀ q z, m0.tbl.node? q = some z → (z.lo.natAbs = k ∨ z.hi.natAbs = k) → mf.tbl.node? q = none) →
      mf.ref[k]? = some 0 := by
    intro k y hk he hpar
    have hk2 := h.inv.invS.wf.ge_two _ _ hk
    refine h.inv.refExact.zero_iff.mpr ⟨by omega, by rw [hk]; rfl, ?_, he⟩
    refine indeg_eq_zero_iff.mpr fun q z hq hedge => ?_
    rw [hpar q z (h.sub.sub _ _ hq) hedge] at hq; cases hq
  have hdead : ∀ k, Dead m0.tbl ext W k → ∀ y, m0.tbl.node? k = some y → mf.tbl.node? k = none := by
    intro k hd
    induction hd with
    | @root k hw =>
      intro y hy
      rcases h.sub.node_cases hy with hk | hk
      · obtain ⟨-, -, hi0, he0⟩ := h0.zero_iff.mp (hW k hw)
        have := hzero k y hk he0 fun q z hq hedge => absurd hedge (indeg_eq_zero_iff.mp hi0 q z hq)
        cases h.pending k this (Or.inl hw)
      · exact hk
    | @cascade k p x hk1 he hp hedge _ ih =>
      intro y hy
      rcases h.sub.node_cases hy with hk | hk
      · have := hzero k y hk he fun q z hq hedge' => ih q z hq hedge' z hq
        cases h.pending k this (Or.inr ⟨p, x, hp, ih p x hp hedge x hp, hedge⟩)
      · exact hk
  constructor
  · intro hk
    refine ⟨h.sub.sub k x hk, fun hd => ?_⟩
    rw [hdead k hd x (h.sub.sub k x hk)] at hk; cases hk
  · rintro ⟨hk, hnd⟩
    rcases h.sub.node_cases hk with hf | hf
    · exact hf
    · exact absurd (h.removedDead k x hk hf) hnd

theorem GcMid.final_zero {m0 mf : Mgr} {ext : Nat → Nat} {W : Nat → Prop}
    (h : GcMid m0 ext W mf []) (h0 : RefExact m0 ext) {k : Nat} (hk : mf.ref[k]? = some 0) :
    m0.ref[k]? = some 0 ∧ ¬ W k := by
  have hpend := fun hc => List.not_mem_nil (h.pending k hk hc)
  obtain ⟨hk1, hnode, hi0, he0⟩ := h.inv.refExact.zero_iff.mp hk
  obtain ⟨x, hx⟩ := Option.isSome_iff_exists.mp hnode
  refine ⟨h0.zero_iff.mpr ⟨hk1, by rw [h.sub.sub k x hx]; rfl, ?_, he0⟩, fun hw => hpend (Or.inl hw)⟩
  -- a stored parent at the start would have been removed
  refine indeg_eq_zero_iff.mpr fun p y hp hedge => hpend (Or.inr ⟨p, y, hp, ?_, hedge⟩)
  rcases h.sub.node_cases hp with hp' | hp'
  · exact absurd hedge (indeg_eq_zero_iff.mp hi0 p y hp')
  · exact hp'

/-- the `while unused:` loop where `unused.pop()` may return ANY element of the set -/
inductive GcRun : Mgr → List Nat → Mgr → Prop
  | done (m : Mgr) : GcRun m [] m
  | step {m m' mf : Mgr} {work work' : List Nat} {u : Nat} :
      u ∈ work → gcStep u (work.erase u) m = (.ok work', m') → GcRun m' work' mf → GcRun m work mf

/-- any prefix of a run (intermediate states of the loop under an arbitrary pop order) -/
inductive GcSteps : Mgr → List Nat → Mgr → List Nat → Prop
  | refl (m : Mgr) (work : List Nat) : GcSteps m work m work
  | step {m m' m'' : Mgr} {work work' work'' : List Nat} {u : Nat} :
      u ∈ work → gcStep u (work.erase u) m = (.ok work', m') → GcSteps m' work' m'' work'' →
      GcSteps m work m'' work''

theorem GcRun.toSteps {m mf : Mgr} {work : List Nat} (h : GcRun m work mf) : GcSteps m work mf [] := by
  induction h with
  | done m => exact GcSteps.refl m []
  | step hu hs _ ih => exact GcSteps.step hu hs ih

theorem GcSteps.mid {m m' : Mgr} {work work' : List Nat} (hrun : GcSteps m work m' work')
    {m0 : Mgr} {ext : Nat → Nat} {W : Nat → Prop} (h : GcMid m0 ext W m work) : GcMid m0 ext W m' work' := by
  induction hrun with
  | refl => exact h
  | step hu hstep _ ih => exact ih (h.step hu hstep)

theorem GcRun.mid {m mf : Mgr} {work : List Nat} (hrun : GcRun m work mf)
    {m0 : Mgr} {ext : Nat → Nat} {W : Nat → Prop} (h : GcMid m0 ext W m work) : GcMid m0 ext W mf [] :=
  hrun.toSteps.mid h

/-- at EVERY intermediate state of the loop the structural invariant and exact counts hold
(with the same ledger `ext`) and only nodes were removed -/
theorem GcSteps.spec {m m' : Mgr} {work work' : List Nat} (hrun : GcSteps m work m' work') :
    ∀ {ext : Nat → Nat}, GcInv m ext work → GcInv m' ext work' ∧ GcSub m m' :=
  fun hi => ⟨(hrun.mid (GcMid.init hi)).inv, (hrun.mid (GcMid.init hi)).sub⟩

/-- every run keeps the invariant, only removes nodes, and (when started with a complete
worklist) leaves no node with count 0 -/
theorem GcRun.spec {m mf : Mgr} {work : List Nat} (hrun : GcRun m work mf) :
    ∀ {ext : Nat → Nat}, GcInv m ext work →
      GcInv mf ext [] ∧ GcSub m mf ∧ mf.cache = m.cache ∧ (GcComplete m work → ∀ k : Nat, mf.ref[k]? ≠ some 0) :=
  fun hi =>
    have h := hrun.mid (GcMid.init hi)
    ⟨h.inv, h.sub, h.cache, fun hc k hk =>
      (h.final_zero hi.refExact hk).2 (hc k (h.final_zero hi.refExact hk).1)⟩

/-- the model's head-popping loop is one particular run, and the fuel `succ.size` (the model
passes one more) is enough: every step removes a node -/
theorem gcLoop_run : ∀ (f : Nat) (m : Mgr) (ext : Nat → Nat) (work : List Nat), GcInv m ext work →
    m.tbl.succ.size ≤ f → ∃ mf, gcLoop f work m = (.ok (), mf) ∧ GcRun m work mf := by
  intro f
  induction f with
  | zero =>
    intro m ext work hi hf
    cases work with
    | nil => exact ⟨m, rfl, GcRun.done m⟩
    | cons u rest =>
      exfalso
      obtain ⟨n, m', work', -, -, hp, -⟩ := hi.step (u := u) (by simp)
      have := hp.size; omega
  | succ f ih =>
    intro m ext work hi hf
    cases work with
    | nil => exact ⟨m, rfl, GcRun.done m⟩
    | cons u rest =>
      obtain ⟨n, m', work', -, hrun, hp, hi'⟩ := hi.step (u := u) (by simp)
      rw [List.erase_cons_head] at hrun
      obtain ⟨mf, hl, hr⟩ := ih m' ext work' hi' (by have := hp.size; omega)
      refine ⟨mf, ?_, GcRun.step (u := u) (by simp) (by rw [List.erase_cons_head]; exact hrun) hr⟩
      show (gcStep u rest >>= fun work => gcLoop f work) m = _
      simp only [bind, M.bind', hrun]
      exact hl

end DD
