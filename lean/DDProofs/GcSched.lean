/-
  DDProofs.GcSched — schedule independence of `collect_garbage` (C06, part 5), full and
  rooted.  The Python worklist is a `set`; `GcRun` pops ANY element.  The set of removed nodes
  of every run is `Dead` (`GcMid.final_nodes`), hence the final node table is the same;
  everything else of the final state is determined by the node table (`RefExact`, `GcSub`), so
  any two runs end in the same state (`Mgr.Same`: equal field by field, maps compared by lookup).
-/
import DDProofs.GcSpec
open Std

namespace DD

/-- equal field by field, the maps compared by lookup: runs that erase in different orders need
not build equal trees -/
structure Mgr.Same (a b : Mgr) : Prop where
  nodes : ∀ k, a.tbl.node? k = b.tbl.node? k
  vars : a.tbl.vars = b.tbl.vars
  l2v : a.tbl.l2v = b.tbl.l2v
  pred : ∀ key : List Int, a.pred[key]? = b.pred[key]?
  ref : ∀ k : Nat, a.ref[k]? = b.ref[k]?
  minFree : a.minFree = b.minFree
  cache : ∀ key : List Int, a.cache[key]? = b.cache[key]?
  lastLen : a.lastLen = b.lastLen
  ctx : a.ctx = b.ctx
  fireIn : a.fireIn = b.fireIn
  sched : a.sched = b.sched
  roots : a.roots = b.roots

theorem gc_state_unique {m a b : Mgr} {ext : Nat → Nat}
    (hsa : GcSub m a) (hsb : GcSub m b) (hia : InvS a) (hib : InvS b)
    (hra : RefExact a ext) (hrb : RefExact b ext)
    (hn : ∀ k, a.tbl.node? k = b.tbl.node? k) (hc : ∀ key : List Int, a.cache[key]? = b.cache[key]?) :
    Mgr.Same a b := by
  refine ⟨hn, hsa.vars.trans hsb.vars.symm, hsa.l2v.trans hsb.l2v.symm, ?_, hra.ref_unique hrb hn, ?_, hc,
    hsa.lastLen.trans hsb.lastLen.symm, hsa.ctx.trans hsb.ctx.symm, hsa.fireIn.trans hsb.fireIn.symm,
    hsa.sched.trans hsb.sched.symm, hsa.roots.trans hsb.roots.symm⟩
  · -- an entry is gone in both when a node with this key was removed, and untouched in both otherwise
    intro key
    by_cases hex : ∃ k x, m.tbl.node? k = some x ∧ x.key = key ∧ a.tbl.node? k = none
    · obtain ⟨k, x, hk, hx, hak⟩ := hex
      rw [← hx, hsa.predGone k x hk hak, hsb.predGone k x hk (hn k ▸ hak)]
    · have hall : ∀ k x, m.tbl.node? k = some x → x.key = key → (a.tbl.node? k).isSome := by
        intro k x hk hx
        rcases hsa.node_cases hk with h | h
        · rw [h]; rfl
        · exact absurd ⟨k, x, hk, hx, h⟩ hex
      rw [hsa.predKeep key hall, hsb.predKeep key fun k x hk hx => hn k ▸ hall k x hk hx]
  · have key : ∀ {a b : Mgr}, GcSub m a → GcSub m b → InvS b → (∀ k, a.tbl.node? k = b.tbl.node? k) →
        a.minFree ≤ b.minFree := by
      intro a b hsa hsb hib hn
      rcases hsb.minIs with h | h
      · rw [h]; exact hsa.minLe
      · obtain ⟨x, hx⟩ := Option.isSome_iff_exists.mp h
        exact hsa.minRemoved _ x hx (by rw [hn]; exact hib.free)
    exact Nat.le_antisymm (key hsa hsb hib hn) (key hsb hsa hia (fun k => (hn k).symm))

/-- SCHEDULE INDEPENDENCE: two runs of the collection loop (arbitrary pop orders) from the
same state and worklists with the same elements end, after the cache reset, in the same state -/
theorem gc_runs_agree {m mf1 mf2 : Mgr} {ext : Nat → Nat} {W1 W2 : List Nat}
    (h1 : GcInv m ext W1) (h2 : GcInv m ext W2) (hW : ∀ k, k ∈ W1 ↔ k ∈ W2)
    (r1 : GcRun m W1 mf1) (r2 : GcRun m W2 mf2) :
    Mgr.Same mf1 mf2 ∧ Mgr.Same (gcFinish mf1) (gcFinish mf2) := by
  have e1 := r1.mid (GcMid.init h1)
  have e2 := r2.mid (GcMid.init h2)
  have hWeq : (fun k => k ∈ W1) = (fun k => k ∈ W2) := funext fun k => propext (hW k)
  have hn : ∀ k, mf1.tbl.node? k = mf2.tbl.node? k := by
    intro k
    apply Option.ext
    intro x
    rw [e1.final_nodes h1.refExact (fun k hk => h1.zero k hk),
        e2.final_nodes h2.refExact (fun k hk => h2.zero k hk), hWeq]
  have hs := gc_state_unique e1.sub e2.sub e1.inv.invS e2.inv.invS e1.inv.refExact e2.inv.refExact hn
    (fun key => by rw [e1.cache, e2.cache])
  exact ⟨hs, { hs with cache := fun _ => rfl }⟩

/-- a run never gets stuck and never fails: whichever element is popped, the step succeeds -/
theorem gc_progress {m : Mgr} {ext : Nat → Nat} {work : List Nat} (hi : GcInv m ext work)
    {u : Nat} (hu : u ∈ work) :
    ∃ work' m', gcStep u (work.erase u) m = (.ok work', m') ∧ GcInv m' ext work' ∧
      m'.tbl.succ.size + 1 = m.tbl.succ.size := by
  obtain ⟨n, m', work', -, hrun, hp, hi'⟩ := hi.step hu
  exact ⟨work', m', hrun, hi', hp.size⟩

/-- every maximal run of `collect_garbage(roots)` under an arbitrary
`set.pop()` order ends in the state computed by the model (which pops the list head) -/
theorem gc_any_schedule (roots : Option (List Int)) (m : Mgr) (ext : Nat → Nat)
    (hi : Inv m) (hr : RefExact m ext)
    (hroots : ∀ r ∈ gcRoots roots m, (m.ref[r.natAbs]?).isSome) :
    ∃ m', collectGarbage roots m = (.ok (), m') ∧
      ∀ (W : List Nat) (mf : Mgr), W.Nodup →
        (∀ k, k ∈ W ↔ (m.ref[k]? = some 0 ∧ ∃ r ∈ gcRoots roots m, r.natAbs = k)) →
        GcRun m W mf → Mgr.Same (gcFinish mf) m' := by
  obtain ⟨unused, mf0, hrun, hgr, hinv, hmem⟩ := collectGarbage_run roots m ext hi.toInvS hr hroots
  refine ⟨gcFinish mf0, hrun, ?_⟩
  intro W mf hnd hW hr'
  have hinvW : GcInv m ext W := ⟨hi.toInvS, hr, fun w hw => ((hW w).mp hw).1, hnd⟩
  exact (gc_runs_agree hinvW hinv (fun k => by rw [hW, hmem]) hr' hgr).2

/-- a failing root lookup (`KeyError`) leaves the manager untouched -/
theorem collectGarbage_error (roots : Option (List Int)) (m : Mgr) (e : Err)
    (h : (unusedOf (gcRoots roots m) m).1 = .error e) : collectGarbage roots m = (.error e, m) := by
  rw [collectGarbage_eq]
  have hs := unusedOf_state m (gcRoots roots m)
  unfold gcBody
  rcases hx : unusedOf (gcRoots roots m) m with ⟨e' | L, m1⟩ <;> rw [hx] at h hs
  · cases h
    cases hs
    rfl
  · cases h

end DD
