/-
  DDProofs.GcSpec — `collect_garbage` as a whole (C06, part 4): it terminates without
  error, what it leaves is exactly what is reachable from the nodes the user holds,
  counts stay exact, the computed table is empty, remaining nodes are unchanged and
  denote what they denoted.
-/
import DDProofs.GcLoop
import DDProofs.SatPick
open Std

namespace DD

theorem unusedOf_state (m : Mgr) : ∀ rs : List Int, (unusedOf rs m).2 = m
  | [] => rfl
  | r :: rest => by
    have ih := unusedOf_state m rest
    simp only [unusedOf, bind, M.bind', refOf]
    cases m.ref[r.natAbs]? with
    | none => rfl
    | some c =>
      dsimp only
      rcases hx : unusedOf rest m with ⟨e | L, m1⟩ <;> rw [hx] at ih
      · exact ih
      · dsimp only
        split <;> exact ih

theorem unusedOf_spec (m : Mgr) : ∀ rs : List Int, (∀ r ∈ rs, (m.ref[r.natAbs]?).isSome) →
    ∃ L, unusedOf rs m = (.ok L, m) ∧ L.Nodup ∧
      ∀ k, k ∈ L ↔ ∃ r ∈ rs, r.natAbs = k ∧ m.ref[k]? = some 0 ∧ k ≠ 1 := by
  intro rs
  induction rs with
  | nil => intro _; exact ⟨[], rfl, List.nodup_nil, by simp⟩
  | cons r rest ih =>
    intro hall
    obtain ⟨L, hL, hnd, hmem⟩ := ih (fun r hr => hall r (by simp [hr]))
    obtain ⟨c, hc⟩ := Option.isSome_iff_exists.mp (hall r (by simp))
    refine ⟨if (c = 0 && r.natAbs ≠ 1) = true then pushNew L r.natAbs else L, ?_, nodup_pushIf _ _ _ hnd, fun k => ?_⟩
    · simp only [unusedOf, bind, M.bind', refOf_eq m r c hc, hL]
      split <;> rfl
    · rw [mem_pushIf, hmem]
      simp only [List.mem_cons, or_and_right, exists_or, exists_eq_left, Bool.and_eq_true, decide_eq_true_eq]
      refine or_comm.trans (or_congr_left ⟨?_, ?_⟩)
      · rintro ⟨rfl, rfl, h1⟩; exact ⟨rfl, hc, h1⟩
      · rintro ⟨rfl, h0, h1⟩; exact ⟨rfl, Option.some.inj (hc.symm.trans h0), h1⟩

/-- the end of `collect_garbage`: `self._ite_table = dict()` -/
def gcFinish (mf : Mgr) : Mgr := { mf with cache := {} }

/-- the list of candidate roots scanned by `collect_garbage` -/
def gcRoots (roots : Option (List Int)) (m : Mgr) : List Int :=
  match roots with
  | some r => r
  | none => m.ref.keys.map (fun (k : Nat) => (k : Int))

/-- `collect_garbage` without the monadic notation -/
def gcBody (rs : List Int) (m : Mgr) : Except Err Unit × Mgr :=
  match unusedOf rs m with
  | (.error e, m1) => (.error e, m1)
  | (.ok unused, m1) =>
    match gcLoop (m.tbl.succ.size + 1) unused m1 with
    | (.error e, mf) => (.error e, mf)
    | (.ok _, mf) =>
      if (gcFinish mf).len ≤ m.len then (.ok (), gcFinish mf)
      else (.error .assertion, gcFinish mf)

theorem collectGarbage_eq (roots : Option (List Int)) (m : Mgr) :
    collectGarbage roots m = gcBody (gcRoots roots m) m := by
  cases roots <;>
  · simp only [collectGarbage, gcRoots, gcBody, bind, M.bind', M.get, M.modify, M.assert, pure]
    generalize unusedOf _ m = r1
    rcases r1 with ⟨(e|L), m1⟩
    · rfl
    simp only []
    generalize gcLoop (m.tbl.succ.size + 1) L m1 = r2
    rcases r2 with ⟨(e|x), mf⟩
    · rfl
    simp only []
    by_cases h : (gcFinish mf).len ≤ m.len
    · rw [if_pos h]; simp only [gcFinish] at h ⊢; simp [h, M.pure']
    · rw [if_neg h]; simp only [gcFinish] at h ⊢; simp [h, M.throw]

theorem collectGarbage_run (roots : Option (List Int)) (m : Mgr) (ext : Nat → Nat)
    (hs : InvS m) (hr : RefExact m ext)
    (hroots : ∀ r ∈ gcRoots roots m, (m.ref[r.natAbs]?).isSome) :
    ∃ unused mf, collectGarbage roots m = (.ok (), gcFinish mf) ∧ GcRun m unused mf ∧ GcInv m ext unused ∧
      (∀ k, k ∈ unused ↔ (m.ref[k]? = some 0 ∧ ∃ r ∈ gcRoots roots m, r.natAbs = k)) := by
  obtain ⟨L, hL, hnd, hmem⟩ := unusedOf_spec m _ hroots
  have hzero : ∀ w ∈ L, m.ref[w]? = some 0 := fun w hw => by
    obtain ⟨r, -, -, h, -⟩ := (hmem w).mp hw; exact h
  have hinv : GcInv m ext L := ⟨hs, hr, hzero, hnd⟩
  obtain ⟨mf, hloop, hrun⟩ := gcLoop_run (m.tbl.succ.size + 1) m ext L hinv (by omega)
  obtain ⟨-, hsub, -, -⟩ := hrun.spec hinv
  refine ⟨L, mf, ?_, hrun, hinv, ?_⟩
  · rw [collectGarbage_eq]
    simp only [gcBody, hL, hloop]
    have := hsub.size
    rw [if_pos (by simp only [gcFinish, Mgr.len]; omega)]
  · intro k
    rw [hmem]
    exact ⟨fun ⟨r, hr', h1, h2, _⟩ => ⟨h2, r, hr', h1⟩,
      fun ⟨h1, r, hr', h3⟩ => ⟨r, hr', h3, h1, (hr.zero_iff.mp h1).1⟩⟩

theorem gcRoots_none_mem (m : Mgr) (k : Nat) : (∃ r ∈ gcRoots none m, r.natAbs = k) ↔ (m.ref[k]?).isSome := by
  simp only [gcRoots, List.mem_map]
  constructor
  · rintro ⟨r, ⟨j, hj, rfl⟩, h⟩
    rw [TreeMap.mem_keys, TreeMap.mem_iff_isSome_getElem?] at hj
    simp only [Int.natAbs_natCast] at h
    rw [← h]; exact hj
  · intro h
    refine ⟨(k : Int), ⟨k, ?_, rfl⟩, by simp⟩
    rw [TreeMap.mem_keys, TreeMap.mem_iff_isSome_getElem?]; exact h

/-- nodes reachable from a set `S` of node numbers through stored edges of `t` -/
inductive GcReach (t : Tbl) (S : Nat → Prop) : Nat → Prop
  | root {u : Nat} : S u → GcReach t S u
  | lo {k : Nat} {n : Nd} : GcReach t S k → t.node? k = some n → GcReach t S n.lo.natAbs
  | hi {k : Nat} {n : Nd} : GcReach t S k → t.node? k = some n → GcReach t S n.hi.natAbs

/-- the user holds a reference to `u` -/
def GcHeld (ext : Nat → Nat) (u : Nat) : Prop := 0 < ext u

theorem GcReach.closed {t : Tbl} {S C : Nat → Prop} (hroot : ∀ u, S u → C u)
    (hstep : ∀ k n, C k → t.node? k = some n → C n.lo.natAbs ∧ C n.hi.natAbs) {u : Nat}
    (h : GcReach t S u) : C u := by
  induction h with
  | root h => exact hroot _ h
  | lo _ hn ih => exact (hstep _ _ ih hn).1
  | hi _ hn ih => exact (hstep _ _ ih hn).2

theorem GcReach.mono {t t' : Tbl} {S S' : Nat → Prop} (hS : ∀ u, S u → S' u)
    (ht : ∀ k n, t.node? k = some n → t'.node? k = some n) {u : Nat} (h : GcReach t S u) :
    GcReach t' S' u :=
  h.closed (fun u hu => .root (hS u hu)) fun _ _ hk hn => ⟨.lo hk (ht _ _ hn), .hi hk (ht _ _ hn)⟩

theorem GcSub.ext {m0 m : Mgr} (h : GcSub m0 m) : Ext m.tbl m0.tbl :=
  ⟨by simp only [Tbl.nvars, h.vars], h.sub⟩

theorem den_sub {m0 m : Mgr} (h : GcSub m0 m) (hw : WF m.tbl) (u : Int) (hu : m.tbl.Mem u) (a : Asg) :
    den m.tbl u a = den m0.tbl u a :=
  (den_ext h.ext hw u a hu).symm

theorem denN_sub {m0 m : Mgr} (h : GcSub m0 m) (hw : WF m.tbl) (u : Int) (hu : m.tbl.Mem u) (σ : AsgN) :
    denN m.tbl u σ = denN m0.tbl u σ :=
  denN_of_same_l2v h.l2v u σ (den_sub h hw u hu)

/-- everything reachable from a held node survives any sequence of collection steps -/
theorem reach_survives {m0 m : Mgr} {ext : Nat → Nat} (hsub : GcSub m0 m) (hs : InvS m) (hr : RefExact m ext)
    (h0 : InvS m0) {u : Nat} (hu : GcReach m0.tbl (GcHeld ext) u) : u = 1 ∨ (m.tbl.node? u).isSome := by
  refine hu.closed (fun u h => hr.mem_of_ext_pos h) fun k n hk hn => ?_
  have hk2 := h0.wf.ge_two _ _ hn
  rcases hsub.node_cases hn with hx | hx
  · exact ⟨hs.wf.lo_mem _ _ hx, hs.wf.hi_mem _ _ hx⟩
  · rw [hx] at hk; simp at hk; omega

theorem reach_node {m0 m : Mgr} {ext : Nat → Nat} (hsub : GcSub m0 m) (hs : InvS m) (hr : RefExact m ext)
    (h0 : InvS m0) {u : Nat} (hu : GcReach m0.tbl (GcHeld ext) u) {n : Nd} (hn : m0.tbl.node? u = some n) :
    m.tbl.node? u = some n := by
  rcases hsub.node_cases hn with hx | hx
  · exact hx
  · rcases reach_survives hsub hs hr h0 hu with h1 | h1
    · have := h0.wf.ge_two _ _ hn; omega
    · rw [hx] at h1; cases h1

/-- for a reference `u` of either sign; at `(u : Int)` with `u : Nat` the statement reads
`(u = 1 ∨ (m.tbl.node? u).isSome) ∧ …` up to unfolding `Tbl.Mem` -/
theorem reach_den {m0 m : Mgr} {ext : Nat → Nat} (hsub : GcSub m0 m) (hs : InvS m) (hr : RefExact m ext)
    (h0 : InvS m0) {u : Int} (hu : GcReach m0.tbl (GcHeld ext) u.natAbs) :
    m.tbl.Mem u ∧ ∀ a, den m.tbl u a = den m0.tbl u a :=
  have hmem : m.tbl.Mem u := reach_survives hsub hs hr h0 hu
  ⟨hmem, den_sub hsub hs.wf.toWF u hmem⟩

/-- the nodes that protect their descendants in `collect_garbage(roots)`: the nodes the user
holds, and the nodes of count 0 that are NOT in the start worklist `W` (count 0 but not
among the given roots: the rooted collection does not look at them). -/
def GcKeep (m : Mgr) (ext : Nat → Nat) (W : Nat → Prop) (u : Nat) : Prop :=
  0 < ext u ∨ (m.ref[u]? = some 0 ∧ ¬ W u)

theorem Dead.parents {m : Mgr} {ext : Nat → Nat} {W : Nat → Prop} (hr : RefExact m ext)
    (hW : ∀ k, W k → m.ref[k]? = some 0) {k : Nat} (hd : Dead m.tbl ext W k) :
    ext k = 0 ∧ ∀ q y, m.tbl.node? q = some y → (y.lo.natAbs = k ∨ y.hi.natAbs = k) → Dead m.tbl ext W q := by
  cases hd with
  | root hw =>
    obtain ⟨-, -, hi0, he0⟩ := hr.zero_iff.mp (hW k hw)
    exact ⟨he0, fun q y hq hc => absurd hc (indeg_eq_zero_iff.mp hi0 q y hq)⟩
  | cascade _ he _ _ hall => exact ⟨he, hall⟩

theorem reach_not_dead {m : Mgr} {ext : Nat → Nat} {W : Nat → Prop} (hr : RefExact m ext)
    (hW : ∀ k, W k → m.ref[k]? = some 0) {u : Nat} (hu : GcReach m.tbl (GcKeep m ext W) u) :
    ¬ Dead m.tbl ext W u := by
  refine hu.closed (C := fun u => ¬ Dead m.tbl ext W u) (fun u hk hd => ?_) fun k n hk hn =>
    ⟨fun hd => hk ((hd.parents hr hW).2 k n hn (Or.inl rfl)), fun hd => hk ((hd.parents hr hW).2 k n hn (Or.inr rfl))⟩
  rcases hk with he | ⟨h0, hnw⟩
  · have := (hd.parents hr hW).1; omega
  · cases hd with
    | root hw => exact hnw hw
    | cascade _ _ hp hch _ => exact indeg_eq_zero_iff.mp (hr.zero_iff.mp h0).2.2.1 _ _ hp hch

theorem not_dead_reach {m : Mgr} {ext : Nat → Nat} {W : Nat → Prop} (hs : InvS m) (hr : RefExact m ext)
    {u : Nat} {n : Nd} (hn : m.tbl.node? u = some n) (hnd : ¬ Dead m.tbl ext W u) :
    GcReach m.tbl (GcKeep m ext W) u := by
  induction hl : n.lvl using Nat.strongRecOn generalizing u n with
  | _ l ih =>
    have hu1 : u ≠ 1 := by have := hs.wf.ge_two _ _ hn; omega
    by_cases he : 0 < ext u
    · exact .root (Or.inl he)
    by_cases hz : m.ref[u]? = some 0
    · exact .root (Or.inr ⟨hz, fun hw => hnd (.root hw)⟩)
    -- `u` has a stored parent, and one of its parents is outside the removed set (no cascade)
    have hpos : 0 < indeg m.tbl u := Nat.pos_of_ne_zero fun hi =>
      hz (hr.zero_iff.mpr ⟨hu1, by rw [hn]; rfl, hi, by omega⟩)
    obtain ⟨p, x, hp, hch⟩ := indeg_pos_iff.mp hpos
    obtain ⟨q, y, hq, hc, hqd⟩ : ∃ q y, m.tbl.node? q = some y ∧ (y.lo.natAbs = u ∨ y.hi.natAbs = u) ∧
        ¬ Dead m.tbl ext W q := by
      apply Classical.byContradiction
      intro hno
      exact hnd (.cascade hu1 (by omega) hp hch fun q y hq hc =>
        Classical.byContradiction fun hq' => hno ⟨q, y, hq, hc, hq'⟩)
    -- that parent sits at a smaller level
    have hlev : ∀ e : Int, e.natAbs = u → m.tbl.levelOf e = n.lvl := fun e he' =>
      levelOf_node _ _ _ (by rw [he']; exact hu1) (by rw [he']; exact hn)
    rcases hc with hc | hc
    · have hlt := hs.wf.lo_lt _ _ hq
      rw [hlev _ hc] at hlt
      rw [← hc]; exact .lo (ih y.lvl (by omega) hq hqd rfl) hq
    · have hlt := hs.wf.hi_lt _ _ hq
      rw [hlev _ hc] at hlt
      rw [← hc]; exact .hi (ih y.lvl (by omega) hq hqd rfl) hq

/-- the removed set of `collect_garbage(roots)`, by reachability: a stored node is removed
iff it is NOT reachable from a node the user holds or from a count-0 node outside the roots -/
theorem dead_iff_unreachable {m : Mgr} {ext : Nat → Nat} {W : Nat → Prop} (hs : InvS m) (hr : RefExact m ext)
    (hW : ∀ k, W k → m.ref[k]? = some 0) (u : Nat) (n : Nd) (hn : m.tbl.node? u = some n) :
    Dead m.tbl ext W u ↔ ¬ GcReach m.tbl (GcKeep m ext W) u :=
  ⟨fun hd hre => reach_not_dead hr hW hre hd,
   fun hnr => Classical.byContradiction fun hnd => hnr (not_dead_reach hs hr hn hnd)⟩

/-- when every count-0 node is among the roots (in particular for `roots = None`), the
protecting nodes are exactly the held nodes -/
theorem gcReach_keep_full {m : Mgr} {ext : Nat → Nat} {W : Nat → Prop}
    (hall : ∀ k, m.ref[k]? = some 0 → W k) (u : Nat) :
    GcReach m.tbl (GcKeep m ext W) u ↔ GcReach m.tbl (GcHeld ext) u :=
  ⟨GcReach.mono (fun _ h => h.resolve_right fun h => h.2 (hall _ h.1)) fun _ _ h => h,
   GcReach.mono (fun _ h => Or.inl h) fun _ _ h => h⟩

/-- with an empty start worklist nothing is removed: a cascade needs a removed parent -/
theorem Dead.not_of_empty {t : Tbl} {ext : Nat → Nat} {k : Nat} : ¬ Dead t ext (fun _ => False) k := by
  intro hd
  induction hd with
  | root h => exact h
  | cascade _ _ hp hch _ ih => exact ih _ _ hp hch

theorem survivor_reachable {m0 m : Mgr} {ext : Nat → Nat} (hsub : GcSub m0 m) (hs : InvS m) (hr : RefExact m ext)
    (hnz : ∀ k : Nat, m.ref[k]? ≠ some 0) {u : Nat} {n : Nd} (hn : m.tbl.node? u = some n) :
    GcReach m0.tbl (GcHeld ext) u :=
  (not_dead_reach hs hr hn Dead.not_of_empty).mono
    (fun u h => h.resolve_right fun h => hnz u h.1) hsub.sub

/-- the start worklist of `collect_garbage(roots)`: the given roots whose count is 0
(every node, when `roots` is `None`) -/
def gcStart (roots : Option (List Int)) (m : Mgr) (k : Nat) : Prop :=
  m.ref[k]? = some 0 ∧ ∃ r ∈ gcRoots roots m, r.natAbs = k

/-- what a collection (full or rooted) establishes -/
structure GcPost (m : Mgr) (ext : Nat → Nat) (W : Nat → Prop) (m' : Mgr) : Prop where
  inv : Inv m'
  refExact : RefExact m' ext
  sub : GcSub m m'
  cacheEmpty : m'.cache = {}
  /-- exactly the count-0 cascade from the start worklist is removed -/
  nodes : ∀ k x, m'.tbl.node? k = some x ↔ (m.tbl.node? k = some x ∧ ¬ Dead m.tbl ext W k)
  zero : ∀ k, m'.ref[k]? = some 0 → m.ref[k]? = some 0 ∧ ¬ W k

/-- no node with reference count 0 (what a full collection establishes) -/
def NoGarbage (m : Mgr) : Prop := ∀ k : Nat, m.ref[k]? ≠ some 0

/-- what a full collection establishes -/
structure GcFullPost (m : Mgr) (ext : Nat → Nat) (m' : Mgr) : Prop where
  inv : Inv m'
  refExact : RefExact m' ext
  sub : GcSub m m'
  cacheEmpty : m'.cache = {}
  noZero : ∀ k : Nat, m'.ref[k]? ≠ some 0

theorem gcFinish_post {m mf : Mgr} {ext : Nat → Nat} (hi : GcInv mf ext []) (hsub : GcSub m mf) :
    Inv (gcFinish mf) ∧ RefExact (gcFinish mf) ext ∧ GcSub m (gcFinish mf) := by
  have hr : RefExact (gcFinish mf) ext := { hi.refExact with }
  exact ⟨Inv.of_parts { hi.invS with } hr fun g u v w h => by simp [gcFinish] at h, hr, { hsub with }⟩

/-- `collect_garbage(roots)`: terminates without error, removes exactly the count-0 cascade
from the roots, keeps the invariant and exact counts, empties the computed table -/
theorem collectGarbage_rooted_spec (roots : Option (List Int)) (m : Mgr) (ext : Nat → Nat)
    (hi : Inv m) (hr : RefExact m ext)
    (hroots : ∀ r ∈ gcRoots roots m, (m.ref[r.natAbs]?).isSome) :
    ∃ m', collectGarbage roots m = (.ok (), m') ∧ GcPost m ext (gcStart roots m) m' := by
  obtain ⟨unused, mf, hrun, hgr, hinv, hmem⟩ := collectGarbage_run roots m ext hi.toInvS hr hroots
  have e := hgr.mid (GcMid.init hinv)
  rw [show (· ∈ unused) = gcStart roots m from funext fun k => propext (hmem k)] at e
  obtain ⟨a, b, c⟩ := gcFinish_post e.inv e.sub
  exact ⟨gcFinish mf, hrun, a, b, c, rfl, e.final_nodes hr fun k hk => hk.1, fun k hk => e.final_zero hr hk⟩

theorem GcPost.reach_den {m m' : Mgr} {ext : Nat → Nat} {W : Nat → Prop} (h : GcPost m ext W m')
    (h0 : InvS m) {u : Nat} (hu : GcReach m.tbl (GcHeld ext) u) :
    (u = 1 ∨ (m'.tbl.node? u).isSome) ∧ ∀ a, den m'.tbl (u : Int) a = den m.tbl (u : Int) a :=
  DD.reach_den (u := (u : Int)) h.sub h.inv.toInvS h.refExact h0 hu

theorem GcPost.den_eq {m m' : Mgr} {ext : Nat → Nat} {W : Nat → Prop} (h : GcPost m ext W m')
    (u : Int) (hu : m'.tbl.Mem u) (a : Asg) : den m'.tbl u a = den m.tbl u a :=
  den_sub h.sub h.inv.wf.toWF u hu a

theorem GcPost.nodes_reach {m m' : Mgr} {ext : Nat → Nat} {W : Nat → Prop} (h : GcPost m ext W m')
    (h0 : InvS m) (hr : RefExact m ext) (hW : ∀ k, W k → m.ref[k]? = some 0) (k : Nat) (x : Nd) :
    m'.tbl.node? k = some x ↔ (m.tbl.node? k = some x ∧ GcReach m.tbl (GcKeep m ext W) k) := by
  rw [h.nodes]
  exact and_congr_right fun h1 => by rw [dead_iff_unreachable h0 hr hW k x h1, Classical.not_not]

theorem GcPost.nodes_held {m m' : Mgr} {ext : Nat → Nat} {W : Nat → Prop} (h : GcPost m ext W m')
    (h0 : InvS m) (hr : RefExact m ext) (hW : ∀ k, W k → m.ref[k]? = some 0)
    (hall : ∀ k, m.ref[k]? = some 0 → W k) (k : Nat) (x : Nd) :
    m'.tbl.node? k = some x ↔ (m.tbl.node? k = some x ∧ GcReach m.tbl (GcHeld ext) k) := by
  rw [h.nodes_reach h0 hr hW, gcReach_keep_full hall]

theorem gcRoots_none_isSome (m : Mgr) : ∀ r ∈ gcRoots none m, (m.ref[r.natAbs]?).isSome :=
  fun r hr => (gcRoots_none_mem m r.natAbs).mp ⟨r, hr, rfl⟩

/-- `collect_garbage()` (full): terminates without error and establishes `GcFullPost` -/
theorem collectGarbage_spec (m : Mgr) (ext : Nat → Nat) (hi : Inv m) (hr : RefExact m ext) :
    ∃ m', collectGarbage none m = (.ok (), m') ∧ GcFullPost m ext m' := by
  obtain ⟨m', hrun, hp⟩ := collectGarbage_rooted_spec none m ext hi hr (gcRoots_none_isSome m)
  refine ⟨m', hrun, hp.inv, hp.refExact, hp.sub, hp.cacheEmpty, fun k hk => ?_⟩
  obtain ⟨h0, hnw⟩ := hp.zero k hk
  exact hnw ⟨h0, (gcRoots_none_mem m k).mpr (by rw [h0]; rfl)⟩

/-- the remaining nodes are exactly the nodes reachable from a held node, each unchanged -/
theorem GcFullPost.nodes {m m' : Mgr} {ext : Nat → Nat} (h : GcFullPost m ext m') (h0 : InvS m)
    (u : Nat) (n : Nd) :
    m'.tbl.node? u = some n ↔ (m.tbl.node? u = some n ∧ GcReach m.tbl (GcHeld ext) u) :=
  ⟨fun hn => ⟨h.sub.sub u n hn, survivor_reachable h.sub h.inv.toInvS h.refExact h.noZero hn⟩,
   fun ⟨hn, hre⟩ => reach_node h.sub h.inv.toInvS h.refExact h0 hre hn⟩

theorem GcFullPost.mem_iff {m m' : Mgr} {ext : Nat → Nat} (h : GcFullPost m ext m') (h0 : InvS m) (u : Nat) :
    (u = 1 ∨ (m'.tbl.node? u).isSome) ↔ (u = 1 ∨ GcReach m.tbl (GcHeld ext) u) := by
  constructor
  · rintro (h1 | h1)
    · exact Or.inl h1
    · obtain ⟨x, hx⟩ := Option.isSome_iff_exists.mp h1
      exact Or.inr ((h.nodes h0 u x).mp hx).2
  · rintro (h1 | h1)
    · exact Or.inl h1
    · exact reach_survives h.sub h.inv.toInvS h.refExact h0 h1

theorem GcFullPost.den_eq {m m' : Mgr} {ext : Nat → Nat} (h : GcFullPost m ext m')
    (u : Int) (hu : m'.tbl.Mem u) (a : Asg) : den m'.tbl u a = den m.tbl u a :=
  den_sub h.sub h.inv.wf.toWF u hu a

theorem GcFullPost.held {m m' : Mgr} {ext : Nat → Nat} (hp : GcFullPost m ext m') (hI : Inv m) {u : Int}
    (hu : 0 < ext u.natAbs) : m'.tbl.Mem u ∧ ∀ a, den m'.tbl u a = den m.tbl u a :=
  reach_den hp.sub hp.inv.toInvS hp.refExact hI.toInvS (.root hu)

theorem GcFullPost.pos {m m' : Mgr} {ext : Nat → Nat} (h : GcFullPost m ext m') {u c : Nat}
    (hc : m'.ref[u]? = some c) : 0 < c :=
  Nat.pos_of_ne_zero fun h0 => h.noZero u (h0 ▸ hc)

/-- whenever `collect_garbage` returns normally the computed table is empty (no hypothesis) -/
theorem collectGarbage_ok_cache (roots : Option (List Int)) (m m' : Mgr)
    (h : collectGarbage roots m = (.ok (), m')) : ∀ key : List Int, m'.cache[key]? = none := by
  rw [collectGarbage_eq] at h
  unfold gcBody at h
  split at h
  · cases h
  · split at h
    · cases h
    · split at h
      · cases h; intro key; simp [gcFinish]
      · cases h

/-- a collection in a state with exact counts succeeds, leaves EXACTLY the nodes reachable from a
held node (unchanged, same functions), no counter at zero, and an empty computed table -/
theorem collectGarbage_exact (m : Mgr) (ext : Nat → Nat) (hI : Inv m) (hr : RefExact m ext) :
    ∃ m', collectGarbage none m = (.ok (), m') ∧ GcFullPost m ext m' ∧
      (∀ u n, m'.tbl.node? u = some n ↔ (m.tbl.node? u = some n ∧ GcReach m.tbl (GcHeld ext) u)) ∧
      (∀ (u : Int), m'.tbl.Mem u → ∀ a, den m'.tbl u a = den m.tbl u a) ∧
      (∀ (u c : Nat), m'.ref[u]? = some c → 0 < c) ∧
      (∀ key : List Int, m'.cache[key]? = none) := by
  obtain ⟨m', he, hp⟩ := collectGarbage_spec m ext hI hr
  exact ⟨m', he, hp, hp.nodes hI.toInvS, hp.den_eq, fun _ _ => hp.pos,
    collectGarbage_ok_cache none _ m' he⟩

/-- `_min_free` is the least unused node number ≥ 2 -/
def LeastFree (m : Mgr) : Prop := ∀ k, 2 ≤ k → k < m.minFree → (m.tbl.node? k).isSome

theorem GcSub.leastFree {m m' : Mgr} (h : GcSub m m') (hl : LeastFree m) : LeastFree m' := by
  intro k hk2 hk
  have hle := h.minLe
  obtain ⟨x, hx⟩ := Option.isSome_iff_exists.mp (hl k hk2 (by omega))
  rcases h.node_cases hx with hk' | hk'
  · rw [hk']; rfl
  · have := h.minRemoved k x hx hk'; omega

end DD
