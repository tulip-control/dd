/-
  DDProofs.GcStep — one iteration of the `while unused:` loop of `collect_garbage`
  (C06, part 2): popping a node with count 0 removes it from `_succ`, `_pred`, `_ref`,
  decrements its children, keeps the counts exact and keeps the structural invariant.
  The computed table is NOT valid during the loop (it is cleared at the end), so the
  loop invariant `InvS` is `Inv` without the cache clause.
-/
import DDProofs.RefErase
import DDProofs.SatList
open Std

namespace DD

/-- the structural part of `Inv` (no cache clause; the `ref` domain is part of `RefExact`) -/
structure InvS (m : Mgr) : Prop where
  wf : WFU m.tbl
  pred : ∀ (n : Nd) (u : Nat), m.pred[n.key]? = some u ↔ m.tbl.node? u = some n
  freeGe : 2 ≤ m.minFree
  free : m.tbl.node? m.minFree = none

theorem Inv.toInvS {m : Mgr} (h : Inv m) : InvS m := ⟨h.wf, h.pred, h.freeGe, h.free⟩

theorem Inv.of_parts {m : Mgr} {ext : Nat → Nat} (hs : InvS m) (hr : RefExact m ext)
    (hc : ∀ g u v w, m.cache[iteKey g u v]? = some w → CacheEntryOK m.tbl g u v w) : Inv m := by
  refine ⟨hs.wf, hs.pred, hs.freeGe, hs.free, ?_, ?_, hc⟩
  · rw [TreeMap.contains_eq_isSome_getElem?]; exact (hr.dom 1).mpr (Or.inl rfl)
  · intro u n hn
    rw [TreeMap.contains_eq_isSome_getElem?]; exact (hr.dom u).mpr (Or.inr (by simp [hn]))

theorem WFU.of_sub {t t' : Tbl} (hw : WFU t) (hE : Ext t' t) (hc : t'.Closed) : WFU t' := by
  refine ⟨WF.of_nodeOK fun k x hk => ?_,
    fun k k' x hk hk' => hw.unique _ _ _ (hE.nodes k x hk) (hE.nodes k' x hk')⟩
  have h := hw.toWF.nodeOK (hE.nodes k x hk)
  obtain ⟨mlo, mhi⟩ := hc k x hk
  exact ⟨hw.ge_two _ _ (hE.nodes k x hk), by rw [hE.nvars]; exact h.lvl_lt, mlo, mhi,
    by rw [← hE.levelOf mlo]; exact h.lo_lt, by rw [← hE.levelOf mhi]; exact h.hi_lt, h.hi_pos, h.lo_ne_hi⟩

theorem InvS.erase {m m' : Mgr} {u : Nat} {n : Nd} (hs : InvS m) (hrem : m'.tbl.AddedAt m.tbl u n)
    (hv : m'.tbl.nvars = m.tbl.nvars) (hi0 : indeg m.tbl u = 0)
    (hpred : ∀ key, m'.pred[key]? = if key = n.key then none else m.pred[key]?)
    (hmin : m'.minFree = min u m.minFree) : InvS m' := by
  have hpar := indeg_eq_zero_iff.mp hi0
  have hmem : ∀ (e : Int), m.tbl.Mem e → e.natAbs ≠ u → m'.tbl.Mem e := fun e he hne =>
    he.imp id fun he => by rw [← hrem.other _ hne]; exact he
  refine ⟨hs.wf.of_sub ⟨hv, fun k x => hrem.sub⟩ fun k x hk => ?_, fun x k => ?_, ?_, ?_⟩
  · have hk0 := hrem.sub hk
    exact ⟨hmem _ (hs.wf.lo_mem _ _ hk0) fun e => hpar k x hk0 (Or.inl e),
      hmem _ (hs.wf.hi_mem _ _ hk0) fun e => hpar k x hk0 (Or.inr e)⟩
  · -- the nodes left are the nodes other than `n`, which sat at `u` only
    have hiff : m'.tbl.node? k = some x ↔ m.tbl.node? k = some x ∧ x ≠ n := by
      constructor
      · intro hk
        refine ⟨hrem.sub hk, fun e => ?_⟩
        rw [hs.wf.unique _ _ _ (hrem.sub hk) (e ▸ hrem.new), hrem.old] at hk
        cases hk
      · rintro ⟨hk, hne⟩
        rw [← hrem.other k fun e => hne (Option.some.inj ((e ▸ hk).symm.trans hrem.new))]
        exact hk
    rw [hpred, hiff, ← hs.pred x k]
    by_cases hx : x.key = n.key
    · simp [Nd.key_inj hx]
    · have hne : x ≠ n := fun e => hx (e ▸ rfl)
      simp [hx, hne]
  · have := hs.freeGe; have := hs.wf.ge_two _ _ hrem.new; omega
  · rw [hmin]
    by_cases h : u ≤ m.minFree
    · rw [Nat.min_eq_left h]; exact hrem.old
    · rw [Nat.min_eq_right (by omega), ← hrem.other _ (by omega)]; exact hs.free

def gcErase (m : Mgr) (u : Nat) (n : Nd) : Mgr :=
  { m with tbl := { m.tbl with succ := m.tbl.succ.erase u }, pred := m.pred.erase n.key,
           ref := m.ref.erase u, minFree := min u m.minFree }

/-- the worklist after one step: children whose count dropped to 0 are added -/
def gcWork (n : Nd) (work : List Nat) (ra rb : Nat) : List Nat :=
  let rv := if n.hi.natAbs = n.lo.natAbs then rb else ra
  let work1 := if rv = 0 && n.lo.natAbs ≠ 1 then pushNew work n.lo.natAbs else work
  if rb = 0 && n.hi ≠ 1 then pushNew work1 n.hi.natAbs else work1

theorem getElem?_insert_insert_left (r : TreeMap Nat Nat) (a b x y : Nat) :
    ((r.insert a x).insert b y)[a]? = some (if b = a then y else x) := by
  rw [TreeMap.getElem?_insert, TreeMap.getElem?_insert_self]
  by_cases h : b = a <;> simp [h]

theorem gcStep_run (m : Mgr) (u : Nat) (n : Nd) (work : List Nat) (ra rb : Nat) (h1 : u ≠ 1)
    (hn : m.tbl.succ[u]? = some n) (hp : m.pred[n.key]? = some u) (hr : m.ref[u]? = some 0)
    (hf : 1 < min u m.minFree) (hpos : 0 < n.hi)
    (hra : (m.ref.erase u)[n.lo.natAbs]? = some (ra + 1))
    (hrb : ((m.ref.erase u).insert n.lo.natAbs ra)[n.hi.natAbs]? = some (rb + 1)) :
    gcStep u work m = (.ok (gcWork n work ra rb),
      { gcErase m u n with ref := ((m.ref.erase u).insert n.lo.natAbs ra).insert n.hi.natAbs rb }) := by
  simp only [gcStep, bind, M.bind', M.get, M.modify, M.ofOption, M.assert, pure, M.pure', h1, if_false, hn, hp, hr]
  simp only [decide_true, if_true, M.pure', hf]
  rw [decref_eq _ n.lo ra hra]
  simp only []
  rw [decref_eq _ n.hi rb hrb]
  simp only []
  rw [refOf_eq _ n.lo _ (getElem?_insert_insert_left _ _ _ _ _)]
  simp only []
  have e3 : (((m.ref.erase u).insert n.lo.natAbs ra).insert n.hi.natAbs rb)[n.hi.toNat]? = some rb := by
    rw [show n.hi.toNat = n.hi.natAbs by omega]; exact TreeMap.getElem?_insert_self
  have hneg : ¬ n.hi < 0 := by omega
  simp only [refOfExact, hneg, if_false, e3]
  rfl

theorem mem_pushIf (l : List Nat) (a : Nat) (p : Bool) (k : Nat) :
    k ∈ (if p = true then pushNew l a else l) ↔ k ∈ l ∨ (k = a ∧ p = true) := by
  cases p <;> simp [mem_pushNew]

theorem nodup_pushIf (l : List Nat) (a : Nat) (p : Bool) (h : l.Nodup) :
    (if p = true then pushNew l a else l).Nodup := by
  cases p
  · exact h
  · exact nodup_pushNew h

theorem mem_gcWork (n : Nd) (work : List Nat) (ra rb k : Nat) :
    k ∈ gcWork n work ra rb ↔ (k ∈ work ∨
      (k = n.lo.natAbs ∧ (if n.hi.natAbs = n.lo.natAbs then rb else ra) = 0 ∧ n.lo.natAbs ≠ 1) ∨
      (k = n.hi.natAbs ∧ rb = 0 ∧ n.hi ≠ 1)) := by
  simp only [gcWork]
  rw [mem_pushIf, mem_pushIf]
  simp only [Bool.and_eq_true, decide_eq_true_eq, or_assoc]

theorem nodup_gcWork (n : Nd) (work : List Nat) (ra rb : Nat) (h : work.Nodup) : (gcWork n work ra rb).Nodup :=
  nodup_pushIf _ _ _ (nodup_pushIf _ _ _ h)

/-- what one step of the collection loop establishes -/
structure GcStepPost (m : Mgr) (ext : Nat → Nat) (u : Nat) (n : Nd) (work : List Nat)
    (m' : Mgr) (work' : List Nat) : Prop where
  removed : m'.tbl.AddedAt m.tbl u n
  vars : m'.tbl.vars = m.tbl.vars
  l2v : m'.tbl.l2v = m.tbl.l2v
  pred : ∀ key, m'.pred[key]? = if key = n.key then none else m.pred[key]?
  minFree : m'.minFree = min u m.minFree
  cache : m'.cache = m.cache
  lastLen : m'.lastLen = m.lastLen
  ctx : m'.ctx = m.ctx
  fireIn : m'.fireIn = m.fireIn
  sched : m'.sched = m.sched
  roots : m'.roots = m.roots
  size : m'.tbl.succ.size + 1 = m.tbl.succ.size
  invS : InvS m'
  refExact : RefExact m' ext
  work_mem : ∀ k, k ∈ work' ↔
    (k ∈ work ∨ ((k = n.lo.natAbs ∨ k = n.hi.natAbs) ∧ k ≠ 1 ∧ m'.ref[k]? = some 0))
  work_nodup : work.Nodup → work'.Nodup

theorem gcErase_removed {m : Mgr} {u : Nat} {n : Nd} (hn : m.tbl.node? u = some n) :
    (gcErase m u n).tbl.AddedAt m.tbl u n :=
  ⟨by simp [gcErase, Tbl.node?], hn, fun j hj => by
    have : ¬ u = j := fun h => hj h.symm
    simp [gcErase, Tbl.node?, TreeMap.getElem?_erase, this]⟩

theorem size_erase_add_one {m : Mgr} {u : Nat} {n : Nd} (hn : m.tbl.node? u = some n) :
    (m.tbl.succ.erase u).size + 1 = m.tbl.succ.size := by
  have hmem : m.tbl.succ.contains u = true := by
    rw [TreeMap.contains_eq_isSome_getElem?]; simp [Tbl.node?] at hn; simp [hn]
  have hne := TreeMap.isEmpty_eq_false_of_contains hmem
  rw [TreeMap.isEmpty_eq_size_eq_zero] at hne
  rw [TreeMap.size_erase, if_pos hmem]
  have : m.tbl.succ.size ≠ 0 := by simpa using hne
  omega

/-- a node `u` of count 0 in an exact state has what `gcStep_run` asks for: `ra + 1`, `rb + 1` are
the counts of its children when they are released.  The counts stay exact, so a child that is the
terminal keeps a positive count (the terminal's own reference). -/
theorem gcStep_pre (m : Mgr) (ext : Nat → Nat) (u : Nat) (hs : InvS m) (hr : RefExact m ext)
    (h0 : m.ref[u]? = some 0) :
    ∃ n ra rb, u ≠ 1 ∧ m.tbl.node? u = some n ∧ indeg m.tbl u = 0 ∧ 1 < min u m.minFree ∧
      (m.ref.erase u)[n.lo.natAbs]? = some (ra + 1) ∧
      ((m.ref.erase u).insert n.lo.natAbs ra)[n.hi.natAbs]? = some (rb + 1) ∧
      (n.lo.natAbs = 1 → 0 < ra) ∧ (n.hi.natAbs = 1 → 0 < rb) ∧
      RefExact { gcErase m u n with
        ref := ((m.ref.erase u).insert n.lo.natAbs ra).insert n.hi.natAbs rb } ext := by
  have hW := hs.wf.toWF
  obtain ⟨hu1, hnode, hi0, -⟩ := hr.zero_iff.mp h0
  obtain ⟨n, hn⟩ := Option.isSome_iff_exists.mp hnode
  -- erase `u`, then release its two edges
  have hr1 := hr.erase h0 (gcErase_removed hn) rfl (hW.lo_mem _ _ hn) (hW.hi_mem _ _ hn)
  obtain ⟨ra, hra, -, hr2⟩ := decref_spec _ _ n.lo hr1 (extInc_self_pos _ _)
  rw [extDec_extInc] at hr2
  obtain ⟨rb, hrb, -, hr3⟩ := decref_spec _ _ n.hi hr2 (extInc_self_pos _ _)
  rw [extDec_extInc] at hr3
  have hf : 1 < min u m.minFree := by have := hs.freeGe; have := hW.ge_two _ _ hn; omega
  refine ⟨n, ra, rb, hu1, hn, hi0, hf, hra, hrb, fun h => ?_, fun h => ?_, hr3⟩
  · have := hr2.cnt _ ra TreeMap.getElem?_insert_self
    rw [if_pos h] at this; omega
  · have := hr3.cnt _ rb TreeMap.getElem?_insert_self
    rw [if_pos h] at this; omega

theorem gcStep_spec (m : Mgr) (ext : Nat → Nat) (u : Nat) (work : List Nat)
    (hs : InvS m) (hr : RefExact m ext) (h0 : m.ref[u]? = some 0) :
    ∃ n m' work', m.tbl.node? u = some n ∧ gcStep u work m = (.ok work', m') ∧
      GcStepPost m ext u n work m' work' := by
  have hW := hs.wf.toWF
  obtain ⟨n, ra, rb, hu1, hn, hi0, hf, hra, hrb, -, -, hr3⟩ := gcStep_pre m ext u hs hr h0
  have hrem := gcErase_removed hn
  have hrun := gcStep_run m u n work ra rb hu1 hn ((hs.pred n u).mpr hn) h0 hf
    (hW.hi_pos _ _ hn) hra hrb
  have hpred : ∀ key, (m.pred.erase n.key)[key]? = if key = n.key then none else m.pred[key]? := by
    intro key
    rw [TreeMap.getElem?_erase]
    by_cases h : key = n.key
    · simp [h]
    · have : ¬ n.key = key := fun e => h e.symm
      simp [h, this]
  have hRa := getElem?_insert_insert_left (m.ref.erase u) n.lo.natAbs n.hi.natAbs ra rb
  have hRb : (((m.ref.erase u).insert n.lo.natAbs ra).insert n.hi.natAbs rb)[n.hi.natAbs]? = some rb :=
    TreeMap.getElem?_insert_self
  have hb1 : n.hi ≠ 1 ↔ n.hi.natAbs ≠ 1 := by have := hW.hi_pos _ _ hn; omega
  refine ⟨n, _, _, hn, hrun, hrem, rfl, rfl, hpred, rfl, rfl, rfl, rfl, rfl, rfl, rfl, size_erase_add_one hn,
    hs.erase hrem rfl hi0 hpred rfl, hr3, fun k => ?_, nodup_gcWork _ _ _ _⟩
  show k ∈ gcWork n work ra rb ↔ (k ∈ work ∨ ((k = n.lo.natAbs ∨ k = n.hi.natAbs) ∧ k ≠ 1 ∧
    (((m.ref.erase u).insert n.lo.natAbs ra).insert n.hi.natAbs rb)[k]? = some 0))
  rw [mem_gcWork, or_and_right]
  refine or_congr_right (or_congr (and_congr_right fun h => ?_) (and_congr_right fun h => ?_))
  · rw [h, hRa, Option.some.injEq]; exact and_comm
  · rw [h, hRb, Option.some.injEq, hb1]; exact and_comm

end DD
