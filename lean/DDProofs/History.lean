/-
  DDProofs.History — what holds of a guarded history over any alphabet of calls.  A `Hist` names
  a step function, a guard and the two recursions over the list of calls (`run…`, `…Guarded`) with
  their defining equations (all `rfl` for the concrete alphabets); concatenation, prefixes, the
  embedding of a smaller alphabet and the inductions over a history are then proved once.  The two
  lemmas about the state type `St` are in DDProofs.Reach2: `Hist.run_held2`, `Hist.routes_agree`.
-/
namespace DD

structure Hist (Op σ : Type) where
  step : Op → σ → σ
  Guard : σ → Op → Prop
  run : List Op → σ → σ
  Guarded : List Op → σ → Prop
  run_nil : ∀ s, run [] s = s
  run_cons : ∀ o os s, run (o :: os) s = run os (step o s)
  guarded_nil : ∀ s, Guarded [] s
  guarded_cons : ∀ o os s, Guarded (o :: os) s ↔ Guard s o ∧ Guarded os (step o s)

namespace Hist
variable {Op Op' σ : Type} (H : Hist Op σ)

theorem run_append (a b : List Op) (s : σ) : H.run (a ++ b) s = H.run b (H.run a s) := by
  induction a generalizing s with
  | nil => rw [List.nil_append, H.run_nil]
  | cons o a ih => rw [List.cons_append, H.run_cons, H.run_cons, ih]

theorem guarded_append (a b : List Op) (s : σ) :
    H.Guarded (a ++ b) s ↔ (H.Guarded a s ∧ H.Guarded b (H.run a s)) := by
  induction a generalizing s with
  | nil => rw [List.nil_append, H.run_nil]; exact ⟨fun h => ⟨H.guarded_nil s, h⟩, fun h => h.2⟩
  | cons o a ih =>
    rw [List.cons_append, H.guarded_cons, H.guarded_cons, H.run_cons, ih, and_assoc]

theorem guarded_take (k : Nat) {ops : List Op} {s : σ} (h : H.Guarded ops s) :
    H.Guarded (ops.take k) s := by
  rw [← List.take_append_drop k ops] at h
  exact ((H.guarded_append _ _ s).mp h).1

theorem run_map (H' : Hist Op' σ) (f : Op' → Op) (hs : ∀ o s, H.step (f o) s = H'.step o s)
    (ops : List Op') (s : σ) : H.run (ops.map f) s = H'.run ops s := by
  induction ops generalizing s with
  | nil => rw [List.map_nil, H.run_nil, H'.run_nil]
  | cons o ops ih => rw [List.map_cons, H.run_cons, H'.run_cons, hs, ih]

theorem guarded_map (H' : Hist Op' σ) (f : Op' → Op) (hs : ∀ o s, H.step (f o) s = H'.step o s)
    (hg : ∀ o s, H.Guard s (f o) ↔ H'.Guard s o) (ops : List Op') (s : σ) :
    H.Guarded (ops.map f) s ↔ H'.Guarded ops s := by
  induction ops generalizing s with
  | nil => exact ⟨fun _ => H'.guarded_nil s, fun _ => H.guarded_nil s⟩
  | cons o ops ih => rw [List.map_cons, H.guarded_cons, H'.guarded_cons, hs, hg, ih]

theorem run_all {Good : σ → Prop} (hstep : ∀ s o, Good s → Good (H.step o s)) (ops : List Op) (s : σ)
    (h : Good s) : Good (H.run ops s) := by
  induction ops generalizing s with
  | nil => rw [H.run_nil]; exact h
  | cons o ops ih => rw [H.run_cons]; exact ih _ (hstep s o h)

variable {Good : σ → Prop} (hstep : ∀ s o, Good s → H.Guard s o → Good (H.step o s))
include hstep

theorem run_inv (ops : List Op) (s : σ) (h : Good s) (hg : H.Guarded ops s) : Good (H.run ops s) := by
  induction ops generalizing s with
  | nil => rw [H.run_nil]; exact h
  | cons o ops ih =>
    rw [H.run_cons]
    have hg' := (H.guarded_cons o ops s).mp hg
    exact ih _ (hstep s o h hg'.1) hg'.2

/-- `P`: "it is held"; `K s t`: "it is in `t` what it was in `s`".  What one guarded step keeps of
something held, a guarded history keeps of something held in each of its states. -/
theorem run_kept {P : σ → Prop} {K : σ → σ → Prop} (hrefl : ∀ s, Good s → P s → K s s)
    (hkeep : ∀ s o t, Good s → H.Guard s o → P s → K (H.step o s) t → K s t)
    (ops : List Op) (s : σ) (h : Good s) (hg : H.Guarded ops s)
    (hheld : ∀ pre post : List Op, ops = pre ++ post → P (H.run pre s)) : K s (H.run ops s) := by
  have h0 : P s := by
    have := hheld [] ops rfl
    rwa [H.run_nil] at this
  induction ops generalizing s with
  | nil => rw [H.run_nil]; exact hrefl s h h0
  | cons o ops ih =>
    rw [H.run_cons]
    have hg' := (H.guarded_cons o ops s).mp hg
    have hheld' : ∀ pre post : List Op, ops = pre ++ post → P (H.run pre (H.step o s)) := by
      intro pre post he
      have := hheld (o :: pre) post (by rw [he]; rfl)
      rwa [H.run_cons] at this
    refine hkeep s o _ h hg'.1 h0 (ih _ (hstep s o h hg'.1) hg'.2 hheld' ?_)
    have := hheld' [] ops rfl
    rwa [H.run_nil] at this

end Hist

/-- what holds of `l.take k` for every `k` holds of every prefix of `l` (for a concrete `l` the
hypothesis is a bounded quantifier: decidable when `P` is) -/
theorem of_takes {α : Type} {P : List α → Prop} {l p q : List α}
    (h : ∀ k, k ≤ l.length → P (l.take k)) (e : l = p ++ q) : P p := by
  have := h p.length (by rw [e, List.length_append]; exact Nat.le_add_right _ _)
  rwa [e, List.take_left] at this

end DD
