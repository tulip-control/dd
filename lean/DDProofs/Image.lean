/-
  DDProofs.Image — specification of `_image(u, v, umap, vmap, qvars, bdd, forall, cache)`, the
  recursion behind `image` and `preimage`: simultaneous descent on the pair `(u, v)` (memo keyed
  by the pair), the second operand read through the level map `vmap` (renaming BEFORE the
  conjunction), quantification at the levels of `qvars`, the other levels rebuilt at the level
  given by `umap` (renaming AFTER the quantification) with `ite(var, q, p)`.

  One theorem (`imageF_out`; `imageF_spec` with reordering not enabled) covers both uses;
  `imageF_spec_image` (`vmap = None`) and `imageF_spec_preimage` (`umap = None`) are its two
  instances.
-/
import DDProofs.Quantify
import DDProofs.SatList
open Std

namespace DD

theorem Ext.node_back {m t : Tbl} (he : Ext m t) {u : Int} {n : Nd} (hm : m.Mem u)
    (h1 : u.natAbs ≠ 1) (hn : t.node? u.natAbs = some n) : m.node? u.natAbs = some n := by
  obtain ⟨n', hn'⟩ := mem_node hm h1
  rw [he.nodes _ _ hn'] at hn
  cases hn
  exact hn'

theorem InSupp.of_ext {m t : Tbl} (hw : WF m) (he : Ext m t) {u : Int} {i : Nat}
    (h : InSupp t u i) : m.Mem u → InSupp m u i := by
  induction h with
  | here h1 hn => exact fun hm => .here h1 (he.node_back hm h1 hn)
  | lo h1 hn _ ih =>
    intro hm
    have hn' := he.node_back hm h1 hn
    exact .lo h1 hn' (ih (hw.lo_mem _ _ hn'))
  | hi h1 hn _ ih =>
    intro hm
    have hn' := he.node_back hm h1 hn
    exact .hi h1 hn' (ih (hw.hi_mem _ _ hn'))

theorem InSupp.of_neg {t : Tbl} {u : Int} {i : Nat} (h : InSupp t (-u) i) : InSupp t u i := by
  have := h.neg
  rwa [Int.neg_neg] at this

theorem topCofactor_supp (t : Tbl) (u : Int) (z : Nat) (u0 u1 : Int)
    (h : topCofactor t u z = .ok (u0, u1)) (j : Nat) :
    (InSupp t u0 j → InSupp t u j) ∧ (InSupp t u1 j → InSupp t u j) := by
  unfold topCofactor at h
  by_cases h1 : u.natAbs = 1
  · simp only [h1, if_true] at h
    cases h
    exact ⟨id, id⟩
  · simp only [h1, if_false] at h
    cases hn : t.succ[u.natAbs]? with
    | none => rw [hn] at h; cases h
    | some n =>
      rw [hn] at h
      simp only at h
      have hn' : t.node? u.natAbs = some n := hn
      split at h
      · cases h; exact ⟨id, id⟩
      · split at h
        · cases h
        · split at h
          · cases h
            exact ⟨fun hh => .lo h1 hn' hh.of_neg, fun hh => .hi h1 hn' hh.of_neg⟩
          · cases h
            exact ⟨fun hh => .lo h1 hn' hh, fun hh => .hi h1 hn' hh⟩

theorem topCofactorI_nat (t : Tbl) (u : Int) (z : Nat) :
    topCofactorI t u (z : Int) = topCofactor t u z := by
  unfold topCofactorI
  have : ¬ ((z : Int) < 0) := by omega
  simp only [this, if_false, Int.toNat_natCast]

theorem topCofactorI_lt (t : Tbl) (u : Int) (hu : t.Mem u) (i : Int)
    (hi : i < (t.levelOf u : Int)) : topCofactorI t u i = .ok (u, u) := by
  unfold topCofactorI topCofactor
  by_cases h1 : u.natAbs = 1
  · simp [h1]
  · obtain ⟨n, hn⟩ := mem_node hu h1
    have hn' : t.succ[u.natAbs]? = some n := hn
    have hl := levelOf_node t u n h1 hn
    simp only [h1, if_false, hn']
    split
    · rfl
    · have : i.toNat < n.lvl := by omega
      simp only [this, if_true]

theorem qsem_const_false (fa : Bool) (Q : List Nat) (f : Asg → Bool) (a : Asg)
    (h : ∀ b, f b = false) : ¬ qsem fa Q f a := by
  cases fa with
  | true =>
    intro hq
    have := hq a (AgreeOff.refl Q a)
    rw [h] at this
    cases this
  | false =>
    rintro ⟨b, _, hb⟩
    rw [h] at hb
    cases hb

theorem den_false_of_qsem {t : Tbl} {r : Int} {fa : Bool} {Q : List Nat} {f : Asg → Bool}
    (hd : ∀ a, den t r a = true ↔ qsem fa Q f a) (h : ∀ b, f b = false) (a : Asg) :
    den t r a = false :=
  Bool.eq_false_iff.mpr fun hr => qsem_const_false fa Q f a h ((hd a).mp hr)

theorem qsem_const_true (fa : Bool) (Q : List Nat) (f : Asg → Bool) (a : Asg)
    (h : ∀ b, f b = true) : qsem fa Q f a := by
  cases fa with
  | true => exact fun b _ => h b
  | false => exact ⟨a, AgreeOff.refl Q a, h a⟩

/-- `vmap` is strictly increasing on `S` -/
def MonoOn (rV : Nat → Nat) (S : Nat → Prop) : Prop := ∀ j j', S j → S j' → j < j' → rV j < rV j'

/-- cofactors of the renamed second operand at the descent level `z ≤ iv`, where `iv` is the
level the top variable of `v` is renamed to: a real split when `z = iv`, no split when `z < iv`
(the level argument `jv + z - iv` is then above `v`, possibly negative).  This needs no
condition on the level map; when it is strictly increasing on (a set `S` containing) the support,
the cofactors (renamed) do not depend on `z` and expand the renamed operand. -/
theorem vCofactor_spec (t : Tbl) (hw : WF t) (rV : Nat → Nat) (S : Nat → Prop)
    (v : Int) (hv : t.Mem v) (iv z : Nat)
    (hivt : v.natAbs = 1 → t.nvars ≤ iv) (hz : z ≤ iv) (hzn : z < t.nvars) :
    ∃ v0 v1, topCofactorI t v ((t.levelOf v : Int) + z - iv) = .ok (v0, v1) ∧
      t.Mem v0 ∧ t.Mem v1 ∧ t.levelOf v ≤ t.levelOf v0 ∧ t.levelOf v ≤ t.levelOf v1 ∧
      (z = iv → t.levelOf v < t.levelOf v0 ∧ t.levelOf v < t.levelOf v1) ∧
      (∀ j, InSupp t v0 j → InSupp t v j) ∧ (∀ j, InSupp t v1 j → InSupp t v j) ∧
      (MonoOn rV S → (∀ j, InSupp t v j → S j) → (v.natAbs ≠ 1 → iv = rV (t.levelOf v)) →
        (∀ b : Asg, den t v (fun j => b (rV j)) =
          if b z then den t v1 (fun j => b (rV j)) else den t v0 (fun j => b (rV j))) ∧
        (∀ (b : Asg) x, den t v0 (fun j => (upd b z x) (rV j)) = den t v0 (fun j => b (rV j))) ∧
        (∀ (b : Asg) x, den t v1 (fun j => (upd b z x) (rV j)) = den t v1 (fun j => b (rV j)))) := by
  by_cases hzi : z = iv
  · -- a real split: `v` is a node, labelled with the level that is renamed to `z`
    have hv1 : v.natAbs ≠ 1 := by
      intro h; have := hivt h; omega
    obtain ⟨n, hn⟩ := mem_node hv hv1
    have hl := levelOf_node t v n hv1 hn
    have harg : ((t.levelOf v : Int) + z - iv) = ((t.levelOf v : Nat) : Int) := by omega
    rw [harg, topCofactorI_nat]
    obtain ⟨v0, v1, hc, m0, m1, l0, l1, dv⟩ := topCofactor_spec t hw v hv (t.levelOf v)
      (Nat.le_refl _) (by rw [hl]; exact hw.lvl_lt _ _ hn)
    have hsup := topCofactor_supp t v (t.levelOf v) v0 v1 hc
    refine ⟨v0, v1, hc, m0, m1, by omega, by omega, fun _ => ⟨l0, l1⟩,
      fun j => (hsup j).1, fun j => (hsup j).2, ?_⟩
    intro hmono hS hiv
    have hSv : S (t.levelOf v) := by rw [hl]; exact hS _ (.here hv1 hn)
    have hzr : z = rV (t.levelOf v) := by rw [hzi]; exact hiv hv1
    have hind : ∀ w, t.Mem w → t.levelOf v < t.levelOf w → (∀ j, InSupp t w j → InSupp t v j) →
        ∀ (b : Asg) x, den t w (fun j => (upd b z x) (rV j)) = den t w (fun j => b (rV j)) := by
      intro w mw lw sw b x
      apply den_agree_supp t hw w mw
      intro j hj
      have h1 : t.levelOf w ≤ j := hj.ge hw
      have h2 := hmono _ _ hSv (hS j (sw j hj)) (by omega)
      exact upd_other _ _ _ _ (by omega)
    refine ⟨?_, hind v0 m0 l0 (fun j => (hsup j).1), hind v1 m1 l1 (fun j => (hsup j).2)⟩
    intro b
    rw [dv, hzr]
  · -- no split: the level argument is above `v`
    have harg : ((t.levelOf v : Int) + z - iv) < (t.levelOf v : Int) := by omega
    rw [topCofactorI_lt t v hv _ harg]
    refine ⟨v, v, rfl, hv, hv, Nat.le_refl _, Nat.le_refl _, fun h => absurd h hzi,
      fun _ => id, fun _ => id, ?_⟩
    intro hmono hS hiv
    have hind : ∀ (b : Asg) x, den t v (fun j => (upd b z x) (rV j)) = den t v (fun j => b (rV j)) := by
      intro b x
      apply den_agree_supp t hw v hv
      intro j hj
      have h1 : t.levelOf v ≤ j := hj.ge hw
      have hv1 : v.natAbs ≠ 1 := by
        intro h
        have := hj.lt_nvars hw
        rw [levelOf_term t v h] at h1
        omega
      obtain ⟨n, hn⟩ := mem_node hv hv1
      have hl := levelOf_node t v n hv1 hn
      have hSv : S (t.levelOf v) := by rw [hl]; exact hS _ (.here hv1 hn)
      have hivE := hiv hv1
      have : z < rV j := by
        by_cases hjl : j = t.levelOf v
        · rw [hjl]; omega
        · have := hmono _ _ hSv (hS j hj) (by omega)
          omega
      exact upd_other _ _ _ _ (by omega)
    refine ⟨?_, hind, hind⟩
    intro b
    split <;> rfl

/-- the function `_image` has to return for the pair `(u, v)`: the conjunction of `u` with `v`
read through `rV` (renaming of `v` BEFORE the conjunction), quantified over the levels of `Q`,
then read through `rU` (renaming AFTER the quantification) -/
def imgSem (fa : Bool) (Q : List Nat) (rU rV : Nat → Nat) (t : Tbl) (u v : Int) (a : Asg) : Prop :=
  qsem fa Q (fun b => den t u b && den t v (fun j => b (rV j))) (fun z => a (rU z))

theorem imgSem_ext {fa : Bool} {Q : List Nat} {rU rV : Nat → Nat} {m t : Tbl} (he : Ext m t)
    (hw : WF m) {u v : Int} (hu : m.Mem u) (hv : m.Mem v) (a : Asg) :
    imgSem fa Q rU rV t u v a ↔ imgSem fa Q rU rV m u v a := by
  unfold imgSem
  rw [den_ext_fun he hw u hu, den_ext_fun he hw v hv]

/-- what `_image` guarantees about the reference it returns for `(u, v)` (also: what its memo
may contain): a member, which denotes the documented function under a condition `C` (the one
from which the monotonicity of `vmap` follows; `True` for `image`, whose second operand is not
renamed) -/
structure IPostC (C : Prop) (fa : Bool) (Q : List Nat) (rU rV : Nat → Nat) (t : Tbl) (u v r : Int) :
    Prop where
  mu : t.Mem u
  mv : t.Mem v
  mr : t.Mem r
  den : C → ∀ a, den t r a = true ↔ imgSem fa Q rU rV t u v a

/-- the memo is keyed by the pair of signed references -/
def IMemoC (C : Prop) (fa : Bool) (Q : List Nat) (rU rV : Nat → Nat) (t : Tbl)
    (c : HashMap (Int × Int) Int) : Prop :=
  ∀ (u v r : Int), c[(u, v)]? = some r → IPostC C fa Q rU rV t u v r

theorem IPostC.ext {C : Prop} {fa : Bool} {Q : List Nat} {rU rV : Nat → Nat} {m t : Tbl} (hw : WF m)
    (he : Ext m t) {u v r : Int} (h : IPostC C fa Q rU rV m u v r) : IPostC C fa Q rU rV t u v r := by
  refine ⟨he.mem h.mu, he.mem h.mv, he.mem h.mr, ?_⟩
  intro hC a
  rw [den_ext he hw r a h.mr, imgSem_ext he hw h.mu h.mv]
  exact h.den hC a

/-- the result read over the functions of an EARLIER table (the entry table of a run) -/
theorem IPostC.den_entry {C : Prop} {fa : Bool} {Q : List Nat} {rU rV : Nat → Nat} {m t : Tbl}
    (hw : WF m) (he : Ext m t) {u v r : Int} (h : IPostC C fa Q rU rV t u v r) (hu : m.Mem u)
    (hv : m.Mem v) (hC : C) (a : Asg) :
    DD.den t r a = true ↔ imgSem fa Q rU rV m u v a :=
  (h.den hC a).trans (imgSem_ext he hw hu hv a)

theorem IMemoC.ext {C : Prop} {fa : Bool} {Q : List Nat} {rU rV : Nat → Nat} {m t : Tbl} (hw : WF m)
    (he : Ext m t) {c : HashMap (Int × Int) Int} (h : IMemoC C fa Q rU rV m c) :
    IMemoC C fa Q rU rV t c :=
  fun u v r hc => (h u v r hc).ext hw he

theorem IMemoC.empty (C : Prop) (fa : Bool) (Q : List Nat) (rU rV : Nat → Nat) (t : Tbl) :
    IMemoC C fa Q rU rV t {} :=
  fun u v => memo_empty (P := fun k r => IPostC C fa Q rU rV t k.1 k.2 r) (u, v)

theorem IMemoC.insert {C : Prop} {fa : Bool} {Q : List Nat} {rU rV : Nat → Nat} {t : Tbl}
    {c : HashMap (Int × Int) Int} (h : IMemoC C fa Q rU rV t c) {u v r : Int}
    (he : IPostC C fa Q rU rV t u v r) : IMemoC C fa Q rU rV t (c.insert (u, v) r) :=
  fun u' v' => memo_insert (P := fun k r => IPostC C fa Q rU rV t k.1 k.2 r)
    (fun k => h k.1 k.2) he (u', v')

/-- the unconditional form: `IPostC` at `C := True` -/
structure IPost (fa : Bool) (Q : List Nat) (rU rV : Nat → Nat) (t : Tbl) (u v r : Int) : Prop where
  mu : t.Mem u
  mv : t.Mem v
  mr : t.Mem r
  den : ∀ a, den t r a = true ↔ imgSem fa Q rU rV t u v a

/-- the memo is keyed by the pair of signed references -/
def IMemo (fa : Bool) (Q : List Nat) (rU rV : Nat → Nat) (t : Tbl)
    (c : HashMap (Int × Int) Int) : Prop :=
  ∀ (u v r : Int), c[(u, v)]? = some r → IPost fa Q rU rV t u v r

theorem IPost.iff {fa : Bool} {Q : List Nat} {rU rV : Nat → Nat} {t : Tbl} {u v r : Int} :
    IPost fa Q rU rV t u v r ↔ IPostC True fa Q rU rV t u v r :=
  ⟨fun h => ⟨h.mu, h.mv, h.mr, fun _ => h.den⟩, fun h => ⟨h.mu, h.mv, h.mr, h.den trivial⟩⟩

theorem IMemo.iff {fa : Bool} {Q : List Nat} {rU rV : Nat → Nat} {t : Tbl}
    {c : HashMap (Int × Int) Int} : IMemo fa Q rU rV t c ↔ IMemoC True fa Q rU rV t c :=
  ⟨fun h u v r hc => IPost.iff.mp (h u v r hc), fun h u v r hc => IPost.iff.mpr (h u v r hc)⟩

theorem IMemo.empty (fa : Bool) (Q : List Nat) (rU rV : Nat → Nat) (t : Tbl) :
    IMemo fa Q rU rV t {} :=
  IMemo.iff.mpr (IMemoC.empty _ _ _ _ _ _)

/-- what one run of `_image` needs from its two level maps (`N` = number of declared variables,
`S` = a set of levels containing the support of the second operand) for its STRUCTURE (the call
returns a member, or aborts; never another exception):
* `umap` sends every level that is not quantified to a declared level (`rU`);
* `vmap` sends every level of `S` to a declared level (`rV`) and does not move the terminal's
  level `N`;
* no such level is a key whose value is not a level (`ubad`, `vbad`: undeclared names). -/
structure ImgOKs (umap vmap : Option (List (Int × Int))) (ubad vbad : List Int) (Q : List Nat)
    (rU rV : Nat → Nat) (S : Nat → Prop) (N : Nat) : Prop where
  uval : ∀ z, z < N → z ∉ Q → mapLvl umap (z : Int) = (rU z : Int) ∧ rU z < N
  vval : ∀ j, S j → mapLvl vmap (j : Int) = (rV j : Int) ∧ rV j < N
  vterm : mapLvl vmap (N : Int) = (N : Int)
  ubad : ∀ z, z < N → z ∉ Q → ubad.contains (z : Int) = false
  vbad : ∀ j, S j ∨ j = N → vbad.contains (j : Int) = false

/-- what one run of `_image` needs from its two level maps (`N` = number of declared variables,
`S` = a set of levels containing the support of the second operand):
* `umap` sends every level that is not quantified to a declared level (`rU`);
* `vmap` sends every level of `S` to a declared level (`rV`), is STRICTLY INCREASING on `S`
  (the code's "neighbours" assumption is used only through this), and does not move the
  terminal's level `N`;
* no such level is a key whose value is not a level (`ubad`, `vbad`: undeclared names). -/
structure ImgOK (umap vmap : Option (List (Int × Int))) (ubad vbad : List Int) (Q : List Nat)
    (rU rV : Nat → Nat) (S : Nat → Prop) (N : Nat) : Prop where
  uval : ∀ z, z < N → z ∉ Q → mapLvl umap (z : Int) = (rU z : Int) ∧ rU z < N
  vval : ∀ j, S j → mapLvl vmap (j : Int) = (rV j : Int) ∧ rV j < N
  vterm : mapLvl vmap (N : Int) = (N : Int)
  mono : ∀ j j', S j → S j' → j < j' → rV j < rV j'
  ubad : ∀ z, z < N → z ∉ Q → ubad.contains (z : Int) = false
  vbad : ∀ j, S j ∨ j = N → vbad.contains (j : Int) = false

theorem ImgOK.toS {umap vmap : Option (List (Int × Int))} {ubad vbad : List Int} {Q : List Nat}
    {rU rV : Nat → Nat} {S : Nat → Prop} {N : Nat} (h : ImgOK umap vmap ubad vbad Q rU rV S N) :
    ImgOKs umap vmap ubad vbad Q rU rV S N := ⟨h.uval, h.vval, h.vterm, h.ubad, h.vbad⟩

/-- `_image`: inside a reordering context (or with requests disabled) the recursion only adds
nodes, keeps its memo (keyed by the pair) sound, and returns a member — or is aborted by a
reordering request (raised by `find_or_add`, or re-raised by the nested decorated `ite`).  This
structural part needs NO condition relating the renaming to the variable order (`preimage` stays
total when sifting has separated the partners); the returned reference denotes
`rename_U (Q qvars. u ∧ rename_V v)` under `C`, from which the monotonicity of `vmap` follows.
No condition relates the variable order to `umap`: the result at a level that is not quantified
is built with `ite(var, q, p)`. -/
theorem imageF_out (umap vmap : Option (List (Int × Int))) (ubad vbad : List Int) (Q : List Nat)
    (fa : Bool) (rU rV : Nat → Nat) (S : Nat → Prop) (N : Nat) (C : Prop)
    (hP : ImgOKs umap vmap ubad vbad Q rU rV S N) (hmono : C → MonoOn rV S) :
    ∀ (f : Nat) (m : Mgr) (u v : Int) (cache : HashMap (Int × Int) Int),
    Inv m → Quiet m → m.nvars = N → m.tbl.Mem u → m.tbl.Mem v →
    (∀ j, InSupp m.tbl v j → S j) → IMemoC C fa Q rU rV m.tbl cache →
    2 * m.nvars + 1 ≤ f + m.tbl.levelOf u + m.tbl.levelOf v →
    Outcome2 m (fun r c m' => IMemoC C fa Q rU rV m'.tbl c ∧ IPostC C fa Q rU rV m'.tbl u v r)
      (imageF umap vmap ubad vbad Q fa f u v cache m) := by
  intro f
  induction f with
  | zero =>
    intro m u v cache hI _ _ _ _ _ _ hf
    have := levelOf_le m.tbl hI.wf.toWF u
    have := levelOf_le m.tbl hI.wf.toWF v
    have : m.nvars = m.tbl.nvars := rfl
    omega
  | succ f ih =>
    intro m u v cache hI hq hN hu hv hS hmemo hf
    have hW := hI.wf.toWF
    have hnv : m.nvars = m.tbl.nvars := rfl
    unfold imageF
    by_cases hneg : u = -1 ∨ v = -1
    · simp only [hneg, if_true]
      refine ⟨StepK.refl hI, hmemo, hu, hv, mem_neg_one _, ?_⟩
      intro _ a
      rw [den_neg_one]
      constructor
      · intro h; cases h
      · intro h
        exfalso
        refine qsem_const_false fa Q _ _ ?_ h
        intro b
        rcases hneg with h | h <;> subst h <;> simp [den_neg_one]
    · simp only [hneg, if_false]
      by_cases hone : u = 1 ∧ v = 1
      · obtain ⟨hu1, hv1⟩ := hone
        subst hu1 hv1
        simp only [and_self, if_true]
        refine ⟨StepK.refl hI, hmemo, hu, hv, mem_one _, ?_⟩
        intro _ a
        rw [den_one]
        refine ⟨fun _ => ?_, fun _ => rfl⟩
        refine qsem_const_true fa Q _ _ ?_
        intro b
        simp [den_one]
      · simp only [hone, if_false]
        cases hc : cache[(u, v)]? with
        | some r => exact ⟨StepK.refl hI, hmemo, hmemo u v r hc⟩
        | none =>
          simp only
          rw [Tbl.levelOf?_eq _ _ hu, Tbl.levelOf?_eq _ _ hv]
          simp only
          -- the level the top variable of `v` is renamed to
          obtain ⟨ivN, hivE, hivnt, hivt, hSv⟩ : ∃ ivN : Nat,
              mapLvl vmap (m.tbl.levelOf v : Int) = (ivN : Int) ∧
              (v.natAbs ≠ 1 → ivN = rV (m.tbl.levelOf v) ∧ ivN < N) ∧
              (v.natAbs = 1 → ivN = N) ∧ (S (m.tbl.levelOf v) ∨ m.tbl.levelOf v = N) := by
            by_cases hv1 : v.natAbs = 1
            · have hl : m.tbl.levelOf v = N := by rw [levelOf_term _ _ hv1, ← hnv, hN]
              refine ⟨N, ?_, fun h => absurd hv1 h, fun _ => rfl, Or.inr hl⟩
              rw [hl]; exact hP.vterm
            · obtain ⟨n, hn⟩ := mem_node hv hv1
              have hl := levelOf_node m.tbl v n hv1 hn
              have hs : S n.lvl := hS _ (.here hv1 hn)
              obtain ⟨h1, h2⟩ := hP.vval _ hs
              exact ⟨rV n.lvl, by rw [hl]; exact h1, fun _ => by rw [hl]; exact ⟨rfl, h2⟩,
                fun h => absurd h hv1, Or.inl (by rw [hl]; exact hs)⟩
          simp only [hP.vbad _ hSv, Bool.false_eq_true, if_false]
          rw [hivE]
          generalize hzN : min (m.tbl.levelOf u) ivN = zN
          have hzE : min ((m.tbl.levelOf u : Nat) : Int) (ivN : Int) = (zN : Int) := by omega
          rw [hzE]
          -- not both operands are terminals
          have hzlt : zN < N := by
            by_cases hu1 : u.natAbs = 1
            · have hu' : u = 1 := by
                rcases abs_one hu1 with h | h
                · exact h
                · exact absurd (Or.inl h) hneg
              have hv1 : v.natAbs ≠ 1 := by
                intro hv1
                rcases abs_one hv1 with h | h
                · exact hone ⟨hu', h⟩
                · exact hneg (Or.inr h)
              have := (hivnt hv1).2
              omega
            · obtain ⟨n, hn⟩ := mem_node hu hu1
              have := levelOf_lt_of_node hW hu1 hn
              omega
          rw [topCofactorI_nat]
          obtain ⟨u0, u1, hcu, mu0, mu1, lu0, lu1, du⟩ := topCofactor_spec m.tbl hW u hu zN
            (by omega) (by omega)
          obtain ⟨lu0', lu1'⟩ := topCofactor_lvl m.tbl hW u hu zN (by omega) (by omega) u0 u1 hcu
          rw [hcu]
          simp only
          obtain ⟨v0, v1, hcv, mv0, mv1, lv0', lv1', lv01, sv0, sv1, hvsem⟩ :=
            vCofactor_spec m.tbl hW rV S v hv ivN zN
              (fun h => by rw [hivt h]; omega) (by omega) (by omega)
          rw [hcv]
          simp only
          refine (ih m u0 v0 cache hI hq hN mu0 mv0 (fun j h => hS j (sv0 j h)) hmemo
            (by
              by_cases hzi : zN = ivN
              · have := (lv01 hzi).1; omega
              · omega)).elim ?_ fun _ => Outcome.abort (StepK.refl hI)
          intro p c1 m1 hs1 ⟨hm1, hp1⟩
          simp only
          refine (ih m1 u1 v1 c1 hs1.inv (hq.step hs1) (hs1.nvars.trans hN) (hs1.ext.mem mu1)
            (hs1.ext.mem mv1) (fun j h => hS j (sv1 j (h.of_ext hW hs1.ext mv1))) hm1
            (by
              rw [hs1.nvars, hs1.ext.levelOf mu1, hs1.ext.levelOf mv1]
              by_cases hzi : zN = ivN
              · have := (lv01 hzi).2; omega
              · omega)).elim ?_ fun _ => Outcome.abort hs1
          intro q c2 m2 hs2 ⟨hm2, hp2⟩
          simp only
          have hW2 := hs2.inv.wf.toWF
          have hs12 := hs1.trans hs2
          have hq2 := hq.step hs12
          have hp1' := hp1.ext hs1.inv.wf.toWF hs2.ext
          have h0z : (0 : Int) ≤ (zN : Int) := by omega
          simp only [h0z, true_and, Int.toNat_natCast]
          -- the combining step: `ite` at a quantified level, `ite(var, q, p)` at the others
          have hcomb : Outcome m2 (fun r m3 => m3.tbl.Mem r ∧
                (C → ∀ a, den m3.tbl r a = true ↔ imgSem fa Q rU rV m.tbl u v a))
              (if Q.contains zN = true then
                (if fa = true then ite p q (-1) m2 else ite p 1 q m2)
              else
                match (if ubad.contains (zN : Int) = true then findOrAddNonInt m2
                    else findOrAdd (mapLvl umap (zN : Int)) (-1) 1 m2) with
                | (.error e, m3) => (.error e, m3)
                | (.ok g, m3) => ite g q p m3) := by
            -- the two recursive calls, in any later table, in terms of `m.tbl`
            have hpd : C → ∀ t, Ext m2.tbl t → ∀ a, den t p a = true ↔ imgSem fa Q rU rV m.tbl u0 v0 a := by
              intro hC t he a
              rw [den_ext he hW2 p a hp1'.mr, hp1'.den hC a, imgSem_ext hs12.ext hW mu0 mv0]
            have hqd : C → ∀ t, Ext m2.tbl t → ∀ a, den t q a = true ↔ imgSem fa Q rU rV m.tbl u1 v1 a := by
              intro hC t he a
              rw [den_ext he hW2 q a hp2.mr, hp2.den hC a, imgSem_ext hs12.ext hW mu1 mv1]
            -- Shannon expansion of the conjunction at the descent level; its cofactors do not
            -- depend on that level
            have hF : C → (∀ b : Asg, (den m.tbl u b && den m.tbl v (fun j => b (rV j))) =
                  if b zN then (den m.tbl u1 b && den m.tbl v1 (fun j => b (rV j)))
                  else (den m.tbl u0 b && den m.tbl v0 (fun j => b (rV j)))) ∧
                (∀ (b : Asg) x, (den m.tbl u0 (upd b zN x) &&
                  den m.tbl v0 (fun j => (upd b zN x) (rV j))) =
                  (den m.tbl u0 b && den m.tbl v0 (fun j => b (rV j)))) ∧
                (∀ (b : Asg) x, (den m.tbl u1 (upd b zN x) &&
                  den m.tbl v1 (fun j => (upd b zN x) (rV j))) =
                  (den m.tbl u1 b && den m.tbl v1 (fun j => b (rV j)))) := by
              intro hC
              obtain ⟨dv, iv0, iv1⟩ := hvsem (hmono hC) hS (fun h => (hivnt h).1)
              refine ⟨fun b => ?_, fun b x => ?_, fun b x => ?_⟩
              · rw [du b, dv b]
                cases b zN <;> simp
              · rw [den_indep m.tbl hW u0 mu0 zN x b lu0, iv0 b x]
              · rw [den_indep m.tbl hW u1 mu1 zN x b lu1, iv1 b x]
            by_cases hqz : zN ∈ Q
            · rw [if_pos (by simpa using hqz)]
              refine (ite_nestedX.quantStep fa m2 hs2.inv hq2 p q hp1'.mr
                hp2.mr).toOutcome.mono ?_
              intro r3 m3 _ ⟨hr3, he3, _, hd3⟩
              refine ⟨hr3, fun hC a => ?_⟩
              obtain ⟨hx, hi0, hi1⟩ := hF hC
              exact qsem_join fa Q _ _ _ zN hqz hx hi0 hi1 _ (hpd hC m3.tbl he3 _)
                (hqd hC m3.tbl he3 _) (hd3 _)
            · rw [if_neg (by simpa using hqz)]
              obtain ⟨hmE, hmlt⟩ := hP.uval zN hzlt hqz
              simp only [hP.ubad zN hzlt hqz, Bool.false_eq_true, if_false]
              rw [hmE]
              refine (varNode_out m2 hs2.inv (rU zN) (by rw [hs12.nvars, hN]; exact hmlt)).elim ?_
                fun _ => Outcome.abort (StepK.refl hs2.inv)
              intro g m3 hs3 ⟨hg3, _, hd3⟩
              simp only
              refine Outcome.after hs3 ((ite_nested_spec m3 hs3.inv (hq2.step hs3) g q p hg3
                (hs3.ext.mem hp2.mr) (hs3.ext.mem hp1'.mr)).mono ?_)
              intro r4 m4 _ hp4
              refine ⟨hp4.mem, fun hC a => ?_⟩
              unfold imgSem
              rw [qsem_split_out fa Q _ _ _ zN hqz (hF hC).1, hp4.den a, hd3 a]
              by_cases ha : a (rU zN) = true
              · simp only [ha, if_true]
                exact hqd hC m3.tbl hs3.ext a
              · simp only [ha, Bool.false_eq_true, if_false]
                exact hpd hC m3.tbl hs3.ext a
          refine hcomb.elim ?_ fun _ => Outcome.abort hs12
          intro r3 m3 hk3 ⟨hr3, hd3⟩
          have hs := hs12.trans hk3
          have hent : IPostC C fa Q rU rV m3.tbl u v r3 :=
            ⟨hs.ext.mem hu, hs.ext.mem hv, hr3, fun hC a => by
              rw [hd3 hC a, imgSem_ext hs.ext hW hu hv]⟩
          exact ⟨hs, (hm2.ext hW2 hk3.ext).insert hent, hent⟩

/-- `_image`: with reordering not enabled the recursion is total, only adds nodes, keeps its
memo (keyed by the pair) sound, and returns the reference of
`rename_U (Q qvars. u ∧ rename_V v)`.  No condition relates the variable order to `umap`: the
result at a level that is not quantified is built with `ite(var, q, p)`. -/
theorem imageF_spec (umap vmap : Option (List (Int × Int))) (ubad vbad : List Int) (Q : List Nat)
    (fa : Bool) (rU rV : Nat → Nat) (S : Nat → Prop) (N : Nat)
    (hP : ImgOK umap vmap ubad vbad Q rU rV S N) :
    ∀ (f : Nat) (m : Mgr) (u v : Int) (cache : HashMap (Int × Int) Int),
    Inv m → m.lastLen = none → m.nvars = N → m.tbl.Mem u → m.tbl.Mem v →
    (∀ j, InSupp m.tbl v j → S j) → IMemo fa Q rU rV m.tbl cache →
    2 * m.nvars + 1 ≤ f + m.tbl.levelOf u + m.tbl.levelOf v →
    ∃ r c' m', imageF umap vmap ubad vbad Q fa f u v cache m = (.ok (r, c'), m') ∧ Step m m' ∧
      IMemo fa Q rU rV m'.tbl c' ∧ IPost fa Q rU rV m'.tbl u v r := by
  intro f m u v cache hI hoff hN hu hv hS hmemo hf
  obtain ⟨r, c', m', he, hs, hm, hp⟩ :=
    (imageF_out umap vmap ubad vbad Q fa rU rV S N True hP.toS (fun _ => hP.mono) f m u v cache
      hI (Or.inr hoff) hN hu hv hS (IMemo.iff.mp hmemo) hf).off hoff
  exact ⟨r, c', m', he, hs.step, IMemo.iff.mpr hm, IPost.iff.mpr hp⟩

/-- `imageF_spec` with `Step` and `IPost` spelt out over the functions of the ENTRY table -/
theorem imageF_spec_den (umap vmap : Option (List (Int × Int))) (ubad vbad : List Int)
    (Q : List Nat) (fa : Bool) (rU rV : Nat → Nat) (S : Nat → Prop) (f : Nat) (m : Mgr)
    (u v : Int) (cache : HashMap (Int × Int) Int)
    (hP : ImgOK umap vmap ubad vbad Q rU rV S m.nvars)
    (hI : Inv m) (hoff : m.lastLen = none) (hu : m.tbl.Mem u) (hv : m.tbl.Mem v)
    (hS : ∀ j, InSupp m.tbl v j → S j) (hmemo : IMemo fa Q rU rV m.tbl cache)
    (hfuel : 2 * m.nvars + 1 ≤ f + m.tbl.levelOf u + m.tbl.levelOf v) :
    ∃ r c' m', imageF umap vmap ubad vbad Q fa f u v cache m = (.ok (r, c'), m') ∧
      Inv m' ∧ Ext m.tbl m'.tbl ∧ Frame m m' ∧ IMemo fa Q rU rV m'.tbl c' ∧ m'.tbl.Mem r ∧
      ∀ a, den m'.tbl r a = true ↔
        qsem fa Q (fun b => den m.tbl u b && den m.tbl v (fun j => b (rV j)))
          (fun z => a (rU z)) := by
  obtain ⟨r, c', m', he, hs, hm, hp⟩ := imageF_spec umap vmap ubad vbad Q fa rU rV S m.nvars hP
    f m u v cache hI hoff rfl hu hv hS hmemo hfuel
  exact ⟨r, c', m', he, hs.inv, hs.ext, hs.frame, hm, hp.mr,
    (IPost.iff.mp hp).den_entry hI.wf.toWF hs.ext hu hv trivial⟩

/-- `_image` as called by `image` (`umap = rename`, `vmap = None`), ANY variable order, adjacent
pairs or not: the result is the quantified conjunction read through the renaming (renaming AFTER
quantification: a level `z` of the conjunction that is not quantified appears as `ren z`).
The only requirement is that every level that is not quantified is sent to a declared level. -/
theorem imageF_spec_image (rn : List (Int × Int)) (Q : List Nat) (fa : Bool) (ren : Nat → Nat)
    (f : Nat) (m : Mgr) (u v : Int) (cache : HashMap (Int × Int) Int)
    (hI : Inv m) (hoff : m.lastLen = none) (hu : m.tbl.Mem u) (hv : m.tbl.Mem v)
    (hren : ∀ z, z < m.nvars → z ∉ Q →
      (rn.lookup (z : Int)).getD (z : Int) = (ren z : Int) ∧ ren z < m.nvars)
    (hmemo : IMemo fa Q ren id m.tbl cache)
    (hfuel : 2 * m.nvars + 1 ≤ f + m.tbl.levelOf u + m.tbl.levelOf v) :
    ∃ r c' m', imageF (some rn) none [] [] Q fa f u v cache m = (.ok (r, c'), m') ∧
      Inv m' ∧ Ext m.tbl m'.tbl ∧ Frame m m' ∧ IMemo fa Q ren id m'.tbl c' ∧ m'.tbl.Mem r ∧
      ∀ a, den m'.tbl r a = true ↔
        qsem fa Q (fun b => den m.tbl u b && den m.tbl v b) (fun z => a (ren z)) := by
  have hP : ImgOK (some rn) none [] [] Q ren id (fun j => j < m.nvars) m.nvars :=
    ⟨hren, fun j hj => ⟨rfl, hj⟩, rfl, fun _ _ _ _ h => h, fun _ _ _ => rfl, fun _ _ => rfl⟩
  exact imageF_spec_den (some rn) none [] [] Q fa ren id _ f m u v cache hP hI hoff hu hv
    (fun j hj => hj.lt_nvars hI.wf.toWF) hmemo hfuel

/-- `_image` as called by `preimage` (`umap = None`, `vmap = rename`): when the renaming is
strictly increasing on (a set `S` containing) the support of `v`, sends it to declared levels
and does not move the terminal's level, the result is `Q qvars. u ∧ rename(v)` (renaming of `v`
BEFORE the conjunction: level `j` of `v` is read at `rV j`). -/
theorem imageF_spec_preimage (rn : List (Int × Int)) (Q : List Nat) (fa : Bool) (rV : Nat → Nat)
    (S : Nat → Prop) (f : Nat) (m : Mgr) (u v : Int) (cache : HashMap (Int × Int) Int)
    (hI : Inv m) (hoff : m.lastLen = none) (hu : m.tbl.Mem u) (hv : m.tbl.Mem v)
    (hS : ∀ j, InSupp m.tbl v j → S j)
    (hval : ∀ j, S j → (rn.lookup (j : Int)).getD (j : Int) = (rV j : Int) ∧ rV j < m.nvars)
    (hterm : (rn.lookup (m.nvars : Int)).getD (m.nvars : Int) = (m.nvars : Int))
    (hmono : ∀ j j', S j → S j' → j < j' → rV j < rV j')
    (hmemo : IMemo fa Q id rV m.tbl cache)
    (hfuel : 2 * m.nvars + 1 ≤ f + m.tbl.levelOf u + m.tbl.levelOf v) :
    ∃ r c' m', imageF none (some rn) [] [] Q fa f u v cache m = (.ok (r, c'), m') ∧
      Inv m' ∧ Ext m.tbl m'.tbl ∧ Frame m m' ∧ IMemo fa Q id rV m'.tbl c' ∧ m'.tbl.Mem r ∧
      ∀ a, den m'.tbl r a = true ↔
        qsem fa Q (fun b => den m.tbl u b && den m.tbl v (fun j => b (rV j))) a := by
  have hP : ImgOK none (some rn) [] [] Q id rV S m.nvars :=
    ⟨fun z hz _ => ⟨rfl, hz⟩, hval, hterm, hmono, fun _ _ _ => rfl, fun _ _ => rfl⟩
  exact imageF_spec_den none (some rn) [] [] Q fa id rV S f m u v cache hP hI hoff hu hv hS
    hmemo hfuel

theorem inj_of_one_pair {α β : Type} (x : α × β) :
    ∀ p p', p ∈ [x] → p' ∈ [x] → p.2 = p'.2 → p.1 = p'.1 :=
  fun _ _ hp hp' _ => by rw [List.mem_singleton.mp hp, List.mem_singleton.mp hp']

/-- `rn.get(z, z)` as a map on levels (a negative target is read as 0; the theorems below
assume the targets are levels) -/
def renOf (rn : List (Int × Int)) (z : Nat) : Nat :=
  ((rn.lookup (z : Int)).getD (z : Int)).toNat

theorem renOf_cases (rn : List (Int × Int)) (z : Nat) :
    (rn.lookup (z : Int) = none ∧ renOf rn z = z) ∨
    ∃ x, ((z : Int), x) ∈ rn ∧ rn.lookup (z : Int) = some x ∧ renOf rn z = x.toNat := by
  unfold renOf
  cases hl : rn.lookup (z : Int) with
  | none => exact Or.inl ⟨rfl, by simp⟩
  | some x => exact Or.inr ⟨x, lookup_some_mem _ _ _ hl, rfl, rfl⟩

theorem renOf_eq (rn : List (Int × Int)) (hval : ∀ p, p ∈ rn → 0 ≤ p.2) (z : Nat) :
    (rn.lookup (z : Int)).getD (z : Int) = (renOf rn z : Int) := by
  rcases renOf_cases rn z with ⟨hl, he⟩ | ⟨x, hm, hl, he⟩
  · rw [hl, he]; rfl
  · have := hval _ hm
    rw [hl, he, Option.getD_some]
    omega

theorem renOf_lt (rn : List (Int × Int)) (N : Nat) (hval : ∀ p, p ∈ rn → p.2 < (N : Int))
    (z : Nat) (hz : z < N) : renOf rn z < N := by
  rcases renOf_cases rn z with ⟨_, he⟩ | ⟨x, hm, _, he⟩
  · omega
  · have := hval _ hm
    omega

theorem renOf_not_key (rn : List (Int × Int)) (z : Nat) (h : ∀ p, p ∈ rn → p.1 ≠ (z : Int)) :
    renOf rn z = z := by
  rcases renOf_cases rn z with ⟨_, he⟩ | ⟨x, hm, _, _⟩
  · exact he
  · exact absurd rfl (h _ hm)

/-- THE ARITHMETIC OF "NEIGHBOURS": a renaming whose pairs are adjacent (`|k - rn k| = 1`) and
injective, none of whose targets lies in `S`, is strictly increasing on `S`. -/
theorem renOf_mono (rn : List (Int × Int)) (S : Nat → Prop)
    (hval : ∀ p, p ∈ rn → 0 ≤ p.2)
    (hadj : ∀ p, p ∈ rn → (p.1 - p.2).natAbs = 1)
    (hinj : ∀ p p', p ∈ rn → p' ∈ rn → p.2 = p'.2 → p.1 = p'.1)
    (hdis : ∀ p, p ∈ rn → ∀ j, S j → p.2 ≠ (j : Int)) :
    ∀ j j', S j → S j' → j < j' → renOf rn j < renOf rn j' := by
  intro j j' hj hj' hlt
  rcases renOf_cases rn j with ⟨_, e1⟩ | ⟨x, m1, _, e1⟩ <;>
    rcases renOf_cases rn j' with ⟨_, e2⟩ | ⟨x', m2, _, e2⟩
  · omega
  · have v2 : 0 ≤ x' := hval _ m2
    have a2 : ((j' : Int) - x').natAbs = 1 := hadj _ m2
    have d2 : x' ≠ (j : Int) := hdis _ m2 j hj
    omega
  · have v1 : 0 ≤ x := hval _ m1
    have a1 : ((j : Int) - x).natAbs = 1 := hadj _ m1
    have d1 : x ≠ (j' : Int) := hdis _ m1 j' hj'
    omega
  · have v1 : 0 ≤ x := hval _ m1
    have v2 : 0 ≤ x' := hval _ m2
    have a1 : ((j : Int) - x).natAbs = 1 := hadj _ m1
    have a2 : ((j' : Int) - x').natAbs = 1 := hadj _ m2
    have d1 : x ≠ (j' : Int) := hdis _ m1 j' hj'
    have d2 : x' ≠ (j : Int) := hdis _ m2 j hj
    have i12 : x = x' → (j : Int) = (j' : Int) := hinj _ _ m1 m2
    omega

end DD
