/-
  DDProofs.ImageDynTotal — `image` / `preimage` with ARBITRARY arguments (nodes that are not
  stored, undeclared names, levels that do not exist, overlapping renamings, …) and dynamic
  reordering possibly ENABLED.  The code validates and NAMES its arguments first
  (`_image_args_by_name`, outside the decorator: a rejection there changes nothing), then runs the
  decorated `_image_of` / `_preimage_of`, which are total in the sense `TotE` — in the fused
  traversal `_image` and in the fallback `_copy_bdd` / `ite` / `quantify`.  So the calls are rows of
  the table `Decorated` (`image_decorated`, `preimage_decorated`).  The documented RESULT of a
  well-formed call is `C09_image_transparent` / `C09_preimage_transparent`.
-/
import DDProofs.DynRejectedOps
import DDProofs.ImageSeq
open Std

namespace DD

theorem findOrAddI_totE (i : Int) (m : Mgr) (hI : Inv m) (_ : m.ctx = true) :
    TotE m (findOrAdd i (-1) 1 m) := by
  by_cases hi : 0 ≤ i
  · have := varNode_totE m hI i.toNat
    rwa [Int.toNat_of_nonneg hi] at this
  · exact findOrAdd_refused_totE m hI i (-1) 1 .value (by simp) fun _ _ => if_pos (by omega)

theorem findOrAddNonInt_totE (m : Mgr) (hI : Inv m) (hc : m.ctx = true) :
    TotE m (findOrAddNonInt m) :=
  findOrAddNonInt_seq TotE.seqClosed requestReordering_totE m hI hc

theorem imageF_totE (umap vmap : Option (List (Int × Int))) (ubad vbad : List Int)
    (Q : List Nat) (fa : Bool) (f : Nat) (u v : Int) (cache : HashMap (Int × Int) Int) (m : Mgr)
    (hI : Inv m) (hc : m.ctx = true) : TotE m (imageF umap vmap ubad vbad Q fa f u v cache m) :=
  imageF_seq TotE.seqClosed findOrAddI_totE
    findOrAddNonInt_totE (fun g u v m hI hc => ite_nested_totE m hI hc g u v)
    umap vmap ubad vbad Q fa f u v cache m hI hc

theorem imageBody_totE (t s : Int) (rn : List (Key × Key)) (q : List Key) (fa : Bool)
    (m : Mgr) (hI : Inv m) (hc : m.ctx = true) : TotE m (imageBody t s rn q fa m) :=
  imageBody_seq TotE.seqClosed findOrAddI_totE
    findOrAddNonInt_totE (fun g u v m hI hc => ite_nested_totE m hI hc g u v)
    t s rn q fa m hI hc

theorem copyBddK_totE (lm : List (Nat × Key)) (fu : Nat) (u : Int) (cache : HashMap Nat Int) (m : Mgr)
    (hI : Inv m) (hc : m.ctx = true) : TotE m (copyBddK lm fu u cache m) :=
  copyBddK_seq TotE.seqClosed findOrAddI_totE
    findOrAddNonInt_totE (fun g u v m hI hc => ite_nested_totE m hI hc g u v)
    lm fu u cache m hI hc

theorem preimageFallback_totE (t s : Int) (rn : List (Key × Key)) (q : List Nat) (fa : Bool)
    (m : Mgr) (hI : Inv m) (hc : m.ctx = true) : TotE m (preimageFallback t s rn q fa m) :=
  preimageFallback_seq TotE.seqClosed findOrAddI_totE
    findOrAddNonInt_totE (fun g u v m hI hc => ite_nested_totE m hI hc g u v)
    (fun u q fa m hI hc => quantify_nested_totE m hI hc u q fa) t s rn q fa m hI hc

theorem preimageBody_totE (t s : Int) (rn : List (Key × Key)) (q : List Key) (fa : Bool)
    (m : Mgr) (hI : Inv m) (hc : m.ctx = true) : TotE m (preimageBody t s rn q fa m) :=
  preimageBody_seq TotE.seqClosed findOrAddI_totE
    findOrAddNonInt_totE (fun g u v m hI hc => ite_nested_totE m hI hc g u v)
    (fun u q fa m hI hc => quantify_nested_totE m hI hc u q fa)
    (fun {_ x} hx m hI hc => by
      have h := hx m hI hc
      unfold fuelToRuntime
      generalize x m = r at h ⊢
      obtain ⟨e | a, m2⟩ := r
      · refine ⟨h.1, fun he => h.2 ?_⟩
        by_cases hf : e = .fuel
        · simp [hf] at he
        · simpa [hf] using he
      · exact h)
    t s rn q fa m hI hc

/-- `image(trans, source, rename, qvars, bdd, forall)`, ARBITRARY arguments: the quantified
variables are refused, or `_image_of` runs under the decorator -/
theorem image_decorated (t s : Int) (rn : List (Key × Key)) (q : List Key) (fa : Bool) (m : Mgr) :
    Decorated m (image t s rn q fa m) := by
  unfold image
  cases hq : qvarsByName m.tbl q with
  | error e => exact .same _ fun h => qvarsByName_plain m.tbl q _ (.inl rfl) (by rw [hq]; simpa using h)
  | ok qn => exact .body _ fun m0 hI hc => imageBody_totE t s _ qn fa m0 hI hc

theorem preimage_decorated (t s : Int) (rn : List (Key × Key)) (q : List Key) (fa : Bool) (m : Mgr) :
    Decorated m (preimage t s rn q fa m) := by
  unfold preimage
  cases hq : qvarsByName m.tbl q with
  | error e => exact .same _ fun h => qvarsByName_plain m.tbl q _ (.inl rfl) (by rw [hq]; simpa using h)
  | ok qn => exact .body _ fun m0 hI hc => preimageBody_totE t s _ qn fa m0 hI hc

/-- `image(trans, source, rename, qvars, bdd, forall)`, ARBITRARY arguments, reordering possibly
enabled: returns or raises — never the internal signal — and leaves `DynKept` -/
theorem image_total_dyn (ext : Nat → Nat) (hS : SiftContract ext) (m : Mgr) (hD : DynInv ext m)
    (t s : Int) (rn : List (Key × Key)) (q : List Key) (fa : Bool) :
    DynTotal ext m (image t s rn q fa m) :=
  (image_decorated t s rn q fa m).total hD

/-- `preimage(trans, target, rename, qvars, bdd, forall)`, ARBITRARY arguments -/
theorem preimage_total_dyn (ext : Nat → Nat) (hS : SiftContract ext) (m : Mgr) (hD : DynInv ext m)
    (t s : Int) (rn : List (Key × Key)) (q : List Key) (fa : Bool) :
    DynTotal ext m (preimage t s rn q fa m) :=
  (preimage_decorated t s rn q fa m).total hD

end DD
