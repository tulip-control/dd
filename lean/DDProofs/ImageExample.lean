/-
  DDProofs.ImageExample — two concrete managers, used by the non-vacuity examples of C13 and by
  the refutation of the unrestricted `preimage` statement (findings F5, F5b).
  `imgM`: one primed/unprimed pair, order `x` (level 0) < `xp` (level 1); nodes
    2 = `xp`, 3 = `x ↔ xp`, 4 = `x ∨ xp`, 5 = `x`
  so that `-3` = `x xor xp` and `-4` = `¬x ∧ ¬xp`.  `imgM3`: three variables, see below.
-/
import DDProofs.InvCheck
import DDProofs.Image
open Std

namespace DD

def imgM : Mgr :=
  { tbl := {
      succ := ((((({} : TreeMap Nat Nd).insert 2 ⟨1, -1, 1⟩).insert 3 ⟨0, -2, 2⟩).insert 4
        ⟨0, 2, 1⟩).insert 5 ⟨0, -1, 1⟩)
      vars := (({} : TreeMap String Nat).insert "x" 0).insert "xp" 1
      l2v := (({} : TreeMap Nat String).insert 0 "x").insert 1 "xp" }
    pred := ((((({} : TreeMap (List Int) Nat).insert [1, -1, 1] 2).insert [0, -2, 2] 3).insert
      [0, 2, 1] 4).insert [0, -1, 1] 5)
    ref := (((((({} : TreeMap Nat Nat).insert 1 6).insert 2 2).insert 3 1).insert 4 1).insert 5 1)
    minFree := 6 }

theorem imgM_nvars : imgM.tbl.nvars = 2 := by decide

theorem imgM_nvars' : imgM.nvars = 2 := imgM_nvars

theorem imgM_mem (u : Int)
    (h : u.natAbs = 1 ∨ u.natAbs = 2 ∨ u.natAbs = 3 ∨ u.natAbs = 4 ∨ u.natAbs = 5) :
    imgM.tbl.Mem u := by
  unfold Tbl.Mem
  rcases h with h | h | h | h | h <;> rw [h] <;> decide

theorem imgM_levelOf2 : imgM.tbl.levelOf 2 = 1 := by decide
theorem imgM_levelOf3 : imgM.tbl.levelOf 3 = 0 := by decide
theorem imgM_levelOf4 : imgM.tbl.levelOf 4 = 0 := by decide
theorem imgM_levelOf1 : imgM.tbl.levelOf 1 = 2 := by decide
theorem imgM_levelOfm1 : imgM.tbl.levelOf (-1) = 2 := by decide

theorem imgM_inv : Inv imgM := inv_of_check (by decide +kernel)

theorem imgM_vars_x : imgM.tbl.vars["x"]? = some 0 := by decide
theorem imgM_vars_xp : imgM.tbl.vars["xp"]? = some 1 := by decide

theorem imgM_varsBij : VarsBij imgM.tbl := varsBij_of_check (by decide +kernel)

theorem imgM_den2 (a : Asg) : den imgM.tbl 2 a = a 1 := by
  rw [den_node imgM.tbl imgM_inv.wf.toWF 2 ⟨1, -1, 1⟩ a (by decide) (by decide), den_one, den_neg_one]
  cases a 1 <;> simp

theorem imgM_den3 (a : Asg) : den imgM.tbl 3 a = (a 0 == a 1) := by
  have hW := imgM_inv.wf.toWF
  rw [den_node imgM.tbl hW 3 ⟨0, -2, 2⟩ a (by decide) (by decide)]
  simp only [Int.reduceNeg]
  rw [den_neg imgM.tbl hW 2 a (imgM_mem _ (by decide)), imgM_den2]
  cases a 0 <;> cases a 1 <;> simp

theorem imgM_den5 (a : Asg) : den imgM.tbl 5 a = a 0 := by
  rw [den_node imgM.tbl imgM_inv.wf.toWF 5 ⟨0, -1, 1⟩ a (by decide) (by decide), den_one, den_neg_one]
  cases a 0 <;> simp

theorem imgM_den4 (a : Asg) : den imgM.tbl 4 a = (a 0 || a 1) := by
  have hW := imgM_inv.wf.toWF
  rw [den_node imgM.tbl hW 4 ⟨0, 2, 1⟩ a (by decide) (by decide), imgM_den2, den_one]
  cases a 0 <;> cases a 1 <;> simp

theorem imgM_contains_x : imgM.tbl.vars.contains "x" = true :=
  (vars_contains_iff _ _).mpr ⟨0, imgM_vars_x⟩
theorem imgM_contains_xp : imgM.tbl.vars.contains "xp" = true :=
  (vars_contains_iff _ _).mpr ⟨1, imgM_vars_xp⟩

theorem imgM_dep3_0 : dependsOn imgM.tbl 3 0 := by
  refine ⟨fun _ => false, ?_⟩
  rw [imgM_den3, imgM_den3]
  simp [upd]

theorem imgM_indep5_1 : ¬ dependsOn imgM.tbl 5 1 := by
  rintro ⟨a, h⟩
  apply h
  rw [imgM_den5, imgM_den5]
  simp [upd]

/-- `∃ x. (x ↔ xp) ∧ (x ∨ xp)`, with `xp` renamed to `x` afterwards, is `x` -/
theorem imgM_image_sem (a : Asg) :
    qsem false [0] (fun b => den imgM.tbl 3 b && den imgM.tbl 4 b)
      (fun z => a (renOf [(1, 0)] z)) ↔ a 0 = true := by
  have e1 : renOf [(1, 0)] 1 = 0 := by decide
  constructor
  · rintro ⟨b, hb, hf⟩
    have hb1 := hb 1 (by simp)
    dsimp only at hb1 hf
    rw [e1] at hb1
    rw [imgM_den3, imgM_den4] at hf
    rw [← hb1]
    revert hf
    cases b 0 <;> cases b 1 <;> simp
  · intro ha
    refine ⟨upd (fun z => a (renOf [(1, 0)] z)) 0 true,
      agreeOff_upd (by simp) true (AgreeOff.refl _ _), ?_⟩
    dsimp only
    rw [imgM_den3, imgM_den4]
    simp [upd, e1, ha]

/-- `∃ xp. (x ↔ xp) ∧ xp` (the target `x` renamed to `xp`) is `x` -/
theorem imgM_preimage_sem (a : Asg) :
    qsem false [1] (fun b => den imgM.tbl 3 b && den imgM.tbl 5 (fun j => b (renOf [(0, 1)] j))) a ↔
      a 0 = true := by
  have e0 : renOf [(0, 1)] 0 = 1 := by decide
  constructor
  · rintro ⟨b, hb, hf⟩
    have hb0 := hb 0 (by simp)
    dsimp only at hf
    rw [imgM_den3, imgM_den5, e0] at hf
    rw [← hb0]
    revert hf
    cases b 0 <;> cases b 1 <;> simp
  · intro ha
    refine ⟨upd a 1 true, agreeOff_upd (by simp) true (AgreeOff.refl _ _), ?_⟩
    dsimp only
    rw [imgM_den3, imgM_den5]
    simp [upd, e0, ha]

/-! ### three variables

Order `a` (level 0) < `b` (1) < `c` (2); nodes 2 = `c`, 3 = `¬a ∨ c` (so `-3` = `a ∧ ¬c`).  Used for
`image` with a pair that is NOT adjacent (`{c: a}`) and for the witness that `preimage` needs an
INJECTIVE renaming (`imgM3_noninj_run`). -/

def imgM3 : Mgr :=
  { tbl := {
      succ := ((({} : TreeMap Nat Nd).insert 2 ⟨2, -1, 1⟩).insert 3 ⟨0, 1, 2⟩)
      vars := ((({} : TreeMap String Nat).insert "a" 0).insert "b" 1).insert "c" 2
      l2v := ((({} : TreeMap Nat String).insert 0 "a").insert 1 "b").insert 2 "c" }
    pred := ((({} : TreeMap (List Int) Nat).insert [2, -1, 1] 2).insert [0, 1, 2] 3)
    ref := (((({} : TreeMap Nat Nat).insert 1 3).insert 2 2).insert 3 1)
    minFree := 4 }

theorem imgM3_nvars : imgM3.tbl.nvars = 3 := by decide

theorem imgM3_nvars' : imgM3.nvars = 3 := imgM3_nvars

theorem imgM3_mem (u : Int) (h : u.natAbs = 1 ∨ u.natAbs = 2 ∨ u.natAbs = 3) :
    imgM3.tbl.Mem u := by
  unfold Tbl.Mem
  rcases h with h | h | h <;> rw [h] <;> decide

theorem imgM3_levelOf2 : imgM3.tbl.levelOf 2 = 2 := by decide
theorem imgM3_levelOf3 : imgM3.tbl.levelOf 3 = 0 := by decide
theorem imgM3_levelOf1 : imgM3.tbl.levelOf 1 = 3 := by decide

theorem imgM3_inv : Inv imgM3 := inv_of_check (by decide +kernel)

theorem imgM3_varsBij : VarsBij imgM3.tbl := varsBij_of_check (by decide +kernel)

theorem imgM3_den2 (a : Asg) : den imgM3.tbl 2 a = a 2 := by
  rw [den_node imgM3.tbl imgM3_inv.wf.toWF 2 ⟨2, -1, 1⟩ a (by decide) (by decide), den_one, den_neg_one]
  cases a 2 <;> simp

theorem imgM3_indep2_0 : ¬ dependsOn imgM3.tbl 2 0 := by
  rintro ⟨a, h⟩
  apply h
  rw [imgM3_den2, imgM3_den2]
  simp only [upd, reduceCtorEq, ↓reduceIte]

theorem imgM3_den3 (a : Asg) : den imgM3.tbl 3 a = (!a 0 || a 2) := by
  rw [den_node imgM3.tbl imgM3_inv.wf.toWF 3 ⟨0, 1, 2⟩ a (by decide) (by decide), den_one, imgM3_den2]
  cases a 0 <;> cases a 2 <;> simp

end DD
