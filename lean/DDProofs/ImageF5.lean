/-
  DDProofs.ImageF5 — what `_image` really returns on the witness of finding F5:
  order `x < xp`, `trans = ¬x ∧ ¬xp` (reference -4 of `imgM`), `target = x xor xp` (reference
  -3), `rename = {x: xp}` (levels `{0: 1}`), `qvars = {xp}`, existential quantification.
  The documented meaning `∃ xp. trans ∧ target[xp/x]` is FALSE (`xp xor xp`); the code returns
  the function `¬x`.

  The run cannot be evaluated (the memo of `_image` is a `HashMap`, whose operations do not reduce
  in the kernel), so it is followed symbolically: the two outer calls (whose second operand depends on the
  rename target) are unfolded, the inner calls are covered by `imageF_spec_preimage`, the calls
  of `ite` / `find_or_add` by their specifications.
-/
import DDProofs.ImageExample
open Std

namespace DD

theorem imageF_false (umap vmap : Option (List (Int × Int))) (ubad vbad : List Int) (Q : List Nat)
    (fa : Bool) (f : Nat) (u v : Int) (cache : HashMap (Int × Int) Int) (m : Mgr)
    (h : u = -1 ∨ v = -1) :
    imageF umap vmap ubad vbad Q fa (f+1) u v cache m = (.ok (-1, cache), m) := by
  unfold imageF
  rw [if_pos h]

/-- the example manager with the context flag set to `c` (the decorated bodies run with the
flag set) -/
def imgMc (c : Bool) : Mgr := { imgM with ctx := c }

theorem imgMc_false : imgMc false = imgM := rfl

/-- the run of `_image` on the F5 witness: it succeeds and returns a reference of `¬x` -/
theorem imgM_F5_run :
    ∃ r c m', imageF none (some [(0, 1)]) [] [] [1] false 8 (-4) (-3) {} imgM = (.ok (r, c), m') ∧
      ∀ a, den m'.tbl r a = !a 0 := by
  have hW := imgM_inv.wf.toWF
  -- innermost call `(1, xp)`: covered by the specification (`xp` is no rename target)
  obtain ⟨r1, c1, m1, e1, hI1, hE1, hF1, _, hr1, hd1⟩ := imageF_spec_preimage [(0, 1)] [1] false
    (fun j => j) (fun j => j = 1) 6 imgM 1 2 {} imgM_inv rfl (mem_one _) (imgM_mem 2 (by decide))
    (fun j h => by
      have h1 := h.ge hW
      have h2 := h.lt_nvars hW
      rw [imgM_levelOf2] at h1
      rw [imgM_nvars] at h2
      omega)
    (fun j hj => by subst hj; rw [imgM_nvars']; decide)
    (by rw [imgM_nvars']; decide)
    (fun j j' hj hj' h => by omega)
    (IMemo.empty _ _ _ _ _)
    (by rw [imgM_nvars', imgM_levelOf1, imgM_levelOf2]; omega)
  have hoff1 : m1.lastLen = none := by rw [hF1.lastLen]; rfl
  have hr1t : ∀ a, den m1.tbl r1 a = true := by
    intro a
    rw [hd1 a]
    refine ⟨upd a 1 true, agreeOff_upd (by simp) true (AgreeOff.refl _ _), ?_⟩
    simp [den_one, imgM_den2, upd]
  -- `ite(p, 1, q)` at the quantified level 1
  obtain ⟨r2, m2, e2, hp2⟩ := ite_spec_off' m1 hI1 hoff1 r1 1 (-1) hr1 (mem_one _) (mem_neg_one _)
  have hr2t : ∀ a, den m2.tbl r2 a = true := by
    intro a
    rw [hp2.den a, hr1t a, den_one]
    rfl
  have hoff2 : m2.lastLen = none := by rw [hp2.frame.lastLen]; exact hoff1
  -- the call `(¬xp, x xor xp)`
  have hpcall : imageF none (some [(0, 1)]) [] [] [1] false 7 (-2) (-3) {} imgM =
      (.ok (r2, c1.insert (-2, -3) r2), m2) := by
    show imageF none (some [(0, 1)]) [] [] [1] false (6+1) (-2) (-3) {} imgM = _
    unfold imageF
    have hA : ¬ ((-2 : Int) = -1 ∨ (-3 : Int) = -1) := by decide
    have hB : ¬ ((-2 : Int) = 1 ∧ (-3 : Int) = 1) := by decide
    have h1 : imgM.tbl.levelOf? (-2) = some 1 := by decide
    have h2 : imgM.tbl.levelOf? (-3) = some 0 := by decide
    have hz : min ((1 : Nat) : Int) 1 = 1 := by decide
    have hi : mapLvl (some [(0, 1)]) ((0 : Nat) : Int) = 1 := by decide
    have hc1 : topCofactorI imgM.tbl (-2) 1 = .ok (1, -1) := by rfl
    have hc2 : topCofactorI imgM.tbl (-3) (((0 : Nat) : Int) + 1 - 1) = .ok (2, -2) := by rfl
    have hq : (0 : Int) ≤ 1 ∧ [1].contains (1 : Int).toNat = true := by decide
    simp only [hA, hB, if_false, List.contains_nil, Bool.false_eq_true, HashMap.getElem?_empty, h1, h2, hz, hi, hc1, hc2, e1,
      imageF_false, true_or, hq, and_self, if_true, Bool.false_eq_true, e2]
  -- the top call `(¬x ∧ ¬xp, x xor xp)`: level 0 is not quantified
  have hn1 : m1.nvars = 2 := by
    have := hE1.nvars
    rw [imgM_nvars] at this
    exact this.symm
  have hn2 : m2.nvars = 2 := by rw [hp2.step.nvars]; exact hn1
  obtain ⟨g, m3, e3, hs3, hg3, _, hd3⟩ := varNode_off m2 hp2.inv hoff2 0 (by omega)
  obtain ⟨r4, m4, e4, hp4⟩ := ite_spec_off' m3 hs3.inv (hs3.off hoff2) g (-1) r2 hg3
    (mem_neg_one _) (hs3.ext.mem hp2.mem)
  refine ⟨r4, (c1.insert (-2, -3) r2).insert (-4, -3) r4, m4, ?_, ?_⟩
  · show imageF none (some [(0, 1)]) [] [] [1] false (7+1) (-4) (-3) {} imgM = _
    unfold imageF
    have hA : ¬ ((-4 : Int) = -1 ∨ (-3 : Int) = -1) := by decide
    have hB : ¬ ((-4 : Int) = 1 ∧ (-3 : Int) = 1) := by decide
    have h1 : imgM.tbl.levelOf? (-4) = some 0 := by decide
    have h2 : imgM.tbl.levelOf? (-3) = some 0 := by decide
    have hi : mapLvl (some [(0, 1)]) ((0 : Nat) : Int) = 1 := by decide
    have hz : min ((0 : Nat) : Int) 1 = 0 := by decide
    have hc1 : topCofactorI imgM.tbl (-4) 0 = .ok (-2, -1) := by rfl
    have hc2 : topCofactorI imgM.tbl (-3) (((0 : Nat) : Int) + 0 - 1) = .ok (-3, -3) := by rfl
    have hq : ¬ ((0 : Int) ≤ 0 ∧ [1].contains (0 : Int).toNat = true) := by decide
    have hm : mapLvl none (0 : Int) = ((0 : Nat) : Int) := by decide
    simp only [hA, hB, if_false, List.contains_nil, Bool.false_eq_true, HashMap.getElem?_empty, h1, h2, hi, hz, hc1, hc2, hpcall,
      imageF_false, true_or, hq, hm, e3, e4]
  · intro a
    rw [hp4.den a, hd3 a, den_neg_one, den_ext hs3.ext hp2.inv.wf.toWF r2 a hp2.mem, hr2t a]
    cases a 0 <;> rfl

/-- finding F5b: the run of `_image` on the non-injective renaming `{a: b, c: b}` (levels
`{0: 1, 2: 1}`), `u` = TRUE, `v = a ∧ ¬c`, `qvars = {b}`, existential: the code returns a reference
of TRUE -/
theorem imgM3_noninj_run :
    ∃ r c m', imageF none (some [(0, 1), (2, 1)]) [] [] [1] false 10 1 (-3) {} imgM3 =
      (.ok (r, c), m') ∧ ∀ a, den m'.tbl r a = true := by
  have hW := imgM3_inv.wf.toWF
  -- the call `(1, ¬c)`: covered by the specification (one variable in the support)
  obtain ⟨r1, c1, m1, e1, hI1, hE1, hF1, _, hr1, hd1⟩ := imageF_spec_preimage [(0, 1), (2, 1)]
    [1] false (fun _ => 1) (fun j => j = 2) 9 imgM3 1 (-2) {} imgM3_inv rfl (mem_one _)
    (imgM3_mem _ (by decide))
    (fun j h => by
      have h1 := h.ge hW
      have h2 := h.lt_nvars hW
      rw [levelOf_neg, imgM3_levelOf2] at h1
      rw [imgM3_nvars] at h2
      omega)
    (fun j hj => by subst hj; rw [imgM3_nvars']; decide)
    (by rw [imgM3_nvars']; decide)
    (fun j j' hj hj' h => by omega)
    (IMemo.empty _ _ _ _ _)
    (by rw [imgM3_nvars', imgM3_levelOf1, levelOf_neg, imgM3_levelOf2]; omega)
  have hoff1 : m1.lastLen = none := by rw [hF1.lastLen]; rfl
  have hr1t : ∀ a, den m1.tbl r1 a = true := by
    intro a
    rw [hd1 a]
    refine ⟨upd a 1 false, agreeOff_upd (by simp) false (AgreeOff.refl _ _), ?_⟩
    dsimp only
    rw [den_one, den_neg imgM3.tbl hW 2 _ (imgM3_mem _ (by decide)), imgM3_den2]
    simp [upd]
  obtain ⟨r2, m2, e2, hp2⟩ := ite_spec_off' m1 hI1 hoff1 (-1) 1 r1 (mem_neg_one _) (mem_one _) hr1
  refine ⟨r2, c1.insert (1, -3) r2, m2, ?_, ?_⟩
  · show imageF none (some [(0, 1), (2, 1)]) [] [] [1] false (9+1) 1 (-3) {} imgM3 = _
    unfold imageF
    have hA : ¬ ((1 : Int) = -1 ∨ (-3 : Int) = -1) := by decide
    have hB : ¬ ((-3 : Int) = 1) := by decide
    have h1 : imgM3.tbl.levelOf? 1 = some 3 := by decide
    have h2 : imgM3.tbl.levelOf? (-3) = some 0 := by decide
    have hi : mapLvl (some [(0, 1), (2, 1)]) ((0 : Nat) : Int) = 1 := by decide
    have hz : min ((3 : Nat) : Int) 1 = 1 := by decide
    have hc1 : topCofactorI imgM3.tbl 1 1 = .ok (1, 1) := by rfl
    have hc2 : topCofactorI imgM3.tbl (-3) (((0 : Nat) : Int) + 1 - 1) = .ok (-1, -2) := by rfl
    have hq : (0 : Int) ≤ 1 ∧ [1].contains (1 : Int).toNat = true := by decide
    simp only [hA, hB, and_false, if_false, List.contains_nil, Bool.false_eq_true,
      HashMap.getElem?_empty, h1, h2, hi, hz, hc1, hc2, imageF_false, or_true, e1, hq, and_self,
      if_true, e2]
  · intro a
    rw [hp2.den a, den_neg_one, hr1t a]
    rfl

end DD
