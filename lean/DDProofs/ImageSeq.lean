/-
  DDProofs.ImageSeq — the bodies `_image_of` and `_preimage_of`, its fallback, and the two checks
  of a renaming that only read the manager, in sequenced form, walked once for every property of
  computations that sequencing preserves (`SeqClosed`): they have it as soon as `find_or_add` of a
  variable, the refused `find_or_add`, `ite` and `quantify` have it (`_image` and `_copy_bdd`:
  DDProofs.RecursionsSeq).
-/
import DDProofs.SwapSeq
import DDProofs.RecursionsSeq
open Std

namespace DD

theorem adjacentWarn_cons (k v : Key) (rest : List (Key × Key)) :
    adjacentWarn ((k, v) :: rest) = match k, v with
      | .lvl a, .lvl b =>
        if (a - b).natAbs = 1 then adjacentWarn rest else
        varAtLevel a >>= fun _ => varAtLevel b >>= fun _ => pure ()
      | _, _ => M.throw .type := by
  funext m
  conv => lhs; unfold adjacentWarn
  cases k <;> cases v <;> try rfl
  next a b =>
  dsimp only
  split
  · rfl
  rcases hx1 : varAtLevel a m with ⟨e | x, m1⟩
  · rw [M.bind_err hx1]
  rw [M.bind_ok hx1]
  dsimp only
  rcases hx2 : varAtLevel b m1 with ⟨e | y, m2⟩
  · rw [M.bind_err hx2]
  · rw [M.bind_ok hx2]; rfl

theorem assertValidRename_eq (rn : List (Key × Key)) :
    assertValidRename rn = if rn.isEmpty then pure () else
      varAtLevel 0 >>= fun _ => if renameOverlap rn then M.throw .assertion else pure () := by
  funext m
  unfold assertValidRename
  split
  · rfl
  rcases hx : varAtLevel 0 m with ⟨e | x, m1⟩
  · rw [M.bind_err hx]
  rw [M.bind_ok hx]
  dsimp only
  split <;> rfl

theorem imageBody_eq (trans source : Int) (rn : List (Key × Key)) (qvars : List Key) (fa : Bool) :
    imageBody trans source rn qvars fa = M.get >>= fun m0 =>
      liftE (mapToLevelE m0.tbl qvars) >>= fun q =>
      let rn := resolveRename m0.tbl rn
      if renameOverlap rn then M.throw .assertion else
      adjacentWarn rn >>= fun _ =>
      liftE (supportLevels m0.tbl trans) >>= fun s1 =>
      liftE (supportLevels m0.tbl source) >>= fun s2 =>
      if !(imageBadTargets (renameValues rn) q s1 s2).isEmpty then M.throw .assertion else
      imageF (some (intPairs rn)) none (badKeys rn) [] q fa (2 * m0.nvars + 4) trans source {} >>= fun rc =>
      pure rc.1 := by
  funext m
  unfold imageBody
  rw [M.get_bind]
  rcases mapToLevelE m.tbl qvars with e | q
  · rfl
  dsimp only
  show _ = (if _ then _ else _ : M Int) m
  split
  · rfl
  rcases hx1 : adjacentWarn (resolveRename m.tbl rn) m with ⟨e | x, m1⟩
  · rw [M.bind_err hx1]
  rw [M.bind_ok hx1]
  dsimp only
  rcases supportLevels m.tbl trans with e | s1
  · rfl
  rcases supportLevels m.tbl source with e | s2
  · rfl
  dsimp only
  show _ = (if _ then _ else _ : M Int) m1
  split
  · rfl
  rcases hx2 : imageF (some (intPairs (resolveRename m.tbl rn))) none (badKeys (resolveRename m.tbl rn)) []
      q fa (2 * m.nvars + 4) trans source {} m1 with ⟨e | rc, m2⟩
  · rw [M.bind_err hx2]
  · rw [M.bind_ok hx2]; rfl

theorem preimageFallback_eq (trans target : Int) (rn : List (Key × Key)) (q : List Nat) (fa : Bool) :
    preimageFallback trans target rn q fa = M.get >>= fun m0 =>
      copyBddK (preimageLevelMap m0.nvars rn) (m0.nvars + 2) target {} >>= fun rc =>
      ite trans rc.1 (-1) >>= fun r2 =>
      quantify r2 (q.map fun (i : Nat) => Key.lvl (i : Int)) fa := by
  funext m
  unfold preimageFallback
  rw [M.get_bind]
  rcases hx1 : copyBddK (preimageLevelMap m.nvars rn) (m.nvars + 2) target {} m with ⟨e | rc, m1⟩
  · rw [M.bind_err hx1]
  rw [M.bind_ok hx1]
  dsimp only
  rcases hx2 : ite trans rc.1 (-1) m1 with ⟨e | r2, m2⟩
  · rw [M.bind_err hx2]
  · rw [M.bind_ok hx2]

/-- `except RecursionError` in `_preimage_of`: running out of fuel is re-raised as a RuntimeError -/
def fuelToRuntime {α : Type} (x : M α) : M α := fun m =>
  match x m with
  | (.error e, m2) => (.error (if e = .fuel then .runtime else e), m2)
  | (.ok a, m2) => (.ok a, m2)

theorem preimageBody_eq (trans target : Int) (rn : List (Key × Key)) (qvars : List Key) (fa : Bool) :
    preimageBody trans target rn qvars fa = M.get >>= fun m0 =>
      liftE (mapToLevelE m0.tbl qvars) >>= fun q =>
      let rn := resolveRename m0.tbl rn
      assertValidRename rn >>= fun _ =>
      M.get >>= fun m1 =>
      liftE (preimageFused m1.tbl rn target) >>= fun fused =>
      if fused then
        fuelToRuntime (imageF none (some (intPairs rn)) [] (badKeys rn) q fa (2 * m0.nvars + 4)
          trans target {}) >>= fun rc => pure rc.1
      else preimageFallback trans target rn q fa := by
  funext m
  unfold preimageBody
  rw [M.get_bind]
  rcases mapToLevelE m.tbl qvars with e | q
  · rfl
  dsimp only
  show _ = (assertValidRename (resolveRename m.tbl rn) >>= _) m
  rcases hx1 : assertValidRename (resolveRename m.tbl rn) m with ⟨e | x, m1⟩
  · rw [M.bind_err hx1]
  rw [M.bind_ok hx1, M.get_bind]
  dsimp only
  rcases preimageFused m1.tbl (resolveRename m.tbl rn) target with e | fused
  · rfl
  dsimp only
  cases fused
  · rfl
  · show _ = (fuelToRuntime _ >>= _) m1
    rw [M.bind_eq]
    unfold fuelToRuntime
    rcases imageF none (some (intPairs (resolveRename m.tbl rn))) [] (badKeys (resolveRename m.tbl rn))
      q fa (2 * m.nvars + 4) trans target {} m1 with ⟨e | rc, m2⟩ <;> rfl

section
variable {C : ∀ {α : Type}, M α → Prop} (hC : SeqClosed C)
include hC

theorem adjacentWarn_seq : ∀ rn : List (Key × Key), C (adjacentWarn rn)
  | [] => hC.pure ()
  | (k, v) :: rest => by
    rw [adjacentWarn_cons]
    cases k <;> cases v <;> try exact hC.raise _
    exact hC.ite _ (adjacentWarn_seq rest)
      (hC.bind (varAtLevel_seq hC _) fun _ => hC.bind (varAtLevel_seq hC _) fun _ => hC.pure ())

theorem assertValidRename_seq (rn : List (Key × Key)) : C (assertValidRename rn) := by
  rw [assertValidRename_eq]
  exact hC.ite _ (hC.pure ()) (hC.bind (varAtLevel_seq hC _) fun _ =>
    hC.ite _ (hC.raise _) (hC.pure ()))

variable (hvar : ∀ j : Int, C (findOrAdd j (-1) 1)) (hbad : C findOrAddNonInt)
  (hite : ∀ g u v, C (ite g u v))
include hvar hbad hite

theorem imageBody_seq (trans source : Int) (rn : List (Key × Key)) (qvars : List Key) (fa : Bool) :
    C (imageBody trans source rn qvars fa) := by
  rw [imageBody_eq]
  refine hC.read fun m0 => ?_
  exact hC.bind (hC.liftP (mapToLevelE_plain _ _)) fun _ =>
    hC.ite _ (hC.raise _) (hC.bind (adjacentWarn_seq hC _) fun _ =>
    hC.bind (hC.liftP (supportLevels_plain _ _)) fun _ =>
    hC.bind (hC.liftP (supportLevels_plain _ _)) fun _ =>
    hC.ite _ (hC.raise _)
      (hC.bind (imageF_seq hC hvar hbad hite _ _ _ _ _ _ _ _ _ _) fun _ => hC.pure _))

theorem preimageFallback_seq (hquant : ∀ u q fa, C (quantify u q fa)) (trans target : Int)
    (rn : List (Key × Key)) (q : List Nat) (fa : Bool) : C (preimageFallback trans target rn q fa) := by
  rw [preimageFallback_eq]
  exact hC.read (fun _ => hC.bind (copyBddK_seq hC hvar hbad hite _ _ _ _) fun _ =>
    hC.bind (hite _ _ _) fun _ => hquant _ _ _)

theorem preimageBody_seq (hquant : ∀ u q fa, C (quantify u q fa))
    (hfuel : ∀ {α : Type} {x : M α}, C x → C (fuelToRuntime x)) (trans target : Int)
    (rn : List (Key × Key)) (qvars : List Key) (fa : Bool) : C (preimageBody trans target rn qvars fa) := by
  rw [preimageBody_eq]
  refine hC.read fun m0 => ?_
  refine hC.bind (hC.liftP (mapToLevelE_plain _ _)) fun q =>
    hC.bind (assertValidRename_seq hC _) fun _ => hC.read fun m1 => ?_
  exact hC.bind (hC.liftP (preimageFused_plain _ _ _)) fun _ =>
    hC.ite _ (hC.bind (hfuel (imageF_seq hC hvar hbad hite _ _ _ _ _ _ _ _ _ _)) fun _ => hC.pure _)
      (preimageFallback_seq hC hvar hbad hite hquant _ _ _ _ _)

end

end DD
