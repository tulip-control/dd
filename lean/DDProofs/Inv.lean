/-
  DDProofs.Inv — the manager invariant `Inv` (everything the correctness theorems
  need except exact reference counts, which live in DDProofs.RefCount) and the
  bridge between the Boolean tests of the model and the propositions of Sem.
-/
import DDProofs.Ext
import DDProofs.Canon
open Std

namespace DD

theorem Nd.key_inj {a b : Nd} (h : a.key = b.key) : a = b := by
  cases a; cases b
  simp only [Nd.key, List.cons.injEq, and_true] at h
  obtain ⟨h1, h2, h3⟩ := h
  have h1' := Int.ofNat.inj h1
  subst h1' h2 h3
  rfl

theorem Tbl.mem_iff (t : Tbl) (u : Int) : t.mem u = true ↔ t.Mem u := by
  unfold Tbl.mem Tbl.Mem Tbl.node?
  rw [TreeMap.contains_eq_isSome_getElem?]
  simp

theorem Tbl.mem_false_iff (t : Tbl) (u : Int) : t.mem u = false ↔ ¬ t.Mem u := by
  rw [← Tbl.mem_iff]; simp

theorem Tbl.mem_neg (t : Tbl) (u : Int) : t.mem (-u) = t.mem u := by
  simp [Tbl.mem]

theorem Mgr.mem_iff (m : Mgr) (u : Int) : m.mem u = true ↔ m.tbl.Mem u := Tbl.mem_iff _ _

theorem Tbl.levelOf?_eq (t : Tbl) (u : Int) (h : t.Mem u) : t.levelOf? u = some (t.levelOf u) := by
  unfold Tbl.levelOf?
  rcases h.term_or_node with h1 | ⟨n, h1, hn⟩
  · rw [if_pos h1, levelOf_term t u h1]
  · rw [if_neg h1, levelOf_node t u n h1 hn, show t.succ[u.natAbs]? = some n from hn]; rfl

theorem levelOf?_none_of_not_mem (t : Tbl) (u : Int) (h : ¬ t.Mem u) : t.levelOf? u = none := by
  unfold Tbl.levelOf?
  rw [if_neg fun h1 => h (Or.inl h1)]
  cases hh : t.succ[u.natAbs]? with
  | none => rfl
  | some n => exact absurd (Or.inr (by simp [Tbl.node?, hh])) h

/-- what a computed-table entry `(g, u, v) ↦ w` must satisfy -/
structure CacheEntryOK (t : Tbl) (g u v w : Int) : Prop where
  gnt : g.natAbs ≠ 1
  mg : t.Mem g
  mu : t.Mem u
  mv : t.Mem v
  mw : t.Mem w
  lvl : min (t.levelOf g) (min (t.levelOf u) (t.levelOf v)) ≤ t.levelOf w
  den : ∀ a, den t w a = if den t g a then den t u a else den t v a

/-- the invariant of a manager (without exact counts) -/
structure Inv (m : Mgr) : Prop where
  wf : WFU m.tbl
  pred : ∀ (n : Nd) (u : Nat), m.pred[n.key]? = some u ↔ m.tbl.node? u = some n
  freeGe : 2 ≤ m.minFree
  free : m.tbl.node? m.minFree = none
  refOne : m.ref.contains 1 = true
  refDom : ∀ u n, m.tbl.node? u = some n → m.ref.contains u = true
  cache : ∀ g u v w, m.cache[iteKey g u v]? = some w → CacheEntryOK m.tbl g u v w

theorem Inv.congr {m m' : Mgr} (h : Inv m) (ht : m'.tbl = m.tbl) (hp : m'.pred = m.pred)
    (hr : m'.ref = m.ref) (hf : m'.minFree = m.minFree) (hc : m'.cache = m.cache) : Inv m' := by
  obtain ⟨_, _, _, _, _, _, _, _, _, _⟩ := m'
  subst ht hp hr hf hc
  exact ⟨h.wf, h.pred, h.freeGe, h.free, h.refOne, h.refDom, h.cache⟩

theorem Inv.setSched {m : Mgr} (h : Inv m) (s : List SchedItem) : Inv { m with sched := s } :=
  h.congr rfl rfl rfl rfl rfl

theorem Inv.setFire {m : Mgr} (h : Inv m) (f : Option Nat) : Inv { m with fireIn := f } :=
  h.congr rfl rfl rfl rfl rfl

theorem Inv.setCtx {m : Mgr} (h : Inv m) (c : Bool) : Inv { m with ctx := c } :=
  h.congr rfl rfl rfl rfl rfl

theorem Inv.setLastLen {m : Mgr} (h : Inv m) (l : Option Nat) : Inv { m with lastLen := l } :=
  h.congr rfl rfl rfl rfl rfl

theorem iteKey_inj {g u v g' u' v' : Int} (h : iteKey g u v = iteKey g' u' v') :
    g = g' ∧ u = u' ∧ v = v' := by
  simpa [iteKey] using h

theorem Inv.cacheInsert {m : Mgr} (h : Inv m) (g u v w : Int)
    (he : CacheEntryOK m.tbl g u v w) :
    Inv { m with cache := m.cache.insert (iteKey g u v) w } := by
  refine ⟨h.wf, h.pred, h.freeGe, h.free, h.refOne, h.refDom, ?_⟩
  intro g' u' v' w' hc
  have hc' : (m.cache.insert (iteKey g u v) w)[iteKey g' u' v']? = some w' := hc
  rw [TreeMap.getElem?_insert] at hc'
  split at hc'
  · next heq =>
    have := iteKey_inj (LawfulEqOrd.eq_of_compare heq)
    obtain ⟨rfl, rfl, rfl⟩ := this
    cases hc'
    exact he
  · exact h.cache _ _ _ _ hc'

theorem Inv.refGrow {m : Mgr} (h : Inv m) {r : TreeMap Nat Nat}
    (hr : ∀ k, m.ref.contains k = true → r.contains k = true) : Inv { m with ref := r } :=
  ⟨h.wf, h.pred, h.freeGe, h.free, hr _ h.refOne, fun k n hk => hr _ (h.refDom k n hk), h.cache⟩

theorem Inv.refMem {m : Mgr} (h : Inv m) {u : Int} (hu : m.tbl.Mem u) : m.ref.contains u.natAbs = true := by
  rcases hu.term_or_node with h1 | ⟨n, -, hn⟩
  · rw [h1]; exact h.refOne
  · exact h.refDom _ _ hn

theorem CacheEntryOK.ext {m t : Tbl} (hw : WF m) (he : Ext m t) {g u v w : Int}
    (h : CacheEntryOK m g u v w) : CacheEntryOK t g u v w := by
  refine ⟨h.gnt, he.mem h.mg, he.mem h.mu, he.mem h.mv, he.mem h.mw, ?_, ?_⟩
  · rw [he.levelOf h.mg, he.levelOf h.mu, he.levelOf h.mv, he.levelOf h.mw]; exact h.lvl
  · intro a
    rw [den_ext he hw w a h.mw, den_ext he hw g a h.mg, den_ext he hw u a h.mu, den_ext he hw v a h.mv]
    exact h.den a

/-- a manager without nodes (fresh, possibly with variables) -/
structure NodeFree (m : Mgr) : Prop where
  succ : ∀ u : Nat, m.tbl.succ[u]? = none
  pred : ∀ k : List Int, m.pred[k]? = none
  cache : ∀ k : List Int, m.cache[k]? = none
  free : 2 ≤ m.minFree
  ref1 : m.ref.contains 1 = true

theorem NodeFree.inv {m : Mgr} (h : NodeFree m) : Inv m := by
  have hn : ∀ u n, m.tbl.node? u ≠ some n := fun u n e => by
    rw [show m.tbl.node? u = none from h.succ u] at e; cases e
  exact {
    wf := ⟨WF.of_nodeOK fun u n e => absurd e (hn u n), fun u _ n e => absurd e (hn u n)⟩
    pred := fun n u => ⟨fun e => (by rw [h.pred] at e; cases e), fun e => absurd e (hn u n)⟩
    freeGe := h.free
    free := h.succ _
    refOne := h.ref1
    refDom := fun u n e => absurd e (hn u n)
    cache := fun g u v w e => by
      rw [show m.cache[iteKey g u v]? = none from h.cache _] at e; cases e }

theorem Inv.init : Inv ({} : Mgr) :=
  NodeFree.inv ⟨fun _ => by simp, fun _ => by simp, fun _ => by simp, by decide, by decide⟩

end DD
