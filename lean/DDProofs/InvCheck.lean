/-
  DDProofs.InvCheck — decidable sufficient tests for `Inv` (on a manager whose computed table is
  empty), `OrderOK` and `VarsBij`: the quantifiers over stored nodes, unique-table entries and
  declared variables become `all` over the `toList` of the maps.  For managers written down as
  literals (`imgM`, `imgM3`): `inv_of_check (by decide +kernel)`.
-/
import DDProofs.VarsBijOrder
open Std

namespace DD

def nodeOKB (m : Mgr) (u : Nat) (n : Nd) : Bool :=
  decide (n.lvl < m.tbl.nvars ∧ m.tbl.Mem n.lo ∧ m.tbl.Mem n.hi ∧ n.lvl < m.tbl.levelOf n.lo ∧
    n.lvl < m.tbl.levelOf n.hi ∧ 2 ≤ u ∧ 0 < n.hi ∧ n.lo ≠ n.hi ∧ m.pred[n.key]? = some u ∧
    m.ref.contains u = true)

def invB (m : Mgr) : Bool :=
  m.tbl.succ.toList.all (fun p => nodeOKB m p.1 p.2) &&
  m.pred.toList.all (fun p => (m.tbl.node? p.2).any fun n => n.key == p.1) &&
  decide (2 ≤ m.minFree) && (m.tbl.node? m.minFree).isNone && m.ref.contains 1 && m.cache.isEmpty

theorem inv_of_check {m : Mgr} (h : invB m = true) : Inv m := by
  simp only [invB, nodeOKB, Bool.and_eq_true, List.all_eq_true, decide_eq_true_eq,
    Option.isNone_iff_eq_none] at h
  obtain ⟨⟨⟨⟨⟨hn, hp⟩, hf⟩, hfree⟩, hr1⟩, hc⟩ := h
  have hn' := fun u n (hu : m.tbl.node? u = some n) =>
    hn (u, n) (TreeMap.mem_toList_iff_getElem?_eq_some.mpr hu)
  have hpred : ∀ n u, m.pred[n.key]? = some u → m.tbl.node? u = some n := by
    intro n u hu
    have := hp (n.key, u) (TreeMap.mem_toList_iff_getElem?_eq_some.mpr hu)
    cases hx : m.tbl.node? u with
    | none => rw [hx] at this; cases this
    | some n' =>
      rw [hx, Option.any_some, beq_iff_eq] at this
      rw [Nd.key_inj this]
  have hkey : ∀ u n, m.tbl.node? u = some n → m.pred[n.key]? = some u := fun u n h => by
    obtain ⟨-, -, -, -, -, -, -, -, hk, -⟩ := hn' u n h
    exact hk
  refine ⟨⟨WF.of_nodeOK fun u n h => ?_, fun u u' n h h' =>
      Option.some.inj ((hkey u n h).symm.trans (hkey u' n h'))⟩,
    fun n u => ⟨hpred n u, hkey u n⟩, hf, hfree, hr1, fun u n h => ?_, fun g u v w hw => ?_⟩
  · obtain ⟨h1, h2, h3, h4, h5, h6, h7, h8, -, -⟩ := hn' u n h
    exact ⟨h6, h1, h2, h3, h4, h5, h7, h8⟩
  · obtain ⟨-, -, -, -, -, -, -, -, -, hr⟩ := hn' u n h
    exact hr
  · rw [TreeMap.getElem?_of_isEmpty hc] at hw
    cases hw

/-- a decidable sufficient check for `OrderOK` -/
def orderOKB (t : Tbl) : Bool :=
  t.vars.toList.all (fun p => t.l2v[p.2]? == some p.1 && decide (p.2 < t.vars.size)) &&
  t.l2v.toList.all (fun p => t.vars[p.2]? == some p.1) &&
  (List.range t.vars.size).all (fun i => (t.l2v[i]?).isSome)

theorem orderOK_of_check {t : Tbl} (h : orderOKB t = true) : OrderOK t := by
  unfold orderOKB at h
  simp only [Bool.and_eq_true, List.all_eq_true, beq_iff_eq, decide_eq_true_eq, List.mem_range] at h
  obtain ⟨⟨h1, h2⟩, h3⟩ := h
  refine ⟨fun v i => ⟨fun hv => ?_, fun hl => ?_⟩, fun v i hv => ?_, fun i hi => ?_⟩
  · exact (h1 (v, i) (TreeMap.mem_toList_iff_getElem?_eq_some.mpr hv)).1
  · exact h2 (i, v) (TreeMap.mem_toList_iff_getElem?_eq_some.mpr hl)
  · exact (h1 (v, i) (TreeMap.mem_toList_iff_getElem?_eq_some.mpr hv)).2
  · exact Option.isSome_iff_exists.mp (h3 i hi)

theorem varsBij_of_check {t : Tbl} (h : orderOKB t = true) : VarsBij t :=
  .ofOrderOK (orderOK_of_check h)

end DD
