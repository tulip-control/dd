/-
  DDProofs.Ite — `find_or_add` with the reordering request (`findOrAdd_spec`), `_top_cofactor`,
  and the vocabulary in which `_ite` is specified (`ItePost`, `IteOutcome`; the specification is
  in DDProofs.IteOutcome).  `_ite` is written once over any `find_or_add` (`iteG`): at `findOrAdd`
  it is the model's `_ite` (`iteG_findOrAdd`); on operands that are not nodes it does nothing
  (`iteG_invalid`).
-/
import DD.Capacity
import DDProofs.FindOrAdd
open Std

namespace DD

/-- outcome of an attempt aborted by a reordering request: only nodes were added -/
structure AbortPost (m m' : Mgr) : Prop where
  inv : Inv m'
  ext : Ext m.tbl m'.tbl
  frame : Frame m m'
  armed : m.ctx = true ∧ m.lastLen.isSome = true

/-- the guarantees of `find_or_add` relative to the state before the request -/
structure FoaPost' (m : Mgr) (i : Nat) (v w : Int) (r : Int) (m' : Mgr) : Prop where
  inv : Inv m'
  ext : Ext m.tbl m'.tbl
  mem : m'.tbl.Mem r
  lvl : i ≤ m'.tbl.levelOf r
  den : ∀ a, den m'.tbl r a = if a i then den m.tbl w a else den m.tbl v a
  frame : Frame m m'
  cacheSame : m'.cache = m.cache

theorem FoaPost.weaken {m : Mgr} {f : Option Nat} {i : Nat} {v w r : Int} {m' : Mgr}
    (h : FoaPost { m with fireIn := f } i v w r m') : FoaPost' m i v w r m' :=
  ⟨h.inv, h.ext, h.mem, h.lvl, h.den,
   ⟨h.frame.vars, h.frame.l2v, h.frame.lastLen, h.frame.ctx, h.frame.sched, h.frame.roots⟩,
   h.cacheSame⟩

theorem AbortPost.not_quiet {m m' : Mgr} (h : AbortPost m m')
    (hq : m.ctx = false ∨ m.lastLen = none) : False := by
  have := h.armed
  rcases hq with hq | hq <;> rw [hq] at this
  · cases this.1
  · cases this.2

/-- outcome of `find_or_add` with the request: result, or abort by a reordering request -/
def FoaOutcome (m : Mgr) (i : Nat) (v w : Int) : Except Err Int × Mgr → Prop
  | (.ok r, m') => FoaPost' m i v w r m'
  | (.error e, m') => e = .needsReordering ∧ AbortPost m m'

theorem FoaOutcome.ok {m : Mgr} {i : Nat} {v w : Int} {res : Except Err Int × Mgr}
    (h : FoaOutcome m i v w res) (hq : m.ctx = false ∨ m.lastLen = none) :
    ∃ r m', res = (.ok r, m') ∧ FoaPost' m i v w r m' := by
  obtain ⟨_ | r, m'⟩ := res
  · exact (h.2.not_quiet hq).elim
  · exact ⟨r, m', rfl, h⟩

/-- `find_or_add` at a valid level, with the reordering request -/
theorem findOrAdd_spec (m : Mgr) (hI : Inv m) (i : Nat) (v w : Int)
    (hi : i < m.nvars) (hv : m.tbl.Mem v) (hw : m.tbl.Mem w)
    (hlv : i < m.tbl.levelOf v) (hlw : i < m.tbl.levelOf w) :
    FoaOutcome m i v w (findOrAdd (i : Int) v w m) := by
  rcases findOrAdd_eq m i v w with ⟨f, hc, harm, he⟩ | ⟨f, he⟩ <;> rw [he]
  · exact ⟨rfl, hI.setFire f, Ext.refl _, ⟨rfl, rfl, rfl, rfl, rfl, rfl⟩, hc, harm⟩
  · rw [if_neg (by omega), Int.toNat_natCast]
    obtain ⟨r, m', he, hp⟩ := findOrAddCore_spec { m with fireIn := f } (hI.setFire f) i v w hi hv hw hlv hlw
    rw [he]
    exact hp.weaken

theorem levelOf_le' (t : Tbl) (hw : WF t) (u : Int) : t.levelOf u ≤ t.nvars := levelOf_le t hw u

/-- `_top_cofactor(u, z)` for a level `z` not below that of `u`: `u` itself when `z` is above it,
the signed children of its node when `z` is its level -/
theorem topCofactor_cases (t : Tbl) (u : Int) (hu : t.Mem u) (z : Nat)
    (hz : z ≤ t.levelOf u) (hzn : z < t.nvars) :
    z < t.levelOf u ∧ topCofactor t u z = .ok (u, u) ∨
    ∃ n, u.natAbs ≠ 1 ∧ t.node? u.natAbs = some n ∧ n.lvl = z ∧
      topCofactor t u z = .ok (if u < 0 then -n.lo else n.lo, if u < 0 then -n.hi else n.hi) := by
  unfold topCofactor
  rcases hu.term_or_node with h1 | ⟨n, h1, hn⟩
  · rw [levelOf_term t u h1] at hz ⊢
    rw [if_pos h1]; exact Or.inl ⟨hzn, rfl⟩
  · rw [levelOf_node t u n h1 hn] at hz ⊢
    rw [if_neg h1, show t.succ[u.natAbs]? = some n from hn]
    dsimp only
    by_cases hlt : z < n.lvl
    · rw [if_pos hlt]; exact Or.inl ⟨hlt, rfl⟩
    · have heq : n.lvl = z := by omega
      rw [if_neg hlt, if_neg (fun h => h heq)]
      refine Or.inr ⟨n, h1, hn, heq, ?_⟩
      split <;> rfl

theorem topCofactor_spec (t : Tbl) (hw : WF t) (u : Int) (hu : t.Mem u) (z : Nat)
    (hz : z ≤ t.levelOf u) (hzn : z < t.nvars) :
    ∃ u0 u1, topCofactor t u z = .ok (u0, u1) ∧ t.Mem u0 ∧ t.Mem u1 ∧
      z < t.levelOf u0 ∧ z < t.levelOf u1 ∧
      ∀ a, den t u a = if a z then den t u1 a else den t u0 a := by
  rcases topCofactor_cases t u hu z hz hzn with ⟨hlt, he⟩ | ⟨n, h1, hn, rfl, he⟩
  · exact ⟨u, u, he, hu, hu, hlt, hlt, fun a => by split <;> rfl⟩
  · refine ⟨_, _, he, mem_flip u (hw.lo_mem _ _ hn), mem_flip u (hw.hi_mem _ _ hn), ?_, ?_,
      fun a => den_flip_node t hw u n a h1 hn⟩
    · rw [levelOf_flip]; exact hw.lo_lt _ _ hn
    · rw [levelOf_flip]; exact hw.hi_lt _ _ hn

theorem topCofactor_lvl (t : Tbl) (hw : WF t) (u : Int) (hu : t.Mem u) (z : Nat)
    (hz : z ≤ t.levelOf u) (hzn : z < t.nvars) (u0 u1 : Int)
    (h : topCofactor t u z = .ok (u0, u1)) :
    t.levelOf u ≤ t.levelOf u0 ∧ t.levelOf u ≤ t.levelOf u1 := by
  rcases topCofactor_cases t u hu z hz hzn with ⟨_, he⟩ | ⟨n, h1, hn, _, he⟩
  · cases he.symm.trans h
    exact ⟨Nat.le_refl _, Nat.le_refl _⟩
  · cases he.symm.trans h
    rw [levelOf_flip, levelOf_flip, levelOf_node t u n h1 hn]
    exact ⟨Nat.le_of_lt (hw.lo_lt _ _ hn), Nat.le_of_lt (hw.hi_lt _ _ hn)⟩

/-- what `_ite(g, u, v)` guarantees about its result -/
structure ItePost (m : Mgr) (g u v : Int) (r : Int) (m' : Mgr) : Prop where
  inv : Inv m'
  ext : Ext m.tbl m'.tbl
  mem : m'.tbl.Mem r
  lvl : min (m.tbl.levelOf g) (min (m.tbl.levelOf u) (m.tbl.levelOf v)) ≤ m'.tbl.levelOf r
  den : ∀ a, den m'.tbl r a = if den m.tbl g a then den m.tbl u a else den m.tbl v a
  frame : Frame m m'

theorem ItePost.ofCtx {m m1 : Mgr} {g u v r : Int} {c : Bool}
    (hp : ItePost { m with ctx := c } g u v r m1) : ItePost m g u v r { m1 with ctx := m.ctx } :=
  ⟨hp.inv.setCtx _, hp.ext, hp.mem, hp.lvl, hp.den, hp.frame.restoreCtx⟩

/-- outcome of `_ite`: result, or abort by a reordering request -/
def IteOutcome (m : Mgr) (g u v : Int) : Except Err Int × Mgr → Prop
  | (.ok r, m') => ItePost m g u v r m'
  | (.error e, m') => e = .needsReordering ∧ AbortPost m m'

theorem IteOutcome.ok {m : Mgr} {g u v : Int} {res : Except Err Int × Mgr}
    (h : IteOutcome m g u v res) (hq : m.ctx = false ∨ m.lastLen = none) :
    ∃ r m', res = (.ok r, m') ∧ ItePost m g u v r m' := by
  obtain ⟨_ | r, m'⟩ := res
  · exact (h.2.not_quiet hq).elim
  · exact ⟨r, m', rfl, h⟩

theorem min3_le_levelOf (t : Tbl) (hw : WF t) (g u v : Int) :
    min (t.levelOf g) (min (t.levelOf u) (t.levelOf v)) ≤ t.nvars := by
  have := levelOf_le t hw g
  omega

theorem levelOf_lt_of_node {t : Tbl} (hw : WF t) {u : Int} {n : Nd} (h1 : u.natAbs ≠ 1)
    (hn : t.node? u.natAbs = some n) : t.levelOf u < t.nvars := by
  rw [levelOf_node t u n h1 hn]; exact hw.lvl_lt _ _ hn

theorem iteG_findOrAdd : ∀ f g u v, iteG findOrAdd f g u v = iteF f g u v := by
  intro f
  induction f with
  | zero => intro g u v; rfl
  | succ f ih =>
    intro g u v
    funext m
    unfold iteG iteF
    simp only [ih, M.bind']
    -- the same tests on both sides; where the three calls are reached, `M.bind'` and the nested
    -- `match` agree on each form of a result
    split
    · rfl
    split
    · rfl
    rcases m.cache[iteKey g u v]? with _ | w
    rotate_left
    · rfl
    rcases m.tbl.levelOf? g with _ | lg
    · rfl
    rcases m.tbl.levelOf? u with _ | lu
    · rfl
    rcases m.tbl.levelOf? v with _ | lv
    · rfl
    simp only
    rcases topCofactor m.tbl g (min lg (min lu lv)) with _ | ⟨g0, g1⟩
    · rfl
    rcases topCofactor m.tbl u (min lg (min lu lv)) with _ | ⟨u0, u1⟩
    · rfl
    rcases topCofactor m.tbl v (min lg (min lu lv)) with _ | ⟨v0, v1⟩
    · rfl
    simp only
    rcases iteF f g0 u0 v0 m with ⟨_ | p, m1⟩
    · rfl
    simp only
    rcases iteF f g1 u1 v1 m1 with ⟨_ | q, m2⟩
    · rfl
    simp only
    rcases findOrAdd (↑(min lg (min lu lv))) p q m2 with ⟨_ | w, m3⟩ <;> rfl

/-- `_ite` on integers that are not all references: nothing happens, and the error (if any) is
not the reordering signal — whatever `find_or_add`: it is not reached -/
theorem iteG_invalid (foa : Int → Int → Int → M Int) (f : Nat) (m : Mgr) (hI : Inv m) (g u v : Int)
    (h : ¬ (m.tbl.Mem g ∧ m.tbl.Mem u ∧ m.tbl.Mem v)) :
    ∃ r, iteG foa f g u v m = (r, m) ∧ r ≠ .error .needsReordering := by
  cases f with
  | zero => exact ⟨_, rfl, fun h => by cases h⟩
  | succ f =>
    unfold iteG
    by_cases hg1 : g = 1
    · rw [if_pos hg1]; exact ⟨_, rfl, fun h => by cases h⟩
    by_cases hgm : g = -1
    · rw [if_neg hg1, if_pos hgm]; exact ⟨_, rfl, fun h => by cases h⟩
    rw [if_neg hg1, if_neg hgm]
    cases hc : m.cache[iteKey g u v]? with
    | some w =>
      have he := hI.cache g u v w hc
      exact absurd ⟨he.mg, he.mu, he.mv⟩ h
    | none =>
      dsimp only
      have hnone : m.tbl.levelOf? g = none ∨ m.tbl.levelOf? u = none ∨ m.tbl.levelOf? v = none := by
        by_cases hg : m.tbl.Mem g
        · by_cases hu : m.tbl.Mem u
          · exact Or.inr (Or.inr (levelOf?_none_of_not_mem _ _ fun hv => h ⟨hg, hu, hv⟩))
          · exact Or.inr (Or.inl (levelOf?_none_of_not_mem _ _ hu))
        · exact Or.inl (levelOf?_none_of_not_mem _ _ hg)
      split
      · next h1 h2 h3 =>
        rcases hnone with h | h | h
        · rw [h] at h1; cases h1
        · rw [h] at h2; cases h2
        · rw [h] at h3; cases h3
      · exact ⟨_, rfl, fun h => by cases h⟩

theorem iteF_invalid (f : Nat) (m : Mgr) (hI : Inv m) (g u v : Int)
    (h : ¬ (m.tbl.Mem g ∧ m.tbl.Mem u ∧ m.tbl.Mem v)) :
    ∃ r, iteF f g u v m = (r, m) ∧ r ≠ .error .needsReordering := by
  rw [← iteG_findOrAdd]
  exact iteG_invalid findOrAdd f m hI g u v h

theorem iteRaw_eq (g u v : Int) (m : Mgr) : iteRaw g u v m = iteF (m.nvars + 2) g u v m := rfl

end DD
