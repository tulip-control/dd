/-
  DDProofs.IteOutcome — `find_or_add` and `_ite` meet the outcome specifications of
  DDProofs.OutcomeX / DDProofs.DynOutcome.  `_ite` is analysed once, over any `find_or_add` that meets the
  three-outcome specification (`iteG_outX`); `iteG findOrAdd = iteF` gives the model's `_ite`
  (`iteF_out`, and `iteF_spec` in the two-outcome vocabulary of DDProofs.Ite), and the decorated
  `ite` nested in a recursion follows (`ite_nested_spec`).
-/
import DDProofs.DynOutcome
open Std

namespace DD

theorem findOrAdd_out (m : Mgr) (hI : Inv m) (i : Nat) (v w : Int)
    (hi : i < m.nvars) (hv : m.tbl.Mem v) (hw : m.tbl.Mem w)
    (hlv : i < m.tbl.levelOf v) (hlw : i < m.tbl.levelOf w) :
    Outcome m (fun r m' => FoaPost' m i v w r m') (findOrAdd (i : Int) v w m) := by
  have h := findOrAdd_spec m hI i v w hi hv hw hlv hlw
  have k := findOrAdd_refKeep m (i : Int) v w hI.wf.toWF
  generalize findOrAdd (i : Int) v w m = res at h k
  obtain ⟨r, m'⟩ := res
  cases r with
  | ok r => exact ⟨⟨h.inv, h.ext, h.frame, k⟩, h⟩
  | error e => exact ⟨h.1, ⟨h.2.inv, h.2.ext, h.2.frame, k⟩, h.2.armed⟩

theorem findOrAdd_foaX : FoaX (fun _ => False) findOrAdd :=
  fun m i v w hI hi hv hw hlv hlw => (findOrAdd_out m hI i v w hi hv hw hlv hlw).toX

/-- the node of the variable at level `j` (`find_or_add(j, -1, 1)`) -/
theorem varNode_out (m : Mgr) (hI : Inv m) (j : Nat) (hj : j < m.nvars) :
    Outcome m (fun g m' => m'.tbl.Mem g ∧ j ≤ m'.tbl.levelOf g ∧ ∀ a, den m'.tbl g a = a j)
      (findOrAdd (j : Int) (-1) 1 m) := by
  refine (findOrAdd_out m hI j (-1) 1 hj (mem_neg_one _) (mem_one _)
    (by rw [levelOf_neg_one]; exact hj) (by rw [levelOf_one]; exact hj)).mono ?_
  intro g m' _ hp
  refine ⟨hp.mem, hp.lvl, ?_⟩
  intro a
  rw [hp.den a, den_one, den_neg_one]
  cases a j <;> rfl

theorem varNode_off (m : Mgr) (hI : Inv m) (hoff : m.lastLen = none) (j : Nat) (hj : j < m.nvars) :
    ∃ g m', findOrAdd (j : Int) (-1) 1 m = (.ok g, m') ∧ Step m m' ∧ m'.tbl.Mem g ∧
      j ≤ m'.tbl.levelOf g ∧ ∀ a, den m'.tbl g a = a j := by
  obtain ⟨g, m', he, hs, hp⟩ := (varNode_out m hI j hj).off hoff
  exact ⟨g, m', he, hs.step, hp⟩

theorem iteRawG_findOrAdd (g u v : Int) : iteRawG findOrAdd g u v = iteRaw g u v := by
  funext m
  rw [iteRaw_eq]
  unfold iteRawG
  rw [iteG_findOrAdd]

/-- GENERIC: `_ite` over a `find_or_add` that returns the documented node, or is aborted by a
reordering request, or raises an exception of `E` — always having only added nodes and kept the
counts exact — returns the if-then-else, or is aborted, or raises an exception of `E`, having
only added nodes and kept the counts exact.  (The nodes created before the failure stay, as
garbage: `StepK` is invariant + extension + frame + counts exact for the same ledger.) -/
theorem iteG_outX (E : Err → Prop) (foa : Int → Int → Int → M Int) (hfoa : FoaX E foa) :
    ∀ (f : Nat) (m : Mgr) (g u v : Int), Inv m →
    m.tbl.Mem g → m.tbl.Mem u → m.tbl.Mem v →
    m.nvars + 1 ≤ f + min (m.tbl.levelOf g) (min (m.tbl.levelOf u) (m.tbl.levelOf v)) →
    OutcomeX E m (fun r m' => ItePost m g u v r m') (iteG foa f g u v m) := by
  intro f
  induction f with
  | zero =>
    intro m g u v hI hg hu hv hf
    have := min3_le_levelOf m.tbl hI.wf.toWF g u v
    have : m.nvars = m.tbl.nvars := rfl
    omega
  | succ f ih =>
    intro m g u v hI hg hu hv hf
    have hW := hI.wf.toWF
    unfold iteG
    by_cases hg1 : g = 1
    · subst hg1
      simp only [if_true]
      refine ⟨StepK.refl hI, hI, Ext.refl _, hu, ?_, ?_, Frame.refl _⟩
      · omega
      · intro a; simp [den_one]
    · simp only [hg1, if_false]
      by_cases hgm1 : g = -1
      · subst hgm1
        simp only [if_true]
        refine ⟨StepK.refl hI, hI, Ext.refl _, hv, ?_, ?_, Frame.refl _⟩
        · omega
        · intro a; simp [den_neg_one]
      · simp only [hgm1, if_false]
        cases hc : m.cache[iteKey g u v]? with
        | some w =>
          simp only
          have he := hI.cache g u v w hc
          exact ⟨StepK.refl hI, hI, Ext.refl _, he.mw, he.lvl, he.den, Frame.refl _⟩
        | none =>
          simp only
          rw [Tbl.levelOf?_eq _ _ hg, Tbl.levelOf?_eq _ _ hu, Tbl.levelOf?_eq _ _ hv]
          simp only
          have hgn : g.natAbs ≠ 1 := by
            intro h; rcases abs_one h with h | h
            · exact hg1 h
            · exact hgm1 h
          obtain ⟨n, hn⟩ := mem_node hg hgn
          have hlg : m.tbl.levelOf g < m.tbl.nvars := levelOf_lt_of_node hW hgn hn
          generalize hz : min (m.tbl.levelOf g) (min (m.tbl.levelOf u) (m.tbl.levelOf v)) = z at hf ⊢
          have hzg : z ≤ m.tbl.levelOf g := by omega
          have hzu : z ≤ m.tbl.levelOf u := by omega
          have hzv : z ≤ m.tbl.levelOf v := by omega
          have hzn : z < m.tbl.nvars := by omega
          obtain ⟨g0, g1, hcg, mg0, mg1, lg0, lg1, dg⟩ := topCofactor_spec m.tbl hW g hg z hzg hzn
          obtain ⟨u0, u1, hcu, mu0, mu1, lu0, lu1, du⟩ := topCofactor_spec m.tbl hW u hu z hzu hzn
          obtain ⟨v0, v1, hcv, mv0, mv1, lv0, lv1, dv⟩ := topCofactor_spec m.tbl hW v hv z hzv hzn
          rw [hcg, hcu, hcv]
          simp only
          refine OutcomeX.bind (ih m g0 u0 v0 hI mg0 mu0 mv0 (by
            have : m.nvars = m.tbl.nvars := rfl
            omega)) ?_
          intro p m1 hs1 ih1
          have hI1 := ih1.inv
          have hW1 := hI1.wf.toWF
          have e1 := ih1.ext
          -- second recursive call, in the extended table
          refine OutcomeX.bind (ih m1 g1 u1 v1 hI1 (e1.mem mg1) (e1.mem mu1) (e1.mem mv1) (by
            rw [e1.levelOf mg1, e1.levelOf mu1, e1.levelOf mv1]
            have h1 : m1.nvars = m.tbl.nvars := e1.nvars.symm
            have h2 : m.nvars = m.tbl.nvars := rfl
            omega)) ?_
          intro q m2 hs2 ih2
          have hI2 := ih2.inv
          have hW2 := hI2.wf.toWF
          have e2 := ih2.ext
          have e12 := e1.trans e2
          have mp2 : m2.tbl.Mem p := e2.mem ih1.mem
          have lp : z < m2.tbl.levelOf p := by
            rw [e2.levelOf ih1.mem]
            have := ih1.lvl
            omega
          have lq : z < m2.tbl.levelOf q := by
            have := ih2.lvl
            rw [e1.levelOf mg1, e1.levelOf mu1, e1.levelOf mv1] at this
            omega
          refine OutcomeX.bind (hfoa m2 z p q hI2 (by
            have : m2.nvars = m.tbl.nvars := e12.nvars.symm
            omega) mp2 ih2.mem lp lq) ?_
          intro w m3 hs3 hfo
          have e3 := hfo.ext
          have e123 := e12.trans e3
          have hI3 := hfo.inv
          have hden : ∀ a, den m3.tbl w a =
              if den m.tbl g a then den m.tbl u a else den m.tbl v a := by
            intro a
            rw [hfo.den a, ih2.den a, den_ext e2 hW1 p a ih1.mem, ih1.den a,
              den_ext e1 hW g1 a mg1, den_ext e1 hW u1 a mu1, den_ext e1 hW v1 a mv1,
              dg a, du a, dv a]
            split <;> rfl
          have hlvl : z ≤ m3.tbl.levelOf w := hfo.lvl
          have hentry : CacheEntryOK m3.tbl g u v w := by
            refine ⟨hgn, e123.mem hg, e123.mem hu, e123.mem hv, hfo.mem, ?_, ?_⟩
            · rw [e123.levelOf hg, e123.levelOf hu, e123.levelOf hv, hz]; exact hlvl
            · intro a
              rw [hden a, den_ext e123 hW g a hg, den_ext e123 hW u a hu,
                den_ext e123 hW v a hv]
          show OutcomeX E m3 _ (cachePut g u v w m3)
          unfold DD.cachePut
          refine ⟨StepK.cachePut hI3 g u v w hentry, hI3.cacheInsert g u v w hentry, e123, hfo.mem, ?_,
            hden, ?_⟩
          · show min (m.tbl.levelOf g) (min (m.tbl.levelOf u) (m.tbl.levelOf v)) ≤ m3.tbl.levelOf w
            rw [hz]; exact hlvl
          · have fr := (ih1.frame.trans ih2.frame).trans hfo.frame
            exact ⟨fr.vars, fr.l2v, fr.lastLen, fr.ctx, fr.sched, fr.roots⟩

theorem iteF_out (f : Nat) (m : Mgr) (g u v : Int) (hI : Inv m)
    (hg : m.tbl.Mem g) (hu : m.tbl.Mem u) (hv : m.tbl.Mem v)
    (hf : m.nvars + 1 ≤ f + min (m.tbl.levelOf g) (min (m.tbl.levelOf u) (m.tbl.levelOf v))) :
    Outcome m (fun r m' => ItePost m g u v r m') (iteF f g u v m) := by
  have h := iteG_outX _ _ findOrAdd_foaX f m g u v hI hg hu hv hf
  rw [iteG_findOrAdd] at h
  exact h.toOutcome

/-- `_ite`: for every fuel that covers the remaining levels, either the result is the
if-then-else of the operands (in an extended table that still satisfies the invariant),
or the attempt was aborted by a reordering request, having only added nodes. -/
theorem iteF_spec : ∀ (f : Nat) (m : Mgr) (g u v : Int), Inv m →
    m.tbl.Mem g → m.tbl.Mem u → m.tbl.Mem v →
    m.nvars + 1 ≤ f + min (m.tbl.levelOf g) (min (m.tbl.levelOf u) (m.tbl.levelOf v)) →
    IteOutcome m g u v (iteF f g u v m) := by
  intro f m g u v hI hg hu hv hf
  have h := iteF_out f m g u v hI hg hu hv hf
  generalize iteF f g u v m = res at h
  obtain ⟨_ | r, m'⟩ := res
  · exact ⟨h.1, h.2.1.inv, h.2.1.ext, h.2.1.frame, h.2.2⟩
  · exact h.2

theorem iteNestedX_of_raw {E : Err → Prop} (raw : Int → Int → Int → M Int)
    (h : ∀ (m : Mgr) (g u v : Int), Inv m → m.tbl.Mem g → m.tbl.Mem u → m.tbl.Mem v →
      OutcomeX E m (fun r m' => ItePost m g u v r m') (raw g u v m)) :
    IteNestedX E (fun g u v => tryToReorder (raw g u v)) :=
  fun m hI hq g u v hg hu hv =>
    tryToReorder_quiet (raw g u v) hq (h { m with ctx := true } g u v (hI.setCtx true) hg hu hv)
      (fun _ _ hp => ItePost.ofCtx hp)

/-- the decorated `ite` as it is called by the recursions (`_quantify`, `_compose`,
`_vector_compose`, `_copy_bdd`): inside a context, or with requests disabled, it returns the
if-then-else or is aborted by a request having only added nodes — never a reordering. -/
theorem ite_nestedX : IteNestedX (fun _ => False) ite :=
  iteNestedX_of_raw iteRaw fun m g u v hI hg hu hv => by
    rw [iteRaw_eq]
    exact (iteF_out (m.nvars + 2) m g u v hI hg hu hv (by omega)).toX

theorem ite_nested_spec (m : Mgr) (hI : Inv m) (hq : Quiet m) (g u v : Int)
    (hg : m.tbl.Mem g) (hu : m.tbl.Mem u) (hv : m.tbl.Mem v) :
    Outcome m (fun r m' => ItePost m g u v r m') (ite g u v m) :=
  (ite_nestedX m hI hq g u v hg hu hv).toOutcome

/-- public `BDD.ite`, reordering not enabled: total, and the result is the if-then-else -/
theorem ite_spec_off' (m : Mgr) (hI : Inv m) (hoff : m.lastLen = none) (g u v : Int)
    (hg : m.tbl.Mem g) (hu : m.tbl.Mem u) (hv : m.tbl.Mem v) :
    ∃ r m', ite g u v m = (.ok r, m') ∧ ItePost m g u v r m' := by
  obtain ⟨r, m', he, _, hp⟩ := (ite_nested_spec m hI (Or.inr hoff) g u v hg hu hv).off hoff
  exact ⟨r, m', he, hp⟩

end DD
