/-
  DDProofs.Keeps — `Out A E`: from a manager with the property `A` every run ends in one, raising
  only exceptions in `E`.  It is a property of computations that sequencing preserves
  (`Out.seqClosed`), so a function walked once for every such property (DDProofs.RecursionsSeq,
  DDProofs.BodiesSeq) has it as soon as the primitives it calls have it, for ARBITRARY arguments:
  `_ite` for `Lite` (DDProofs.ReachLite).  `forIn_keeps`: the `for` loops in `M`, where the body
  may use that its element is in the list (`copy_vars`, DDProofs.Reach5).
-/
import DDProofs.SeqClosed
open Std

namespace DD

def Out (A : Mgr → Prop) (E : Err → Prop) {α : Type} (x : Except Err α × Mgr) : Prop :=
  A x.2 ∧ ∀ e, x.1 = .error e → E e

theorem Out.ok {A : Mgr → Prop} {E : Err → Prop} {α : Type} {m : Mgr} (h : A m) (a : α) :
    Out A E ((.ok a, m) : Except Err α × Mgr) := ⟨h, fun _ he => by cases he⟩

theorem Out.err {A : Mgr → Prop} {E : Err → Prop} {α : Type} {m : Mgr} {e : Err} (h : A m) (he : E e) :
    Out A E ((.error e, m) : Except Err α × Mgr) := ⟨h, fun _ h' => by cases h'; exact he⟩

theorem Out.bind {A : Mgr → Prop} {E : Err → Prop} {α β : Type} {x : M α} {f : α → M β} {m : Mgr}
    (hx : Out A E (x m)) (hf : ∀ a m1, A m1 → Out A E (f a m1)) : Out A E ((x >>= f) m) := by
  show Out A E (M.bind' x f m)
  unfold M.bind'
  cases hxm : x m with
  | mk r m1 =>
    rw [hxm] at hx
    cases r with
    | ok a => exact hf a m1 hx.1
    | error e => exact ⟨hx.1, fun _ h' => by cases h'; exact hx.2 e rfl⟩

theorem Out.seqClosed {A : Mgr → Prop} {E : Err → Prop} (hE : ∀ e : Err, e ≠ .needsReordering → E e) :
    SeqClosed (fun {α : Type} (x : M α) => ∀ m, A m → Out A E (x m)) where
  pure a _ h := Out.ok h a
  throw e he _ _ h := Out.err h (hE e he)
  bind hx hk m h := Out.bind (hx m h) fun a m1 h1 => hk a m1 h1
  get hf _ m h := hf m m h

theorem forIn_keeps {A : Mgr → Prop} {E : Err → Prop} {α β : Type} (f : α → β → M (ForInStep β)) :
    ∀ (l : List α), (∀ a ∈ l, ∀ b m, A m → Out A E (f a b m)) →
    ∀ (b : β) (m : Mgr), A m → Out A E ((forIn l b f : M β) m) := by
  intro l
  induction l with
  | nil => intro _ b m h; exact Out.ok h b
  | cons a rest ih =>
    intro hf b m h
    rw [List.forIn_cons]
    refine Out.bind (hf a List.mem_cons_self b m h) (fun r m1 h1 => ?_)
    cases r with
    | done b' => exact Out.ok h1 b'
    | yield b' => exact ih (fun a' ha' => hf a' (List.mem_cons_of_mem _ ha')) b' m1 h1

theorem Out.eq_ok {m : Mgr} {x : Except Err Unit × Mgr} (h : Out (· = m) (fun _ => False) x) :
    x = (.ok (), m) := by
  obtain ⟨r, m1⟩ := x
  cases r with
  | ok a => exact Prod.ext rfl h.1
  | error e => exact (h.2 e rfl).elim

end DD
