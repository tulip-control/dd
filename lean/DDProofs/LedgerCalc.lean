/-
  DDProofs.LedgerCalc — the ledger of `_load_json`, once for every kind of "state between two
  calls" it is threaded through: `LCalc e` packs `G l m` (the state is good for the caller's ledger
  `e` plus the references listed in `l`: the loader's live `Function`s and its shelf) and `K m m'`
  (what every step keeps).  The `Function` primitives, the two loops over the shelf (`checkLoop`,
  `releaseFailed`) and what `_load_json` does when the `try:` is left touch only `_ref`, so they
  are proved here for every `LCalc`.
-/
import DDProofs.PickleSem
import DDProofs.Reach
import DDProofs.PredNodesOrder
open Std
namespace DD

/-- ledger `e` plus one reference for every member of `l` -/
def extAdd (e : Nat → Nat) (l : List Nat) : Nat → Nat := fun j => e j + l.count j

theorem extAdd_nil (e : Nat → Nat) : extAdd e [] = e := by
  funext j; simp [extAdd]

theorem extInc_extAdd (e : Nat → Nat) (l : List Nat) (k : Nat) :
    extInc (extAdd e l) k = extAdd e (k :: l) := by
  funext j
  simp only [extInc, extAdd, List.count_cons]
  by_cases h : j = k
  · subst h; simp; omega
  · have : ¬ k = j := fun h' => h h'.symm
    simp [h, this]

theorem extDec_extAdd (e : Nat → Nat) (l : List Nat) (k : Nat) :
    extDec (extAdd e (k :: l)) k = extAdd e l := by
  funext j
  simp only [extDec, extAdd, List.count_cons]
  by_cases h : j = k
  · subst h; simp
  · have : ¬ k = j := fun h' => h h'.symm
    simp [h, this]

theorem extAdd_perm (e : Nat → Nat) {l l' : List Nat} (h : l.Perm l') : extAdd e l = extAdd e l' := by
  funext j; simp [extAdd, h.count_eq]

theorem extAdd_cons_self (e : Nat → Nat) (l : List Nat) (k : Nat) :
    extAdd e (k :: l) k = e k + 1 + l.count k := by
  simp only [extAdd, List.count_cons_self]; omega

theorem extAdd_pos (e : Nat → Nat) (l : List Nat) (k : Nat) : 0 < extAdd e (k :: l) k := by
  rw [extAdd_cons_self]; omega

theorem extAdd_append (e : Nat → Nat) (a b : List Nat) : extAdd (extAdd e a) b = extAdd e (a ++ b) := by
  funext j; simp [extAdd, List.count_append]; omega

theorem extAdd_extInc (e : Nat → Nat) (k : Nat) (l : List Nat) :
    extAdd (extInc e k) l = extAdd e (k :: l) := by
  rw [← extAdd_nil e, extInc_extAdd, extAdd_append]; rfl

theorem wrapList_spec : ∀ (us : List Int) (m : Mgr) (ext : Nat → Nat), Inv m → RefExact m ext →
    (∀ u ∈ us, m.tbl.Mem u) →
    ∃ r, wrapList us m = (.ok (), { m with ref := r }) ∧ Inv { m with ref := r } ∧
      RefExact { m with ref := r } (extAdd ext (us.map Int.natAbs)) := by
  intro us
  induction us with
  | nil => intro m ext hI hr _; exact ⟨m.ref, rfl, hI, by simpa [extAdd_nil] using hr⟩
  | cons u rest ih =>
    intro m ext hI hr hm
    have hu := hm u List.mem_cons_self
    obtain ⟨c, _, he, hr'⟩ := incref_spec m ext u hr hu
    have hk := incref_kept m hI u
    rw [he] at hk
    have hmm : m.mem u = true := (Mgr.mem_iff m u).mpr hu
    obtain ⟨r, e2, I2, R2⟩ := ih { m with ref := m.ref.insert u.natAbs (c + 1) } _ hk.inv hr'
      (fun x hx => hm x (List.mem_cons_of_mem _ hx))
    refine ⟨r, ?_, I2, ?_⟩
    · rw [wrapList]
      simp only [dmpWrap, hmm, Bool.not_true, Bool.false_eq_true, if_false, he]
      exact e2
    · rw [extAdd_extInc] at R2; simpa using R2

/-- the references the shelf holds -/
def shelfRefs (c : List (Nat × Int)) : List Nat := c.map (·.2.natAbs)

theorem M.throw_bind {α β : Type} (e : Err) (f : α → M β) : (M.throw e >>= f) = M.throw e := rfl

/-- `~ u` (`apply('not', u)`): the manager is not touched — the complemented edge, or
`ValueError` for an integer that is not a node -/
theorem applyNot_cases (u : Int) (m : Mgr) :
    apply "not" u none none m = (.ok (-u), m) ∨ apply "not" u none none m = (.error .value, m) := by
  obtain ⟨row, hrow, ht⟩ := table_unary "not" not_is_negation.1 not_is_negation.2
  have har : assertOperatorArity "not" none none = .ok () := by decide
  unfold apply
  simp only [har, optNotMem, hrow, ht]
  by_cases hm : m.mem u = true
  · left; simp [hm]
  · right; simp [hm]

theorem withTemps_eq {α : Type} {us : List Int} {x : M α} {m m1 : Mgr} {r : Except Err α}
    (h : x m = (r, m1)) : withTemps us x m = (r, dropList us m1) := by
  unfold withTemps; rw [h]

theorem withTemps_run {α : Type} (us : List Int) (x : M α) (m : Mgr) :
    withTemps us x m = ((x m).1, dropList us (x m).2) := rfl

theorem containsCheck_ok (u : Int) (m : Mgr) (h : m.tbl.Mem u) : containsCheck u m = (.ok (), m) := by
  have hm : m.mem u = true := (Mgr.mem_iff m u).mpr h
  simp [containsCheck, bind, M.bind', M.get, hm, pure, M.pure']

theorem functionLevel_ok (m : Mgr) (u : Int) (hu : m.tbl.Mem u) :
    functionLevel u m = (.ok (m.tbl.levelOf u), m) := by
  unfold functionLevel
  show M.bind' M.get (fun m => M.ofOption Err.key (m.tbl.levelOf? u)) m = _
  unfold M.bind' M.get
  simp only [Tbl.levelOf?_eq m.tbl u hu]
  rfl

theorem assert_ok (b : Bool) (m : Mgr) (h : b = true) : M.assert b .assertion m = (.ok (), m) := by
  subst h; rfl

theorem dropOpt_setLastLen (o : Option Int) (m : Mgr) (l : Option Nat) :
    dropOpt o { m with lastLen := l } = { (dropOpt o m) with lastLen := l } := by
  cases o with
  | none => rfl
  | some u =>
    simp only [dropOpt, dmpDrop, decref]
    cases m.ref[u.natAbs]? with
    | none => rfl
    | some c =>
      simp only
      split <;> rfl

theorem lookup_snoc {cache : List (Nat × Int)} {k k' : Nat} {u x : Int} :
    (cache ++ [(k', u)]).lookup k = some x ↔
      cache.lookup k = some x ∨ (cache.lookup k = none ∧ k = k' ∧ x = u) := by
  rw [List.lookup_append, Option.or_eq_some_iff]
  by_cases h : k = k'
  · simp [h, eq_comm (a := u)]
  · simp [List.lookup_cons, h, beq_false_of_ne h]

theorem nodup_snoc_key (cache : List (Nat × Int)) (hn : (cache.map (·.1)).Nodup) (k : Nat) (u : Int)
    (hnew : cache.lookup k = none) : ((cache ++ [(k, u)]).map (·.1)).Nodup := by
  rw [List.map_append, List.nodup_append]
  refine ⟨hn, by simp, ?_⟩
  intro a ha b hb hab
  simp at hb
  subst hb hab
  have := lookup_isSome_iff_mem_keys.mpr ha
  rw [hnew] at this; cases this

/-- the end of `_make_node`: the made node `u` gets its `Function`, then the persistent reference
of the shelf, and the `Function` dies -/
def shelveNode (cache : List (Nat × Int)) (id : Nat) (u : Int) : M (List (Nat × Int)) :=
  dmpWrap u >>= fun _ => withTemps [u] (M.assert (decide (0 ≤ u)) >>= fun _ => incref u >>= fun _ =>
    pure (cache ++ [(id, u)]))

/-- `_make_node` once both successors are `Function`s and the variable of the line is known:
the node is made — `find_or_add` at the level of the file with `load_order=True`, else
`ite(var, high, low)` — and shelved -/
def makeNodeBody (lo : Bool) (cache : List (Nat × Int)) (ln : JLine) (low high : Int) (name : String) :
    M (List (Nat × Int)) :=
  if lo then
    levelOfVar name >>= fun level => functionLevel low >>= fun lowLevel =>
    functionLevel high >>= fun highLevel =>
    if !(decide (level < lowLevel) && decide (level < highLevel)) then M.throw .value else
    findOrAdd level low high >>= shelveNode cache ln.id
  else
    var name >>= fun g => dmpWrap g >>= fun _ => withTemps [g] (
      containsCheck g >>= fun _ => containsCheck high >>= fun _ => containsCheck low >>= fun _ =>
      ite g high low >>= shelveNode cache ln.id)

theorem makeNodeBody_true (cache : List (Nat × Int)) (ln : JLine) (low high : Int) (name : String) :
    makeNodeBody true cache ln low high name =
      levelOfVar name >>= fun level => functionLevel low >>= fun lowLevel =>
      functionLevel high >>= fun highLevel =>
      if !(decide (level < lowLevel) && decide (level < highLevel)) then M.throw .value else
      findOrAdd level low high >>= shelveNode cache ln.id := rfl

theorem makeNodeBody_false (cache : List (Nat × Int)) (ln : JLine) (low high : Int) (name : String) :
    makeNodeBody false cache ln low high name =
      var name >>= fun g => dmpWrap g >>= fun _ => withTemps [g] (
        containsCheck g >>= fun _ => containsCheck high >>= fun _ => containsCheck low >>= fun _ =>
        ite g high low >>= shelveNode cache ln.id) := rfl

theorem makeNode_eq (lo : Bool) (vat : List (Nat × String)) (ln : JLine) (cache : List (Nat × Int)) :
    makeNode lo vat ln cache =
      M.assert (decide (1 < ln.id)) >>= fun _ =>
      if (cache.lookup ln.id).isSome then pure cache else
      nodeFromInt cache ln.lo >>= fun low => withTemps [low] (
      nodeFromInt cache ln.hi >>= fun high => withTemps [high] (
      M.ofOption .key (vat.lookup ln.lvl) >>= makeNodeBody lo cache ln low high)) := by
  unfold makeNode makeNodeBody shelveNode
  simp only [M.throw_bind]

theorem makeNode_skip (lo : Bool) (vat : List (Nat × String)) (ln : JLine) (cache : List (Nat × Int))
    (m : Mgr) (hid : 1 < ln.id) (hin : (cache.lookup ln.id).isSome = true) :
    makeNode lo vat ln cache m = (.ok cache, m) := by
  rw [makeNode_eq, M.bind_ok (assert_ok _ _ (by simpa using hid)), if_pos hin]
  rfl

theorem makeNode_new {lo : Bool} {vat : List (Nat × String)} {ln : JLine} {cache : List (Nat × Int)}
    {m m1 m2 : Mgr} {low high : Int} {name : String} (hid : 1 < ln.id) (hnew : cache.lookup ln.id = none)
    (elo : nodeFromInt cache ln.lo m = (.ok low, m1)) (ehi : nodeFromInt cache ln.hi m1 = (.ok high, m2))
    (hvat : vat.lookup ln.lvl = some name) :
    makeNode lo vat ln cache m = ((makeNodeBody lo cache ln low high name m2).1,
      dropList [high, low] (makeNodeBody lo cache ln low high name m2).2) := by
  rw [makeNode_eq, M.bind_ok (assert_ok _ _ (by simpa using hid)), hnew, if_neg (by simp),
    M.bind_ok elo, withTemps_run, M.bind_ok ehi, withTemps_run, hvat, M.bind_ok (M.ofOption_some _ _ _)]
  rfl

theorem makeNodes_eq (lo : Bool) (vat : List (Nat × String)) :
    ∀ (ls : List JLine) (c : List (Nat × Int)) (m : Mgr), makeNodes lo vat ls c m =
      match makeNodesE lo vat ls c m with
      | (.ok _, c', m') => (.ok c', m')
      | (.error e, _, m') => (.error e, m') := by
  intro ls
  induction ls with
  | nil => intro c m; rfl
  | cons ln rest ih =>
    intro c m
    rw [makeNodes, makeNodesE]
    cases hmk : makeNode lo vat ln c m with
    | mk r m1 =>
      cases r with
      | error e => rw [M.bind_err hmk]
      | ok c1 => rw [M.bind_ok hmk]; exact ih c1 m1

theorem jsonRoots_ok (f : JsonFile) (hn : f.roots ≠ .none) (cache : List (Nat × Int)) (m m' : Mgr)
    (us : List Int) (h : rootsFromInts cache f.roots.values m = (.ok us, m')) :
    jsonRoots f cache m = (.ok us, m') := by
  unfold jsonRoots
  have hks : (match f.roots with
      | .none => (M.throw .key : M (List Int))
      | r => pure r.values) m = (.ok f.roots.values, m) := by
    cases hr : f.roots with
    | none => exact absurd hr hn
    | list l => rfl
    | dict d => rfl
  exact (M.bind_ok hks).trans h

theorem jsonHeader_false (f : JsonFile) (m m1 : Mgr)
    (h : declare (f.levelOfVar.map (·.1)) m = (.ok (), m1)) : jsonHeader f false m = (.ok (), m1) := by
  unfold jsonHeader
  refine (M.bind_ok h).trans ?_
  rfl

theorem jsonHeader_true (f : JsonFile) (m m1 m2 : Mgr)
    (h : declare (f.levelOfVar.map (·.1)) m = (.ok (), m1))
    (h2 : reorder (some (f.levelOfVar.map fun (x : String × Nat) => (x.1, (x.2 : Int)))) m1 = (.ok (), m2)) :
    jsonHeader f true m = (.ok (), m2) := by
  unfold jsonHeader
  refine (M.bind_ok h).trans ?_
  simp only [if_true]
  exact h2

theorem loadJson_false_eq (f : JsonFile) (m : Mgr) :
    loadJson f false m = jsonFinish f false (jsonTry f false m) := by
  unfold loadJson
  rfl

theorem loadJson_true_eq (f : JsonFile) (m : Mgr) :
    loadJson f true m = jsonFinish f true (jsonTry f true { m with lastLen := none }) := by
  unfold loadJson
  simp only [if_true]
  exact (M.bind_ok (configure_false_eq m)).trans rfl

theorem PredNodes.congr {m m' : Mgr} (h : PredNodes m) (h1 : m'.pred = m.pred)
    (h2 : m'.tbl.succ = m.tbl.succ) : PredNodes m' := by
  intro k u hk; rw [h1] at hk; rw [h2]; exact h k u hk

theorem not_notAll {α : Type} {l : List α} {f : α → Bool} (h : ∀ x ∈ l, f x = true) :
    ¬ ((!l.all f) = true) := by
  have : l.all f = true := List.all_eq_true.mpr h
  simp [this]

theorem assertConsistent_ok (m : Mgr) (hI : Inv m) (hp : PredNodes m)
    (hr : ∀ r ∈ m.roots, m.tbl.Mem r) : dmpAssertConsistent m = (.ok (), m) := by
  have hW := hI.wf.toWF
  unfold dmpAssertConsistent
  dsimp only
  rw [if_neg, if_neg, if_neg, if_neg]
  · apply not_notAll
    intro x hx
    obtain ⟨u, n⟩ := x
    have hn : m.tbl.node? u = some n := TreeMap.mem_toList_iff_getElem?_eq_some.mp hx
    have a1 := (Tbl.mem_iff m.tbl n.lo).mpr (hW.lo_mem _ _ hn)
    have a2 := (Tbl.mem_iff m.tbl n.hi).mpr (hW.hi_mem _ _ hn)
    have a3 := hW.hi_pos _ _ hn
    have a4 := Tbl.levelOf?_eq m.tbl n.lo (hW.lo_mem _ _ hn)
    have a5 := Tbl.levelOf?_eq m.tbl n.hi (hW.hi_mem _ _ hn)
    have a6 := hW.lo_lt _ _ hn
    have a7 := hW.hi_lt _ _ hn
    have a8 := hI.refDom _ _ hn
    simp [a1, a2, a3, a4, a5, a6, a7, a8]
  · apply not_notAll
    intro x hx
    obtain ⟨k, u⟩ := x
    obtain ⟨n, hn, hk⟩ := hp k u (TreeMap.mem_toList_iff_getElem?_eq_some.mp hx)
    simp [hn, hk]
  · apply not_notAll
    intro x hx
    obtain ⟨u, n⟩ := x
    have hn : m.tbl.node? u = some n := TreeMap.mem_toList_iff_getElem?_eq_some.mp hx
    simp [(hI.pred n u).mpr hn]
  · intro hh
    rw [List.any_eq_true] at hh
    obtain ⟨r, hr', hb⟩ := hh
    have := (Mgr.mem_iff m r).mpr (hr r hr')
    simp [this] at hb

/-- a calculus of states between two calls, indexed by the loader's own ledger -/
structure LCalc (e : Nat → Nat) where
  G : List Nat → Mgr → Prop
  K : Mgr → Mgr → Prop
  inv : ∀ {l m}, G l m → Inv m
  exact : ∀ {l m}, G l m → RefExact m (extAdd e l)
  refl : ∀ m, K m m
  trans : ∀ {a b c}, K a b → K b c → K a c
  setRef : ∀ {l m} (l' : List Nat) (r : TreeMap Nat Nat), G l m → Inv { m with ref := r } →
    RefExact { m with ref := r } (extAdd e l') → G l' { m with ref := r }
  kRef : ∀ (m : Mgr) (r : TreeMap Nat Nat), K m { m with ref := r }

section Calc
variable {e : Nat → Nat} (C : LCalc e)

theorem LCalc.perm {l l' : List Nat} {m : Mgr} (h : C.G l m) (hp : l.Perm l') : C.G l' m := by
  have h2 : RefExact m (extAdd e l') := by rw [← extAdd_perm e hp]; exact C.exact h
  exact C.setRef l' m.ref h (C.inv h) h2

theorem LCalc.mem {l : List Nat} {m : Mgr} (h : C.G l m) {u : Int} (hu : u.natAbs ∈ l) : m.tbl.Mem u := by
  have hpos : 0 < extAdd e l u.natAbs := by
    have : 0 < l.count u.natAbs := List.count_pos_iff.mpr hu
    simp only [extAdd]; omega
  exact (C.exact h).mem_of_ext_pos hpos

/-- `bdd.incref(u)` / `Function(u, bdd)` of a node -/
theorem LCalc.incr {l : List Nat} {m : Mgr} (h : C.G l m) (u : Int) (hu : m.tbl.Mem u) :
    ∃ r, incref u m = (.ok (), { m with ref := r }) ∧ C.G (u.natAbs :: l) { m with ref := r } := by
  obtain ⟨c, _, he, hr⟩ := incref_spec m _ u (C.exact h) hu
  have hk := incref_kept m (C.inv h) u
  rw [he] at hk
  rw [extInc_extAdd] at hr
  exact ⟨_, he, C.setRef _ _ h hk.inv hr⟩

theorem LCalc.wrap {l : List Nat} {m : Mgr} (h : C.G l m) (u : Int) (hu : m.tbl.Mem u) :
    ∃ r, dmpWrap u m = (.ok (), { m with ref := r }) ∧ C.G (u.natAbs :: l) { m with ref := r } := by
  obtain ⟨r, he, hg⟩ := C.incr h u hu
  have hm : m.mem u = true := (Mgr.mem_iff m u).mpr hu
  refine ⟨r, ?_, hg⟩
  unfold dmpWrap
  simp [hm, he]

/-- `bdd.decref(u)` / `Function.__del__` of a held reference -/
theorem LCalc.decr {l : List Nat} {m : Mgr} (u : Int) (h : C.G (u.natAbs :: l) m) :
    ∃ r, decref u m = (.ok (), { m with ref := r }) ∧ C.G l { m with ref := r } := by
  obtain ⟨c, _, he, hr⟩ := decref_spec m _ u (C.exact h) (extAdd_pos _ _ _)
  have hk := decref_kept m (C.inv h) u
  rw [he] at hk
  rw [extDec_extAdd] at hr
  exact ⟨_, he, C.setRef _ _ h hk.inv hr⟩

theorem LCalc.drop {l : List Nat} {m : Mgr} (u : Int) (h : C.G (u.natAbs :: l) m) :
    ∃ r, (dmpDrop u m).2 = { m with ref := r } ∧ C.G l { m with ref := r } := by
  obtain ⟨r, he, hd⟩ := C.decr u h
  exact ⟨r, by unfold dmpDrop; rw [he], hd⟩

theorem LCalc.refOf {l : List Nat} {m : Mgr} (h : C.G l m) (u : Int) (hu : m.tbl.Mem u) :
    ∃ c, refOf u m = (.ok c, m) ∧ indeg m.tbl u.natAbs + extAdd e l u.natAbs ≤ c := by
  have hg := (C.exact h).get hu
  exact ⟨_, refOf_eq m u _ hg, by omega⟩

/-- a step that only adds nodes: every node keeps its triple, the tables of variables and the
switches are what they were (`Kept` without the invariant of the new state) -/
def KeptW (m m' : Mgr) : Prop := Ext m.tbl m'.tbl ∧ Frame m m'

theorem Kept.toW {m m' : Mgr} (h : Kept m m') : KeptW m m' := ⟨h.ext, h.frame⟩
theorem KeptW.kept {m m' : Mgr} (h : KeptW m m') (hI : Inv m') : Kept m m' := ⟨hI, h.1, h.2⟩

/-- the calculus of `_load_json` with dynamic reordering not enabled -/
def offCalc (e : Nat → Nat) : LCalc e where
  G := fun l m => GoodState m (extAdd e l)
  K := KeptW
  inv := fun h => h.inv
  exact := fun h => h.exact
  refl := fun _ => ⟨Ext.refl _, Frame.refl _⟩
  trans := fun h1 h2 => ⟨h1.1.trans h2.1, h1.2.trans h2.2⟩
  setRef := fun _ _ h hI hr => ⟨hI, h.order, hr, h.off, h.ctx⟩
  kRef := fun _ _ => ⟨Ext.refl _, ⟨rfl, rfl, rfl, rfl, rfl, rfl⟩⟩

theorem goodOff_of {e : Nat → Nat} {m : Mgr} (hI : Inv m) (hO : OrderOK m.tbl) (hr : RefExact m e)
    (hc : m.ctx = false) : GoodState { m with lastLen := none } e :=
  ⟨hI.setLastLen none, hO, hr.congr rfl rfl, rfl, hc⟩

/-- the edge `_node_from_int` returns for an id that resolves: the constant itself, or the
shelf's node, complemented for a negative id -/
def shelfEdge (cache : List (Nat × Int)) (uid : Int) : Int :=
  if uid.natAbs = 1 then uid else
    match cache.lookup uid.natAbs with
    | some k => if uid < 0 then -k else k
    | none => 0

theorem shelfEdge_term {cache : List (Nat × Int)} {uid : Int} (h : uid.natAbs = 1) :
    shelfEdge cache uid = uid := by simp [shelfEdge, h]

theorem shelfEdge_node {cache : List (Nat × Int)} {uid k : Int} (h : uid.natAbs ≠ 1)
    (hk : cache.lookup uid.natAbs = some k) : shelfEdge cache uid = if uid < 0 then -k else k := by
  simp [shelfEdge, h, hk]

/-- `_node_from_int`: the caller gets one `Function` on the edge; only `_ref` changes (the
temporary of the negative case is released) -/
theorem LCalc.nodeFromInt {l : List Nat} {m : Mgr} (h : C.G l m) (cache : List (Nat × Int)) (uid : Int)
    (hres : uid.natAbs = 1 ∨ ∃ k, cache.lookup uid.natAbs = some k ∧ m.tbl.Mem k) :
    ∃ r, nodeFromInt cache uid m = (.ok (shelfEdge cache uid), { m with ref := r }) ∧
      C.G ((shelfEdge cache uid).natAbs :: l) { m with ref := r } := by
  unfold DD.nodeFromInt
  by_cases hm1 : uid = -1
  · subst hm1
    obtain ⟨r, hw, g⟩ := C.wrap h (-1) (Or.inl rfl)
    exact ⟨r, (M.bind_ok hw).trans rfl, g⟩
  by_cases h1 : uid = 1
  · subst h1
    obtain ⟨r, hw, g⟩ := C.wrap h 1 (Or.inl rfl)
    exact ⟨r, (M.bind_ok hw).trans rfl, g⟩
  have hn1 : uid.natAbs ≠ 1 := by omega
  obtain ⟨k, hk, kmem⟩ := hres.resolve_left hn1
  have hlook : (M.ofOption Err.key (cache.lookup uid.natAbs) : M Int) m = (.ok k, m) := by rw [hk]; rfl
  obtain ⟨r1, hw1, g1⟩ := C.wrap h k kmem
  simp only [hm1, h1, if_false]
  rw [shelfEdge_node hn1 hk, M.bind_ok hlook, M.bind_ok hw1]
  by_cases hneg : uid < 0
  · obtain ⟨hap, hmn, _⟩ := apply_not_spec { m with ref := r1 } (C.inv g1) "not" not_is_negation.1
      not_is_negation.2 k kmem
    obtain ⟨r2, hw2, g2⟩ := C.wrap g1 (-k) hmn
    obtain ⟨r3, hd3, g3⟩ := C.drop k (C.perm g2 (List.Perm.swap _ _ _))
    simp only [hneg, if_true]
    refine ⟨r3, ?_, g3⟩
    rw [withTemps_eq ((M.bind_ok hap).trans ((M.bind_ok hw2).trans rfl))]
    exact congrArg (Prod.mk (Except.ok (-k))) hd3
  · simp only [hneg, if_false]
    exact ⟨r1, rfl, g1⟩

/-- an id that does not resolve (not a terminal's; not on the shelf, or shelved to what is no node):
`_node_from_int` raises before it has touched a count -/
theorem nodeFromInt_refused (cache : List (Nat × Int)) (uid : Int) (m : Mgr)
    (h : ¬ (uid.natAbs = 1 ∨ ∃ k, cache.lookup uid.natAbs = some k ∧ m.tbl.Mem k)) :
    ∃ er, nodeFromInt cache uid m = (.error er, m) ∧ er ≠ .needsReordering := by
  have hm1 : uid ≠ -1 := fun e => h (Or.inl (by subst e; rfl))
  have h1 : uid ≠ 1 := fun e => h (Or.inl (by subst e; rfl))
  unfold DD.nodeFromInt
  simp only [hm1, h1, if_false]
  cases hk : cache.lookup uid.natAbs with
  | none => exact ⟨.key, rfl, by decide⟩
  | some k =>
    have hw : dmpWrap k m = (.error .value, m) := by
      have : m.mem k = false := (Tbl.mem_false_iff _ _).mpr fun hk' => h (Or.inr ⟨k, hk, hk'⟩)
      simp only [dmpWrap, this, Bool.not_false, ↓reduceIte]
    exact ⟨.value, (M.bind_ok (M.ofOption_some _ _ _)).trans (M.bind_err hw), by decide⟩

theorem fetch_shelfC (C : LCalc e) (cache : List (Nat × Int)) (hn : (cache.map (·.1)).Nodup)
    (k : Nat) (u0 : Int) (hm : (k, u0) ∈ cache) (hk1 : k ≠ 1) (m : Mgr) (L : List Nat)
    (hg : C.G L m) (hin : u0.natAbs ∈ L) :
    ∃ r, nodeFromInt cache (k : Int) m = (.ok u0, { m with ref := r }) ∧
      C.G (u0.natAbs :: L) { m with ref := r } := by
  have hlk : cache.lookup (k : Int).natAbs = some u0 := lookup_of_mem_nodup cache hn k u0 hm
  have he : shelfEdge cache (k : Int) = u0 := by
    rw [shelfEdge_node (by simpa using hk1) hlk, if_neg (by omega)]
  rw [← he]
  exact C.nodeFromInt hg cache k (Or.inr ⟨u0, hlk, C.mem hg hin⟩)

theorem LCalc.rootsFromInts (cache : List (Nat × Int)) :
    ∀ (ks : List Int) (l : List Nat) (m : Mgr), C.G l m →
      (∀ k ∈ ks, k.natAbs = 1 ∨ ∃ u, cache.lookup k.natAbs = some u ∧ m.tbl.Mem u) →
      ∃ r, rootsFromInts cache ks m = (.ok (ks.map (shelfEdge cache)), { m with ref := r }) ∧
        C.G ((ks.map (shelfEdge cache)).map Int.natAbs ++ l) { m with ref := r } := by
  intro ks
  induction ks with
  | nil => intro l m h _; exact ⟨m.ref, rfl, h⟩
  | cons k rest ih =>
    intro l m h hres
    obtain ⟨r1, e1, g1⟩ := C.nodeFromInt h cache k (hres k List.mem_cons_self)
    obtain ⟨r2, e2, g2⟩ := ih _ { m with ref := r1 } g1 (fun k' hk' => hres k' (List.mem_cons_of_mem _ hk'))
    refine ⟨r2, ?_, C.perm g2 List.perm_middle⟩
    rw [DD.rootsFromInts]
    refine (M.bind_ok e1).trans ?_
    simp only [e2, List.map_cons]

theorem LCalc.shelve {l : List Nat} {m : Mgr} (h : C.G l m) (u : Int) (hu : m.tbl.Mem u) (hpos : 0 ≤ u)
    (cache : List (Nat × Int)) (id : Nat) :
    ∃ r, shelveNode cache id u m = (.ok (cache ++ [(id, u)]), { m with ref := r }) ∧
      C.G (u.natAbs :: l) { m with ref := r } := by
  obtain ⟨r1, e1, g1⟩ := C.wrap h u hu
  obtain ⟨r2, e2, g2⟩ := C.incr g1 u hu
  obtain ⟨r3, e3, g3⟩ := C.drop u g2
  refine ⟨r3, (M.bind_ok e1).trans ?_, g3⟩
  rw [withTemps_eq ((M.bind_ok (assert_ok _ _ (by simpa using hpos))).trans ((M.bind_ok e2).trans rfl))]
  exact congrArg (Prod.mk (Except.ok _)) e3

theorem dropOptC (C : LCalc e) (prev : Option Int) (m : Mgr) (L : List Nat)
    (hg : C.G (prev.toList.map Int.natAbs ++ L) m) :
    ∃ r, dropOpt prev m = { m with ref := r } ∧ C.G L { m with ref := r } := by
  cases prev with
  | none =>
    have h : C.G L m := by simpa using hg
    exact ⟨m.ref, rfl, h⟩
  | some p =>
    simp only [Option.toList, List.map_cons, List.map_nil, List.cons_append, List.nil_append] at hg
    exact C.drop p hg

theorem dropListC (C : LCalc e) : ∀ (us : List Int) (m : Mgr) (L : List Nat),
    C.G (us.map Int.natAbs ++ L) m →
    ∃ r, dropList us m = { m with ref := r } ∧ C.G L { m with ref := r } := by
  intro us
  induction us with
  | nil =>
    intro m L hg
    have h : C.G L m := by simpa using hg
    exact ⟨m.ref, rfl, h⟩
  | cons u rest ih =>
    intro m L hg
    simp only [List.map_cons, List.cons_append] at hg
    obtain ⟨r, hd, g⟩ := C.drop u hg
    obtain ⟨r2, hd2, g2⟩ := ih { m with ref := r } L g
    exact ⟨r2, by rw [dropList, hd, hd2], g2⟩

/-- `for uid in cache: u = _node_from_int(…); bdd.decref(u)` — in the `except` clause and after a
successful `try:` —: the shelf's references are given back -/
theorem releaseFailedC (C : LCalc e) (cache : List (Nat × Int)) (hn : (cache.map (·.1)).Nodup)
    (h1 : ∀ p ∈ cache, p.1 ≠ 1) :
    ∀ (ents : List (Nat × Int)) (prev : Option Int) (m : Mgr) (L : List Nat),
      (∀ p ∈ ents, p ∈ cache) →
      C.G (prev.toList.map Int.natAbs ++ (shelfRefs ents ++ L)) m →
      ∃ last r, releaseFailed cache ents prev m = (.ok (), last, { m with ref := r }) ∧
        C.G (last.toList.map Int.natAbs ++ L) { m with ref := r } := by
  intro ents
  induction ents with
  | nil =>
    intro prev m L _ hg
    have h : C.G (prev.toList.map Int.natAbs ++ L) m := by simpa [shelfRefs] using hg
    exact ⟨prev, m.ref, rfl, h⟩
  | cons p rest ih =>
    intro prev m L hsub hg
    obtain ⟨k, u0⟩ := p
    have hmem := hsub _ List.mem_cons_self
    obtain ⟨r1, e1, g1⟩ := fetch_shelfC C cache hn k u0 hmem (h1 _ hmem) m _ hg
      (by simp [shelfRefs])
    have g1' : C.G (prev.toList.map Int.natAbs ++ (u0.natAbs :: u0.natAbs :: (shelfRefs rest ++ L)))
        { m with ref := r1 } := by
      apply C.perm g1
      simp only [shelfRefs, List.map_cons, List.cons_append]
      exact List.perm_middle.symm
    obtain ⟨r2, ed, g2⟩ := dropOptC C prev { m with ref := r1 } _ g1'
    obtain ⟨r3, hd3, g3⟩ := C.decr u0 g2
    obtain ⟨last, r4, e4, g4⟩ := ih (some u0) { m with ref := r3 } L
      (fun p hp => hsub p (List.mem_cons_of_mem _ hp))
      (by simpa using g3)
    refine ⟨last, r4, ?_, g4⟩
    rw [releaseFailed]
    simp only [e1, ed, hd3]
    exact e4

theorem checkBody_run (lo : Bool) (u : Int) (m : Mgr) (c : Nat) (hc : refOf u m = (.ok c, m)) (h2 : 2 ≤ c) :
    (refOf u >>= fun c => M.assert (decide (2 ≤ c)) >>= fun _ =>
      if lo = true then M.assert (decide (3 ≤ c)) else pure ()) m =
    ((if lo = true ∧ c < 3 then .error .assertion else .ok ()), m) := by
  refine (M.bind_ok hc).trans ((M.bind_ok (assert_ok _ _ (by simpa using h2))).trans ?_)
  by_cases hlo : lo = true
  · by_cases h3 : c < 3
    · have : decide (3 ≤ c) = false := by simp; omega
      simp only [hlo, h3, and_self, if_true, this]
      rfl
    · simp only [hlo, h3, and_false, if_true, if_false]
      exact assert_ok _ _ (by simp; omega)
  · simp only [hlo]
    rfl

/-- the loop of the checks at the end of the `try:` on ANY shelf that is held: nothing is
released; the `ref < 2` assertion always passes; with `load_order=True` the `ref < 3` assertion
may fail (a node line that is neither a root nor a successor of another line: one whose node has
fewer than three references) — inside the `try:`, so that the handler gives every reference back -/
theorem checkLoopC (C : LCalc e) (lo : Bool) (cache : List (Nat × Int)) (hn : (cache.map (·.1)).Nodup)
    (h1 : ∀ p ∈ cache, p.1 ≠ 1) :
    ∀ (ents : List (Nat × Int)) (prev : Option Int) (m : Mgr) (L : List Nat),
      (∀ p ∈ ents, p ∈ cache) → (∀ p ∈ ents, p.2.natAbs ∈ L) →
      C.G (prev.toList.map Int.natAbs ++ L) m →
      ∃ last r, C.G (last.toList.map Int.natAbs ++ L) { m with ref := r } ∧
        (checkLoop lo cache ents prev m = (.ok (), last, { m with ref := r }) ∨
         (lo = true ∧ checkLoop lo cache ents prev m = (.error .assertion, last, { m with ref := r }) ∧
          ∃ p ∈ ents, indeg m.tbl p.2.natAbs + extAdd e (p.2.natAbs :: L) p.2.natAbs < 3)) := by
  intro ents
  induction ents with
  | nil =>
    intro prev m L _ _ hg
    exact ⟨prev, m.ref, hg, Or.inl rfl⟩
  | cons p rest ih =>
    intro prev m L hsub hheld hg
    obtain ⟨k, u0⟩ := p
    have hmem := hsub _ List.mem_cons_self
    have hin : u0.natAbs ∈ L := hheld _ List.mem_cons_self
    obtain ⟨r1, e1, g1⟩ := fetch_shelfC C cache hn k u0 hmem (h1 _ hmem) m _ hg
      (List.mem_append_right _ hin)
    obtain ⟨r2, ed, g2⟩ := dropOptC C prev { m with ref := r1 } _ (C.perm g1 List.perm_middle.symm)
    obtain ⟨c, hc1, hc2⟩ := C.refOf g2 u0 (C.mem g2 List.mem_cons_self)
    have hc3 : 2 ≤ c := by
      have : 0 < L.count u0.natAbs := List.count_pos_iff.mpr hin
      have := extAdd_cons_self e L u0.natAbs
      omega
    have g2' : C.G ((some u0).toList.map Int.natAbs ++ L) { m with ref := r2 } := by simpa using g2
    rw [checkLoop]
    simp only [e1, ed, checkBody_run lo u0 _ c hc1 hc3]
    by_cases hfail : lo = true ∧ c < 3
    · rw [if_pos hfail]
      exact ⟨some u0, r2, g2', Or.inr ⟨hfail.1, rfl, (k, u0), List.mem_cons_self, Nat.lt_of_le_of_lt hc2 hfail.2⟩⟩
    · rw [if_neg hfail]
      obtain ⟨last, r4, g4, hcase⟩ := ih (some u0) { m with ref := r2 } L
        (fun p hp => hsub p (List.mem_cons_of_mem _ hp)) (fun p hp => hheld p (List.mem_cons_of_mem _ hp)) g2'
      exact ⟨last, r4, g4, hcase.imp id fun ⟨hlo, e4, p, hp, h3⟩ => ⟨hlo, e4, p, List.mem_cons_of_mem _ hp, h3⟩⟩

theorem checkLoop_falseC (C : LCalc e) (cache : List (Nat × Int)) (hn : (cache.map (·.1)).Nodup)
    (h1 : ∀ p ∈ cache, p.1 ≠ 1) (ents : List (Nat × Int)) (prev : Option Int) (m : Mgr) (L : List Nat)
    (hsub : ∀ p ∈ ents, p ∈ cache) (hheld : ∀ p ∈ ents, p.2.natAbs ∈ L)
    (hg : C.G (prev.toList.map Int.natAbs ++ L) m) :
    ∃ last r, checkLoop false cache ents prev m = (.ok (), last, { m with ref := r }) ∧
      C.G (last.toList.map Int.natAbs ++ L) { m with ref := r } := by
  obtain ⟨last, r, g, h | ⟨h, _⟩⟩ := checkLoopC C false cache hn h1 ents prev m L hsub hheld hg
  · exact ⟨last, r, h, g⟩
  · cases h

theorem dmpAssertConsistent_cases (m : Mgr) :
    dmpAssertConsistent m = (.ok (), m) ∨ dmpAssertConsistent m = (.error .assertion, m) := by
  -- four tests in a row, each raising `AssertionError`; for arbitrary conditions, because splitting on
  -- the tests themselves is slow to check
  have four : ∀ {α : Type} (c1 c2 c3 c4 : Prop) [Decidable c1] [Decidable c2] [Decidable c3] [Decidable c4]
      (e ok : α), (if c1 then e else if c2 then e else if c3 then e else if c4 then e else ok) = ok ∨
        (if c1 then e else if c2 then e else if c3 then e else if c4 then e else ok) = e := by
    intro α c1 c2 c3 c4 _ _ _ _ e ok
    by_cases h1 : c1
    · exact .inr (if_pos h1)
    rw [if_neg h1]
    by_cases h2 : c2
    · exact .inr (if_pos h2)
    rw [if_neg h2]
    by_cases h3 : c3
    · exact .inr (if_pos h3)
    rw [if_neg h3]
    by_cases h4 : c4
    · exact .inr (if_pos h4)
    · exact .inl (if_neg h4)
  exact four _ _ _ _ _ _

/-- `except BaseException:` for ANY shelf that is held: the exception is re-raised with the
counts exact for the caller's ledger -/
theorem jsonFinish_errC (C : LCalc e) (f : JsonFile) (lo : Bool) (er : Err) (cache : List (Nat × Int))
    (hn : (cache.map (·.1)).Nodup) (h1 : ∀ p ∈ cache, p.1 ≠ 1) (prev : Option Int) (m3 : Mgr)
    (g3 : C.G (prev.toList.map Int.natAbs ++ shelfRefs cache) m3) :
    ∃ r, jsonFinish f lo (.error er, cache, prev, m3) = (.error er, { m3 with ref := r }) ∧
      C.G [] { m3 with ref := r } := by
  obtain ⟨last, r4, e4, g4⟩ := releaseFailedC C cache hn h1 cache prev m3 []
    (fun _ h => h) (by simpa using g3)
  obtain ⟨r5, e5, g5⟩ := dropOptC C last { m3 with ref := r4 } [] (by simpa using g4)
  refine ⟨r5, ?_, g5⟩
  unfold jsonFinish
  simp only [e4, e5]

/-- when the `try:` body of `_load_json` raised, `_load_json` raises (that exception, or the one
of the clean-up) -/
theorem jsonFinish_error (f : JsonFile) (lo : Bool)
    (x : Except Err (List Int) × List (Nat × Int) × Option Int × Mgr)
    {e : Err} (h : x.1 = .error e) : ∃ e', (jsonFinish f lo x).1 = .error e' := by
  obtain ⟨r, cache, prev, m1⟩ := x
  cases r with
  | ok us => cases h
  | error e0 =>
    unfold jsonFinish
    simp only
    generalize releaseFailed cache cache prev m1 = rr
    obtain ⟨r, last, m2⟩ := rr
    cases r with
    | ok u => exact ⟨e0, rfl⟩
    | error e' => exact ⟨e', rfl⟩

/-- the state `bdd.configure(reordering=old_reordering)` leaves (`old_reordering` is the dict
that `configure` returned: truthy) -/
def cfgAfter (lo : Bool) (m : Mgr) : Mgr :=
  if lo then { m with lastLen := some (max Gen.reorderStarts m.len) } else m

/-- the successful end of the `try:` for ANY shelf that is held: the shelf's references are given
back; the roots are returned with the counts exact for the caller's ledger plus the roots (and
`configure` has run when `load_order=True`), or `assert_consistent` raises with the roots
released -/
theorem jsonFinish_okC (C : LCalc e) (f : JsonFile) (lo : Bool) (us : List Int) (cache : List (Nat × Int))
    (hn : (cache.map (·.1)).Nodup) (h1 : ∀ p ∈ cache, p.1 ≠ 1) (prev : Option Int) (m3 : Mgr)
    (g3 : C.G (prev.toList.map Int.natAbs ++ (shelfRefs cache ++ us.map Int.natAbs)) m3) :
    ∃ r, (jsonFinish f lo (.ok us, cache, prev, m3) = (.ok (f.roots.rebuild us), cfgAfter lo { m3 with ref := r }) ∧
        C.G (us.map Int.natAbs) { m3 with ref := r }) ∨
      (jsonFinish f lo (.ok us, cache, prev, m3) = (.error .assertion, { m3 with ref := r }) ∧
        C.G [] { m3 with ref := r } ∧ ∃ r', Inv { m3 with ref := r' } ∧
          dmpAssertConsistent { m3 with ref := r' } = (.error .assertion, { m3 with ref := r' })) := by
  obtain ⟨last, r4, e4, g4⟩ := releaseFailedC C cache hn h1 cache prev m3 (us.map Int.natAbs)
    (fun _ h => h) g3
  let m4 : Mgr := { m3 with ref := r4 }
  obtain ⟨r5, e5, g5⟩ := dropOptC C last m4 (us.map Int.natAbs) g4
  unfold jsonFinish
  simp only [e4]
  have hle : liftE (Except.ok ()) m4 = (.ok (), m4) := rfl
  rcases dmpAssertConsistent_cases m4 with hac | hac
  · refine ⟨r5, Or.inl ⟨?_, g5⟩⟩
    rw [M.bind_ok hle, M.bind_ok hac]
    cases lo with
    | false =>
      simp only [Bool.false_eq_true, if_false, cfgAfter]
      exact congrArg _ e5
    | true =>
      simp only [if_true, cfgAfter]
      rw [M.bind_ok (configure_true_eq m4)]
      show (_, dropOpt last { m4 with lastLen := _ }) = _
      rw [dropOpt_setLastLen, e5]
      rfl
  · obtain ⟨r6, e6, g6⟩ := dropListC C us { m3 with ref := r5 } [] (by simpa using g5)
    refine ⟨r6, Or.inr ⟨?_, g6, r4, C.inv g4, hac⟩⟩
    rw [M.bind_ok hle, M.bind_err hac]
    simp only [e5]
    exact congrArg _ e6

/-- `context['var_at_level'] = {v: k for k, v in order.items()}`, as `jsonTry` builds it -/
abbrev JsonFile.varAtLevel (f : JsonFile) : List (Nat × String) :=
  f.levelOfVar.foldl (fun acc (x : String × Nat) => (x.2, x.1) :: acc) []

/-- the `try:` body after the line `level_of_var`: the node lines, the roots, the checks -/
def jsonAfterHeader (f : JsonFile) (lo : Bool) (m1 : Mgr) :
    Except Err (List Int) × List (Nat × Int) × Option Int × Mgr :=
  match makeNodesE lo f.varAtLevel f.nodes [] m1 with
  | (.error e, cache, m2) => (.error e, cache, none, m2)
  | (.ok _, cache, m2) =>
    match jsonRoots f cache m2 with
    | (.error e, m3) => (.error e, cache, none, m3)
    | (.ok us, m3) =>
      match checkLoop lo cache cache none m3 with
      | (.error e, last, m4) => (.error e, cache, last, dropList us m4)
      | (.ok _, last, m4) => (.ok us, cache, last, m4)

theorem jsonTry_header_ok (f : JsonFile) (lo : Bool) (m m1 : Mgr) (h : jsonHeader f lo m = (.ok (), m1)) :
    jsonTry f lo m = jsonAfterHeader f lo m1 := by
  unfold jsonTry jsonAfterHeader
  simp only [h]
  generalize makeNodesE lo f.varAtLevel f.nodes [] m1 = res
  obtain ⟨r, c, m2⟩ := res
  cases r with
  | error er => rfl
  | ok _ =>
    dsimp only
    generalize jsonRoots f c m2 = rr
    obtain ⟨r3, m3⟩ := rr
    cases r3 with
    | error er => rfl
    | ok us =>
      dsimp only
      generalize checkLoop lo c c none m3 = rc
      obtain ⟨r4, last, m4⟩ := rc
      cases r4 <;> rfl

theorem jsonAfterHeader_err (f : JsonFile) (lo : Bool) (m1 m2 : Mgr) (er : Err) (cache : List (Nat × Int))
    (h : makeNodesE lo f.varAtLevel f.nodes [] m1
      = (.error er, cache, m2)) : jsonAfterHeader f lo m1 = (.error er, cache, none, m2) := by
  unfold jsonAfterHeader
  simp only [h]

theorem jsonAfterHeader_roots_err (f : JsonFile) (lo : Bool) (m1 m2 m3 : Mgr) (cache : List (Nat × Int))
    (er : Err)
    (h : makeNodesE lo f.varAtLevel f.nodes [] m1
      = (.ok (), cache, m2)) (h3 : jsonRoots f cache m2 = (.error er, m3)) :
    jsonAfterHeader f lo m1 = (.error er, cache, none, m3) := by
  unfold jsonAfterHeader
  simp only [h, h3]

theorem jsonAfterHeader_check (f : JsonFile) (lo : Bool) (m1 m2 m3 m4 : Mgr) (cache : List (Nat × Int))
    (us : List Int) (r4 : Except Err Unit) (last : Option Int)
    (h : makeNodesE lo f.varAtLevel f.nodes [] m1
      = (.ok (), cache, m2)) (h3 : jsonRoots f cache m2 = (.ok us, m3))
    (h4 : checkLoop lo cache cache none m3 = (r4, last, m4)) :
    jsonAfterHeader f lo m1 = (match r4 with
      | .ok _ => (.ok us, cache, last, m4)
      | .error er => (.error er, cache, last, dropList us m4)) := by
  unfold jsonAfterHeader
  simp only [h, h3, h4]
  cases r4 <;> rfl

theorem jsonTry_header_err (f : JsonFile) (lo : Bool) (m m1 : Mgr) (er : Err)
    (h : jsonHeader f lo m = (.error er, m1)) : jsonTry f lo m = (.error er, [], none, m1) := by
  unfold jsonTry
  simp only [h]

theorem jsonFinish_wf (C : LCalc e) (f : JsonFile) (lo : Bool) (us : List Int) (cache : List (Nat × Int))
    (hn : (cache.map (·.1)).Nodup) (h1 : ∀ p ∈ cache, p.1 ≠ 1) (prev : Option Int) (m3 : Mgr)
    (g3 : C.G (prev.toList.map Int.natAbs ++ (shelfRefs cache ++ us.map Int.natAbs)) m3)
    (hp : PredNodes m3) (hr : ∀ r ∈ m3.roots, m3.tbl.Mem r) :
    ∃ r, jsonFinish f lo (.ok us, cache, prev, m3) = (.ok (f.roots.rebuild us), cfgAfter lo { m3 with ref := r }) ∧
      C.G (us.map Int.natAbs) { m3 with ref := r } := by
  obtain ⟨r, h | ⟨_, _, r', hI, hac⟩⟩ := jsonFinish_okC C f lo us cache hn h1 prev m3 g3
  · exact ⟨r, h⟩
  · rw [assertConsistent_ok { m3 with ref := r' } hI (hp.congr rfl rfl) hr] at hac
    cases hac

/-- `_load_json` from the end of the node lines, for a shelf that holds every line and roots that
resolve, when the loop of the checks passes (`hck`): the roots are returned, one `Function` each -/
theorem jsonAfterLines_wf (C : LCalc e) (f : JsonFile) (lo : Bool) (hroots : f.roots ≠ .none) (m1 m2 : Mgr)
    (cache : List (Nat × Int))
    (hlines : makeNodesE lo f.varAtLevel f.nodes [] m1
      = (.ok (), cache, m2))
    (hn : (cache.map (·.1)).Nodup) (h1 : ∀ p ∈ cache, p.1 ≠ 1) (g2 : C.G (shelfRefs cache) m2)
    (hks : ∀ k ∈ f.roots.values, k.natAbs = 1 ∨ (cache.lookup k.natAbs).isSome)
    (hck : ∀ r3, C.G (shelfRefs cache ++ (f.roots.values.map (shelfEdge cache)).map Int.natAbs) { m2 with ref := r3 } →
      ∃ last r, checkLoop lo cache cache none { m2 with ref := r3 } = (.ok (), last, { m2 with ref := r }) ∧
        C.G (last.toList.map Int.natAbs ++ (shelfRefs cache ++ (f.roots.values.map (shelfEdge cache)).map Int.natAbs))
          { m2 with ref := r })
    (hp : PredNodes m2) (hr : ∀ r ∈ m2.roots, m2.tbl.Mem r) :
    ∃ r, jsonFinish f lo (jsonAfterHeader f lo m1) =
        (.ok (f.roots.rebuild (f.roots.values.map (shelfEdge cache))), cfgAfter lo { m2 with ref := r }) ∧
      C.G ((f.roots.values.map (shelfEdge cache)).map Int.natAbs) { m2 with ref := r } := by
  obtain ⟨r3, er, g3⟩ := C.rootsFromInts cache f.roots.values _ m2 g2 (fun k hk =>
    (hks k hk).imp id fun hs =>
      have ⟨u, hu⟩ := Option.isSome_iff_exists.mp hs
      ⟨u, hu, C.mem g2 (List.mem_map.mpr ⟨_, lookup_some_mem _ u cache hu, rfl⟩)⟩)
  obtain ⟨last, r4, eck, g4⟩ := hck r3 (C.perm g3 List.perm_append_comm)
  rw [jsonAfterHeader_check f lo m1 m2 _ _ cache _ _ last hlines (jsonRoots_ok f hroots cache m2 _ _ er) eck]
  exact jsonFinish_wf C f lo _ cache hn h1 last { m2 with ref := r4 } g4 (hp.congr rfl rfl) hr

theorem jsonAfterLines_false (C : LCalc e) (f : JsonFile) (hroots : f.roots ≠ .none) (m1 m2 : Mgr)
    (cache : List (Nat × Int))
    (hlines : makeNodesE false f.varAtLevel f.nodes [] m1
      = (.ok (), cache, m2))
    (hn : (cache.map (·.1)).Nodup) (h1 : ∀ p ∈ cache, p.1 ≠ 1) (g2 : C.G (shelfRefs cache) m2)
    (hks : ∀ k ∈ f.roots.values, k.natAbs = 1 ∨ (cache.lookup k.natAbs).isSome)
    (hp : PredNodes m2) (hr : ∀ r ∈ m2.roots, m2.tbl.Mem r) :
    ∃ r, jsonFinish f false (jsonAfterHeader f false m1) =
        (.ok (f.roots.rebuild (f.roots.values.map (shelfEdge cache))), { m2 with ref := r }) ∧
      C.G ((f.roots.values.map (shelfEdge cache)).map Int.natAbs) { m2 with ref := r } :=
  jsonAfterLines_wf C f false hroots m1 m2 cache hlines hn h1 g2 hks (fun r3 g3 =>
    checkLoop_falseC C cache hn h1 cache none { m2 with ref := r3 } _ (fun _ h => h)
      (fun p hp => List.mem_append_left _ (List.mem_map.mpr ⟨p, hp, rfl⟩)) g3) hp hr

end Calc
end DD
