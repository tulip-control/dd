/-
  DDProofs.LetCopy — `compose`, `rename`, `let`, and `copy_bdd` between managers, from the
  abort-aware specifications of `_compose`, `_vector_compose` and `_copy_bdd`: each body walked
  once, by level, where no request is served (`composeBody_lvl`, `renameBody_lvl`,
  `copyBddBody_lvl`); `compose_spec`, `rename_spec`, `copyBdd_spec` are the readings with reordering
  not enabled, the statements by name of DDProofs.DynOps2 / DynCopy the lifts.
-/
import DDProofs.SubstWrappers
import DDProofs.Compose
import DDProofs.Copy
import DDProofs.VectorCompose
open Std

namespace DD

/-- `vars` and `_level_to_var` are mutually inverse bijections between the declared names and
the levels `0 .. nvars-1` -/
structure VarsBij (t : Tbl) : Prop where
  v2l : ∀ (v : String) (i : Nat), t.vars[v]? = some i → t.l2v[i]? = some v
  l2v : ∀ (i : Nat) (v : String), t.l2v[i]? = some v → t.vars[v]? = some i
  lt : ∀ (v : String) (i : Nat), t.vars[v]? = some i → i < t.nvars
  onto : ∀ (i : Nat), i < t.nvars → ∃ v : String, t.vars[v]? = some i

theorem VarsBij.inj {t : Tbl} (h : VarsBij t) {v v' : String} {i : Nat}
    (h1 : t.vars[v]? = some i) (h2 : t.vars[v']? = some i) : v = v' := by
  have a := h.v2l _ _ h1
  have b := h.v2l _ _ h2
  rw [a] at b
  exact Option.some.inj b

theorem VarsBij.lvlOf_lt {t : Tbl} (hV : VarsBij t) {s : String} (hs : t.vars.contains s = true) :
    lvlOf t s < t.nvars := by
  obtain ⟨i, hi⟩ := (vars_contains_iff t s).mp hs
  rw [lvlOf_eq hi]
  exact hV.lt _ _ hi

theorem VarsBij.lvlOf_inj {t : Tbl} (hV : VarsBij t) {s s' : String}
    (hs : t.vars.contains s = true) (hs' : t.vars.contains s' = true)
    (he : lvlOf t s = lvlOf t s') : s = s' := by
  obtain ⟨i, hi⟩ := (vars_contains_iff t s).mp hs
  obtain ⟨j, hj⟩ := (vars_contains_iff t s').mp hs'
  rw [lvlOf_eq hi, lvlOf_eq hj] at he
  exact hV.inj hi (he ▸ hj)

theorem levelOfVarE_ok {t : Tbl} {v : String} {j : Nat} (h : t.vars[v]? = some j) :
    levelOfVarE t v = .ok j := by
  simp [levelOfVarE, h]

/-- the level-keyed substitution that `compose` builds from a name-keyed dictionary -/
def subOf (t : Tbl) (varSub : List (String × Int)) : List (Nat × Int) :=
  varSub.map fun p => (lvlOf t p.1, p.2)

theorem vsub_single {t : Tbl} {v : String} {j : Nat} (hv : t.vars[v]? = some j) (g : Int)
    (a : Asg) : vsub t (subOf t [(v, g)]) a = upd a j (den t g a) := by
  funext i
  simp only [subOf, List.map_cons, List.map_nil, lvlOf_eq hv]
  by_cases h : i = j
  · subst h; simp [vsub, List.lookup]
  · have : (i == j) = false := by simpa using h
    simp [vsub, List.lookup, this, upd, h]

/-- the body of `compose(f, var_sub)` (one variable: `_compose`; zero or several:
`_vector_compose`) where no request is served: simultaneous substitution, by level — or the call is
aborted by a reordering request, having only added nodes -/
theorem composeBody_lvl (m0 : Mgr) (hI0 : Inv m0) (hq : Quiet m0) (f : Int)
    (hf : m0.tbl.Mem f) (varSub : List (String × Int))
    (hdecl : ∀ p ∈ varSub, m0.tbl.vars.contains p.1 = true)
    (hmem : ∀ p ∈ varSub, m0.tbl.Mem p.2) :
    Outcome m0 (fun r m1 => m1.tbl.Mem r ∧
        ∀ a, den m1.tbl r a = den m0.tbl f (vsub m0.tbl (subOf m0.tbl varSub) a))
      (composeBody f varSub m0) := by
  have hW := hI0.wf.toWF
  by_cases hlen : varSub.length = 1
  · match varSub, hlen, hdecl, hmem with
    | [(v, g)], _, hdecl, hmem =>
      obtain ⟨j, hj⟩ := (vars_contains_iff m0.tbl v).mp (hdecl (v, g) List.mem_cons_self)
      have hg : m0.tbl.Mem g := hmem (v, g) List.mem_cons_self
      unfold composeBody
      simp only [levelOfVarE_ok hj]
      refine (composeF_out j (2 * m0.nvars + 4) m0 f g {} hI0 hq hf hg (KMemo.empty _ _)
        (by omega)).elim ?_ fun _ hs ha => ⟨rfl, hs, ha⟩
      intro r c m1 hs ⟨_, hp⟩
      refine ⟨hs, hp.mr, fun a => ?_⟩
      rw [hp.den a, den_ext hs.ext hW g a hg, den_ext hs.ext hW f _ hf, vsub_single hj]
  · have hsm : SubMem m0.tbl (subOf m0.tbl varSub) := by
      intro i g hl
      have := lookup_some_mem i g _ hl
      obtain ⟨p, hp, heq⟩ := List.mem_map.mp this
      cases heq
      exact hmem p hp
    have hmap : mapME (subLevelE m0.tbl) varSub = .ok (subOf m0.tbl varSub) := by
      apply mapME_ok
      intro p hp
      obtain ⟨l, hl⟩ := (vars_contains_iff m0.tbl p.1).mp (hdecl p hp)
      simp [subLevelE, levelOfVarE, hl, lvlOf]
    unfold composeBody
    split
    · next v g => simp at hlen
    simp only [hmap]
    refine (vectorComposeF_out (subOf m0.tbl varSub) (m0.nvars + 2) m0 f {} hI0 hq hf hsm
      (VMemo.empty _ _) (by omega)).elim ?_ fun _ hs ha => ⟨rfl, hs, ha⟩
    intro r c m1 hs ⟨_, hp⟩
    refine ⟨hs, hp.mr, fun a => ?_⟩
    rw [hp.den a, den_ext hs.ext hW f _ hf, vsub_ext hs.ext hW hsm]

/-- `BDD.compose(f, var_sub)` with reordering not enabled, for every dictionary of declared names
and member references -/
theorem compose_spec (m : Mgr) (hI : Inv m) (hoff : m.lastLen = none) (f : Int)
    (hf : m.tbl.Mem f) (varSub : List (String × Int))
    (hdecl : ∀ p, p ∈ varSub → m.tbl.vars.contains p.1 = true)
    (hmem : ∀ p, p ∈ varSub → m.tbl.Mem p.2) :
    ∃ r m', compose f varSub m = (.ok r, m') ∧ Inv m' ∧ Ext m.tbl m'.tbl ∧ m'.tbl.Mem r ∧
      Frame m m' ∧ ∀ a, den m'.tbl r a = den m.tbl f (vsub m.tbl (subOf m.tbl varSub) a) := by
  obtain ⟨r, m', he, hs, hr, hden⟩ := (Outcome.quiet (P := fun t r t' => t'.Mem r ∧
      ∀ a, den t' r a = den t f (vsub t (subOf t varSub) a))
    (Or.inr hoff) (composeBody_lvl _ (hI.setCtx true) (Or.inl rfl) f hf varSub hdecl hmem)).off hoff
  exact ⟨r, m', he, hs.inv, hs.ext, hr, hs.frame, hden⟩

/-- `BDD.compose(f, {var: g})`: one variable -/
theorem compose_single_spec (m : Mgr) (hI : Inv m) (hoff : m.lastLen = none) (f g : Int)
    (hf : m.tbl.Mem f) (hg : m.tbl.Mem g) (v : String) (j : Nat) (hv : m.tbl.vars[v]? = some j) :
    ∃ r m', compose f [(v, g)] m = (.ok r, m') ∧ Inv m' ∧ Ext m.tbl m'.tbl ∧ m'.tbl.Mem r ∧
      Frame m m' ∧ ∀ a, den m'.tbl r a = den m.tbl f (upd a j (den m.tbl g a)) := by
  obtain ⟨r, m', h1, h2, h3, h4, h5, h6⟩ := compose_spec m hI hoff f hf [(v, g)]
    (fun p hp => by
      obtain rfl := List.mem_singleton.mp hp
      exact (vars_contains_iff m.tbl _).mpr ⟨j, hv⟩)
    (fun p hp => by obtain rfl := List.mem_singleton.mp hp; exact hg)
  refine ⟨r, m', h1, h2, h3, h4, h5, fun a => ?_⟩
  rw [h6 a, vsub_single hv]

/-- `dvars.get(var, var)` for a dictionary given as the list of its items -/
def tgtName (dvars : List (String × String)) (s : String) : String :=
  (dvars.reverse.lookup s).getD s

/-- the level to which `rename` sends level `i` -/
def renLevel (t : Tbl) (dvars : List (String × String)) (i : Nat) : Nat :=
  match t.l2v[i]? with
  | some v => lvlOf t (tgtName dvars v)
  | none => i

theorem tgtName_declared (t : Tbl) (dvars : List (String × String))
    (hd : ∀ p, p ∈ dvars → t.vars.contains p.2 = true) (s : String)
    (hs : t.vars.contains s = true) : t.vars.contains (tgtName dvars s) = true := by
  unfold tgtName
  cases hl : dvars.reverse.lookup s with
  | none => simpa using hs
  | some w =>
    have := lookup_some_mem s w _ hl
    rw [List.mem_reverse] at this
    simpa using hd _ this

theorem lookup_filterMap_unique (g : String → Option Nat) (v : String) (i j : Nat)
    (hg : g v = some j) :
    ∀ l : List (String × Nat), (v, i) ∈ l → (∀ v', (v', i) ∈ l → v' = v) →
      (l.filterMap fun vl => match g vl.1 with
        | some l2 => some (vl.2, l2)
        | none => none).lookup i = some j := by
  intro l
  induction l with
  | nil => intro h; cases h
  | cons p l ih =>
    intro hm hu
    obtain ⟨v0, i0⟩ := p
    by_cases heq : i = i0
    · subst heq
      have : v0 = v := hu v0 List.mem_cons_self
      subst this
      simp [hg]
    · have hne : (i == i0) = false := by simpa using heq
      have htail : (v, i) ∈ l := by
        rcases List.mem_cons.mp hm with h | h
        · cases h; exact absurd rfl heq
        · exact h
      have ih' := ih htail (fun v' hv' => hu v' (List.mem_cons_of_mem _ hv'))
      rw [List.filterMap_cons]
      cases hg0 : g v0 with
      | none => simpa using ih'
      | some j0 => simp only [List.lookup_cons, hne]; exact ih'

theorem lookup_map_unique (f : String → Nat) (v : String) (i : Nat) (l : List (String × Nat))
    (hm : (v, i) ∈ l) (hu : ∀ v', (v', i) ∈ l → v' = v) :
    (l.map fun vl => (vl.2, f vl.1)).lookup i = some (f v) := by
  simpa [List.filterMap_eq_map'] using lookup_filterMap_unique (fun s => some (f s)) v i (f v) rfl l hm hu

theorem renameMap_ok (t : Tbl) (dvars : List (String × String))
    (hd : ∀ p, p ∈ dvars → t.vars.contains p.2 = true) :
    renameMap t dvars =
      .ok (t.vars.toList.map fun vl => (vl.2, lvlOf t (tgtName dvars vl.1))) := by
  unfold renameMap
  apply mapME_ok
  intro vl hvl
  have hdecl : t.vars.contains vl.1 = true := by
    rw [vars_contains_iff]
    exact ⟨vl.2, TreeMap.mem_toList_iff_getElem?_eq_some.mp hvl⟩
  obtain ⟨l, hl⟩ := (vars_contains_iff t _).mp (tgtName_declared t dvars hd vl.1 hdecl)
  have : tgtName dvars vl.1 = (dvars.reverse.lookup vl.1).getD vl.1 := rfl
  rw [← this, hl]
  simp [lvlOf, hl]

theorem renameMap_lookup (t : Tbl) (hV : VarsBij t) (dvars : List (String × String))
    (i : Nat) (v : String) (hv : t.vars[v]? = some i) :
    (t.vars.toList.map fun vl => (vl.2, lvlOf t (tgtName dvars vl.1))).lookup i =
      some (lvlOf t (tgtName dvars v)) := by
  apply lookup_map_unique (fun s => lvlOf t (tgtName dvars s)) v i
  · exact TreeMap.mem_toList_iff_getElem?_eq_some.mpr hv
  · intro v' hv'
    exact hV.inj (TreeMap.mem_toList_iff_getElem?_eq_some.mp hv') hv

/-- the empty renaming reads every declared level at itself -/
theorem den_renLevel_nil {t : Tbl} (hW : WF t) (hV : VarsBij t) {u : Int} (hu : t.Mem u) (a : Asg) :
    den t u a = den t u (fun i => a (renLevel t [] i)) := by
  apply den_agree_ge t hW u hu
  intro i _ hlt
  obtain ⟨v, hv⟩ := hV.onto i hlt
  simp [renLevel, hV.v2l _ _ hv, tgtName, lvlOf, hv]

/-- the body of `rename(u, dvars)` (names to names; any map, injective or not) where no request is
served: the result denotes `u` with every level read at the level of its target name — or the call
is aborted by a reordering request, having only added nodes -/
theorem renameBody_lvl (m0 : Mgr) (hI0 : Inv m0) (hq : Quiet m0) (hV : VarsBij m0.tbl) (u : Int)
    (hu : m0.tbl.Mem u) (dvars : List (String × String))
    (hd : ∀ p, p ∈ dvars → m0.tbl.vars.contains p.2 = true) :
    Outcome m0 (fun r m1 => m1.tbl.Mem r ∧
        ∀ a, den m1.tbl r a = den m0.tbl u (fun i => a (renLevel m0.tbl dvars i)))
      (renameBody u dvars m0) := by
  have hW := hI0.wf.toWF
  have hmem : m0.mem u = true := (Mgr.mem_iff m0 u).mpr hu
  by_cases hemp : dvars.isEmpty = true
  · -- nothing to rename
    have hb : renameBody u dvars m0 = (.ok u, m0) := by
      unfold renameBody
      simp only [hmem, Bool.not_true, Bool.false_eq_true, if_false, hemp, if_true]
    rw [hb]
    obtain rfl : dvars = [] := List.isEmpty_iff.mp hemp
    exact ⟨StepK.refl hI0, hu, den_renLevel_nil hW hV hu⟩
  · generalize hlm : (m0.tbl.vars.toList.map fun vl => (vl.2, lvlOf m0.tbl (tgtName dvars vl.1))) = lm
    have hlook : ∀ i v, m0.tbl.vars[v]? = some i →
        lm.lookup i = some (lvlOf m0.tbl (tgtName dvars v)) := by
      intro i v hv; rw [← hlm]; exact renameMap_lookup m0.tbl hV dvars i v hv
    unfold renameBody
    simp only [hmem, Bool.not_true, Bool.false_eq_true, if_false, hemp,
      renameMap_ok m0.tbl dvars hd, hlm]
    refine (copyBddF_out none lm m0.tbl hW (m0.nvars + 2) m0 u {} hI0 hq (Ext.refl _) hu
      (CMemo.empty _ _ _)
      (by
        intro i hi
        obtain ⟨v, hv⟩ := hV.onto i (hi.lt_nvars hW)
        exact ⟨_, hlook i v hv, hV.lvlOf_lt (tgtName_declared m0.tbl dvars hd v
          ((vars_contains_iff _ _).mpr ⟨i, hv⟩))⟩)
      (by show m0.tbl.nvars + 1 ≤ _; have : m0.nvars = m0.tbl.nvars := rfl; omega)).elim ?_ fun _ hs ha => ⟨rfl, hs, ha⟩
    intro r c m1 hs ⟨_, hp⟩
    refine ⟨hs, hp.mr, fun a => ?_⟩
    rw [hp.den a]
    apply den_agree_ge m0.tbl hW u hu
    intro i _ hlt
    obtain ⟨v, hv⟩ := hV.onto i hlt
    simp [cmap, hlook i v hv, renLevel, hV.v2l _ _ hv]

/-- `BDD.rename(u, dvars)` with reordering not enabled -/
theorem rename_spec (m : Mgr) (hI : Inv m) (hoff : m.lastLen = none) (hV : VarsBij m.tbl)
    (u : Int) (hu : m.tbl.Mem u) (dvars : List (String × String))
    (hd : ∀ p, p ∈ dvars → m.tbl.vars.contains p.2 = true) :
    ∃ r m', rename u dvars m = (.ok r, m') ∧ Inv m' ∧ Ext m.tbl m'.tbl ∧ m'.tbl.Mem r ∧
      Frame m m' ∧ ∀ a, den m'.tbl r a = den m.tbl u (fun i => a (renLevel m.tbl dvars i)) := by
  obtain ⟨r, m', he, hs, hr, hden⟩ := (Outcome.quiet
    (P := fun t r t' => t'.Mem r ∧ ∀ a, den t' r a = den t u (fun i => a (renLevel t dvars i)))
    (Or.inr hoff) (renameBody_lvl _ (hI.setCtx true) (Or.inl rfl) hV u hu dvars hd)).off hoff
  exact ⟨r, m', he, hs.inv, hs.ext, hr, hs.frame, hden⟩

theorem letOp_bools_nil (u : Int) (m : Mgr) : letOp (.bools []) u m = (.ok u, m) := rfl
theorem letOp_refs_nil (u : Int) (m : Mgr) : letOp (.refs []) u m = (.ok u, m) := rfl
theorem letOp_names_nil (u : Int) (m : Mgr) : letOp (.names []) u m = (.ok u, m) := rfl

theorem letOp_bools (d : List (Key × Bool)) (hd : d ≠ []) (u : Int) :
    letOp (.bools d) u = cofactor u d := by
  cases d with
  | nil => exact absurd rfl hd
  | cons _ _ => rfl

theorem letOp_refs (d : List (String × Int)) (hd : d ≠ []) (u : Int) :
    letOp (.refs d) u = compose u d := by
  cases d with
  | nil => exact absurd rfl hd
  | cons _ _ => rfl

theorem letOp_names (d : List (String × String)) (hd : d ≠ []) (u : Int) :
    letOp (.names d) u = rename u d := by
  cases d with
  | nil => exact absurd rfl hd
  | cons _ _ => rfl

/-- value of a reference as a function of variable NAMES -/
def nameAsg (t : Tbl) (a : String → Bool) : Asg := fun i =>
  match t.l2v[i]? with
  | some v => a v
  | none => false

def denName (t : Tbl) (u : Int) (a : String → Bool) : Bool := den t u (nameAsg t a)

/-- in a canonical table whose order is a bijection, two references that denote the same function
of the variable names are equal: every level assignment is, below `nvars`, a name assignment -/
theorem eq_of_denName_eq {t : Tbl} (hw : WFU t) (hV : VarsBij t) {x y : Int} (hx : t.Mem x)
    (hy : t.Mem y) (h : denName t x = denName t y) : x = y := by
  refine (canonical t hw x y hx hy).mp fun a => ?_
  have hna : ∀ i, i < t.nvars → nameAsg t (fun v => a (lvlOf t v)) i = a i := by
    intro i hi
    obtain ⟨v, hv⟩ := hV.onto i hi
    simp [nameAsg, hV.v2l _ _ hv, lvlOf, hv]
  rw [den_agree_ge t hw.toWF x hx _ _ fun i _ hi => (hna i hi).symm,
    den_agree_ge t hw.toWF y hy _ _ fun i _ hi => (hna i hi).symm]
  exact congrFun h _

theorem copyMap_lookup {s t : Tbl} (hVs : VarsBij s) {i j : Nat} {v : String}
    (hv : s.l2v[i]? = some v) (hj : t.vars[v]? = some j) : (copyMap s t).lookup i = some j := by
  unfold copyMap
  apply lookup_filterMap_unique (fun x => t.vars[x]?) v i j hj
  · exact TreeMap.mem_toList_iff_getElem?_eq_some.mpr (hVs.l2v _ _ hv)
  · intro v' hv'
    exact hVs.inj (TreeMap.mem_toList_iff_getElem?_eq_some.mp hv') (hVs.l2v _ _ hv)

/-- how the source levels of the support are found in the target: through the variable NAME -/
def XLook (lm : List (Nat × Nat)) (S : Tbl) (t : Tbl) (u : Int) : Prop :=
  ∀ i, InSupp S u i → ∃ (v : String) (j : Nat),
    S.l2v[i]? = some v ∧ t.vars[v]? = some j ∧ lm.lookup i = some j ∧ j < t.nvars

theorem XLook.of_declared {s : Tbl} (hS : WF s) (hVs : VarsBij s) {t : Tbl} (hVt : VarsBij t)
    {u : Int} (hsup : ∀ i v, InSupp s u i → s.l2v[i]? = some v → t.vars.contains v = true) :
    XLook (copyMap s t) s t u := by
  intro i hi
  obtain ⟨v, hv⟩ := hVs.onto i (hi.lt_nvars hS)
  have hv := hVs.v2l _ _ hv
  obtain ⟨j, hj⟩ := (vars_contains_iff t v).mp (hsup i v hi hv)
  exact ⟨v, j, hv, hj, copyMap_lookup hVs hv hj, hVt.lt _ _ hj⟩

/-- a copy through such a map, read under `a`, is the source read under any `b` that gives every
level of the support the value `a` gives to the target's level of the same name -/
theorem XLook.den {lm : List (Nat × Nat)} {s t t1 : Tbl} {u r : Int} (hl : XLook lm s t u)
    (hS : WF s) (hu : s.Mem u) (hp : CPost lm s t1 u r) (a b : Asg)
    (hab : ∀ i v j, InSupp s u i → s.l2v[i]? = some v → t.vars[v]? = some j → b i = a j) :
    den t1 r a = den s u b := by
  rw [hp.den]
  apply den_agree_supp s hS u hu
  intro i hi
  obtain ⟨v, j, hv, hjv, hj, _⟩ := hl i hi
  simp only [cmap, hj]
  exact (hab i v j hi hv hjv).symm

/-- the body of `copy_bdd(u, from_bdd, to_bdd)` where no request is served: `s` is the source table
(only read), `m0` the target manager; every variable of the support of `u` is declared in the
target.  The copy is the source by name (`XLook.den`) — or the call is aborted by a reordering
request, having only added nodes -/
theorem copyBddBody_lvl (s : Tbl) (hS : WF s) (hVs : VarsBij s) (m0 : Mgr) (hI0 : Inv m0)
    (hq : Quiet m0) (hVm : VarsBij m0.tbl) (u : Int) (hu : s.Mem u)
    (hsup : ∀ i v, InSupp s u i → s.l2v[i]? = some v → m0.tbl.vars.contains v = true) :
    Outcome m0 (fun r m1 => m1.tbl.Mem r ∧ (0 < r ↔ 0 < u) ∧ ∀ a b : Asg,
        (∀ i v j, InSupp s u i → s.l2v[i]? = some v → m0.tbl.vars[v]? = some j → b i = a j) →
        den m1.tbl r a = den s u b)
      (copyBddBody s u m0) := by
  have hl := XLook.of_declared hS hVs hVm hsup
  unfold copyBddBody
  refine (copyBddF_out (some s) (copyMap s m0.tbl) s hS (s.nvars + 2) m0 u {} hI0 hq rfl hu
    (CMemo.empty _ _ _) (fun i hi => let ⟨_, j, _, _, hj, hlt⟩ := hl i hi; ⟨j, hj, hlt⟩)
    (by omega)).elim ?_ fun _ hs ha => ⟨rfl, hs, ha⟩
  intro r c m1 hs ⟨_, hp⟩
  exact ⟨hs, hp.mr, hp.sign, hl.den hS hu hp⟩

/-- `copy_bdd(u, from_bdd, to_bdd)` with reordering not enabled: the copy denotes the same function
of the variable names; the target keeps its invariant and only gains nodes -/
theorem copyBdd_spec (s : Tbl) (hS : WF s) (hVs : VarsBij s) (m : Mgr) (hI : Inv m)
    (hoff : m.lastLen = none) (hVm : VarsBij m.tbl) (u : Int) (hu : s.Mem u)
    (hsup : ∀ i v, InSupp s u i → s.l2v[i]? = some v → m.tbl.vars.contains v = true) :
    ∃ r m', copyBdd s u m = (.ok r, m') ∧ Inv m' ∧ Ext m.tbl m'.tbl ∧ m'.tbl.Mem r ∧
      Frame m m' ∧ (0 < r ↔ 0 < u) ∧ denName m'.tbl r = denName s u := by
  obtain ⟨r, m', he, hs, hr, hsg, hden⟩ := (Outcome.quiet (P := fun t r t' => t'.Mem r ∧
      (0 < r ↔ 0 < u) ∧ ∀ a b : Asg,
        (∀ i v j, InSupp s u i → s.l2v[i]? = some v → t.vars[v]? = some j → b i = a j) →
        den t' r a = den s u b)
    (Or.inr hoff) (copyBddBody_lvl s hS hVs _ (hI.setCtx true) (Or.inl rfl) hVm u hu hsup)).off hoff
  refine ⟨r, m', he, hs.inv, hs.ext, hr, hs.frame, hsg, funext fun x => ?_⟩
  refine hden _ _ fun i v j _ hv hj => ?_
  have hl2v : m'.tbl.l2v = m.tbl.l2v := hs.frame.l2v
  simp [nameAsg, hv, hl2v, hVm.v2l _ _ hj]

end DD
