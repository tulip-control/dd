/-
  DDProofs.Level — an alphabet of calls on `St` whose every guarded call, issued in a good state,
  is a good step, and what then holds of every guarded history over it from any good state.  The
  step tables of `UOp3`, `UOp4`, `UOp5` have the one shape `StepL` (`level3` … `level5`), a wider
  alphabet reading the embedded calls off the table below it; the recorded-schedule alphabets are
  levels without a table (`levelS`, `level4S`).  `UOp2` is not made one: its statements are about
  `Good2` (reordering never enabled), and its file is below this one.
-/
import DDProofs.Reach2
namespace DD

/-- an alphabet `Op` with its histories (`Hist`) and the model call behind a letter; `goodStep` is
what every alphabet knows of its steps, the recorded-schedule ones (`SCall`, `SCall4`) included -/
structure Level (Op : Type) extends Hist Op St where
  runOp : Op → Mgr → Except Err Res × Mgr
  step_m : ∀ o s, (step o s).m = (runOp o s.m).2
  goodStep : ∀ s o, Good3 s.m s.ext → Guard s o →
    Good3 (runOp o s.m).2 (step o s).ext ∧ Held2 s.ext s.m (runOp o s.m).2 ∧
    (runOp o s.m).1 ≠ .error .needsReordering

/-- a level with the table of its `StepL` facts: what happens to the switch (outside `Safe` only
`configure` moves it) and to the ledger is known too (`UOp3`, `UOp4`, `UOp5`) -/
structure LevelX (Op : Type) extends Level Op where
  Safe : Mgr → Op → Prop
  switchAfter : Op → Bool → Bool
  sound : ∀ s o, Good3 s.m s.ext → Guard s o →
    StepL s.m s.ext (step o s).ext (Safe s.m o) (switchAfter o s.m.lastLen.isSome) (runOp o s.m)

namespace Level
variable {Op : Type} (L : Level Op)

theorem step_good (s : St) (o : Op) (h : Good3 s.m s.ext) (hg : L.Guard s o) :
    Good3 (L.step o s).m (L.step o s).ext := by
  rw [L.step_m]; exact (L.goodStep s o h hg).1

theorem step_held2 (s : St) (o : Op) (h : Good3 s.m s.ext) (hg : L.Guard s o) :
    Held2 s.ext s.m (L.step o s).m := by
  rw [L.step_m]; exact (L.goodStep s o h hg).2.1

theorem from_good (ops : List Op) (s : St) (h : Good3 s.m s.ext) (hg : L.Guarded ops s) :
    Good3 (L.run ops s).m (L.run ops s).ext :=
  L.toHist.run_inv (Good := fun s => Good3 s.m s.ext) L.step_good ops s h hg

theorem prefix_good (pre post : List Op) (s : St) (h : Good3 s.m s.ext)
    (hg : L.Guarded (pre ++ post) s) : Good3 (L.run pre s).m (L.run pre s).ext :=
  L.from_good pre s h ((L.guarded_append pre post s).mp hg).1

theorem run_held (ops : List Op) (s : St) (h : Good3 s.m s.ext) (hg : L.Guarded ops s) (u : Int)
    (hheld : ∀ pre post : List Op, ops = pre ++ post → 0 < (L.run pre s).ext u.natAbs) :
    (L.run ops s).m.tbl.Mem u ∧ ∀ σ, denN (L.run ops s).m.tbl u σ = denN s.m.tbl u σ :=
  L.toHist.run_held2 (Good := fun s => Good3 s.m s.ext) L.step_good (fun _ h => h.exact)
    L.step_held2 ops s h hg u hheld

/-- "every route, across time and orders": `u` held since the prefix `pre`; any guarded
continuation that ends with a node `v` denoting, by name, what `u` denoted then has `v = u` -/
theorem routes_agree_held (s : St) (hs : Good3 s.m s.ext) (pre post : List Op)
    (hg : L.Guarded (pre ++ post) s) (u v : Int)
    (hheld : ∀ p q, post = p ++ q → 0 < (L.run p (L.run pre s)).ext u.natAbs)
    (hv : (L.run (pre ++ post) s).m.tbl.Mem v)
    (hsame : ∀ σ, denN (L.run (pre ++ post) s).m.tbl v σ = denN (L.run pre s).m.tbl u σ) : v = u :=
  L.toHist.routes_agree (Good := fun s => Good3 s.m s.ext) L.step_good (fun _ h => h)
    L.step_held2 pre post s hs hg u v hheld hv hsame

/-- `results` is the alphabet's recursion that collects the answers (`results3`, `resultsS`, …) -/
theorem results_noSignal (results : List Op → St → List (Except Err Res))
    (hnil : ∀ s, results [] s = [])
    (hcons : ∀ o os s, results (o :: os) s = (L.runOp o s.m).1 :: results os (L.step o s))
    (ops : List Op) (s : St) (h : Good3 s.m s.ext) (hg : L.Guarded ops s) :
    ∀ r ∈ results ops s, r ≠ .error .needsReordering := by
  induction ops generalizing s with
  | nil => rw [hnil]; exact nofun
  | cons o ops ih =>
    have hg' := (L.guarded_cons o ops s).mp hg
    rw [hcons]
    intro r hr
    rcases List.mem_cons.mp hr with rfl | hr
    · exact (L.goodStep s o h hg'.1).2.2
    · exact ih _ (L.step_good s o h hg'.1) hg'.2 r hr

end Level

namespace LevelX
variable {Op : Type} (L : LevelX Op)

/-- C06 / C07 / C09 for the next call, whatever it is: what the user holds is kept (same number,
same function by name, counter = stored edges + the user's references + 1 for the terminal), and
only `configure` moves the switch (`Safe`) -/
theorem next_call (s : St) (h : Good3 s.m s.ext) (op : Op) (hop : L.Guard s op) :
    Good3 (L.step op s).m (L.step op s).ext ∧
    (L.runOp op s.m).1 ≠ .error .needsReordering ∧
    (L.Safe s.m op → (L.step op s).m.lastLen.isSome = L.switchAfter op s.m.lastLen.isSome) ∧
    ∀ u : Int, 0 < s.ext u.natAbs →
      s.m.tbl.Mem u ∧ (L.step op s).m.tbl.Mem u ∧
      (∀ σ, denN (L.step op s).m.tbl u σ = denN s.m.tbl u σ) ∧
      s.ext u.natAbs ≤ (L.step op s).ext u.natAbs + 1 ∧
      (L.step op s).m.ref[u.natAbs]? =
        some (indeg (L.step op s).m.tbl u.natAbs + (L.step op s).ext u.natAbs +
          (if u.natAbs = 1 then 1 else 0)) := by
  have hs := L.sound s op h hop
  have hS := L.step_good s op h hop
  refine ⟨hS, hs.noSignal, by rw [L.step_m]; exact hs.switch, fun u hu => ?_⟩
  obtain ⟨hm', hd⟩ := L.step_held2 s op h hop u hu
  exact ⟨h.exact.mem_of_ext_pos hu, hm', hd, hs.drop _, hS.exact.get hm'⟩

/-- C17 for a call that raises: nothing that matters has changed, so every theorem applies to the
next call, whatever it is, and a collection right after the failure behaves normally -/
theorem error_then_normal (s : St) (h : Good3 s.m s.ext) (op : Op) (hop : L.Guard s op) (e : Err)
    (hrej : (L.runOp op s.m).1 = .error e) :
    e ≠ .needsReordering ∧
    Good3 (L.step op s).m (L.step op s).ext ∧
    (L.step op s).ext = s.ext ∧
    (L.Safe s.m op → (L.step op s).m.lastLen.isSome = s.m.lastLen.isSome) ∧
    (∀ w : Int, HeldX s.ext w → (L.step op s).m.tbl.Mem w ∧
      ∀ σ, denN (L.step op s).m.tbl w σ = denN s.m.tbl w σ) ∧
    (∀ op2 : Op, L.Guard (L.step op s) op2 →
      Good3 (L.step op2 (L.step op s)).m (L.step op2 (L.step op s)).ext) ∧
    (∃ m', collectGarbage none (L.step op s).m = (.ok (), m') ∧ Good3 m' s.ext) := by
  have hs := L.sound s op h hop
  have hS := L.step_good s op h hop
  obtain ⟨hl, hsw⟩ := hs.rejected e hrej
  exact ⟨fun he => hs.noSignal (by rw [hrej, he]), hS, hl, by rw [L.step_m]; exact hsw,
    fun w hw => (L.step_held2 s op h hop).heldX hw, fun op2 h2 => L.step_good _ op2 hS h2,
    hl ▸ hS.collect⟩

end LevelX
end DD
