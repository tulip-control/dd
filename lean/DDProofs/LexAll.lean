/-
  DDProofs.LexAll — the lexer reads back EVERY spelling of every token string.

  `Tok.spellings t` lists the texts of a token as the regenerated tables give them (every
  row of `Gen.spellings` whose token is `t`, every reserved word of `Gen.reserved`, the
  name / the digits themselves).  A `Piece` is a token with one of its spellings and the blank
  material (spaces, tabs, newlines, `(* … *)` comments, `\* …` line comments) that follows it.
  `tokenize_pieces`: pieces are read back as their tokens whenever `piecesOk`; the only demand on
  adjacent texts is `clash` (maximal munch), a decidable predicate on the text of a token and
  the ONE character that follows it.
-/
import DDProofs.LexSteps
namespace DD

/-- the rows of `Gen.spellings` that lex to the token `t` -/
def rowSpellings (t : Tok) : List String :=
  (Gen.spellings.filter fun r => tokOfRow r.2.1 r.2.2 == some t).map (·.1)

/-- the reserved words of `Gen.reserved` with token type `ty` -/
def kwSpellings (ty : String) : List String :=
  (Gen.reserved.filter fun r => r.2 == ty).map (·.1)

def Tok.spellings : Tok → List String
  | .name s => [s]
  | .number d => [d]
  | .bad => []
  | .ite => kwSpellings "ITE"
  | .tt => kwSpellings "TRUE"
  | .ff => kwSpellings "FALSE"
  | .lparen => rowSpellings .lparen
  | .rparen => rowSpellings .rparen
  | .comma => rowSpellings .comma
  | .colon => rowSpellings .colon
  | .div => rowSpellings .div
  | .at => rowSpellings .at
  | .not => rowSpellings .not
  | .forall_ => rowSpellings .forall_
  | .exists_ => rowSpellings .exists_
  | .rename => rowSpellings .rename
  | .op o => rowSpellings (.op o)

/-- `[A-Za-z_][A-Za-z0-9_']*` -/
def wordOk : List Char → Bool
  | c :: cs => isNameStart c && cs.all isNameChar
  | [] => false

/-- `\d+` (any Unicode decimal digits, as the `str` pattern matches them) -/
def digitsOk (d : List Char) : Bool := !d.isEmpty && d.all isDigitU

theorem wordOk_cons {w : List Char} (h : wordOk w = true) :
    ∃ c cs, w = c :: cs ∧ isNameStart c = true ∧ ∀ x ∈ cs, isNameChar x = true := by
  cases w with
  | nil => cases h
  | cons c cs =>
    simp only [wordOk, Bool.and_eq_true, List.all_eq_true] at h
    exact ⟨c, cs, rfl, h⟩

theorem digitsOk_cons {d : List Char} (h : digitsOk d = true) :
    ∃ c cs, d = c :: cs ∧ isDigitU c = true ∧ ∀ x ∈ c :: cs, isDigitU x = true := by
  cases d with
  | nil => cases h
  | cons c cs =>
    simp only [digitsOk, List.isEmpty_cons, Bool.not_false, Bool.true_and, List.all_eq_true] at h
    exact ⟨c, cs, rfl, h c List.mem_cons_self, h⟩

/-- tokens that have a text: a NAME that is not a reserved word, a nonempty digit string -/
def Tok.lexOk : Tok → Bool
  | .name s => wordOk s.toList && (Gen.reserved.lookup s).isNone
  | .number d => digitsOk d.toList
  | .bad => false
  | _ => true

/-- the characters that extend the text `a` towards a longer row of the spelling table -/
def extChars (a : List Char) : List Char :=
  Gen.spellings.filterMap fun r =>
    if isPrefixChars a r.1.toList then r.1.toList[a.length]? else none

/-- the token text `a` must not be followed directly by the character `y`:
a NAME would go on, a NUMBER would go on, `(` would open a comment, or a longer
operator spelling would be matched -/
def clash (a : List Char) (y : Char) : Bool :=
  match a with
  | [] => true
  | c :: _ =>
    if isNameStart c then isNameChar y
    else if isDigitU c then isDigitU y
    else (a == ['('] && y == '*') || (extChars a).contains y

/-- one element of the material between tokens -/
inductive Blank
  | sp | tab | nl
  /-- `(*` body `*)` -/
  | block (body : List Char)
  /-- `\*` body, with the newline that ends it -/
  | line (body : List Char)
deriving Repr, DecidableEq

/-- the body of a `(* *)` comment contains `*)` -/
def hasClose : List Char → Bool
  | '*' :: ')' :: _ => true
  | _ :: cs => hasClose cs
  | [] => false

def Blank.chars : Blank → List Char
  | .sp => [' ']
  | .tab => ['\t']
  | .nl => ['\n']
  | .block b => '(' :: '*' :: (b ++ ['*', ')'])
  | .line b => '\\' :: '*' :: (b ++ ['\n'])

def Blank.first : Blank → Char
  | .sp => ' ' | .tab => '\t' | .nl => '\n' | .block _ => '(' | .line _ => '\\'

/-- the comment body does not end the comment early -/
def Blank.ok : Blank → Bool
  | .block b => !hasClose b
  | .line b => !b.contains '\n'
  | _ => true

def gapChars (g : List Blank) : List Char := g.flatMap Blank.chars

/-- a last `\* …` comment that runs to the end of the text (no newline) -/
def finChars : Option (List Char) → List Char
  | none => []
  | some b => '\\' :: '*' :: b

def finOk : Option (List Char) → Bool
  | none => true
  | some b => !b.contains '\n'

/-! ### pieces: a token, the spelling chosen for it, the blanks after it -/

structure Piece where
  tok : Tok
  text : String
  gap : List Blank
deriving Repr, DecidableEq

/-- the pieces, followed by the tail `tl` of the text -/
def piecesChars (tl : List Char) : List Piece → List Char
  | [] => tl
  | p :: ps => p.text.toList ++ (gapChars p.gap ++ piecesChars tl ps)

/-- the first character after a token text (`nx` = first character of the tail) -/
def nextChar (nx : Option Char) : List Blank → List Piece → Option Char
  | b :: _, _ => some b.first
  | [], p :: _ => p.text.toList.head?
  | [], [] => nx

def sepOk (a : List Char) : Option Char → Bool
  | none => true
  | some y => !clash a y

/-- every token has a text, the text is one of its spellings, the comments are closed where
they are meant to be, and no token text clashes with the character after it -/
def piecesOk (nx : Option Char) : List Piece → Bool
  | [] => true
  | p :: ps =>
    p.tok.lexOk && p.tok.spellings.contains p.text && p.gap.all Blank.ok &&
      sepOk p.text.toList (nextChar nx p.gap ps) && piecesOk nx ps

theorem isDigitU_range {c : Char} (h : isDigitU c = true) :
    (48 ≤ c.toNat ∧ c.toNat < 58) ∨ 128 ≤ c.toNat := by
  simp only [isDigitU, digitVal?, Option.isSome_map] at h
  obtain ⟨z, hz⟩ := Option.isSome_iff_exists.mp h
  have hm := List.mem_of_find?_eq_some hz
  have hp := List.find?_some hz
  simp only [Bool.and_eq_true, decide_eq_true_eq] at hp
  have hall : ∀ z ∈ Gen.decimalZeros, z = 48 ∨ 128 ≤ z := by decide +kernel
  rcases hall z hm with h48 | hge
  · left; omega
  · right; omega

theorem char_isAlpha_lt {c : Char} (h : c.isAlpha = true) : 65 ≤ c.toNat ∧ c.toNat < 128 := by
  simp only [Char.isAlpha, Char.isUpper, Char.isLower, Bool.or_eq_true, Bool.and_eq_true, decide_eq_true_eq] at h
  have bounds : ∀ {lo hi : Char}, lo.val ≤ c.val → c.val ≤ hi.val → lo.toNat ≤ c.toNat ∧ c.toNat ≤ hi.toNat :=
    fun h1 h2 => ⟨UInt32.le_iff_toNat_le.mp h1, UInt32.le_iff_toNat_le.mp h2⟩
  rcases h with ⟨h1, h2⟩ | ⟨h1, h2⟩
  · have : 65 ≤ c.toNat ∧ c.toNat ≤ 90 := bounds h1 h2
    omega
  · have : 97 ≤ c.toNat ∧ c.toNat ≤ 122 := bounds h1 h2
    omega

theorem digit_not_nameStart {c : Char} (h : isDigitU c = true) : isNameStart c = false := by
  have hr := isDigitU_range h
  cases hs : isNameStart c with
  | false => rfl
  | true =>
    simp only [isNameStart, Bool.or_eq_true, beq_iff_eq] at hs
    rcases hs with hs | rfl
    · have := char_isAlpha_lt hs; omega
    · exact absurd hr (by decide)

/-- shape of the rows of the spelling table: the first character is neither ignored nor the
start of a NAME / NUMBER / newline; after `\` comes a character other than `*`; `(` stands alone -/
def rowShapeOk (r : String × String × String) : Bool :=
  match r.1.toList with
  | c :: rest =>
    !Gen.lexIgnore.toList.contains c && !isNameStart c && !isDigitU c && c != '\n' &&
      (c != '\\' || (match rest with | y :: _ => y != '*' | [] => false)) &&
      (c != '(' || rest.isEmpty)
  | [] => false

theorem rows_shape : Gen.spellings.all rowShapeOk = true := by decide +kernel

theorem spell_functional : ∀ r ∈ Gen.spellings, ∀ r' ∈ Gen.spellings, r.1 = r'.1 → r = r' := by decide +kernel

theorem row_shape {r : String × String × String} (hr : r ∈ Gen.spellings) {c : Char} {rest : List Char}
    (hc : r.1.toList = c :: rest) :
    Gen.lexIgnore.toList.contains c = false ∧ isNameStart c = false ∧ isDigitU c = false ∧ c ≠ '\n' ∧
      (c ≠ '\\' ∨ ∃ y rest', rest = y :: rest' ∧ y ≠ '*') ∧ (c ≠ '(' ∨ rest = []) := by
  have hs := List.all_eq_true.mp rows_shape r hr
  simp only [rowShapeOk, hc, Bool.and_eq_true, Bool.not_eq_true', bne_iff_ne, ne_eq, Bool.or_eq_true,
    List.isEmpty_iff] at hs
  obtain ⟨⟨⟨⟨⟨h1, h2⟩, h3⟩, h4⟩, h5⟩, h6⟩ := hs
  refine ⟨h1, h2, h3, h4, h5.imp id fun h => ?_, h6⟩
  cases rest with
  | nil => cases h
  | cons y rest' => exact ⟨y, rest', rfl, bne_iff_ne.mp h⟩

theorem longestSpelling_none_of_head {c : Char} (cs : List Char)
    (h : ∀ r ∈ Gen.spellings, ∀ x xs, r.1.toList = x :: xs → x ≠ c) :
    longestSpelling (c :: cs) Gen.spellings none = none := by
  refine longestSpelling_eq_none.mpr ⟨rfl, fun r hr => ?_⟩
  cases hx : r.1.toList with
  | nil => exact absurd hx (spellings_nonempty r hr)
  | cons x xs => rw [isPrefixChars, beq_eq_false_iff_ne.mpr (h r hr x xs hx), Bool.false_and]

theorem digit_no_spelling {c : Char} (h : isDigitU c = true) (cs : List Char) :
    longestSpelling (c :: cs) Gen.spellings none = none :=
  longestSpelling_none_of_head cs fun r hr x xs hx e => by
    have := (row_shape hr hx).2.2.1
    rw [e, h] at this
    cases this

theorem digit_preOk {c : Char} (h : isDigitU c = true) (cs : List Char) : preOk (c :: cs) = true := by
  have hr := isDigitU_range h
  refine preOk_of_plain ?_ (digit_not_nameStart h) ?_ ?_ ?_ cs
  · rw [lexIgnore_chars]
    simp only [List.contains_eq_mem, List.mem_cons, List.not_mem_nil, or_false, decide_eq_false_iff_not, not_or]
    constructor <;> (rintro rfl; exact absurd hr (by decide))
  all_goals (rw [beq_eq_false_iff_ne]; rintro rfl; exact absurd hr (by decide))

/-- what follows does not continue a run of `p`-characters -/
def stopsRun (p : Char → Bool) : List Char → Prop
  | [] => True
  | y :: _ => p y = false

theorem takeWhile_run (p : Char → Bool) (w k : List Char) (hw : ∀ x ∈ w, p x = true) (hk : stopsRun p k) :
    (w ++ k).takeWhile p = w ∧ (w ++ k).dropWhile p = k := by
  rw [List.takeWhile_append_of_pos hw, List.dropWhile_append_of_pos hw]
  cases k with
  | nil => simp
  | cons y k' => simp only [stopsRun] at hk; simp [List.takeWhile, List.dropWhile, hk]

theorem lex_word (w : List Char) (hw : wordOk w = true) (k : List Char) (hk : stopsRun isNameChar k) :
    lex (w ++ k) = nameTok (String.ofList w) :: lex k := by
  obtain ⟨c, cs, rfl, hc, hcs⟩ := wordOk_cons hw
  have hall : ∀ x ∈ c :: cs, isNameChar x = true :=
    List.forall_mem_cons.mpr ⟨nameStart_nameChar hc, hcs⟩
  obtain ⟨ht, hd⟩ := takeWhile_run isNameChar (c :: cs) k hall hk
  rw [List.cons_append] at ht hd ⊢
  rw [lex_name hc, ht, hd]

theorem lex_digits (d : List Char) (hd : digitsOk d = true) (k : List Char) (hk : stopsRun isDigitU k) :
    lex (d ++ k) = .number (String.ofList d) :: lex k := by
  obtain ⟨c, cs, rfl, hc, hall⟩ := digitsOk_cons hd
  obtain ⟨ht, hdr⟩ := takeWhile_run isDigitU (c :: cs) k hall hk
  rw [List.cons_append] at ht hdr ⊢
  rw [lex_noSpelling (digit_preOk hc _) (digit_no_spelling hc _), if_pos hc, ht, hdr]

theorem isPrefixChars_iff : ∀ {l cs : List Char}, isPrefixChars l cs = true ↔ l <+: cs
  | [], _ => by simp [isPrefixChars]
  | _ :: _, [] => by simp [isPrefixChars]
  | a :: l, b :: cs => by
    rw [isPrefixChars, Bool.and_eq_true, beq_iff_eq, isPrefixChars_iff, List.cons_prefix_cons]

theorem prefix_ext {s a : List Char} {y : Char} {k : List Char}
    (h : s <+: a ++ y :: k) (hl : a.length < s.length) : a <+: s ∧ s[a.length]? = some y := by
  obtain ⟨t, rfl⟩ := List.prefix_of_prefix_length_le (List.prefix_append a _) h (Nat.le_of_lt hl)
  obtain ⟨u, hu⟩ := (List.prefix_append_right_inj a).mp h
  cases t with
  | nil => simp at hl
  | cons z t => cases hu; exact ⟨List.prefix_append _ _, by simp⟩

theorem clash_row {r : String × String × String} (hr : r ∈ Gen.spellings) (y : Char) :
    clash r.1.toList y = ((r.1.toList == ['('] && y == '*') || (extChars r.1.toList).contains y) := by
  cases hc : r.1.toList with
  | nil => exact absurd hc (spellings_nonempty r hr)
  | cons c rest =>
    obtain ⟨-, h2, h3, -⟩ := row_shape hr hc
    simp only [clash, h2, h3, Bool.false_eq_true, if_false]

theorem mem_extChars {a s : List Char} {y : Char} {r : String × String × String} (hr : r ∈ Gen.spellings)
    (hs : r.1.toList = s) (hp : isPrefixChars a s = true) (hy : s[a.length]? = some y) : y ∈ extChars a := by
  simp only [extChars, List.mem_filterMap]
  refine ⟨r, hr, ?_⟩
  rw [hs, if_pos hp, hy]

theorem longest_row {r : String × String × String} (hr : r ∈ Gen.spellings) (k : List Char)
    (hext : ∀ y ∈ k.head?, y ∉ extChars r.1.toList) :
    longestSpelling (r.1.toList ++ k) Gen.spellings none = some ((r.2.1, r.2.2), r.1.toList.length) := by
  cases h : longestSpelling (r.1.toList ++ k) Gen.spellings none with
  | none =>
    have := (longestSpelling_eq_none.mp h).2 r hr
    rw [isPrefixChars_iff.mpr (List.prefix_append _ _)] at this
    cases this
  | some b =>
    obtain ⟨row, n⟩ := b
    obtain ⟨hfrom, hmax, -⟩ := longestSpelling_some h
    obtain ⟨r', hr', hp', hrow, hn⟩ := hfrom.resolve_left nofun
    have hle := hmax r hr (isPrefixChars_iff.mpr (List.prefix_append _ _))
    have hp' := isPrefixChars_iff.mp hp'
    have hlen : r'.1.toList.length = r.1.toList.length := by
      refine Nat.le_antisymm (Nat.not_lt.mp fun hlt => ?_) (hn ▸ hle)
      cases k with
      | nil => have := hp'.length_le; simp at this; omega
      | cons y k' =>
        obtain ⟨hp, hy⟩ := prefix_ext hp' hlt
        exact hext y rfl (mem_extChars hr' rfl (isPrefixChars_iff.mpr hp) hy)
    have e : r'.1 = r.1 := String.toList_injective
      ((List.prefix_of_prefix_length_le hp' (List.prefix_append _ _) (Nat.le_of_eq hlen)).eq_of_length hlen)
    cases spell_functional r' hr' r hr e
    rw [← hrow, ← hn]

example : longestSpelling ("=>".toList ++ [' ']) Gen.spellings none = some (("IMPLIES", "=>"), 2) := by decide

/-- the rules tried before the operator table do not apply to a row followed by `k`, unless the
row is `(` and `k` starts with `*`: then the comment must stay open -/
theorem row_preOk {r : String × String × String} (hr : r ∈ Gen.spellings) {c : Char}
    {rest : List Char} (hc : r.1.toList = c :: rest) (k : List Char)
    (hcom : r.1.toList = ['('] → ∀ b, k = '*' :: b → closeComment b = none) :
    preOk (c :: (rest ++ k)) = true := by
  obtain ⟨h1, h2, -, h4, h5, h6⟩ := row_shape hr hc
  have h3 : (c == '\\' && (rest ++ k).head? == some '*') = false := by
    rcases h5 with h5 | h5
    · rw [beq_eq_false_iff_ne.mpr h5, Bool.false_and]
    · obtain ⟨y, rest', rfl, hy⟩ := h5
      simpa using fun _ => hy
  have h7 : (if (c == '(' && (rest ++ k).head? == some '*') = true then closeComment (rest ++ k).tail
      else none) = none := by
    rcases h6 with h6 | rfl
    · rw [beq_eq_false_iff_ne.mpr h6, Bool.false_and, if_neg Bool.false_ne_true]
    · split
      · next hcond =>
        simp only [List.nil_append, Bool.and_eq_true, beq_iff_eq] at hcond ⊢
        obtain ⟨rfl, hk⟩ := hcond
        cases k with
        | nil => cases hk
        | cons y b => cases hk; exact hcom hc b rfl
      · rfl
  simp only [preOk, h1, h2, h3, beq_eq_false_iff_ne.mpr h4, h7, Bool.not_false, Bool.and_self,
    Option.isNone_none]

theorem lex_row {r : String × String × String} (hr : r ∈ Gen.spellings) {t : Tok}
    (ht : tokOfRow r.2.1 r.2.2 = some t) (k : List Char)
    (hext : ∀ y ∈ k.head?, y ∉ extChars r.1.toList)
    (hcom : r.1.toList = ['('] → ∀ b, k = '*' :: b → closeComment b = none) :
    lex (r.1.toList ++ k) = t :: lex k := by
  have hls := longest_row hr k hext
  cases hc : r.1.toList with
  | nil => exact absurd hc (spellings_nonempty r hr)
  | cons c rest =>
    rw [hc] at hls
    rw [List.cons_append, lex_spelling (row_preOk hr hc k hcom) hls ht, ← List.cons_append,
      List.drop_left]

theorem mem_rowSpellings {t : Tok} {sp : String} (h : sp ∈ rowSpellings t) :
    ∃ r ∈ Gen.spellings, tokOfRow r.2.1 r.2.2 = some t ∧ r.1 = sp := by
  simp only [rowSpellings, List.mem_map, List.mem_filter, beq_iff_eq] at h
  obtain ⟨r, ⟨hr, ht⟩, hs⟩ := h
  exact ⟨r, hr, ht, hs⟩

theorem reserved_ok :
    (Gen.reserved.all fun r => wordOk r.1.toList && Gen.reserved.lookup r.1 == some r.2) = true := by decide +kernel

theorem mem_kwSpellings {ty sp : String} (h : sp ∈ kwSpellings ty) :
    wordOk sp.toList = true ∧ Gen.reserved.lookup sp = some ty := by
  simp only [kwSpellings, List.mem_map, List.mem_filter, beq_iff_eq] at h
  obtain ⟨r, ⟨hr, ht⟩, hs⟩ := h
  have := List.all_eq_true.mp reserved_ok r hr
  simp only [Bool.and_eq_true, beq_iff_eq] at this
  subst hs ht
  exact this

theorem sepOk_row {r : String × String × String} (hr : r ∈ Gen.spellings) {k : List Char}
    (h : sepOk r.1.toList k.head? = true) :
    (∀ y ∈ k.head?, y ∉ extChars r.1.toList) ∧ (r.1.toList = ['('] → ∀ b, k ≠ '*' :: b) := by
  cases k with
  | nil => exact ⟨nofun, fun _ _ => nofun⟩
  | cons y k' =>
    simp only [List.head?_cons, sepOk, Bool.not_eq_true', clash_row hr, Bool.or_eq_false_iff,
      Bool.and_eq_false_iff, beq_eq_false_iff_ne, ne_eq, List.contains_eq_mem, decide_eq_false_iff_not] at h
    refine ⟨fun y' hy' => by cases hy'; exact h.2, fun hp b e => ?_⟩
    cases e
    exact h.1.elim (· hp) (· rfl)

theorem sepOk_word {w : List Char} (hw : wordOk w = true) {k : List Char} (h : sepOk w k.head? = true) :
    stopsRun isNameChar k := by
  obtain ⟨c, cs, rfl, hc, -⟩ := wordOk_cons hw
  cases k with
  | nil => trivial
  | cons y k' =>
    simp only [List.head?_cons, sepOk, clash, hc, if_true, Bool.not_eq_true'] at h
    exact h

theorem sepOk_digits {d : List Char} (hd : digitsOk d = true) {k : List Char} (h : sepOk d k.head? = true) :
    stopsRun isDigitU k := by
  obtain ⟨c, cs, rfl, hc, -⟩ := digitsOk_cons hd
  cases k with
  | nil => trivial
  | cons y k' =>
    simp only [List.head?_cons, sepOk, clash, digit_not_nameStart hc, hc, Bool.false_eq_true, if_false, if_true,
      Bool.not_eq_true'] at h
    exact h

inductive TextKind (t : Tok) (a : String) : Prop
  | word (hw : wordOk a.toList = true) (ht : nameTok a = t)
  | num (hd : digitsOk a.toList = true) (ht : t = .number a)
  | row (r : String × String × String) (hr : r ∈ Gen.spellings) (e : r.1 = a)
      (ht : tokOfRow r.2.1 r.2.2 = some t)

theorem textKind (t : Tok) (a : String) (hok : t.lexOk = true) (ha : a ∈ t.spellings) : TextKind t a := by
  have hkw : ∀ {ty : String} {t' : Tok}, (∀ s, Gen.reserved.lookup s = some ty → nameTok s = t') →
      a ∈ kwSpellings ty → TextKind t' a :=
    fun hn ha => .word (mem_kwSpellings ha).1 (hn a (mem_kwSpellings ha).2)
  have hrow : ∀ t', a ∈ rowSpellings t' → TextKind t' a := by
    intro t' h
    obtain ⟨r, hr, ht, e⟩ := mem_rowSpellings h
    exact .row r hr e ht
  cases t with
  | name s =>
    cases List.mem_singleton.mp ha
    simp only [Tok.lexOk, Bool.and_eq_true, Option.isNone_iff_eq_none] at hok
    exact .word hok.1 (by simp only [nameTok, hok.2])
  | number d => cases List.mem_singleton.mp ha; exact .num hok rfl
  | bad => cases hok
  | ite => exact hkw (fun s hs => by simp only [nameTok, hs]) ha
  | tt => exact hkw (fun s hs => by simp only [nameTok, hs]) ha
  | ff => exact hkw (fun s hs => by simp only [nameTok, hs]) ha
  | _ => exact hrow _ ha

theorem lex_tok (t : Tok) (sp : String) (hok : t.lexOk = true) (hsp : sp ∈ t.spellings)
    (k : List Char) (hsep : sepOk sp.toList k.head? = true) : lex (sp.toList ++ k) = t :: lex k := by
  rcases textKind t sp hok hsp with ⟨hw, rfl⟩ | ⟨hd, rfl⟩ | ⟨r, hr, rfl, ht⟩
  · rw [lex_word _ hw k (sepOk_word hw hsep), String.ofList_toList]
  · rw [lex_digits _ hd k (sepOk_digits hd hsep), String.ofList_toList]
  · obtain ⟨hext, hcom⟩ := sepOk_row hr hsep
    exact lex_row hr ht k hext fun hp b e => absurd e (hcom hp b)

theorem spelling_ne_nil (t : Tok) (sp : String) (hok : t.lexOk = true) (hsp : sp ∈ t.spellings) :
    sp.toList ≠ [] := by
  rcases textKind t sp hok hsp with ⟨hw, -⟩ | ⟨hd, -⟩ | ⟨r, hr, rfl, -⟩
  · intro e; rw [e] at hw; cases hw
  · intro e; rw [e] at hd; cases hd
  · exact spellings_nonempty r hr

theorem closeComment_body (b k : List Char) (h : hasClose b = false) :
    closeComment (b ++ '*' :: ')' :: k) = some k := by
  fun_induction hasClose b with
  | case1 => simp at h
  | case2 c cs hne ih =>
    rw [List.cons_append, closeComment]
    · exact ih h
    · intro rest hc hcs
      cases cs with
      | nil => simp at hcs
      | cons x xs =>
        simp only [List.cons_append, List.cons.injEq] at hcs
        exact hne xs hc (by rw [hcs.1])
  | case3 => simp [closeComment]

theorem skipLine_append (b k : List Char) (h : b.contains '\n' = false) :
    skipLine (b ++ k) = skipLine k := by
  induction b with
  | nil => rfl
  | cons c cs ih =>
    simp only [List.contains_cons, Bool.or_eq_false_iff] at h
    have hc : (c == '\n') = false := by
      have := h.1
      rw [Bool.beq_comm] at this
      exact this
    simp only [List.cons_append, skipLine, hc, Bool.false_eq_true, if_false]
    exact ih h.2

theorem skipLine_body (b k : List Char) (h : b.contains '\n' = false) :
    skipLine (b ++ '\n' :: k) = '\n' :: k := by
  rw [skipLine_append b _ h]
  rfl

theorem skipLine_end (b : List Char) (h : b.contains '\n' = false) : skipLine b = [] := by
  rw [← List.append_nil b, skipLine_append b _ h]
  rfl

theorem star_no_spelling :
    (Gen.spellings.all fun r => match r.1.toList with | x :: _ => x != '*' | [] => false) = true := by decide +kernel

theorem lex_star (cs : List Char) : lex ('*' :: cs) = [.bad] := by
  have h6 : longestSpelling ('*' :: cs) Gen.spellings none = none :=
    longestSpelling_none_of_head cs fun r hr x xs hx => by
      have := List.all_eq_true.mp star_no_spelling r hr
      rw [hx] at this
      exact bne_iff_ne.mp this
  rw [lex_noSpelling (preOk_of_plain (by decide) (by decide) (by decide) (by decide) (by decide) cs) h6,
    if_neg (by decide)]

theorem lex_open_comment (b : List Char) (hb : closeComment b = none) :
    lex ('(' :: '*' :: b) = [.lparen, .bad] := by
  have hr : ("(", "LPAREN", "(") ∈ Gen.spellings := by decide +kernel
  have hx : extChars "(".toList = [] := by decide +kernel
  have := lex_row hr (t := .lparen) rfl ('*' :: b) (fun _ _ h => by rw [hx] at h; cases h)
    (fun _ b' e => by cases e; exact hb)
  rw [lex_star] at this
  exact this

theorem lex_blank (g : Blank) (hg : g.ok = true) (k : List Char) : lex (g.chars ++ k) = lex k := by
  cases g with
  | sp => exact lex_ignore (by decide) k
  | tab => exact lex_ignore (by decide) k
  | nl => exact lex_newline k
  | block b =>
    simp only [Blank.ok, Bool.not_eq_true'] at hg
    simp only [Blank.chars, List.cons_append, List.append_assoc, List.nil_append]
    exact lex_block (closeComment_body b k hg)
  | line b =>
    simp only [Blank.ok, Bool.not_eq_true'] at hg
    simp only [Blank.chars, List.cons_append, List.append_assoc, List.nil_append]
    rw [lex_lineComment, skipLine_body _ _ hg, lex_newline]

theorem lex_gap : ∀ (g : List Blank), g.all Blank.ok = true → ∀ k : List Char, lex (gapChars g ++ k) = lex k
  | [], _, _ => rfl
  | b :: g, hg, k => by
    simp only [List.all_cons, Bool.and_eq_true] at hg
    rw [gapChars, List.flatMap_cons, List.append_assoc, lex_blank b hg.1]
    exact lex_gap g hg.2 k

theorem lex_fin (fin : Option (List Char)) (h : finOk fin = true) : lex (finChars fin) = [] := by
  cases fin with
  | none => exact lex_nil
  | some b =>
    simp only [finOk, Bool.not_eq_true'] at h
    rw [finChars, lex_lineComment, skipLine_end _ h, lex_nil]

theorem Blank.chars_head (b : Blank) (k : List Char) : (b.chars ++ k).head? = some b.first := by
  cases b <;> simp [Blank.chars, Blank.first]

theorem head_following (tl : List Char) (g : List Blank) (ps : List Piece)
    (h : piecesOk tl.head? ps = true) :
    (gapChars g ++ piecesChars tl ps).head? = nextChar tl.head? g ps := by
  cases g with
  | cons b g => simp only [gapChars, List.flatMap_cons, List.append_assoc, Blank.chars_head, nextChar]
  | nil =>
    cases ps with
    | nil => simp [gapChars, piecesChars, nextChar]
    | cons p ps =>
      simp only [piecesOk, Bool.and_eq_true, List.contains_eq_mem, decide_eq_true_eq] at h
      have hne := spelling_ne_nil p.tok p.text h.1.1.1.1 h.1.1.1.2
      cases hp : p.text.toList with
      | nil => exact absurd hp hne
      | cons c cs => simp [gapChars, piecesChars, nextChar, hp]

theorem lex_pieces (tl : List Char) : ∀ (ps : List Piece), piecesOk tl.head? ps = true →
    lex (piecesChars tl ps) = ps.map (·.tok) ++ lex tl
  | [], _ => rfl
  | p :: ps, h => by
    simp only [piecesOk, Bool.and_eq_true, List.contains_eq_mem, decide_eq_true_eq] at h
    obtain ⟨⟨⟨⟨hok, hsp⟩, hgap⟩, hsep⟩, hrest⟩ := h
    rw [← head_following tl p.gap ps hrest] at hsep
    rw [piecesChars, lex_tok p.tok p.text hok hsp _ hsep, lex_gap p.gap hgap, lex_pieces tl ps hrest]
    rfl

/-- the text of a layout: leading blanks, then the pieces, then the tail -/
def layoutChars (lead : List Blank) (ps : List Piece) (tl : List Char) : List Char :=
  gapChars lead ++ piecesChars tl ps

theorem tokenize_layoutChars (lead : List Blank) (ps : List Piece) (tl : List Char)
    (hl : lead.all Blank.ok = true) (h : piecesOk tl.head? ps = true) :
    tokenize (String.ofList (layoutChars lead ps tl)) = ps.map (·.tok) ++ lex tl := by
  rw [tokenize_ofList, layoutChars, lex_gap lead hl, lex_pieces tl ps h]

/-- LEXER ROUND TRIP: every spelling of every token, any blanks and comments before, between
and after the tokens (and a last `\* …` comment without newline); the only side condition is
`sepOk` (in `piecesOk`) on the character that follows each token text -/
theorem tokenize_pieces (lead : List Blank) (ps : List Piece) (fin : Option (List Char))
    (hl : lead.all Blank.ok = true) (hfin : finOk fin = true)
    (h : piecesOk (finChars fin).head? ps = true) :
    tokenize (String.ofList (layoutChars lead ps (finChars fin))) = ps.map (·.tok) := by
  rw [tokenize_layoutChars lead ps _ hl h, lex_fin fin hfin, List.append_nil]

/-- UNTERMINATED COMMENT: after any well-spelled tokens, `(*` without a closing `*)` is read as
`(` followed by an illegal character (the lexer raises on `*`) -/
theorem tokenize_open_comment (lead : List Blank) (ps : List Piece) (b : List Char)
    (hl : lead.all Blank.ok = true) (h : piecesOk (some '(') ps = true) (hb : closeComment b = none) :
    tokenize (String.ofList (layoutChars lead ps ('(' :: '*' :: b))) = ps.map (·.tok) ++ [.lparen, .bad] := by
  rw [tokenize_layoutChars lead ps ('(' :: '*' :: b) hl h, lex_open_comment b hb]

end DD
