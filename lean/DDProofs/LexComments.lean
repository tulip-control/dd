/-
  DDProofs.LexComments — where a comment may be inserted: after a token, among its blanks, an
  admissible layout stays admissible (`piecesOk_insert`; among the leading blanks nothing is asked,
  `tokenize_insert_lead`), so by `tokenize_pieces` the token string is the same; a `\*` comment may
  follow every token text but `/` (`sepOk_line_comment`).
-/
import DDProofs.LexAll
namespace DD

/-- `hfront`: directly after the token text (`g₁ = []`) the first character of `c` must be allowed to follow it -/
theorem piecesOk_insert (nx : Option Char) (t : Tok) (sp : String) (g₁ g₂ : List Blank) (c : Blank)
    (ps₂ : List Piece) (hc : c.ok = true) (hfront : g₁ = [] → sepOk sp.toList (some c.first) = true) :
    ∀ ps₁ : List Piece, piecesOk nx (ps₁ ++ ⟨t, sp, g₁ ++ g₂⟩ :: ps₂) = true →
    piecesOk nx (ps₁ ++ ⟨t, sp, g₁ ++ c :: g₂⟩ :: ps₂) = true
  | [], h => by
    simp only [List.nil_append, piecesOk, Bool.and_eq_true, List.all_append, List.all_cons] at h ⊢
    obtain ⟨⟨⟨hts, hg⟩, hsep⟩, hrest⟩ := h
    refine ⟨⟨⟨hts, ⟨hg.1, hc, hg.2⟩⟩, ?_⟩, hrest⟩
    cases g₁ with
    | nil => simpa [nextChar] using hfront rfl
    | cons b g => simpa [nextChar] using hsep
  | q :: ps₁, h => by
    simp only [List.cons_append, piecesOk, Bool.and_eq_true] at h ⊢
    obtain ⟨⟨hq, hsep⟩, hrest⟩ := h
    refine ⟨⟨hq, ?_⟩, piecesOk_insert nx t sp g₁ g₂ c ps₂ hc hfront ps₁ hrest⟩
    -- what follows the text of `q` (its first blank, else the first character of the next text) is the same
    cases hqg : q.gap with
    | cons b g =>
      rw [hqg] at hsep
      simpa [nextChar] using hsep
    | nil =>
      rw [hqg] at hsep
      cases ps₁ <;> simpa [nextChar] using hsep

theorem tokenize_insert_lead (l₁ l₂ : List Blank) (c : Blank) (fin : Option (List Char)) (ps : List Piece)
    (hl : (l₁ ++ l₂).all Blank.ok = true) (hfin : finOk fin = true) (hc : c.ok = true)
    (h : piecesOk (finChars fin).head? ps = true) :
    tokenize (String.ofList (layoutChars (l₁ ++ c :: l₂) ps (finChars fin))) =
    tokenize (String.ofList (layoutChars (l₁ ++ l₂) ps (finChars fin))) := by
  have hl' : (l₁ ++ c :: l₂).all Blank.ok = true := by
    simp only [List.all_append, List.all_cons, Bool.and_eq_true] at hl ⊢
    exact ⟨hl.1, hc, hl.2⟩
  rw [tokenize_pieces _ ps fin hl hfin h, tokenize_pieces _ ps fin hl' hfin h]

/-- a `\\*` line comment may follow every token text but `/` (`/\\` is the conjunction) -/
theorem sepOk_line_comment (t : Tok) (sp : String) (hok : t.lexOk = true) (hsp : sp ∈ t.spellings) :
    sepOk sp.toList (some '\\') = (sp != "/") := by
  have hn : isNameChar '\\' = false := by decide
  have hd : isDigitU '\\' = false := by decide
  -- a word or a number is not `/`, and neither goes on over `\`
  have run : ∀ {c : Char} {cs : List Char}, sp.toList = c :: cs → isNameStart c = true ∨ isDigitU c = true →
      sepOk sp.toList (some '\\') = (sp != "/") := by
    intro c cs hs hc
    have hne : (sp != "/") = true := by
      rw [bne_iff_ne]; rintro rfl
      cases hs; rcases hc with hc | hc <;> exact absurd hc (by decide)
    rw [hne, hs]
    rcases hc with hc | hc
    · simp only [sepOk, clash, hc, if_true, hn, Bool.not_false]
    · simp only [sepOk, clash, digit_not_nameStart hc, hc, Bool.false_eq_true, if_false, if_true, hd,
        Bool.not_false]
  rcases textKind t sp hok hsp with ⟨hw, -⟩ | ⟨hdg, -⟩ | ⟨r, hr, rfl, -⟩
  · obtain ⟨c, cs, hs, hc, -⟩ := wordOk_cons hw
    exact run hs (Or.inl hc)
  · obtain ⟨c, cs, hs, hc, -⟩ := digitsOk_cons hdg
    exact run hs (Or.inr hc)
  · have : ∀ r ∈ Gen.spellings, sepOk r.1.toList (some '\\') = (r.1 != "/") := by decide +kernel
    exact this r hr

/-- UNTERMINATED COMMENT at the start: `(`, then the illegal character `*` -/
theorem tokenize_open_comment_start (body : String) (hb : closeComment body.toList = none) :
    tokenize ("(*" ++ body) = [.lparen, .bad] := by
  have e : ("(*" ++ body).toList = '(' :: '*' :: body.toList := by simp [String.toList_append]
  rw [tokenize_eq_lex, e]
  exact lex_open_comment _ hb

end DD
