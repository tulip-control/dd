/-
  DDProofs.LexLayout — `spellWith L toks`: the text of a token string under a layout `L`
  (a choice of spelling per token, blanks and comments before / between / after the tokens);
  `tokenize (spellWith L toks) = toks`; hence the tree that is parsed, and the result of
  `add_expr`, do not depend on the spellings, the blanks or the comments.
-/
import DDProofs.LexAll
namespace DD

/-- the `i`-th spelling of a token (indices wrap around) -/
def Tok.spelling (t : Tok) (i : Nat) : String :=
  (t.spellings[i % t.spellings.length]?).getD ""

structure Layout where
  /-- blanks and comments before the first token -/
  lead : List Blank := []
  /-- which spelling is used for the token at position `i` -/
  choice : Nat → Nat := fun _ => 0
  /-- blanks and comments after the token at position `i` -/
  gap : Nat → List Blank := fun _ => [.sp]
  /-- a last `\* …` comment without newline -/
  fin : Option (List Char) := none

def Layout.pieces (L : Layout) : Nat → List Tok → List Piece
  | _, [] => []
  | i, t :: ts => ⟨t, t.spelling (L.choice i), L.gap i⟩ :: L.pieces (i + 1) ts

/-- the text of the token string `toks` under the layout `L` -/
def spellWith (L : Layout) (toks : List Tok) : String :=
  String.ofList (layoutChars L.lead (L.pieces 0 toks) (finChars L.fin))

/-- the layout is admissible for the token string: tokens have a text, comments are
well delimited, and no token text clashes with the character that follows it -/
def layoutOk (L : Layout) (toks : List Tok) : Bool :=
  L.lead.all Blank.ok && finOk L.fin && piecesOk (finChars L.fin).head? (L.pieces 0 toks)

theorem pieces_toks (L : Layout) : ∀ (i : Nat) (toks : List Tok), (L.pieces i toks).map (·.tok) = toks
  | _, [] => rfl
  | i, t :: ts => by simp [Layout.pieces, pieces_toks L (i + 1) ts]

/-- LEXER ROUND TRIP for every token string, every choice of spellings, every admissible
arrangement of blanks and comments -/
theorem tokenize_spellWith (L : Layout) (toks : List Tok) (h : layoutOk L toks = true) :
    tokenize (spellWith L toks) = toks := by
  simp only [layoutOk, Bool.and_eq_true] at h
  have := tokenize_pieces L.lead (L.pieces 0 toks) L.fin h.1.1 h.1.2 h.2
  rw [pieces_toks] at this
  exact this

theorem tokenize_layout_irrelevant (L L' : Layout) (toks : List Tok)
    (h : layoutOk L toks = true) (h' : layoutOk L' toks = true) :
    tokenize (spellWith L toks) = tokenize (spellWith L' toks) := by
  rw [tokenize_spellWith L toks h, tokenize_spellWith L' toks h']

/-- canonical spelling of a token -/
def Tok.text : Tok → String
  | .lparen => "(" | .rparen => ")" | .comma => "," | .colon => ":" | .div => "/" | .at => "@"
  | .not => "~" | .forall_ => "\\A" | .exists_ => "\\E" | .rename => "\\S"
  | .ite => "ite" | .tt => "TRUE" | .ff => "FALSE"
  | .op o => o.value
  | .name s => s
  | .number d => d
  | .bad => "$"

theorem text_mem_spellings (t : Tok) (h : t.lexOk = true) : t.text ∈ t.spellings := by
  cases t with
  | name s => exact List.mem_singleton.mpr rfl
  | number d => exact List.mem_singleton.mpr rfl
  | bad => cases h
  | op o => cases o <;> decide
  | _ => decide

theorem spellings_ne_nil (t : Tok) (h : t.lexOk = true) : t.spellings ≠ [] :=
  List.ne_nil_of_mem (text_mem_spellings t h)

theorem spelling_mem (t : Tok) (h : t.lexOk = true) (i : Nat) : t.spelling i ∈ t.spellings := by
  have hne := spellings_ne_nil t h
  have hpos : 0 < t.spellings.length := List.length_pos_iff.mpr hne
  have hlt : i % t.spellings.length < t.spellings.length := Nat.mod_lt _ hpos
  simp only [Tok.spelling, List.getElem?_eq_getElem hlt, Option.getD_some]
  exact List.getElem_mem hlt

/-- a blank that separates whatever stands before it -/
def Blank.isSep : Blank → Bool
  | .line _ => false
  | _ => true

/-- no operator spelling has a space, tab, newline or `(` after its first character -/
theorem rows_tail :
    (Gen.spellings.all fun r => r.1.toList.tail.all fun y =>
      y != ' ' && y != '\t' && y != '\n' && y != '(') = true := by decide

theorem mem_extChars_tail {a : List Char} {y : Char} (ha : a ≠ []) (h : y ∈ extChars a) :
    ∃ r ∈ Gen.spellings, y ∈ r.1.toList.tail := by
  simp only [extChars, List.mem_filterMap] at h
  obtain ⟨r, hr, hy⟩ := h
  refine ⟨r, hr, ?_⟩
  split at hy
  · cases hs : r.1.toList with
    | nil => rw [hs] at hy; simp at hy
    | cons x xs =>
      rw [hs] at hy
      have hpos : 0 < a.length := List.length_pos_iff.mpr ha
      obtain ⟨n, hn⟩ : ∃ n, a.length = n + 1 := ⟨a.length - 1, by omega⟩
      rw [hn, List.getElem?_cons_succ] at hy
      exact List.mem_of_getElem? hy
  · simp at hy

/-- a space, tab, newline or `(* … *)` comment may follow ANY token text -/
theorem sepOk_blank (t : Tok) (sp : String) (hok : t.lexOk = true) (hsp : sp ∈ t.spellings)
    (b : Blank) (hb : b.isSep = true) : sepOk sp.toList (some b.first) = true := by
  have hne := spelling_ne_nil t sp hok hsp
  have hy : b.first = ' ' ∨ b.first = '\t' ∨ b.first = '\n' ∨ b.first = '(' := by
    cases b <;> simp [Blank.first, Blank.isSep] at hb ⊢
  have hn : isNameChar b.first = false := by rcases hy with h | h | h | h <;> rw [h] <;> decide
  have hd : isDigitU b.first = false := by rcases hy with h | h | h | h <;> rw [h] <;> decide
  have hstar : (b.first == '*') = false := by rcases hy with h | h | h | h <;> rw [h] <;> decide
  have hext : (extChars sp.toList).contains b.first = false := by
    cases hc : (extChars sp.toList).contains b.first with
    | false => rfl
    | true =>
      simp only [List.contains_eq_mem, decide_eq_true_eq] at hc
      obtain ⟨r, hr, hmem⟩ := mem_extChars_tail hne hc
      have := List.all_eq_true.mp (List.all_eq_true.mp rows_tail r hr) _ hmem
      simp only [Bool.and_eq_true, bne_iff_ne, ne_eq] at this
      rcases hy with h | h | h | h <;> simp [h] at this
  cases hs : sp.toList with
  | nil => exact absurd hs hne
  | cons c cs =>
    simp only [sepOk, clash, Bool.not_eq_true']
    rw [← hs]
    split
    · exact hn
    · split
      · exact hd
      · simp only [hstar, hext, Bool.and_false, Bool.or_false]

/-- every token is followed by at least one blank that is not a `\*` comment: nothing else
is demanded -/
def Layout.spaced (L : Layout) (n : Nat) : Prop :=
  L.lead.all Blank.ok = true ∧ finOk L.fin = true ∧
  ∀ i < n, (L.gap i).all Blank.ok = true ∧ ∃ b g, L.gap i = b :: g ∧ b.isSep = true

/-- pieces whose gaps each start with a blank that is not a `\*` comment: no token text can
clash with what follows it -/
theorem piecesOk_of_sep (nx : Option Char) : ∀ ps : List Piece,
    (∀ p ∈ ps, p.tok.lexOk = true ∧ p.text ∈ p.tok.spellings ∧ p.gap.all Blank.ok = true ∧
      ∃ b g, p.gap = b :: g ∧ b.isSep = true) → piecesOk nx ps = true
  | [], _ => rfl
  | p :: ps, h => by
    obtain ⟨hok, hsp, hgo, b, g, hg, hb⟩ := h p List.mem_cons_self
    simp only [piecesOk, Bool.and_eq_true, List.contains_eq_mem, decide_eq_true_eq]
    refine ⟨⟨⟨⟨hok, hsp⟩, hgo⟩, ?_⟩, piecesOk_of_sep nx ps fun q hq => h q (List.mem_cons_of_mem _ hq)⟩
    rw [hg]
    exact sepOk_blank _ _ hok hsp b hb

theorem Layout.pieces_eq (L : Layout) : ∀ (i : Nat) (toks : List Tok), L.pieces i toks =
    (toks.zipIdx i).map fun p => ⟨p.1, p.1.spelling (L.choice p.2), L.gap p.2⟩
  | _, [] => rfl
  | i, t :: ts => by
    simp only [Layout.pieces, List.zipIdx_cons, List.map_cons, L.pieces_eq (i + 1) ts]

theorem layoutOk_spaced (L : Layout) (toks : List Tok) (hok : ∀ t ∈ toks, t.lexOk = true)
    (h : L.spaced toks.length) : layoutOk L toks = true := by
  obtain ⟨h1, h2, h3⟩ := h
  simp only [layoutOk, Bool.and_eq_true]
  refine ⟨⟨h1, h2⟩, piecesOk_of_sep _ _ fun p hp => ?_⟩
  rw [L.pieces_eq] at hp
  obtain ⟨⟨t, j⟩, hm, rfl⟩ := List.mem_map.mp hp
  obtain ⟨_, hj, ht⟩ := List.mem_zipIdx hm
  have ht := hok t (ht ▸ List.getElem_mem _)
  exact ⟨ht, spelling_mem t ht _, h3 j (by omega)⟩

end DD
