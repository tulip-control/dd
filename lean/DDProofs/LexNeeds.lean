/-
  DDProofs.LexNeeds — where adjacent token texts need a blank: `needsBlank` in terms of the two
  tokens (`needsBlank_spec`), and the converse of the round trip: where it holds, gluing the two
  texts does not give the two tokens (`needsBlank_necessary`).
-/
import DDProofs.LexAll
namespace DD

/-- the texts `a b` of two adjacent tokens need a blank (or comment) between them -/
def needsBlank (a b : String) : Bool :=
  match b.toList.head? with
  | some y => clash a.toList y
  | none => false

def Tok.isWord : Tok → Bool
  | .name _ | .ite | .tt | .ff => true
  | _ => false

def Tok.isNum : Tok → Bool
  | .number _ => true
  | _ => false

/-- the pairs of operator / delimiter spellings that need a blank between them -/
def clashPairs : List (String × String) :=
  [("&", "&&"), ("&", "&"), ("/", "\\E"), ("/", "\\A"), ("/", "\\/"), ("/", "\\S"), ("|", "||"), ("|", "|")]

theorem clashPairs_eq :
    (Gen.spellings.flatMap fun r1 => Gen.spellings.filterMap fun r2 =>
      if needsBlank r1.1 r2.1 then some (r1.1, r2.1) else none) = clashPairs := by decide +kernel

theorem rows_first_notword :
    (Gen.spellings.all fun r => match r.1.toList with
      | c :: _ => !isNameChar c && !isDigitU c | [] => false) = true := by decide +kernel

theorem ext_notword :
    (Gen.spellings.all fun r => (extChars r.1.toList).all fun y => !isNameChar y && !isDigitU y) = true := by
  decide +kernel

theorem clashPairs_second :
    (clashPairs.all fun p => match p.2.toList with
      | y :: _ => !isNameChar y && !isDigitU y | [] => true) = true := by decide

theorem mem_clashPairs {r1 r2 : String × String × String} (h1 : r1 ∈ Gen.spellings) (h2 : r2 ∈ Gen.spellings) :
    needsBlank r1.1 r2.1 = clashPairs.contains (r1.1, r2.1) := by
  rw [← clashPairs_eq, Bool.eq_iff_iff, List.contains_eq_mem, decide_eq_true_eq]
  simp only [List.mem_flatMap, List.mem_filterMap]
  constructor
  · exact fun h => ⟨r1, h1, r2, h2, by rw [if_pos h]⟩
  · rintro ⟨r1', -, r2', -, h⟩
    split at h
    · next hn =>
      simp only [Option.some.injEq, Prod.mk.injEq] at h
      rw [← h.1, ← h.2]; exact hn
    · cases h

theorem nameTok_kind {a : String} {t : Tok} (hok : t.lexOk = true) (ht : nameTok a = t) :
    t.isWord = true ∧ t.isNum = false := by
  subst ht
  unfold nameTok at hok ⊢
  split at hok
  · exact ⟨rfl, rfl⟩
  · exact ⟨rfl, rfl⟩
  · exact ⟨rfl, rfl⟩
  · cases hok
  · exact ⟨rfl, rfl⟩

theorem row_kind {ty val : String} {t : Tok} (ht : tokOfRow ty val = some t) :
    t.isWord = false ∧ t.isNum = false := by
  unfold tokOfRow at ht
  split at ht <;> cases ht <;> exact ⟨rfl, rfl⟩

theorem text_head (t : Tok) (b : String) (hok : t.lexOk = true) (hb : b ∈ t.spellings) :
    ∃ y ys, b.toList = y :: ys ∧
      (if t.isWord then isNameStart y = true
       else if t.isNum then isDigitU y = true else isNameChar y = false ∧ isDigitU y = false) := by
  rcases textKind t b hok hb with ⟨hw, ht⟩ | ⟨hd, rfl⟩ | ⟨r, hr, rfl, ht⟩
  · obtain ⟨y, ys, hs, hy, -⟩ := wordOk_cons hw
    exact ⟨y, ys, hs, by rw [(nameTok_kind hok ht).1, if_pos rfl]; exact hy⟩
  · obtain ⟨y, ys, hs, hy, -⟩ := digitsOk_cons hd
    exact ⟨y, ys, hs, hy⟩
  · have := List.all_eq_true.mp rows_first_notword r hr
    cases hs : r.1.toList with
    | nil => rw [hs] at this; cases this
    | cons y ys =>
      rw [hs] at this
      simp only [Bool.and_eq_true, Bool.not_eq_true'] at this
      exact ⟨y, ys, rfl, by rw [(row_kind ht).1, (row_kind ht).2]; exact this⟩

theorem clash_row_run {r : String × String × String} (hr : r ∈ Gen.spellings) {y : Char}
    (hy : isNameChar y = true ∨ isDigitU y = true) : clash r.1.toList y = false := by
  have hstar : (y == '*') = false := by
    rw [beq_eq_false_iff_ne]; rintro rfl; rcases hy with hy | hy <;> exact absurd hy (by decide)
  have hext : (extChars r.1.toList).contains y = false := by
    cases hm : (extChars r.1.toList).contains y with
    | false => rfl
    | true =>
      have := List.all_eq_true.mp (List.all_eq_true.mp ext_notword r hr) y
        (by simpa using hm)
      simp only [Bool.and_eq_true, Bool.not_eq_true'] at this
      rcases hy with hy | hy
      · rw [hy] at this; cases this.1
      · rw [hy] at this; cases this.2
  rw [clash_row hr, hstar, hext, Bool.and_false, Bool.or_false]

theorem clashPairs_run {a b : String} {y : Char} {ys : List Char} (hb : b.toList = y :: ys)
    (hy : isNameChar y = true ∨ isDigitU y = true) : clashPairs.contains (a, b) = false := by
  cases hc : clashPairs.contains (a, b) with
  | false => rfl
  | true =>
    have := List.all_eq_true.mp clashPairs_second _ (by simpa using hc)
    simp only [hb, Bool.and_eq_true, Bool.not_eq_true'] at this
    rcases hy with hy | hy
    · rw [hy] at this; cases this.1
    · rw [hy] at this; cases this.2

/-- the first character of a number is an ASCII digit (so a NAME before it would go on) -/
def startsAscii (b : String) : Bool :=
  match b.toList.head? with
  | some y => isNameChar y
  | none => false

/-- WHERE A BLANK IS NEEDED, in terms of the two tokens: after a word (name, `ite`, `TRUE`,
`FALSE`) before a word or a number that starts with an ASCII digit; after a number before a
number; and between the operator spellings of `clashPairs` — nowhere else (a number may be
followed directly by a name, every operator by a name or number, `!` by `=`, …) -/
theorem needsBlank_spec (t1 t2 : Tok) (a b : String) (h1 : t1.lexOk = true) (h2 : t2.lexOk = true)
    (ha : a ∈ t1.spellings) (hb : b ∈ t2.spellings) :
    needsBlank a b =
      if t1.isWord then (t2.isWord || (t2.isNum && startsAscii b))
      else if t1.isNum then t2.isNum
      else clashPairs.contains (a, b) := by
  obtain ⟨y, ys, hy, hyk⟩ := text_head t2 b h2 hb
  have hnb : needsBlank a b = clash a.toList y := by rw [needsBlank, hy]; rfl
  rw [hnb]
  rcases textKind t1 a h1 ha with ⟨hw, ht⟩ | ⟨hd, rfl⟩ | ⟨r, hr, rfl, ht⟩
  · -- a word: the NAME goes on over name characters
    obtain ⟨c, cs, haw, hc, -⟩ := wordOk_cons hw
    rw [haw]
    simp only [clash, hc, (nameTok_kind h1 ht).1, if_true]
    cases hw2 : t2.isWord with
    | true => rw [hw2, if_pos rfl] at hyk; rw [nameStart_nameChar hyk]; rfl
    | false =>
      cases hn2 : t2.isNum with
      | true => simp only [startsAscii, hy, List.head?_cons, Bool.false_or, Bool.true_and]
      | false =>
        rw [hw2, hn2] at hyk
        simp only [Bool.false_eq_true, if_false] at hyk
        rw [hyk.1]; rfl
  · -- a number: the NUMBER goes on over digits
    obtain ⟨c, cs, had, hc, -⟩ := digitsOk_cons hd
    rw [had, show (Tok.number a).isWord = false from rfl, show (Tok.number a).isNum = true from rfl]
    simp only [clash, digit_not_nameStart hc, hc, Bool.false_eq_true, if_false, if_true]
    cases hn2 : t2.isNum with
    | true =>
      cases hw2 : t2.isWord with
      | true => cases t2 <;> cases hn2 <;> cases hw2
      | false => rw [hw2, hn2] at hyk; exact hyk
    | false =>
      cases hw2 : t2.isWord with
      | true =>
        rw [hw2, if_pos rfl] at hyk
        cases hdy : isDigitU y with
        | false => rfl
        | true => rw [digit_not_nameStart hdy] at hyk; cases hyk
      | false =>
        rw [hw2, hn2] at hyk
        simp only [Bool.false_eq_true, if_false] at hyk
        exact hyk.2
  · -- an operator or delimiter
    rw [(row_kind ht).1, (row_kind ht).2]
    simp only [Bool.false_eq_true, if_false]
    rcases textKind t2 b h2 hb with ⟨-, ht2⟩ | ⟨-, rfl⟩ | ⟨r2, hr2, rfl, -⟩
    · rw [(nameTok_kind h2 ht2).1, if_pos rfl] at hyk
      rw [clash_row_run hr (.inl (nameStart_nameChar hyk)), clashPairs_run hy (.inl (nameStart_nameChar hyk))]
    · have hyd : isDigitU y = true := by simpa [Tok.isWord, Tok.isNum] using hyk
      rw [clash_row_run hr (.inr hyd), clashPairs_run hy (.inr hyd)]
    · rw [← hnb]; exact mem_clashPairs hr hr2

theorem tokenize_word (w : String) (hw : wordOk w.toList = true) : tokenize w = [nameTok w] := by
  rw [tokenize_eq_lex, ← List.append_nil w.toList, lex_word _ hw [] trivial, lex_nil, String.ofList_toList]

theorem tokenize_digits (d : String) (hd : digitsOk d.toList = true) : tokenize d = [.number d] := by
  rw [tokenize_eq_lex, ← List.append_nil d.toList, lex_digits _ hd [] trivial, lex_nil, String.ofList_toList]

/-- the two pairs where the glued text happens to give the same TOKENS by another split
(`&&&` is `&&`,`&`): the blank changes nothing there -/
def coincide : List (String × String) := [("&", "&&"), ("|", "||")]

theorem coincide_tokens : tokenize "&&&" = [.op .and, .op .and] ∧ tokenize "|||" = [.op .or, .op .or] := by
  decide

theorem clash_rows_differ :
    (Gen.spellings.all fun r1 => Gen.spellings.all fun r2 =>
      !needsBlank r1.1 r2.1 || coincide.contains (r1.1, r2.1) ||
      (match tokOfRow r1.2.1 r1.2.2, tokOfRow r2.2.1 r2.2.2 with
        | some t1, some t2 => tokenize (r1.1 ++ r2.1) != [t1, t2]
        | _, _ => true)) = true := by decide +kernel

theorem dropWhile_stops (p : Char → Bool) (l : List Char) : stopsRun p (l.dropWhile p) := by
  induction l with
  | nil => trivial
  | cons x l ih =>
    simp only [List.dropWhile]
    split
    · exact ih
    · rename_i h; simpa [stopsRun] using h

/-- THE BLANK IS NEEDED: where `needsBlank` holds (the two coincidences apart), gluing the two
texts does not give the two tokens -/
theorem needsBlank_necessary (t1 t2 : Tok) (a b : String) (h1 : t1.lexOk = true) (h2 : t2.lexOk = true)
    (ha : a ∈ t1.spellings) (hb : b ∈ t2.spellings) (hn : needsBlank a b = true)
    (hex : (a, b) ∉ coincide) : tokenize (a ++ b) ≠ [t1, t2] := by
  rw [needsBlank_spec t1 t2 a b h1 h2 ha hb] at hn
  rcases textKind t1 a h1 ha with ⟨hwo, ht⟩ | ⟨hd, rfl⟩ | ⟨r, hr, rfl, ht⟩
  · rw [(nameTok_kind h1 ht).1, if_pos rfl, Bool.or_eq_true, Bool.and_eq_true] at hn
    obtain ⟨c, cs, hac, hwo⟩ := wordOk_cons hwo
    rcases textKind t2 b h2 hb with ⟨hwo2, -⟩ | ⟨hd2, rfl⟩ | ⟨r2, -, -, ht2⟩
    · -- word, word: one NAME
      have hab : wordOk (a ++ b).toList = true := by
        obtain ⟨y, ys, hb', hwo2⟩ := wordOk_cons hwo2
        simp only [String.toList_append, hac, hb', List.cons_append, wordOk, Bool.and_eq_true,
          List.all_eq_true, List.mem_append, List.mem_cons]
        refine ⟨hwo.1, fun x hx => ?_⟩
        rcases hx with hx | rfl | hx
        · exact hwo.2 x hx
        · exact nameStart_nameChar hwo2.1
        · exact hwo2.2 x hx
      rw [tokenize_word _ hab]
      simp
    · -- word, number that starts with an ASCII digit: the NAME swallows digits
      have hasc : startsAscii b = true := by simpa [Tok.isWord, Tok.isNum] using hn
      have hdig : ∀ x ∈ b.toList, isDigitU x = true := by
        obtain ⟨y, ys, hb', -, h⟩ := digitsOk_cons hd2; rwa [hb']
      let b1 := b.toList.takeWhile isNameChar
      let b2 := b.toList.dropWhile isNameChar
      have hb12 : b.toList = b1 ++ b2 := (List.takeWhile_append_dropWhile).symm
      have hb1 : b1 ≠ [] := by
        cases hb' : b.toList with
        | nil => simp [startsAscii, hb'] at hasc
        | cons y ys =>
          simp only [startsAscii, hb', List.head?_cons] at hasc
          simp [b1, hb', hasc]
      have hw1 : wordOk (a.toList ++ b1) = true := by
        simp only [hac, List.cons_append, wordOk, Bool.and_eq_true, List.all_eq_true, List.mem_append]
        refine ⟨hwo.1, fun x hx => ?_⟩
        rcases hx with hx | hx
        · exact hwo.2 x hx
        · exact List.all_eq_true.mp (List.all_takeWhile (l := b.toList) (p := isNameChar)) x hx
      have e : (a ++ b).toList = (a.toList ++ b1) ++ b2 := by
        rw [String.toList_append, hb12, List.append_assoc]
      rw [tokenize_eq_lex, e, lex_word _ hw1 b2 (dropWhile_stops _ _)]
      cases hb2 : b2 with
      | nil => rw [lex_nil]; simp
      | cons z zs =>
        have hd2' : digitsOk b2 = true := by
          simp only [digitsOk, hb2, List.isEmpty_cons, Bool.not_false, Bool.true_and, List.all_eq_true]
          intro x hx
          exact hdig x (by rw [hb12, hb2]; simp [hx])
        have := lex_digits b2 hd2' [] trivial
        rw [List.append_nil, lex_nil] at this
        rw [← hb2, this]
        intro hcon
        simp only [List.cons.injEq, Tok.number.injEq] at hcon
        have hbb : b2 = b.toList := by rw [← hcon.2.1, String.toList_ofList]
        have hl : b.toList.length = b1.length + b2.length := by
          have := congrArg List.length hb12
          simpa using this
        have : 0 < b1.length := List.length_pos_iff.mpr hb1
        rw [hbb] at hl
        omega
    · rw [(row_kind ht2).1, (row_kind ht2).2] at hn
      simp at hn
  · -- number, number: one NUMBER
    simp only [Tok.isWord, Tok.isNum, Bool.false_eq_true, if_false, if_true] at hn
    obtain ⟨d, rfl⟩ : ∃ d, t2 = .number d := by
      cases t2 with
      | number d => exact ⟨d, rfl⟩
      | _ => cases hn
    cases List.mem_singleton.mp hb
    have hd2 : digitsOk b.toList = true := h2
    have hab : digitsOk (a ++ b).toList = true := by
      simp only [digitsOk, Bool.and_eq_true, Bool.not_eq_true', List.isEmpty_eq_false_iff, List.all_eq_true,
        String.toList_append, List.mem_append] at hd hd2 ⊢
      refine ⟨?_, fun x hx => hx.elim (hd.2 x) (hd2.2 x)⟩
      intro h
      exact hd.1 (List.append_eq_nil_iff.mp h).1
    rw [tokenize_digits _ hab]
    simp
  · -- operators
    rw [(row_kind ht).1, (row_kind ht).2] at hn
    simp only [Bool.false_eq_true, if_false] at hn
    obtain ⟨y, ys, hy, hyk⟩ := text_head t2 b h2 hb
    rcases textKind t2 b h2 hb with ⟨-, ht2⟩ | ⟨-, rfl⟩ | ⟨r2, hr2, rfl, ht2⟩
    · rw [(nameTok_kind h2 ht2).1, if_pos rfl] at hyk
      rw [clashPairs_run hy (.inl (nameStart_nameChar hyk))] at hn; cases hn
    · rw [clashPairs_run hy (.inr (by simpa [Tok.isWord, Tok.isNum] using hyk))] at hn; cases hn
    · have := List.all_eq_true.mp (List.all_eq_true.mp clash_rows_differ r hr) r2 hr2
      rw [ht, ht2, mem_clashPairs hr hr2, hn] at this
      simp only [Bool.not_true, Bool.false_or, Bool.or_eq_true, List.contains_eq_mem,
        decide_eq_true_eq, bne_iff_ne, ne_eq] at this
      exact this.resolve_left hex

end DD
