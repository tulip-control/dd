/-
  DDProofs.LexSteps — the tokenizer without its fuel.  Every recursive call of `tokenizeF` is on
  a list no longer than the rest of its input, so the answer does not depend on the fuel
  (`tokenizeF_fuel`).  `lex cs` is that answer; `lex_*` are the rules of the lexer in the order
  the master regular expression tries them, one equation per rule.
-/
import DD.Parse
namespace DD

theorem skipLine_length (cs : List Char) : (skipLine cs).length ≤ cs.length := by
  induction cs with
  | nil => simp [skipLine]
  | cons c cs ih =>
    simp only [skipLine]
    split
    · exact Nat.le_refl _
    · simp only [List.length_cons]; omega

theorem closeComment_length : ∀ (cs rest : List Char), closeComment cs = some rest → rest.length < cs.length := by
  intro cs
  fun_induction closeComment cs with
  | case1 => intro rest h; cases h
  | case2 rest' =>
    intro rest h
    simp only [Option.some.injEq] at h
    subst h
    simp only [List.length_cons]; omega
  | case3 c cs _ ih =>
    intro rest h
    have := ih rest h
    simp only [List.length_cons]; omega

theorem longestSpelling_some {cs : List Char} {row : String × String} {n : Nat} :
    ∀ {tbl : List (String × String × String)} {best : Option ((String × String) × Nat)},
    longestSpelling cs tbl best = some (row, n) →
    (best = some (row, n) ∨
      ∃ r ∈ tbl, isPrefixChars r.1.toList cs = true ∧ (r.2.1, r.2.2) = row ∧ r.1.toList.length = n) ∧
    (∀ r ∈ tbl, isPrefixChars r.1.toList cs = true → r.1.toList.length ≤ n) ∧
    (∀ row' m, best = some (row', m) → m ≤ n) := by
  intro tbl
  induction tbl with
  | nil =>
    intro best h
    exact ⟨Or.inl h, nofun, fun _ _ e => by cases h.symm.trans e; exact Nat.le_refl _⟩
  | cons r tbl ih =>
    intro best h
    obtain ⟨sp, ty, val⟩ := r
    simp only [longestSpelling] at h
    obtain ⟨hfrom, hmax, hbest⟩ := ih h
    have hrest : ∀ {P : String × String × String → Prop}, (∃ r ∈ tbl, P r) → ∃ r ∈ (sp, ty, val) :: tbl, P r :=
      fun ⟨r, hr, h⟩ => ⟨r, List.mem_cons_of_mem _ hr, h⟩
    by_cases hp : isPrefixChars sp.toList cs = true
    · -- the candidate passed on is the longer of `best` and this row
      have hsp : sp.toList.length ≤ n ∧ (∀ row' m, best = some (row', m) → m ≤ n) ∧
          (best = some (row, n) ∨ ((ty, val) = row ∧ sp.toList.length = n) ∨
            ∃ r ∈ tbl, isPrefixChars r.1.toList cs = true ∧ (r.2.1, r.2.2) = row ∧ r.1.toList.length = n) := by
        simp only [hp, if_true] at hfrom hbest
        cases best with
        | none =>
          refine ⟨hbest _ _ rfl, nofun, hfrom.elim (fun e => ?_) (Or.inr ∘ Or.inr)⟩
          cases e; exact Or.inr (Or.inl ⟨rfl, rfl⟩)
        | some b =>
          obtain ⟨row0, m⟩ := b
          by_cases hm : m < sp.toList.length
          · simp only [hm, if_true] at hfrom hbest
            have := hbest _ _ rfl
            refine ⟨this, fun _ _ e => by cases e; omega, hfrom.elim (fun e => ?_) (Or.inr ∘ Or.inr)⟩
            cases e; exact Or.inr (Or.inl ⟨rfl, rfl⟩)
          · simp only [hm, if_false] at hfrom hbest
            have := hbest _ _ rfl
            exact ⟨by omega, hbest, hfrom.imp_right Or.inr⟩
      refine ⟨?_, ?_, hsp.2.1⟩
      · rcases hsp.2.2 with h | ⟨h1, h2⟩ | h
        · exact Or.inl h
        · exact Or.inr ⟨_, List.mem_cons_self, hp, h1, h2⟩
        · exact Or.inr (hrest h)
      · intro r hr hpr
        rcases List.mem_cons.mp hr with rfl | hr
        · exact hsp.1
        · exact hmax r hr hpr
    · simp only [hp, Bool.false_eq_true, if_false] at hfrom hbest
      refine ⟨hfrom.imp_right hrest, ?_, hbest⟩
      intro r hr hpr
      rcases List.mem_cons.mp hr with rfl | hr
      · exact absurd hpr hp
      · exact hmax r hr hpr

theorem longestSpelling_eq_none {cs : List Char} :
    ∀ {tbl : List (String × String × String)} {best : Option ((String × String) × Nat)},
    longestSpelling cs tbl best = none ↔ best = none ∧ ∀ r ∈ tbl, isPrefixChars r.1.toList cs = false := by
  intro tbl
  induction tbl with
  | nil => intro best; simp [longestSpelling]
  | cons r tbl ih =>
    intro best
    obtain ⟨sp, ty, val⟩ := r
    simp only [longestSpelling, ih, List.forall_mem_cons]
    cases hp : isPrefixChars sp.toList cs
    · simp
    · cases best with
      | none => simp
      | some b => obtain ⟨_, m⟩ := b; by_cases hm : m < sp.toList.length <;> simp [hm]

theorem spellings_nonempty : ∀ r ∈ Gen.spellings, r.1.toList ≠ [] := by decide

theorem spelling_length_pos {cs : List Char} {row : String × String} {n : Nat}
    (h : longestSpelling cs Gen.spellings none = some (row, n)) : 0 < n := by
  obtain ⟨r, hr, -, -, hn⟩ := (longestSpelling_some h).1.resolve_left nofun
  exact hn ▸ List.length_pos_iff.mpr (spellings_nonempty r hr)

theorem dropWhile_shorter (p : Char → Bool) (c : Char) (cs : List Char) (h : p c = true) :
    ((c :: cs).dropWhile p).length ≤ cs.length := by
  rw [List.dropWhile_cons_of_pos h]
  exact (List.dropWhile_sublist p).length_le

theorem nameStart_nameChar {c : Char} (h : isNameStart c = true) : isNameChar c = true := by
  simp only [isNameStart, isNameChar, Char.isAlphanum, Bool.or_eq_true, beq_iff_eq] at h ⊢
  rcases h with h | h
  · exact Or.inl (Or.inl (Or.inl h))
  · exact Or.inl (Or.inr h)

theorem tokenizeF_fuel : ∀ (n : Nat) (cs : List Char), cs.length ≤ n →
    ∀ f f', cs.length < f → cs.length < f' → tokenizeF f cs = tokenizeF f' cs := by
  intro n
  induction n with
  | zero =>
    intro cs hn f f' hf hf'
    have : cs = [] := List.eq_nil_of_length_eq_zero (by omega)
    subst this
    obtain ⟨f0, rfl⟩ := Nat.exists_eq_add_one_of_ne_zero (Nat.ne_zero_of_lt hf)
    obtain ⟨f0', rfl⟩ := Nat.exists_eq_add_one_of_ne_zero (Nat.ne_zero_of_lt hf')
    simp [tokenizeF]
  | succ n ih =>
    intro cs hn f f' hf hf'
    obtain ⟨f0, rfl⟩ := Nat.exists_eq_add_one_of_ne_zero (Nat.ne_zero_of_lt hf)
    obtain ⟨f0', rfl⟩ := Nat.exists_eq_add_one_of_ne_zero (Nat.ne_zero_of_lt hf')
    cases cs with
    | nil => simp [tokenizeF]
    | cons c cs =>
      simp only [List.length_cons] at hn hf hf'
      have step : ∀ R : List Char, R.length ≤ cs.length → tokenizeF f0 R = tokenizeF f0' R :=
        fun R hR => ih R (by omega) f0 f0' (by omega) (by omega)
      rw [tokenizeF, tokenizeF]
      cases h1 : Gen.lexIgnore.toList.contains c
      · simp only [Bool.false_eq_true, if_false]
        cases h2 : isNameStart c
        · simp only [Bool.false_eq_true, if_false]
          cases h3 : (c == '\\' && cs.head? == some '*')
          · simp only [Bool.false_eq_true, if_false]
            cases h4 : (c == '\n')
            · simp only [Bool.false_eq_true, if_false]
              generalize hcc : (if (c == '(' && cs.head? == some '*') = true then closeComment cs.tail else none) = o
              cases o with
              | some rest =>
                simp only
                apply step
                split at hcc
                · have := closeComment_length _ _ hcc
                  have := List.length_tail (l := cs)
                  omega
                · simp at hcc
              | none =>
                simp only
                generalize hls : longestSpelling (c :: cs) Gen.spellings none = ls
                cases ls with
                | some b =>
                  obtain ⟨⟨ty, val⟩, k⟩ := b
                  simp only
                  cases tokOfRow ty val with
                  | none => rfl
                  | some t =>
                    simp only
                    congr 1
                    apply step
                    have hk := spelling_length_pos hls
                    simp only [List.length_drop, List.length_cons]; omega
                | none =>
                  simp only
                  cases h5 : isDigitU c
                  · simp only [Bool.false_eq_true, if_false]
                  · simp only [if_true]
                    congr 1
                    exact step _ (dropWhile_shorter _ _ _ h5)
            · simp only [if_true]
              exact step _ (Nat.le_refl _)
          · simp only [if_true]
            exact step _ (skipLine_length _)
        · simp only [if_true]
          congr 1
          exact step _ (dropWhile_shorter _ _ _ (nameStart_nameChar h2))
      · simp only [if_true]
        exact step _ (Nat.le_refl _)

def lex (cs : List Char) : List Tok := tokenizeF (cs.length + 1) cs

theorem tokenizeF_eq_lex {f : Nat} {cs : List Char} (h : cs.length < f) : tokenizeF f cs = lex cs :=
  tokenizeF_fuel cs.length cs (Nat.le_refl _) _ _ h (Nat.lt_succ_self _)

theorem tokenize_eq_lex (s : String) : tokenize s = lex s.toList := by
  rw [tokenize, lex, String.length_toList]

theorem tokenize_ofList (cs : List Char) : tokenize (String.ofList cs) = lex cs := by
  rw [tokenize_eq_lex, String.toList_ofList]

/-! ### the rules, in the order they are tried (each lemma is headed by the name of its PLY rule) -/

theorem lexIgnore_chars : Gen.lexIgnore.toList = [' ', '\t'] := by decide

theorem nameStart_not_ignore {c : Char} (h : isNameStart c = true) :
    Gen.lexIgnore.toList.contains c = false := by
  rw [lexIgnore_chars]
  simp only [List.contains_eq_mem, List.mem_cons, List.not_mem_nil, or_false, decide_eq_false_iff_not, not_or]
  constructor <;> (rintro rfl; exact absurd h (by decide))

theorem lex_nil : lex [] = [] := by simp [lex, tokenizeF]

/-- `t_ignore` -/
theorem lex_ignore {c : Char} (h : Gen.lexIgnore.toList.contains c = true) (cs : List Char) :
    lex (c :: cs) = lex cs := by
  rw [lex, List.length_cons, tokenizeF, if_pos h, tokenizeF_eq_lex (Nat.lt_succ_self _)]

/-- `t_NAME`: the longest run of NAME characters -/
theorem lex_name {c : Char} (h : isNameStart c = true) (cs : List Char) :
    lex (c :: cs) = nameTok (String.ofList ((c :: cs).takeWhile isNameChar)) ::
      lex ((c :: cs).dropWhile isNameChar) := by
  rw [lex, List.length_cons, tokenizeF, if_neg (by rw [nameStart_not_ignore h]; simp), if_pos h,
    tokenizeF_eq_lex (Nat.lt_succ_of_le (dropWhile_shorter _ _ _ (nameStart_nameChar h)))]

/-- `t_trailing_comment`: the rest of the line -/
theorem lex_lineComment (cs : List Char) : lex ('\\' :: '*' :: cs) = lex (skipLine cs) := by
  have h1 : Gen.lexIgnore.toList.contains '\\' = false := by decide
  have h2 : isNameStart '\\' = false := by decide
  have h3 : ('*' == '\n') = false := by decide
  rw [lex, List.length_cons, tokenizeF]
  simp only [h1, h2, h3, skipLine, Bool.false_eq_true, if_false, beq_self_eq_true, List.head?_cons,
    Bool.true_and, if_true]
  exact tokenizeF_eq_lex (Nat.lt_succ_of_le (Nat.le_succ_of_le (skipLine_length cs)))

/-- `t_newline` -/
theorem lex_newline (cs : List Char) : lex ('\n' :: cs) = lex cs := by
  have h1 : Gen.lexIgnore.toList.contains '\n' = false := by decide
  have h2 : isNameStart '\n' = false := by decide
  have h3 : ('\n' == '\\') = false := by decide
  rw [lex, List.length_cons, tokenizeF]
  simp only [h1, h2, h3, Bool.false_and, Bool.false_eq_true, if_false, beq_self_eq_true, if_true]
  exact tokenizeF_eq_lex (Nat.lt_succ_self _)

/-- `t_doubly_delimited_comment`: up to the first `*)` -/
theorem lex_block {cs rest : List Char} (h : closeComment cs = some rest) :
    lex ('(' :: '*' :: cs) = lex rest := by
  have h1 : Gen.lexIgnore.toList.contains '(' = false := by decide
  have h2 : isNameStart '(' = false := by decide
  have h3 : ('(' == '\\') = false := by decide
  have h4 : ('(' == '\n') = false := by decide
  rw [lex, List.length_cons, tokenizeF]
  simp only [h1, h2, h3, h4, h, Bool.false_and, Bool.false_eq_true, if_false, beq_self_eq_true,
    List.head?_cons, Bool.true_and, if_true, List.tail_cons]
  have := closeComment_length _ _ h
  exact tokenizeF_eq_lex (by simp only [List.length_cons]; omega)

/-- none of the rules tried before the operator table applies: no ignored character, NAME, `\\*`,
newline, and no `(* … *)` that is closed -/
def preOk : List Char → Bool
  | c :: cs => !Gen.lexIgnore.toList.contains c && !isNameStart c && !(c == '\\' && cs.head? == some '*') &&
      !(c == '\n') && (if c == '(' && cs.head? == some '*' then closeComment cs.tail else none).isNone
  | [] => false

theorem preOk_eq {c : Char} {cs : List Char} (h : preOk (c :: cs) = true) :
    Gen.lexIgnore.toList.contains c = false ∧ isNameStart c = false ∧
      (c == '\\' && cs.head? == some '*') = false ∧ (c == '\n') = false ∧
      (if (c == '(' && cs.head? == some '*') = true then closeComment cs.tail else none) = none := by
  have h5 := Option.isNone_iff_eq_none.mp (Bool.and_eq_true_iff.mp h).2
  have h := (Bool.and_eq_true_iff.mp h).1
  simp only [Bool.and_eq_true, Bool.not_eq_true'] at h
  exact ⟨h.1.1.1, h.1.1.2, h.1.2, h.2, h5⟩

theorem preOk_of_plain {c : Char} (h1 : Gen.lexIgnore.toList.contains c = false)
    (h2 : isNameStart c = false) (h3 : (c == '\\') = false) (h4 : (c == '\n') = false)
    (h5 : (c == '(') = false) (cs : List Char) : preOk (c :: cs) = true := by
  simp only [preOk, h1, h2, h3, h4, h5, Bool.false_and, Bool.not_false, Bool.and_self,
    Bool.false_eq_true, if_false, Option.isNone_none]

/-- the operator and delimiter rules: the longest spelling of the table -/
theorem lex_spelling {c : Char} {cs : List Char} {ty val : String} {n : Nat} {t : Tok}
    (hr : preOk (c :: cs) = true)
    (h6 : longestSpelling (c :: cs) Gen.spellings none = some ((ty, val), n))
    (h7 : tokOfRow ty val = some t) : lex (c :: cs) = t :: lex ((c :: cs).drop n) := by
  obtain ⟨h1, h2, h3, h4, h5⟩ := preOk_eq hr
  rw [lex, List.length_cons, tokenizeF]
  simp only [h1, h2, h3, h4, h5, h6, h7, Bool.false_eq_true, if_false]
  have := spelling_length_pos h6
  rw [tokenizeF_eq_lex (by simp only [List.length_drop, List.length_cons]; omega)]

/-- `t_NUMBER` (any run of decimal digits), else the illegal character -/
theorem lex_noSpelling {c : Char} {cs : List Char} (hr : preOk (c :: cs) = true)
    (h6 : longestSpelling (c :: cs) Gen.spellings none = none) :
    lex (c :: cs) =
      if isDigitU c then .number (String.ofList ((c :: cs).takeWhile isDigitU)) ::
        lex ((c :: cs).dropWhile isDigitU)
      else [.bad] := by
  obtain ⟨h1, h2, h3, h4, h5⟩ := preOk_eq hr
  rw [lex, List.length_cons, tokenizeF]
  simp only [h1, h2, h3, h4, h5, h6, Bool.false_eq_true, if_false]
  split
  · next hd => rw [tokenizeF_eq_lex (Nat.lt_succ_of_le (dropWhile_shorter _ _ _ hd))]
  · rfl

def asciiDigits : List Char := "0123456789".toList
def nameStarts : List Char := "ABCDEFGHIJKLMNOPQRSTUVWXYZabcdefghijklmnopqrstuvwxyz_".toList
def nameTail : List Char := nameStarts ++ asciiDigits ++ ['\'']

theorem nameStarts_ok : ∀ c ∈ nameStarts, isNameStart c = true := by decide +kernel

theorem asciiDigits_ok : ∀ c ∈ asciiDigits, isDigitU c = true ∧ isNameChar c = true := by decide +kernel

theorem nameTail_ok : ∀ c ∈ nameTail, isNameChar c = true := by
  intro c hc
  simp only [nameTail, List.mem_append, List.mem_singleton] at hc
  rcases hc with (hc | hc) | rfl
  · exact nameStart_nameChar (nameStarts_ok c hc)
  · exact (asciiDigits_ok c hc).2
  · decide

/-- `[A-Za-z_][A-Za-z0-9_']*`, by membership in the lists -/
def wordCheck : List Char → Bool
  | c :: cs => decide (c ∈ nameStarts) && cs.all (fun x => decide (x ∈ nameTail))
  | [] => false

end DD
