/-
  DDProofs.LoadJson2Calc — the ledger over EVERY path of `_load_json`, the raising ones included,
  for every `LCalc` (DDProofs.LedgerCalc).  `SafeC C F l lerr x post`: started in `G l` (and a frame
  fact `F` that every step keeps), `x` never raises the internal reordering signal, keeps `K`, and
  ends in `G l'` with `post a l' m'` when it returns `a`, in `G lerr` when it raises.  Everything
  `_load_json` does on ANY content except the two decorated calls (`var`, `ite`) and the raw
  `find_or_add` is proved once here.
-/
import DDProofs.LedgerCalc
open Std
namespace DD

theorem Mgr.setRef_self (m : Mgr) : ({ m with ref := m.ref } : Mgr) = m := by cases m; rfl

section Calc
variable {e : Nat → Nat} (C : LCalc e)

/-- a fact about the state that every step keeps -/
def Stable (F : Mgr → Prop) : Prop := ∀ m m', C.K m m' → F m → F m'

theorem Stable.true : Stable C (fun _ => True) := fun _ _ _ h => h

/-- every outcome of `x`, with the ledger -/
def SafeC {α : Type} (F : Mgr → Prop) (l lerr : List Nat) (x : M α)
    (post : α → List Nat → Mgr → Prop) : Prop :=
  ∀ m, C.G l m → F m →
    (x m).1 ≠ .error .needsReordering ∧ C.K m (x m).2 ∧
    match (x m).1 with
    | .ok a => ∃ l', post a l' (x m).2 ∧ C.G l' (x m).2
    | .error _ => C.G lerr (x m).2

/-- a decorated operation: any arguments, any outcome, the ledger untouched -/
def PrimOK {α : Type} (x : M α) : Prop :=
  ∀ l m, C.G l m → (x m).1 ≠ .error .needsReordering ∧ C.K m (x m).2 ∧ C.G l (x m).2

variable {C}
variable {F : Mgr → Prop}

theorem SafeC.mono {α : Type} {l lerr : List Nat} {x : M α} {P Q : α → List Nat → Mgr → Prop}
    (h : SafeC C F l lerr x P) (hpq : ∀ a l' m', P a l' m' → Q a l' m') : SafeC C F l lerr x Q := by
  intro m hg hF
  obtain ⟨n, k, ho⟩ := h m hg hF
  refine ⟨n, k, ?_⟩
  cases hr : (x m).1 with
  | ok a =>
    rw [hr] at ho
    obtain ⟨l', p, g⟩ := ho
    exact ⟨l', hpq a l' _ p, g⟩
  | error er => rw [hr] at ho; exact ho

theorem SafeC.perm {α : Type} {l l2 lerr lerr2 : List Nat} {x : M α}
    {P : α → List Nat → Mgr → Prop} (h : SafeC C F l lerr x P) (h1 : l2.Perm l) (h2 : lerr.Perm lerr2) :
    SafeC C F l2 lerr2 x P := by
  intro m hg hF
  obtain ⟨n, k, ho⟩ := h m (C.perm hg h1) hF
  refine ⟨n, k, ?_⟩
  cases hr : (x m).1 with
  | ok a => rw [hr] at ho; exact ho
  | error er => rw [hr] at ho; exact C.perm ho h2

theorem SafeC.weakenF {α : Type} {F' : Mgr → Prop} {l lerr : List Nat} {x : M α}
    {P : α → List Nat → Mgr → Prop} (h : SafeC C F l lerr x P) (hF : ∀ m, F' m → F m) :
    SafeC C F' l lerr x P := fun m hg hf => h m hg (hF m hf)

/-- the continuation may use what the first part established about the state -/
theorem SafeC.bindS {α β : Type} {l lerr : List Nat} {x : M α} {f : α → M β}
    {p : α → List Nat → Prop} {S : α → Mgr → Prop} {Q : β → List Nat → Mgr → Prop} (hS : Stable C F)
    (hx : SafeC C F l lerr x (fun a l' m' => p a l' ∧ S a m'))
    (hf : ∀ a l1, p a l1 → SafeC C (fun m => F m ∧ S a m) l1 lerr (f a) Q) :
    SafeC C F l lerr (x >>= f) Q := by
  intro m hg hF
  obtain ⟨n1, k1, ho⟩ := hx m hg hF
  cases h1 : x m with
  | mk r m1 =>
    rw [h1] at n1 k1 ho
    cases r with
    | error er =>
      rw [M.bind_err h1]
      have hne : er ≠ .needsReordering := fun h => n1 (by rw [h])
      exact ⟨fun hh => hne (by cases hh; rfl), k1, ho⟩
    | ok a =>
      obtain ⟨l1, ⟨pp, ps⟩, g1⟩ := ho
      obtain ⟨n2, k2, ho2⟩ := hf a l1 pp m1 g1 ⟨hS _ _ k1 hF, ps⟩
      rw [M.bind_ok h1]
      exact ⟨n2, C.trans k1 k2, ho2⟩

theorem SafeC.bind {α β : Type} {l lerr : List Nat} {x : M α} {f : α → M β}
    {P : α → List Nat → Mgr → Prop} {Q : β → List Nat → Mgr → Prop} (hS : Stable C F)
    (hx : SafeC C F l lerr x P) (hf : ∀ a l1 m1, P a l1 m1 → SafeC C F l1 lerr (f a) Q) :
    SafeC C F l lerr (x >>= f) Q :=
  SafeC.bindS (p := fun a l' => ∃ m', P a l' m') (S := fun _ _ => True) hS
    (hx.mono fun _ _ m' h => ⟨⟨m', h⟩, trivial⟩) fun a l1 ⟨m1, h⟩ => (hf a l1 m1 h).weakenF fun _ h' => h'.1

theorem SafeC.bindL {α β : Type} {l lerr : List Nat} {L : α → List Nat} {x : M α} {f : α → M β}
    {Q : β → List Nat → Mgr → Prop} (hS : Stable C F)
    (hx : SafeC C F l lerr x (fun a l' _ => l' = L a)) (hf : ∀ a, SafeC C F (L a) lerr (f a) Q) :
    SafeC C F l lerr (x >>= f) Q :=
  SafeC.bind hS hx fun a _ _ h => h ▸ hf a

theorem SafeC.pure {α : Type} {l lerr : List Nat} (a : α) {P : α → List Nat → Mgr → Prop}
    (h : ∀ m, F m → P a l m) : SafeC C F l lerr (pure a : M α) P :=
  fun m hg hF => ⟨nofun, C.refl m, l, h m hF, hg⟩

theorem SafeC.throw {α : Type} {l : List Nat} (er : Err) (hne : er ≠ .needsReordering)
    {P : α → List Nat → Mgr → Prop} : SafeC C F l l (M.throw er : M α) P :=
  fun m hg _ => ⟨fun hh => hne (by cases hh; rfl), C.refl m, hg⟩

theorem SafeC.assert {l : List Nat} (b : Bool) :
    SafeC C F l l (M.assert b) (fun _ l' _ => l' = l ∧ b = true) := by
  unfold M.assert; split
  · rename_i hb
    exact SafeC.pure () (fun _ _ => ⟨rfl, hb⟩)
  · exact SafeC.throw _ (by simp)

theorem SafeC.ofOption {α : Type} {l : List Nat} (er : Err) (hne : er ≠ .needsReordering) (o : Option α) :
    SafeC C F l l (M.ofOption er o) (fun _ l' _ => l' = l) := by
  cases o with
  | none => exact SafeC.throw _ hne
  | some a => exact SafeC.pure a (fun _ _ => rfl)

theorem SafeC.prim {α : Type} {l : List Nat} {x : M α} (h : PrimOK C x) :
    SafeC C F l l x (fun _ l' _ => l' = l) := by
  intro m hg _
  obtain ⟨n, k, g⟩ := h l m hg
  refine ⟨n, k, ?_⟩
  cases (x m).1 with
  | ok a => exact ⟨l, rfl, g⟩
  | error er => exact g

theorem SafeC.containsCheck {l : List Nat} (hS : Stable C F) (u : Int) :
    SafeC C F l l (containsCheck u) (fun _ l' _ => l' = l) := by
  unfold DD.containsCheck
  refine SafeC.bind hS (P := fun _ l' _ => l' = l)
    (fun m hg _ => ⟨nofun, C.refl m, l, rfl, hg⟩) fun a l1 _ h1 => ?_
  subst h1
  split
  · exact SafeC.throw _ (by simp)
  · exact SafeC.pure _ (fun _ _ => rfl)

/-- `Function(u, bdd)` on ANY integer: refused (`ValueError`) with nothing changed, or one more
reference -/
theorem SafeC.wrap {l : List Nat} (u : Int) :
    SafeC C F l l (dmpWrap u) (fun _ l' _ => l' = u.natAbs :: l) := by
  intro m hg _
  by_cases hu : m.tbl.Mem u
  · obtain ⟨r, hw, g⟩ := C.wrap hg u hu
    rw [hw]
    exact ⟨nofun, C.kRef m r, _, rfl, g⟩
  · have hm : m.mem u = false := (Tbl.mem_false_iff _ _).mpr hu
    have : dmpWrap u m = (.error .value, m) := by unfold dmpWrap; simp [hm]
    rw [this]
    exact ⟨nofun, C.refl m, hg⟩

/-- `bdd.incref(u)` on ANY integer -/
theorem SafeC.incref {l : List Nat} (u : Int) :
    SafeC C F l l (incref u) (fun _ l' _ => l' = u.natAbs :: l) := by
  intro m hg _
  by_cases hu : m.tbl.Mem u
  · obtain ⟨r, hw, g⟩ := C.incr hg u hu
    rw [hw]
    exact ⟨nofun, C.kRef m r, _, rfl, g⟩
  · have hn := incref_not_mem m u (ref_none_of_not_mem (C.exact hg) hu)
    rw [hn]
    exact ⟨nofun, C.refl m, hg⟩

/-- the temporaries die whether the block returned or raised -/
theorem SafeC.withTemps {α : Type} {l lerr : List Nat} (a : Int) {x : M α}
    {P Q : α → List Nat → Mgr → Prop} (hx : SafeC C F l (a.natAbs :: lerr) x P)
    (hq : ∀ b l' m', P b l' m' → ∃ L, l'.Perm (a.natAbs :: L) ∧ ∀ r, Q b L { m' with ref := r }) :
    SafeC C F l lerr (withTemps [a] x) Q := by
  intro m hg hF
  obtain ⟨n1, k1, ho⟩ := hx m hg hF
  unfold DD.withTemps
  cases h1 : x m with
  | mk r m1 =>
    rw [h1] at n1 k1 ho
    cases r with
    | error er =>
      obtain ⟨r', hd, g⟩ := C.drop a ho
      have e : dropList [a] m1 = { m1 with ref := r' } := hd
      show _ ∧ C.K m (dropList [a] m1) ∧ C.G lerr (dropList [a] m1)
      rw [e]
      exact ⟨n1, C.trans k1 (C.kRef _ _), g⟩
    | ok b =>
      obtain ⟨l', p, g1⟩ := ho
      obtain ⟨L, hp, q⟩ := hq b l' m1 p
      obtain ⟨r', hd, g⟩ := C.drop a (C.perm g1 hp)
      have e : dropList [a] m1 = { m1 with ref := r' } := hd
      show _ ∧ C.K m (dropList [a] m1) ∧ ∃ l', Q b l' (dropList [a] m1) ∧ C.G l' (dropList [a] m1)
      rw [e]
      exact ⟨n1, C.trans k1 (C.kRef _ _), L, q r', g⟩

/-- `_node_from_int` on ANY shelf and ANY id: the id resolves and the caller holds one reference on the
returned edge (`LCalc.nodeFromInt`), or it does not and nothing has changed -/
theorem SafeC.nodeFromInt {l : List Nat} (cache : List (Nat × Int)) (uid : Int) :
    SafeC C F l l (DD.nodeFromInt cache uid) (fun r l' _ => l' = r.natAbs :: l) := by
  intro m hg _
  by_cases hres : uid.natAbs = 1 ∨ ∃ k, cache.lookup uid.natAbs = some k ∧ m.tbl.Mem k
  · obtain ⟨r, he, g⟩ := C.nodeFromInt hg cache uid hres
    rw [he]
    exact ⟨nofun, C.kRef m r, _, rfl, g⟩
  · obtain ⟨er, he, hne⟩ := nodeFromInt_refused cache uid m hres
    rw [he]
    exact ⟨fun hh => hne (by cases hh; rfl), C.refl m, hg⟩

/-- the shelf gets one more entry, held once more -/
def PostT (cache : List (Nat × Int)) (id : Nat) (T : List Nat) (c' : List (Nat × Int)) (l' : List Nat) : Prop :=
  ∃ u : Int, c' = cache ++ [(id, u)] ∧ l' = u.natAbs :: T

/-- `_make_node` on the shelf: the line is skipped (its id is there already), or shelved -/
abbrev PostMk (cache : List (Nat × Int)) (ln : JLine) (l : List Nat) (c' : List (Nat × Int)) (l' : List Nat) : Prop :=
  (c' = cache ∧ l' = l) ∨ (cache.lookup ln.id = none ∧ 1 < ln.id ∧ PostT cache ln.id l c' l')

/-- a temporary held around a block that shelves one node dies; the new entry stays held -/
theorem SafeC.withTempT {l T : List Nat} {cache : List (Nat × Int)} {id : Nat} (a : Int)
    {x : M (List (Nat × Int))}
    (hx : SafeC C F l (a.natAbs :: T) x (fun c' l' _ => PostT cache id (a.natAbs :: T) c' l')) :
    SafeC C F l T (DD.withTemps [a] x) (fun c' l' _ => PostT cache id T c' l') :=
  SafeC.withTemps a hx fun _ _ _ ⟨u, hc, hl'⟩ =>
    ⟨u.natAbs :: T, by rw [hl']; exact List.Perm.swap _ _ _, fun _ => ⟨u, hc, rfl⟩⟩

theorem SafeC.shelveNode {l : List Nat} (hS : Stable C F) (cache : List (Nat × Int)) (id : Nat) (u : Int) :
    SafeC C F l l (shelveNode cache id u) (fun c' l' _ => PostT cache id l c' l') := by
  unfold DD.shelveNode
  refine SafeC.bindL hS (SafeC.wrap u) fun _ => ?_
  refine SafeC.withTempT u ?_
  refine SafeC.bindL hS ((SafeC.assert _).mono fun _ _ _ h => h.1) fun _ => ?_
  refine SafeC.bindL hS (SafeC.incref u) fun _ => ?_
  exact SafeC.pure _ (fun _ _ => ⟨u, rfl, rfl⟩)

/-- `_make_node` on ANY line and ANY shelf, for a body that is safe once the two successors are held:
the line is skipped, or its node is put on the shelf with one reference (the line's id is then not
the terminal's), or an exception leaves the counts as they were — both `Function`s on the
successors have been released -/
theorem SafeC.makeNode_of_body {l : List Nat} (hS : Stable C F) (lo : Bool) (vat : List (Nat × String)) (ln : JLine)
    (cache : List (Nat × Int))
    (hbody : ∀ low high name, SafeC C F (high.natAbs :: low.natAbs :: l) (high.natAbs :: low.natAbs :: l)
      (makeNodeBody lo cache ln low high name)
      (fun c' l' _ => PostT cache ln.id (high.natAbs :: low.natAbs :: l) c' l')) :
    SafeC C F l l (makeNode lo vat ln cache)
      (fun c' l' _ => PostMk cache ln l c' l') := by
  rw [makeNode_eq]
  refine SafeC.bind hS (SafeC.assert _) fun _ l1 _ hl1 => ?_
  obtain ⟨hl1, hid⟩ := hl1
  have hid : 1 < ln.id := by simpa using hid
  rw [hl1]
  by_cases hin : (cache.lookup ln.id).isSome = true
  · rw [if_pos hin]
    exact SafeC.pure _ (fun _ _ => Or.inl ⟨rfl, rfl⟩)
  rw [if_neg hin]
  have hnew : cache.lookup ln.id = none := Option.not_isSome_iff_eq_none.mp hin
  refine SafeC.mono (P := fun c' l' _ => PostT cache ln.id l c' l') ?_ (fun c' l' _ h => Or.inr ⟨hnew, hid, h⟩)
  refine SafeC.bindL hS (SafeC.nodeFromInt cache ln.lo) fun low => ?_
  refine SafeC.withTempT low ?_
  refine SafeC.bindL hS (SafeC.nodeFromInt cache ln.hi) fun high => ?_
  refine SafeC.withTempT high ?_
  refine SafeC.bindL hS (SafeC.ofOption _ (by simp) _) fun name => ?_
  exact hbody low high name

/-- `_make_node` (`load_order=False`) on ANY line and ANY shelf; `var` and `ite` are the decorated
methods: what the calculus must know is what a decorated call does in its mode (`hdec`) -/
theorem SafeC.makeNodeF {l : List Nat} (hS : Stable C F)
    (hdec : ∀ x : M Int, (∀ m, Decorated m (x m)) → PrimOK C x) (vat : List (Nat × String))
    (ln : JLine) (cache : List (Nat × Int)) :
    SafeC C F l l (makeNode false vat ln cache)
      (fun c' l' _ => PostMk cache ln l c' l') := by
  refine SafeC.makeNode_of_body hS false vat ln cache fun low high name => ?_
  rw [makeNodeBody_false]
  refine SafeC.bindL hS (SafeC.prim (hdec _ (var_decorated name))) fun g => ?_
  refine SafeC.bindL hS (SafeC.wrap g) fun _ => ?_
  refine SafeC.withTempT g ?_
  refine SafeC.bindL hS (SafeC.containsCheck hS g) fun _ => ?_
  refine SafeC.bindL hS (SafeC.containsCheck hS high) fun _ => ?_
  refine SafeC.bindL hS (SafeC.containsCheck hS low) fun _ => ?_
  refine SafeC.bindL hS (SafeC.prim (hdec _ (ite_decorated g high low))) fun u => ?_
  exact SafeC.shelveNode hS cache ln.id u

/-- what a pass over node lines leaves: the shelf with distinct keys, none of them the
terminal's, held once per entry -/
structure ShelfOut (C : LCalc e) (m : Mgr) (out : Except Err Unit × List (Nat × Int) × Mgr) : Prop where
  noSignal : out.1 ≠ .error .needsReordering
  kept : C.K m out.2.2
  nodup : (out.2.1.map (·.1)).Nodup
  ids : ∀ p ∈ out.2.1, p.1 ≠ 1
  good : C.G (shelfRefs out.2.1) out.2.2

theorem ids_snoc (cache : List (Nat × Int)) (h1 : ∀ p ∈ cache, p.1 ≠ 1) (k : Nat) (u : Int) (hk : 1 < k) :
    ∀ p ∈ cache ++ [(k, u)], p.1 ≠ 1 := by
  intro p hp
  rcases List.mem_append.mp hp with h | h
  · exact h1 p h
  · cases List.mem_singleton.mp h; exact Nat.ne_of_gt hk

/-- the loop over the node lines, ANY lines, for a step `_make_node` that is safe: however it is
left, the counts are exact for the caller's ledger plus one reference per shelf entry -/
theorem makeNodesE_loopC (lo : Bool) (vat : List (Nat × String))
    (hstep : ∀ (ln : JLine) (cache : List (Nat × Int)) (l : List Nat),
      SafeC C F l l (makeNode lo vat ln cache)
        (fun c' l' _ => PostMk cache ln l c' l'))
    (hS : Stable C F) :
    ∀ (ls : List JLine) (cache : List (Nat × Int)) (m : Mgr), (cache.map (·.1)).Nodup →
      (∀ p ∈ cache, p.1 ≠ 1) → C.G (shelfRefs cache) m → F m →
      ShelfOut C m (makeNodesE lo vat ls cache m) := by
  intro ls
  induction ls with
  | nil => intro cache m hn h1 hg _; exact ⟨nofun, C.refl m, hn, h1, hg⟩
  | cons ln rest ih =>
    intro cache m hn h1 hg hF
    obtain ⟨n1, k1, ho⟩ := hstep ln cache (shelfRefs cache) m hg hF
    rw [makeNodesE]
    cases hmk : makeNode lo vat ln cache m with
    | mk r m1 =>
      rw [hmk] at n1 k1 ho
      cases r with
      | error er =>
        have hne : er ≠ .needsReordering := fun h => n1 (by rw [h])
        exact ⟨(fun hh => hne (by cases hh; rfl)), k1, hn, h1, ho⟩
      | ok c1 =>
        dsimp only
        obtain ⟨l', hp, g1⟩ := ho
        have hF1 : F m1 := hS _ _ k1 hF
        rcases hp with ⟨rfl, rfl⟩ | ⟨hnew, hid, u, rfl, rfl⟩
        · have o := ih c1 m1 hn h1 g1 hF1
          exact ⟨o.noSignal, C.trans k1 o.kept, o.nodup, o.ids, o.good⟩
        · have hn' := nodup_snoc_key cache hn ln.id u hnew
          have h1' := ids_snoc cache h1 ln.id u hid
          have g1' : C.G (shelfRefs (cache ++ [(ln.id, u)])) m1 := by
            apply C.perm g1
            simp only [shelfRefs, List.map_append, List.map_cons, List.map_nil]
            exact (List.perm_append_singleton _ _).symm
          have o := ih _ m1 hn' h1' g1' hF1
          exact ⟨o.noSignal, C.trans k1 o.kept, o.nodup, o.ids, o.good⟩

theorem SafeC.rootsFromInts (hS : Stable C F) (cache : List (Nat × Int)) :
    ∀ (ks : List Int) (l : List Nat),
      SafeC C F l l (rootsFromInts cache ks)
        (fun us l' _ => l'.Perm (us.map Int.natAbs ++ l) ∧ us.length = ks.length) := by
  intro ks
  induction ks with
  | nil => intro l; unfold DD.rootsFromInts; exact SafeC.pure _ (fun _ _ => ⟨List.Perm.refl _, rfl⟩)
  | cons k rest ih =>
    intro l
    unfold DD.rootsFromInts
    refine SafeC.bindL hS (SafeC.nodeFromInt cache k) fun u => ?_
    intro m hg hF
    obtain ⟨n1, k1, ho⟩ := ih (u.natAbs :: l) m hg hF
    dsimp only
    cases h1 : DD.rootsFromInts cache rest m with
    | mk r m1 =>
      rw [h1] at n1 k1 ho
      cases r with
      | ok us =>
        obtain ⟨l', ⟨hp, hlen⟩, g⟩ := ho
        refine ⟨nofun, k1, l', ⟨?_, by simp [hlen]⟩, g⟩
        refine hp.trans ?_
        simp only [List.map_cons, List.cons_append]
        exact List.perm_middle
      | error er =>
        obtain ⟨r', hd, g⟩ := C.drop u ho
        refine ⟨n1, ?_, ?_⟩
        · show C.K m (dmpDrop u m1).2
          rw [hd]; exact C.trans k1 (C.kRef _ _)
        · show C.G l (dmpDrop u m1).2
          rw [hd]; exact g

theorem SafeC.jsonRoots {l : List Nat} (hS : Stable C F) (f : JsonFile) (cache : List (Nat × Int)) :
    SafeC C F l l (jsonRoots f cache)
      (fun us l' _ => l'.Perm (us.map Int.natAbs ++ l) ∧ (f.roots.rebuild us).values = us) := by
  unfold DD.jsonRoots
  cases hr : f.roots with
  | none => exact SafeC.bind hS (P := fun _ _ _ => False) (SafeC.throw _ (by simp)) fun _ _ _ h => h.elim
  | list ks =>
    refine SafeC.bind hS (P := fun a l' _ => l' = l ∧ a = ks) (SafeC.pure _ (fun _ _ => ⟨rfl, rfl⟩))
      fun a l1 _ hl1 => ?_
    obtain ⟨hl, rfl⟩ := hl1
    rw [hl]
    exact (SafeC.rootsFromInts hS cache _ _).mono (fun us l' _ h => ⟨h.1, rfl⟩)
  | dict d =>
    refine SafeC.bind hS (P := fun a l' _ => l' = l ∧ a = d.map (·.2)) (SafeC.pure _ (fun _ _ => ⟨rfl, rfl⟩))
      fun a l1 _ hl1 => ?_
    obtain ⟨hl, rfl⟩ := hl1
    rw [hl]
    refine (SafeC.rootsFromInts hS cache _ _).mono (fun us l' _ h => ⟨h.1, ?_⟩)
    show ((d.map (·.1)).zip us).map (·.2) = us
    apply List.map_snd_zip
    rw [List.length_map, h.2, List.length_map]
    exact Nat.le_refl _


/-- what `_load_json` leaves when the line `level_of_var` was read without an exception, from the
state `m1` after that line: never the internal signal; a state `mb` with `K m1 mb`; the roots are
returned — counts exact for the caller's ledger plus one reference per returned `Function`,
`configure` has run when `load_order=True` — or an exception is raised with the counts exact for
the caller's ledger -/
def FinOut (C : LCalc e) (lo : Bool) (m1 : Mgr) (out : Except Err Roots × Mgr) : Prop :=
  out.1 ≠ .error .needsReordering ∧
  ∃ mb, C.K m1 mb ∧
    ((∃ roots, out = (.ok roots, cfgAfter lo mb) ∧ C.G (roots.values.map Int.natAbs) mb) ∨
     (∃ er, out = (.error er, mb) ∧ C.G [] mb))

theorem finish_afterHeaderC (C : LCalc e) (f : JsonFile) (lo : Bool) (m1 : Mgr)
    (hshelf : ShelfOut C m1 (makeNodesE lo f.varAtLevel f.nodes [] m1)) :
    FinOut C lo m1 (jsonFinish f lo (jsonAfterHeader f lo m1)) := by
  unfold FinOut
  have hS : Stable C (fun _ => True) := Stable.true C
  generalize hres : makeNodesE lo f.varAtLevel f.nodes [] m1 = res at hshelf
  obtain ⟨r2, cache, m2⟩ := res
  obtain ⟨n2, k2, nd2, i2, g2⟩ := hshelf
  dsimp only at n2 k2 nd2 i2 g2
  have handler : ∀ (er : Err) (prev : Option Int) (m3 : Mgr), er ≠ .needsReordering → C.K m1 m3 →
      C.G (prev.toList.map Int.natAbs ++ shelfRefs cache) m3 →
      jsonAfterHeader f lo m1 = (.error er, cache, prev, m3) →
      FinOut C lo m1 (jsonFinish f lo (jsonAfterHeader f lo m1)) := by
    intro er prev m3 hne k3 g3 heq
    unfold FinOut
    obtain ⟨r, hfin, g⟩ := jsonFinish_errC C f lo er cache nd2 i2 prev m3 g3
    rw [heq, hfin]
    exact ⟨(fun hh => hne (by cases hh; rfl)), _, C.trans k3 (C.kRef _ _), Or.inr ⟨er, rfl, g⟩⟩
  cases r2 with
  | error er =>
    have hne : er ≠ .needsReordering := fun h => n2 (by rw [h])
    exact handler er none m2 hne k2 (by simpa using g2) (jsonAfterHeader_err f lo m1 m2 er cache hres)
  | ok _ =>
    obtain ⟨n3, k3, ho⟩ := SafeC.jsonRoots (C := C) (F := fun _ => True) (l := shelfRefs cache) hS f cache m2 g2 trivial
    cases h3 : jsonRoots f cache m2 with
    | mk r3 m3 =>
      rw [h3] at n3 k3 ho
      cases r3 with
      | error er =>
        have hne : er ≠ .needsReordering := fun h => n3 (by rw [h])
        exact handler er none m3 hne (C.trans k2 k3) (by simpa using ho)
          (jsonAfterHeader_roots_err f lo m1 m2 m3 cache er hres h3)
      | ok us =>
        obtain ⟨l', ⟨hp, hvals⟩, g3⟩ := ho
        have g3' : C.G ((none : Option Int).toList.map Int.natAbs ++ (shelfRefs cache ++ us.map Int.natAbs)) m3 := by
          apply C.perm g3
          refine hp.trans ?_
          simp only [Option.toList, List.map_nil, List.nil_append]
          exact List.perm_append_comm
        obtain ⟨last, r4, g4, hcase⟩ := checkLoopC C lo cache nd2 i2 cache none m3
          (shelfRefs cache ++ us.map Int.natAbs) (fun _ h => h)
          (fun p hp => List.mem_append_left _ (List.mem_map.mpr ⟨p, hp, rfl⟩)) g3'
        have k4 : C.K m1 { m3 with ref := r4 } := C.trans (C.trans k2 k3) (C.kRef _ _)
        rcases hcase with eck | ⟨_, eck, _⟩
        · have hdef := jsonAfterHeader_check f lo m1 m2 m3 _ cache us _ last hres h3 eck
          dsimp only at hdef
          obtain ⟨r, hcase2⟩ := jsonFinish_okC C f lo us cache nd2 i2 last { m3 with ref := r4 } g4
          have kb : C.K m1 { m3 with ref := r } := C.trans k4 (C.kRef _ _)
          rw [hdef]
          rcases hcase2 with ⟨hfin, g⟩ | ⟨hfin, g, _⟩
          · rw [hfin]
            refine ⟨nofun, _, kb, Or.inl ⟨_, rfl, ?_⟩⟩
            rw [hvals]; exact g
          · rw [hfin]
            exact ⟨nofun, _, kb, Or.inr ⟨_, rfl, g⟩⟩
        · -- the `ref < 3` assertion fired: the roots die, the handler releases the shelf
          have hdef := jsonAfterHeader_check f lo m1 m2 m3 _ cache us _ last hres h3 eck
          dsimp only at hdef
          have g4' : C.G (us.map Int.natAbs ++ (last.toList.map Int.natAbs ++ shelfRefs cache))
              { m3 with ref := r4 } := by
            apply C.perm g4
            rw [← List.append_assoc]
            exact List.perm_append_comm
          obtain ⟨r5, e5, g5⟩ := dropListC C us { m3 with ref := r4 } _ g4'
          rw [e5] at hdef
          exact handler .assertion last _ (by simp) (C.trans k4 (C.kRef _ _)) g5 hdef

/-- `_load_json` from the state `m1` after the line `level_of_var`, ANY content, for a step
`_make_node` that is safe: what holds of the roots returned in a state that is good for the
caller's ledger plus one reference per root, and of any exception but the internal signal raised in
a state that is good for the caller's ledger — both states kept from `m1` —, holds of the outcome -/
theorem jsonAfterHeader_any (C : LCalc e) (f : JsonFile) (lo : Bool)
    (hstep : ∀ (ln : JLine) (cache : List (Nat × Int)) (l : List Nat),
      SafeC C (fun _ => True) l l (makeNode lo f.varAtLevel ln cache)
        (fun c' l' _ => PostMk cache ln l c' l'))
    (m1 : Mgr) (g1 : C.G [] m1) {P : Except Err Roots × Mgr → Prop}
    (hok : ∀ roots mb, C.K m1 mb → C.G (roots.values.map Int.natAbs) mb → P (.ok roots, cfgAfter lo mb))
    (herr : ∀ er mb, er ≠ .needsReordering → C.K m1 mb → C.G [] mb → P (.error er, mb)) :
    P (jsonFinish f lo (jsonAfterHeader f lo m1)) := by
  obtain ⟨hn, mb, kb, ⟨roots, heq, g⟩ | ⟨er, heq, g⟩⟩ := finish_afterHeaderC C f lo m1
    (makeNodesE_loopC lo _ hstep (Stable.true C) f.nodes [] m1 (by simp) (by simp) g1 trivial)
  · rw [heq]; exact hok roots mb kb g
  · rw [heq] at hn ⊢
    exact herr er mb (fun h => hn (by rw [h])) kb g

/-- `load_json(load_order=False)` on ANY content, `m1` being the state in which the names of the line
`level_of_var` are declared: for a calculus that knows what a decorated call does in its mode -/
theorem loadJson_false_calc (C : LCalc e) (f : JsonFile) {m m1 : Mgr}
    (ed : declare (f.levelOfVar.map (·.1)) m = (.ok (), m1))
    (hdec : ∀ x : M Int, (∀ m, Decorated m (x m)) → PrimOK C x) (g1 : C.G [] m1)
    {P : Except Err Roots × Mgr → Prop}
    (hok : ∀ roots mb, C.K m1 mb → C.G (roots.values.map Int.natAbs) mb → P (.ok roots, mb))
    (herr : ∀ er mb, er ≠ .needsReordering → C.K m1 mb → C.G [] mb → P (.error er, mb)) :
    P (loadJson f false m) := by
  rw [loadJson_false_eq, jsonTry_header_ok f false m m1 (jsonHeader_false f m m1 ed)]
  exact jsonAfterHeader_any C f false
    (fun ln cache _ => SafeC.makeNodeF (Stable.true _) hdec _ ln cache) m1 g1 hok herr

end Calc
end DD
