/-
  DDProofs.LoadJson2Dyn — `_copy.load_json(file, bdd, load_order=False)` on ANY content into a
  manager with dynamic reordering ENABLED (or not: `DynInv` does not say).  The decorated `bdd.var` /
  `bdd.ite` of `_make_node` may serve a reordering request (sifting, then the retry) before the loader
  fails at a later line.  Node numbers are stable under `swap`, so the shelf (file id ↦ node number)
  still names the nodes whose references `_make_node` took, and the `except BaseException:` loop gives
  exactly those back.  `SafeC` at `DynL`; the decorated calls by `Decorated.total`.
-/
import DDProofs.LoadJson2Calc
import DDProofs.DumpJsonDyn
open Std
namespace DD

/-- what `_load_json` keeps for its caller (ledger `e`) when sifting may run inside: reordering
is enabled iff it was, declared names stay declared, `bdd.roots` is untouched, every reference
the caller holds is still a node and denotes the same function of the variable NAMES -/
structure DynLeft (e : Nat → Nat) (m m' : Mgr) : Prop where
  enabled : m'.lastLen.isSome = m.lastLen.isSome
  names : ∀ s : String, m.tbl.vars.contains s = true → m'.tbl.vars.contains s = true
  roots : m'.roots = m.roots
  held : ∀ w, HeldX e w → m.tbl.Mem w → m'.tbl.Mem w ∧ ∀ σ, denN m'.tbl w σ = denN m.tbl w σ

theorem DynLeft.refl (e : Nat → Nat) (m : Mgr) : DynLeft e m m :=
  ⟨rfl, fun _ h => h, rfl, fun _ _ hm => ⟨hm, fun _ => rfl⟩⟩

theorem DynLeft.trans {e : Nat → Nat} {a b c : Mgr} (h1 : DynLeft e a b) (h2 : DynLeft e b c) :
    DynLeft e a c :=
  ⟨h2.enabled.trans h1.enabled, fun s h => h2.names s (h1.names s h), h2.roots.trans h1.roots,
    fun w hw hm =>
      have a1 := h1.held w hw hm
      byName_trans a1 (h2.held w hw a1.1)⟩

/-- the calculus of `_load_json` with dynamic reordering possibly enabled -/
def dynCalc (e : Nat → Nat) : LCalc e where
  G := fun l m => DynL e l m
  K := DynLeft e
  inv := fun h => h.dyn.inv
  exact := fun h => h.dyn.refs
  refl := DynLeft.refl e
  trans := DynLeft.trans
  setRef := fun _ r h hI hr => h.setRef r hI hr
  kRef := fun _ _ => ⟨rfl, fun _ h => h, rfl, fun _ _ hm => ⟨hm, fun _ => rfl⟩⟩

theorem dynCalc_decorated (e : Nat → Nat) (x : M Int) (hd : ∀ m, Decorated m (x m)) :
    PrimOK (dynCalc e) x := by
  intro l m hg
  have hg' : DynL e l m := hg
  obtain ⟨hn, K⟩ := (hd m).total hg'.dyn
  refine ⟨hn, ⟨K.enabled, fun s hs => by rw [K.names s]; exact hs, K.roots,
    fun w hw _ => K.held w (hw.extAdd l)⟩, ?_⟩
  show DynL e l (x m).2
  exact ⟨K.inv, fun r hr => by rw [K.roots] at hr; exact hg'.roots0 r hr⟩

/-- what `load_json(load_order=False)` leaves behind in a manager with dynamic reordering possibly
ENABLED, whatever the content and whatever the outcome: never the internal signal; `DynLeft` for
the caller; the state is again as between two calls (`DynInv`) with the counts exact for the
caller's ledger plus ONE reference per returned `Function` — for the caller's ledger itself when
the call raised -/
structure JsonLeavesDyn (e : Nat → Nat) (m : Mgr) (out : Except Err Roots × Mgr) : Prop where
  noSignal : out.1 ≠ .error .needsReordering
  left : DynLeft e m out.2
  state : match out.1 with
    | .ok roots => DynInv (extAdd e (roots.values.map Int.natAbs)) out.2
    | .error _ => DynInv e out.2

/-- `load_json(load_order=False)` from the state `m1` in which the names of the line `level_of_var`
are declared, two variables there: whatever the content, it returns with `DynInv` for the caller's
ledger plus the returned roots, or raises (not the signal) with `DynInv` for the caller's ledger -/
theorem loadJson_false_dyn_from (f : JsonFile) {m m1 : Mgr} {e : Nat → Nat}
    (ed : declare (f.levelOfVar.map (·.1)) m = (.ok (), m1)) (D1 : DynInv e m1)
    {P : Except Err Roots × Mgr → Prop}
    (hok : ∀ roots mb, DynLeft e m1 mb → DynInv (extAdd e (roots.values.map Int.natAbs)) mb →
      P (.ok roots, mb))
    (herr : ∀ er mb, er ≠ .needsReordering → DynLeft e m1 mb → DynInv e mb → P (.error er, mb)) :
    P (loadJson f false m) :=
  loadJson_false_calc (dynCalc e) f ed (dynCalc_decorated e)
    (show DynL e [] m1 from ⟨by rwa [extAdd_nil], D1.roots⟩)
    (fun roots mb kb g => hok roots mb kb (DynL.dyn g))
    (fun er mb hne kb g => herr er mb hne kb (extAdd_nil e ▸ DynL.dyn g))

/-- `_copy.load_json(file, bdd, load_order=False)` on ANY content, dynamic reordering possibly
ENABLED (any threshold: a request may be served inside any `var` / `ite` of `_make_node`, before
the failure), EVERY outcome -/
theorem loadJson_false_any_dyn (f : JsonFile) (m : Mgr) (e : Nat → Nat)
    (hD : DynInv e m) : JsonLeavesDyn e m (loadJson f false m) := by
  obtain ⟨m1, ed, d⟩ := declare_ok (f.levelOfVar.map (·.1)) m hD.inv hD.order
  have k1 : DynLeft e m m1 := ⟨by rw [d.lastLen], fun _ => d.contains, d.roots, fun w _ hm => d.held w hm⟩
  exact loadJson_false_dyn_from f ed (hD.declared d)
    (fun roots mb kb D => ⟨nofun, k1.trans kb, D⟩)
    (fun er mb hne kb D => ⟨fun h => hne (Except.error.inj h), k1.trans kb, D⟩)

end DD
