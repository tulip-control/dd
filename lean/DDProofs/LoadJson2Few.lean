/-
  DDProofs.LoadJson2Few — `_copy.load_json(file, bdd, load_order=False)` on ANY content from
  EVERY state as between two calls (`LoadStart`: dynamic reordering enabled or not, ANY number of
  declared variables).  With at least two variables once the file's are declared, the run is the one
  of DDProofs.LoadJson2Dyn.  With FEWER, a request that fires inside `bdd.var` / `bdd.ite` makes
  `reorder(bdd)` raise (`ValueError`: sifting needs two variables) after its collection; the decorator
  lets it through with `_last_len = None` (`tryToReorder_few_any`, DDProofs.Reach2), `_make_node` fails and
  the `except` clause releases the shelf: dynamic reordering is left switched OFF.
-/
import DDProofs.LoadJson2Order
import DDProofs.LoadJson2Dyn
open Std
namespace DD

theorem LoadStart.dynInv {e : Nat → Nat} {m : Mgr} (h : LoadStart e m) (h2 : 2 ≤ m.nvars) : DynInv e m :=
  ⟨h.inv, h.order, h.refs, h.ctx, h.sched, h.roots, h2⟩

theorem LoadStart.declared {e : Nat → Nat} {names : List String} {m m' : Mgr} (h : LoadStart e m)
    (d : Declared names m m') : LoadStart e m' :=
  ⟨d.inv, d.order, d.refs h.refs, d.ctx.trans h.ctx, d.sched.trans h.sched, by rw [d.roots]; exact h.roots⟩

theorem declare_loadStart (e : Nat → Nat) (names : List String) :
    ∀ (m : Mgr), LoadStart e m →
      ∃ m', declare names m = (.ok (), m') ∧ LoadStart e m' ∧
        (∀ (v : String) (i : Nat), m.tbl.vars[v]? = some i → m'.tbl.vars[v]? = some i) ∧
        m'.roots = m.roots ∧ m'.lastLen = m.lastLen ∧
        (∀ u, m.tbl.Mem u → m'.tbl.Mem u ∧ ∀ σ, denN m'.tbl u σ = denN m.tbl u σ) ∧
        m.nvars ≤ m'.nvars := fun m h =>
  have ⟨m', e1, d⟩ := declare_ok names m h.inv h.order
  ⟨m', e1, h.declared d, d.vars, d.roots, d.lastLen, d.held, d.nvars⟩

/-- what a decorated call with arbitrary arguments leaves when fewer than two variables are
declared: never the signal; the state as between two calls for the same ledger; the same
variables and roots; every held reference kept by name; reordering not switched ON -/
structure FewOut {α : Type} (e : Nat → Nat) (m : Mgr) (res : Except Err α × Mgr) : Prop where
  noSignal : res.1 ≠ .error .needsReordering
  start : LoadStart e res.2
  nvars : res.2.nvars = m.nvars
  names : ∀ s : String, res.2.tbl.vars.contains s = m.tbl.vars.contains s
  roots : res.2.roots = m.roots
  held : ∀ w, HeldX e w → res.2.tbl.Mem w ∧ ∀ σ, denN res.2.tbl w σ = denN m.tbl w σ
  switch : res.2.lastLen.isSome = true → m.lastLen.isSome = true

/-- GENERIC: the decorator around a body that accepts arbitrary arguments (`TotE`), fewer than
two variables declared, whatever the switch, the registered roots held by the caller -/
theorem tryToReorder_fewL {α : Type} (e : Nat → Nat) (f : M α)
    (hbody : ∀ m0 : Mgr, Inv m0 → m0.ctx = true → OrderOK m0.tbl → TotE m0 (f m0))
    (m : Mgr) (h : LoadStart e m) (hfew : m.nvars < 2) : FewOut e m (tryToReorder f m) := by
  obtain ⟨hn, k, _⟩ := tryToReorder_few_any e f hbody m
    ⟨h.inv, h.order, h.refs, Or.inl h.ctx, h.roots⟩ h.ctx hfew
  exact ⟨hn, ⟨k.inv.inv, k.inv.order, k.inv.refExact, k.ctx, k.sched h.sched, k.inv.rootsHeld⟩,
    k.nvars, k.names, k.roots, k.held, k.switch⟩

theorem Decorated.fewL {m : Mgr} {e : Nat → Nat} {x : Except Err Int × Mgr} (hd : Decorated m x)
    (h : LoadStart e m) (hfew : m.nvars < 2) : FewOut e m x := by
  cases hd with
  | same r hr =>
    exact ⟨hr, h, rfl, fun _ => rfl, rfl, fun w hw => ⟨hw.mem h.refs, fun _ => rfl⟩, id⟩
  | body f hf => exact tryToReorder_fewL e f (fun m0 hI hc _ => hf m0 hI hc) m h hfew

/-- the state between two steps of the loader: `LoadStart` for the caller's ledger plus the
loader's, the registered roots held by the CALLER, fewer than two variables -/
structure FewL (e : Nat → Nat) (l : List Nat) (m : Mgr) : Prop where
  start : LoadStart (extAdd e l) m
  roots0 : ∀ r ∈ m.roots, 0 < e r.natAbs
  few : m.nvars < 2

/-- what the loader keeps for its caller: names, roots, held references by name; dynamic
reordering is not switched ON (a failed sifting switches it off) -/
structure FewLeft (e : Nat → Nat) (m m' : Mgr) : Prop where
  names : ∀ s : String, m.tbl.vars.contains s = true → m'.tbl.vars.contains s = true
  roots : m'.roots = m.roots
  held : ∀ w, HeldX e w → m.tbl.Mem w → m'.tbl.Mem w ∧ ∀ σ, denN m'.tbl w σ = denN m.tbl w σ
  switch : m'.lastLen.isSome = true → m.lastLen.isSome = true

theorem FewLeft.refl (e : Nat → Nat) (m : Mgr) : FewLeft e m m :=
  ⟨fun _ h => h, rfl, fun _ _ hm => ⟨hm, fun _ => rfl⟩, fun h => h⟩

theorem FewLeft.trans {e : Nat → Nat} {a b c : Mgr} (h1 : FewLeft e a b) (h2 : FewLeft e b c) :
    FewLeft e a c :=
  ⟨fun s h => h2.names s (h1.names s h), h2.roots.trans h1.roots,
    fun w hw hm =>
      have a1 := h1.held w hw hm
      byName_trans a1 (h2.held w hw a1.1),
    fun h => h1.switch (h2.switch h)⟩

def fewCalc (e : Nat → Nat) : LCalc e where
  G := fun l m => FewL e l m
  K := FewLeft e
  inv := fun h => h.start.inv
  exact := fun h => h.start.refs
  refl := FewLeft.refl e
  trans := FewLeft.trans
  setRef := fun l' _ h hI hr =>
    ⟨⟨hI, h.start.order, hr, h.start.ctx, h.start.sched,
        fun x hx => by have := h.roots0 x hx; simp only [extAdd]; omega⟩, h.roots0, h.few⟩
  kRef := fun _ _ => ⟨fun _ h => h, rfl, fun _ _ hm => ⟨hm, fun _ => rfl⟩, fun h => h⟩

theorem fewCalc_decorated (e : Nat → Nat) (x : M Int) (hd : ∀ m, Decorated m (x m)) :
    PrimOK (fewCalc e) x := by
  intro l m hg
  have hg' : FewL e l m := hg
  have F := (hd m).fewL hg'.start hg'.few
  refine ⟨F.noSignal, ⟨fun s hs => by rw [F.names s]; exact hs, F.roots,
    fun w hw _ => F.held w (hw.extAdd l), F.switch⟩, ?_⟩
  show FewL e l (x m).2
  exact ⟨F.start, fun r hr => by rw [F.roots] at hr; exact hg'.roots0 r hr, by rw [F.nvars]; exact hg'.few⟩

/-- what `load_json(load_order=False)` leaves behind, whatever the content, the outcome, the
switch and the number of variables: never the internal signal; names, `bdd.roots`, held
references by name; the state as between two calls with the counts exact for the caller's ledger
plus ONE reference per returned `Function` — for the caller's ledger itself when the call raised;
dynamic reordering is not switched on, and it is exactly what it was when at least two variables
are declared once the line `level_of_var` is read -/
structure JsonLeavesStart (f : JsonFile) (e : Nat → Nat) (m : Mgr) (out : Except Err Roots × Mgr) : Prop where
  noSignal : out.1 ≠ .error .needsReordering
  names : ∀ s : String, m.tbl.vars.contains s = true → out.2.tbl.vars.contains s = true
  roots : out.2.roots = m.roots
  held : ∀ w, HeldX e w → out.2.tbl.Mem w ∧ ∀ σ, denN out.2.tbl w σ = denN m.tbl w σ
  switch : out.2.lastLen.isSome = true → m.lastLen.isSome = true
  switchKept : 2 ≤ (declare (f.levelOfVar.map (·.1)) m).2.nvars → out.2.lastLen.isSome = m.lastLen.isSome
  state : match out.1 with
    | .ok roots => LoadStart (extAdd e (roots.values.map Int.natAbs)) out.2
    | .error _ => LoadStart e out.2

theorem DynLeft.toFew {e : Nat → Nat} {m m' : Mgr} (h : DynLeft e m m') : FewLeft e m m' :=
  ⟨h.names, h.roots, h.held, fun hh => h.enabled ▸ hh⟩

theorem loadJson_false_any_start (f : JsonFile) (m : Mgr) (e : Nat → Nat) (h : LoadStart e m) :
    JsonLeavesStart f e m (loadJson f false m) := by
  obtain ⟨m1, ed, d⟩ := declare_ok (f.levelOfVar.map (·.1)) m h.inv h.order
  have S1 : LoadStart e m1 := h.declared d
  -- what the caller has, from what the loader's steps keep after the line `level_of_var`
  have fin : ∀ {mb : Mgr} (r : Except Err Roots), FewLeft e m1 mb →
      (2 ≤ m1.nvars → mb.lastLen.isSome = m1.lastLen.isSome) → r ≠ .error .needsReordering →
      (match r with
        | .ok roots => LoadStart (extAdd e (roots.values.map Int.natAbs)) mb
        | .error _ => LoadStart e mb) → JsonLeavesStart f e m (r, mb) := by
    intro mb r kb hsw hr hst
    refine ⟨hr, fun s hs => kb.names s (d.contains hs), kb.roots.trans d.roots, fun w hw => ?_,
      fun hh => d.lastLen ▸ kb.switch hh, fun h2 => ?_, hst⟩
    · obtain ⟨a1, a2⟩ := d.held w (hw.mem h.refs)
      obtain ⟨b1, b2⟩ := kb.held w hw a1
      exact ⟨b1, fun σ => (b2 σ).trans (a2 σ)⟩
    · rw [ed] at h2
      exact (hsw h2).trans (congrArg _ d.lastLen)
  by_cases h2 : 2 ≤ m1.nvars
  · -- the run of DDProofs.LoadJson2Dyn from `m1`
    exact loadJson_false_dyn_from f ed (S1.dynInv h2)
      (fun _ _ kb D => fin _ kb.toFew (fun _ => kb.enabled) nofun D.loadStart)
      (fun _ _ hne kb D => fin _ kb.toFew (fun _ => kb.enabled) (fun h => hne (Except.error.inj h))
        D.loadStart)
  · -- fewer than two variables
    exact loadJson_false_calc (P := JsonLeavesStart f e m) (fewCalc e) f ed (fewCalc_decorated e)
      (show FewL e [] m1 from ⟨by rwa [extAdd_nil], S1.roots, by omega⟩)
      (fun _ _ kb g => fin _ kb (fun h2' => absurd h2' h2) nofun (FewL.start g))
      (fun _ _ hne kb g => fin _ kb (fun h2' => absurd h2' h2) (fun h => hne (Except.error.inj h))
        (by simpa [extAdd_nil] using FewL.start g))

theorem declare_nvars_le (names : List String) (m : Mgr) (e : Nat → Nat) (h : LoadStart e m) :
    m.nvars ≤ (declare names m).2.nvars := by
  obtain ⟨m1, ed, d⟩ := declare_ok names m h.inv h.order
  rw [ed]; exact d.nvars

end DD
