/-
  DDProofs.LoadJson2Off — the ledger calculus of DDProofs.LoadJson2Calc for a manager in which
  dynamic reordering is NOT enabled (`GoodState`: steps only add nodes), and its first use: the
  JSON loader never lets the internal reordering signal escape.
-/
import DDProofs.LoadJson2Calc
import DDProofs.LoadRejected
open Std
namespace DD

theorem offCalc_decorated (e : Nat → Nat) (x : M Int) (hd : ∀ m, Decorated m (x m)) :
    PrimOK (offCalc e) x := by
  intro l m hg
  obtain ⟨hn, k, g⟩ := (hd m).good_off (show GoodState m (extAdd e l) from hg)
  exact ⟨hn, k.toW, g⟩

/-- `_copy.load_json(file, bdd, load_order=False)` on ANY content, dynamic reordering not
enabled, EVERY outcome: never the internal signal; `KeptV` and a between-calls state with the
counts exact for the caller's ledger plus one reference per returned `Function` — for the
caller's ledger itself when the call raised (`JsonLeaves`) -/
theorem loadJson_false_any_noSignal (f : JsonFile) (m : Mgr) (e : Nat → Nat) (hg : GoodState m e) :
    (loadJson f false m).1 ≠ .error .needsReordering ∧ JsonLeaves e m (loadJson f false m) := by
  obtain ⟨m1, ed, d⟩ := declare_ok (f.levelOfVar.map (·.1)) m hg.inv hg.order
  have g1 := d.good hg
  have kv1 : KeptV m m1 := by
    have := declare_keptV (f.levelOfVar.map (·.1)) m hg.inv
    rw [ed] at this; exact this
  have fin : ∀ {mb : Mgr} {l : List Nat}, KeptW m1 mb → GoodState mb (extAdd e l) →
      KeptV m mb ∧ GoodState mb (extAdd e l) := fun kb g => ⟨kv1.trans ((kb.kept g.inv).toV kv1.inv), g⟩
  refine loadJson_false_calc (P := fun out => out.1 ≠ .error .needsReordering ∧ JsonLeaves e m out)
    (offCalc e) f ed (offCalc_decorated e)
    (show GoodState m1 (extAdd e []) by rwa [extAdd_nil]) (fun roots mb kb g => ⟨nofun, fin kb g⟩)
    (fun er mb hne kb g => ⟨fun h => hne (Except.error.inj h), ?_⟩)
  have := fin kb g
  rwa [extAdd_nil] at this

theorem loadJson_false_any (f : JsonFile) (m : Mgr) (e : Nat → Nat) (hg : GoodState m e) :
    JsonLeaves e m (loadJson f false m) := (loadJson_false_any_noSignal f m e hg).2

end DD
