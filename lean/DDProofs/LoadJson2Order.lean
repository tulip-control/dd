/-
  DDProofs.LoadJson2Order — `_copy.load_json(file, bdd, load_order=True)` on ANY content.  The code
  (`dd/_copy.py`, mirrored by `DD.loadJson`) switches dynamic reordering OFF first; the explicit
  `reorder(order)` runs when the line `level_of_var` is read — at the BEGINNING, whether or not the
  load fails later; it refuses other variables and accepts duplicate / gapped levels.  `_make_node`
  refuses the terminal's id (F18) and a level not above both successors (F20): exactly `FoaGuard`, the
  documented precondition of the RAW `find_or_add` it then calls.  The assertions on the counts run in
  their own loop INSIDE the `try:` (F19).  A failed load leaves the switch OFF, a successful one
  ENABLED (`configure` is given back the dict it returned: truthy).
  Here `SafeC.makeNodeT` and the vocabulary (`LeftN`, `LoadStart`, `JsonOrderLeaves`); the theorem,
  `loadJson_true_any`, is in DDProofs.LoadJson2OrderSched.
-/
import DDProofs.LoadJson2Calc
import DDProofs.Reach2
open Std
namespace DD

theorem Stable.and {e : Nat → Nat} {C : LCalc e} {F G : Mgr → Prop} (hF : Stable C F) (hG : Stable C G) :
    Stable C (fun m => F m ∧ G m) := fun m m' k h => ⟨hF m m' k h.1, hG m m' k h.2⟩

/-- the node `u` is there, at level `j` -/
def LvIs (u : Int) (j : Nat) (m : Mgr) : Prop := m.tbl.Mem u ∧ m.tbl.levelOf u = j

theorem LvIs.stable (e : Nat → Nat) (u : Int) (j : Nat) : Stable (offCalc e) (LvIs u j) := by
  intro m m' k h
  have k' : KeptW m m' := k
  exact ⟨k'.1.mem h.1, by rw [k'.1.levelOf h.1]; exact h.2⟩

/-- the variable `name` is at level `j` -/
def VarAt (name : String) (j : Nat) (m : Mgr) : Prop := m.tbl.vars[name]? = some j

theorem VarAt.stable (e : Nat → Nat) (name : String) (j : Nat) : Stable (offCalc e) (VarAt name j) := by
  intro m m' k h
  have k' : KeptW m m' := k
  unfold VarAt
  rw [k'.2.vars]; exact h

/-- `bdd.level_of_var(var)` -/
theorem SafeC.levelOfVar {e : Nat → Nat} {C : LCalc e} {F : Mgr → Prop} {l : List Nat} (name : String) :
    SafeC C F l l (levelOfVar name) (fun j l' m' => l' = l ∧ VarAt name j m') := by
  intro m hg _
  rcases levelOfVar_cases name m with ⟨j, hv, e⟩ | e <;> rw [e]
  · exact ⟨nofun, C.refl m, l, ⟨rfl, hv⟩, hg⟩
  · exact ⟨nofun, C.refl m, hg⟩

/-- `Function.level` -/
theorem SafeC.functionLevel {e : Nat → Nat} {C : LCalc e} {F : Mgr → Prop} {l : List Nat} (u : Int) :
    SafeC C F l l (functionLevel u) (fun j l' m' => l' = l ∧ LvIs u j m') := by
  intro m hg _
  by_cases hu : m.tbl.Mem u
  · rw [functionLevel_ok m u hu]
    exact ⟨nofun, C.refl m, l, ⟨rfl, hu, rfl⟩, hg⟩
  · have heq : DD.functionLevel u m = (.error .key, m) := by
      unfold DD.functionLevel
      simp only [M.bind_eq, M.get_eq, levelOf?_none_of_not_mem m.tbl u hu, M.ofOption_none]
    rw [heq]
    exact ⟨nofun, C.refl m, hg⟩

/-- the raw `find_or_add(level, low, high)` outside a reordering context, its documented
precondition met (`FoaGuard`: the level is above both successors): any outcome keeps the manager
and the counts -/
theorem SafeC.foaOff (e : Nat → Nat) {F : Mgr → Prop} {l : List Nat} (j : Nat) (v w : Int) :
    SafeC (offCalc e) (fun m => F m ∧ FoaGuard m j v w) l l (findOrAdd (j : Int) v w)
      (fun _ l' _ => l' = l) := by
  intro m hg hF
  have hg' : GoodState m (extAdd e l) := hg
  have hguard := hF.2
  have heq : findOrAdd (j : Int) v w m = findOrAddCore j v w m := by
    rw [findOrAdd_quiet m (Or.inl hg'.ctx)]
    have : ¬ ((j : Int) < 0) := by omega
    simp only [this, if_false, Int.toNat_natCast]
  rw [heq]
  have k := findOrAddCore_total m hg'.inv j v w hguard
  have hr := findOrAddCore_refExact m (extAdd e l) j v w hg'.inv.wf.toWF.closed hg'.exact
  have hn := findOrAddCore_noNR m j v w
  have g2 : GoodState (findOrAddCore j v w m).2 (extAdd e l) := hg'.of_kept k hr
  refine ⟨hn, k.toW, ?_⟩
  cases hres : findOrAddCore j v w m with
  | mk r m' =>
    rw [hres] at g2
    cases r with
    | error er => exact g2
    | ok u => exact ⟨l, rfl, g2⟩

/-- `_make_node` (`load_order=True`) on ANY line and ANY shelf: the line is skipped, or its node
is put on the shelf with one reference, or an exception — `ValueError` when the line's level is
not above its successors' — leaves the counts as they were -/
theorem SafeC.makeNodeT (e : Nat → Nat) {l : List Nat} (vat : List (Nat × String))
    (ln : JLine) (cache : List (Nat × Int)) :
    SafeC (offCalc e) (fun _ => True) l l (makeNode true vat ln cache)
      (fun c' l' _ => (c' = cache ∧ l' = l) ∨
        (cache.lookup ln.id = none ∧ 1 < ln.id ∧ PostT cache ln.id l c' l')) := by
  have hS0 : Stable (offCalc e) (fun _ => True) := Stable.true _
  refine SafeC.makeNode_of_body hS0 true vat ln cache fun low high name => ?_
  rw [makeNodeBody_true]
  -- `i = bdd.level_of_var(var)`, `low.level`, `high.level`
  refine SafeC.bindS hS0 (SafeC.levelOfVar name) fun j l1 hl1 => ?_
  rw [hl1]
  have hS1 : Stable (offCalc e) (fun m => True ∧ VarAt name j m) := Stable.and hS0 (VarAt.stable e name j)
  refine SafeC.bindS hS1 (SafeC.functionLevel low) fun jl l1 hl1 => ?_
  rw [hl1]
  have hS2 : Stable (offCalc e) (fun m => (True ∧ VarAt name j m) ∧ LvIs low jl m) :=
    Stable.and hS1 (LvIs.stable e low jl)
  refine SafeC.bindS hS2 (SafeC.functionLevel high) fun jh l1 hl1 => ?_
  rw [hl1]
  have hS3 : Stable (offCalc e) (fun m => ((True ∧ VarAt name j m) ∧ LvIs low jl m) ∧ LvIs high jh m) :=
    Stable.and hS2 (LvIs.stable e high jh)
  -- `if i >= low.level or i >= high.level: raise ValueError`
  by_cases hchk : (!(decide (j < jl) && decide (j < jh))) = true
  · rw [if_pos hchk]
    exact SafeC.throw _ (by simp)
  rw [if_neg hchk]
  simp only [Bool.not_eq_true', Bool.not_eq_false, Bool.and_eq_true, decide_eq_true_eq] at hchk
  obtain ⟨hjl, hjh⟩ := hchk
  -- `u = self._bdd.find_or_add(level, low.node, high.node)`
  refine SafeC.bindL hS3 ?_ (SafeC.shelveNode hS3 cache ln.id)
  refine (SafeC.foaOff e (F := fun m => ((True ∧ VarAt name j m) ∧ LvIs low jl m) ∧ LvIs high jh m)
    j low high).weakenF fun m hF => ⟨hF, fun _ _ _ => ⟨?_, ?_⟩⟩
  · rw [hF.1.2.2]; exact hjl
  · rw [hF.2.2]; exact hjh

/-- the table given to `reorder` -/
def orderOf (L : List (String × Nat)) : List (String × Int) := L.map fun x => (x.1, (x.2 : Int))

theorem jsonHeader_true_eq (f : JsonFile) (m m1 : Mgr)
    (h : declare (f.levelOfVar.map (·.1)) m = (.ok (), m1)) :
    jsonHeader f true m = reorder (some (orderOf f.levelOfVar)) m1 := by
  unfold jsonHeader
  refine (M.bind_ok h).trans ?_
  simp only [if_true]
  rfl

/-- what the caller of `_load_json` keeps, by NAME (the explicit `reorder(order)` moves levels):
declared names stay declared, `bdd.roots` is untouched, every reference the caller holds is still
a node and denotes the same function of the variable names -/
structure LeftN (e : Nat → Nat) (m m' : Mgr) : Prop where
  names : ∀ s : String, m.tbl.vars.contains s = true → m'.tbl.vars.contains s = true
  roots : m'.roots = m.roots
  held : ∀ w, HeldX e w → m'.tbl.Mem w ∧ ∀ σ, denN m'.tbl w σ = denN m.tbl w σ

theorem LeftN.ofKeptW {e : Nat → Nat} {m m' : Mgr} (hI : Inv m) (hr : RefExact m e) (k : KeptW m m') :
    LeftN e m m' :=
  ⟨fun s hs => by rw [k.2.vars]; exact hs, k.2.roots,
    fun _ hw => k.1.byName k.2.l2v hI.wf.toWF (hw.mem hr)⟩

theorem LeftN.trans {e : Nat → Nat} {a b c : Mgr} (h1 : LeftN e a b) (h2 : LeftN e b c) : LeftN e a c :=
  ⟨fun s h => h2.names s (h1.names s h), h2.roots.trans h1.roots,
    fun w hw => byName_trans (h1.held w hw) (h2.held w hw)⟩

/-- the state `load_json` starts from: as between two calls, dynamic reordering enabled or not,
default iteration schedule, the registered roots held by the caller (`DynInv` without "two
variables") -/
structure LoadStart (e : Nat → Nat) (m : Mgr) : Prop where
  inv : Inv m
  order : OrderOK m.tbl
  refs : RefExact m e
  ctx : m.ctx = false
  sched : m.sched = []
  roots : ∀ r ∈ m.roots, 0 < e r.natAbs

theorem DynInv.loadStart {e : Nat → Nat} {m : Mgr} (h : DynInv e m) : LoadStart e m :=
  ⟨h.inv, h.order, h.refs, h.ctx, h.sched, h.roots⟩

theorem Good3.loadStart {m : Mgr} {ext : Nat → Nat} (h : Good3 m ext) : LoadStart ext m :=
  ⟨h.inv, h.order, h.exact, h.ctx, h.sched, fun r hr => by rw [h.roots] at hr; cases hr⟩

/-- what `load_json(load_order=True)` leaves behind, whatever the content and the outcome.
`left`: the caller's names, `bdd.roots` and references (by NAME — the explicit reordering of the
line `level_of_var` may have moved every level).  `inv`, `order`, `ctx`, `sched`, `counts`: the
state is as between two calls, with the counts exact for the caller's ledger plus one reference
per returned `Function` — for the caller's ledger itself when the call raised.  `switch`:
dynamic reordering is ENABLED after a successful load and OFF after a failed one, whatever it
was (the code passes the dict returned by `configure` back to `configure`, and does not reach
that line when it raises).  `sorted`: when the line `level_of_var` was read, the variables are —
and stay, also when the load fails later — sorted by the file's numbers. -/
structure JsonOrderLeaves (f : JsonFile) (e : Nat → Nat) (m : Mgr) (out : Except Err Roots × Mgr) : Prop where
  noSignal : out.1 ≠ .error .needsReordering
  left : LeftN e m out.2
  inv : Inv out.2
  order : OrderOK out.2.tbl
  ctx : out.2.ctx = false
  sched : out.2.sched = []
  switch : match out.1 with
    | .ok _ => out.2.lastLen = some (max Gen.reorderStarts out.2.len)
    | .error _ => out.2.lastLen = none
  counts : match out.1 with
    | .ok roots => RefExact out.2 (extAdd e (roots.values.map Int.natAbs))
    | .error _ => RefExact out.2 e
  sorted : (jsonHeader f true { m with lastLen := none }).1 = .ok () →
    SortedBy (orderOf f.levelOfVar) out.2

end DD
