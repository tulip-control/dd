/-
  DDProofs.LoadJson2OrderSched — `_copy.load_json(file, bdd, load_order=True)` on ANY content, EVERY
  outcome, for EVERY RECORDED SCHEDULE.  Dynamic reordering is switched off first, so the only
  consumer of the schedule is the explicit `reorder(order)` of the line `level_of_var`: it returns, or
  refuses (`ValueError`), or the model reports `.sched` — in every case in a good state
  (`reorder_keepS`) with a suffix of the schedule left; the rest of the load neither reads nor writes
  the schedule.  ACCEPTANCE: a schedule that begins with the record of a choice-driven
  `reorder(order)` (DDProps.C07Accept) does not make the load answer `.sched`.
-/
import DDProofs.LoadJson2Order
import DDProofs.SchedAccept
import DDProofs.SchedNaturalOps
import DDProofs.Declare
open Std
namespace DD

theorem LeftN.ofRelS {e : Nat → Nat} {m m' : Mgr} (hI : Inv m) (hI' : Inv m') (hr : RefExact m e)
    (hr' : RefExact m' e) (h : RelS e m m') : LeftN e m m' :=
  ⟨fun s hs => by rw [h.names s]; exact hs, h.roots, fun _ hw => h.held.heldX hI hI' hr hr' hw⟩

/-- the line `level_of_var` with `load_order=True`, ANY table (a `dict`: distinct names), ANY recorded
schedule: it is read without an exception; or `reorder(order)` refuses (`ValueError`: the manager
has other variables — a `KeyError` half-way cannot happen, every name of the table has just been
declared); or the model reports that the recorded schedule does not fit (only if one was
recorded).  The state is good for the same ledger in every case, a suffix of the schedule is left,
the caller's references are kept by name; when the line was read the variables are sorted by the
file's numbers -/
theorem jsonHeader_true_anyS (f : JsonFile) (hnd : (f.levelOfVar.map (·.1)).Nodup) (m0 : Mgr)
    (e : Nat → Nat) (g0 : GoodState m0 e) (hroots : ∀ r ∈ m0.roots, 0 < e r.natAbs) :
    ∃ r m2, jsonHeader f true m0 = (r, m2) ∧
      (r = .ok () ∨ r = .error .value ∨ (r = .error .sched ∧ m0.sched ≠ [])) ∧
      GoodState m2 e ∧ m2.sched <:+ m0.sched ∧ LeftN e m0 m2 ∧
      (r = .ok () → SortedBy (orderOf f.levelOfVar) m2) := by
  obtain ⟨m1, ed, d⟩ := declare_ok (f.levelOfVar.map (·.1)) m0 g0.inv g0.order
  have g1 := d.good g0
  have left1 : LeftN e m0 m1 := ⟨fun _ => d.contains, d.roots, fun w hw => d.held w (hw.mem g0.exact)⟩
  have hRI : ReorderInv e m1 := d.reorderInv g0 hroots
  rw [jsonHeader_true_eq f m0 m1 ed]
  let order := orderOf f.levelOfVar
  have hK := reorder_keepS e m1 hRI (some order)
  by_cases hlen : order.length = m1.nvars
  · -- every name of the table is declared, and the manager has no other variable: covered
    have hcov : Covered order m1.nvars m1 := by
      have hsub : ∀ v ∈ f.levelOfVar.map (·.1), v ∈ m1.tbl.vars.keys := by
        intro v hv
        rw [TreeMap.mem_keys, TreeMap.mem_iff_isSome_getElem?]
        exact d.declared v hv
      have hlen' : m1.tbl.vars.keys.length ≤ (f.levelOfVar.map (·.1)).length := by
        rw [TreeMap.length_keys]
        have h1 : order.length = f.levelOfVar.length := by simp [order, orderOf]
        have h2 : m1.nvars = m1.tbl.vars.size := rfl
        simp only [List.length_map]
        omega
      have hall := perm_of_nodup_subset_length hnd hsub hlen'
      intro i hi
      obtain ⟨v, hv⟩ := g1.order.total i hi
      have hvv : m1.tbl.vars[v]? = some i := (g1.order.inv v i).mpr hv
      have hk : v ∈ m1.tbl.vars.keys := by
        rw [TreeMap.mem_keys, TreeMap.mem_iff_isSome_getElem?, hvv]; rfl
      obtain ⟨⟨a, lv⟩, hal, rfl⟩ := List.mem_map.mp (hall.mem_iff.mpr hk)
      exact ⟨a, (lv : Int), hv, lookup_map_snd (fun l : Nat => (l : Int)) f.levelOfVar hnd a lv hal⟩
    have hS' : OkOr (fun er => er = Err.sched) (fun _ m' => ReorderInv e m' ∧ ReorderRel e m1 m' ∧
        m'.nvars = m1.nvars ∧ Covered order m1.nvars m' ∧ SortedBy order m' ∧ PermOf m1 m')
        (reorder (some order) m1) := sortToOrder_sorted (swapOK e) order m1 hRI hlen hcov
    have hdef : m0.sched = [] → (reorder (some order) m1).1 ≠ .error .sched := fun hs =>
      isSchedErr_false ((no_sched_report e m1 hRI (d.sched.trans hs)).2.2 order)
    generalize hres : reorder (some order) m1 = res at hK hS' hdef
    obtain ⟨r, m2⟩ := res
    have fin : ReorderInv e m2 ∧ RelS e m1 m2 → GoodState m2 e ∧ m2.sched <:+ m0.sched ∧ LeftN e m0 m2 :=
      fun ⟨RI2, RS⟩ =>
        ⟨⟨RI2.inv, RI2.order, RI2.refExact, by rw [RS.lastLen]; exact g1.off, by rw [RS.ctx]; exact g1.ctx⟩,
          by rw [← d.sched]; exact RS.sched, left1.trans (LeftN.ofRelS g1.inv RI2.inv g1.exact RI2.refExact RS)⟩
    cases r with
    | ok u =>
      obtain ⟨g2, hs2, left2⟩ := fin hK
      exact ⟨_, m2, rfl, Or.inl rfl, g2, hs2, left2, fun _ => hS'.2.2.2.2.1⟩
    | error er =>
      obtain rfl : er = Err.sched := hS'
      obtain ⟨g2, hs2, left2⟩ := fin (hK rfl)
      exact ⟨_, m2, rfl, Or.inr (Or.inr ⟨rfl, fun hs => hdef hs rfl⟩), g2, hs2, left2, fun h => by cases h⟩
  · have hne : m1.nvars ≠ order.length := fun h => hlen h.symm
    have hrun := reorder_bad_length m1 order hne
    exact ⟨_, m1, hrun, Or.inr (Or.inl rfl), g1, by rw [d.sched]; exact List.suffix_refl _, left1,
      fun h => by cases h⟩

/-- the state `load_json` starts from, any recorded schedule -/
structure LoadStartS (e : Nat → Nat) (m : Mgr) : Prop where
  inv : Inv m
  order : OrderOK m.tbl
  refs : RefExact m e
  ctx : m.ctx = false
  roots : ∀ r ∈ m.roots, 0 < e r.natAbs

theorem DynInvS.loadStartS {e : Nat → Nat} {m : Mgr} (h : DynInvS e m) : LoadStartS e m :=
  ⟨h.inv, h.order, h.refs, h.ctx, h.roots⟩

theorem LoadStartS.goodOff {e : Nat → Nat} {m : Mgr} (h : LoadStartS e m) :
    GoodState { m with lastLen := none } e := goodOff_of h.inv h.order h.refs h.ctx

/-- what `load_json(load_order=True)` leaves behind under ANY recorded schedule, whatever the
content and the outcome: `JsonOrderLeaves` with "a suffix of the schedule is left" for "no schedule
is left", and the model's `.sched` only if a schedule was recorded -/
structure JsonOrderLeavesS (f : JsonFile) (e : Nat → Nat) (m : Mgr) (out : Except Err Roots × Mgr) : Prop where
  noSignal : out.1 ≠ .error .needsReordering
  /-- the explicit `reorder(order)` of the header — the only consumer of the schedule — reports a
  mismatch only if a schedule was recorded -/
  schedErr : (jsonHeader f true { m with lastLen := none }).1 = .error .sched → m.sched ≠ []
  left : LeftN e m out.2
  inv : Inv out.2
  order : OrderOK out.2.tbl
  ctx : out.2.ctx = false
  sched : out.2.sched <:+ m.sched
  switch : match out.1 with
    | .ok _ => out.2.lastLen = some (max Gen.reorderStarts out.2.len)
    | .error _ => out.2.lastLen = none
  counts : match out.1 with
    | .ok roots => RefExact out.2 (extAdd e (roots.values.map Int.natAbs))
    | .error _ => RefExact out.2 e
  sorted : (jsonHeader f true { m with lastLen := none }).1 = .ok () →
    SortedBy (orderOf f.levelOfVar) out.2

theorem JsonOrderLeavesS.default {f : JsonFile} {e : Nat → Nat} {m : Mgr} {out : Except Err Roots × Mgr}
    (h : JsonOrderLeavesS f e m out) (hs : m.sched = []) : JsonOrderLeaves f e m out :=
  ⟨h.noSignal, h.left, h.inv, h.order, h.ctx, List.suffix_nil.mp (hs ▸ h.sched), h.switch, h.counts, h.sorted⟩

/-- `_copy.load_json(file, bdd, load_order=True)`, ANY content, ANY recorded schedule, EVERY outcome -/
theorem loadJson_true_anyS (f : JsonFile) (hnd : (f.levelOfVar.map (·.1)).Nodup) (m : Mgr) (e : Nat → Nat)
    (h : LoadStartS e m) : JsonOrderLeavesS f e m (loadJson f true m) := by
  rw [loadJson_true_eq]
  have g0 := h.goodOff
  have left0 : LeftN e m { m with lastLen := none } :=
    ⟨fun _ hs => hs, rfl, fun w hw => ⟨hw.mem h.refs, fun _ => rfl⟩⟩
  obtain ⟨r, m2, hh, hr, g2, hs2, left2, hsorted⟩ :=
    jsonHeader_true_anyS f hnd { m with lastLen := none } e g0 h.roots
  have hs2' : m2.sched <:+ m.sched := hs2
  have left02 := left0.trans left2
  cases r with
  | error er =>
    obtain ⟨hne, hsch⟩ : er ≠ .needsReordering ∧ (er = .sched → m.sched ≠ []) := by
      rcases hr with hr | hr | ⟨hr, hs⟩ <;> cases hr
      · exact ⟨nofun, nofun⟩
      · exact ⟨nofun, fun _ => hs⟩
    rw [jsonTry_header_err f true _ m2 er hh]
    obtain ⟨r', hfin, g⟩ := jsonFinish_errC (offCalc e) f true er [] (by simp) (by simp) none m2
      (show GoodState m2 (extAdd e ((none : Option Int).toList.map Int.natAbs ++ shelfRefs [])) by
        simpa [shelfRefs, extAdd_nil] using g2)
    have g' : GoodState { m2 with ref := r' } (extAdd e []) := g
    rw [extAdd_nil] at g'
    rw [hfin]
    have kw : KeptW m2 { m2 with ref := r' } := (offCalc e).kRef m2 r'
    refine ⟨(fun hh => hne (by cases hh; rfl)), (fun hc => hsch (by rw [hh] at hc; cases hc; rfl)),
      left02.trans (LeftN.ofKeptW g2.inv g2.exact kw),
      g'.inv, g'.order, g'.ctx, hs2', g'.off, g'.exact, fun hok => ?_⟩
    rw [hh] at hok; cases hok
  | ok _ =>
    have hsort2 := hsorted rfl
    rw [jsonTry_header_ok f true _ m2 hh]
    have hhead : ¬ (jsonHeader f true { m with lastLen := none }).1 = .error .sched := by rw [hh]; nofun
    -- what the caller has, from what the loader's steps keep after the line `level_of_var`
    have fin : ∀ {mb : Mgr} {l : List Nat}, KeptW m2 mb → GoodState mb (extAdd e l) →
        LeftN e m mb ∧ mb.sched <:+ m.sched ∧ SortedBy (orderOf f.levelOfVar) mb := fun kb g =>
      ⟨left02.trans (LeftN.ofKeptW g2.inv g2.exact kb), by rw [kb.2.sched]; exact hs2',
        SortedBy.congr hsort2 kb.2.vars kb.2.l2v⟩
    refine jsonAfterHeader_any (P := JsonOrderLeavesS f e m) (offCalc e) f true
      (fun ln cache _ => SafeC.makeNodeT e _ ln cache) m2 (show GoodState m2 (extAdd e []) by rwa [extAdd_nil])
      (fun roots mb kb g => ?_) (fun er mb hne kb g => ?_)
    · have g' : GoodState mb (extAdd e (roots.values.map Int.natAbs)) := g
      obtain ⟨leftb, hsb, hsortb⟩ := fin kb g'
      simp only [cfgAfter, if_true]
      exact ⟨nofun, fun hc => absurd hc hhead, ⟨leftb.names, leftb.roots, leftb.held⟩,
        g'.inv.setLastLen _,
        g'.order, g'.ctx, hsb, rfl, g'.exact.congr_nodes (fun _ => rfl) rfl, fun _ => hsortb.congr rfl rfl⟩
    · have g' : GoodState mb (extAdd e []) := g
      obtain ⟨leftb, hsb, hsortb⟩ := fin kb g'
      rw [extAdd_nil] at g'
      exact ⟨fun h => hne (Except.error.inj h), fun hc => absurd hc hhead, leftb, g'.inv, g'.order, g'.ctx,
        hsb, g'.off, g'.exact, fun _ => hsortb⟩

theorem LoadStart.toS {e : Nat → Nat} {m : Mgr} (h : LoadStart e m) : LoadStartS e m :=
  ⟨h.inv, h.order, h.refs, h.ctx, h.roots⟩

/-- `_copy.load_json(file, bdd, load_order=True)` on ANY content whose table `level_of_var` is a
`dict` (distinct names), into ANY manager as between two calls — dynamic reordering enabled or
not —, default iteration schedule, EVERY outcome -/
theorem loadJson_true_any (f : JsonFile) (hnd : (f.levelOfVar.map (·.1)).Nodup) (m : Mgr) (e : Nat → Nat)
    (h : LoadStart e m) : JsonOrderLeaves f e m (loadJson f true m) :=
  (loadJson_true_anyS f hnd m e h.toS).default h.sched

theorem addVar_sn (v : String) (level : Option Int) : SN (addVar v level) := by
  intro s m
  unfold addVar
  rw [M.bind_ok (M.get_eq _), M.bind_ok (M.get_eq _)]
  dsimp only [setS_tbl, setS_nvars]
  cases m.tbl.vars[v]? with
  | some vl =>
    cases level with
    | none => rfl
    | some l =>
      dsimp only
      split <;> rfl
  | none =>
    dsimp only
    split
    · rfl
    · cases m.tbl.l2v[(level.getD m.nvars).toNat]? <;> rfl

theorem declare_sn : ∀ (vars : List String), SN (declare vars)
  | [] => fun s m => by rw [declare_nil, declare_nil]
  | v :: vs => by
    intro s m
    rw [declare_cons, declare_cons, addVar_sn v none s m]
    generalize addVar v none m = r
    obtain ⟨r, m1⟩ := r
    cases r with
    | error e => rfl
    | ok _ => exact declare_sn vs s m1

/-- **acceptance for the line `level_of_var`** (`load_order=True`): the record of the
choice-driven `reorder(order)` run after the declarations, put in front of ANY continuation of
the schedule, makes the header return in the state of the choice-driven run, with exactly the
continuation left -/
theorem jsonHeader_true_accepts (f : JsonFile) (m0 m1 : Mgr) (e : Nat → Nat) (c : Choice) (hc : c.Valid)
    (hd : declare (f.levelOfVar.map (·.1)) m0 = (.ok (), m1)) (hRI : ReorderInv e m1)
    (sch : List SchedItem) (m2 : Mgr)
    (hrun : reorderC c (some (orderOf f.levelOfVar)) [] m1 = (.ok ((), sch), m2)) :
    ∀ rest, jsonHeader f true (setS (sch ++ rest) m0) = (.ok (), setS rest m2) := by
  intro rest
  have hd' : declare (f.levelOfVar.map (·.1)) (setS (sch ++ rest) m0) = (.ok (), setS (sch ++ rest) m1) := by
    rw [declare_sn _ _ m0, hd]
  rw [jsonHeader_true_eq f _ _ hd']
  have hA := reorderC_acc e c hc (some (orderOf f.levelOfVar)) [] m1 hRI
  rw [hrun] at hA
  obtain ⟨new, hl, _, _, hacc⟩ := hA.ok_run
  have : sch = new := by rw [hl]; rfl
  subst this
  exact hacc rest

end DD
