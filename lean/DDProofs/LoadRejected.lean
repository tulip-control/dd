/-
  DDProofs.LoadRejected — `BDD.load` / `load_json` on ANY content (C17).

  A readable file whose content is ill-formed makes the loader fail half-way.  What is true for
  every outcome: the invariant holds, every node that was in the manager is still there and
  denotes the same function, declared variables keep their level, the switches are what they
  were.  Variables of the file may have been declared (`loadVars` / `declare` run first) and
  nodes may have been added: "nothing changed" is false.  The exact counts after an ACCEPTED
  `load` (C12) are the same statement read at the outcome the accepting theorem names.
  At the end `JsonLeaves`, for the JSON loader with reordering not enabled (LoadJson2Off), and
  `TotK`, the same closure for single steps.
-/
import DDProofs.Declare
import DDProofs.LedgerCalc
import DDProofs.LoadVarsOrder
import DDProofs.DumpProofs
open Std
namespace DD

/-- what a load leaves behind, whether it returned or raised: as `Kept`, but variables may have
been declared -/
structure KeptV (m m' : Mgr) : Prop where
  inv : Inv m'
  nodes : ∀ u n, m.tbl.node? u = some n → m'.tbl.node? u = some n
  den : ∀ u, m.tbl.Mem u → ∀ a, den m'.tbl u a = den m.tbl u a
  vars : ∀ (v : String) (i : Nat), m.tbl.vars[v]? = some i → m'.tbl.vars[v]? = some i
  lastLen : m'.lastLen = m.lastLen
  ctx : m'.ctx = m.ctx
  sched : m'.sched = m.sched
  roots : m'.roots = m.roots

theorem KeptV.refl {m : Mgr} (h : Inv m) : KeptV m m :=
  ⟨h, fun _ _ h => h, fun _ _ _ => rfl, fun _ _ h => h, rfl, rfl, rfl, rfl⟩

theorem KeptV.mem {m m' : Mgr} (h : KeptV m m') {u : Int} (hu : m.tbl.Mem u) : m'.tbl.Mem u := by
  rcases hu with h1 | h1
  · exact Or.inl h1
  · obtain ⟨n, hn⟩ := Option.isSome_iff_exists.mp h1
    exact Or.inr (by rw [h.nodes _ n hn]; rfl)

theorem KeptV.trans {a b c : Mgr} (h1 : KeptV a b) (h2 : KeptV b c) : KeptV a c :=
  ⟨h2.inv, fun u n h => h2.nodes u n (h1.nodes u n h),
    fun u hu x => (h2.den u (h1.mem hu) x).trans (h1.den u hu x),
    fun v i h => h2.vars v i (h1.vars v i h), h2.lastLen.trans h1.lastLen, h2.ctx.trans h1.ctx,
    h2.sched.trans h1.sched, h2.roots.trans h1.roots⟩

theorem Kept.toV {m m' : Mgr} (h : Kept m m') (hI : Inv m) : KeptV m m' :=
  ⟨h.inv, h.ext.nodes, fun u hu => (h.den hI u hu).2, fun v i hv => by rw [h.frame.vars]; exact hv,
    h.frame.lastLen, h.frame.ctx, h.frame.sched, h.frame.roots⟩

/-- `add_var(var, level)`, any arguments, any outcome (a free level beyond the next one — the
transient gap of `levels=True`, F7 — included) -/
theorem addVar_keptV (m : Mgr) (hI : Inv m) (var : String) (lvl : Option Int) :
    KeptV m (addVar var lvl m).2 := by
  rcases addVar_outcomes var lvl m with ⟨_, e, _⟩ | ⟨j, e, h1, _⟩ | ⟨_, e, _⟩
  · rw [e]; exact KeptV.refl hI
  · rw [e]
    obtain ⟨hI', hd⟩ := hI.withVar j h1
    exact ⟨hI', fun _ _ h => h, fun u hu => (hd u hu).2, fun _ _ => withVar_vars_old h1, rfl, rfl, rfl, rfl⟩
  · rw [e]; exact KeptV.refl hI

theorem addVar_refs_any (m : Mgr) (var : String) (lvl : Option Int) (ext : Nat → Nat)
    (hr : RefExact m ext) : RefExact (addVar var lvl m).2 ext := by
  rcases addVar_outcomes var lvl m with ⟨_, e, _⟩ | ⟨_, e, _⟩ | ⟨_, e, _⟩ <;> rw [e]
  · exact hr
  · exact hr.congr_nodes (fun _ => rfl) rfl
  · exact hr

def KeptVR (m m' : Mgr) : Prop := KeptV m m' ∧ ∀ ext, RefExact m ext → RefExact m' ext

/-- every outcome of `x` started outside a reordering context — returned or raised — is `KeptVR`,
still outside a context, and never the reordering signal -/
abbrev Leaves {α : Type} (x : M α) : Prop :=
  Always (fun m => Inv m ∧ m.ctx = false) KeptVR (· ≠ .needsReordering) x

theorem Leaves.seqClosed : SeqClosed @Leaves :=
  Always.seqClosed (fun _ h => ⟨KeptV.refl h.1, fun _ h => h⟩)
    (fun _ _ _ h1 h2 => ⟨h1.1.trans h2.1, fun ext h => h2.2 ext (h1.2 ext h)⟩) fun _ h => h

abbrev AddsNodes {α : Type} (x : M α) : Prop :=
  Always (fun m => Inv m ∧ m.ctx = false) StepK (· ≠ .needsReordering) x

theorem AddsNodes.seqClosed : SeqClosed @AddsNodes :=
  Always.seqClosed (fun _ h => StepK.refl h.1) (fun _ _ _ => StepK.trans) fun _ h => h

/-- outside a context a `TotE` outcome is never the signal -/
theorem AddsNodes.of_totE {α : Type} {x : M α} (h : ∀ m, Inv m → TotE m (x m)) : AddsNodes x := fun m hm =>
  ⟨⟨(h m hm.1).1.inv, (h m hm.1).1.frame.ctx.trans hm.2⟩, (h m hm.1).1,
    fun e he hne => by have := ((h m hm.1).2 (hne ▸ he)).1; rw [hm.2] at this; cases this⟩

theorem AddsNodes.leaves {α : Type} {x : M α} (h : AddsNodes x) : Leaves x := fun m hm =>
  have k := (h m hm).2.1
  ⟨(h m hm).1, ⟨Kept.toV ⟨k.inv, k.ext, k.frame⟩ hm.1, fun ext hr => (k.keep ext hr).1⟩, (h m hm).2.2⟩

theorem addsNodes_varNode (j : Nat) : AddsNodes (findOrAdd (j : Int) (-1) 1) :=
  .of_totE fun m hI => varNode_totE m hI j

theorem addsNodes_iteRaw (g u v : Int) : AddsNodes (iteRaw g u v) :=
  .of_totE fun m hI => iteRaw_totE m hI g u v

theorem addsNodes_loadAll (succ : List PEntry) (lm : List (Nat × Nat)) (fuel : Nat) (es : List PEntry)
    (umap : TreeMap Int Int) : AddsNodes (loadAll succ lm fuel es umap) :=
  loadAll_seq AddsNodes.seqClosed addsNodes_varNode addsNodes_iteRaw succ lm fuel es umap

theorem leaves_addVar (var : String) (lvl : Option Int) : Leaves (addVar var lvl) := fun m hm =>
  have k := addVar_keptV m hm.1 var lvl
  ⟨⟨k.inv, k.ctx.trans hm.2⟩, ⟨k, addVar_refs_any m var lvl⟩,
    fun _ he hne => addVar_noSignal m var lvl (hne ▸ he)⟩

theorem leaves_loadVars (levels : Bool) (n : Nat) (vs : List (String × Nat)) (lm : List (Nat × Nat)) :
    Leaves (loadVars levels n vs lm) :=
  loadVars_seq Leaves.seqClosed levels (fun var _ => leaves_addVar var _) n vs lm

theorem leaves_loadPickle (f : PickleFile) (levels : Bool) : Leaves (loadPickle f levels) :=
  loadPickle_seq Leaves.seqClosed f levels (fun var _ => leaves_addVar var _)
    (fun j => (addsNodes_varNode j).leaves) fun g u v => (addsNodes_iteRaw g u v).leaves

/-- what `BDD.load` leaves behind, for ANY content and EVERY outcome: `KeptV`; the counts exact
for the ledger they were exact for (the loader holds nothing when it returns or raises); the
order still a bijection onto `0..n-1`.  (`levels=True`: by the two pre-checks of `_load_pickle`
— the file's levels are a permutation of `0..n-1`, every pair agrees with the manager — the
load is refused before anything is declared, or every variable gets declared.  The hypothesis
"distinct names" says that `vars` is a dict: the model keeps its items as a list.) -/
structure LoadLeaves (f : PickleFile) (levels : Bool) (m m' : Mgr) : Prop where
  kept : KeptV m m'
  counts : ∀ ext : Nat → Nat, RefExact m ext → RefExact m' ext
  order : OrderOK m.tbl → (levels = true → (f.vars.map (·.1)).Nodup) → OrderOK m'.tbl

/-- the order tables after `load`: those the declaration loop left -/
theorem loadPickle_order (f : PickleFile) (levels : Bool) (m : Mgr) (hI : Inv m) (hc : m.ctx = false)
    (hO : OrderOK m.tbl) (hW : levels = true → (f.vars.map (·.1)).Nodup) :
    OrderOK (loadPickle f levels m).2.tbl := by
  rw [loadPickle_eq]
  split
  · exact hO
  rename_i hperm
  split
  · exact hO
  rename_i hcomp
  have o1 : OrderOK (loadVars levels f.vars.length f.vars [] m).2.tbl := by
    cases levels with
    | false => exact loadVars_false_orderOK _ _ _ m hI hO
    | true =>
      obtain ⟨lm, m1, e1, O1, _⟩ := loadVars_true_total f.vars
        (VarsWF.of_perm (hW rfl) (by simpa using hperm)) m hO (by simpa using hcomp)
      rw [e1]; exact O1
  obtain ⟨⟨i1, c1⟩, -, -⟩ := leaves_loadVars levels f.vars.length f.vars [] m ⟨hI, hc⟩
  rw [loadPickleBody_eq, M.bind_eq]
  generalize loadVars levels f.vars.length f.vars [] m = out at o1 i1 c1
  obtain ⟨r, m1⟩ := out
  cases r with
  | error e => exact o1
  | ok lm =>
    dsimp only
    rw [bind_liftE_state]
    have k2 := (addsNodes_loadAll f.succ lm (f.vars.length + f.succ.length + 2) f.succ {} m1 ⟨i1, c1⟩).2.1
    exact o1.frame k2.frame

/-- `BDD.load(file, levels)` on ANY content of a pickle file, any outcome -/
theorem loadPickle_leaves (f : PickleFile) (levels : Bool) (m : Mgr) (hI : Inv m) (hc : m.ctx = false) :
    LoadLeaves f levels m (loadPickle f levels m).2 :=
  have h := (leaves_loadPickle f levels m ⟨hI, hc⟩).2.1
  ⟨h.1, h.2, loadPickle_order f levels m hI hc⟩

theorem loadPickle_keptV (f : PickleFile) (levels : Bool) (m : Mgr) (hI : Inv m) (hc : m.ctx = false) :
    KeptV m (loadPickle f levels m).2 := (loadPickle_leaves f levels m hI hc).kept

/-- the accepted `BDD.load` between two bijective orders: if the declaration loop returns and
leaves the order a bijection onto `0..n-1`, the load returns, the order tables are those the loop
left, and what every outcome keeps (`LoadLeaves`) is read at this one -/
theorem pickle_load_total (f : PickleFile) (levels : Bool)
    (m : Mgr) (hI : Inv m) (hO : OrderOK m.tbl) (hc : m.ctx = false)
    (hwf : PickleWF f) (hr : RootsResolvable f)
    (lm : List (Nat × Nat)) (m1 : Mgr)
    (hv : loadVars levels f.vars.length f.vars [] m = (.ok lm, m1))
    (hO1 : OrderOK m1.tbl)
    (hperm : levels = true → levelsPermutation f.vars = true) :
    ∃ roots' m', loadPickle f levels m = (.ok roots', m') ∧ Inv m' ∧ OrderOK m'.tbl ∧
      (∀ ext, RefExact m ext → RefExact m' ext) ∧ m'.tbl.vars = m1.tbl.vars ∧ KeptV m m' ∧
      LoadedFrom f m'.tbl roots' := by
  obtain ⟨roots', m', e, I, _, _, _, _, R, hv1, hv2⟩ :=
    pickle_load_vars f levels m hI hO.inv hc hwf hr lm m1 hv hO1.lt hperm
  have L := loadPickle_leaves f levels m hI hc
  rw [e] at L
  have hn : m'.tbl.nvars = m1.tbl.nvars := by simp only [Tbl.nvars, hv1]
  exact ⟨roots', m', e, I,
    ⟨by rw [hv1, hv2]; exact hO1.inv, by rw [hv1, hn]; exact hO1.lt, by rw [hn, hv2]; exact hO1.total⟩,
    L.counts, hv1, L.kept, R⟩

/-- `C12_load_target_counts` for `dd.bdd.BDD.load`: the loaded roots are NOT referenced on
behalf of the caller — the counts stay exact for the SAME ledger of user references (as after
every other outcome of `load`) -/
theorem pickle_load_counts (ext : Nat → Nat) (f : PickleFile) (levels : Bool)
    (m : Mgr) (hI : Inv m) (hx : RefExact m ext) (hb : DmpVarsBij m.tbl) (hc : m.ctx = false)
    (hwf : PickleWF f) (hr : RootsResolvable f)
    (lm : List (Nat × Nat)) (m1 : Mgr)
    (hv : loadVars levels f.vars.length f.vars [] m = (.ok lm, m1))
    (hg : Contig m1.tbl)
    (hperm : levels = true → levelsPermutation f.vars = true) :
    ∃ roots' m', loadPickle f levels m = (.ok roots', m') ∧ Inv m' ∧ RefExact m' ext ∧
      LoadedFrom f m'.tbl roots' := by
  obtain ⟨r, m', e, I, _, _, _, _, L⟩ := pickle_load f levels m hI hb hc hwf hr lm m1 hv hg hperm
  have h := (loadPickle_leaves f levels m hI hc).counts ext hx
  rw [e] at h
  exact ⟨r, m', e, I, h, L⟩

theorem dmpWrap_kept (u : Int) (m : Mgr) (hI : Inv m) : Kept m (dmpWrap u m).2 := by
  unfold dmpWrap
  split
  · exact Kept.refl hI
  · exact incref_kept m hI u

theorem wrapList_kept (us : List Int) (m : Mgr) (hI : Inv m) : Kept m (wrapList us m).2 :=
  (wrapList_seq (C := Always Inv Kept fun _ => True)
    (Always.seqClosed (fun _ h => Kept.refl h) (fun _ _ _ => Kept.trans) (fun _ _ => trivial))
    (fun u m hI => ⟨(dmpWrap_kept u m hI).inv, dmpWrap_kept u m hI, fun _ _ => trivial⟩) us m hI).2.1

theorem dmpWrap_ok {u : Int} {m m1 : Mgr} (h : dmpWrap u m = (.ok (), m1)) :
    m.tbl.Mem u ∧ m1.tbl = m.tbl := by
  unfold dmpWrap incref at h
  split at h
  · cases h
  next hx =>
    split at h
    · cases h
    · exact ⟨(Mgr.mem_iff m u).mp (by simpa using hx), by cases h; rfl⟩

theorem wrapList_ok_mem : ∀ (us : List Int) (m m' : Mgr), wrapList us m = (.ok (), m') →
    ∀ u ∈ us, m.tbl.Mem u := by
  intro us
  induction us with
  | nil => intro m m' _ u hu; cases hu
  | cons x rest ih =>
    intro m m' h u hu
    rw [wrapList_cons] at h
    obtain ⟨_, m1, h1, h2⟩ := M.bind_ok_inv h
    obtain ⟨hx, ht⟩ := dmpWrap_ok h1
    rcases List.mem_cons.mp hu with rfl | hu'
    · exact hx
    · rw [← ht]; exact ih m1 m' h2 u hu'

/-- `dd.autoref.BDD.load(file, levels)` on ANY content of a pickle file, any outcome: as
`loadPickle_leaves`, and the counts are exact for the caller's ledger plus ONE reference per
returned `Function` — for the caller's ledger itself when the call raised -/
theorem loadPickleAutoref_leaves (f : PickleFile) (levels : Bool) (m : Mgr) (hI : Inv m)
    (hc : m.ctx = false) :
    KeptV m (loadPickleAutoref f levels m).2 ∧
    (OrderOK m.tbl → (levels = true → (f.vars.map (·.1)).Nodup) → OrderOK (loadPickleAutoref f levels m).2.tbl) ∧
    ∀ ext, RefExact m ext →
      match (loadPickleAutoref f levels m).1 with
      | .ok roots => RefExact (loadPickleAutoref f levels m).2 (extAdd ext (roots.values.map Int.natAbs))
      | .error _ => RefExact (loadPickleAutoref f levels m).2 ext := by
  unfold loadPickleAutoref
  have L := loadPickle_leaves f levels m hI hc
  cases h1 : loadPickle f levels m with
  | mk r m1 =>
    rw [h1] at L
    cases r with
    | error e => exact ⟨L.kept, L.order, fun ext h => L.counts ext h⟩
    | ok roots =>
      dsimp only
      have k2 := wrapList_kept roots.values m1 L.kept.inv
      cases h2 : wrapList roots.values m1 with
      | mk r2 m2 =>
        rw [h2] at k2
        cases r2 with
        | error e => exact ⟨L.kept, L.order, fun ext h => L.counts ext h⟩
        | ok _ =>
          refine ⟨L.kept.trans (k2.toV L.kept.inv),
            fun hO hW => (L.order hO hW).frame k2.frame, fun ext h => ?_⟩
          obtain ⟨r, e2, _, R2⟩ := wrapList_spec roots.values m1 ext L.kept.inv (L.counts ext h)
            (wrapList_ok_mem _ _ _ h2)
          rw [h2] at e2
          simp only [Prod.mk.injEq, true_and] at e2
          rw [e2]; exact R2

theorem loadPickleAutoref_keptV (f : PickleFile) (levels : Bool) (m : Mgr) (hI : Inv m)
    (hc : m.ctx = false) : KeptV m (loadPickleAutoref f levels m).2 :=
  (loadPickleAutoref_leaves f levels m hI hc).1

/-! ### the JSON loader, reordering not enabled: the operations it calls, any arguments -/

def TotK {α : Type} (x : M α) : Prop := ∀ m, Inv m → m.lastLen = none → Kept m (x m).2

theorem TotK.pure {α : Type} (a : α) : TotK (pure a : M α) := fun _ hI _ => Kept.refl hI
theorem TotK.throw {α : Type} (e : Err) : TotK (M.throw e : M α) := fun _ hI _ => Kept.refl hI

theorem TotK.assert (b : Bool) : TotK (M.assert b) := by
  unfold M.assert; split
  · exact TotK.pure ()
  · exact TotK.throw _

theorem TotK.ofOption {α : Type} (e : Err) (o : Option α) : TotK (M.ofOption e o) := by
  cases o with
  | none => exact TotK.throw _
  | some a => exact TotK.pure a

theorem dropList_kept : ∀ (us : List Int) (m : Mgr), Inv m → Kept m (dropList us m) := by
  intro us
  induction us with
  | nil => intro m hI; exact Kept.refl hI
  | cons u rest ih =>
    intro m hI
    have k1 : Kept m (dmpDrop u m).2 := decref_kept m hI u
    exact k1.trans (ih _ k1.inv)

theorem TotK.withTemps {α : Type} (us : List Int) {x : M α} (hx : TotK x) : TotK (withTemps us x) := by
  intro m hI hoff
  have k1 := hx m hI hoff
  unfold DD.withTemps
  exact k1.trans (dropList_kept us _ k1.inv)

theorem TotK.incref (u : Int) : TotK (incref u) := fun m hI _ => incref_kept m hI u
theorem TotK.decref (u : Int) : TotK (decref u) := fun m hI _ => decref_kept m hI u

theorem TotK.wrap (u : Int) : TotK (dmpWrap u) := fun m hI _ => dmpWrap_kept u m hI

theorem TotK.containsCheck (u : Int) : TotK (containsCheck u) := fun m hI _ => by
  have e : (DD.containsCheck u m).2 = m := by
    unfold DD.containsCheck
    rw [M.bind_eq, M.get_eq]
    dsimp only
    split <;> rfl
  rw [e]; exact Kept.refl hI

theorem TotK.applyNot (u : Int) : TotK (apply "not" u none none) := fun m hI _ => by
  rcases applyNot_cases u m with h | h <;> rw [h] <;> exact Kept.refl hI

theorem declare_keptV (names : List String) : ∀ m : Mgr, Inv m → KeptV m (declare names m).2 := by
  induction names with
  | nil => intro m hI; rw [declare_nil]; exact KeptV.refl hI
  | cons v vs ih =>
    intro m hI
    rw [declare_cons]
    have k1 := addVar_keptV m hI v none
    cases h1 : addVar v none m with
    | mk r m1 =>
      rw [h1] at k1
      cases r with
      | error e => exact k1
      | ok j => exact k1.trans (ih m1 k1.inv)

/-- what `load_json` leaves behind: `KeptV`, and a between-calls state with the counts exact for
the caller's ledger plus ONE reference per returned `Function` — for the caller's ledger itself
when the call raised (the `except` clause gave the shelf's references back) -/
def JsonLeaves (e : Nat → Nat) (m : Mgr) (out : Except Err Roots × Mgr) : Prop :=
  KeptV m out.2 ∧
  match out.1 with
  | .ok roots => GoodState out.2 (extAdd e (roots.values.map Int.natAbs))
  | .error _ => GoodState out.2 e

end DD
