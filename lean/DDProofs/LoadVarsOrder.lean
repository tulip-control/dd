/-
  DDProofs.LoadVarsOrder — the first loop of `_load_pickle` and the order tables.

  `levels=False`: every `add_var(var)` appends at the bottom, so `OrderOK` is kept after every
  step, whatever the content and the outcome.  `levels=True`: `add_var(var, i)` puts the variable
  at the level of the file, so between two steps the levels may have a gap (F7); after the
  pre-check (`levelsCompatible`) and for pairs that are a bijection onto `0..n-1` (`VarsWF`) the
  loop cannot fail and ends with the union of `0..k-1` and `0..n-1` filled: `OrderOK` again.
-/
import DDProofs.LoadVarsProofs
import DDProofs.PickleDump
open Std
namespace DD

theorem l2v_size_of_cover (t : Tbl) (M : Nat) (h1 : ∀ i v, t.l2v[i]? = some v → i < M)
    (h2 : ∀ i, i < M → (t.l2v[i]?).isSome) : t.l2v.size = M := by
  rw [← TreeMap.length_keys]
  apply length_of_mem_iff_lt M _ TreeMap.nodup_keys
  intro x
  rw [TreeMap.mem_keys, TreeMap.mem_iff_isSome_getElem?]
  constructor
  · intro h
    obtain ⟨v, hv⟩ := Option.isSome_iff_exists.mp h
    exact h1 x v hv
  · exact h2 x

theorem OrderOK.sizes {t : Tbl} (h : OrderOK t) : t.vars.size = t.l2v.size := by
  have := l2v_size_of_cover t t.nvars
    (fun i v hv => h.lt v i ((h.inv v i).mpr hv))
    (fun i hi => by obtain ⟨v, hv⟩ := h.total i hi; simp [hv])
  rw [this]; rfl

theorem orderOK_of_cover (t : Tbl) (M : Nat) (hb : DmpVarsBij t) (hs : t.vars.size = t.l2v.size)
    (h1 : ∀ i v, t.l2v[i]? = some v → i < M) (h2 : ∀ i, i < M → (t.l2v[i]?).isSome) : OrderOK t := by
  have hM : t.nvars = M := by
    show t.vars.size = M
    rw [hs]; exact l2v_size_of_cover t M h1 h2
  refine ⟨hb, ?_, ?_⟩
  · intro v i hv
    rw [hM]; exact h1 i v ((hb v i).mp hv)
  · intro i hi
    rw [hM] at hi
    exact Option.isSome_iff_exists.mp (h2 i hi)

theorem addVar_none_orderOK (m : Mgr) (hI : Inv m) (hO : OrderOK m.tbl) (var : String) :
    OrderOK (addVar var none m).2.tbl := by
  cases hex : m.tbl.vars[var]? with
  | some i => rw [(addVar_existing m var i hex).1]; exact hO
  | none =>
    obtain ⟨_, e, -, hO', -⟩ := addVar_new_run m hI hO var hex
    rw [e]; exact hO'

theorem addVar_inv_any {m : Mgr} (hI : Inv m) (var : String) (lvl : Option Int) :
    Inv (addVar var lvl m).2 := by
  rcases addVar_outcomes var lvl m with ⟨_, e, _⟩ | ⟨_, e, _⟩ | ⟨_, e, _⟩
  · rw [e]; exact hI
  · rw [e]; exact addVar_inv hI e
  · rw [e]; exact hI

theorem loadVars_false_orderOK (n : Nat) (vs : List (String × Nat)) (lm : List (Nat × Nat)) (m : Mgr)
    (hI : Inv m) (hO : OrderOK m.tbl) : OrderOK (loadVars false n vs lm m).2.tbl :=
  (loadVars_seq (C := Always (fun m => Inv m ∧ OrderOK m.tbl) (fun _ _ => True) (fun _ => True))
    (Always.seqClosed (fun _ _ => trivial) (fun _ _ _ _ _ => trivial) (fun _ _ => trivial)) false
    (fun var _ m h => ⟨⟨addVar_inv_any h.1 var _, addVar_none_orderOK m h.1 h.2 var⟩, trivial, fun _ _ => trivial⟩)
    n vs lm m ⟨hI, hO⟩).1.2

/-- the tables while the file's variables are being declared at the file's levels: consistent,
every level is an old one (`< k`) or a level of the file, the old levels are all there -/
structure LVInv (k : Nat) (F : List (String × Nat)) (t : Tbl) : Prop where
  bij : DmpVarsBij t
  sz : t.vars.size = t.l2v.size
  lvl : ∀ i v, t.l2v[i]? = some v → i < k ∨ ∃ v', (v', i) ∈ F
  low : ∀ i, i < k → (t.l2v[i]?).isSome

theorem LVInv.init {t : Tbl} (h : OrderOK t) (F : List (String × Nat)) : LVInv t.nvars F t :=
  ⟨h.inv, h.sizes, fun i v hv => Or.inl (h.lt v i ((h.inv v i).mpr hv)),
    fun i hi => by obtain ⟨v, hv⟩ := h.total i hi; simp [hv]⟩

/-- what the pre-check gives for the pairs still to be declared -/
def CompatS (t : Tbl) (vs : List (String × Nat)) : Prop :=
  ∀ var i, (var, i) ∈ vs → (∀ j, t.vars[var]? = some j → j = i) ∧ (t.vars[var]? = none → t.l2v[i]? = none)

theorem compatS_of_levelsCompatible {t : Tbl} (hb : DmpVarsBij t) {vs : List (String × Nat)}
    (h : levelsCompatible t vs = true) : CompatS t vs := by
  intro var i hm
  obtain ⟨h1, h2⟩ := (levelsCompatible_iff t vs).mp h var i hm
  refine ⟨h1, fun hn => ?_⟩
  cases hl : t.l2v[i]? with
  | none => rfl
  | some v' =>
    have := h2 hn v' hl
    subst this
    rw [(hb v' i).mpr hl] at hn
    cases hn

theorem addVar_some_step (m : Mgr) (var : String) (i : Nat)
    (h1 : ∀ j, m.tbl.vars[var]? = some j → j = i) (h2 : m.tbl.vars[var]? = none → m.tbl.l2v[i]? = none) :
    addVar var (some (i : Int)) m = (.ok i, m) ∧ m.tbl.vars[var]? = some i ∨
    (m.tbl.vars[var]? = none ∧ m.tbl.l2v[i]? = none ∧
      addVar var (some (i : Int)) m = (.ok i, m.withVar var i)) := by
  cases hv : m.tbl.vars[var]? with
  | some j => cases h1 j hv; exact Or.inl ⟨(addVar_existing m var _ hv).2, rfl⟩
  | none => exact Or.inr ⟨rfl, h2 hv, addVar_fresh m var i hv (h2 hv)⟩

theorem LVInv.insert {k : Nat} {F : List (String × Nat)} {t : Tbl} (hL : LVInv k F t) {var : String}
    {i : Nat} (hv : t.vars[var]? = none) (hl : t.l2v[i]? = none) (hF : (var, i) ∈ F) :
    LVInv k F { t with vars := t.vars.insert var i, l2v := t.l2v.insert i var } := by
  refine ⟨hL.bij.insert hv hl, ?_, fun l v hlv => ?_, fun l hlk => ?_⟩
  · show (t.vars.insert var i).size = (t.l2v.insert i var).size
    rw [size_insert_new _ _ _ hv, size_insert_new _ _ _ hl, hL.sz]
  · replace hlv : (t.l2v.insert i var)[l]? = some v := hlv
    rw [getElem?_insert_eq] at hlv
    split at hlv
    · subst l; exact Or.inr ⟨var, hF⟩
    · exact hL.lvl l v hlv
  · show ((t.l2v.insert i var)[l]?).isSome
    rw [getElem?_insert_eq]
    split
    · rfl
    · exact hL.low l hlk

theorem loadVars_true_ok (n k : Nat) (F : List (String × Nat)) :
    ∀ (vs : List (String × Nat)) (lm : List (Nat × Nat)) (m : Mgr),
      (vs.map (·.1)).Nodup → (vs.map (·.2)).Nodup → (∀ var i, (var, i) ∈ vs → i < n) →
      (∀ var i, (var, i) ∈ vs → (var, i) ∈ F) → LVInv k F m.tbl → CompatS m.tbl vs →
      ∃ lm' m', loadVars true n vs lm m = (.ok lm', m') ∧ LVInv k F m'.tbl ∧
        (∀ var i, (var, i) ∈ vs → m'.tbl.vars[var]? = some i) ∧
        (∀ (v : String) (l : Nat), m.tbl.vars[v]? = some l → m'.tbl.vars[v]? = some l) := by
  intro vs
  induction vs with
  | nil => intro lm m _ _ _ _ hL _; exact ⟨lm, m, rfl, hL, nofun, fun _ _ h => h⟩
  | cons x rest ih =>
    intro lm m hn1 hn2 hb hF hL hC
    obtain ⟨var, i⟩ := x
    obtain ⟨c1, c2⟩ := hC var i List.mem_cons_self
    rw [List.map_cons, List.nodup_cons] at hn1 hn2
    rw [loadVars_cons, if_neg (not_not_intro (hb var i List.mem_cons_self)), if_pos rfl]
    -- a pair still to come has another name and another level: this step does not touch it
    have hrestC : ∀ (m1 : Mgr), (∀ v, v ≠ var → m1.tbl.vars[v]? = m.tbl.vars[v]?) →
        (∀ l, l ≠ i → m1.tbl.l2v[l]? = m.tbl.l2v[l]?) → CompatS m1.tbl rest := by
      intro m1 hv hl v l hm
      have hvne : v ≠ var := fun he => hn1.1 (List.mem_map.mpr ⟨(v, l), hm, he⟩)
      have hlne : l ≠ i := fun he => hn2.1 (List.mem_map.mpr ⟨(v, l), hm, he⟩)
      rw [hv v hvne, hl l hlne]
      exact hC v l (List.mem_cons_of_mem _ hm)
    have hb' := fun v l h => hb v l (List.mem_cons_of_mem _ h)
    have hF' := fun v l h => hF v l (List.mem_cons_of_mem _ h)
    rcases addVar_some_step m var i c1 c2 with ⟨hav, hv⟩ | ⟨hv, hl, hav⟩
    · rw [M.bind_ok hav]
      obtain ⟨lm', m', e1, L1, N1, M1⟩ := ih ((i, i) :: lm) m hn1.2 hn2.2 hb' hF' hL
        (hrestC m (fun _ _ => rfl) (fun _ _ => rfl))
      refine ⟨lm', m', e1, L1, fun v l hm => ?_, M1⟩
      rcases List.mem_cons.mp hm with heq | hm'
      · cases heq; exact M1 _ _ hv
      · exact N1 v l hm'
    · rw [M.bind_ok hav]
      obtain ⟨lm', m', e1, L2, N1, M1⟩ := ih ((i, i) :: lm) (m.withVar var i) hn1.2 hn2.2 hb' hF'
        (hL.insert hv hl (hF var i List.mem_cons_self))
        (hrestC _ (fun v hne => by rw [withVar_vars, if_neg (Ne.symm hne)])
          (fun l hne => by rw [withVar_l2v, if_neg (Ne.symm hne)]))
      refine ⟨lm', m', e1, L2, fun v l hm => ?_, fun v l hvl => M1 v l (withVar_vars_old hv hvl)⟩
      rcases List.mem_cons.mp hm with heq | hm'
      · cases heq; exact M1 _ _ (by rw [withVar_vars, if_pos rfl])
      · exact N1 v l hm'

/-- `levels=True` (the default of `BDD.load`) into a manager whose order is a bijection and that
passes the pre-check — a fresh manager, or one that has some of the file's variables at the
file's levels and nothing else in the way: the declaration loop cannot fail and ends with the
order a bijection onto `0..max(k, n)-1` again, every pair of the file in place -/
theorem loadVars_true_total (F : List (String × Nat)) (hF : VarsWF F) (m : Mgr) (hO : OrderOK m.tbl)
    (hc : levelsCompatible m.tbl F = true) :
    ∃ lm m1, loadVars true F.length F [] m = (.ok lm, m1) ∧ OrderOK m1.tbl ∧
      (∀ var i, (var, i) ∈ F → m1.tbl.vars[var]? = some i) ∧
      (∀ (v : String) (l : Nat), m.tbl.vars[v]? = some l → m1.tbl.vars[v]? = some l) := by
  obtain ⟨lm, m1, e1, L1, N1, M1⟩ := loadVars_true_ok F.length m.tbl.nvars F F [] m hF.names hF.levels
    hF.bound (fun _ _ h => h) (LVInv.init hO F) (compatS_of_levelsCompatible hO.inv hc)
  refine ⟨lm, m1, e1, ?_, N1, M1⟩
  apply orderOK_of_cover m1.tbl (max m.tbl.nvars F.length) L1.bij L1.sz
  · intro i v hv
    rcases L1.lvl i v hv with h | ⟨v', hv'⟩
    · omega
    · have := hF.bound v' i hv'; omega
  · intro i hi
    by_cases hk : i < m.tbl.nvars
    · exact L1.low i hk
    · obtain ⟨v, hv⟩ := hF.covers i (by omega)
      rw [(L1.bij v i).mp (N1 v i hv)]; rfl

theorem levelsCompatible_fresh (vs : List (String × Nat)) : levelsCompatible ({} : Mgr).tbl vs = true := by
  rw [levelsCompatible_iff]
  intro var i _
  refine ⟨fun j hj => ?_, fun _ v' hv' => ?_⟩
  · have : ({} : Mgr).tbl.vars[var]? = none := by show ({} : TreeMap String Nat)[var]? = none; simp
    rw [this] at hj; cases hj
  · have : ({} : Mgr).tbl.l2v[i]? = none := by show ({} : TreeMap Nat String)[i]? = none; simp
    rw [this] at hv'; cases hv'

end DD
