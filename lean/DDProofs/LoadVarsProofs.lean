/-
  DDProofs.LoadVarsProofs — the first loop of `_load_pickle` (`loadVars`): what a run that RETURNED
  tells (`loadVars_spec`: only variables were declared, `level_map` sends file levels to the levels of
  the same names; `loadVars_true_compat`: the pre-check would have passed), and when it cannot fail
  (`levels=False` on a bijective order; every pair already declared).  `levels=True`: LoadVarsOrder.
-/
import DDProofs.PickleSem
import DDProofs.PickleSteps
open Std
namespace DD

theorem withVar_vars (m : Mgr) (var : String) (j : Nat) (v : String) :
    (m.withVar var j).tbl.vars[v]? = if var = v then some j else m.tbl.vars[v]? :=
  getElem?_insert_eq _ _ _ _

theorem withVar_l2v (m : Mgr) (var : String) (j l : Nat) :
    (m.withVar var j).tbl.l2v[l]? = if j = l then some var else m.tbl.l2v[l]? :=
  getElem?_insert_eq _ _ _ _

theorem withVar_vars_old {m : Mgr} {var v : String} {j l : Nat} (h1 : m.tbl.vars[var]? = none)
    (h : m.tbl.vars[v]? = some l) : (m.withVar var j).tbl.vars[v]? = some l := by
  rw [withVar_vars, if_neg (fun e => by subst e; rw [h1] at h; cases h)]
  exact h

/-- also at a free level that is not the next one (the transient gaps of `levels=True`, F7) -/
theorem Inv.withVar {m : Mgr} (hI : Inv m) {var : String} (j : Nat) (h1 : m.tbl.vars[var]? = none) :
    Inv (m.withVar var j) ∧ ∀ u, m.tbl.Mem u →
      (m.withVar var j).tbl.Mem u ∧ ∀ a, den (m.withVar var j).tbl u a = den m.tbl u a :=
  hI.more_vars (m' := m.withVar var j) rfl rfl rfl rfl rfl (Nat.le.intro (size_insert_new _ _ _ h1).symm)

theorem addVar_ok_cases {var : String} {lvl : Option Int} {m m' : Mgr} {j : Nat}
    (h : addVar var lvl m = (.ok j, m')) :
    (m.tbl.vars[var]? = some j ∧ m' = m ∧ (∀ l, lvl = some l → l = (j : Int))) ∨
    (m.tbl.vars[var]? = none ∧ m.tbl.l2v[j]? = none ∧ lvl.getD (m.nvars : Int) = (j : Int) ∧
      m' = m.withVar var j) := by
  rcases addVar_outcomes var lvl m with ⟨_, e, hv, hl⟩ | ⟨_, e, hv, hl, hd⟩ | ⟨_, e, _⟩ <;> rw [e] at h <;> cases h
  · exact Or.inl ⟨hv, rfl, hl⟩
  · exact Or.inr ⟨hv, hl, hd, rfl⟩

theorem addVar_err_same (m m' : Mgr) (var : String) (lvl : Option Int) (e : Err)
    (h : addVar var lvl m = (.error e, m')) : m' = m := by
  rcases addVar_outcomes var lvl m with ⟨_, e', _⟩ | ⟨_, e', _⟩ | ⟨_, e', _⟩ <;> rw [e'] at h <;> cases h
  rfl

theorem addVar_inv {m m' : Mgr} {var : String} {lvl : Option Int} {j : Nat} (hI : Inv m)
    (h : addVar var lvl m = (.ok j, m')) : Inv m' := by
  rcases addVar_ok_cases h with ⟨_, h2, _⟩ | ⟨h1, _, _, h4⟩
  · subst h2; exact hI
  · subst h4; exact (hI.withVar j h1).1

theorem addVar_facts {var : String} {lvl : Option Int} {m m' : Mgr} {j : Nat}
    (h : addVar var lvl m = (.ok j, m')) (hb : DmpVarsBij m.tbl) :
    DmpVarsBij m'.tbl ∧ m'.tbl.vars[var]? = some j ∧
    (∀ (v : String) (l : Nat), m.tbl.vars[v]? = some l → m'.tbl.vars[v]? = some l) ∧ m'.ctx = m.ctx ∧
    m'.tbl.succ = m.tbl.succ ∧ (∀ i : Nat, lvl = some (i : Int) → j = i) := by
  rcases addVar_ok_cases h with ⟨h1, h2, h3⟩ | ⟨h1, h2, h3, h4⟩
  · subst h2
    exact ⟨hb, h1, fun _ _ h => h, rfl, rfl, fun i hi => by have := h3 _ hi; omega⟩
  · subst h4
    refine ⟨hb.insert h1 h2, by rw [withVar_vars, if_pos rfl], fun _ _ => withVar_vars_old h1, rfl, rfl, ?_⟩
    intro i hi; subst hi; simp at h3; omega

/-- the first loop of `_load_pickle`, for any property `J` that `add_var` preserves
(`Inv` itself, by `addVar_inv`): only variables are declared, and `level_map` sends each level
of the file to the level the receiving manager has for that name -/
theorem loadVars_spec (J : Mgr → Prop) (levels : Bool) (n : Nat) :
    ∀ (vs : List (String × Nat)),
      (∀ (m : Mgr) (var : String) (i : Nat) (j : Nat) (m' : Mgr), (var, i) ∈ vs → J m →
        addVar var (if levels = true then some (i : Int) else none) m = (.ok j, m') → J m') →
      ∀ (lm : List (Nat × Nat)) (m : Mgr) (lm' : List (Nat × Nat)) (m' : Mgr),
      loadVars levels n vs lm m = (.ok lm', m') → J m → DmpVarsBij m.tbl →
      J m' ∧ DmpVarsBij m'.tbl ∧ m'.ctx = m.ctx ∧ m'.tbl.succ = m.tbl.succ ∧
      (∀ (v : String) (l : Nat), m.tbl.vars[v]? = some l → m'.tbl.vars[v]? = some l) ∧
      (∀ i j, lm'.lookup i = some j →
        lm.lookup i = some j ∨ ∃ var, (var, i) ∈ vs ∧ m'.tbl.vars[var]? = some j) ∧
      (∀ var i, (var, i) ∈ vs → (lm'.lookup i).isSome) ∧
      (∀ i, (lm.lookup i).isSome → (lm'.lookup i).isSome) := by
  intro vs
  induction vs with
  | nil =>
    intro _ lm m lm' m' h hI hb
    cases h
    exact ⟨hI, hb, rfl, rfl, fun _ _ h => h, fun _ _ h => Or.inl h, nofun, fun _ h => h⟩
  | cons x rest ih =>
    intro hA lm m lm' m' h hI hb
    obtain ⟨var, i⟩ := x
    rw [loadVars_cons] at h
    split at h
    · cases h
    obtain ⟨j, m1, hav, h⟩ := M.bind_ok_inv h
    have I1 := hA m var i j m1 List.mem_cons_self hI hav
    obtain ⟨B1, V1, M1, C1, S1, -⟩ := addVar_facts hav hb
    obtain ⟨I2, B2, C2, S2, M2, R2, D2, K2⟩ :=
      ih (fun m var i j m' hmem => hA m var i j m' (List.mem_cons_of_mem _ hmem))
        ((i, j) :: lm) m1 lm' m' h I1 B1
    refine ⟨I2, B2, C2.trans C1, S2.trans S1, fun v l hvl => M2 v l (M1 v l hvl), ?_, ?_, ?_⟩
    · intro i' j' hl
      rcases R2 i' j' hl with h' | ⟨v, hv, hv'⟩
      · rw [lookup_cons_eq] at h'
        split at h'
        · cases h'; subst i'
          exact Or.inr ⟨var, List.mem_cons_self, M2 var j V1⟩
        · exact Or.inl h'
      · exact Or.inr ⟨v, List.mem_cons_of_mem _ hv, hv'⟩
    · intro v i' hv
      rcases List.mem_cons.mp hv with h' | h'
      · cases h'
        exact K2 i (by rw [lookup_cons_eq, if_pos rfl]; rfl)
      · exact D2 v i' h'
    · intro i' hi'
      apply K2
      rw [lookup_cons_eq]
      split
      · rfl
      · exact hi'

theorem levelsCompatible_iff (t : Tbl) (vs : List (String × Nat)) :
    levelsCompatible t vs = true ↔ ∀ var i, (var, i) ∈ vs →
      (∀ j, t.vars[var]? = some j → j = i) ∧
      (t.vars[var]? = none → ∀ v', t.l2v[i]? = some v' → v' = var) := by
  unfold levelsCompatible
  rw [List.all_eq_true]
  constructor
  · intro h var i hm
    have := h (var, i) hm
    dsimp only at this
    constructor
    · intro j hj; rw [hj] at this; simpa using this
    · intro hn v' hv'; rw [hn] at this; dsimp only at this; rw [hv'] at this; simpa using this
  · intro h x hx
    obtain ⟨var, i⟩ := x
    obtain ⟨h1, h2⟩ := h var i hx
    dsimp only
    cases hv : t.vars[var]? with
    | some j => simp [h1 j hv]
    | none =>
      dsimp only
      cases hl : t.l2v[i]? with
      | none => rfl
      | some v' => simp [h2 hv v' hl]

theorem loadVars_true_compat (n : Nat) :
    ∀ (vs : List (String × Nat)) (lm : List (Nat × Nat)) (m : Mgr) (lm' : List (Nat × Nat)) (m' : Mgr),
      loadVars true n vs lm m = (.ok lm', m') → DmpVarsBij m.tbl → levelsCompatible m.tbl vs = true := by
  intro vs
  induction vs with
  | nil => intro _ _ _ _ _ _; rfl
  | cons x rest ih =>
    intro lm m lm' m' h hb
    obtain ⟨var, i⟩ := x
    rw [loadVars_cons] at h
    split at h
    · cases h
    rw [if_pos rfl] at h
    obtain ⟨j, m1, hav, h⟩ := M.bind_ok_inv h
    obtain ⟨B1, V1, M1, _, _, L1⟩ := addVar_facts hav hb
    cases L1 i rfl
    have ih' := (levelsCompatible_iff _ _).mp (ih _ m1 lm' m' h B1)
    rw [levelsCompatible_iff]
    intro v l hm
    rcases List.mem_cons.mp hm with heq | hm'
    · cases heq
      constructor
      · intro j' hj'
        have := M1 var j' hj'
        rw [V1] at this; cases this; rfl
      · intro hn v' hv'
        rcases addVar_ok_cases hav with ⟨h1, _, _⟩ | ⟨_, h2, _, _⟩
        · rw [hn] at h1; cases h1
        · rw [h2] at hv'; cases hv'
    · obtain ⟨a1, a2⟩ := ih' v l hm'
      refine ⟨fun j' hj' => a1 j' (M1 v j' hj'), fun hn v' hv' => ?_⟩
      -- `l2v` only grows
      have hl1 : m1.tbl.l2v[l]? = some v' := by
        rw [← B1]
        exact M1 v' l ((hb v' l).mpr hv')
      cases hv1 : m1.tbl.vars[v]? with
      | none => exact a2 hv1 v' hl1
      | some j' =>
        have := a1 j' hv1
        subst this
        have := (B1 v j').mp hv1
        rw [hl1] at this; cases this; rfl

/-- with `levels=False` the first loop of `_load_pickle` cannot fail on a manager whose
order tables are consistent: known names keep their level, new names go to the bottom -/
theorem loadVars_false_total (n : Nat) :
    ∀ (vs : List (String × Nat)) (lm : List (Nat × Nat)) (m : Mgr), Inv m → OrderOK m.tbl →
      (∀ var i, (var, i) ∈ vs → i < n) →
      ∃ lm' m', loadVars false n vs lm m = (.ok lm', m') ∧ OrderOK m'.tbl := by
  intro vs
  induction vs with
  | nil => intro lm m _ hO _; exact ⟨lm, m, rfl, hO⟩
  | cons x rest ih =>
    intro lm m hI hO hb
    obtain ⟨var, i⟩ := x
    have hb' : ∀ v k, (v, k) ∈ rest → k < n := fun v k hk => hb v k (List.mem_cons_of_mem _ hk)
    rw [loadVars_cons, if_neg (not_not_intro (hb var i List.mem_cons_self)), if_neg Bool.false_ne_true]
    cases hex : m.tbl.vars[var]? with
    | some l =>
      rw [M.bind_ok (addVar_existing m var l hex).1]
      exact ih _ m hI hO hb'
    | none =>
      obtain ⟨m1, e, I', O', -⟩ := addVar_new_run m hI hO var hex
      rw [M.bind_ok e]
      exact ih _ m1 I' O' hb'

theorem loadVars_declared (levels : Bool) (n : Nat) :
    ∀ (vs : List (String × Nat)) (lm : List (Nat × Nat)) (m : Mgr),
      (∀ var i, (var, i) ∈ vs → m.tbl.vars[var]? = some i ∧ i < n) →
      ∃ lm', loadVars levels n vs lm m = (.ok lm', m) := by
  intro vs
  induction vs with
  | nil => intro lm m _; exact ⟨lm, rfl⟩
  | cons x rest ih =>
    intro lm m h
    obtain ⟨var, i⟩ := x
    obtain ⟨h1, h2⟩ := h var i List.mem_cons_self
    have hav : addVar var (if levels = true then some (i : Int) else none) m = (.ok i, m) := by
      cases levels
      · exact (addVar_existing m var i h1).1
      · exact (addVar_existing m var i h1).2
    rw [loadVars_cons, if_neg (not_not_intro h2), M.bind_ok hav]
    exact ih ((i, i) :: lm) m (fun v k hk => h v k (List.mem_cons_of_mem _ hk))

end DD
