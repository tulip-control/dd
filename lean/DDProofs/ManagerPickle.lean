/-
  DDProofs.ManagerPickle — `_dump_manager` / `_load_manager`: the whole-manager pickle reproduces every
  stored field (`manager_roundtrip`).  The constructor `BDD(levels)` re-declares the dumped pairs
  (`addVars_spec`, `mkBDD_toList`); the node dicts come back through `ofList ∘ toList`.
-/
import DDProofs.PickleDump
import DDProofs.LoadVarsProofs
open Std
namespace DD



theorem addVars_spec : ∀ (vs : List (String × Nat)) (m0 : Mgr),
    vs.Pairwise (fun a b => a.1 ≠ b.1 ∧ a.2 ≠ b.2) →
    (∀ v l, (v, l) ∈ vs → m0.tbl.vars[v]? = none ∧ m0.tbl.l2v[l]? = none) →
    ∃ m1, addVars vs m0 = (.ok (), m1) ∧
      (∀ (v : String) (l : Nat), m1.tbl.vars[v]? = some l ↔ (m0.tbl.vars[v]? = some l ∨ (v, l) ∈ vs)) ∧
      (∀ (l : Nat) (v : String), m1.tbl.l2v[l]? = some v ↔ (m0.tbl.l2v[l]? = some v ∨ (v, l) ∈ vs)) ∧
      SameRest m0 m1 ∧ m1.sched = m0.sched ∧ m1.fireIn = m0.fireIn := by
  intro vs
  induction vs with
  | nil =>
    intro m0 _ _
    exact ⟨m0, rfl, by simp, by simp, ⟨rfl, rfl, rfl, rfl, rfl, rfl, rfl, rfl⟩, rfl, rfl⟩
  | cons x rest ih =>
    intro m0 hp hfree
    obtain ⟨v, l⟩ := x
    obtain ⟨f1, f2⟩ := hfree v l List.mem_cons_self
    rw [List.pairwise_cons] at hp
    obtain ⟨hx, hp'⟩ := hp
    rw [addVars_cons, M.bind_ok (addVar_fresh m0 v l f1 f2)]
    obtain ⟨m1, e1, V1, L1, S1, hsc, hfi⟩ := ih (m0.withVar v l) hp' (fun v' l' hm => by
      obtain ⟨d1, d2⟩ := hx (v', l') hm
      rw [withVar_vars, withVar_l2v, if_neg d1, if_neg d2]
      exact hfree v' l' (List.mem_cons_of_mem _ hm))
    refine ⟨m1, e1, fun v' l' => ?_, fun l' v' => ?_,
      ⟨S1.succ, S1.pred, S1.ref, S1.minFree, S1.cache, S1.lastLen, S1.ctx, S1.roots⟩, hsc, hfi⟩
    · rw [V1, withVar_vars, List.mem_cons, Prod.mk.injEq]
      by_cases hv : v = v'
      · subst hv; simp [f1, eq_comm]
      · simp [hv, Ne.symm hv]
    · rw [L1, withVar_l2v, List.mem_cons, Prod.mk.injEq]
      by_cases hl : l = l'
      · subst hl; simp [f2, eq_comm]
      · simp [hl, Ne.symm hl]

theorem mkBDD_toList (t : Tbl) (hv : DmpVarsOK t) :
    ∃ m0, mkBDD t.vars.toList = .ok m0 ∧ (∀ v : String, m0.tbl.vars[v]? = t.vars[v]?) ∧
      (∀ l : Nat, m0.tbl.l2v[l]? = t.l2v[l]?) ∧ SameRest {} m0 := by
  obtain ⟨m1, e1, V1, L1, S1, -, -⟩ := addVars_spec t.vars.toList {} (toList_pairwise t hv.bij)
    (by intro v l _; exact ⟨by simp, by simp⟩)
  refine ⟨m1, ?_, ?_, ?_, S1⟩
  · unfold mkBDD
    rw [validOrdering_toList t hv, e1]
    rfl
  · intro v
    apply Option.ext
    intro l
    rw [V1, TreeMap.mem_toList_iff_getElem?_eq_some]
    simp
  · intro l
    apply Option.ext
    intro v
    rw [L1, TreeMap.mem_toList_iff_getElem?_eq_some, hv.bij]
    simp

/-- every key of the unique table is the key of a node triple -/
def PredShape (m : Mgr) : Prop := ∀ (k : List Int) (u : Nat), m.pred[k]? = some u → ∃ n : Nd, k = n.key

/-- `m'` reproduces the stored fields of `m`; the others are those of a new manager -/
structure MgrStored (m m' : Mgr) : Prop where
  vars : ∀ v : String, m'.tbl.vars[v]? = m.tbl.vars[v]?
  l2v : ∀ l : Nat, m'.tbl.l2v[l]? = m.tbl.l2v[l]?
  succ : ∀ u : Nat, m'.tbl.succ[u]? = m.tbl.succ[u]?
  pred : ∀ k : List Int, m'.pred[k]? = m.pred[k]?
  ref : ∀ u : Nat, m'.ref[u]? = m.ref[u]?
  minFree : m'.minFree = m.minFree
  roots : m'.roots = m.roots
  cache : ∀ k : List Int, m'.cache[k]? = none
  lastLen : m'.lastLen = none
  ctx : m'.ctx = false

theorem nd?_nodeEntry (x : Nat × Nd) : (dumpNodeEntry x).nd? = some x := by
  obtain ⟨u, n⟩ := x
  rfl

theorem filterMap_nd?_nodes (l : List (Nat × Nd)) : (l.map dumpNodeEntry).filterMap PEntry.nd? = l := by
  induction l with
  | nil => rfl
  | cons x xs ih => simp [List.filterMap_cons, nd?_nodeEntry, ih]

theorem filter_none_nodes (l : List (Nat × Nd)) :
    (l.map dumpNodeEntry).filter (fun e => e.nd?.isNone) = [] := by
  rw [List.filter_eq_nil_iff]
  intro e he
  rw [List.mem_map] at he
  obtain ⟨x, _, rfl⟩ := he
  simp [nd?_nodeEntry]

theorem predEntry_key (n : Nd) (u : Nat) :
    predEntry (n.key, u) = some ⟨u, n.lvl, some n.lo, some n.hi⟩ := by
  simp [predEntry, Nd.key]

theorem pred_roundtrip (l : List (List Int × Nat)) (h : ∀ x ∈ l, ∃ n : Nd, x.1 = n.key) :
    ((l.filterMap predEntry).filterMap PEntry.nd?).map (fun (x : Nat × Nd) => (x.2.key, x.1)) = l ∧
    (l.filterMap predEntry).filter (fun e => e.nd?.isNone) = [] := by
  induction l with
  | nil => exact ⟨rfl, rfl⟩
  | cons x xs ih =>
    obtain ⟨k, u⟩ := x
    obtain ⟨n, hn⟩ := h (k, u) List.mem_cons_self
    simp at hn
    subst hn
    obtain ⟨a, b⟩ := ih (fun y hy => h y (List.mem_cons_of_mem _ hy))
    constructor
    · rw [List.filterMap_cons, predEntry_key]
      simp only [List.filterMap_cons, PEntry.nd?, List.map_cons]
      rw [a]
    · rw [List.filterMap_cons, predEntry_key]
      have : (⟨u, n.lvl, some n.lo, some n.hi⟩ : PEntry).nd?.isNone = false := rfl
      simp only [List.filter_cons, this]
      exact b

/-- C12: a whole-manager pickle reproduces the manager (`loadManager (dumpManager m)` equals
`m` on every stored field; the computed table is empty and reordering is off, as in
any new manager) -/
theorem manager_roundtrip (m : Mgr) (hv : DmpVarsOK m.tbl) (hp : PredShape m) :
    ∃ m', loadManager (dumpManager m) = .ok m' ∧ MgrStored m m' := by
  obtain ⟨m0, e0, V0, L0, S0⟩ := mkBDD_toList m.tbl hv
  have hpl : ∀ x ∈ m.pred.toList, ∃ n : Nd, x.1 = n.key := by
    intro x hx
    obtain ⟨k, u⟩ := x
    exact hp k u (TreeMap.mem_toList_iff_getElem?_eq_some.mp hx)
  obtain ⟨pr1, pr2⟩ := pred_roundtrip m.pred.toList hpl
  have hterm : (⟨1, m.nvars, none, none⟩ : PEntry).nd? = none := rfl
  have hlen : (dumpManager m).vars.length = m.nvars := length_vars_toList _
  refine ⟨{ m0 with
      roots := m.roots
      pred := TreeMap.ofList m.pred.toList
      tbl := { m0.tbl with succ := TreeMap.ofList m.tbl.succ.toList }
      ref := TreeMap.ofList m.ref.toList
      minFree := m.minFree }, ?_, ?_⟩
  · unfold loadManager
    have e0' : mkBDD (dumpManager m).vars = .ok m0 := e0
    rw [e0']
    simp only [dumpManager, List.filter_cons, hterm, Option.isNone_none, if_true, filter_none_nodes,
      pr2, List.filterMap_cons, filterMap_nd?_nodes, pr1, hlen]
    simp [Mgr.nvars, Tbl.nvars]
  · refine ⟨V0, L0, ?_, ?_, ?_, rfl, rfl, ?_, ?_, ?_⟩
    · intro u; exact ofList_toList_getElem? _ _
    · intro k; exact ofList_toList_getElem? _ _
    · intro u; exact ofList_toList_getElem? _ _
    · intro k; show m0.cache[k]? = none; rw [S0.cache]; simp
    · show m0.lastLen = none; rw [S0.lastLen]
    · show m0.ctx = false; rw [S0.ctx]

end DD
