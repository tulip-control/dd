/-
  DDProofs.MapBijection — maps that are bijections: inverting one by a fold of inserts, the
  size of a bijection onto `0..k-1`, and the order of a table (`OrderOK`) from two maps that are
  inverse to each other.
-/
import DDProofs.VarsProofs
open Std

namespace DD

theorem pairwise_toList_of_inj {κ β γ : Type} [Ord κ] [TransOrd κ] [LawfulEqOrd κ]
    (t : TreeMap κ β) (g : κ × β → γ)
    (hinj : ∀ (k k' : κ) (v v' : β), t[k]? = some v → t[k']? = some v' → g (k, v) = g (k', v') → k = k') :
    t.toList.Pairwise fun p q => g p ≠ g q := by
  refine (TreeMap.distinct_keys_toList (t := t)).imp_of_mem ?_
  intro p q hp hq hne he
  have h1 : t[p.1]? = some p.2 := TreeMap.mem_toList_iff_getElem?_eq_some.mp hp
  have h2 : t[q.1]? = some q.2 := TreeMap.mem_toList_iff_getElem?_eq_some.mp hq
  rw [hinj _ _ _ _ h1 h2 he] at hne
  exact hne compare_self

theorem exists_mem_toList {κ β : Type} [Ord κ] [TransOrd κ] [LawfulEqOrd κ] (t : TreeMap κ β)
    (P : κ → β → Prop) : (∃ p ∈ t.toList, P p.1 p.2) ↔ ∃ k v, t[k]? = some v ∧ P k v := by
  constructor
  · rintro ⟨p, hp, h⟩
    exact ⟨p.1, p.2, TreeMap.mem_toList_iff_getElem?_eq_some.mp hp, h⟩
  · rintro ⟨k, v, hk, h⟩
    exact ⟨(k, v), TreeMap.mem_toList_iff_getElem?_eq_some.mpr hk, h⟩

theorem getElem?_ofList_iff {γ κ : Type} [Ord γ] [TransOrd γ] [LawfulEqOrd γ] [BEq γ] [LawfulBEq γ]
    (l : List (γ × κ)) (hd : l.Pairwise fun p q => p.1 ≠ q.1) (c : γ) (k : κ) :
    (TreeMap.ofList l)[c]? = some k ↔ (c, k) ∈ l := by
  have hd' : l.Pairwise fun p q => ¬ compare p.1 q.1 = .eq :=
    hd.imp fun hne he => hne (LawfulEqOrd.eq_of_compare he)
  constructor
  · intro h
    cases hc : (l.map Prod.fst).contains c with
    | false => rw [TreeMap.getElem?_ofList_of_contains_eq_false hc] at h; cases h
    | true =>
      obtain ⟨q, hq, rfl⟩ := List.mem_map.mp (List.contains_iff_mem.mp hc)
      rw [TreeMap.getElem?_ofList_of_mem compare_self hd' hq] at h
      cases h
      exact hq
  · exact TreeMap.getElem?_ofList_of_mem compare_self hd'

/-- `{v: k for k, v in d.items()}` (the new `_level_to_var` and `_pred` of `undeclare_vars`) as a
fold of inserts: over a map with pairwise distinct `g k v` it builds the inverse relation -/
theorem getElem?_foldl_insert_inv {κ β γ : Type} [Ord κ] [TransOrd κ] [LawfulEqOrd κ]
    [Ord γ] [TransOrd γ] [LawfulEqOrd γ] [BEq γ] [LawfulBEq γ]
    (t : TreeMap κ β) (g : κ → β → γ)
    (hinj : ∀ (k k' : κ) (v v' : β), t[k]? = some v → t[k']? = some v' → g k v = g k' v' → k = k')
    (c : γ) (k : κ) :
    (t.foldl (fun acc k v => acc.insert (g k v) k) (∅ : TreeMap γ κ))[c]? = some k ↔
      ∃ v, t[k]? = some v ∧ g k v = c := by
  -- the fold is `ofList` of the swapped entries
  have e : (t.toList.map fun p => (g p.1 p.2, p.1)).foldl (fun acc q => acc.insert q.1 q.2) ∅ =
      t.toList.foldl (fun acc p => acc.insert (g p.1 p.2) p.1) (∅ : TreeMap γ κ) := List.foldl_map
  rw [TreeMap.foldl_eq_foldl_toList, ← e, ← TreeMap.ofList_equiv_foldl.getElem?_eq,
    getElem?_ofList_iff _ (List.pairwise_map.mpr (pairwise_toList_of_inj t _ hinj)), List.mem_map]
  constructor
  · rintro ⟨p, hp, e⟩
    injection e with e1 e2
    subst e2
    exact ⟨p.2, TreeMap.mem_toList_iff_getElem?_eq_some.mp hp, e1⟩
  · rintro ⟨v, h1, h2⟩
    exact ⟨(k, v), TreeMap.mem_toList_iff_getElem?_eq_some.mpr h1, by rw [h2]⟩

theorem TreeMap_size_eq_of_bij {κ : Type} [Ord κ] [TransOrd κ] [LawfulEqOrd κ]
    (t : TreeMap κ Nat) (k : Nat)
    (hlt : ∀ (v : κ) (i : Nat), t[v]? = some i → i < k)
    (hinj : ∀ (v w : κ) (i : Nat), t[v]? = some i → t[w]? = some i → v = w)
    (hsurj : ∀ i, i < k → ∃ v : κ, t[v]? = some i) : t.size = k := by
  -- the values, listed, are a duplicate-free list with the elements of `range k`
  have hnd : (t.toList.map Prod.snd).Nodup :=
    List.pairwise_map.mpr (pairwise_toList_of_inj t Prod.snd
      fun v w i j h1 h2 (e : i = j) => hinj v w i h1 (e ▸ h2))
  have hperm : (t.toList.map Prod.snd).Perm (List.range k) := by
    rw [List.perm_ext_iff_of_nodup hnd List.nodup_range]
    intro i
    rw [List.mem_range, List.mem_map]
    constructor
    · rintro ⟨p, hp, rfl⟩
      exact hlt p.1 p.2 (TreeMap.mem_toList_iff_getElem?_eq_some.mp hp)
    · intro hi
      obtain ⟨v, hv⟩ := hsurj i hi
      exact ⟨(v, i), TreeMap.mem_toList_iff_getElem?_eq_some.mpr hv, rfl⟩
  have := hperm.length_eq
  rw [List.length_map, TreeMap.length_toList, List.length_range] at this
  exact this

theorem treeMap_size_le_of_sub {κ β : Type} [Ord κ] [TransOrd κ] [LawfulEqOrd κ] (t t' : TreeMap κ β)
    (h : ∀ (v : κ) (i : β), t[v]? = some i → t'[v]? = some i) : t.size ≤ t'.size := by
  rw [← TreeMap.length_keys, ← TreeMap.length_keys]
  apply List.Nodup.length_le_of_subset TreeMap.nodup_keys
  intro v hv
  rw [TreeMap.mem_keys, TreeMap.mem_iff_isSome_getElem?] at hv ⊢
  obtain ⟨i, hi⟩ := Option.isSome_iff_exists.mp hv
  rw [h v i hi]; rfl

theorem OrderOK.of_bij {t : Tbl} {k : Nat}
    (hinv : ∀ (v : String) (i : Nat), t.vars[v]? = some i ↔ t.l2v[i]? = some v)
    (hlt : ∀ (v : String) (i : Nat), t.vars[v]? = some i → i < k)
    (hsurj : ∀ i, i < k → ∃ v : String, t.l2v[i]? = some v) : OrderOK t ∧ t.nvars = k := by
  have hn : t.nvars = k := by
    apply TreeMap_size_eq_of_bij _ _ hlt
    · intro v w i h1 h2
      have a := (hinv v i).mp h1
      rw [(hinv w i).mp h2] at a
      exact (Option.some.inj a).symm
    · intro i hi
      obtain ⟨v, hv⟩ := hsurj i hi
      exact ⟨v, (hinv v i).mpr hv⟩
  exact ⟨⟨hinv, fun v i h => hn ▸ hlt v i h, fun i hi => hsurj i (hn ▸ hi)⟩, hn⟩

theorem OrderOK.of_lookups {src t : Tbl} (hO : OrderOK src)
    (hv : ∀ v : String, t.vars[v]? = src.vars[v]?) (hl : ∀ i : Nat, t.l2v[i]? = src.l2v[i]?) :
    OrderOK t ∧ t.nvars = src.nvars :=
  OrderOK.of_bij (fun v i => by rw [hv, hl]; exact hO.inv v i) (fun v i h => hO.lt v i (hv v ▸ h))
    (fun i hi => hl i ▸ hO.total i hi)

end DD
