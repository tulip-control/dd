/-
  DDProofs.MddApply — `MDD.apply`: the table regenerated from dd/mdd.py is sound and complete for
  the vocabulary (kernel evaluation over the whole table), so the interpreter `mApply` is one call
  of `ite` on the template's atoms, or the negated reference (`mApply_cases`); hence it computes
  the documented connective pointwise (`mApply_spec`) and returns normally for every implemented
  alias given the operands the connective takes (`mApply_out`).
-/
import DDProofs.MddIte
import DDProofs.ApplyTable
open Std

namespace DD

/-- the template of a row of `MDD.apply` computes the documented connective of the alias;
the quantifier aliases raise `NotImplementedError` -/
def mddRowSound (r : ApplyRow) (al : String) : Bool :=
  match docConn al, r.templ with
  | some .not, .neg => true
  | some .forall_, .notImpl => true
  | some .exists_, .notImpl => true
  | some c, .ite a b d =>
    c != .forall_ && c != .exists_ && c != .not &&
    atomOk a && atomOk b && atomOk d &&
    ((atomUsesW a || atomUsesW b || atomUsesW d) == (c.arity == 3)) &&
    bools.all fun u => bools.all fun v => bools.all fun w =>
      (if atomB u v w a then atomB u v w b else atomB u v w d) == c.eval u v w
  | _, _ => false

def mddTableSound (tbl : List ApplyRow) : Bool :=
  tbl.all fun r => r.aliases.all fun al => mddRowSound r al

/-- `MDD.apply`: every branch of the current source computes the documented connective for
each of its spellings (all 8 operand valuations); `\A`, `\E` are not implemented -/
theorem mddApplyTable_sound : mddTableSound Gen.mddApplyTable = true := by decide +kernel

theorem mddVocabComplete : vocabComplete Gen.mddApplyTable = true := by decide +kernel

/-- a sound row of `MDD.apply`, by the connective of its alias: `return -u` for `not`,
`NotImplementedError` for the quantifiers, an `ite` template for every other connective -/
theorem mddRow_cases {row : ApplyRow} {op : String} {c : Conn}
    (hs : mddRowSound row op = true) (hc : docConn op = some c) :
    (c = .not ∧ row.templ = .neg) ∨ ((c = .forall_ ∨ c = .exists_) ∧ row.templ = .notImpl) ∨
    ∃ x y z, row.templ = .ite x y z ∧ c ≠ .forall_ ∧ c ≠ .exists_ ∧ c ≠ .not := by
  unfold mddRowSound at hs
  rw [hc] at hs
  cases ht : row.templ with
  | ite x y z =>
    rw [ht] at hs
    obtain ⟨h1, h2, h3, -⟩ :=
      iteTemplate_sound (c := c) (a := x) (b := y) (d := z) (by cases c <;> exact hs)
    exact .inr (.inr ⟨x, y, z, rfl, h1, h2, h3⟩)
  | neg =>
    rw [ht] at hs
    cases c with
    | not => exact .inl ⟨rfl, rfl⟩
    | _ => cases hs
  | notImpl =>
    rw [ht] at hs
    cases c with
    | forall_ => exact .inr (.inl ⟨.inl rfl, rfl⟩)
    | exists_ => exact .inr (.inl ⟨.inr rfl, rfl⟩)
    | _ => cases hs
  | quant _ _ _ => rw [ht] at hs; cases c <;> cases hs
  | bad => rw [ht] at hs; cases c <;> cases hs

theorem mddRow_ite {row : ApplyRow} {op : String} {c : Conn} {x y z : Atom}
    (hs : mddRowSound row op = true) (hc : docConn op = some c) (ht : row.templ = .ite x y z) :
    c ≠ .not ∧ atomOk x = true ∧ atomOk y = true ∧ atomOk z = true ∧
    ((atomUsesW x || atomUsesW y || atomUsesW z) = true ↔ c.arity = 3) ∧
    ∀ p q r : Bool, (if atomB p q r x then atomB p q r y else atomB p q r z) = c.eval p q r := by
  unfold mddRowSound at hs
  rw [hc, ht] at hs
  obtain ⟨_, _, hnot, hox, hoy, hoz, huse, htt⟩ :=
    iteTemplate_sound (c := c) (a := x) (b := y) (d := z) (by cases c <;> exact hs)
  exact ⟨hnot, hox, hoy, hoz, by rw [huse]; simp, htt⟩

theorem mddRow_quant {row : ApplyRow} {op : String} {c : Conn}
    (hs : mddRowSound row op = true) (hc : docConn op = some c) (hq : c = .forall_ ∨ c = .exists_) :
    row.templ = .notImpl := by
  rcases mddRow_cases hs hc with ⟨rfl, -⟩ | ⟨-, h⟩ | ⟨_, _, _, -, h1, h2, -⟩
  · rcases hq with h | h <;> cases h
  · exact h
  · exact (hq.elim h1 h2).elim

/-- as many operands as the connective takes -/
def ArgsShape (c : Conn) (v w : Option Int) : Prop :=
  (c.arity = 1 → v = none ∧ w = none) ∧ (c.arity = 2 → v.isSome = true ∧ w = none) ∧
  (c.arity = 3 → v.isSome = true ∧ w.isSome = true)

theorem ArgsShape.isSome {c : Conn} {v w : Option Int} (hs : ArgsShape c v w) :
    v.isSome = decide (2 ≤ c.arity) ∧ w.isSome = decide (c.arity = 3) := by
  rcases c.arity_one_two_three with h | h | h
  · rw [(hs.1 h).1, (hs.1 h).2, h]; exact ⟨rfl, rfl⟩
  · rw [(hs.2.1 h).1, (hs.2.1 h).2, h]; exact ⟨rfl, rfl⟩
  · rw [(hs.2.2 h).1, (hs.2.2 h).2, h]; exact ⟨rfl, rfl⟩

theorem atomUsesW_eq (q : Atom) : atomUsesW q = (decide (q = Atom.w) || decide (q = Atom.nw)) := by
  cases q <;> rfl

/-- the test `needsW` of `mApply` is "an atom of the template reads `w`" -/
theorem needsW_eq (x y z : Atom) :
    (decide (x = Atom.w) || decide (x = Atom.nw) || decide (y = Atom.w) || decide (y = Atom.nw) ||
      decide (z = Atom.w) || decide (z = Atom.nw)) = (atomUsesW x || atomUsesW y || atomUsesW z) := by
  rw [atomUsesW_eq, atomUsesW_eq, atomUsesW_eq]
  simp only [Bool.or_assoc]

/-- denotation of an optional operand (absent operands read as `false`) -/
def denO (t : MTbl) (v : Option Int) (a : MAsg) : Bool :=
  match v with
  | some v => denM t v a
  | none => false

theorem denM_atomVal (t : MTbl) (hw : MWF t) (u v w : Int) (x : Atom) (r : Int)
    (mu : t.Mem u) (mv : t.Mem v) (hwm : atomUsesW x = true → t.Mem w)
    (hx : atomVal u v w x = .ok r) :
    t.Mem r ∧ ∀ (a : MAsg) (W : Bool), (atomUsesW x = true → W = denM t w a) →
      denM t r a = atomB (denM t u a) (denM t v a) W x :=
  atomVal_sem (S := t.Mem) (D := fun a y => denM t y a)
    (fun y h => ⟨MTbl.mem_neg h, fun a => denM_neg t hw y a h⟩) ⟨t.mem_one, denM_one t⟩ hx mu mv hwm

/-- the form of `apply(op, u, v, w)`, whatever it returns: a check fails and nothing has changed;
or the row of `op` is `return -u`; or it is `return self.ite(x, y, z)`, the second operand is
there, the third is there if an atom reads it, all are nodes, and the call is the `ite` on the
atoms' values -/
theorem mApply_cases (op : String) (u : Int) (v w : Option Int) (m : MddMgr) (r : Except Err Int)
    (m' : MddMgr) (h : mApply op u v w m = (r, m')) :
    (m' = m ∧ ∃ e, r = .error e) ∨
    (∃ row, findRow op Gen.mddApplyTable = some row ∧ row.templ = .neg ∧ m.mem u = true ∧
      r = .ok (-u) ∧ m' = m) ∨
    (∃ row x y z vv ww a b c, findRow op Gen.mddApplyTable = some row ∧ row.templ = .ite x y z ∧
      m.mem u = true ∧ v = some vv ∧ m.mem vv = true ∧
      ((atomUsesW x || atomUsesW y || atomUsesW z) = true → w = some ww ∧ m.mem ww = true) ∧
      atomVal u vv ww x = .ok a ∧ atomVal u vv ww y = .ok b ∧ atomVal u vv ww z = .ok c ∧
      mIte a b c m = (r, m')) := by
  have hfail : ∀ e, (Except.error e, m) = (r, m') → (m' = m ∧ ∃ e, r = .error e) := by
    intro e he; cases he; exact ⟨rfl, e, rfl⟩
  unfold mApply at h
  split at h
  · exact Or.inl (hfail _ h)
  · split at h
    · exact Or.inl (hfail _ h)
    · next hmu =>
      have mu : m.mem u = true := by simpa using hmu
      split at h
      · exact Or.inl (hfail _ h)
      · next hmv =>
        split at h
        · exact Or.inl (hfail _ h)
        · next hmw =>
          split at h
          · exact Or.inl (hfail _ h)
          · next row hrow =>
            split at h
            · next htempl =>
              cases h
              exact Or.inr (Or.inl ⟨row, hrow, htempl, mu, rfl, rfl⟩)
            · next x y z htempl =>
              cases v with
              | none => exact Or.inl (hfail _ h)
              | some vv =>
                dsimp only at h
                split at h
                · exact Or.inl (hfail _ h)
                · next ww hww =>
                  split at h
                  · next a b c ha hb hc =>
                    refine Or.inr (Or.inr ⟨row, x, y, z, vv, ww, a, b, c, hrow, htempl, mu, rfl, ?_, ?_,
                      ha, hb, hc, h⟩)
                    · simpa [mddOptNotMem] using hmv
                    · intro huse
                      rw [needsW_eq, if_pos huse] at hww
                      subst hww
                      exact ⟨rfl, by simpa [mddOptNotMem] using hmw⟩
                  · exact Or.inl (hfail _ h)
            · exact Or.inl (hfail _ h)
            · split at h <;> exact Or.inl (hfail _ h)
            · exact Or.inl (hfail _ h)

/-- what `apply(op, u, v, w)` promises for a propositional connective -/
structure ApplyOK (m : MddMgr) (c : Conn) (u : Int) (v w : Option Int) (r : Int) (m' : MddMgr) : Prop
    extends MStep m m' where
  mem : m'.tbl.Mem r
  den : ∀ a, MValid m.tbl a →
    denM m'.tbl r a = c.eval (denM m.tbl u a) (denO m.tbl v a) (denO m.tbl w a)

/-- `MDD.apply` computes, for every spelling of every propositional connective of the
vocabulary, the documented connective pointwise on the valid integer assignments -/
theorem mApply_spec (m : MddMgr) (h : MInv m) (op : String) (c : Conn) (hc : docConn op = some c)
    (u : Int) (v w : Option Int) (r : Int) (m' : MddMgr)
    (hr : mApply op u v w m = (.ok r, m')) : ApplyOK m c u v w r m' := by
  have hW := h.wf.toMWF
  have hmem : ∀ x, m.mem x = true → m.tbl.Mem x := fun x hx => (MTbl.mem_iff m.tbl h.term x).mp hx
  rcases mApply_cases op u v w m _ m' hr with ⟨_, e, he⟩ | ⟨row, hrow, htempl, mu, hr1, rfl⟩ |
    ⟨row, x, y, z, vv, ww, a', b', c', hrow, htempl, mu, rfl, mv, hwuse, ha, hb, hcc, hite⟩
  · cases he
  · -- negation
    cases hr1
    obtain rfl : c = .not := by
      rcases mddRow_cases (checked_of_find mddApplyTable_sound hrow) hc with
        ⟨h, -⟩ | ⟨-, h⟩ | ⟨_, _, _, h, -⟩
      · exact h
      · rw [htempl] at h; cases h
      · rw [htempl] at h; cases h
    refine ⟨MStep.refl h, MTbl.mem_neg (hmem u mu), ?_⟩
    intro a _
    rw [denM_neg _ hW u a (hmem u mu)]; rfl
  · -- an if-then-else template
    obtain ⟨_, _, _, _, _, htt⟩ := mddRow_ite (checked_of_find mddApplyTable_sound hrow) hc htempl
    have hwm : ∀ q : Atom, (q = x ∨ q = y ∨ q = z) → atomUsesW q = true →
        m.tbl.Mem ww ∧ ∀ a, denO m.tbl w a = denM m.tbl ww a := by
      intro q hq hqu
      obtain ⟨rfl, hmw⟩ := hwuse (by rcases hq with rfl | rfl | rfl <;> simp [hqu])
      exact ⟨hmem ww hmw, fun _ => rfl⟩
    have A := denM_atomVal m.tbl hW u vv ww x a' (hmem u mu) (hmem vv mv)
      (fun hq => (hwm x (Or.inl rfl) hq).1) ha
    have B := denM_atomVal m.tbl hW u vv ww y b' (hmem u mu) (hmem vv mv)
      (fun hq => (hwm y (Or.inr (Or.inl rfl)) hq).1) hb
    have C := denM_atomVal m.tbl hW u vv ww z c' (hmem u mu) (hmem vv mv)
      (fun hq => (hwm z (Or.inr (Or.inr rfl)) hq).1) hcc
    have I := mIte_spec m h a' b' c' A.1 B.1 C.1 r m' hite
    refine ⟨I.toMStep, I.mem, ?_⟩
    intro a hva
    rw [I.den a hva, A.2 a (denO m.tbl w a) (fun hq => (hwm x (Or.inl rfl) hq).2 a),
      B.2 a (denO m.tbl w a) (fun hq => (hwm y (Or.inr (Or.inl rfl)) hq).2 a),
      C.2 a (denO m.tbl w a) (fun hq => (hwm z (Or.inr (Or.inr rfl)) hq).2 a)]
    exact htt _ _ _

theorem mApply_step (m : MddMgr) (h : MInv m) (op : String) (u : Int) (v w : Option Int) (r : Int)
    (m' : MddMgr) (hr : mApply op u v w m = (.ok r, m')) : MStep m m' := by
  rcases mApply_cases op u v w m _ m' hr with ⟨_, e, he⟩ | ⟨_, _, _, _, _, rfl⟩ |
    ⟨_, _, _, _, _, _, a, b, c, _, _, _, _, _, _, _, _, _, hite⟩
  · cases he
  · exact MStep.refl h
  · exact mIte_step m h a b c r m' hite

theorem mApply_err (m : MddMgr) (h : MInv m) (op : String) (u : Int) (v w : Option Int) (e : Err)
    (m' : MddMgr) (hr : mApply op u v w m = (.error e, m')) (he : e ≠ .sched) : m' = m := by
  rcases mApply_cases op u v w m _ m' hr with ⟨hm, _⟩ | ⟨_, _, _, _, hr1, _⟩ |
    ⟨_, _, _, _, _, _, a, b, c, _, _, _, _, _, _, _, _, _, hite⟩
  · exact hm
  · cases hr1
  · exact mIte_err m h a b c e m' hite he

/-- `apply` on an implemented alias, with the operands the connective takes, all nodes of the
manager: it returns normally with the connective applied pointwise, or the model reports a
schedule mismatch -/
theorem mApply_out (m : MddMgr) (h : MInv m) (op : String) (c : Conn)
    (hc : docConn op = some c) (hprop : c ≠ .forall_ ∧ c ≠ .exists_)
    (u : Int) (v w : Option Int) (hs : ArgsShape c v w) (mu : m.tbl.Mem u)
    (mv : ∀ x, v = some x → m.tbl.Mem x) (mw : ∀ x, w = some x → m.tbl.Mem x) :
    MOut (MSchedErr m) (fun r m' => ApplyOK m c u v w r m') (mApply op u v w m) := by
  -- whatever `apply` returns normally satisfies `ApplyOK`; so it is enough to see that the
  -- outcome is that of the negation, or of a call of `ite` on nodes
  suffices hT : (∃ r m', mApply op u v w m = (.ok r, m')) ∨
      (∃ e m', mApply op u v w m = (.error e, m') ∧ MSchedErr m e m') by
    rcases hT with ⟨r, m', hr⟩ | ⟨e, m', hr, he⟩
    · rw [hr]; exact mApply_spec m h op c hc u v w r m' hr
    · rw [hr]; exact he
  have hmem : ∀ x, m.tbl.Mem x → m.mem x = true := fun x hx => (MTbl.mem_iff m.tbl h.term x).mpr hx
  obtain ⟨row, hrow, hsound⟩ := row_of_op mddVocabComplete mddApplyTable_sound (docConn_allOps hc)
  have hnv : mddOptNotMem m v = false := by
    cases v with
    | none => rfl
    | some x => simp [mddOptNotMem, hmem x (mv x rfl)]
  have hnw : mddOptNotMem m w = false := by
    cases w with
    | none => rfl
    | some x => simp [mddOptNotMem, hmem x (mw x rfl)]
  unfold mApply
  rw [assertOperatorArity_ok hc hs.isSome.1 hs.isSome.2]
  simp only [hmem u mu, Bool.not_true, Bool.false_eq_true, if_false, hnv, hnw, hrow]
  rcases mddRow_cases hsound hc with ⟨-, htempl⟩ | ⟨hq, -⟩ | ⟨x, y, z, htempl, -⟩
  · rw [htempl]
    exact Or.inl ⟨_, _, rfl⟩
  · exact (hq.elim hprop.1 hprop.2).elim
  · obtain ⟨hnot, hox, hoy, hoz, huse, _⟩ := mddRow_ite hsound hc htempl
    rw [htempl]
    -- not unary: the second operand is there
    have hvs : v.isSome = true := by
      rw [hs.isSome.1]; cases c <;> first | rfl | exact absurd rfl hnot
    obtain ⟨vv, rfl⟩ := Option.isSome_iff_exists.mp hvs
    dsimp only
    rw [needsW_eq]
    -- the third operand, when the template reads it
    obtain ⟨ww, hww, hwmem⟩ : ∃ ww, (if (atomUsesW x || atomUsesW y || atomUsesW z) = true then w
        else some (w.getD 0)) = some ww ∧
        ((atomUsesW x || atomUsesW y || atomUsesW z) = true → m.tbl.Mem ww) := by
      by_cases hu3 : (atomUsesW x || atomUsesW y || atomUsesW z) = true
      · rw [if_pos hu3]
        obtain ⟨ww, hww⟩ := Option.isSome_iff_exists.mp (hs.2.2 (huse.mp hu3)).2
        exact ⟨ww, hww, fun _ => mw ww hww⟩
      · rw [if_neg hu3]
        exact ⟨w.getD 0, rfl, fun hq => absurd hq hu3⟩
    rw [hww]
    dsimp only
    obtain ⟨a', ha⟩ := atomVal_ok u vv ww hox
    obtain ⟨b', hb⟩ := atomVal_ok u vv ww hoy
    obtain ⟨c', hcc⟩ := atomVal_ok u vv ww hoz
    rw [ha, hb, hcc]
    dsimp only
    have hW := h.wf.toMWF
    have mvv := mv vv rfl
    have A := denM_atomVal m.tbl hW u vv ww x a' mu mvv (fun hq => hwmem (by simp [hq])) ha
    have B := denM_atomVal m.tbl hW u vv ww y b' mu mvv (fun hq => hwmem (by simp [hq])) hb
    have C := denM_atomVal m.tbl hW u vv ww z c' mu mvv (fun hq => hwmem (by simp [hq])) hcc
    rcases (mIte_out m h a' b' c' A.1 B.1 C.1).okOrSched with ⟨r, m', hr, _⟩ | ⟨m', hr, hne⟩
    · exact Or.inl ⟨r, m', hr⟩
    · exact Or.inr ⟨_, m', hr, rfl, hne⟩

end DD
