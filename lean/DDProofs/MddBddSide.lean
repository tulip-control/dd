/-
  DDProofs.MddBddSide — the BDD half of the main loop of `bdd_to_mdd`: with the bits in zones
  (`ZoneOK`, what `reorder(bdd, order)` establishes) every iteration's BDD side delivers
  `BddSideOK` for the semantics "value of the BDD reference on the bits encoded by the integer
  assignment".  Uses the specification of `cofactor` (C04) and "a node depends on its own
  level" (canonicity).
-/
import DDProofs.MddConv
import DDProofs.SatPick
import DDProofs.VarsProofs
import DDProofs.MddCofPath
open Std

namespace DD

/-- the bit assignment (by NAME) that encodes an integer assignment: bit `k` of the value of the
integer variable that lists the bit at position `k` (first listed bit least significant) -/
def bitsOfInts (dvars : List MVar) (α : MAsg) : String → Bool := fun bit =>
  match lastLookup bit (b2mBitToVar dvars) with
  | none => false
  | some d => (α d.level >>> d.bits.idxOf bit) % 2 == 1

/-- MDD level of the integer variable that owns BDD level `ℓ` (`len(dvars)` below all bits) -/
def zoneLevel (dvars : List MVar) (t : Tbl) (ℓ : Nat) : Nat :=
  match t.l2v[ℓ]? with
  | none => dvars.length
  | some bit =>
    match lastLookup bit (b2mBitToVar dvars) with
    | some d => d.level
    | none => dvars.length

/-- the bits are in zones: what `bdd_to_mdd` has established when the main loop starts -/
structure ZoneOK (dvars : List MVar) (t : Tbl) : Prop where
  order : OrderOK t
  /-- every BDD level carries a bit of some integer variable -/
  owner : ∀ ℓ, ℓ < t.nvars → ∃ bit d, t.l2v[ℓ]? = some bit ∧
    lastLookup bit (b2mBitToVar dvars) = some d ∧ d ∈ dvars ∧ bit ∈ d.bits
  /-- the zones follow the order of the integer variables -/
  mono : ∀ ℓ1 ℓ2, ℓ1 ≤ ℓ2 → ℓ2 < t.nvars → zoneLevel dvars t ℓ1 ≤ zoneLevel dvars t ℓ2
  decl : ∀ d ∈ dvars, ∀ b ∈ d.bits, t.vars.contains b = true
  /-- every listed bit belongs to exactly the variable that lists it -/
  uniq : ∀ d ∈ dvars, ∀ b ∈ d.bits, lastLookup b (b2mBitToVar dvars) = some d
  nodup : ∀ d ∈ dvars, d.bits.Nodup
  lvl : ∀ d ∈ dvars, d.level < dvars.length
  inj : ∀ d ∈ dvars, ∀ d' ∈ dvars, d.level = d'.level → d = d'

theorem ZoneOK.congr {dvars : List MVar} {t t' : Tbl} (h : ZoneOK dvars t)
    (hv : t'.vars = t.vars) (hl : t'.l2v = t.l2v) : ZoneOK dvars t' := by
  have hn : t'.nvars = t.nvars := by unfold Tbl.nvars; rw [hv]
  have hz : ∀ ℓ, zoneLevel dvars t' ℓ = zoneLevel dvars t ℓ := by
    intro ℓ; unfold zoneLevel; rw [hl]
  refine ⟨h.order.congr hv hl, ?_, ?_, ?_, h.uniq, h.nodup, h.lvl, h.inj⟩
  · intro ℓ; rw [hn, hl]; exact h.owner ℓ
  · intro a b; rw [hn, hz, hz]; exact h.mono a b
  · intro d hd b hb; rw [hv]; exact h.decl d hd b hb

theorem zoneLevel_of_bit (dvars : List MVar) {t : Tbl} {ℓ : Nat} {bit : String} {d : MVar}
    (hb : t.l2v[ℓ]? = some bit) (hd : lastLookup bit (b2mBitToVar dvars) = some d) :
    zoneLevel dvars t ℓ = d.level := by
  unfold zoneLevel; rw [hb]; simp only; rw [hd]

theorem ZoneOK.zoneLevel_of_mem {dvars : List MVar} {t : Tbl} (hz : ZoneOK dvars t) {d : MVar}
    (hd : d ∈ dvars) {b : String} (hb : b ∈ d.bits) {ℓ : Nat} (hl : t.vars[b]? = some ℓ) :
    zoneLevel dvars t ℓ = d.level :=
  zoneLevel_of_bit dvars ((hz.order.inv b ℓ).mp hl) (hz.uniq d hd b hb)

theorem ZoneOK.zoneLevel_nvars {dvars : List MVar} {t : Tbl} (hz : ZoneOK dvars t) :
    zoneLevel dvars t t.nvars = dvars.length := by
  unfold zoneLevel; rw [hz.order.l2v_none]

/-- the values `_enumerate_integer(bits)` gives to the bits for the integer `i` -/
def enumBits (bits : List String) (i : Nat) : List (String × Bool) :=
  ((List.range bits.length).zip bits).map fun p => (p.2, (i >>> p.1) % 2 == 1)

theorem enumInteger_eq (bits : List String) (i : Nat) :
    enumInteger bits i = (enumBits bits i).map fun p => (Key.name p.1, p.2) := by
  unfold enumInteger enumBits
  rw [List.map_map]
  rfl

theorem mem_enumBits {bits : List String} {i : Nat} {p : String × Bool} (h : p ∈ enumBits bits i) :
    ∃ k, k < bits.length ∧ bits[k]? = some p.1 ∧ p.2 = ((i >>> k) % 2 == 1) := by
  unfold enumBits at h
  rw [List.mem_map] at h
  obtain ⟨q, hq, rfl⟩ := h
  obtain ⟨j, hj, hqj⟩ := List.getElem_of_mem hq
  have hj' : j < bits.length := by
    rw [List.length_zip, List.length_range] at hj; omega
  have : q = (j, bits[j]) := by
    rw [← hqj]; simp [List.getElem_zip]
  subst this
  exact ⟨j, hj', by simp [List.getElem?_eq_getElem hj'], rfl⟩

theorem enumBits_names (bits : List String) (i : Nat) : (enumBits bits i).map (·.1) = bits := by
  unfold enumBits
  rw [List.map_map]
  apply List.ext_getElem
  · simp
  · intro k h1 h2
    simp [List.getElem_zip]

theorem bitsOfInts_enum {dvars : List MVar} {t : Tbl} (hz : ZoneOK dvars t) (d : MVar) (hd : d ∈ dvars)
    (α : MAsg) (i : Nat) (hα : α d.level = i) :
    ∀ p ∈ enumBits d.bits i, bitsOfInts dvars α p.1 = p.2 := by
  intro p hp
  obtain ⟨k, hk, hbk, hv⟩ := mem_enumBits hp
  have hmem : p.1 ∈ d.bits := List.mem_of_getElem? hbk
  unfold bitsOfInts
  rw [hz.uniq d hd p.1 hmem]
  simp only
  have hidx : d.bits.idxOf p.1 = k := by
    have hnd := hz.nodup d hd
    have h1 : d.bits[k] = p.1 := by
      have := List.getElem?_eq_getElem hk
      rw [hbk] at this
      exact (Option.some.inj this).symm
    rw [← h1]
    exact List.Nodup.idxOf_getElem hnd k hk
  rw [hidx, hα, hv]

theorem lookup_map_lvl {t : Tbl} (ho : OrderOK t) (d : List (String × Bool))
    (hdecl : ∀ p, p ∈ d → t.vars.contains p.1 = true) (σ : String → Bool)
    (hσ : ∀ p ∈ d, σ p.1 = p.2) (i : Nat) (b : Bool)
    (h : (d.map fun p => (lvlOf t p.1, p.2)).reverse.lookup i = some b) : t.lift σ i = b := by
  have hm := lookup_some_mem i b _ h
  rw [List.mem_reverse, List.mem_map] at hm
  obtain ⟨p, hp, hpe⟩ := hm
  simp only [Prod.mk.injEq] at hpe
  obtain ⟨h1, h2⟩ := hpe
  obtain ⟨l, hl⟩ := (vars_contains_iff t p.1).mp (hdecl p hp)
  have hli : l = i := by rw [← h1, lvlOf_eq hl]
  subst hli
  have hn : t.l2v[l]? = some p.1 := (ho.inv p.1 l).mp hl
  unfold Tbl.lift Tbl.nameOf
  rw [hn]
  simp only [Option.getD_some]
  rw [hσ p hp, h2]

theorem ovr_lift_eq {t : Tbl} (ho : OrderOK t) (d : List (String × Bool))
    (hdecl : ∀ p, p ∈ d → t.vars.contains p.1 = true) (σ : String → Bool)
    (hσ : ∀ p ∈ d, σ p.1 = p.2) :
    ovr ((d.map fun p => (lvlOf t p.1, p.2)).reverse) (t.lift σ) = t.lift σ := by
  funext i
  unfold ovr
  cases h : (d.map fun p => (lvlOf t p.1, p.2)).reverse.lookup i with
  | none => rfl
  | some b => exact (lookup_map_lvl ho d hdecl σ hσ i b h).symm

theorem ovr_upd_key (vals : List (Nat × Bool)) (a : Asg) (i : Nat) (b : Bool)
    (h : (vals.lookup i).isSome = true) : ovr vals (upd a i b) = ovr vals a := by
  funext j
  unfold ovr
  cases hj : vals.lookup j with
  | some c => rfl
  | none =>
    have : j ≠ i := by intro e; subst e; rw [hj] at h; cases h
    simp [upd, this]

theorem ovr_upd_other (vals : List (Nat × Bool)) (a : Asg) (i : Nat) (b : Bool)
    (h : vals.lookup i = none) : ovr vals (upd a i b) = upd (ovr vals a) i b := by
  funext j
  unfold ovr upd
  by_cases hji : j = i
  · subst hji; simp [h]
  · simp [hji]

/-- a reference that is the cofactor of `u` on the levels `vals` lives strictly below every
overridden level that is not above `u`: it does not depend on the overridden levels nor on the
levels above `u`, and a node depends on its own level -/
theorem cofactor_level {t t' : Tbl} (hw : WF t) (hw' : WFU t') (u r : Int) (hu : t.Mem u)
    (vals : List (Nat × Bool))
    (hden : ∀ a, den t' r a = den t u (ovr vals a)) (n : Nd) (h1 : r.natAbs ≠ 1)
    (hn : t'.node? r.natAbs = some n) :
    t.levelOf u ≤ n.lvl ∧ vals.lookup n.lvl = none := by
  have hdep := node_depends_on_own_level hw' h1 hn
  obtain ⟨a, ha⟩ := hdep
  constructor
  · apply Classical.byContradiction
    intro hlt
    have hlt' : n.lvl < t.levelOf u := by omega
    apply ha
    rw [hden, hden]
    cases hk : vals.lookup n.lvl with
    | some c =>
      rw [ovr_upd_key vals a n.lvl true (by rw [hk]; rfl), ovr_upd_key vals a n.lvl false (by rw [hk]; rfl)]
    | none =>
      rw [ovr_upd_other vals a n.lvl true hk, ovr_upd_other vals a n.lvl false hk,
        den_indep t hw u hu n.lvl true _ hlt', den_indep t hw u hu n.lvl false _ hlt']
  · cases hk : vals.lookup n.lvl with
    | none => rfl
    | some c =>
      exfalso
      apply ha
      rw [hden, hden, ovr_upd_key vals a n.lvl true (by rw [hk]; rfl),
        ovr_upd_key vals a n.lvl false (by rw [hk]; rfl)]

/-- value of the BDD reference `s` on the bits encoded by the integer assignment `α`
(complement by the sign, so that it is defined for every integer) -/
def semB (dvars : List MVar) (t : Tbl) (s : Int) (α : MAsg) : Bool :=
  (decide (s < 0)) ^^ den t ((s.natAbs : Nat) : Int) (t.lift (bitsOfInts dvars α))

theorem semB_neg (dvars : List MVar) (t : Tbl) (x : Int) (α : MAsg) (hx : x ≠ 0) :
    semB dvars t (-x) α = !semB dvars t x α := by
  unfold semB
  rw [Int.natAbs_neg]
  by_cases h : x < 0
  · have h2 : ¬ (-x < 0) := by omega
    have h3 : ¬ (0 < x) := by omega
    simp [h, h3]
  · have h2 : -x < 0 := by omega
    have h3 : 0 < x := by omega
    simp [h, h3]

theorem semB_eq (dvars : List MVar) {t : Tbl} (hw : WF t) {s : Int} (hm : t.Mem s) (α : MAsg) :
    semB dvars t s α = denN t s (bitsOfInts dvars α) :=
  (den_natAbs hw hm _).symm

theorem semB_nat (dvars : List MVar) (t : Tbl) (u : Nat) (α : MAsg) :
    semB dvars t (u : Int) α = den t (u : Int) (t.lift (bitsOfInts dvars α)) := by
  unfold semB
  have : ¬ ((u : Int) < 0) := by omega
  simp [this]


/-- the levels and values that the `i`-th cofactor call overrides -/
def cofVals (t : Tbl) (bits : List String) (i : Nat) : List (Nat × Bool) :=
  ((enumBits bits i).map fun p => (lvlOf t p.1, p.2)).reverse

theorem cofVals_congr {t t' : Tbl} (hv : t'.vars = t.vars) (bits : List String) (i : Nat) :
    cofVals t' bits i = cofVals t bits i := by
  unfold cofVals lvlOf; rw [hv]

theorem cofVals_key {t : Tbl} {bits : List String} (i : Nat) {b : String} (hb : b ∈ bits) :
    ((cofVals t bits i).lookup (lvlOf t b)).isSome = true := by
  apply lookup_isSome_iff_mem_keys.mpr
  unfold cofVals
  rw [List.map_reverse, List.mem_reverse, List.map_map]
  have : (enumBits bits i).map ((fun p : Nat × Bool => p.1) ∘ fun p => (lvlOf t p.1, p.2)) =
      ((enumBits bits i).map (·.1)).map (lvlOf t) := by
    rw [List.map_map]; rfl
  rw [this, enumBits_names]
  exact List.mem_map.mpr ⟨b, hb, rfl⟩

/-- a level in the zone of `d` carries a bit of `d`, so every cofactor call for `d` overrides it -/
theorem ZoneOK.cofVals_isSome {dvars : List MVar} {t : Tbl} (hz : ZoneOK dvars t) {d : MVar}
    (hd : d ∈ dvars) {ℓ : Nat} (hℓ : ℓ < t.nvars) (h : zoneLevel dvars t ℓ = d.level) (i : Nat) :
    ((cofVals t d.bits i).lookup ℓ).isSome = true := by
  obtain ⟨bit, d', hbit, hdl, hdm, hbd⟩ := hz.owner ℓ hℓ
  obtain rfl : d' = d := hz.inj d' hdm d hd (by rw [← zoneLevel_of_bit dvars hbit hdl, h])
  rw [← lvlOf_eq ((hz.order.inv bit ℓ).mpr hbit)]
  exact cofVals_key i hbd

/-- inside the zone of `d`, from the level of `u` down to any bit of `d`, every level carries a bit
of `d` (the zone is contiguous): the covering condition of `cofactor_path` -/
theorem zone_cover {dvars : List MVar} {t : Tbl} (hz : ZoneOK dvars t) (d : MVar) (hd : d ∈ dvars)
    (lu : Nat) (hzu : zoneLevel dvars t lu = d.level) (i : Nat) (ℓ : Nat) (hℓ : lu ≤ ℓ)
    (hj : ∃ p ∈ enumBits d.bits i, ℓ ≤ lvlOf t p.1) :
    ((cofVals t d.bits i).lookup ℓ).isSome = true := by
  obtain ⟨p, hp, hle⟩ := hj
  obtain ⟨k, _, hbk, _⟩ := mem_enumBits hp
  have hpb : p.1 ∈ d.bits := List.mem_of_getElem? hbk
  obtain ⟨lp, hlp⟩ := (vars_contains_iff t p.1).mp (hz.decl d hd p.1 hpb)
  have hlpn : lp < t.nvars := hz.order.lt _ _ hlp
  rw [lvlOf_eq hlp] at hle
  have hzp : zoneLevel dvars t lp = d.level :=
    hz.zoneLevel_of_mem hd hpb hlp
  have h1 := hz.mono lu ℓ hℓ (by omega)
  have h2 := hz.mono ℓ lp hle hlpn
  exact hz.cofVals_isSome hd (by omega) (by omega) i

theorem Tbl.nat_node {t : Tbl} (hw : WF t) {u : Nat} {n : Nd} (hn : t.node? u = some n) :
    t.Mem (u : Int) ∧ t.levelOf (u : Int) = n.lvl := by
  have hu2 : 2 ≤ u := hw.ge_two _ _ hn
  have hnode : t.node? ((u : Nat) : Int).natAbs = some n := by simpa using hn
  exact ⟨Or.inr (by rw [hnode]; rfl), levelOf_node t (u : Int) n (by simp; omega) hnode⟩

theorem b2mSuccs_out (dvars : List MVar) (var : MVar) (hd : var ∈ dvars) (u : Nat)
    (umap : List (Nat × Int)) (mb : Mgr) (hW : WF mb.tbl) (hz : ZoneOK dvars mb.tbl)
    (hu : mb.tbl.Mem (u : Int))
    (hzu : zoneLevel dvars mb.tbl (mb.tbl.levelOf (u : Int)) = var.level) :
    ∀ (is : List Nat),
      (∃ succs, b2mSuccs u var.bits umap is mb = (.ok succs, mb) ∧ succs.length = is.length ∧
        ∀ (j i : Nat) (k : Int), is[j]? = some i → succs[j]? = some k →
          ∃ (x r : Int), umap.lookup x.natAbs = some r ∧ k = (if x > 0 then r else -r) ∧
            PathEntry (cofVals mb.tbl var.bits i) mb.tbl (u : Int) x) ∨
      (b2mSuccs u var.bits umap is mb = (.error .key, mb) ∧
        ∃ i ∈ is, ∃ x, PathEntry (cofVals mb.tbl var.bits i) mb.tbl (u : Int) x ∧
          umap.lookup x.natAbs = none) := by
  intro is
  induction is with
  | nil => exact Or.inl ⟨[], rfl, rfl, fun j i k hj => by simp at hj⟩
  | cons i0 rest ih =>
    have hdecl : ∀ p, p ∈ enumBits var.bits i0 → mb.tbl.vars.contains p.1 = true := by
      intro p hp
      obtain ⟨k, _, hbk, _⟩ := mem_enumBits hp
      exact hz.decl var hd p.1 (List.mem_of_getElem? hbk)
    obtain ⟨x0, hc, hpe⟩ := cofactor_path mb hW (u : Int) hu (enumBits var.bits i0) hdecl
      (fun ℓ hℓ hj => zone_cover hz var hd _ hzu i0 ℓ hℓ hj)
    unfold b2mSuccs
    rw [enumInteger_eq, hc]
    dsimp only
    cases hl0 : umap.lookup x0.natAbs with
    | none => exact Or.inr ⟨rfl, i0, List.mem_cons_self, x0, hpe, hl0⟩
    | some r0 =>
      dsimp only
      rcases ih with ⟨rs, hrs, hlen, hall⟩ | ⟨herr, i, hi, x, hx, hnone⟩
      · rw [hrs]
        refine Or.inl ⟨_, rfl, by simp [hlen], ?_⟩
        intro j i k hj hk
        cases j with
        | zero =>
          simp only [List.getElem?_cons_zero, Option.some.injEq] at hj hk
          subst hj hk
          exact ⟨x0, r0, hl0, rfl, hpe⟩
        | succ j =>
          simp only [List.getElem?_cons_succ] at hj hk
          exact hall j i k hj hk
      · rw [herr]
        exact Or.inr ⟨rfl, i, List.mem_cons_of_mem _ hi, x, hx, hnone⟩

/-- MDD level of the zone of BDD node `x` -/
def zoneOfNode (dvars : List MVar) (mb : Mgr) (x : Nat) : Nat :=
  zoneLevel dvars mb.tbl (mb.tbl.levelOf (x : Int))

theorem zoneLevel_congr (dvars : List MVar) {t t' : Tbl} (hl : t'.l2v = t.l2v) (ℓ : Nat) :
    zoneLevel dvars t' ℓ = zoneLevel dvars t ℓ := by
  unfold zoneLevel; rw [hl]

theorem b2mIntSucc_out (dvars : List MVar) (u : Nat) (umap : List (Nat × Int))
    (mb : Mgr) (hI : Inv mb) (hz : ZoneOK dvars mb.tbl) (n : Nd) (hn : mb.tbl.node? u = some n) :
    ∃ d, d ∈ dvars ∧ zoneLevel dvars mb.tbl n.lvl = d.level ∧
      ((∃ succs, b2mIntSucc (b2mBitToVar dvars) u umap mb = (.ok (d, succs), mb) ∧
          succs.length = 2 ^ d.bits.length ∧
          ∀ (i : Nat) (k : Int), succs[i]? = some k →
            ∃ (x r : Int), umap.lookup x.natAbs = some r ∧ k = (if x > 0 then r else -r) ∧
              PathEntry (cofVals mb.tbl d.bits i) mb.tbl (u : Int) x) ∨
       (b2mIntSucc (b2mBitToVar dvars) u umap mb = (.error .key, mb) ∧
          ∃ i x, PathEntry (cofVals mb.tbl d.bits i) mb.tbl (u : Int) x ∧
            umap.lookup x.natAbs = none)) := by
  have hW := hI.wf.toWF
  obtain ⟨huM, hlu⟩ := Tbl.nat_node hW hn
  obtain ⟨bit, d, hbit, hdl, hdm, hbd⟩ := hz.owner n.lvl (hW.lvl_lt _ _ hn)
  have hzu0 : zoneLevel dvars mb.tbl n.lvl = d.level := zoneLevel_of_bit dvars hbit hdl
  refine ⟨d, hdm, hzu0, ?_⟩
  unfold b2mIntSucc
  rw [show mb.tbl.succ[u]? = some n from hn]
  dsimp only
  rw [hbit]
  dsimp only
  rw [hdl]
  dsimp only
  rcases b2mSuccs_out dvars d hdm u umap mb hW hz huM (by rw [hlu]; exact hzu0)
      (List.range (2 ^ d.bits.length)) with ⟨succs, hs, hlen, hall⟩ | ⟨herr, i, _, x, hx, hnone⟩
  · rw [hs]
    rw [List.length_range] at hlen
    refine Or.inl ⟨succs, rfl, hlen, ?_⟩
    intro i k hk
    obtain ⟨hilen, -⟩ := List.getElem?_eq_some_iff.mp hk
    exact hall i i k (by rw [List.getElem?_range (by omega)]) hk
  · rw [herr]
    exact Or.inr ⟨rfl, i, x, hx, hnone⟩

theorem b2mIntSucc_facts (dvars : List MVar) (u : Nat) (umap : List (Nat × Int))
    (mb : Mgr) (var : MVar) (succs : List Int) (mb1 : Mgr) (hI : Inv mb) (hz : ZoneOK dvars mb.tbl)
    (n : Nd) (hn : mb.tbl.node? u = some n)
    (hr : b2mIntSucc (b2mBitToVar dvars) u umap mb = (.ok (var, succs), mb1)) :
    mb1 = mb ∧ var ∈ dvars ∧ zoneLevel dvars mb.tbl n.lvl = var.level ∧
    succs.length = 2 ^ var.bits.length ∧
    ∀ (i : Nat) (k : Int), succs[i]? = some k →
      ∃ (x r : Int), umap.lookup x.natAbs = some r ∧ k = (if x > 0 then r else -r) ∧
        PathEntry (cofVals mb.tbl var.bits i) mb.tbl (u : Int) x := by
  obtain ⟨d, hdm, hzu0, hcase⟩ := b2mIntSucc_out dvars u umap mb hI hz n hn
  rcases hcase with ⟨succs', hs, hlen, hall⟩ | ⟨herr, _⟩
  · rw [hs] at hr
    cases hr
    exact ⟨rfl, hdm, hzu0, hlen, hall⟩
  · rw [herr] at hr; cases hr

theorem pathEntry_side {dvars : List MVar} {mb : Mgr} (hI : Inv mb) (hz : ZoneOK dvars mb.tbl)
    (d : MVar) (hdm : d ∈ dvars) (u : Nat) (n : Nd) (hn : mb.tbl.node? u = some n)
    (hzu0 : zoneLevel dvars mb.tbl n.lvl = d.level) (i : Nat) (x : Int)
    (hpe : PathEntry (cofVals mb.tbl d.bits i) mb.tbl (u : Int) x) :
    x ≠ 0 ∧ d.level < zoneOfNode dvars mb x.natAbs ∧
    ∀ α, α d.level = i → semB dvars mb.tbl x α = semB dvars mb.tbl (u : Int) α := by
  have hW := hI.wf.toWF
  obtain ⟨huM, hlu⟩ := Tbl.nat_node hW hn
  have h3 := hpe.ent.mr
  have h4 := hpe.ent.den
  have hx0 : x ≠ 0 := mem_ne_zero hW h3
  refine ⟨hx0, ?_, ?_⟩
  · show d.level < zoneLevel dvars mb.tbl (mb.tbl.levelOf (((x.natAbs : Nat)) : Int))
    have habs : mb.tbl.levelOf (((x.natAbs : Nat)) : Int) = mb.tbl.levelOf x := by
      unfold Tbl.levelOf; simp
    rw [habs]
    by_cases hx1 : x.natAbs = 1
    · rw [levelOf_term mb.tbl x hx1, hz.zoneLevel_nvars]
      exact hz.lvl d hdm
    · rcases h3 with h3 | h3
      · exact absurd h3 hx1
      · obtain ⟨nx, hnx⟩ := Option.isSome_iff_exists.mp h3
        rw [levelOf_node mb.tbl x nx hx1 hnx]
        obtain ⟨hge, hnone⟩ := cofactor_level hW hI.wf (u : Int) x huM
          (cofVals mb.tbl d.bits i) h4 nx hx1 hnx
        rw [hlu] at hge
        have hnxlt : nx.lvl < mb.tbl.nvars := hW.lvl_lt _ _ hnx
        have hmono := hz.mono n.lvl nx.lvl hge hnxlt
        rw [hzu0] at hmono
        have hne : zoneLevel dvars mb.tbl nx.lvl ≠ d.level := by
          intro heq
          have := hz.cofVals_isSome hdm hnxlt heq i
          rw [hnone] at this
          cases this
        omega
  · intro α hα
    rw [semB_eq dvars hW h3, semB_eq dvars hW huM]
    unfold denN
    rw [h4]
    have hov : ovr (cofVals mb.tbl d.bits i) (mb.tbl.lift (bitsOfInts dvars α)) =
        mb.tbl.lift (bitsOfInts dvars α) := by
      unfold cofVals
      apply ovr_lift_eq hz.order
      · intro p hp
        obtain ⟨k', _, hbk, _⟩ := mem_enumBits hp
        exact hz.decl d hdm p.1 (List.mem_of_getElem? hbk)
      · exact bitsOfInts_enum hz d hdm α i hα
    rw [hov]

theorem b2mIntSucc_bddSide (dvars : List MVar) (u : Nat) (umap : List (Nat × Int))
    (mb : Mgr) (var : MVar) (succs : List Int) (mb1 : Mgr) (hI : Inv mb) (hz : ZoneOK dvars mb.tbl)
    (hK : (mb.tbl.node? u).isSome = true)
    (hr : b2mIntSucc (b2mBitToVar dvars) u umap mb = (.ok (var, succs), mb1)) :
    mb1 = mb ∧ BddSideOK (semB dvars mb.tbl) (zoneOfNode dvars mb) u umap var succs := by
  have hW := hI.wf.toWF
  obtain ⟨n, hn⟩ := Option.isSome_iff_exists.mp hK
  obtain ⟨hmb, hdm, hzu0, _, hall⟩ := b2mIntSucc_facts dvars u umap mb var succs mb1 hI hz n hn hr
  refine ⟨hmb, ?_, ?_⟩
  · show zoneLevel dvars mb.tbl (mb.tbl.levelOf (u : Int)) = var.level
    rw [(Tbl.nat_node hW hn).2]; exact hzu0
  · intro i k hk
    obtain ⟨x, r, h1, h2, hpe⟩ := hall i k hk
    obtain ⟨hx0, hL, hS⟩ := pathEntry_side hI hz var hdm u n hn hzu0 i x hpe
    exact ⟨x, r, h1, h2, hx0, hL, hS⟩

theorem umapOK_init (dvars : List MVar) (m2 : Mgr) (hz : ZoneOK dvars m2.tbl) :
    UmapOK (semB dvars m2.tbl) (zoneOfNode dvars m2) (MddMgr.new (some dvars)) [(1, 1)] := by
  refine UmapOK.init _ _ dvars (fun α => ?_) ?_
  · show semB dvars m2.tbl ((1 : Nat) : Int) α = true
    rw [semB_nat]; exact den_one _ _
  · show zoneLevel dvars m2.tbl (m2.tbl.levelOf ((1 : Nat) : Int)) ≤ dvars.length
    rw [levelOf_term m2.tbl _ (by simp), hz.zoneLevel_nvars]
    exact Nat.le_refl _

/-- the main loop of `bdd_to_mdd` on a BDD manager whose bits are in zones: the BDD manager is
left as it was, the MDD manager satisfies its invariant, and every `umap` entry `u ↦ r` is right —
`u` is a node, and for every reference `s` to it (complemented or not) the MDD reference
`flip(r, s)` takes, on every valid integer assignment, the value of `s` on the encoded bits -/
theorem b2mLoop_bdd_sound (dvars : List MVar) (m2 : Mgr) (hI : Inv m2)
    (hz : ZoneOK dvars m2.tbl) (rm ord : List Nat)
    (hord : ∀ u, u ∈ ord → rm.contains u = false → (m2.tbl.node? u).isSome = true)
    (out : B2MOut) (mb' : Mgr)
    (hr : b2mLoop rm (b2mBitToVar dvars) ord (MddMgr.new (some dvars)) [(1, 1)] m2 = (.ok out, mb')) :
    mb' = m2 ∧ MInv out.mdd ∧ out.mdd.tbl.vars = dvars ∧
    MReach dvars out.mdd (fun _ => 0) ∧
    ∀ (u : Nat) (r : Int), out.umap.lookup u = some r →
      m2.tbl.Mem (u : Int) ∧ out.mdd.tbl.Mem r ∧
      ∀ (s : Int), s.natAbs = u → ∀ α, MValid out.mdd.tbl α →
        denM out.mdd.tbl (flip r s) α = denN m2.tbl s (bitsOfInts dvars α) := by
  have hW := hI.wf.toWF
  obtain ⟨hP', hinv, hext, hU, hR⟩ := b2mLoop_partial (semB dvars m2.tbl) (zoneOfNode dvars m2)
    (fun x α hx => semB_neg dvars m2.tbl x α hx) rm (b2mBitToVar dvars) (fun mb => mb = m2)
    (fun u => (m2.tbl.node? u).isSome = true)
    (fun u umap mb var succs mb1 hP hK hs => by
      subst hP
      exact b2mIntSucc_bddSide dvars u umap mb var succs mb1 hI hz hK hs)
    ord _ _ m2 out mb' hord rfl (MInv.init dvars) (umapOK_init dvars m2 hz) hr
  refine ⟨hP', hinv, hext.vars.symm, hR _ _ MReach.init, ?_⟩
  intro u r hl
  have hmu : m2.tbl.Mem (u : Int) := by
    rcases (b2mLoop_keys _ _ _ _ _ _ _ _ hr).2.2 u (by rw [hl]; rfl) with h1 | ⟨h1, h2⟩
    · by_cases hu : u = 1
      · exact Or.inl (by simp [hu])
      · have : (u == 1) = false := by simpa using hu
        simp [List.lookup_cons, this] at h1
    · exact Or.inr (by simpa using hord u h1 h2)
  refine ⟨hmu, (hU.ok u r hl).1, ?_⟩
  intro s hs α hα
  have hms : m2.tbl.Mem s := by
    unfold Tbl.Mem at hmu ⊢
    simpa [hs] using hmu
  rw [← semB_eq dvars hW hms]
  exact hU.flip (fun x α hx => semB_neg dvars m2.tbl x α hx) hinv.wf.toMWF hl s hs α hα

end DD
