/-
  DDProofs.MddCanon — canonicity of MDDs: two references of an ordered, reduced,
  first-successor-regular, unique table denote the same function of the (valid) integer
  assignments iff they are equal.  Imitates DDProofs.Canon (binary case).
-/
import DDProofs.MddSem
open Std

namespace DD

def mupd (a : MAsg) (i : Nat) (b : Nat) : MAsg := fun j => if j = i then b else a j

@[simp] theorem mupd_same (a : MAsg) (i : Nat) (b : Nat) : mupd a i b i = b := by simp [mupd]
theorem mupd_other (a : MAsg) (i j : Nat) (b : Nat) (h : j ≠ i) : mupd a i b j = a j := by
  simp [mupd, h]

theorem MValid.mupd {t : MTbl} {a : MAsg} (h : MValid t a) (i b : Nat) (hb : b < t.arity i) :
    MValid t (mupd a i b) := by
  intro j hj
  by_cases hji : j = i
  · subst hji; simpa using hb
  · rw [mupd_other _ _ _ _ hji]; exact h j hj

theorem MTbl.mem_induction (t : MTbl) (hw : MWF t) (P : Int → Prop)
    (hterm : ∀ u, u.natAbs = 1 → P u)
    (hnode : ∀ u n, u.natAbs ≠ 1 → t.node? u.natAbs = some n → (∀ c ∈ n.kids, P c) → P u) :
    ∀ u, t.Mem u → P u := by
  have key : ∀ k u, t.Mem u → t.nvars ≤ k + t.levelOf u → P u := by
    intro k
    induction k with
    | zero =>
      intro u hm hk
      rcases hm.cases with h1 | ⟨n, h1, hn, hl⟩
      · exact hterm u h1
      · have := hw.lvl_lt _ _ hn
        omega
    | succ k ih =>
      intro u hm hk
      rcases hm.cases with h1 | ⟨n, h1, hn, hl⟩
      · exact hterm u h1
      · refine hnode u n h1 hn (fun c hc => ih c (hw.kids_mem _ _ hn c hc) ?_)
        have := hw.kids_lt _ _ hn c hc
        omega
  exact fun u hm => key t.nvars u hm (by omega)

theorem denM_indep (t : MTbl) (hw : MWF t) (u : Int) (hm : t.Mem u) (i b : Nat) (a : MAsg)
    (hi : i < t.levelOf u) : denM t u (mupd a i b) = denM t u a := by
  revert hi
  refine t.mem_induction hw (fun u => i < t.levelOf u → denM t u (mupd a i b) = denM t u a) ?_ ?_ u hm
  · intro u h1 _
    rcases mabs_one h1 with h | h <;> subst h
    · simp [denM_one]
    · exact (denM_neg_one t _).trans (denM_neg_one t _).symm
  · intro u n h1 hn ih hi
    rw [t.levelOf_node u n h1 hn] at hi
    rw [denM_node t hw u n _ h1 hn, denM_node t hw u n _ h1 hn, mupd_other _ _ _ _ (by omega)]
    cases hk' : n.kids[a n.lvl]? with
    | none => rfl
    | some c =>
      have hcm := List.mem_of_getElem? hk'
      have h2 := hw.kids_lt _ _ hn c hcm
      simp only
      rw [ih c hcm (by omega)]

/-- regular references are true under the all-zero assignment (first successors are regular) -/
theorem denM_allzero (t : MTbl) (hw : MWF t) (u : Int) (hm : t.Mem u) :
    denM t u (fun _ => 0) = decide (0 < u) := by
  refine t.mem_induction hw (fun u => denM t u (fun _ => 0) = decide (0 < u)) ?_ ?_ u hm
  · intro u h1
    rcases mabs_one h1 with h | h <;> subst h
    · simp [denM_one]
    · rw [denM_neg_one]; simp
  · intro u n h1 hn ih
    obtain ⟨k0, rest, hk0, hpos⟩ := hw.head_pos _ _ hn
    have hget : n.kids[(fun _ : Nat => 0) n.lvl]? = some k0 := by simp [hk0]
    rw [denM_node_kid t hw u n _ k0 h1 hn hget, ih k0 (by simp [hk0])]
    have hu0 : u ≠ 0 := t.mem_ne_zero hw (MTbl.mem_of_node hn)
    by_cases hneg : u < 0
    · have : ¬ (0 < u) := by omega
      simp [hneg, hpos, this]
    · have : 0 < u := by omega
      simp [hneg, hpos, this]

theorem mvalid_zero (t : MTbl) (hpos : ∀ i, i < t.nvars → 0 < t.arity i) : MValid t (fun _ => 0) :=
  fun i hi => hpos i hi

theorem denM_kid_eq (t : MTbl) (hw : MWF t) (u : Int) (n : MNd) (hpos : 0 < u) (h1 : u.natAbs ≠ 1)
    (hn : t.node? u.natAbs = some n) (j : Nat) (c : Int) (hc : n.kids[j]? = some c) (a : MAsg) :
    denM t c a = denM t u (mupd a n.lvl j) := by
  have hget : n.kids[(mupd a n.lvl j) n.lvl]? = some c := by simpa using hc
  rw [denM_node_kid t hw u n _ c h1 hn hget]
  have : ¬ u < 0 := by omega
  simp only [this, decide_false, Bool.false_bne]
  have hcm := List.mem_of_getElem? hc
  exact (denM_indep t hw c (hw.kids_mem _ _ hn c hcm) n.lvl j a (hw.kids_lt _ _ hn c hcm)).symm

abbrev MCanonAt (t : MTbl) (k : Nat) : Prop :=
  ∀ u v, t.Mem u → t.Mem v → t.nvars ≤ k + min (t.levelOf u) (t.levelOf v) →
    (∀ a, MValid t a → denM t u a = denM t v a) → u = v

theorem kids_all_eq_absurd (t : MTbl) (hw : MWF t) (u : Nat) (n : MNd) (hn : t.node? u = some n)
    (c0 : Int) (h : ∀ c ∈ n.kids, c = c0) : False := by
  obtain ⟨k, hk, k', hk', hne⟩ := hw.not_const _ _ hn
  exact hne ((h k hk).trans (h k' hk').symm)

/-- a positive node is not the constant true: all its successors would be `1` -/
theorem mcanon_term_node (t : MTbl) (hw : MWFU t) (k : Nat) (ih : MCanonAt t k)
    (v : Int) (n : MNd) (hpos : 0 < v) (h1 : v.natAbs ≠ 1) (hn : t.node? v.natAbs = some n)
    (hb : t.nvars ≤ k + 1 + n.lvl) (he : ∀ a, MValid t a → denM t v a = true) : False := by
  have hW := hw.toMWF
  apply kids_all_eq_absurd t hW _ n hn 1
  intro c hc
  obtain ⟨j, hj, hcj⟩ := List.getElem_of_mem hc
  have hcj' : n.kids[j]? = some c := by simp [List.getElem?_eq_getElem hj, hcj]
  apply ih c 1 (hW.kids_mem _ _ hn c hc) (Or.inl rfl)
  · have := hW.kids_lt _ _ hn c hc
    have : t.levelOf 1 = t.nvars := t.levelOf_term 1 rfl
    have := t.levelOf_le hW c
    omega
  · intro a ha
    rw [denM_kid_eq t hW v n hpos h1 hn j c hcj' a, denM_one]
    apply he
    exact ha.mupd _ _ (by rw [← hW.kids_len _ _ hn]; exact hj)

/-- a positive node does not equal a reference that starts lower: all its successors would
equal the first -/
theorem mcanon_lt (t : MTbl) (hw : MWFU t) (k : Nat) (ih : MCanonAt t k)
    (u v : Int) (n : MNd) (hpos : 0 < u) (h1 : u.natAbs ≠ 1) (hn : t.node? u.natAbs = some n)
    (hv : t.Mem v) (hlt : n.lvl < t.levelOf v)
    (hb : t.nvars ≤ k + 1 + n.lvl) (he : ∀ a, MValid t a → denM t u a = denM t v a) : False := by
  have hW := hw.toMWF
  obtain ⟨k0, rest, hk0, _⟩ := hW.head_pos _ _ hn
  have hk0m : k0 ∈ n.kids := by simp [hk0]
  have hk00 : n.kids[0]? = some k0 := by simp [hk0]
  have h0len : 0 < n.kids.length := by simp [hk0]
  apply kids_all_eq_absurd t hW _ n hn k0
  intro c hc
  obtain ⟨j, hj, hcj⟩ := List.getElem_of_mem hc
  have hcj' : n.kids[j]? = some c := by simp [List.getElem?_eq_getElem hj, hcj]
  apply ih c k0 (hW.kids_mem _ _ hn c hc) (hW.kids_mem _ _ hn k0 hk0m)
  · have := hW.kids_lt _ _ hn c hc
    have := hW.kids_lt _ _ hn k0 hk0m
    omega
  · intro a ha
    have hlen := hW.kids_len _ _ hn
    rw [denM_kid_eq t hW u n hpos h1 hn j c hcj' a, denM_kid_eq t hW u n hpos h1 hn 0 k0 hk00 a,
      he _ (ha.mupd _ _ (by rw [← hlen]; exact hj)), he _ (ha.mupd _ _ (by rw [← hlen]; exact h0len)),
      denM_indep t hW v hv n.lvl j a hlt, denM_indep t hW v hv n.lvl 0 a hlt]

theorem mcanon_pos (t : MTbl) (hw : MWFU t) (k : Nat) (ih : MCanonAt t k)
    (u v : Int) (hu : 0 < u) (hv : 0 < v) (hmu : t.Mem u) (hmv : t.Mem v)
    (hb : t.nvars ≤ k + 1 + min (t.levelOf u) (t.levelOf v))
    (he : ∀ a, MValid t a → denM t u a = denM t v a) : u = v := by
  have hW := hw.toMWF
  rcases hmu.cases with hu1 | ⟨nu, hu1, hnu, hlu⟩
  · have hu' : u = 1 := by omega
    rcases hmv.cases with hv1 | ⟨n, hv1, hn, hl⟩
    · omega
    · exfalso
      have hlu := t.levelOf_term u hu1
      have := hW.lvl_lt _ _ hn
      refine mcanon_term_node t hw k ih v n hv hv1 hn (by omega) ?_
      intro a ha; rw [← he a ha, hu', denM_one]
  · have hltu := hW.lvl_lt _ _ hnu
    rcases hmv.cases with hv1 | ⟨nv, hv1, hnv, hlv⟩
    · exfalso
      have hv' : v = 1 := by omega
      have hlv := t.levelOf_term v hv1
      refine mcanon_term_node t hw k ih u nu hu hu1 hnu (by omega) ?_
      intro a ha; rw [he a ha, hv', denM_one]
    · have hltv := hW.lvl_lt _ _ hnv
      rcases Nat.lt_trichotomy nu.lvl nv.lvl with hlt | heq | hgt
      · exfalso
        exact mcanon_lt t hw k ih u v nu hu hu1 hnu hmv (by omega) (by omega) he
      · -- same level: successors are pairwise equal
        have hlenu := hW.kids_len _ _ hnu
        have hlenv := hW.kids_len _ _ hnv
        have hkids : nu.kids = nv.kids := by
          apply List.ext_getElem?
          intro j
          by_cases hj : j < nu.kids.length
          · have hj' : j < nv.kids.length := by rw [hlenv, ← heq, ← hlenu]; exact hj
            have e1 : nu.kids[j]? = some nu.kids[j] := List.getElem?_eq_getElem hj
            have e2 : nv.kids[j]? = some nv.kids[j] := List.getElem?_eq_getElem hj'
            rw [e1, e2]
            congr 1
            have m1 := List.getElem_mem hj
            have m2 := List.getElem_mem hj'
            apply ih _ _ (hW.kids_mem _ _ hnu _ m1) (hW.kids_mem _ _ hnv _ m2)
            · have := hW.kids_lt _ _ hnu _ m1
              have := hW.kids_lt _ _ hnv _ m2
              omega
            · intro a ha
              rw [denM_kid_eq t hW u nu hu hu1 hnu j _ e1 a, denM_kid_eq t hW v nv hv hv1 hnv j _ e2 a,
                heq]
              apply he
              exact ha.mupd _ _ (by rw [← hlenv]; exact hj')
          · have hj' : ¬ j < nv.kids.length := by rw [hlenv, ← heq, ← hlenu]; exact hj
            rw [List.getElem?_eq_none (by omega), List.getElem?_eq_none (by omega)]
        have hnd : nu = nv := by
          obtain ⟨l1, k1⟩ := nu
          obtain ⟨l2, k2⟩ := nv
          obtain rfl : l1 = l2 := heq
          obtain rfl : k1 = k2 := hkids
          rfl
        have := hw.unique _ _ _ hnu (hnd ▸ hnv)
        omega
      · exfalso
        exact mcanon_lt t hw k ih v u nv hv hv1 hnv hmu (by omega) (by omega)
          (fun a ha => (he a ha).symm)

theorem mcanon_all (t : MTbl) (hw : MWFU t) (hpos : ∀ i, i < t.nvars → 0 < t.arity i) :
    ∀ k, MCanonAt t k := by
  have hW := hw.toMWF
  -- equal functions agree on the all-zero assignment, which tells the sign of a reference
  have hsign : ∀ u v, t.Mem u → t.Mem v → (∀ a, MValid t a → denM t u a = denM t v a) →
      (0 < u ↔ 0 < v) := fun u v hmu hmv he => by
    rw [← decide_eq_decide, ← denM_allzero t hW u hmu, ← denM_allzero t hW v hmv,
      he _ (mvalid_zero t hpos)]
  intro k
  induction k with
  | zero =>
    intro u v hmu hmv hb he
    have h1 := t.levelOf_le hW u
    have h2 := t.levelOf_le hW v
    have term : ∀ x, t.Mem x → t.nvars ≤ t.levelOf x → x.natAbs = 1 := by
      intro x hx hl
      rcases hx.cases with h | ⟨n, _, hn, hln⟩
      · exact h
      · have := hW.lvl_lt _ _ hn
        omega
    have tu := term u hmu (by omega)
    have tv := term v hmv (by omega)
    have := hsign u v hmu hmv he
    omega
  | succ k ih =>
    intro u v hmu hmv hb he
    have hiff := hsign u v hmu hmv he
    have hu0 := t.mem_ne_zero hW hmu
    have hv0 := t.mem_ne_zero hW hmv
    by_cases hp : 0 < u
    · exact mcanon_pos t hw k ih u v hp (hiff.mp hp) hmu hmv (by omega) he
    · have hpv : ¬ 0 < v := fun h => hp (hiff.mpr h)
      have : -u = -v := by
        apply mcanon_pos t hw k ih (-u) (-v) (by omega) (by omega) (MTbl.mem_neg hmu) (MTbl.mem_neg hmv)
        · rw [t.levelOf_neg, t.levelOf_neg]; omega
        · intro a ha; rw [denM_neg t hW u a hmu, denM_neg t hW v a hmv, he a ha]
      omega

/-- canonicity: equal functions (on the valid integer assignments) ⇔ equal references -/
theorem mcanonical (t : MTbl) (hw : MWFU t) (hpos : ∀ i, i < t.nvars → 0 < t.arity i)
    (u v : Int) (hu : t.Mem u) (hv : t.Mem v) :
    (∀ a, MValid t a → denM t u a = denM t v a) ↔ u = v := by
  constructor
  · exact mcanon_all t hw hpos t.nvars u v hu hv (by omega)
  · intro h; subst h; intro a _; rfl

end DD
