/-
  DDProofs.MddCofPath — `cofactor` when every level it can meet is assigned (the use made of it by
  `bdd_to_mdd`: all bits of a zone at once): the recursion only follows edges.  For ANY setting of
  the reordering switches (`_last_len`, `_reordering_context`, the harness trigger) it returns
  normally, creates nothing, requests no reordering and leaves the manager exactly as it was (the
  general outcome of `_cofactor`, DDProofs.Cofactor, only says that nodes were added).
-/
import DDProofs.SubstWrappers
open Std

namespace DD

/-- what the path-following `_cofactor` returns for `u` (and what its memo holds): the
`CofEntry` facts, plus where the result hangs — it is `u` itself or a successor of a node whose
level is assigned and not above `u` -/
structure PathEntry (values : List (Nat × Bool)) (t : Tbl) (u r : Int) : Prop where
  ent : CofEntry values t u r
  par : r.natAbs = u.natAbs ∨ ∃ k n, t.node? k = some n ∧ (values.lookup n.lvl).isSome = true ∧
    t.levelOf u ≤ n.lvl ∧ (n.lo.natAbs = r.natAbs ∨ n.hi.natAbs = r.natAbs)

def PathMemo (values : List (Nat × Bool)) (t : Tbl) (c : HashMap Int Int) : Prop :=
  ∀ u r, c[u]? = some r → PathEntry values t u r

theorem PathMemo.empty (values : List (Nat × Bool)) (t : Tbl) : PathMemo values t {} := memo_empty

theorem PathMemo.insert {values : List (Nat × Bool)} {t : Tbl} {c : HashMap Int Int}
    (h : PathMemo values t c) {u r : Int} (he : PathEntry values t u r) :
    PathMemo values t (c.insert u r) := memo_insert h he

theorem dropWhile_head_not {α} (p : α → Bool) : ∀ (l : List α), (l.dropWhile p).isEmpty = false →
    ∃ a, a ∈ l.dropWhile p ∧ p a = false := by
  intro l
  induction l with
  | nil => intro h; simp at h
  | cons b l ih =>
    intro h
    rw [List.dropWhile_cons] at h ⊢
    split
    · next hb => simp only [hb, if_true] at h; exact ih h
    · next hb => exact ⟨b, by simp, by simpa using hb⟩

/-- The two covering hypotheses: every assigned level at or below `u` is still in the sorted list
`ordvar`, and every level from `u` down to an entry of `ordvar` is assigned — so each node met is
at an assigned level and the recursion follows one edge. -/
theorem cofactorF_path (values : List (Nat × Bool)) :
    ∀ (f : Nat) (m : Mgr) (u : Int) (ordvar : List Nat) (cache : HashMap Int Int),
    WF m.tbl → m.tbl.Mem u → PathMemo values m.tbl cache →
    (∀ j, (values.lookup j).isSome = true → m.tbl.levelOf u ≤ j → j ∈ ordvar) →
    (∀ ℓ, m.tbl.levelOf u ≤ ℓ → (∃ j ∈ ordvar, ℓ ≤ j) → (values.lookup ℓ).isSome = true) →
    m.nvars + 1 ≤ f + m.tbl.levelOf u →
    ∃ r c', cofactorF values f u ordvar cache m = (.ok (r, c'), m) ∧
      PathMemo values m.tbl c' ∧ PathEntry values m.tbl u r := by
  intro f
  induction f with
  | zero =>
    intro m u ordvar cache hW hu _ _ _ hf
    have := levelOf_le m.tbl hW u
    have : m.nvars = m.tbl.nvars := rfl
    omega
  | succ f ih =>
    intro m u ordvar cache hW hu hmemo hord hcov hf
    unfold cofactorF
    by_cases h1 : u.natAbs = 1
    · simp only [h1, if_true]
      exact ⟨u, cache, rfl, hmemo, ⟨hu, hu, Nat.le_refl _, fun a => den_term_any _ u h1 _ _⟩, Or.inl rfl⟩
    · simp only [h1, if_false]
      cases hc : cache[u]? with
      | some r => exact ⟨r, cache, rfl, hmemo, hmemo u r hc⟩
      | none =>
        simp only
        obtain ⟨n, hn⟩ := mem_node hu h1
        have hn' : m.tbl.succ[u.natAbs]? = some n := hn
        rw [hn']
        simp only [node_succ_ne_zero hW hn, if_false]
        have hlu := levelOf_node m.tbl u n h1 hn
        have hlo := hW.lo_lt _ _ hn
        have hhi := hW.hi_lt _ _ hn
        have hnv : m.nvars = m.tbl.nvars := rfl
        have hord' : ∀ j, (values.lookup j).isSome = true → n.lvl ≤ j →
            j ∈ ordvar.dropWhile (· < n.lvl) := by
          intro j hj hle
          exact mem_dropWhile_of_not _ j ordvar (hord j hj (by omega)) (by simpa using hle)
        have hsub : ∀ a, a ∈ ordvar.dropWhile (· < n.lvl) → a ∈ ordvar :=
          fun _ h => (List.dropWhile_sublist _).subset h
        have hhead := dropWhile_head_not (fun x => decide (x < n.lvl)) ordvar
        generalize ordvar.dropWhile (· < n.lvl) = ov at hord' hsub hhead ⊢
        by_cases hemp : ov.isEmpty = true
        · simp only [hemp, if_true]
          refine ⟨u, cache, rfl, hmemo, ⟨hu, hu, Nat.le_refl _, ?_⟩, Or.inl rfl⟩
          intro a
          apply den_agree_ge m.tbl hW u hu
          intro i hi _
          simp only [ovr]
          cases hl : values.lookup i with
          | none => rfl
          | some b =>
            exfalso
            have := hord' i (by simp [hl]) (by omega)
            rw [List.isEmpty_iff.mp hemp] at this
            cases this
        · simp only [hemp, Bool.false_eq_true, if_false]
          -- this level is assigned
          obtain ⟨j0, hj0, hj0p⟩ := hhead (by simpa using hemp)
          have hj0ge : n.lvl ≤ j0 := by simpa using hj0p
          have hsome := hcov n.lvl (by omega) ⟨j0, hsub j0 hj0, hj0ge⟩
          obtain ⟨val, hl⟩ := Option.isSome_iff_exists.mp hsome
          rw [hl]
          simp only
          have hcm : m.tbl.Mem (if val then n.hi else n.lo) := by
            cases val
            · exact hW.lo_mem _ _ hn
            · exact hW.hi_mem _ _ hn
          have hcl : n.lvl < m.tbl.levelOf (if val then n.hi else n.lo) := by
            cases val
            · exact hlo
            · exact hhi
          obtain ⟨r0, c1, he1, hm1, hp1⟩ := ih m (if val then n.hi else n.lo) ov cache
            hW hcm hmemo (fun j hj hle => hord' j hj (by omega))
            (fun ℓ hℓ ⟨j, hj, hjl⟩ => hcov ℓ (by omega) ⟨j, hsub j hj, hjl⟩) (by omega)
          rw [he1]
          simp only
          have hent : PathEntry values m.tbl u (if u < 0 then -r0 else r0) := by
            refine ⟨⟨hu, mem_flip u hp1.ent.mr, ?_, ?_⟩, ?_⟩
            · rw [levelOf_flip, hlu]
              have := hp1.ent.lvl
              omega
            · intro a
              rw [den_flip m.tbl hW r0 u a hp1.ent.mr, hp1.ent.den a, den_node m.tbl hW u n _ h1 hn]
              have : ovr values a n.lvl = val := by simp [ovr, hl]
              rw [this]
              cases val <;> rfl
            · right
              have habs : (if u < 0 then -r0 else r0).natAbs = r0.natAbs := by
                split <;> simp
              rw [habs]
              rcases hp1.par with hp | ⟨k, nk, hk1, hk2, hk3, hk4⟩
              · refine ⟨u.natAbs, n, hn, by rw [hl]; rfl, by omega, ?_⟩
                cases val
                · left; simpa using hp.symm
                · right; simpa using hp.symm
              · exact ⟨k, nk, hk1, hk2, by omega, hk4⟩
          exact ⟨_, _, rfl, hm1.insert hent, hent⟩

theorem setCtx_back (m : Mgr) : ({ ({ m with ctx := true } : Mgr) with ctx := m.ctx } : Mgr) = m := by
  cases m; rfl

/-- `cofactor(u, d)` with declared names as keys when every level between `u` and the last
assigned level is assigned: returns normally, for any setting of the reordering switches, and the
manager is unchanged -/
theorem cofactor_path (m : Mgr) (hW : WF m.tbl) (u : Int) (hu : m.tbl.Mem u) (d : List (String × Bool))
    (hdecl : ∀ p, p ∈ d → m.tbl.vars.contains p.1 = true)
    (hcov : ∀ ℓ, m.tbl.levelOf u ≤ ℓ → (∃ p ∈ d, ℓ ≤ lvlOf m.tbl p.1) →
      (((d.map fun p => (lvlOf m.tbl p.1, p.2)).reverse).lookup ℓ).isSome = true) :
    ∃ r, cofactor u (d.map fun p => (Key.name p.1, p.2)) m = (.ok r, m) ∧
      PathEntry ((d.map fun p => (lvlOf m.tbl p.1, p.2)).reverse) m.tbl u r := by
  have hkeys : (d.map fun p => (Key.name p.1, p.2)).map (·.1) = (d.map (·.1)).map Key.name := by
    simp [List.map_map, Function.comp_def]
  have hlv : mapToLevelE m.tbl ((d.map fun p => (Key.name p.1, p.2)).map (·.1)) =
      .ok ((d.map (·.1)).map (lvlOf m.tbl)) := by
    rw [hkeys]
    apply mapToLevelE_names
    intro s hs
    obtain ⟨p, hp, rfl⟩ := List.mem_map.mp hs
    exact hdecl p hp
  have hzip : ((d.map (·.1)).map (lvlOf m.tbl)).zip ((d.map fun p => (Key.name p.1, p.2)).map (·.2)) =
      d.map fun p => (lvlOf m.tbl p.1, p.2) := by
    simp only [List.map_map, Function.comp_def]
    rw [List.zip_map']
  have hmemlv : ∀ j, j ∈ (d.map (·.1)).map (lvlOf m.tbl) ↔ ∃ p ∈ d, lvlOf m.tbl p.1 = j := by
    intro j
    simp only [List.map_map, List.mem_map, Function.comp_def]
  obtain ⟨r, c', he, _, hp⟩ := cofactorF_path ((d.map fun p => (lvlOf m.tbl p.1, p.2)).reverse)
    (m.nvars + 2) { m with ctx := true } u (sortNat (dedup ((d.map (·.1)).map (lvlOf m.tbl)))) {}
    hW hu (PathMemo.empty _ _)
    (fun j hj _ => (mem_ordvar j _).mpr (by
      have := lookup_zip_reverse_mem ((d.map (·.1)).map (lvlOf m.tbl))
        ((d.map fun p => (Key.name p.1, p.2)).map (·.2)) j (by rw [hzip]; exact hj)
      exact this))
    (fun ℓ hℓ ⟨j, hj, hjl⟩ => by
      have hj' := (mem_ordvar j _).mp hj
      obtain ⟨p, hp, hpj⟩ := (hmemlv j).mp hj'
      exact hcov ℓ hℓ ⟨p, hp, by omega⟩)
    (by show m.nvars + 1 ≤ _; omega)
  have hb : cofactorBody u (d.map fun p => (Key.name p.1, p.2)) { m with ctx := true } =
      (.ok r, { m with ctx := true }) := by
    unfold cofactorBody
    have hmem : ({ m with ctx := true } : Mgr).mem u = true := (Mgr.mem_iff m u).mpr hu
    simp only [hlv, hmem, Bool.not_true, Bool.false_eq_true, if_false]
    have : ({ m with ctx := true } : Mgr).nvars = m.nvars := rfl
    rw [this, hzip, he]
  have := tryToReorder_ok _ m r _ hb
  rw [setCtx_back] at this
  exact ⟨r, this, hp⟩

end DD
