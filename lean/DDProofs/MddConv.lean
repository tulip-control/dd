/-
  DDProofs.MddConv — the MDD half of `bdd_to_mdd`: the main loop
  (`for u in bdd.levels(...)`: cofactor per integer value, map the edges through `umap`,
  `mdd.find_or_add`) keeps "every `umap` entry denotes the intended function of its BDD node",
  under a hypothesis that names what the BDD side (reorder into zones + `cofactor`) must deliver.
-/
import DDProofs.MddReach
open Std

namespace DD

/-- every entry of `umap` is an MDD reference that denotes the intended function `S x` of the
BDD node `x` and sits at or below the MDD level `L x` of the zone of `x` -/
structure UmapOK (S : Int → MAsg → Bool) (L : Nat → Nat) (mdd : MddMgr) (umap : List (Nat × Int)) : Prop where
  ok : ∀ x r, umap.lookup x = some r →
    mdd.tbl.Mem r ∧ L x ≤ mdd.tbl.levelOf r ∧ ∀ α, MValid mdd.tbl α → denM mdd.tbl r α = S (x : Int) α

/-- what the BDD side of one iteration must deliver for the kept node `u` (this is where
theorems about `reorder` — bits in zones — and `cofactor` enter): the `i`-th successor is the
`umap` image (complemented when the BDD reference is) of a reference `x` in a later zone which
agrees with `u` wherever the integer variable has the value `i` -/
def BddSideOK (S : Int → MAsg → Bool) (L : Nat → Nat) (u : Nat) (umap : List (Nat × Int))
    (var : MVar) (succs : List Int) : Prop :=
  L u = var.level ∧
  ∀ i k, succs[i]? = some k →
    ∃ (x : Int) (r : Int), umap.lookup x.natAbs = some r ∧ k = (if x > 0 then r else -r) ∧ x ≠ 0 ∧
      var.level < L x.natAbs ∧ ∀ α, α var.level = i → S x α = S (u : Int) α

theorem mLookup_filter_ne (u x : Nat) (hx : x ≠ u) :
    ∀ l : List (Nat × Int), (l.filter (fun p => p.1 ≠ u)).lookup x = l.lookup x
  | [] => rfl
  | (a, b) :: rest => by
    have ih := mLookup_filter_ne u x hx rest
    by_cases ha : a = u
    · have hxa : (x == a) = false := by rw [ha]; simpa using hx
      have hf : ((a, b) :: rest).filter (fun p => p.1 ≠ u) = rest.filter (fun p => p.1 ≠ u) := by
        simp [List.filter_cons, ha]
      rw [hf, ih]
      simp [List.lookup_cons, hxa]
    · have hf : ((a, b) :: rest).filter (fun p => p.1 ≠ u) = (a, b) :: rest.filter (fun p => p.1 ≠ u) := by
        simp [List.filter_cons, ha]
      rw [hf]
      simp only [List.lookup_cons]
      rw [ih]

theorem lookup_cons_filter (u : Nat) (r : Int) (umap : List (Nat × Int)) (x : Nat) :
    ((u, r) :: umap.filter (fun p => p.1 ≠ u)).lookup x = if x = u then some r else umap.lookup x := by
  rw [lookup_cons_eq]
  split
  · rfl
  · next hx => exact mLookup_filter_ne u x hx umap

theorem UmapOK.init (S : Int → MAsg → Bool) (L : Nat → Nat) (dvars : List MVar)
    (hS1 : ∀ α, S 1 α = true) (hL1 : L 1 ≤ dvars.length) :
    UmapOK S L (MddMgr.new (some dvars)) [(1, 1)] := by
  constructor
  intro x r hl
  by_cases hx : x = 1
  · subst hx
    simp [List.lookup_cons] at hl
    subst hl
    refine ⟨Or.inl rfl, ?_, ?_⟩
    · rw [MTbl.levelOf_term _ 1 rfl]; exact hL1
    · intro α _; rw [denM_one]; exact (hS1 α).symm
  · have : (x == 1) = false := by simpa using hx
    simp [List.lookup_cons, this] at hl

theorem UmapOK.flip {S : Int → MAsg → Bool} {L : Nat → Nat} {mdd : MddMgr} {umap : List (Nat × Int)}
    (hU : UmapOK S L mdd umap) (hSneg : ∀ x α, x ≠ 0 → S (-x) α = !S x α) (hW : MWF mdd.tbl)
    {u : Nat} {r : Int} (hl : umap.lookup u = some r) (s : Int) (hs : s.natAbs = u) (α : MAsg)
    (hα : MValid mdd.tbl α) : denM mdd.tbl (DD.flip r s) α = S s α := by
  obtain ⟨hm, _, hden⟩ := hU.ok u r hl
  unfold DD.flip
  split
  · have : s = -((u : Nat) : Int) := by omega
    rw [denM_neg _ hW r α hm, hden α hα, this, hSneg _ _ (by omega)]
  · have : s = ((u : Nat) : Int) := by omega
    rw [hden α hα, this]

theorem umap_step (S : Int → MAsg → Bool) (L : Nat → Nat)
    (hSneg : ∀ x α, x ≠ 0 → S (-x) α = !S x α)
    (mdd : MddMgr) (umap : List (Nat × Int)) (h : MInv mdd) (hU : UmapOK S L mdd umap)
    (u : Nat) (var : MVar) (succs : List Int) (hB : BddSideOK S L u umap var succs)
    (r : Int) (mdd1 : MddMgr) (hfoa : mFindOrAdd (var.level : Int) succs mdd = (.ok r, mdd1)) :
    MInv mdd1 ∧ MExt mdd.tbl mdd1.tbl ∧
    UmapOK S L mdd1 ((u, r) :: umap.filter (fun p => p.1 ≠ u)) ∧
    (∀ dv ext, MReach dv mdd ext → MReach dv mdd1 ext) := by
  obtain ⟨hLu, hsuccs⟩ := hB
  have hW := h.wf.toMWF
  -- precondition of find_or_add: every successor is below the level of the variable
  have hlt : ∀ k ∈ succs, ((var.level : Nat) : Int).toNat < mdd.tbl.levelOf k := by
    intro k hk
    obtain ⟨i, hi, hki⟩ := List.getElem_of_mem hk
    obtain ⟨x, r', hlk, hkx, _, hlvl, _⟩ := hsuccs i k (by rw [List.getElem?_eq_getElem hi, hki])
    obtain ⟨_, hLr, _⟩ := hU.ok _ _ hlk
    have : mdd.tbl.levelOf k = mdd.tbl.levelOf r' := by
      rw [hkx]; split
      · rfl
      · exact mdd.tbl.levelOf_neg r'
    rw [this]
    simp only [Int.toNat_natCast]
    omega
  have hreach : ∀ dv ext, MReach dv mdd ext → MReach dv mdd1 ext :=
    fun dv ext hR => MReach.foa _ succs r mdd1 hR hlt hfoa
  unfold mFindOrAdd at hfoa
  split at hfoa
  · next hneg => omega
  · have F := mFindOrAddCore_spec mdd h _ succs hlt r mdd1 hfoa
    have ha := mFindOrAddCore_args mdd h _ succs r mdd1 hfoa
    simp only [Int.toNat_natCast] at F ha
    have hW1 := F.inv.wf.toMWF
    refine ⟨F.inv, F.ext, ?_, hreach⟩
    constructor
    intro x rx hl
    rw [lookup_cons_filter] at hl
    by_cases hxu : x = u
    · subst hxu
      simp only [if_true, Option.some.injEq] at hl
      subst hl
      refine ⟨F.mem, by rw [hLu]; exact F.lvl, ?_⟩
      intro α hα
      have hαm : MValid mdd.tbl α := (F.ext.valid α).mpr hα
      have hidx : α var.level < succs.length := by
        rw [ha.len]; exact hαm _ ha.lvl
      obtain ⟨x', r', hlk, hkx, hx0, _, hS⟩ := hsuccs (α var.level) succs[α var.level]
        (List.getElem?_eq_getElem hidx)
      obtain ⟨hrm, _, hden⟩ := hU.ok _ _ hlk
      rw [F.den α _ (List.getElem?_eq_getElem hidx), ← hS α rfl, hkx]
      have hrm1 := F.ext.mem hrm
      have hd := hden α hαm
      rw [← denM_ext F.ext hW r' α hrm] at hd
      split
      · next hpos =>
        rw [hd]
        have : ((x'.natAbs : Nat) : Int) = x' := by omega
        rw [this]
      · next hnpos =>
        rw [denM_neg mdd1.tbl hW1 r' α hrm1, hd]
        have : x' = -((x'.natAbs : Nat) : Int) := by omega
        rw [this, hSneg _ _ (by omega)]
        simp
    · simp only [hxu, if_false] at hl
      obtain ⟨a, b, c⟩ := hU.ok x rx hl
      refine ⟨F.ext.mem a, by rw [F.ext.levelOf a]; exact b, ?_⟩
      intro α hα
      rw [denM_ext F.ext hW rx α a]
      exact c α ((F.ext.valid α).mpr hα)

/-- the MDD half of `bdd_to_mdd`: if every BDD-side step delivers `BddSideOK`, the final `umap`
maps every kept BDD node to an MDD reference with the intended meaning, and the MDD manager
satisfies its invariant.  `P` is what the BDD side keeps of the BDD manager (MddBddSide: it is left
as it was), `K` what is known of the nodes that are kept (there: they are stored). -/
theorem b2mLoop_partial (S : Int → MAsg → Bool) (L : Nat → Nat)
    (hSneg : ∀ x α, x ≠ 0 → S (-x) α = !S x α)
    (rm : List Nat) (btv : List (String × MVar))
    (P : Mgr → Prop) (K : Nat → Prop)
    (hBdd : ∀ u umap mb var succs mb1, P mb → K u →
      b2mIntSucc btv u umap mb = (.ok (var, succs), mb1) → P mb1 ∧ BddSideOK S L u umap var succs) :
    ∀ (ord : List Nat) (mdd : MddMgr) (umap : List (Nat × Int)) (mb : Mgr) (out : B2MOut) (mb' : Mgr),
      (∀ u, u ∈ ord → rm.contains u = false → K u) → P mb →
      MInv mdd → UmapOK S L mdd umap →
      b2mLoop rm btv ord mdd umap mb = (.ok out, mb') →
      P mb' ∧ MInv out.mdd ∧ MExt mdd.tbl out.mdd.tbl ∧ UmapOK S L out.mdd out.umap ∧
      (∀ dv ext, MReach dv mdd ext → MReach dv out.mdd ext) := by
  intro ord
  induction ord with
  | nil =>
    intro mdd umap mb out mb' _ hP h hU hr
    simp only [b2mLoop, Prod.mk.injEq, Except.ok.injEq] at hr
    obtain ⟨ho, hmb⟩ := hr
    subst ho hmb
    exact ⟨hP, h, MExt.refl _, hU, fun _ _ hR => hR⟩
  | cons u rest ih =>
    intro mdd umap mb out mb' hK hP h hU hr
    have hKrest : ∀ u', u' ∈ rest → rm.contains u' = false → K u' :=
      fun u' hu' => hK u' (List.mem_cons_of_mem _ hu')
    unfold b2mLoop at hr
    split at hr
    · exact ih mdd umap mb out mb' hKrest hP h hU hr
    · next hrm =>
      split at hr
      · simp at hr
      · next var succs mb1 hside =>
        obtain ⟨hP1, hB⟩ := hBdd u umap mb var succs mb1 hP (hK u (by simp) (by simpa using hrm)) hside
        split at hr
        · simp at hr
        · next r mdd1 hfoa =>
          obtain ⟨hinv1, hext1, hU1, hR1⟩ := umap_step S L hSneg mdd umap h hU u var succs hB r mdd1 hfoa
          obtain ⟨i0, i1, i2, i3, i4⟩ := ih mdd1 _ mb1 out mb' hKrest hP1 hinv1 hU1 hr
          exact ⟨i0, i1, hext1.trans i2, i3, fun dv ext hR => i4 dv ext (hR1 dv ext hR)⟩

theorem b2mLoop_keys (rm : List Nat) (btv : List (String × MVar)) :
    ∀ (ord : List Nat) (mdd : MddMgr) (umap : List (Nat × Int)) (mb : Mgr) (out : B2MOut) (mb' : Mgr),
      b2mLoop rm btv ord mdd umap mb = (.ok out, mb') →
      (∀ x, (umap.lookup x).isSome = true → (out.umap.lookup x).isSome = true) ∧
      (∀ u, u ∈ ord → rm.contains u = false → (out.umap.lookup u).isSome = true) ∧
      (∀ x, (out.umap.lookup x).isSome = true →
        (umap.lookup x).isSome = true ∨ (x ∈ ord ∧ rm.contains x = false)) := by
  intro ord
  induction ord with
  | nil =>
    intro mdd umap mb out mb' hr
    cases hr
    exact ⟨fun _ h => h, fun u hu => (nomatch hu), fun _ h => Or.inl h⟩
  | cons u rest ih =>
    intro mdd umap mb out mb' hr
    unfold b2mLoop at hr
    split at hr
    · next hrm =>
      obtain ⟨h1, h2, h3⟩ := ih mdd umap mb out mb' hr
      refine ⟨h1, ?_, fun x hx => (h3 x hx).imp id (fun h => ⟨List.mem_cons_of_mem _ h.1, h.2⟩)⟩
      intro u' hu' hrm'
      rcases List.mem_cons.mp hu' with rfl | hu'
      · rw [hrm'] at hrm; cases hrm
      · exact h2 u' hu' hrm'
    · next hrm =>
      split at hr
      · cases hr
      · next var succs mb1 hside =>
        split at hr
        · cases hr
        · next r mdd1 hfoa =>
          obtain ⟨h1, h2, h3⟩ := ih mdd1 _ mb1 out mb' hr
          refine ⟨?_, ?_, ?_⟩
          · intro x hx
            apply h1
            rw [lookup_cons_filter]
            by_cases hxu : x = u
            · simp [hxu]
            · simp only [hxu, if_false]; exact hx
          · intro u' hu' hrm'
            rcases List.mem_cons.mp hu' with rfl | hu'
            · apply h1
              rw [lookup_cons_filter]; simp
            · exact h2 u' hu' hrm'
          · intro x hx
            rcases h3 x hx with h | h
            · rw [lookup_cons_filter] at h
              by_cases hxu : x = u
              · subst hxu; exact Or.inr ⟨List.mem_cons_self, by simpa using hrm⟩
              · simp only [hxu, if_false] at h; exact Or.inl h
            · exact Or.inr ⟨List.mem_cons_of_mem _ h.1, h.2⟩

theorem assertConsistent_state (m : Mgr) (r : Except Err Unit) (m' : Mgr)
    (h : bddAssertConsistent m = (r, m')) : m' = m := by
  unfold bddAssertConsistent at h
  dsimp only at h
  split at h
  · cases h; rfl
  · split at h
    · cases h; rfl
    · split at h <;> (cases h; rfl)

theorem bddToMdd_unfold (dvars : List MVar) (lev : Option (List Nat)) (mb : Mgr) (out : B2MOut) (mb' : Mgr)
    (hr : bddToMdd dvars lev mb = (.ok out, mb')) :
    ∃ (p : B2MPrep) (mb1 : Mgr) (ord : List Nat),
      b2mPrepare dvars mb = (.ok p, mb1) ∧ bddLevelsOrder p.tbl lev = .ok ord ∧
      b2mLoop p.rm p.bitToVar ord (MddMgr.new (some dvars)) [(1, 1)] mb1 = (.ok out, mb') := by
  unfold bddToMdd at hr
  split at hr
  · cases hr
  · next p mb1 hp =>
    split at hr
    · cases hr
    · next mb2 hc =>
      have := assertConsistent_state mb1 _ mb2 hc
      subst this
      split at hr
      · cases hr
      · next ord ho => exact ⟨p, _, ord, hp, ho, hr⟩

end DD
