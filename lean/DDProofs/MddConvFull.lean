/-
  DDProofs.MddConvFull — `bdd_to_mdd` as a whole: preparation (DDProofs.MddPrep) + main loop
  (DDProofs.MddBddSide) + which nodes end up in `umap`.
-/
import DDProofs.MddPrep
open Std

namespace DD

theorem bddLevelsOrder_mem (t : Tbl) (hw : WF t) (rec : Option (List Nat)) (ord : List Nat)
    (h : bddLevelsOrder t rec = .ok ord) (u : Nat) :
    u ∈ ord ↔ (t.node? u).isSome = true := by
  have hd : u ∈ (List.range t.nvars).reverse.flatMap (nodesAt t) ↔ (t.node? u).isSome = true := by
    rw [List.mem_flatMap]
    constructor
    · rintro ⟨j, _, hm⟩
      obtain ⟨n, hn, _⟩ := (mem_nodesAt t j u).mp hm
      rw [hn]; rfl
    · intro hs
      obtain ⟨n, hn⟩ := Option.isSome_iff_exists.mp hs
      refine ⟨n.lvl, ?_, (mem_nodesAt t n.lvl u).mpr ⟨n, hn, rfl⟩⟩
      rw [List.mem_reverse, List.mem_range]
      exact hw.lvl_lt _ _ hn
  unfold bddLevelsOrder at h
  simp only at h
  split at h
  · cases h; exact hd
  · next l =>
    split at h
    · next hc =>
      cases h
      simp only [Bool.and_eq_true] at hc
      obtain ⟨hp, _⟩ := hc
      unfold isPerm at hp
      simp only [Bool.and_eq_true, List.all_eq_true] at hp
      obtain ⟨⟨_, h1⟩, h2⟩ := hp
      rw [← hd]
      constructor
      · intro hu; simpa using h1 u hu
      · intro hu; simpa using h2 u hu
    · cases h

/-- what a successful `bdd_to_mdd(bdd, dvars)` guarantees -/
structure B2MOK (ext : Nat → Nat) (dvars : List MVar) (mb : Mgr) (out : B2MOut) (mb' : Mgr) : Prop where
  /-- the MDD manager satisfies its invariant and has the variables `dvars` -/
  mdd : MInv out.mdd
  vars : out.mdd.tbl.vars = dvars
  /-- the BDD manager keeps its invariant and the bits are in zones -/
  bdd : Inv mb'
  zone : ZoneOK dvars mb'.tbl
  /-- every `umap` entry is right, for both signs of the BDD reference -/
  umap : ∀ (u : Nat) (r : Int), out.umap.lookup u = some r →
    mb'.tbl.Mem (u : Int) ∧ out.mdd.tbl.Mem r ∧
    ∀ (s : Int), s.natAbs = u → ∀ α, MValid out.mdd.tbl α →
      denM out.mdd.tbl (flip r s) α = denN mb'.tbl s (bitsOfInts dvars α)
  /-- the BDD functions are intact: every held reference is still a node and denotes the same
  function of the variable names -/
  held : ∀ u : Nat, 0 < ext u → mb'.tbl.Mem (u : Int) ∧
    ∀ a, denN mb'.tbl (u : Int) a = denN mb.tbl (u : Int) a
  /-- every BDD node the user holds (and the terminal) has an image -/
  mapped : (out.umap.lookup 1).isSome = true ∧
    ∀ u : Nat, 0 < ext u → (out.umap.lookup u).isSome = true
  /-- the MDD manager is a state reachable from `MDD(dvars)` by `find_or_add` calls (each loop
  iteration is one), the user holding no reference yet: in particular its counts are exact, so
  `incref`, `collect_garbage` and the other operations apply to it -/
  reach : MReach dvars out.mdd (fun _ => 0)
  /-- the BDD manager still satisfies the whole reordering invariant for the same ledger, so a
  second conversion (or any other operation) applies to it -/
  reorder : ReorderInv ext mb'
  /-- the declared variable names are the same -/
  names : ∀ v : String, mb'.tbl.vars.contains v = mb.tbl.vars.contains v

theorem B2MOK.exact {ext : Nat → Nat} {dvars : List MVar} {mb : Mgr} {out : B2MOut} {mb' : Mgr}
    (h : B2MOK ext dvars mb out mb') : MRefExact out.mdd (fun _ => 0) := h.reach.inv.2.1

/-- the MDD manager returned by the conversion has no recorded schedule left, so the total forms
of the `ite` / `apply` theorems apply to it -/
theorem B2MOK.sched {ext : Nat → Nat} {dvars : List MVar} {mb : Mgr} {out : B2MOut} {mb' : Mgr}
    (h : B2MOK ext dvars mb out mb') : out.mdd.sched = [] := h.reach.sched_nil

theorem B2MOK.held_signed {ext : Nat → Nat} {dvars : List MVar} {mb : Mgr} {out : B2MOut} {mb' : Mgr}
    (B : B2MOK ext dvars mb out mb') (h : ReorderInv ext mb) {s : Int} (hs : 0 < ext s.natAbs)
    (a : AsgN) : denN mb'.tbl s a = denN mb.tbl s a := by
  obtain ⟨hm', hsame⟩ := B.held s.natAbs hs
  unfold denN
  rw [den_natAbs B.bdd.wf.toWF (mem_of_natAbs hm'),
    den_natAbs h.inv.wf.toWF (mem_of_natAbs (h.held_mem hs))]
  exact congrArg (decide (s < 0) ^^ ·) (hsame a)

/-- a held BDD reference `s` (either sign) has an image, and `flip(umap[|s|], s)` evaluates on every
valid integer assignment to what `s` — as it was before the call, by variable names — evaluates to
on the encoded bits -/
theorem B2MOK.image {ext : Nat → Nat} {dvars : List MVar} {mb : Mgr} {out : B2MOut} {mb' : Mgr}
    (B : B2MOK ext dvars mb out mb') (h : ReorderInv ext mb) {s : Int} (hs : 0 < ext s.natAbs) :
    ∃ r, out.umap.lookup s.natAbs = some r ∧ out.mdd.tbl.Mem r ∧
      ∀ α, MValid out.mdd.tbl α →
        denM out.mdd.tbl (flip r s) α = denN mb.tbl s (bitsOfInts dvars α) := by
  obtain ⟨r, hr⟩ := Option.isSome_iff_exists.mp (B.mapped.2 s.natAbs hs)
  obtain ⟨_, hmr, hden⟩ := B.umap s.natAbs r hr
  exact ⟨r, hr, hmr, fun α hα => by rw [hden s rfl α hα]; exact B.held_signed h hs _⟩

/-- `bdd.levels()` on the prepared manager lists exactly its nodes -/
theorem PrepOK.ord_mem {ext : Nat → Nat} {dvars : List MVar} {mb : Mgr} {p : B2MPrep} {m2 : Mgr}
    (P : PrepOK ext dvars mb p m2) {lev : Option (List Nat)} {ord : List Nat}
    (ho : bddLevelsOrder p.tbl lev = .ok ord) (u : Nat) :
    u ∈ ord ↔ (m2.tbl.node? u).isSome = true := by
  have := bddLevelsOrder_mem p.tbl (by rw [P.tbl]; exact P.inv.inv.wf.toWF) lev ord ho u
  rw [P.tbl] at this
  exact this

/-- the main loop run on what the preparation leaves: `B2MOK` -/
theorem PrepOK.loop {ext : Nat → Nat} {dvars : List MVar} {mb : Mgr} {p : B2MPrep} {m2 : Mgr}
    (P : PrepOK ext dvars mb p m2) {lev : Option (List Nat)} {ord : List Nat}
    (ho : bddLevelsOrder p.tbl lev = .ok ord) {out : B2MOut} {mb' : Mgr}
    (hloop : b2mLoop p.rm (b2mBitToVar dvars) ord (MddMgr.new (some dvars)) [(1, 1)] m2 = (.ok out, mb')) :
    B2MOK ext dvars mb out mb' := by
  obtain ⟨hmb, hM, hV, hR, hU⟩ := b2mLoop_bdd_sound dvars m2 P.inv.inv P.zone p.rm ord
    (fun u hu _ => (P.ord_mem ho u).mp hu) out mb' hloop
  rw [hmb]
  obtain ⟨hk1, hk2, _⟩ := b2mLoop_keys p.rm (b2mBitToVar dvars) ord _ _ m2 out mb' hloop
  refine ⟨hM, hV, P.inv.inv, P.zone, hU, P.held, ⟨?_, ?_⟩, hR, P.inv, P.names⟩
  · apply hk1; simp [List.lookup_cons]
  · intro u hu
    have hmemu : m2.tbl.Mem (u : Int) := (P.held u hu).1
    by_cases hu1 : u = 1
    · subst hu1; apply hk1; simp [List.lookup_cons]
    have hn : (m2.tbl.node? u).isSome = true := by
      rcases hmemu with h1 | h1
      · exact absurd (by simpa using h1) hu1
      · simpa using h1
    have hc := P.inv.refExact.get hmemu
    simp only [Int.natAbs_natCast] at hc
    have hlt : (bddPreds m2.tbl u).length <
        indeg m2.tbl u + ext u + (if u = 1 then 1 else 0) := by
      have := bddPreds_le_indeg m2.tbl u
      omega
    apply hk2 u ((P.ord_mem ho u).mpr hn)
    -- not left out: the nodes in `rm` have a count not above the number of predecessors
    cases hcon : p.rm.contains u with
    | false => rfl
    | true =>
      exfalso
      have hmem : u ∈ p.rm := by simpa using hcon
      obtain ⟨rc, h1, h2⟩ := P.rm u hmem
      rw [hc] at h1
      cases h1
      omega

/-- C15, conversion: for a BDD manager satisfying the reordering invariant (manager invariant,
name maps, exact counts for the ledger `ext`, roots held), dynamic reordering enabled or not,
and a proper `dvars` (levels `0..n-1`, bit lists partitioning the declared variables),
every successful `bdd_to_mdd` — for any recorded iteration orders — is correct. -/
theorem bddToMdd_spec (ext : Nat → Nat) (mb : Mgr) (h : ReorderInv ext mb)
    (dvars : List MVar) (hd : DvarsOK mb.tbl dvars) (lev : Option (List Nat))
    (out : B2MOut) (mb' : Mgr) (hr : bddToMdd dvars lev mb = (.ok out, mb')) :
    B2MOK ext dvars mb out mb' := by
  obtain ⟨p, m2, ord, hp, ho, hloop⟩ := bddToMdd_unfold dvars lev mb out mb' hr
  have P := b2mPrepare_spec ext mb h dvars hd p m2 hp
  exact P.loop ho (P.btv ▸ hloop)

end DD
