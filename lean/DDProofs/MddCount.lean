/-
  DDProofs.MddCount — exact reference counts of an MDD manager: `_ref[u]` = in-degree of `u`
  + number of references the user holds (`ext`, a ledger that no operation reads).
  In-degrees (a `sumRange`) after adding or removing a node, the `incref` loop of
  `find_or_add`, the ledger under `incref` / `decref`.
-/
import DDProofs.SumRange
import DDProofs.MddSem
import DDProofs.NatMap
open Std

namespace DD

/-- number of occurrences of node `u` among a successor tuple -/
def cntInto (kids : List Int) (u : Nat) : Nat := kids.countP (fun k => k.natAbs == u)

def edgesInto (n : Option MNd) (u : Nat) : Nat :=
  match n with
  | none => 0
  | some n => cntInto n.kids u

/-- number of edges into node `u` from the nodes numbered below `bound` -/
def MTbl.indeg (t : MTbl) (bound : Nat) (u : Nat) : Nat :=
  sumRange (fun p => edgesInto (t.node? p) u) bound

theorem cntInto_pos_iff {kids : List Int} {u : Nat} : 0 < cntInto kids u ↔ ∃ k ∈ kids, k.natAbs = u := by
  unfold cntInto
  rw [List.countP_pos_iff]
  simp

theorem cntInto_cons (k : Int) (kids : List Int) (u : Nat) :
    cntInto (k :: kids) u = cntInto kids u + (if k.natAbs = u then 1 else 0) := by
  unfold cntInto
  rw [List.countP_cons]
  simp

/-- no member of a table is a number that is free in it -/
theorem cntInto_fresh {t : MTbl} {L : List Int} (hmem : ∀ k ∈ L, t.Mem k) {u : Nat}
    (hf : t.node? u = none) (hu1 : u ≠ 1) : cntInto L u = 0 :=
  Nat.eq_zero_of_not_pos fun hpos => by
    obtain ⟨k, hk, habs⟩ := cntInto_pos_iff.mp hpos
    rcases hmem k hk with h1 | h1
    · omega
    · rw [habs, hf] at h1; cases h1

/-- every stored count is the in-degree plus the number of references the user holds (`ext`);
the user holds nothing on numbers that are not nodes -/
structure MRefExact (m : MddMgr) (ext : Nat → Nat) : Prop where
  cnt : ∀ u, (u = 1 ∨ (m.tbl.node? u).isSome) →
    m.ref[u]? = some (m.tbl.indeg (m.max + 1) u + ext u)
  extZero : ∀ u, u ≠ 1 → m.tbl.node? u = none → ext u = 0

theorem MRefExact.setSched {m : MddMgr} {ext : Nat → Nat} (h : MRefExact m ext) (s : List Nat) :
    MRefExact { m with sched := s } ext := ⟨h.cnt, h.extZero⟩

theorem MRefExact.of_setSched {m : MddMgr} {ext : Nat → Nat} {s : List Nat}
    (h : MRefExact { m with sched := s } ext) : MRefExact m ext := ⟨h.cnt, h.extZero⟩

/-- the node table after `self._succ[u] = t` -/
def MTbl.addNode (t : MTbl) (u : Nat) (nd : MNd) : MTbl := { t with succ := t.succ.insert u nd }

theorem MTbl.node?_addNode (t : MTbl) (u : Nat) (nd : MNd) (x : Nat) :
    (t.addNode u nd).node? x = if u = x then some nd else t.node? x := by
  simp [MTbl.addNode, MTbl.node?, TreeMap.getElem?_insert]

theorem MTbl.addNode_ext (t : MTbl) (u : Nat) (nd : MNd) (hf : t.node? u = none) :
    MExt t (t.addNode u nd) := by
  refine ⟨rfl, rfl, ?_⟩
  intro x n hn
  rw [MTbl.node?_addNode]
  have : u ≠ x := by intro h; subst h; rw [hf] at hn; cases hn
  simp [this, hn]


def MTbl.delNode (t : MTbl) (p : Nat) : MTbl := { t with succ := t.succ.erase p }

theorem MTbl.node?_delNode (t : MTbl) (p x : Nat) :
    (t.delNode p).node? x = if p = x then none else t.node? x := by
  simp [MTbl.delNode, MTbl.node?, TreeMap.getElem?_erase]

theorem MTbl.delNode_sub (t : MTbl) (p : Nat) : MExt (t.delNode p) t := by
  refine ⟨rfl, rfl, ?_⟩
  intro x n hn
  rw [MTbl.node?_delNode] at hn
  by_cases hx : p = x
  · simp [hx] at hn
  · simpa [hx] using hn

theorem MTbl.indeg_update (t t' : MTbl) (p : Nat) (h : ∀ q, q ≠ p → t'.node? q = t.node? q)
    (bound : Nat) (hb : p < bound) (x : Nat) :
    t'.indeg bound x + edgesInto (t.node? p) x = t.indeg bound x + edgesInto (t'.node? p) x :=
  sumRange_update (f := fun q => edgesInto (t'.node? q) x) (g := fun q => edgesInto (t.node? q) x)
    p bound hb (fun q hq => by show edgesInto _ x = edgesInto _ x; rw [h q hq])

theorem MTbl.indeg_addNode (t : MTbl) (u : Nat) (nd : MNd) (hf : t.node? u = none) (bound : Nat)
    (hb : u < bound) (x : Nat) :
    (t.addNode u nd).indeg bound x = t.indeg bound x + cntInto nd.kids x := by
  have key := t.indeg_update (t.addNode u nd) u
    (fun q hq => by rw [MTbl.node?_addNode, if_neg (fun h => hq h.symm)]) bound hb x
  rw [hf, MTbl.node?_addNode, if_pos rfl] at key
  exact key

theorem MTbl.indeg_delNode (t : MTbl) (p : Nat) (np : MNd) (hp : t.node? p = some np) (bound : Nat)
    (hb : p < bound) (x : Nat) :
    (t.delNode p).indeg bound x + cntInto np.kids x = t.indeg bound x := by
  have key := t.indeg_update (t.delNode p) p
    (fun q hq => by rw [MTbl.node?_delNode, if_neg (fun h => hq h.symm)]) bound hb x
  rw [hp, MTbl.node?_delNode, if_pos rfl] at key
  exact key

theorem MTbl.indeg_bound (t : MTbl) (b : Nat) (x : Nat) :
    ∀ b', b ≤ b' → (∀ p, b ≤ p → t.node? p = none) → t.indeg b' x = t.indeg b x :=
  fun b' h hn => sumRange_stable (fun p hp => by rw [hn p hp]; rfl) b' h

theorem MTbl.indeg_fresh (t : MTbl) (hw : MWF t) (u : Nat) (hf : t.node? u = none) (hu1 : u ≠ 1)
    (bound : Nat) : t.indeg bound u = 0 := by
  unfold MTbl.indeg
  have : ∀ p, edgesInto (t.node? p) u = 0 := by
    intro p
    cases hp : t.node? p with
    | none => rfl
    | some n => exact cntInto_fresh (hw.kids_mem _ _ hp) hf hu1
  exact sumRange_stable (fun p _ => this p) bound (Nat.zero_le _)

theorem mIncrefAll_count : ∀ (l : List Int) (m m' : MddMgr), mIncrefAll l m = (.ok (), m') →
    ∀ x, m'.ref[x]? = (m.ref[x]?).map (fun v => v + cntInto l x) := by
  intro l
  induction l with
  | nil =>
    intro m m' hr x
    simp only [mIncrefAll, Prod.mk.injEq, true_and] at hr
    subst hr
    cases m.ref[x]? <;> simp [cntInto]
  | cons k rest ih =>
    intro m m' hr x
    unfold mIncrefAll at hr
    split at hr
    · next m1 h1 =>
      unfold mIncref at h1
      split at h1
      · simp at h1
      · next c hc =>
        simp only [Prod.mk.injEq, true_and] at h1
        subst h1
        rw [ih _ m' hr x, cntInto_cons]
        show ((m.ref.insert k.natAbs (c + 1))[x]?).map _ = _
        rw [getElem?_insert_eq]
        by_cases hkx : k.natAbs = x
        · subst hkx
          rw [hc]
          simp only [if_true, Option.map_some, Option.some.injEq]
          omega
        · simp [hkx]
    · simp at hr

/-- the ledger after taking one more reference to `u` -/
def mExtInc (ext : Nat → Nat) (u : Int) : Nat → Nat := fun x => if x = u.natAbs then ext x + 1 else ext x
/-- the ledger after releasing one reference to `u` -/
def mExtDec (ext : Nat → Nat) (u : Int) : Nat → Nat := fun x => if x = u.natAbs then ext x - 1 else ext x

theorem MRefExact.update {m : MddMgr} {ext : Nat → Nat} (hx : MRefExact m ext) {u : Int}
    (hu : m.tbl.Mem u) (v : Nat) (ext' : Nat → Nat)
    (hv : v = m.tbl.indeg (m.max + 1) u.natAbs + ext' u.natAbs)
    (hext : ∀ x, x ≠ u.natAbs → ext' x = ext x) :
    MRefExact { m with ref := m.ref.insert u.natAbs v } ext' := by
  constructor
  · intro x hxm
    show (m.ref.insert u.natAbs v)[x]? = _
    rw [getElem?_insert_eq]
    by_cases hux : u.natAbs = x
    · subst hux; rw [if_pos rfl, hv]
    · rw [if_neg hux, hext x (fun e => hux e.symm)]
      exact hx.cnt x hxm
  · intro x hx1 hxn
    have hne : x ≠ u.natAbs := by
      intro e; subst e
      rcases hu with h1 | h1
      · exact hx1 h1
      · rw [show m.tbl.node? u.natAbs = none from hxn] at h1; cases h1
    rw [hext x hne]
    exact hx.extZero x hx1 hxn

theorem mIncref_exact (u : Int) (m : MddMgr) (ext : Nat → Nat) (hu : m.tbl.Mem u)
    (hx : MRefExact m ext) (m' : MddMgr) (hi : mIncref u m = (.ok (), m')) :
    MRefExact m' (mExtInc ext u) := by
  unfold mIncref at hi
  split at hi
  · cases hi
  · next c hc =>
    cases hi
    have hcnt := hx.cnt u.natAbs hu
    rw [hc, Option.some.injEq] at hcnt
    exact hx.update hu _ _ (by simp only [mExtInc, if_true]; omega)
      (fun x hne => by simp only [mExtInc, if_neg hne])

theorem mDecref_exact (u : Int) (m : MddMgr) (ext : Nat → Nat) (hu : m.tbl.Mem u)
    (hheld : 0 < ext u.natAbs)
    (hx : MRefExact m ext) (m' : MddMgr) (hi : mDecref u m = (.ok (), m')) :
    MRefExact m' (mExtDec ext u) := by
  unfold mDecref at hi
  split at hi
  · cases hi
  · next c hc =>
    have hcnt := hx.cnt u.natAbs hu
    rw [hc, Option.some.injEq] at hcnt
    split at hi
    · omega
    · cases hi
      exact hx.update hu _ _ (by simp only [mExtDec, if_true]; omega)
        (fun x hne => by simp only [mExtDec, if_neg hne])

theorem MRefExact.init (dv : List MVar) : MRefExact (MddMgr.new (some dv)) (fun _ => 0) := by
  constructor
  · intro u hu
    have hnone : ∀ p, (MddMgr.new (some dv)).tbl.node? p = none := by
      intro p; simp [MddMgr.new, MTbl.node?]
    rcases hu with rfl | h1
    · have : (MddMgr.new (some dv)).tbl.indeg ((MddMgr.new (some dv)).max + 1) 1 = 0 := by
        unfold MTbl.indeg
        simp [MddMgr.new, sumRange, MTbl.node?, edgesInto]
      rw [this]
      simp [MddMgr.new]
    · rw [hnone u] at h1; cases h1
  · intro _ _ _; rfl

end DD
