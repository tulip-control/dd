/-
  DDProofs.MddFoa — `MDD.find_or_add`.  `MStep` is what every call that only adds nodes keeps;
  `mFindOrAddCore_out` describes every outcome of `find_or_add` in one statement (argument checks
  fail and nothing changes; or the call returns and `FoaOK` holds; or the model reports a recorded
  `_free.pop()` that does not fit, and nothing has changed), and the conditional and total
  specifications are read off it.
-/
import DDProofs.MddCount
import DDProofs.MddInv
open Std

namespace DD

/-! ### what a call that only adds nodes keeps -/

structure MStep (m m' : MddMgr) : Prop where
  inv : MInv m'
  ext : MExt m.tbl m'.tbl
  exact : ∀ ext, MRefExact m ext → MRefExact m' ext
  refKeys : RefKeys m → RefKeys m'
  sched : m.sched = [] → m'.sched = []

theorem MStep.refl {m : MddMgr} (h : MInv m) : MStep m m :=
  ⟨h, MExt.refl _, fun _ hx => hx, fun hk => hk, fun hs => hs⟩

theorem MStep.trans {a b c : MddMgr} (h1 : MStep a b) (h2 : MStep b c) : MStep a c :=
  ⟨h2.inv, h1.ext.trans h2.ext, fun ext hx => h2.exact ext (h1.exact ext hx),
   fun hk => h2.refKeys (h1.refKeys hk), fun hs => h2.sched (h1.sched hs)⟩

theorem MStep.den {m m' : MddMgr} (S : MStep m m') (h : MInv m) (u : Int) (hu : m.tbl.Mem u) (a : MAsg) :
    denM m'.tbl u a = denM m.tbl u a := denM_ext S.ext h.wf.toMWF u a hu

theorem MStep.withCache {m m' : MddMgr} (S : MStep m m') (c : TreeMap (List Int) Int)
    (hc : ∀ g u v w, c[iteKey g u v]? = some w → MCacheOK m'.tbl g u v w) :
    MStep m { m' with cache := c } :=
  ⟨S.inv.core.withCache c hc, S.ext,
   fun ext hx => ⟨(S.exact ext hx).cnt, (S.exact ext hx).extZero⟩, S.refKeys, S.sched⟩

theorem MTbl.addNode_wfu (t : MTbl) (hw : MWFU t) (u : Nat) (nd : MNd)
    (hf : t.node? u = none) (hu2 : 2 ≤ u) (hN : t.NodeOK nd) (hnew : ∀ x, t.node? x ≠ some nd) :
    MWFU (t.addNode u nd) := by
  have hW := hw.toMWF
  have he := t.addNode_ext u nd hf
  have hcase : ∀ x n, (t.addNode u nd).node? x = some n →
      (x = u ∧ n = nd) ∨ (x ≠ u ∧ t.node? x = some n) := by
    intro x n hn
    rw [MTbl.node?_addNode] at hn
    by_cases hx : u = x
    · simp [hx] at hn; exact Or.inl ⟨hx.symm, hn.symm⟩
    · simp [hx] at hn; exact Or.inr ⟨fun h => hx h.symm, hn⟩
  have hup : ∀ n, t.NodeOK n → (t.addNode u nd).NodeOK n := fun n h =>
    h.transport he.vars.symm (fun k hk => ⟨he.mem (h.mem k hk), he.levelOf (h.mem k hk)⟩)
  refine ⟨MWF.of_nodeOK hW.term ?_, ?_⟩
  · intro x n hn
    rcases hcase x n hn with ⟨rfl, rfl⟩ | ⟨_, ho⟩
    · exact ⟨hup _ hN, hu2⟩
    · exact ⟨hup _ (hW.nodeOK ho), hW.ge_two _ _ ho⟩
  · intro x x' n hn hn'
    rcases hcase x n hn with ⟨rfl, rfl⟩ | ⟨hxu, ho⟩
    · rcases hcase x' _ hn' with ⟨rfl, _⟩ | ⟨_, ho'⟩
      · rfl
      · exact absurd ho' (hnew x')
    · rcases hcase x' n hn' with ⟨rfl, rfl⟩ | ⟨_, ho'⟩
      · exact absurd ho (hnew x)
      · exact hw.unique _ _ _ ho ho'

/-- the manager after the three dictionary updates `_succ[u] = t`, `_pred[t] = u`, `_ref[u] = 0` -/
def MddMgr.addNode (m : MddMgr) (u : Nat) (nd : MNd) : MddMgr :=
  { m with tbl := m.tbl.addNode u nd, pred := m.pred.insert nd.key u, ref := m.ref.insert u 0 }

theorem AllocOK.addNode_tbl {m m1 : MddMgr} {u : Nat} (A : AllocOK m u m1) (nd : MNd) :
    (m1.addNode u nd).tbl = m.tbl.addNode u nd := by
  show m1.tbl.addNode u nd = _
  rw [A.tbl]

theorem MInv.addNode {m m1 : MddMgr} (h : MInv m) {u : Nat} (A : AllocOK m u m1) {i : Nat}
    {L : List Int} (hp : m.pred[(MNd.key ⟨i, L⟩)]? = none) (hN : m.tbl.NodeOK ⟨i, L⟩) :
    MInv (m1.addNode u ⟨i, L⟩) := by
  have hnew : ∀ x, m.tbl.node? x ≠ some ⟨i, L⟩ := by
    intro x hx
    rw [(h.pred ⟨i, L⟩ x).mpr hx] at hp; cases hp
  have htbl := A.addNode_tbl ⟨i, L⟩
  have hcont : ∀ x, (m1.addNode u ⟨i, L⟩).ref.contains x = true ↔ u = x ∨ m.ref.contains x = true := by
    intro x
    show (m1.ref.insert u 0).contains x = true ↔ _
    rw [natmap_contains_insert, A.ref]
  refine ⟨?_, ?_, ?_, ?_, A.inv.maxGe, ?_, ?_, A.inv.freeNodup, ?_⟩
  · rw [htbl]; exact m.tbl.addNode_wfu h.wf u _ A.fresh A.ge_two hN hnew
  · intro n x
    rw [htbl, MTbl.node?_addNode]
    show (m1.pred.insert (MNd.key ⟨i, L⟩) u)[n.key]? = some x ↔ _
    rw [getElem?_insert_eq, A.pred]
    by_cases hk : (MNd.key ⟨i, L⟩) = n.key
    · obtain rfl : n = ⟨i, L⟩ := (MNd.key_inj hk).symm
      rw [if_pos rfl, Option.some.injEq]
      constructor
      · intro hx; subst hx; simp
      · intro hx
        by_cases hux : u = x
        · exact hux
        · rw [if_neg hux] at hx; exact absurd hx (hnew x)
    · rw [if_neg hk, h.pred n x]
      by_cases hux : u = x
      · subst hux
        rw [if_pos rfl, A.fresh]
        constructor
        · intro hx; cases hx
        · intro hx; exact absurd (congrArg MNd.key (Option.some.inj hx)) hk
      · rw [if_neg hux]
  · exact (hcont 1).mpr (Or.inr h.refOne)
  · intro x n hn
    rw [htbl, MTbl.node?_addNode] at hn
    rw [hcont]
    by_cases hux : u = x
    · exact Or.inl hux
    · rw [if_neg hux] at hn
      exact Or.inr (h.refDom _ _ hn)
  · intro x n hn
    rw [htbl, MTbl.node?_addNode] at hn
    show x ≤ m1.max
    by_cases hux : u = x
    · subst hux; exact A.le_max
    · rw [if_neg hux] at hn
      exact Nat.le_trans (h.maxOK x n hn) A.maxle
  · intro f hf
    obtain ⟨f2, fm, fn⟩ := A.inv.freeOK f hf
    refine ⟨f2, fm, ?_⟩
    rw [htbl, MTbl.node?_addNode, if_neg (fun hc : u = f => A.notFree (hc ▸ hf)), ← A.tbl]
    exact fn
  · intro g a b w hc
    rw [htbl]
    exact (h.cache g a b w (by rw [← A.cache]; exact hc)).ext h.wf.toMWF (m.tbl.addNode_ext u ⟨i, L⟩ A.fresh)

theorem MRefExact.addNode {m m1 m3 : MddMgr} (h : MInv m) {u : Nat} (A : AllocOK m u m1) {i : Nat}
    {L : List Int} (hmem : ∀ k ∈ L, m.tbl.Mem k) {ext : Nat → Nat} (hx : MRefExact m ext)
    (hR : MRefOnly (m1.addNode u ⟨i, L⟩) m3)
    (hcount : ∀ x, m3.ref[x]? = ((m1.addNode u ⟨i, L⟩).ref[x]?).map (fun v => v + cntInto L x)) :
    MRefExact m3 ext := by
  have hW := h.wf.toMWF
  have hu1ne : u ≠ 1 := by have := A.ge_two; omega
  have htbl : m3.tbl = m.tbl.addNode u ⟨i, L⟩ := hR.tbl.trans (A.addNode_tbl _)
  have hcntL : cntInto L u = 0 := cntInto_fresh hmem A.fresh hu1ne
  have hindeg : ∀ x, m3.tbl.indeg (m3.max + 1) x = m.tbl.indeg (m.max + 1) x + cntInto L x := by
    intro x
    rw [htbl, hR.max]
    show (m.tbl.addNode u ⟨i, L⟩).indeg (m1.max + 1) x = _
    rw [m.tbl.indeg_addNode u ⟨i, L⟩ A.fresh (m1.max + 1) (by have := A.le_max; omega) x,
      m.tbl.indeg_bound (m.max + 1) x (m1.max + 1) (by have := A.maxle; omega)]
    intro p hp
    cases hn : m.tbl.node? p with
    | none => rfl
    | some n => have := h.maxOK p n hn; omega
  have href : ∀ x, m3.ref[x]? = ((m.ref.insert u 0)[x]?).map (fun v => v + cntInto L x) := by
    intro x
    rw [hcount x]
    show ((m1.ref.insert u 0)[x]?).map _ = _
    rw [A.ref]
  constructor
  · intro x hxm
    rw [href x, getElem?_insert_eq, hindeg x]
    by_cases hux : u = x
    · subst hux
      rw [if_pos rfl, m.tbl.indeg_fresh hW u A.fresh hu1ne, hx.extZero u hu1ne A.fresh, hcntL]
      rfl
    · rw [if_neg hux]
      have hxm' : x = 1 ∨ (m.tbl.node? x).isSome := by
        rcases hxm with h1 | h1
        · exact Or.inl h1
        · rw [htbl, MTbl.node?_addNode, if_neg hux] at h1
          exact Or.inr h1
      rw [hx.cnt x hxm']
      simp only [Option.map_some, Option.some.injEq]
      omega
  · intro x hx1 hxn
    rw [htbl, MTbl.node?_addNode] at hxn
    by_cases hux : u = x
    · simp [hux] at hxn
    · rw [if_neg hux] at hxn
      exact hx.extZero x hx1 hxn

theorem mIncrefAll_cases : ∀ (l : List Int) (m : MddMgr) (r : Except Err Unit) (m' : MddMgr),
    mIncrefAll l m = (r, m') →
    MRefOnly m m' ∧ (r = .ok () ∨ ∃ k, k ∈ l ∧ m.ref.contains k.natAbs = false) := by
  intro l
  induction l with
  | nil => intro m r m' hi; cases hi; exact ⟨MRefOnly.refl m, Or.inl rfl⟩
  | cons v rest ih =>
    intro m r m' hi
    unfold mIncrefAll at hi
    split at hi
    · next m1 h1 =>
      have R := mIncref_refOnly v m _ m1 h1
      obtain ⟨R', hc⟩ := ih m1 r m' hi
      refine ⟨R.trans R', hc.imp id ?_⟩
      rintro ⟨k, hk, hkc⟩
      exact ⟨k, List.mem_cons_of_mem _ hk, by rw [← R.dom]; exact hkc⟩
    · next e m1 h1 =>
      cases hi
      refine ⟨mIncref_refOnly v m _ _ h1, Or.inr ⟨v, List.mem_cons_self, ?_⟩⟩
      unfold mIncref at h1
      split at h1
      · next hn => rw [TreeMap.contains_eq_isSome_getElem?, hn]; rfl
      · cases h1

/-- what the second half of `find_or_add` promises -/
structure MakeOK (m : MddMgr) (i : Nat) (L : List Int) (u : Nat) (m' : MddMgr) : Prop extends MStep m m' where
  node : m'.tbl.node? u = some ⟨i, L⟩
  ge_two : 2 ≤ u

theorem mFindOrMake_out (m : MddMgr) (h : MInv m) (i : Nat) (L : List Int)
    (hmem : ∀ k ∈ L, m.tbl.Mem k) :
    MOut (MSchedErrSame m) (fun u m' => m.tbl.NodeOK ⟨i, L⟩ → MakeOK m i L u m') (mFindOrMake i L m) := by
  unfold mFindOrMake
  dsimp only
  split
  · -- already exists
    next u' hp =>
    intro _
    have hn := (h.pred ⟨i, L⟩ u').mp hp
    exact ⟨MStep.refl h, hn, h.wf.ge_two _ _ hn⟩
  · next hp =>
    have hA := mAllocate_out m h
    split
    · next e m1 ha => rw [ha] at hA; exact hA
    · next u m1 ha =>
      rw [ha] at hA
      have A : AllocOK m u m1 := hA
      have hnm : m1.mem (u : Int) = false := by
        have := h.not_mem_fresh A.ge_two A.fresh
        show m1.tbl.mem _ = false
        rw [A.tbl]; exact this
      rw [if_neg (by rw [hnm]; simp)]
      have hcnt : ∀ k ∈ L, (m1.addNode u ⟨i, L⟩).ref.contains k.natAbs = true := by
        intro k hk
        show (m1.ref.insert u 0).contains k.natAbs = true
        rw [natmap_contains_insert, A.ref]
        exact Or.inr (h.refMem (hmem k hk))
      split
      · next e m3 hinc =>
        exfalso
        rcases (mIncrefAll_cases _ _ _ _ hinc).2 with he | ⟨k, hk, hkc⟩
        · cases he
        · have hkc' : (m1.addNode u ⟨i, L⟩).ref.contains k.natAbs = false := hkc
          rw [hcnt k hk] at hkc'; cases hkc'
      · next m3 hinc =>
        intro hN
        have hR : MRefOnly (m1.addNode u ⟨i, L⟩) m3 := (mIncrefAll_cases _ _ _ _ hinc).1
        have hinv2 := h.addNode A hp hN
        have htbl : m3.tbl = m.tbl.addNode u ⟨i, L⟩ := hR.tbl.trans (A.addNode_tbl _)
        refine ⟨⟨hR.inv hinv2, ?_, ?_, ?_, ?_⟩, ?_, A.ge_two⟩
        · rw [htbl]; exact m.tbl.addNode_ext u ⟨i, L⟩ A.fresh
        · exact fun ext hx => hx.addNode h A hmem hR (mIncrefAll_count _ _ _ hinc)
        · intro hk
          apply hR.refKeys
          intro k hkk
          have hkk' : (m1.ref.insert u 0).contains k = true := hkk
          show k = 1 ∨ (m1.tbl.succ.insert u ⟨i, L⟩).contains k = true
          rw [natmap_contains_insert, A.ref] at hkk'
          rw [natmap_contains_insert, A.tbl]
          rcases hkk' with e | h1
          · exact Or.inr (Or.inl e)
          · exact (hk k h1).imp id Or.inr
        · intro hs; rw [hR.sched]; exact A.sched hs
        · rw [htbl, MTbl.node?_addNode, if_pos rfl]

/-- what `find_or_add(i, *nodes)` promises when it returns `r` -/
structure FoaOK (m : MddMgr) (i : Nat) (nodes : List Int) (r : Int) (m' : MddMgr) : Prop extends MStep m m' where
  mem : m'.tbl.Mem r
  lvl : i ≤ m'.tbl.levelOf r
  den : ∀ a k, nodes[a i]? = some k → denM m'.tbl r a = denM m'.tbl k a

/-- the arguments `find_or_add` accepts: a level of the manager, as many successors as the variable
has values, all of them nodes -/
structure FoaArgs (m : MddMgr) (i : Nat) (nodes : List Int) : Prop where
  lvl : i < m.tbl.nvars
  len : nodes.length = m.tbl.arity i
  ne : nodes ≠ []
  mem : ∀ k ∈ nodes, m.tbl.Mem k

theorem all_eq_of_all {l : List Int} {c : Int} (h : l.all (fun u => u == c) = true) :
    ∀ k ∈ l, k = c := by
  intro k hk
  have := List.all_eq_true.mp h k hk
  simpa using this

theorem exists_ne_of_not_all {l : List Int} {c : Int} (h : ¬ l.all (fun u => u == c) = true) :
    ∃ k ∈ l, k ≠ c := by
  induction l with
  | nil => simp at h
  | cons x xs ih =>
    by_cases hx : x = c
    · have : ¬ xs.all (fun u => u == c) = true := by
        intro hh; apply h; simp [hx]; simpa using hh
      obtain ⟨k, hk, hne⟩ := ih this
      exact ⟨k, List.mem_cons_of_mem _ hk, hne⟩
    · exact ⟨x, by simp, hx⟩

/-! complemented edges: a reference times `±1` -/

theorem MTbl.mem_sign {t : MTbl} {c : Int} (hc : c = 1 ∨ c = -1) {u : Int} (h : t.Mem u) :
    t.Mem (c * u) := by
  rcases hc with rfl | rfl
  · rw [Int.one_mul]; exact h
  · rw [Int.neg_one_mul]; exact MTbl.mem_neg h

theorem MTbl.levelOf_sign (t : MTbl) {c : Int} (hc : c = 1 ∨ c = -1) (u : Int) :
    t.levelOf (c * u) = t.levelOf u := by
  rcases hc with rfl | rfl
  · rw [Int.one_mul]
  · rw [Int.neg_one_mul, MTbl.levelOf_neg]

theorem denM_sign (t : MTbl) (hw : MWF t) {c : Int} (hc : c = 1 ∨ c = -1) (u : Int) (a : MAsg)
    (hm : t.Mem u) : denM t (c * u) a = (decide (c = -1) ^^ denM t u a) := by
  rcases hc with rfl | rfl
  · rw [Int.one_mul]; simp
  · rw [Int.neg_one_mul, denM_neg t hw u a hm]; simp

/-- the tail of `find_or_add` once the complement bit `c` has been moved out of the first
successor: `L` is `nodes` with every edge multiplied by `c`, and starts with a regular edge -/
theorem mFoaTail_out (m : MddMgr) (h : MInv m) (i : Nat) (nodes : List Int) (ha : FoaArgs m i nodes)
    (c : Int) (hc : c = 1 ∨ c = -1) (L : List Int) (hL : L = nodes.map (fun u => c * u))
    (k0 : Int) (rest : List Int) (hk0 : L = k0 :: rest) (hpos : 0 < k0) :
    MOut (MSchedErrSame m)
      (fun r m' => (∀ k ∈ nodes, i < m.tbl.levelOf k) → FoaOK m i nodes r m')
      (if L.all (fun u => u == k0) then ((.ok (c * k0) : Except Err Int), m) else
        match mFindOrMake i L m with
        | (.error e, m1) => (.error e, m1)
        | (.ok u, m1) => (.ok (c * (u : Int)), m1)) := by
  have hW := h.wf.toMWF
  have hLmem : ∀ k ∈ L, m.tbl.Mem k := by
    intro k hk
    rw [hL, List.mem_map] at hk
    obtain ⟨x, hx, rfl⟩ := hk
    exact MTbl.mem_sign hc (ha.mem x hx)
  have hk0m : m.tbl.Mem k0 := hLmem k0 (by rw [hk0]; simp)
  -- the `j`-th successor of the tuple looked up
  have hget : ∀ (j : Nat) (k : Int), nodes[j]? = some k → L[j]? = some (c * k) := by
    intro j k hk; rw [hL, List.getElem?_map, hk]; rfl
  have hcc : ∀ x : Int, c * (c * x) = x := by
    intro x; rcases hc with rfl | rfl <;> omega
  split
  · -- all successors equal: no node
    next hall =>
    intro hlt
    have hall' := all_eq_of_all hall
    refine ⟨MStep.refl h, MTbl.mem_sign hc hk0m, ?_, ?_⟩
    · obtain ⟨x, hx, hxe⟩ : ∃ x, x ∈ nodes ∧ c * x = k0 := by
        have : k0 ∈ L := by rw [hk0]; simp
        rw [hL, List.mem_map] at this
        exact this
      rw [MTbl.levelOf_sign _ hc, ← hxe, MTbl.levelOf_sign _ hc]
      exact Nat.le_of_lt (hlt x hx)
    · intro a k hk
      rw [← hall' (c * k) (List.mem_of_getElem? (hget _ _ hk)), hcc]
  · next hall =>
    have hM := mFindOrMake_out m h i L hLmem
    split
    · next e m1 hmk => rw [hmk] at hM; exact hM
    · next u m1 hmk =>
      rw [hmk] at hM
      intro hlt
      obtain ⟨k', hk', hne⟩ := exists_ne_of_not_all hall
      have M : MakeOK m i L u m1 := hM
        ⟨ha.lvl, by rw [hL, List.length_map]; exact ha.len, hLmem,
         by
          intro k hk
          rw [hL, List.mem_map] at hk
          obtain ⟨x, hx, rfl⟩ := hk
          rw [MTbl.levelOf_sign _ hc]; exact hlt x hx,
         ⟨k0, rest, hk0, hpos⟩, ⟨k', hk', k0, by rw [hk0]; simp, hne⟩⟩
      have hW1 := M.inv.wf.toMWF
      have hu1 : ((u : Int)).natAbs ≠ 1 := by have := M.ge_two; omega
      have hnode : m1.tbl.node? ((u : Int)).natAbs = some ⟨i, L⟩ := by simpa using M.node
      have humem : m1.tbl.Mem (u : Int) := MTbl.mem_of_node hnode
      refine ⟨M.toMStep, MTbl.mem_sign hc humem, ?_, ?_⟩
      · rw [MTbl.levelOf_sign _ hc, m1.tbl.levelOf_node (u : Int) _ hu1 hnode]
        exact Nat.le_refl _
      · intro a k hk
        have hkm : m1.tbl.Mem k := M.ext.mem (ha.mem k (List.mem_of_getElem? hk))
        rw [denM_sign m1.tbl hW1 hc _ a humem,
          denM_node_kid m1.tbl hW1 (u : Int) _ a (c * k) hu1 hnode (hget _ _ hk),
          denM_sign m1.tbl hW1 hc k a hkm]
        have : ¬ ((u : Int) < 0) := by omega
        simp [this]

/-- `find_or_add(i, *nodes)`, every outcome.  An exception leaves the manager as it was, and with
acceptable arguments it can only be the model's schedule report; a normal return means the
arguments were acceptable, and then — for successors below level `i`, the documented
precondition — the result denotes "the successor selected by the value of variable `i`", the
invariant and the exact counts are kept and no old reference changes its meaning -/
theorem mFindOrAddCore_out (m : MddMgr) (h : MInv m) (i : Nat) (nodes : List Int) :
    MOut (fun e m' => m' = m ∧ (FoaArgs m i nodes → e = Err.sched ∧ m.sched ≠ []))
      (fun r m' => FoaArgs m i nodes ∧ ((∀ k ∈ nodes, i < m.tbl.levelOf k) → FoaOK m i nodes r m'))
      (mFindOrAddCore i nodes m) := by
  unfold mFindOrAddCore
  split
  · next hi => exact ⟨rfl, fun a => absurd a.lvl (by omega)⟩
  · next hi =>
    split
    · next hvar =>
      refine ⟨rfl, fun a => ?_⟩
      have := a.len
      have hne := a.ne
      simp only [MTbl.arity, hvar] at this
      exact absurd (List.length_eq_zero_iff.mp this) hne
    · next var hvar =>
      have harity : m.tbl.arity i = var.len := by simp [MTbl.arity, hvar]
      split
      · next hlen => exact ⟨rfl, fun a => absurd (by rw [a.len, harity]) hlen⟩
      · next hlen =>
        split
        · exact ⟨rfl, fun a => absurd rfl a.ne⟩
        · next n0 tl =>
          split
          · next hall =>
            refine ⟨rfl, fun a => ?_⟩
            exfalso
            have : ((n0 :: tl).all m.mem) = true := by
              rw [List.all_eq_true]
              intro k hk
              exact (MTbl.mem_iff m.tbl h.term k).mpr (a.mem k hk)
            rw [this] at hall
            cases hall
          · next hall =>
            have ha : FoaArgs m i (n0 :: tl) := by
              refine ⟨by omega, by rw [harity]; simpa using hlen, by simp, ?_⟩
              intro k hk
              have hall' : (n0 :: tl).all m.mem = true := by simpa using hall
              exact (MTbl.mem_iff m.tbl h.term k).mp (List.all_eq_true.mp hall' k hk)
            have hn00 : n0 ≠ 0 := m.tbl.mem_ne_zero h.wf.toMWF (ha.mem n0 (by simp))
            split
            · -- first successor complemented: negate all edges, and the result
              next hneg =>
              exact (mFoaTail_out m h i (n0 :: tl) ha (-1) (Or.inr rfl) ((n0 :: tl).map fun u => -u)
                (by simp only [Int.neg_one_mul]) (-n0) (tl.map fun u => -u) rfl (by omega)).mono
                (fun e m' he => ⟨he.2.2, fun _ => ⟨he.1, he.2.1⟩⟩) (fun r m' hq => ⟨ha, hq⟩)
            · next hneg =>
              exact (mFoaTail_out m h i (n0 :: tl) ha 1 (Or.inl rfl) (n0 :: tl)
                (by simp only [Int.one_mul, List.map_id']) n0 tl rfl (by omega)).mono
                (fun e m' he => ⟨he.2.2, fun _ => ⟨he.1, he.2.1⟩⟩) (fun r m' hq => ⟨ha, hq⟩)

theorem mFindOrAddCore_spec (m : MddMgr) (h : MInv m) (i : Nat) (nodes : List Int)
    (hlt : ∀ k ∈ nodes, i < m.tbl.levelOf k)
    (r : Int) (m' : MddMgr) (hr : mFindOrAddCore i nodes m = (.ok r, m')) :
    FoaOK m i nodes r m' := by
  have T := mFindOrAddCore_out m h i nodes
  rw [hr] at T
  exact T.2 hlt

theorem mFindOrAddCore_args (m : MddMgr) (h : MInv m) (i : Nat) (nodes : List Int)
    (r : Int) (m' : MddMgr) (hr : mFindOrAddCore i nodes m = (.ok r, m')) : FoaArgs m i nodes := by
  have T := mFindOrAddCore_out m h i nodes
  rw [hr] at T
  exact T.1

theorem mFindOrAddCore_total (m : MddMgr) (h : MInv m) (i : Nat) (nodes : List Int)
    (ha : FoaArgs m i nodes) :
    MOut (MSchedErr m) (fun r m' => (∀ k ∈ nodes, i < m.tbl.levelOf k) → FoaOK m i nodes r m')
      (mFindOrAddCore i nodes m) :=
  (mFindOrAddCore_out m h i nodes).mono (fun _ _ he => he.2 ha) (fun _ _ hq => hq.2)

theorem mFindOrAddCore_err (m : MddMgr) (h : MInv m) (i : Nat) (nodes : List Int) (e : Err)
    (m' : MddMgr) (hr : mFindOrAddCore i nodes m = (.error e, m')) : m' = m := by
  have T := mFindOrAddCore_out m h i nodes
  rw [hr] at T
  exact T.1

theorem mFindOrAdd_nonneg {i : Int} (hi : 0 ≤ i) (nodes : List Int) (m : MddMgr) :
    mFindOrAdd i nodes m = mFindOrAddCore i.toNat nodes m := by
  unfold mFindOrAdd
  rw [if_neg (by omega)]

theorem mFindOrAdd_err (m : MddMgr) (h : MInv m) (i : Int) (nodes : List Int) (e : Err)
    (m' : MddMgr) (hr : mFindOrAdd i nodes m = (.error e, m')) : m' = m := by
  unfold mFindOrAdd at hr
  split at hr
  · cases hr; rfl
  · exact mFindOrAddCore_err m h _ _ _ _ hr

theorem mFindOrAdd_spec (m : MddMgr) (h : MInv m) (i : Int) (nodes : List Int)
    (hlt : ∀ k ∈ nodes, i.toNat < m.tbl.levelOf k)
    (r : Int) (m' : MddMgr) (hr : mFindOrAdd i nodes m = (.ok r, m')) :
    FoaOK m i.toNat nodes r m' := by
  unfold mFindOrAdd at hr
  split at hr
  · cases hr
  · exact mFindOrAddCore_spec m h i.toNat nodes hlt r m' hr

end DD
