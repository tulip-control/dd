/-
  DDProofs.MddGc — one iteration of the worklist loop of `MDD.collect_garbage`: the successor
  loop, the form of an iteration (`mGcStep_cases`: backwards, from any outcome; `mGcStep_unfold`:
  forwards, for an entry of a good worklist), what the iteration for a removed node keeps
  (`mGcKids_stepOK`, read by `mGcStep_spec` and `mGcStep_progress`), the initial worklist
  (`mUnusedOf_out`), and what `collect_garbage` promises (`GcOK`).
-/
import DDProofs.MddCount
import DDProofs.SatList
import DDProofs.MddInv
open Std

namespace DD

theorem MTbl.node?_delNode_ne (t : MTbl) {p x : Nat} (h : x ≠ p) : (t.delNode p).node? x = t.node? x := by
  rw [MTbl.node?_delNode, if_neg (fun e => h e.symm)]

theorem MTbl.node?_delNode_some {t : MTbl} {p x : Nat} {n : MNd} :
    (t.delNode p).node? x = some n ↔ x ≠ p ∧ t.node? x = some n := by
  rw [MTbl.node?_delNode]
  by_cases hpx : p = x
  · simp [hpx]
  · simp [hpx, Ne.symm hpx]

theorem MTbl.delNode_wfu (t : MTbl) (hw : MWFU t) (p : Nat)
    (hnp : ∀ x n, t.node? x = some n → ∀ k ∈ n.kids, k.natAbs ≠ p) :
    MWFU (t.delNode p) := by
  have hW := hw.toMWF
  have hs := t.delNode_sub p
  have hmem : ∀ x n, t.node? x = some n → ∀ k ∈ n.kids, (t.delNode p).Mem k := by
    intro x n hn k hk
    rcases hW.kids_mem _ _ hn k hk with h1 | h1
    · exact Or.inl h1
    · refine Or.inr ?_
      rw [t.node?_delNode_ne (hnp x n hn k hk)]
      exact h1
  refine ⟨MWF.of_nodeOK hW.term (fun x n hn => ?_),
    fun x x' n hn hn' => hw.unique _ _ _ (hs.nodes x n hn) (hs.nodes x' n hn')⟩
  have ho := hs.nodes x n hn
  exact ⟨(hW.nodeOK ho).transport hs.vars
    (fun k hk => ⟨hmem x n ho k hk, (hs.levelOf (hmem x n ho k hk)).symm⟩), hW.ge_two _ _ ho⟩

theorem MTbl.size_delNode (t : MTbl) (p : Nat) (n : MNd) (hp : t.node? p = some n) :
    (t.delNode p).succ.size + 1 = t.succ.size := by
  have hc : t.succ.contains p = true := by
    rw [TreeMap.contains_eq_isSome_getElem?]; exact Option.isSome_iff_exists.mpr ⟨n, hp⟩
  have hne := TreeMap.isEmpty_eq_false_of_contains hc
  rw [TreeMap.isEmpty_eq_size_eq_zero] at hne
  have : t.succ.size ≠ 0 := by simpa using hne
  show (t.succ.erase p).size + 1 = _
  rw [TreeMap.size_erase, if_pos hc]
  omega

theorem nodup_insertSorted {a : Nat} {l : List Nat} (ha : a ∉ l) (hn : l.Nodup) :
    (insertSorted a l).Nodup :=
  (insertSorted_perm a l).nodup_iff.mpr (List.nodup_cons.mpr ⟨ha, hn⟩)

theorem mem_pushNewI (l : List Int) (u y : Int) : y ∈ pushNewI l u ↔ y ∈ l ∨ y = u := mem_snocNew

theorem nodup_pushNewI (l : List Int) (u : Int) (h : l.Nodup) : (pushNewI l u).Nodup := nodup_snocNew h

theorem mGcKids_refOnly : ∀ (kids work : List Int) (m : MddMgr) (r : Except Err (List Int))
    (m' : MddMgr), mGcKids kids work m = (r, m') → MRefOnly m m' ∧ ∀ e, r = .error e → e = .key := by
  intro kids
  induction kids with
  | nil => intro work m r m' h; cases h; exact ⟨MRefOnly.refl m, fun e he => by cases he⟩
  | cons k rest ih =>
    intro work m r m' h
    unfold mGcKids at h
    split at h
    · next e1 m1 hd =>
      cases h
      exact ⟨mDecref_refOnly k m _ _ hd, fun e he => by cases he; exact (mDecref_err k m _ _ hd).2⟩
    · next m1 hd =>
      have R := mDecref_refOnly k m _ m1 hd
      split at h
      · cases h; exact ⟨R, fun e he => by cases he; rfl⟩
      · obtain ⟨h1, h2⟩ := ih _ m1 r m' h
        exact ⟨R.trans h1, h2⟩

/-- one unfolding of the successor loop, when no counter is floored -/
theorem mGcKids_cons (k : Int) (rest work : List Int) (m : MddMgr)
    (hpre : ∀ x, 0 < cntInto (k :: rest) x → ∃ v, m.ref[x]? = some v ∧ cntInto (k :: rest) x ≤ v) :
    ∃ v, m.ref[k.natAbs]? = some v ∧ 1 ≤ v ∧
      mGcKids (k :: rest) work m =
        mGcKids rest (if v - 1 = 0 && k.natAbs ≠ 1 then pushNewI work (k.natAbs : Int) else work)
          { m with ref := m.ref.insert k.natAbs (v - 1) } ∧
      (∀ x, 0 < cntInto rest x →
        ∃ v', ({ m with ref := m.ref.insert k.natAbs (v - 1) } : MddMgr).ref[x]? = some v' ∧
          cntInto rest x ≤ v') := by
  obtain ⟨v, hv, hvge⟩ := hpre k.natAbs (by rw [cntInto_cons]; simp)
  have hv1 : 1 ≤ v := by rw [cntInto_cons] at hvge; simp at hvge; omega
  refine ⟨v, hv, hv1, ?_, ?_⟩
  · have hdec : mDecref k m = (.ok (), { m with ref := m.ref.insert k.natAbs (v - 1) }) := by
      unfold mDecref
      rw [hv]
      have : ¬ v = 0 := by omega
      simp [this]
    conv => lhs; unfold mGcKids
    rw [hdec]
    dsimp only
    rw [getElem?_insert_eq]
    simp only [if_true]
  · intro x hx
    dsimp only
    rw [getElem?_insert_eq]
    by_cases hkx : k.natAbs = x
    · subst hkx
      refine ⟨v - 1, by simp, ?_⟩
      rw [cntInto_cons] at hvge; simp at hvge; omega
    · obtain ⟨v', hv', hge'⟩ := hpre x (by rw [cntInto_cons]; omega)
      refine ⟨v', by simp [hkx, hv'], ?_⟩
      rw [cntInto_cons] at hge'; simp [hkx] at hge'; exact hge'

theorem mGcKids_total : ∀ (kids work : List Int) (m : MddMgr),
    (∀ x, 0 < cntInto kids x → ∃ v, m.ref[x]? = some v ∧ cntInto kids x ≤ v) →
    ∃ work' m', mGcKids kids work m = (.ok work', m') := by
  intro kids
  induction kids with
  | nil => intro work m _; exact ⟨work, m, rfl⟩
  | cons k rest ih =>
    intro work m hpre
    obtain ⟨v, _, _, heq, hpre1⟩ := mGcKids_cons k rest work m hpre
    rw [heq]
    exact ih _ _ hpre1

structure KidsOK (kids : List Int) (work : List Int) (m : MddMgr) (work' : List Int) (m' : MddMgr) : Prop where
  ref : ∀ x, m'.ref[x]? = (m.ref[x]?).map (fun v => v - cntInto kids x)
  keep : ∀ y, y ∈ work → y ∈ work'
  added : ∀ k, k ∈ kids → k.natAbs ≠ 1 → m'.ref[k.natAbs]? = some 0 → ((k.natAbs : Nat) : Int) ∈ work'
  nodup : work.Nodup → work'.Nodup
  only : ∀ y, y ∈ work' → y ∈ work ∨
    ∃ k, k ∈ kids ∧ y = ((k.natAbs : Nat) : Int) ∧ k.natAbs ≠ 1 ∧ m'.ref[k.natAbs]? = some 0

theorem mGcKids_spec : ∀ (kids work : List Int) (m : MddMgr) (work' : List Int) (m' : MddMgr),
    (∀ x, 0 < cntInto kids x → ∃ v, m.ref[x]? = some v ∧ cntInto kids x ≤ v) →
    mGcKids kids work m = (.ok work', m') → KidsOK kids work m work' m' := by
  intro kids
  induction kids with
  | nil =>
    intro work m work' m' _ hr
    cases hr
    refine ⟨?_, fun _ h => h, ?_, fun h => h, fun _ h => Or.inl h⟩
    · intro x
      cases m.ref[x]? <;> simp [cntInto]
    · intro k hk; cases hk
  | cons k rest ih =>
    intro work m work' m' hpre hr
    obtain ⟨v, hv, hv1, heq, hpre1⟩ := mGcKids_cons k rest work m hpre
    rw [heq] at hr
    have K := ih _ _ work' m' hpre1 hr
    have hm1ref : ∀ x, ({ m with ref := m.ref.insert k.natAbs (v - 1) } : MddMgr).ref[x]? =
        if k.natAbs = x then some (v - 1) else m.ref[x]? := fun x => getElem?_insert_eq _ _ _ _
    have hrefk : m'.ref[k.natAbs]? = some (v - 1 - cntInto rest k.natAbs) := by
      rw [K.ref, hm1ref, if_pos rfl]; rfl
    refine ⟨?_, ?_, ?_, ?_, ?_⟩
    · intro x
      rw [K.ref x, hm1ref x, cntInto_cons]
      by_cases hkx : k.natAbs = x
      · subst hkx
        rw [hv]
        simp only [if_true, Option.map_some, Option.some.injEq]
        omega
      · simp [hkx]
    · intro y hy
      apply K.keep
      split
      · rw [mem_pushNewI]; exact Or.inl hy
      · exact hy
    · intro k' hk' hk1 href
      rcases List.mem_cons.mp hk' with rfl | hk'
      · -- the node just decremented
        by_cases hz : v - 1 = 0
        · apply K.keep
          have hc : ((v - 1 = 0) && (k'.natAbs ≠ 1)) = true := by simp [hz, hk1]
          simp only [hc, if_true]
          rw [mem_pushNewI]; exact Or.inr rfl
        · -- a later occurrence brings the count to zero
          rw [href, Option.some.injEq] at hrefk
          obtain ⟨k'', hk'', habs⟩ := cntInto_pos_iff.mp (by omega : 0 < cntInto rest k'.natAbs)
          have := K.added k'' hk'' (by rw [habs]; exact hk1) (by rw [habs]; exact href)
          rw [habs] at this
          exact this
      · exact K.added k' hk' hk1 href
    · intro hnd
      apply K.nodup
      split
      · exact nodup_pushNewI _ _ hnd
      · exact hnd
    · intro y hy
      rcases K.only y hy with hmid | ⟨k', hk', e, h1, h0⟩
      · split at hmid
        · next hcond =>
          rw [mem_pushNewI] at hmid
          rcases hmid with hin | e
          · exact Or.inl hin
          · simp only [Bool.and_eq_true, decide_eq_true_eq] at hcond
            refine Or.inr ⟨k, List.mem_cons_self, e, hcond.2, ?_⟩
            rw [hrefk, Option.some.injEq]
            omega
        · exact Or.inl hmid
      · exact Or.inr ⟨k', List.mem_cons_of_mem _ hk', e, h1, h0⟩

theorem mRelease_cases (u : Nat) (m : MddMgr) (r : Except Err Unit) (m' : MddMgr)
    (h : mRelease u m = (r, m')) :
    r = .error .assertion ∨ (r = .ok () ∧ m' = { m with free := insertSorted u m.free }) := by
  unfold mRelease at h
  split at h
  · cases h; exact Or.inl rfl
  split at h
  · cases h; exact Or.inl rfl
  split at h
  · cases h; exact Or.inl rfl
  split at h
  · cases h; exact Or.inl rfl
  · cases h; exact Or.inr ⟨rfl, rfl⟩

/-- the manager after `t = self._succ.pop(u)`, `self._pred.pop(t)`, `self._ref.pop(u)`,
`self._release(u)` for the node `u = p`, `t = np` -/
abbrev MddMgr.unlinked (m : MddMgr) (p : Nat) (np : MNd) : MddMgr :=
  { m with tbl := m.tbl.delNode p, pred := m.pred.erase np.key, ref := m.ref.erase p,
           free := insertSorted p m.free }

/-- the form of one iteration, whatever it returns: an assertion or a lookup fails, or the node
`u = p`, which is stored, has its entry in `_pred` and the count zero, is removed from the three
dictionaries, its number is released, and the successor loop runs -/
theorem mGcStep_cases (u : Int) (work : List Int) (m : MddMgr) (r : Except Err (List Int))
    (m' : MddMgr) (h : mGcStep u work m = (r, m')) :
    (∃ e, r = .error e ∧ (e = .assertion ∨ e = .key)) ∨
    ∃ (p : Nat) (np : MNd), u = (p : Int) ∧ m.tbl.node? p = some np ∧ m.ref[p]? = some 0 ∧
      mGcKids np.kids work (m.unlinked p np) = (r, m') := by
  unfold mGcStep at h
  split at h
  · cases h; exact Or.inl ⟨_, rfl, Or.inl rfl⟩
  · split at h
    · cases h; exact Or.inl ⟨_, rfl, Or.inr rfl⟩
    · next hneg =>
      have hup : u = ((u.toNat : Nat) : Int) := by omega
      generalize u.toNat = p at h hup
      split at h
      · cases h; exact Or.inl ⟨_, rfl, Or.inr rfl⟩
      · next np hnp =>
        dsimp only at h
        split at h
        · cases h; exact Or.inl ⟨_, rfl, Or.inr rfl⟩
        · next u' _ =>
          split at h
          · cases h; exact Or.inl ⟨_, rfl, Or.inr rfl⟩
          · next uref href =>
            split at h
            · next e m4 hrel =>
              cases h
              rcases mRelease_cases _ _ _ _ hrel with he | ⟨he, _⟩
              · exact Or.inl ⟨_, rfl, Or.inl (Except.error.inj he)⟩
              · cases he
            · next m4 hrel =>
              rcases mRelease_cases _ _ _ _ hrel with he | ⟨_, hm4⟩
              · cases he
              subst hm4
              split at h
              · cases h; exact Or.inl ⟨_, rfl, Or.inl rfl⟩
              · split at h
                · cases h; exact Or.inl ⟨_, rfl, Or.inl rfl⟩
                · next _ huref =>
                  split at h
                  · cases h; exact Or.inl ⟨_, rfl, Or.inl rfl⟩
                  · have h0 : uref = 0 := by omega
                    subst h0
                    exact Or.inr ⟨p, np, hup, hnp, href, h⟩

theorem mRelease_ok (u : Nat) (m : MddMgr) (h1 : u ≤ m.max) (h2 : m.free.contains u = false)
    (h3 : m.tbl.mem u = false) (h4 : m.ref.contains u = false) :
    mRelease u m = (.ok (), { m with free := insertSorted u m.free }) := by
  unfold mRelease
  have : ¬ u > m.max := by omega
  rw [if_neg this, h2, h3, h4]
  simp only [Bool.false_eq_true, if_false]

theorem MInvCore.not_free_of_node {m : MddMgr} (hc : MInvCore m) {p : Nat} {np : MNd}
    (hnode : m.tbl.node? p = some np) : p ∉ m.free := by
  intro hf
  have := (hc.freeOK p hf).2.2
  rw [hnode] at this
  cases this

theorem mGcStep_unfold (m : MddMgr) (hc : MInvCore m)
    (p : Nat) (np : MNd) (hnode : m.tbl.node? p = some np) (h0 : m.ref[p]? = some 0)
    (work : List Int) :
    mGcStep (p : Int) work m = mGcKids np.kids work (m.unlinked p np) := by
  have hW := hc.wf.toMWF
  have hp2 : 2 ≤ p := hW.ge_two _ _ hnode
  have hpfree : m.free.contains p = false := by
    simpa using hc.not_free_of_node hnode
  have hpred : m.pred[np.key]? = some p := (hc.pred np p).mpr hnode
  have hs : m.tbl.succ[p]? = some np := hnode
  have hmem : (m.tbl.delNode p).mem (p : Int) = false := by
    rw [MTbl.mem_false_iff (m.tbl.delNode p) hW.term]
    rintro (h1 | h1)
    · rw [Int.natAbs_natCast] at h1; omega
    · rw [Int.natAbs_natCast, MTbl.node?_delNode, if_pos rfl] at h1; cases h1
  have href : (m.ref.erase p).contains p = false := by
    rw [TreeMap.contains_erase]; simp
  have hin : (insertSorted p m.free).contains p = true := by
    simp [mem_insertSorted]
  unfold mGcStep
  have h1 : ¬ ((p : Int) = 1) := by omega
  have h2 : ¬ ((p : Int) < 0) := by omega
  rw [if_neg h1, if_neg h2]
  simp only [Int.toNat_natCast]
  rw [hs]
  dsimp only
  rw [hpred]
  dsimp only
  rw [h0]
  dsimp only
  -- `by exact`: the manager is the one the rewrite finds in the goal
  rw [mRelease_ok p _ (by exact hc.maxOK _ _ hnode) (by exact hpfree) (by exact hmem) (by exact href)]
  dsimp only
  -- `u == u_`, `not uref`, `u in self._free`
  rw [if_neg (fun h => h rfl), if_neg (fun h => h rfl)]
  simp only [hin, Bool.not_true, Bool.false_eq_true, if_false]
  rfl

theorem MInvCore.cntInto_le_indeg {m : MddMgr} (hc : MInvCore m) {x : Nat} {n : MNd}
    (hn : m.tbl.node? x = some n) (p : Nat) : cntInto n.kids p ≤ m.tbl.indeg (m.max + 1) p := by
  have h1 : edgesInto (m.tbl.node? x) p ≤ m.tbl.indeg (m.max + 1) p :=
    sumRange_le (f := fun q => edgesInto (m.tbl.node? q) p) x (m.max + 1)
      (by have := hc.maxOK x n hn; omega)
  rw [hn] at h1
  exact h1

/-- a node whose count is zero has no parent (counts are exact) -/
theorem no_parent_of_ref_zero (m : MddMgr) (ext : Nat → Nat) (hc : MInvCore m) (hx : MRefExact m ext)
    (p : Nat) (np : MNd) (hp : m.tbl.node? p = some np) (h0 : m.ref[p]? = some 0) :
    ext p = 0 ∧ ∀ x n, m.tbl.node? x = some n → ∀ k ∈ n.kids, k.natAbs ≠ p := by
  have hcnt := hx.cnt p (Or.inr (by rw [hp]; rfl))
  rw [h0] at hcnt
  simp only [Option.some.injEq] at hcnt
  refine ⟨by omega, ?_⟩
  intro x n hn k hk habs
  have h1 := hc.cntInto_le_indeg hn p
  have h2 : 0 < cntInto n.kids p := cntInto_pos_iff.mpr ⟨k, hk, habs⟩
  omega

/-- the counters of the successors of `p` cover the edges from `p`, so no `decref` in the
successor loop is floored -/
theorem kids_pre (m : MddMgr) (ext : Nat → Nat) (hc : MInvCore m) (hx : MRefExact m ext)
    (p : Nat) (np : MNd) (hnode : m.tbl.node? p = some np) :
    ∀ x, 0 < cntInto np.kids x → ∃ v, (m.ref.erase p)[x]? = some v ∧ cntInto np.kids x ≤ v := by
  have hW := hc.wf.toMWF
  intro x hxpos
  obtain ⟨k, hk, habs⟩ := cntInto_pos_iff.mp hxpos
  have hkm := hW.kids_mem _ _ hnode k hk
  have hklt := hW.kids_lt _ _ hnode k hk
  have hxp : x ≠ p := by
    intro hxp
    rw [← habs] at hxp
    have h1 : k.natAbs ≠ 1 := by
      have := hW.ge_two _ _ hnode
      omega
    have := m.tbl.levelOf_node k np h1 (by rw [hxp]; exact hnode)
    omega
  have hxmem : x = 1 ∨ (m.tbl.node? x).isSome := by
    rw [← habs]; exact hkm
  have hcnt := hx.cnt x hxmem
  refine ⟨_, by rw [getElem?_erase_eq, if_neg (fun h => hxp h.symm)]; exact hcnt, ?_⟩
  have h1 := hc.cntInto_le_indeg hnode x
  omega

/-- the worklist of `collect_garbage`: distinct nodes whose counter is zero -/
structure WorkOK (m : MddMgr) (work : List Int) : Prop where
  nodup : work.Nodup
  ent : ∀ y, y ∈ work → ∃ (p : Nat) (n : MNd), y = ((p : Nat) : Int) ∧ m.tbl.node? p = some n ∧
    m.ref[p]? = some 0

/-- what a successful iteration for the node `p = (np.lvl, *np.kids)` does -/
structure GcStepOK (m : MddMgr) (ext : Nat → Nat) (p : Nat) (np : MNd) (work work' : List Int)
    (m' : MddMgr) : Prop where
  core : MInvCore m'
  exact : MRefExact m' ext
  max : m'.max = m.max
  tbl : m'.tbl = m.tbl.delNode p
  free : m'.free = insertSorted p m.free
  sched : m'.sched = m.sched
  ref : ∀ x, x ≠ p → m'.ref[x]? = (m.ref[x]?).map (fun v => v - cntInto np.kids x)
  refKeys : RefKeys m → RefKeys m'
  keep : ∀ y, y ∈ work → y ∈ work'
  added : ∀ k, k ∈ np.kids → k.natAbs ≠ 1 → m'.ref[k.natAbs]? = some 0 →
    ((k.natAbs : Nat) : Int) ∈ work'
  workOK : WorkOK m (((p : Nat) : Int) :: work) → WorkOK m' work'

/-- the rest of the iteration for a node `p` that has left the three dictionaries -/
theorem mGcKids_stepOK (m : MddMgr) (ext : Nat → Nat) (hc : MInvCore m) (hx : MRefExact m ext)
    (p : Nat) (np : MNd) (hnode : m.tbl.node? p = some np) (h0 : m.ref[p]? = some 0)
    (work work' : List Int) (m' : MddMgr)
    (hkids : mGcKids np.kids work (m.unlinked p np) = (.ok work', m')) :
    ext p = 0 ∧ GcStepOK m ext p np work work' m' := by
  have hW := hc.wf.toMWF
  obtain ⟨hext0, hnopar⟩ := no_parent_of_ref_zero m ext hc hx p np hnode h0
  have hp2 : 2 ≤ p := hW.ge_two _ _ hnode
  have R := (mGcKids_refOnly _ _ _ _ _ hkids).1
  have K := mGcKids_spec np.kids work _ work' m' (kids_pre m ext hc hx p np hnode) hkids
  have htbl : m'.tbl = m.tbl.delNode p := R.tbl
  have hmax : m'.max = m.max := R.max
  have hfree : m'.free = insertSorted p m.free := R.free
  have hpredm : m'.pred = m.pred.erase np.key := R.pred
  have hrefx : ∀ x, x ≠ p → m'.ref[x]? = (m.ref[x]?).map (fun v => v - cntInto np.kids x) := by
    intro x hxp
    rw [K.ref x]
    show ((m.ref.erase p)[x]?).map _ = _
    rw [getElem?_erase_eq, if_neg (fun h => hxp h.symm)]
  have hdom : ∀ x, x ≠ p → m'.ref.contains x = m.ref.contains x := by
    intro x hxp
    rw [TreeMap.contains_eq_isSome_getElem?, TreeMap.contains_eq_isSome_getElem?, hrefx x hxp]
    cases m.ref[x]? <;> rfl
  have hnode' : ∀ x n, m'.tbl.node? x = some n → x ≠ p ∧ m.tbl.node? x = some n := by
    intro x n hn
    rw [htbl] at hn
    exact MTbl.node?_delNode_some.mp hn
  refine ⟨hext0, ?_, ?_, hmax, htbl, hfree, R.sched, hrefx, ?_, K.keep, K.added, ?_⟩
  · -- MInvCore
    refine ⟨by rw [htbl]; exact m.tbl.delNode_wfu hc.wf p hnopar, ?_, ?_, ?_, by rw [hmax]; exact hc.maxGe,
      ?_, ?_, ?_⟩
    · intro n x
      rw [htbl, hpredm, getElem?_erase_eq, MTbl.node?_delNode_some]
      by_cases hk : np.key = n.key
      · obtain rfl : n = np := (MNd.key_inj hk).symm
        rw [if_pos rfl]
        exact ⟨fun h => (nomatch h), fun ⟨hne, h⟩ => absurd (hc.wf.unique _ _ _ h hnode) hne⟩
      · rw [if_neg hk, hc.pred n x]
        refine ⟨fun h => ⟨?_, h⟩, fun h => h.2⟩
        rintro rfl
        rw [hnode] at h
        exact hk (congrArg MNd.key (Option.some.inj h))
    · rw [hdom 1 (by omega)]; exact hc.refOne
    · intro x n hn
      obtain ⟨hxp, hn0⟩ := hnode' x n hn
      rw [hdom x hxp]; exact hc.refDom _ _ hn0
    · intro x n hn
      rw [hmax]
      exact hc.maxOK x n (hnode' x n hn).2
    · intro f hf
      rw [hfree, mem_insertSorted] at hf
      rw [hmax, htbl, MTbl.node?_delNode]
      rcases hf with rfl | hf
      · exact ⟨hp2, hc.maxOK _ _ hnode, by simp⟩
      · obtain ⟨a, b, c⟩ := hc.freeOK f hf
        refine ⟨a, b, ?_⟩
        split
        · rfl
        · exact c
    · rw [hfree]; exact nodup_insertSorted (hc.not_free_of_node hnode) hc.freeNodup
  · -- MRefExact
    refine ⟨?_, ?_⟩
    · intro x hxm
      obtain ⟨hxp, hxm'⟩ : x ≠ p ∧ (x = 1 ∨ (m.tbl.node? x).isSome) := by
        rcases hxm with h1 | h1
        · exact ⟨by omega, Or.inl h1⟩
        · obtain ⟨n, hn⟩ := Option.isSome_iff_exists.mp h1
          obtain ⟨hxp, hn0⟩ := hnode' x n hn
          exact ⟨hxp, Or.inr (by rw [hn0]; rfl)⟩
      rw [hrefx x hxp, hx.cnt x hxm', hmax, htbl]
      have := m.tbl.indeg_delNode p np hnode (m.max + 1) (by have := hc.maxOK _ _ hnode; omega) x
      simp only [Option.map_some, Option.some.injEq]
      omega
    · intro x hx1 hxn
      by_cases hxp : x = p
      · subst hxp; exact hext0
      · rw [htbl, m.tbl.node?_delNode_ne hxp] at hxn
        exact hx.extZero x hx1 hxn
  · -- the keys of `_ref`
    intro hk x hxc
    by_cases hxp : x = p
    · subst hxp
      rw [R.dom] at hxc
      have : (m.ref.erase x).contains x = true := hxc
      rw [TreeMap.contains_erase] at this
      simp at this
    · rw [hdom x hxp] at hxc
      rcases hk x hxc with h1 | h1
      · exact Or.inl h1
      · right
        rw [htbl]
        show (m.tbl.succ.erase p).contains x = true
        rw [TreeMap.contains_erase]
        have hpx : ¬ p = x := fun e => hxp e.symm
        simp [h1, hpx]
  · -- the worklist
    intro hw
    have hnd : work.Nodup := (List.nodup_cons.mp hw.nodup).2
    have hpw : ((p : Nat) : Int) ∉ work := (List.nodup_cons.mp hw.nodup).1
    refine ⟨K.nodup hnd, ?_⟩
    intro y hy
    rcases K.only y hy with hin | ⟨k, hk, e, hk1, hk0⟩
    · obtain ⟨q, nq, e, hq, hq0⟩ := hw.ent y (List.mem_cons_of_mem _ hin)
      subst e
      have hqp : q ≠ p := by intro e; subst e; exact hpw hin
      refine ⟨q, nq, rfl, ?_, ?_⟩
      · rw [htbl, m.tbl.node?_delNode_ne hqp]; exact hq
      · rw [hrefx q hqp, hq0]; simp
    · rcases (hW.kids_mem _ _ hnode k hk).cases with h1 | ⟨nk, _, hnk, hlv⟩
      · exact absurd h1 hk1
      · refine ⟨k.natAbs, nk, e, ?_, hk0⟩
        rw [htbl, m.tbl.node?_delNode_ne (hnopar p np hnode k hk)]; exact hnk

theorem mGcStep_spec (m : MddMgr) (ext : Nat → Nat) (hc : MInvCore m) (hx : MRefExact m ext)
    (u : Int) (work work' : List Int) (m' : MddMgr) (hr : mGcStep u work m = (.ok work', m')) :
    ∃ (p : Nat) (np : MNd), u = (p : Int) ∧ m.tbl.node? p = some np ∧ ext p = 0 ∧
      GcStepOK m ext p np work work' m' := by
  rcases mGcStep_cases u work m _ m' hr with ⟨e, he, _⟩ | ⟨p, np, hup, hnode, h0, hkids⟩
  · cases he
  · exact ⟨p, np, hup, hnode, mGcKids_stepOK m ext hc hx p np hnode h0 work work' m' hkids⟩

/-- from a good worklist the iteration for any of its elements raises nothing, leaves a good
worklist and one node less -/
theorem mGcStep_progress (m : MddMgr) (ext : Nat → Nat) (hc : MInvCore m) (hx : MRefExact m ext)
    (work : List Int) (hw : WorkOK m work) (u : Int) (hu : u ∈ work) :
    ∃ work' m1, mGcStep u (work.erase u) m = (.ok work', m1) ∧
      MInvCore m1 ∧ MRefExact m1 ext ∧ WorkOK m1 work' ∧
      m1.tbl.succ.size + 1 = m.tbl.succ.size := by
  obtain ⟨p, np, rfl, hnode, h0⟩ := hw.ent u hu
  obtain ⟨work1, m1, hkids⟩ := mGcKids_total np.kids (work.erase (p : Int)) (m.unlinked p np)
    (kids_pre m ext hc hx p np hnode)
  obtain ⟨_, S⟩ := mGcKids_stepOK m ext hc hx p np hnode h0 _ work1 m1 hkids
  refine ⟨work1, m1, (mGcStep_unfold m hc p np hnode h0 _).trans hkids, S.core, S.exact,
    S.workOK ⟨?_, ?_⟩, ?_⟩
  · exact List.nodup_cons.mpr ⟨fun hin => ((List.Nodup.mem_erase_iff hw.nodup).mp hin).1 rfl,
      hw.nodup.erase _⟩
  · intro y hy
    rcases List.mem_cons.mp hy with rfl | hy
    · exact ⟨p, np, rfl, hnode, h0⟩
    · exact hw.ent y (List.mem_of_mem_erase hy)
  · rw [S.tbl]; exact m.tbl.size_delNode p np hnode

/-- the only failure is the `KeyError` of `self.ref(u)` for a root that is not counted -/
theorem mUnusedOf_out : ∀ (rs : List Int) (m : MddMgr) (r : Except Err (List Int)) (m1 : MddMgr),
    mUnusedOf rs m = (r, m1) →
    m1 = m ∧ match r with
      | .error e => e = .key ∧ ∃ y, y ∈ rs ∧ m.ref.contains y.natAbs = false
      | .ok un => (∀ y, y ∈ rs → m.ref.contains y.natAbs = true) ∧ un.Nodup ∧
        ∀ y, y ∈ un ↔ ∃ x, x ∈ rs ∧ y = ((x.natAbs : Nat) : Int) ∧ m.ref[x.natAbs]? = some 0 := by
  intro rs
  induction rs with
  | nil =>
    intro m r m1 h
    cases h
    refine ⟨rfl, fun _ hy => (nomatch hy), List.nodup_nil, fun y => ⟨fun hy => (nomatch hy), ?_⟩⟩
    rintro ⟨_, hx, _⟩
    cases hx
  | cons u rest ih =>
    intro m r m1 h
    unfold mUnusedOf at h
    split at h
    · next hc =>
      cases h
      refine ⟨rfl, rfl, u, List.mem_cons_self, ?_⟩
      rw [TreeMap.contains_eq_isSome_getElem?, hc]; rfl
    · next c hc =>
      have hcu : m.ref.contains u.natAbs = true := by
        rw [TreeMap.contains_eq_isSome_getElem?, hc]; rfl
      split at h
      · next e m1' hrest =>
        cases h
        obtain ⟨hm, he, y, hy, hyc⟩ := ih _ _ _ hrest
        exact ⟨hm, he, y, List.mem_cons_of_mem _ hy, hyc⟩
      · next r' m1' hrest =>
        obtain ⟨hm, hall, hnd, hent⟩ := ih _ _ _ hrest
        have hall' : ∀ y, y ∈ u :: rest → m.ref.contains y.natAbs = true := by
          intro y hy
          rcases List.mem_cons.mp hy with rfl | hy
          · exact hcu
          · exact hall y hy
        -- the list returned: `|u|` joins the rest if its count is zero and it is not there yet
        obtain ⟨un', hun', hnd', hmem'⟩ : ∃ un', (r, m1) = (.ok un', m1') ∧ un'.Nodup ∧
            ∀ y, y ∈ un' ↔ (c = 0 ∧ y = ((u.natAbs : Nat) : Int)) ∨ y ∈ r' := by
          by_cases hc0 : c = 0
          · rw [if_pos hc0] at h
            by_cases hin : r'.contains ((u.natAbs : Nat) : Int) = true
            · rw [if_pos hin] at h
              refine ⟨r', h.symm, hnd, fun y => ⟨Or.inr, ?_⟩⟩
              rintro (⟨_, rfl⟩ | hy)
              · simpa using hin
              · exact hy
            · rw [if_neg hin] at h
              refine ⟨_, h.symm, List.nodup_cons.mpr ⟨fun hm => hin (by simpa using hm), hnd⟩, fun y => ?_⟩
              rw [List.mem_cons]
              exact or_congr_left ⟨fun e => ⟨hc0, e⟩, fun e => e.2⟩
          · rw [if_neg hc0] at h
            exact ⟨r', h.symm, hnd, fun y => ⟨Or.inr, fun hy => hy.elim (fun e => absurd e.1 hc0) id⟩⟩
        cases hun'
        refine ⟨hm, hall', hnd', fun y => ?_⟩
        rw [hmem', hent]
        constructor
        · rintro (⟨rfl, rfl⟩ | ⟨x, hx, e, h0⟩)
          · exact ⟨u, List.mem_cons_self, rfl, hc⟩
          · exact ⟨x, List.mem_cons_of_mem _ hx, e, h0⟩
        · rintro ⟨x, hx, e, h0⟩
          rcases List.mem_cons.mp hx with rfl | hx
          · rw [hc, Option.some.injEq] at h0
            exact Or.inl ⟨h0, e⟩
          · exact Or.inr ⟨x, hx, e, h0⟩

/-- what `collect_garbage` promises -/
structure GcOK (m : MddMgr) (ext : Nat → Nat) (full : Bool) (m' : MddMgr) : Prop where
  inv : MInv m'
  exact : MRefExact m' ext
  /-- nothing is created or changed: the remaining nodes are old nodes -/
  sub : MExt m'.tbl m.tbl
  /-- nodes the user holds survive -/
  held : ∀ x n, m.tbl.node? x = some n → 0 < ext x → m'.tbl.node? x = some n
  /-- after a full collection every remaining node is referenced -/
  live : full = true → ∀ x n, m'.tbl.node? x = some n → ∃ c, m'.ref[x]? = some c ∧ 0 < c
  /-- surviving references keep their meaning -/
  den : ∀ u, m'.tbl.Mem u → ∀ a, denM m'.tbl u a = denM m.tbl u a
  cache : m'.cache = {}

theorem GcOK.mem_held {m m' : MddMgr} {ext : Nat → Nat} {full : Bool} (G : GcOK m ext full m')
    {u : Int} (hu : m.tbl.Mem u) (he : 0 < ext u.natAbs) : m'.tbl.Mem u := by
  rcases hu with h1 | h1
  · exact Or.inl h1
  · obtain ⟨n, hn⟩ := Option.isSome_iff_exists.mp h1
    exact Or.inr (by rw [G.held _ n hn he]; rfl)

end DD
