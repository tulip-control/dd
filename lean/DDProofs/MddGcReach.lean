/-
  DDProofs.MddGcReach — "collection frees exactly the unreferenced nodes": after a full
  `collect_garbage()` a node remains iff it is reachable (along successor edges) from a node
  the user holds.
-/
import DDProofs.MddGc
open Std

namespace DD

/-- nodes reachable from the nodes the user holds -/
inductive HeldReach (t : MTbl) (ext : Nat → Nat) : Nat → Prop
  | held (x : Nat) (n : MNd) : t.node? x = some n → 0 < ext x → HeldReach t ext x
  | step (p : Nat) (n : MNd) (k : Int) (nk : MNd) : HeldReach t ext p → t.node? p = some n → k ∈ n.kids →
      t.node? k.natAbs = some nk → HeldReach t ext k.natAbs

theorem held_or_parent (m : MddMgr) (ext : Nat → Nat) (hx : MRefExact m ext)
    (x : Nat) (n : MNd) (hn : m.tbl.node? x = some n) (c : Nat) (hc : m.ref[x]? = some c) (hpos : 0 < c) :
    0 < ext x ∨ ∃ p np k, m.tbl.node? p = some np ∧ k ∈ np.kids ∧ k.natAbs = x := by
  have hcnt := hx.cnt x (Or.inr (by rw [hn]; rfl))
  rw [hc] at hcnt
  simp only [Option.some.injEq] at hcnt
  by_cases he : 0 < ext x
  · exact Or.inl he
  · right
    have : 0 < m.tbl.indeg (m.max + 1) x := by omega
    obtain ⟨p, _, hp⟩ := sumRange_pos (f := fun q => edgesInto (m.tbl.node? q) x) _ this
    cases hnp : m.tbl.node? p with
    | none => simp [hnp, edgesInto] at hp
    | some np =>
      simp only [hnp, edgesInto] at hp
      obtain ⟨k, hk, habs⟩ := cntInto_pos_iff.mp hp
      exact ⟨p, np, k, hnp, hk, habs⟩

/-- if every node has a positive count, every node is reachable from a held node (induction on the
level: a parent sits at a smaller level) -/
theorem all_reachable_of_live (m : MddMgr) (ext : Nat → Nat) (h : MInv m) (hx : MRefExact m ext)
    (hlive : ∀ x n, m.tbl.node? x = some n → ∃ c, m.ref[x]? = some c ∧ 0 < c) :
    ∀ (l : Nat) (x : Nat) (n : MNd), m.tbl.node? x = some n → n.lvl = l → HeldReach m.tbl ext x := by
  have hW := h.wf.toMWF
  intro l
  induction l using Nat.strongRecOn with
  | ind l ih =>
    intro x n hn hl
    obtain ⟨c, hc, hpos⟩ := hlive x n hn
    rcases held_or_parent m ext hx x n hn c hc hpos with he | ⟨p, np, k, hnp, hk, habs⟩
    · exact HeldReach.held x n hn he
    · have hlt := hW.kids_lt _ _ hnp k hk
      have hx2 := hW.ge_two _ _ hn
      have hlv : m.tbl.levelOf k = n.lvl := m.tbl.levelOf_node k n (by omega) (by rw [habs]; exact hn)
      have hp := ih np.lvl (by omega) p np hnp rfl
      have := HeldReach.step p np k n hp hnp hk (by rw [habs]; exact hn)
      rw [habs] at this
      exact this

theorem HeldReach.mono {t t' : MTbl} {ext : Nat → Nat} (hs : MExt t' t) {x : Nat}
    (h : HeldReach t' ext x) : HeldReach t ext x := by
  induction h with
  | held x n hn he => exact HeldReach.held x n (hs.nodes _ _ hn) he
  | step p n k nk _ hn hk hnk ih => exact HeldReach.step p n k nk ih (hs.nodes _ _ hn) hk (hs.nodes _ _ hnk)

/-- full collection: a node of the manager remains iff it is reachable from a held node -/
theorem gcOK_exactly_reachable (m : MddMgr) (ext : Nat → Nat) (h : MInv m)
    (m' : MddMgr) (G : GcOK m ext true m') (x : Nat) (n : MNd)
    (hn : m.tbl.node? x = some n) :
    m'.tbl.node? x = some n ↔ HeldReach m.tbl ext x := by
  constructor
  · intro hn'
    have := all_reachable_of_live m' ext G.inv G.exact (G.live rfl) n.lvl x n hn' rfl
    exact this.mono G.sub
  · intro hreach
    -- every node reachable from a held node is kept, with the same tuple
    have key : ∀ y, HeldReach m.tbl ext y → ∀ ny, m.tbl.node? y = some ny → m'.tbl.node? y = some ny := by
      intro y hy
      induction hy with
      | held y n' hn' he =>
        intro ny hny
        rw [hn'] at hny
        cases hny
        exact G.held y n' hn' he
      | step p np k nk _ hnp hk hnk ih =>
        intro ny hny
        have hp' := ih np hnp
        have hkm := G.inv.wf.kids_mem _ _ hp' k hk
        have hk2 : 2 ≤ k.natAbs := h.wf.ge_two _ _ hnk
        rcases hkm with h1 | h1
        · omega
        · obtain ⟨n2, hn2⟩ := Option.isSome_iff_exists.mp h1
          have := G.sub.nodes _ _ hn2
          rw [hny] at this
          cases this
          exact hn2
    exact key x hreach n hn

end DD
