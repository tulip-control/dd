/-
  DDProofs.MddGcSched — `MDD.collect_garbage`: every order of `unused.pop()`, and totality.
  `unused` is a Python `set`; `unused.pop()` removes an arbitrary element.  The model pops the
  head of a list.  The loop is therefore given as a relation `MGcRun` that may pop ANY element of
  the worklist, everything is proved of that relation, and the model's loop (`mGcLoop`) and the loop
  under an arbitrary strategy (`mGcLoopBy`) are instances.
-/
import DDProofs.MddGcReach

namespace DD
open Std

/-- finished runs of `while unused: u = unused.pop(); …`, popping ANY element each time -/
inductive MGcRun : List Int → MddMgr → MddMgr → Prop
  | done (m : MddMgr) : MGcRun [] m m
  | step (u : Int) (work work' : List Int) (m m1 m' : MddMgr) :
      u ∈ work → mGcStep u (work.erase u) m = (.ok work', m1) → MGcRun work' m1 m' →
      MGcRun work m m'

/-- relation between the managers before and after (part of) a collection -/
structure GcRel (m m' : MddMgr) (ext : Nat → Nat) : Prop where
  core : MInvCore m'
  exact : MRefExact m' ext
  max : m'.max = m.max
  sched : m'.sched = m.sched
  sub : MExt m'.tbl m.tbl
  held : ∀ x n, m.tbl.node? x = some n → 0 < ext x → m'.tbl.node? x = some n
  refKeys : RefKeys m → RefKeys m'
  /-- the free list only grows, and the number of every removed node is in it -/
  free : ∀ x, x ∈ m.free → x ∈ m'.free
  freed : ∀ x n, m.tbl.node? x = some n → m'.tbl.node? x = none → x ∈ m'.free

/-- every run, in any order, keeps the invariants and the held nodes; and if every
zero-count node was on the worklist, no zero-count node is left -/
theorem mGcRun_spec (ext : Nat → Nat) {work : List Int} {m m' : MddMgr} (R : MGcRun work m m') :
    MInvCore m → MRefExact m ext →
    GcRel m m' ext ∧
    ((∀ x n, m.tbl.node? x = some n → m.ref[x]? = some 0 → ((x : Nat) : Int) ∈ work) →
      ∀ x n, m'.tbl.node? x = some n → m'.ref[x]? ≠ some 0) := by
  induction R with
  | done m =>
    intro hc hx
    refine ⟨⟨hc, hx, rfl, rfl, MExt.refl _, fun _ _ h _ => h, fun h => h, fun _ h => h,
      fun x n h1 h2 => by rw [h1] at h2; cases h2⟩, ?_⟩
    intro hW x n hn h0
    cases hW x n hn h0
  | step u work work1 m m1 m' hu hstep _ ih =>
    intro hc hx
    obtain ⟨p, np, hup, hnode, hext0, S⟩ := mGcStep_spec m ext hc hx u _ work1 m1 hstep
    obtain ⟨G, hWimp⟩ := ih S.core S.exact
    have hsub1 : MExt m1.tbl m.tbl := by rw [S.tbl]; exact m.tbl.delNode_sub p
    have hother : ∀ x n, m.tbl.node? x = some n → x ≠ p → m1.tbl.node? x = some n := by
      intro x n hn hxp
      rw [S.tbl, m.tbl.node?_delNode_ne hxp]; exact hn
    refine ⟨⟨G.core, G.exact, G.max.trans S.max, G.sched.trans S.sched, G.sub.trans hsub1, ?_,
      fun hk => G.refKeys (S.refKeys hk), ?_, ?_⟩, ?_⟩
    · intro x n hn hpos
      exact G.held x n (hother x n hn (by intro e; subst e; omega)) hpos
    · intro x hxf
      apply G.free
      rw [S.free, mem_insertSorted]
      exact Or.inr hxf
    · intro x n hn hnone
      by_cases hxp : x = p
      · subst hxp
        apply G.free
        rw [S.free, mem_insertSorted]
        exact Or.inl rfl
      · exact G.freed x n (hother x n hn hxp) hnone
    · intro hW
      apply hWimp
      intro x n hn h0
      rw [S.tbl] at hn
      obtain ⟨hxp, hn0⟩ := MTbl.node?_delNode_some.mp hn
      rw [S.ref x hxp] at h0
      cases hv : m.ref[x]? with
      | none => rw [hv] at h0; cases h0
      | some v =>
        rw [hv] at h0
        simp only [Option.map_some, Option.some.injEq] at h0
        by_cases hv0 : v = 0
        · subst hv0
          apply S.keep
          refine (List.mem_erase_of_ne ?_).mpr (hW x n hn0 hv)
          intro e
          rw [hup] at e
          exact hxp (by omega)
        · obtain ⟨k, hk, habs⟩ := cntInto_pos_iff.mp (by omega : 0 < cntInto np.kids x)
          have hx2 : 2 ≤ x := hc.wf.ge_two _ _ hn0
          have := S.added k hk (by omega) (by
            rw [habs, S.ref x hxp, hv]
            simp only [Option.map_some, Option.some.injEq]
            omega)
          rw [habs] at this
          exact this

/-- the list `collect_garbage` starts from -/
def gcRootList (m : MddMgr) (roots : Option (List Int)) : List Int :=
  match roots with
  | some r => r
  | none => m.ref.keys.map (fun (k : Nat) => (k : Int))

theorem gcRootList_mem (m : MddMgr) (hk : RefKeys m) (roots : Option (List Int))
    (hro : ∀ rs, roots = some rs → ∀ r, r ∈ rs → m.tbl.Mem r) :
    ∀ r, r ∈ gcRootList m roots → m.tbl.Mem r := by
  intro r hr
  cases roots with
  | none =>
    simp only [gcRootList, List.mem_map] at hr
    obtain ⟨k, hkk, e⟩ := hr
    subst e
    rw [TreeMap.mem_keys, TreeMap.mem_iff_contains] at hkk
    exact hk.mem (k : Int) hkk
  | some rs => exact hro rs rfl r hr

theorem mCollectGarbage_eq (roots : Option (List Int)) (m : MddMgr) :
    mCollectGarbage roots m =
      match mUnusedOf (gcRootList m roots) m with
      | (.error e, m1) => (.error e, m1)
      | (.ok unused, m1) =>
        match mGcLoop (m1.tbl.succ.size + (unused.erase 1).length + 1) (unused.erase 1) m1 with
        | (.error e, m2) => (.error e, m2)
        | (.ok _, m2) => (.ok (), { m2 with cache := {} }) := by
  cases roots <;> rfl

/-- the loop with `unused.pop()` resolved by a strategy `σ` (a function of the worklist and the
manager) -/
def mGcLoopBy (σ : List Int → MddMgr → Int) : Nat → List Int → MM Unit
  | _, [] => fun m => (.ok (), m)
  | 0, _ :: _ => fun m => (.error .fuel, m)
  | f+1, u0 :: rest => fun m =>
    match mGcStep (σ (u0 :: rest) m) ((u0 :: rest).erase (σ (u0 :: rest) m)) m with
    | (.error e, m1) => (.error e, m1)
    | (.ok work, m1) => mGcLoopBy σ f work m1

theorem mGcLoop_eq_by : ∀ (f : Nat) (work : List Int) (m : MddMgr),
    mGcLoop f work m = mGcLoopBy (fun w _ => w.headD 0) f work m := by
  intro f
  induction f with
  | zero => intro work m; cases work <;> rfl
  | succ f ih =>
    intro work m
    cases work with
    | nil => rfl
    | cons u rest =>
      simp only [mGcLoop, mGcLoopBy, List.headD_cons, List.erase_cons_head]
      cases mGcStep u rest m with
      | mk r m1 =>
        cases r with
        | error e => rfl
        | ok w => exact ih _ _

theorem mGcLoopBy_run (σ : List Int → MddMgr → Int) (hσ : ∀ w m, w ≠ [] → σ w m ∈ w) :
    ∀ (f : Nat) (work : List Int) (m m' : MddMgr),
    mGcLoopBy σ f work m = (.ok (), m') → MGcRun work m m' := by
  intro f
  induction f with
  | zero =>
    intro work m m' hr
    cases work with
    | nil => cases hr; exact MGcRun.done _
    | cons u rest => cases hr
  | succ f ih =>
    intro work m m' hr
    cases work with
    | nil => cases hr; exact MGcRun.done _
    | cons u rest =>
      simp only [mGcLoopBy] at hr
      split at hr
      · cases hr
      · next work1 m1 hstep =>
        exact MGcRun.step _ _ work1 m m1 m' (hσ _ m (by simp)) hstep (ih _ _ _ hr)

theorem mGcLoopBy_total (σ : List Int → MddMgr → Int) (hσ : ∀ w m, w ≠ [] → σ w m ∈ w)
    (ext : Nat → Nat) : ∀ (f : Nat) (work : List Int) (m : MddMgr),
    MInvCore m → MRefExact m ext → WorkOK m work → m.tbl.succ.size + 1 ≤ f →
    ∃ m', mGcLoopBy σ f work m = (.ok (), m') := by
  intro f
  induction f with
  | zero => intro work m _ _ _ hf; omega
  | succ f ih =>
    intro work m hc hx hw hf
    cases work with
    | nil => exact ⟨m, rfl⟩
    | cons u0 rest =>
      obtain ⟨work1, m1, hstep, hc1, hx1, hw1, hsz⟩ :=
        mGcStep_progress m ext hc hx _ hw _ (hσ (u0 :: rest) m (by simp))
      obtain ⟨m', hm'⟩ := ih work1 m1 hc1 hx1 hw1 (by omega)
      refine ⟨m', ?_⟩
      simp only [mGcLoopBy]
      rw [hstep]
      exact hm'

theorem headD_mem (w : List Int) (hw : w ≠ []) : w.headD 0 ∈ w := by
  cases w with
  | nil => exact absurd rfl hw
  | cons a l => exact List.mem_cons_self

theorem mGcLoop_run (f : Nat) (work : List Int) (m m' : MddMgr)
    (hr : mGcLoop f work m = (.ok (), m')) : MGcRun work m m' := by
  rw [mGcLoop_eq_by] at hr
  exact mGcLoopBy_run _ (fun w _ => headD_mem w) f work m m' hr

/-- the loop with `unused.pop()` resolved by `σ`; one iteration per node suffices -/
def mCollectGarbageBy (σ : List Int → MddMgr → Int) (roots : Option (List Int)) : MM Unit := fun m =>
  match mUnusedOf (gcRootList m roots) m with
  | (.error e, m1) => (.error e, m1)
  | (.ok unused, m1) =>
    match mGcLoopBy σ (m1.tbl.succ.size + 1) (unused.erase 1) m1 with
    | (.error e, m2) => (.error e, m2)
    | (.ok _, m2) => (.ok (), { m2 with cache := {} })

/-- a run of `collect_garbage(roots)` with the elements of `unused` popped in any order -/
def MGcAny (roots : Option (List Int)) (m m' : MddMgr) : Prop :=
  ∃ un m2, mUnusedOf (gcRootList m roots) m = (.ok un, m) ∧ MGcRun (un.erase 1) m m2 ∧
    m' = { m2 with cache := {} }

/-- the model's run is one of them -/
theorem mCollectGarbage_any (roots : Option (List Int)) (m m' : MddMgr)
    (hr : mCollectGarbage roots m = (.ok (), m')) : MGcAny roots m m' := by
  rw [mCollectGarbage_eq] at hr
  split at hr
  · cases hr
  · next unused m1 hun =>
    obtain rfl := (mUnusedOf_out _ _ _ _ hun).1
    split at hr
    · cases hr
    · next m2 hloop =>
      cases hr
      exact ⟨unused, m2, hun, mGcLoop_run _ _ _ _ hloop, rfl⟩

theorem mGcAny_rel (m : MddMgr) (ext : Nat → Nat) (h : MInv m) (hx : MRefExact m ext)
    (roots : Option (List Int)) (m' : MddMgr) (R : MGcAny roots m m') :
    ∃ m2, m' = { m2 with cache := {} } ∧ GcRel m m2 ext ∧
      (roots = none → ∀ x n, m2.tbl.node? x = some n → m2.ref[x]? ≠ some 0) := by
  obtain ⟨unused, m2, hun, hrun, hm'⟩ := R
  obtain ⟨_, _, _, hent⟩ := mUnusedOf_out _ _ _ _ hun
  obtain ⟨G, hWimp⟩ := mGcRun_spec ext hrun h.core hx
  refine ⟨m2, hm', G, ?_⟩
  rintro rfl
  apply hWimp
  intro x n hn h0
  have hx2 : 2 ≤ x := h.wf.ge_two _ _ hn
  refine (List.mem_erase_of_ne (by omega)).mpr ((hent _).mpr ⟨(x : Int), ?_, rfl, h0⟩)
  simp only [gcRootList, List.mem_map]
  refine ⟨x, ?_, rfl⟩
  rw [TreeMap.mem_keys, TreeMap.mem_iff_contains]
  exact h.refDom _ _ hn

/-- every order of `unused.pop()` gives what `collect_garbage` promises -/
theorem mGcAny_spec (m : MddMgr) (ext : Nat → Nat) (h : MInv m) (hx : MRefExact m ext)
    (roots : Option (List Int)) (m' : MddMgr) (R : MGcAny roots m m') :
    GcOK m ext roots.isNone m' := by
  obtain ⟨m2, rfl, G, hlive⟩ := mGcAny_rel m ext h hx roots m' R
  refine ⟨G.core.withEmptyCache, ⟨fun u hu => G.exact.cnt u hu, G.exact.extZero⟩, G.sub, G.held, ?_,
    fun u hu a => (denM_ext G.sub G.core.wf.toMWF u a hu).symm, rfl⟩
  intro hfull x n hn
  have hroots : roots = none := by cases roots <;> simp at hfull <;> rfl
  have hne := hlive hroots x n hn
  obtain ⟨c, hv⟩ := Option.isSome_iff_exists.mp
    (TreeMap.contains_eq_isSome_getElem?.symm.trans (G.core.refDom x n hn))
  refine ⟨c, hv, ?_⟩
  have : c ≠ 0 := fun e => hne (by rw [hv, e])
  omega

theorem mGcAny_frame (m : MddMgr) (ext : Nat → Nat) (h : MInv m) (hx : MRefExact m ext)
    (roots : Option (List Int)) (m' : MddMgr) (R : MGcAny roots m m') :
    m'.sched = m.sched ∧ (RefKeys m → RefKeys m') := by
  obtain ⟨m2, rfl, G, _⟩ := mGcAny_rel m ext h hx roots m' R
  exact ⟨G.sched, G.refKeys⟩

/-- `collect_garbage`, any order: the numbers of the removed nodes are in `_free` afterwards, what
was in `_free` stays, and `_max` is unchanged -/
theorem mGcAny_free (m : MddMgr) (ext : Nat → Nat) (h : MInv m) (hx : MRefExact m ext)
    (roots : Option (List Int)) (m' : MddMgr) (R : MGcAny roots m m') :
    (∀ x, x ∈ m.free → x ∈ m'.free) ∧
    (∀ x n, m.tbl.node? x = some n → m'.tbl.node? x = none → x ∈ m'.free) ∧
    m'.max = m.max := by
  obtain ⟨m2, rfl, G, _⟩ := mGcAny_rel m ext h hx roots m' R
  exact ⟨G.free, G.freed, G.max⟩

/-- `collect_garbage(roots)`: with exact counts, the collection keeps the invariant and the counts
exact, only removes nodes, keeps every node the user holds and the meaning of every surviving
reference, and empties the computed table -/
theorem mddGc_spec (m : MddMgr) (ext : Nat → Nat) (h : MInv m) (hx : MRefExact m ext)
    (roots : Option (List Int)) (m' : MddMgr) (hr : mCollectGarbage roots m = (.ok (), m')) :
    GcOK m ext roots.isNone m' :=
  mGcAny_spec m ext h hx roots m' (mCollectGarbage_any roots m m' hr)

theorem initial_work (m : MddMgr) (rs un : List Int) (hro : ∀ r, r ∈ rs → m.tbl.Mem r)
    (hun : mUnusedOf rs m = (.ok un, m)) : WorkOK m (un.erase 1) := by
  obtain ⟨_, _, hnd, hent⟩ := mUnusedOf_out _ _ _ _ hun
  refine ⟨hnd.erase _, ?_⟩
  intro y hy
  have hy1 : y ≠ 1 := fun e => by
    subst e
    exact ((List.Nodup.mem_erase_iff hnd).mp hy).1 rfl
  obtain ⟨r, hr, e, h0⟩ := (hent y).mp (List.mem_of_mem_erase hy)
  rcases hro r hr with h1 | h1
  · exfalso; apply hy1; rw [e, h1]; rfl
  · obtain ⟨n, hn⟩ := Option.isSome_iff_exists.mp h1
    exact ⟨r.natAbs, n, e, hn, h0⟩

theorem mUnusedOf_total (m : MddMgr) (h : MInv m) (rs : List Int) (hro : ∀ r, r ∈ rs → m.tbl.Mem r) :
    ∃ un, mUnusedOf rs m = (.ok un, m) := by
  cases hun : mUnusedOf rs m with
  | mk r m1 =>
    cases r with
    | error e =>
      obtain ⟨_, _, y, hy, hyc⟩ := mUnusedOf_out _ _ _ _ hun
      rw [h.refMem (hro y hy)] at hyc; cases hyc
    | ok un => rw [(mUnusedOf_out _ _ _ _ hun).1]; exact ⟨un, rfl⟩

/-- with nodes as roots and any `σ` for `unused.pop()`: every root is counted, and the loop, given
one iteration per node or more, returns; the run is one of `MGcAny` -/
theorem mGcLoopBy_any (σ : List Int → MddMgr → Int) (hσ : ∀ w m, w ≠ [] → σ w m ∈ w)
    (m : MddMgr) (ext : Nat → Nat) (h : MInv m) (hx : MRefExact m ext)
    (roots : Option (List Int)) (hro : ∀ r, r ∈ gcRootList m roots → m.tbl.Mem r) :
    ∃ un, mUnusedOf (gcRootList m roots) m = (.ok un, m) ∧ ∀ f, m.tbl.succ.size + 1 ≤ f →
      ∃ m2, mGcLoopBy σ f (un.erase 1) m = (.ok (), m2) ∧ MGcAny roots m { m2 with cache := {} } := by
  obtain ⟨un, hun⟩ := mUnusedOf_total m h _ hro
  refine ⟨un, hun, fun f hf => ?_⟩
  obtain ⟨m2, hm2⟩ := mGcLoopBy_total σ hσ ext f (un.erase 1) m
    h.core hx (initial_work m _ un hro hun) hf
  exact ⟨m2, hm2, un, m2, hun, mGcLoopBy_run σ hσ _ _ _ _ hm2, rfl⟩

/-- for EVERY strategy: `collect_garbage(roots)` returns normally, is one of the runs `MGcAny`, and
has all the guarantees -/
theorem mCollectGarbageBy_total (σ : List Int → MddMgr → Int) (hσ : ∀ w m, w ≠ [] → σ w m ∈ w)
    (m : MddMgr) (ext : Nat → Nat) (h : MInv m) (hx : MRefExact m ext)
    (roots : Option (List Int)) (hro : ∀ r, r ∈ gcRootList m roots → m.tbl.Mem r) :
    ∃ m', mCollectGarbageBy σ roots m = (.ok (), m') ∧ MGcAny roots m m' ∧
      GcOK m ext roots.isNone m' := by
  obtain ⟨un, hun, hloop⟩ := mGcLoopBy_any σ hσ m ext h hx roots hro
  obtain ⟨m2, hm2, hany⟩ := hloop _ (Nat.le_refl _)
  refine ⟨_, ?_, hany, mGcAny_spec m ext h hx roots _ hany⟩
  unfold mCollectGarbageBy
  rw [hun]
  dsimp only
  rw [hm2]

/-- `collect_garbage(roots)` raises nothing: no assertion fires, no key is missing, and the
model's fuel suffices -/
theorem mCollectGarbage_total (m : MddMgr) (ext : Nat → Nat) (h : MInv m) (hx : MRefExact m ext)
    (roots : Option (List Int))
    (hro : ∀ r, r ∈ gcRootList m roots → m.tbl.Mem r) :
    ∃ m', mCollectGarbage roots m = (.ok (), m') ∧ GcOK m ext roots.isNone m' := by
  obtain ⟨un, hun, hloop⟩ :=
    mGcLoopBy_any (fun w _ => w.headD 0) (fun w _ => headD_mem w) m ext h hx roots hro
  obtain ⟨m2, hm2, hany⟩ := hloop (m.tbl.succ.size + (un.erase 1).length + 1) (by omega)
  refine ⟨_, ?_, mGcAny_spec m ext h hx roots _ hany⟩
  rw [mCollectGarbage_eq, hun]
  dsimp only
  rw [mGcLoop_eq_by, hm2]

/-- a `collect_garbage(roots)` that raises has changed nothing: the only possible failure is the
`KeyError` of `self.ref(u)` for a root that is not counted, before the loop starts -/
theorem mCollectGarbage_err (m : MddMgr) (ext : Nat → Nat) (h : MInv m) (hx : MRefExact m ext)
    (hk : RefKeys m) (roots : Option (List Int)) (e : Err) (m' : MddMgr)
    (hr : mCollectGarbage roots m = (.error e, m')) : m' = m := by
  have hr0 := hr
  rw [mCollectGarbage_eq] at hr
  split at hr
  · next e1 m1 hun => cases hr; exact (mUnusedOf_out _ _ _ _ hun).1
  · next un m1 hun =>
    exfalso
    obtain ⟨_, hall, _⟩ := mUnusedOf_out _ _ _ _ hun
    obtain ⟨m2, hok, _⟩ := mCollectGarbage_total m ext h hx roots
      (fun r hrr => hk.mem r (hall r hrr))
    rw [hok] at hr0
    cases hr0

/-- the result of a full collection does not depend on the order of `unused.pop()`:
two runs leave the same nodes, with the same counters -/
theorem mGcAny_order_independent (m : MddMgr) (ext : Nat → Nat) (h : MInv m) (hx : MRefExact m ext)
    (m' m'' : MddMgr) (R' : MGcAny none m m') (R'' : MGcAny none m m'') :
    (∀ x, m'.tbl.node? x = m''.tbl.node? x) ∧
    (∀ u, m'.tbl.Mem u → m'.ref[u.natAbs]? = m''.ref[u.natAbs]?) ∧
    (∀ u, m'.tbl.Mem u ↔ m''.tbl.Mem u) ∧
    (∀ u, m'.tbl.Mem u → ∀ a, denM m'.tbl u a = denM m''.tbl u a) := by
  have G' := mGcAny_spec m ext h hx none m' R'
  have G'' := mGcAny_spec m ext h hx none m'' R''
  -- a node of one result is a node of the other
  have hle : ∀ (a b : MddMgr), GcOK m ext true a → GcOK m ext true b →
      ∀ x n, a.tbl.node? x = some n → b.tbl.node? x = some n := by
    intro a b Ga Gb x n h1
    have hn := Ga.sub.nodes x n h1
    exact (gcOK_exactly_reachable m ext h b Gb x n hn).mpr
      ((gcOK_exactly_reachable m ext h a Ga x n hn).mp h1)
  have hnodes : ∀ x, m'.tbl.node? x = m''.tbl.node? x := by
    intro x
    cases h1 : m'.tbl.node? x with
    | some n => exact (hle m' m'' G' G'' x n h1).symm
    | none =>
      cases h2 : m''.tbl.node? x with
      | none => rfl
      | some n => rw [hle m'' m' G'' G' x n h2] at h1; cases h1
  have hmem : ∀ u, m'.tbl.Mem u ↔ m''.tbl.Mem u := by
    intro u
    unfold MTbl.Mem
    rw [hnodes]
  refine ⟨hnodes, ?_, hmem, ?_⟩
  · intro u hu
    rw [G'.exact.cnt u.natAbs hu, G''.exact.cnt u.natAbs ((hmem u).mp hu),
      (mGcAny_free m ext h hx none m' R').2.2, (mGcAny_free m ext h hx none m'' R'').2.2]
    have : m'.tbl.indeg (m.max + 1) u.natAbs = m''.tbl.indeg (m.max + 1) u.natAbs := by
      unfold MTbl.indeg
      exact sumRange_congr _ (fun p _ => by rw [hnodes])
    rw [this]
  · intro u hu a
    rw [G'.den u hu a, G''.den u ((hmem u).mp hu) a]

theorem mGcStep_size (u : Int) (work : List Int) (m : MddMgr) (r : Except Err (List Int)) (m' : MddMgr)
    (h : mGcStep u work m = (r, m')) :
    (∀ e, r = .error e → e ≠ .fuel) ∧ (∀ w, r = .ok w → m'.tbl.succ.size + 1 = m.tbl.succ.size) := by
  rcases mGcStep_cases u work m r m' h with ⟨e, rfl, he⟩ | ⟨p, np, _, hnode, _, hkids⟩
  · refine ⟨?_, fun w hw => by cases hw⟩
    intro e' he'
    cases he'
    rcases he with rfl | rfl <;> decide
  · obtain ⟨R, herr⟩ := mGcKids_refOnly _ _ _ _ _ hkids
    refine ⟨fun e he => by rw [herr e he]; decide, fun w _ => ?_⟩
    rw [R.tbl]
    exact m.tbl.size_delNode p np hnode

theorem mGcLoop_not_fuel : ∀ (f : Nat) (work : List Int) (m : MddMgr) (e : Err) (m' : MddMgr),
    m.tbl.succ.size + 1 ≤ f → mGcLoop f work m = (.error e, m') → e ≠ .fuel := by
  intro f
  induction f with
  | zero => intro work m e m' hf; omega
  | succ f ih =>
    intro work m e m' hf h
    cases work with
    | nil => cases h
    | cons u rest =>
      simp only [mGcLoop] at h
      split at h
      · next e1 m1 hstep =>
        cases h
        exact (mGcStep_size u rest m _ _ hstep).1 _ rfl
      · next w m1 hstep =>
        have := (mGcStep_size u rest m _ _ hstep).2 w rfl
        exact ih w m1 e m' (by omega) h

/-- `collect_garbage` never reports `MODEL-OUT-OF-FUEL` -/
theorem mCollectGarbage_not_fuel (roots : Option (List Int)) (m : MddMgr) (e : Err) (m' : MddMgr)
    (h : mCollectGarbage roots m = (.error e, m')) : e ≠ .fuel := by
  rw [mCollectGarbage_eq] at h
  split at h
  · next e1 m1 hun =>
    cases h
    rw [(mUnusedOf_out _ _ _ _ hun).2.1]; decide
  · next unused m1 hun =>
    split at h
    · next e2 m2 hloop =>
      cases h
      exact mGcLoop_not_fuel _ _ m1 _ _ (by omega) hloop
    · cases h

end DD
