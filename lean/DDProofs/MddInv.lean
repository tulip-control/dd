/-
  DDProofs.MddInv — the invariant `MInv` of an MDD manager (`MInvCore`: without the computed
  table, which a collection breaks until it clears it), the bridge between the Boolean tests of the
  model and the propositions of MddSem, "the keys of `_ref` are nodes" (`RefKeys`), the ghost
  field `sched`, the shape of a model outcome (`MOut`), `_allocate`, and the operations that touch
  `_ref` only.
-/
import DDProofs.NatMap
import DDProofs.MddSem
open Std

namespace DD

theorem MNd.key_inj {a b : MNd} (h : a.key = b.key) : a = b := by
  cases a; cases b
  simp only [MNd.key, List.cons.injEq] at h
  obtain ⟨h1, h2⟩ := h
  have h1' := Int.ofNat.inj h1
  subst h1' h2
  rfl

theorem MTbl.mem_iff (t : MTbl) (ht : t.term = true) (u : Int) : t.mem u = true ↔ t.Mem u := by
  unfold MTbl.mem MTbl.Mem MTbl.node?
  rw [TreeMap.contains_eq_isSome_getElem?, ht]
  simp

theorem MTbl.mem_false_iff (t : MTbl) (ht : t.term = true) (u : Int) : t.mem u = false ↔ ¬ t.Mem u := by
  rw [← MTbl.mem_iff t ht]; simp

theorem MTbl.levelOf?_eq (t : MTbl) (ht : t.term = true) (u : Int) (h : t.Mem u) :
    t.levelOf? u = some (t.levelOf u) := by
  unfold MTbl.levelOf? MTbl.levelOf
  rcases h.cases with h1 | ⟨n, h1, hn, _⟩
  · simp [h1, ht]
  · simp only [MTbl.node?] at hn
    simp [h1, MTbl.node?, hn]

theorem MTbl.mem_of_levelOf? (t : MTbl) (u : Int) (l : Nat) (h : t.levelOf? u = some l) : t.Mem u := by
  unfold MTbl.levelOf? at h
  split at h
  · next h1 => exact Or.inl h1
  · cases hs : t.succ[u.natAbs]? with
    | none => rw [hs] at h; cases h
    | some n => exact MTbl.mem_of_node hs

/-- what a computed-table entry `(g, u, v) ↦ w` must satisfy -/
structure MCacheOK (t : MTbl) (g u v w : Int) : Prop where
  mg : t.Mem g
  mu : t.Mem u
  mv : t.Mem v
  mw : t.Mem w
  lvl : min (t.levelOf g) (min (t.levelOf u) (t.levelOf v)) ≤ t.levelOf w
  den : ∀ a, MValid t a → denM t w a = if denM t g a then denM t u a else denM t v a

/-- the invariant of an MDD manager (without exact reference counts) -/
structure MInv (m : MddMgr) : Prop where
  wf : MWFU m.tbl
  pred : ∀ (n : MNd) (u : Nat), m.pred[n.key]? = some u ↔ m.tbl.node? u = some n
  refOne : m.ref.contains 1 = true
  refDom : ∀ u n, m.tbl.node? u = some n → m.ref.contains u = true
  maxGe : 1 ≤ m.max
  maxOK : ∀ u n, m.tbl.node? u = some n → u ≤ m.max
  freeOK : ∀ f, f ∈ m.free → 2 ≤ f ∧ f ≤ m.max ∧ m.tbl.node? f = none
  freeNodup : m.free.Nodup
  cache : ∀ g u v w, m.cache[iteKey g u v]? = some w → MCacheOK m.tbl g u v w

/-- the invariant without the computed table -/
structure MInvCore (m : MddMgr) : Prop where
  wf : MWFU m.tbl
  pred : ∀ (n : MNd) (u : Nat), m.pred[n.key]? = some u ↔ m.tbl.node? u = some n
  refOne : m.ref.contains 1 = true
  refDom : ∀ u n, m.tbl.node? u = some n → m.ref.contains u = true
  maxGe : 1 ≤ m.max
  maxOK : ∀ u n, m.tbl.node? u = some n → u ≤ m.max
  freeOK : ∀ f, f ∈ m.free → 2 ≤ f ∧ f ≤ m.max ∧ m.tbl.node? f = none
  freeNodup : m.free.Nodup

theorem MInv.core {m : MddMgr} (h : MInv m) : MInvCore m :=
  ⟨h.wf, h.pred, h.refOne, h.refDom, h.maxGe, h.maxOK, h.freeOK, h.freeNodup⟩

theorem MInvCore.withCache {m : MddMgr} (h : MInvCore m) (c : TreeMap (List Int) Int)
    (hc : ∀ g u v w, c[iteKey g u v]? = some w → MCacheOK m.tbl g u v w) : MInv { m with cache := c } :=
  ⟨h.wf, h.pred, h.refOne, h.refDom, h.maxGe, h.maxOK, h.freeOK, h.freeNodup, hc⟩

theorem MInvCore.withEmptyCache {m : MddMgr} (h : MInvCore m) : MInv { m with cache := {} } :=
  h.withCache {} (fun g u v w hc => by simp at hc)

theorem MInv.term {m : MddMgr} (h : MInv m) : m.tbl.term = true := h.wf.term

theorem MInv.refMem {m : MddMgr} (h : MInv m) {u : Int} (hu : m.tbl.Mem u) :
    m.ref.contains u.natAbs = true := by
  rcases hu.cases with h1 | ⟨n, _, hn, _⟩
  · rw [h1]; exact h.refOne
  · exact h.refDom _ _ hn

theorem MInv.not_mem_fresh {m : MddMgr} (h : MInv m) {u : Nat} (h2 : 2 ≤ u)
    (hf : m.tbl.node? u = none) : m.mem (u : Int) = false := by
  show m.tbl.mem (u : Int) = false
  rw [MTbl.mem_false_iff m.tbl h.term]
  rintro (h1 | h1)
  · simp at h1; omega
  · simp only [Int.natAbs_natCast] at h1; rw [hf] at h1; cases h1

theorem MCacheOK.ext {m t : MTbl} (hw : MWF m) (he : MExt m t) {g u v w : Int}
    (h : MCacheOK m g u v w) : MCacheOK t g u v w := by
  refine ⟨he.mem h.mg, he.mem h.mu, he.mem h.mv, he.mem h.mw, ?_, ?_⟩
  · rw [he.levelOf h.mg, he.levelOf h.mu, he.levelOf h.mv, he.levelOf h.mw]; exact h.lvl
  · intro a ha
    rw [denM_ext he hw w a h.mw, denM_ext he hw g a h.mg, denM_ext he hw u a h.mu,
      denM_ext he hw v a h.mv]
    exact h.den a ((he.valid a).mpr ha)

theorem MInv.init (dv : List MVar) : MInv (MddMgr.new (some dv)) := by
  refine ⟨⟨⟨rfl, ?_, ?_, ?_, ?_, ?_, ?_, ?_⟩, ?_⟩, ?_, ?_, ?_, ?_, ?_, ?_, ?_, ?_⟩ <;>
    simp [MddMgr.new, MTbl.node?] <;> try decide

/-! ### the keys of `_ref`

`collect_garbage()` (no roots) starts from `self._ref`; for it to find every popped node in
`self._succ` the counter table must not have stale keys. -/

def RefKeys (m : MddMgr) : Prop := ∀ k, m.ref.contains k = true → k = 1 ∨ m.tbl.succ.contains k = true

theorem RefKeys.mem {m : MddMgr} (h : RefKeys m) (r : Int) (hk : m.ref.contains r.natAbs = true) :
    m.tbl.Mem r := by
  rcases h _ hk with h1 | h1
  · exact Or.inl h1
  · right
    show (m.tbl.succ[r.natAbs]?).isSome = true
    rw [← TreeMap.contains_eq_isSome_getElem?]; exact h1

theorem RefKeys.init (dv : List MVar) : RefKeys (MddMgr.new (some dv)) := by
  intro k hk
  left
  have : (MddMgr.new (some dv)).ref = (∅ : TreeMap Nat Nat).insert 1 0 := rfl
  rw [this, TreeMap.contains_insert] at hk
  have h1 : 1 = k := by simpa using hk
  exact h1.symm

/-! ### the recorded schedule is ghost: it enters no invariant -/

theorem MInv.setSched {m : MddMgr} (h : MInv m) (s : List Nat) : MInv { m with sched := s } :=
  ⟨h.wf, h.pred, h.refOne, h.refDom, h.maxGe, h.maxOK, h.freeOK, h.freeNodup, h.cache⟩

theorem MInv.of_setSched {m : MddMgr} {s : List Nat} (h : MInv { m with sched := s }) : MInv m :=
  ⟨h.wf, h.pred, h.refOne, h.refDom, h.maxGe, h.maxOK, h.freeOK, h.freeNodup, h.cache⟩

theorem RefKeys.setSched {m : MddMgr} (h : RefKeys m) (s : List Nat) : RefKeys { m with sched := s } := h

theorem RefKeys.of_setSched {m : MddMgr} {s : List Nat} (h : RefKeys { m with sched := s }) :
    RefKeys m := h

theorem MddMgr.setSched_self (m : MddMgr) {s : List Nat} (h : m.sched = s) :
    ({ m with sched := s } : MddMgr) = m := by
  cases m; cases h; rfl

theorem MddMgr.setSched_setSched_self (m : MddMgr) (hs : m.sched = []) (sch : List Nat) :
    ({ ({ m with sched := sch } : MddMgr) with sched := [] } : MddMgr) = m := by
  cases m; cases hs; rfl

/-- the outcome of a model call: it returns a value and a manager satisfying `Q`, or raises an
exception satisfying `E` -/
def MOut {α : Type} (E : Err → MddMgr → Prop) (Q : α → MddMgr → Prop) : Except Err α × MddMgr → Prop
  | (.ok a, m') => Q a m'
  | (.error e, m') => E e m'

theorem MOut.mono {α : Type} {E E' : Err → MddMgr → Prop} {Q Q' : α → MddMgr → Prop}
    {r : Except Err α × MddMgr} (h : MOut E Q r) (hE : ∀ e m', E e m' → E' e m')
    (hQ : ∀ a m', Q a m' → Q' a m') : MOut E' Q' r := by
  obtain ⟨r, m'⟩ := r
  cases r with
  | ok a => exact hQ a m' h
  | error e => exact hE e m' h

/-- the only exception a call on a good manager with good arguments can end in: the model's own
report that a recorded `_free.pop()` result is not in `_free` (not a behaviour of the code) -/
def MSchedErr (m : MddMgr) (e : Err) (_ : MddMgr) : Prop := e = Err.sched ∧ m.sched ≠ []

/-- the same, and the manager is untouched (`_allocate`, `find_or_add`) -/
def MSchedErrSame (m : MddMgr) (e : Err) (m' : MddMgr) : Prop := e = Err.sched ∧ m.sched ≠ [] ∧ m' = m

theorem MOut.total {α : Type} {m : MddMgr} {Q : α → MddMgr → Prop} {r : Except Err α × MddMgr}
    (h : MOut (MSchedErr m) Q r) (hs : m.sched = []) : ∃ a m', r = (.ok a, m') ∧ Q a m' := by
  obtain ⟨r, m'⟩ := r
  cases r with
  | ok a => exact ⟨a, m', rfl, h⟩
  | error e => exact absurd hs h.2

theorem MOut.okOrSched {α : Type} {m : MddMgr} {Q : α → MddMgr → Prop} {r : Except Err α × MddMgr}
    (h : MOut (MSchedErr m) Q r) :
    (∃ a m', r = (.ok a, m') ∧ Q a m') ∨ (∃ m', r = (.error .sched, m') ∧ m.sched ≠ []) := by
  obtain ⟨r, m'⟩ := r
  cases r with
  | ok a => exact Or.inl ⟨a, m', rfl, h⟩
  | error e => obtain ⟨rfl, hs⟩ := h; exact Or.inr ⟨m', rfl, hs⟩

structure AllocOK (m : MddMgr) (u : Nat) (m1 : MddMgr) : Prop where
  inv : MInv m1
  tbl : m1.tbl = m.tbl
  pred : m1.pred = m.pred
  ref : m1.ref = m.ref
  cache : m1.cache = m.cache
  ge_two : 2 ≤ u
  le_max : u ≤ m1.max
  fresh : m.tbl.node? u = none
  notFree : u ∉ m1.free
  maxle : m.max ≤ m1.max
  sched : m.sched = [] → m1.sched = []

theorem mAllocate_out (m : MddMgr) (h : MInv m) :
    MOut (MSchedErrSame m) (fun u m1 => AllocOK m u m1) (mAllocate m) := by
  -- popping `p` from `_free`, whatever becomes of the schedule
  have hpop : ∀ p, p ∈ m.free → ∀ s, (m.sched = [] → s = []) →
      AllocOK m p { m with free := m.free.erase p, sched := s } := by
    intro p hp s hs
    obtain ⟨h2, hmx, hnone⟩ := h.freeOK p hp
    refine ⟨⟨h.wf, h.pred, h.refOne, h.refDom, h.maxGe, h.maxOK, ?_, ?_, h.cache⟩, rfl, rfl, rfl,
      rfl, h2, hmx, hnone, ?_, Nat.le_refl _, hs⟩
    · intro f hf
      exact h.freeOK f (List.mem_of_mem_erase hf)
    · exact h.freeNodup.erase p
    · intro hc
      exact ((h.freeNodup.mem_erase_iff).mp hc).1 rfl
  unfold mAllocate
  split
  · -- `_max += 1`
    next hfree =>
    have hfresh : m.tbl.node? (m.max + 1) = none := by
      cases hn : m.tbl.node? (m.max + 1) with
      | none => rfl
      | some n => have := h.maxOK _ _ hn; omega
    refine ⟨⟨h.wf, h.pred, h.refOne, h.refDom, ?_, ?_, ?_, h.freeNodup, h.cache⟩, rfl, rfl, rfl, rfl, ?_,
      Nat.le_refl _, hfresh, ?_, Nat.le_succ _, fun hs => hs⟩
    · show 1 ≤ m.max + 1; omega
    · intro u n hn; have := h.maxOK _ _ hn; show u ≤ m.max + 1; omega
    · intro f hf; rw [hfree] at hf; cases hf
    · have := h.maxGe; omega
    · show m.max + 1 ∉ m.free; rw [hfree]; simp
  · next f0 rest hfree =>
    split
    · next hs => exact hpop f0 (by rw [hfree]; simp) m.sched (fun _ => hs)
    · next p rest' hs =>
      split
      · next hc => exact hpop p (by simpa using hc) rest' (fun h0 => by rw [hs] at h0; cases h0)
      · exact ⟨rfl, by rw [hs]; simp, rfl⟩

/-- `_allocate`, all cases: with an empty `_free` the next number is taken and the schedule is
not consulted; with a recorded pop `p ∈ _free` the number `p` is taken (ACCEPTED); with no
recorded pop the least element is taken -/
theorem mAllocate_accepts (m : MddMgr) :
    (m.free = [] → mAllocate m = (.ok (m.max + 1), { m with max := m.max + 1 })) ∧
    (∀ p rest, m.sched = p :: rest → p ∈ m.free →
      mAllocate m = (.ok p, { m with free := m.free.erase p, sched := rest })) ∧
    (∀ f0 tl, m.free = f0 :: tl → m.sched = [] →
      mAllocate m = (.ok f0, { m with free := m.free.erase f0 })) := by
  refine ⟨?_, ?_, ?_⟩
  · intro hf; unfold mAllocate; rw [hf]
  · intro p rest hs hp
    unfold mAllocate
    cases hf : m.free with
    | nil => rw [hf] at hp; cases hp
    | cons f0 tl =>
      simp only
      rw [hs]
      simp only
      have : (f0 :: tl).contains p = true := by rw [← hf]; simpa using hp
      rw [← hf] at this ⊢
      rw [if_pos this]
  · intro f0 tl hf hs
    unfold mAllocate
    rw [hf]
    simp only
    rw [hs]

theorem mAllocate_err (m : MddMgr) (e : Err) (m' : MddMgr) (h : mAllocate m = (.error e, m')) :
    m' = m ∧ e = .sched ∧ ∃ p rest, m.sched = p :: rest ∧ m.free ≠ [] ∧ p ∉ m.free := by
  unfold mAllocate at h
  split at h
  · cases h
  · next f0 tl hf =>
    split at h
    · cases h
    · next p rest hs =>
      split at h
      · cases h
      · next hc =>
        cases h
        refine ⟨rfl, rfl, p, rest, hs, by rw [hf]; simp, ?_⟩
        intro hp
        exact hc (by simpa using hp)

theorem mAllocate_any_choice (m : MddMgr) (p : Nat) (hp : p ∈ m.free) :
    ∃ sch, mAllocate { m with sched := sch } =
      (.ok p, { m with free := m.free.erase p, sched := [] }) :=
  ⟨[p], (mAllocate_accepts { m with sched := [p] }).2.1 p [] rfl hp⟩

theorem mAllocate_source (m : MddMgr) (u : Nat) (m' : MddMgr) (h : mAllocate m = (.ok u, m')) :
    (m.free = [] ∧ u = m.max + 1 ∧ m'.max = m.max + 1 ∧ m'.free = []) ∨
    (u ∈ m.free ∧ m'.free = m.free.erase u ∧ m'.max = m.max) := by
  unfold mAllocate at h
  split at h
  · next hf => cases h; exact Or.inl ⟨hf, rfl, rfl, hf⟩
  · next f0 tl hf =>
    split at h
    · cases h; exact Or.inr ⟨by rw [hf]; simp, rfl, rfl⟩
    · split at h
      · next hc => cases h; exact Or.inr ⟨by simpa using hc, rfl, rfl⟩
      · cases h

/-! ### `incref`, `decref`: only `_ref` changes, and not its key set -/

structure MRefOnly (m m' : MddMgr) : Prop where
  tbl : m'.tbl = m.tbl
  pred : m'.pred = m.pred
  max : m'.max = m.max
  free : m'.free = m.free
  cache : m'.cache = m.cache
  sched : m'.sched = m.sched
  dom : ∀ k, m'.ref.contains k = m.ref.contains k

theorem MRefOnly.refl (m : MddMgr) : MRefOnly m m := ⟨rfl, rfl, rfl, rfl, rfl, rfl, fun _ => rfl⟩

theorem MRefOnly.trans {a b c : MddMgr} (h1 : MRefOnly a b) (h2 : MRefOnly b c) : MRefOnly a c :=
  ⟨h2.tbl.trans h1.tbl, h2.pred.trans h1.pred, h2.max.trans h1.max, h2.free.trans h1.free,
   h2.cache.trans h1.cache, h2.sched.trans h1.sched, fun k => (h2.dom k).trans (h1.dom k)⟩

theorem MRefOnly.core {m m' : MddMgr} (hr : MRefOnly m m') (h : MInvCore m) : MInvCore m' := by
  refine ⟨?_, ?_, (hr.dom 1).trans h.refOne, ?_, ?_, ?_, ?_, ?_⟩
  · rw [hr.tbl]; exact h.wf
  · rw [hr.tbl, hr.pred]; exact h.pred
  · rw [hr.tbl]; intro u n hn; exact (hr.dom u).trans (h.refDom _ _ hn)
  · rw [hr.max]; exact h.maxGe
  · rw [hr.tbl, hr.max]; exact h.maxOK
  · rw [hr.tbl, hr.max, hr.free]; exact h.freeOK
  · rw [hr.free]; exact h.freeNodup

theorem MRefOnly.inv {m m' : MddMgr} (hr : MRefOnly m m') (h : MInv m) : MInv m' :=
  (hr.core h.core).withCache m'.cache (by rw [hr.tbl, hr.cache]; exact h.cache)

theorem MRefOnly.refKeys {m m' : MddMgr} (hr : MRefOnly m m') (h : RefKeys m) : RefKeys m' := by
  intro k hk
  rw [hr.dom k] at hk
  rw [hr.tbl]
  exact h k hk

theorem MRefOnly.update (m : MddMgr) (k c v : Nat) (h : m.ref[k]? = some c) :
    MRefOnly m { m with ref := m.ref.insert k v } :=
  ⟨rfl, rfl, rfl, rfl, rfl, rfl, natmap_contains_update m.ref k c v h⟩

theorem mIncref_refOnly (u : Int) (m : MddMgr) (r : Except Err Unit) (m' : MddMgr)
    (hi : mIncref u m = (r, m')) : MRefOnly m m' := by
  unfold mIncref at hi
  split at hi
  · cases hi; exact MRefOnly.refl m
  · next c hc => cases hi; exact MRefOnly.update m _ c _ hc

theorem mDecref_refOnly (u : Int) (m : MddMgr) (r : Except Err Unit) (m' : MddMgr)
    (hi : mDecref u m = (r, m')) : MRefOnly m m' := by
  unfold mDecref at hi
  split at hi
  · cases hi; exact MRefOnly.refl m
  · next c hc =>
    split at hi
    · cases hi; exact MRefOnly.refl m
    · cases hi; exact MRefOnly.update m _ c _ hc

theorem mIncref_err (u : Int) (m : MddMgr) (e : Err) (m' : MddMgr)
    (hr : mIncref u m = (.error e, m')) : m' = m := by
  unfold mIncref at hr
  split at hr <;> cases hr
  rfl

theorem mDecref_err (u : Int) (m : MddMgr) (e : Err) (m' : MddMgr)
    (hr : mDecref u m = (.error e, m')) : m' = m ∧ e = .key := by
  unfold mDecref at hr
  split at hr
  · cases hr
    exact ⟨rfl, rfl⟩
  · split at hr <;> cases hr

theorem mIncref_inv (u : Int) (m : MddMgr) (h : MInv m) (r : Except Err Unit) (m' : MddMgr)
    (hi : mIncref u m = (r, m')) : MInv m' ∧ m'.tbl = m.tbl :=
  ⟨(mIncref_refOnly u m r m' hi).inv h, (mIncref_refOnly u m r m' hi).tbl⟩

theorem mDecref_inv (u : Int) (m : MddMgr) (h : MInv m) (r : Except Err Unit) (m' : MddMgr)
    (hi : mDecref u m = (r, m')) : MInv m' ∧ m'.tbl = m.tbl :=
  ⟨(mDecref_refOnly u m r m' hi).inv h, (mDecref_refOnly u m r m' hi).tbl⟩

end DD
