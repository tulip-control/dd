/-
  DDProofs.MddIte — `MDD._top_cofactor` and `MDD.ite`.  One induction on the fuel
  (`mIteF_out`) describes every outcome of `ite` on nodes of a manager satisfying the invariant:
  it returns the pointwise if-then-else (`IteOK`), or the model reports a recorded `_free.pop()`
  that does not fit.  The conditional and total specifications, "never out of fuel" and "a failed
  call has changed nothing" are read off it.
-/
import DDProofs.MddFoa
open Std

namespace DD

theorem arity_some {t : MTbl} {i : Nat} (h : 0 < t.arity i) : ∃ var, t.varAt? i = some var ∧ var.len = t.arity i := by
  unfold MTbl.arity at h ⊢
  cases hv : t.varAt? i with
  | none => rw [hv] at h; simp at h
  | some var => exact ⟨var, rfl, rfl⟩

theorem arity_pos_of_node {t : MTbl} (hw : MWF t) {u : Nat} {n : MNd} (hn : t.node? u = some n) :
    0 < t.arity n.lvl := by
  rw [← hw.kids_len _ _ hn]
  obtain ⟨k0, rest, hk, _⟩ := hw.head_pos _ _ hn
  rw [hk]; simp

theorem arity_pos_of_level {t : MTbl} (hw : MWF t) {x : Int} (hx : t.Mem x) (hlt : t.levelOf x < t.nvars) :
    0 < t.arity (t.levelOf x) := by
  rcases hx.cases with h1 | ⟨n, _, hn, hl⟩
  · rw [t.levelOf_term x h1] at hlt; omega
  · rw [hl]; exact arity_pos_of_node hw hn

theorem mTopCofactor_ok (t : MTbl) (hw : MWF t) (u : Int) (z : Nat) (hm : t.Mem u)
    (hz : z ≤ t.levelOf u) (hzn : z < t.nvars) (hpos : 0 < t.arity z) :
    ∃ l, mTopCofactor t u z = .ok l ∧ l.length = t.arity z ∧
      (∀ k ∈ l, t.Mem k ∧ z < t.levelOf k) ∧ ∀ a k, l[a z]? = some k → denM t k a = denM t u a := by
  obtain ⟨var, hvar, hvl⟩ := arity_some hpos
  -- `u` does not depend on variable `z`
  have hrep : z < t.levelOf u → ∃ l, Except.ok (List.replicate var.len u) = Except.ok (ε := Err) l ∧
      l.length = t.arity z ∧ (∀ k ∈ l, t.Mem k ∧ z < t.levelOf k) ∧
      ∀ a k, l[a z]? = some k → denM t k a = denM t u a := by
    intro hlt
    refine ⟨_, rfl, by rw [List.length_replicate, hvl], ?_, ?_⟩
    · intro k hk
      rw [(List.mem_replicate.mp hk).2]; exact ⟨hm, hlt⟩
    · intro a k hk
      rw [(List.mem_replicate.mp (List.mem_of_getElem? hk)).2]
  unfold mTopCofactor
  rw [hvar]
  dsimp only
  rcases hm.cases with h1 | ⟨n, h1, hn, hl⟩
  · rw [if_pos h1]
    exact hrep (by rw [t.levelOf_term u h1]; exact hzn)
  · rw [if_neg h1, show t.succ[u.natAbs]? = some n from hn]
    dsimp only
    by_cases hlt : z < n.lvl
    · rw [if_pos hlt]; exact hrep (by rw [hl]; exact hlt)
    · obtain rfl : z = n.lvl := by omega
      rw [if_neg hlt, if_pos rfl]
      have hany : n.kids.any (fun k => k == 0) = false := by
        rw [List.any_eq_false]
        intro k hk
        simpa using t.mem_ne_zero hw (hw.kids_mem _ _ hn k hk)
      rw [hany]
      simp only [Bool.false_eq_true, if_false]
      have hu0 : u ≠ 0 := t.mem_ne_zero hw hm
      by_cases hp : 0 < u
      · -- regular reference: the successors
        rw [if_pos hp]
        refine ⟨_, rfl, hw.kids_len _ _ hn, fun k hk => ⟨hw.kids_mem _ _ hn k hk, hw.kids_lt _ _ hn k hk⟩, ?_⟩
        intro a k hk
        rw [denM_node_kid t hw u n a k h1 hn hk]
        have : ¬ u < 0 := by omega
        simp [this]
      · -- complemented reference: the negated successors
        have hneg : u < 0 := by omega
        rw [if_neg hp, if_pos hneg]
        refine ⟨_, rfl, by rw [List.length_map, hw.kids_len _ _ hn], ?_, ?_⟩
        · intro k hk
          rw [List.mem_map] at hk
          obtain ⟨c, hc, rfl⟩ := hk
          exact ⟨MTbl.mem_neg (hw.kids_mem _ _ hn c hc),
            by rw [MTbl.levelOf_neg]; exact hw.kids_lt _ _ hn c hc⟩
        · intro a k hk
          rw [List.getElem?_map] at hk
          cases hc : n.kids[a n.lvl]? with
          | none => rw [hc] at hk; cases hk
          | some c =>
            rw [hc] at hk
            cases hk
            rw [denM_node_kid t hw u n a c h1 hn hc,
              denM_neg t hw c a (hw.kids_mem _ _ hn c (List.mem_of_getElem? hc))]
            simp [hneg]

/-- the result `w` of `ite(g, u, v)`, in a manager `m'` that extends `m` -/
structure IteRes (m : MddMgr) (g u v w : Int) (m' : MddMgr) : Prop where
  mem : m'.tbl.Mem w
  lvl : min (m.tbl.levelOf g) (min (m.tbl.levelOf u) (m.tbl.levelOf v)) ≤ m'.tbl.levelOf w
  den : ∀ a, MValid m.tbl a →
    denM m'.tbl w a = if denM m.tbl g a then denM m.tbl u a else denM m.tbl v a

/-- what one call `ite(g, u, v)` promises -/
structure IteOK (m : MddMgr) (g u v w : Int) (m' : MddMgr) : Prop extends MStep m m', IteRes m g u v w m'

theorem IteRes.later {m m1 m2 : MddMgr} {g u v w : Int} (R : IteRes m g u v w m1) (h1 : MInv m1)
    (S : MStep m1 m2) : IteRes m g u v w m2 :=
  ⟨S.ext.mem R.mem, by rw [S.ext.levelOf R.mem]; exact R.lvl,
   fun a ha => by rw [S.den h1 w R.mem a]; exact R.den a ha⟩

theorem IteRes.earlier {m0 m m' : MddMgr} {g u v w : Int} (h0 : MInv m0) (S : MStep m0 m)
    (mg : m0.tbl.Mem g) (mu : m0.tbl.Mem u) (mv : m0.tbl.Mem v) (R : IteRes m g u v w m') :
    IteRes m0 g u v w m' := by
  refine ⟨R.mem, ?_, ?_⟩
  · have := R.lvl
    rw [S.ext.levelOf mg, S.ext.levelOf mu, S.ext.levelOf mv] at this
    exact this
  · intro a ha
    rw [R.den a ((S.ext.valid a).mp ha), S.den h0 g mg a, S.den h0 u mu a, S.den h0 v mv a]

theorem IteRes.cacheOK {m m' : MddMgr} {g u v w : Int} (R : IteRes m g u v w m') (hw : MWF m.tbl)
    (he : MExt m.tbl m'.tbl) (mg : m.tbl.Mem g) (mu : m.tbl.Mem u) (mv : m.tbl.Mem v) :
    MCacheOK m'.tbl g u v w := by
  refine ⟨he.mem mg, he.mem mu, he.mem mv, R.mem, ?_, ?_⟩
  · rw [he.levelOf mg, he.levelOf mu, he.levelOf mv]; exact R.lvl
  · intro a ha
    rw [denM_ext he hw g a mg, denM_ext he hw u a mu, denM_ext he hw v a mv]
    exact R.den a ((he.valid a).mpr ha)

/-- what the recursive calls do, on operands whose top level is at least `bound` -/
def IteRec (rec : Int → Int → Int → MM Int) (nv bound : Nat) : Prop :=
  ∀ m g u v, MInv m → m.tbl.nvars = nv → m.tbl.Mem g → m.tbl.Mem u → m.tbl.Mem v →
    bound ≤ min (m.tbl.levelOf g) (min (m.tbl.levelOf u) (m.tbl.levelOf v)) →
    MOut (MSchedErr m) (fun w m' => IteOK m g u v w m') (rec g u v m)

theorem mIteList_out (rec : Int → Int → Int → MM Int) (nv bound : Nat) (hrec : IteRec rec nv bound) :
    ∀ (gs us vs : List Int) (m : MddMgr), MInv m → m.tbl.nvars = nv →
      (∀ x ∈ gs, m.tbl.Mem x ∧ bound ≤ m.tbl.levelOf x) →
      (∀ x ∈ us, m.tbl.Mem x ∧ bound ≤ m.tbl.levelOf x) →
      (∀ x ∈ vs, m.tbl.Mem x ∧ bound ≤ m.tbl.levelOf x) →
      gs.length = us.length → us.length = vs.length →
      MOut (MSchedErr m) (fun ws m' => MStep m m' ∧ ws.length = gs.length ∧
        ∀ (j : Nat) (g u v : Int), gs[j]? = some g → us[j]? = some u → vs[j]? = some v →
          ∃ w, ws[j]? = some w ∧ IteRes m g u v w m') (mIteList rec gs us vs m) := by
  intro gs
  induction gs with
  | nil =>
    intro us vs m h _ _ _ _ _ _
    exact ⟨MStep.refl h, rfl, fun j g u v hg => by simp at hg⟩
  | cons g0 gs ih =>
    intro us vs m h hnv hg hu hv hl1 hl2
    cases us with
    | nil => simp at hl1
    | cons u0 us =>
      cases vs with
      | nil => simp at hl2
      | cons v0 vs =>
        have mg := hg g0 (by simp)
        have mu := hu u0 (by simp)
        have mv := hv v0 (by simp)
        have T0 := hrec m g0 u0 v0 h hnv mg.1 mu.1 mv.1 (by omega)
        unfold mIteList
        dsimp only
        split
        · next e m1 hr1 => rw [hr1] at T0; exact T0
        · next w0 m1 hr1 =>
          rw [hr1] at T0
          have R : IteOK m g0 u0 v0 w0 m1 := T0
          have tr : ∀ x, (m.tbl.Mem x ∧ bound ≤ m.tbl.levelOf x) →
              (m1.tbl.Mem x ∧ bound ≤ m1.tbl.levelOf x) :=
            fun x hx => ⟨R.ext.mem hx.1, by rw [R.ext.levelOf hx.1]; exact hx.2⟩
          have T1 := ih us vs m1 R.inv (by rw [← R.ext.nvars]; exact hnv)
            (fun x hx => tr x (hg x (List.mem_cons_of_mem _ hx)))
            (fun x hx => tr x (hu x (List.mem_cons_of_mem _ hx)))
            (fun x hx => tr x (hv x (List.mem_cons_of_mem _ hx)))
            (by simpa using hl1) (by simpa using hl2)
          split
          · next e m2 hr2 =>
            rw [hr2] at T1
            exact ⟨T1.1, fun hc => T1.2 (R.sched hc)⟩
          · next ws m2 hr2 =>
            rw [hr2] at T1
            obtain ⟨S2, hlen2, hall2⟩ := T1
            refine ⟨R.toMStep.trans S2, by simp [hlen2], ?_⟩
            intro j g u v hgj huj hvj
            cases j with
            | zero =>
              simp only [List.getElem?_cons_zero, Option.some.injEq] at hgj huj hvj
              subst hgj huj hvj
              exact ⟨w0, by simp, R.toIteRes.later R.inv S2⟩
            | succ j =>
              simp only [List.getElem?_cons_succ] at hgj huj hvj
              obtain ⟨w, hw1, hw2⟩ := hall2 j g u v hgj huj hvj
              exact ⟨w, by simpa using hw1, hw2.earlier h R.toMStep
                (hg g (List.mem_cons_of_mem _ (List.mem_of_getElem? hgj))).1
                (hu u (List.mem_cons_of_mem _ (List.mem_of_getElem? huj))).1
                (hv v (List.mem_cons_of_mem _ (List.mem_of_getElem? hvj))).1⟩

theorem mIteKey_inj {g u v g' u' v' : Int} (h : iteKey g u v = iteKey g' u' v') :
    g = g' ∧ u = u' ∧ v = v' := by
  simpa [iteKey] using h

/-- `ite(g, u, v)` with fuel `f`, on nodes whose top level `μ` satisfies `len(vars) + 1 ≤ f + μ`,
for every content of the computed table and of the free list: the pointwise if-then-else, or the
model's schedule report -/
theorem mIteF_out : ∀ (f : Nat) (m : MddMgr) (g u v : Int), MInv m →
    m.tbl.Mem g → m.tbl.Mem u → m.tbl.Mem v →
    m.tbl.nvars + 1 ≤ f + min (m.tbl.levelOf g) (min (m.tbl.levelOf u) (m.tbl.levelOf v)) →
    MOut (MSchedErr m) (fun w m' => IteOK m g u v w m') (mIteF f g u v m) := by
  intro f
  induction f with
  | zero =>
    intro m g u v h mg mu mv hb
    have := m.tbl.levelOf_le h.wf.toMWF g
    omega
  | succ f ih =>
    intro m g u v h mg mu mv hb
    have hW := h.wf.toMWF
    unfold mIteF
    split
    · -- g == 1
      next hg =>
      refine ⟨MStep.refl h, mu, Nat.le_trans (Nat.min_le_right _ _) (Nat.min_le_left _ _), ?_⟩
      intro a _; rw [hg, denM_one]; simp
    · split
      · next hg =>
        refine ⟨MStep.refl h, mv, Nat.le_trans (Nat.min_le_right _ _) (Nat.min_le_right _ _), ?_⟩
        intro a _; rw [hg, denM_neg_one]; simp
      · next hg1 hg2 =>
        split
        · -- computed table hit
          next w' hc =>
          have C := h.cache g u v _ hc
          exact ⟨MStep.refl h, C.mw, C.lvl, C.den⟩
        · rw [MTbl.levelOf?_eq m.tbl h.term g mg, MTbl.levelOf?_eq m.tbl h.term u mu,
            MTbl.levelOf?_eq m.tbl h.term v mv]
          dsimp only
          -- `z`: the top level; it carries the node `g`, hence a variable
          have hzn : min (m.tbl.levelOf g) (min (m.tbl.levelOf u) (m.tbl.levelOf v)) < m.tbl.nvars := by
            rcases mg.cases with h1 | ⟨ng, _, hng, hlg⟩
            · omega
            · have := hW.lvl_lt _ _ hng
              omega
          generalize hz : min (m.tbl.levelOf g) (min (m.tbl.levelOf u) (m.tbl.levelOf v)) = z at hzn hb
          -- `z` is the level of one of the operands
          have hzpos : 0 < m.tbl.arity z := by
            have : z = m.tbl.levelOf g ∨ z = m.tbl.levelOf u ∨ z = m.tbl.levelOf v := by omega
            rcases this with e | e | e <;> rw [e] at hzn ⊢
            · exact arity_pos_of_level hW mg hzn
            · exact arity_pos_of_level hW mu hzn
            · exact arity_pos_of_level hW mv hzn
          obtain ⟨gc, hgc, lg, memg, deng⟩ := mTopCofactor_ok m.tbl hW g z mg (by omega) hzn hzpos
          obtain ⟨uc, huc, lu, memu, denu⟩ := mTopCofactor_ok m.tbl hW u z mu (by omega) hzn hzpos
          obtain ⟨vc, hvc, lv, memv, denv⟩ := mTopCofactor_ok m.tbl hW v z mv (by omega) hzn hzpos
          rw [hgc, huc, hvc]
          dsimp only
          have hrec : IteRec (mIteF f) m.tbl.nvars (z + 1) := by
            intro m2 g2 u2 v2 h2 hnv2 a b c hb2
            exact ih m2 g2 u2 v2 h2 a b c (by rw [hnv2]; omega)
          have TL := mIteList_out (mIteF f) m.tbl.nvars (z + 1) hrec gc uc vc m h rfl
            memg memu memv (by rw [lg, lu]) (by rw [lu, lv])
          split
          · next e m1 hl => rw [hl] at TL; exact TL
          · next nodes m1 hl =>
            rw [hl] at TL
            obtain ⟨S1, hlen1, hall1⟩ := TL
            have hW1 := S1.inv.wf.toMWF
            -- the `j`-th computed successor
            have hnth : ∀ j, j < nodes.length → ∃ (hjg : j < gc.length) (hju : j < uc.length)
                (hjv : j < vc.length), IteRes m gc[j] uc[j] vc[j] nodes[j] m1 := by
              intro j hj
              have hjg : j < gc.length := by rw [← hlen1]; exact hj
              have hju : j < uc.length := by rw [lu, ← lg]; exact hjg
              have hjv : j < vc.length := by rw [lv, ← lg]; exact hjg
              obtain ⟨w', hw1, hw2⟩ := hall1 j gc[j] uc[j] vc[j]
                (List.getElem?_eq_getElem hjg) (List.getElem?_eq_getElem hju)
                (List.getElem?_eq_getElem hjv)
              rw [List.getElem?_eq_getElem hj, Option.some.injEq] at hw1
              exact ⟨hjg, hju, hjv, hw1 ▸ hw2⟩
            have hargs : FoaArgs m1 z nodes := by
              refine ⟨by rw [← S1.ext.nvars]; exact hzn, by rw [hlen1, lg, S1.ext.arity], ?_, ?_⟩
              · intro e
                rw [e] at hlen1
                rw [← lg, ← hlen1] at hzpos
                exact Nat.lt_irrefl _ hzpos
              · intro k hk
                obtain ⟨j, hj, hkj⟩ := List.getElem_of_mem hk
                obtain ⟨_, _, _, R⟩ := hnth j hj
                exact hkj ▸ R.mem
            -- every computed successor is strictly below z
            have hbelow : ∀ k ∈ nodes, z < m1.tbl.levelOf k := by
              intro k hk
              obtain ⟨j, hj, hkj⟩ := List.getElem_of_mem hk
              obtain ⟨hjg, hju, hjv, R⟩ := hnth j hj
              have := R.lvl
              have := (memg _ (List.getElem_mem hjg)).2
              have := (memu _ (List.getElem_mem hju)).2
              have := (memv _ (List.getElem_mem hjv)).2
              rw [← hkj]
              omega
            have TF := mFindOrAddCore_total m1 S1.inv z nodes hargs
            split
            · next e m2 hfoa =>
              rw [hfoa] at TF
              exact ⟨TF.1, fun hc => TF.2 (S1.sched hc)⟩
            · next w1 m2 hfoa =>
              rw [hfoa] at TF
              have F : FoaOK m1 z nodes w1 m2 := TF hbelow
              have hden : ∀ a, MValid m.tbl a →
                  denM m2.tbl w1 a = if denM m.tbl g a then denM m.tbl u a else denM m.tbl v a := by
                intro a ha
                have haz : a z < nodes.length := by rw [hlen1, lg]; exact ha z hzn
                obtain ⟨hjg, hju, hjv, R⟩ := hnth (a z) haz
                rw [F.den a _ (List.getElem?_eq_getElem haz), F.toMStep.den S1.inv _ R.mem a, R.den a ha,
                  deng a _ (List.getElem?_eq_getElem hjg), denu a _ (List.getElem?_eq_getElem hju),
                  denv a _ (List.getElem?_eq_getElem hjv)]
              have R : IteRes m g u v w1 m2 := ⟨F.mem, by rw [hz]; exact F.lvl, hden⟩
              refine ⟨(S1.trans F.toMStep).withCache _ ?_, R.mem, R.lvl, R.den⟩
              -- the computed table with the new entry
              intro g' u' v' w' hc
              rw [getElem?_insert_eq] at hc
              by_cases hk : iteKey g u v = iteKey g' u' v'
              · obtain ⟨rfl, rfl, rfl⟩ := mIteKey_inj hk
                rw [if_pos rfl] at hc
                cases hc
                exact R.cacheOK hW (S1.ext.trans F.ext) mg mu mv
              · rw [if_neg hk] at hc
                exact F.inv.cache g' u' v' w' hc

theorem mIte_out (m : MddMgr) (h : MInv m) (g u v : Int)
    (mg : m.tbl.Mem g) (mu : m.tbl.Mem u) (mv : m.tbl.Mem v) :
    MOut (MSchedErr m) (fun w m' => IteOK m g u v w m') (mIte g u v m) :=
  mIteF_out (m.tbl.nvars + 2) m g u v h mg mu mv (by omega)

theorem mIte_spec (m : MddMgr) (h : MInv m) (g u v : Int)
    (mg : m.tbl.Mem g) (mu : m.tbl.Mem u) (mv : m.tbl.Mem v)
    (w : Int) (m' : MddMgr) (hr : mIte g u v m = (.ok w, m')) : IteOK m g u v w m' := by
  have T := mIte_out m h g u v mg mu mv
  rw [hr] at T
  exact T

theorem mIte_not_fuel (m : MddMgr) (h : MInv m) (g u v : Int)
    (mg : m.tbl.Mem g) (mu : m.tbl.Mem u) (mv : m.tbl.Mem v) (e : Err) (m' : MddMgr)
    (hr : mIte g u v m = (.error e, m')) : e ≠ .fuel := by
  have T := mIte_out m h g u v mg mu mv
  rw [hr] at T
  rw [T.1]; decide

/-- `ite` with an operand that is not a node: `g = ±1` and a hit in the computed table return at
once, otherwise `level_of` raises `KeyError` before anything is created — in every case the
manager is untouched -/
theorem mIte_nonmember (m : MddMgr) (g u v : Int)
    (hn : ¬ (m.tbl.Mem g ∧ m.tbl.Mem u ∧ m.tbl.Mem v)) (r : Except Err Int) (m' : MddMgr)
    (hr : mIte g u v m = (r, m')) : m' = m := by
  unfold mIte mIteF at hr
  split at hr
  · cases hr; rfl
  · split at hr
    · cases hr; rfl
    · split at hr
      · cases hr; rfl
      · split at hr
        · cases hr; rfl
        · next lg hlg =>
          split at hr
          · cases hr; rfl
          · next lu hlu =>
            split at hr
            · cases hr; rfl
            · next lv hlv =>
              exact absurd ⟨MTbl.mem_of_levelOf? _ _ _ hlg, MTbl.mem_of_levelOf? _ _ _ hlu,
                MTbl.mem_of_levelOf? _ _ _ hlv⟩ hn

theorem mIte_ok_cases (m : MddMgr) (g u v w : Int) (m' : MddMgr)
    (hr : mIte g u v m = (.ok w, m')) :
    (m.tbl.Mem g ∧ m.tbl.Mem u ∧ m.tbl.Mem v) ∨ m' = m := by
  by_cases hm : m.tbl.Mem g ∧ m.tbl.Mem u ∧ m.tbl.Mem v
  · exact Or.inl hm
  · exact Or.inr (mIte_nonmember m g u v hm _ _ hr)

theorem mIte_step (m : MddMgr) (h : MInv m) (g u v w : Int) (m' : MddMgr)
    (hr : mIte g u v m = (.ok w, m')) : MStep m m' := by
  rcases mIte_ok_cases m g u v w m' hr with ⟨mg, mu, mv⟩ | rfl
  · exact (mIte_spec m h g u v mg mu mv w m' hr).toMStep
  · exact MStep.refl h

theorem mIte_err (m : MddMgr) (h : MInv m) (g u v : Int) (e : Err) (m' : MddMgr)
    (hr : mIte g u v m = (.error e, m')) (he : e ≠ .sched) : m' = m := by
  by_cases hm : m.tbl.Mem g ∧ m.tbl.Mem u ∧ m.tbl.Mem v
  · have T := mIte_out m h g u v hm.1 hm.2.1 hm.2.2
    rw [hr] at T
    exact absurd T.1 he
  · exact mIte_nonmember m g u v hm _ _ hr

end DD
