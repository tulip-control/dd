/-
  DDProofs.MddPredShape — the unique table `_pred` of the BDD manager (`Mgr`: `bdd_to_mdd` calls
  its `assert_consistent()`) never gets a stray entry.  `KeysShaped m`: every
  key of `_pred` is a triple; it is `KeysOK` of DDProofs.PredNodesOrder, so `collect_garbage`, `swap`
  and `reorder` keep it in every outcome, and with the invariant every entry is the triple of its
  node — what `assert_consistent()` checks.  `PredLe` / `Shp` say the same of a single call as a
  relation between the tables before and after: entries are only erased, or inserted under the
  triple of a node.
-/
import DDProofs.PredNodesOrder
open Std

namespace DD

/-- every key of `_pred` is the triple `(level, low, high)` of some node record -/
def KeysShaped (m : Mgr) : Prop := ∀ (k : List Int) (u : Nat), m.pred[k]? = some u → ∃ n : Nd, n.key = k

theorem keysShaped_iff_keysOK {m : Mgr} : KeysShaped m ↔ KeysOK m :=
  ⟨fun h k u hk => (h k u hk).imp fun _ => Eq.symm, fun h k u hk => (h k u hk).imp fun _ => Eq.symm⟩

theorem KeysShaped.ksm {α : Type} {x : M α} (hx : KSM x) {m m' : Mgr} {r : Except Err α}
    (h : KeysShaped m) (hr : x m = (r, m')) : KeysShaped m' := by
  have := hx m (keysShaped_iff_keysOK.mp h)
  rw [hr] at this
  exact keysShaped_iff_keysOK.mpr this

theorem KeysShaped.predNodes {m : Mgr} (h : KeysShaped m) (hI : Inv m) : PredNodes m :=
  (keysShaped_iff_keysOK.mp h).predNodes hI

theorem KeysShaped.of_keys {m : Mgr}
    (h : (m.pred.keys.all fun k => match k with | [l, _, _] => decide (0 ≤ l) | _ => false) = true) :
    KeysShaped m := by
  intro k u hk
  have hmem : k ∈ m.pred.keys := by
    rw [TreeMap.mem_keys, TreeMap.mem_iff_isSome_getElem?, hk]; rfl
  have hk3 := List.all_eq_true.mp h k hmem
  split at hk3
  · next l lo hi =>
    have hl : 0 ≤ l := of_decide_eq_true hk3
    exact ⟨⟨l.toNat, lo, hi⟩, by unfold Nd.key; rw [Int.toNat_of_nonneg hl]⟩
  · cases hk3

/-- entries of the later table are entries of the earlier one, or have a triple as key -/
def PredLe (m m' : Mgr) : Prop :=
  ∀ (k : List Int) (u : Nat), m'.pred[k]? = some u → m.pred[k]? = some u ∨ ∃ n : Nd, n.key = k

theorem PredLe.refl (m : Mgr) : PredLe m m := fun _ _ h => Or.inl h

theorem PredLe.trans {a b c : Mgr} (h1 : PredLe a b) (h2 : PredLe b c) : PredLe a c := by
  intro k u h
  rcases h2 k u h with h | h
  · exact h1 k u h
  · exact Or.inr h

/-- a computation that keeps `_pred` within `PredLe`, whatever its outcome -/
def Shp {α} (x : M α) : Prop := ∀ m r m', x m = (r, m') → PredLe m m'

theorem Shp.assert (b : Bool) (e : Err) : Shp (M.assert b e) := by
  intro m r m' h
  cases b with
  | true => cases h; exact PredLe.refl m
  | false => cases h; exact PredLe.refl m

theorem Shp.of_predEq {α} (x : M α) (h : ∀ m r m', x m = (r, m') → m'.pred = m.pred) : Shp x :=
  fun m r m' hx k u hk => Or.inl (by rw [h m r m' hx] at hk; exact hk)

theorem Shp.incref (u : Int) : Shp (incref u) := by
  apply Shp.of_predEq
  intro m r m' h
  unfold DD.incref at h
  split at h <;> cases h <;> rfl

theorem Shp.decref (u : Int) : Shp (decref u) := by
  apply Shp.of_predEq
  intro m r m' h
  unfold DD.decref at h
  split at h
  · cases h; rfl
  · split at h <;> cases h <;> rfl

theorem predLe_insert (m : Mgr) (n : Nd) (u : Nat) (m' : Mgr) (h : m'.pred = m.pred.insert n.key u) :
    PredLe m m' := by
  intro k v hk
  rw [h, TreeMap.getElem?_insert] at hk
  split at hk
  · next heq => exact Or.inr ⟨n, compare_eq_iff_eq.mp heq⟩
  · exact Or.inl hk

theorem Shp.requestReordering : Shp requestReordering := by
  apply Shp.of_predEq
  intro m r m' h
  unfold DD.requestReordering at h
  split at h
  · cases h; rfl
  · split at h
    · split at h <;> cases h <;> rfl
    · split at h <;> cases h <;> rfl

theorem Shp.findOrAddCore (i : Nat) (v w : Int) : Shp (findOrAddCore i v w) := by
  intro m r m' h
  rw [findOrAddCore_nf] at h
  split at h
  · -- the node is stored; the two `incref`s that follow write `_ref` only
    obtain ⟨rf, h2, -⟩ := increfTwo_cases ((if w < 0 then -1 else 1) * (m.minFree : Int))
      (foaNode i v w).lo (foaNode i v w).hi
      { storeNode m (foaNode i v w) with minFree := newMinFree m (foaNode i v w) }
    rw [h] at h2
    exact predLe_insert m (foaNode i v w) m.minFree m' (congrArg Mgr.pred h2)
  · cases h; exact PredLe.refl m

theorem Shp.findOrAdd (i : Int) (v w : Int) : Shp (findOrAdd i v w) := by
  intro m r m' h
  unfold DD.findOrAdd at h
  split at h
  · next e m1 hq =>
    cases h
    split at hq
    · exact Shp.requestReordering _ _ _ hq
    · cases hq
  · next m1 hq =>
    have h1 : PredLe m m1 := by
      split at hq
      · exact Shp.requestReordering _ _ _ hq
      · cases hq; exact PredLe.refl m
    split at h
    · cases h; exact h1
    · exact h1.trans (Shp.findOrAddCore _ _ _ _ _ _ h)

end DD
