/-
  DDProofs.MddPrep — the first part of `bdd_to_mdd` (`b2mPrepare`: target bit order,
  `collect_garbage`, `reorder(bdd, order)`, zones, reverse edges, selection of the zone-entry
  nodes), every outcome in one statement (`b2mPrepare_out`).  For a proper `dvars` (`DvarsOK`) a
  call that returns leaves the bits in zones (`ZoneOK`), keeps the reordering invariant and the
  meaning (by variable names) of every held reference; for a complete description (`DvarsFull`)
  nothing can fail but the swaps, as far as their contract `SwapOK` allows.
  Uses `collectGarbage_spec` (C06) and `sortToOrder_exact` (C07).
-/
import DDProofs.MddPrepLists
import DDProofs.SwapDrivers
import DDProofs.MddBddSide
open Std

namespace DD

theorem keys_mem_iff (t : Tbl) (v : String) : v ∈ t.vars.keys ↔ t.vars.contains v = true := by
  rw [TreeMap.mem_keys, TreeMap.mem_iff_contains]

theorem bddPreds_eq (t : Tbl) (u : Nat) :
    bddPreds t u =
      (t.succ.toList.filter (fun p => decide (p.2.lo.natAbs = u ∨ p.2.hi.natAbs = u))).map (·.1) :=
  foldl_select_keys t.succ fun _ n => n.lo.natAbs = u ∨ n.hi.natAbs = u

theorem mem_bddPreds_iff (t : Tbl) (u k : Nat) :
    k ∈ bddPreds t u ↔ ∃ n, t.node? k = some n ∧ (n.lo.natAbs = u ∨ n.hi.natAbs = u) := by
  rw [bddPreds_eq]
  simp only [List.mem_map, List.mem_filter, decide_eq_true_eq]
  constructor
  · rintro ⟨⟨k', n⟩, ⟨hm, hl⟩, rfl⟩
    exact ⟨n, TreeMap.mem_toList_iff_getElem?_eq_some.mp hm, hl⟩
  · rintro ⟨n, hn, he⟩
    exact ⟨(k, n), ⟨TreeMap.mem_toList_iff_getElem?_eq_some.mpr hn, he⟩, rfl⟩

theorem nodup_bddPreds (t : Tbl) (u : Nat) : (bddPreds t u).Nodup :=
  bddPreds_eq t u ▸ nodup_select_keys t.succ _

theorem bddPreds_le_indeg (t : Tbl) (u : Nat) : (bddPreds t u).length ≤ indeg t u := by
  rw [indeg_eq_sum t u (Nat.le_refl _)]
  apply length_le_sumRange t.bound _ (nodup_bddPreds t u)
  intro k hk
  obtain ⟨n, hn, he⟩ := (mem_bddPreds_iff t u k).mp hk
  refine ⟨t.lt_bound hn, ?_⟩
  unfold slotCount edgeCount
  rw [hn]
  rcases he with he | he <;> simp [he] <;> omega

/-- a complete description of the integer variables: `DvarsOK`, distinct names (a `dict`), at least
one bit each (`bits[0]` is read), and `len = 2 ** len(bitnames)` (checked by `find_or_add`) -/
structure DvarsFull (t : Tbl) (dvars : List MVar) : Prop extends DvarsOK t dvars where
  names : (dvars.map (·.name)).Nodup
  nonempty : ∀ d ∈ dvars, d.bits ≠ []
  len : ∀ d ∈ dvars, d.len = 2 ^ d.bits.length

theorem b2mZones_total (bts : List (String × Nat)) : ∀ (dv : List MVar),
    (∀ d ∈ dv, d.bits ≠ []) → (∀ d ∈ dv, ∀ b ∈ d.bits, ∃ k, lastLookup b bts = some k) →
    ∃ zones, b2mZones bts dv = .ok zones ∧ zones.map (·.1) = dv.map (·.name) ∧
      ∀ d ∈ dv, ∃ lsb mn mx, d.bits.head? = some lsb ∧ lastLookup lsb bts = some mn ∧
        (d.name, mn, mx) ∈ zones := by
  intro dv
  induction dv with
  | nil => intro _ _; exact ⟨[], rfl, rfl, fun d hd => by cases hd⟩
  | cons d rest ih =>
    intro hne hlk
    obtain ⟨zs, hz, hnames, hall⟩ := ih (fun d' hd' => hne d' (List.mem_cons_of_mem _ hd'))
      (fun d' hd' => hlk d' (List.mem_cons_of_mem _ hd'))
    have hb := hne d (by simp)
    obtain ⟨lsb, hlsb⟩ : ∃ x, d.bits.head? = some x := by
      cases hbits : d.bits with
      | nil => exact absurd hbits hb
      | cons x xs => exact ⟨x, rfl⟩
    obtain ⟨msb, hmsb⟩ : ∃ x, d.bits.getLast? = some x := by
      cases hbits : d.bits with
      | nil => exact absurd hbits hb
      | cons x xs => exact ⟨(x :: xs).getLast (by simp), List.getLast?_eq_some_getLast _⟩
    have hlm : lsb ∈ d.bits := List.mem_of_mem_head? hlsb
    have hmm : msb ∈ d.bits := List.mem_of_getLast? hmsb
    obtain ⟨mn, hmn⟩ := hlk d (by simp) lsb hlm
    obtain ⟨mx, hmx⟩ := hlk d (by simp) msb hmm
    refine ⟨(d.name, mn, mx) :: zs, ?_, by simp [hnames], ?_⟩
    · unfold b2mZones
      rw [hlsb, hmsb]
      simp only
      rw [hmn, hmx]
      simp only
      rw [hz]
    · intro d' hd'
      rcases List.mem_cons.mp hd' with rfl | hd'
      · exact ⟨lsb, mn, mx, hlsb, hmn, by simp⟩
      · obtain ⟨a, b, c, h1, h2, h3⟩ := hall d' hd'
        exact ⟨a, b, c, h1, h2, List.mem_cons_of_mem _ h3⟩

theorem b2mPredCheck_ok (t : Tbl) (hw : WF t) : b2mPredCheck t = true := by
  unfold b2mPredCheck
  rw [List.all_eq_true]
  intro x hx
  obtain ⟨u, n⟩ := x
  have hn : t.node? u = some n := TreeMap.mem_toList_iff_getElem?_eq_some.mp hx
  have a1 := (Tbl.mem_iff t n.lo).mpr (hw.lo_mem _ _ hn)
  have a2 := (Tbl.mem_iff t n.hi).mpr (hw.hi_mem _ _ hn)
  simp [a1, a2]

theorem foldl_min_le : ∀ (ls : List Nat) (l0 x : Nat), x ∈ l0 :: ls → ls.foldl min l0 ≤ x := by
  intro ls
  induction ls with
  | nil => intro l0 x hx; simp at hx; subst hx; exact Nat.le_refl _
  | cons y ys ih =>
    intro l0 x hx
    simp only [List.foldl_cons]
    rcases List.mem_cons.mp hx with rfl | hx
    · have := ih (min x y) (min x y) (by simp)
      exact Nat.le_trans this (Nat.min_le_left _ _)
    · rcases List.mem_cons.mp hx with rfl | hx
      · have := ih (min l0 x) (min l0 x) (by simp)
        exact Nat.le_trans this (Nat.min_le_right _ _)
      · exact ih (min l0 y) x (List.mem_cons_of_mem _ hx)

/-- the entries of `zones` as the selection uses them: for every variable, the lower bound of its
zone is the level of one of its bits -/
def ZonesOK (dvars : List MVar) (t : Tbl) (zones : List (String × Nat × Nat)) : Prop :=
  ∀ d ∈ dvars, ∃ lsb mx, lsb ∈ d.bits ∧ lastLookup d.name zones = some (lvlOf t lsb, mx)

/-- every predecessor of `u` lies in the zone of `u` -/
def PredsInZone (dvars : List MVar) (t : Tbl) (u : Nat) : Prop :=
  ∀ n, t.node? u = some n → ∀ k nk, t.node? k = some nk →
    (nk.lo.natAbs = u ∨ nk.hi.natAbs = u) → zoneLevel dvars t n.lvl ≤ zoneLevel dvars t nk.lvl

def RmOK (dvars : List MVar) (t : Tbl) (rm : List Nat) : Prop := ∀ u ∈ rm, PredsInZone dvars t u

/-- what the selection says of a node `u` it leaves out: its count is not above the number of its
predecessors, and — when the zone table is right — they all lie in its zone -/
def LeftOut (dvars : List MVar) (m : Mgr) (zones : List (String × Nat × Nat)) (u : Nat) : Prop :=
  (∃ rc, m.ref[u]? = some rc ∧ rc ≤ (bddPreds m.tbl u).length) ∧
  (ZonesOK dvars m.tbl zones → PredsInZone dvars m.tbl u)

/-- `b2mRmOne`, every outcome: an answer `True` needs the invariants only; that nothing is raised
needs a full collection before and a right zone table -/
theorem b2mRmOne_out (dvars : List MVar) (m : Mgr) (ext : Nat → Nat) (hI : Inv m)
    (hR : RefExact m ext) (hz : ZoneOK dvars m.tbl) (zones : List (String × Nat × Nat)) (u : Nat)
    (hu : u = 1 ∨ (m.tbl.node? u).isSome = true) :
    match b2mRmOne m (b2mBitToVar dvars) zones u with
    | .ok b => b = true → LeftOut dvars m zones u
    | .error _ => ¬ (NoGarbage m ∧ ZonesOK dvars m.tbl zones) := by
  have hW := hI.wf.toWF
  have hmem : m.tbl.Mem (u : Int) := by
    rcases hu with h | h
    · exact Or.inl (by simpa using h)
    · exact Or.inr (by simpa using h)
  have hrc := hR.get hmem
  simp only [Int.natAbs_natCast] at hrc
  have hple := bddPreds_le_indeg m.tbl u
  generalize hcdef : indeg m.tbl u + ext u + (if u = 1 then 1 else 0) = c at hrc
  unfold b2mRmOne
  simp only
  rw [hrc]
  simp only
  by_cases hgt : c > (bddPreds m.tbl u).length
  · rw [if_pos hgt]
    exact fun h => by cases h
  · rw [if_neg hgt]
    -- not the terminal: its count exceeds the in-degree
    have hu1 : u ≠ 1 := by
      intro e
      subst e
      rw [if_pos rfl] at hcdef
      omega
    have hns : (m.tbl.node? u).isSome = true := by
      rcases hu with h | h
      · exact absurd h hu1
      · exact h
    obtain ⟨n, hn⟩ := Option.isSome_iff_exists.mp hns
    have hu1' : ((u : Nat) : Int).natAbs ≠ 1 := by simpa using hu1
    have hnode : m.tbl.node? ((u : Nat) : Int).natAbs = some n := by simpa using hn
    -- the level of `u` carries a bit of some `d`: the three lookups up to `bit_to_var[bit]` succeed
    rw [Tbl.levelOf?_eq m.tbl (u : Int) hmem, levelOf_node m.tbl (u : Int) n hu1' hnode]
    simp only
    obtain ⟨bit, d, hbit, hdl, hdm, hbd⟩ := hz.owner n.lvl (hW.lvl_lt _ _ hn)
    rw [hbit]
    simp only
    rw [hdl]
    simp only
    cases hzl : lastLookup d.name zones with
    | none =>
      rintro ⟨_, hzo⟩
      obtain ⟨_, _, _, h⟩ := hzo d hdm
      rw [hzl] at h; cases h
    | some z =>
      obtain ⟨mn, mx'⟩ := z
      simp only
      have hfm : ∀ k ∈ bddPreds m.tbl u, ∃ nk, m.tbl.succ[k]? = some nk ∧
          (nk.lo.natAbs = u ∨ nk.hi.natAbs = u) := fun k hk => (mem_bddPreds_iff m.tbl u k).mp hk
      cases hpl : (bddPreds m.tbl u).filterMap fun v => (m.tbl.succ[v]?).map (·.lvl) with
      | nil =>
        -- `min()` of an empty set: `u` has no predecessor, so its count is zero
        rintro ⟨hng, _⟩
        cases hp : bddPreds m.tbl u with
        | nil =>
          have hc0 : c = 0 := by
            rw [hp, List.length_nil] at hgt
            omega
          exact hng u (by rw [hrc, hc0])
        | cons k ks =>
          obtain ⟨nk, hnk, _⟩ := hfm k (by rw [hp]; simp)
          rw [hp, List.filterMap_cons, hnk] at hpl
          simp at hpl
      | cons l0 ls =>
        simp only
        intro hb
        refine ⟨⟨c, hrc, by omega⟩, ?_⟩
        intro hzo n' hn' k nk hnk he
        rw [hn] at hn'
        cases hn'
        obtain ⟨lsb, mx, hlsb, hzl'⟩ := hzo d hdm
        rw [hzl] at hzl'
        obtain ⟨rfl, -⟩ : mn = lvlOf m.tbl lsb ∧ mx' = mx := by simpa using hzl'
        have hnot : ¬ (ls.foldl min l0 < lvlOf m.tbl lsb) := by simpa using hb
        have hkm : nk.lvl ∈ l0 :: ls := by
          rw [← hpl, List.mem_filterMap]
          exact ⟨k, (mem_bddPreds_iff m.tbl u k).mpr ⟨nk, hnk, he⟩, by
            have : m.tbl.succ[k]? = some nk := hnk
            rw [this]; rfl⟩
        have hle := foldl_min_le ls l0 nk.lvl hkm
        have hge : lvlOf m.tbl lsb ≤ nk.lvl := by omega
        -- the level of `lsb` is in the zone of `d`, as is the level of `u`
        obtain ⟨ll, hll⟩ := (vars_contains_iff m.tbl lsb).mp (hz.decl d hdm lsb hlsb)
        rw [lvlOf_eq hll] at hge
        have hzl1 : zoneLevel dvars m.tbl ll = d.level := hz.zoneLevel_of_mem hdm hlsb hll
        have hzn : zoneLevel dvars m.tbl n.lvl = d.level :=
          zoneLevel_of_bit dvars hbit hdl
        have := hz.mono ll nk.lvl hge (hW.lvl_lt _ _ hnk)
        omega

theorem b2mRm_out (dvars : List MVar) (m : Mgr) (ext : Nat → Nat) (hI : Inv m)
    (hR : RefExact m ext) (hz : ZoneOK dvars m.tbl) (zones : List (String × Nat × Nat)) :
    ∀ (us : List Nat), (∀ u ∈ us, u = 1 ∨ (m.tbl.node? u).isSome = true) →
      match b2mRm m (b2mBitToVar dvars) zones us with
      | .ok rm => ∀ u ∈ rm, LeftOut dvars m zones u
      | .error _ => ¬ (NoGarbage m ∧ ZonesOK dvars m.tbl zones) := by
  intro us
  induction us with
  | nil => intro _ u hu; cases hu
  | cons u rest ih =>
    intro h
    have h1 := b2mRmOne_out dvars m ext hI hR hz zones u (h u (by simp))
    have h2 := ih fun u' hu' => h u' (List.mem_cons_of_mem _ hu')
    unfold b2mRm
    cases hb : b2mRmOne m (b2mBitToVar dvars) zones u with
    | error e => rw [hb] at h1; exact h1
    | ok b =>
      rw [hb] at h1
      cases hr : b2mRm m (b2mBitToVar dvars) zones rest with
      | error e => rw [hr] at h2; exact h2
      | ok r =>
        rw [hr] at h2
        intro u' hu'
        cases b with
        | true =>
          rcases List.mem_cons.mp hu' with rfl | hu'
          · exact h1 rfl
          · exact h2 u' hu'
        | false => exact h2 u' hu'

/-- what the preparation establishes -/
structure PrepOK (ext : Nat → Nat) (dvars : List MVar) (mb : Mgr) (p : B2MPrep) (m2 : Mgr) : Prop where
  btv : p.bitToVar = b2mBitToVar dvars
  tbl : p.tbl = m2.tbl
  inv : ReorderInv ext m2
  zone : ZoneOK dvars m2.tbl
  /-- held references keep their meaning as functions of the variable names -/
  held : ∀ u : Nat, 0 < ext u → m2.tbl.Mem (u : Int) ∧
    ∀ a, denN m2.tbl (u : Int) a = denN mb.tbl (u : Int) a
  names : ∀ v : String, m2.tbl.vars.contains v = mb.tbl.vars.contains v
  /-- the nodes left out have no reference from outside the diagram -/
  rm : ∀ u, u ∈ p.rm → ∃ rc, m2.ref[u]? = some rc ∧ rc ≤ (bddPreds m2.tbl u).length

structure OrderFacts (mb : Mgr) (dvars : List MVar) (order : List String) (sorted : List MVar) : Prop where
  is_ : OrderIs dvars order sorted
  nd : order.Nodup
  len : order.length = mb.nvars
  mem : ∀ v, v ∈ order ↔ mb.tbl.vars.contains v = true

theorem orderFacts {mb : Mgr} {dvars : List MVar} (hd : DvarsOK mb.tbl dvars) (order : List String)
    (hord : b2mOrder dvars = .ok order) : ∃ sorted, OrderFacts mb dvars order sorted := by
  obtain ⟨sorted, hS⟩ := b2mOrder_spec hd order hord
  have hperm : order.Perm mb.tbl.vars.keys := by
    rw [hS.eq]
    exact (hS.perm.flatMap_right _).trans hd.bits
  refine ⟨sorted, hS, hperm.nodup_iff.mpr TreeMap.nodup_keys, ?_, ?_⟩
  · rw [hperm.length_eq, TreeMap.length_keys]; rfl
  · intro v; rw [hperm.mem_iff, keys_mem_iff]

theorem mem_order_of_bit {mb : Mgr} {dvars : List MVar} {order : List String} {sorted : List MVar}
    (hO : OrderFacts mb dvars order sorted) {d : MVar} (hd : d ∈ dvars) {b : String} (hb : b ∈ d.bits) :
    b ∈ order := by
  rw [hO.is_.eq, List.mem_flatMap]
  exact ⟨d, hO.is_.perm.mem_iff.mpr hd, hb⟩

theorem prep_gc (ext : Nat → Nat) (mb : Mgr) (h : ReorderInv ext mb) (dvars : List MVar)
    (order : List String) (sorted : List MVar) (hO : OrderFacts mb dvars order sorted)
    (m1 : Mgr) (hG : GcFullPost mb ext m1) :
    ReorderInv ext m1 ∧ (∀ k : Nat, m1.ref[k]? ≠ some 0) ∧ ReqOrder (b2mOrderDict order) m1 ∧
    m1.nvars = mb.nvars ∧
    m1.tbl.vars = mb.tbl.vars ∧ m1.sched = mb.sched ∧
    ∀ u : Nat, 0 < ext u → ∀ a, denN m1.tbl (u : Int) a = denN mb.tbl (u : Int) a := by
  have hsub := hG.sub
  have hnd := hO.nd
  have hI1 : ReorderInv ext m1 := by
    refine ⟨hG.inv, h.order.congr hsub.vars hsub.l2v, hG.refExact, ?_, ?_⟩
    · rw [hsub.ctx, hsub.lastLen]; exact h.off
    · rw [hsub.roots]; exact h.rootsHeld
  have hnv1 : m1.nvars = mb.nvars := by
    show m1.tbl.vars.size = mb.tbl.vars.size
    rw [hsub.vars]
  refine ⟨hI1, hG.noZero, ?_, hnv1, hsub.vars, hsub.sched, ?_⟩
  · refine ⟨?_, ?_, ?_, ?_⟩
    · rw [orderDict_length order hnd, hO.len, hnv1]
    · intro i hi
      obtain ⟨v, hv⟩ := hI1.order.total i hi
      have hdecl : mb.tbl.vars.contains v = true := by
        rw [← hsub.vars]
        exact (vars_contains_iff m1.tbl v).mpr ⟨i, (hI1.order.inv v i).mpr hv⟩
      obtain ⟨k, hk, hkv⟩ := List.getElem_of_mem ((hO.mem v).mpr hdecl)
      exact ⟨v, ((k : Nat) : Int), hv, by rw [← hkv]; exact orderDict_lookup order hnd k hk⟩
    · intro v p hl
      obtain ⟨k, hk, _, hp⟩ := orderDict_lookup_some order hnd v p hl
      subst hp
      constructor
      · omega
      · have : k < m1.nvars := by rw [hnv1, ← hO.len]; exact hk
        exact_mod_cast this
    · intro v v' p h1 h2
      obtain ⟨k, hk, hkv, hp⟩ := orderDict_lookup_some order hnd v p h1
      obtain ⟨k', hk', hkv', hp'⟩ := orderDict_lookup_some order hnd v' p h2
      have : k = k' := by omega
      subst this
      rw [← hkv, ← hkv']
  · intro u hu a
    have hm1 : m1.tbl.Mem (u : Int) := hI1.held_mem hu
    unfold denN
    rw [den_ext hsub.ext hG.inv.wf.toWF (u : Int) _ hm1, lift_congr hsub.l2v]

theorem prep_zone (ext : Nat → Nat) (mb : Mgr) (dvars : List MVar) (hd : DvarsOK mb.tbl dvars)
    (order : List String) (sorted : List MVar) (hO : OrderFacts mb dvars order sorted)
    (m1 m2 : Mgr) (hv1 : m1.tbl.vars = mb.tbl.vars) (hnv1 : m1.nvars = mb.nvars)
    (hI2 : ReorderInv ext m2) (hR : ReorderRel ext m1 m2) (hnv2 : m2.nvars = m1.nvars)
    (hpos : ∀ v p, (b2mOrderDict order).lookup v = some p → m1.tbl.vars.contains v = true →
      m2.tbl.vars[v]? = some p.toNat ∧ m2.tbl.l2v[p.toNat]? = some v) :
    ZoneOK dvars m2.tbl ∧
    (∀ v : String, m2.tbl.vars.contains v = mb.tbl.vars.contains v) ∧
    (∀ k (hk : k < order.length),
      m2.tbl.vars[order[k]]? = some k ∧ m2.tbl.l2v[k]? = some order[k]) := by
  have hS := hO.is_
  have hnd := hO.nd
  have hposk : ∀ k (hk : k < order.length),
      m2.tbl.vars[order[k]]? = some k ∧ m2.tbl.l2v[k]? = some order[k] := by
    intro k hk
    have hdecl : m1.tbl.vars.contains order[k] = true := by
      rw [hv1]; exact (hO.mem _).mp (List.getElem_mem hk)
    have := hpos order[k] ((k : Nat) : Int) (orderDict_lookup order hnd k hk) hdecl
    simpa using this
  have hnvo : m2.tbl.nvars = order.length := by
    show m2.nvars = _
    rw [hnv2, hnv1, hO.len]
  have hflat : order = (sorted.map (·.bits)).flatten := by
    rw [hS.eq, List.flatMap_def]
  have hblock : ∀ ℓ (hℓ : ℓ < order.length),
      ∃ (hj : blockOf (sorted.map (·.bits)) ℓ < sorted.length),
        order[ℓ] ∈ (sorted[blockOf (sorted.map (·.bits)) ℓ]).bits := by
    intro ℓ hℓ
    have hℓ' : ℓ < (sorted.map (·.bits)).flatten.length := by rw [← hflat]; exact hℓ
    obtain ⟨hj, hm⟩ := blockOf_spec (sorted.map (·.bits)) ℓ hℓ'
    have hj' : blockOf (sorted.map (·.bits)) ℓ < sorted.length := by simpa using hj
    refine ⟨hj', ?_⟩
    rw [List.getElem_of_eq hflat hℓ]
    simpa using hm
  have hbnd := hd.bits_nodup
  have hzl : ∀ ℓ (hℓ : ℓ < order.length),
      zoneLevel dvars m2.tbl ℓ = blockOf (sorted.map (·.bits)) ℓ := by
    intro ℓ hℓ
    obtain ⟨hj, hbm⟩ := hblock ℓ hℓ
    obtain ⟨hdm, hlv⟩ := hS.at_ _ hj
    unfold zoneLevel
    rw [(hposk ℓ hℓ).2]
    simp only
    rw [btv_uniq hbnd hdm hbm]
    exact hlv
  have hnames : ∀ v : String, m2.tbl.vars.contains v = mb.tbl.vars.contains v := by
    intro v; rw [hR.names v, hv1]
  refine ⟨⟨hI2.order, ?_, ?_, ?_, ?_, ?_, ?_, ?_⟩, hnames, hposk⟩
  · intro ℓ hℓ
    rw [hnvo] at hℓ
    obtain ⟨hj, hbm⟩ := hblock ℓ hℓ
    obtain ⟨hdm, _⟩ := hS.at_ _ hj
    exact ⟨order[ℓ], _, (hposk ℓ hℓ).2, btv_uniq hbnd hdm hbm, hdm, hbm⟩
  · intro a b hab hb
    rw [hnvo] at hb
    rw [hzl a (by omega), hzl b hb]
    exact blockOf_mono _ a b hab
  · intro d hdm b hb
    rw [hnames, ← keys_mem_iff, ← hd.bits.mem_iff, List.mem_flatMap]
    exact ⟨d, hdm, hb⟩
  · intro d hdm b hb; exact btv_uniq hbnd hdm hb
  · exact bits_nodup_of_flatMap hbnd
  · intro d hdm; exact hd.level_lt hdm
  · exact hd.level_inj

/-- the preparation, every outcome, for any instance of the swap contract that carries the
reordering invariant and "no unreferenced node".  A call that returns has established `PrepOK`;
for a complete description of the integer variables the nodes left out are right (`RmOK`) and only
the exception the contract allows can be raised -/
theorem b2mPrepare_out (ext : Nat → Nat) (mb : Mgr) (h : ReorderInv ext mb) (dvars : List MVar)
    (hd : DvarsOK mb.tbl dvars) {E : Err → Prop} {P : Mgr → Prop}
    (S : SwapOK E P (ReorderRel ext))
    (hP : ∀ m, P m → ReorderInv ext m ∧ NoGarbage m)
    (hP1 : ∀ m1, collectGarbage none mb = (.ok (), m1) → ReorderInv ext m1 → NoGarbage m1 →
      m1.sched = mb.sched → P m1) :
    OkOr (fun e => DvarsFull mb.tbl dvars → E e)
      (fun p m2 => PrepOK ext dvars mb p m2 ∧ NoGarbage m2 ∧ P m2 ∧
        (DvarsFull mb.tbl dvars → RmOK dvars m2.tbl p.rm))
      (b2mPrepare dvars mb) := by
  unfold b2mPrepare
  obtain ⟨order, hord⟩ := b2mOrder_total hd
  rw [hord]
  simp only
  obtain ⟨sorted, hO⟩ := orderFacts hd order hord
  obtain ⟨m1, hgc, hG⟩ := collectGarbage_spec mb ext h.inv h.refExact
  rw [hgc]
  simp only
  obtain ⟨hI1, hng1, hreq, hnv1, hv1, hs1, hheld1⟩ := prep_gc ext mb h dvars order sorted hO m1 hG
  have hsort := sortToOrder_exact S (b2mOrderDict order) m1 (hP1 m1 hgc hI1 hng1 hs1) hreq
  have hre : reorder (some (b2mOrderDict order)) m1 = sortToOrder (b2mOrderDict order) m1 := rfl
  rw [hre]
  cases hres : sortToOrder (b2mOrderDict order) m1 with
  | mk r m2 =>
    rw [hres] at hsort
    cases r with
    | error e => exact fun _ => hsort
    | ok r0 =>
      obtain ⟨hPm2, hR, hnv2, hpos⟩ := hsort
      obtain ⟨hI2, hng2⟩ := hP m2 hPm2
      obtain ⟨hz, hnames, hposk⟩ :=
        prep_zone ext mb dvars hd order sorted hO m1 m2 hv1 hnv1 hI2 hR hnv2 hpos
      simp only
      -- zones: they exist, and are right, for a complete description
      have hzones : ∀ hF : DvarsFull mb.tbl dvars, ∃ zones,
          b2mZones (b2mBitToSort order) dvars = .ok zones ∧ ZonesOK dvars m2.tbl zones := by
        intro hF
        have hlk : ∀ d ∈ dvars, ∀ b ∈ d.bits, ∃ k, lastLookup b (b2mBitToSort order) = some k := by
          intro d hdm b hb
          obtain ⟨k, hk, hkb⟩ := List.getElem_of_mem (mem_order_of_bit hO hdm hb)
          exact ⟨k, by rw [← hkb]; exact bitToSort_lookup order hO.nd k hk⟩
        obtain ⟨zones, hzs, hznames, hzall⟩ :=
          b2mZones_total (b2mBitToSort order) dvars hF.nonempty hlk
        refine ⟨zones, hzs, fun d hdm => ?_⟩
        obtain ⟨lsb, mn, mx, hlsb, hmn, hmem⟩ := hzall d hdm
        have hlm : lsb ∈ d.bits := List.mem_of_mem_head? hlsb
        refine ⟨lsb, mx, hlm, ?_⟩
        obtain ⟨k, hk, hkb⟩ := List.getElem_of_mem (mem_order_of_bit hO hdm hlm)
        have h1 := bitToSort_lookup order hO.nd k hk
        rw [hkb, hmn] at h1
        have hmk : mn = k := Option.some.inj h1
        have hlv : lvlOf m2.tbl lsb = k := by
          rw [← hkb]; exact lvlOf_eq (hposk k hk).1
        rw [hlv, ← hmk]
        exact lastLookup_of_mem_nodup zones (by rw [hznames]; exact hF.names) d.name (mn, mx) hmem
      cases hzs : b2mZones (b2mBitToSort order) dvars with
      | error e =>
        intro hF
        obtain ⟨_, hz', _⟩ := hzones hF
        rw [hzs] at hz'; cases hz'
      | ok zones =>
        simp only
        rw [b2mPredCheck_ok m2.tbl hI2.inv.wf.toWF]
        simp only [Bool.not_true, Bool.false_eq_true, if_false]
        have hsel := b2mRm_out dvars m2 ext hI2.inv hI2.refExact hz zones (1 :: m2.tbl.succ.keys)
          fun u hu => by
            rcases List.mem_cons.mp hu with rfl | hu
            · exact Or.inl rfl
            · right
              rw [TreeMap.mem_keys, TreeMap.mem_iff_contains,
                TreeMap.contains_eq_isSome_getElem?] at hu
              exact hu
        have hzo : DvarsFull mb.tbl dvars → ZonesOK dvars m2.tbl zones := fun hF => by
          obtain ⟨_, hz', hzo⟩ := hzones hF
          rw [hzs] at hz'; cases hz'; exact hzo
        cases hrm : b2mRm m2 (b2mBitToVar dvars) zones (1 :: m2.tbl.succ.keys) with
        | error e => rw [hrm] at hsel; exact fun hF => (hsel ⟨hng2, hzo hF⟩).elim
        | ok rm =>
          rw [hrm] at hsel
          refine ⟨⟨rfl, rfl, hI2, hz, ?_, hnames, fun u hu => (hsel u hu).1⟩, hng2, hPm2,
            fun hF u hu => (hsel u hu).2 (hzo hF)⟩
          intro u hu
          exact ⟨hI2.held_mem hu, fun a => by rw [hR.held u hu a, hheld1 u hu a]⟩

/-- the success clause, read at the instance `swapOKng`: which instance is immaterial, the call has
returned -/
theorem b2mPrepare_spec (ext : Nat → Nat) (mb : Mgr) (h : ReorderInv ext mb)
    (dvars : List MVar) (hd : DvarsOK mb.tbl dvars) (p : B2MPrep) (m2 : Mgr)
    (hr : b2mPrepare dvars mb = (.ok p, m2)) : PrepOK ext dvars mb p m2 := by
  have := b2mPrepare_out ext mb h dvars hd (swapOKng ext) (fun _ hm => hm)
    (fun _ _ a b _ => ⟨a, b⟩)
  rw [hr] at this
  exact this.1

end DD
