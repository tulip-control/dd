/-
  DDProofs.MddPrepLists — list facts behind the first part of `bdd_to_mdd`: what is asked of
  `dvars` (`DvarsOK`: levels `0..n-1`, the bit lists partition the declared variables), the target
  bit order (`b2mOrder_spec`: the bit lists sorted by level, `OrderIs`), the dictionary `bit_to_sort`
  (`b2mOrderDict`), and the zone of a position of the concatenation (`blockOf`).
-/
import DD.Mdd
import DDProofs.SatList
open Std

namespace DD

theorem lastLookup_of_mem_nodup {κ β} [BEq κ] [LawfulBEq κ] (l : List (κ × β))
    (hnd : (l.map (·.1)).Nodup) (k : κ) (v : β) (hm : (k, v) ∈ l) : lastLookup k l = some v := by
  unfold lastLookup
  apply lookup_of_mem_nodup
  · rw [List.map_reverse]; exact (List.reverse_perm _).nodup_iff.mpr hnd
  · exact List.mem_reverse.mpr hm

theorem lastLookup_mem {κ β} [BEq κ] [LawfulBEq κ] (l : List (κ × β)) (k : κ) (v : β)
    (h : lastLookup k l = some v) : (k, v) ∈ l := by
  unfold lastLookup at h
  exact List.mem_reverse.mp (lookup_some_mem k v _ h)

theorem lastLookup_isSome_of_mem {κ β} [BEq κ] [LawfulBEq κ] (l : List (κ × β)) (k : κ)
    (h : k ∈ l.map (·.1)) : ∃ v, lastLookup k l = some v :=
  (lookup_of_mem_keys (by rw [List.map_reverse]; exact List.mem_reverse.mpr h)).imp fun _ => And.left

theorem mem_dedup_gen {α} [BEq α] [LawfulBEq α] (a : α) : ∀ l : List α, a ∈ dedup l ↔ a ∈ l :=
  fun _ => mem_dedup

theorem btv_keys (dvars : List MVar) : (b2mBitToVar dvars).map (·.1) = dvars.flatMap (·.bits) := by
  unfold b2mBitToVar
  induction dvars with
  | nil => rfl
  | cons d rest ih =>
    simp only [List.flatMap_cons, List.map_append, ih, List.map_map]
    congr 1
    simp [Function.comp_def]

theorem mem_btv {dvars : List MVar} {d : MVar} {b : String} (hd : d ∈ dvars) (hb : b ∈ d.bits) :
    (b, d) ∈ b2mBitToVar dvars := by
  unfold b2mBitToVar
  rw [List.mem_flatMap]
  exact ⟨d, hd, List.mem_map.mpr ⟨b, hb, rfl⟩⟩

theorem btv_mem {dvars : List MVar} {d : MVar} {b : String} (h : (b, d) ∈ b2mBitToVar dvars) :
    d ∈ dvars ∧ b ∈ d.bits := by
  unfold b2mBitToVar at h
  rw [List.mem_flatMap] at h
  obtain ⟨d', hd', hm⟩ := h
  rw [List.mem_map] at hm
  obtain ⟨b', hb', he⟩ := hm
  simp only [Prod.mk.injEq] at he
  obtain ⟨rfl, rfl⟩ := he
  exact ⟨hd', hb'⟩

theorem btv_uniq {dvars : List MVar} (hnd : (dvars.flatMap (·.bits)).Nodup) {d : MVar} (hd : d ∈ dvars)
    {b : String} (hb : b ∈ d.bits) : lastLookup b (b2mBitToVar dvars) = some d :=
  lastLookup_of_mem_nodup _ (by rw [btv_keys]; exact hnd) b d (mem_btv hd hb)

theorem bits_nodup_of_flatMap : ∀ {dvars : List MVar}, (dvars.flatMap (·.bits)).Nodup →
    ∀ d ∈ dvars, d.bits.Nodup := by
  intro dvars
  induction dvars with
  | nil => intro _ d hd; cases hd
  | cons d0 rest ih =>
    intro h d hd
    rw [List.flatMap_cons, List.nodup_append] at h
    rcases List.mem_cons.mp hd with rfl | hd
    · exact h.1
    · exact ih h.2.1 d hd

/-- index of the block of `L.flatten` that contains position `ℓ` -/
def blockOf : List (List String) → Nat → Nat
  | [], _ => 0
  | b :: bs, ℓ => if ℓ < b.length then 0 else 1 + blockOf bs (ℓ - b.length)

theorem blockOf_mono : ∀ (L : List (List String)) (a b : Nat), a ≤ b → blockOf L a ≤ blockOf L b := by
  intro L
  induction L with
  | nil => intro a b _; exact Nat.le_refl _
  | cons x xs ih =>
    intro a b hab
    unfold blockOf
    by_cases ha : a < x.length
    · simp [ha]
    · have hb : ¬ b < x.length := by omega
      simp only [ha, hb, if_false]
      have := ih (a - x.length) (b - x.length) (by omega)
      omega

theorem blockOf_spec : ∀ (L : List (List String)) (ℓ : Nat) (h : ℓ < L.flatten.length),
    ∃ (hj : blockOf L ℓ < L.length), L.flatten[ℓ] ∈ L[blockOf L ℓ] := by
  intro L
  induction L with
  | nil => intro ℓ h; simp at h
  | cons x xs ih =>
    intro ℓ h
    unfold blockOf
    by_cases hl : ℓ < x.length
    · simp only [hl, if_true]
      refine ⟨by simp, ?_⟩
      simp only [List.flatten_cons, List.getElem_cons_zero]
      rw [List.getElem_append_left hl]
      exact List.getElem_mem hl
    · simp only [hl, if_false]
      have h' : ℓ - x.length < xs.flatten.length := by
        simp only [List.flatten_cons, List.length_append] at h; omega
      obtain ⟨hj, hm⟩ := ih (ℓ - x.length) h'
      refine ⟨by simp; omega, ?_⟩
      have e1 : (x :: xs).flatten[ℓ] = xs.flatten[ℓ - x.length] := by
        simp only [List.flatten_cons]
        rw [List.getElem_append_right (by omega)]
      rw [e1]
      have hb : 1 + blockOf xs (ℓ - x.length) < (x :: xs).length := by simp; omega
      have e2 : (x :: xs)[1 + blockOf xs (ℓ - x.length)]'hb = xs[blockOf xs (ℓ - x.length)] := by
        simp [Nat.add_comm 1]
      rw [e2]
      exact hm

/-- the body of the loop of `b2mOrder` -/
def orderStep (levels : List (Nat × MVar)) (order : List String) (j : Nat) : Except Err (List String) :=
  match lastLookup j levels with
  | none => .error .key
  | some var => .ok (order ++ var.bits)

theorem foldlM_order (levels : List (Nat × MVar)) : ∀ (js : List Nat) (init order : List String),
    js.foldlM (orderStep levels) init = .ok order →
    ∃ ds : List MVar, js.map (fun j => lastLookup j levels) = ds.map some ∧
      order = init ++ ds.flatMap (·.bits) := by
  intro js
  induction js with
  | nil =>
    intro init order h
    simp only [List.foldlM_nil] at h
    cases h
    exact ⟨[], rfl, by simp⟩
  | cons j js ih =>
    intro init order h
    rw [List.foldlM_cons, orderStep] at h
    cases hl : lastLookup j levels with
    | none => rw [hl] at h; cases h
    | some var =>
      rw [hl] at h
      obtain ⟨ds, h1, h2⟩ := ih (init ++ var.bits) order h
      refine ⟨var :: ds, ?_, ?_⟩
      · simp [hl, h1]
      · rw [h2]; simp [List.append_assoc]

theorem foldlM_order_total (levels : List (Nat × MVar)) : ∀ (js : List Nat) (init : List String),
    (∀ j ∈ js, ∃ v, lastLookup j levels = some v) →
    ∃ order, js.foldlM (orderStep levels) init = .ok order := by
  intro js
  induction js with
  | nil => intro init _; exact ⟨init, rfl⟩
  | cons j js ih =>
    intro init h
    obtain ⟨v, hv⟩ := h j (by simp)
    rw [List.foldlM_cons, orderStep, hv]
    exact ih (init ++ v.bits) (fun j' hj' => h j' (List.mem_cons_of_mem _ hj'))

/-- `dvars` describe integer variables at the levels `0..n-1` whose bit lists partition the
declared BDD variables -/
structure DvarsOK (t : Tbl) (dvars : List MVar) : Prop where
  levels : (dvars.map (·.level)).Perm (List.range dvars.length)
  bits : (dvars.flatMap (·.bits)).Perm t.vars.keys

theorem DvarsOK.levels_nodup {t : Tbl} {dvars : List MVar} (h : DvarsOK t dvars) :
    (dvars.map (·.level)).Nodup := h.levels.nodup_iff.mpr List.nodup_range

theorem b2mOrder_eq {t : Tbl} {dvars : List MVar} (h : DvarsOK t dvars) :
    b2mOrder dvars =
      (List.range dvars.length).foldlM (orderStep (dvars.map fun d => (d.level, d))) [] := by
  unfold b2mOrder
  simp only
  rw [dedup_of_nodup _ h.levels_nodup, List.length_map]
  rfl

theorem DvarsOK.level_lt {t : Tbl} {dvars : List MVar} (h : DvarsOK t dvars) {d : MVar} (hd : d ∈ dvars) :
    d.level < dvars.length := by
  have : d.level ∈ List.range dvars.length := h.levels.mem_iff.mp (List.mem_map.mpr ⟨d, hd, rfl⟩)
  simpa using this

theorem DvarsOK.level_inj {t : Tbl} {dvars : List MVar} (h : DvarsOK t dvars) :
    ∀ d ∈ dvars, ∀ d' ∈ dvars, d.level = d'.level → d = d' :=
  fun _ hd _ hd' => eq_of_key_nodup (·.level) h.levels_nodup hd hd'

theorem DvarsOK.bits_nodup {t : Tbl} {dvars : List MVar} (h : DvarsOK t dvars) :
    (dvars.flatMap (·.bits)).Nodup := h.bits.nodup_iff.mpr TreeMap.nodup_keys

/-- what `b2mOrder` returns: the bit lists of the integer variables sorted by level -/
structure OrderIs (dvars : List MVar) (order : List String) (sorted : List MVar) : Prop where
  len : sorted.length = dvars.length
  at_ : ∀ j (hj : j < sorted.length), sorted[j] ∈ dvars ∧ sorted[j].level = j
  eq : order = sorted.flatMap (·.bits)
  perm : sorted.Perm dvars

theorem b2mOrder_spec {t : Tbl} {dvars : List MVar} (h : DvarsOK t dvars) (order : List String)
    (ho : b2mOrder dvars = .ok order) : ∃ sorted, OrderIs dvars order sorted := by
  rw [b2mOrder_eq h] at ho
  obtain ⟨ds, h1, h2⟩ := foldlM_order _ _ _ _ ho
  have hlen : ds.length = dvars.length := by
    have := congrArg List.length h1
    simpa using this.symm
  have hat : ∀ j (hj : j < ds.length), ds[j] ∈ dvars ∧ ds[j].level = j := by
    intro j hj
    have hj' : j < dvars.length := by omega
    have e : ((List.range dvars.length).map fun j => lastLookup j (dvars.map fun d => (d.level, d)))[j]? =
        (ds.map some)[j]? := by rw [h1]
    rw [List.getElem?_map, List.getElem?_map, List.getElem?_range hj', List.getElem?_eq_getElem hj] at e
    simp only [Option.map_some, Option.some.injEq] at e
    have hm := lastLookup_mem _ _ _ e
    rw [List.mem_map] at hm
    obtain ⟨d, hd, he⟩ := hm
    simp only [Prod.mk.injEq] at he
    obtain ⟨e1, e2⟩ := he
    subst e2
    exact ⟨hd, e1⟩
  refine ⟨ds, hlen, hat, by simpa using h2, ?_⟩
  -- a permutation: no duplicates on both sides and the same elements
  have hnd_ds : ds.Nodup := by
    apply nodup_of_map_nodup (·.level)
    have : ds.map (·.level) = List.range ds.length := by
      apply List.ext_getElem
      · simp
      · intro k h1 h2
        simp only [List.getElem_map, List.getElem_range]
        exact (hat k (by simpa using h1)).2
    rw [this]; exact List.nodup_range
  have hnd_dv : dvars.Nodup := nodup_of_map_nodup (·.level) dvars h.levels_nodup
  rw [List.perm_ext_iff_of_nodup hnd_ds hnd_dv]
  intro d
  constructor
  · intro hd
    obtain ⟨j, hj, hdj⟩ := List.getElem_of_mem hd
    rw [← hdj]; exact (hat j hj).1
  · intro hd
    have hl := h.level_lt hd
    have hj : d.level < ds.length := by omega
    have := hat d.level hj
    have : ds[d.level] = d := h.level_inj _ this.1 d hd this.2
    rw [← this]; exact List.getElem_mem hj

theorem b2mOrder_total {t : Tbl} {dvars : List MVar} (h : DvarsOK t dvars) :
    ∃ order, b2mOrder dvars = .ok order := by
  rw [b2mOrder_eq h]
  apply foldlM_order_total
  intro j hj
  apply lastLookup_isSome_of_mem
  rw [List.map_map]
  have : j ∈ dvars.map (·.level) := h.levels.mem_iff.mpr hj
  simpa [Function.comp_def] using this

theorem bitToSort_lookup (order : List String) (hnd : order.Nodup) (k : Nat) (hk : k < order.length) :
    lastLookup order[k] (b2mBitToSort order) = some k := by
  unfold b2mBitToSort
  apply lastLookup_of_mem_nodup
  · rw [List.map_fst_zip (by simp)]; exact hnd
  · have hk2 : k < (order.zip (List.range order.length)).length := by simp; exact hk
    have : (order.zip (List.range order.length))[k] = (order[k], k) := by
      simp [List.getElem_zip]
    rw [← this]
    exact List.getElem_mem hk2

theorem orderDict_eq (order : List String) (hnd : order.Nodup) :
    b2mOrderDict order =
      order.map fun b => (b, (((lastLookup b (b2mBitToSort order)).getD 0 : Nat) : Int)) := by
  unfold b2mOrderDict
  rw [dedup_of_nodup _ ((List.reverse_perm order).nodup_iff.mpr hnd), List.reverse_reverse]

theorem orderDict_keys (order : List String) (hnd : order.Nodup) :
    (b2mOrderDict order).map (·.1) = order := by
  rw [orderDict_eq order hnd, List.map_map]
  simp [Function.comp_def]

theorem orderDict_lookup (order : List String) (hnd : order.Nodup) (k : Nat) (hk : k < order.length) :
    (b2mOrderDict order).lookup order[k] = some ((k : Nat) : Int) := by
  apply lookup_of_mem_nodup
  · rw [orderDict_keys order hnd]; exact hnd
  · rw [orderDict_eq order hnd, List.mem_map]
    exact ⟨order[k], List.getElem_mem hk, by rw [bitToSort_lookup order hnd k hk]; rfl⟩

theorem orderDict_lookup_some (order : List String) (hnd : order.Nodup) (v : String) (p : Int)
    (h : (b2mOrderDict order).lookup v = some p) :
    ∃ k, ∃ (hk : k < order.length), order[k] = v ∧ p = ((k : Nat) : Int) := by
  have hm := lookup_some_mem v p _ h
  have hv : v ∈ order := by
    rw [← orderDict_keys order hnd]
    exact List.mem_map.mpr ⟨(v, p), hm, rfl⟩
  obtain ⟨k, hk, hkv⟩ := List.getElem_of_mem hv
  refine ⟨k, hk, hkv, ?_⟩
  have := orderDict_lookup order hnd k hk
  rw [hkv, h] at this
  exact Option.some.inj this

theorem orderDict_length (order : List String) (hnd : order.Nodup) :
    (b2mOrderDict order).length = order.length := by
  rw [orderDict_eq order hnd, List.length_map]

end DD
