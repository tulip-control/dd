/-
  DDProofs.MddReach — the states reachable from `MDD(dvars)` by calls of the user: successful
  ones (`find_or_add` with ordered successors, `ite`, `apply`, `incref`, `decref` of a held
  reference, `collect_garbage`) AND failed ones, for EVERY behaviour of `_free.pop()`: the calls
  that allocate run under an arbitrary recorded schedule `sch` of pops (installed before the call,
  what is left dropped afterwards — as the driver does), and every choice the real `set.pop()`
  can make is realised by some schedule (`mAllocate_accepts`).
-/
import DDProofs.MddApply
import DDProofs.MddGcSched
open Std

namespace DD

/-- states reachable from `MDD(dvars)`, with the ledger of the references the user holds -/
inductive MReach (dv : List MVar) : MddMgr → (Nat → Nat) → Prop
  | init : MReach dv (MddMgr.new (some dv)) (fun _ => 0)
  /-- `find_or_add` (successors below the level), for any recorded pops `sch` -/
  | foaS {m ext} (sch : List Nat) (i : Int) (nodes : List Int) (r : Int) (m1 : MddMgr) :
      MReach dv m ext → (∀ k ∈ nodes, i.toNat < m.tbl.levelOf k) →
      mFindOrAdd i nodes { m with sched := sch } = (.ok r, m1) →
      MReach dv { m1 with sched := [] } ext
  /-- any `ite` that returns, for any recorded pops -/
  | iteS {m ext} (sch : List Nat) (g u v w : Int) (m1 : MddMgr) :
      MReach dv m ext → mIte g u v { m with sched := sch } = (.ok w, m1) →
      MReach dv { m1 with sched := [] } ext
  | applyS {m ext} (sch : List Nat) (op : String) (c : Conn) (u : Int) (v w : Option Int) (r : Int)
      (m1 : MddMgr) :
      MReach dv m ext → docConn op = some c →
      mApply op u v w { m with sched := sch } = (.ok r, m1) → MReach dv { m1 with sched := [] } ext
  | incref {m ext} (u : Int) (m' : MddMgr) :
      MReach dv m ext → m.tbl.Mem u → mIncref u m = (.ok (), m') → MReach dv m' (mExtInc ext u)
  | decref {m ext} (u : Int) (m' : MddMgr) :
      MReach dv m ext → m.tbl.Mem u → 0 < ext u.natAbs →
      mDecref u m = (.ok (), m') → MReach dv m' (mExtDec ext u)
  | gc {m ext} (roots : Option (List Int)) (m' : MddMgr) :
      MReach dv m ext → mCollectGarbage roots m = (.ok (), m') → MReach dv m' ext
  /-- calls that raise, whatever their arguments (for `ite` / `apply`: anything but the model's own
  report that the recorded pops do not fit, which is not a behaviour of the code) -/
  | foaFail {m ext} (sch : List Nat) (i : Int) (nodes : List Int) (e : Err) (m1 : MddMgr) :
      MReach dv m ext → mFindOrAdd i nodes { m with sched := sch } = (.error e, m1) →
      MReach dv { m1 with sched := [] } ext
  | iteFail {m ext} (sch : List Nat) (g u v : Int) (e : Err) (m1 : MddMgr) :
      MReach dv m ext → mIte g u v { m with sched := sch } = (.error e, m1) → e ≠ .sched →
      MReach dv { m1 with sched := [] } ext
  | applyFail {m ext} (sch : List Nat) (op : String) (u : Int) (v w : Option Int) (e : Err)
      (m1 : MddMgr) :
      MReach dv m ext → mApply op u v w { m with sched := sch } = (.error e, m1) → e ≠ .sched →
      MReach dv { m1 with sched := [] } ext
  | increfFail {m ext} (u : Int) (e : Err) (m1 : MddMgr) :
      MReach dv m ext → mIncref u m = (.error e, m1) → MReach dv m1 ext
  | decrefFail {m ext} (u : Int) (e : Err) (m1 : MddMgr) :
      MReach dv m ext → mDecref u m = (.error e, m1) → MReach dv m1 ext
  | gcFail {m ext} (roots : Option (List Int)) (e : Err) (m1 : MddMgr) :
      MReach dv m ext → mCollectGarbage roots m = (.error e, m1) → MReach dv m1 ext

/-- what holds between two calls of the user -/
structure MGood (dv : List MVar) (m : MddMgr) (ext : Nat → Nat) : Prop where
  inv : MInv m
  exact : MRefExact m ext
  vars : m.tbl.vars = dv
  refKeys : RefKeys m
  sched : m.sched = []

/-- a step made under a schedule installed for the call and dropped afterwards -/
theorem MGood.step {dv : List MVar} {m : MddMgr} {ext : Nat → Nat} (hg : MGood dv m ext)
    (sch : List Nat) (m1 : MddMgr) (S : MStep { m with sched := sch } m1) :
    MGood dv { m1 with sched := [] } ext :=
  ⟨S.inv.setSched [], (S.exact _ (hg.exact.setSched sch)).setSched [], S.ext.vars.symm.trans hg.vars,
    (S.refKeys (hg.refKeys.setSched sch)).setSched [], rfl⟩

theorem MGood.refOnly {dv : List MVar} {m m' : MddMgr} {ext ext' : Nat → Nat} (hg : MGood dv m ext)
    (R : MRefOnly m m') (hx : MRefExact m' ext') : MGood dv m' ext' :=
  ⟨R.inv hg.inv, hx, by rw [R.tbl]; exact hg.vars, R.refKeys hg.refKeys, by rw [R.sched]; exact hg.sched⟩

theorem MReach.all {dv : List MVar} {m : MddMgr} {ext : Nat → Nat} (h : MReach dv m ext) :
    MGood dv m ext := by
  induction h with
  | init => exact ⟨MInv.init dv, MRefExact.init dv, rfl, RefKeys.init dv, rfl⟩
  | foaS sch i nodes r m1 _ hlt hr ih =>
    exact ih.step sch m1 (mFindOrAdd_spec _ (ih.inv.setSched sch) i nodes hlt r m1 hr).toMStep
  | iteS sch g u v w m1 _ hr ih =>
    exact ih.step sch m1 (mIte_step _ (ih.inv.setSched sch) g u v w m1 hr)
  | applyS sch op c u v w r m1 _ _ hr ih =>
    exact ih.step sch m1 (mApply_step _ (ih.inv.setSched sch) op u v w r m1 hr)
  | incref u m' _ hu hr ih =>
    exact ih.refOnly (mIncref_refOnly u _ _ m' hr) (mIncref_exact u _ _ hu ih.exact m' hr)
  | decref u m' _ hu hheld hr ih =>
    exact ih.refOnly (mDecref_refOnly u _ _ m' hr) (mDecref_exact u _ _ hu hheld ih.exact m' hr)
  | gc roots m' _ hr ih =>
    have G := mddGc_spec _ _ ih.inv ih.exact roots m' hr
    obtain ⟨hs', hk'⟩ := mGcAny_frame _ _ ih.inv ih.exact roots m' (mCollectGarbage_any roots _ m' hr)
    exact ⟨G.inv, G.exact, G.sub.vars.trans ih.vars, hk' ih.refKeys, by rw [hs']; exact ih.sched⟩
  | foaFail sch i nodes e m1 _ hr ih =>
    rw [mFindOrAdd_err _ (ih.inv.setSched sch) i nodes e m1 hr, MddMgr.setSched_setSched_self _ ih.sched]
    exact ih
  | iteFail sch g u v e m1 _ hr he ih =>
    rw [mIte_err _ (ih.inv.setSched sch) g u v e m1 hr he, MddMgr.setSched_setSched_self _ ih.sched]
    exact ih
  | applyFail sch op u v w e m1 _ hr he ih =>
    rw [mApply_err _ (ih.inv.setSched sch) op u v w e m1 hr he, MddMgr.setSched_setSched_self _ ih.sched]
    exact ih
  | increfFail u e m1 _ hr ih => rw [mIncref_err u _ e m1 hr]; exact ih
  | decrefFail u e m1 _ hr ih => rw [(mDecref_err u _ e m1 hr).1]; exact ih
  | gcFail roots e m1 _ hr ih =>
    rw [mCollectGarbage_err _ _ ih.inv ih.exact ih.refKeys roots e m1 hr]
    exact ih

theorem MReach.inv {dv : List MVar} {m : MddMgr} {ext : Nat → Nat} (h : MReach dv m ext) :
    MInv m ∧ MRefExact m ext ∧ m.tbl.vars = dv :=
  ⟨h.all.inv, h.all.exact, h.all.vars⟩

theorem MReach.refKeys {dv : List MVar} {m : MddMgr} {ext : Nat → Nat} (h : MReach dv m ext) :
    RefKeys m := h.all.refKeys

theorem MReach.sched_nil {dv : List MVar} {m : MddMgr} {ext : Nat → Nat} (h : MReach dv m ext) :
    m.sched = [] := h.all.sched

/-! ### the calls without a recorded schedule (least-element pops) -/

theorem MReach.of_setSched_nil {dv : List MVar} {m' : MddMgr} {ext : Nat → Nat} (hs' : m'.sched = [])
    (h : MReach dv { m' with sched := [] } ext) : MReach dv m' ext := by
  rw [MddMgr.setSched_self m' hs'] at h
  exact h

theorem MReach.foa {dv : List MVar} {m : MddMgr} {ext : Nat → Nat} (i : Int) (nodes : List Int)
    (r : Int) (m' : MddMgr) (h : MReach dv m ext) (hlt : ∀ k ∈ nodes, i.toNat < m.tbl.levelOf k)
    (hr : mFindOrAdd i nodes m = (.ok r, m')) : MReach dv m' ext :=
  MReach.of_setSched_nil ((mFindOrAdd_spec m h.inv.1 i nodes hlt r m' hr).sched h.sched_nil)
    (MReach.foaS [] i nodes r m' h hlt (by rw [MddMgr.setSched_self m h.sched_nil]; exact hr))

theorem MReach.ite {dv : List MVar} {m : MddMgr} {ext : Nat → Nat} (g u v w : Int) (m' : MddMgr)
    (h : MReach dv m ext) (hr : mIte g u v m = (.ok w, m')) : MReach dv m' ext :=
  MReach.of_setSched_nil ((mIte_step m h.inv.1 g u v w m' hr).sched h.sched_nil)
    (MReach.iteS [] g u v w m' h (by rw [MddMgr.setSched_self m h.sched_nil]; exact hr))

theorem MReach.apply {dv : List MVar} {m : MddMgr} {ext : Nat → Nat} (op : String) (c : Conn) (u : Int)
    (v w : Option Int) (r : Int) (m' : MddMgr) (h : MReach dv m ext) (hc : docConn op = some c)
    (hr : mApply op u v w m = (.ok r, m')) : MReach dv m' ext :=
  MReach.of_setSched_nil ((mApply_step m h.inv.1 op u v w r m' hr).sched h.sched_nil)
    (MReach.applyS [] op c u v w r m' h hc (by rw [MddMgr.setSched_self m h.sched_nil]; exact hr))

theorem MReach.incref_total {dv : List MVar} {m : MddMgr} {ext : Nat → Nat} (h : MReach dv m ext)
    {u : Int} (hu : m.tbl.Mem u) :
    ∃ m', mIncref u m = (.ok (), m') ∧ m'.tbl = m.tbl ∧ MReach dv m' (mExtInc ext u) := by
  obtain ⟨c, hc⟩ := Option.isSome_iff_exists.mp
    (TreeMap.contains_eq_isSome_getElem?.symm.trans (h.inv.1.refMem hu))
  have hr : mIncref u m = (.ok (), { m with ref := m.ref.insert u.natAbs (c + 1) }) := by
    unfold mIncref; rw [hc]
  exact ⟨_, hr, rfl, MReach.incref u _ h hu hr⟩

/-- `collect_garbage(roots)` with nodes as roots (either sign), or without roots, returns, leaves a
reachable state and does what it promises; without roots exactly the nodes reachable from a held
node remain -/
theorem MReach.collect {dv : List MVar} {m : MddMgr} {ext : Nat → Nat} (h : MReach dv m ext)
    (roots : Option (List Int)) (hro : ∀ rs, roots = some rs → ∀ r, r ∈ rs → m.tbl.Mem r) :
    ∃ m', mCollectGarbage roots m = (.ok (), m') ∧ MReach dv m' ext ∧ GcOK m ext roots.isNone m' ∧
      (roots = none → ∀ x n, m.tbl.node? x = some n →
        (m'.tbl.node? x = some n ↔ HeldReach m.tbl ext x)) := by
  obtain ⟨hi, hx, _⟩ := h.inv
  obtain ⟨m', hr, G⟩ := mCollectGarbage_total m ext hi hx roots (gcRootList_mem m h.refKeys roots hro)
  refine ⟨m', hr, MReach.gc roots m' h hr, G, ?_⟩
  rintro rfl x n hn
  exact gcOK_exactly_reachable m ext hi m' G x n hn

end DD
