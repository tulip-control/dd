/-
  DDProofs.MddSem — denotation of MDD references over integer assignments (`denM`),
  the structural invariant of an MDD node table (`MWF`: ordered, first successor regular,
  not all successors equal, as many successors as the variable has values; `MWFU` adds
  uniqueness), fuel stability, unfolding lemmas, extension of tables.
-/
import Std.Data.TreeMap.Lemmas
import DD.Mdd
open Std

namespace DD

/-- `abs(u) in self._succ` as a proposition (for a manager that has its terminal) -/
def MTbl.Mem (t : MTbl) (u : Int) : Prop := u.natAbs = 1 ∨ (t.node? u.natAbs).isSome

instance MTbl.decMem (t : MTbl) (u : Int) : Decidable (t.Mem u) := by unfold MTbl.Mem; infer_instance

/-- `self._succ[abs(u)][0]`, total -/
def MTbl.levelOf (t : MTbl) (u : Int) : Nat :=
  if u.natAbs = 1 then t.nvars else
  match t.node? u.natAbs with
  | some n => n.lvl
  | none => t.nvars

/-- number of values of the variable at level `i` (`vars[var_at_level(i)]['len']`) -/
def MTbl.arity (t : MTbl) (i : Nat) : Nat :=
  match t.varAt? i with
  | some v => v.len
  | none => 0

/-- integer assignments: level ↦ value -/
abbrev MAsg := Nat → Nat

def MValid (t : MTbl) (a : MAsg) : Prop := ∀ i, i < t.nvars → a i < t.arity i

/-- `denM` with fuel: levels strictly increase along successors, so `nvars + 1` is enough
(`denMF_stable`) -/
def denMF (t : MTbl) : Nat → Int → MAsg → Bool
  | 0, _, _ => false
  | f+1, u, a =>
    if u.natAbs = 1 then decide (0 < u) else
    match t.node? u.natAbs with
    | none => false
    | some n =>
      (decide (u < 0)) ^^ (match n.kids[a n.lvl]? with
        | some k => denMF t f k a
        | none => false)

/-- denotation of an MDD reference: a Boolean function of integer assignments -/
def denM (t : MTbl) (u : Int) (a : MAsg) : Bool := denMF t (t.nvars + 1) u a

structure MWF (t : MTbl) : Prop where
  term : t.term = true
  lvl_lt : ∀ u n, t.node? u = some n → n.lvl < t.nvars
  kids_len : ∀ u n, t.node? u = some n → n.kids.length = t.arity n.lvl
  kids_mem : ∀ u n, t.node? u = some n → ∀ k ∈ n.kids, t.Mem k
  kids_lt : ∀ u n, t.node? u = some n → ∀ k ∈ n.kids, n.lvl < t.levelOf k
  ge_two : ∀ u n, t.node? u = some n → 2 ≤ u
  head_pos : ∀ u n, t.node? u = some n → ∃ k0 rest, n.kids = k0 :: rest ∧ 0 < k0
  not_const : ∀ u n, t.node? u = some n → ∃ k ∈ n.kids, ∃ k' ∈ n.kids, k ≠ k'

structure MWFU (t : MTbl) : Prop extends MWF t where
  unique : ∀ u u' n, t.node? u = some n → t.node? u' = some n → u = u'

/-- what `MWF` asks of one stored tuple -/
structure MTbl.NodeOK (t : MTbl) (n : MNd) : Prop where
  lvl : n.lvl < t.nvars
  len : n.kids.length = t.arity n.lvl
  mem : ∀ k ∈ n.kids, t.Mem k
  lt : ∀ k ∈ n.kids, n.lvl < t.levelOf k
  head : ∃ k0 rest, n.kids = k0 :: rest ∧ 0 < k0
  ncon : ∃ k ∈ n.kids, ∃ k' ∈ n.kids, k ≠ k'

theorem MWF.nodeOK {t : MTbl} (hw : MWF t) {u : Nat} {n : MNd} (hn : t.node? u = some n) : t.NodeOK n :=
  ⟨hw.lvl_lt _ _ hn, hw.kids_len _ _ hn, hw.kids_mem _ _ hn, hw.kids_lt _ _ hn, hw.head_pos _ _ hn,
   hw.not_const _ _ hn⟩

theorem MWF.of_nodeOK {t : MTbl} (ht : t.term = true)
    (h : ∀ u n, t.node? u = some n → t.NodeOK n ∧ 2 ≤ u) : MWF t :=
  ⟨ht, fun u n hn => (h u n hn).1.lvl, fun u n hn => (h u n hn).1.len, fun u n hn => (h u n hn).1.mem,
   fun u n hn => (h u n hn).1.lt, fun u n hn => (h u n hn).2, fun u n hn => (h u n hn).1.head,
   fun u n hn => (h u n hn).1.ncon⟩

theorem MTbl.NodeOK.transport {t t' : MTbl} {n : MNd} (h : t.NodeOK n) (hv : t'.vars = t.vars)
    (hk : ∀ k ∈ n.kids, t'.Mem k ∧ t'.levelOf k = t.levelOf k) : t'.NodeOK n := by
  have hn : t'.nvars = t.nvars := by unfold MTbl.nvars; rw [hv]
  have ha : t'.arity n.lvl = t.arity n.lvl := by unfold MTbl.arity MTbl.varAt?; rw [hv]
  exact ⟨by rw [hn]; exact h.lvl, by rw [ha]; exact h.len, fun k hk' => (hk k hk').1,
    fun k hk' => by rw [(hk k hk').2]; exact h.lt k hk', h.head, h.ncon⟩

theorem mabs_one {u : Int} (h : u.natAbs = 1) : u = 1 ∨ u = -1 := by omega

theorem MTbl.levelOf_le (t : MTbl) (hw : MWF t) (u : Int) : t.levelOf u ≤ t.nvars := by
  unfold MTbl.levelOf
  split
  · exact Nat.le_refl _
  · split
    · next n h => exact Nat.le_of_lt (hw.lvl_lt _ _ h)
    · exact Nat.le_refl _

theorem MTbl.levelOf_node (t : MTbl) (u : Int) (n : MNd) (h1 : u.natAbs ≠ 1)
    (hn : t.node? u.natAbs = some n) : t.levelOf u = n.lvl := by
  simp [MTbl.levelOf, h1, hn]

theorem MTbl.levelOf_term (t : MTbl) (u : Int) (h1 : u.natAbs = 1) : t.levelOf u = t.nvars := by
  simp [MTbl.levelOf, h1]

theorem MTbl.mem_of_node {t : MTbl} {u : Int} {n : MNd} (h : t.node? u.natAbs = some n) : t.Mem u :=
  Or.inr (by rw [h]; rfl)

theorem MTbl.Mem.cases {t : MTbl} {u : Int} (h : t.Mem u) :
    u.natAbs = 1 ∨ ∃ n, u.natAbs ≠ 1 ∧ t.node? u.natAbs = some n ∧ t.levelOf u = n.lvl := by
  by_cases h1 : u.natAbs = 1
  · exact Or.inl h1
  · rcases h with h | h
    · exact absurd h h1
    · obtain ⟨n, hn⟩ := Option.isSome_iff_exists.mp h
      exact Or.inr ⟨n, h1, hn, t.levelOf_node u n h1 hn⟩

theorem MTbl.levelOf_neg (t : MTbl) (u : Int) : t.levelOf (-u) = t.levelOf u := by
  unfold MTbl.levelOf; simp

theorem MTbl.mem_neg {t : MTbl} {u : Int} (h : t.Mem u) : t.Mem (-u) := by
  unfold MTbl.Mem at *; simpa using h

theorem MTbl.mem_flip {t : MTbl} {r : Int} (s : Int) (h : t.Mem r) : t.Mem (flip r s) := by
  unfold flip; split
  · exact MTbl.mem_neg h
  · exact h

theorem MTbl.mem_one (t : MTbl) : t.Mem 1 := Or.inl rfl
theorem MTbl.mem_neg_one (t : MTbl) : t.Mem (-1) := Or.inl rfl

theorem MTbl.mem_ne_zero {t : MTbl} (hw : MWF t) {u : Int} (h : t.Mem u) : u ≠ 0 := by
  intro h0; subst h0
  rcases h.cases with h | ⟨n, _, hn, _⟩
  · simp at h
  · have := hw.ge_two _ _ hn
    simp at this

theorem denMF_stable (t : MTbl) (hw : MWF t) :
    ∀ f u a, t.Mem u → t.nvars + 1 ≤ f + t.levelOf u → denMF t f u a = denMF t (f+1) u a := by
  intro f
  induction f with
  | zero =>
    intro u a hm hf
    have := t.levelOf_le hw u
    omega
  | succ f ih =>
    intro u a hm hf
    rw [denMF, denMF]
    rcases hm.cases with h1 | ⟨n, h1, hn, hl⟩
    · simp [h1]
    · simp only [h1, if_false, hn]
      cases hk : n.kids[a n.lvl]? with
      | none => rfl
      | some k =>
        have hkm := List.mem_of_getElem? hk
        have h2 := hw.kids_lt _ _ hn k hkm
        simp only
        rw [ih k a (hw.kids_mem _ _ hn k hkm) (by omega)]

theorem denMF_ge (t : MTbl) (hw : MWF t) (u : Int) (a : MAsg) (hm : t.Mem u) :
    ∀ k, denMF t (t.nvars + 1 + k) u a = denM t u a := by
  intro k
  induction k with
  | zero => rfl
  | succ k ih =>
    rw [← ih]
    exact (denMF_stable t hw (t.nvars + 1 + k) u a hm (by omega)).symm

theorem denM_node (t : MTbl) (hw : MWF t) (u : Int) (n : MNd) (a : MAsg)
    (h1 : u.natAbs ≠ 1) (hn : t.node? u.natAbs = some n) :
    denM t u a = ((decide (u < 0)) ^^ (match n.kids[a n.lvl]? with
      | some k => denM t k a
      | none => false)) := by
  have hm : t.Mem u := MTbl.mem_of_node hn
  rw [← denMF_ge t hw u a hm 1]
  show denMF t (t.nvars + 1 + 1) u a = _
  rw [denMF]
  simp only [h1, if_false, hn]
  rfl

theorem denM_one (t : MTbl) (a : MAsg) : denM t 1 a = true := by simp [denM, denMF]
theorem denM_neg_one (t : MTbl) (a : MAsg) : denM t (-1) a = false := by simp [denM, denMF]

theorem denM_neg (t : MTbl) (hw : MWF t) (u : Int) (a : MAsg) (hm : t.Mem u) :
    denM t (-u) a = !denM t u a := by
  unfold denM
  rw [denMF, denMF]
  simp only [Int.natAbs_neg]
  have hu : u ≠ 0 := t.mem_ne_zero hw hm
  rcases hm.cases with h1 | ⟨n, h1, hn, _⟩
  · rcases mabs_one h1 with h | h <;> subst h <;> simp
  · simp only [h1, if_false, hn]
    have : (decide (-u < 0)) = !(decide (u < 0)) := by
      by_cases h : u < 0 <;> simp [h] <;> omega
    rw [this]
    cases (decide (u < 0)) <;> simp

theorem denM_node_kid (t : MTbl) (hw : MWF t) (u : Int) (n : MNd) (a : MAsg) (k : Int)
    (h1 : u.natAbs ≠ 1) (hn : t.node? u.natAbs = some n) (hk : n.kids[a n.lvl]? = some k) :
    denM t u a = ((decide (u < 0)) ^^ denM t k a) := by
  rw [denM_node t hw u n a h1 hn, hk]

structure MExt (m t : MTbl) : Prop where
  vars : m.vars = t.vars
  term : m.term = t.term
  nodes : ∀ u n, m.node? u = some n → t.node? u = some n

theorem MExt.refl (m : MTbl) : MExt m m := ⟨rfl, rfl, fun _ _ h => h⟩
theorem MExt.trans {a b c : MTbl} (h1 : MExt a b) (h2 : MExt b c) : MExt a c :=
  ⟨h1.vars.trans h2.vars, h1.term.trans h2.term, fun u n h => h2.nodes u n (h1.nodes u n h)⟩

theorem MExt.nvars {m t : MTbl} (h : MExt m t) : m.nvars = t.nvars := by
  unfold MTbl.nvars; rw [h.vars]

theorem MExt.arity {m t : MTbl} (h : MExt m t) (i : Nat) : m.arity i = t.arity i := by
  unfold MTbl.arity MTbl.varAt?; rw [h.vars]

theorem MExt.valid {m t : MTbl} (h : MExt m t) (a : MAsg) : MValid m a ↔ MValid t a := by
  unfold MValid; rw [h.nvars]; simp only [h.arity]

theorem MExt.mem {m t : MTbl} (h : MExt m t) {u : Int} (hm : m.Mem u) : t.Mem u := by
  rcases hm.cases with hm | ⟨n, _, hn, _⟩
  · exact Or.inl hm
  · exact MTbl.mem_of_node (h.nodes _ _ hn)

theorem MExt.levelOf {m t : MTbl} (h : MExt m t) {u : Int} (hm : m.Mem u) :
    t.levelOf u = m.levelOf u := by
  rcases hm.cases with h1 | ⟨n, h1, hn, hl⟩
  · rw [t.levelOf_term u h1, m.levelOf_term u h1, h.nvars]
  · rw [hl, t.levelOf_node u n h1 (h.nodes _ _ hn)]

theorem denMF_ext {m t : MTbl} (h : MExt m t) (hw : MWF m) :
    ∀ f u a, m.Mem u → denMF t f u a = denMF m f u a := by
  intro f
  induction f with
  | zero => intros; rfl
  | succ f ih =>
    intro u a hm
    rw [denMF, denMF]
    rcases hm.cases with h1 | ⟨n, h1, hn, _⟩
    · simp [h1]
    · simp only [h1, if_false, hn, h.nodes _ _ hn]
      cases hk : n.kids[a n.lvl]? with
      | none => rfl
      | some k =>
        simp only
        rw [ih _ _ (hw.kids_mem _ _ hn k (List.mem_of_getElem? hk))]

theorem denM_ext {m t : MTbl} (h : MExt m t) (hw : MWF m) (u : Int) (a : MAsg) (hm : m.Mem u) :
    denM t u a = denM m u a := by
  unfold denM
  rw [← h.nvars]
  exact denMF_ext h hw _ u a hm

end DD
