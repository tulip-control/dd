/-
  DDProofs.MddTotal — `bdd_to_mdd` returns normally (and then `B2MOK` holds): none of the code's
  assertions or lookups can fail.  `assert_consistent()` needs that the unique table `_pred` has no
  stray entries (`PredNodes`); with the invariant that is "every key of `_pred` is a triple"
  (`KeysShaped`), which `collect_garbage` and `swap` preserve.
-/
import DDProofs.MddTotalLoop
import DDProofs.MddPredShape
import DDProofs.MddConvFull
open Std

namespace DD

theorem bddAssertConsistent_ok (m : Mgr) (ext : Nat → Nat) (hI : Inv m) (hR : RefExact m ext)
    (hr : ∀ r ∈ m.roots, m.tbl.Mem r) (hp : PredNodes m) :
    bddAssertConsistent m = (.ok (), m) := by
  have hW := hI.wf.toWF
  unfold bddAssertConsistent
  simp only
  split
  · next h1 =>
    exfalso
    have : (m.roots.all fun r => m.tbl.mem r) = true := by
      rw [List.all_eq_true]
      intro r hr'
      exact (Tbl.mem_iff m.tbl r).mpr (hr r hr')
    rw [this] at h1
    simp at h1
  · split
    · next h2 =>
      exfalso
      simp only [Bool.not_eq_true', List.all_eq_false] at h2
      obtain ⟨x, hx, hfx⟩ := h2
      obtain ⟨k, u⟩ := x
      have hk : m.pred[k]? = some u := TreeMap.mem_toList_iff_getElem?_eq_some.mp hx
      obtain ⟨n, hn, hkey⟩ := hp k u hk
      apply hfx
      simp only [hn]
      simpa using hkey
    · split
      · rfl
      · next h3 =>
        exfalso
        apply h3
        rw [List.all_eq_true]
        intro x hx
        obtain ⟨u, n⟩ := x
        have hn : m.tbl.node? u = some n := TreeMap.mem_toList_iff_getElem?_eq_some.mp hx
        have a1 := (Tbl.mem_iff m.tbl n.lo).mpr (hW.lo_mem _ _ hn)
        have a2 := (Tbl.mem_iff m.tbl n.hi).mpr (hW.hi_mem _ _ hn)
        have a3 : n.lo ≠ 0 := mem_ne_zero hW (hW.lo_mem _ _ hn)
        have a4 := hW.hi_pos _ _ hn
        have a5 := Tbl.levelOf?_eq m.tbl n.lo (hW.lo_mem _ _ hn)
        have a6 := Tbl.levelOf?_eq m.tbl n.hi (hW.hi_mem _ _ hn)
        have a7 := (hI.pred n u).mpr hn
        have a8 : m.ref.contains u = true := by
          rw [TreeMap.contains_eq_isSome_getElem?]
          exact (hR.dom u).mpr (Or.inr (by rw [hn]; rfl))
        simp only [a1, a2, a4, a5, a6, a7, a8, hW.lo_lt _ _ hn, hW.hi_lt _ _ hn]
        simp [a3]

theorem bddToMdd_of_prepared {dvars : List MVar} {lev : Option (List Nat)} {mb m2 : Mgr} {p : B2MPrep}
    (hprep : b2mPrepare dvars mb = (.ok p, m2)) (hac : bddAssertConsistent m2 = (.ok (), m2)) :
    bddToMdd dvars lev mb =
      match bddLevelsOrder p.tbl lev with
      | .error e => (.error e, m2)
      | .ok ord => b2mLoop p.rm p.bitToVar ord (MddMgr.new (some dvars)) [(1, 1)] m2 := by
  unfold bddToMdd
  rw [hprep]
  simp only
  rw [hac]
  rfl

theorem bddLevelsOrder_err {t : Tbl} {rec : Option (List Nat)} {e : Err}
    (h : bddLevelsOrder t rec = .error e) : e = Err.sched ∧ rec.isSome = true := by
  unfold bddLevelsOrder at h
  simp only at h
  split at h
  · cases h
  · split at h
    · cases h
    · cases h; exact ⟨rfl, rfl⟩

/-- `bdd_to_mdd`, for any instance of the swap contract: it returns normally with `B2MOK`, or with
the exception the contract allows, or — when an order of `bdd.levels()` was recorded that does not
fit — with the model's `MODEL-SCHEDULE-MISMATCH` -/
theorem bddToMdd_gen (ext : Nat → Nat) (mb : Mgr) (h : ReorderInv ext mb) (dvars : List MVar)
    (hd : DvarsFull mb.tbl dvars) (lev : Option (List Nat)) {E : Err → Prop} {P : Mgr → Prop}
    (S : SwapOK E P (ReorderRel ext))
    (hP : ∀ m, P m → ReorderInv ext m ∧ NoGarbage m)
    (hP1 : ∀ m1, collectGarbage none mb = (.ok (), m1) → ReorderInv ext m1 → NoGarbage m1 →
      m1.sched = mb.sched → P m1)
    (hpe : ∀ m, P m → PredNodes m) :
    OkOr (fun e => E e ∨ (lev.isSome = true ∧ e = Err.sched))
      (fun out mb' => B2MOK ext dvars mb out mb' ∧ P mb') (bddToMdd dvars lev mb) := by
  have G := b2mPrepare_out ext mb h dvars hd.toDvarsOK S hP hP1
  cases hprep : b2mPrepare dvars mb with
  | mk r m2 =>
    rw [hprep] at G
    cases r with
    | error e =>
      have : bddToMdd dvars lev mb = (.error e, m2) := by
        unfold bddToMdd
        rw [hprep]
      rw [this]
      exact Or.inl (G hd)
    | ok p =>
      obtain ⟨hPrep, hng, hPm2, hrm⟩ := G
      have hI2 := hPrep.inv
      have hac := bddAssertConsistent_ok m2 ext hI2.inv hI2.refExact
        (fun r hr => (Mgr.mem_iff m2 r).mp ((swapOK ext).roots m2 hI2 r hr)) (hpe m2 hPm2)
      cases hord : bddLevelsOrder p.tbl lev with
      | error e =>
        have : bddToMdd dvars lev mb = (.error e, m2) := by
          rw [bddToMdd_of_prepared hprep hac, hord]
        rw [this]
        exact Or.inr (bddLevelsOrder_err hord).symm
      | ok ord =>
        have hsorted : ord.Pairwise (fun a b => lvOf m2.tbl b ≤ lvOf m2.tbl a) := by
          have := bddLevelsOrder_sorted p.tbl lev ord hord
          rw [hPrep.tbl] at this
          exact this
        obtain ⟨out, hloop⟩ := b2mLoop_total dvars m2 hI2.inv hPrep.zone hd.len p.rm (hrm hd) ord hsorted
          (hPrep.ord_mem hord) ord [] (MddMgr.new (some dvars)) [(1, 1)] rfl MReach.init (umapOK_init dvars m2 hPrep.zone)
          (by simp) (fun x hx => by cases hx)
        have hr : bddToMdd dvars lev mb = (.ok out, m2) := by
          rw [bddToMdd_of_prepared hprep hac, hord]
          simp only
          rw [hPrep.btv]
          exact hloop
        rw [hr]
        exact ⟨hPrep.loop hord hloop, hPm2⟩

theorem DvarsFull.transfer {t t' : Tbl} {dvars : List MVar} (h : DvarsFull t dvars)
    (hn : ∀ v : String, t'.vars.contains v = t.vars.contains v) : DvarsFull t' dvars := by
  refine ⟨⟨h.levels, h.bits.trans ?_⟩, h.names, h.nonempty, h.len⟩
  rw [List.perm_ext_iff_of_nodup TreeMap.nodup_keys TreeMap.nodup_keys]
  intro a
  rw [keys_mem_iff, keys_mem_iff, hn a]

theorem swapOK_shaped {E : Err → Prop} {P : Mgr → Prop} {R : Mgr → Mgr → Prop} (S : SwapOK E P R) :
    SwapOK E (fun m => P m ∧ KeysShaped m) R :=
  S.and fun _ _ _ _ _ hk _ hrun => hk.ksm (ksm_swapBody _ _) hrun

/-- `bddToMdd_gen` when the keys of `_pred` are triples: the shape is kept by the collection and
by every swap (so the contract may carry it, `swapOK_shaped`), and with the invariant it is
`PredNodes`, what `assert_consistent()` needs -/
theorem bddToMdd_shaped (ext : Nat → Nat) (mb : Mgr) (h : ReorderInv ext mb) (hks : KeysShaped mb)
    (dvars : List MVar) (hd : DvarsFull mb.tbl dvars) (lev : Option (List Nat))
    {E : Err → Prop} {P : Mgr → Prop} (S : SwapOK E P (ReorderRel ext))
    (hP : ∀ m, P m → ReorderInv ext m ∧ NoGarbage m)
    (hP1 : ∀ m1, collectGarbage none mb = (.ok (), m1) → ReorderInv ext m1 → NoGarbage m1 →
      m1.sched = mb.sched → P m1) :
    OkOr (fun e => E e ∨ (lev.isSome = true ∧ e = Err.sched))
      (fun out mb' => B2MOK ext dvars mb out mb' ∧ P mb' ∧ KeysShaped mb') (bddToMdd dvars lev mb) :=
  bddToMdd_gen ext mb h dvars hd lev (swapOK_shaped S) (fun m hm => hP m hm.1)
    (fun m1 hgc hR hng hs1 => ⟨hP1 m1 hgc hR hng hs1, hks.ksm (ksm_collectGarbage none) hgc⟩)
    (fun m hm => hm.2.predNodes (hP m hm.1).1.inv)

/-- with no recorded schedule (the model iterates in ascending order): total -/
theorem bddToMdd_total (ext : Nat → Nat) (mb : Mgr) (h : ReorderInv ext mb) (hks : KeysShaped mb)
    (hs : mb.sched = []) (dvars : List MVar) (hd : DvarsFull mb.tbl dvars) :
    ∃ out mb', bddToMdd dvars none mb = (.ok out, mb') ∧ B2MOK ext dvars mb out mb' ∧
      KeysShaped mb' ∧ mb'.sched = [] := by
  have G := bddToMdd_shaped ext mb h hks dvars hd none (swapOKng_default ext)
    (fun m hm => ⟨hm.1.1, hm.2⟩) (fun m1 _ hR hng hs1 => ⟨⟨hR, hs1.trans hs⟩, hng⟩)
  refine Returns.elim (OkOr.mono (fun _ _ hq => ⟨hq.1, hq.2.2, hq.2.1.1.2⟩) (OkOr.monoE (E' := NoErr) ?_ G))
  rintro e (he | ⟨hc, _⟩)
  · exact he
  · cases hc

end DD
