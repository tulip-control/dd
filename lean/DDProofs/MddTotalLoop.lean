/-
  DDProofs.MddTotalLoop — the main loop of `bdd_to_mdd` returns normally: every `cofactor` call,
  every `umap[...]` lookup and every `mdd.find_or_add` succeeds.
-/
import DDProofs.MddPrep
open Std

namespace DD

/-- level of a node as `bdd.levels()` sees it -/
def lvOf (t : Tbl) (u : Nat) : Nat := ((t.succ[u]?).map (·.lvl)).getD 0

theorem lvOf_node {t : Tbl} {u : Nat} {n : Nd} (h : t.node? u = some n) : lvOf t u = n.lvl := by
  unfold lvOf
  have : t.succ[u]? = some n := h
  rw [this]; rfl

theorem pairwise_flatMap_desc (lv : Nat → Nat) (g : Nat → List Nat) (hg : ∀ j x, x ∈ g j → lv x = j) :
    ∀ n, ((List.range n).reverse.flatMap g).Pairwise (fun a b => lv b ≤ lv a) := by
  intro n
  induction n with
  | zero => simp
  | succ n ih =>
    rw [List.range_succ, List.reverse_append, List.reverse_singleton, List.singleton_append,
      List.flatMap_cons, List.pairwise_append]
    refine ⟨?_, ih, ?_⟩
    · rw [List.pairwise_iff_forall_sublist]
      intro a b hab
      have ha := hab.subset (List.mem_cons_self)
      have hb := hab.subset (List.mem_cons_of_mem _ List.mem_cons_self)
      rw [hg n a ha, hg n b hb]
      exact Nat.le_refl _
    · intro a ha b hb
      rw [List.mem_flatMap] at hb
      obtain ⟨j, hj, hbj⟩ := hb
      rw [List.mem_reverse, List.mem_range] at hj
      rw [hg n a ha, hg j b hbj]
      omega

theorem bddLevelsOrder_sorted (t : Tbl) (rec : Option (List Nat)) (ord : List Nat)
    (h : bddLevelsOrder t rec = .ok ord) : ord.Pairwise (fun a b => lvOf t b ≤ lvOf t a) := by
  unfold bddLevelsOrder at h
  simp only at h
  split at h
  · cases h
    apply pairwise_flatMap_desc (lvOf t) (nodesAt t)
    intro j x hx
    obtain ⟨n, hn, hl⟩ := (mem_nodesAt t j x).mp hx
    rw [lvOf_node hn]; exact hl
  · next l =>
    split at h
    · next hc =>
      cases h
      simp only [Bool.and_eq_true, beq_iff_eq] at hc
      obtain ⟨_, hs⟩ := hc
      rw [← hs]
      apply pairwise_flatMap_desc (lvOf t) (fun j => ord.filter fun u => decide (lvOf t u = j))
      intro j x hx
      rw [List.mem_filter] at hx
      simpa using hx.2
    · cases h

theorem mem_pre_of_sorted (lv : Nat → Nat) (pre : List Nat) (u : Nat) (rest : List Nat)
    (hs : (pre ++ u :: rest).Pairwise (fun a b => lv b ≤ lv a)) (x : Nat)
    (hx : x ∈ pre ++ u :: rest) (hl : lv u < lv x) : x ∈ pre := by
  rw [List.pairwise_append] at hs
  obtain ⟨_, h2, _⟩ := hs
  rw [List.pairwise_cons] at h2
  rcases List.mem_append.mp hx with h | h
  · exact h
  · rcases List.mem_cons.mp h with rfl | h
    · omega
    · have := h2.1 x h; omega

theorem cofVals_lookup_zone {dvars : List MVar} {t : Tbl} (hz : ZoneOK dvars t) (d : MVar)
    (hd : d ∈ dvars) (i ℓ : Nat) (h : ((cofVals t d.bits i).lookup ℓ).isSome = true) :
    zoneLevel dvars t ℓ = d.level := by
  obtain ⟨b, hb⟩ := Option.isSome_iff_exists.mp h
  have hm := lookup_some_mem ℓ b _ hb
  unfold cofVals at hm
  rw [List.mem_reverse, List.mem_map] at hm
  obtain ⟨p, hp, hpe⟩ := hm
  simp only [Prod.mk.injEq] at hpe
  obtain ⟨k, _, hbk, _⟩ := mem_enumBits hp
  have hpb : p.1 ∈ d.bits := List.mem_of_getElem? hbk
  obtain ⟨lp, hlp⟩ := (vars_contains_iff t p.1).mp (hz.decl d hd p.1 hpb)
  have : lp = ℓ := by rw [← hpe.1, lvlOf_eq hlp]
  subst this
  exact hz.zoneLevel_of_mem hd hpb hlp

theorem varAt_of_mem {dvars : List MVar} (hinj : ∀ d ∈ dvars, ∀ d' ∈ dvars, d.level = d'.level → d = d')
    (t : MTbl) (hv : t.vars = dvars) (d : MVar) (hd : d ∈ dvars) : t.varAt? d.level = some d := by
  unfold MTbl.varAt?
  rw [hv]
  have hs : (dvars.reverse.find? fun v => v.level == d.level).isSome = true := by
    rw [List.find?_isSome]
    exact ⟨d, List.mem_reverse.mpr hd, by simp⟩
  obtain ⟨d', hd'⟩ := Option.isSome_iff_exists.mp hs
  have h1 := List.find?_some hd'
  have h2 := List.mem_reverse.mp (List.mem_of_find?_eq_some hd')
  have : d' = d := hinj d' h2 d hd (by simpa using h1)
  rw [hd', this]

theorem b2mLoop_total (dvars : List MVar) (m2 : Mgr) (hI : Inv m2) (hz : ZoneOK dvars m2.tbl)
    (hlen : ∀ d ∈ dvars, d.len = 2 ^ d.bits.length)
    (rm : List Nat) (hrm : RmOK dvars m2.tbl rm) (ord0 : List Nat)
    (hsorted : ord0.Pairwise (fun a b => lvOf m2.tbl b ≤ lvOf m2.tbl a))
    (hall : ∀ u, u ∈ ord0 ↔ (m2.tbl.node? u).isSome = true) :
    ∀ (ord pre : List Nat) (mdd : MddMgr) (umap : List (Nat × Int)), ord0 = pre ++ ord →
      MReach dvars mdd (fun _ => 0) →
      UmapOK (semB dvars m2.tbl) (zoneOfNode dvars m2) mdd umap →
      (umap.lookup 1).isSome = true →
      (∀ x, x ∈ pre → rm.contains x = false → (umap.lookup x).isSome = true) →
      ∃ out, b2mLoop rm (b2mBitToVar dvars) ord mdd umap m2 = (.ok out, m2) := by
  have hW := hI.wf.toWF
  intro ord
  -- `pre` is the part of `bdd.levels()` already visited: every node of it that is not left out is a
  -- key of `umap`.  A cofactor of the next node `u` lies in a later zone, hence at a deeper level,
  -- hence (the order is by descending level) in `pre`; and it is not left out, since `u`'s zone
  -- holds a predecessor of it: so every `umap[...]` lookup of the step succeeds.
  induction ord with
  | nil => intro pre mdd umap _ _ _ _ _; exact ⟨⟨mdd, umap⟩, rfl⟩
  | cons u rest ih =>
    intro pre mdd umap hsplit hR hU h1 hkeys
    obtain ⟨hM, _, hvars⟩ := hR.inv
    have hsplit' : ord0 = (pre ++ [u]) ++ rest := by rw [hsplit]; simp
    unfold b2mLoop
    by_cases hrmu : rm.contains u = true
    · rw [if_pos hrmu]
      apply ih (pre ++ [u]) mdd umap hsplit' hR hU h1
      intro x hx hxr
      rcases List.mem_append.mp hx with hx | hx
      · exact hkeys x hx hxr
      · simp at hx; subst hx; rw [hrmu] at hxr; cases hxr
    · rw [if_neg hrmu]
      have hun : (m2.tbl.node? u).isSome = true := (hall u).mp (by rw [hsplit]; simp)
      obtain ⟨n, hn⟩ := Option.isSome_iff_exists.mp hun
      have hu2 : 2 ≤ u := hW.ge_two _ _ hn
      -- every cofactor is a key of `umap`
      have hck : ∀ d ∈ dvars, zoneLevel dvars m2.tbl n.lvl = d.level → ∀ i x,
          PathEntry (cofVals m2.tbl d.bits i) m2.tbl (u : Int) x →
          ∃ r, umap.lookup x.natAbs = some r := by
        intro d hdm hzu0 i x hpe
        obtain ⟨hx0, hL, _⟩ := pathEntry_side hI hz d hdm u n hn hzu0 i x hpe
        apply Option.isSome_iff_exists.mp
        by_cases hx1 : x.natAbs = 1
        · rw [hx1]; exact h1
        · have hxm := hpe.ent.mr
          rcases hxm with hxm | hxm
          · exact absurd hxm hx1
          · obtain ⟨nx, hnx⟩ := Option.isSome_iff_exists.mp hxm
            -- the cofactor lies in a later zone, hence at a larger level
            have hLx : d.level < zoneLevel dvars m2.tbl nx.lvl := by
              have : zoneOfNode dvars m2 x.natAbs = zoneLevel dvars m2.tbl nx.lvl := by
                unfold zoneOfNode
                have hna : ((x.natAbs : Nat) : Int).natAbs ≠ 1 := by simpa using hx1
                rw [levelOf_node m2.tbl ((x.natAbs : Nat) : Int) nx hna (by simpa using hnx)]
              rw [← this]; exact hL
            have hlvgt : n.lvl < nx.lvl := by
              refine Nat.lt_of_not_le fun hc => ?_
              have := hz.mono nx.lvl n.lvl hc (hW.lvl_lt _ _ hn)
              omega
            apply hkeys
            · apply mem_pre_of_sorted (lvOf m2.tbl) pre u rest (by rw [← hsplit]; exact hsorted)
              · rw [← hsplit]; exact (hall _).mpr hxm
              · rw [lvOf_node hn, lvOf_node hnx]; exact hlvgt
            · -- not left out: it has a predecessor in the zone of `d`
              cases hc : rm.contains x.natAbs with
              | false => rfl
              | true =>
                exfalso
                have hmem : x.natAbs ∈ rm := by simpa using hc
                rcases hpe.par with hp | ⟨k, nk, hk1, hk2, _, hk4⟩
                · simp only [Int.natAbs_natCast] at hp
                  rw [hp, hn] at hnx
                  cases hnx
                  omega
                · have hzk := cofVals_lookup_zone hz d hdm i nk.lvl hk2
                  have := hrm x.natAbs hmem nx hnx k nk hk1 hk4
                  omega
      obtain ⟨var, hvm, hzu0, hcase⟩ := b2mIntSucc_out dvars u umap m2 hI hz n hn
      obtain ⟨succs, hside, hslen, hsall⟩ : ∃ succs,
          b2mIntSucc (b2mBitToVar dvars) u umap m2 = (.ok (var, succs), m2) ∧
          succs.length = 2 ^ var.bits.length ∧
          ∀ (i : Nat) (k : Int), succs[i]? = some k →
            ∃ (x r : Int), umap.lookup x.natAbs = some r ∧ k = (if x > 0 then r else -r) ∧
              PathEntry (cofVals m2.tbl var.bits i) m2.tbl (u : Int) x := by
        rcases hcase with h | ⟨_, i, x, hx, hnone⟩
        · exact h
        · obtain ⟨r, hr⟩ := hck var hvm hzu0 i x hx
          rw [hr] at hnone; cases hnone
      rw [hside]
      simp only
      obtain ⟨_, hB⟩ := b2mIntSucc_bddSide dvars u umap m2 var succs m2 hI hz hun hside
      -- `find_or_add` succeeds
      have hvl : var.level < mdd.tbl.nvars := by
        unfold MTbl.nvars; rw [hvars]; exact hz.lvl var hvm
      have hsm : ∀ k ∈ succs, mdd.tbl.Mem k := by
        intro k hk
        obtain ⟨i, hi, hki⟩ := List.getElem_of_mem hk
        obtain ⟨x, r, hl, hkr, _⟩ := hsall i k (by rw [List.getElem?_eq_getElem hi, hki])
        have hmr := (hU.ok _ _ hl).1
        rw [hkr]
        split
        · exact hmr
        · exact MTbl.mem_neg hmr
      have hsne : succs ≠ [] := by
        intro e
        rw [e] at hslen
        have : 0 < 2 ^ var.bits.length := Nat.two_pow_pos _
        simp at hslen
        omega
      have hargs : FoaArgs mdd var.level succs := by
        refine ⟨hvl, ?_, hsne, hsm⟩
        simp only [MTbl.arity, varAt_of_mem hz.inj mdd.tbl hvars var hvm]
        rw [hslen, hlen var hvm]
      obtain ⟨r, mdd1, hfoa, _⟩ := (mFindOrAddCore_total mdd hM var.level succs hargs).total hR.sched_nil
      have hfoa' : mFindOrAdd (var.level : Int) succs mdd = (.ok r, mdd1) := by
        rw [mFindOrAdd_nonneg (Int.natCast_nonneg _), Int.toNat_natCast]
        exact hfoa
      rw [hfoa']
      simp only
      obtain ⟨_, _, hU1, hreach⟩ := umap_step (semB dvars m2.tbl) (zoneOfNode dvars m2)
        (fun x α hx => semB_neg dvars m2.tbl x α hx) mdd umap hM hU u var succs hB r mdd1 hfoa'
      apply ih (pre ++ [u]) mdd1 _ hsplit' (hreach _ _ hR) hU1
      · rw [lookup_cons_filter]
        have : ¬ (1 = u) := by omega
        simp only [this, if_false]
        exact h1
      · intro x hx hxr
        rw [lookup_cons_filter]
        by_cases hxu : x = u
        · simp [hxu]
        · simp only [hxu, if_false]
          rcases List.mem_append.mp hx with hx | hx
          · exact hkeys x hx hxr
          · simp at hx; exact absurd hx hxu

end DD
