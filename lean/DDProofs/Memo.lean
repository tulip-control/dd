/-
  DDProofs.Memo — the first step the memo-table recursions (`_cofactor`, `_quantify`, `_compose`,
  `_vector_compose`, `_copy_bdd`, `_image`) share: a reference that is not a terminal is opened
  into its node, with everything `WF` says of that node in one structure (`IsNode`, `node_open`).
  What they share about the memo itself is DDProofs.MemoTable.
-/
import DDProofs.Agree
open Std

namespace DD

/-- `u` refers (possibly complemented) to the node `n` of `t`: what `WF` says of the node -/
structure IsNode (t : Tbl) (u : Int) (n : Nd) : Prop where
  get : t.succ[u.natAbs]? = some n
  nz : ¬ (n.lo = 0 ∨ n.hi = 0)
  lvl : t.levelOf u = n.lvl
  lt : n.lvl < t.nvars
  lom : t.Mem n.lo
  him : t.Mem n.hi
  lo : n.lvl < t.levelOf n.lo
  hi : n.lvl < t.levelOf n.hi

theorem node_open {t : Tbl} (hw : WF t) {u : Int} (hu : t.Mem u) (h1 : u.natAbs ≠ 1) :
    ∃ n, IsNode t u n := by
  obtain ⟨n, hn⟩ := mem_node hu h1
  exact ⟨n, hn, node_succ_ne_zero hw hn, levelOf_node t u n h1 hn, hw.lvl_lt _ _ hn,
    hw.lo_mem _ _ hn, hw.hi_mem _ _ hn, hw.lo_lt _ _ hn, hw.hi_lt _ _ hn⟩

end DD
