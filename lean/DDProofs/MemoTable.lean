/-
  DDProofs.MemoTable — a memo kept in a `HashMap` all of whose entries satisfy a property `P` of
  (key, value): the empty memo is one, and so is the memo after storing an entry that satisfies `P`.
-/
import Std.Data.HashMap.Lemmas
open Std

namespace DD

theorem memo_empty {κ ρ} [BEq κ] [Hashable κ] {P : κ → ρ → Prop} (k : κ) (r : ρ)
    (h : ({} : HashMap κ ρ)[k]? = some r) : P k r := by
  simp at h

theorem memo_insert {κ ρ} [BEq κ] [Hashable κ] [LawfulBEq κ] {P : κ → ρ → Prop} {c : HashMap κ ρ}
    (h : ∀ k r, c[k]? = some r → P k r) {k0 : κ} {r0 : ρ} (h0 : P k0 r0) (k : κ) (r : ρ)
    (hc : (c.insert k0 r0)[k]? = some r) : P k r := by
  rw [HashMap.getElem?_insert] at hc
  split at hc
  · next heq =>
    cases hc
    exact eq_of_beq heq ▸ h0
  · exact h k r hc

end DD
