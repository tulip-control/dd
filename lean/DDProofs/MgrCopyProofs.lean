/-
  DDProofs.MgrCopyProofs — `copy.copy(bdd)` (`BDD.__copy__`): the copy of a good manager is a good
  manager of its own, with the same nodes, order, counts and ledger, an empty computed table and
  dynamic reordering not enabled.
-/
import DD.MgrCopy
import DDProofs.Reach
import DDProofs.PickleDump
open Std

namespace DD

theorem copyValidOrdering_of_orderOK {t : Tbl} (h : OrderOK t) : copyValidOrdering t = true := by
  -- the same test as the constructor's in `_load_manager`, on the manager's own pairs
  have e : copyValidOrdering t = validOrdering t.vars.toList := by
    unfold copyValidOrdering validOrdering
    rw [TreeMap.length_toList]
  rw [e]
  exact validOrdering_toList t h.toDmp

theorem mgrCopy_ok {m b : Mgr} (h : mgrCopy m = .ok b) :
    b = { tbl := m.tbl, pred := m.pred, ref := m.ref, minFree := m.minFree, roots := m.roots } := by
  unfold mgrCopy at h
  split at h <;> cases h
  rfl

/-- C02 / C11, `copy.copy(bdd)` of a manager in a good state: returns normally; the copy has the
SAME node table, variable order, unique table, counts, `_min_free` and roots; its computed table
is empty, reordering is not enabled, no context is open; it is itself in a good state for the same
ledger (every reference the user holds on the original is a valid, equally counted reference of
the copy), and every reference denotes in the copy what it denotes in the original. -/
theorem mgrCopy_spec (m : Mgr) (ext : Nat → Nat) (hI : Inv m) (hO : OrderOK m.tbl)
    (hR : RefExact m ext) :
    ∃ b, mgrCopy m = .ok b ∧ b.tbl = m.tbl ∧ b.pred = m.pred ∧ b.ref = m.ref ∧
      b.minFree = m.minFree ∧ b.roots = m.roots ∧ b.cache.isEmpty = true ∧
      GoodState b ext ∧ ∀ u a, den b.tbl u a = den m.tbl u a := by
  refine ⟨{ tbl := m.tbl, pred := m.pred, ref := m.ref, minFree := m.minFree, roots := m.roots },
    ?_, rfl, rfl, rfl, rfl, rfl, rfl, ?_, fun _ _ => rfl⟩
  · unfold mgrCopy
    rw [copyValidOrdering_of_orderOK hO]
    rfl
  · refine ⟨⟨hI.wf, hI.pred, hI.freeGe, hI.free, hI.refOne, hI.refDom, ?_⟩, hO,
      ⟨hR.dom, hR.cnt, hR.extZero⟩, rfl, rfl⟩
    intro g u v w h
    have : (∅ : TreeMap (List Int) Int)[iteKey g u v]? = some w := h
    simp at this

/-- on a manager whose levels are not exactly `0 .. n-1`, `copy.copy(bdd)` raises
`AssertionError` (the constructor's check); no manager is created -/
theorem mgrCopy_refuses (m : Mgr) (h : copyValidOrdering m.tbl = false) :
    mgrCopy m = .error .assertion := by
  unfold mgrCopy; simp [h]

end DD
