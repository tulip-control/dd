/-
  DDProofs.MonadM — stepping lemmas for the model monad `M` (state persists on error), and the
  outcome predicates of a run with their rules for `>>=`: `OkOr`, `Ends`, `OkOrSched`, `Returns`.
-/
import DD.Core
open Std

namespace DD

universe u

theorem M.bind_eq {α β} (x : M α) (f : α → M β) (m : Mgr) :
    (x >>= f) m = match x m with
      | (.ok a, m') => f a m'
      | (.error e, m') => (.error e, m') := rfl

theorem M.bind_ok {α β} {x : M α} {f : α → M β} {m m1 : Mgr} {a : α} (h : x m = (.ok a, m1)) :
    (x >>= f) m = f a m1 := by rw [M.bind_eq, h]

theorem M.bind_err {α β} {x : M α} {f : α → M β} {m m1 : Mgr} {e : Err} (h : x m = (.error e, m1)) :
    (x >>= f) m = (.error e, m1) := by rw [M.bind_eq, h]

theorem eq_of_fst_error {α} {res : Except Err α × Mgr} {e : Err} (h : res.1 = .error e) :
    res = (.error e, res.2) := by
  obtain ⟨r, m⟩ := res
  simp only at h
  rw [h]

/-- the exception raised, if any -/
def raisedErr {α} : Except Err α → Option Err
  | .error e => some e
  | .ok _ => none

theorem eq_error_of_raisedErr {α} {r : Except Err α} {e : Err} (h : raisedErr r = some e) :
    r = .error e := by
  cases r with
  | ok _ => cases h
  | error _ => cases h; rfl

theorem M.bind'_error {α β} {x : M α} {k : α → M β} {m : Mgr} {e : Err}
    (h : (x m).1 = .error e) : (M.bind' x k m).1 = .error e := by
  unfold M.bind'
  rw [eq_of_fst_error h]

theorem M.pure_eq {α} (a : α) (m : Mgr) : (pure a : M α) m = (.ok a, m) := rfl
theorem M.get_eq (m : Mgr) : M.get m = (.ok m, m) := rfl
theorem M.set_eq (m' m : Mgr) : M.set m' m = (.ok (), m') := rfl
theorem M.modify_eq (f : Mgr → Mgr) (m : Mgr) : M.modify f m = (.ok (), f m) := rfl
theorem M.throw_eq {α} (e : Err) (m : Mgr) : (M.throw e : M α) m = (.error e, m) := rfl
theorem M.assert_true (e : Err) (m : Mgr) : M.assert true e m = (.ok (), m) := rfl
theorem M.assert_false (e : Err) (m : Mgr) : M.assert false e m = (.error e, m) := rfl
theorem M.ofOption_some {α} (e : Err) (a : α) (m : Mgr) : M.ofOption e (some a) m = (.ok a, m) := rfl
theorem M.ofOption_none {α} (e : Err) (m : Mgr) : (M.ofOption e none : M α) m = (.error e, m) := rfl

theorem liftE_eq {α : Type} (x : Except Err α) (m : Mgr) : liftE x m = (x, m) := by
  cases x <;> rfl

theorem bind_liftE_state {α β : Type} (x : M α) (g : α → Except Err β) (m : Mgr) :
    ((x >>= fun a => liftE (g a)) m).2 = (x m).2 := by
  rw [M.bind_eq]
  generalize x m = out
  obtain ⟨r, m1⟩ := out
  cases r with
  | error e => rfl
  | ok a => exact congrArg Prod.snd (liftE_eq (g a) m1)

theorem M.get_bind {β : Type} (f : Mgr → M β) (m : Mgr) : (M.get >>= f) m = f m m := rfl

theorem M.ite_run {α : Type} {c : Prop} [Decidable c] {x y : M α} {m : Mgr}
    {a b : Except Err α × Mgr} (hx : c → a = x m) (hy : ¬ c → b = y m) :
    (if c then a else b) = (if c then x else y) m := by
  split
  · next h => exact hx h
  · next h => exact hy h

theorem M.bind_ok_inv {α β} {x : M α} {f : α → M β} {m m' : Mgr} {b : β}
    (h : (x >>= f) m = (.ok b, m')) : ∃ a m1, x m = (.ok a, m1) ∧ f a m1 = (.ok b, m') := by
  rw [M.bind_eq] at h
  generalize x m = r at h
  obtain ⟨r, m1⟩ := r
  cases r with
  | ok a => exact ⟨a, m1, rfl, h⟩
  | error e => cases h

theorem M.assert_ok_inv {b : Bool} {e : Err} {m m' : Mgr} {u : Unit}
    (h : M.assert b e m = (.ok u, m')) : b = true ∧ m = m' := by
  cases b with
  | true => cases h; exact ⟨rfl, rfl⟩
  | false => cases h

theorem M.ofOption_ok_inv {α} {e : Err} {o : Option α} {m m' : Mgr} {a : α}
    (h : M.ofOption e o m = (.ok a, m')) : o = some a ∧ m = m' := by
  cases o with
  | some x => cases h; exact ⟨rfl, rfl⟩
  | none => cases h

theorem M.get_ok_inv {m m' a : Mgr} (h : M.get m = (.ok a, m')) : m = a ∧ m = m' := by
  cases h; exact ⟨rfl, rfl⟩

/-- an outcome that is either a success satisfying `Q` or an exception satisfying `E` -/
def OkOr {α} (E : Err → Prop) (Q : α → Mgr → Prop) : Except Err α × Mgr → Prop
  | (.ok a, m') => Q a m'
  | (.error e, _) => E e

/-- the only exception allowed: the model's schedule-mismatch report -/
abbrev SchedErr : Err → Prop := fun e => e = Err.sched
abbrev NoErr : Err → Prop := fun _ => False

/-- an outcome: a returned value and the state satisfy `Q`, a raised error and the state `R`.
The outcome predicates written as this two-case match (`OkOr`, `KS`, `KeepG`, `OkOrKey`,
`OutcomeX`, `Outcome`, `OutcomeE`) are `Ends` by `rfl`, and the three rules below apply to them
as they stand.
(It is defined after `OkOr` so that the two share `OkOr`'s matcher.) -/
def Ends {α : Type u} (Q : α → Mgr → Prop) (R : Err → Mgr → Prop) : Except Err α × Mgr → Prop
  | (.ok a, m) => Q a m
  | (.error e, m) => R e m

/-- case analysis on an outcome, also under a `match` of the model that scrutinises it -/
@[elab_as_elim]
theorem Ends.elim {α : Type u} {Q : α → Mgr → Prop} {R : Err → Mgr → Prop}
    {motive : Except Err α × Mgr → Prop} {r : Except Err α × Mgr} (h : Ends Q R r)
    (ok : ∀ a m, Q a m → motive (.ok a, m)) (err : ∀ e m, R e m → motive (.error e, m)) :
    motive r := by
  obtain ⟨r, m⟩ := r
  cases r with
  | ok a => exact ok a m h
  | error e => exact err e m h

theorem Ends.imp {α : Type u} {Q Q' : α → Mgr → Prop} {R R' : Err → Mgr → Prop}
    {r : Except Err α × Mgr} (h : Ends Q R r) (hq : ∀ a m, Q a m → Q' a m)
    (hr : ∀ e m, R e m → R' e m) : Ends Q' R' r :=
  h.elim (fun a m q => hq a m q) fun e m q => hr e m q

/-- sequencing: an error of the first part is the error of the whole; the second part may use
what the first returned and the run that returned it -/
theorem Ends.bind {α β : Type} {x : M α} {f : α → M β} {m : Mgr} {Q : α → Mgr → Prop}
    {Q' : β → Mgr → Prop} {R : Err → Mgr → Prop} (hx : Ends Q R (x m))
    (hf : ∀ a m1, x m = (.ok a, m1) → Q a m1 → Ends Q' R (f a m1)) : Ends Q' R ((x >>= f) m) := by
  rw [M.bind_eq]
  generalize hxm : x m = r at hx
  exact hx.elim (motive := fun r => x m = r → Ends Q' R (match r with
    | (.ok a, m') => f a m' | (.error e, m') => (.error e, m'))) (fun a m1 h e => hf a m1 e h)
    (fun _ _ h _ => h) hxm

theorem OkOr.mono {α} {E : Err → Prop} {Q Q' : α → Mgr → Prop} (h : ∀ a m, Q a m → Q' a m)
    {r : Except Err α × Mgr} (hr : OkOr E Q r) : OkOr E Q' r := Ends.imp hr h fun _ _ he => he

theorem OkOr.monoE {α} {E E' : Err → Prop} {Q : α → Mgr → Prop} (h : ∀ e, E e → E' e)
    {r : Except Err α × Mgr} (hr : OkOr E Q r) : OkOr E' Q r :=
  Ends.imp hr (fun _ _ hq => hq) fun e _ he => h e he

theorem OkOr.bind {α β} {E : Err → Prop} {x : M α} {f : α → M β} {m : Mgr} {Q : α → Mgr → Prop}
    {Q' : β → Mgr → Prop} (hx : OkOr E Q (x m))
    (hf : ∀ a m1, Q a m1 → OkOr E Q' (f a m1)) : OkOr E Q' ((x >>= f) m) :=
  Ends.bind hx fun a m1 _ => hf a m1

/-- an outcome that is either a success satisfying `Q` or the model's report that the recorded
iteration schedule does not fit (`MODEL-SCHEDULE-MISMATCH`, not a behaviour of the code) -/
abbrev OkOrSched {α} (Q : α → Mgr → Prop) : Except Err α × Mgr → Prop :=
  OkOr (fun e => e = Err.sched) Q

theorem OkOrSched.mono {α} {Q Q' : α → Mgr → Prop} (h : ∀ a m, Q a m → Q' a m)
    {r : Except Err α × Mgr} (hr : OkOrSched Q r) : OkOrSched Q' r := OkOr.mono h hr

/-! "the call returns, and then `Q`", chained along `>>=` -/

abbrev Returns {α : Type} (Q : α → Mgr → Prop) (out : Except Err α × Mgr) : Prop :=
  OkOr (fun _ => False) Q out

theorem Returns.elim {α} {Q : α → Mgr → Prop} {r : Except Err α × Mgr} (h : Returns Q r) :
    ∃ a m', r = (.ok a, m') ∧ Q a m' :=
  Ends.elim h (fun a m q => ⟨a, m, rfl, q⟩) fun _ _ q => q.elim

theorem Returns.pure {α : Type} {Q : α → Mgr → Prop} {a : α} {m : Mgr} (h : Q a m) :
    Returns Q ((pure a : M α) m) := h

theorem Returns.bind {α β : Type} {x : M α} {f : α → M β} {m : Mgr} {Q : α → Mgr → Prop}
    {Q' : β → Mgr → Prop} (hx : Returns Q (x m))
    (hf : ∀ a m1, x m = (.ok a, m1) → Q a m1 → Returns Q' (f a m1)) : Returns Q' ((x >>= f) m) :=
  Ends.bind hx hf

theorem Returns.mono {α : Type} {Q Q' : α → Mgr → Prop} {out : Except Err α × Mgr}
    (h : ∀ a m, Q a m → Q' a m) (hx : Returns Q out) : Returns Q' out := OkOr.mono h hx

end DD
