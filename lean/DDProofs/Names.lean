/-
  DDProofs.Names — semantics by variable NAME.

  `den` reads an assignment of *levels*.  Reordering exchanges the variables of two
  adjacent levels, so what a reference denotes has to be stated over assignments of
  *names*: `denN t u a = den t u (a ∘ l2v)`.  A table whose level-denotation is the old one
  composed with the transposition has the SAME name-denotation once `vars` and `_level_to_var`
  are exchanged as `swap` does (`denN_of_den_swp`).
-/
import DDProofs.VarsProofs
import DDProofs.SatPick
import DDProofs.Transposition
import DDProofs.Agree
open Std

namespace DD

theorem OrderOK.dom {t : Tbl} (h : OrderOK t) (i : Nat) : (t.l2v[i]?).isSome ↔ i < t.nvars := by
  constructor
  · intro hs
    obtain ⟨v, hv⟩ := Option.isSome_iff_exists.mp hs
    exact h.lt v i ((h.inv v i).mpr hv)
  · intro hi
    obtain ⟨v, hv⟩ := h.total i hi
    rw [hv]; rfl

theorem OrderOK.name_at {t : Tbl} (h : OrderOK t) {i : Nat} (hi : i < t.nvars) :
    ∃ v, t.l2v[i]? = some v ∧ t.vars[v]? = some i := by
  obtain ⟨v, hv⟩ := h.total i hi
  exact ⟨v, hv, (h.inv v i).mpr hv⟩

theorem OrderOK.vars_nameOf {t : Tbl} (h : OrderOK t) {i : Nat} (hi : i < t.nvars) :
    t.vars[t.nameOf i]? = some i := by
  obtain ⟨v, hv, hv'⟩ := h.name_at hi
  simp only [Tbl.nameOf, hv, Option.getD_some]; exact hv'

theorem OrderOK.vars_inj {t : Tbl} (h : OrderOK t) {v v' : String} {i : Nat}
    (h1 : t.vars[v]? = some i) (h2 : t.vars[v']? = some i) : v = v' := by
  have a := (h.inv v i).mp h1
  have b := (h.inv v' i).mp h2
  rw [a] at b; exact Option.some.inj b

theorem OrderOK.l2v_inj {t : Tbl} (h : OrderOK t) {v : String} {i j : Nat}
    (h1 : t.l2v[i]? = some v) (h2 : t.l2v[j]? = some v) : i = j := by
  have a := (h.inv v i).mpr h1
  have b := (h.inv v j).mpr h2
  rw [a] at b; exact Option.some.inj b

theorem OrderOK.toVarsOK {t : Tbl} (h : OrderOK t) : VarsOK t := by
  refine ⟨h.total, ?_⟩
  intro i j hi hj he
  obtain ⟨vi, hvi⟩ := h.total i hi
  obtain ⟨vj, hvj⟩ := h.total j hj
  simp only [Tbl.nameOf, hvi, hvj, Option.getD_some] at he
  subst he
  exact h.l2v_inj hvi hvj

theorem denN_eq (t : Tbl) (u : Int) (a : String → Bool) : denN t u a = den t u (t.lift a) := rfl

theorem denN_congr {t t' : Tbl} (hs : t'.succ = t.succ) (hl : t'.l2v = t.l2v)
    (hn : t'.nvars = t.nvars) (u : Int) (a : String → Bool) : denN t' u a = denN t u a := by
  unfold denN den Tbl.lift Tbl.nameOf
  rw [hl, hn]
  exact denF_succ_eq hs _ _ _

theorem denN_of_vars_kept {t t' : Tbl} (hW : WF t) (hO : OrderOK t) (hO' : OrderOK t')
    (hv : ∀ (v : String) (i : Nat), t.vars[v]? = some i → t'.vars[v]? = some i) {u : Int}
    (hu : t.Mem u) (hd : ∀ a, den t' u a = den t u a) (σ : AsgN) : denN t' u σ = denN t u σ := by
  unfold denN
  rw [hd]
  apply den_agree_ge t hW u hu
  intro i _ hi
  unfold Tbl.lift Tbl.nameOf
  obtain ⟨v, hv'⟩ := hO.total i hi
  rw [hv', (hO'.inv v i).mp (hv v i ((hO.inv v i).mpr hv'))]

/-- what `swap` does to `vars` and `_level_to_var` (after its comment "swap x and y in `vars`"):
`vars[vx] = y; vars[vy] = x; l2v[y] = vx; l2v[x] = vy` where `vx`, `vy` are the names at `x`, `y` -/
def exchangeVars (t : Tbl) (x y : Nat) (vx vy : String) : Tbl :=
  { t with
    vars := (t.vars.insert vx y).insert vy x
    l2v := (t.l2v.insert y vx).insert x vy }

theorem exchangeVars_succ (t : Tbl) (x y : Nat) (vx vy : String) :
    (exchangeVars t x y vx vy).succ = t.succ := rfl

theorem exchangeVars_node? (t : Tbl) (x y : Nat) (vx vy : String) (u : Nat) :
    (exchangeVars t x y vx vy).node? u = t.node? u := rfl

theorem exchangeVars_l2v (t : Tbl) (x y : Nat) (vx vy : String) (hxy : x ≠ y)
    (hx : t.l2v[x]? = some vx) (hy : t.l2v[y]? = some vy) (i : Nat) :
    (exchangeVars t x y vx vy).l2v[i]? = t.l2v[swp x y i]? := by
  show ((t.l2v.insert y vx).insert x vy)[i]? = _
  rw [TreeMap.getElem?_insert, TreeMap.getElem?_insert]
  by_cases h1 : i = x
  · subst h1; simp [hy]
  · have h1' : ¬ x = i := fun h => h1 h.symm
    by_cases h2 : i = y
    · subst h2; simp [h1', hx]
    · have h2' : ¬ y = i := fun h => h2 h.symm
      simp [h1', h2', swp_other h1 h2]

theorem exchangeVars_vars (t : Tbl) (h : OrderOK t) (x y : Nat) (vx vy : String) (hxy : x ≠ y)
    (hx : t.l2v[x]? = some vx) (hy : t.l2v[y]? = some vy) (v : String) :
    (exchangeVars t x y vx vy).vars[v]? = (t.vars[v]?).map (swp x y) := by
  show ((t.vars.insert vx y).insert vy x)[v]? = _
  have hvx := (h.inv vx x).mpr hx
  have hvy := (h.inv vy y).mpr hy
  have hne : vx ≠ vy := by
    intro he; subst he
    exact hxy (h.l2v_inj hx hy)
  rw [TreeMap.getElem?_insert, TreeMap.getElem?_insert]
  by_cases h1 : v = vy
  · subst h1; simp [hvy]
  · have h1' : ¬ vy = v := fun h => h1 h.symm
    by_cases h2 : v = vx
    · subst h2; simp [h1', hvx]
    · have h2' : ¬ vx = v := fun h => h2 h.symm
      simp only [compare_eq_iff_eq, h1', h2', if_false]
      cases hv : t.vars[v]? with
      | none => rfl
      | some i =>
        have hi := (h.inv v i).mp hv
        have hix : i ≠ x := by
          intro he; subst he; rw [hx] at hi; exact h2 (Option.some.inj hi).symm
        have hiy : i ≠ y := by
          intro he; subst he; rw [hy] at hi; exact h1 (Option.some.inj hi).symm
        simp [swp_other hix hiy]

theorem exchangeVars_nvars (t : Tbl) (h : OrderOK t) (x y : Nat) (vx vy : String)
    (hx : t.l2v[x]? = some vx) (hy : t.l2v[y]? = some vy) :
    (exchangeVars t x y vx vy).nvars = t.nvars := by
  show ((t.vars.insert vx y).insert vy x).size = t.vars.size
  have hvx := (h.inv vx x).mpr hx
  have hvy := (h.inv vy y).mpr hy
  have c1 : t.vars.contains vx = true := by
    rw [TreeMap.contains_eq_isSome_getElem?, hvx]; rfl
  have c2 : (t.vars.insert vx y).contains vy = true := by
    rw [TreeMap.contains_insert]
    have : t.vars.contains vy = true := by
      rw [TreeMap.contains_eq_isSome_getElem?, hvy]; rfl
    simp [this]
  rw [TreeMap.size_insert, TreeMap.size_insert]
  simp [c1, c2]

theorem OrderOK.exchange {t : Tbl} (h : OrderOK t) (x y : Nat) (vx vy : String) (hxy : x ≠ y)
    (hx : t.l2v[x]? = some vx) (hy : t.l2v[y]? = some vy) :
    OrderOK (exchangeVars t x y vx vy) := by
  have hxn : x < t.nvars := (h.dom x).mp (by rw [hx]; rfl)
  have hyn : y < t.nvars := (h.dom y).mp (by rw [hy]; rfl)
  have hdom : ∀ i, ((exchangeVars t x y vx vy).l2v[i]?).isSome ↔ i < (exchangeVars t x y vx vy).nvars := by
    intro i
    rw [exchangeVars_l2v t x y vx vy hxy hx hy, exchangeVars_nvars t h x y vx vy hx hy, h.dom,
      swp_lt hxn hyn]
  have hinv : ∀ (v : String) (i : Nat), (exchangeVars t x y vx vy).vars[v]? = some i ↔
      (exchangeVars t x y vx vy).l2v[i]? = some v := by
    intro v i
    rw [exchangeVars_vars t h x y vx vy hxy hx hy, exchangeVars_l2v t x y vx vy hxy hx hy]
    rw [← h.inv v (swp x y i)]
    cases hv : t.vars[v]? with
    | none => simp
    | some j =>
      simp only [Option.map_some, Option.some.injEq]
      constructor
      · intro e; rw [← e]; simp
      · intro e; rw [e]; simp
  refine ⟨hinv, ?_, ?_⟩
  · intro v i hv
    exact (hdom i).mp (by rw [(hinv v i).mp hv]; rfl)
  · intro i hi
    exact Option.isSome_iff_exists.mp ((hdom i).mpr hi)

theorem exchangeVars_names (t : Tbl) (x y : Nat) (vx vy : String) (hxy : x ≠ y)
    (hx : t.l2v[x]? = some vx) (hy : t.l2v[y]? = some vy) :
    (exchangeVars t x y vx vy).l2v[x]? = some vy ∧ (exchangeVars t x y vx vy).l2v[y]? = some vx ∧
    ∀ i, i ≠ x → i ≠ y → (exchangeVars t x y vx vy).l2v[i]? = t.l2v[i]? := by
  refine ⟨?_, ?_, ?_⟩
  · rw [exchangeVars_l2v t x y vx vy hxy hx hy, swp_left, hy]
  · rw [exchangeVars_l2v t x y vx vy hxy hx hy, swp_right, hx]
  · intro i h1 h2
    rw [exchangeVars_l2v t x y vx vy hxy hx hy, swp_other h1 h2]

theorem lift_exchangeVars (t : Tbl) (x y : Nat) (vx vy : String) (hxy : x ≠ y)
    (hx : t.l2v[x]? = some vx) (hy : t.l2v[y]? = some vy) (a : String → Bool) :
    (exchangeVars t x y vx vy).lift a = (t.lift a).swp x y := by
  funext i
  simp only [Tbl.lift, Tbl.nameOf, Asg.swp]
  rw [exchangeVars_l2v t x y vx vy hxy hx hy]

theorem denN_of_den_swp (t t' : Tbl) (x y : Nat) (vx vy : String) (hxy : x ≠ y)
    (hx : t.l2v[x]? = some vx) (hy : t.l2v[y]? = some vy)
    (hl : t'.l2v = (exchangeVars t x y vx vy).l2v)
    (u : Int) (hd : ∀ b : Asg, den t' u (b.swp x y) = den t u b) (a : String → Bool) :
    denN t' u a = denN t u a := by
  rw [denN_eq, denN_eq, ← hd (t.lift a)]
  congr 1
  have := lift_exchangeVars t x y vx vy hxy hx hy a
  rw [← this]
  unfold Tbl.lift Tbl.nameOf
  rw [hl]

end DD
