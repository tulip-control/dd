/-
  DDProofs.NatMap — what the proofs need of `Std.TreeMap` beyond the library: a lookup after
  `insert` or `erase` as an `if` on equality of the keys (any lawful order), two maps inverse to each
  other, membership after `insert` (natural-number keys), sizes, and the keys that a fold selects.
-/
import Std.Data.TreeMap.Lemmas
open Std

namespace DD

theorem getElem?_insert_eq {α β : Type} [Ord α] [TransOrd α] [LawfulEqOrd α] [DecidableEq α]
    (t : TreeMap α β) (k : α) (v : β) (a : α) : (t.insert k v)[a]? = if k = a then some v else t[a]? := by
  simp [TreeMap.getElem?_insert]

theorem getElem?_erase_eq {α β : Type} [Ord α] [TransOrd α] [LawfulEqOrd α] [DecidableEq α]
    (t : TreeMap α β) (k a : α) : (t.erase k)[a]? = if k = a then none else t[a]? := by
  simp [TreeMap.getElem?_erase]

theorem getElem?_insert_ne {α β : Type} [Ord α] [TransOrd α] [LawfulEqOrd α] (t : TreeMap α β)
    (j i : α) (b : β) (h : i ≠ j) : (t.insert j b)[i]? = t[i]? := by
  rw [TreeMap.getElem?_insert, if_neg fun e => h (compare_eq_iff_eq.mp e).symm]

theorem getElem?_erase_ne {α β : Type} [Ord α] [TransOrd α] [LawfulEqOrd α] (t : TreeMap α β)
    (j i : α) (h : i ≠ j) : (t.erase j)[i]? = t[i]? := by
  rw [TreeMap.getElem?_erase, if_neg fun e => h (compare_eq_iff_eq.mp e).symm]

theorem contains_false_of_none {β : Type} {t : TreeMap Nat β} {j : Nat} (h : t[j]? = none) :
    t.contains j = false := by
  rw [TreeMap.contains_eq_isSome_getElem?, h]; rfl

theorem ne_of_some_none {α β : Type} [Ord α] {t : TreeMap α β} {x y : α} {v : β} (hx : t[x]? = some v)
    (hy : t[y]? = none) : x ≠ y := fun h => by rw [h, hy] at hx; cases hx

theorem getElem?_insert_of_ne_none {α β : Type} [Ord α] [TransOrd α] [LawfulEqOrd α]
    {V : TreeMap α β} {v w : α} {l i : β} (hv : V[v]? = none) (hw : V[w]? = some i) :
    (V.insert v l)[w]? = some i :=
  (getElem?_insert_ne V v w l (ne_of_some_none hw hv)).trans hw

theorem inverse_insert {α β : Type} [Ord α] [TransOrd α] [LawfulEqOrd α] [DecidableEq α]
    [Ord β] [TransOrd β] [LawfulEqOrd β] [DecidableEq β] {V : TreeMap α β} {L : TreeMap β α}
    (h : ∀ (w : α) (i : β), V[w]? = some i ↔ L[i]? = some w) {v : α} {l : β}
    (hv : V[v]? = none) (hl : L[l]? = none) (w : α) (i : β) :
    (V.insert v l)[w]? = some i ↔ (L.insert l v)[i]? = some w := by
  rw [getElem?_insert_eq, getElem?_insert_eq]
  by_cases h1 : v = w <;> by_cases h2 : l = i
  · subst h1 h2; simp
  · subst h1
    rw [if_pos rfl, if_neg h2]
    exact ⟨fun he => absurd (Option.some.inj he) h2,
      fun he => absurd ((h v i).mpr he) (by rw [hv]; nofun)⟩
  · subst h2
    rw [if_pos rfl, if_neg h1]
    exact ⟨fun he => absurd ((h w l).mp he) (by rw [hl]; nofun),
      fun he => absurd (Option.some.inj he) h1⟩
  · rw [if_neg h1, if_neg h2]
    exact h w i

theorem natmap_contains_insert {β : Type} (m : TreeMap Nat β) (k : Nat) (v : β) (a : Nat) :
    (m.insert k v).contains a = true ↔ k = a ∨ m.contains a = true := by
  simp [TreeMap.contains_insert]

theorem contains_insert_mono {β} (t : TreeMap Nat β) (k a : Nat) (v : β)
    (h : t.contains a = true) : (t.insert k v).contains a = true := by
  simp [TreeMap.contains_insert, h]

theorem natmap_contains_update {β : Type} (m : TreeMap Nat β) (k : Nat) (c v : β)
    (h : m[k]? = some c) (a : Nat) : (m.insert k v).contains a = m.contains a := by
  rw [TreeMap.contains_insert]
  by_cases hk : k = a
  · subst hk
    rw [TreeMap.contains_eq_isSome_getElem?, h]; simp
  · simp [hk]

theorem size_insert_new {α β : Type} [Ord α] [TransOrd α] (t : TreeMap α β) (k : α) (v : β)
    (h : t[k]? = none) : (t.insert k v).size = t.size + 1 := by
  rw [TreeMap.size_insert]
  have : ¬ k ∈ t := fun hc => by rw [TreeMap.mem_iff_isSome_getElem?, h] at hc; cases hc
  simp [this]

theorem ofList_toList_getElem? {α β : Type} [Ord α] [TransOrd α] [LawfulEqOrd α] [BEq α] [LawfulBEqOrd α]
    (t : TreeMap α β) (k : α) : (TreeMap.ofList t.toList)[k]? = t[k]? := by
  cases h : t[k]? with
  | some v =>
    have hm : (k, v) ∈ t.toList := TreeMap.mem_toList_iff_getElem?_eq_some.mpr h
    exact TreeMap.getElem?_ofList_of_mem (k := k) compare_self TreeMap.distinct_keys_toList hm
  | none =>
    apply TreeMap.getElem?_ofList_of_contains_eq_false
    rw [Bool.eq_false_iff]
    intro hc
    rw [List.contains_iff_mem, List.mem_map] at hc
    obtain ⟨⟨k', v⟩, hkv, hk⟩ := hc
    simp at hk
    subst hk
    rw [TreeMap.mem_toList_iff_getElem?_eq_some] at hkv
    rw [h] at hkv
    cases hkv

theorem size_eq_of_keys {κ β : Type} [Ord κ] [TransOrd κ] [LawfulEqOrd κ] (t : TreeMap κ β)
    (names : List κ) (hnd : names.Nodup) (h : ∀ v : κ, t.contains v = true ↔ v ∈ names) :
    t.size = names.length := by
  rw [← TreeMap.length_keys]
  apply List.Perm.length_eq
  rw [List.perm_ext_iff_of_nodup TreeMap.nodup_keys hnd]
  intro a
  rw [TreeMap.mem_keys, ← TreeMap.contains_iff_mem]
  exact h a

theorem foldl_select_keys {κ β : Type} [Ord κ] [TransOrd κ] (t : TreeMap κ β) (q : κ → β → Prop)
    [∀ k v, Decidable (q k v)] :
    t.foldl (fun acc k v => if q k v then acc ++ [k] else acc) [] =
      (t.toList.filter fun p => decide (q p.1 p.2)).map (·.1) := by
  have : ∀ (l : List (κ × β)) (acc : List κ),
      l.foldl (fun acc p => if q p.1 p.2 then acc ++ [p.1] else acc) acc =
        acc ++ (l.filter fun p => decide (q p.1 p.2)).map (·.1) := by
    intro l
    induction l with
    | nil => intro acc; simp
    | cons p rest ih =>
      intro acc
      simp only [List.foldl_cons, ih]
      by_cases h : q p.1 p.2 <;> simp [h]
  rw [TreeMap.foldl_eq_foldl_toList, this, List.nil_append]

theorem nodup_select_keys {κ β : Type} [Ord κ] [TransOrd κ] (t : TreeMap κ β) (q : κ × β → Bool) :
    ((t.toList.filter q).map (·.1)).Nodup :=
  (List.filter_sublist.map _).nodup (TreeMap.map_fst_toList_eq_keys ▸ TreeMap.nodup_keys)
end DD
