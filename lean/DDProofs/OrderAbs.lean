/-
  DDProofs.OrderAbs — the argument validation of `swap` (a call refused there or by the length test
  of `reorder` changes nothing: `swap_given_bad_levels`, …), the ABSTRACT contract of one adjacent
  swap (`SwapOK`), and `_sort_to_order` proved against it.  The contract: the call succeeds (or
  reports a schedule mismatch of the model), keeps a state predicate `P`, establishes a transitive
  relation `R` with the state before (e.g. "every held reference still denotes the same
  function"), and exchanges exactly the names at levels `i`, `i+1`.  It is discharged at the node
  level in DDProofs.SwapFull / DDProofs.SwapDrivers; `_shift`, `reorder_to_pairs` and sifting are
  proved against it in DDProofs.ShiftAbs and DDProofs.SiftTotal.  The bubble sort is argued on the
  sequence of requested ranks along the levels, with no manager in sight: each pass puts one more
  position in place.
-/
import DDProofs.Names
import DDProofs.SwapSeq
open Std

namespace DD

/-- what `swap` does once its two arguments are resolved to the levels `x`, `y`: validate them, then
run `body` on the lower of the two and the next (`swap`, and `swapL` of DD.OrderLevels, are this
with their own body) -/
def swapTail {α} (body : Nat → Nat → M α) (x y : Int) : M α := do
  let m ← M.get
  if !(0 ≤ x && x < m.nvars) then M.throw .value else
  if !(0 ≤ y && y < m.nvars) then M.throw .value else
  let lo := if x > y then y else x
  let hi := if x > y then x else y
  if lo ≥ hi then M.throw .value else
  if hi - lo ≠ 1 then M.throw .value else
  body lo.toNat hi.toNat

theorem swap_given_tail (xa ya : VarOrLevel) :
    swap xa ya true = (resolveVL xa >>= fun x => resolveVL ya >>= fun y => swapTail swapBody x y) :=
  rfl

/-- two adjacent valid levels, in either order: the body runs on them -/
theorem swapTail_adj {α} (body : Nat → Nat → M α) (m : Mgr) (i : Nat) (hi : i + 1 < m.nvars)
    {x y : Int} (h : (x = i ∧ y = i + 1) ∨ (x = i + 1 ∧ y = i)) :
    swapTail body x y m = body i (i + 1) m := by
  have hn : (m.nvars : Int) = (m.tbl.nvars : Nat) := rfl
  unfold swapTail
  rw [M.bind_ok (M.get_eq m)]
  rcases h with ⟨rfl, rfl⟩ | ⟨rfl, rfl⟩
  · rw [if_neg (by simp; omega), if_neg (by simp; omega)]
    simp only [show ¬ ((i : Int) > i + 1) by omega, if_false]
    rw [if_neg (by omega), if_neg (by omega)]
    congr 1 <;> omega
  · rw [if_neg (by simp; omega), if_neg (by simp; omega)]
    simp only [show ((i : Int) + 1 > i) by omega, if_true]
    rw [if_neg (by omega), if_neg (by omega)]
    congr 1 <;> omega

/-- anything else: `ValueError`, nothing changes -/
theorem swapTail_bad {α} (body : Nat → Nat → M α) (m : Mgr) (x y : Int)
    (h : ¬ (0 ≤ x ∧ x < m.nvars ∧ 0 ≤ y ∧ y < m.nvars ∧ (y - x = 1 ∨ x - y = 1))) :
    swapTail body x y m = (.error .value, m) := by
  unfold swapTail
  rw [M.bind_ok (M.get_eq m)]
  by_cases h1 : 0 ≤ x ∧ x < m.nvars
  · by_cases h2 : 0 ≤ y ∧ y < m.nvars
    · rw [if_neg (by simp [h1]), if_neg (by simp [h2])]
      by_cases h3 : x > y
      · simp only [h3, if_true]
        by_cases h4 : y ≥ x
        · rw [if_pos h4]; rfl
        · rw [if_neg h4, if_pos (by omega)]; rfl
      · simp only [h3, if_false]
        by_cases h4 : x ≥ y
        · rw [if_pos h4]; rfl
        · rw [if_neg h4, if_pos (by omega)]; rfl
    · rw [if_neg (by simp [h1]), if_pos (by simp; omega)]; rfl
  · rw [if_pos (by simp; omega)]; rfl

/-- which of the two it is depends on the state only through the number of variables -/
theorem swapTail_cases (n : Nat) (x y : Int) :
    (∀ {α} (body : Nat → Nat → M α) (m : Mgr), m.nvars = n → swapTail body x y m = (.error .value, m)) ∨
    ∃ i, i + 1 < n ∧ ∀ {α} (body : Nat → Nat → M α) (m : Mgr), m.nvars = n →
      swapTail body x y m = body i (i + 1) m := by
  by_cases hadj : 0 ≤ x ∧ x < n ∧ 0 ≤ y ∧ y < n ∧ (y - x = 1 ∨ x - y = 1)
  · have hi : (min x y).toNat + 1 < n := by omega
    exact Or.inr ⟨_, hi, fun body m hm => swapTail_adj body m _ (hm ▸ hi) (by omega)⟩
  · exact Or.inl fun body m hm => swapTail_bad body m x y (hm ▸ hadj)

/-! `swap` / `reorder` with bad arguments (C17, "bad order"): the arguments are validated before
anything is touched.  With the levels given (`all_levels`, as the drivers call it) a refused `swap`
changes nothing; the public `swap(x, y)` first runs the full collection and then validates, so the
state after its refusal is the state after `collect_garbage()`. -/

/-- `swap(x, y, levels)` with levels that are not two adjacent valid levels: `ValueError`,
nothing changes -/
theorem swap_given_bad_levels (m : Mgr) (x y : Int)
    (hbad : ¬ (0 ≤ x ∧ x < m.nvars ∧ 0 ≤ y ∧ y < m.nvars ∧ (y - x = 1 ∨ x - y = 1))) :
    swap (.level x) (.level y) true m = (.error .value, m) :=
  swapTail_bad swapBody m x y hbad

/-- `reorder(bdd, order)` with an order that does not list every variable: `ValueError`,
nothing changes -/
theorem reorder_bad_length (m : Mgr) (order : List (String × Int)) (h : m.nvars ≠ order.length) :
    reorder (some order) m = (.error .value, m) := by
  unfold reorder sortToOrder
  simp [M.bind_eq, M.get_eq, h, M.throw]

theorem swap_unknown_name (m : Mgr) (s : String) (ya : VarOrLevel) (h : m.tbl.vars[s]? = none) :
    swap (.name s) ya true m = (.error .value, m) := by
  unfold swap
  simp [resolveVL, M.bind_eq, M.get_eq, h, M.ofOption, M.throw]

/-- the argument denotes the level `i` (a declared name at that level, or the number itself) -/
def Resolves (m : Mgr) (a : VarOrLevel) (i : Nat) : Prop :=
  match a with
  | .name s => m.tbl.vars[s]? = some i
  | .level j => j = (i : Int)

theorem Resolves.congr {m m' : Mgr} {a : VarOrLevel} {i : Nat} (h : Resolves m a i)
    (hv : m'.tbl.vars = m.tbl.vars) : Resolves m' a i := by
  cases a with
  | name s => show m'.tbl.vars[s]? = some i; rw [hv]; exact h
  | level j => exact h

theorem resolveVL_ok {m : Mgr} {a : VarOrLevel} {i : Nat} (h : Resolves m a i) :
    resolveVL a m = (.ok (i : Int), m) := by
  unfold resolveVL
  rw [M.bind_ok (M.get_eq m)]
  cases a with
  | name s =>
    have h' : m.tbl.vars[s]? = some i := h
    simp only [h', M.ofOption_some, M.bind_eq, M.pure_eq]
  | level j =>
    have h' : j = (i : Int) := h
    subst h'; rfl

theorem swap_eq_body (m : Mgr) (xa ya : VarOrLevel) (x a b : Nat) (hx : x + 1 < m.nvars)
    (ha : Resolves m xa a) (hb : Resolves m ya b) (hab : (a = x ∧ b = x + 1) ∨ (a = x + 1 ∧ b = x)) :
    swap xa ya true m = swapBody x (x + 1) m := by
  rw [swap_given_tail, M.bind_ok (resolveVL_ok ha), M.bind_ok (resolveVL_ok hb)]
  exact swapTail_adj swapBody m x hx (by omega)

theorem swap_levels_eq (m : Mgr) (i : Nat) (hi : i + 1 < m.nvars) :
    swap (.level i) (.level ((i : Int) + 1)) true m = swapBody i (i + 1) m :=
  swap_eq_body m _ _ i i (i + 1) hi rfl (show (i : Int) + 1 = ((i + 1 : Nat) : Int) by omega)
    (Or.inl ⟨rfl, rfl⟩)

/-- without `all_levels` the call first runs a full collection -/
theorem swap_public_eq (xa ya : VarOrLevel) (m : Mgr) :
    swap xa ya false m = (collectGarbage none >>= fun _ => swap xa ya true) m := by
  unfold swap
  simp only [Bool.not_false, if_true, Bool.not_true, Bool.false_eq_true, if_false]

/-- the names at levels `i`, `i+1` are exchanged, every other level keeps its name -/
structure Exch (m m' : Mgr) (i : Nat) : Prop where
  l2v : ∀ j, m'.tbl.l2v[j]? = m.tbl.l2v[swp i (i + 1) j]?
  nvars : m'.nvars = m.nvars
  roots : m'.roots = m.roots

/-- what the drivers need to know about a swap of adjacent levels -/
structure SwapOK (E : Err → Prop) (P : Mgr → Prop) (R : Mgr → Mgr → Prop) : Prop where
  refl : ∀ m, R m m
  trans : ∀ a b c, R a b → R b c → R a c
  vars : ∀ m, P m → OrderOK m.tbl
  /-- every element of `bdd.roots` is a node (they are held) -/
  roots : ∀ m, P m → ∀ r ∈ m.roots, m.mem r = true
  step : ∀ m i, P m → i + 1 < m.nvars →
    OkOr E (fun r m' => P m' ∧ R m m' ∧ Exch m m' i ∧ r = (m.len, m'.len)) (swapBody i (i + 1) m)

/-- as many variables, the same roots, and the name at level `j` is the one that was at `f j` -/
def MovedBy (m : Mgr) (f : Nat → Nat) (m' : Mgr) : Prop :=
  m'.nvars = m.nvars ∧ m'.roots = m.roots ∧ ∀ j, m'.tbl.l2v[j]? = m.tbl.l2v[f j]?

theorem Exch.moved {m m' : Mgr} {i : Nat} (h : Exch m m' i) : MovedBy m (swp i (i + 1)) m' :=
  ⟨h.nvars, h.roots, h.l2v⟩

theorem MovedBy.trans {a b c : Mgr} {f g : Nat → Nat} (h1 : MovedBy a f b) (h2 : MovedBy b g c) :
    MovedBy a (f ∘ g) c :=
  ⟨h2.1.trans h1.1, h2.2.1.trans h1.2.1, fun j => (h2.2.2 j).trans (h1.2.2 (g j))⟩

/-- the names are permuted -/
def PermOf (m m' : Mgr) : Prop :=
  ∃ f g : Nat → Nat, (∀ a, f (g a) = a) ∧ (∀ a, g (f a) = a) ∧ MovedBy m f m'

theorem PermOf.nvars {m m' : Mgr} (h : PermOf m m') : m'.nvars = m.nvars := by
  obtain ⟨_, _, _, _, h, _⟩ := h; exact h

theorem PermOf.refl (m : Mgr) : PermOf m m :=
  ⟨id, id, fun _ => rfl, fun _ => rfl, rfl, rfl, fun _ => rfl⟩

theorem PermOf.trans {a b c : Mgr} (h1 : PermOf a b) (h2 : PermOf b c) : PermOf a c := by
  obtain ⟨f1, g1, a1, b1, d1⟩ := h1
  obtain ⟨f2, g2, a2, b2, d2⟩ := h2
  refine ⟨f1 ∘ f2, g2 ∘ g1, fun x => ?_, fun x => ?_, d1.trans d2⟩
  · simp [Function.comp, a2, a1]
  · simp [Function.comp, b1, b2]

theorem Exch.permOf {m m' : Mgr} {i : Nat} (h : Exch m m' i) : PermOf m m' :=
  ⟨swp i (i + 1), swp i (i + 1), swp_swp i (i + 1), swp_swp i (i + 1), h.moved⟩

section Abs
variable {E : Err → Prop} {P : Mgr → Prop} {R : Mgr → Mgr → Prop}

/-- the contract is closed under adding a property that a swap which returns keeps -/
theorem SwapOK.and (S : SwapOK E P R) {Q : Mgr → Prop}
    (hQ : ∀ m i r m', P m → Q m → i + 1 < m.nvars → swapBody i (i + 1) m = (.ok r, m') → Q m') :
    SwapOK E (fun m => P m ∧ Q m) R := by
  refine ⟨S.refl, S.trans, fun m h => S.vars m h.1, fun m h => S.roots m h.1, fun m i h hi => ?_⟩
  have hs := S.step m i h.1 hi
  rcases hrun : swapBody i (i + 1) m with ⟨_ | r, m'⟩ <;> rw [hrun] at hs
  · exact hs
  · exact ⟨⟨hs.1, hQ m i r m' h.1 h.2 hi hrun⟩, hs.2⟩

/-- if `x` returns, `P` holds again, the end state is `R`-related to the start state and has as
many variables; nothing is said of a run that raises.  The contract is an argument only so that
`S.Keeps x` can be written. -/
def SwapOK.Keeps (_ : SwapOK E P R) {α : Type} (x : M α) : Prop :=
  ∀ m, P m → OkOr (fun _ => True) (fun _ m' => P m' ∧ R m m' ∧ m'.nvars = m.nvars) (x m)

theorem SwapOK.keeps_seqClosed (S : SwapOK E P R) : SeqClosed (@SwapOK.Keeps E P R S) where
  pure := fun _ m hP => ⟨hP, S.refl m, rfl⟩
  throw := fun _ _ _ _ _ => trivial
  get := fun hf _ m hP => hf m m hP
  bind := fun hx hf m hP => OkOr.bind (hx m hP) fun a m1 ⟨hP1, hR1, hn1⟩ =>
    OkOr.mono (fun _ _ ⟨hP2, hR2, hn2⟩ => ⟨hP2, S.trans _ _ _ hR1 hR2, hn2.trans hn1⟩) (hf a m1 hP1)

/-- `swap(x, y, levels)` with ANY arguments: they are refused, or denote two adjacent levels -/
theorem SwapOK.keeps_swap (S : SwapOK E P R) (xa ya : VarOrLevel) : S.Keeps (swap xa ya true) := by
  refine S.keeps_seqClosed.bind (resolveVL_seq S.keeps_seqClosed xa) fun x =>
    S.keeps_seqClosed.bind (resolveVL_seq S.keeps_seqClosed ya) fun y m hP => ?_
  show OkOr _ _ (swapTail swapBody x y m)
  rcases swapTail_cases m.nvars x y with h | ⟨i, hi, h⟩
  · rw [h _ m rfl]; trivial
  · rw [h _ m rfl]
    exact ((S.step m i hP hi).monoE fun _ _ => trivial).mono fun _ _ h => ⟨h.1, h.2.1, h.2.2.1.nvars⟩

/-- where the variables are after the names have moved: `level_of_var` follows `_level_to_var` -/
theorem moved_vars {m m' : Mgr} (hO : OrderOK m.tbl) (hO' : OrderOK m'.tbl) {f g : Nat → Nat}
    (hfg : ∀ a, f (g a) = a) (h : MovedBy m f m') {v : String} {i : Nat}
    (hv : m.tbl.vars[v]? = some i) : m'.tbl.vars[v]? = some (g i) := by
  apply (hO'.inv v (g i)).mpr
  rw [h.2.2, hfg]
  exact (hO.inv v i).mp hv

theorem varAtLevel_ok (m : Mgr) (i : Nat) (v : String) (h : m.tbl.l2v[i]? = some v) :
    varAtLevel (i : Int) m = (.ok v, m) := by
  unfold varAtLevel
  have : ¬ ((i : Int) < 0) := by omega
  simp only [M.bind_eq, M.get_eq, this, if_false, Int.toNat_natCast, h, M.ofOption_some]

/-- `var_at_level`, by which `image` / `preimage` name a level in a warning, does not touch the
manager and never raises the reordering signal -/
theorem varAtLevel_read (i : Int) (m : Mgr) :
    (varAtLevel i m).2 = m ∧ (varAtLevel i m).1 ≠ .error .needsReordering := by
  unfold varAtLevel
  simp only [bind, M.bind', M.get]
  split
  · exact ⟨rfl, by simp [M.throw]⟩
  · unfold M.ofOption
    cases m.tbl.l2v[i.toNat]? with
    | none => exact ⟨rfl, by simp [M.throw]⟩
    | some v => exact ⟨rfl, by simp [pure, M.pure']⟩

theorem levelOfVar_ok (m : Mgr) (v : String) (i : Nat) (h : m.tbl.vars[v]? = some i) :
    levelOfVar v m = (.ok i, m) := by
  unfold levelOfVar
  simp only [M.bind_eq, M.get_eq, h, M.ofOption_some]

theorem checkRootsL_ok (m : Mgr) : ∀ (l : List Int) (m1 : Mgr), (∀ r ∈ l, m.mem r = true) →
    checkRootsL m l m1 = (.ok (), m1) := by
  intro l
  induction l with
  | nil => intros; rfl
  | cons r rest ih =>
    intro m1 h
    unfold checkRootsL
    have hr := h r (List.mem_cons_self)
    simp only [hr, Bool.not_true, Bool.false_eq_true, if_false]
    exact ih m1 (fun r' hr' => h r' (List.mem_cons_of_mem _ hr'))

theorem checkRoots_ok (m : Mgr) (h : ∀ r ∈ m.roots, m.mem r = true) : checkRoots m = (.ok (), m) := by
  unfold checkRoots
  simp only [M.bind_eq, M.get_eq]
  exact checkRootsL_ok m m.roots m h

/-- one comparison at `j`: exchange the two entries when out of order -/
def stepKeys (s : Nat → Int) (j : Nat) : Nat → Int :=
  if s j > s (j + 1) then fun a => s (swp j (j + 1) a) else s

/-- entries at positions `≥ c` dominate everything before them -/
def TailSorted (n c : Nat) (s : Nat → Int) : Prop := ∀ a b, a < b → c ≤ b → b < n → s a ≤ s b

/-- a comparison never disturbs the part that is in place: an exchange at `j`, `j+1` happens
below the cut, where it only permutes what the entries from the cut on dominate -/
theorem TailSorted.step {n c : Nat} {s : Nat → Int} (h : TailSorted n c s) {j : Nat} (hj : j + 1 < n) :
    TailSorted n c (stepKeys s j) := by
  unfold stepKeys
  split
  · next hgt =>
    have hjc : j + 1 < c := Classical.byContradiction fun hcon => by
      have := h j (j + 1) (by omega) (by omega) hj
      omega
    intro a b hab hcb hbn
    show s (swp j (j + 1) a) ≤ s (swp j (j + 1) b)
    rw [swp_other (by omega) (by omega : b ≠ j + 1)]
    apply h _ b _ hcb hbn
    unfold swp; split
    · omega
    · split <;> omega
  · exact h

/-- the maximum of the prefix travels with the comparisons -/
theorem stepKeys_max {s : Nat → Int} {j : Nat} (h : ∀ a, a < j → s a ≤ s j) :
    ∀ a, a < j + 1 → stepKeys s j a ≤ stepKeys s j (j + 1) := by
  intro a ha
  unfold stepKeys
  split
  · next hgt =>
    show s (swp j (j + 1) a) ≤ s (swp j (j + 1) (j + 1))
    rw [swp_right]
    by_cases haj : a = j
    · subst haj; rw [swp_left]; omega
    · rw [swp_other haj (by omega)]; exact h a (by omega)
  · next hle =>
    by_cases haj : a = j
    · subst haj; omega
    · have := h a (by omega); omega

/-- once the maximum of the prefix sits just below the cut, the cut moves down -/
theorem TailSorted.pred {n c : Nat} {s : Nat → Int} (h : TailSorted n c s)
    (hm : ∀ a, a < c - 1 → s a ≤ s (c - 1)) : TailSorted n (c - 1) s := by
  intro a b hab hcb hbn
  by_cases hb : b = c - 1
  · subst hb; exact hm a hab
  · exact h a b hab (by omega) hbn

/-- the comparisons at `j, j+1, …` of one pass, started with the maximum of the prefix at `j`:
the cut moves down by one.  The last hypothesis is the goal once the comparisons have reached the
cut (`c ≤ j + 1`): the comparison at `c - 2` establishes it (`TailSorted.pred`), the later ones,
all inside the sorted part, keep it (`TailSorted.step`). -/
theorem inner_pass (n c : Nat) : ∀ (len j : Nat) (s : Nat → Int),
    j + len = n - 1 → 1 ≤ n → TailSorted n c s → (∀ a, a < j → s a ≤ s j) →
    (c ≤ j + 1 → TailSorted n (c - 1) s) →
    TailSorted n (c - 1) ((List.range' j len).foldl stepKeys s) := by
  intro len
  induction len with
  | zero =>
    intro j s hj _ _ _ h3
    by_cases hc : c ≤ j + 1
    · exact h3 hc
    · intro a b _ hcb hbn; omega
  | succ len ih =>
    intro j s hj hn h1 h2 h3
    simp only [List.range'_succ, List.foldl_cons]
    refine ih (j + 1) (stepKeys s j) (by omega) hn (h1.step (by omega)) (stepKeys_max h2) fun hcj => ?_
    by_cases hc1 : c ≤ j + 1
    · exact (h3 hc1).step (by omega)
    · obtain rfl : c = j + 2 := by omega
      exact (h1.step (by omega)).pred (stepKeys_max h2)

/-- `k` passes over `s`, in the order in which `_sort_to_order` runs them -/
def passes (n : Nat) : Nat → (Nat → Int) → Nat → Int
  | 0, s => s
  | k + 1, s => passes n k ((List.range (n - 1)).foldl stepKeys s)

/-- `k` passes put the last `k` positions in place -/
theorem outer_passes (n : Nat) (hn : 1 ≤ n) : ∀ (k c : Nat) (s : Nat → Int),
    TailSorted n c s → TailSorted n (c - k) (passes n k s) := by
  intro k
  induction k with
  | zero => intro c s h; exact h
  | succ k ih =>
    intro c s h
    have h1 := inner_pass n c (n - 1) 0 s (by omega) hn h (fun a ha => by omega)
      (fun hc => h.pred (fun a ha => by omega))
    rw [← List.range_eq_range'] at h1
    have := ih (c - 1) _ h1
    rwa [Nat.sub_sub, Nat.add_comm] at this

/-- a sorted injective sequence of `n` ranks in `0..n-1` is the identity -/
theorem sorted_perm_id (n : Nat) (s : Nat → Int)
    (hs : ∀ a b, a < b → b < n → s a ≤ s b)
    (hinj : ∀ a b, a < n → b < n → s a = s b → a = b)
    (hr : ∀ a, a < n → 0 ≤ s a ∧ s a < n) : ∀ a, a < n → s a = a := by
  have hstrict : ∀ a b, a < b → b < n → s a < s b := by
    intro a b hab hb
    have h1 := hs a b hab hb
    have h2 : s a ≠ s b := fun e => by have := hinj a b (by omega) hb e; omega
    omega
  have lower : ∀ a, a < n → (a : Int) ≤ s a := by
    intro a
    induction a with
    | zero => intro h; exact (hr 0 h).1
    | succ a ih =>
      intro h
      have := ih (by omega)
      have := hstrict a (a + 1) (by omega) h
      omega
  have upper : ∀ d a, a + d + 1 = n → s a ≤ a := by
    intro d
    induction d with
    | zero => intro a h; have := (hr a (by omega)).2; omega
    | succ d ih =>
      intro a h
      have := ih (a + 1) (by omega)
      have := hstrict a (a + 1) (by omega) (by omega)
      omega
  intro a ha
  have := lower a ha
  have := upper (n - a - 1) a (by omega)
  omega

/-- the requested rank of the variable at level `i` -/
def keyAt (order : List (String × Int)) (m : Mgr) (i : Nat) : Int :=
  match m.tbl.l2v[i]? with
  | some v => (order.lookup v).getD 0
  | none => 0

/-- every level below `n` carries a name that has a requested rank -/
def Covered (order : List (String × Int)) (n : Nat) (m : Mgr) : Prop :=
  ∀ i, i < n → ∃ v p, m.tbl.l2v[i]? = some v ∧ order.lookup v = some p

theorem Covered.exch {order : List (String × Int)} {n : Nat} {m m' : Mgr} {i : Nat}
    (h : Covered order n m) (he : Exch m m' i) (hi : i + 1 < n) : Covered order n m' := by
  intro j hj
  rw [he.l2v j]
  exact h _ ((swp_lt (by omega) hi).mpr hj)

theorem keyAt_exch {order : List (String × Int)} {m m' : Mgr} {i : Nat} (he : Exch m m' i) (j : Nat) :
    keyAt order m' j = keyAt order m (swp i (i + 1) j) := by
  unfold keyAt; rw [he.l2v j]

theorem sortStep_spec (S : SwapOK E P R) (order : List (String × Int)) (m : Mgr) (i : Nat)
    (hP : P m) (hi : i + 1 < m.nvars) (hc : Covered order m.nvars m) :
    OkOr E (fun _ m' => P m' ∧ R m m' ∧ Covered order m.nvars m' ∧
        (∀ j, keyAt order m' j = stepKeys (keyAt order m) i j) ∧ PermOf m m')
      (sortStep order i m) := by
  obtain ⟨x, p, hx, hp⟩ := hc i (by omega)
  obtain ⟨y, q, hy, hq⟩ := hc (i + 1) hi
  unfold sortStep
  rw [M.bind_ok (checkRoots_ok m (S.roots m hP)), M.bind_ok (varAtLevel_ok m i x hx)]
  have hy' : varAtLevel ((i : Int) + 1) m = (.ok y, m) := varAtLevel_ok m (i + 1) y hy
  rw [M.bind_ok hy', hp, hq]
  simp only [M.bind_eq, M.ofOption_some]
  have k1 : keyAt order m i = p := by simp [keyAt, hx, hp]
  have k2 : keyAt order m (i + 1) = q := by simp [keyAt, hy, hq]
  by_cases hgt : p > q
  · simp only [hgt, if_true]
    refine OkOr.bind (by rw [swap_levels_eq m i hi]; exact S.step m i hP hi) ?_
    intro _ m' ⟨hP', hR, he, _⟩
    refine ⟨hP', hR, hc.exch he hi, fun j => ?_, he.permOf⟩
    rw [keyAt_exch he j]
    unfold stepKeys
    rw [k1, k2]
    simp [hgt]
  · simp only [hgt, if_false]
    refine ⟨hP, S.refl m, hc, fun j => ?_, PermOf.refl m⟩
    unfold stepKeys
    rw [k1, k2]
    simp [hgt]

theorem sortInner_spec (S : SwapOK E P R) (order : List (String × Int)) (n : Nat) :
    ∀ (l : List Nat) (m : Mgr), P m → m.nvars = n → (∀ i ∈ l, i + 1 < n) → Covered order n m →
    OkOr E (fun _ m' => P m' ∧ R m m' ∧ Covered order n m' ∧
        (∀ j, keyAt order m' j = l.foldl stepKeys (keyAt order m) j) ∧ PermOf m m')
      (sortInner order l m) := by
  intro l
  induction l with
  | nil =>
    intro m hP _ _ hc
    exact ⟨hP, S.refl m, hc, fun _ => rfl, PermOf.refl m⟩
  | cons i rest ih =>
    intro m hP hn hl hc
    subst hn
    unfold sortInner
    refine OkOr.bind (sortStep_spec S order m i hP (hl i List.mem_cons_self) hc) ?_
    intro _ m1 ⟨hP1, hR1, hc1, hk1, hp1⟩
    refine OkOr.mono ?_
      (ih m1 hP1 hp1.nvars (fun j hj => hl j (List.mem_cons_of_mem _ hj)) hc1)
    intro _ m2 ⟨hP2, hR2, hc2, hk2, hp2⟩
    refine ⟨hP2, S.trans _ _ _ hR1 hR2, hc2, fun j => ?_, hp1.trans hp2⟩
    rw [hk2 j, List.foldl_cons, funext hk1]

theorem sortOuter_spec (S : SwapOK E P R) (order : List (String × Int)) (n : Nat) :
    ∀ (k : Nat) (m : Mgr), P m → m.nvars = n → Covered order n m →
    OkOr E (fun _ m' => P m' ∧ R m m' ∧ Covered order n m' ∧
        (∀ j, keyAt order m' j = passes n k (keyAt order m) j) ∧ PermOf m m')
      (sortOuter order n k m) := by
  intro k
  induction k with
  | zero =>
    intro m hP _ hc
    exact ⟨hP, S.refl m, hc, fun _ => rfl, PermOf.refl m⟩
  | succ k ih =>
    intro m hP hn hc
    unfold sortOuter
    have h1 := sortInner_spec S order n (List.range (n - 1)) m hP hn
      (fun i hi => by have := List.mem_range.mp hi; omega) hc
    refine OkOr.bind h1 ?_
    intro _ m1 ⟨hP1, hR1, hc1, hk1, hp1⟩
    refine OkOr.mono ?_ (ih m1 hP1 (hp1.nvars.trans hn) hc1)
    intro _ m2 ⟨hP2, hR2, hc2, hk2, hp2⟩
    refine ⟨hP2, S.trans _ _ _ hR1 hR2, hc2, fun j => ?_, hp1.trans hp2⟩
    rw [hk2 j, funext hk1]
    rfl

/-- the requested ranks along the levels are non-decreasing -/
def SortedBy (order : List (String × Int)) (m : Mgr) : Prop :=
  ∀ a b, a < b → b < m.nvars → keyAt order m a ≤ keyAt order m b

theorem SortedBy.congr {order : List (String × Int)} {m m' : Mgr} (h : SortedBy order m)
    (hv : m'.tbl.vars = m.tbl.vars) (hl : m'.tbl.l2v = m.tbl.l2v) : SortedBy order m' := by
  intro a b hab hb
  have hn : m'.nvars = m.nvars := congrArg (·.size) hv
  have := h a b hab (by rw [← hn]; exact hb)
  unfold keyAt at this ⊢
  rw [hl]; exact this

theorem sortToOrder_eq (order : List (String × Int)) (m : Mgr) (hlen : order.length = m.nvars) :
    sortToOrder order m = sortOuter order m.nvars m.nvars m := by
  unfold sortToOrder
  have hne : ¬ (m.nvars ≠ order.length) := by omega
  simp only [M.bind_eq, M.get_eq, hne, if_false]
  rw [hlen]

/-- **`_sort_to_order` sorts.**  For every table of requested ranks that covers the declared
variables, the bubble sort over adjacent swaps succeeds (for every schedule: or reports a
schedule mismatch), keeps `P`, relates the final state to the initial one by `R`, permutes the
names, and the requested ranks along the levels are sorted afterwards. -/
theorem sortToOrder_sorted (S : SwapOK E P R) (order : List (String × Int)) (m : Mgr) (hP : P m)
    (hlen : order.length = m.nvars) (hc : Covered order m.nvars m) :
    OkOr E (fun _ m' => P m' ∧ R m m' ∧ m'.nvars = m.nvars ∧ Covered order m.nvars m' ∧
        SortedBy order m' ∧ PermOf m m')
      (sortToOrder order m) := by
  rw [sortToOrder_eq order m hlen]
  refine OkOr.mono ?_ (sortOuter_spec S order m.nvars m.nvars m hP rfl hc)
  intro _ m' ⟨hP', hR', hc', hk', hp'⟩
  have hn' := hp'.nvars
  refine ⟨hP', hR', hn', hc', ?_, hp'⟩
  intro a b hab hb
  rw [hn'] at hb
  rw [hk' a, hk' b]
  by_cases hn : 1 ≤ m.nvars
  · have := outer_passes m.nvars hn m.nvars m.nvars (keyAt order m) (fun a b _ hcb hbn => by omega)
    rw [Nat.sub_self] at this
    exact this a b hab (Nat.zero_le _) hb
  · omega

/-- the requested order is a bijection of the declared variables onto `0..n-1` -/
structure ReqOrder (order : List (String × Int)) (m : Mgr) : Prop where
  len : order.length = m.nvars
  cover : ∀ i, i < m.nvars → ∃ v p, m.tbl.l2v[i]? = some v ∧ order.lookup v = some p
  range : ∀ v p, order.lookup v = some p → 0 ≤ p ∧ p < m.nvars
  inj : ∀ v v' p, order.lookup v = some p → order.lookup v' = some p → v = v'

/-- **`_sort_to_order` reaches exactly the requested order**: afterwards
`level_of_var(v) = order[v]` for every variable and `var_at_level(order[v]) = v`. -/
theorem sortToOrder_exact (S : SwapOK E P R) (order : List (String × Int)) (m : Mgr) (hP : P m)
    (ho : ReqOrder order m) :
    OkOr E (fun _ m' => P m' ∧ R m m' ∧ m'.nvars = m.nvars ∧
        ∀ v p, order.lookup v = some p → m.tbl.vars.contains v = true →
          m'.tbl.vars[v]? = some p.toNat ∧ m'.tbl.l2v[p.toNat]? = some v)
      (sortToOrder order m) := by
  refine OkOr.mono ?_ (sortToOrder_sorted S order m hP ho.len ho.cover)
  intro _ m' ⟨hP', hR', hn', hc', hs', f, g, hfg, _, hf⟩
  refine ⟨hP', hR', hn', ?_⟩
  have hV' := S.vars m' hP'
  -- the ranks along the levels of `m'` are injective and in range
  have hinj : ∀ a b, a < m'.nvars → b < m'.nvars → keyAt order m' a = keyAt order m' b → a = b := by
    intro a b ha hb he
    rw [hn'] at ha hb
    obtain ⟨va, pa, h1, h2⟩ := hc' a ha
    obtain ⟨vb, pb, h3, h4⟩ := hc' b hb
    simp only [keyAt, h1, h2, h3, h4, Option.getD_some] at he
    subst he
    have := ho.inj va vb pa h2 h4
    subst this
    exact hV'.l2v_inj h1 h3
  have hrange : ∀ a, a < m'.nvars → 0 ≤ keyAt order m' a ∧ keyAt order m' a < m'.nvars := by
    intro a ha
    rw [hn'] at ha
    obtain ⟨va, pa, h1, h2⟩ := hc' a ha
    simp only [keyAt, h1, h2, Option.getD_some]
    have := ho.range va pa h2
    rw [hn']; exact this
  have hid := sorted_perm_id m'.nvars (keyAt order m') hs' hinj hrange
  intro v p hv hdecl
  -- `v` is declared in `m`, at level `i`; it sits at level `g i` of `m'`
  rw [TreeMap.contains_eq_isSome_getElem?] at hdecl
  obtain ⟨i, hi⟩ := Option.isSome_iff_exists.mp hdecl
  have hv' := moved_vars (S.vars m hP) hV' hfg hf hi
  have h2 := (hV'.inv v (g i)).mp hv'
  have hk := hid (g i) (hV'.lt _ _ hv')
  simp only [keyAt, h2, hv, Option.getD_some] at hk
  have : p.toNat = g i := by omega
  rw [this]
  exact ⟨hv', h2⟩

end Abs

end DD
