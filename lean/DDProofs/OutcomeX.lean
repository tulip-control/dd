/-
  DDProofs.OutcomeX — what a recursion does when it does not return.  Every recursion that creates
  nodes through `find_or_add` returns its documented result, or is aborted by a reordering request,
  or (over a `find_or_add` that can refuse, as with `max_nodes`) raises one of a set `E` of other
  exceptions — in every case having only added nodes (`StepK`).  `OutcomeX E` packages the three
  cases; `Quiet m` (inside a reordering context, or requests disabled) is the situation in which a
  decorated call nested in a recursion behaves like its body: transparent on success, the signal
  re-raised.
-/
import DDProofs.MonadM
import DDProofs.RefKeep
import DDProofs.Agree
import DDProofs.Decorator
open Std

namespace DD

/-- `Step` (invariant kept, nodes only added, frame) plus: counts stay exact and monotone -/
structure StepK (m m' : Mgr) : Prop where
  inv : Inv m'
  ext : Ext m.tbl m'.tbl
  frame : Frame m m'
  keep : RefKeep m m'

theorem StepK.refl {m : Mgr} (h : Inv m) : StepK m m :=
  ⟨h, Ext.refl _, Frame.refl _, RefKeep.refl _⟩
theorem StepK.trans {a b c : Mgr} (h1 : StepK a b) (h2 : StepK b c) : StepK a c :=
  ⟨h2.inv, h1.ext.trans h2.ext, h1.frame.trans h2.frame, h1.keep.trans h2.keep⟩
theorem StepK.step {m m' : Mgr} (h : StepK m m') : Step m m' := ⟨h.inv, h.ext, h.frame⟩
theorem StepK.nvars {m m' : Mgr} (h : StepK m m') : m'.nvars = m.nvars := h.ext.nvars.symm
theorem StepK.off {m m' : Mgr} (h : StepK m m') (hoff : m.lastLen = none) : m'.lastLen = none := by
  rw [h.frame.lastLen]; exact hoff

theorem StepK.cachePut {m : Mgr} (hI : Inv m) (g u v w : Int) (he : CacheEntryOK m.tbl g u v w) :
    StepK m { m with cache := m.cache.insert (iteKey g u v) w } :=
  ⟨hI.cacheInsert g u v w he, Ext.refl _, ⟨rfl, rfl, rfl, rfl, rfl, rfl⟩, RefKeep.of_eq rfl rfl⟩

theorem StepK.setFire {m : Mgr} (hI : Inv m) (f : Option Nat) : StepK m { m with fireIn := f } :=
  ⟨hI.setFire f, Ext.refl _, ⟨rfl, rfl, rfl, rfl, rfl, rfl⟩, RefKeep.of_eq rfl rfl⟩

theorem StepK.ofCtx {m m1 : Mgr} (c : Bool) (hs : StepK { m with ctx := c } m1) :
    StepK m { m1 with ctx := m.ctx } :=
  ⟨hs.inv.setCtx _, hs.ext, hs.frame.restoreCtx, hs.keep.congr rfl rfl rfl rfl⟩

/-- reordering requests can fire: inside a context, with a threshold -/
def Armed (m : Mgr) : Prop := m.ctx = true ∧ m.lastLen.isSome = true

theorem Armed.back {m m' : Mgr} (hf : Frame m m') (h : Armed m') : Armed m := by
  obtain ⟨h1, h2⟩ := h
  rw [hf.ctx] at h1
  rw [hf.lastLen] at h2
  exact ⟨h1, h2⟩

theorem Armed.not_off {m : Mgr} (h : Armed m) (hoff : m.lastLen = none) : False := by
  have := h.2
  rw [hoff] at this
  exact Bool.noConfusion this

/-- a request, if it fires, is propagated (we are inside a reordering context), or cannot fire
(requests disabled): the situation of every recursion below a decorated entry point.  Not the
negation of `Armed` (that is `ctx = false ∨ lastLen = none`, the hypothesis of `FoaOutcome.ok`,
`IteOutcome.ok`, DDProofs.Ite): `Quiet` allows the
armed context and excludes the one state in which a request would be served, outside a context
with requests enabled. -/
def Quiet (m : Mgr) : Prop := m.ctx = true ∨ m.lastLen = none

theorem Quiet.frame {m m' : Mgr} (h : Quiet m) (hf : Frame m m') : Quiet m' := by
  rcases h with h | h
  · exact Or.inl (by rw [hf.ctx]; exact h)
  · exact Or.inr (by rw [hf.lastLen]; exact h)

theorem Quiet.step {m m' : Mgr} (h : Quiet m) (hs : StepK m m') : Quiet m' := h.frame hs.frame

theorem Quiet.ctx {m : Mgr} (h : Quiet m) (ha : m.lastLen.isSome = true) : m.ctx = true := by
  rcases h with h | h
  · exact h
  · rw [h] at ha; exact Bool.noConfusion ha

/-- outcome of a computation started in `m`: result satisfying `Post`, or abort by a reordering
request (from an armed context only), or another exception, which satisfies `E` — always after a
step that only added nodes -/
def OutcomeX {α} (E : Err → Prop) (m : Mgr) (Post : α → Mgr → Prop) : Except Err α × Mgr → Prop
  | (.ok r, m') => StepK m m' ∧ Post r m'
  | (.error e, m') => StepK m m' ∧ (e = .needsReordering → Armed m) ∧ (e = .needsReordering ∨ E e)

/-- case analysis on the outcome of a call whose result is scrutinised by a `match` (the form
in which the recursions of the model are written): the goal about the `match` is proved for the
two forms of the result -/
@[elab_as_elim]
theorem OutcomeX.elim {α} {E : Err → Prop} {m : Mgr} {Post : α → Mgr → Prop}
    {motive : Except Err α × Mgr → Prop} {res : Except Err α × Mgr} (h : OutcomeX E m Post res)
    (ok : ∀ r m', StepK m m' → Post r m' → motive (.ok r, m'))
    (err : ∀ e m', StepK m m' → (e = .needsReordering → Armed m) → (e = .needsReordering ∨ E e) →
      motive (.error e, m')) : motive res :=
  Ends.elim h (fun r m' q => ok r m' q.1 q.2) fun e m' q => err e m' q.1 q.2.1 q.2.2

theorem OutcomeX.fail {α} {E : Err → Prop} {m m1 m' : Mgr} {Post : α → Mgr → Prop} {e : Err}
    (hs : StepK m m1) (hs' : StepK m1 m') (ha : e = .needsReordering → Armed m1)
    (hx : e = .needsReordering ∨ E e) : OutcomeX E m Post (.error e, m') :=
  ⟨hs.trans hs', fun he => (ha he).back hs.frame, hx⟩

theorem OutcomeX.step {α} {E : Err → Prop} {m : Mgr} {Post : α → Mgr → Prop}
    {res : Except Err α × Mgr} (h : OutcomeX E m Post res) : StepK m res.2 :=
  h.elim (fun _ _ hs _ => hs) (fun _ _ hs _ _ => hs)

theorem OutcomeX.err {α} {E : Err → Prop} {m : Mgr} {Post : α → Mgr → Prop} {e : Err} {m' : Mgr}
    (h : OutcomeX E m Post ((.error e, m') : Except Err α × Mgr)) :
    (e = .needsReordering ∧ Armed m) ∨ (e ≠ .needsReordering ∧ E e) := by
  by_cases he : e = .needsReordering
  · exact Or.inl ⟨he, h.2.1 he⟩
  · rcases h.2.2 with h1 | h1
    · exact absurd h1 he
    · exact Or.inr ⟨he, h1⟩

theorem OutcomeX.mono {α} {E : Err → Prop} {m : Mgr} {P Q : α → Mgr → Prop}
    {res : Except Err α × Mgr} (h : OutcomeX E m P res)
    (hpq : ∀ r m', StepK m m' → P r m' → Q r m') : OutcomeX E m Q res :=
  h.elim (fun r m' hs hp => ⟨hs, hpq r m' hs hp⟩) (fun _ _ hs ha hx => ⟨hs, ha, hx⟩)

theorem OutcomeX.after {α} {E : Err → Prop} {m m1 : Mgr} {P : α → Mgr → Prop}
    {res : Except Err α × Mgr} (hs : StepK m m1) (h : OutcomeX E m1 P res) : OutcomeX E m P res :=
  h.elim (fun _ _ hs' hp => ⟨hs.trans hs', hp⟩) (fun _ _ => OutcomeX.fail hs)

/-- sequencing: the continuation is specified from the intermediate state, with the final
postcondition.  Stated over `M.bind'`, as `iteG` (DD.Capacity) is written; `x >>= k` is the same
term by `rfl`. -/
theorem OutcomeX.bind {α β} {E : Err → Prop} {x : M α} {k : α → M β} {m : Mgr}
    {P : α → Mgr → Prop} {Q : β → Mgr → Prop} (hx : OutcomeX E m P (x m))
    (hk : ∀ a m1, StepK m m1 → P a m1 → OutcomeX E m1 Q (k a m1)) :
    OutcomeX E m Q (M.bind' x k m) :=
  Ends.bind hx fun a m1 _ q => (hk a m1 q.1 q.2).after q.1

/-- `OutcomeX` for the recursions that return a pair (result, memo) -/
def OutcomeX2 {α β} (E : Err → Prop) (m : Mgr) (Post : α → β → Mgr → Prop)
    (res : Except Err (α × β) × Mgr) : Prop :=
  OutcomeX E m (fun rc m' => Post rc.1 rc.2 m') res

@[elab_as_elim]
theorem OutcomeX2.elim {α β} {E : Err → Prop} {m : Mgr} {Post : α → β → Mgr → Prop}
    {motive : Except Err (α × β) × Mgr → Prop} {res : Except Err (α × β) × Mgr}
    (h : OutcomeX2 E m Post res)
    (ok : ∀ r c m', StepK m m' → Post r c m' → motive (.ok (r, c), m'))
    (err : ∀ e m', StepK m m' → (e = .needsReordering → Armed m) → (e = .needsReordering ∨ E e) →
      motive (.error e, m')) : motive res :=
  OutcomeX.elim h (fun rc m' hs hp => ok rc.1 rc.2 m' hs hp) err

/-- the three-outcome specification of `find_or_add` at a valid level above both children -/
def FoaX (E : Err → Prop) (foa : Int → Int → Int → M Int) : Prop :=
  ∀ (m : Mgr) (i : Nat) (v w : Int), Inv m → i < m.nvars → m.tbl.Mem v → m.tbl.Mem w →
    i < m.tbl.levelOf v → i < m.tbl.levelOf w →
    OutcomeX E m (fun r m' => FoaPost' m i v w r m') (foa (i : Int) v w m)

/-- the three-outcome specification of the decorated `ite` nested in a recursion (inside a
context, or with requests disabled) -/
def IteNestedX (E : Err → Prop) (iteX : Int → Int → Int → M Int) : Prop :=
  ∀ (m : Mgr), Inv m → Quiet m → ∀ (g u v : Int), m.tbl.Mem g → m.tbl.Mem u → m.tbl.Mem v →
    OutcomeX E m (fun r m' => ItePost m g u v r m') (iteX g u v m)

/-- a decorated call as it is made by the recursions — inside a context, or with requests
disabled — has the outcome of its body run with the flag set: a request that fires in the body
is not served but re-raised (it can only fire inside a context) -/
theorem tryToReorder_quiet {α} {E : Err → Prop} (f : M α) {m : Mgr} (hq : Quiet m)
    {P Q : α → Mgr → Prop} (h : OutcomeX E { m with ctx := true } P (f { m with ctx := true }))
    (hpq : ∀ r m1, P r m1 → Q r { m1 with ctx := m.ctx }) :
    OutcomeX E m Q (tryToReorder f m) := by
  -- no request is served: the first attempt is the call
  have hne : (f { m with ctx := true }).1 ≠ .error .needsReordering ∨ m.ctx = true := by
    refine hq.symm.imp_left fun hoff he => ?_
    generalize f { m with ctx := true } = res at h he
    obtain ⟨r, m1⟩ := res
    cases he
    exact (h.2.1 rfl).not_off hoff
  rw [tryToReorder_first f m hne]
  generalize f { m with ctx := true } = res at h
  obtain ⟨r, m1⟩ := res
  cases r with
  | ok r => exact ⟨h.1.ofCtx true, hpq r m1 h.2⟩
  | error e =>
    exact ⟨h.1.ofCtx true, fun he => ⟨hq.ctx (h.2.1 he).2, (h.2.1 he).2⟩, h.2.2⟩

end DD
