/-
  DDProofs.ParseDerives — what the Pratt model answers, read off in ONE walk of `parsePrefix` /
  `parseLoop` (`spec_all`): an answer cuts the input into a prefix without illegal character, read
  as the tree in the sense of `Pr` (ParseProofs), and the rest; the error is never `fuel`, and
  `eof` only when no illegal character occurs.  With `Pr.spec`, `Pr` is the specification of the
  parser in both directions (`parse_iff`).  `Derives` — the productions of `dd/_parser.py` with the
  values of their semantic actions: the ambiguous context-free grammar, NO precedence — is `Pr`
  with the levels forgotten, whence `parse_sound`; WHICH derivation of an ambiguous string the
  LALR tables choose is the precedence / associativity content of `Pr`.  At the end the two facts
  about `parseE` itself (`parseE_bad`).
-/
import DDProofs.ParseProofs
open Std
namespace DD

inductive Derives : List Tok → Ast → Prop
  /-- `expr : TRUE` -/
  | tt : Derives [.tt] (.bool true)
  /-- `expr : FALSE` -/
  | ff : Derives [.ff] (.bool false)
  /-- `expr : name`, `name : NAME` -/
  | var (x : String) : Derives [.name x] (.var x)
  /-- `expr : AT number`, `number : NUMBER` -/
  | num (d : String) : Derives [.at, .number d] (.num false d)
  /-- `expr : AT number`, `number : MINUS NUMBER` -/
  | negNum (d : String) : Derives [.at, .op .minus, .number d] (.num true d)
  /-- `expr : NOT expr` -/
  | not {ts : List Tok} {a : Ast} : Derives ts a → Derives (.not :: ts) (.not a)
  /-- `expr : expr AND expr | … | expr MINUS expr` -/
  | bin (o : BinOp) {l r : List Tok} {a b : Ast} :
      Derives l a → Derives r b → Derives (l ++ .op o :: r) (.bin o a b)
  /-- `expr : LPAREN expr RPAREN` -/
  | paren {ts : List Tok} {a : Ast} : Derives ts a → Derives (.lparen :: (ts ++ [.rparen])) a
  /-- `expr : ITE LPAREN expr COMMA expr COMMA expr RPAREN` -/
  | ite {t1 t2 t3 : List Tok} {a b c : Ast} : Derives t1 a → Derives t2 b → Derives t3 c →
      Derives (.ite :: .lparen :: (t1 ++ .comma :: (t2 ++ .comma :: (t3 ++ [.rparen])))) (.ite a b c)
  /-- `expr : FORALL names COLON expr | EXISTS names COLON expr` (`printNames xs` = the names
  separated by commas, then the colon) -/
  | quant (fa : Bool) (xs : List String) (hne : xs ≠ []) {ts : List Tok} {a : Ast} :
      Derives ts a → Derives ((if fa then Tok.forall_ else .exists_) :: (printNames xs ++ ts)) (.quant fa xs a)
  /-- `expr : RENAME subs COLON expr` -/
  | subst (ss : List (String × String)) (hne : ss ≠ []) {ts : List Tok} {a : Ast} :
      Derives ts a → Derives (.rename :: (printSubs ss ++ ts)) (.subst ss a)

/-- `toks` is `pre`, free of illegal characters, then `r` -/
def Cut (toks pre r : List Tok) : Prop := toks = pre ++ r ∧ Tok.bad ∉ pre

theorem Cut.nil (toks : List Tok) : Cut toks [] toks := ⟨rfl, by simp⟩

theorem Cut.app {toks p r q r' : List Tok} (h1 : Cut toks p r) (h2 : Cut r q r') : Cut toks (p ++ q) r' := by
  obtain ⟨rfl, n1⟩ := h1
  obtain ⟨rfl, n2⟩ := h2
  exact ⟨by simp, by simp [n1, n2]⟩

theorem Cut.tok {t : Tok} (r : List Tok) (ht : t ≠ .bad) : Cut (t :: r) [t] r :=
  ⟨rfl, by simp; exact fun h => ht h.symm⟩

theorem Cut.snoc {toks p r : List Tok} {t : Tok} (h : Cut toks p (t :: r)) (ht : t ≠ .bad) :
    Cut toks (p ++ [t]) r := h.app (.tok r ht)

theorem Cut.length {toks p r : List Tok} (h : Cut toks p r) : toks.length = p.length + r.length := by
  rw [h.1, List.length_append]

/-- what a parsing function guarantees on `toks`, with the payload `Q` on (value, consumed prefix, rest) -/
def PSpec {α : Type} (toks : List Tok) (Q : α → List Tok → List Tok → Prop) : PRes (α × List Tok) → Prop
  | .ok (a, r) => ∃ pre, Cut toks pre r ∧ Q a pre r
  | .error (_, .syntax) => True
  | .error (_, .eof) => Tok.bad ∉ toks
  | .error (_, .fuel) => False

variable {α β : Type} {toks p pre r r0 : List Tok} {Q : α → List Tok → List Tok → Prop}
  {Q' : β → List Tok → List Tok → Prop}

theorem PSpec.ok {a : α} (hc : Cut toks pre r) (hq : Q a pre r) : PSpec toks Q (.ok (a, r)) := ⟨pre, hc, hq⟩

theorem PSpec.error {fr fr' : List Ast} {e : PErr} (hc : Cut toks p r0)
    (hx : PSpec r0 Q (.error (fr, e) : PRes (α × List Tok))) :
    PSpec toks Q' (.error (fr', e) : PRes (β × List Tok)) := by
  match e, hx with
  | .syntax, _ => trivial
  | .eof, h =>
    obtain ⟨rfl, n⟩ := hc
    simp only [PSpec, List.mem_append, not_or] at h ⊢
    exact ⟨n, h⟩

theorem PSpec.lift {x : PRes (α × List Tok)} {Q' : α → List Tok → List Tok → Prop} (hc : Cut toks p r0)
    (hx : PSpec r0 Q x) (hq : ∀ a pre r, Q a pre r → Q' a (p ++ pre) r) : PSpec toks Q' x := by
  match x, hx with
  | .ok (a, r), ⟨pre, hc2, h⟩ => exact ⟨p ++ pre, hc.app hc2, hq a pre r h⟩
  | .error (fr, e), h => exact .error hc h

theorem PSpec.bind (hc : Cut toks p r0) (fr : List Ast) {x : PRes (α × List Tok)}
    {k : α × List Tok → PRes (β × List Tok)} (hx : PSpec r0 Q x)
    (hk : ∀ a pre r, Cut toks (p ++ pre) r → Q a pre r → PSpec toks Q' (k (a, r))) :
    PSpec toks Q' (PRes.bindF fr x k) := by
  match x, hx with
  | .ok (a, r), ⟨pre, hc2, h⟩ => exact hk a pre r (hc.app hc2) h
  | .error (fr', e), h => exact .error (fr' := fr ++ fr') hc h

theorem PSpec.errAt (hc : Cut toks pre r) (fr : List Ast) : PSpec toks Q (errAt fr r) := by
  cases r with
  | nil => obtain ⟨rfl, n⟩ := hc; simpa [DD.errAt, PSpec] using n
  | cons t r => simp [DD.errAt, PSpec]

section
variable {Q : Ast → List Tok → List Tok → Prop}

theorem PSpec.atomDone {a : Ast} (hc : Cut toks pre r) (hq : Q a pre r) (fr : List Ast) :
    PSpec toks Q (atomDone a fr r) := by
  unfold DD.atomDone
  split
  · exact .ok hc hq
  · exact .errAt hc fr

theorem PSpec.closeParen {e : Ast} (hc : Cut toks pre r)
    (hq : ∀ r', r = .rparen :: r' → Q e (pre ++ [.rparen]) r') : PSpec toks Q (closeParen e r) := by
  unfold DD.closeParen
  split
  · exact .atomDone (hc.snoc (by simp)) (hq _ rfl) _
  · exact .errAt hc _

theorem PSpec.closeIte {a b c : Ast} (hc : Cut toks pre r)
    (hq : ∀ r', r = .rparen :: r' → Q (.ite a b c) (pre ++ [.rparen]) r') : PSpec toks Q (closeIte a b c r) := by
  unfold DD.closeIte
  split
  · exact .atomDone (hc.snoc (by simp)) (hq _ rfl) _
  · exact .errAt hc _

theorem PSpec.expectComma (hc : Cut toks pre r) (done : List Ast) {k : List Tok → PRes (Ast × List Tok)}
    (hk : ∀ r', r = .comma :: r' → Cut toks (pre ++ [.comma]) r' → PSpec toks Q (k r')) :
    PSpec toks Q (expectComma done k r) := by
  unfold DD.expectComma
  split
  · exact hk _ rfl (hc.snoc (by simp))
  · exact .errAt hc _
end

theorem spec_parseNames : ∀ toks : List Tok,
    PSpec toks (fun xs pre _ => xs ≠ [] ∧ pre = printNames xs) (parseNames toks) := by
  intro toks
  fun_induction parseNames toks with
  | case1 x rest xs r hr ih =>
    rw [hr] at ih
    obtain ⟨pre, hc, hne, rfl⟩ := ih
    refine .ok (Cut.app (p := [.name x, .comma]) ⟨rfl, by simp⟩ hc) ⟨by simp, ?_⟩
    cases xs with
    | nil => exact absurd rfl hne
    | cons y ys => simp [printNames]
  | case2 x rest e hr ih =>
    rw [hr] at ih
    exact .error (p := [.name x, .comma]) ⟨rfl, by simp⟩ ih
  | case3 x rest => exact .ok (pre := [.name x, .colon]) ⟨rfl, by simp⟩ ⟨by simp, rfl⟩
  | case4 x rest _ _ => exact .errAt (pre := [.name x]) ⟨rfl, by simp⟩ _
  | case5 toks _ => exact .errAt (.nil _) _

theorem spec_parseSubs : ∀ toks : List Tok,
    PSpec toks (fun ss pre _ => ss ≠ [] ∧ pre = printSubs ss) (parseSubs toks) := by
  intro toks
  fun_induction parseSubs toks with
  | case1 new old rest xs r hr ih =>
    rw [hr] at ih
    obtain ⟨pre, hc, hne, rfl⟩ := ih
    refine .ok (Cut.app (p := [.name new, .div, .name old, .comma]) ⟨rfl, by simp⟩ hc) ⟨by simp, ?_⟩
    cases xs with
    | nil => exact absurd rfl hne
    | cons y ys => obtain ⟨n2, o2⟩ := y; simp [printSubs]
  | case2 new old rest e hr ih =>
    rw [hr] at ih
    exact .error (p := [.name new, .div, .name old, .comma]) ⟨rfl, by simp⟩ ih
  | case3 new old rest => exact .ok (pre := [.name new, .div, .name old, .colon]) ⟨rfl, by simp⟩ ⟨by simp, rfl⟩
  | case4 new old => exact .errAt (pre := [.name new, .div, .name old]) ⟨rfl, by simp⟩ _
  | case5 new => exact .errAt (pre := [.name new, .div]) ⟨rfl, by simp⟩ _
  | case6 new => exact .errAt (pre := [.name new]) ⟨rfl, by simp⟩ _
  | case7 => exact .errAt (.nil _) _

theorem AtomAt.noBad {pre : List Tok} {a : Ast} (h : AtomAt pre a) : Tok.bad ∉ pre := by
  cases h <;> simp

theorem AtomAt.derives {pre : List Tok} {a : Ast} (h : AtomAt pre a) : Derives pre a := by
  cases h <;> constructor

theorem Pr.derives {p s : Nat} {x : Ast} {ts : List Tok} (h : Pr p s x ts) : Derives ts x := by
  induction h with
  | wrap _ ih => exact .paren ih
  | atom h => exact h.derives
  | not _ ih => exact .not ih
  | bin _ _ _ _ ihl ihr => exact .bin _ ihl ihr
  | ite _ _ _ iha ihb ihc => exact .ite iha ihb ihc
  | quant _ hns _ ih => exact .quant _ _ hns ih
  | subst _ hss _ ih => exact .subst _ hss ih

theorem Pr.mono_s {p s : Nat} {x : Ast} {ts : List Tok} (h : Pr p s x ts) : ∀ s', s' ≤ s → Pr p s' x ts := by
  induction h with
  | wrap h0 _ => exact fun _ _ => .wrap h0
  | atom h => exact fun _ _ => .atom h
  | not _ ih => exact fun s' hs => .not (ih _ (by omega))
  | bin hp hs hl _ _ ihr => exact fun s' hs' => .bin hp (Nat.le_trans hs' hs) hl (ihr s' hs')
  | ite ha hb hc _ _ _ => exact fun _ _ => .ite ha hb hc
  | quant hs hns _ ih => exact fun s' hs' => .quant (Nat.le_trans hs' hs) hns (ih s' hs')
  | subst hs hss _ ih => exact fun s' hs' => .subst (Nat.le_trans hs' hs) hss (ih s' hs')

/-- the least level at which the operator loop stops on `r`.  `Pr p s` is antitone in `s`
(`Pr.mono_s`), so the walk reads every operand at this level before its rest; at an arbitrary `s`
with `stops s r` the claim would be false for a binder, which needs `s ≤ 1` whatever follows -/
def stopLvl : List Tok → Nat
  | .op o :: _ => o.prec + 1
  | _ => 0

theorem stopLvl_le {q : Nat} {r : List Tok} (h : stops q r) : stopLvl r ≤ q := by
  cases r with
  | nil => exact Nat.zero_le _
  | cons t r => cases t <;> first | exact Nat.zero_le _ | exact h

/-- payload of `parseExpr _ p`: the loop of level `p` stops on the rest, and the consumed tokens are
read as the tree at level `p` before that rest -/
abbrev ExprQ (p : Nat) : Ast → List Tok → List Tok → Prop :=
  fun a pre r => stops p r ∧ Pr p (stopLvl r) a pre

/-- payload of `parsePrefix`: an operand is read at every level -/
abbrev PrefQ : Ast → List Tok → List Tok → Prop := fun a pre r => ∀ p, Pr p (stopLvl r) a pre

/-- payload of `parseLoop _ p lhs` on `toks` -/
abbrev LoopQ (p : Nat) (lhs : Ast) (toks : List Tok) : Ast → List Tok → List Tok → Prop :=
  fun a mid r => stops p r ∧ ∀ lpre, Pr p (stopLvl toks) lhs lpre → Pr p (stopLvl r) a (lpre ++ mid)

theorem spec_prefix (f : Nat) (ih : ∀ toks : List Tok, toks.length < f → ∀ p, PSpec toks (ExprQ p) (parseExpr f p toks))
    (toks : List Tok) (hl : toks.length < f + 1) : PSpec toks PrefQ (parsePrefix (f+1) toks) := by
  -- recursive calls on what is left of `toks` after a non-empty prefix
  have sub : ∀ {p r : List Tok}, Cut toks p r → 0 < p.length → ∀ q, PSpec r (ExprQ q) (parseExpr f q r) :=
    fun hc hp q => ih _ (by have := hc.length; omega) q
  cases parsePrefix_shape f toks with
  | atom h rest => rw [prefix_atom h]; exact .atomDone ⟨rfl, h.noBad⟩ (fun _ => .atom h) _
  | err pre r hb he => rw [he]; exact .errAt ⟨rfl, hb⟩ _
  | not rest =>
    have c : Cut (Tok.not :: rest) [.not] rest := .tok _ (by simp)
    rw [prefix_not]
    exact .bind c [] (sub c Nat.one_pos _) fun a pre r hc hd =>
      .ok hc fun _ => .not (hd.2.mono_s _ (Nat.min_le_left _ _))
  | lparen rest =>
    have c : Cut (Tok.lparen :: rest) [.lparen] rest := .tok _ (by simp)
    rw [prefix_lparen]
    exact .bind c [] (sub c Nat.one_pos _) fun a pre r hc hd =>
      .closeParen hc fun r' e _ => by subst e; exact .wrap hd.2
  | quant fa rest =>
    have c : Cut ((if fa then Tok.forall_ else .exists_) :: rest) [if fa then Tok.forall_ else .exists_] rest :=
      .tok _ (by cases fa <;> simp)
    rw [prefix_quant]
    refine .bind c [] (spec_parseNames rest) fun ns pre r hc ⟨hne, hp⟩ => ?_
    subst hp
    exact .bind hc [] (sub hc (by simp) _) fun a pre2 r2 hc2 hd =>
      .ok hc2 fun _ => .quant (bodyPrec_eq ▸ stopLvl_le hd.1) hne hd.2
  | rename rest =>
    have c : Cut (Tok.rename :: rest) [.rename] rest := .tok _ (by simp)
    rw [prefix_rename]
    refine .bind c [] (spec_parseSubs rest) fun ss pre r hc ⟨hne, hp⟩ => ?_
    subst hp
    exact .bind hc [] (sub hc (by simp) _) fun a pre2 r2 hc2 hd =>
      .ok hc2 fun _ => .subst (bodyPrec_eq ▸ stopLvl_le hd.1) hne hd.2
  | ite rest =>
    have c : Cut (Tok.ite :: Tok.lparen :: rest) [.ite, .lparen] rest := ⟨rfl, by simp⟩
    rw [prefix_ite]
    refine .bind c [] (sub c (by simp) _) fun a p1 r1 hc1 d1 => ?_
    refine .expectComma hc1 _ fun r1' e1 hc1' => ?_
    refine .bind hc1' _ (sub hc1' (by simp) _) fun b p2 r2 hc2 d2 => ?_
    refine .expectComma hc2 _ fun r2' e2 hc2' => ?_
    refine .bind hc2' _ (sub hc2' (by simp) _) fun c p3 r3 hc3 d3 => .closeIte hc3 fun r' e3 _ => ?_
    subst e1; subst e2; subst e3
    simpa [List.append_assoc] using Pr.ite d1.2 d2.2 d3.2

theorem spec_loop (f : Nat) (ihE : ∀ toks : List Tok, toks.length < f → ∀ p, PSpec toks (ExprQ p) (parseExpr f p toks))
    (ihL : ∀ toks : List Tok, toks.length < f → ∀ p lhs, PSpec toks (LoopQ p lhs toks) (parseLoop f p lhs toks))
    (toks : List Tok) (hl : toks.length < f + 1) (p : Nat) (lhs : Ast) :
    PSpec toks (LoopQ p lhs toks) (parseLoop (f+1) p lhs toks) := by
  have stop : ∀ {toks : List Tok}, stops p toks → PSpec toks (LoopQ p lhs toks) (.ok (lhs, toks)) :=
    fun hs => .ok (.nil _) ⟨hs, fun lpre h => by simpa using h⟩
  cases toks with
  | nil => exact stop trivial
  | cons t rest =>
    cases t with
    | op o =>
      have c : Cut (Tok.op o :: rest) [.op o] rest := .tok _ (by simp)
      rw [loop_op]
      split
      · next hp =>
        have hr : rest.length < f := by simp at hl; omega
        refine .bind c _ (ihE rest hr _) fun e pre r hc hd => ?_
        refine (ihL r (by have := hc.length; simp at this hl; omega) p (.bin o lhs e)).lift hc
          fun a mid r' hq => ⟨hq.1, fun lpre hlhs => ?_⟩
        simpa [List.append_assoc] using hq.2 (lpre ++ .op o :: pre) (.bin hp (stopLvl_le hd.1) hlhs hd.2)
      · next hp => exact stop (Nat.not_le.mp hp)
    | _ => exact stop trivial

theorem spec_all : ∀ (f : Nat) (toks : List Tok), toks.length < f →
    (∀ p, PSpec toks (ExprQ p) (parseExpr f p toks)) ∧
    (∀ p lhs, PSpec toks (LoopQ p lhs toks) (parseLoop f p lhs toks)) := by
  intro f
  induction f with
  | zero => intro toks h; omega
  | succ f ih =>
    intro toks hl
    have hL : ∀ toks : List Tok, toks.length < f + 1 → ∀ p lhs,
        PSpec toks (LoopQ p lhs toks) (parseLoop (f+1) p lhs toks) :=
      fun toks hl p lhs => spec_loop f (fun t ht p => (ih t ht).1 p) (fun t ht p l => (ih t ht).2 p l) toks hl p lhs
    refine ⟨fun p => ?_, hL toks hl⟩
    rw [parseExpr_eq]
    refine .bind (.nil _) [] (spec_prefix f (fun t ht p => (ih t ht).1 p) toks hl) fun a pre r hc hd => ?_
    exact (hL r (by have := hc.length; omega) p a).lift hc fun a' mid r' hq => ⟨hq.1, hq.2 pre (hd p)⟩

theorem parseE_spec (toks : List Tok) :
    match parseE toks with
    | .ok t => Pr 0 0 t toks ∧ Tok.bad ∉ toks
    | .error (_, .syntax) => True
    | .error (_, .eof) => Tok.bad ∉ toks
    | .error (_, .fuel) => False := by
  have h := (spec_all (toks.length + 1) toks (Nat.lt_succ_self _)).1 0
  unfold parseE
  generalize parseExpr (toks.length + 1) 0 toks = res at h
  match res, h with
  | .ok (t, []), ⟨pre, ⟨e, n⟩, _, hd⟩ => rw [List.append_nil] at e; subst e; exact ⟨hd, n⟩
  | .ok (t, x :: r), _ => trivial
  | .error (fr, .syntax), _ => trivial
  | .error (fr, .eof), h => exact h

/-- the model parser accepts exactly the strings `Pr` describes, with that tree -/
theorem parse_iff (toks : List Tok) (t : Ast) : parse toks = some t ↔ Pr 0 0 t toks := by
  refine ⟨fun h => ?_, Pr.parse_eq⟩
  have hs := parseE_spec toks
  unfold parse at h
  split at h
  · next ht => cases h; rw [ht] at hs; exact hs.1
  · cases h

/-- SOUNDNESS: a tree the model parser returns for a token string is a tree the grammar of the
source derives for that string -/
theorem parse_sound (toks : List Tok) (t : Ast) (h : parse toks = some t) : Derives toks t :=
  ((parse_iff toks t).mp h).derives

/-! the parser never runs out of fuel, and a token string that contains an illegal character
(`Tok.bad`, where the lexer raises) is always rejected with the SYNTAX error (`RuntimeError`), never
with "unexpected end of input" -/

/-- `r` is what is left of `toks` after a prefix without illegal character -/
def Suf (toks r : List Tok) : Prop := ∃ pre, toks = pre ++ r ∧ Tok.bad ∉ pre

theorem Suf.length {toks r : List Tok} (h : Suf toks r) : r.length ≤ toks.length := by
  obtain ⟨p, rfl, _⟩ := h
  simp

/-- the parser never runs out of fuel; an illegal character gives the syntax error -/
theorem parseE_bad (toks : List Tok) :
    (∀ fr, parseE toks ≠ .error (fr, .fuel)) ∧
    (Tok.bad ∈ toks → ∃ fr, parseE toks = .error (fr, .syntax)) := by
  have h := parseE_spec toks
  generalize parseE toks = res at h
  match res, h with
  | .ok t, h => exact ⟨fun fr => by simp, fun hb => absurd hb h.2⟩
  | .error (fr, .syntax), _ => exact ⟨fun fr' => by simp, fun _ => ⟨fr, rfl⟩⟩
  | .error (fr, .eof), h => exact ⟨fun fr' => by simp, fun hb => absurd hb h⟩

end DD
