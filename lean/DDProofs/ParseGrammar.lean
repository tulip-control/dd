/-
  DDProofs.ParseGrammar — the grammar relation over the REGENERATED production table `Gen.grammar`
  (from the docstrings of the `p_*` functions of `dd/_parser.py`, one entry `(function, left-hand
  side, right-hand side)` per alternative), read as a context-free grammar: parse trees `PT` whose
  inner nodes are entries of the table (`PT.Ok`), valued by `act`, a transcription of the bodies of
  the `p_*` functions (which `p[i]` go where).  `GDerives toks t`: some parse tree for `expr` has
  the yield `toks` and the value `t`.  `derives_generic : Derives toks t → GDerives toks t`, so the
  model parser only returns trees that the grammar of the current source derives.
-/
import DDProofs.ParseDerives
open Std
namespace DD

/-- the PLY token type of a token -/
def Tok.type : Tok → String
  | .lparen => "LPAREN" | .rparen => "RPAREN" | .comma => "COMMA" | .colon => "COLON"
  | .div => "DIV" | .at => "AT" | .not => "NOT" | .forall_ => "FORALL" | .exists_ => "EXISTS"
  | .rename => "RENAME" | .ite => "ITE" | .tt => "TRUE" | .ff => "FALSE"
  | .op o => o.type | .name _ => "NAME" | .number _ => "NUMBER" | .bad => "error"

/-- parse trees: a token, or a production `fn : lhs → symbols of the children` -/
inductive PT
  | leaf (t : Tok)
  | node (fn lhs : String) (kids : List PT)

def PT.sym : PT → String
  | .leaf t => t.type
  | .node _ lhs _ => lhs

mutual
def PT.yield : PT → List Tok
  | .leaf t => [t]
  | .node _ _ kids => PT.yieldL kids
def PT.yieldL : List PT → List Tok
  | [] => []
  | k :: ks => k.yield ++ PT.yieldL ks
end

/-- every inner node is an alternative of the grammar `g` -/
inductive PT.Ok (g : List (String × String × List String)) : PT → Prop
  | leaf (t : Tok) : PT.Ok g (.leaf t)
  | node (fn lhs : String) (kids : List PT) : (fn, lhs, kids.map PT.sym) ∈ g →
      (∀ k ∈ kids, PT.Ok g k) → PT.Ok g (.node fn lhs kids)

/-- the values on PLY's stack -/
inductive PVal
  | tok (t : Tok)
  | ast (a : Ast)
  | name (s : String)
  | names (l : List String)
  | number (neg : Bool) (digits : String)
  | sub (p : String × String)
  | subs (l : List (String × String))

/-- the semantic actions: `p[0]` from `p[1..]`, by function (the `Ast` of `\S` keeps the pairs
`(new, old)` in the order written; `_Translator` builds nodes instead of trees: `evalAst`) -/
def act : String → List (Option PVal) → Option PVal
  | "p_bool", [some (.tok .tt)] => some (.ast (.bool true))
  | "p_bool", [some (.tok .ff)] => some (.ast (.bool false))
  | "p_name", [some (.tok (.name s))] => some (.name s)
  | "p_names_end", [some (.name x)] => some (.names [x])
  | "p_names_iter", [some (.names xs), some (.tok .comma), some (.name x)] => some (.names (xs ++ [x]))
  | "p_number", [some (.tok (.number d))] => some (.number false d)
  | "p_negative_number", [some (.tok (.op .minus)), some (.tok (.number d))] => some (.number true d)
  | "p_node", [some (.tok .at), some (.number neg d)] => some (.ast (.num neg d))
  | "p_var", [some (.name x)] => some (.ast (.var x))
  | "p_unary", [some (.tok .not), some (.ast a)] => some (.ast (.not a))
  | "p_binary", [some (.ast a), some (.tok (.op o)), some (.ast b)] => some (.ast (.bin o a b))
  | "p_paren", [some (.tok .lparen), some (.ast a), some (.tok .rparen)] => some (.ast a)
  | "p_ternary_conditional", [some (.tok .ite), some (.tok .lparen), some (.ast a), some (.tok .comma),
      some (.ast b), some (.tok .comma), some (.ast c), some (.tok .rparen)] => some (.ast (.ite a b c))
  | "p_quantifier", [some (.tok .forall_), some (.names xs), some (.tok .colon), some (.ast a)] =>
    some (.ast (.quant true xs a))
  | "p_quantifier", [some (.tok .exists_), some (.names xs), some (.tok .colon), some (.ast a)] =>
    some (.ast (.quant false xs a))
  | "p_rename", [some (.tok .rename), some (.subs ss), some (.tok .colon), some (.ast a)] =>
    some (.ast (.subst ss a))
  | "p_substitution", [some (.name new), some (.tok .div), some (.name old)] => some (.sub (new, old))
  | "p_substitutions_end", [some (.sub p)] => some (.subs [p])
  | "p_substitutions_iter", [some (.subs l), some (.tok .comma), some (.sub p)] => some (.subs (l ++ [p]))
  | _, _ => none

mutual
def PT.val : PT → Option PVal
  | .leaf t => some (.tok t)
  | .node fn _ kids => act fn (PT.valL kids)
def PT.valL : List PT → List (Option PVal)
  | [] => []
  | k :: ks => k.val :: PT.valL ks
end

/-- a parse tree of the symbol `s` over the regenerated grammar with yield `toks` and value `v` -/
def GTree (s : String) (toks : List Tok) (v : PVal) : Prop :=
  ∃ pt : PT, pt.Ok Gen.grammar ∧ pt.sym = s ∧ pt.yield = toks ∧ pt.val = some v

/-- `toks` derives from `expr` in the grammar of the source, with the tree `t` as its value -/
def GDerives (toks : List Tok) (t : Ast) : Prop := GTree "expr" toks (.ast t)

def namesT : List String → List Tok
  | [] => []
  | [x] => [.name x]
  | x :: y :: r => .name x :: .comma :: namesT (y :: r)

theorem printNames_eq : ∀ xs : List String, xs ≠ [] → printNames xs = namesT xs ++ [.colon]
  | [], h => absurd rfl h
  | [x], _ => rfl
  | x :: y :: r, _ => by
    rw [printNames, namesT, printNames_eq (y :: r) (by simp)]
    rfl

theorem namesT_snoc : ∀ (ys : List String) (x : String), ys ≠ [] →
    namesT (ys ++ [x]) = namesT ys ++ [.comma, .name x]
  | [], _, h => absurd rfl h
  | [y], x, _ => rfl
  | y :: z :: r, x, _ => by
    have := namesT_snoc (z :: r) x (by simp)
    simp only [List.cons_append, namesT] at this ⊢
    rw [this]

def subsT : List (String × String) → List Tok
  | [] => []
  | [(n, o)] => [.name n, .div, .name o]
  | (n, o) :: y :: r => .name n :: .div :: .name o :: .comma :: subsT (y :: r)

theorem printSubs_eq : ∀ ss : List (String × String), ss ≠ [] → printSubs ss = subsT ss ++ [.colon]
  | [], h => absurd rfl h
  | [(n, o)], _ => rfl
  | (n, o) :: y :: r, _ => by
    rw [printSubs, subsT, printSubs_eq (y :: r) (by simp)]
    rfl

theorem subsT_snoc : ∀ (ys : List (String × String)) (p : String × String), ys ≠ [] →
    subsT (ys ++ [p]) = subsT ys ++ [.comma, .name p.1, .div, .name p.2]
  | [], _, h => absurd rfl h
  | [(n, o)], (n', o'), _ => rfl
  | (n, o) :: z :: r, p, _ => by
    have := subsT_snoc (z :: r) p (by simp)
    simp only [List.cons_append, subsT] at this ⊢
    rw [this]

@[simp] theorem PT.sym_leaf (t : Tok) : (PT.leaf t).sym = t.type := rfl

theorem ok_kids {g : List (String × String × List String)} {ks : List PT}
    (h : ∀ k ∈ ks, PT.Ok g k) : ∀ k ∈ ks, PT.Ok g k := h

/-- a row of trees, one per symbol of `syms`, with the concatenated yield `toks` and the values
`vals`; a token stands for its leaf -/
inductive GKids : List String → List Tok → List (Option PVal) → Prop
  | nil : GKids [] [] []
  | tok (t : Tok) {syms toks vals} : GKids syms toks vals →
      GKids (t.type :: syms) (t :: toks) (some (.tok t) :: vals)
  | tree {s ts v syms toks vals} : GTree s ts v → GKids syms toks vals →
      GKids (s :: syms) (ts ++ toks) (some v :: vals)

theorem GKids.trees {syms : List String} {toks : List Tok} {vals : List (Option PVal)}
    (h : GKids syms toks vals) : ∃ pts : List PT, (∀ p ∈ pts, p.Ok Gen.grammar) ∧
      pts.map PT.sym = syms ∧ PT.yieldL pts = toks ∧ PT.valL pts = vals := by
  induction h with
  | nil => exact ⟨[], nofun, rfl, rfl, rfl⟩
  | tok t _ ih =>
    obtain ⟨pts, ok, hs, hy, hv⟩ := ih
    exact ⟨.leaf t :: pts, List.forall_mem_cons.mpr ⟨.leaf t, ok⟩, by rw [List.map_cons, hs]; rfl,
      by rw [PT.yieldL, hy]; rfl, by rw [PT.valL, hv]; rfl⟩
  | tree h _ ih =>
    obtain ⟨p, okp, hsp, hyp, hvp⟩ := h
    obtain ⟨pts, ok, hs, hy, hv⟩ := ih
    exact ⟨p :: pts, List.forall_mem_cons.mpr ⟨okp, ok⟩, by rw [List.map_cons, hs, hsp],
      by rw [PT.yieldL, hy, hyp], by rw [PT.valL, hv, hvp]⟩

theorem GTree.node (fn : String) {lhs : String} {syms : List String} {toks toks' : List Tok}
    {vals : List (Option PVal)} {v : PVal} (hk : GKids syms toks' vals)
    (hm : (fn, lhs, syms) ∈ Gen.grammar) (ha : act fn vals = some v) (hy : toks' = toks) :
    GTree lhs toks v := by
  obtain ⟨pts, ok, hs, hyl, hvl⟩ := hk.trees
  exact ⟨.node fn lhs pts, .node _ _ _ (hs ▸ hm) ok, rfl, by rw [PT.yield, hyl, hy],
    by rw [PT.val, hvl, ha]⟩

theorem gtree_name (x : String) : GTree "name" [.name x] (.name x) :=
  .node "p_name" (syms := ["NAME"]) (.tok (.name x) .nil) (by decide) rfl rfl

/-- induction on a non-empty list from its last element (the lists of the grammar are left
recursive) -/
theorem snoc_induction {α : Type} {P : List α → Prop} (one : ∀ x, P [x])
    (snoc : ∀ ys x, ys ≠ [] → P ys → P (ys ++ [x])) : ∀ l : List α, l ≠ [] → P l := by
  have key : ∀ (r : List α) (l : List α), l ≠ [] → P l → P (l ++ r) := by
    intro r
    induction r with
    | nil => exact fun l _ h => by rwa [List.append_nil]
    | cons x r ih =>
      intro l hne h
      have := ih (l ++ [x]) (by simp) (snoc l x hne h)
      rwa [List.append_assoc] at this
  intro l hne
  match l, hne with
  | x :: r, _ => exact key r [x] (by simp) (one x)

/-- `names` is left recursive: the last name is the one the production adds -/
theorem gtree_names : ∀ xs : List String, xs ≠ [] → GTree "names" (namesT xs) (.names xs) :=
  snoc_induction
    (fun x => .node "p_names_end" (.tree (gtree_name x) .nil) (by decide) rfl (List.append_nil _))
    fun ys x hne ih => .node "p_names_iter" (.tree ih (.tok .comma (.tree (gtree_name x) .nil)))
      (by decide) rfl (namesT_snoc ys x hne).symm

theorem gtree_sub (p : String × String) : GTree "sub" [.name p.1, .div, .name p.2] (.sub p) :=
  .node "p_substitution" (.tree (gtree_name p.1) (.tok .div (.tree (gtree_name p.2) .nil))) (by decide) rfl rfl

theorem gtree_subs : ∀ ss : List (String × String), ss ≠ [] → GTree "subs" (subsT ss) (.subs ss) :=
  snoc_induction
    (fun p => .node "p_substitutions_end" (.tree (gtree_sub p) .nil) (by decide) rfl rfl)
    fun ys p hne ih => .node "p_substitutions_iter" (.tree ih (.tok .comma (.tree (gtree_sub p) .nil)))
      (by decide) rfl (subsT_snoc ys p hne).symm

theorem binary_in_grammar (o : BinOp) : ("p_binary", "expr", ["expr", o.type, "expr"]) ∈ Gen.grammar := by
  cases o <;> decide

/-- the hand-written relation is contained in the relation read off the regenerated table -/
theorem derives_generic {toks : List Tok} {t : Ast} (h : Derives toks t) : GDerives toks t := by
  induction h with
  | tt => exact .node "p_bool" (.tok .tt .nil) (by decide) rfl rfl
  | ff => exact .node "p_bool" (.tok .ff .nil) (by decide) rfl rfl
  | var x => exact .node "p_var" (.tree (gtree_name x) .nil) (by decide) rfl rfl
  | num d =>
    exact .node "p_node" (.tok .at (.tree (.node "p_number" (lhs := "number") (syms := ["NUMBER"])
      (.tok (.number d) .nil) (by decide) rfl rfl) .nil)) (by decide) rfl rfl
  | negNum d =>
    exact .node "p_node" (.tok .at (.tree (.node "p_negative_number" (lhs := "number")
      (syms := ["MINUS", "NUMBER"]) (.tok (.op .minus) (.tok (.number d) .nil)) (by decide) rfl rfl) .nil)) (by decide) rfl rfl
  | not _ ih => exact .node "p_unary" (.tok .not (.tree ih .nil)) (by decide) rfl (by simp)
  | bin o _ _ iha ihb =>
    exact .node "p_binary" (.tree iha (.tok (.op o) (.tree ihb .nil))) (binary_in_grammar o) rfl (by simp)
  | paren _ ih => exact .node "p_paren" (.tok .lparen (.tree ih (.tok .rparen .nil))) (by decide) rfl rfl
  | ite _ _ _ iha ihb ihc =>
    exact .node "p_ternary_conditional" (.tok .ite (.tok .lparen (.tree iha (.tok .comma (.tree ihb (.tok .comma
      (.tree ihc (.tok .rparen .nil)))))))) (by decide) rfl rfl
  | @quant fa xs hne ts a _ ih =>
    have hk := GKids.tok (if fa then Tok.forall_ else .exists_)
      (.tree (gtree_names xs hne) (.tok .colon (.tree ih .nil)))
    cases fa
    · exact .node "p_quantifier" hk (by decide) rfl (by simp [printNames_eq xs hne])
    · exact .node "p_quantifier" hk (by decide) rfl (by simp [printNames_eq xs hne])
  | @subst ss hne ts a _ ih =>
    exact .node "p_rename" (.tok .rename (.tree (gtree_subs ss hne) (.tok .colon (.tree ih .nil)))) (by decide) rfl
      (by simp [printSubs_eq ss hne])

/-- SOUNDNESS w.r.t. the regenerated grammar: the model parser only returns trees that the
grammar of the current source derives (by its productions and semantic actions) for the given
token string -/
theorem parse_sound_generic (toks : List Tok) (t : Ast) (h : parse toks = some t) :
    GDerives toks t :=
  derives_generic (parse_sound toks t h)

end DD
