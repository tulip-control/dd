/-
  DDProofs.ParseOpen — a wider printer: ANY number of redundant parentheses around every
  sub-formula, and binders (`\A`, `\E`, `\S`) left unparenthesised as right operand / operand
  of `~` wherever nothing but a closing token follows (they extend as far to the right as
  possible).  `parse (printTop ex t) = some t`.
-/
import DDProofs.ParseProofs
namespace DD
open Tok

def parenN : Nat → List Tok → List Tok
  | 0, l => l
  | n + 1, l => .lparen :: (parenN n l ++ [.rparen])

def Ast.isBinder : Ast → Bool
  | .quant _ _ _ => true
  | .subst _ _ => true
  | _ => false

/-- an operand: `n` redundant pairs of parentheses, at least one pair when `need`ed; inside
parentheses the operand is at the right edge (`inner true`) -/
def wrapP (n : Nat) (need : Bool) (inner : Bool → List Tok) (edge : Bool) : List Tok :=
  if need || decide (0 < n) then parenN (max 1 n) (inner true) else inner edge

/-- tokens of a tree; `edge` = nothing but a closing token (`)`, `,`, end) follows, so that a
binder may stand unparenthesised as right operand or operand of `~`; `ex e` = number of
redundant parentheses around the sub-formula `e` -/
def printO (ex : Ast → Nat) : Bool → Ast → List Tok
  | _, .var x => [.name x]
  | _, .bool true => [.tt]
  | _, .bool false => [.ff]
  | _, .num false d => [.at, .number d]
  | _, .num true d => [.at, .op .minus, .number d]
  | edge, .not e =>
    .not :: wrapP (ex e) (decide (e.lvl < notPrec) && !(edge && e.isBinder)) (fun b => printO ex b e) edge
  | edge, .bin o l r =>
    wrapP (ex l) (decide (l.lvl < o.prec)) (fun b => printO ex b l) false ++
      .op o :: wrapP (ex r) (decide (r.lvl < o.prec + 1) && !(edge && r.isBinder)) (fun b => printO ex b r) edge
  | _, .ite a b c =>
    .ite :: .lparen :: (wrapP (ex a) false (fun e => printO ex e a) true ++ .comma ::
      (wrapP (ex b) false (fun e => printO ex e b) true ++ .comma ::
        (wrapP (ex c) false (fun e => printO ex e c) true ++ [.rparen])))
  | edge, .quant fa ns e =>
    (if fa then .forall_ else .exists_) :: (printNames ns ++ wrapP (ex e) false (fun b => printO ex b e) edge)
  | edge, .subst ss e => .rename :: (printSubs ss ++ wrapP (ex e) false (fun b => printO ex b e) edge)

def printTop (ex : Ast → Nat) (t : Ast) : List Tok := wrapP (ex t) false (fun b => printO ex b t) true

theorem Pr.parenN {p s : Nat} {x : Ast} {ts : List Tok} (h : Pr 0 0 x ts) :
    ∀ (m : Nat), 1 ≤ m → Pr p s x (parenN m ts)
  | 1, _ => .wrap h
  | m + 2, _ => .wrap (Pr.parenN h (m + 1) (Nat.succ_le_succ (Nat.zero_le _)))

theorem Pr.wrapP {p s : Nat} {x : Ast} {inner : Bool → List Tok} (n : Nat) (need edge : Bool)
    (h0 : Pr 0 0 x (inner true)) (h : need = false → Pr p s x (inner edge)) :
    Pr p s x (wrapP n need inner edge) := by
  unfold DD.wrapP
  split
  · exact h0.parenN _ (Nat.le_max_left 1 n)
  · next hc => exact h (Bool.or_eq_false_iff.mp (Bool.not_eq_true _ ▸ hc)).1

theorem Pr.wrapP0 {x : Ast} {inner : Bool → List Tok} (n : Nat) (h : Pr 0 0 x (inner true)) :
    Pr 0 0 x (DD.wrapP n false inner true) :=
  .wrapP n false true h fun _ => h

theorem open_arg {ex : Ast → Nat} {y : Ast} {edge : Bool} {q s : Nat}
    (ih : ∀ (edge : Bool) (p s : Nat), fitsP p y → s ≤ (if edge then 1 else y.lvl + 1) →
      Pr p s y (printO ex edge y))
    (hb : (decide (y.lvl < q) && !(edge && y.isBinder)) = false) (hq : s ≤ q) (he : edge = true → s ≤ 1) :
    Pr q s y (printO ex edge y) := by
  simp only [Bool.and_eq_false_iff, decide_eq_false_iff_not, Nat.not_lt, Bool.not_eq_false',
    Bool.and_eq_true] at hb
  rcases hb with hl | ⟨rfl, hbind⟩
  · refine ih edge q s (fitsP_of_le_lvl hl) ?_
    cases edge
    · exact Nat.le_trans hq (Nat.le_succ_of_le hl)
    · exact he rfl
  · exact ih true q s (by cases y <;> first | trivial | cases hbind) (he rfl)

theorem body_stop {s : Nat} {edge : Bool} {e : Ast} (h : s ≤ 1) : s ≤ (if edge then 1 else e.lvl + 1) := by
  cases edge
  · exact Nat.le_trans h (Nat.succ_le_succ (Nat.zero_le _))
  · exact h

/-- what `printO` writes for `t` is read as `t` wherever `t` fits unparenthesised; at the edge
the loop is known to stop at level 1 on what follows -/
theorem Pr_printO (ex : Ast → Nat) : ∀ (t : Ast), t.WF → ∀ (edge : Bool) (p s : Nat), fitsP p t →
    s ≤ (if edge then 1 else t.lvl + 1) → Pr p s t (printO ex edge t) := by
  intro t
  induction t with
  | var x => exact fun _ _ _ _ _ _ => .atom (.name x)
  | bool b => intro _ _ _ _ _ _; cases b <;> exact .atom (by constructor)
  | num neg d => intro _ _ _ _ _ _; cases neg <;> exact .atom (by constructor)
  | not e ih =>
    intro hwf edge p s _ hs
    refine .not (.wrapP _ _ edge (ih hwf true 0 0 (fitsP_zero e) (Nat.zero_le _)) fun hb => ?_)
    exact open_arg (ih hwf) hb (Nat.min_le_right _ _) fun he =>
      Nat.le_trans (Nat.min_le_left _ _) (by subst he; exact hs)
  | bin o l r ihl ihr =>
    intro hwf edge p s hp hs
    have hs' : s ≤ o.prec + 1 := by
      cases edge
      · exact hs
      · exact Nat.le_trans hs (Nat.succ_le_succ (Nat.zero_le _))
    refine .bin hp hs' (.wrapP _ _ false (ihl hwf.1 true 0 0 (fitsP_zero l) (Nat.zero_le _)) fun hb => ?_)
      (.wrapP _ _ edge (ihr hwf.2 true 0 0 (fitsP_zero r) (Nat.zero_le _)) fun hb => ?_)
    · have hl : o.prec ≤ l.lvl := by simpa using hb
      exact ihl hwf.1 false _ _ (fitsP_of_le_lvl (Nat.le_trans hp hl)) (Nat.succ_le_succ hl)
    · exact open_arg (ihr hwf.2) hb hs' fun he => by subst he; exact hs
  | ite a b c iha ihb ihc =>
    intro hwf _ p s _ _
    exact .ite (.wrapP0 _ (iha hwf.1 true 0 0 (fitsP_zero a) (Nat.zero_le _)))
      (.wrapP0 _ (ihb hwf.2.1 true 0 0 (fitsP_zero b) (Nat.zero_le _)))
      (.wrapP0 _ (ihc hwf.2.2 true 0 0 (fitsP_zero c) (Nat.zero_le _)))
  | quant fa ns e ih =>
    intro hwf edge p s _ hs
    have hs1 : s ≤ 1 := by cases edge <;> exact hs
    exact .quant hs1 hwf.1 (.wrapP _ _ edge (ih hwf.2 true 0 0 (fitsP_zero e) (Nat.zero_le _)) fun _ =>
      ih hwf.2 edge _ _ (fitsP_body e) (body_stop hs1))
  | subst ss e ih =>
    intro hwf edge p s _ hs
    have hs1 : s ≤ 1 := by cases edge <;> exact hs
    exact .subst hs1 hwf.1 (.wrapP _ _ edge (ih hwf.2 true 0 0 (fitsP_zero e) (Nat.zero_le _)) fun _ =>
      ih hwf.2 edge _ _ (fitsP_body e) (body_stop hs1))

theorem Pr_printTop (ex : Ast → Nat) (t : Ast) (h : t.WF) : Pr 0 0 t (printTop ex t) :=
  .wrapP0 _ (Pr_printO ex t h true 0 0 (fitsP_zero t) (Nat.zero_le _))

/-- printing with the required parentheses, any number of redundant ones, binders open at the
right edge — then parsing — is the identity -/
theorem parse_printTop (ex : Ast → Nat) (t : Ast) (h : t.WF) : parse (printTop ex t) = some t :=
  (Pr_printTop ex t h).parse_eq

end DD
