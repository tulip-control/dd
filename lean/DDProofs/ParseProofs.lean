/-
  DDProofs.ParseProofs — the model parser reads every formula with the precedence and
  associativity of the table: printing a syntax tree with parentheses exactly where the
  table requires them (or with any additional, redundant parentheses) and parsing the
  tokens gives the tree back.
-/
import DD.Parse
namespace DD
open Tok

theorem notPrec_eq : notPrec = 8 := by decide
theorem bodyPrec_eq : bodyPrec = 1 := by decide

theorem binop_prec_pos (o : BinOp) : 1 ≤ o.prec := by cases o <;> decide
theorem binop_prec_lt_not (o : BinOp) : o.prec < notPrec := by cases o <;> decide

/-- level of a tree as an operand: binders lowest (they extend to the right as far as
possible), binary operators by the table, then negation, then atoms -/
def Ast.lvl : Ast → Nat
  | .bin o _ _ => o.prec
  | .not _ => notPrec
  | .quant _ _ _ => 0
  | .subst _ _ => 0
  | _ => notPrec + 2

def paren (b : Bool) (l : List Tok) : List Tok :=
  if b then .lparen :: (l ++ [.rparen]) else l

def printNames : List String → List Tok
  | [] => [.colon]
  | [x] => [.name x, .colon]
  | x :: y :: xs => .name x :: .comma :: printNames (y :: xs)

def printSubs : List (String × String) → List Tok
  | [] => [.colon]
  | [(new, old)] => [.name new, .div, .name old, .colon]
  | (new, old) :: s :: ss => .name new :: .div :: .name old :: .comma :: printSubs (s :: ss)

/-- tokens of a tree: an operand is parenthesised when its level is below the level its
position requires (left operand: the operator's level, right operand: one more — left
associativity; operand of `~`: the level of `~`), or when `ex` asks for (redundant)
parentheses -/
def printRaw (ex : Ast → Bool) : Ast → List Tok
  | .var x => [.name x]
  | .bool true => [.tt]
  | .bool false => [.ff]
  | .num false d => [.at, .number d]
  | .num true d => [.at, .op .minus, .number d]
  | .not e => .not :: paren (decide (e.lvl < notPrec) || ex e) (printRaw ex e)
  | .bin o l r =>
    paren (decide (l.lvl < o.prec) || ex l) (printRaw ex l) ++
      .op o :: paren (decide (r.lvl < o.prec + 1) || ex r) (printRaw ex r)
  | .ite a b c =>
    .ite :: .lparen :: (paren (ex a) (printRaw ex a) ++ .comma :: (paren (ex b) (printRaw ex b) ++
      .comma :: (paren (ex c) (printRaw ex c) ++ [.rparen])))
  | .quant fa ns e =>
    (if fa then .forall_ else .exists_) :: (printNames ns ++ paren (ex e) (printRaw ex e))
  | .subst ss e => .rename :: (printSubs ss ++ paren (ex e) (printRaw ex e))

def printG (ex : Ast → Bool) (t : Ast) : List Tok := paren (ex t) (printRaw ex t)

/-- parentheses exactly where precedence / left associativity require them -/
def printMin (t : Ast) : List Tok := printG (fun _ => false) t

/-- every sub-formula parenthesised -/
def printFull (t : Ast) : List Tok := printG (fun _ => true) t

/-- well-formed trees: binder lists are not empty -/
def Ast.WF : Ast → Prop
  | .not e => e.WF
  | .bin _ l r => l.WF ∧ r.WF
  | .ite a b c => a.WF ∧ b.WF ∧ c.WF
  | .quant _ ns e => ns ≠ [] ∧ e.WF
  | .subst ss e => ss ≠ [] ∧ e.WF
  | _ => True

@[simp] theorem bindF_ok (pre : List Ast) (a : α) (k : α → PRes β) :
    PRes.bindF pre (.ok a) k = k a := rfl

@[simp] theorem bindF_error (pre : List Ast) (fr : List Ast) (e : PErr) (k : α → PRes β) :
    PRes.bindF pre (.error (fr, e) : PRes α) k = .error (pre ++ fr, e) := rfl

theorem exprWith_eq (f p : Nat) (toks : List Tok) :
    exprWith (fun t => parsePrefix f t) (fun p a t => parseLoop f p a t) p toks = parseExpr f p toks := rfl

theorem parseExpr_eq (f p : Nat) (toks : List Tok) :
    parseExpr f p toks = PRes.bindF [] (parsePrefix f toks) fun ar => parseLoop f p ar.1 ar.2 := rfl

/-- the operands that are complete after a fixed number of tokens -/
inductive AtomAt : List Tok → Ast → Prop
  | tt : AtomAt [.tt] (.bool true)
  | ff : AtomAt [.ff] (.bool false)
  | name (x : String) : AtomAt [.name x] (.var x)
  | num (d : String) : AtomAt [.at, .number d] (.num false d)
  | negNum (d : String) : AtomAt [.at, .op .minus, .number d] (.num true d)

theorem prefix_atom {pre : List Tok} {a : Ast} (h : AtomAt pre a) (f : Nat) (rest : List Tok) :
    parsePrefix (f+1) (pre ++ rest) = atomDone a [] rest := by
  cases h <;> rfl

theorem prefix_not (f : Nat) (rest : List Tok) :
    parsePrefix (f+1) (.not :: rest) =
      PRes.bindF [] (parseExpr f notPrec rest) fun er => .ok (.not er.1, er.2) := rfl

theorem prefix_lparen (f : Nat) (rest : List Tok) :
    parsePrefix (f+1) (.lparen :: rest) =
      PRes.bindF [] (parseExpr f 0 rest) fun er => closeParen er.1 er.2 := rfl

theorem prefix_ite (f : Nat) (rest : List Tok) :
    parsePrefix (f+1) (.ite :: .lparen :: rest) =
      PRes.bindF [] (parseExpr f 0 rest)
        fun ar => expectComma [ar.1] (fun r1 =>
          PRes.bindF [ar.1] (parseExpr f 0 r1)
            fun br => expectComma [ar.1, br.1] (fun r2 =>
              PRes.bindF [ar.1, br.1] (parseExpr f 0 r2)
                fun cr => closeIte ar.1 br.1 cr.1 cr.2) br.2) ar.2 := rfl

theorem prefix_quant (fa : Bool) (f : Nat) (rest : List Tok) :
    parsePrefix (f+1) ((if fa then Tok.forall_ else .exists_) :: rest) =
      PRes.bindF [] (parseNames rest) fun nr =>
        PRes.bindF [] (parseExpr f bodyPrec nr.2) fun er => .ok (.quant fa nr.1 er.1, er.2) := by
  cases fa <;> rfl

theorem prefix_rename (f : Nat) (rest : List Tok) :
    parsePrefix (f+1) (.rename :: rest) =
      PRes.bindF [] (parseSubs rest) fun sr =>
        PRes.bindF [] (parseExpr f bodyPrec sr.2) fun er => .ok (.subst sr.1 er.1, er.2) := rfl

theorem loop_op (f p : Nat) (lhs : Ast) (o : BinOp) (rest : List Tok) :
    parseLoop (f+1) p lhs (.op o :: rest) =
      if p ≤ o.prec then
        PRes.bindF [lhs] (parseExpr f (o.prec + 1) rest) fun rr => parseLoop f p (.bin o lhs rr.1) rr.2
      else .ok (lhs, .op o :: rest) := rfl

/-- the operator loop stops at `rest` for binding power `p` -/
def stops (p : Nat) : List Tok → Prop
  | .op o :: _ => o.prec < p
  | _ => True

theorem stops_mono {p q : Nat} {rest : List Tok} (h : stops p rest) (hpq : p ≤ q) : stops q rest := by
  cases rest with
  | nil => trivial
  | cons t r =>
    cases t with
    | op o => exact Nat.lt_of_lt_of_le h hpq
    | _ => trivial

theorem stops_not (rest : List Tok) : stops notPrec rest := by
  cases rest with
  | nil => trivial
  | cons t r =>
    cases t with
    | op o => exact binop_prec_lt_not o
    | _ => trivial

theorem fuel_succ {n f : Nat} (h : n < f) : ∃ f0, f = f0 + 1 := ⟨f - 1, by omega⟩

theorem loop_stops (p : Nat) (t : Ast) (rest : List Tok) (h : stops p rest) :
    ∀ f', rest.length < f' → parseLoop f' p t rest = .ok (t, rest) := by
  intro f' hf'
  obtain ⟨f, rfl⟩ := fuel_succ hf'
  cases rest with
  | nil => rfl
  | cons t r =>
    cases t <;> try rfl
    rw [loop_op, if_neg (Nat.not_le.mpr h)]

theorem parseNames_print : ∀ (ns : List String) (rest : List Tok), ns ≠ [] →
    parseNames (printNames ns ++ rest) = .ok (ns, rest)
  | [], _, h => absurd rfl h
  | [x], rest, _ => rfl
  | x :: y :: xs, rest, _ => by
    have ih := parseNames_print (y :: xs) rest (List.cons_ne_nil _ _)
    simp only [printNames, List.cons_append, parseNames, ih]

theorem parseSubs_print : ∀ (ss : List (String × String)) (rest : List Tok), ss ≠ [] →
    parseSubs (printSubs ss ++ rest) = .ok (ss, rest)
  | [], _, h => absurd rfl h
  | [(new, old)], rest, _ => rfl
  | (new, old) :: s :: ss, rest, _ => by
    have ih := parseSubs_print (s :: ss) rest (List.cons_ne_nil _ _)
    simp only [printSubs, List.cons_append, parseSubs, ih]

/-- an unparenthesised binary operator must bind at least as tightly as the level `p` it is read at -/
def fitsP (p : Nat) : Ast → Prop
  | .bin o _ _ => p ≤ o.prec
  | _ => True

theorem fitsP_zero (t : Ast) : fitsP 0 t := by cases t <;> simp [fitsP]

/-- `ts` is read as the tree `x` at a place where the parser reads at level `p` and the operator
loop is known to stop at level `s` on whatever follows: any number of parentheses around every
operand; none are needed around an operator that binds at level `p` at least whose right end can
take what follows (`s ≤` its own level `+ 1`: for a binder, nothing but a closing token follows) -/
inductive Pr : Nat → Nat → Ast → List Tok → Prop
  | wrap {p s x ts} : Pr 0 0 x ts → Pr p s x (.lparen :: (ts ++ [.rparen]))
  | atom {p s a pre} : AtomAt pre a → Pr p s a pre
  | not {p s x ts} : Pr notPrec (min s notPrec) x ts → Pr p s (.not x) (.not :: ts)
  | bin {p s o l r tl tr} : p ≤ o.prec → s ≤ o.prec + 1 → Pr p (o.prec + 1) l tl →
      Pr (o.prec + 1) s r tr → Pr p s (.bin o l r) (tl ++ .op o :: tr)
  | ite {p s a b c ta tb tc} : Pr 0 0 a ta → Pr 0 0 b tb → Pr 0 0 c tc →
      Pr p s (.ite a b c) (.ite :: .lparen :: (ta ++ .comma :: (tb ++ .comma :: (tc ++ [.rparen]))))
  | quant {p s fa ns x ts} : s ≤ 1 → ns ≠ [] → Pr bodyPrec s x ts →
      Pr p s (.quant fa ns x) ((if fa then Tok.forall_ else .exists_) :: (printNames ns ++ ts))
  | subst {p s ss x ts} : s ≤ 1 → ss ≠ [] → Pr bodyPrec s x ts →
      Pr p s (.subst ss x) (.rename :: (printSubs ss ++ ts))

/-- reading such a string at level `p`, and then whatever follows, is continuing the operator loop
of level `p` with the tree as left operand (`res`: what the loop answers, for any fuel that
suffices) -/
theorem Pr.spec {p s : Nat} {x : Ast} {ts : List Tok} (h : Pr p s x ts) :
    ∀ (f : Nat) (rest : List Tok) (res : PRes (Ast × List Tok)),
    (ts ++ rest).length < f → followOk rest = true → stops s rest →
    (∀ f', rest.length < f' → parseLoop f' p x rest = res) →
    parseExpr f p (ts ++ rest) = res := by
  induction h with
  | wrap _ ih =>
    intro f rest res hf hfol _ hk
    obtain ⟨f0, rfl⟩ := fuel_succ hf
    simp only [List.cons_append, List.append_assoc, List.nil_append, List.length_cons, List.length_append] at hf ⊢
    rw [parseExpr_eq, prefix_lparen,
      ih f0 (.rparen :: rest) _ (by simp only [List.length_append, List.length_cons]; omega) rfl trivial
        (loop_stops 0 _ _ trivial)]
    simp only [bindF_ok, closeParen, atomDone, hfol, if_true]
    exact hk _ (by omega)
  | atom ha =>
    intro f rest res hf hfol _ hk
    obtain ⟨f0, rfl⟩ := fuel_succ hf
    rw [parseExpr_eq, prefix_atom ha]
    simp only [atomDone, hfol, if_true, bindF_ok]
    exact hk _ (by simp only [List.length_append] at hf; omega)
  | @not p s x ts _ ih =>
    intro f rest res hf hfol hst hk
    obtain ⟨f0, rfl⟩ := fuel_succ hf
    have hst' : stops (min s notPrec) rest := by
      rcases Nat.le_total s notPrec with h | h
      · rw [Nat.min_eq_left h]; exact hst
      · rw [Nat.min_eq_right h]; exact stops_not rest
    simp only [List.cons_append, List.length_cons] at hf ⊢
    rw [parseExpr_eq, prefix_not, ih f0 rest _ (by omega) hfol hst' (loop_stops _ _ _ (stops_not rest))]
    exact hk _ (by simp only [List.length_append] at hf; omega)
  | @bin p s o l r tl tr hp hs _ _ ihl ihr =>
    intro f rest res hf hfol hst hk
    rw [List.append_assoc, List.cons_append] at hf ⊢
    refine ihl f _ res hf rfl (Nat.lt_succ_self _) fun f' hf' => ?_
    obtain ⟨f0, rfl⟩ := fuel_succ hf'
    simp only [List.length_cons] at hf'
    rw [loop_op, if_pos hp, ihr f0 rest _ (by omega) hfol hst (loop_stops _ _ _ (stops_mono hst hs))]
    exact hk _ (by simp only [List.length_append] at hf'; omega)
  | @ite p s a b c ta tb tc _ _ _ iha ihb ihc =>
    intro f rest res hf hfol _ hk
    obtain ⟨f0, rfl⟩ := fuel_succ hf
    simp only [List.cons_append, List.append_assoc, List.nil_append, List.length_cons, List.length_append] at hf ⊢
    rw [parseExpr_eq, prefix_ite,
      iha f0 (.comma :: (tb ++ .comma :: (tc ++ .rparen :: rest))) _
        (by simp only [List.length_append, List.length_cons]; omega) rfl trivial (loop_stops 0 _ _ trivial)]
    simp only [bindF_ok, expectComma]
    rw [ihb f0 (.comma :: (tc ++ .rparen :: rest)) _
        (by simp only [List.length_append, List.length_cons]; omega) rfl trivial (loop_stops 0 _ _ trivial)]
    simp only [bindF_ok]
    rw [ihc f0 (.rparen :: rest) _
        (by simp only [List.length_append, List.length_cons]; omega) rfl trivial (loop_stops 0 _ _ trivial)]
    simp only [bindF_ok, closeIte, atomDone, hfol, if_true]
    exact hk _ (by omega)
  | @quant p s fa ns x ts hs hns _ ih =>
    intro f rest res hf hfol hst hk
    obtain ⟨f0, rfl⟩ := fuel_succ hf
    simp only [List.cons_append, List.append_assoc, List.length_cons, List.length_append] at hf ⊢
    rw [parseExpr_eq, prefix_quant, parseNames_print ns _ hns]
    simp only [bindF_ok]
    rw [ih f0 rest _ (by simp only [List.length_append]; omega) hfol hst
      (loop_stops _ _ _ (stops_mono hst (by rw [bodyPrec_eq]; exact hs)))]
    exact hk _ (by omega)
  | @subst p s ss x ts hs hss _ ih =>
    intro f rest res hf hfol hst hk
    obtain ⟨f0, rfl⟩ := fuel_succ hf
    simp only [List.cons_append, List.append_assoc, List.length_cons, List.length_append] at hf ⊢
    rw [parseExpr_eq, prefix_rename, parseSubs_print ss _ hss]
    simp only [bindF_ok]
    rw [ih f0 rest _ (by simp only [List.length_append]; omega) hfol hst
      (loop_stops _ _ _ (stops_mono hst (by rw [bodyPrec_eq]; exact hs)))]
    exact hk _ (by omega)

theorem Pr.parse_eq {t : Ast} {ts : List Tok} (h : Pr 0 0 t ts) : parse ts = some t := by
  have := h.spec (ts.length + 1) [] (.ok (t, [])) (by simp) rfl trivial (loop_stops 0 t [] trivial)
  rw [List.append_nil] at this
  unfold parse parseE
  rw [this]

theorem fitsP_of_le_lvl {p : Nat} {x : Ast} (h : p ≤ x.lvl) : fitsP p x := by
  cases x <;> first | trivial | exact h

theorem fitsP_body (x : Ast) : fitsP bodyPrec x := by
  cases x <;> first | trivial | (rw [fitsP, bodyPrec_eq]; exact binop_prec_pos _)

theorem Pr.paren_if {p s : Nat} {x : Ast} {ts : List Tok} (b : Bool) (h0 : Pr 0 0 x ts)
    (h : b = false → Pr p s x ts) : Pr p s x (paren b ts) := by
  cases b
  · exact h rfl
  · exact .wrap h0

theorem Pr.paren0 {x : Ast} {ts : List Tok} (b : Bool) (h : Pr 0 0 x ts) : Pr 0 0 x (paren b ts) :=
  .paren_if b h fun _ => h

theorem Pr_printRaw (ex : Ast → Bool) : ∀ (t : Ast), t.WF → ∀ (p s : Nat), fitsP p t → s ≤ t.lvl + 1 →
    Pr p s t (printRaw ex t) := by
  intro t
  induction t with
  | var x => exact fun _ _ _ _ _ => .atom (.name x)
  | bool b => exact fun _ _ _ _ _ => by cases b <;> exact .atom (by constructor)
  | num neg d => exact fun _ _ _ _ _ => by cases neg <;> exact .atom (by constructor)
  | not e ih =>
    intro hwf p s _ _
    refine .not (.paren_if _ (ih hwf 0 0 (fitsP_zero e) (Nat.zero_le _)) fun hb => ?_)
    have hl : notPrec ≤ e.lvl := by simpa using (Bool.or_eq_false_iff.mp hb).1
    exact ih hwf _ _ (fitsP_of_le_lvl hl) (Nat.le_trans (Nat.min_le_right _ _) (Nat.le_succ_of_le hl))
  | bin o l r ihl ihr =>
    intro hwf p s hp hs
    refine .bin hp hs (.paren_if _ (ihl hwf.1 0 0 (fitsP_zero l) (Nat.zero_le _)) fun hb => ?_)
      (.paren_if _ (ihr hwf.2 0 0 (fitsP_zero r) (Nat.zero_le _)) fun hb => ?_)
    · have hl : o.prec ≤ l.lvl := by simpa using (Bool.or_eq_false_iff.mp hb).1
      exact ihl hwf.1 _ _ (fitsP_of_le_lvl (Nat.le_trans hp hl)) (Nat.succ_le_succ hl)
    · have hl : o.prec + 1 ≤ r.lvl := by simpa using (Bool.or_eq_false_iff.mp hb).1
      exact ihr hwf.2 _ _ (fitsP_of_le_lvl hl) (Nat.le_trans hs (Nat.le_succ_of_le hl))
  | ite a b c iha ihb ihc =>
    intro hwf p s _ _
    exact .ite (.paren0 _ (iha hwf.1 0 0 (fitsP_zero a) (Nat.zero_le _)))
      (.paren0 _ (ihb hwf.2.1 0 0 (fitsP_zero b) (Nat.zero_le _)))
      (.paren0 _ (ihc hwf.2.2 0 0 (fitsP_zero c) (Nat.zero_le _)))
  | quant fa ns e ih =>
    intro hwf p s _ hs
    exact .quant hs hwf.1 (.paren_if _ (ih hwf.2 0 0 (fitsP_zero e) (Nat.zero_le _)) fun _ =>
      ih hwf.2 _ _ (fitsP_body e) (Nat.le_trans hs (Nat.succ_le_succ (Nat.zero_le _))))
  | subst ss e ih =>
    intro hwf p s _ hs
    exact .subst hs hwf.1 (.paren_if _ (ih hwf.2 0 0 (fitsP_zero e) (Nat.zero_le _)) fun _ =>
      ih hwf.2 _ _ (fitsP_body e) (Nat.le_trans hs (Nat.succ_le_succ (Nat.zero_le _))))

theorem Pr_printG (ex : Ast → Bool) (t : Ast) (h : t.WF) : Pr 0 0 t (printG ex t) :=
  .paren0 _ (Pr_printRaw ex t h 0 0 (fitsP_zero t) (Nat.zero_le _))

/-- printing with required (and any redundant) parentheses, then parsing, is the identity -/
theorem parse_printG (ex : Ast → Bool) (t : Ast) (h : t.WF) : parse (printG ex t) = some t :=
  (Pr_printG ex t h).parse_eq

theorem addExprToks_parsed {toks : List Tok} {t : Ast} (h : parse toks = some t) :
    addExprToks toks = evalAst t := by
  unfold parse at h
  unfold addExprToks
  split at h
  · next ht => cases h; rw [ht]
  · cases h

theorem addExpr_parsed {s : String} {t : Ast} (h : parse (tokenize s) = some t) :
    addExpr s = tryToReorder (evalAst t) :=
  congrArg tryToReorder (addExprToks_parsed h)

/-- how an operand starts: with an atom, with one of the five prefix forms, or so that the parser
reports an error at `r`, after tokens among which there is no illegal character -/
inductive PrefixShape (f : Nat) : List Tok → Prop
  | atom {pre : List Tok} {a : Ast} (h : AtomAt pre a) (rest : List Tok) : PrefixShape f (pre ++ rest)
  | not (rest : List Tok) : PrefixShape f (.not :: rest)
  | lparen (rest : List Tok) : PrefixShape f (.lparen :: rest)
  | ite (rest : List Tok) : PrefixShape f (.ite :: .lparen :: rest)
  | quant (fa : Bool) (rest : List Tok) : PrefixShape f ((if fa then Tok.forall_ else .exists_) :: rest)
  | rename (rest : List Tok) : PrefixShape f (.rename :: rest)
  | err (pre r : List Tok) : Tok.bad ∉ pre → parsePrefix (f+1) (pre ++ r) = errAt [] r →
      PrefixShape f (pre ++ r)

theorem parsePrefix_shape (f : Nat) (toks : List Tok) : PrefixShape f toks := by
  -- only the right side is unfolded: after `split`, `h` is the equation the `.err` arms hand over
  have h : parsePrefix (f+1) toks = parsePrefix (f+1) toks := rfl
  conv at h => rhs; unfold parsePrefix
  split at h
  · exact .atom .tt _
  · exact .atom .ff _
  · exact .atom (.name _) _
  · exact .atom (.num _) _
  · exact .atom (.negNum _) _
  · exact .err [.at, .op .minus] _ (by simp) h
  · exact .err [.at] _ (by simp) h
  · exact .not _
  · exact .lparen _
  · exact .ite _
  · exact .err [.ite] _ (by simp) h
  · exact .quant true _
  · exact .quant false _
  · exact .rename _
  · exact .err [] _ nofun h

end DD
