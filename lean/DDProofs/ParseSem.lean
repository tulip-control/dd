/-
  DDProofs.ParseSem — the semantic half of C05: `evalFormula`, an independent, purely semantic
  evaluator of a syntax tree over assignments by variable NAME, and `Meaningful`, the trees it
  gives a meaning to in a manager.  That the bottom-up evaluation `evalAst` (what `_Translator`
  does during the reductions) returns a reference of that meaning is `evalAst_out` in
  `DDProofs/DynExpr.lean`; the unfolding printed by `to_expr` is in `DDProofs/ToExprProofs.lean`.
-/
import DDProofs.LetCopy
import DD.Doc
import DD.Parse
open Std
namespace DD

/-- assignment by level induced by an assignment by name -/
def asgOf (tb : Tbl) (an : String → Bool) : Asg := fun lvl =>
  match tb.l2v[lvl]? with
  | some v => an v
  | none => false

def updName (an : String → Bool) (x : String) (b : Bool) : String → Bool :=
  fun y => if y = x then b else an y

/-- truth function of a binary operator token (`=` has no meaning) -/
def BinOp.sem : BinOp → Bool → Bool → Bool
  | .and, u, v => u && v
  | .or, u, v => u || v
  | .xorHash, u, v => u != v
  | .xorCaret, u, v => u != v
  | .implies, u, v => !u || v
  | .equiv, u, v => u == v
  | .minus, u, v => u && !v
  | .equals, _, _ => false

/-- `\A x, y, … : k` / `\E x, y, … : k` by expansion over the two values of each name -/
def quantNames (fa : Bool) : List String → ((String → Bool) → Bool) → (String → Bool) → Bool
  | [], k, an => k an
  | x :: xs, k, an =>
    let u := quantNames fa xs k (updName an x false)
    let v := quantNames fa xs k (updName an x true)
    if fa then u && v else u || v

/-- the documented meaning of a syntax tree under an assignment by name; the table is used
only for the functions of the nodes named by `@n` -/
def evalFormula (tb : Tbl) : Ast → (String → Bool) → Bool
  | .var x, an => an x
  | .bool b, _ => b
  | .num neg d, an =>
    den tb (if neg then -(digitsToNat d : Int) else (digitsToNat d : Int)) (asgOf tb an)
  | .not e, an => !evalFormula tb e an
  | .bin o l r, an => o.sem (evalFormula tb l an) (evalFormula tb r an)
  | .ite a b c, an => if evalFormula tb a an then evalFormula tb b an else evalFormula tb c an
  | .quant fa ns e, an => quantNames fa ns (evalFormula tb e) an
  | .subst ss e, an =>
    -- `\S new / old, … : e`: every `old` is read as its `new` (simultaneously; the last pair
    -- of one `old` wins, as in the dictionary the translator builds)
    evalFormula tb e fun y => an (tgtName (ss.map fun s => (s.2, s.1)) y)

/-- formulas that have a meaning in the manager: names declared, `@n` names a node, no `=` -/
def Meaningful (tb : Tbl) : Ast → Prop
  | .var x => tb.vars.contains x = true
  | .bool _ => True
  | .num neg d => tb.Mem (if neg then -(digitsToNat d : Int) else (digitsToNat d : Int))
  | .not e => Meaningful tb e
  | .bin o l r => o ≠ .equals ∧ Meaningful tb l ∧ Meaningful tb r
  | .ite a b c => Meaningful tb a ∧ Meaningful tb b ∧ Meaningful tb c
  | .quant _ ns e => (∀ x, x ∈ ns → tb.vars.contains x = true) ∧ Meaningful tb e
  | .subst ss e => (∀ s, s ∈ ss → tb.vars.contains s.1 = true) ∧ Meaningful tb e

theorem asgOf_congr {t t' : Tbl} (h : t'.l2v = t.l2v) (an : String → Bool) : asgOf t' an = asgOf t an := by
  funext i; simp [asgOf, h]

/-- every binary operator token except `=` reaches `apply` with a value of the vocabulary whose
documented connective is the truth function of the token -/
theorem binop_conn (o : BinOp) (h : o ≠ .equals) :
    ∃ c, docConn o.value = some c ∧ c.arity = 2 ∧ c ≠ .forall_ ∧ c ≠ .exists_ ∧
      Gen.allOps.contains o.value = true ∧ ∀ u v, c.eval u v false = o.sem u v := by
  cases o with
  | equals => exact absurd rfl h
  | and => exact ⟨.and, by decide, by decide, by decide, by decide, by decide, fun u v => rfl⟩
  | or => exact ⟨.or, by decide, by decide, by decide, by decide, by decide, fun u v => rfl⟩
  | xorHash => exact ⟨.xor, by decide, by decide, by decide, by decide, by decide, fun u v => rfl⟩
  | xorCaret => exact ⟨.xor, by decide, by decide, by decide, by decide, by decide, fun u v => rfl⟩
  | implies => exact ⟨.implies, by decide, by decide, by decide, by decide, by decide, fun u v => rfl⟩
  | equiv => exact ⟨.equiv, by decide, by decide, by decide, by decide, by decide, fun u v => rfl⟩
  | minus => exact ⟨.diff, by decide, by decide, by decide, by decide, by decide, fun u v => rfl⟩

theorem evalAst_num (neg : Bool) (d : String) (m : Mgr) :
    evalAst (.num neg d) m =
      if m.mem (if neg then -(digitsToNat d : Int) else (digitsToNat d : Int)) then
        (.ok (if neg then -(digitsToNat d : Int) else (digitsToNat d : Int)), m)
      else (.error .value, m) := by
  simp only [evalAst, addInt]
  cases h : m.mem (if neg then -(digitsToNat d : Int) else (digitsToNat d : Int)) <;>
    simp [bind, M.bind', M.get, M.throw, pure, M.pure', h]

end DD
