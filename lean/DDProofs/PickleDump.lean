/-
  DDProofs.PickleDump — `_dump_bdd` writes a content that is well formed and means the dumped functions.
  `Stores t nodes f`: the file holds the variable table and, for a successor-closed set of ids, their
  stored triples — what both writers establish (`dumpPickle_stores`, `dumpJson_stores`) and all that
  `Stores.wf : PickleWF f` and `Stores.eval : evalPickle f = denBy t` need.  `VarsWF`: the `vars` pairs of
  a dump are a bijection onto `0..n-1`, which is what the model's order checks ask.
-/
import DDProofs.PickleSem
import DDProofs.SatSupport
open Std
namespace DD

/-- every listed non-terminal node has its successors listed -/
def Closed (t : Tbl) (vis : List Nat) : Prop :=
  ∀ r ∈ vis, r ≠ 1 → ∃ n, t.succ[r]? = some n ∧
    (n.lo.natAbs = 1 ∨ n.lo.natAbs ∈ vis) ∧ (n.hi.natAbs = 1 ∨ n.hi.natAbs ∈ vis)

theorem Closed.mono {t : Tbl} {vis vis' : List Nat} (h : Closed t vis) (hs : ∀ x ∈ vis, x ∈ vis')
    (hnew : ∀ r ∈ vis', r ∉ vis → r ≠ 1 → ∃ n, t.succ[r]? = some n ∧
      (n.lo.natAbs = 1 ∨ n.lo.natAbs ∈ vis') ∧ (n.hi.natAbs = 1 ∨ n.hi.natAbs ∈ vis')) :
    Closed t vis' := by
  intro r hr h1
  by_cases hin : r ∈ vis
  · obtain ⟨n, hn, h2, h3⟩ := h r hin h1
    exact ⟨n, hn, h2.imp id (hs _), h3.imp id (hs _)⟩
  · exact hnew r hr hin h1

/-- `descendants(roots)`, when it returns: the list is closed under successors and holds the
roots (it is exactly what the roots reach, `descendants_spec`) -/
theorem descendants_closed {t : Tbl} (hw : WF t) (roots : List Int) (nodes : List Nat)
    (h : descendants t roots = .ok nodes) :
    Closed t nodes ∧ (∀ u ∈ roots, u.natAbs = 1 ∨ u.natAbs ∈ nodes) ∧ (roots ≠ [] → 1 ∈ nodes) := by
  have hm : ∀ r ∈ roots, t.Mem r := by
    unfold descendants at h
    cases h1 : descendants.go t roots [] with
    | error e => simp [h1] at h
    | ok vis => exact descendants_go_mem hw roots [] vis h1 nofun .nil nofun
  obtain ⟨l, e, _, s⟩ := descendants_spec hw roots hm
  cases h.symm.trans e
  obtain ⟨hmem, hpre, h1⟩ := reachSet_spec hw hm s
  refine ⟨fun r hr hr1 => ?_, fun u hu => Or.inr ((s _).mpr ⟨u, hu, Reach.refl _⟩), h1⟩
  obtain ⟨n, hn⟩ := Option.isSome_iff_exists.mp ((hmem r hr).resolve_left (by simpa using hr1))
  exact ⟨n, hn, Or.inr (hpre r hr n hn).1, Or.inr (hpre r hr n hn).2⟩

theorem entryOf_ok {t : Tbl} {k : Nat} {e : PEntry} (h : entryOf t k = .ok e) :
    e.id = k ∧ (k = 1 → e = ⟨1, t.nvars, none, none⟩) ∧
    (k ≠ 1 → ∃ n, t.succ[k]? = some n ∧ e = ⟨k, n.lvl, some n.lo, some n.hi⟩) := by
  unfold entryOf at h
  by_cases h1 : k = 1
  · simp [h1] at h
    subst h h1
    exact ⟨rfl, fun _ => rfl, fun h => absurd rfl h⟩
  · simp only [h1, if_false] at h
    cases hn : t.succ[k]? with
    | none => simp [hn] at h
    | some n =>
      simp [hn] at h
      subst h
      exact ⟨rfl, fun h => absurd h h1, fun _ => ⟨n, rfl, rfl⟩⟩

theorem mapM_entryOf_find (t : Tbl) :
    ∀ (nodes : List Nat) (succ : List PEntry), nodes.mapM (entryOf t) = .ok succ →
      (∀ k ∈ nodes, ∃ e, PEntry.find succ k = some e ∧ entryOf t k = .ok e) ∧
      (∀ k, k ∉ nodes → PEntry.find succ k = none) := by
  intro nodes
  induction nodes with
  | nil =>
    intro succ h
    simp [List.mapM_nil, pure, Except.pure] at h
    subst h
    exact ⟨by simp, by intro k _; rfl⟩
  | cons x xs ih =>
    intro succ h
    rw [List.mapM_cons] at h
    cases hx : entryOf t x with
    | error e => simp [hx, bind, Except.bind] at h
    | ok ex =>
      cases hxs : xs.mapM (entryOf t) with
      | error e => simp [hx, hxs, bind, Except.bind] at h
      | ok exs =>
        simp [hx, hxs, bind, Except.bind, pure, Except.pure] at h
        subst h
        obtain ⟨a, b⟩ := ih exs hxs
        have hid := (entryOf_ok hx).1
        constructor
        · intro k hk
          by_cases hkx : x = k
          · subst hkx
            exact ⟨ex, by simp [PEntry.find, hid], hx⟩
          · rcases List.mem_cons.mp hk with h' | h'
            · exact absurd h'.symm hkx
            · obtain ⟨e, he, he'⟩ := a k h'
              exact ⟨e, (PEntry.find_cons_ne (hid ▸ hkx) exs).trans he, he'⟩
        · intro k hk
          have hkx : x ≠ k := by intro h'; subst h'; exact hk List.mem_cons_self
          have hk' : k ∉ xs := fun h' => hk (List.mem_cons_of_mem _ h')
          exact (PEntry.find_cons_ne (hid ▸ hkx) exs).trans (b k hk')

theorem dumpNodes_eq (t : Tbl) {roots : Roots} (hn : roots ≠ .none) :
    dumpNodes t roots = descendants t roots.values := by
  cases roots with
  | none => exact absurd rfl hn
  | list l => rfl
  | dict d => rfl

theorem dumpNodes_closed {t : Tbl} (hw : WF t) {roots : Roots} {nodes : List Nat}
    (h : dumpNodes t roots = .ok nodes) :
    Closed t nodes ∧ (∀ u ∈ roots.values, u.natAbs = 1 ∨ u.natAbs ∈ nodes) := by
  by_cases hn : roots = .none
  · subst hn
    cases h
    have key : ∀ k, (t.succ[k]?).isSome → k ∈ allNodes t := fun k hk =>
      List.mem_cons_of_mem _ (by
        rw [TreeMap.mem_keys, TreeMap.mem_iff_isSome_getElem?]; exact hk)
    refine ⟨fun r hr h1 => ?_, nofun⟩
    have hr' : r ∈ t.succ.keys := (List.mem_cons.mp hr).resolve_left h1
    rw [TreeMap.mem_keys, TreeMap.mem_iff_isSome_getElem?] at hr'
    obtain ⟨n, hn⟩ := Option.isSome_iff_exists.mp hr'
    exact ⟨n, hn, (hw.lo_mem _ _ hn).imp id (key _), (hw.hi_mem _ _ hn).imp id (key _)⟩
  · rw [dumpNodes_eq t hn] at h
    have := descendants_closed hw _ nodes h
    exact ⟨this.1, this.2.1⟩

theorem dumpPickle_parts {m : Mgr} {roots : Roots} {f : PickleFile} (h : dumpPickle m roots = .ok f) :
    f.vars = m.tbl.vars.toList ∧ f.roots = roots ∧
    ∃ nodes, dumpNodes m.tbl roots = .ok nodes ∧ nodes.mapM (entryOf m.tbl) = .ok f.succ := by
  unfold dumpPickle at h
  cases h1 : dumpNodes m.tbl roots with
  | error e => simp [h1] at h
  | ok nodes =>
    simp only [h1] at h
    cases h2 : nodes.mapM (entryOf m.tbl) with
    | error e => simp [h2] at h
    | ok succ =>
      simp only [h2] at h
      cases h
      exact ⟨rfl, rfl, nodes, rfl, h2⟩

theorem roots_container {m : Mgr} {roots : Roots} {f : PickleFile} (h : dumpPickle m roots = .ok f) :
    f.roots = roots := (dumpPickle_parts h).2.1

theorem nameAt_of_vars {t : Tbl} (hv : DmpVarsOK t) {f : PickleFile} (hf : f.vars = t.vars.toList) :
    (∀ var i, (var, i) ∈ f.vars → f.nameAt i = some var) ∧
    (∀ l x, t.l2v[l]? = some x → f.nameAt l = some x) := by
  have key : ∀ var i, (var, i) ∈ f.vars → f.nameAt i = some var := by
    intro var i hmem
    unfold PickleFile.nameAt
    have hex : (f.vars.find? (fun p => p.2 == i)).isSome := by
      rw [List.find?_isSome]; exact ⟨(var, i), hmem, by simp⟩
    obtain ⟨⟨y, i'⟩, hy⟩ := Option.isSome_iff_exists.mp hex
    have hp := List.find?_some hy
    have hm := List.mem_of_find?_eq_some hy
    simp at hp
    subst hp
    rw [hf, TreeMap.mem_toList_iff_getElem?_eq_some] at hm hmem
    have h1 := (hv.bij y i').mp hm
    have h2 := (hv.bij var i').mp hmem
    rw [h1] at h2
    cases h2
    simp [hy]
  refine ⟨key, ?_⟩
  intro l x hx
  apply key
  rw [hf, TreeMap.mem_toList_iff_getElem?_eq_some]
  exact (hv.bij x l).mpr hx

/-- the file `f` stores the variable table of `t` and exactly the nodes `nodes` (a set
closed under successors) with their stored triples -/
structure Stores (t : Tbl) (nodes : List Nat) (f : PickleFile) : Prop where
  vars : f.vars = t.vars.toList
  closed : Closed t nodes
  inn : ∀ k ∈ nodes, k ≠ 1 → ∃ n, t.succ[k]? = some n ∧
    PEntry.find f.succ k = some ⟨k, n.lvl, some n.lo, some n.hi⟩
  out : ∀ k, k ∉ nodes → k ≠ 1 → PEntry.find f.succ k = none

theorem Stores.wf {t : Tbl} {nodes : List Nat} {f : PickleFile} (hst : Stores t nodes f)
    (hw : WF t) (hv : DmpVarsOK t) : PickleWF f := by
  obtain ⟨hvars, hcl, hin, hout⟩ := hst
  have hlen : f.vars.length = t.nvars := by rw [hvars]; exact length_vars_toList _
  have hfind : ∀ k e, PEntry.find f.succ k = some e → k ≠ 1 →
      k ∈ nodes ∧ ∃ n, t.succ[k]? = some n ∧ e = ⟨k, n.lvl, some n.lo, some n.hi⟩ := by
    intro k e he h1
    by_cases hk : k ∈ nodes
    · obtain ⟨n, hn', hf⟩ := hin k hk h1
      rw [hf] at he
      cases he
      exact ⟨hk, n, hn', rfl⟩
    · rw [hout k hk h1] at he; cases he
  have hchild : ∀ (c : Int) (l : Nat), t.Mem c → (c.natAbs = 1 ∨ c.natAbs ∈ nodes) →
      l < t.levelOf c → FRef f.succ c ∧ l < flevel f.succ f.vars.length c := by
    intro c l hc hcn hl
    by_cases h1 : c.natAbs = 1
    · refine ⟨Or.inl h1, ?_⟩
      rw [levelOf_term _ _ h1] at hl
      simp [flevel, h1, hlen, hl]
    · rcases hcn with hcn | hcn
      · exact absurd hcn h1
      obtain ⟨n, hn', hf⟩ := hin _ hcn h1
      refine ⟨Or.inr (by simp [hf]), ?_⟩
      have : t.levelOf c = n.lvl := levelOf_node t c n h1 hn'
      simp [flevel, h1, hf, ← this, hl]
  refine ⟨?_, ⟨?_⟩, (nameAt_of_vars hv hvars).1, ?_⟩
  · intro var i hmem
    rw [hlen]
    rw [hvars, TreeMap.mem_toList_iff_getElem?_eq_some] at hmem
    exact hv.contig var i hmem
  · intro k e he h1
    obtain ⟨hk, n, hn', rfl⟩ := hfind k e he h1
    obtain ⟨n', hn'', clo, chi⟩ := hcl k hk h1
    rw [hn'] at hn''; cases hn''
    have hnode : t.node? k = some n := hn'
    obtain ⟨r1, l1⟩ := hchild n.lo n.lvl (hw.lo_mem _ _ hnode) clo (hw.lo_lt _ _ hnode)
    obtain ⟨r2, l2⟩ := hchild n.hi n.lvl (hw.hi_mem _ _ hnode) chi (hw.hi_lt _ _ hnode)
    exact ⟨n.lo, n.hi, rfl, rfl, by rw [hlen]; exact hw.lvl_lt _ _ hnode, hw.hi_pos _ _ hnode,
      hw.ge_two _ _ hnode, r1, r2, l1, l2⟩
  · intro k e he h1
    obtain ⟨_, n, hn', rfl⟩ := hfind k e he h1
    have hnode : t.node? k = some n := hn'
    obtain ⟨x, hx⟩ := Option.isSome_iff_exists.mp (hv.named _ (hw.lvl_lt _ _ hnode))
    refine ⟨x, ?_⟩
    show (x, n.lvl) ∈ f.vars
    rw [hvars, TreeMap.mem_toList_iff_getElem?_eq_some]
    exact (hv.bij x n.lvl).mpr hx

theorem Stores.eval {t : Tbl} {nodes : List Nat} {f : PickleFile} (hst : Stores t nodes f)
    (hw : WF t) (hv : DmpVarsOK t) (α : String → Bool) :
    ∀ u : Int, (u.natAbs = 1 ∨ u.natAbs ∈ nodes) → evalPickle f u α = denBy t u α := by
  obtain ⟨hvars, hcl, hin, hout⟩ := hst
  have hlen : f.vars.length = t.nvars := by rw [hvars]; exact length_vars_toList _
  have key : ∀ k u, (u.natAbs = 1 ∨ u.natAbs ∈ nodes) →
      evalN f k u α = denF t k u (t.asg α) := by
    intro k
    induction k with
    | zero => intro u _; rfl
    | succ k ih =>
      intro u hu
      rw [evalN, denF]
      by_cases h1 : u.natAbs = 1
      · simp [h1]
      · simp only [h1, if_false]
        rcases hu with hu | hu
        · exact absurd hu h1
        obtain ⟨n, hn', hf⟩ := hin _ hu h1
        obtain ⟨n', hn'', clo, chi⟩ := hcl _ hu h1
        rw [hn'] at hn''; cases hn''
        have hnode : t.node? u.natAbs = some n := hn'
        obtain ⟨x, hx⟩ := Option.isSome_iff_exists.mp (hv.named _ (hw.lvl_lt _ _ hnode))
        have hname := (nameAt_of_vars hv hvars).2 _ _ hx
        simp only [hf, hnode, hname]
        rw [ih _ chi, ih _ clo]
        have : t.asg α n.lvl = α x := by simp [Tbl.asg, hx]
        rw [this]
  intro u hu
  unfold evalPickle denBy den
  rw [hlen]
  exact key _ u hu

theorem dumpPickle_stores {m : Mgr} (hI : Inv m) {roots : Roots} {f : PickleFile}
    (h : dumpPickle m roots = .ok f) :
    ∃ nodes, Stores m.tbl nodes f ∧ (∀ u ∈ roots.values, u.natAbs = 1 ∨ u.natAbs ∈ nodes) := by
  obtain ⟨hvars, _, nodes, hn, hm⟩ := dumpPickle_parts h
  obtain ⟨a, b⟩ := mapM_entryOf_find m.tbl nodes f.succ hm
  obtain ⟨hcl, hroots⟩ := dumpNodes_closed hI.wf.toWF hn
  refine ⟨nodes, ⟨hvars, hcl, fun k hk h1 => ?_, fun k hk _ => b k hk⟩, hroots⟩
  obtain ⟨e, he, he'⟩ := a k hk
  obtain ⟨n, hn', hen⟩ := (entryOf_ok he').2.2 h1
  exact ⟨n, hn', by rw [he, hen]⟩

/-- the content `_dump_bdd` writes for a manager satisfying the invariant is well formed -/
theorem dumpPickle_wf {m : Mgr} (hI : Inv m) (hv : DmpVarsOK m.tbl) {roots : Roots} {f : PickleFile}
    (h : dumpPickle m roots = .ok f) : PickleWF f := by
  obtain ⟨nodes, hst, _⟩ := dumpPickle_stores hI h
  exact hst.wf hI.wf.toWF hv

/-- the dumped content denotes, by variable name, what the manager's references denote -/
theorem dumpPickle_eval {m : Mgr} (hI : Inv m) (hv : DmpVarsOK m.tbl) {roots : Roots} {f : PickleFile}
    (h : dumpPickle m roots = .ok f) (α : String → Bool) :
    ∀ u ∈ roots.values, evalPickle f u α = denBy m.tbl u α := by
  obtain ⟨nodes, hst, hr⟩ := dumpPickle_stores hI h
  intro u hu
  exact hst.eval hI.wf.toWF hv α u (hr u hu)

theorem stores_resolvable {t : Tbl} {nodes : List Nat} {f : PickleFile} (hst : Stores t nodes f)
    (hr : ∀ u ∈ f.roots.values, u.natAbs = 1 ∨ u.natAbs ∈ nodes) : RootsResolvable f := by
  intro u hu
  by_cases h1 : u.natAbs = 1
  · exact Or.inl h1
  · rcases hr u hu with h | h
    · exact absurd h h1
    · obtain ⟨n, _, hf⟩ := hst.inn _ h h1
      exact Or.inr ⟨_, List.mem_of_find?_eq_some hf, rfl⟩

theorem dumpPickle_resolvable {m : Mgr} (hI : Inv m) {roots : Roots} {f : PickleFile}
    (h : dumpPickle m roots = .ok f) : RootsResolvable f := by
  obtain ⟨nodes, hst, hr⟩ := dumpPickle_stores hI h
  exact stores_resolvable hst (by rw [roots_container h]; exact hr)

theorem loadedAs_of_loadedFrom {src : Mgr} (hIs : Inv src) (hvs : DmpVarsOK src.tbl)
    {roots : Roots} {f : PickleFile} (hd : dumpPickle src roots = .ok f) {t : Tbl} {roots' : Roots}
    (h : LoadedFrom f t roots') : LoadedAs src.tbl roots t roots' :=
  LoadedFrom.loadedAs (roots_container hd) (dumpPickle_eval hIs hvs hd) h

theorem toList_pairwise (t : Tbl) (hb : DmpVarsBij t) :
    t.vars.toList.Pairwise (fun a b => a.1 ≠ b.1 ∧ a.2 ≠ b.2) := by
  apply List.Pairwise.imp_of_mem _ (TreeMap.distinct_keys_toList (t := t.vars))
  intro a b ha hb' hne
  have h1 : a.1 ≠ b.1 := fun h => hne (by rw [h]; exact compare_self)
  refine ⟨h1, ?_⟩
  intro h2
  obtain ⟨a1, a2⟩ := a
  obtain ⟨b1, b2⟩ := b
  rw [TreeMap.mem_toList_iff_getElem?_eq_some] at ha hb'
  simp at h2
  subst h2
  have x := (hb a1 a2).mp ha
  have y := (hb b1 a2).mp hb'
  rw [x] at y
  cases y
  exact h1 rfl

/-- `sorted(levels) == list(range(n))` says: the levels are a permutation of `0..n-1` -/
theorem levelsPermutation_iff (vs : List (String × Nat)) :
    levelsPermutation vs = true ↔ (vs.map (·.2)).Perm (List.range vs.length) := by
  unfold levelsPermutation
  rw [beq_iff_eq]
  constructor
  · intro h; rw [← h]; exact (sortNat_perm _).symm
  · intro h
    have hn : (vs.map (·.2)).Nodup := h.nodup_iff.mpr List.nodup_range
    apply List.Perm.eq_of_pairwise (le := fun a b => a < b) _ (sortNat_strict hn) List.pairwise_lt_range
      ((sortNat_perm _).trans h)
    intro a b _ _ h1 h2; omega

/-- the pairs of a pickle's `vars` form a bijection onto `0..n-1` -/
structure VarsWF (vs : List (String × Nat)) : Prop where
  names : (vs.map (·.1)).Nodup
  levels : (vs.map (·.2)).Nodup
  bound : ∀ var i, (var, i) ∈ vs → i < vs.length

theorem VarsWF.covers {vs : List (String × Nat)} (h : VarsWF vs) (i : Nat) (hi : i < vs.length) :
    ∃ v, (v, i) ∈ vs := by
  have := nodup_full vs.length (vs.map (·.2)) h.levels
    (fun x hx => by
      obtain ⟨⟨v, l⟩, hm, rfl⟩ := List.mem_map.mp hx
      exact h.bound v l hm)
    (by simp) i hi
  obtain ⟨⟨v, l⟩, hm, rfl⟩ := List.mem_map.mp this
  exact ⟨v, hm⟩

/-- the pre-check of the file's own levels, and distinct names (`vars` is a dict), give `VarsWF` -/
theorem VarsWF.of_perm {vs : List (String × Nat)} (hn : (vs.map (·.1)).Nodup)
    (hp : levelsPermutation vs = true) : VarsWF vs := by
  have hperm := (levelsPermutation_iff vs).mp hp
  refine ⟨hn, hperm.nodup_iff.mpr List.nodup_range, ?_⟩
  intro var i hm
  have : i ∈ vs.map (·.2) := List.mem_map.mpr ⟨(var, i), hm, rfl⟩
  exact List.mem_range.mp (hperm.mem_iff.mp this)

theorem VarsWF.perm {vs : List (String × Nat)} (h : VarsWF vs) : levelsPermutation vs = true := by
  rw [levelsPermutation_iff]
  apply (List.perm_ext_iff_of_nodup h.levels List.nodup_range).mpr
  intro l
  rw [List.mem_range]
  constructor
  · intro hl
    obtain ⟨⟨v, l'⟩, hm, rfl⟩ := List.mem_map.mp hl
    exact h.bound v l' hm
  · intro hl
    obtain ⟨v, hv⟩ := h.covers l hl
    exact List.mem_map.mpr ⟨(v, l), hv, rfl⟩

/-- `_assert_valid_ordering` passes on pairs that are a bijection onto `0..n-1` -/
theorem VarsWF.validOrdering {vs : List (String × Nat)} (h : VarsWF vs) : validOrdering vs = true := by
  unfold DD.validOrdering
  simp only [Bool.and_eq_true, List.all_eq_true, decide_eq_true_eq]
  constructor
  · intro i hi
    obtain ⟨v, hv⟩ := h.covers i (List.mem_range.mp hi)
    exact List.contains_iff_mem.mpr (List.mem_map.mpr ⟨(v, i), hv, rfl⟩)
  · intro k hk
    obtain ⟨⟨v, l⟩, hm, rfl⟩ := List.mem_map.mp hk
    exact h.bound v l hm

theorem varsWF_toList (t : Tbl) (hv : DmpVarsOK t) : VarsWF t.vars.toList := by
  have hp := toList_pairwise t hv.bij
  refine ⟨?_, ?_, ?_⟩
  · rw [List.Nodup, List.pairwise_map]; exact hp.imp (fun h => h.1)
  · rw [List.Nodup, List.pairwise_map]; exact hp.imp (fun h => h.2)
  · intro var i hm
    rw [TreeMap.mem_toList_iff_getElem?_eq_some] at hm
    have := hv.contig var i hm
    rw [TreeMap.length_toList]
    exact this

theorem levelsPermutation_toList (t : Tbl) (hv : DmpVarsOK t) : levelsPermutation t.vars.toList = true :=
  (varsWF_toList t hv).perm

theorem validOrdering_toList (t : Tbl) (hv : DmpVarsOK t) : validOrdering t.vars.toList = true :=
  (varsWF_toList t hv).validOrdering

theorem dumpPickle_levelsPerm {m : Mgr} (hv : DmpVarsOK m.tbl) {roots : Roots} {f : PickleFile}
    (h : dumpPickle m roots = .ok f) : levelsPermutation f.vars = true := by
  rw [(dumpPickle_parts h).1]; exact levelsPermutation_toList m.tbl hv

end DD
