/-
  DDProofs.PickleLoadWalk — the second half of `BDD.load` on a well-formed content: `_load` rebuilds
  each id with `_ite` on the mapped variable, and `umap` stays sound (`UOK`) for what the file says BY
  NAME, read through a fixed `σ` (names ↦ assignment to the levels the first loop left).  No order of
  the receiving manager is assumed: the node equation of the file (`evalPickle_node`) meets the `ite`
  specification, never a level comparison.
-/
import DDProofs.PickleSem
import DDProofs.IteOutcome
import DDProofs.PickleSteps
open Std
namespace DD

/-- `level_map` sends each level the file's nodes use to one of the `N` declared levels of the
receiving manager, and `σ` reads there the variable the file names (no monotonicity: nodes are built
with `_ite` on the mapped variable) -/
structure LMOK (f : PickleFile) (lm : List (Nat × Nat)) (σ : (String → Bool) → Asg) (N : Nat) : Prop where
  dom : ∀ k e, PEntry.find f.succ k = some e → k ≠ 1 →
    ∃ j x, lm.lookup e.lvl = some j ∧ j < N ∧ f.nameAt e.lvl = some x ∧ ∀ α, σ α j = α x

/-- `evalL` is `evalN` read through `level_map` -/
theorem evalL_eq_evalN (f : PickleFile) (lm : List (Nat × Nat)) (σ : (String → Bool) → Asg) (N : Nat)
    (hl : LMOK f lm σ N) (α : String → Bool) :
    ∀ k u, evalL f.succ lm k u (σ α) = evalN f k u α := by
  intro k
  induction k with
  | zero => intro u; rfl
  | succ k ih =>
    intro u
    rw [evalL, evalN]
    by_cases h1 : u.natAbs = 1
    · simp [h1]
    · simp only [h1, if_false]
      cases he : PEntry.find f.succ u.natAbs with
      | none => rfl
      | some e =>
        obtain ⟨j, x, hj, _, hx, hσ⟩ := hl.dom _ e he h1
        simp only [hj, hx]
        cases e.lo <;> cases e.hi <;> try rfl
        simp only [ih, hσ]

/-- invariant of `umap`: a stored reference denotes, read through `σ`, what the file says for its key -/
def UOK (f : PickleFile) (σ : (String → Bool) → Asg) (t : Tbl) (umap : TreeMap Int Int) : Prop :=
  ∀ k r, umap[k]? = some r → 1 < k ∧ t.Mem r ∧ (PEntry.find f.succ k.natAbs).isSome ∧
    ∀ α, den t r (σ α) = evalPickle f k α

theorem UOK.ext {f σ} {t t' : Tbl} {umap : TreeMap Int Int} (h : UOK f σ t umap)
    (hw : WF t) (he : Ext t t') : UOK f σ t' umap := by
  intro k r hk
  obtain ⟨h1, h3, h4, h6⟩ := h k r hk
  refine ⟨h1, he.mem h3, h4, ?_⟩
  intro α; rw [den_ext he hw r _ h3]; exact h6 α

/-- a property of managers that the three mutations of `BDD.load` keep -/
structure LoadKeeps (Q : Mgr → Prop) : Prop where
  addVar : ∀ (m : Mgr) (var : String) (lvl : Option Int) (j : Nat) (m' : Mgr), Inv m → Q m →
    addVar var lvl m = (.ok j, m') → Q m'
  var : ∀ (m : Mgr) (j : Nat), Inv m → Q m → Q (findOrAdd (j : Int) (-1) 1 m).2
  ite : ∀ (m : Mgr) (g q p : Int), Inv m → m.tbl.Mem g → m.tbl.Mem q → m.tbl.Mem p → Q m →
    Q (iteF (m.nvars + 2) g q p m).2

theorem LoadKeeps.trivial : LoadKeeps (fun _ => True) :=
  ⟨fun _ _ _ _ _ _ _ _ => True.intro, fun _ _ _ _ => True.intro, fun _ _ _ _ _ _ _ _ _ => True.intro⟩

theorem varNode_returns (m : Mgr) (hI : Inv m) (hc : m.ctx = false) (j : Nat) (hj : j < m.nvars) :
    Returns (FoaPost' m j (-1) 1) (findOrAdd (j : Int) (-1) 1 m) := by
  have hlt : ∀ c : Int, c.natAbs = 1 → j < m.tbl.levelOf c := fun c h => by
    rw [levelOf_term _ _ h]; exact hj
  obtain ⟨r, m', e, p⟩ :=
    (findOrAdd_spec m hI j (-1) 1 hj (Or.inl rfl) (Or.inl rfl) (hlt _ rfl) (hlt _ rfl)).ok (Or.inl hc)
  rw [e]; exact p

theorem iteRaw_returns (m : Mgr) (hI : Inv m) (hc : m.ctx = false) (g u v : Int)
    (hg : m.tbl.Mem g) (hu : m.tbl.Mem u) (hv : m.tbl.Mem v) :
    Returns (ItePost m g u v) (iteRaw g u v m) := by
  rw [iteRaw_eq]
  obtain ⟨r, m', e, p⟩ := (iteF_spec (m.nvars + 2) m g u v hI hg hu hv (by omega)).ok (Or.inl hc)
  rw [e]; exact p

/-- what a successful `_load(u)` leaves: only nodes were added, `umap` grew and is still
sound, the result denotes — read through `σ` — what the file says for `u` -/
structure NodeLoaded (f : PickleFile) (σ : (String → Bool) → Asg)
    (m : Mgr) (umap : TreeMap Int Int) (u : Int) (out : Int × TreeMap Int Int) (m' : Mgr) : Prop where
  inv : Inv m'
  frame : Frame m m'
  ext : Ext m.tbl m'.tbl
  uok : UOK f σ m'.tbl out.2
  mono : ∀ k, umap.contains k = true → out.2.contains k = true
  mem : m'.tbl.Mem out.1
  den : ∀ α, den m'.tbl out.1 (σ α) = evalPickle f u α
  key : u.natAbs ≠ 1 → out.2.contains (u.natAbs : Int) = true

theorem loadNodeF_spec {f : PickleFile} {lm : List (Nat × Nat)} {σ : (String → Bool) → Asg} {N : Nat}
    (hwf : PickleWF f) (hl : LMOK f lm σ N) :
    ∀ fuel u umap m, Inv m → m.ctx = false → m.nvars = N → UOK f σ m.tbl umap → FRef f.succ u →
      f.vars.length + 1 ≤ fuel + flevel f.succ f.vars.length u →
      Returns (NodeLoaded f σ m umap u) (loadNodeF f.succ lm fuel u umap m) := by
  intro fuel
  induction fuel with
  | zero =>
    intro u umap m _ _ _ _ _ hk
    have := flevel_le hwf.succ u
    omega
  | succ fl ih =>
    intro u umap m hI hc hN hU hr hk
    rw [loadNodeF_succ]
    by_cases h1 : u.natAbs = 1
    · rw [if_pos h1]
      exact .pure ⟨hI, .refl _, .refl _, hU, fun _ h => h, Or.inl h1,
        fun α => by rw [den_terminal _ h1, evalPickle_term _ _ _ h1], fun h => absurd h1 h⟩
    rw [if_neg h1]
    by_cases hmem : umap.contains u = true
    · obtain ⟨r, hr'⟩ : ∃ r, umap[u]? = some r := by
        rw [TreeMap.contains_eq_isSome_getElem?] at hmem
        exact Option.isSome_iff_exists.mp hmem
      obtain ⟨k1, rm, -, rd⟩ := hU u r hr'
      have habs : (u.natAbs : Int) = u := by omega
      rw [if_pos hmem, habs, hr']
      dsimp only
      rw [if_neg (mem_ne_zero hI.wf.toWF rm), if_neg (show ¬ u < 0 by omega)]
      exact .pure ⟨hI, .refl _, .refl _, hU, fun _ h => h, rm, rd, fun _ => habs.symm ▸ hmem⟩
    rw [if_neg hmem]
    obtain ⟨e, he⟩ := Option.isSome_iff_exists.mp (hr.resolve_left h1)
    obtain ⟨v, w, hv, hw, hln, hwpos, hk2, rv, rw', lv, lw⟩ := hwf.succ.node _ e he h1
    obtain ⟨j, x, hj, hjN, hx, hσ⟩ := hl.dom _ e he h1
    have hfl : flevel f.succ f.vars.length u = e.lvl := by simp [flevel, h1, he]
    simp only [he, hj, hv, hw]
    refine (ih v umap m hI hc hN hU rv (by omega)).bind fun pu m1 _ L1 => ?_
    have hc1 : m1.ctx = false := L1.frame.ctx.trans hc
    have hN1 : m1.nvars = N := L1.ext.nvars.symm.trans hN
    refine (ih w pu.2 m1 L1.inv hc1 hN1 L1.uok rw' (by omega)).bind fun qu m2 _ L2 => ?_
    have hc2 : m2.ctx = false := L2.frame.ctx.trans hc1
    have hN2 : m2.nvars = N := L2.ext.nvars.symm.trans hN1
    refine (varNode_returns m2 L2.inv hc2 j (hN2 ▸ hjN)).bind fun g m3 e3 P3 => ?_
    have Mq : m3.tbl.Mem qu.1 := P3.ext.mem L2.mem
    have Mp : m3.tbl.Mem pu.1 := P3.ext.mem (L2.ext.mem L1.mem)
    refine (iteRaw_returns m3 P3.inv (P3.frame.ctx.trans hc2) g qu.1 pu.1 P3.mem Mq Mp).bind
      fun r m4 e4 P4 => ?_
    rw [if_neg (mem_ne_zero P4.inv.wf.toWF P4.mem)]
    have X24 : Ext m2.tbl m4.tbl := P3.ext.trans P4.ext
    -- `r = ite(var_j, q, p)` is what the file says for `|u|`: the stored reference is the positive one
    have hpos : ∀ α, den m4.tbl r (σ α) = evalPickle f (u.natAbs : Int) α := by
      intro α
      rw [evalPickle_node hwf _ α e v w x (by simpa using h1) (by simpa using he) hv hw hx,
        P4.den, P3.den, den_one, den_neg_one,
        den_ext P3.ext L2.inv.wf.toWF qu.1 _ L2.mem, L2.den α,
        den_ext (L2.ext.trans P3.ext) L1.inv.wf.toWF pu.1 _ L1.mem, L1.den α, hσ α]
      cases α x <;> simp [show ¬ ((u.natAbs : Int) < 0) by omega]
    refine .pure ⟨P4.inv, ((L1.frame.trans L2.frame).trans P3.frame).trans P4.frame,
      (L1.ext.trans L2.ext).trans X24, ?_, ?_, mem_flip u P4.mem, ?_, ?_⟩
    · intro k y hky
      rw [getElem?_insert_eq] at hky
      split at hky
      · cases hky
        subst k
        exact ⟨by omega, P4.mem, by simp [he], hpos⟩
      · exact (L2.uok.ext L2.inv.wf.toWF X24) k y hky
    · intro k hk
      rw [TreeMap.contains_insert]
      simp [L2.mono k (L1.mono k hk)]
    · intro α
      rw [den_flip m4.tbl P4.inv.wf.toWF r u _ P4.mem, hpos, ← evalPickle_abs hwf u α hr]
    · intro _
      rw [TreeMap.contains_insert]
      simp

/-- what the loop over `succ` leaves: as `NodeLoaded`, every listed id now in `umap` -/
structure AllLoaded (f : PickleFile) (σ : (String → Bool) → Asg)
    (m : Mgr) (umap : TreeMap Int Int) (es : List PEntry) (umap' : TreeMap Int Int) (m' : Mgr) : Prop where
  inv : Inv m'
  frame : Frame m m'
  ext : Ext m.tbl m'.tbl
  uok : UOK f σ m'.tbl umap'
  mono : ∀ k, umap.contains k = true → umap'.contains k = true
  all : ∀ e ∈ es, e.id ≠ 1 → umap'.contains (e.id : Int) = true

theorem loadAll_spec {f : PickleFile} {lm : List (Nat × Nat)} {σ : (String → Bool) → Asg} {N fuel : Nat}
    (hwf : PickleWF f) (hl : LMOK f lm σ N) (hfuel : f.vars.length + 1 ≤ fuel) :
    ∀ (es : List PEntry) umap m, (∀ e ∈ es, e ∈ f.succ) → Inv m → m.ctx = false → m.nvars = N →
      UOK f σ m.tbl umap →
      Returns (AllLoaded f σ m umap es) (loadAll f.succ lm fuel es umap m) := by
  intro es
  induction es with
  | nil =>
    intro umap m _ hI _ _ hU
    exact .pure ⟨hI, .refl _, .refl _, hU, fun _ h => h, nofun⟩
  | cons e rest ih =>
    intro umap m hsub hI hc hN hU
    have hsub' : ∀ e ∈ rest, e ∈ f.succ := fun x hx => hsub x (List.mem_cons_of_mem _ hx)
    rw [loadAll_cons]
    by_cases hmem : umap.contains (e.id : Int) = true
    · rw [if_pos hmem]
      refine (ih umap m hsub' hI hc hN hU).mono fun umap' m' A => ?_
      exact ⟨A.inv, A.frame, A.ext, A.uok, A.mono, List.forall_mem_cons.mpr ⟨fun _ => A.mono _ hmem, A.all⟩⟩
    · rw [if_neg hmem]
      have hr : FRef f.succ (e.id : Int) :=
        Or.inr (by simpa using PEntry.find_isSome_of_mem (hsub e List.mem_cons_self))
      refine (loadNodeF_spec hwf hl fuel (e.id : Int) umap m hI hc hN hU hr (by omega)).bind
        fun pu m1 _ L => ?_
      refine (ih pu.2 m1 hsub' L.inv (L.frame.ctx.trans hc) (L.ext.nvars.symm.trans hN) L.uok).mono
        fun umap' m' A => ?_
      exact ⟨A.inv, L.frame.trans A.frame, L.ext.trans A.ext, A.uok, fun k hk => A.mono k (L.mono k hk),
        List.forall_mem_cons.mpr ⟨fun h1 => A.mono _ (by simpa using L.key (by simpa using h1)), A.all⟩⟩

theorem mapM_forall₂ {α β : Type} {f : α → Except Err β} {P : α → β → Prop} :
    ∀ (l : List α), (∀ x ∈ l, ∃ y, f x = .ok y ∧ P x y) → ∃ l', l.mapM f = .ok l' ∧ Forall2 P l l' := by
  intro l
  induction l with
  | nil => intro _; exact ⟨[], rfl, Forall2.nil⟩
  | cons x xs ih =>
    intro h
    obtain ⟨y, hy, py⟩ := h x List.mem_cons_self
    obtain ⟨ys, hys, pys⟩ := ih (fun z hz => h z (List.mem_cons_of_mem _ hz))
    refine ⟨y :: ys, ?_, Forall2.cons py pys⟩
    rw [List.mapM_cons, hy, hys]
    rfl

theorem Roots.mapE_spec {f : Int → Except Err Int} {P : Int → Int → Prop} (r : Roots) (hn : r ≠ .none)
    (h : ∀ u ∈ r.values, ∃ v, f u = .ok v ∧ P u v) :
    ∃ r', r.mapE f = .ok r' ∧ RootsRel P r r' := by
  cases r with
  | none => exact absurd rfl hn
  | list l =>
    obtain ⟨l', h1, h2⟩ := mapM_forall₂ (P := P) l h
    refine ⟨.list l', ?_, .list h2⟩
    show Except.map _ _ = _
    rw [h1]
    rfl
  | dict d =>
    obtain ⟨d', h1, h2⟩ := mapM_forall₂ (f := fun kv : String × Int => (f kv.2).map fun v => (kv.1, v))
      (P := fun a b => a.1 = b.1 ∧ P a.2 b.2) d (by
        intro kv hkv
        obtain ⟨v, hv, pv⟩ := h kv.2 (by simp [Roots.values]; exact ⟨kv.1, hkv⟩)
        exact ⟨(kv.1, v), by simp [hv, Except.map], rfl, pv⟩)
    refine ⟨.dict d', ?_, .dict h2⟩
    show Except.map _ _ = _
    rw [h1]
    rfl

theorem UOK.empty (f σ) (t : Tbl) : UOK f σ t {} := by
  intro k r h
  simp at h

theorem mapRoots_spec {umap : TreeMap Int Int} {P : Int → Int → Prop} (r : Roots)
    (h : ∀ u ∈ r.values, ∃ v, mapNode umap u = .ok v ∧ P u v) :
    ∃ r', mapRoots umap r = .ok r' ∧ RootsRel P r r' := by
  cases r with
  | none => exact ⟨.list [], rfl, .none⟩
  | list l => exact Roots.mapE_spec (.list l) (by simp) h
  | dict d => exact Roots.mapE_spec (.dict d) (by simp) h

theorem loadPickle_of_compat (f : PickleFile) (levels : Bool) (m : Mgr)
    (h : levels = true → levelsPermutation f.vars = true ∧ levelsCompatible m.tbl f.vars = true) :
    loadPickle f levels m = loadPickleBody f levels m := by
  rw [loadPickle_eq]
  cases levels with
  | false => simp
  | true => simp [(h rfl).1, (h rfl).2]

theorem loadPickle_refused (f : PickleFile) (m : Mgr)
    (h : levelsPermutation f.vars = false ∨ levelsCompatible m.tbl f.vars = false) :
    loadPickle f true m = (.error .value, m) := by
  rw [loadPickle_eq]
  rcases h with h | h
  · simp [h]
  · by_cases hp : levelsPermutation f.vars = true <;> simp [hp, h]

/-- the second half of `load`: with the variables declared, the nodes are rebuilt and the
roots denote (read through `σ`) what the file says -/
theorem loadPickle_core (f : PickleFile) (levels : Bool) (lm : List (Nat × Nat)) (σ : (String → Bool) → Asg)
    (m m1 : Mgr) (hv : loadVars levels f.vars.length f.vars [] m = (.ok lm, m1))
    (hI : Inv m1) (hc : m1.ctx = false) (hwf : PickleWF f)
    (hl : LMOK f lm σ m1.nvars) (hr : RootsResolvable f)
    (hcomp : levels = true → levelsPermutation f.vars = true ∧ levelsCompatible m.tbl f.vars = true) :
    ∃ roots' m', loadPickle f levels m = (.ok roots', m') ∧ Inv m' ∧ Frame m1 m' ∧
      Ext m1.tbl m'.tbl ∧
      RootsRel (fun u r => m'.tbl.Mem r ∧ ∀ α, den m'.tbl r (σ α) = evalPickle f u α) f.roots roots' := by
  rw [loadPickle_of_compat f levels m hcomp]
  unfold loadPickleBody
  rw [hv]
  dsimp only
  obtain ⟨umap, m2, e2, A⟩ :=
    Returns.elim (loadAll_spec hwf hl (fuel := f.vars.length + f.succ.length + 2) (by omega) f.succ {} m1
      (fun _ h => h) hI hc rfl (UOK.empty _ _ _))
  rw [e2]
  dsimp only
  obtain ⟨r', h1, h2⟩ := mapRoots_spec (umap := umap)
    (P := fun u r => m2.tbl.Mem r ∧ ∀ α, den m2.tbl r (σ α) = evalPickle f u α)
    f.roots (by
      intro u hu
      by_cases h1 : u.natAbs = 1
      · refine ⟨u, by simp [mapNode, h1], Or.inl h1, ?_⟩
        intro α; rw [den_terminal _ h1, evalPickle_term _ _ _ h1]
      rcases hr u hu with h1' | ⟨e, he, hid⟩
      · exact absurd h1' h1
      have hc' := A.all e he (by omega)
      rw [hid, TreeMap.contains_eq_isSome_getElem?] at hc'
      obtain ⟨v, hv'⟩ := Option.isSome_iff_exists.mp hc'
      obtain ⟨k1, vm, vf, vd⟩ := A.uok _ v hv'
      refine ⟨if u < 0 then -v else v, by simp [mapNode, h1, hv'], mem_flip u vm, fun α => ?_⟩
      rw [den_flip m2.tbl A.inv.wf.toWF v u _ vm, vd α,
        evalPickle_abs hwf u α (Or.inr (by simpa using vf))])
  exact ⟨r', m2, by rw [h1], A.inv, A.frame, A.ext, h2⟩

end DD
