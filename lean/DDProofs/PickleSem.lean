/-
  DDProofs.PickleSem — what the content of a dump file MEANS (C12).

  Each id of a `PickleFile` denotes a function of variable NAMES (`evalPickle`, `evalN` with fuel, as
  `den` / `denF` for a table); `PickleWF` is what makes that meaning well defined (children deeper,
  every level named).  Writers prove `PickleWF` and "means the dumped functions" (PickleDump,
  DumpJsonWriter: a JSON content is read as `JsonFile.toPickle`); loaders consume them and conclude
  `LoadedFrom` / `LoadedAs` (`RootsRel`: same container, pointwise).  Also here: the order tables as
  the statements of C12 name them (`DmpVarsBij`, `Contig`, `DmpVarsOK`).
-/
import DD.Dump
import DDProofs.VarsProofs
open Std
namespace DD

-- `by decide` on an outcome of `Except Err _` needs it: the load examples (DumpExamples), `applyNot_cases` (LedgerCalc)
deriving instance DecidableEq for Except

/-- value of the (signed) node id `u` of the file under the assignment `a` to the levels
of the receiving manager; `lm` is `level_map`.  The other reading of the same content: it is
`evalN` through `level_map` (`evalL_eq_evalN`); the loaders are proved against `evalPickle`.
(Stays directly above `evalN` in this module: `evalN` is compiled with the matcher `evalL.match_4`.) -/
def evalL (succ : List PEntry) (lm : List (Nat × Nat)) : Nat → Int → Asg → Bool
  | 0, _, _ => false
  | k+1, u, a =>
    if u.natAbs = 1 then decide (0 < u) else
    match PEntry.find succ u.natAbs with
    | none => false
    | some e =>
      match e.lo, e.hi, lm.lookup e.lvl with
      | some v, some w, some j =>
        (decide (u < 0)) ^^ (if a j then evalL succ lm k w a else evalL succ lm k v a)
      | _, _, _ => false

/-- level (in the file) of a reference of the file; the terminal is at level `n` -/
def flevel (succ : List PEntry) (n : Nat) (u : Int) : Nat :=
  if u.natAbs = 1 then n else
  match PEntry.find succ u.natAbs with
  | some e => e.lvl
  | none => n

def FRef (succ : List PEntry) (u : Int) : Prop :=
  u.natAbs = 1 ∨ (PEntry.find succ u.natAbs).isSome

/-- well-formed `succ` part of a file with `n` variable levels: what `_dump_bdd` writes for
a manager satisfying the invariant -/
structure SuccWF (succ : List PEntry) (n : Nat) : Prop where
  node : ∀ k e, PEntry.find succ k = some e → k ≠ 1 →
    ∃ v w, e.lo = some v ∧ e.hi = some w ∧ e.lvl < n ∧ 0 < w ∧ 2 ≤ k ∧
      FRef succ v ∧ FRef succ w ∧ e.lvl < flevel succ n v ∧ e.lvl < flevel succ n w

theorem flevel_le {succ : List PEntry} {n : Nat} (hs : SuccWF succ n) (u : Int) :
    flevel succ n u ≤ n := by
  unfold flevel
  split
  · exact Nat.le_refl _
  · rename_i h1
    split
    · rename_i e he
      obtain ⟨v, w, _, _, h, _⟩ := hs.node _ e he h1
      exact Nat.le_of_lt h
    · exact Nat.le_refl _

/-- an assignment to names, seen by the levels of a manager -/
def Tbl.asg (t : Tbl) (α : String → Bool) : Asg := fun l =>
  match t.l2v[l]? with
  | some v => α v
  | none => false

/-- the function of names a reference denotes -/
def denBy (t : Tbl) (u : Int) (α : String → Bool) : Bool := den t u (t.asg α)

/-- `{level: var}` of the file -/
def PickleFile.nameAt (f : PickleFile) (lvl : Nat) : Option String :=
  (f.vars.find? (fun p => p.2 == lvl)).map (·.1)

/-- value of the node id `u` of the file under an assignment to variable names -/
def evalN (f : PickleFile) : Nat → Int → (String → Bool) → Bool
  | 0, _, _ => false
  | k+1, u, α =>
    if u.natAbs = 1 then decide (0 < u) else
    match PEntry.find f.succ u.natAbs with
    | none => false
    | some e =>
      match e.lo, e.hi, f.nameAt e.lvl with
      | some v, some w, some x =>
        (decide (u < 0)) ^^ (if α x then evalN f k w α else evalN f k v α)
      | _, _, _ => false

/-- semantics of a node id inside a pickle file, by variable name -/
def evalPickle (f : PickleFile) (u : Int) (α : String → Bool) : Bool :=
  evalN f (f.vars.length + 1) u α

structure PickleWF (f : PickleFile) : Prop where
  bound : ∀ var i, (var, i) ∈ f.vars → i < f.vars.length
  succ : SuccWF f.succ f.vars.length
  names : ∀ var i, (var, i) ∈ f.vars → f.nameAt i = some var
  lvls : ∀ k e, PEntry.find f.succ k = some e → k ≠ 1 → ∃ var, (var, e.lvl) ∈ f.vars

theorem evalN_term (f : PickleFile) (k : Nat) (u : Int) (σ : String → Bool) (h : u.natAbs = 1) :
    evalN f (k+1) u σ = decide (0 < u) := by
  rw [evalN]; simp [h]

theorem evalN_stable {f : PickleFile} (hw : PickleWF f) :
    ∀ k u σ, FRef f.succ u → f.vars.length + 1 ≤ k + flevel f.succ f.vars.length u →
      evalN f k u σ = evalN f (k+1) u σ := by
  intro k
  induction k with
  | zero =>
    intro u σ _ hk
    have := flevel_le hw.succ u
    omega
  | succ k ih =>
    intro u σ hr hk
    rw [evalN, evalN]
    by_cases h1 : u.natAbs = 1
    · simp [h1]
    · simp only [h1, if_false]
      rcases hr with hr | hr
      · exact absurd hr h1
      · obtain ⟨e, he⟩ := Option.isSome_iff_exists.mp hr
        obtain ⟨v, w, hv, hw', hl, _, _, rv, rw', lv, lw⟩ := hw.succ.node _ e he h1
        have hfl : flevel f.succ f.vars.length u = e.lvl := by simp [flevel, h1, he]
        simp only [he, hv, hw']
        cases hj : f.nameAt e.lvl with
        | none => rfl
        | some x =>
          simp only
          rw [ih w σ rw' (by omega), ih v σ rv (by omega)]

theorem evalN_ge {f : PickleFile} (hw : PickleWF f) (u : Int) (σ : String → Bool) (hr : FRef f.succ u) :
    ∀ k, evalN f (f.vars.length + 1 + k) u σ = evalN f (f.vars.length + 1) u σ := by
  intro k
  induction k with
  | zero => rfl
  | succ k ih =>
    rw [← ih]
    exact (evalN_stable hw (f.vars.length + 1 + k) u σ hr (by omega)).symm

theorem evalPickle_node {f : PickleFile} (hw : PickleWF f) (u : Int) (σ : String → Bool) (e : PEntry)
    (v w : Int) (x : String) (h1 : u.natAbs ≠ 1) (he : PEntry.find f.succ u.natAbs = some e)
    (hv : e.lo = some v) (hw' : e.hi = some w) (hx : f.nameAt e.lvl = some x) :
    evalPickle f u σ = ((decide (u < 0)) ^^ (if σ x then evalPickle f w σ else evalPickle f v σ)) := by
  have hr : FRef f.succ u := Or.inr (by simp [he])
  unfold evalPickle
  rw [← evalN_ge hw u σ hr 1]
  show evalN f (f.vars.length + 1 + 1) u σ = _
  rw [evalN]
  simp only [h1, if_false, he, hv, hw', hx]

theorem PickleWF.name {f : PickleFile} (hw : PickleWF f) {k : Nat} {e : PEntry}
    (he : PEntry.find f.succ k = some e) (h1 : k ≠ 1) : ∃ x, f.nameAt e.lvl = some x :=
  have ⟨var, hvar⟩ := hw.lvls k e he h1
  ⟨var, hw.names var e.lvl hvar⟩

theorem evalPickle_term (f : PickleFile) (u : Int) (σ : String → Bool) (h : u.natAbs = 1) :
    evalPickle f u σ = decide (0 < u) := evalN_term f _ u σ h

/-- a complemented reference of the file is the complement of `|u|` (the file-side twin of `den_flip`) -/
theorem evalPickle_abs {f : PickleFile} (hw : PickleWF f) (u : Int) (σ : String → Bool) (hr : FRef f.succ u) :
    evalPickle f u σ = (decide (u < 0) ^^ evalPickle f (u.natAbs : Int) σ) := by
  by_cases h1 : u.natAbs = 1
  · rw [evalPickle_term _ _ _ h1, evalPickle_term _ _ _ (by simpa using h1)]
    rcases abs_one h1 with rfl | rfl <;> rfl
  · obtain ⟨e, he⟩ := Option.isSome_iff_exists.mp (hr.resolve_left h1)
    obtain ⟨v, w, hv, hw', _⟩ := hw.succ.node _ e he h1
    obtain ⟨x, hx⟩ := hw.name he h1
    rw [evalPickle_node hw u σ e v w x h1 he hv hw' hx,
      evalPickle_node hw (u.natAbs : Int) σ e v w x (by simpa using h1) (by simpa using he) hv hw' hx]
    simp [show ¬ ((u.natAbs : Int) < 0) by omega]

theorem PEntry.find_isSome_of_mem {succ : List PEntry} {e : PEntry} (h : e ∈ succ) :
    (PEntry.find succ e.id).isSome := by
  unfold PEntry.find
  rw [List.find?_isSome]
  exact ⟨e, h, by simp⟩

theorem PEntry.find_id {succ : List PEntry} {k : Nat} {e : PEntry} (h : PEntry.find succ k = some e) :
    e.id = k := by
  unfold PEntry.find at h
  have := List.find?_some h
  simpa using this

theorem PEntry.find_cons_ne {e : PEntry} {k : Nat} (h : e.id ≠ k) (succ : List PEntry) :
    PEntry.find (e :: succ) k = PEntry.find succ k := by
  unfold PEntry.find
  rw [List.find?_cons, show (e.id == k) = false by simpa using h]

/-- pointwise relation of two lists of equal length -/
inductive Forall2 {α β : Type} (R : α → β → Prop) : List α → List β → Prop
  | nil : Forall2 R [] []
  | cons {a b l l'} : R a b → Forall2 R l l' → Forall2 R (a :: l) (b :: l')

/-- same container shape, entries related pointwise -/
inductive RootsRel (P : Int → Int → Prop) : Roots → Roots → Prop
  | none : RootsRel P .none (.list [])
  | list {l l' : List Int} : Forall2 P l l' → RootsRel P (.list l) (.list l')
  | dict {d d' : List (String × Int)} :
      Forall2 (fun a b => a.1 = b.1 ∧ P a.2 b.2) d d' → RootsRel P (.dict d) (.dict d')

/-- the roots of the file are `None`, or a container of references the file can resolve
(constants included) -/
def RootsResolvable (f : PickleFile) : Prop :=
  ∀ u ∈ f.roots.values, u.natAbs = 1 ∨ ∃ e ∈ f.succ, e.id = u.natAbs

/-- `vars` and `_level_to_var` are inverse of each other -/
def DmpVarsBij (t : Tbl) : Prop := ∀ (v : String) (l : Nat), t.vars[v]? = some l ↔ t.l2v[l]? = some v

theorem DmpVarsBij.insert {t : Tbl} (hb : DmpVarsBij t) {var : String} {j : Nat}
    (h1 : t.vars[var]? = none) (h2 : t.l2v[j]? = none) :
    DmpVarsBij { t with vars := t.vars.insert var j, l2v := t.l2v.insert j var } :=
  inverse_insert hb h1 h2

theorem Forall2.imp_mem {α β : Type} {R S : α → β → Prop} :
    ∀ {l : List α} {l' : List β}, Forall2 R l l' → (∀ a ∈ l, ∀ b, R a b → S a b) → Forall2 S l l' := by
  intro l l' hl
  induction hl with
  | nil => intro _; exact .nil
  | cons a _ ih =>
    intro h
    exact .cons (h _ List.mem_cons_self _ a) (ih fun x hx => h x (List.mem_cons_of_mem _ hx))

theorem RootsRel.imp_mem {P Q : Int → Int → Prop} {a b : Roots} (hr : RootsRel P a b)
    (h : ∀ u ∈ a.values, ∀ r, P u r → Q u r) : RootsRel Q a b := by
  cases hr with
  | none => exact .none
  | list hl => exact .list (hl.imp_mem h)
  | dict hd =>
    refine .dict (hd.imp_mem ?_)
    intro x hx y hxy
    exact ⟨hxy.1, h _ (by simp [Roots.values]; exact ⟨x.1, hx⟩) _ hxy.2⟩

theorem RootsRel.imp {P Q : Int → Int → Prop} (h : ∀ u r, P u r → Q u r) {a b : Roots}
    (hr : RootsRel P a b) : RootsRel Q a b :=
  hr.imp_mem fun u _ r => h u r

theorem Forall2.of_map {α β : Type} {R : α → β → Prop} {g : α → β} :
    ∀ {l : List α}, (∀ a ∈ l, R a (g a)) → Forall2 R l (l.map g)
  | [], _ => .nil
  | a :: _, h => .cons (h a List.mem_cons_self) (Forall2.of_map fun b hb => h b (List.mem_cons_of_mem _ hb))

theorem Roots.rebuild_rel {P : Int → Int → Prop} (r : Roots) (hn : r ≠ .none) (us : List Int)
    (h : Forall2 P r.values us) : RootsRel P r (r.rebuild us) ∧ (r.rebuild us).values = us := by
  cases r with
  | none => exact absurd rfl hn
  | list l => exact ⟨.list h, rfl⟩
  | dict d =>
    have key : ∀ (d : List (String × Int)) (us : List Int), Forall2 P (d.map (·.2)) us →
        Forall2 (fun a b => a.1 = b.1 ∧ P a.2 b.2) d ((d.map (·.1)).zip us) ∧
        (((d.map (·.1)).zip us).map (·.2)) = us := by
      intro d
      induction d with
      | nil => intro us h; cases h; exact ⟨.nil, rfl⟩
      | cons p d ih =>
        intro us h
        cases h with
        | cons a b =>
          obtain ⟨h1, h2⟩ := ih _ b
          exact ⟨.cons ⟨rfl, a⟩ h1, by simp [h2]⟩
    obtain ⟨h1, h2⟩ := key d us h
    exact ⟨.dict h1, h2⟩

theorem Forall2.right_mem {α β : Type} {R : α → β → Prop} {l : List α} {l' : List β}
    (h : Forall2 R l l') : ∀ b ∈ l', ∃ a, R a b := by
  induction h with
  | nil => intro b hb; simp at hb
  | cons hab _ ih =>
    intro b hb
    rcases List.mem_cons.mp hb with h' | h'
    · subst h'; exact ⟨_, hab⟩
    · exact ih b h'

theorem RootsRel.right_mem {P : Int → Int → Prop} {a b : Roots} (h : RootsRel P a b) :
    ∀ r ∈ b.values, ∃ u, P u r := by
  cases h with
  | none => intro r hr; simp [Roots.values] at hr
  | list hl => exact hl.right_mem
  | dict hd =>
    intro r hr
    simp only [Roots.values, List.mem_map] at hr
    obtain ⟨p, hp, rfl⟩ := hr
    obtain ⟨q, hq⟩ := hd.right_mem p hp
    exact ⟨q.2, hq.2⟩

/-- no level gaps: declared levels are below the number of variables (F7 excluded) -/
def Contig (t : Tbl) : Prop := ∀ (v : String) (l : Nat), t.vars[v]? = some l → l < t.nvars

/-- the result of `BDD.load` relative to the content of the file: same container shape
(an empty list when the file names no roots), every member a node of the receiving manager
that denotes — as a function of variable NAMES — what the file says -/
def LoadedFrom (f : PickleFile) (t : Tbl) (roots' : Roots) : Prop :=
  RootsRel (fun u r => t.Mem r ∧ ∀ α, denBy t r α = evalPickle f u α) f.roots roots'

theorem OrderOK.bij {t : Tbl} (h : OrderOK t) : DmpVarsBij t := h.inv

/-- how the levels are named: inverse maps, no gaps, every level named — the three clauses of
`OrderOK` (`OrderOK.toDmp`), under the names the statements of C12 use -/
structure DmpVarsOK (t : Tbl) : Prop where
  bij : DmpVarsBij t
  contig : Contig t
  named : ∀ l, l < t.nvars → (t.l2v[l]?).isSome

theorem length_vars_toList (t : Tbl) : t.vars.toList.length = t.nvars := by
  unfold Tbl.nvars; exact TreeMap.length_toList

/-- the result of a load, compared with the functions that were dumped: same container
shape (list positions / dict keys; an empty list when no roots were named), each member a
node of the receiving manager that denotes — by variable name — the dumped function -/
def LoadedAs (src : Tbl) (roots : Roots) (tgt : Tbl) (roots' : Roots) : Prop :=
  RootsRel (fun u r => tgt.Mem r ∧ ∀ α, denBy tgt r α = denBy src u α) roots roots'

theorem OrderOK.toDmp {t : Tbl} (h : OrderOK t) : DmpVarsOK t :=
  ⟨h.inv, h.lt, fun l hl => by obtain ⟨v, hv⟩ := h.total l hl; simp [hv]⟩

/-- roots that denote, by name, what a content says are the dumped functions when the content
says what was dumped (`ev` is `evalPickle f` or `evalJson f`) -/
theorem RootsRel.loadedAs {ev : Int → (String → Bool) → Bool} {src t : Tbl} {roots roots' : Roots}
    (h : RootsRel (fun u r => t.Mem r ∧ ∀ α, denBy t r α = ev u α) roots roots')
    (hev : ∀ α, ∀ u ∈ roots.values, ev u α = denBy src u α) : LoadedAs src roots t roots' :=
  h.imp_mem fun u hu _ ⟨h1, h2⟩ => ⟨h1, fun α => by rw [h2 α, hev α u hu]⟩

theorem LoadedFrom.loadedAs {src : Tbl} {roots : Roots} {f' : PickleFile} (hr : f'.roots = roots)
    (hev : ∀ α, ∀ u ∈ roots.values, evalPickle f' u α = denBy src u α) {t : Tbl} {roots' : Roots}
    (h : LoadedFrom f' t roots') : LoadedAs src roots t roots' := by
  unfold LoadedFrom at h
  rw [hr] at h
  exact h.loadedAs hev

end DD
