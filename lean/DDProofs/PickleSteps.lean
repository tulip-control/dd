/-
  DDProofs.PickleSteps — the loops of `BDD.load` (pickle) as sequences.

  The model writes the loops of `_load_pickle` with explicit `match`es on the outcome of each
  call.  Here each loop gets its step equation in `>>=` form, and is then walked ONCE, for any
  property of computations that sequencing preserves (`SeqClosed`), from the same property of
  the primitive calls (`add_var`, `find_or_add`, `_ite`, `Function(...)`).
-/
import DD.Dump
import DDProofs.SeqClosed
import DDProofs.AddVar
open Std

namespace DD

/-- the three things `add_var(var, level)` can do: find the name declared (at that level, if one
is given); declare it at a free level (the next one, if none is given); refuse, changing
nothing -/
theorem addVar_outcomes (var : String) (level : Option Int) (m : Mgr) :
    (∃ j, addVar var level m = (.ok j, m) ∧ m.tbl.vars[var]? = some j ∧
      ∀ l, level = some l → l = (j : Int)) ∨
    (∃ j, addVar var level m = (.ok j, m.withVar var j) ∧ m.tbl.vars[var]? = none ∧
      m.tbl.l2v[j]? = none ∧ level.getD (m.nvars : Int) = (j : Int)) ∨
    (∃ e, addVar var level m = (.error e, m) ∧ e ≠ .needsReordering) := by
  rw [addVar_run]
  split
  · next vl hv =>
    split
    · exact Or.inl ⟨vl, rfl, hv, nofun⟩
    · next lv =>
      split
      · next h => exact Or.inl ⟨vl, rfl, hv, fun l hl => by cases hl; exact h⟩
      · exact Or.inr (Or.inr ⟨_, rfl, nofun⟩)
  · next hv =>
    split
    · exact Or.inr (Or.inr ⟨_, rfl, nofun⟩)
    · next hneg =>
      split
      · exact Or.inr (Or.inr ⟨_, rfl, nofun⟩)
      · next hl => exact Or.inr (Or.inl ⟨_, rfl, hv, hl, by omega⟩)

theorem addVar_noSignal (m : Mgr) (name : String) (level : Option Int) :
    (addVar name level m).1 ≠ .error .needsReordering := by
  rcases addVar_outcomes name level m with ⟨j, e, -⟩ | ⟨j, e, -⟩ | ⟨e', e, hne⟩ <;> rw [e]
  · exact fun h => by cases h
  · exact fun h => by cases h
  · exact fun h => hne (by cases h; rfl)

theorem addVar_fresh (m : Mgr) (v : String) (l : Nat) (h1 : m.tbl.vars[v]? = none)
    (h2 : m.tbl.l2v[l]? = none) : addVar v (some (l : Int)) m = (.ok l, m.withVar v l) := by
  rw [addVar_run, h1]
  simp only [Option.getD_some, show ¬ ((l : Int) < 0) by omega, if_false, Int.toNat_natCast, h2]

/-- everything but the order tables (`vars`, `l2v`) and the two harness fields is the same -/
structure SameRest (m m' : Mgr) : Prop where
  succ : m'.tbl.succ = m.tbl.succ
  pred : m'.pred = m.pred
  ref : m'.ref = m.ref
  minFree : m'.minFree = m.minFree
  cache : m'.cache = m.cache
  lastLen : m'.lastLen = m.lastLen
  ctx : m'.ctx = m.ctx
  roots : m'.roots = m.roots

theorem SameRest.refl (m : Mgr) : SameRest m m := ⟨rfl, rfl, rfl, rfl, rfl, rfl, rfl, rfl⟩

theorem SameRest.trans {a b c : Mgr} (h1 : SameRest a b) (h2 : SameRest b c) : SameRest a c :=
  ⟨h2.succ.trans h1.succ, h2.pred.trans h1.pred, h2.ref.trans h1.ref, h2.minFree.trans h1.minFree,
   h2.cache.trans h1.cache, h2.lastLen.trans h1.lastLen, h2.ctx.trans h1.ctx, h2.roots.trans h1.roots⟩

theorem loadVars_cons (levels : Bool) (n : Nat) (var : String) (i : Nat) (rest : List (String × Nat))
    (lm : List (Nat × Nat)) :
    loadVars levels n ((var, i) :: rest) lm =
      if ¬ i < n then M.throw .assertion else
      addVar var (if levels then some (i : Int) else none) >>= fun j =>
        loadVars levels n rest ((i, j) :: lm) := by
  funext m
  rw [loadVars]
  dsimp only
  by_cases h : i < n
  · rw [if_neg (not_not_intro h), if_neg (not_not_intro h), M.bind_eq]
    generalize addVar var _ m = out
    obtain ⟨r, m1⟩ := out
    cases r <;> rfl
  · rw [if_pos h, if_pos h]; rfl

theorem loadNodeF_succ (succ : List PEntry) (lm : List (Nat × Nat)) (f : Nat) (u : Int)
    (umap : TreeMap Int Int) :
    loadNodeF succ lm (f + 1) u umap =
      if u.natAbs = 1 then pure (u, umap) else
      if umap.contains u then
        match umap[(u.natAbs : Int)]? with
        | none => M.throw .key
        | some r => if r = 0 then M.throw .assertion else pure ((if u < 0 then -r else r), umap)
      else
      match PEntry.find succ u.natAbs with
      | none => M.throw .key
      | some e =>
        match lm.lookup e.lvl with
        | none => M.throw .key
        | some j =>
          match e.lo, e.hi with
          | some v, some w =>
            loadNodeF succ lm f v umap >>= fun (p, umap1) =>
            loadNodeF succ lm f w umap1 >>= fun (q, umap2) =>
            findOrAdd j (-1) 1 >>= fun g =>
            iteRaw g q p >>= fun r =>
            if r = 0 then M.throw .assertion else
            pure ((if u < 0 then -r else r), umap2.insert (u.natAbs : Int) r)
          | none, _ => M.throw .type
          | some v, none => loadNodeF succ lm f v umap >>= fun _ => M.throw .type := by
  funext m
  rw [loadNodeF]
  dsimp only
  by_cases h1 : u.natAbs = 1
  · rw [if_pos h1, if_pos h1]; rfl
  rw [if_neg h1, if_neg h1]
  by_cases h2 : umap.contains u = true
  · rw [if_pos h2, if_pos h2]
    generalize umap[(u.natAbs : Int)]? = o
    cases o with
    | none => rfl
    | some r => dsimp only; split <;> rfl
  rw [if_neg h2, if_neg h2]
  generalize PEntry.find succ u.natAbs = o
  cases o with
  | none => rfl
  | some e =>
    dsimp only
    generalize lm.lookup e.lvl = o
    cases o with
    | none => rfl
    | some j =>
      dsimp only
      generalize e.lo = lo
      generalize e.hi = hi
      cases lo with
      | none => rfl
      | some v =>
        cases hi with
        | none =>
          dsimp only
          rw [M.bind_eq]
          generalize loadNodeF succ lm f v umap m = out
          obtain ⟨r, m1⟩ := out
          cases r <;> rfl
        | some w =>
          dsimp only
          rw [M.bind_eq]
          generalize loadNodeF succ lm f v umap m = out
          obtain ⟨r, m1⟩ := out
          cases r with
          | error e => rfl
          | ok pu =>
            dsimp only
            rw [M.bind_eq]
            generalize loadNodeF succ lm f w pu.2 m1 = out
            obtain ⟨r, m2⟩ := out
            cases r with
            | error e => rfl
            | ok qu =>
              dsimp only
              rw [M.bind_eq]
              generalize findOrAdd j (-1) 1 m2 = out
              obtain ⟨r, m3⟩ := out
              cases r with
              | error e => rfl
              | ok g =>
                dsimp only
                rw [M.bind_eq]
                generalize iteRaw g qu.1 pu.1 m3 = out
                obtain ⟨r, m4⟩ := out
                cases r with
                | error e => rfl
                | ok r => dsimp only; split <;> rfl

theorem loadAll_cons (succ : List PEntry) (lm : List (Nat × Nat)) (fuel : Nat) (e : PEntry)
    (rest : List PEntry) (umap : TreeMap Int Int) :
    loadAll succ lm fuel (e :: rest) umap =
      if umap.contains (e.id : Int) then loadAll succ lm fuel rest umap else
      loadNodeF succ lm fuel (e.id : Int) umap >>= fun (_, umap1) => loadAll succ lm fuel rest umap1 := by
  funext m
  rw [loadAll]
  dsimp only
  by_cases h : umap.contains (e.id : Int) = true
  · rw [if_pos h, if_pos h]
  · rw [if_neg h, if_neg h, M.bind_eq]
    generalize loadNodeF succ lm fuel (e.id : Int) umap m = out
    obtain ⟨r, m1⟩ := out
    cases r <;> rfl

theorem wrapList_cons (u : Int) (rest : List Int) :
    wrapList (u :: rest) = dmpWrap u >>= fun _ => wrapList rest := by
  funext m
  rw [wrapList, M.bind_eq]
  dsimp only
  generalize dmpWrap u m = out
  obtain ⟨r, m1⟩ := out
  cases r <;> rfl

theorem addVars_cons (v : String) (l : Nat) (rest : List (String × Nat)) :
    addVars ((v, l) :: rest) = addVar v (some (l : Int)) >>= fun _ => addVars rest := by
  funext m
  rw [addVars, M.bind_eq]
  dsimp only
  generalize addVar v (some (l : Int)) m = out
  obtain ⟨r, m1⟩ := out
  cases r <;> rfl

/-- `load` after the `levels=True` pre-check -/
def loadPickleBody (f : PickleFile) (levels : Bool) : M Roots := fun m =>
  match loadVars levels f.vars.length f.vars [] m with
  | (.error e, m1) => (.error e, m1)
  | (.ok lm, m1) =>
    match loadAll f.succ lm (f.vars.length + f.succ.length + 2) f.succ {} m1 with
    | (.error e, m2) => (.error e, m2)
    | (.ok umap, m2) => (mapRoots umap f.roots, m2)

theorem loadPickle_eq (f : PickleFile) (levels : Bool) (m : Mgr) :
    loadPickle f levels m =
      if (levels && !levelsPermutation f.vars) = true then (.error .value, m)
      else if (levels && !levelsCompatible m.tbl f.vars) = true then (.error .value, m)
      else loadPickleBody f levels m := rfl

/-- the pre-check reads the order tables of the manager only -/
theorem loadPickle_get (f : PickleFile) (levels : Bool) :
    loadPickle f levels = M.get >>= fun m0 =>
      if (levels && !levelsPermutation f.vars) = true then M.throw .value
      else if (levels && !levelsCompatible m0.tbl f.vars) = true then M.throw .value
      else loadPickleBody f levels := by
  funext m
  rw [loadPickle_eq, M.bind_eq, M.get_eq]
  dsimp only
  split
  · rfl
  · split <;> rfl

theorem loadPickleBody_eq (f : PickleFile) (levels : Bool) :
    loadPickleBody f levels =
      loadVars levels f.vars.length f.vars [] >>= fun lm =>
      loadAll f.succ lm (f.vars.length + f.succ.length + 2) f.succ {} >>= fun umap =>
      liftE (mapRoots umap f.roots) := by
  funext m
  unfold loadPickleBody
  rw [M.bind_eq]
  generalize loadVars levels f.vars.length f.vars [] m = out
  obtain ⟨r, m1⟩ := out
  cases r with
  | error e => rfl
  | ok lm =>
    dsimp only
    rw [M.bind_eq]
    generalize loadAll f.succ lm _ f.succ {} m1 = out
    obtain ⟨r, m2⟩ := out
    cases r with
    | error e => rfl
    | ok umap => exact (liftE_eq _ m2).symm

theorem loadPickleAutoref_eq (f : PickleFile) (levels : Bool) (m : Mgr) :
    loadPickleAutoref f levels m =
      match loadPickle f levels m with
      | (.error e, m1) => (.error e, m1)
      | (.ok roots, m1) =>
        match wrapList roots.values m1 with
        | (.ok _, m2) => (.ok roots, m2)
        | (.error e, _) => (.error e, m1) := rfl

theorem map_eq_error {α β : Type} {x : Except Err α} {g : α → β} {e : Err}
    (h : x.map g = .error e) : x = .error e := by
  cases x with
  | error e' => cases h; rfl
  | ok a => cases h

theorem mapRoots_error {umap : TreeMap Int Int} {r : Roots} {e : Err}
    (h : mapRoots umap r = .error e) : e = .key := by
  have hnode : ∀ u, mapNode umap u = .error e → e = .key := by
    intro u hu
    unfold mapNode at hu
    split at hu
    · cases hu
    · split at hu <;> cases hu
      rfl
  cases r with
  | none => cases h
  | list l =>
    obtain ⟨a, _, ha⟩ := mapM_error_mem (map_eq_error (g := Roots.list) h)
    exact hnode a ha
  | dict d =>
    obtain ⟨a, _, ha⟩ := mapM_error_mem (map_eq_error (g := Roots.dict) h)
    exact hnode a.2 (map_eq_error ha)

section
variable {C : ∀ {α : Type}, M α → Prop} (hC : SeqClosed C)
include hC

theorem loadVars_seq (levels : Bool)
    (hadd : ∀ var (i : Nat), C (addVar var (if levels then some (i : Int) else none))) (n : Nat) :
    ∀ (vs : List (String × Nat)) (lm : List (Nat × Nat)), C (loadVars levels n vs lm) := by
  intro vs
  induction vs with
  | nil => intro lm; exact hC.pure lm
  | cons x rest ih =>
    intro lm
    obtain ⟨var, i⟩ := x
    rw [loadVars_cons]
    split
    · exact hC.raise _
    · exact hC.bind (hadd _ _) fun j => ih _

theorem loadNodeF_seq (hvar : ∀ j : Nat, C (findOrAdd (j : Int) (-1) 1))
    (hite : ∀ g q p, C (iteRaw g q p)) (succ : List PEntry) (lm : List (Nat × Nat)) :
    ∀ (fuel : Nat) (u : Int) (umap : TreeMap Int Int), C (loadNodeF succ lm fuel u umap) := by
  intro fuel
  induction fuel with
  | zero => intro u umap; exact hC.raise .fuel
  | succ f ih =>
    intro u umap
    rw [loadNodeF_succ]
    split
    · exact hC.pure _
    split
    · split
      · exact hC.raise _
      · split
        · exact hC.raise _
        · exact hC.pure _
    split
    · exact hC.raise _
    split
    · exact hC.raise _
    split
    · refine hC.bind (ih _ _) fun pu => hC.bind (ih _ _) fun qu =>
        hC.bind (hvar _) fun g => hC.bind (hite _ _ _) fun r => ?_
      split
      · exact hC.raise _
      · exact hC.pure _
    · exact hC.raise _
    · exact hC.bind (ih _ _) fun _ => hC.raise _

theorem loadAll_seq (hvar : ∀ j : Nat, C (findOrAdd (j : Int) (-1) 1))
    (hite : ∀ g q p, C (iteRaw g q p)) (succ : List PEntry) (lm : List (Nat × Nat)) (fuel : Nat) :
    ∀ (es : List PEntry) (umap : TreeMap Int Int), C (loadAll succ lm fuel es umap) := by
  intro es
  induction es with
  | nil => intro umap; exact hC.pure umap
  | cons e rest ih =>
    intro umap
    rw [loadAll_cons]
    split
    · exact ih _
    · exact hC.bind (loadNodeF_seq hC hvar hite succ lm fuel _ _) fun pu => ih _

theorem wrapList_seq (hwrap : ∀ u, C (dmpWrap u)) : ∀ us : List Int, C (wrapList us) := by
  intro us
  induction us with
  | nil => exact hC.pure ()
  | cons u rest ih => rw [wrapList_cons]; exact hC.bind (hwrap u) fun _ => ih

theorem loadPickleBody_seq (f : PickleFile) (levels : Bool)
    (hadd : ∀ var (i : Nat), C (addVar var (if levels then some (i : Int) else none)))
    (hvar : ∀ j : Nat, C (findOrAdd (j : Int) (-1) 1)) (hite : ∀ g q p, C (iteRaw g q p)) :
    C (loadPickleBody f levels) := by
  rw [loadPickleBody_eq]
  exact hC.bind (loadVars_seq hC levels hadd _ _ _) fun lm =>
    hC.bind (loadAll_seq hC hvar hite _ _ _ _ _) fun umap =>
      -- `mapRoots` raises `KeyError` only: neither the signal nor `.sched`
      hC.liftE _ (fun h => by cases mapRoots_error h) fun h => by cases mapRoots_error h

/-- `BDD.load(file, levels)`: whatever sequencing preserves and `add_var`, `find_or_add(j, -1, 1)`,
`_ite` have, the whole call has — on any content, returned or raised -/
theorem loadPickle_seq (f : PickleFile) (levels : Bool)
    (hadd : ∀ var (i : Nat), C (addVar var (if levels then some (i : Int) else none)))
    (hvar : ∀ j : Nat, C (findOrAdd (j : Int) (-1) 1)) (hite : ∀ g q p, C (iteRaw g q p)) :
    C (loadPickle f levels) := by
  rw [loadPickle_get]
  exact hC.read (fun m0 => hC.ite _ (hC.raise _) <|
    hC.ite _ (hC.raise _) (loadPickleBody_seq hC f levels hadd hvar hite))

end

end DD
