/-
  DDProofs.PlainErrors — the helpers of the model that compute in `Except Err` without the manager's
  state (`support`, `_top_cofactor`, `_map_to_level`, the argument checks of `apply`, …) raise
  neither of the two internal signals (`needsReordering`, `.sched`): one lemma `X_plain` per
  helper, for both signals at once.  It is the side condition of `SeqClosed.liftP`.
-/
import DD.Apply
import DDProofs.SatList
open Std

namespace DD

/-- the two exceptions that are not errors of the caller: the reordering request and the model's
marker of an exhausted schedule -/
abbrev Signal (s : Err) : Prop := s = .needsReordering ∨ s = .sched

theorem Signal.ne_error {α : Type} {s e : Err} (hs : Signal s) (h1 : e ≠ .needsReordering := by decide)
    (h2 : e ≠ .sched := by decide) : (.error e : Except Err α) ≠ .error s := by
  rcases hs with rfl | rfl <;> intro h <;> cases h <;> contradiction

theorem if_ne {α} {c : Prop} [Decidable c] {a b x : α} (ha : a ≠ x) (hb : b ≠ x) :
    (if c then a else b) ≠ x := by
  split
  · exact ha
  · exact hb

theorem mapM_plain {α β : Type} {f : α → Except Err β} {s : Err} (hf : ∀ a, f a ≠ .error s)
    (l : List α) : l.mapM f ≠ .error s := fun h =>
  have ⟨a, _, ha⟩ := mapM_error_mem h
  hf a ha

theorem mapME_plain {α β : Type} (f : α → Except Err β) {s : Err} (hf : ∀ a, f a ≠ .error s)
    (l : List α) : mapME f l ≠ .error s :=
  mapME_eq_mapM f l ▸ mapM_plain hf l

theorem keyVarLevel_plain (t : Tbl) (k : Key) (s : Err) (hs : Signal s) : keyVarLevel t k ≠ .error s := by
  unfold keyVarLevel
  split
  · split
    · exact nofun
    · exact hs.ne_error
  · exact hs.ne_error

theorem mapToLevelE_plain (t : Tbl) (keys : List Key) (s : Err) (hs : Signal s) : mapToLevelE t keys ≠ .error s := by
  unfold mapToLevelE
  split
  · exact nofun
  · exact if_ne (if_ne nofun hs.ne_error) (mapME_plain _ (fun k => keyVarLevel_plain t k s hs) _)

theorem levelOfVarE_plain (t : Tbl) (v : String) (s : Err) (hs : Signal s) : levelOfVarE t v ≠ .error s := by
  unfold levelOfVarE
  split
  · exact nofun
  · exact hs.ne_error

theorem subLevelE_plain (t : Tbl) (vg : String × Int) (s : Err) (hs : Signal s) : subLevelE t vg ≠ .error s := by
  unfold subLevelE
  split
  · next e he => intro hh; cases hh; exact levelOfVarE_plain t vg.1 s hs he
  · exact nofun

theorem renameMap_plain (t : Tbl) (dvars : List (String × String)) (s : Err) (hs : Signal s) : renameMap t dvars ≠ .error s := by
  unfold renameMap
  refine mapME_plain _ (fun vl => ?_) _
  split
  · exact nofun
  · exact hs.ne_error

theorem qvarsByName_plain (t : Tbl) (q : List Key) (s : Err) (hs : Signal s) : qvarsByName t q ≠ .error s := by
  unfold qvarsByName
  split
  · next e heq => intro h; cases h; exact mapToLevelE_plain t q s hs heq
  · refine mapME_plain _ (fun j => ?_) _
    split
    · exact nofun
    · exact hs.ne_error

theorem topCofactor_plain (t : Tbl) (u : Int) (i : Nat) (s : Err) (hs : Signal s) : topCofactor t u i ≠ .error s := by
  unfold topCofactor
  refine if_ne nofun ?_
  split
  · exact hs.ne_error
  · exact if_ne nofun (if_ne hs.ne_error (if_ne nofun nofun))

theorem topCofactorI_plain (t : Tbl) (u : Int) (i : Int) (s : Err) (hs : Signal s) : topCofactorI t u i ≠ .error s := by
  unfold topCofactorI
  refine if_ne (if_ne nofun ?_) (topCofactor_plain t u _ s hs)
  split
  · exact hs.ne_error
  · exact nofun

theorem supportF_plain (s : Err) (hs : Signal s) (f : Nat) : ∀ (t : Tbl) (u : Int)
    (acc : List Nat × List Nat), supportF f t u acc ≠ .error s := by
  induction f with
  | zero => intro t u acc; exact hs.ne_error
  | succ f ih =>
    intro t u (levels, nodes)
    unfold supportF
    refine if_ne nofun (if_ne nofun (if_ne nofun ?_))
    split
    · exact hs.ne_error
    refine if_ne hs.ne_error ?_
    dsimp only
    split
    · next e heq => intro h; cases h; exact ih _ _ _ heq
    · exact ih _ _ _

theorem supportLevels_plain (t : Tbl) (u : Int) (s : Err) (hs : Signal s) : supportLevels t u ≠ .error s := by
  unfold supportLevels
  split
  · next e heq => intro h; cases h; exact supportF_plain s hs _ _ _ _ heq
  · exact nofun

theorem support_plain (t : Tbl) (u : Int) (s : Err) (hs : Signal s) : support t u ≠ .error s := by
  unfold support
  split
  · next e heq => intro h; cases h; exact supportLevels_plain _ _ s hs heq
  · refine mapM_plain (fun i => ?_) _
    split
    · exact nofun
    · exact hs.ne_error

theorem preimageFused_plain (t : Tbl) (rn : List (Key × Key)) (tg : Int) (s : Err) (hs : Signal s) :
    preimageFused t rn tg ≠ .error s := by
  unfold preimageFused
  refine if_ne nofun (if_ne nofun ?_)
  split
  · next e he => intro h; cases h; exact supportLevels_plain _ _ s hs he
  · exact nofun

theorem assertOperatorArity_plain (op : String) (v w : Option Int) (s : Err) (hs : Signal s) :
    assertOperatorArity op v w ≠ .error s :=
  have l : (.error .value : Except Err Unit) ≠ .error s := hs.ne_error
  have leaf {c d : Prop} [Decidable c] [Decidable d] :
      (if c then .error .value else if d then .error .value else .ok () : Except Err Unit) ≠
        .error s := if_ne l (if_ne l nofun)
  if_ne l (if_ne leaf (if_ne leaf (if_ne leaf nofun)))

theorem atomVal_plain (u v w : Int) (a : Atom) (s : Err) (hs : Signal s) : atomVal u v w a ≠ .error s := by
  cases a
  case bad => exact hs.ne_error
  all_goals exact nofun

end DD
