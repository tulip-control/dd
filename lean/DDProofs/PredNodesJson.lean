/-
  DDProofs.PredNodesJson — `KeysOK` ("every key of `_pred` is a node triple") through
  `_copy.load_json`: EVERY outcome of `_make_node` (either `load_order`) and of the functions around it
  for `load_order=False` keeps it (`KSM`, `ksm_loadJson_false`), whatever the content and with no
  hypothesis on the manager.  It is an invariant of the state alone, so it is
  walked here, apart from what the loader computes: the C12 proofs read `KeysOK` of the state a run
  ends in off these lemmas and the run's equation, and do not carry it from line to line.
-/
import DDProofs.LedgerCalc
import DDProofs.PredNodesReach
open Std
namespace DD

theorem keysOK_dropList : ∀ (us : List Int) (m : Mgr), KeysOK m → KeysOK (dropList us m)
  | [], m, h => h
  | u :: rest, m, h => by
    unfold dropList
    exact keysOK_dropList rest _ (ksm_decref u m h)

theorem keysOK_dropOpt (o : Option Int) (m : Mgr) (h : KeysOK m) : KeysOK (dropOpt o m) := by
  cases o with
  | none => exact h
  | some u => exact ksm_decref u m h

theorem ksm_withTemps {α : Type} (us : List Int) {x : M α} (hx : KSM x) : KSM (withTemps us x) := by
  intro m h
  unfold withTemps
  exact keysOK_dropList us _ (hx m h)

theorem ksm_dmpWrap (u : Int) : KSM (dmpWrap u) := by
  intro m h
  unfold dmpWrap
  split
  · exact h
  · exact ksm_incref u m h

theorem ksm_containsCheck (u : Int) : KSM (containsCheck u) :=
  KSM.seqClosed.read (fun _ => KSM.seqClosed.ite _ (KSM.seqClosed.raise _)
    (KSM.seqClosed.pure _))

theorem ksm_declare : ∀ names : List String, KSM (declare names) := by
  intro names
  unfold declare
  refine KSM.seqClosed.bind (forIn_seq KSM.seqClosed _ (fun v _ => ?_) names _) fun _ => KSM.seqClosed.pure _
  exact KSM.seqClosed.bind (ksm_addVar v none) fun _ => KSM.seqClosed.pure _

theorem ksm_nodeFromInt (cache : List (Nat × Int)) (uid : Int) : KSM (nodeFromInt cache uid) := by
  unfold nodeFromInt
  refine KSM.seqClosed.ite _ (KSM.seqClosed.bind (ksm_dmpWrap _) (fun _ => KSM.seqClosed.pure _)) ?_
  refine KSM.seqClosed.ite _ (KSM.seqClosed.bind (ksm_dmpWrap _) (fun _ => KSM.seqClosed.pure _)) ?_
  refine KSM.seqClosed.bind (KSM.seqClosed.ofOption _) (fun k => KSM.seqClosed.bind (ksm_dmpWrap k) (fun _ => ?_))
  refine KSM.seqClosed.ite _ ?_ (KSM.seqClosed.pure _)
  exact ksm_withTemps [k] (KSM.seqClosed.bind (ksm_apply "not" k none none)
    (fun r => KSM.seqClosed.bind (ksm_dmpWrap r) (fun _ => KSM.seqClosed.pure r)))

theorem ksm_shelveNode (cache : List (Nat × Int)) (id : Nat) (u : Int) : KSM (shelveNode cache id u) :=
  KSM.seqClosed.bind (ksm_dmpWrap u) fun _ => ksm_withTemps [u] <|
    KSM.seqClosed.bind (KSM.seqClosed.assert _) fun _ =>
      KSM.seqClosed.bind (ksm_incref u) fun _ => KSM.seqClosed.pure _

theorem ksm_levelOfVar (name : String) : KSM (levelOfVar name) :=
  KSM.seqClosed.read fun _ => KSM.seqClosed.ofOption _

theorem ksm_functionLevel (u : Int) : KSM (functionLevel u) :=
  KSM.seqClosed.read fun _ => KSM.seqClosed.ofOption _

theorem ksm_makeNode (lo : Bool) (vat : List (Nat × String)) (ln : JLine) (cache : List (Nat × Int)) :
    KSM (makeNode lo vat ln cache) := by
  rw [makeNode_eq]
  refine KSM.seqClosed.bind (KSM.seqClosed.assert _) fun _ =>
    KSM.seqClosed.ite _ (KSM.seqClosed.pure _) ?_
  refine KSM.seqClosed.bind (ksm_nodeFromInt cache ln.lo) fun low => ksm_withTemps _ ?_
  refine KSM.seqClosed.bind (ksm_nodeFromInt cache ln.hi) fun high => ksm_withTemps _ ?_
  refine KSM.seqClosed.bind (KSM.seqClosed.ofOption _) fun name => ?_
  cases lo with
  | false =>
    rw [makeNodeBody_false]
    exact KSM.seqClosed.bind (ksm_bddVar name) fun g => KSM.seqClosed.bind (ksm_dmpWrap g) fun _ =>
      ksm_withTemps _ <| KSM.seqClosed.bind (ksm_containsCheck g) fun _ =>
        KSM.seqClosed.bind (ksm_containsCheck high) fun _ => KSM.seqClosed.bind (ksm_containsCheck low) fun _ =>
          KSM.seqClosed.bind (ksm_bddIte g high low) (ksm_shelveNode cache ln.id)
  | true =>
    rw [makeNodeBody_true]
    exact KSM.seqClosed.bind (ksm_levelOfVar name) fun level =>
      KSM.seqClosed.bind (ksm_functionLevel low) fun _ => KSM.seqClosed.bind (ksm_functionLevel high) fun _ =>
        KSM.seqClosed.ite _ (KSM.seqClosed.raise _) <|
          KSM.seqClosed.bind (ksm_findOrAdd level low high) (ksm_shelveNode cache ln.id)

theorem keysOK_makeNodesE {lo : Bool} {vat : List (Nat × String)} :
    ∀ {lines : List JLine} {cache : List (Nat × Int)} {m : Mgr} {out : Except Err Unit × List (Nat × Int) × Mgr},
      KeysOK m → makeNodesE lo vat lines cache m = out → KeysOK out.2.2 := by
  intro lines
  induction lines with
  | nil => intro cache m out h e; subst e; exact h
  | cons ln rest ih =>
    intro cache m out h e
    subst e
    unfold makeNodesE
    have k1 := ksm_makeNode lo vat ln cache m h
    generalize makeNode lo vat ln cache m = r1 at k1 ⊢
    obtain ⟨x1, m1⟩ := r1
    cases x1 with
    | error e => exact k1
    | ok c1 => exact ih k1 rfl

theorem ksm_rootsFromInts (cache : List (Nat × Int)) : ∀ ks : List Int, KSM (rootsFromInts cache ks) := by
  intro ks
  induction ks with
  | nil => unfold rootsFromInts; exact KSM.seqClosed.pure _
  | cons k rest ih =>
    unfold rootsFromInts
    refine KSM.seqClosed.bind (ksm_nodeFromInt cache k) (fun u => ?_)
    intro m h
    have k1 := ih m h
    dsimp only
    generalize rootsFromInts cache rest m = r1 at k1 ⊢
    obtain ⟨x1, m1⟩ := r1
    cases x1 with
    | error e => exact ksm_decref u m1 k1
    | ok us => exact k1

theorem ksm_jsonRoots (f : JsonFile) (cache : List (Nat × Int)) : KSM (jsonRoots f cache) := by
  unfold jsonRoots
  refine KSM.seqClosed.bind ?_ (fun ks => ksm_rootsFromInts cache ks)
  split
  · exact KSM.seqClosed.raise _
  · exact KSM.seqClosed.pure _

theorem keysOK_releaseFailed (cache : List (Nat × Int)) :
    ∀ (l : List (Nat × Int)) (prev : Option Int) (m : Mgr), KeysOK m →
      KeysOK (releaseFailed cache l prev m).2.2 := by
  intro l
  induction l with
  | nil => intro prev m h; exact h
  | cons p rest ih =>
    intro prev m h
    obtain ⟨k, v⟩ := p
    unfold releaseFailed
    have k1 := ksm_nodeFromInt cache (k : Int) m h
    generalize nodeFromInt cache (k : Int) m = r1 at k1 ⊢
    obtain ⟨x1, m1⟩ := r1
    cases x1 with
    | error e => exact k1
    | ok u =>
      dsimp only
      have k2 := ksm_decref u _ (keysOK_dropOpt prev m1 k1)
      generalize decref u (dropOpt prev m1) = r2 at k2 ⊢
      obtain ⟨x2, m3⟩ := r2
      cases x2 with
      | error e => exact k2
      | ok _ => exact ih (some u) m3 k2

theorem keysOK_checkLoop (cache : List (Nat × Int)) :
    ∀ (l : List (Nat × Int)) (prev : Option Int) (m : Mgr), KeysOK m →
      KeysOK (checkLoop false cache l prev m).2.2 := by
  intro l
  induction l with
  | nil => intro prev m h; exact h
  | cons p rest ih =>
    intro prev m h
    obtain ⟨k, v⟩ := p
    unfold checkLoop
    have k1 := ksm_nodeFromInt cache (k : Int) m h
    generalize nodeFromInt cache (k : Int) m = r1 at k1 ⊢
    obtain ⟨x1, m1⟩ := r1
    cases x1 with
    | error e => exact k1
    | ok u =>
      dsimp only
      have hb : KSM (do
          let c ← refOf u
          M.assert (2 ≤ c)
          if false = true then M.assert (3 ≤ c) : M Unit) :=
        KSM.seqClosed.bind (ksm_refOf u) fun _ => KSM.seqClosed.bind (KSM.seqClosed.assert _) fun _ =>
          KSM.seqClosed.ite _ (KSM.seqClosed.assert _) (KSM.seqClosed.pure _)
      have k2 := hb _ (keysOK_dropOpt prev m1 k1)
      generalize (do
          let c ← refOf u
          M.assert (2 ≤ c)
          if false = true then M.assert (3 ≤ c) : M Unit) (dropOpt prev m1) = r2 at k2 ⊢
      obtain ⟨x2, m3⟩ := r2
      cases x2 with
      | error e => exact k2
      | ok _ => exact ih (some u) m3 k2

theorem ksm_jsonHeader_false (f : JsonFile) : KSM (jsonHeader f false) := by
  unfold jsonHeader
  refine KSM.seqClosed.bind (ksm_declare _) (fun _ => ?_)
  simp only [Bool.false_eq_true, if_false]
  exact KSM.seqClosed.pure _

theorem keysOK_jsonTry (f : JsonFile) (m : Mgr) (h : KeysOK m) : KeysOK (jsonTry f false m).2.2.2 := by
  unfold jsonTry
  dsimp only
  have k1 := ksm_jsonHeader_false f m h
  generalize jsonHeader f false m = r1 at k1 ⊢
  obtain ⟨x1, m1⟩ := r1
  cases x1 with
  | error e => exact k1
  | ok _ =>
    dsimp only
    generalize hr : makeNodesE false (f.levelOfVar.foldl (fun acc (x : String × Nat) => (x.2, x.1) :: acc) [])
      f.nodes [] m1 = r2
    have k2 := keysOK_makeNodesE k1 hr
    obtain ⟨x2, cache, m2⟩ := r2
    cases x2 with
    | error e => exact k2
    | ok _ =>
      dsimp only
      have k3 := ksm_jsonRoots f cache m2 k2
      generalize jsonRoots f cache m2 = r3 at k3 ⊢
      obtain ⟨x3, m3⟩ := r3
      cases x3 with
      | error e => exact k3
      | ok us =>
        dsimp only
        have k4 := keysOK_checkLoop cache cache none m3 k3
        generalize checkLoop false cache cache none m3 = r4 at k4 ⊢
        obtain ⟨x4, last, m4⟩ := r4
        cases x4 with
        | error e => exact keysOK_dropList us m4 k4
        | ok _ => exact k4

theorem ksm_dmpAssertConsistent : KSM dmpAssertConsistent := fun m h => by
  rcases dmpAssertConsistent_cases m with e | e <;> rw [e] <;> exact h

theorem keysOK_jsonFinish (f : JsonFile)
    (x : Except Err (List Int) × List (Nat × Int) × Option Int × Mgr)
    (h : KeysOK x.2.2.2) : KeysOK (jsonFinish f false x).2 := by
  obtain ⟨r, cache, prev, m⟩ := x
  cases r with
  | error e =>
    unfold jsonFinish
    dsimp only
    have k1 := keysOK_releaseFailed cache cache prev m h
    generalize releaseFailed cache cache prev m = r1 at k1 ⊢
    obtain ⟨x1, last, m2⟩ := r1
    cases x1 <;> exact keysOK_dropOpt last m2 k1
  | ok us =>
    unfold jsonFinish
    dsimp only
    have k1 := keysOK_releaseFailed cache cache prev m h
    generalize releaseFailed cache cache prev m = r1 at k1 ⊢
    obtain ⟨x1, last, m1⟩ := r1
    dsimp only at k1 ⊢
    split
    · rename_i heq
      refine keysOK_dropOpt last _ (KeysOK.of_eq ?_ heq)
      refine KSM.seqClosed.bind (ksm_liftE _) (fun _ => KSM.seqClosed.bind ksm_dmpAssertConsistent (fun _ => ?_)) m1 k1
      simp only [Bool.false_eq_true, if_false]
      exact KSM.seqClosed.pure _
    · rename_i heq
      refine keysOK_dropList us _ (keysOK_dropOpt last _ (KeysOK.of_eq ?_ heq))
      refine KSM.seqClosed.bind (ksm_liftE _) (fun _ => KSM.seqClosed.bind ksm_dmpAssertConsistent (fun _ => ?_)) m1 k1
      simp only [Bool.false_eq_true, if_false]
      exact KSM.seqClosed.pure _

theorem ksm_loadJson_false (f : JsonFile) : KSM (loadJson f false) := by
  intro m h
  rw [loadJson_false_eq]
  exact keysOK_jsonFinish f _ (keysOK_jsonTry f m h)

end DD
