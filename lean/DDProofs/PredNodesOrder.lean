/-
  DDProofs.PredNodesOrder — the unique table `_pred` has no stray entries, and the reordering
  operations (`swap`, `_sort_to_order`, `_apply_sifting`, `collect_garbage`) keep it so.

  `PredNodes m`: every entry `(level, low, high) ↦ u` of `_pred` is the triple of the stored
  node `u`.  Under the manager invariant (`Inv.pred` fixes the entries whose key IS a triple)
  this is equivalent to `KeysOK m`: every key of `_pred` is a triple.  `KeysOK` only looks at
  the keys, and every mutation of `_pred` in the model is `insert n.key _` or `erase _`; so it
  is kept by EVERY outcome of every function, which is proved compositionally (`KSM`): the
  property is closed under sequencing (`KSM.seqClosed`), the state-changing primitives have it
  (`KSM.swapPrims`, `KSM.reorderPrims`), and the walks are those of DDProofs.SwapSeq and
  DDProofs.DriversSeq.
-/
import DDProofs.DriversSeq
import DDProofs.SwapPop
import DDProofs.FindOrAddState
import DDProofs.Inv
open Std
namespace DD

/-- every entry `(level, low, high) ↦ u` of `_pred` is the triple of the stored node `u` -/
def PredNodes (m : Mgr) : Prop :=
  ∀ (k : List Int) (u : Nat), m.pred[k]? = some u → ∃ n, m.tbl.succ[u]? = some n ∧ n.key = k

theorem PredNodes.ghost {m : Mgr} (h : PredNodes m) (s : List SchedItem) (l fi : Option Nat) :
    PredNodes (m.ghost s l fi) := h

/-- every key of `_pred` is a triple `(level, low, high)` -/
def KeysOK (m : Mgr) : Prop := ∀ (k : List Int) (u : Nat), m.pred[k]? = some u → ∃ n : Nd, k = n.key

theorem PredNodes.keysOK {m : Mgr} (h : PredNodes m) : KeysOK m := by
  intro k u hk
  obtain ⟨n, _, hn⟩ := h k u hk
  exact ⟨n, hn.symm⟩

theorem KeysOK.predNodes {m : Mgr} (h : KeysOK m) (hI : Inv m) : PredNodes m := by
  intro k u hk
  obtain ⟨n, rfl⟩ := h k u hk
  exact ⟨n, (hI.pred n u).mp hk, rfl⟩

theorem KeysOK.congr {m m' : Mgr} (h : KeysOK m) (hp : m'.pred = m.pred) : KeysOK m' := by
  intro k u hk; rw [hp] at hk; exact h k u hk

theorem KeysOK.insert {m : Mgr} (h : KeysOK m) (n : Nd) (u : Nat) {m' : Mgr}
    (hp : m'.pred = m.pred.insert n.key u) : KeysOK m' := by
  intro k v hk
  rw [hp, TreeMap.getElem?_insert] at hk
  by_cases hkk : n.key = k
  · exact ⟨n, hkk.symm⟩
  · have : compare n.key k ≠ .eq := fun hc => hkk (compare_eq_iff_eq.mp hc)
    simp only [this, if_false] at hk
    exact h k v hk

theorem KeysOK.erase {m : Mgr} (h : KeysOK m) (k0 : List Int) {m' : Mgr}
    (hp : m'.pred = m.pred.erase k0) : KeysOK m' := by
  intro k v hk
  rw [hp, TreeMap.getElem?_erase] at hk
  split at hk
  · cases hk
  · exact h k v hk

def KSM {α : Type} (x : M α) : Prop := ∀ m, KeysOK m → KeysOK (x m).2

theorem ksm_get : KSM M.get := fun _ h => h
theorem ksm_liftE {α : Type} (x : Except Err α) : KSM (liftE x) := by
  intro m h; cases x <;> exact h

theorem ksm_modify (f : Mgr → Mgr) (hf : ∀ m, KeysOK m → KeysOK (f m)) : KSM (M.modify f) :=
  fun m h => hf m h

theorem KSM.seqClosed : SeqClosed @KSM where
  pure := fun _ _ h => h
  throw := fun _ _ _ _ h => h
  get := fun hf _ m h => hf m m h
  bind := by
    intro α β x f hx hf m h
    have h1 := hx m h
    rw [M.bind_eq]
    generalize x m = out at h1
    obtain ⟨r, m1⟩ := out
    cases r with
    | ok a => exact hf a m1 h1
    | error e => exact h1

theorem ksm_incref (u : Int) : KSM (incref u) := by
  intro m h; unfold incref; split
  · exact h
  · exact h.congr rfl

theorem ksm_decref (u : Int) : KSM (decref u) := by
  intro m h; unfold decref; split
  · exact h
  · split
    · exact h
    · exact h.congr rfl

theorem ksm_refOf (u : Int) : KSM (refOf u) := by
  intro m h; unfold refOf; split <;> exact h

theorem ksm_refOfExact (w : Int) : KSM (refOfExact w) := by
  intro m h; unfold refOfExact; split
  · exact h
  · split <;> exact h

theorem ksm_requestReordering : KSM requestReordering := by
  intro m h; unfold requestReordering
  split
  · exact h
  · split
    · split
      · exact h.congr rfl
      · exact h.congr rfl
    · split <;> exact h

theorem ksm_findOrAddCore (i : Nat) (v w : Int) : KSM (findOrAddCore i v w) := by
  intro m h
  rcases findOrAddCore_state i v w m with hm | ⟨n, r, -, -, -, -, hm⟩
  · rw [hm]; exact h
  · rw [hm]; exact h.insert n m.minFree rfl

theorem ksm_findOrAdd (i : Int) (v w : Int) : KSM (findOrAdd i v w) := by
  intro m h
  unfold findOrAdd
  have h1 : KeysOK (if m.ctx = true then requestReordering m else (Except.ok (), m)).2 := by
    split
    · exact ksm_requestReordering m h
    · exact h
  generalize (if m.ctx = true then requestReordering m else (Except.ok (), m)) = res at h1
  obtain ⟨r, m1⟩ := res
  cases r with
  | error e => exact h1
  | ok a =>
    dsimp only
    split
    · exact h1
    · exact ksm_findOrAddCore _ _ _ m1 h1

theorem ksm_takeSwapOrders (x y : Nat) : KSM (takeSwapOrders x y) := by
  intro m h
  obtain ⟨s, -, e⟩ := takeSwapOrders_cases x y m
  rw [e]
  exact h.congr rfl

theorem ksm_setNode (u : Nat) (n : Nd) : KSM (setNode u n) := by
  intro m h
  unfold setNode
  simp only [bind, M.bind', M.get, M.assert]
  by_cases hb : (!m.pred.contains n.key) = true
  · simp only [hb, if_true, pure, M.pure', M.set]
    exact h.insert n u rfl
  · simp only [hb, if_false, M.throw]
    exact h

theorem KSM.swapPrims : SwapPrims @KSM where
  incref := ksm_incref
  decref := ksm_decref
  refOf := ksm_refOf
  refOfExact := ksm_refOfExact
  findOrAdd := ksm_findOrAdd
  setNode := ksm_setNode
  dropSucc := fun _ => ksm_modify _ fun _ h => h.congr rfl
  dropPred := fun _ => ksm_modify _ fun _ h => h.erase _ rfl
  dropRef := fun _ => ksm_modify _ fun _ h => h.congr rfl
  dropCache := ksm_modify _ fun _ h => h.congr rfl
  setVar := fun _ _ => ksm_modify _ fun _ h => h.congr rfl
  setVars := fun _ _ _ _ => ksm_modify _ fun _ h => h.congr rfl

theorem ksm_collectGarbage (roots : Option (List Int)) : KSM (collectGarbage roots) :=
  collectGarbage_seq KSM.seqClosed KSM.swapPrims roots

theorem ksm_swapBody (x y : Nat) : KSM (swapBody x y) :=
  swapBody_seq KSM.seqClosed KSM.swapPrims ksm_takeSwapOrders x y

theorem ksm_swap (xa ya : VarOrLevel) (given : Bool) : KSM (swap xa ya given) :=
  swap_seq KSM.seqClosed KSM.swapPrims ksm_takeSwapOrders xa ya given

theorem ksm_takeSiftOrder : KSM takeSiftOrder := by
  intro m h
  obtain ⟨s, -, e⟩ := takeSiftOrder_cases m
  rw [e]
  exact h.congr rfl

theorem KSM.reorderPrims : ReorderPrims @KSM where
  swap := fun a b => ksm_swap a b true
  gc := ksm_collectGarbage none
  names := ksm_takeSiftOrder

theorem ksm_sortToOrder (order : List (String × Int)) : KSM (sortToOrder order) :=
  sortToOrder_seq KSM.seqClosed KSM.reorderPrims.swap order

theorem ksm_applySifting : KSM applySifting := applySifting_seq KSM.seqClosed KSM.reorderPrims

theorem ksm_reorder (order : Option (List (String × Int))) : KSM (reorder order) :=
  reorder_seq KSM.seqClosed KSM.reorderPrims order

theorem keeps_predNodes {α : Type} {x : M α} (hx : KSM x) (m : Mgr) (hp : PredNodes m)
    (hI : Inv (x m).2) : PredNodes (x m).2 :=
  (hx m hp.keysOK).predNodes hI

/-- `swap(x, y)`: whenever the resulting state satisfies the manager invariant (in particular
after every successful call, `C07_swap`), its unique table has no stray entries -/
theorem swap_predNodes (xa ya : VarOrLevel) (given : Bool) (m : Mgr) (hp : PredNodes m)
    (hI : Inv (swap xa ya given m).2) : PredNodes (swap xa ya given m).2 :=
  keeps_predNodes (ksm_swap xa ya given) m hp hI

theorem sortToOrder_predNodes (order : List (String × Int)) (m : Mgr) (hp : PredNodes m)
    (hI : Inv (sortToOrder order m).2) : PredNodes (sortToOrder order m).2 :=
  keeps_predNodes (ksm_sortToOrder order) m hp hI

theorem reorder_predNodes (order : Option (List (String × Int))) (m : Mgr) (hp : PredNodes m)
    (hI : Inv (reorder order m).2) : PredNodes (reorder order m).2 :=
  keeps_predNodes (ksm_reorder order) m hp hI

theorem collectGarbage_predNodes (roots : Option (List Int)) (m : Mgr) (hp : PredNodes m)
    (hI : Inv (collectGarbage roots m).2) : PredNodes (collectGarbage roots m).2 :=
  keeps_predNodes (ksm_collectGarbage roots) m hp hI

theorem applySifting_predNodes (m : Mgr) (hp : PredNodes m)
    (hI : Inv (applySifting m).2) : PredNodes (applySifting m).2 :=
  keeps_predNodes ksm_applySifting m hp hI


end DD
