/-
  DDProofs.PredNodesReach — the unique table has no stray key in ANY reachable state.

  `PredNodes m` ("every entry of `_pred` is the triple of the node it names") is a hypothesis of
  `C12_json_load` (it is what `assert_consistent` compares) and, as `PredShape`, of
  `C12_manager_roundtrip`.  `Inv` does not say it: `Inv.pred` constrains only the keys that ARE
  triples.  Every operation of the model inserts into `_pred` only the key of the node it
  stores (`find_or_add`, the swaps) and deletes whole entries: `KSM x` for every user operation
  `x` (the Gc/Order operations in DDProofs.PredNodesOrder; the decorator and the rest here), hence `KeysOK` — and
  with `Inv`, `PredNodes` — in every state reached from the empty manager.
-/
import DDProofs.Reach
import DDProofs.ManagerPickle
import DDProofs.PredNodesOrder
open Std
namespace DD

/-- the decorator on its normal form: each attempt and the sifting between them keep the keys, and
neither the flag nor `_last_len` is read by `KeysOK` -/
theorem ksm_tryToReorder {α : Type} {f : M α} (hf : KSM f) : KSM (tryToReorder f) := by
  intro m h
  rw [tryToReorder_run]
  have h1 := hf { m with ctx := true } (h.congr rfl)
  generalize f { m with ctx := true } = res1 at h1 ⊢
  obtain ⟨e | a, m1⟩ := res1
  · dsimp only
    split
    · have h3 := ksm_reorder none { m1 with ctx := m.ctx, lastLen := none } (h1.congr rfl)
      generalize reorder none { m1 with ctx := m.ctx, lastLen := none } = res3 at h3 ⊢
      obtain ⟨e3 | u, m3⟩ := res3
      · exact h3
      · dsimp only
        have h4 := hf { m3 with ctx := true } (h3.congr rfl)
        generalize f { m3 with ctx := true } = res4 at h4 ⊢
        obtain ⟨e4 | a, m4⟩ := res4 <;> exact h4.congr rfl
    · exact h1.congr rfl
  · exact h1.congr rfl

theorem KeysOK.of_eq {α : Type} {x y : Except Err α × Mgr} (h : KeysOK x.2) (e : x = y) :
    KeysOK y.2 := e ▸ h

theorem ksm_iteF (fuel : Nat) (g u v : Int) : KSM (iteF fuel g u v) :=
  iteG_findOrAdd fuel g u v ▸ iteG_seq KSM.seqClosed findOrAdd ksm_findOrAdd
    (fun _ _ _ _ _ h => KeysOK.congr h rfl) fuel g u v

theorem ksm_iteRaw (g u v : Int) : KSM (iteRaw g u v) := by
  unfold iteRaw
  exact KSM.seqClosed.bind ksm_get (fun m => ksm_iteF _ _ _ _)

theorem ksm_bddIte (g u v : Int) : KSM (ite g u v) := ksm_tryToReorder (ksm_iteRaw g u v)

theorem ksm_bddVar (name : String) : KSM (var name) :=
  ksm_tryToReorder <| KSM.seqClosed.read (fun m => by
    cases m.tbl.vars[name]? with
    | none => exact KSM.seqClosed.raise _
    | some j => exact ksm_findOrAdd _ _ _)

theorem ksm_cofactor (u : Int) (values : List (Key × Bool)) : KSM (cofactor u values) :=
  ksm_tryToReorder (cofactorBodyG_model u values ▸ cofactorBodyG_seq KSM.seqClosed findOrAdd
    ksm_findOrAdd u values)

theorem ksm_quantify (u : Int) (qvars : List Key) (fa : Bool) : KSM (quantify u qvars fa) :=
  ksm_tryToReorder (quantifyBodyG_model u qvars fa ▸ quantifyBodyG_seq KSM.seqClosed findOrAdd ite
    ksm_findOrAdd ksm_bddIte u qvars fa)

theorem ksm_compose (f : Int) (varSub : List (String × Int)) : KSM (compose f varSub) :=
  ksm_tryToReorder (composeBodyG_model f varSub ▸ composeBodyG_seq KSM.seqClosed findOrAdd ite
    ksm_findOrAdd ksm_bddIte f varSub)

theorem ksm_rename (u : Int) (dvars : List (String × String)) : KSM (rename u dvars) :=
  ksm_tryToReorder (renameBodyG_model u dvars ▸ renameBodyG_seq KSM.seqClosed findOrAdd ite
    (fun _ => ksm_findOrAdd _ _ _) ksm_bddIte u dvars)

theorem ksm_letOp (d : LetArg) (u : Int) : KSM (letOp d u) := by
  unfold letOp
  split
  · exact KSM.seqClosed.pure _
  · exact KSM.seqClosed.pure _
  · exact KSM.seqClosed.pure _
  · exact ksm_cofactor _ _
  · exact ksm_compose _ _
  · exact ksm_rename _ _

theorem ksm_apply (op : String) (u : Int) (v w : Option Int) : KSM (apply op u v w) := fun m h =>
  applyG_rel_quant ite ite quantify quantify op u v w m (fun x _ => KeysOK x.2) (fun _ _ => h)
    (fun a b c => ksm_bddIte a b c m h) (fun _ _ _ _ _ _ x q => ksm_quantify x q _ m h)

theorem ksm_addVar (name : String) (level : Option Int) : KSM (addVar name level) := by
  intro m h
  cases hr : addVar name level m with
  | mk r m' =>
    cases r with
    | error e => rw [addVar_err_same m m' name level e hr]; exact h
    | ok j =>
      rcases addVar_ok_cases hr with ⟨_, h2, _⟩ | ⟨_, _, _, h4⟩
      · subst h2; exact h
      · subst h4; exact h.congr rfl

theorem ksm_mapRes {α : Type} (f : α → Res) {x : M α} (hx : KSM x) (m : Mgr) (h : KeysOK m) :
    KeysOK (mapRes f (x m)).2 := hx m h

theorem runOp_keysOK (op : UOp) (m : Mgr) (h : KeysOK m) : KeysOK (runOp op m).2 := by
  cases op with
  | declare name level => exact ksm_mapRes _ (ksm_addVar name level) m h
  | var name => exact ksm_mapRes _ (ksm_bddVar name) m h
  | findOrAdd i v w => exact ksm_mapRes _ (ksm_findOrAdd i v w) m h
  | ite g u v => exact ksm_mapRes _ (ksm_bddIte g u v) m h
  | apply op u v w => exact ksm_mapRes _ (ksm_apply op u v w) m h
  | neg u => exact ksm_mapRes _ (ksm_apply "not" u none none) m h
  | cofactor u values => exact ksm_mapRes _ (ksm_cofactor u values) m h
  | quantify u qvars fa => exact ksm_mapRes _ (ksm_quantify u qvars fa) m h
  | compose f varSub => exact ksm_mapRes _ (ksm_compose f varSub) m h
  | rename u dvars => exact ksm_mapRes _ (ksm_rename u dvars) m h
  | let_ d u => exact ksm_mapRes _ (ksm_letOp d u) m h
  | incref u => exact ksm_mapRes _ (ksm_incref u) m h
  | decref u => exact ksm_mapRes _ (ksm_decref u) m h
  | collectGarbage => exact ksm_mapRes _ (ksm_collectGarbage none) m h

theorem keysOK_init : KeysOK St.init.m := fun k u hk => by
  rw [show St.init.m.pred[k]? = none from TreeMap.getElem?_emptyc] at hk
  cases hk

theorem run_keysOK (ops : List UOp) (s : St) (h : KeysOK s.m) : KeysOK (run ops s).m :=
  hist.run_all (Good := fun s => KeysOK s.m) (fun s o h => runOp_keysOK o s.m h) ops s h

/-- **`reachable_predNodes`**: in every state reached from the empty manager by a guarded history
of user operations the unique table has exactly the entries of the nodes — the hypothesis
`PredNodes` of `C12_json_load` / `C12_json_roundtrip` holds in every reachable state -/
theorem reachable_predNodes (ops : List UOp) (hg : OpsGuarded ops St.init) :
    PredNodes (run ops St.init).m :=
  (run_keysOK ops St.init keysOK_init).predNodes (reachable_inv ops hg).inv

/-- the same fact under the name used by `C12_manager_roundtrip` -/
theorem reachable_predShape (ops : List UOp) : PredShape (run ops St.init).m :=
  run_keysOK ops St.init keysOK_init

end DD
