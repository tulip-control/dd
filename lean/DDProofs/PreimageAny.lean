/-
  DDProofs.PreimageAny — `preimage`, reordering not enabled: the FULL documented statement.
  Under the literal preconditions alone (pairs of declared levels, no key is a value, no
  undeclared name as a value) — any variable order, any renaming, any target — the result is
  `Q qvars. trans ∧ rename(target)`: the abort-aware statement about the body `_preimage_of`
  (`preimageBody_out_levels`) where no request can fire.  The statements with further hypotheses
  (`preimage_spec_partial`, `preimage_spec_any_order`, `preimage_spec_fallback`) are instances.
-/
import DDProofs.DynPreimage
open Std

namespace DD

/-- `preimage(trans, target, rename, qvars, bdd, forall)`, reordering not enabled, the FULL
statement: literal preconditions only -/
theorem preimage_spec_full (m : Mgr) (hI : Inv m) (hoff : m.lastLen = none)
    (hV : VarsBij m.tbl) (trans target : Int) (hu : m.tbl.Mem trans) (hv : m.tbl.Mem target)
    (rn : List (Key × Key)) (qvars : List Key) (fa : Bool) (q : List Nat)
    (hq : mapToLevelE m.tbl qvars = .ok q)
    (hne : resolveRename m.tbl rn ≠ [] → 0 < m.nvars)
    (hov : renameOverlap (resolveRename m.tbl rn) = false)
    (hnb : badKeys (resolveRename m.tbl rn) = [])
    (hlv : ∀ p, p ∈ intPairs (resolveRename m.tbl rn) →
      0 ≤ p.1 ∧ p.1 < (m.nvars : Int) ∧ 0 ≤ p.2 ∧ p.2 < (m.nvars : Int)) :
    ∃ r m', preimage trans target rn qvars fa m = (.ok r, m') ∧ Inv m' ∧ Ext m.tbl m'.tbl ∧
      m'.tbl.Mem r ∧ Frame m m' ∧
      ∀ a, den m'.tbl r a = true ↔
        qsem fa q (fun b => den m.tbl trans b && den m.tbl target
          (fun j => b (renOf (intPairs (resolveRename m.tbl rn)) j))) a := by
  obtain ⟨r, m1, he, hs, hm, hd⟩ := (preimageBody_out_levels { m with ctx := true }
    (hI.setCtx true) (Or.inl rfl) hV trans target hu hv rn qvars fa q hq hne hov hnb hlv).off hoff
  have hs' := hs.ofCtx true
  exact ⟨r, { m1 with ctx := m.ctx },
    preimage_of_body m hV trans target rn qvars fa q hq _ m1 nofun he,
    hs'.inv, hs'.ext, hm, hs'.frame, hd⟩

/-- `preimage`, some partners NOT neighbours (instance of `preimage_spec_full`) -/
theorem preimage_spec_fallback (m : Mgr) (hI : Inv m) (hoff : m.lastLen = none)
    (hV : VarsBij m.tbl) (trans target : Int) (hu : m.tbl.Mem trans) (hv : m.tbl.Mem target)
    (rn : List (Key × Key)) (qvars : List Key) (fa : Bool) (q : List Nat)
    (hq : mapToLevelE m.tbl qvars = .ok q)
    (hne : resolveRename m.tbl rn ≠ [] → 0 < m.nvars)
    (hov : renameOverlap (resolveRename m.tbl rn) = false)
    (hnb : badKeys (resolveRename m.tbl rn) = [])
    (hlv : ∀ p, p ∈ intPairs (resolveRename m.tbl rn) →
      0 ≤ p.1 ∧ p.1 < (m.nvars : Int) ∧ 0 ≤ p.2 ∧ p.2 < (m.nvars : Int))
    (_hnadj : ¬ ∀ p, p ∈ intPairs (resolveRename m.tbl rn) → (p.1 - p.2).natAbs = 1) :
    ∃ r m', preimage trans target rn qvars fa m = (.ok r, m') ∧ Inv m' ∧ Ext m.tbl m'.tbl ∧
      m'.tbl.Mem r ∧ Frame m m' ∧
      ∀ a, den m'.tbl r a = true ↔
        qsem fa q (fun b => den m.tbl trans b && den m.tbl target
          (fun j => b (renOf (intPairs (resolveRename m.tbl rn)) j))) a :=
  preimage_spec_full m hI hoff hV trans target hu hv rn qvars fa q hq hne hov hnb hlv

/-- `preimage` for ANY variable order under the hypotheses of `preimage_spec_partial` other than
adjacency (instance of `preimage_spec_full`) -/
theorem preimage_spec_any_order (m : Mgr) (hI : Inv m) (hoff : m.lastLen = none)
    (hV : VarsBij m.tbl) (trans target : Int) (hu : m.tbl.Mem trans) (hv : m.tbl.Mem target)
    (rn : List (Key × Key)) (qvars : List Key) (fa : Bool) (q : List Nat)
    (hq : mapToLevelE m.tbl qvars = .ok q)
    (hne : resolveRename m.tbl rn ≠ [] → 0 < m.nvars)
    (hov : renameOverlap (resolveRename m.tbl rn) = false)
    (hnb : badKeys (resolveRename m.tbl rn) = [])
    (hlv : ∀ p, p ∈ intPairs (resolveRename m.tbl rn) →
      0 ≤ p.1 ∧ p.1 < (m.nvars : Int) ∧ 0 ≤ p.2 ∧ p.2 < (m.nvars : Int))
    (_hinj : ∀ p p', p ∈ intPairs (resolveRename m.tbl rn) →
      p' ∈ intPairs (resolveRename m.tbl rn) → p.2 = p'.2 → p.1 = p'.1)
    (_hind : ∀ p, p ∈ intPairs (resolveRename m.tbl rn) → ∀ l : Nat, p.2 = (l : Int) →
      ¬ dependsOn m.tbl target l) :
    ∃ r m', preimage trans target rn qvars fa m = (.ok r, m') ∧ Inv m' ∧ Ext m.tbl m'.tbl ∧
      m'.tbl.Mem r ∧ Frame m m' ∧
      ∀ a, den m'.tbl r a = true ↔
        qsem fa q (fun b => den m.tbl trans b && den m.tbl target
          (fun j => b (renOf (intPairs (resolveRename m.tbl rn)) j))) a :=
  preimage_spec_full m hI hoff hV trans target hu hv rn qvars fa q hq hne hov hnb hlv

/-- module-level `preimage(trans, target, rename, qvars, bdd, forall)`, reordering not enabled:
when the pairs of the renaming are declared levels, adjacent (`|k - rename k| = 1`), no two keys
share a target, and THE TARGET IS INDEPENDENT OF EVERY VALUE OF THE RENAMING, the result is
`Q qvars. trans ∧ rename(target)`. -/
theorem preimage_spec_partial (m : Mgr) (hI : Inv m) (hoff : m.lastLen = none)
    (hV : VarsBij m.tbl) (trans target : Int) (hu : m.tbl.Mem trans) (hv : m.tbl.Mem target)
    (rn : List (Key × Key)) (qvars : List Key) (fa : Bool) (q : List Nat)
    (hq : mapToLevelE m.tbl qvars = .ok q)
    (hne : resolveRename m.tbl rn ≠ [] → 0 < m.nvars)
    (hov : renameOverlap (resolveRename m.tbl rn) = false)
    (hnb : badKeys (resolveRename m.tbl rn) = [])
    (hlv : ∀ p, p ∈ intPairs (resolveRename m.tbl rn) →
      0 ≤ p.1 ∧ p.1 < (m.nvars : Int) ∧ 0 ≤ p.2 ∧ p.2 < (m.nvars : Int))
    (hadj : ∀ p, p ∈ intPairs (resolveRename m.tbl rn) → (p.1 - p.2).natAbs = 1)
    (hinj : ∀ p p', p ∈ intPairs (resolveRename m.tbl rn) →
      p' ∈ intPairs (resolveRename m.tbl rn) → p.2 = p'.2 → p.1 = p'.1)
    (hind : ∀ p, p ∈ intPairs (resolveRename m.tbl rn) → ∀ l : Nat, p.2 = (l : Int) →
      ¬ dependsOn m.tbl target l) :
    ∃ r m', preimage trans target rn qvars fa m = (.ok r, m') ∧ Inv m' ∧ Ext m.tbl m'.tbl ∧
      m'.tbl.Mem r ∧ Frame m m' ∧
      ∀ a, den m'.tbl r a = true ↔
        qsem fa q (fun b => den m.tbl trans b && den m.tbl target
          (fun j => b (renOf (intPairs (resolveRename m.tbl rn)) j))) a :=
  preimage_spec_full m hI hoff hV trans target hu hv rn qvars fa q hq hne hov hnb hlv

/-- `preimage` with the renaming and the quantified variables given BY NAME (declared names,
pairwise distinct keys, no key is a value, partners adjacent, no two keys with the same value),
the target independent of every value of the renaming (instance of `preimage_spec_full`, which
needs none of the last three) -/
theorem preimage_spec_partial_names (m : Mgr) (hI : Inv m) (hoff : m.lastLen = none)
    (hV : VarsBij m.tbl) (trans target : Int) (hu : m.tbl.Mem trans) (hv : m.tbl.Mem target)
    (l : List (String × String)) (qs : List String) (fa : Bool)
    (hkeys : (l.map (·.1)).Nodup)
    (hd : ∀ p, p ∈ l → m.tbl.vars.contains p.1 = true ∧ m.tbl.vars.contains p.2 = true)
    (hqd : ∀ s, s ∈ qs → m.tbl.vars.contains s = true)
    (hov : ∀ p p', p ∈ l → p' ∈ l → p.2 ≠ p'.1)
    (_hadj : ∀ p, p ∈ l → ((lvlOf m.tbl p.1 : Int) - (lvlOf m.tbl p.2 : Int)).natAbs = 1)
    (_hinj : ∀ p p', p ∈ l → p' ∈ l → p.2 = p'.2 → p.1 = p'.1)
    (_hind : ∀ p, p ∈ l → ¬ dependsOn m.tbl target (lvlOf m.tbl p.2)) :
    ∃ r m', preimage trans target (l.map fun p => (Key.name p.1, Key.name p.2))
        (qs.map Key.name) fa m = (.ok r, m') ∧ Inv m' ∧ Ext m.tbl m'.tbl ∧
      m'.tbl.Mem r ∧ Frame m m' ∧
      ∀ a, den m'.tbl r a = true ↔
        qsem fa (qs.map (lvlOf m.tbl)) (fun b => den m.tbl trans b && den m.tbl target
          (fun j => b (renOf
            (l.map fun p => ((lvlOf m.tbl p.1 : Int), (lvlOf m.tbl p.2 : Int))) j))) a := by
  obtain ⟨hip, hov', _, hnb, hne, hlv⟩ := lvlPairs_facts hV l hkeys hd hov _ rfl _ rfl
  have := preimage_spec_full m hI hoff hV trans target hu hv _ _ fa _
    (mapToLevelE_names m.tbl qs hqd) hne hov' hnb hlv
  rwa [hip] at this

end DD
