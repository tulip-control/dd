/-
  DDProofs.QuantCor — corollaries of the specification of `quantify`: independence from the
  quantified levels, the no-op cases (via canonicity), and the quantifier rows of `apply`
  (read from the regenerated table).
-/
import DDProofs.ApplyProofs
import DDProofs.SubstWrappers
open Std

namespace DD

theorem quantify_indep (fa : Bool) (Q : List Nat) (f : Asg → Bool) (t : Tbl) (r : Int)
    (hr : ∀ a, den t r a = true ↔ qsem fa Q f a) (j : Nat) (hj : j ∈ Q) (a : Asg) (x : Bool) :
    den t r (upd a j x) = den t r a :=
  Bool.eq_iff_iff.mpr (by rw [hr, hr]; exact qsem_indep fa Q f a j hj x)

/-- quantifying over levels outside the support (in particular over no level) returns the
operand itself -/
theorem quantify_noop (fa : Bool) (Q : List Nat) (m t : Tbl) (hwm : WF m) (hwt : WFU t)
    (he : Ext m t) (u r : Int) (hu : m.Mem u) (hrm : t.Mem r)
    (hr : ∀ a, den t r a = true ↔ qsem fa Q (den m u) a)
    (hdisj : ∀ j, j ∈ Q → ¬ InSupp m u j) : r = u := by
  apply (canonical t hwt r u hrm (he.mem hu)).mp
  intro a
  apply Bool.eq_iff_iff.mpr
  rw [hr a, den_ext he hwm u a hu]
  apply qsem_noop
  intro b hb
  apply den_agree_supp m hwm u hu
  intro i hi
  exact hb i (fun hq => hdisj i hq hi)

/-- what the regenerated table says about a quantifier alias: `\A` / `\E` take the variables
from the support of the FIRST operand and quantify the SECOND -/
theorem table_quant (op : String) (c : Conn) (hc : docConn op = some c)
    (hq : c = .forall_ ∨ c = .exists_) (hall : Gen.allOps.contains op = true) :
    ∃ row, findRow op Gen.applyTable = some row ∧
      row.templ = .quant (decide (c = .forall_)) .u .v := by
  obtain ⟨row, hrow, hs⟩ := row_of_op vocab_complete applyTable_sound hall
  refine ⟨row, hrow, ?_⟩
  rcases rowSound_cases hc hs with ⟨h, -⟩ | ⟨h, ht⟩ | ⟨h, ht⟩ | ⟨a, b, d, -, n1, n2, -⟩
  · subst h; rcases hq with h | h <;> cases h
  · subst h; exact ht
  · subst h; exact ht
  · rcases hq with h | h
    · exact absurd h n1
    · exact absurd h n2

/-- `apply('\A' | '\E' | 'forall' | 'exists', u, v)`: with `names` the answer of `support(u)`,
the call is `quantify(v, names, …)` -/
theorem apply_quant_eq_quantify (m : Mgr) (op : String) (c : Conn) (hc : docConn op = some c)
    (hq : c = .forall_ ∨ c = .exists_) (hall : Gen.allOps.contains op = true)
    (u v : Int) (hu : m.tbl.Mem u) (hv : m.tbl.Mem v)
    (names : List String) (hsupp : support m.tbl u = .ok names) :
    apply op u (some v) none m = quantify v (names.map Key.name) (decide (c = .forall_)) m := by
  obtain ⟨row, hrow, ht⟩ := table_quant op c hc hq hall
  have h2 : c.arity = 2 := by rcases hq with h | h <;> subst h <;> rfl
  exact applyG_quant ite quantify (assertOperatorArity_ok hc (by simp [h2]) (by simp [h2]))
    hu hv nofun hrow ht rfl rfl hsupp

/-- `apply('\A' | '\E' | 'forall' | 'exists', u, v)`, reordering not enabled: with `names` the
answer of `support(u)` (every name declared), the result is `v` quantified over the levels of
these names. -/
theorem apply_quant_spec (m : Mgr) (hI : Inv m) (hoff : m.lastLen = none)
    (op : String) (c : Conn) (hc : docConn op = some c) (hq : c = .forall_ ∨ c = .exists_)
    (hall : Gen.allOps.contains op = true)
    (u v : Int) (hu : m.tbl.Mem u) (hv : m.tbl.Mem v)
    (names : List String) (hsupp : support m.tbl u = .ok names)
    (hdecl : ∀ s, s ∈ names → m.tbl.vars.contains s = true) :
    ∃ r m', apply op u (some v) none m = (.ok r, m') ∧ Inv m' ∧ Ext m.tbl m'.tbl ∧
      m'.tbl.Mem r ∧ Frame m m' ∧
      ∀ a, den m'.tbl r a = true ↔
        qsem (decide (c = .forall_)) (names.map (lvlOf m.tbl)) (den m.tbl v) a := by
  obtain ⟨r, m', hres, h1, h2, h3, h4, _, h6⟩ := quantify_spec m hI hoff v hv
    (names.map Key.name) (decide (c = .forall_)) (names.map (lvlOf m.tbl))
    (mapToLevelE_names m.tbl names hdecl)
  exact ⟨r, m', (apply_quant_eq_quantify m op c hc hq hall u v hu hv names hsupp).trans hres,
    h1, h2, h3, h4, h6⟩

end DD
