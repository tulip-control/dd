/-
  DDProofs.QuantSem — quantification of a Boolean function over a list of levels (`qsem`), with no
  diagram in sight: the value of the assignment at a quantified level does not matter
  (`qsem_indep`), only the set of the levels counts (`qsem_congr`), one level is peeled off by
  trying both values (`qsem_cons`), and a Shannon expansion commutes with it, at a quantified
  level (`qsem_split_in`) and at any other (`qsem_split_out`).
-/
import DDProofs.Canon

namespace DD

def AgreeOff (Q : List Nat) (b a : Asg) : Prop := ∀ j, j ∉ Q → b j = a j

theorem AgreeOff.refl (Q : List Nat) (a : Asg) : AgreeOff Q a a := fun _ _ => rfl

/-- semantic quantification of a function over the levels of `Q` -/
def qsem (fa : Bool) (Q : List Nat) (f : Asg → Bool) (a : Asg) : Prop :=
  match fa with
  | true => ∀ b, AgreeOff Q b a → f b = true
  | false => ∃ b, AgreeOff Q b a ∧ f b = true

theorem qsem_noop (fa : Bool) (Q : List Nat) (f : Asg → Bool) (a : Asg)
    (h : ∀ b, AgreeOff Q b a → f b = f a) : qsem fa Q f a ↔ f a = true := by
  cases fa with
  | true =>
    exact ⟨fun hq => hq a (AgreeOff.refl Q a), fun ha b hb => (h b hb).trans ha⟩
  | false =>
    exact ⟨fun ⟨b, hb, hfb⟩ => (h b hb).symm.trans hfb, fun ha => ⟨a, AgreeOff.refl Q a, ha⟩⟩

theorem agreeOff_upd {Q : List Nat} {b a : Asg} {i : Nat} (hi : i ∈ Q) (x : Bool)
    (h : AgreeOff Q b a) : AgreeOff Q (upd b i x) a := by
  intro j hj
  have : j ≠ i := by intro he; subst he; exact hj hi
  rw [upd_other _ _ _ _ this]
  exact h j hj

theorem quant_iff {R R' : Asg → Prop} (h : ∀ b, R b ↔ R' b) (fa : Bool) (f : Asg → Bool) :
    (match fa with
     | true => ∀ b, R b → f b = true
     | false => ∃ b, R b ∧ f b = true) ↔
    (match fa with
     | true => ∀ b, R' b → f b = true
     | false => ∃ b, R' b ∧ f b = true) := by
  cases fa
  · exact exists_congr fun b => and_congr (h b) Iff.rfl
  · exact forall_congr' fun b => imp_congr (h b) Iff.rfl

theorem agreeOff_upd_right {Q : List Nat} {b a : Asg} {j : Nat} (hj : j ∈ Q) (x : Bool) :
    AgreeOff Q b (upd a j x) ↔ AgreeOff Q b a :=
  forall_congr' fun i => forall_congr' fun hi => by
    rw [upd_other _ _ _ _ fun he : i = j => hi (he ▸ hj)]

theorem qsem_indep (fa : Bool) (Q : List Nat) (f : Asg → Bool) (a : Asg) (j : Nat) (hj : j ∈ Q)
    (x : Bool) : qsem fa Q f (upd a j x) ↔ qsem fa Q f a :=
  quant_iff (fun _ => agreeOff_upd_right hj x) fa f

theorem qsem_congr (fa : Bool) (Q Q' : List Nat) (h : ∀ j, j ∈ Q ↔ j ∈ Q') (f : Asg → Bool)
    (a : Asg) : qsem fa Q f a ↔ qsem fa Q' f a :=
  quant_iff (fun _ => forall_congr' fun j => imp_congr (not_congr (h j)) Iff.rfl) fa f

theorem agreeOff_cons_iff (l : Nat) (Q : List Nat) (b a : Asg) :
    AgreeOff (l :: Q) b a ↔ AgreeOff Q b (upd a l (b l)) := by
  constructor
  · intro h j hj
    by_cases hjl : j = l
    · subst hjl; simp
    · rw [upd_other _ _ _ _ hjl]
      exact h j (by simp [hjl, hj])
  · intro h j hj
    have hjl : j ≠ l := fun he => hj (by simp [he])
    have hjQ : j ∉ Q := fun he => hj (by simp [he])
    have := h j hjQ
    rwa [upd_other _ _ _ _ hjl] at this

theorem qsem_cons (fa : Bool) (l : Nat) (Q : List Nat) (F : Asg → Bool) (a : Asg) :
    qsem fa (l :: Q) F a ↔
      (match fa with
       | true => qsem true Q F (upd a l false) ∧ qsem true Q F (upd a l true)
       | false => qsem false Q F (upd a l false) ∨ qsem false Q F (upd a l true)) := by
  -- `b` agrees with `a` off `l :: Q` exactly when it agrees off `Q` with `a` updated at `l` by
  -- one of the two values (by `b l`, for one)
  have join : ∀ b v, AgreeOff Q b (upd a l v) → AgreeOff (l :: Q) b a := by
    intro b v h
    refine (agreeOff_cons_iff l Q b a).mpr fun j hj => ?_
    by_cases hjl : j = l
    · subst hjl; simp
    · have := h j hj
      rwa [upd_other _ _ _ _ hjl] at this ⊢
  have split : ∀ b, AgreeOff (l :: Q) b a →
      AgreeOff Q b (upd a l false) ∨ AgreeOff Q b (upd a l true) := by
    intro b h
    have := (agreeOff_cons_iff l Q b a).mp h
    cases hbl : b l <;> rw [hbl] at this
    · exact .inl this
    · exact .inr this
  cases fa with
  | true =>
    exact ⟨fun h => ⟨fun b hb => h b (join b _ hb), fun b hb => h b (join b _ hb)⟩,
      fun ⟨h0, h1⟩ b hb => (split b hb).elim (h0 b) (h1 b)⟩
  | false =>
    constructor
    · rintro ⟨b, hb, hF⟩
      exact (split b hb).imp (fun h => ⟨b, h, hF⟩) (fun h => ⟨b, h, hF⟩)
    · rintro (⟨b, hb, hF⟩ | ⟨b, hb, hF⟩) <;> exact ⟨b, join b _ hb, hF⟩

theorem qsem_nil (fa : Bool) (F : Asg → Bool) (a : Asg) : qsem fa [] F a ↔ F a = true := by
  apply qsem_noop
  intro b hb
  have : b = a := funext fun j => hb j (by simp)
  rw [this]

/-- Shannon expansion at a quantified level -/
theorem qsem_split_in (fa : Bool) (Q : List Nat) (f f0 f1 : Asg → Bool) (i : Nat) (hi : i ∈ Q)
    (hf : ∀ a, f a = if a i then f1 a else f0 a)
    (h0 : ∀ a x, f0 (upd a i x) = f0 a) (h1 : ∀ a x, f1 (upd a i x) = f1 a) (a : Asg) :
    qsem fa Q f a ↔
      (match fa with
       | true => qsem true Q f0 a ∧ qsem true Q f1 a
       | false => qsem false Q f0 a ∨ qsem false Q f1 a) := by
  cases fa with
  | true =>
    simp only [qsem]
    constructor
    · intro h
      constructor
      · intro b hb
        have := h (upd b i false) (agreeOff_upd hi false hb)
        rw [hf] at this
        simpa [h0] using this
      · intro b hb
        have := h (upd b i true) (agreeOff_upd hi true hb)
        rw [hf] at this
        simpa [h1] using this
    · intro ⟨ha, hb⟩ b hab
      rw [hf]
      split
      · exact hb b hab
      · exact ha b hab
  | false =>
    simp only [qsem]
    constructor
    · intro ⟨b, hb, hfb⟩
      rw [hf] at hfb
      split at hfb
      · exact Or.inr ⟨b, hb, hfb⟩
      · exact Or.inl ⟨b, hb, hfb⟩
    · intro h
      rcases h with ⟨b, hb, hfb⟩ | ⟨b, hb, hfb⟩
      · refine ⟨upd b i false, agreeOff_upd hi false hb, ?_⟩
        rw [hf]; simpa [h0] using hfb
      · refine ⟨upd b i true, agreeOff_upd hi true hb, ?_⟩
        rw [hf]; simpa [h1] using hfb

theorem qsem_congr_agree (fa : Bool) (Q : List Nat) (f g : Asg → Bool) (a : Asg)
    (h : ∀ b, AgreeOff Q b a → f b = g b) : qsem fa Q f a ↔ qsem fa Q g a := by
  cases fa with
  | true => exact ⟨fun hq b hb => h b hb ▸ hq b hb, fun hq b hb => (h b hb).symm ▸ hq b hb⟩
  | false =>
    exact ⟨fun ⟨b, hb, hfb⟩ => ⟨b, hb, h b hb ▸ hfb⟩, fun ⟨b, hb, hgb⟩ => ⟨b, hb, (h b hb).symm ▸ hgb⟩⟩

/-- Shannon expansion at a level that is not quantified -/
theorem qsem_split_out (fa : Bool) (Q : List Nat) (f f0 f1 : Asg → Bool) (i : Nat) (hi : i ∉ Q)
    (hf : ∀ a, f a = if a i then f1 a else f0 a) (a : Asg) :
    qsem fa Q f a ↔ if a i = true then qsem fa Q f1 a else qsem fa Q f0 a := by
  -- an assignment that agrees with `a` off `Q` has the value of `a` at `i`
  by_cases hai : a i = true
  · rw [if_pos hai]
    exact qsem_congr_agree fa Q f f1 a fun b hb => by rw [hf, hb i hi, hai]; rfl
  · rw [if_neg hai]
    exact qsem_congr_agree fa Q f f0 a fun b hb => by rw [hf, hb i hi, if_neg hai]

/-- Shannon expansion at a quantified level, for a value `r` that is the conjunction (`∀`) or the
disjunction (`∃`) of values standing for the quantified cofactors -/
theorem qsem_join (fa : Bool) (Q : List Nat) (f f0 f1 : Asg → Bool) (i : Nat) (hi : i ∈ Q)
    (hf : ∀ a, f a = if a i then f1 a else f0 a)
    (h0 : ∀ a x, f0 (upd a i x) = f0 a) (h1 : ∀ a x, f1 (upd a i x) = f1 a) (a : Asg)
    {x y r : Bool} (hx : x = true ↔ qsem fa Q f0 a) (hy : y = true ↔ qsem fa Q f1 a)
    (hr : r = if fa then x && y else x || y) : r = true ↔ qsem fa Q f a := by
  rw [qsem_split_in fa Q f f0 f1 i hi hf h0 h1 a, hr]
  cases fa
  · exact Bool.or_eq_true_iff.trans (or_congr hx hy)
  · exact Bool.and_eq_true_iff.trans (and_congr hx hy)

end DD
