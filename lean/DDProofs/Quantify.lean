/-
  DDProofs.Quantify — specification of `_quantify`: the result is true under an assignment
  exactly when some / every choice of values for the quantified levels makes the operand true.
-/
import DDProofs.Cofactor
import DDProofs.QuantSem
open Std

namespace DD

/-- what `_quantify` returns for `u` (also: what its memo may contain) -/
structure QEntry (fa : Bool) (Q : List Nat) (t : Tbl) (u r : Int) : Prop where
  mu : t.Mem u
  mr : t.Mem r
  lvl : t.levelOf u ≤ t.levelOf r
  den : ∀ a, den t r a = true ↔ qsem fa Q (den t u) a

def QMemo (fa : Bool) (Q : List Nat) (t : Tbl) (c : HashMap Int Int) : Prop :=
  ∀ u r, c[u]? = some r → QEntry fa Q t u r

theorem QEntry.ext {fa : Bool} {Q : List Nat} {m t : Tbl} (hw : WF m) (he : Ext m t)
    {u r : Int} (h : QEntry fa Q m u r) : QEntry fa Q t u r := by
  refine ⟨he.mem h.mu, he.mem h.mr, ?_, ?_⟩
  · rw [he.levelOf h.mu, he.levelOf h.mr]; exact h.lvl
  · intro a
    rw [den_ext he hw r a h.mr, den_ext_fun he hw u h.mu]; exact h.den a

theorem QMemo.ext {fa : Bool} {Q : List Nat} {m t : Tbl} (hw : WF m) (he : Ext m t)
    {c : HashMap Int Int} (h : QMemo fa Q m c) : QMemo fa Q t c :=
  fun u r hc => (h u r hc).ext hw he

theorem QMemo.empty (fa : Bool) (Q : List Nat) (t : Tbl) : QMemo fa Q t {} := memo_empty

theorem QMemo.insert {fa : Bool} {Q : List Nat} {t : Tbl} {c : HashMap Int Int}
    (h : QMemo fa Q t c) {u r : Int} (he : QEntry fa Q t u r) :
    QMemo fa Q t (c.insert u r) := memo_insert h he

theorem QEntry.self (fa : Bool) (Q : List Nat) (t : Tbl) (hw : WF t) (u : Int) (hu : t.Mem u)
    (h : ∀ j, j ∈ Q → t.levelOf u ≤ j → j < t.nvars → False) : QEntry fa Q t u u := by
  refine ⟨hu, hu, Nat.le_refl _, ?_⟩
  intro a
  refine (qsem_noop fa Q (DD.den t u) a ?_).symm
  intro b hb
  apply den_agree_ge t hw u hu
  intro i hi hlt
  exact hb i (fun hq => h i hq hi hlt)

/-- the combining call of `_quantify` (and `_image`) at a quantified level: `ite(p, q, False)` for
`∀`, `ite(p, True, q)` for `∃`; the operands are read in the table the result is returned in -/
theorem IteNestedX.quantStep {E : Err → Prop} {iteX : Int → Int → Int → M Int}
    (hite : IteNestedX E iteX) (fa : Bool) (m : Mgr) (hI : Inv m) (hq : Quiet m) (p q : Int)
    (hp : m.tbl.Mem p) (hq' : m.tbl.Mem q) :
    OutcomeX E m (fun r m' => m'.tbl.Mem r ∧ Ext m.tbl m'.tbl ∧
        min (m.tbl.levelOf p) (m.tbl.levelOf q) ≤ m'.tbl.levelOf r ∧
        ∀ a, den m'.tbl r a =
          if fa then den m'.tbl p a && den m'.tbl q a else den m'.tbl p a || den m'.tbl q a)
      (if fa then iteX p q (-1) m else iteX p 1 q m) := by
  have hW := hI.wf.toWF
  have hlq := levelOf_le m.tbl hW q
  cases fa
  · refine (hite m hI hq p 1 q hp (mem_one _) hq').mono fun r m' _ h => ⟨h.mem, h.ext, ?_, fun a => ?_⟩
    · have := h.lvl
      rw [levelOf_one] at this
      omega
    · rw [h.den a, den_one, den_ext h.ext hW p a hp, den_ext h.ext hW q a hq']
      cases den m.tbl p a <;> rfl
  · refine (hite m hI hq p q (-1) hp hq' (mem_neg_one _)).mono fun r m' _ h => ⟨h.mem, h.ext, ?_, fun a => ?_⟩
    · have := h.lvl
      rw [levelOf_neg_one] at this
      omega
    · rw [h.den a, den_neg_one, den_ext h.ext hW p a hp, den_ext h.ext hW q a hq']
      cases den m.tbl p a <;> rfl

/-- `_quantify` over a `find_or_add` and a nested `ite` that have three-outcome specifications
(documented result | aborted by a request | exception of `E`, always having only added nodes)
has one: it keeps its memo (keyed by the signed reference) sound and returns the documented
quantification, or is aborted, or raises an exception of `E`. -/
theorem quantifyFG_outX (E : Err → Prop) (foa iteX : Int → Int → Int → M Int)
    (hfoa : FoaX E foa) (hite : IteNestedX E iteX) (Q : List Nat) (fa : Bool) :
    ∀ (f : Nat) (m : Mgr) (u : Int) (ordvar : List Nat) (cache : HashMap Int Int),
    Inv m → Quiet m → m.tbl.Mem u → QMemo fa Q m.tbl cache →
    (∀ j, j ∈ Q → m.tbl.levelOf u ≤ j → j ∈ ordvar) →
    m.nvars + 1 ≤ f + m.tbl.levelOf u →
    OutcomeX2 E m (fun r c m' => QMemo fa Q m'.tbl c ∧ QEntry fa Q m'.tbl u r)
      (quantifyFG foa iteX Q fa f u ordvar cache m) := by
  intro f
  induction f with
  | zero =>
    intro m u ordvar cache hI _ hu _ _ hf
    have := levelOf_le m.tbl hI.wf.toWF u
    have : m.nvars = m.tbl.nvars := rfl
    omega
  | succ f ih =>
    intro m u ordvar cache hI hq hu hmemo hord hf
    have hW := hI.wf.toWF
    unfold quantifyFG
    by_cases h1 : u.natAbs = 1
    · simp only [h1, if_true]
      refine ⟨(StepK.refl hI), hmemo, QEntry.self fa Q m.tbl hW u hu ?_⟩
      intro j _ hle hlt
      rw [levelOf_term m.tbl u h1] at hle
      omega
    · simp only [h1, if_false]
      cases hc : cache[u]? with
      | some r => exact ⟨(StepK.refl hI), hmemo, hmemo u r hc⟩
      | none =>
        simp only
        obtain ⟨n, hN⟩ := node_open hW hu h1
        rw [hN.get]
        simp only [hN.nz, if_false]
        have hlu := hN.lvl
        have hnv : m.nvars = m.tbl.nvars := rfl
        have hord' : ∀ j, j ∈ Q → n.lvl ≤ j → j ∈ ordvar.dropWhile (· < n.lvl) := by
          intro j hj hle
          exact mem_dropWhile_of_not _ j ordvar (hord j hj (by omega)) (by simpa using hle)
        generalize ordvar.dropWhile (· < n.lvl) = ov at hord' ⊢
        by_cases hemp : ov.isEmpty = true
        · simp only [hemp, if_true]
          refine ⟨(StepK.refl hI), hmemo, QEntry.self fa Q m.tbl hW u hu ?_⟩
          intro j hj hle _
          have := hord' j hj (by omega)
          rw [List.isEmpty_iff.mp hemp] at this
          cases this
        · simp only [hemp, Bool.false_eq_true, if_false]
          generalize hv : (if u < 0 then -n.lo else n.lo) = v
          generalize hw : (if u < 0 then -n.hi else n.hi) = w
          have hvm : m.tbl.Mem v := by rw [← hv]; exact mem_flip u hN.lom
          have hwm : m.tbl.Mem w := by rw [← hw]; exact mem_flip u hN.him
          have hvl : n.lvl < m.tbl.levelOf v := by rw [← hv, levelOf_flip]; exact hN.lo
          have hwl : n.lvl < m.tbl.levelOf w := by rw [← hw, levelOf_flip]; exact hN.hi
          refine (ih m v ov cache hI hq hvm hmemo (fun j hj hle => hord' j hj (by omega))
            (by omega)).elim ?_ fun _ _ => OutcomeX.fail (StepK.refl hI)
          intro p c1 m1 hs1 ⟨hm1, hp1⟩
          simp only
          refine (ih m1 w ov c1 hs1.inv (hq.step hs1) (hs1.ext.mem hwm) hm1
            (fun j hj hle => hord' j hj (by rw [hs1.ext.levelOf hwm] at hle; omega))
            (by rw [hs1.nvars, hs1.ext.levelOf hwm]; omega)).elim ?_ fun _ _ => OutcomeX.fail hs1
          intro q c2 m2 hs2 ⟨hm2, hp2⟩
          simp only
          have hW2 := hs2.inv.wf.toWF
          have hp1' := hp1.ext hs1.inv.wf.toWF hs2.ext
          have hs12 := hs1.trans hs2
          have hlp : n.lvl < m2.tbl.levelOf p := by
            have := hp1'.lvl
            rw [hs12.ext.levelOf hvm] at this
            omega
          have hlq : n.lvl < m2.tbl.levelOf q := by
            have := hp2.lvl
            rw [hs12.ext.levelOf hwm] at this
            omega
          -- Shannon expansion of `u` in a later table
          have hexp : ∀ m3, StepK m2 m3 → (∀ a, den m3.tbl u a =
                if a n.lvl then den m3.tbl w a else den m3.tbl v a) ∧
              (∀ a x, den m3.tbl v (upd a n.lvl x) = den m3.tbl v a) ∧
              (∀ a x, den m3.tbl w (upd a n.lvl x) = den m3.tbl w a) := by
            intro m3 hs3
            have hs := hs12.trans hs3
            have hW3 := hs3.inv.wf.toWF
            refine ⟨?_, ?_, ?_⟩
            · intro a
              rw [← hv, ← hw]
              exact den_flip_node m3.tbl hW3 u n a h1 (hs.ext.nodes _ _ hN.get)
            · intro a x
              exact den_indep m3.tbl hW3 v (hs.ext.mem hvm) n.lvl x a
                (by rw [hs.ext.levelOf hvm]; exact hvl)
            · intro a x
              exact den_indep m3.tbl hW3 w (hs.ext.mem hwm) n.lvl x a
                (by rw [hs.ext.levelOf hwm]; exact hwl)
          -- the combining step: `ite` at a quantified level, `find_or_add` at the others
          have hcomb : OutcomeX E m2 (fun r m3 => m3.tbl.Mem r ∧ n.lvl ≤ m3.tbl.levelOf r ∧
                ∀ a, den m3.tbl r a = true ↔ qsem fa Q (den m3.tbl u) a)
              (if Q.contains n.lvl then
                (if fa then iteX p q (-1) m2 else iteX p 1 q m2)
              else foa n.lvl p q m2) := by
            by_cases hqn : n.lvl ∈ Q
            · rw [if_pos (by simpa using hqn)]
              refine (hite.quantStep fa m2 hs2.inv (hq.step hs12) p q hp1'.mr hp2.mr).mono ?_
              intro r3 m3 hk3 ⟨hr3, he3, hl3, hd3⟩
              obtain ⟨hx, h0, h1'⟩ := hexp m3 hk3
              exact ⟨hr3, by omega, fun a => qsem_join fa Q _ _ _ n.lvl hqn hx h0 h1' a
                ((hp1'.ext hW2 he3).den a) ((hp2.ext hW2 he3).den a) (hd3 a)⟩
            · rw [if_neg (by simpa using hqn)]
              refine (hfoa m2 n.lvl p q hs2.inv (by rw [hs12.nvars]; exact hN.lt)
                hp1'.mr hp2.mr hlp hlq).mono ?_
              intro r3 m3 hk3 hp3
              obtain ⟨hx, _, _⟩ := hexp m3 hk3
              refine ⟨hp3.mem, hp3.lvl, ?_⟩
              intro a
              rw [qsem_split_out fa Q _ _ _ n.lvl hqn hx a, ← (hp1'.ext hW2 hp3.ext).den a,
                ← (hp2.ext hW2 hp3.ext).den a, hp3.den a,
                ← den_ext hp3.ext hW2 p a hp1'.mr, ← den_ext hp3.ext hW2 q a hp2.mr]
              cases a n.lvl <;> simp
          refine hcomb.elim ?_ fun _ _ => OutcomeX.fail hs12
          intro r3 m3 hk3 ⟨hr3, hl3, hd3⟩
          have hs := hs12.trans hk3
          have hent : QEntry fa Q m3.tbl u r3 :=
            ⟨hs.ext.mem hu, hr3, by rw [hs.ext.levelOf hu, hlu]; exact hl3, hd3⟩
          exact ⟨hs, (hm2.ext hW2 hk3.ext).insert hent, hent⟩

theorem quantifyF_out (Q : List Nat) (fa : Bool) :
    ∀ (f : Nat) (m : Mgr) (u : Int) (ordvar : List Nat) (cache : HashMap Int Int),
    Inv m → Quiet m → m.tbl.Mem u → QMemo fa Q m.tbl cache →
    (∀ j, j ∈ Q → m.tbl.levelOf u ≤ j → j ∈ ordvar) →
    m.nvars + 1 ≤ f + m.tbl.levelOf u →
    Outcome2 m (fun r c m' => QMemo fa Q m'.tbl c ∧ QEntry fa Q m'.tbl u r)
      (quantifyF Q fa f u ordvar cache m) := by
  intro f m u ordvar cache hI hq hu hmemo hord hf
  rw [← quantifyFG_model]
  exact (quantifyFG_outX _ _ _ findOrAdd_foaX ite_nestedX Q fa f m u ordvar cache
    hI hq hu hmemo hord hf).toOutcome

/-- `_quantify`: with reordering not enabled the recursion is total, only adds nodes, keeps its
memo (keyed by the signed reference) sound, and returns the quantification of the operand. -/
theorem quantifyF_spec (Q : List Nat) (fa : Bool) :
    ∀ (f : Nat) (m : Mgr) (u : Int) (ordvar : List Nat) (cache : HashMap Int Int),
    Inv m → m.lastLen = none → m.tbl.Mem u → QMemo fa Q m.tbl cache →
    (∀ j, j ∈ Q → m.tbl.levelOf u ≤ j → j ∈ ordvar) →
    m.nvars + 1 ≤ f + m.tbl.levelOf u →
    ∃ r c' m', quantifyF Q fa f u ordvar cache m = (.ok (r, c'), m') ∧ Step m m' ∧
      QMemo fa Q m'.tbl c' ∧ QEntry fa Q m'.tbl u r := by
  intro f m u ordvar cache hI hoff hu hmemo hord hf
  obtain ⟨r, c', m', he, hs, hm, hp⟩ :=
    (quantifyF_out Q fa f m u ordvar cache hI (Or.inr hoff) hu hmemo hord hf).off hoff
  exact ⟨r, c', m', he, hs.step, hm, hp⟩

end DD
