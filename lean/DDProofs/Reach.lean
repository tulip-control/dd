/-
  DDProofs.Reach — "for EVERY history": for the user operations `UOp` with ARBITRARY arguments, the
  interpreter `runOp` and the ghost ledger of references the user holds (DDProofs.Calls), the
  invariant `GoodState` that every guarded call — accepted or rejected — keeps (`step_inv`), so
  that it holds in every state reached from the empty manager (`reachable_inv`).

  Dynamic reordering stays disabled (`configure` is not a `UOp`): `lastLen = none` is part of
  `GoodState`.  The guard `OpGuard` excludes exactly the three documented caller obligations the
  code does not check (DESIGN §6): raw `find_or_add` at a level not above its children, `decref`
  of a reference the user does not hold, `add_var(name, level)` leaving a gap (finding F7).
-/
import DDProofs.History
import DDProofs.Calls
import DDProofs.PickleSteps
import DDProofs.DynRejectedOps
open Std

namespace DD

theorem mapRes_error {α : Type} {f : α → Res} {x : Except Err α × Mgr} {e : Err}
    (h : (mapRes f x).1 = .error e) : x.1 = .error e := by
  obtain ⟨r, m⟩ := x
  cases r with
  | ok a => cases h
  | error e' => cases h; rfl

theorem mapRes_noSignal {α : Type} (f : α → Res) (x : Except Err α × Mgr)
    (h : x.1 ≠ .error .needsReordering) : (mapRes f x).1 ≠ .error .needsReordering :=
  fun hh => h (mapRes_error hh)

theorem OpGuard.declare {m : Mgr} {ext : Nat → Nat} {name : String} {level : Option Int}
    (hg : OpGuard m ext (.declare name level)) :
    ∀ l : Int, level = some l → m.tbl.vars[name]? = none → l ≤ (m.nvars : Int) := by
  intro l hl
  subst hl
  exact hg

/-- what holds in every state reached by a guarded history -/
structure GoodState (m : Mgr) (ext : Nat → Nat) : Prop where
  inv : Inv m
  order : OrderOK m.tbl
  exact : RefExact m ext
  off : m.lastLen = none
  ctx : m.ctx = false

/-- `GoodState` with "no schedule left" and "no registered roots" as ONE flat structure (the clauses
of `Good2`, DDProofs.Reach2): what the constructor `BDD(levels)` establishes (DDProofs.Constructor) -/
structure GoodParts (m : Mgr) (ext : Nat → Nat) : Prop where
  inv : Inv m
  order : OrderOK m.tbl
  exact : RefExact m ext
  off : m.lastLen = none
  ctx : m.ctx = false
  sched : m.sched = []
  roots : m.roots = []

theorem goodState_iff (m : Mgr) (ext : Nat → Nat) :
    GoodState m ext ↔ (Inv m ∧ OrderOK m.tbl ∧ RefExact m ext ∧ m.lastLen = none ∧ m.ctx = false) :=
  ⟨fun h => ⟨h.inv, h.order, h.exact, h.off, h.ctx⟩, fun ⟨a, b, c, d, e⟩ => ⟨a, b, c, d, e⟩⟩

theorem GoodState.lite {m : Mgr} {ext : Nat → Nat} (h : GoodState m ext) : Lite ext m :=
  h.inv.lite h.exact h.off

theorem GoodState.of_kept {m m' : Mgr} {ext ext' : Nat → Nat} (h : GoodState m ext) (k : Kept m m')
    (hr : RefExact m' ext') : GoodState m' ext' :=
  ⟨k.inv, h.order.frame k.frame, hr, k.off h.off, by rw [k.frame.ctx]; exact h.ctx⟩

/-- reordering not enabled: a decorated call, whatever its arguments and its outcome, leaves the
state good for the same ledger -/
theorem Decorated.good_off {m : Mgr} {ext : Nat → Nat} {x : Except Err Int × Mgr} (hd : Decorated m x)
    (hG : GoodState m ext) : x.1 ≠ .error .needsReordering ∧ Kept m x.2 ∧ GoodState x.2 ext :=
  have ⟨hn, k, hr⟩ := hd.off hG.inv hG.off
  ⟨hn, k, hG.of_kept k (hr ext hG.exact).1⟩

theorem GoodState.reorderInv {m : Mgr} {ext : Nat → Nat} (g : GoodState m ext)
    (hr : ∀ r ∈ m.roots, 0 < ext r.natAbs) : ReorderInv ext m :=
  ⟨g.inv, g.order, g.exact, Or.inl g.ctx, hr⟩

/-! a manager without nodes (the empty manager, every manager the constructor goes through) has
the invariant and exact counts with nothing held, whatever its two name maps -/

def nodeFree (vars : TreeMap String Nat) (l2v : TreeMap Nat String) : Mgr :=
  { tbl := { vars := vars, l2v := l2v } }

theorem nodeFree_node? (vars : TreeMap String Nat) (l2v : TreeMap Nat String) (u : Nat) :
    (nodeFree vars l2v).tbl.node? u = none := TreeMap.getElem?_emptyc

theorem nodeFree_inv (vars : TreeMap String Nat) (l2v : TreeMap Nat String) : Inv (nodeFree vars l2v) :=
  NodeFree.inv ⟨fun _ => TreeMap.getElem?_emptyc, fun _ => TreeMap.getElem?_emptyc,
    fun _ => TreeMap.getElem?_emptyc, Nat.le_refl 2, TreeMap.contains_insert_self⟩

theorem nodeFree_refExact (vars : TreeMap String Nat) (l2v : TreeMap Nat String) :
    RefExact (nodeFree vars l2v) (fun _ => 0) := by
  -- `_ref` is `{1: 1}` and there is no node, hence no stored edge
  have href : ∀ u, (nodeFree vars l2v).ref[u]? = if u = 1 then some 1 else none := fun u => by
    show ((∅ : TreeMap Nat Nat).insert 1 1)[u]? = _
    rw [TreeMap.getElem?_insert, TreeMap.getElem?_emptyc]
    by_cases h : u = 1
    · subst h
      rfl
    · rw [if_neg h, if_neg fun hc => h (compare_eq_iff_eq.mp hc).symm]
  have hdeg : ∀ u, indeg (nodeFree vars l2v).tbl u = 0 := fun u =>
    Nat.eq_zero_of_not_pos fun hpos => by
      obtain ⟨k, n, hk, -⟩ := indeg_pos hpos
      rw [nodeFree_node?] at hk
      cases hk
  refine ⟨fun u => ?_, fun u c hc => ?_, fun u _ => rfl⟩
  · rw [href, nodeFree_node?]
    by_cases h : u = 1
    · rw [if_pos h]
      exact ⟨fun _ => Or.inl h, fun _ => rfl⟩
    · rw [if_neg h]
      exact ⟨nofun, fun hh => hh.elim (absurd · h) nofun⟩
  · rw [href] at hc
    rw [hdeg]
    by_cases h : u = 1
    · rw [if_pos h] at hc
      rw [if_pos h, ← Option.some.inj hc]
    · rw [if_neg h] at hc
      cases hc

theorem GoodState.init : GoodState ({} : Mgr) (fun _ => 0) :=
  ⟨Inv.init, OrderOK.empty, nodeFree_refExact {} {}, rfl, rfl⟩

theorem RefExact.congr_nodes {m m' : Mgr} {ext : Nat → Nat} (h : RefExact m ext)
    (h1 : ∀ k, m'.tbl.node? k = m.tbl.node? k) (h2 : m'.ref = m.ref) : RefExact m' ext := by
  refine ⟨?_, ?_, ?_⟩
  · intro u; rw [h2, h1]; exact h.dom u
  · intro u c hc; rw [h2] at hc; rw [indeg_congr h1]; exact h.cnt u c hc
  · intro u hu; rw [h2] at hu; exact h.extZero u hu

theorem addVar_cases (m : Mgr) (hO : OrderOK m.tbl) (name : String) (level : Option Int)
    (hg : ∀ l : Int, level = some l → m.tbl.vars[name]? = none → l ≤ (m.nvars : Int)) :
    (addVar name level m).2 = m ∨
    (m.tbl.vars[name]? = none ∧ addVar name level m = (.ok m.nvars, addVarState m name)) := by
  rcases addVar_outcomes name level m with ⟨j, e, -⟩ | ⟨j, e, hnew, hfree, hj⟩ | ⟨e', e, -⟩
  · exact Or.inl (by rw [e])
  · -- the level asked for is free and, by the guard, not beyond the bottom: it IS the bottom
    have hge : m.nvars ≤ j := by
      rcases Nat.lt_or_ge j m.nvars with h | h
      · obtain ⟨v, hv⟩ := hO.total j h
        rw [hfree] at hv; cases hv
      · exact h
    have hle : j ≤ m.nvars := by
      cases level with
      | none => simp only [Option.getD_none] at hj; omega
      | some l => have := hg l rfl hnew; simp only [Option.getD_some] at hj; omega
    have : j = m.nvars := Nat.le_antisymm hle hge
    subst this
    exact Or.inr ⟨hnew, e⟩
  · exact Or.inl (by rw [e])

theorem addVar_good (m : Mgr) (ext : Nat → Nat) (h : GoodState m ext) (name : String) (level : Option Int)
    (hg : ∀ l : Int, level = some l → m.tbl.vars[name]? = none → l ≤ (m.nvars : Int)) :
    GoodState (addVar name level m).2 ext ∧
    ∀ u, m.tbl.Mem u → (addVar name level m).2.tbl.Mem u ∧
      ∀ a, den (addVar name level m).2.tbl u a = den m.tbl u a := by
  rcases addVar_cases m h.order name level hg with he | ⟨hnew, he⟩
  · rw [he]; exact ⟨h, fun u hu => ⟨hu, fun _ => rfl⟩⟩
  · rw [he]
    show GoodState (addVarState m name) ext ∧ _
    obtain ⟨hI, hO, -, -, -, hden, -, -⟩ := addVar_new_spec m h.inv h.order name hnew
    exact ⟨⟨hI, hO, h.exact.congr_nodes (fun _ => rfl) rfl, h.off, h.ctx⟩, hden⟩

theorem ref_none_of_not_mem {m : Mgr} {ext : Nat → Nat} (hr : RefExact m ext) {u : Int} (hu : ¬ m.tbl.Mem u) :
    m.ref[u.natAbs]? = none := by
  cases hh : m.ref[u.natAbs]? with
  | none => rfl
  | some c => exact absurd ((hr.dom u.natAbs).mp (by simp [hh])) hu

theorem incref_ledger {m : Mgr} {ext : Nat → Nat} (hr : RefExact m ext) (u : Int) :
    RefExact (incref u m).2 (if m.mem u then extInc ext u.natAbs else ext) ∧
    (incref u m).2.tbl = m.tbl ∧ ∀ e, (incref u m).1 = .error e → m.mem u = false := by
  by_cases hu : m.tbl.Mem u
  · have hm : m.mem u = true := (Mgr.mem_iff m u).mpr hu
    obtain ⟨c, -, he, hr'⟩ := incref_spec m ext u hr hu
    rw [he, hm, if_pos rfl]
    exact ⟨hr', rfl, fun e h => by cases h⟩
  · have hm : m.mem u = false := (Tbl.mem_false_iff _ _).mpr hu
    rw [incref_not_mem m u (ref_none_of_not_mem hr hu), hm]
    exact ⟨hr, rfl, fun _ _ => rfl⟩

theorem decref_ledger {m : Mgr} {ext : Nat → Nat} (hr : RefExact m ext) (u : Int)
    (hg : m.tbl.Mem u → 0 < ext u.natAbs) :
    RefExact (decref u m).2 (if m.mem u then extDec ext u.natAbs else ext) ∧
    (decref u m).2.tbl = m.tbl ∧ ∀ e, (decref u m).1 = .error e → m.mem u = false := by
  by_cases hu : m.tbl.Mem u
  · have hm : m.mem u = true := (Mgr.mem_iff m u).mpr hu
    obtain ⟨c, -, he, hr'⟩ := decref_spec m ext u hr (hg hu)
    rw [he, hm, if_pos rfl]
    exact ⟨hr', rfl, fun e h => by cases h⟩
  · have hm : m.mem u = false := (Tbl.mem_false_iff _ _).mpr hu
    rw [decref_not_mem m u (ref_none_of_not_mem hr hu), hm]
    exact ⟨hr, rfl, fun _ _ => rfl⟩

theorem rejected_ledger (m : Mgr) (ext : Nat → Nat) (hr : RefExact m ext) (op : UOp) (hg : OpGuard m ext op)
    (e : Err) (hrej : (runOp op m).1 = .error e) : ledger op m ext = ext := by
  cases op with
  | incref u => exact if_neg (by rw [(incref_ledger hr u).2.2 e (mapRes_error hrej)]; simp)
  | decref u => exact if_neg (by rw [(decref_ledger hr u hg).2.2 e (mapRes_error hrej)]; simp)
  | _ => rfl

/-- an entry of the ledger drops by at most one in a call: the user's own `decref` -/
theorem ledger_drop (op : UOp) (m : Mgr) (ext : Nat → Nat) (k : Nat) : ext k ≤ ledger op m ext k + 1 := by
  cases op with
  | incref w =>
    show _ ≤ (if m.mem w then extInc ext w.natAbs else ext) k + 1
    split
    · unfold extInc; split <;> omega
    · exact Nat.le_succ _
  | decref w =>
    show _ ≤ (if m.mem w then extDec ext w.natAbs else ext) k + 1
    split
    · unfold extDec; split <;> omega
    · exact Nat.le_succ _
  | _ => exact Nat.le_succ _

/-- a collection, full or rooted, only removes nodes: order, switch and flag are as before -/
theorem GoodState.gcSub {m m' : Mgr} {ext : Nat → Nat} (h : GoodState m ext) (hs : GcSub m m')
    (hI : Inv m') (hR : RefExact m' ext) : GoodState m' ext :=
  ⟨hI, h.order.congr hs.vars hs.l2v, hR, hs.lastLen.trans h.off, hs.ctx.trans h.ctx⟩

theorem GoodState.gc {m m' : Mgr} {ext : Nat → Nat} (h : GoodState m ext) (hp : GcFullPost m ext m') :
    GoodState m' ext :=
  h.gcSub hp.sub hp.inv hp.refExact

theorem collectGarbage_good (m : Mgr) (ext : Nat → Nat) (h : GoodState m ext) :
    ∃ m', collectGarbage none m = (.ok (), m') ∧ GcFullPost m ext m' ∧ GoodState m' ext := by
  obtain ⟨m', he, hp⟩ := collectGarbage_spec m ext h.inv h.exact
  exact ⟨m', he, hp, h.gc hp⟩

/-- every decorated operation of `UOp`, ANY arguments: the rows of `Decorated` -/
theorem runOp_decorated (b : UOp) (hdec : b.decorated = true) (m : Mgr) :
    ∃ x, runOp b m = mapRes .ref x ∧ Decorated m x := by
  cases b with
  | var name => exact ⟨_, rfl, var_decorated name m⟩
  | ite g u v => exact ⟨_, rfl, ite_decorated g u v m⟩
  | apply o u v w => exact ⟨_, rfl, apply_decorated o u v w m⟩
  | neg u => exact ⟨_, rfl, apply_decorated "not" u none none m⟩
  | cofactor u values => exact ⟨_, rfl, cofactor_decorated u values m⟩
  | quantify u qvars fa => exact ⟨_, rfl, quantify_decorated u qvars fa m⟩
  | compose f varSub => exact ⟨_, rfl, compose_decorated f varSub m⟩
  | rename u dvars => exact ⟨_, rfl, rename_decorated u dvars m⟩
  | let_ d u => exact ⟨_, rfl, letOp_decorated d u m⟩
  | _ => cases hdec

theorem ledger_decorated (b : UOp) (m : Mgr) (ext : Nat → Nat) (hdec : b.decorated = true) :
    ledger b m ext = ext := by
  cases b <;> first | rfl | cases hdec

/-- every operation other than the collection and `add_var` is a `Kept` step, with exact counts
for the new ledger (the decorated ones: while reordering is not enabled) -/
theorem runOp_kept (m : Mgr) (ext : Nat → Nat) (hI : Inv m) (hr : RefExact m ext) (hc : m.ctx = false)
    (op : UOp) (hoff : op.decorated = true → m.lastLen = none) (hg : OpGuard m ext op) :
    (∃ name level, op = .declare name level) ∨ op = .collectGarbage ∨
    (Kept m (runOp op m).2 ∧ RefExact (runOp op m).2 (ledger op m ext)) := by
  cases hdec : op.decorated with
  | true =>
    obtain ⟨x, hx, hd⟩ := runOp_decorated op hdec m
    obtain ⟨-, hk, hrk⟩ := hd.off hI (hoff hdec)
    rw [hx, ledger_decorated op m ext hdec]
    exact Or.inr (Or.inr ⟨hk, (hrk ext hr).1⟩)
  | false =>
    cases op with
    | declare name level => exact Or.inl ⟨name, level, rfl⟩
    | collectGarbage => exact Or.inr (Or.inl rfl)
    | findOrAdd i v w =>
      refine Or.inr (Or.inr ?_)
      show Kept m (findOrAdd i v w m).2 ∧ RefExact (findOrAdd i v w m).2 ext
      rw [findOrAdd_quiet m (Or.inl hc)]
      split
      · exact ⟨Kept.refl hI, hr⟩
      · exact ⟨findOrAddCore_total m hI _ v w (hg (by omega)),
          findOrAddCore_refExact m ext _ v w hI.wf.toWF.closed hr⟩
    | incref u => exact Or.inr (Or.inr ⟨incref_kept m hI u, (incref_ledger hr u).1⟩)
    | decref u => exact Or.inr (Or.inr ⟨decref_kept m hI u, (decref_ledger hr u hg).1⟩)
    | _ => cases hdec

theorem GoodState.runOp_kept {m : Mgr} {ext : Nat → Nat} (h : GoodState m ext) (op : UOp)
    (hg : OpGuard m ext op) :
    (∃ name level, op = .declare name level) ∨ op = .collectGarbage ∨
    (Kept m (runOp op m).2 ∧ RefExact (runOp op m).2 (ledger op m ext)) :=
  DD.runOp_kept m ext h.inv h.exact h.ctx op (fun _ => h.off) hg

/-- EVERY operation with EVERY argument — accepted or rejected by the code —
leads from a good state to a good state (C17's core; the induction step of every "for all
histories" statement). -/
theorem step_inv (m : Mgr) (ext : Nat → Nat) (op : UOp) (h : GoodState m ext) (hg : OpGuard m ext op) :
    GoodState (runOp op m).2 (ledger op m ext) := by
  rcases h.runOp_kept op hg with ⟨name, level, rfl⟩ | rfl | ⟨hk, hr⟩
  · exact (addVar_good m ext h name level hg.declare).1
  · obtain ⟨m', he, -, hgood⟩ := collectGarbage_good m ext h
    show GoodState (collectGarbage none m).2 ext
    rw [he]; exact hgood
  · exact h.of_kept hk hr

theorem step_inv_eq {m m' : Mgr} {ext : Nat → Nat} {op : UOp} {r : Except Err Res} (h : GoodState m ext)
    (he : runOp op m = (r, m')) (hg : OpGuard m ext op) : GoodState m' (ledger op m ext) := by
  have := step_inv m ext op h hg
  rwa [he] at this

theorem step_mem (m : Mgr) (ext : Nat → Nat) (op : UOp) (h : GoodState m ext) (hg : OpGuard m ext op)
    (hop : op ≠ .collectGarbage) (u : Int) (hu : m.tbl.Mem u) :
    (runOp op m).2.tbl.Mem u ∧ ∀ a, den (runOp op m).2.tbl u a = den m.tbl u a := by
  rcases h.runOp_kept op hg with ⟨name, level, rfl⟩ | rfl | ⟨hk, -⟩
  · exact (addVar_good m ext h name level hg.declare).2 u hu
  · exact absurd rfl hop
  · exact hk.den h.inv u hu

/-- every operation — the collection and the user's own `decref` included — keeps
every reference the user holds (`ext > 0` before the call) valid, with the same function -/
theorem step_held (m : Mgr) (ext : Nat → Nat) (op : UOp) (h : GoodState m ext) (hg : OpGuard m ext op)
    (u : Int) (hu : 0 < ext u.natAbs) :
    m.tbl.Mem u ∧ (runOp op m).2.tbl.Mem u ∧ ∀ a, den (runOp op m).2.tbl u a = den m.tbl u a := by
  have hm : m.tbl.Mem u := h.exact.mem_of_ext_pos hu
  refine ⟨hm, ?_⟩
  by_cases hop : op = .collectGarbage
  · subst hop
    obtain ⟨m', he, hp, -⟩ := collectGarbage_good m ext h
    show (collectGarbage none m).2.tbl.Mem u ∧ ∀ a, den (collectGarbage none m).2.tbl u a = den m.tbl u a
    rw [he]
    exact hp.held h.inv hu
  · exact step_mem m ext op h hg hop u hm

/-- a REJECTED call (any operation, any argument) is a `Kept` step — it changed nothing, or only
added nodes — and does not touch the user's ledger -/
theorem rejected_kept (m : Mgr) (ext : Nat → Nat) (op : UOp) (h : GoodState m ext) (hg : OpGuard m ext op)
    (e : Err) (hrej : (runOp op m).1 = .error e) :
    Kept m (runOp op m).2 ∧ ledger op m ext = ext := by
  refine ⟨?_, rejected_ledger m ext h.exact op hg e hrej⟩
  rcases h.runOp_kept op hg with ⟨name, level, rfl⟩ | rfl | ⟨hk, -⟩
  · rcases addVar_cases m h.order name level hg.declare with he | ⟨-, he⟩
    · show Kept m (addVar name level m).2
      rw [he]; exact Kept.refl h.inv
    · have := mapRes_error hrej
      rw [he] at this
      cases this
  · obtain ⟨m', he, -, -⟩ := collectGarbage_good m ext h
    have := mapRes_error hrej
    rw [he] at this
    cases this
  · exact hk

def hist : Hist UOp St where
  step := step
  Guard s := OpGuard s.m s.ext
  run := run
  Guarded := OpsGuarded
  run_nil _ := rfl
  run_cons _ _ _ := rfl
  guarded_nil _ := trivial
  guarded_cons _ _ _ := Iff.rfl

theorem run_append (a b : List UOp) (s : St) : run (a ++ b) s = run b (run a s) :=
  hist.run_append a b s

theorem opsGuarded_append (a b : List UOp) (s : St) :
    OpsGuarded (a ++ b) s ↔ (OpsGuarded a s ∧ OpsGuarded b (run a s)) :=
  hist.guarded_append a b s

theorem opsGuarded_take (k : Nat) {ops : List UOp} {s : St} (h : OpsGuarded ops s) :
    OpsGuarded (ops.take k) s :=
  hist.guarded_take k h

theorem run_inv (ops : List UOp) (s : St) (h : GoodState s.m s.ext) (hg : OpsGuarded ops s) :
    GoodState (run ops s).m (run ops s).ext :=
  hist.run_inv (Good := fun s => GoodState s.m s.ext) (fun s o h hg => step_inv s.m s.ext o h hg)
    ops s h hg

/-- every state reached from the empty manager by a guarded history of
user operations — whatever their arguments, whichever of them were rejected — is a good state. -/
theorem reachable_inv (ops : List UOp) (hg : OpsGuarded ops St.init) :
    GoodState (run ops St.init).m (run ops St.init).ext :=
  run_inv ops St.init GoodState.init hg

/-- a reference the user holds and does not release stays valid and keeps its function through
ANY guarded continuation of the history -/
theorem run_held (ops : List UOp) (s : St) (h : GoodState s.m s.ext) (hg : OpsGuarded ops s) (u : Int)
    (hheld : ∀ (pre : List UOp) (post : List UOp), ops = pre ++ post → 0 < (run pre s).ext u.natAbs) :
    (run ops s).m.tbl.Mem u ∧ ∀ a, den (run ops s).m.tbl u a = den s.m.tbl u a :=
  hist.run_kept (Good := fun s => GoodState s.m s.ext) (P := fun s => 0 < s.ext u.natAbs)
    (K := fun s t => t.m.tbl.Mem u ∧ ∀ a, den t.m.tbl u a = den s.m.tbl u a)
    (fun s o h hg => step_inv s.m s.ext o h hg)
    (fun s h hp => ⟨h.exact.mem_of_ext_pos hp, fun _ => rfl⟩)
    (fun s o _ h hg hp ht => ⟨ht.1, fun a => (ht.2 a).trans ((step_held s.m s.ext o h hg u hp).2.2 a)⟩)
    ops s h hg hheld

/-- the user takes a reference on every element of `rs` (nodes): only the counters and the ledger
move, and the ledger then holds each of them -/
theorem run_increfs : ∀ (rs : List Int) (s : St), GoodState s.m s.ext → (∀ r ∈ rs, s.m.tbl.Mem r) →
    GoodState (run (rs.map .incref) s).m (run (rs.map .incref) s).ext ∧
      (run (rs.map .incref) s).m.tbl = s.m.tbl ∧ (run (rs.map .incref) s).m.roots = s.m.roots ∧
      (run (rs.map .incref) s).m.sched = s.m.sched ∧
      (∀ u, s.ext u ≤ (run (rs.map .incref) s).ext u) ∧
      (∀ r ∈ rs, 0 < (run (rs.map .incref) s).ext r.natAbs)
  | [], s, h, _ => ⟨h, rfl, rfl, rfl, fun _ => Nat.le_refl _, nofun⟩
  | r :: rs, s, h, hm => by
    have hmem : s.m.mem r = true := (Mgr.mem_iff s.m r).mpr (hm r List.mem_cons_self)
    have hs1 : run ((r :: rs).map .incref) s =
        run (rs.map .incref) ⟨(incref r s.m).2, extInc s.ext r.natAbs⟩ := by
      show run (rs.map .incref) (step (.incref r) s) = _
      simp only [step, runOp, mapRes, ledger, hmem, if_true]
    have hk := (incref_kept s.m h.inv r).frame
    have ht1 := (incref_ledger h.exact r).2.1
    have hg1 : GoodState (incref r s.m).2 (extInc s.ext r.natAbs) := by
      have := step_inv s.m s.ext (.incref r) h trivial
      rwa [ledger, hmem, if_pos rfl] at this
    obtain ⟨g, ht, hro, hsc, hle, hpos⟩ := run_increfs rs ⟨_, extInc s.ext r.natAbs⟩ hg1 (fun r' hr' => by
      rw [ht1]; exact hm r' (List.mem_cons_of_mem _ hr'))
    have hle1 : ∀ u, s.ext u ≤ extInc s.ext r.natAbs u := fun u => by
      simp only [extInc]; split <;> omega
    rw [hs1]
    refine ⟨g, ht.trans ht1, hro.trans hk.roots, hsc.trans hk.sched,
      fun u => Nat.le_trans (hle1 u) (hle u), fun r' hr' => ?_⟩
    rcases List.mem_cons.mp hr' with rfl | hr'
    · exact Nat.lt_of_lt_of_le (by simp [extInc]) (hle _)
    · exact hpos r' hr'

/-- two references that agree as functions of the variable NAMES agree as functions of the levels
(every level below `nvars` has a name of its own) -/
theorem den_of_denN_tbl {t : Tbl} (hw : WF t) (hO : OrderOK t) (u v : Int) (hu : t.Mem u) (hv : t.Mem v)
    (h : ∀ σ, denN t u σ = denN t v σ) : ∀ a, den t u a = den t v a := by
  intro a
  let σ : AsgN := fun name => match t.vars[name]? with
    | some i => a i
    | none => false
  have hl : ∀ i, i < t.nvars → t.lift σ i = a i := by
    intro i hi
    obtain ⟨x, hx⟩ := hO.total i hi
    have hxx := (hO.inv x i).mpr hx
    simp [Tbl.lift, Tbl.nameOf, hx, σ, hxx]
  have := h σ
  unfold denN at this
  rw [den_agree_ge t hw u hu _ a (fun i _ hi => hl i hi),
    den_agree_ge t hw v hv _ a (fun i _ hi => hl i hi)] at this
  exact this

theorem eq_iff_denN {t : Tbl} (hw : WFU t) (hO : OrderOK t) (u v : Int) (hu : t.Mem u)
    (hv : t.Mem v) : u = v ↔ ∀ σ, denN t u σ = denN t v σ :=
  ⟨fun h _ => h ▸ rfl, fun h =>
    (canonical t hw u v hu hv).mp (den_of_denN_tbl hw.toWF hO u v hu hv h)⟩

end DD
