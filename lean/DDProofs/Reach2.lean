/-
  DDProofs.Reach2 — "for EVERY history", REORDERINGS included: `UOp2` (DDProofs.Calls) adds
  `bdd.swap`, `reorder` with and without an order, and `undeclare_vars`, all with ARBITRARY
  arguments.  `sch` is the recorded iteration order of the Python sets the call walks through (`[]`
  = the model's default, ascending).  The only guard on the new calls is about the MODEL, not about
  the caller: the model must not answer `MODEL-SCHEDULE-MISMATCH` (`OpGuard2`; with `sch = []` it
  never does: `guard2_default`).  Bad arguments are not excluded: a swap of non-adjacent levels or
  unknown names, sifting one variable, an order that is no bijection, names in use — these calls
  RAISE, some after a collection or after some swaps, and the theorems cover the state they leave.

  The steps are proved once, for the invariant `Good3` that says nothing about `_last_len`
  (`runOp2_stepL`); with `_last_len = None` it is `Good2`, and the statements about histories in
  which reordering is never enabled are corollaries.  A decorated operation goes through one lemma,
  `tryToReorder_step4`: two variables: `tryToReorder_total_dyn` (C17); fewer and not enabled:
  `tryToReorder_total_off`; fewer and enabled: `tryToReorder_few`.
-/
import DDProofs.Reach
import DDProofs.Undeclare
import DDProofs.Reach2Order
open Std

namespace DD

theorem isSchedErr_false {α : Type} {r : Except Err α} (h : isSchedErr r = false) :
    r ≠ .error .sched := by
  intro hh; subst hh; cases h

theorem isSchedErr_of_ne {α : Type} {r : Except Err α} (h : r ≠ .error .sched) :
    isSchedErr r = false := by
  cases r with
  | ok a => rfl
  | error e => cases e <;> first | rfl | exact absurd rfl h

theorem OkOr.returns {α : Type} {Q : α → Mgr → Prop} {r : Except Err α × Mgr}
    (h : OkOr SchedErr Q r) (hg : isSchedErr r.1 = false) : ∃ a, r.1 = .ok a ∧ Q a r.2 := by
  obtain ⟨r, m'⟩ := r
  cases r with
  | ok a => exact ⟨a, rfl, h⟩
  | error e => exact absurd (by rw [show e = Err.sched from h]) (isSchedErr_false hg)

theorem withSched_ok {α : Type} {sch : List SchedItem} {f : M α} {g : α → Res} {m : Mgr} {a : α}
    (h : (f { m with sched := sch }).1 = .ok a) : (withSched sch f g m).1 = .ok (g a) := by
  show (mapRes g (f { m with sched := sch })).1 = _
  rw [mapRes, h]

/-- what holds in every state reached by a guarded history while dynamic reordering is not
enabled: `GoodState` (invariant, order maps, exact counts, reordering not enabled, not inside a
context), no recorded schedule left, no registered roots -/
structure Good2 (m : Mgr) (ext : Nat → Nat) : Prop where
  good : GoodState m ext
  sched : m.sched = []
  roots : m.roots = []

/-- what holds between two calls, whether dynamic reordering is enabled or not: `Good2` without
`lastLen = none`, the weaker of the two (`good2_iff_good3`) -/
structure Good3 (m : Mgr) (ext : Nat → Nat) : Prop where
  inv : Inv m
  order : OrderOK m.tbl
  exact : RefExact m ext
  ctx : m.ctx = false
  sched : m.sched = []
  roots : m.roots = []

theorem Good2.good3 {m : Mgr} {ext : Nat → Nat} (h : Good2 m ext) : Good3 m ext :=
  ⟨h.good.inv, h.good.order, h.good.exact, h.good.ctx, h.sched, h.roots⟩

theorem GoodState.good3 {m : Mgr} {ext : Nat → Nat} (h : GoodState m ext) (hs : m.sched = [])
    (hr : m.roots = []) : Good3 m ext := ⟨h.inv, h.order, h.exact, h.ctx, hs, hr⟩

theorem Good3.good2 {m : Mgr} {ext : Nat → Nat} (h : Good3 m ext) (hoff : m.lastLen = none) :
    Good2 m ext :=
  ⟨⟨h.inv, h.order, h.exact, hoff, h.ctx⟩, h.sched, h.roots⟩

theorem good2_iff_good3 (m : Mgr) (ext : Nat → Nat) : Good2 m ext ↔ (Good3 m ext ∧ m.lastLen = none) :=
  ⟨fun h => ⟨h.good3, h.good.off⟩, fun h => h.1.good2 h.2⟩

theorem Good2.init : Good2 ({} : Mgr) (fun _ => 0) := ⟨GoodState.init, rfl, rfl⟩

theorem Good3.init : Good3 ({} : Mgr) (fun _ => 0) := Good2.init.good3

theorem Good3.reorderInv {m : Mgr} {ext : Nat → Nat} (h : Good3 m ext) (sch : List SchedItem) :
    ReorderInv ext { m with sched := sch } :=
  ⟨h.inv.setSched sch, h.order, h.exact.congr rfl rfl, Or.inl h.ctx,
    fun r hr => by rw [show ({ m with sched := sch } : Mgr).roots = m.roots from rfl, h.roots] at hr; cases hr⟩

theorem Good3.reorderInv_self {m : Mgr} {ext : Nat → Nat} (h : Good3 m ext) : ReorderInv ext m :=
  h.reorderInv m.sched

theorem Good2.reorderInv {m : Mgr} {ext : Nat → Nat} (h : Good2 m ext) (sch : List SchedItem) :
    ReorderInv ext { m with sched := sch } := h.good3.reorderInv sch

/-- with two variables: the state the C09 / C17 theorems about the decorator start from -/
theorem Good3.dynInv {m : Mgr} {ext : Nat → Nat} (h : Good3 m ext) (h2 : 2 ≤ m.nvars) : DynInv ext m :=
  ⟨h.inv, h.order, h.exact, h.ctx, h.sched, (fun r hr => by rw [h.roots] at hr; cases hr), h2⟩

theorem DynInv.good3 {m : Mgr} {ext : Nat → Nat} (h : DynInv ext m) (hr : m.roots = []) : Good3 m ext :=
  ⟨h.inv, h.order, h.refs, h.ctx, h.sched, hr⟩

theorem Good3.gc {m m' : Mgr} {ext : Nat → Nat} (h : Good3 m ext) (hp : GcFullPost m ext m') :
    Good3 m' ext :=
  ⟨hp.inv, h.order.congr hp.sub.vars hp.sub.l2v, hp.refExact, hp.sub.ctx.trans h.ctx,
    hp.sub.sched.trans h.sched, hp.sub.roots.trans h.roots⟩

theorem Good2.gc {m m' : Mgr} {ext : Nat → Nat} (h : Good2 m ext) (hp : GcFullPost m ext m') :
    Good2 m' ext :=
  (h.good3.gc hp).good2 (hp.sub.lastLen.trans h.good.off)

theorem Good3.collect {m : Mgr} {ext : Nat → Nat} (h : Good3 m ext) :
    ∃ m', collectGarbage none m = (.ok (), m') ∧ Good3 m' ext := by
  obtain ⟨m', he, hp⟩ := collectGarbage_spec m ext h.inv h.exact
  exact ⟨m', he, h.gc hp⟩

/-- the counters are exact for the user's ledger, and a collection at this point succeeds, leaves
EXACTLY the nodes reachable from a held node (unchanged, same functions), keeps the counts exact
and empties the computed table -/
theorem Good3.counts_exact {m : Mgr} {ext : Nat → Nat} (h : Good3 m ext) :
    RefExact m ext ∧
    ∃ m', collectGarbage none m = (.ok (), m') ∧ Good3 m' ext ∧
      (∀ u n, m'.tbl.node? u = some n ↔ (m.tbl.node? u = some n ∧ GcReach m.tbl (GcHeld ext) u)) ∧
      (∀ (u : Int), m'.tbl.Mem u → ∀ a, den m'.tbl u a = den m.tbl u a) ∧
      (∀ (u c : Nat), m'.ref[u]? = some c → 0 < c) ∧
      (∀ key : List Int, m'.cache[key]? = none) := by
  obtain ⟨m', he, hp, rest⟩ := collectGarbage_exact _ _ h.inv h.exact
  exact ⟨h.exact, m', he, h.gc hp, rest⟩

/-- two nodes are equal exactly when they denote the same function of the variable names, and
exactly when they denote the same function of the levels -/
theorem Good3.canonical {m : Mgr} {ext : Nat → Nat} (h : Good3 m ext) (u v : Int)
    (hu : m.tbl.Mem u) (hv : m.tbl.Mem v) :
    ((∀ σ, denN m.tbl u σ = denN m.tbl v σ) ↔ u = v) ∧ ((∀ a, den m.tbl u a = den m.tbl v a) ↔ u = v) :=
  ⟨(eq_iff_denN h.inv.wf h.order u v hu hv).symm, DD.canonical _ h.inv.wf u v hu hv⟩

/-- the invariant mentions neither `_last_len` nor the countdown to the next request: a good
state stays good with reordering switched on and a request due (the states the examples of the
decorator start from) -/
theorem Good3.setRequest {m : Mgr} {ext : Nat → Nat} (h : Good3 m ext) (l f : Option Nat) :
    Good3 { m with lastLen := l, fireIn := f } ext :=
  ⟨(h.inv.setLastLen l).setFire f, h.order, h.exact.congr rfl rfl, h.ctx, h.sched, h.roots⟩

theorem Good3.setLastLen {m : Mgr} {ext : Nat → Nat} (h : Good3 m ext) (l : Option Nat) :
    Good3 { m with lastLen := l } ext := h.setRequest l m.fireIn

/-- a reference the user holds: still a node, same function of the variable names -/
def Held2 (ext : Nat → Nat) (m m' : Mgr) : Prop :=
  ∀ u : Int, 0 < ext u.natAbs → m'.tbl.Mem u ∧ ∀ σ : AsgN, denN m'.tbl u σ = denN m.tbl u σ

/-- the constants are "held" by everybody: what is kept for held references is kept for them -/
theorem Held2.heldX {ext : Nat → Nat} {m m' : Mgr} (h : Held2 ext m m') {u : Int} (hu : HeldX ext u) :
    m'.tbl.Mem u ∧ ∀ σ, denN m'.tbl u σ = denN m.tbl u σ := by
  rcases hu with h1 | hpos
  · refine ⟨Or.inl h1, fun σ => ?_⟩
    unfold denN
    rw [den_terminal _ h1, den_terminal _ h1]
  · exact h u hpos

theorem Held2.trans {ext : Nat → Nat} {a b c : Mgr} (h1 : Held2 ext a b) (h2 : Held2 ext b c) :
    Held2 ext a c := fun u hu => byName_trans (h1 u hu) (h2 u hu)

theorem Held2.refl {ext : Nat → Nat} {m : Mgr} (h : Good3 m ext) : Held2 ext m m :=
  fun _ hu => ⟨h.exact.mem_of_ext_pos hu, fun _ => rfl⟩

/-- what a step of a history establishes: invariant for the new ledger, held references kept by
name, the switch as it was, the internal signal not raised -/
structure Step3 (m : Mgr) (ext ext' : Nat → Nat) (res : Except Err Res × Mgr) : Prop where
  good : Good3 res.2 ext'
  held : Held2 ext m res.2
  switch : res.2.lastLen.isSome = m.lastLen.isSome
  noSignal : res.1 ≠ .error .needsReordering

/-- `Step3` with the switch kept only outside the situation "reordering enabled, fewer than two
variables": what a DECORATED call establishes (there a failed sifting leaves reordering disabled,
`tryToReorder_few`).  Every other call establishes `Step3`, the stronger of the two (`Step3.step4`) -/
structure Step4 (m : Mgr) (ext ext' : Nat → Nat) (res : Except Err Res × Mgr) : Prop where
  good : Good3 res.2 ext'
  held : Held2 ext m res.2
  noSignal : res.1 ≠ .error .needsReordering
  /-- outside the situation "reordering enabled, fewer than two variables" -/
  switch : (m.lastLen.isSome = true → 2 ≤ m.nvars) → res.2.lastLen.isSome = m.lastLen.isSome

theorem Step3.step4 {m : Mgr} {ext ext' : Nat → Nat} {res : Except Err Res × Mgr}
    (h : Step3 m ext ext' res) : Step4 m ext ext' res :=
  ⟨h.good, h.held, h.noSignal, fun _ => h.switch⟩

/-- everything the history theorems use of ONE call issued in a good state: `ext'` is the ledger
after it, `sw` the switch after it.  `safe` excludes the one situation in which a call other than
`configure` moves the switch: reordering enabled, a decorated call, fewer than two variables (the
decorator then lets the `ValueError` of sifting one variable through, with reordering left
DISABLED: `tryToReorder_few`). -/
structure StepL (m : Mgr) (ext ext' : Nat → Nat) (safe : Prop) (sw : Bool)
    (res : Except Err Res × Mgr) : Prop where
  good : Good3 res.2 ext'
  held : Held2 ext m res.2
  noSignal : res.1 ≠ .error .needsReordering
  switch : safe → res.2.lastLen.isSome = sw
  /-- a call that raises leaves the ledger and the switch alone -/
  rejected : ∀ e, res.1 = .error e → ext' = ext ∧ (safe → res.2.lastLen.isSome = m.lastLen.isSome)
  /-- an entry of the ledger drops by at most one: the user's own `decref` -/
  drop : ∀ k, ext k ≤ ext' k + 1

theorem StepL.few {m : Mgr} {ext ext' : Nat → Nat} {safe : Prop} {sw : Bool}
    {res : Except Err Res × Mgr} (h : StepL m ext ext' safe sw res) :
    Good3 res.2 ext' ∧ Held2 ext m res.2 ∧ res.1 ≠ .error .needsReordering :=
  ⟨h.good, h.held, h.noSignal⟩

theorem StepL.weaken {m : Mgr} {ext ext' : Nat → Nat} {safe safe' : Prop} {sw : Bool}
    {res : Except Err Res × Mgr} (h : StepL m ext ext' safe sw res) (hs : safe' → safe) :
    StepL m ext ext' safe' sw res :=
  ⟨h.good, h.held, h.noSignal, fun a => h.switch (hs a),
    fun e he => ⟨(h.rejected e he).1, fun a => (h.rejected e he).2 (hs a)⟩, h.drop⟩

theorem Step4.stepL {m : Mgr} {ext : Nat → Nat} {res : Except Err Res × Mgr} (h : Step4 m ext ext res) :
    StepL m ext ext (m.lastLen.isSome = true → 2 ≤ m.nvars) m.lastLen.isSome res :=
  ⟨h.good, h.held, h.noSignal, h.switch, fun _ _ => ⟨rfl, h.switch⟩, fun _ => Nat.le_succ _⟩

theorem Step3.stepL {m : Mgr} {ext : Nat → Nat} {safe : Prop} {res : Except Err Res × Mgr}
    (h : Step3 m ext ext res) : StepL m ext ext safe m.lastLen.isSome res :=
  ⟨h.good, h.held, h.noSignal, fun _ => h.switch, fun _ _ => ⟨rfl, fun _ => h.switch⟩,
    fun _ => Nat.le_succ _⟩

theorem StepL.off {m : Mgr} {ext ext' : Nat → Nat} {safe : Prop} {res : Except Err Res × Mgr}
    (h : StepL m ext ext' safe m.lastLen.isSome res) (hs : safe) (hoff : m.lastLen = none) :
    res.2.lastLen = none := by
  have := h.switch hs
  rw [hoff] at this
  cases hl : res.2.lastLen with
  | none => rfl
  | some l => rw [hl] at this; cases this

/-- what every step of a history establishes, whatever the number of variables -/
def Few3 (m : Mgr) (ext : Nat → Nat) {α : Type} (res : Except Err α × Mgr) : Prop :=
  Good3 res.2 ext ∧ Held2 ext m res.2 ∧ res.1 ≠ .error .needsReordering

theorem Step3.few {m : Mgr} {ext : Nat → Nat} {res : Except Err Res × Mgr} (h : Step3 m ext ext res) :
    Few3 m ext res := ⟨h.good, h.held, h.noSignal⟩

theorem held2_of_kept {m m' : Mgr} (hI : Inv m) (h : Kept m m') (ext : Nat → Nat)
    (hr : RefExact m ext) : Held2 ext m m' := fun _ hu =>
  h.ext.byName h.frame.l2v hI.wf.toWF (hr.mem_of_ext_pos hu)

/-- from C07's vocabulary to a step of a history: a state of the reordering invariant that
`ReorderRel` relates to a good state — after a reordering, after a collection, after the two in a
row — is good once no schedule is left, and every held reference has kept its function by name -/
theorem Good3.of_reorderRel {m m' : Mgr} {ext : Nat → Nat} (h : Good3 m ext) (hR : ReorderInv ext m')
    (hrel : ReorderRel ext m m') (hs : m'.sched = []) : Good3 m' ext ∧ Held2 ext m m' :=
  ⟨⟨hR.inv, hR.order, hR.refExact, hrel.ctx.trans h.ctx, hs, hrel.roots.trans h.roots⟩,
    fun _ hu => hrel.held.heldX h.inv hR.inv h.exact hR.refExact (Or.inr hu)⟩

/-- a collection that returned, full or rooted, as a step: what was removed was not held -/
theorem Good3.gcSub {m m' : Mgr} {ext : Nat → Nat} (h : Good3 m ext) (hI : Inv m')
    (hr : RefExact m' ext) (hs : GcSub m m') :
    Step3 m ext ext ((.ok Res.unit, m') : Except Err Res × Mgr) :=
  have ⟨hR, hrel⟩ := gcSub_keeps h.reorderInv_self hI hr hs
  have ⟨hG, hH⟩ := h.of_reorderRel hR hrel (hrel.sched h.sched)
  ⟨hG, hH, congrArg Option.isSome hrel.lastLen, nofun⟩

theorem step3_of_kept {α : Type} {m : Mgr} {ext ext' : Nat → Nat} (h : Good3 m ext) (f : α → Res)
    (x : Except Err α × Mgr) (k : Kept m x.2) (hr : RefExact x.2 ext')
    (hns : x.1 ≠ .error .needsReordering) : Step3 m ext ext' (mapRes f x) :=
  ⟨⟨k.inv, h.order.frame k.frame, hr, k.frame.ctx.trans h.ctx, k.frame.sched.trans h.sched,
      k.frame.roots.trans h.roots⟩,
    held2_of_kept h.inv k ext h.exact, congrArg Option.isSome k.frame.lastLen,
    mapRes_noSignal f x hns⟩

theorem step3_same {α : Type} {m : Mgr} {ext : Nat → Nat} (h : Good3 m ext) (g : α → Res)
    (r : Except Err α) (hr : r ≠ .error .needsReordering) : Step3 m ext ext (mapRes g (r, m)) :=
  step3_of_kept h g (r, m) (Kept.refl h.inv) h.exact hr

theorem declare_step3 (m : Mgr) (ext : Nat → Nat) (h : Good3 m ext) (name : String)
    (level : Option Int)
    (hg : ∀ l : Int, level = some l → m.tbl.vars[name]? = none → l ≤ (m.nvars : Int)) :
    Step3 m ext ext (mapRes .lvl (addVar name level m)) := by
  rcases addVar_cases m h.order name level hg with he | ⟨hnew, he⟩
  · rw [show addVar name level m = ((addVar name level m).1, m) from Prod.ext rfl he]
    exact step3_same h _ _ (addVar_noSignal m name level)
  · rw [he]
    obtain ⟨hI, hO, -, -, hmono, hden, -, -⟩ := addVar_new_spec m h.inv h.order name hnew
    refine ⟨⟨hI, hO, h.exact.congr_nodes (fun _ => rfl) rfl, h.ctx, h.sched, h.roots⟩,
      fun u hu => ?_, rfl, fun hh => by cases hh⟩
    have hmu : m.tbl.Mem u := h.exact.mem_of_ext_pos hu
    exact ⟨(hden u hmu).1, denN_of_vars_kept h.inv.wf.toWF h.order hO hmono hmu (hden u hmu).2⟩

theorem findOrAdd_step3 (m : Mgr) (ext : Nat → Nat) (h : Good3 m ext) (i v w : Int)
    (hg : 0 ≤ i → FoaGuard m i.toNat v w) :
    Step3 m ext ext (mapRes .ref (findOrAdd i v w m)) := by
  rw [findOrAdd_quiet m (Or.inl h.ctx)]
  split
  · exact step3_same h _ _ (by simp)
  · exact step3_of_kept h _ _ (findOrAddCore_total m h.inv _ v w (hg (by omega)))
      (findOrAddCore_refExact m ext _ v w h.inv.wf.toWF.closed h.exact)
      (findOrAddCore_noNR m _ v w)

theorem incref_noSignal (u : Int) (m : Mgr) : (incref u m).1 ≠ .error .needsReordering := by
  unfold incref; split <;> simp

theorem decref_noSignal (u : Int) (m : Mgr) : (decref u m).1 ≠ .error .needsReordering := by
  unfold decref
  split
  · simp
  · split <;> simp

theorem collect_step3 (m : Mgr) (ext : Nat → Nat) (h : Good3 m ext) :
    Step3 m ext ext (mapRes (fun _ => Res.unit) (collectGarbage none m)) := by
  obtain ⟨m', he, hp⟩ := collectGarbage_spec m ext h.inv h.exact
  rw [he]
  exact h.gcSub hp.inv hp.refExact hp.sub

theorem plain_step3 (m : Mgr) (ext : Nat → Nat) (h : Good3 m ext) (b : UOp) (hg : OpGuard m ext b)
    (hdec : b.decorated = false) : Step3 m ext (ledger b m ext) (runOp b m) := by
  cases b with
  | declare name level => exact declare_step3 m ext h name level hg.declare
  | findOrAdd i v w => exact findOrAdd_step3 m ext h i v w hg
  | incref u =>
    exact step3_of_kept h _ _ (incref_kept m h.inv u) (incref_ledger h.exact u).1 (incref_noSignal u m)
  | decref u =>
    exact step3_of_kept h _ _ (decref_kept m h.inv u) (decref_ledger h.exact u hg).1 (decref_noSignal u m)
  | collectGarbage => exact collect_step3 m ext h
  | _ => cases hdec

/-- `reorder(bdd)` with fewer than two variables, ANY recorded schedule: it raises — the model's
`.sched` (only with a recorded schedule), or an exception of the code in the state left by the
collection, up to the consumed schedule — and the manager is kept -/
theorem sift_few_any (ext : Nat → Nat) (m : Mgr) (h : ReorderInv ext m) (hfew : m.nvars < 2) :
    ∃ e mb, reorder none m = (.error e, mb) ∧ ((e = .sched ∧ m.sched ≠ []) ∨ RejErr e) ∧
      ReorderInv ext mb ∧ ReorderRel ext m mb := by
  obtain ⟨mg, hrun, hg, -, hrel, -⟩ := h.collect
  obtain ⟨e, mb, hres, hcase⟩ :=
    sift_few_outcome m mg hrun hg.order (by rw [hrel.nvars]; exact hfew)
  refine ⟨e, mb, hres, ?_⟩
  rcases hcase with ⟨rfl, hne⟩ | ⟨hrej, s, rfl, hs0⟩
  · -- what the state is after the model's report is said by `reorder_keepS`
    have hK := reorder_keepS ext m h none
    rw [hres] at hK
    exact ⟨.inl ⟨rfl, fun hs => hne (hrel.sched hs)⟩, (hK rfl).1, (hK rfl).2.toRel⟩
  · exact ⟨.inr hrej, (hg.setSched_rel s hs0).1, hrel.trans (hg.setSched_rel s hs0).2⟩

/-- `reorder(bdd)` with ANY number of variables, for every recorded schedule: unless the model
reports a schedule mismatch, the call — returning (two variables or more) or raising (fewer) —
leaves the reordering invariant and every held reference with its function -/
theorem sift_keep (ext : Nat → Nat) (m : Mgr) (h : ReorderInv ext m) :
    KeepOr SchedErr (fun m' => ReorderInv ext m' ∧ ReorderRel ext m m') (reorder none m) := by
  by_cases h2 : 2 ≤ m.nvars
  · exact KeepOr.of_okOr (applySifting_never_raises ext m h h2) (fun _ m' hp => ⟨hp.1.1, hp.2⟩)
  · obtain ⟨e, mb, hres, he, hR, hrel⟩ := sift_few_any ext m h (by omega)
    rw [hres]
    exact he.elim (fun hs => .inl hs.1) fun hrej => .inr ⟨hrej, hR, hrel⟩

theorem swap_keep (ext : Nat → Nat) (m : Mgr) (h : ReorderInv ext m) (xa ya : VarOrLevel) :
    KeepOr SchedErr (fun m' => ReorderInv ext m' ∧ ReorderRel ext m m') (swap xa ya false m) := by
  obtain ⟨mg, hrun, hg, -, hrel, -⟩ := h.collect
  exact swapPublic_keep (swapOK ext) m xa ya ⟨mg, hrun, hg, hrel⟩

theorem reorderTo_keepR (ext : Nat → Nat) (m : Mgr) (h : ReorderInv ext m) (o : List (String × Int)) :
    KeepOr SchedErr (fun m' => ReorderInv ext m' ∧ ReorderRel ext m m') (reorder (some o) m) :=
  (reorderTo_keep (swapOK ext) o m h).mono (fun _ hp => ⟨hp.1, hp.2.1⟩)

theorem no_sched_report (ext : Nat → Nat) (m : Mgr) (h : ReorderInv ext m) (hs : m.sched = []) :
    (∀ xa ya, isSchedErr (swap xa ya false m).1 = false) ∧
    isSchedErr (reorder none m).1 = false ∧
    (∀ o, isSchedErr (reorder (some o) m).1 = false) := by
  have hgc : ∃ mg, collectGarbage none m = (.ok (), mg) ∧ (ReorderInv ext mg ∧ mg.sched = []) ∧
      ReorderRel ext m mg := by
    obtain ⟨mg, hrun, hg, -, hrel, -⟩ := h.collect
    exact ⟨mg, hrun, ⟨hg, hrel.sched hs⟩, hrel⟩
  refine ⟨fun xa ya => ?_, ?_, fun o => ?_⟩
  · exact isSchedErr_of_ne (swapPublic_keep (swapOK_default ext) m xa ya hgc).total.2
  · by_cases h2 : 2 ≤ m.nvars
    · obtain ⟨m', hrun, -⟩ := applySifting_total_default ext m h h2 hs
      show isSchedErr (applySifting m).1 = false
      rw [hrun]; rfl
    · obtain ⟨e, mb, hres, he, -⟩ := sift_few_any ext m h (by omega)
      rw [hres]
      exact isSchedErr_of_ne fun hh => by
        cases hh
        exact he.elim (fun hr => hr.2 hs) fun hr => hr.ne_sched rfl
  · exact isSchedErr_of_ne (reorderTo_keep (swapOK_default ext) o m ⟨h, hs⟩).total.2

/-- from C07's state predicate and relation to a step of the history: a call `f` run under a
recorded schedule that — unless the model reports a mismatch — does not raise the signal, leaves
the reordering invariant and is `ReorderRel`-related to the state of the call -/
theorem step3_of_reorder {α : Type} (m : Mgr) (ext : Nat → Nat) (h : Good3 m ext) (sch : List SchedItem)
    (f : M α) (g : α → Res)
    (hk : (f { m with sched := sch }).1 ≠ .error .sched →
      (f { m with sched := sch }).1 ≠ .error .needsReordering ∧
      ReorderInv ext (f { m with sched := sch }).2 ∧
      ReorderRel ext { m with sched := sch } (f { m with sched := sch }).2)
    (hg : isSchedErr (f { m with sched := sch }).1 = false) :
    Step3 m ext ext (withSched sch f g m) ∧ ReorderRel ext m (withSched sch f g m).2 := by
  obtain ⟨hns, hR, hrel⟩ := hk (isSchedErr_false hg)
  -- seen from `m` itself: the schedule the call was given is not `m`'s, and what is left is dropped
  have hrel2 : ReorderRel ext m (withSched sch f g m).2 :=
    ⟨hrel.held, hrel.names, hrel.nvars, hrel.roots, hrel.ctx, hrel.lastLen, fun _ => rfl⟩
  have ⟨hG, hH⟩ := h.of_reorderRel (hR.setSched_rel [] fun _ => rfl).1 hrel2 rfl
  exact ⟨⟨hG, hH, congrArg Option.isSome hrel.lastLen, mapRes_noSignal g _ hns⟩, hrel2⟩

theorem KeepOr.reorder {α : Type} {Q : Mgr → Prop} {r : Except Err α × Mgr} (h : KeepOr SchedErr Q r)
    (hne : r.1 ≠ .error .sched) : r.1 ≠ .error .needsReordering ∧ Q r.2 :=
  have ⟨hq, hr⟩ := (keepOr_iff.mp h).sched hne
  ⟨fun hh => (hr _ hh).ne_signal rfl, hq⟩

theorem reorder_step3 (m : Mgr) (ext : Nat → Nat) (h : Good3 m ext) (op : UOp2) (hg : OpGuard2 m ext op)
    (hop : (∃ sch x y, op = .swap sch x y) ∨ (∃ sch, op = .sift sch) ∨ (∃ sch o, op = .reorderTo sch o)) :
    Step3 m ext ext (runOp2 op m) ∧ ReorderRel ext m (runOp2 op m).2 := by
  rcases hop with ⟨sch, x, y, rfl⟩ | ⟨sch, rfl⟩ | ⟨sch, o, rfl⟩
  · exact step3_of_reorder m ext h sch _ _ (swap_keep ext _ (h.reorderInv sch) x y).reorder hg
  · exact step3_of_reorder m ext h sch _ _ (sift_keep ext _ (h.reorderInv sch)).reorder hg
  · exact step3_of_reorder m ext h sch _ _ (reorderTo_keepR ext _ (h.reorderInv sch) o).reorder hg

/-- `undeclare_vars` with ANY names: refused with nothing changed, or the unused variables are
removed — levels compacted, same nodes, same counts, every reference with its function by name -/
theorem undeclare_step (m : Mgr) (ext : Nat → Nat) (h : Good3 m ext) (vrs : List String) :
    ((undeclareVars vrs m).1 = .error .value ∧ (undeclareVars vrs m).2 = m) ∨
    ((∃ rm, (undeclareVars vrs m).1 = .ok rm) ∧ Good3 (undeclareVars vrs m).2 ext ∧
      (undeclareVars vrs m).2.lastLen = m.lastLen ∧
      ∀ u, m.tbl.Mem u → (undeclareVars vrs m).2.tbl.Mem u ∧
        ∀ σ, denN (undeclareVars vrs m).2.tbl u σ = denN m.tbl u σ) := by
  rcases undeclare_cases m vrs with hbad | hok
  · left
    rw [undeclare_refuses m vrs hbad]
    exact ⟨rfl, rfl⟩
  · right
    have hfull := undeclFull_used m.tbl vrs
    rw [undeclare_ok m h.inv.wf.toWF h.order vrs hok]
    exact ⟨⟨_, rfl⟩, ⟨undeclState_inv m _ h.inv h.order hfull, (undeclState_order m _ h.order).1,
      h.exact.of_relabel (undeclState_relabel m _ h.inv.wf.toWF h.order hfull) rfl, h.ctx, h.sched, h.roots⟩,
      rfl, undeclState_denN m _ h.inv h.order hfull⟩

theorem undeclare_step3 (m : Mgr) (ext : Nat → Nat) (h : Good3 m ext) (vrs : List String) :
    Step3 m ext ext (mapRes (fun _ => Res.unit) (undeclareVars vrs m)) := by
  rcases undeclare_step m ext h vrs with ⟨h1, h2⟩ | ⟨⟨rm, h1⟩, hG, hl, hden⟩
  · rw [show undeclareVars vrs m = (.error .value, m) from Prod.ext h1 h2]
    exact step3_same h _ _ (by simp)
  · exact ⟨hG, fun u hu => hden u (h.exact.mem_of_ext_pos hu), congrArg Option.isSome hl,
      mapRes_noSignal _ _ (by rw [h1]; simp)⟩

/-! ### the decorator with fewer than two variables

The C09 / C17 theorems start from `DynInv` (two variables).  With fewer, a request that fired
would make `reorder(bdd)` raise — after its collection, nothing else touched (`sift_few_any`) —
and the decorator lets that exception through with `_last_len = None`.  The state is good all
the same and every held reference keeps its function: the history theorems need no guard.
Stated once from the reordering invariant outside a context (`tryToReorder_few_any`: any recorded
schedule, registered roots held), which every state between two calls satisfies; `Good3`,
`Good3S` (DDProofs.DynSchedFew) and `LoadStart` (DDProofs.LoadJson2Few) read it off. -/

/-- what a decorated call keeps when fewer than two variables are declared (the state is as between
two calls for the same ledger, whatever the number of variables) -/
structure FewKept (e : Nat → Nat) (m m' : Mgr) : Prop where
  inv : ReorderInv e m'
  ctx : m'.ctx = false
  nvars : m'.nvars = m.nvars
  names : ∀ s : String, m'.tbl.vars.contains s = m.tbl.vars.contains s
  roots : m'.roots = m.roots
  held : ∀ w, HeldX e w → m'.tbl.Mem w ∧ ∀ σ, denN m'.tbl w σ = denN m.tbl w σ
  /-- reordering is not switched ON (a failed sifting switches it off) -/
  switch : m'.lastLen.isSome = true → m.lastLen.isSome = true
  sched : m.sched = [] → m'.sched = []

theorem FewKept.ofStepK {e : Nat → Nat} {m m' : Mgr} (h : ReorderInv e m) (hc : m.ctx = false)
    (hs : StepK m m') : FewKept e m m' :=
  have hc' : m'.ctx = false := hs.frame.ctx.trans hc
  ⟨⟨hs.inv, h.order.frame hs.frame, (hs.keep e h.refExact).1, Or.inl hc',
      by rw [hs.frame.roots]; exact h.rootsHeld⟩, hc', hs.nvars, hs.names, hs.frame.roots,
    fun _ hw => hs.ext.byName hs.frame.l2v h.inv.wf.toWF (hw.mem h.refExact),
    fun hh => hs.frame.lastLen ▸ hh, fun h0 => hs.frame.sched.trans h0⟩

/-- the decorator around a body that accepts arbitrary arguments (`TotE`), fewer than two variables,
whatever the switch, ANY recorded schedule: never the signal, the manager is kept; `.sched` is the
answer of sifting (only with a recorded schedule) or the body's own -/
theorem tryToReorder_few_any {α : Type} (e : Nat → Nat) (f : M α)
    (hbody : ∀ m0 : Mgr, Inv m0 → m0.ctx = true → OrderOK m0.tbl → TotE m0 (f m0))
    (m : Mgr) (h : ReorderInv e m) (hc : m.ctx = false) (hfew : m.nvars < 2) :
    (tryToReorder f m).1 ≠ .error .needsReordering ∧ FewKept e m (tryToReorder f m).2 ∧
    ((tryToReorder f m).1 = .error .sched →
      m.sched ≠ [] ∨ (f { m with ctx := true }).1 = .error .sched) := by
  have h1 := hbody { m with ctx := true } (h.inv.setCtx true) rfl h.order
  rw [tryToReorder_outer f m hc]
  generalize f { m with ctx := true } = res at h1
  obtain ⟨r, m1⟩ := res
  have hs' : StepK m { m1 with ctx := m.ctx } := h1.1.ofCtx true
  have k := FewKept.ofStepK h hc hs'
  cases r with
  | ok a => exact ⟨nofun, k, nofun⟩
  | error er =>
    by_cases he : er = .needsReordering
    · -- the request fires: `_last_len = None`, sifting fewer than two variables raises
      have hR2 : ReorderInv e { m1 with ctx := m.ctx, lastLen := none } :=
        ⟨k.inv.inv.setLastLen none, k.inv.order, k.inv.refExact.congr rfl rfl, Or.inl k.ctx,
          k.inv.rootsHeld⟩
      obtain ⟨e', mb, hsift, he', hRb, hrel⟩ := sift_few_any e _ hR2
        (show m1.nvars < 2 by rw [show m1.nvars = m.nvars from k.nvars]; exact hfew)
      simp only [he, if_true, hsift]
      -- from `m` through the first attempt (`k`), then through the failed sifting (`hrel`)
      have kb : FewKept e m mb :=
        { inv := hRb
          ctx := hrel.ctx.trans k.ctx
          nvars := hrel.nvars.trans k.nvars
          names := fun s => (hrel.names s).trans (k.names s)
          roots := hrel.roots.trans k.roots
          held := fun w hw => byName_trans (k.held w hw)
            (hrel.held.heldX hR2.inv hRb.inv hR2.refExact hRb.refExact hw)
          switch := fun hh => by rw [hrel.lastLen] at hh; cases hh
          sched := fun h0 => hrel.sched (k.sched h0) }
      exact ⟨fun hh => by cases hh; exact he'.elim (fun hr => nomatch hr.1) (·.ne_signal rfl), kb,
        fun hh => Or.inl fun h0 => he'.elim (fun hr => hr.2 (hs'.frame.sched.trans h0))
          fun hr => hr.ne_sched (by cases hh; rfl)⟩
    · simp only [if_neg he]
      exact ⟨fun hh => by cases hh; exact he rfl, k, fun hh => Or.inr hh⟩

/-- the decorator around a body that accepts arbitrary arguments (`TotE`), with fewer
than two variables declared, whatever the switch -/
theorem tryToReorder_few {α : Type} (ext : Nat → Nat) (f : M α)
    (hbody : ∀ m0 : Mgr, Inv m0 → m0.ctx = true → OrderOK m0.tbl → TotE m0 (f m0))
    (m : Mgr) (h : Good3 m ext) (hfew : m.nvars < 2) : Few3 m ext (tryToReorder f m) := by
  obtain ⟨hn, k, _⟩ := tryToReorder_few_any ext f hbody m h.reorderInv_self h.ctx hfew
  exact ⟨⟨k.inv.inv, k.inv.order, k.inv.refExact, k.ctx, k.sched h.sched, k.roots.trans h.roots⟩,
    fun u hu => k.held u (Or.inr hu), hn⟩

theorem step3_of_dynTotal {α : Type} {m : Mgr} {ext : Nat → Nat} (h : Good3 m ext) (f : α → Res)
    (x : Except Err α × Mgr) (hd : DynTotal ext m x) : Step3 m ext ext (mapRes f x) :=
  ⟨hd.2.inv.good3 (hd.2.roots.trans h.roots), fun u hu => hd.2.held u (Or.inr hu), hd.2.enabled,
    mapRes_noSignal f x hd.1⟩

/-- `_try_to_reorder` around a body that accepts arbitrary arguments, from ANY good
state — reordering enabled or not, any number of variables -/
theorem tryToReorder_step4 {α : Type} (ext : Nat → Nat) (f : M α)
    (hbody : ∀ m0 : Mgr, Inv m0 → m0.ctx = true → TotE m0 (f m0))
    (m : Mgr) (h : Good3 m ext) (g : α → Res) : Step4 m ext ext (mapRes g (tryToReorder f m)) := by
  by_cases h2 : 2 ≤ m.nvars
  · exact (step3_of_dynTotal h g _ (tryToReorder_total_dyn ext f
      (fun m0 hI hc _ => hbody m0 hI hc) m (h.dynInv h2))).step4
  · -- fewer than two variables, the switch on or off (`tryToReorder_few_any`)
    obtain ⟨hns, k, _⟩ := tryToReorder_few_any ext f (fun m0 hI hc _ => hbody m0 hI hc) m
      h.reorderInv_self h.ctx (by omega)
    refine ⟨⟨k.inv.inv, k.inv.order, k.inv.refExact, k.ctx, k.sched h.sched, k.roots.trans h.roots⟩,
      fun u hu => k.held u (Or.inr hu), mapRes_noSignal g _ hns, fun hsafe => ?_⟩
    -- the switch was off, and a decorated call does not switch it on
    have hoff : m.lastLen.isSome = false := Bool.eq_false_iff.mpr fun h' => h2 (hsafe h')
    rw [hoff]
    exact Bool.eq_false_iff.mpr fun h' => by have := k.switch h'; rw [hoff] at this; cases this

theorem Decorated.step4 {m : Mgr} {ext : Nat → Nat} {x : Except Err Int × Mgr} (hd : Decorated m x)
    (h : Good3 m ext) (g : Int → Res) : Step4 m ext ext (mapRes g x) := by
  cases hd with
  | same r hr => exact (step3_same h g r hr).step4
  | body f hf => exact tryToReorder_step4 ext f hf m h g

/-- every operation of `UOp2`, every argument, accepted or rejected, any setting of the
switch, any number of variables; an operation that is not decorated does not touch the switch -/
theorem runOp2_stepL (m : Mgr) (ext : Nat → Nat) (h : Good3 m ext) (o : UOp2) (hg : OpGuard2 m ext o) :
    StepL m ext (ledger2 o m ext) (o.decorated = true → m.lastLen.isSome = true → 2 ≤ m.nvars)
      m.lastLen.isSome (runOp2 o m) := by
  cases o with
  | base b =>
    cases hdec : b.decorated with
    | true =>
      obtain ⟨x, hx, hd⟩ := runOp_decorated b hdec m
      show StepL m ext (ledger b m ext) _ _ (runOp b m)
      rw [hx, ledger_decorated b m ext hdec]
      exact (hd.step4 h _).stepL.weaken (fun hs => hs hdec)
    | false =>
      have hs := plain_step3 m ext h b hg hdec
      exact ⟨hs.good, hs.held, hs.noSignal, fun _ => hs.switch,
        fun e he => ⟨rejected_ledger m ext h.exact b hg e he, fun _ => hs.switch⟩, ledger_drop b m ext⟩
  | swap sch x y => exact (reorder_step3 m ext h (.swap sch x y) hg (Or.inl ⟨sch, x, y, rfl⟩)).1.stepL
  | sift sch => exact (reorder_step3 m ext h (.sift sch) hg (Or.inr (Or.inl ⟨sch, rfl⟩))).1.stepL
  | reorderTo sch o =>
    exact (reorder_step3 m ext h (.reorderTo sch o) hg (Or.inr (Or.inr ⟨sch, o, rfl⟩))).1.stepL
  | undeclare vrs => exact (undeclare_step3 m ext h vrs).stepL

theorem rejected2_ledger (m : Mgr) (ext : Nat → Nat) (op : UOp2) (h : Good2 m ext) (hg : OpGuard2 m ext op)
    (e : Err) (hrej : (runOp2 op m).1 = .error e) : ledger2 op m ext = ext :=
  ((runOp2_stepL m ext h.good3 op hg).rejected e hrej).1

/-- the ledger entry of `k` changes only by the user's own `incref` / `decref` of `k` -/
theorem ledger2_eq (op : UOp2) (m : Mgr) (ext : Nat → Nat) (k : Nat)
    (h : ∀ v : Int, v.natAbs = k → op ≠ .base (.incref v) ∧ op ≠ .base (.decref v)) :
    ledger2 op m ext k = ext k := by
  cases op with
  | base o =>
    cases o with
    | incref v =>
      show (if m.mem v then extInc ext v.natAbs else ext) k = ext k
      split
      · unfold extInc
        by_cases hk : k = v.natAbs
        · exact absurd rfl (h v hk.symm).1
        · simp only [hk, if_false]
      · rfl
    | decref v =>
      show (if m.mem v then extDec ext v.natAbs else ext) k = ext k
      split
      · unfold extDec
        by_cases hk : k = v.natAbs
        · exact absurd rfl (h v hk.symm).2
        · simp only [hk, if_false]
      · rfl
    | _ => rfl
  | _ => rfl

/-- every operation — reorderings included — with every argument, accepted or
rejected, leads from a good state to a good state -/
theorem step2_inv (m : Mgr) (ext : Nat → Nat) (op : UOp2) (h : Good2 m ext) (hg : OpGuard2 m ext op) :
    Good2 (runOp2 op m).2 (ledger2 op m ext) :=
  have hs := runOp2_stepL m ext h.good3 op hg
  hs.good.good2 (hs.off (fun _ hen => by rw [h.good.off] at hen; cases hen) h.good.off)

theorem step2_inv_eq {m m' : Mgr} {ext : Nat → Nat} {op : UOp2} {r : Except Err Res} (h : Good2 m ext)
    (he : runOp2 op m = (r, m')) (hg : OpGuard2 m ext op) : Good2 m' (ledger2 op m ext) := by
  have := step2_inv m ext op h hg
  rwa [he] at this

theorem step2_heldSame (m : Mgr) (ext : Nat → Nat) (op : UOp2) (h : Good2 m ext) (hg : OpGuard2 m ext op) :
    Held2 ext m (runOp2 op m).2 :=
  (runOp2_stepL m ext h.good3 op hg).held

theorem reorder_step (m : Mgr) (ext : Nat → Nat) (h : Good2 m ext) (op : UOp2) (hg : OpGuard2 m ext op)
    (hop : (∃ sch x y, op = .swap sch x y) ∨ (∃ sch, op = .sift sch) ∨ (∃ sch o, op = .reorderTo sch o)) :
    Good2 (runOp2 op m).2 ext ∧ ReorderRel ext m (runOp2 op m).2 :=
  have hs := reorder_step3 m ext h.good3 op hg hop
  ⟨hs.1.good.good2 (hs.2.lastLen.trans h.good.off), hs.2⟩

/-- a call that raises declares and removes no variable: an embedded operation has only added
nodes, a reordering keeps the names, and `undeclare_vars` raises before it removes anything -/
theorem rejected2_names (m : Mgr) (ext : Nat → Nat) (op : UOp2) (h : Good2 m ext) (hg : OpGuard2 m ext op)
    (e : Err) (hrej : (runOp2 op m).1 = .error e) (s : String) :
    (runOp2 op m).2.tbl.vars.contains s = m.tbl.vars.contains s := by
  cases op with
  | base o =>
    show (runOp o m).2.tbl.vars.contains s = _
    rw [(rejected_kept m ext o h.good hg e hrej).1.frame.vars]
  | swap sch x y => exact (reorder_step m ext h _ hg (Or.inl ⟨sch, x, y, rfl⟩)).2.names s
  | sift sch => exact (reorder_step m ext h _ hg (Or.inr (Or.inl ⟨sch, rfl⟩))).2.names s
  | reorderTo sch o => exact (reorder_step m ext h _ hg (Or.inr (Or.inr ⟨sch, o, rfl⟩))).2.names s
  | undeclare vrs =>
    show (undeclareVars vrs m).2.tbl.vars.contains s = _
    rcases undeclare_step m ext h.good3 vrs with ⟨-, he⟩ | ⟨⟨rm, hok⟩, -⟩
    · rw [he]
    · have := mapRes_error hrej
      rw [hok] at this
      cases this

/-- across EVERY step — a reordering, a collection, a rejected call, the user's
own `decref` — a reference `u` the user holds (ledger > 0) is a node before and after, under the
same number, denotes the same function of the variable NAMES, and its counter is again
`stored edges + the user's references (+ 1 for the terminal)` for the ledger after the step -/
theorem step2_held (m : Mgr) (ext : Nat → Nat) (op : UOp2) (h : Good2 m ext) (hg : OpGuard2 m ext op)
    (u : Int) (hu : 0 < ext u.natAbs) :
    m.tbl.Mem u ∧ (runOp2 op m).2.tbl.Mem u ∧
    (∀ σ, denN (runOp2 op m).2.tbl u σ = denN m.tbl u σ) ∧
    (runOp2 op m).2.ref[u.natAbs]? =
      some (indeg (runOp2 op m).2.tbl u.natAbs + ledger2 op m ext u.natAbs +
        (if u.natAbs = 1 then 1 else 0)) := by
  obtain ⟨hm', hd⟩ := step2_heldSame m ext op h hg u hu
  exact ⟨h.good.exact.mem_of_ext_pos hu, hm', hd, (step2_inv m ext op h hg).good.exact.get hm'⟩

/-- over any alphabet: if every guarded step keeps what the user holds (`Held2`), a reference the
user holds in every state of a guarded history is a node at the end, with the function of the
variable NAMES it had at the start -/
theorem Hist.run_held2 {Op : Type} (H : Hist Op St) {Good : St → Prop}
    (hstep : ∀ s o, Good s → H.Guard s o → Good (H.step o s))
    (hexact : ∀ s, Good s → RefExact s.m s.ext)
    (hkeep : ∀ s o, Good s → H.Guard s o → Held2 s.ext s.m (H.step o s).m)
    (ops : List Op) (s : St) (h : Good s) (hg : H.Guarded ops s) (u : Int)
    (hheld : ∀ pre post : List Op, ops = pre ++ post → 0 < (H.run pre s).ext u.natAbs) :
    (H.run ops s).m.tbl.Mem u ∧ ∀ σ, denN (H.run ops s).m.tbl u σ = denN s.m.tbl u σ :=
  H.run_kept (P := fun s => 0 < s.ext u.natAbs)
    (K := fun s t => t.m.tbl.Mem u ∧ ∀ σ, denN t.m.tbl u σ = denN s.m.tbl u σ) hstep
    (fun s h hp => ⟨(hexact s h).mem_of_ext_pos hp, fun _ => rfl⟩)
    (fun s o _ h hg hp ht => byName_trans (hkeep s o h hg u hp) ht)
    ops s h hg hheld

/-- "every route, across time and orders": a reference `u` held since the prefix `pre`; ANY guarded
continuation that ends with a node `v` denoting, by name, what `u` denoted then has `v = u` -/
theorem Hist.routes_agree {Op : Type} (H : Hist Op St) {Good : St → Prop}
    (hstep : ∀ s o, Good s → H.Guard s o → Good (H.step o s))
    (hgood : ∀ s, Good s → Good3 s.m s.ext)
    (hkeep : ∀ s o, Good s → H.Guard s o → Held2 s.ext s.m (H.step o s).m)
    (pre post : List Op) (s : St) (h : Good s) (hg : H.Guarded (pre ++ post) s) (u v : Int)
    (hheld : ∀ p q, post = p ++ q → 0 < (H.run p (H.run pre s)).ext u.natAbs)
    (hv : (H.run (pre ++ post) s).m.tbl.Mem v)
    (hsame : ∀ σ, denN (H.run (pre ++ post) s).m.tbl v σ = denN (H.run pre s).m.tbl u σ) : v = u := by
  have hg' := (H.guarded_append pre post s).mp hg
  obtain ⟨hm, hd⟩ := H.run_held2 hstep (fun s h => (hgood s h).exact) hkeep post (H.run pre s)
    (H.run_inv hstep pre s h hg'.1) hg'.2 u hheld
  rw [← H.run_append] at hm hd
  exact ((hgood _ (H.run_inv hstep (pre ++ post) s h hg)).canonical v u hv hm).1.mp
    (fun σ => (hsame σ).trans (hd σ).symm)

def hist2 : Hist UOp2 St where
  step := step2
  Guard s := OpGuard2 s.m s.ext
  run := run2
  Guarded := Ops2Guarded
  run_nil _ := rfl
  run_cons _ _ _ := rfl
  guarded_nil _ := trivial
  guarded_cons _ _ _ := Iff.rfl

theorem run2_append (a b : List UOp2) (s : St) : run2 (a ++ b) s = run2 b (run2 a s) :=
  hist2.run_append a b s

theorem ops2Guarded_append (a b : List UOp2) (s : St) :
    Ops2Guarded (a ++ b) s ↔ (Ops2Guarded a s ∧ Ops2Guarded b (run2 a s)) :=
  hist2.guarded_append a b s

theorem ops2Guarded_take (k : Nat) {ops : List UOp2} {s : St} (h : Ops2Guarded ops s) :
    Ops2Guarded (ops.take k) s :=
  hist2.guarded_take k h

theorem run2_base (ops : List UOp) (s : St) : run2 (ops.map .base) s = run ops s :=
  hist2.run_map hist .base (fun _ _ => rfl) ops s

theorem ops2Guarded_base (ops : List UOp) (s : St) :
    Ops2Guarded (ops.map .base) s ↔ OpsGuarded ops s :=
  hist2.guarded_map hist .base (fun _ _ => rfl) (fun _ _ => Iff.rfl) ops s

theorem run2_inv (ops : List UOp2) (s : St) (h : Good2 s.m s.ext) (hg : Ops2Guarded ops s) :
    Good2 (run2 ops s).m (run2 ops s).ext :=
  hist2.run_inv (Good := fun s => Good2 s.m s.ext) (fun s o h hg => step2_inv s.m s.ext o h hg)
    ops s h hg

/-- every state reached from the empty manager by a guarded history of user
operations, collections, level swaps, siftings, reorderings to a given order, declarations and
removals of variables — whatever their arguments, whichever of them were rejected — is good. -/
theorem reachable2_inv (ops : List UOp2) (hg : Ops2Guarded ops St.init) :
    Good2 (run2 ops St.init).m (run2 ops St.init).ext :=
  run2_inv ops St.init Good2.init hg

/-- a reference the user holds and does not release stays a node and keeps its function of the
variable NAMES through ANY guarded continuation of the history, reorderings included -/
theorem run2_held (ops : List UOp2) (s : St) (h : Good2 s.m s.ext) (hg : Ops2Guarded ops s) (u : Int)
    (hheld : ∀ (pre post : List UOp2), ops = pre ++ post → 0 < (run2 pre s).ext u.natAbs) :
    (run2 ops s).m.tbl.Mem u ∧ ∀ σ, denN (run2 ops s).m.tbl u σ = denN s.m.tbl u σ :=
  hist2.run_held2 (Good := fun s => Good2 s.m s.ext) (fun s o h hg => step2_inv s.m s.ext o h hg)
    (fun _ h => h.good.exact) (fun s o h hg => step2_heldSame s.m s.ext o h hg) ops s h hg u hheld

/-- with the default iteration order (`sch = []`) the guard of a reordering call holds in every
good state: the obligations on reorderings are about recorded schedules only -/
theorem guard2_default (m : Mgr) (ext : Nat → Nat) (h : Good2 m ext) :
    (∀ x y, OpGuard2 m ext (.swap [] x y)) ∧ OpGuard2 m ext (.sift []) ∧
    (∀ o, OpGuard2 m ext (.reorderTo [] o)) ∧ (∀ vrs, OpGuard2 m ext (.undeclare vrs)) := by
  obtain ⟨a, b, c⟩ := no_sched_report ext { m with sched := [] } (h.good3.reorderInv []) rfl
  exact ⟨fun x y => a x y, b, fun o => c o, fun _ => trivial⟩

end DD
