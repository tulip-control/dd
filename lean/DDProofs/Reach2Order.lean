/-
  DDProofs.Reach2Order — the explicit reordering calls with ARBITRARY arguments, as steps of a
  history.  C07 states what the calls do on good arguments (`OkOrSched`: returned with the
  postcondition, or the model's own schedule-mismatch report).  Here: whatever the arguments, the
  call either is such a report, or — returned OR RAISED, possibly half-way through a bubble sort —
  leaves a state in which the reordering invariant holds and every held reference means what it
  meant (`KeepOr`).  All statements are generic in the contract `SwapOK E P R` of an adjacent swap,
  so they hold for every recorded schedule (`E` = schedule report) and, with no recorded schedule,
  without any exception of the model (`E` = nothing).  `reorder_to_pairs` with any dictionary, the
  same way, at the end (`KeepG`: its refusals are `ValueError` and `AssertionError`, `PairErr`).
-/
import DDProofs.SwapDrivers
import DDProofs.SmallReorder
import DDProofs.ShiftAbs
open Std

namespace DD

/-- the exceptions a refused reordering call raises: `ValueError`, `KeyError`, and the
`UnboundLocalError` of sifting a manager without variables — never an assertion, never the
internal signal -/
def RejErr (e : Err) : Prop := e = .value ∨ e = .key ∨ e = .other

theorem RejErr.ne_sched {e : Err} (h : RejErr e) : e ≠ .sched := by
  rcases h with rfl | rfl | rfl <;> decide

theorem RejErr.ne_signal {e : Err} (h : RejErr e) : e ≠ .needsReordering := by
  rcases h with rfl | rfl | rfl <;> decide

/-- the call ended with an exception in `E`, or — returned, or raised one of `RejErr` — in a
state satisfying `Q` -/
def KeepOr {α} (E : Err → Prop) (Q : Mgr → Prop) : Except Err α × Mgr → Prop
  | (.ok _, m') => Q m'
  | (.error e, m') => E e ∨ (RejErr e ∧ Q m')

/-- the same with the set `Rj` of admissible exceptions a parameter -/
def KeepG {α} (E Rj : Err → Prop) (Q : Mgr → Prop) : Except Err α × Mgr → Prop
  | (.ok _, m') => Q m'
  | (.error e, m') => E e ∨ (Rj e ∧ Q m')

theorem KeepG.of_okOr {α} {E Rj : Err → Prop} {Q : α → Mgr → Prop} {Q' : Mgr → Prop}
    {r : Except Err α × Mgr} (h : OkOr E Q r) (hq : ∀ a m', Q a m' → Q' m') : KeepG E Rj Q' r :=
  Ends.imp h hq fun _ _ he => Or.inl he

theorem KeepG.mono {α} {E Rj : Err → Prop} {Q Q' : Mgr → Prop} {r : Except Err α × Mgr}
    (h : KeepG E Rj Q r) (hq : ∀ m', Q m' → Q' m') : KeepG E Rj Q' r :=
  Ends.imp h (fun _ => hq) fun _ m' he => he.imp id fun ⟨a, b⟩ => ⟨a, hq m' b⟩

theorem KeepG.err {α} {E Rj : Err → Prop} {Q : Mgr → Prop} {e : Err} {m' : Mgr} (he : Rj e)
    (hq : Q m') : KeepG E Rj Q ((.error e, m') : Except Err α × Mgr) := Or.inr ⟨he, hq⟩

theorem KeepG.bind {α β} {E Rj : Err → Prop} {x : M α} {f : α → M β} {m : Mgr} {Q Q' : Mgr → Prop}
    (hx : KeepG E Rj Q (x m)) (hq : ∀ m1, Q m1 → Q' m1)
    (hf : ∀ a m1, x m = (.ok a, m1) → Q m1 → KeepG E Rj Q' (f a m1)) :
    KeepG E Rj Q' ((x >>= f) m) :=
  Ends.bind (Ends.imp hx (fun _ _ q => q) fun _ m1 he => he.imp id fun ⟨a, b⟩ => ⟨a, hq m1 b⟩) hf

/-- unless the call ended with an exception in `E`: `Q` holds, and what was raised is in `Rj` -/
theorem KeepG.unless {α} {E Rj : Err → Prop} {Q : Mgr → Prop} {r : Except Err α × Mgr}
    (h : KeepG E Rj Q r) (hne : ∀ e, r.1 = .error e → ¬ E e) :
    Q r.2 ∧ ∀ e, r.1 = .error e → Rj e := by
  obtain ⟨r, m'⟩ := r
  cases r with
  | ok a => exact ⟨h, fun e he => by cases he⟩
  | error e =>
    rcases h with h | ⟨h1, h2⟩
    · exact absurd h (hne e rfl)
    · exact ⟨h2, fun e' he => by cases he; exact h1⟩

theorem KeepG.sched {α} {Rj : Err → Prop} {Q : Mgr → Prop} {r : Except Err α × Mgr}
    (h : KeepG SchedErr Rj Q r) (hne : r.1 ≠ .error .sched) :
    Q r.2 ∧ ∀ e, r.1 = .error e → Rj e :=
  h.unless fun e he hs => hne (by rw [he, show e = Err.sched from hs])

theorem KeepG.total {α} {Rj : Err → Prop} {Q : Mgr → Prop} {r : Except Err α × Mgr}
    (h : KeepG NoErr Rj Q r) : Q r.2 ∧ ∀ e, r.1 = .error e → Rj e :=
  h.unless fun _ _ => id

theorem keepOr_iff {α} {E : Err → Prop} {Q : Mgr → Prop} {r : Except Err α × Mgr} :
    KeepOr E Q r ↔ KeepG E RejErr Q r := by
  obtain ⟨r, m'⟩ := r
  cases r <;> exact Iff.rfl

theorem KeepOr.of_okOr {α} {E : Err → Prop} {Q : α → Mgr → Prop} {Q' : Mgr → Prop}
    {r : Except Err α × Mgr} (h : OkOr E Q r) (hq : ∀ a m', Q a m' → Q' m') : KeepOr E Q' r :=
  keepOr_iff.mpr (KeepG.of_okOr h hq)

theorem KeepOr.mono {α} {E : Err → Prop} {Q Q' : Mgr → Prop} {r : Except Err α × Mgr}
    (h : KeepOr E Q r) (hq : ∀ m', Q m' → Q' m') : KeepOr E Q' r :=
  keepOr_iff.mpr ((keepOr_iff.mp h).mono hq)

theorem KeepOr.err {α} {E : Err → Prop} {Q : Mgr → Prop} {e : Err} {m' : Mgr} (he : RejErr e)
    (hq : Q m') : KeepOr E Q ((.error e, m') : Except Err α × Mgr) := Or.inr ⟨he, hq⟩

theorem KeepOr.total {α} {Q : Mgr → Prop} {r : Except Err α × Mgr} (h : KeepOr NoErr Q r) :
    Q r.2 ∧ r.1 ≠ .error .sched :=
  have ⟨hq, hr⟩ := (keepOr_iff.mp h).total
  ⟨hq, fun hh => (hr _ hh).ne_sched rfl⟩

theorem KeepOr.rejErr {α} {Q : Mgr → Prop} {r : Except Err α × Mgr} (h : KeepOr SchedErr Q r)
    (e : Err) (he : r.1 = .error e) : e = .sched ∨ RejErr e := by
  obtain ⟨r, m'⟩ := r
  cases r with
  | ok a => cases he
  | error e' =>
    cases he
    exact h.imp id (fun h => h.1)

theorem OkOrKey.keepOr {α} {E : Err → Prop} {Q : Mgr → Prop} {r : Except Err α × Mgr}
    (h : OkOrKey E Q r) : KeepOr E Q r :=
  Ends.imp h (fun _ _ q => q) fun _ _ he => he.imp_right fun ⟨he, hq⟩ => ⟨Or.inr (Or.inl he), hq⟩

section Abs
variable {E : Err → Prop} {P : Mgr → Prop} {R : Mgr → Mgr → Prop}

/-- `reorder(bdd, order)` with ANY `order` (wrong length, names missing, ranks repeated or
out of range): returned or raised, after however many swaps, the state satisfies `P` and is
`R`-related to the state of the call -/
theorem reorderTo_keep (S : SwapOK E P R) (order : List (String × Int)) (m : Mgr) (hP : P m) :
    KeepOr E (fun m' => P m' ∧ R m m' ∧ m'.nvars = m.nvars) (reorder (some order) m) := by
  by_cases hne : m.nvars ≠ order.length
  · rw [reorder_bad_length m order hne]
    exact KeepOr.err (Or.inl rfl) ⟨hP, S.refl m, rfl⟩
  · exact (sortToOrder_any S order m hP (by omega)).keepOr

theorem resolveVL_cases (a : VarOrLevel) (m : Mgr) :
    (∃ i : Int, resolveVL a m = (.ok i, m) ∧ ∀ n : Nat, i = (n : Int) → Resolves m a n) ∨
    resolveVL a m = (.error .value, m) := by
  cases a with
  | name s =>
    cases hs : m.tbl.vars[s]? with
    | none =>
      right
      unfold resolveVL
      simp only [M.bind_eq, M.get_eq, hs, M.ofOption_none]
    | some l =>
      left
      refine ⟨(l : Int), ?_, ?_⟩
      · unfold resolveVL
        simp only [M.bind_eq, M.get_eq, hs, M.ofOption_some, M.pure_eq]
      · intro n hn
        have : l = n := by omega
        subst this
        exact hs
  | level j =>
    left
    exact ⟨j, rfl, fun n hn => hn⟩

/-- only the values of the two arguments matter -/
theorem swap_given_congr (m : Mgr) (xa ya : VarOrLevel) (x y : Int)
    (hx : resolveVL xa m = (.ok x, m)) (hy : resolveVL ya m = (.ok y, m)) :
    swap xa ya true m = swap (.level x) (.level y) true m := by
  have hx' : resolveVL (.level x) m = (.ok x, m) := rfl
  have hy' : resolveVL (.level y) m = (.ok y, m) := rfl
  unfold swap
  simp only [Bool.not_true, Bool.false_eq_true, if_false]
  rw [M.bind_ok hx, M.bind_ok hy, M.bind_ok hx', M.bind_ok hy']

theorem swap_given_unresolved_left (m : Mgr) (xa ya : VarOrLevel)
    (hx : resolveVL xa m = (.error .value, m)) : swap xa ya true m = (.error .value, m) := by
  unfold swap
  simp only [Bool.not_true, Bool.false_eq_true, if_false]
  rw [M.bind_err hx]

theorem swap_given_unresolved_right (m : Mgr) (xa ya : VarOrLevel) (x : Int)
    (hx : resolveVL xa m = (.ok x, m)) (hy : resolveVL ya m = (.error .value, m)) :
    swap xa ya true m = (.error .value, m) := by
  unfold swap
  simp only [Bool.not_true, Bool.false_eq_true, if_false]
  rw [M.bind_ok hx, M.bind_err hy]

/-- `swap(x, y, levels)`: the arguments denote two adjacent valid levels (in either order), or
the call raises `ValueError` and nothing changes -/
theorem swap_given_cases (m : Mgr) (xa ya : VarOrLevel) :
    (∃ x a b : Nat, x + 1 < m.nvars ∧ Resolves m xa a ∧ Resolves m ya b ∧
      ((a = x ∧ b = x + 1) ∨ (a = x + 1 ∧ b = x))) ∨
    swap xa ya true m = (.error .value, m) := by
  rcases resolveVL_cases xa m with ⟨x, hx, hrx⟩ | hx
  · rcases resolveVL_cases ya m with ⟨y, hy, hry⟩ | hy
    · by_cases hgood : 0 ≤ x ∧ x < m.nvars ∧ 0 ≤ y ∧ y < m.nvars ∧ (y - x = 1 ∨ x - y = 1)
      · left
        obtain ⟨h1, h2, h3, h4, h5⟩ := hgood
        rcases h5 with h5 | h5
        · exact ⟨x.toNat, x.toNat, y.toNat, by omega, hrx _ (by omega), hry _ (by omega),
            Or.inl ⟨rfl, by omega⟩⟩
        · exact ⟨y.toNat, x.toNat, y.toNat, by omega, hrx _ (by omega), hry _ (by omega),
            Or.inr ⟨by omega, rfl⟩⟩
      · right
        rw [swap_given_congr m xa ya x y hx hy]
        exact swap_given_bad_levels m x y hgood
    · right; exact swap_given_unresolved_right m xa ya x hx hy
  · right; exact swap_given_unresolved_left m xa ya hx

/-- `bdd.swap(x, y)` with ANY arguments: the full collection runs first; then either the two
adjacent levels are exchanged, or `ValueError` is raised in the state left by the collection -/
theorem swapPublic_keep (S : SwapOK E P R) (m : Mgr) (xa ya : VarOrLevel)
    (hgc : ∃ mg, collectGarbage none m = (.ok (), mg) ∧ P mg ∧ R m mg) :
    KeepOr E (fun m' => P m' ∧ R m m') (swap xa ya false m) := by
  obtain ⟨mg, hrun, hPg, hRg⟩ := hgc
  rw [swap_public_eq, M.bind_ok hrun]
  rcases swap_given_cases mg xa ya with ⟨x, a, b, hx, ha, hb, hab⟩ | hbad
  · rw [swap_eq_body mg xa ya x a b hx ha hb hab]
    refine KeepOr.of_okOr (S.step mg x hPg hx) ?_
    intro r m' ⟨hP', hR', _, _⟩
    exact ⟨hP', S.trans _ _ _ hRg hR'⟩
  · rw [hbad]
    exact KeepOr.err (Or.inl rfl) ⟨hPg, hRg⟩

end Abs

theorem shift_same (m : Mgr) (s : Nat) (hs : s < m.nvars) : shift s s m = (.ok [], m) := by
  unfold shift
  simp only [M.bind_eq, M.get_eq, hs, decide_true, M.assert_true]
  show shiftLoop (m.nvars + 1) (s : Int) (s : Int) _ [] m = _
  unfold shiftLoop
  simp only [if_true, M.pure_eq]

/-- with exactly one variable `_reorder_var` calls `min` on an empty dict: `ValueError`, nothing
changed (`sift_single_variable_raises`, for every manager) -/
theorem reorderVar_one (m : Mgr) (hO : OrderOK m.tbl) (h1 : m.nvars = 1) (var : String)
    (hv : m.tbl.vars.contains var = true) : reorderVar var m = (.error .value, m) := by
  obtain ⟨l, hl⟩ : ∃ l, m.tbl.vars[var]? = some l := by
    rw [TreeMap.contains_eq_isSome_getElem?] at hv
    exact Option.isSome_iff_exists.mp hv
  have hl0 : l = 0 := by
    have := hO.lt var l hl
    have : m.nvars = m.tbl.nvars := rfl
    omega
  subst hl0
  have hpos : 0 < m.nvars := by omega
  have ha : M.assert (decide (0 < m.nvars)) .assertion m = (.ok (), m) := by
    simp only [hpos, decide_true, M.assert_true]
  unfold reorderVar
  rw [M.bind_ok (M.get_eq m)]
  simp only [hv, Bool.not_true, Bool.false_eq_true, if_false]
  rw [M.bind_ok ha, M.bind_ok (levelOfVar_ok m var 0 hl)]
  simp only [h1, Nat.sub_self, Nat.mul_zero, ge_iff_le, Nat.le_refl, if_true]
  rw [M.bind_ok (shift_same m 0 hpos), M.bind_ok (shift_same m 0 hpos)]
  simp only [argMin, M.ofOption_none, M.bind_eq]

/-- `reorder(bdd)` with fewer than two variables: after the collection the call raises
(`ValueError` with one variable, `UnboundLocalError` with none) in the state left by the
collection, up to the consumed schedule; the only source of the schedule report is
`takeSiftOrder`, which succeeds without a recorded schedule -/
theorem sift_few_outcome (m mg : Mgr) (hgc : collectGarbage none m = (.ok (), mg))
    (hO : OrderOK mg.tbl) (hfew : mg.nvars < 2) :
    (∃ e mb, reorder none m = (.error e, mb) ∧
      ((e = .sched ∧ mg.sched ≠ []) ∨
        (RejErr e ∧ ∃ s, mb = { mg with sched := s } ∧ (mg.sched = [] → s = [])))) := by
  show ∃ e mb, applySifting m = (.error e, mb) ∧ _
  unfold applySifting
  rw [M.bind_ok hgc, M.bind_ok (M.get_eq mg)]
  have hord := takeSiftOrder_run mg
  generalize hres : takeSiftOrder mg = res at hord
  obtain ⟨r, mb⟩ := res
  cases r with
  | error e =>
    rw [M.bind_err hres]
    exact ⟨e, mb, rfl, Or.inl ⟨hord.1, hord.2.1⟩⟩
  | ok names =>
    obtain ⟨⟨s, hsuf, rfl⟩, hlen, hdecl⟩ := hord
    have hs0 : mg.sched = [] → s = [] := fun h0 => List.suffix_nil.mp (h0 ▸ hsuf)
    rw [M.bind_ok hres]
    have hsz : mg.nvars = mg.tbl.vars.size := rfl
    cases names with
    | nil =>
      simp only [List.isEmpty_nil, if_true]
      exact ⟨.other, _, rfl, Or.inr ⟨Or.inr (Or.inr rfl), s, rfl, hs0⟩⟩
    | cons v rest =>
      have hrest : rest = [] := by
        cases rest with
        | nil => rfl
        | cons w r2 => simp only [List.length_cons] at hlen; omega
      subst hrest
      have h1 : ({ mg with sched := s } : Mgr).nvars = 1 := by
        show mg.nvars = 1
        simp only [List.length_cons, List.length_nil] at hlen
        omega
      have hrv := reorderVar_one { mg with sched := s } hO h1 v (hdecl v List.mem_cons_self)
      simp only [List.isEmpty_cons, Bool.false_eq_true, if_false]
      unfold siftVars
      rw [M.bind_err (M.bind_err hrv)]
      exact ⟨.value, _, rfl, Or.inr ⟨Or.inl rfl, s, rfl, hs0⟩⟩

/-- `order` has one entry per declared variable, names every level's variable, all ranks are in
`0..n-1` and no two names share a rank -/
def reqOrderB (order : List (String × Int)) (m : Mgr) : Bool :=
  decide (order.length = m.nvars) &&
  (List.range m.nvars).all (fun i => match m.tbl.l2v[i]? with
    | some v => (order.lookup v).isSome
    | none => false) &&
  order.all (fun p => decide (0 ≤ p.2) && decide (p.2 < (m.nvars : Int))) &&
  order.all (fun p => order.all (fun p' => p.2 != p'.2 || p.1 == p'.1))

theorem reqOrder_of_check {order : List (String × Int)} {m : Mgr} (h : reqOrderB order m = true) :
    ReqOrder order m := by
  unfold reqOrderB at h
  simp only [Bool.and_eq_true, decide_eq_true_eq, List.all_eq_true] at h
  obtain ⟨⟨⟨hlen, hcov⟩, hrange⟩, hinj⟩ := h
  refine ⟨hlen, ?_, ?_, ?_⟩
  · intro i hi
    have := hcov i (List.mem_range.mpr hi)
    cases hl : m.tbl.l2v[i]? with
    | none => rw [hl] at this; cases this
    | some v =>
      rw [hl] at this
      obtain ⟨p, hp⟩ := Option.isSome_iff_exists.mp this
      exact ⟨v, p, rfl, hp⟩
  · intro v p hp
    have := hrange (v, p) (lookup_some_mem _ _ _ hp)
    simp only [Bool.and_eq_true, decide_eq_true_eq] at this
    exact this
  · intro v v' p hp hp'
    have := hinj (v, p) (lookup_some_mem _ _ _ hp) (v', p) (lookup_some_mem _ _ _ hp')
    simp only [bne_self_eq_false, Bool.false_or, beq_iff_eq] at this
    exact this

/-! ### `reorder_to_pairs(bdd, pairs)`, any dictionary: an undeclared name is a `ValueError`, a
variable paired with itself an `AssertionError` (`if k <= 0: raise AssertionError`), both possibly
after some pairs were already made adjacent -/

/-- the exceptions of a refused `reorder_to_pairs`: `ValueError` (undeclared name),
`AssertionError` (a variable paired with itself) -/
def PairErr (e : Err) : Prop := e = .value ∨ e = .assertion

theorem PairErr.ne_sched {e : Err} (h : PairErr e) : e ≠ .sched := by
  rcases h with rfl | rfl <;> decide

theorem PairErr.ne_signal {e : Err} (h : PairErr e) : e ≠ .needsReordering := by
  rcases h with rfl | rfl <;> decide

section Abs
variable {E : Err → Prop} {P : Mgr → Prop} {R : Mgr → Mgr → Prop}

theorem levelOfVar_cases (v : String) (m : Mgr) :
    (∃ i, m.tbl.vars[v]? = some i ∧ levelOfVar v m = (.ok i, m)) ∨
    levelOfVar v m = (.error .value, m) := by
  cases h : m.tbl.vars[v]? with
  | some i => exact Or.inl ⟨i, rfl, levelOfVar_ok m v i h⟩
  | none =>
    right
    unfold levelOfVar
    simp only [M.bind_eq, M.get_eq, h, M.ofOption_none]

theorem pairStep_keep (S : SwapOK E P R) (m : Mgr) (hP : P m) (x y : String) :
    KeepG E PairErr (fun m' => P m' ∧ R m m') (pairStep x y m) := by
  have hO := S.vars m hP
  have here : P m ∧ R m m := ⟨hP, S.refl m⟩
  unfold pairStep
  rcases levelOfVar_cases x m with ⟨jx, hjx, hx⟩ | hx
  · rw [M.bind_ok hx]
    rcases levelOfVar_cases y m with ⟨jy, hjy, hy⟩ | hy
    · rw [M.bind_ok hy]
      have hlx : jx < m.nvars := hO.lt x jx hjx
      have hly : jy < m.nvars := hO.lt y jy hjy
      by_cases hk : 0 < (if jx ≤ jy then jy - jx else jx - jy)
      · simp only [hk, decide_true, M.assert_true, M.bind_eq]
        by_cases h1 : (if jx ≤ jy then jy - jx else jx - jy) ≠ 1
        · simp only [h1, ne_eq, not_false_eq_true, if_true]
          by_cases hgt : jx > jy
          · simp only [hgt, if_true]
            refine KeepG.of_okOr (Q := fun _ m' => P m' ∧ R m m')
              (OkOr.bind (shift_order S m hP jy (jx - 1) hly (by omega)) ?_) (fun _ _ hq => hq)
            intro _ m' hp
            exact ⟨hp.1, hp.2.1⟩
          · simp only [hgt, if_false]
            refine KeepG.of_okOr (Q := fun _ m' => P m' ∧ R m m')
              (OkOr.bind (shift_order S m hP jx (jy - 1) hlx (by omega)) ?_) (fun _ _ hq => hq)
            intro _ m' hp
            exact ⟨hp.1, hp.2.1⟩
        · simp only [h1, if_false]
          exact here
      · simp only [hk, decide_false, M.assert_false, M.bind_eq]
        exact KeepG.err (Or.inr rfl) here
    · rw [M.bind_err hy]
      exact KeepG.err (Or.inl rfl) here
  · rw [M.bind_err hx]
    exact KeepG.err (Or.inl rfl) here

/-- `reorder_to_pairs(bdd, pairs)` with ANY `pairs`: returned or raised, after however many
shifts, the state satisfies `P` and is `R`-related to the state of the call -/
theorem reorderToPairs_keep (S : SwapOK E P R) :
    ∀ (pairs : List (String × String)) (m : Mgr), P m →
    KeepG E PairErr (fun m' => P m' ∧ R m m') (reorderToPairs pairs m) := by
  intro pairs
  induction pairs with
  | nil => intro m hP; exact ⟨hP, S.refl m⟩
  | cons p rest ih =>
    intro m hP
    obtain ⟨x, y⟩ := p
    unfold reorderToPairs
    refine KeepG.bind (pairStep_keep S m hP x y) (fun _ h => h) ?_
    intro _ m1 _ ⟨hP1, hR1⟩
    exact (ih m1 hP1).mono (fun m2 ⟨hP2, hR2⟩ => ⟨hP2, S.trans _ _ _ hR1 hR2⟩)

end Abs

end DD
