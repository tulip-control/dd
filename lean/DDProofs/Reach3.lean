/-
  DDProofs.Reach3 — "for EVERY history", dynamic reordering switched ON and OFF in the history.

  `UOp3` (DDProofs.Calls) = the operations `UOp2` (user operations, explicit reorderings,
  removal of variables; arbitrary arguments) plus `configure(reordering=b)`.  Once reordering is
  enabled, the decorated operations (`var`, `ite`, `apply`, `cofactor`, `quantify`, `compose`,
  `rename`, `let`) run with `_last_len` set: a reordering request may fire at any node creation,
  the attempt is aborted, the manager sifted, the body run again.

  Invariant: `Good3` of DDProofs.Reach2 (`Good2` without the clause on `_last_len`): `Inv`,
  `OrderOK`, `RefExact` for the ghost ledger, not inside a context, no schedule left, no registered
  roots.  Guards (`OpGuard3`): those of `UOp2`, NOTHING else.  In particular NOT a guard:
  * "the operands are held" — for the invariant and for the references the user does hold it does
    not matter what the operands are (C17); that documented obligation of dynamic reordering only
    appears where the RESULT is described (DDProps.Histories2, `C09_every_history`);
  * "two variables are declared" — the C09 / C17 theorems about the decorator assume it (sifting
    one variable makes the code raise `ValueError`, C07 `sift_single_variable_raises`); with fewer
    variables a request that fired would end in that exception with reordering left DISABLED, in a
    state that is good all the same (`tryToReorder_few`, DDProofs.Reach2).  Only `step3_switch`
    ("reordering is still enabled") excludes that situation (`SwitchSafe`).
-/
import DDProofs.Level
open Std

namespace DD

/-- the situation in which the C09 / C17 theorems about the decorator do not apply: reordering
enabled, a decorated operation, fewer than two declared variables.  (Sifting one variable makes
the code raise `ValueError`; a request cannot fire there in a natural run — at most two nodes
exist — but the model's trigger is abstract.)  The invariant survives it all the same
(`tryToReorder_few`); only "reordering is still enabled afterwards" needs its negation. -/
def SwitchSafe (m : Mgr) (op : UOp3) : Prop :=
  ∀ o, op = .op o → m.lastLen.isSome = true → o.decorated = true → 2 ≤ m.nvars

/-- the switch after a call, given the switch before it -/
def UOp3.switchAfter : UOp3 → Bool → Bool
  | .op _, old => old
  | .configure b, _ => b

theorem configure_step3 (m : Mgr) (ext : Nat → Nat) (h : Good3 m ext) (b : Bool) :
    Good3 (configure (some b) m).2 ext ∧ Held2 ext m (configure (some b) m).2 ∧
    (configure (some b) m).2.lastLen.isSome = b ∧
    (configure (some b) m).1 = .ok m.lastLen.isSome := by
  have key : ∀ l : Option Nat, Good3 { m with lastLen := l } ext ∧ Held2 ext m { m with lastLen := l } :=
    fun l => ⟨h.setLastLen l, fun u hu => ⟨h.exact.mem_of_ext_pos hu, fun _ => rfl⟩⟩
  cases b with
  | true =>
    rw [configure_true_eq]
    exact ⟨(key _).1, (key _).2, rfl, rfl⟩
  | false =>
    rw [configure_false_eq]
    exact ⟨(key _).1, (key _).2, rfl, rfl⟩

/-- every operation of `UOp3` with every argument, accepted or rejected, reordering enabled or
not, any number of variables: good state for the new ledger, held references kept by name, the
internal signal not raised, the switch changed by `configure` only -/
theorem runOp3_stepL (m : Mgr) (ext : Nat → Nat) (op : UOp3) (h : Good3 m ext) (hg : OpGuard3 m ext op) :
    StepL m ext (ledger3 op m ext) (SwitchSafe m op) (op.switchAfter m.lastLen.isSome) (runOp3 op m) := by
  cases op with
  | op o => exact (runOp2_stepL m ext h o hg).weaken (fun hsafe hdec hen => hsafe o rfl hen hdec)
  | configure b =>
    obtain ⟨hG, hH, hsw, hres⟩ := configure_step3 m ext h b
    exact ⟨hG, hH, mapRes_noSignal _ _ (by rw [hres]; exact nofun), fun _ => hsw,
      fun e he => (by have := mapRes_error he; rw [hres] at this; cases this), fun _ => Nat.le_succ _⟩

/-- every operation with every argument, accepted or rejected, reordering
enabled or not, any number of variables — and `configure` itself — leads from a good state to a
good state -/
theorem step3_inv (m : Mgr) (ext : Nat → Nat) (op : UOp3) (h : Good3 m ext) (hg : OpGuard3 m ext op) :
    Good3 (runOp3 op m).2 (ledger3 op m ext) := (runOp3_stepL m ext op h hg).good

/-- every operation keeps every reference the user holds: still a node, same function BY NAME —
also when the call triggered a sifting of the manager -/
theorem step3_heldSame (m : Mgr) (ext : Nat → Nat) (op : UOp3) (h : Good3 m ext) (hg : OpGuard3 m ext op) :
    Held2 ext m (runOp3 op m).2 := (runOp3_stepL m ext op h hg).held

/-- only `configure` changes whether dynamic reordering is enabled (F11: also a call that fails
in the retry after a sifting re-arms it) — outside the situation `SwitchSafe` excludes -/
theorem step3_switch (m : Mgr) (ext : Nat → Nat) (op : UOp3) (h : Good3 m ext) (hg : OpGuard3 m ext op)
    (hsafe : SwitchSafe m op) :
    (runOp3 op m).2.lastLen.isSome = op.switchAfter m.lastLen.isSome :=
  (runOp3_stepL m ext op h hg).switch hsafe

theorem switchSafe_of_two (m : Mgr) (op : UOp3) (h2 : 2 ≤ m.nvars) : SwitchSafe m op :=
  fun _ _ _ _ => h2

/-- the internal signal `_NeedsReordering` never reaches the user -/
theorem step3_noSignal (m : Mgr) (ext : Nat → Nat) (op : UOp3) (h : Good3 m ext) (hg : OpGuard3 m ext op) :
    (runOp3 op m).1 ≠ .error .needsReordering := (runOp3_stepL m ext op h hg).noSignal

theorem ledger3_eq (op : UOp3) (m : Mgr) (ext : Nat → Nat) (k : Nat)
    (h : ∀ v : Int, v.natAbs = k → op ≠ .op (.base (.incref v)) ∧ op ≠ .op (.base (.decref v))) :
    ledger3 op m ext k = ext k := by
  cases op with
  | op o =>
    exact ledger2_eq o m ext k (fun v hv =>
      ⟨fun hh => (h v hv).1 (by rw [hh]), fun hh => (h v hv).2 (by rw [hh])⟩)
  | configure b => rfl

/-- across EVERY step — a decorated call that sifted the manager, an explicit
reordering, a collection, a rejected call — a reference `u` the user holds is a node before and
after, under the same number, denotes the same function of the variable NAMES, and its counter is
`stored edges + the user's references (+ 1 for the terminal)` for the ledger after the step -/
theorem step3_held (m : Mgr) (ext : Nat → Nat) (op : UOp3) (h : Good3 m ext) (hg : OpGuard3 m ext op)
    (u : Int) (hu : 0 < ext u.natAbs) :
    m.tbl.Mem u ∧ (runOp3 op m).2.tbl.Mem u ∧
    (∀ σ, denN (runOp3 op m).2.tbl u σ = denN m.tbl u σ) ∧
    (runOp3 op m).2.ref[u.natAbs]? =
      some (indeg (runOp3 op m).2.tbl u.natAbs + ledger3 op m ext u.natAbs +
        (if u.natAbs = 1 then 1 else 0)) := by
  obtain ⟨hm', hd⟩ := step3_heldSame m ext op h hg u hu
  exact ⟨h.exact.mem_of_ext_pos hu, hm', hd, (step3_inv m ext op h hg).exact.get hm'⟩

theorem rejected3_ledger (m : Mgr) (ext : Nat → Nat) (op : UOp3) (h : Good3 m ext) (hg : OpGuard3 m ext op)
    (e : Err) (hrej : (runOp3 op m).1 = .error e) : ledger3 op m ext = ext :=
  ((runOp3_stepL m ext op h hg).rejected e hrej).1

def hist3 : Hist UOp3 St where
  step := step3
  Guard s := OpGuard3 s.m s.ext
  run := run3
  Guarded := Ops3Guarded
  run_nil _ := rfl
  run_cons _ _ _ := rfl
  guarded_nil _ := trivial
  guarded_cons _ _ _ := Iff.rfl

theorem run3_append (a b : List UOp3) (s : St) : run3 (a ++ b) s = run3 b (run3 a s) :=
  hist3.run_append a b s

theorem ops3Guarded_append (a b : List UOp3) (s : St) :
    Ops3Guarded (a ++ b) s ↔ (Ops3Guarded a s ∧ Ops3Guarded b (run3 a s)) :=
  hist3.guarded_append a b s

theorem ops3Guarded_take (k : Nat) {ops : List UOp3} {s : St} (h : Ops3Guarded ops s) :
    Ops3Guarded (ops.take k) s :=
  hist3.guarded_take k h

def level3 : LevelX UOp3 where
  toHist := hist3
  runOp := runOp3
  step_m _ _ := rfl
  goodStep s o h hg := (runOp3_stepL s.m s.ext o h hg).few
  Safe := SwitchSafe
  switchAfter := UOp3.switchAfter
  sound s o h hg := runOp3_stepL s.m s.ext o h hg

/-- every state reached from the empty manager by a guarded history in which
dynamic reordering is switched on and off at will is good -/
theorem reachable3_inv (ops : List UOp3) (hg : Ops3Guarded ops St.init) :
    Good3 (run3 ops St.init).m (run3 ops St.init).ext :=
  level3.from_good ops St.init Good3.init hg

/-- a history without `configure` never enables reordering: it is a history of DDProofs.Reach2 -/
theorem run3_op (ops : List UOp2) (s : St) : run3 (ops.map .op) s = run2 ops s :=
  hist3.run_map hist2 .op (fun _ _ => rfl) ops s

theorem ops3Guarded_op (ops : List UOp2) (s : St) (h : Good2 s.m s.ext) (hg : Ops2Guarded ops s) :
    Ops3Guarded (ops.map .op) s :=
  (hist3.guarded_map hist2 .op (fun _ _ => rfl) (fun _ _ => Iff.rfl) ops s).mpr hg

/-- a reference the user holds and does not release stays a node and keeps its function of the
variable NAMES through ANY guarded continuation — automatic and explicit reorderings included -/
theorem run3_held (ops : List UOp3) (s : St) (h : Good3 s.m s.ext) (hg : Ops3Guarded ops s) (u : Int)
    (hheld : ∀ (pre post : List UOp3), ops = pre ++ post → 0 < (run3 pre s).ext u.natAbs) :
    (run3 ops s).m.tbl.Mem u ∧ ∀ σ, denN (run3 ops s).m.tbl u σ = denN s.m.tbl u σ :=
  level3.run_held ops s h hg u hheld

end DD
