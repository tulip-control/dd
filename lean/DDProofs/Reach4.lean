/-
  DDProofs.Reach4 — "for EVERY history", the wider alphabet.

  `UOp4` = `UOp3` (user operations, explicit reorderings, `undeclare_vars`, `configure`) plus

    `.cube dvars`                      `bdd.cube(dvars)`
    `.addExpr s`                       `bdd.add_expr(s)`                  ANY text
    `.image t s rename qvars forall`   `image(t, s, rename, qvars, bdd)`  names or levels, any
    `.preimage t s rename qvars forall`
    `.gcRooted roots`                  `bdd.collect_garbage(roots)`       any integers
    `.reorderToPairs sch pairs`        `reorder_to_pairs(bdd, pairs)`     any dictionary
    `.copyFrom src u`                  `copy_bdd(u, from_bdd, bdd)`       ANY source table, any `u`
    `.loadPickle f levels`             `bdd.load(file, levels)`           ANY content of the file

  all with ARBITRARY arguments, accepted or rejected, dynamic reordering enabled or not.  Guards
  (`OpGuard4`): those of `UOp3`; for `reorder_to_pairs` the recorded schedule must be a possible
  one (the model does not answer `MODEL-SCHEDULE-MISMATCH`); for `load(…, levels=True)` that the
  file's `vars` is a dict — pairwise distinct names, a fact about the model's list of items, not
  about the caller (`loadGuard`; nothing for `levels=False`).  NOT guards: well-formedness of the
  source table of a copy, of the pickle content, of the text, of the renaming; operands held — none
  of them is needed for the invariant (they are hypotheses where RESULTS are described: C05, C11,
  C12, C13).  The five decorated calls (`cube`, `add_expr`, `image`, `preimage`, `copy_bdd`) are
  rows of the table `Decorated`, read by `Decorated.step4` (DDProofs.Reach2).
-/
import DDProofs.Reach3
import DDProofs.LoadRejected
import DDProofs.ImageDynTotal
import DDProofs.DynRejectedExpr
open Std

namespace DD

/-! `collect_garbage(roots)`, any `roots`: an integer that is not a node is a `KeyError` raised while
the worklist is computed, before anything is touched -/

theorem refOf_read (u : Int) (m : Mgr) : (refOf u m).2 = m := by
  unfold refOf; split <;> rfl

/-- the worklist is computed without touching the manager; it fails (`KeyError`) exactly when
some root is not a key of `_ref` -/
theorem unusedOf_cases : ∀ (rs : List Int) (m : Mgr),
    ((∀ r ∈ rs, (m.ref[r.natAbs]?).isSome) ∧ ∃ l, unusedOf rs m = (.ok l, m)) ∨
    ((∃ r ∈ rs, m.ref[r.natAbs]? = none) ∧ unusedOf rs m = (.error .key, m)) := by
  intro rs
  induction rs with
  | nil => intro m; exact Or.inl ⟨(fun _ h => by cases h), [], rfl⟩
  | cons u rest ih =>
    intro m
    unfold unusedOf
    cases hu : m.ref[u.natAbs]? with
    | none =>
      right
      refine ⟨⟨u, List.mem_cons_self, hu⟩, ?_⟩
      have : refOf u m = (.error .key, m) := by unfold refOf; rw [hu]
      rw [M.bind_err this]
    | some c =>
      have hr : refOf u m = (.ok c, m) := by unfold refOf; rw [hu]
      rw [M.bind_ok hr]
      rcases ih m with ⟨hall, l, hl⟩ | ⟨⟨r, hr1, hr2⟩, he⟩
      · left
        refine ⟨?_, ?_⟩
        · intro r hr'
          rcases List.mem_cons.mp hr' with rfl | h
          · rw [hu]; rfl
          · exact hall r h
        · rw [M.bind_ok hl]
          by_cases hc : (c = 0 && u.natAbs ≠ 1) = true
          · exact ⟨_, by simp only [hc, if_true]; rfl⟩
          · exact ⟨_, by simp only [hc, if_false]; rfl⟩
      · right
        exact ⟨⟨r, List.mem_cons_of_mem _ hr1, hr2⟩, by rw [M.bind_err he]⟩

/-- `collect_garbage(roots)`, ANY roots: with every root a node the call returns normally
(`GcPost`); otherwise `KeyError`, nothing changed -/
theorem collectGarbage_rooted_cases (rs : List Int) (m : Mgr) (ext : Nat → Nat) (hi : Inv m)
    (hr : RefExact m ext) :
    (∃ m', collectGarbage (some rs) m = (.ok (), m') ∧ GcPost m ext (gcStart (some rs) m) m') ∨
    collectGarbage (some rs) m = (.error .key, m) := by
  rcases unusedOf_cases rs m with ⟨hall, -⟩ | ⟨-, he⟩
  · exact Or.inl (collectGarbage_rooted_spec (some rs) m ext hi hr hall)
  · right
    rw [collectGarbage_eq]
    show gcBody rs m = _
    unfold gcBody
    rw [he]

/-! `BDD.load(file, levels)` (pickle) on any content: what every outcome of the loader leaves
(`loadPickle_leaves`, DDProofs.LoadRejected) read as a step between good states -/

structure LoadStep (m : Mgr) (ext : Nat → Nat) {α : Type} (res : Except Err α × Mgr) : Prop where
  good : Good3 res.2 ext
  held : Held2 ext m res.2
  lastLen : res.2.lastLen = m.lastLen
  noSignal : res.1 ≠ .error .needsReordering
  vars : ∀ (v : String) (i : Nat), m.tbl.vars[v]? = some i → res.2.tbl.vars[v]? = some i

theorem denN_of_keptV {m m' : Mgr} (hI : Inv m) (hO : OrderOK m.tbl) (hO' : OrderOK m'.tbl)
    (k : KeptV m m') (u : Int) (hu : m.tbl.Mem u) (σ : AsgN) : denN m'.tbl u σ = denN m.tbl u σ :=
  denN_of_vars_kept hI.wf.toWF hO hO' k.vars hu (k.den u hu) σ

theorem Good3.keptV {m m' : Mgr} {ext ext' : Nat → Nat} (h : Good3 m ext) (k : KeptV m m')
    (hO : OrderOK m'.tbl) (hr : RefExact m' ext') : Good3 m' ext' ∧ Held2 ext m m' :=
  ⟨⟨k.inv, hO, hr, k.ctx.trans h.ctx, k.sched.trans h.sched, k.roots.trans h.roots⟩,
    fun u hu =>
      have hmu := h.exact.mem_of_ext_pos hu
      ⟨k.mem hmu, denN_of_keptV h.inv h.order hO k u hmu⟩⟩

/-- the only hypothesis on the file: with `levels=True`, `vars` is a dict — its names are pairwise
distinct (the model keeps the items of the dict as a list).  Nothing for `levels=False`.  The two
pre-checks of `_load_pickle` (the file's levels are a permutation of `0..n-1`; every pair agrees
with the manager) then make the declaration loop gap-free at its END (transient gaps inside the
call do not matter): DDProofs.LoadVarsOrder. -/
def loadGuard (f : PickleFile) (levels : Bool) (_m : Mgr) : Bool :=
  !levels || decide ((f.vars.map (·.1)).Nodup)

theorem loadGuard_false (f : PickleFile) (m : Mgr) : loadGuard f false m = true := rfl

/-- `BDD.load(file, levels)`, ANY content: returning or raising, the state is good for the
same ledger, every held reference keeps its function by name, the switch is untouched, the
declared variables keep their levels, the internal signal is not raised -/
theorem loadPickle_step (ext : Nat → Nat) (f : PickleFile) (levels : Bool) (m : Mgr) (h : Good3 m ext)
    (hg : loadGuard f levels m = true) : LoadStep m ext (loadPickle f levels m) := by
  have hl := loadPickle_leaves f levels m h.inv h.ctx
  have hnd : levels = true → (f.vars.map (·.1)).Nodup := by
    intro hlv
    unfold loadGuard at hg
    rw [hlv] at hg
    simpa using hg
  obtain ⟨hG, hH⟩ := h.keptV hl.kept (hl.order h.order hnd) (hl.counts ext h.exact)
  exact ⟨hG, hH, hl.kept.lastLen,
    fun he => (leaves_loadPickle f levels m ⟨h.inv, h.ctx⟩).2.2 _ he rfl, hl.kept.vars⟩

inductive UOp4
  | op (o : UOp3)
  | cube (dvars : List (String × Bool))
  | addExpr (s : String)
  | image (trans source : Int) (rename : List (Key × Key)) (qvars : List Key) (forall_ : Bool)
  | preimage (trans target : Int) (rename : List (Key × Key)) (qvars : List Key) (forall_ : Bool)
  | gcRooted (roots : List Int)
  | reorderToPairs (sch : List SchedItem) (pairs : List (String × String))
  | copyFrom (src : Tbl) (u : Int)
  | loadPickle (f : PickleFile) (levels : Bool)

def runOp4 : UOp4 → Mgr → Except Err Res × Mgr
  | .op o, m => runOp3 o m
  | .cube d, m => mapRes .ref (cube d m)
  | .addExpr s, m => mapRes .ref (addExpr s m)
  | .image t s rn q fa, m => mapRes .ref (image t s rn q fa m)
  | .preimage t s rn q fa, m => mapRes .ref (preimage t s rn q fa m)
  | .gcRooted rs, m => mapRes (fun _ => .unit) (collectGarbage (some rs) m)
  | .reorderToPairs sch ps, m => withSched sch (reorderToPairs ps) (fun _ => .unit) m
  | .copyFrom src u, m => mapRes .ref (copyBdd src u m)
  | .loadPickle f l, m => mapRes (fun _ => .unit) (loadPickle f l m)

def ledger4 : UOp4 → Mgr → (Nat → Nat) → (Nat → Nat)
  | .op o, m, ext => ledger3 o m ext
  | _, _, ext => ext

def OpGuard4 (m : Mgr) (ext : Nat → Nat) : UOp4 → Prop
  | .op o => OpGuard3 m ext o
  | .reorderToPairs sch ps => isSchedErr (reorderToPairs ps { m with sched := sch }).1 = false
  | .loadPickle f l => loadGuard f l m = true
  | _ => True

instance (m : Mgr) (ext : Nat → Nat) (op : UOp4) : Decidable (OpGuard4 m ext op) := by
  cases op <;> simp only [OpGuard4] <;> infer_instance

/-- the switch after a call, given the switch before it -/
def UOp4.switchAfter : UOp4 → Bool → Bool
  | .op o, old => o.switchAfter old
  | _, old => old

theorem imageBody_totE_r4 (t s : Int) (rn : List (Key × Key)) (q : List Key) (fa : Bool)
    (m : Mgr) (hI : Inv m) (hc : m.ctx = true) : TotE m (imageBody t s rn q fa m) :=
  imageBody_totE t s rn q fa m hI hc

theorem preimageBody_totE_r4 (t s : Int) (rn : List (Key × Key)) (q : List Key) (fa : Bool)
    (m : Mgr) (hI : Inv m) (hc : m.ctx = true) : TotE m (preimageBody t s rn q fa m) :=
  preimageBody_totE t s rn q fa m hI hc

theorem gcRooted_step3 (m : Mgr) (ext : Nat → Nat) (h : Good3 m ext) (rs : List Int) :
    Step3 m ext ext (mapRes (fun _ => Res.unit) (collectGarbage (some rs) m)) := by
  rcases collectGarbage_rooted_cases rs m ext h.inv h.exact with ⟨m', he, hp⟩ | he <;> rw [he]
  · exact h.gcSub hp.inv hp.refExact hp.sub
  · exact step3_same h _ _ (by simp)

theorem reorderToPairs_step3 (m : Mgr) (ext : Nat → Nat) (h : Good3 m ext) (sch : List SchedItem)
    (ps : List (String × String))
    (hg : isSchedErr (reorderToPairs ps { m with sched := sch }).1 = false) :
    Step3 m ext ext (withSched sch (reorderToPairs ps) (fun _ => Res.unit) m) ∧
    ReorderRel ext m (withSched sch (reorderToPairs ps) (fun _ => Res.unit) m).2 :=
  step3_of_reorder m ext h sch _ _ (fun hne =>
    have hk := (reorderToPairs_keep (swapOK ext) ps { m with sched := sch } (h.reorderInv sch)).sched hne
    ⟨fun he => (hk.2 _ he).ne_signal rfl, hk.1⟩) hg

theorem loadPickle_step4 (m : Mgr) (ext : Nat → Nat) (h : Good3 m ext) (f : PickleFile) (l : Bool)
    (hg : loadGuard f l m = true) :
    Step4 m ext ext (mapRes (fun _ => Res.unit) (loadPickle f l m)) := by
  have hs := loadPickle_step ext f l m h hg
  exact ⟨hs.good, hs.held, mapRes_noSignal _ _ hs.noSignal,
    fun _ => congrArg Option.isSome hs.lastLen⟩

/-- every operation of `UOp4`, every argument, accepted or rejected: the decorated new calls
by their rows of `Decorated`, the other new ones by the lemmas above, the rest read off the table of
`UOp3`; outside "reordering enabled, fewer than two variables" only `configure` moves the switch -/
theorem runOp4_stepL (m : Mgr) (ext : Nat → Nat) (op : UOp4) (h : Good3 m ext) (hg : OpGuard4 m ext op) :
    StepL m ext (ledger4 op m ext) (m.lastLen.isSome = true → 2 ≤ m.nvars)
      (op.switchAfter m.lastLen.isSome) (runOp4 op m) := by
  cases op with
  | op o => exact (runOp3_stepL m ext o h hg).weaken (fun hsafe _ _ hen _ => hsafe hen)
  | cube d => exact ((cube_decorated d m).step4 h _).stepL
  | addExpr s => exact ((addExpr_decorated s m).step4 h _).stepL
  | image t s rn q fa => exact ((image_decorated t s rn q fa m).step4 h _).stepL
  | preimage t s rn q fa => exact ((preimage_decorated t s rn q fa m).step4 h _).stepL
  | gcRooted rs => exact (gcRooted_step3 m ext h rs).stepL
  | reorderToPairs sch ps => exact (reorderToPairs_step3 m ext h sch ps hg).1.stepL
  | copyFrom src u => exact ((copyBdd_decorated src u m).step4 h _).stepL
  | loadPickle f l => exact (loadPickle_step4 m ext h f l hg).stepL

/-- every operation with every argument, accepted or rejected, reordering
enabled or not, leads from a good state to a good state -/
theorem step4_inv (m : Mgr) (ext : Nat → Nat) (op : UOp4) (h : Good3 m ext) (hg : OpGuard4 m ext op) :
    Good3 (runOp4 op m).2 (ledger4 op m ext) := (runOp4_stepL m ext op h hg).good

theorem step4_heldSame (m : Mgr) (ext : Nat → Nat) (op : UOp4) (h : Good3 m ext) (hg : OpGuard4 m ext op) :
    Held2 ext m (runOp4 op m).2 := (runOp4_stepL m ext op h hg).held

theorem step4_noSignal (m : Mgr) (ext : Nat → Nat) (op : UOp4) (h : Good3 m ext) (hg : OpGuard4 m ext op) :
    (runOp4 op m).1 ≠ .error .needsReordering := (runOp4_stepL m ext op h hg).noSignal

/-- only `configure` changes whether dynamic reordering is enabled (outside "enabled, fewer than
two variables") -/
theorem step4_switch (m : Mgr) (ext : Nat → Nat) (op : UOp4) (h : Good3 m ext) (hg : OpGuard4 m ext op)
    (hsafe : m.lastLen.isSome = true → 2 ≤ m.nvars) :
    (runOp4 op m).2.lastLen.isSome = op.switchAfter m.lastLen.isSome :=
  (runOp4_stepL m ext op h hg).switch hsafe

theorem ledger4_eq (op : UOp4) (m : Mgr) (ext : Nat → Nat) (k : Nat)
    (h : ∀ v : Int, v.natAbs = k → op ≠ .op (.op (.base (.incref v))) ∧ op ≠ .op (.op (.base (.decref v)))) :
    ledger4 op m ext k = ext k := by
  cases op with
  | op o =>
    exact ledger3_eq o m ext k (fun v hv =>
      ⟨fun hh => (h v hv).1 (by rw [hh]), fun hh => (h v hv).2 (by rw [hh])⟩)
  | _ => rfl

theorem step4_held (m : Mgr) (ext : Nat → Nat) (op : UOp4) (h : Good3 m ext) (hg : OpGuard4 m ext op)
    (u : Int) (hu : 0 < ext u.natAbs) :
    m.tbl.Mem u ∧ (runOp4 op m).2.tbl.Mem u ∧
    (∀ σ, denN (runOp4 op m).2.tbl u σ = denN m.tbl u σ) ∧
    (runOp4 op m).2.ref[u.natAbs]? =
      some (indeg (runOp4 op m).2.tbl u.natAbs + ledger4 op m ext u.natAbs +
        (if u.natAbs = 1 then 1 else 0)) := by
  obtain ⟨hm', hd⟩ := step4_heldSame m ext op h hg u hu
  exact ⟨h.exact.mem_of_ext_pos hu, hm', hd, (step4_inv m ext op h hg).exact.get hm'⟩

theorem rejected4_ledger (m : Mgr) (ext : Nat → Nat) (op : UOp4) (h : Good3 m ext) (hg : OpGuard4 m ext op)
    (e : Err) (hrej : (runOp4 op m).1 = .error e) : ledger4 op m ext = ext :=
  ((runOp4_stepL m ext op h hg).rejected e hrej).1

def step4 (op : UOp4) (s : St) : St := ⟨(runOp4 op s.m).2, ledger4 op s.m s.ext⟩

def run4 : List UOp4 → St → St
  | [], s => s
  | op :: ops, s => run4 ops (step4 op s)

def Ops4Guarded : List UOp4 → St → Prop
  | [], _ => True
  | op :: ops, s => OpGuard4 s.m s.ext op ∧ Ops4Guarded ops (step4 op s)

def results4 : List UOp4 → St → List (Except Err Res)
  | [], _ => []
  | op :: ops, s => (runOp4 op s.m).1 :: results4 ops (step4 op s)

instance decOps4Guarded : (ops : List UOp4) → (s : St) → Decidable (Ops4Guarded ops s)
  | [], _ => isTrue trivial
  | op :: ops, s => by
    unfold Ops4Guarded
    exact @instDecidableAnd _ _ _ (decOps4Guarded ops (step4 op s))

def hist4 : Hist UOp4 St where
  step := step4
  Guard s := OpGuard4 s.m s.ext
  run := run4
  Guarded := Ops4Guarded
  run_nil _ := rfl
  run_cons _ _ _ := rfl
  guarded_nil _ := trivial
  guarded_cons _ _ _ := Iff.rfl

theorem run4_append (a b : List UOp4) (s : St) : run4 (a ++ b) s = run4 b (run4 a s) :=
  hist4.run_append a b s

theorem ops4Guarded_append (a b : List UOp4) (s : St) :
    Ops4Guarded (a ++ b) s ↔ (Ops4Guarded a s ∧ Ops4Guarded b (run4 a s)) :=
  hist4.guarded_append a b s

theorem ops4Guarded_take (k : Nat) {ops : List UOp4} {s : St} (h : Ops4Guarded ops s) :
    Ops4Guarded (ops.take k) s :=
  hist4.guarded_take k h

def level4 : LevelX UOp4 where
  toHist := hist4
  runOp := runOp4
  step_m _ _ := rfl
  goodStep s o h hg := (runOp4_stepL s.m s.ext o h hg).few
  Safe m _ := m.lastLen.isSome = true → 2 ≤ m.nvars
  switchAfter := UOp4.switchAfter
  sound s o h hg := runOp4_stepL s.m s.ext o h hg

/-- a guarded history from ANY good state — the empty manager, the manager
a constructor `BDD(levels)` made, a `copy.copy`, the result of `reduction()`, a manager that
files were loaded into — ends in a good state -/
theorem reachable4_from (ops : List UOp4) (s : St) (h : Good3 s.m s.ext) (hg : Ops4Guarded ops s) :
    Good3 (run4 ops s).m (run4 ops s).ext :=
  level4.from_good ops s h hg

theorem reachable4_inv (ops : List UOp4) (hg : Ops4Guarded ops St.init) :
    Good3 (run4 ops St.init).m (run4 ops St.init).ext :=
  reachable4_from ops St.init Good3.init hg

theorem run4_op (ops : List UOp3) (s : St) : run4 (ops.map .op) s = run3 ops s :=
  hist4.run_map hist3 .op (fun _ _ => rfl) ops s

theorem ops4Guarded_op (ops : List UOp3) (s : St) :
    Ops4Guarded (ops.map .op) s ↔ Ops3Guarded ops s :=
  hist4.guarded_map hist3 .op (fun _ _ => rfl) (fun _ _ => Iff.rfl) ops s

theorem run4_held (ops : List UOp4) (s : St) (h : Good3 s.m s.ext) (hg : Ops4Guarded ops s) (u : Int)
    (hheld : ∀ (pre post : List UOp4), ops = pre ++ post → 0 < (run4 pre s).ext u.natAbs) :
    (run4 ops s).m.tbl.Mem u ∧ ∀ σ, denN (run4 ops s).m.tbl u σ = denN s.m.tbl u σ :=
  level4.run_held ops s h hg u hheld

/-- with the default iteration order and `levels=False` every new call is admissible in every
good state, whatever its arguments -/
theorem guard4_default (m : Mgr) (ext : Nat → Nat) (h : Good3 m ext) :
    (∀ ps, OpGuard4 m ext (.reorderToPairs [] ps)) ∧ (∀ f, OpGuard4 m ext (.loadPickle f false)) := by
  refine ⟨fun ps => ?_, fun f => loadGuard_false f m⟩
  have hk := reorderToPairs_keep (swapOK_default ext) ps { m with sched := [] } ⟨h.reorderInv [], rfl⟩
  apply isSchedErr_of_ne
  intro he
  exact (hk.total.2 _ he).ne_sched rfl

end DD
