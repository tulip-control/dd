/-
  DDProofs.Reach4Sched — the histories of `UOp4` with a RECORDED ITERATION SCHEDULE on the
  decorated calls: a call is a pair (schedule, operation), and `runCall4S` runs a decorated
  operation as the driver does (the schedule of the line is put into `m.sched`, what is left is
  dropped).  The guard of a call WITH a schedule (`CallGuard4S`): the operation is a decorated one,
  two variables are declared, and the model does not answer `MODEL-SCHEDULE-MISMATCH` — which
  follows from "the schedule encodes a choice" (`callGuardS_of_choice`, DDProofs.SchedAcceptGuards;
  for `copy_bdd`: `copyFrom_guard_of_choice`).
-/
import DDProofs.Reach4
import DDProofs.SchedAcceptGuards
open Std

namespace DD

/-- a call of a history of `UOp4` together with the iteration schedule recorded for it -/
structure SCall4 where
  sch : List SchedItem
  op : UOp4

/-- the decorated operations that `UOp4` adds to `UOp3` -/
def UOp4.decoratedNew : UOp4 → Bool
  | .cube _ | .addExpr _ | .image _ _ _ _ _ | .preimage _ _ _ _ _ | .copyFrom _ _ => true
  | _ => false

/-- one call as the driver runs it -/
def runCall4S (c : SCall4) (m : Mgr) : Except Err Res × Mgr :=
  match c.sch, c.op with
  | _ :: _, .op o => runCallS ⟨c.sch, o⟩ m
  | _ :: _, .cube d => clearSched (mapRes .ref (cube d { m with sched := c.sch }))
  | _ :: _, .addExpr s => clearSched (mapRes .ref (addExpr s { m with sched := c.sch }))
  | _ :: _, .image t s rn q fa => clearSched (mapRes .ref (image t s rn q fa { m with sched := c.sch }))
  | _ :: _, .preimage t s rn q fa =>
    clearSched (mapRes .ref (preimage t s rn q fa { m with sched := c.sch }))
  | _ :: _, .copyFrom src u => clearSched (mapRes .ref (copyBdd src u { m with sched := c.sch }))
  | _, o => runOp4 o m

/-- the guard of a call: that of DDProofs.Reach4 without a schedule; with one, the operation is a
decorated one on at least two variables and the model does not report a mismatch -/
def CallGuard4S (m : Mgr) (ext : Nat → Nat) (c : SCall4) : Prop :=
  match c.sch, c.op with
  | [], o => OpGuard4 m ext o
  | s :: sch, .op o => CallGuardS m ext ⟨s :: sch, o⟩
  | s :: sch, o => o.decoratedNew = true ∧ 2 ≤ m.nvars ∧
      isSchedErr (runOp4 o { m with sched := s :: sch }).1 = false

instance (m : Mgr) (ext : Nat → Nat) (c : SCall4) : Decidable (CallGuard4S m ext c) := by
  obtain ⟨sch, op⟩ := c
  cases sch with
  | nil => exact inferInstanceAs (Decidable (OpGuard4 m ext op))
  | cons s sch =>
    cases op with
    | op o => exact inferInstanceAs (Decidable (CallGuardS m ext ⟨s :: sch, o⟩))
    | cube _ => exact inferInstanceAs (Decidable (_ ∧ _ ∧ _))
    | addExpr _ => exact inferInstanceAs (Decidable (_ ∧ _ ∧ _))
    | image _ _ _ _ _ => exact inferInstanceAs (Decidable (_ ∧ _ ∧ _))
    | preimage _ _ _ _ _ => exact inferInstanceAs (Decidable (_ ∧ _ ∧ _))
    | gcRooted _ => exact inferInstanceAs (Decidable (_ ∧ _ ∧ _))
    | reorderToPairs _ _ => exact inferInstanceAs (Decidable (_ ∧ _ ∧ _))
    | copyFrom _ _ => exact inferInstanceAs (Decidable (_ ∧ _ ∧ _))
    | loadPickle _ _ => exact inferInstanceAs (Decidable (_ ∧ _ ∧ _))

def ledger4S (c : SCall4) (m : Mgr) (ext : Nat → Nat) : Nat → Nat := ledger4 c.op m ext

/-- `image` / `preimage` with ANY arguments, every recorded schedule (C17) -/
theorem image_total_dynS (ext : Nat → Nat) (m : Mgr) (hD : DynInvS ext m) (t s : Int)
    (rn : List (Key × Key)) (q : List Key) (fa : Bool) : DynTotalS ext m (image t s rn q fa m) :=
  ((image_decorated t s rn q fa m).totalK hD).toS

theorem preimage_total_dynS (ext : Nat → Nat) (m : Mgr) (hD : DynInvS ext m) (t s : Int)
    (rn : List (Key × Key)) (q : List Key) (fa : Bool) : DynTotalS ext m (preimage t s rn q fa m) :=
  ((preimage_decorated t s rn q fa m).totalK hD).toS

/-- one step, recorded schedules included -/
theorem step4S_inv (m : Mgr) (ext : Nat → Nat) (c : SCall4) (h : Good3 m ext) (hg : CallGuard4S m ext c) :
    Good3 (runCall4S c m).2 (ledger4S c m ext) ∧ Held2 ext m (runCall4S c m).2 ∧
    (runCall4S c m).1 ≠ .error .needsReordering := by
  obtain ⟨sch, op⟩ := c
  cases sch with
  | nil =>
    have hg' : OpGuard4 m ext op := hg
    have hr : runCall4S ⟨[], op⟩ m = runOp4 op m := by cases op <;> rfl
    rw [hr]
    exact (runOp4_stepL m ext op h hg').few
  | cons s sch =>
    cases op with
    | op o =>
      have hg' : CallGuardS m ext ⟨s :: sch, o⟩ := hg
      exact stepS_inv m ext ⟨s :: sch, o⟩ h hg'
    | cube d => exact (cube_decorated d _).stepS (s :: sch) h hg.2.1 hg.2.2
    | addExpr e => exact (addExpr_decorated e _).stepS (s :: sch) h hg.2.1 hg.2.2
    | image t s' rn q fa => exact (image_decorated t s' rn q fa _).stepS (s :: sch) h hg.2.1 hg.2.2
    | preimage t s' rn q fa =>
      exact (preimage_decorated t s' rn q fa _).stepS (s :: sch) h hg.2.1 hg.2.2
    | copyFrom src u => exact (copyBdd_decorated src u _).stepS (s :: sch) h hg.2.1 hg.2.2
    | gcRooted _ => exact nomatch hg.1
    | reorderToPairs _ _ => exact nomatch hg.1
    | loadPickle _ _ => exact nomatch hg.1

def step4S (c : SCall4) (s : St) : St := ⟨(runCall4S c s.m).2, ledger4S c s.m s.ext⟩

def run4S : List SCall4 → St → St
  | [], s => s
  | c :: cs, s => run4S cs (step4S c s)

def Calls4GuardedS : List SCall4 → St → Prop
  | [], _ => True
  | c :: cs, s => CallGuard4S s.m s.ext c ∧ Calls4GuardedS cs (step4S c s)

def results4S : List SCall4 → St → List (Except Err Res)
  | [], _ => []
  | c :: cs, s => (runCall4S c s.m).1 :: results4S cs (step4S c s)

instance decCalls4GuardedS : (cs : List SCall4) → (s : St) → Decidable (Calls4GuardedS cs s)
  | [], _ => isTrue trivial
  | c :: cs, s => by
    unfold Calls4GuardedS
    exact @instDecidableAnd _ _ _ (decCalls4GuardedS cs (step4S c s))

def hist4S : Hist SCall4 St where
  step := step4S
  Guard s := CallGuard4S s.m s.ext
  run := run4S
  Guarded := Calls4GuardedS
  run_nil _ := rfl
  run_cons _ _ _ := rfl
  guarded_nil _ := trivial
  guarded_cons _ _ _ := Iff.rfl

def level4S : Level SCall4 where
  toHist := hist4S
  runOp := runCall4S
  step_m _ _ := rfl
  goodStep s c h hg := step4S_inv s.m s.ext c h hg

/-- a guarded history of `UOp4` whose decorated calls run under recorded
schedules, from ANY good state, ends in a good state -/
theorem reachable4S_from (cs : List SCall4) (s : St) (h : Good3 s.m s.ext) (hg : Calls4GuardedS cs s) :
    Good3 (run4S cs s).m (run4S cs s).ext :=
  level4S.from_good cs s h hg

theorem reachable4S_inv (cs : List SCall4) (hg : Calls4GuardedS cs St.init) :
    Good3 (run4S cs St.init).m (run4S cs St.init).ext :=
  reachable4S_from cs St.init Good3.init hg

theorem copyBddBody_snk (src : Tbl) (u : Int) : SNK (copyBddBody src u) :=
  copyBddBodyG_model src u ▸ copyBddBodyG_seq (SchedNat.seqClosed true) findOrAdd ite
    (fun _ => findOrAdd_nat _ _ _) ite_snk src u

theorem copyBdd_accepts (c : Choice) (hc : c.Valid) (m : Mgr) (src : Tbl) (u : Int) :
    AcceptsC c (copyBddBody src u) m :=
  acceptsC_of_snk hc (copyBddBody_snk src u) m

theorem copyFrom_guard_of_choice (m : Mgr) (ext : Nat → Nat) (h2 : 2 ≤ m.nvars)
    (c : Choice) (hc : c.Valid) (src : Tbl) (u : Int) (s : SchedItem) (sch : List SchedItem)
    (hl : logOf (tryToReorderC c (copyBddBody src u) [] m).1 = some (s :: sch)) :
    CallGuard4S m ext ⟨s :: sch, .copyFrom src u⟩ := by
  refine ⟨rfl, h2, ?_⟩
  show isSchedErr (mapRes Res.ref (copyBdd src u { m with sched := s :: sch })).1 = false
  rw [mapRes_isSchedErr]
  exact (copyBdd_accepts c hc m src u).not_sched hl

end DD
