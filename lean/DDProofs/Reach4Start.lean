/-
  DDProofs.Reach4Start — starting points of a history other than `BDD()`: the states that the
  other ways of making a manager produce — the constructor `BDD(levels)` (`newMgr`),
  `copy.copy(bdd)` (`mgrCopy`), `bdd.reduction()` — ARE good, so that `reachable4_from`, which takes
  ANY good state, continues the history in the new manager.  A manager that files were loaded into
  needs nothing: `.loadPickle` is an operation of `UOp4`.
-/
import DDProofs.Reach4
import DDProofs.Constructor
import DDProofs.ApiReduction
open Std

namespace DD

theorem goodParts_iff_good2 (m : Mgr) (ext : Nat → Nat) : GoodParts m ext ↔ Good2 m ext :=
  ⟨fun h => ⟨⟨h.inv, h.order, h.exact, h.off, h.ctx⟩, h.sched, h.roots⟩,
   fun h => ⟨h.good.inv, h.good.order, h.good.exact, h.good.off, h.good.ctx, h.sched, h.roots⟩⟩

theorem GoodParts.good3 {m : Mgr} {ext : Nat → Nat} (h : GoodParts m ext) : Good3 m ext :=
  ⟨h.inv, h.order, h.exact, h.ctx, h.sched, h.roots⟩

theorem reachable4_from_parts (ops : List UOp4) (m : Mgr) (ext : Nat → Nat) (h : GoodParts m ext)
    (hg : Ops4Guarded ops ⟨m, ext⟩) :
    Good3 (run4 ops ⟨m, ext⟩).m (run4 ops ⟨m, ext⟩).ext :=
  reachable4_from ops ⟨m, ext⟩ h.good3 hg

/-- `BDD(levels)` (`newMgrCore` = the driver's `newMgr`, `newMgr_eq_core`): for a dictionary
(distinct names) whose levels are `0..n-1` — in whatever order they are listed, transient gaps
included — the constructor returns a good manager with nothing held, every variable at the level
asked for, no node; a history can start there (`reachable4_from`).  Otherwise it raises
`AssertionError` (`newMgrCore_refused`). -/
theorem newMgrCore_start (levels : List (String × Int)) (hnames : (levels.map (·.1)).Nodup)
    (hchk : newMgrCheck levels = true) :
    (newMgrCore levels).1 = .ok () ∧ Good2 (newMgrCore levels).2 (fun _ => 0) ∧
    (∀ (v : String) (i : Nat), (newMgrCore levels).2.tbl.vars[v]? = some i ↔ (v, (i : Int)) ∈ levels) ∧
    (∀ u : Nat, (newMgrCore levels).2.tbl.node? u = none) := by
  obtain ⟨h1, h2, h3, h4, -⟩ := newMgrCore_good levels hnames hchk
  exact ⟨h1, (goodParts_iff_good2 _ _).mp h2, h3, h4⟩

/-- the copy of a good manager (reordering enabled or not) is a good manager for the same ledger,
with the same table; reordering is not enabled in the copy -/
theorem mgrCopy_start (m : Mgr) (ext : Nat → Nat) (h : Good3 m ext) :
    ∃ b, mgrCopy m = .ok b ∧ Good3 b ext ∧ b.lastLen = none ∧ b.tbl = m.tbl := by
  obtain ⟨b, he, ht, -, -, -, hroots, -, hg, -⟩ := mgrCopy_spec m ext h.inv h.order h.exact
  exact ⟨b, he, hg.good3 (congrArg Mgr.sched (mgrCopy_ok he)) (hroots.trans h.roots), hg.off, ht⟩

/-- `bdd.reduction()` from ANY good state (no registered roots): the call returns a NEW manager
that is good with nothing held — node by node the source, same variables, same functions
(`ReductionPost`) — and leaves `self` as it was -/
theorem reduction_start (m : Mgr) (ext : Nat → Nat) (h : Good3 m ext) (ord : List Nat)
    (ho : SuccOrder m.tbl ord) :
    ∃ b tr, reduction ord m = (.ok b, m) ∧ Good3 b (fun _ => 0) ∧ b.lastLen = none ∧
      ReductionPost m.tbl m.roots b tr := by
  have hroots : ∀ v ∈ m.roots, m.tbl.Mem v := by rw [h.roots]; intro v hv; cases hv
  obtain ⟨b, tr, he, hp, hs⟩ := reductionBody_spec m.tbl h.inv.wf h.order m.roots hroots ord ho
  have hbr : b.roots = [] := by
    apply List.eq_nil_iff_forall_not_mem.mpr
    intro r hr
    obtain ⟨v, hv, -⟩ := (hp.roots r).mp hr
    rw [h.roots] at hv
    cases hv
  exact ⟨b, tr, reduction_of_body m ord _ nofun he, hp.good.good3 hs hbr, hp.good.off, hp⟩

end DD
