/-
  DDProofs.Reach5 — "for EVERY history", one more layer: `UOp5` = `UOp4` plus

    `.loadJson f`            `_copy.load_json(file, bdd, load_order=False)`   ANY content
    `.copyVars src names`    `_copy.copy_vars(other, bdd)`                     `names` = the order in
                                                                              which `other.vars` is visited

  `load_json` works with `Function` objects: each root it RETURNS holds one reference, so the
  user's ledger grows by the returned roots (`ledger5`); when it raises, the `except` clause has
  given every temporary reference back and the ledger is unchanged.

  Guards (`OpGuard5`).  `.loadJson f`: NONE — any content (a node line with the terminal's id `1`
  is refused by the loader since F18), dynamic reordering enabled or not, any number of variables
  (`loadJson_false_any_start`: with two variables the loader's `bdd.var` / `bdd.ite` calls may
  sift while it holds its shelf; with fewer a request makes sifting raise, the loader fails and
  releases — the switch is then off, as for every decorated call).
  `.copyVars src names`: the source order is a bijection, `names` is a permutation of its variables
  (else the model reports a schedule mismatch), and what the target declares BELOW the source's
  number of variables agrees with the source (`varsBelowB`) — as decidable checks.  This is the
  weakest compatibility that excludes a gap: a refused `copy_vars` keeps the invariant, the
  nodes and the counts (`copyVarsCore_any`, no hypothesis) but may leave a level unnamed
  (`copyVars_refused_gap`, F7), and then the order is no bijection any more.

  NOT covered, and why.  `load_json(load_order=True)` is not an operation of `UOp5` (it changes the
  switch both ways and the order; its per-operation theorem for ANY content is
  `C17_load_json_order_any`, DDProps/C17Load2.lean).  `dd.dddmp.load` builds a NEW manager (a start
  state, not a step): `C16_load_good` gives the good state for the empty ledger,
  `C16_then_every_history` and `dddmp_start` (DDProps.Histories5) the histories that start there.
-/
import DDProofs.InvCheck
import DDProofs.LoadJson2Off
import DDProofs.LoadJson2Few
import DDProofs.CopyVars
import DDProofs.Reach4
open Std

namespace DD

inductive UOp5
  | op (o : UOp4)
  | loadJson (f : JsonFile)
  | copyVars (src : Tbl) (names : List String)

def runOp5 : UOp5 → Mgr → Except Err Res × Mgr
  | .op o, m => runOp4 o m
  | .loadJson f, m => mapRes (fun _ => .unit) (loadJson f false m)
  | .copyVars src names, m => mapRes (fun _ => .unit) (copyVarsCore src names m)

/-- the ledger after `load_json`: one more reference per returned root; unchanged when it raised -/
def jsonLedger (r : Except Err Roots) (ext : Nat → Nat) : Nat → Nat :=
  match r with
  | .ok roots => extAdd ext (roots.values.map Int.natAbs)
  | .error _ => ext

/-- the user's ledger: a JSON load that RETURNS gives the user one reference per returned root -/
def ledger5 : UOp5 → Mgr → (Nat → Nat) → (Nat → Nat)
  | .op o, m, ext => ledger4 o m ext
  | .loadJson f, m, ext => jsonLedger (loadJson f false m).1 ext
  | .copyVars _ _, _, ext => ext

/-- every declaration of the target is a declaration of the source -/
def varsSubB (src t : Tbl) : Bool := t.vars.toList.all (fun p => src.vars[p.1]? == some p.2)

theorem varsSub_of_check {src t : Tbl} (h : varsSubB src t = true) :
    ∀ (v : String) (i : Nat), t.vars[v]? = some i → src.vars[v]? = some i := by
  unfold varsSubB at h
  simp only [List.all_eq_true, beq_iff_eq] at h
  exact fun v i hv => h (v, i) (TreeMap.mem_toList_iff_getElem?_eq_some.mpr hv)

/-- the WEAKEST compatibility under which `copy_vars` cannot leave a gap: what the target declares
at a level BELOW the source's number of variables is what the source has there (variables of the
target at higher levels do not matter: the call then finds every source variable declared) -/
def varsBelowB (src t : Tbl) : Bool :=
  t.vars.toList.all (fun p => decide (src.vars.size ≤ p.2) || src.vars[p.1]? == some p.2)

theorem varsBelow_of_check {src t : Tbl} (h : varsBelowB src t = true) :
    ∀ (v : String) (i : Nat), t.vars[v]? = some i → i < src.nvars → src.vars[v]? = some i := by
  unfold varsBelowB at h
  simp only [List.all_eq_true, Bool.or_eq_true, decide_eq_true_eq, beq_iff_eq] at h
  intro v i hv hi
  rcases h (v, i) (TreeMap.mem_toList_iff_getElem?_eq_some.mpr hv) with h1 | h1
  · exact absurd h1 (by show ¬ src.vars.size ≤ i; exact Nat.not_le.mpr hi)
  · exact h1

theorem varsBelowB_of_sub {src t : Tbl} (h : varsSubB src t = true) : varsBelowB src t = true := by
  unfold varsSubB at h
  unfold varsBelowB
  simp only [List.all_eq_true, beq_iff_eq, Bool.or_eq_true, decide_eq_true_eq] at h ⊢
  exact fun p hp => Or.inr (h p hp)

def OpGuard5 (m : Mgr) (ext : Nat → Nat) : UOp5 → Prop
  | .op o => OpGuard4 m ext o
  | .loadJson _ => True
  | .copyVars src names => orderOKB src = true ∧ names.Perm src.vars.keys ∧ varsBelowB src m.tbl = true

instance (m : Mgr) (ext : Nat → Nat) (op : UOp5) : Decidable (OpGuard5 m ext op) := by
  cases op <;> simp only [OpGuard5] <;> infer_instance

def UOp5.switchAfter : UOp5 → Bool → Bool
  | .op o, old => o.switchAfter old
  | _, old => old

theorem loadJson_step5 (m : Mgr) (ext : Nat → Nat) (h : Good3 m ext) (f : JsonFile)
    (hoff : m.lastLen = none) :
    Good3 (loadJson f false m).2 (ledger5 (.loadJson f) m ext) ∧
    Held2 ext m (loadJson f false m).2 ∧ (loadJson f false m).2.lastLen = none ∧
    (∀ (v : String) (i : Nat), m.tbl.vars[v]? = some i → (loadJson f false m).2.tbl.vars[v]? = some i) := by
  have hgs : GoodState m ext := ⟨h.inv, h.order, h.exact, hoff, h.ctx⟩
  obtain ⟨kv, hout⟩ := loadJson_false_any f m ext hgs
  have hg' : GoodState (loadJson f false m).2 (ledger5 (.loadJson f) m ext) := by
    show GoodState _ (jsonLedger (loadJson f false m).1 ext)
    unfold jsonLedger
    cases hr : (loadJson f false m).1 with
    | ok roots => rw [hr] at hout; exact hout
    | error e => rw [hr] at hout; exact hout
  obtain ⟨hG, hH⟩ := h.keptV kv hg'.order hg'.exact
  exact ⟨hG, hH, hg'.off, kv.vars⟩

/-- `load_json(load_order=False)` of ANY content from ANY good state — dynamic reordering enabled
or not, any number of variables: the state is good for the new ledger, every held reference keeps
its function by name; the switch is what it was, except that with fewer than two variables a
request that fired has switched it off (`SwitchSafe`-style hypothesis as for the decorator) -/
theorem loadJson_step5_any (m : Mgr) (ext : Nat → Nat) (h : Good3 m ext) (f : JsonFile) :
    Good3 (loadJson f false m).2 (ledger5 (.loadJson f) m ext) ∧
    Held2 ext m (loadJson f false m).2 ∧
    ((m.lastLen.isSome = true → 2 ≤ m.nvars) →
      (loadJson f false m).2.lastLen.isSome = m.lastLen.isSome) := by
  have L := loadJson_false_any_start f m ext h.loadStart
  have hroots : (loadJson f false m).2.roots = [] := L.roots.trans h.roots
  refine ⟨?_, fun u hu => L.held u (Or.inr hu), fun hsafe => ?_⟩
  · show Good3 _ (jsonLedger (loadJson f false m).1 ext)
    unfold jsonLedger
    have hst := L.state
    have conv : ∀ e' m', LoadStart e' m' → m'.roots = [] → Good3 m' e' :=
      fun e' m' s hr => ⟨s.inv, s.order, s.refs, s.ctx, s.sched, hr⟩
    cases hr : (loadJson f false m).1 with
    | ok roots => rw [hr] at hst; exact conv _ _ hst hroots
    | error e => rw [hr] at hst; exact conv _ _ hst hroots
  · cases hl : m.lastLen with
    | none =>
      cases hl' : (loadJson f false m).2.lastLen with
      | none => rfl
      | some k =>
        have := L.switch (by rw [hl']; rfl)
        rw [hl] at this; cases this
    | some k =>
      have h2 : 2 ≤ m.nvars := hsafe (by rw [hl]; rfl)
      have := L.switchKept (Nat.le_trans h2 (declare_nvars_le _ m ext h.loadStart))
      rw [this, hl]

/-- `load_json(load_order=False)` of ANY content with dynamic reordering possibly ENABLED, two
variables declared: the state is good for the new ledger, every held reference keeps its function
by name (levels may have moved), reordering is enabled iff it was -/
theorem loadJson_step5_dyn (m : Mgr) (ext : Nat → Nat) (h : Good3 m ext) (f : JsonFile)
    (h2 : 2 ≤ m.nvars) :
    Good3 (loadJson f false m).2 (ledger5 (.loadJson f) m ext) ∧
    Held2 ext m (loadJson f false m).2 ∧
    (loadJson f false m).2.lastLen.isSome = m.lastLen.isSome :=
  have ⟨a, b, c⟩ := loadJson_step5_any m ext h f
  ⟨a, b, c fun _ => h2⟩

theorem loadJson_noSignal5 (m : Mgr) (ext : Nat → Nat) (h : Good3 m ext) (f : JsonFile) :
    (loadJson f false m).1 ≠ .error .needsReordering :=
  (loadJson_false_any_start f m ext h.loadStart).noSignal

/-- `copy_vars`, EVERY outcome, NO hypothesis (any source table, any order of visit, any
target): whatever it returns or raises, the invariant holds, every node is there with its function
of the LEVELS, the counts are exact for the ledger they were exact for, declared variables keep
their level, the switches are untouched.  What a refusal can break is the order only: the
variables declared before the offending one stay declared (`copyVars_refused_gap`). -/
theorem copyVarsCore_any (src : Tbl) (names : List String) (m : Mgr) (hI : Inv m) :
    KeptV m (copyVarsCore src names m).2 ∧
    ∀ ext, RefExact m ext → RefExact (copyVarsCore src names m).2 ext := by
  -- what every `add_var` of the loop keeps, from the state of the call
  let A : Mgr → Prop := fun m1 => KeptV m m1 ∧ ∀ ext, RefExact m ext → RefExact m1 ext
  have h0 : A m := ⟨KeptV.refl hI, fun _ h => h⟩
  have hstep : ∀ (v : String) (m1 : Mgr), A m1 → Out A (fun _ => True) (copyVarStep src v m1) := by
    intro v m1 h1
    have add : ∀ l, A (addVar v l m1).2 := fun l =>
      ⟨h1.1.trans (addVar_keptV m1 h1.1.inv v l), fun ext hx => addVar_refs_any m1 v l ext (h1.2 ext hx)⟩
    cases hv : src.vars[v]? with
    | none => simp only [copyVarStep, hv]; exact Out.err h1 trivial
    | some l =>
      simp only [copyVarStep, hv]
      have := add (some (l : Int))
      generalize addVar v (some (l : Int)) m1 = r at this ⊢
      obtain ⟨x, m2⟩ := r
      cases x <;> exact ⟨this, fun _ _ => trivial⟩
  have h : Out A (fun _ => True) (copyVarsCore src names m) := by
    unfold copyVarsCore
    simp only [bind, pure]
    split
    · exact Out.err h0 trivial
    · exact Out.bind (forIn_keeps _ names (fun v _ _ m1 h1 =>
        Out.bind (hstep v m1 h1) (fun _ _ h2 => Out.ok h2 _)) _ m h0) (fun _ _ h1 => Out.ok h1 _)
  exact h.1

/-- `copy_vars(other, bdd)` under its obligations: returns normally; the target then declares
exactly the source's variables at the source's levels; it is good for the same ledger; every
node keeps its function by name; the switch is untouched -/
theorem copyVars_step5 (m : Mgr) (ext : Nat → Nat) (h : Good3 m ext) (src : Tbl) (names : List String)
    (hO : OrderOK src) (hperm : names.Perm src.vars.keys)
    (hsub : ∀ (v : String) (i : Nat), m.tbl.vars[v]? = some i → src.vars[v]? = some i) :
    ∃ m', copyVarsCore src names m = (.ok (), m') ∧ Good3 m' ext ∧ Held2 ext m m' ∧
      m'.lastLen = m.lastLen ∧ (∀ v : String, m'.tbl.vars[v]? = src.vars[v]?) := by
  obtain ⟨m', hrun, hv, -⟩ := copyVarsCore_spec src hO names hperm m ⟨hsub, h.order.inv⟩
  obtain ⟨hO', -⟩ := copyVarsCore_inv src hO names hperm m ⟨hsub, h.order.inv⟩ hrun
  obtain ⟨kv, hcnt⟩ := copyVarsCore_any src names m h.inv
  rw [hrun] at kv hcnt
  obtain ⟨hG, hH⟩ := h.keptV kv hO' (hcnt ext h.exact)
  exact ⟨m', hrun, hG, hH, kv.lastLen, hv⟩

/-- `copy_vars(other, bdd)` under the WEAKEST compatibility (`varsBelowB`): returns normally; every
source variable is then declared at its source level, the target's other declarations stay; the
manager is good for the same ledger; every node keeps its function by name -/
theorem copyVars_step5w (m : Mgr) (ext : Nat → Nat) (h : Good3 m ext) (src : Tbl) (names : List String)
    (hO : OrderOK src) (hperm : names.Perm src.vars.keys)
    (hbelow : ∀ (v : String) (i : Nat), m.tbl.vars[v]? = some i → i < src.nvars → src.vars[v]? = some i) :
    ∃ m', copyVarsCore src names m = (.ok (), m') ∧ Good3 m' ext ∧ Held2 ext m m' ∧
      m'.lastLen = m.lastLen ∧
      (∀ (v : String) (l : Nat), src.vars[v]? = some l → m'.tbl.vars[v]? = some l) ∧
      (∀ (v : String) (i : Nat), m.tbl.vars[v]? = some i → m'.tbl.vars[v]? = some i) := by
  by_cases hn : m.tbl.nvars ≤ src.nvars
  · -- the target is (compatible with) a prefix of the source: C11
    have hsub : ∀ (v : String) (i : Nat), m.tbl.vars[v]? = some i → src.vars[v]? = some i :=
      fun v i hv => hbelow v i hv (Nat.lt_of_lt_of_le (h.order.lt v i hv) hn)
    obtain ⟨m', hrun, hg, hh, hl, hv⟩ := copyVars_step5 m ext h src names hO hperm hsub
    exact ⟨m', hrun, hg, hh, hl, fun v l hs => by rw [hv v]; exact hs,
      fun v i hm => by rw [hv v]; exact hsub v i hm⟩
  · -- the target has at least the source's levels: every source variable is declared already
    have hall : ∀ (v : String) (l : Nat), src.vars[v]? = some l → m.tbl.vars[v]? = some l := by
      intro v l hs
      have hl : l < m.tbl.nvars := Nat.lt_of_lt_of_le (hO.lt v l hs) (by omega)
      obtain ⟨w, hw⟩ := h.order.total l hl
      have hw' : m.tbl.vars[w]? = some l := (h.order.inv w l).mpr hw
      have hsw := hbelow w l hw' (hO.lt v l hs)
      have e1 := (hO.inv w l).mp hsw
      have e2 := (hO.inv v l).mp hs
      rw [e1] at e2
      rw [← Option.some.inj e2]; exact hw'
    have hrun : copyVarsCore src names m = (.ok (), m) := by
      -- every step finds its variable declared at the level asked for: the manager stays as it is
      have hstep : ∀ v ∈ names, Out (· = m) (fun _ => False) (copyVarStep src v m) := by
        intro v hv
        obtain ⟨l, hl⟩ : ∃ l, src.vars[v]? = some l := by
          have := TreeMap.mem_keys.mp ((hperm.mem_iff).mp hv)
          rw [TreeMap.mem_iff_isSome_getElem?] at this
          exact Option.isSome_iff_exists.mp this
        unfold copyVarStep
        simp only [hl]
        rw [(addVar_existing m v l (hall v l hl)).2]
        exact Out.ok rfl _
      have hguard : (!(names.length == src.vars.keys.length &&
          names.all (src.vars.keys.contains ·))) = false := by
        have h1 : names.length = src.vars.keys.length := hperm.length_eq
        have h2 : names.all (src.vars.keys.contains ·) = true := by
          rw [List.all_eq_true]
          intro v hv
          simpa using (hperm.mem_iff).mp hv
        simp only [h1, beq_self_eq_true, Bool.true_and, h2, Bool.not_true]
      apply Out.eq_ok
      unfold copyVarsCore
      simp only [bind, pure, hguard, Bool.false_eq_true, if_false]
      exact Out.bind (forIn_keeps _ names (fun v hv _ m1 h1 => by
        subst h1; exact Out.bind (hstep v hv) (fun _ _ h2 => Out.ok h2 _)) _ m rfl)
        (fun _ _ h1 => Out.ok h1 _)
    exact ⟨m, hrun, h, fun u hu => ⟨h.exact.mem_of_ext_pos hu, fun _ => rfl⟩, rfl, hall, fun _ _ hv => hv⟩

theorem ledger5_loadJson_le (f : JsonFile) (m : Mgr) (ext : Nat → Nat) (k : Nat) :
    ext k ≤ ledger5 (.loadJson f) m ext k := by
  show ext k ≤ jsonLedger (loadJson f false m).1 ext k
  unfold jsonLedger
  cases (loadJson f false m).1 with
  | ok roots => exact Nat.le_add_right _ _
  | error e => exact Nat.le_refl _

/-- every operation of `UOp5`, every argument, accepted or rejected: the two new calls, the
others read off the table of `UOp4`.  A JSON load that returns ADDS its roots to the ledger -/
theorem runOp5_stepL (m : Mgr) (ext : Nat → Nat) (op : UOp5) (h : Good3 m ext) (hg : OpGuard5 m ext op) :
    StepL m ext (ledger5 op m ext) (m.lastLen.isSome = true → 2 ≤ m.nvars)
      (op.switchAfter m.lastLen.isSome) (runOp5 op m) := by
  cases op with
  | op o => exact runOp4_stepL m ext o h hg
  | loadJson f =>
    obtain ⟨hG, hH, hsw⟩ := loadJson_step5_any m ext h f
    refine ⟨hG, hH, mapRes_noSignal _ _ (loadJson_noSignal5 m ext h f), hsw, fun e he => ⟨?_, hsw⟩,
      fun k => Nat.le_succ_of_le (ledger5_loadJson_le f m ext k)⟩
    show jsonLedger (loadJson f false m).1 ext = ext
    rw [mapRes_error he]; rfl
  | copyVars src names =>
    obtain ⟨m', hrun, a, b, c, -⟩ := copyVars_step5w m ext h src names (orderOK_of_check hg.1) hg.2.1
      (varsBelow_of_check hg.2.2)
    show StepL m ext ext _ m.lastLen.isSome (mapRes (fun _ => Res.unit) (copyVarsCore src names m))
    rw [hrun]
    exact Step3.stepL ⟨a, b, congrArg Option.isSome c, nofun⟩

theorem step5_inv (m : Mgr) (ext : Nat → Nat) (op : UOp5) (h : Good3 m ext) (hg : OpGuard5 m ext op) :
    Good3 (runOp5 op m).2 (ledger5 op m ext) := (runOp5_stepL m ext op h hg).good

theorem step5_heldSame (m : Mgr) (ext : Nat → Nat) (op : UOp5) (h : Good3 m ext) (hg : OpGuard5 m ext op) :
    Held2 ext m (runOp5 op m).2 := (runOp5_stepL m ext op h hg).held

theorem step5_switch (m : Mgr) (ext : Nat → Nat) (op : UOp5) (h : Good3 m ext) (hg : OpGuard5 m ext op)
    (hsafe : m.lastLen.isSome = true → 2 ≤ m.nvars) :
    (runOp5 op m).2.lastLen.isSome = op.switchAfter m.lastLen.isSome :=
  (runOp5_stepL m ext op h hg).switch hsafe

theorem step5_noSignal (m : Mgr) (ext : Nat → Nat) (op : UOp5) (h : Good3 m ext) (hg : OpGuard5 m ext op) :
    (runOp5 op m).1 ≠ .error .needsReordering := (runOp5_stepL m ext op h hg).noSignal

/-- across EVERY step a reference the user holds is a node before and after under
the same number, denotes the same function of the variable NAMES, and its counter is `stored
edges + the user's references` for the ledger after the step (which a JSON load that returned
has increased by the returned roots) -/
theorem step5_held (m : Mgr) (ext : Nat → Nat) (op : UOp5) (h : Good3 m ext) (hg : OpGuard5 m ext op)
    (u : Int) (hu : 0 < ext u.natAbs) :
    m.tbl.Mem u ∧ (runOp5 op m).2.tbl.Mem u ∧
    (∀ σ, denN (runOp5 op m).2.tbl u σ = denN m.tbl u σ) ∧
    (runOp5 op m).2.ref[u.natAbs]? =
      some (indeg (runOp5 op m).2.tbl u.natAbs + ledger5 op m ext u.natAbs +
        (if u.natAbs = 1 then 1 else 0)) := by
  obtain ⟨hm', hd⟩ := step5_heldSame m ext op h hg u hu
  exact ⟨h.exact.mem_of_ext_pos hu, hm', hd, (step5_inv m ext op h hg).exact.get hm'⟩

/-- the ledger entry of `k` changes only by the user's own `incref` / `decref` of `k` and by a JSON
load (which adds the roots it returns) -/
theorem ledger5_eq (op : UOp5) (m : Mgr) (ext : Nat → Nat) (k : Nat)
    (h : ∀ v : Int, v.natAbs = k → op ≠ .op (.op (.op (.base (.incref v)))) ∧
      op ≠ .op (.op (.op (.base (.decref v)))))
    (hj : ∀ f, op ≠ .loadJson f) : ledger5 op m ext k = ext k := by
  cases op with
  | op o =>
    exact ledger4_eq o m ext k (fun v hv =>
      ⟨fun hh => (h v hv).1 (by rw [hh]), fun hh => (h v hv).2 (by rw [hh])⟩)
  | loadJson f => exact absurd rfl (hj f)
  | copyVars src names => rfl

theorem rejected5_ledger (m : Mgr) (ext : Nat → Nat) (op : UOp5) (h : Good3 m ext) (hg : OpGuard5 m ext op)
    (e : Err) (hrej : (runOp5 op m).1 = .error e) : ledger5 op m ext = ext :=
  ((runOp5_stepL m ext op h hg).rejected e hrej).1

def step5 (op : UOp5) (s : St) : St := ⟨(runOp5 op s.m).2, ledger5 op s.m s.ext⟩

def run5 : List UOp5 → St → St
  | [], s => s
  | op :: ops, s => run5 ops (step5 op s)

def Ops5Guarded : List UOp5 → St → Prop
  | [], _ => True
  | op :: ops, s => OpGuard5 s.m s.ext op ∧ Ops5Guarded ops (step5 op s)

def results5 : List UOp5 → St → List (Except Err Res)
  | [], _ => []
  | op :: ops, s => (runOp5 op s.m).1 :: results5 ops (step5 op s)

instance decOps5Guarded : (ops : List UOp5) → (s : St) → Decidable (Ops5Guarded ops s)
  | [], _ => isTrue trivial
  | op :: ops, s => by
    unfold Ops5Guarded
    exact @instDecidableAnd _ _ _ (decOps5Guarded ops (step5 op s))

def hist5 : Hist UOp5 St where
  step := step5
  Guard s := OpGuard5 s.m s.ext
  run := run5
  Guarded := Ops5Guarded
  run_nil _ := rfl
  run_cons _ _ _ := rfl
  guarded_nil _ := trivial
  guarded_cons _ _ _ := Iff.rfl

theorem run5_append (a b : List UOp5) (s : St) : run5 (a ++ b) s = run5 b (run5 a s) :=
  hist5.run_append a b s

theorem ops5Guarded_append (a b : List UOp5) (s : St) :
    Ops5Guarded (a ++ b) s ↔ (Ops5Guarded a s ∧ Ops5Guarded b (run5 a s)) :=
  hist5.guarded_append a b s

theorem ops5Guarded_take (k : Nat) {ops : List UOp5} {s : St} (h : Ops5Guarded ops s) :
    Ops5Guarded (ops.take k) s :=
  hist5.guarded_take k h

def level5 : LevelX UOp5 where
  toHist := hist5
  runOp := runOp5
  step_m _ _ := rfl
  goodStep s o h hg := (runOp5_stepL s.m s.ext o h hg).few
  Safe m _ := m.lastLen.isSome = true → 2 ≤ m.nvars
  switchAfter := UOp5.switchAfter
  sound s o h hg := runOp5_stepL s.m s.ext o h hg

theorem reachable5_from (ops : List UOp5) (s : St) (h : Good3 s.m s.ext) (hg : Ops5Guarded ops s) :
    Good3 (run5 ops s).m (run5 ops s).ext :=
  level5.from_good ops s h hg

theorem reachable5_inv (ops : List UOp5) (hg : Ops5Guarded ops St.init) :
    Good3 (run5 ops St.init).m (run5 ops St.init).ext :=
  reachable5_from ops St.init Good3.init hg

theorem run5_op (ops : List UOp4) (s : St) : run5 (ops.map .op) s = run4 ops s :=
  hist5.run_map hist4 .op (fun _ _ => rfl) ops s

theorem ops5Guarded_op (ops : List UOp4) (s : St) :
    Ops5Guarded (ops.map .op) s ↔ Ops4Guarded ops s :=
  hist5.guarded_map hist4 .op (fun _ _ => rfl) (fun _ _ => Iff.rfl) ops s

end DD
