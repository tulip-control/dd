/-
  DDProofs.Reach5Keys — "the keys of `_pred` are node triples" (`KeysOK` = `PredShape`,
  `KeysShaped` up to the direction of an equation; with `Inv`: `PredNodes`) in EVERY state of
  EVERY history over the widest alphabet `UOp5` — no guard, no hypothesis on the arguments.

  It is a fact about the model's representation (Python's `_pred` is keyed by tuples, the model's
  by lists), that several per-operation theorems take as a hypothesis (`C12_json_load*`,
  `C12_manager_roundtrip`, `C15_bddToMdd_*`).  DDProofs.PredNodesReach proves it for histories of
  `UOp`; DDProofs.PredNodesOrder / PredNodesReach / PredNodesJson have the lemmas `KSM x` ("`x` keeps
  it") for the core, the swaps, sifting, the decorator, the JSON loader.  Here: every operation of
  `UOp2 … UOp5`, and the manager `dd.dddmp.load` returns (`keysOK_loadDddmp`).
-/
import DD.Dddmp
import DDProofs.Reach5
open Std

namespace DD

theorem ksm_match {α β : Type} {x : M α} (hx : KSM x) (g : α → Mgr → Except Err β × Mgr)
    (hg : ∀ a, KSM (g a)) :
    KSM (fun m => match x m with
      | (.error e, m1) => (.error e, m1)
      | (.ok a, m1) => g a m1) := by
  intro m h
  have h1 := hx m h
  dsimp only
  split
  · rename_i e m1 heq; rw [heq] at h1; exact h1
  · rename_i a m1 heq; rw [heq] at h1; exact hg a m1 h1

theorem keysOK_setSched {m : Mgr} (h : KeysOK m) (s : List SchedItem) : KeysOK { m with sched := s } :=
  h.congr rfl

theorem withSched_keysOK {α : Type} (sch : List SchedItem) (f : M α) (hf : KSM f) (g : α → Res)
    (m : Mgr) (h : KeysOK m) : KeysOK (withSched sch f g m).2 :=
  keysOK_setSched (hf _ (keysOK_setSched h sch)) []

theorem keys_foldl_insert (l : List (Nat × Nd)) :
    ∀ (acc : TreeMap (List Int) Nat), (∀ k u, acc[k]? = some u → ∃ n : Nd, k = n.key) →
      ∀ k u, (l.foldl (fun a (p : Nat × Nd) => a.insert p.2.key p.1) acc)[k]? = some u →
        ∃ n : Nd, k = n.key := by
  induction l with
  | nil => intro acc h; exact h
  | cons p rest ih =>
    intro acc h
    apply ih
    intro k u hk
    rw [TreeMap.getElem?_insert] at hk
    split at hk
    · next heq => exact ⟨p.2, (compare_eq_iff_eq.mp heq).symm⟩
    · exact h k u hk

theorem undeclState_keysOK (m : Mgr) (full : List Nat) : KeysOK (undeclState m full) := by
  intro k u hk
  unfold undeclState at hk
  dsimp only at hk
  rw [TreeMap.foldl_eq_foldl_toList] at hk
  exact keys_foldl_insert _ _ (by intro k u h; simp at h) k u hk

theorem ksm_undeclareVars (vrs : List String) : KSM (undeclareVars vrs) := by
  intro m h
  unfold undeclareVars
  split
  · exact h
  dsimp only
  split
  · exact h
  split
  · exact h
  · exact undeclState_keysOK m _

theorem runOp2_keysOK (op : UOp2) (m : Mgr) (h : KeysOK m) : KeysOK (runOp2 op m).2 := by
  cases op with
  | base o => exact runOp_keysOK o m h
  | swap sch x y => exact withSched_keysOK sch _ (ksm_swap x y false) _ m h
  | sift sch => exact withSched_keysOK sch _ (ksm_reorder none) _ m h
  | reorderTo sch o => exact withSched_keysOK sch _ (ksm_reorder (some o)) _ m h
  | undeclare vrs => exact ksm_mapRes _ (ksm_undeclareVars vrs) m h

theorem ksm_configure (b : Option Bool) : KSM (configure b) := by
  intro m h
  unfold configure
  simp only [bind, M.bind', M.get, M.set, pure, M.pure']
  cases b with
  | none => exact h
  | some b => cases b <;> exact h.congr rfl

theorem runOp3_keysOK (op : UOp3) (m : Mgr) (h : KeysOK m) : KeysOK (runOp3 op m).2 := by
  cases op with
  | op o => exact runOp2_keysOK o m h
  | configure b => exact ksm_mapRes _ (ksm_configure (some b)) m h

theorem ksm_cube (d : List (String × Bool)) : KSM (cube d) := by
  rw [cube_eq]
  exact ksm_tryToReorder (cubeBodyG_seq KSM.seqClosed var apply ksm_bddVar ksm_apply d)

theorem ksm_addExpr (s : String) : KSM (addExpr s) :=
  ksm_tryToReorder (addExprToksG_model _ ▸ addExprToksG_seq KSM.seqClosed evalAst
    (fun t => evalAstG_model t ▸
      evalAstG_seq KSM.seqClosed var apply quantify rename ksm_bddVar ksm_apply ksm_quantify ksm_rename t) _)

theorem ksm_copyBdd (src : Tbl) (u : Int) : KSM (copyBdd src u) :=
  ksm_tryToReorder (copyBddBodyG_model src u ▸ copyBddBodyG_seq KSM.seqClosed findOrAdd ite
    (fun _ => ksm_findOrAdd _ _ _) ksm_bddIte src u)

theorem ksm_reorderToPairs (ps : List (String × String)) : KSM (reorderToPairs ps) :=
  reorderToPairs_seq KSM.seqClosed KSM.reorderPrims.swap ps

theorem ksm_findOrAddNonInt : KSM findOrAddNonInt :=
  findOrAddNonInt_seq KSM.seqClosed ksm_requestReordering

theorem ksm_adjacentWarn (rn : List (Key × Key)) : KSM (adjacentWarn rn) :=
  adjacentWarn_seq KSM.seqClosed rn

theorem ksm_assertValidRename (rn : List (Key × Key)) : KSM (assertValidRename rn) :=
  assertValidRename_seq KSM.seqClosed rn

theorem ksm_imageBody (t s : Int) (rn : List (Key × Key)) (q : List Key) (fa : Bool) :
    KSM (imageBody t s rn q fa) :=
  imageBody_seq KSM.seqClosed (fun _ => ksm_findOrAdd _ _ _) ksm_findOrAddNonInt ksm_bddIte t s rn q fa

theorem ksm_preimageBody (t s : Int) (rn : List (Key × Key)) (q : List Key) (fa : Bool) :
    KSM (preimageBody t s rn q fa) :=
  preimageBody_seq KSM.seqClosed (fun _ => ksm_findOrAdd _ _ _) ksm_findOrAddNonInt ksm_bddIte
    ksm_quantify
    (fun {_ x} hx m h => by
      have k := hx m h
      unfold fuelToRuntime
      generalize x m = r at k ⊢
      obtain ⟨e | a, m2⟩ := r <;> exact k)
    t s rn q fa

theorem ksm_image (t s : Int) (rn : List (Key × Key)) (q : List Key) (fa : Bool) :
    KSM (image t s rn q fa) := by
  intro m h
  unfold image
  split
  · exact h
  · exact ksm_tryToReorder (ksm_imageBody t s _ _ fa) m h

theorem ksm_preimage (t s : Int) (rn : List (Key × Key)) (q : List Key) (fa : Bool) :
    KSM (preimage t s rn q fa) := by
  intro m h
  unfold preimage
  split
  · exact h
  · exact ksm_tryToReorder (ksm_preimageBody t s _ _ fa) m h

theorem ksm_loadPickle (f : PickleFile) (levels : Bool) : KSM (loadPickle f levels) :=
  loadPickle_seq KSM.seqClosed f levels
    (fun var _ => ksm_addVar var _) (fun j => ksm_findOrAdd j (-1) 1) ksm_iteRaw

theorem runOp4_keysOK (op : UOp4) (m : Mgr) (h : KeysOK m) : KeysOK (runOp4 op m).2 := by
  cases op with
  | op o => exact runOp3_keysOK o m h
  | cube d => exact ksm_mapRes _ (ksm_cube d) m h
  | addExpr s => exact ksm_mapRes _ (ksm_addExpr s) m h
  | image t s rn q fa => exact ksm_mapRes _ (ksm_image t s rn q fa) m h
  | preimage t s rn q fa => exact ksm_mapRes _ (ksm_preimage t s rn q fa) m h
  | gcRooted rs => exact ksm_mapRes _ (ksm_collectGarbage (some rs)) m h
  | reorderToPairs sch ps => exact withSched_keysOK sch _ (ksm_reorderToPairs ps) _ m h
  | copyFrom src u => exact ksm_mapRes _ (ksm_copyBdd src u) m h
  | loadPickle f l => exact ksm_mapRes _ (ksm_loadPickle f l) m h

theorem ksm_copyVarStep (src : Tbl) (v : String) : KSM (copyVarStep src v) := by
  intro m h
  cases hv : src.vars[v]? with
  | none => simp only [copyVarStep, hv]; exact h
  | some l =>
    simp only [copyVarStep, hv]
    have k := ksm_addVar v (some (l : Int)) m h
    generalize addVar v (some (l : Int)) m = r at k ⊢
    obtain ⟨x, m'⟩ := r
    cases x <;> exact k

theorem ksm_copyVarsCore (src : Tbl) (names : List String) : KSM (copyVarsCore src names) := by
  unfold copyVarsCore
  dsimp only
  have hjp : KSM (do
      forIn names PUnit.unit fun v (_ : PUnit) => do
          copyVarStep src v
          pure (ForInStep.yield PUnit.unit)
      pure () : M Unit) :=
    KSM.seqClosed.bind (forIn_seq KSM.seqClosed _ (fun v _ => KSM.seqClosed.bind (ksm_copyVarStep src v) (fun _ => KSM.seqClosed.pure _)) names _)
      (fun _ => KSM.seqClosed.pure _)
  split
  -- the model's own `.sched` answer: no rule of `SeqClosed` raises it, `KSM` does not mind
  · exact KSM.seqClosed.bind (fun _ h => h) (fun _ => hjp)
  · exact hjp

/-- **every operation of `UOp5`, any arguments, any outcome, keeps `KeysOK`** -/
theorem runOp5_keysOK (op : UOp5) (m : Mgr) (h : KeysOK m) : KeysOK (runOp5 op m).2 := by
  cases op with
  | op o => exact runOp4_keysOK o m h
  | loadJson f => exact ksm_mapRes _ (ksm_loadJson_false f) m h
  | copyVars src names => exact ksm_mapRes _ (ksm_copyVarsCore src names) m h

theorem run2_keysOK (ops : List UOp2) (s : St) (h : KeysOK s.m) : KeysOK (run2 ops s).m :=
  hist2.run_all (Good := fun s => KeysOK s.m) (fun s o h => runOp2_keysOK o s.m h) ops s h

theorem run3_keysOK (ops : List UOp3) (s : St) (h : KeysOK s.m) : KeysOK (run3 ops s).m :=
  hist3.run_all (Good := fun s => KeysOK s.m) (fun s o h => runOp3_keysOK o s.m h) ops s h

theorem run4_keysOK (ops : List UOp4) (s : St) (h : KeysOK s.m) : KeysOK (run4 ops s).m :=
  hist4.run_all (Good := fun s => KeysOK s.m) (fun s o h => runOp4_keysOK o s.m h) ops s h

theorem run5_keysOK (ops : List UOp5) (s : St) (h : KeysOK s.m) : KeysOK (run5 ops s).m :=
  hist5.run_all (Good := fun s => KeysOK s.m) (fun s o h => runOp5_keysOK o s.m h) ops s h

structure GoodK (m : Mgr) (ext : Nat → Nat) : Prop where
  good : Good3 m ext
  keys : KeysOK m

theorem GoodK.predNodes {m : Mgr} {ext : Nat → Nat} (h : GoodK m ext) : PredNodes m :=
  h.keys.predNodes h.good.inv

/-- **`reachable5K_from`**: from any state that is good and has no stray key — the empty manager,
the constructor's, a copy, a reduction — every guarded history over `UOp5` ends in such a state -/
theorem reachable5K_from (ops : List UOp5) (s : St) (h : GoodK s.m s.ext) (hg : Ops5Guarded ops s) :
    GoodK (run5 ops s).m (run5 ops s).ext :=
  ⟨reachable5_from ops s h.good hg, run5_keysOK ops s h.keys⟩

theorem reachable5K_inv (ops : List UOp5) (hg : Ops5Guarded ops St.init) :
    GoodK (run5 ops St.init).m (run5 ops St.init).ext :=
  reachable5K_from ops St.init ⟨Good3.init, keysOK_init⟩ hg

/-! `dd.dddmp.load` builds its manager by `add_var` and `find_or_add` only: the manager it returns
has no stray key (a start state for `reachable5K_from`, `dddmp_start` in DDProps.Histories5) -/

theorem ksm_dddmpAddVars : ∀ (l : List (DddmpTok × Int)), KSM (dddmpAddVars l) := by
  intro l
  induction l with
  | nil => exact KSM.seqClosed.pure ()
  | cons p rest ih =>
    obtain ⟨var, level⟩ := p
    intro m h
    have h1 := ksm_addVar var.show (some level) m h
    simp only [dddmpAddVars]
    split
    · next e m' heq => exact h1.of_eq heq
    · next _ m' heq => exact ih m' (h1.of_eq heq)

theorem ksm_dddmpRebuildNode (o2n : List (Int × Int)) (j : Int) (umap : List (Int × Int))
    (e : Int × DddmpEntry) : KSM (dddmpRebuildNode o2n j umap e) := by
  intro m h
  unfold dddmpRebuildNode
  split
  · split <;> exact h
  · split
    · exact h
    · split
      · exact h
      · split
        · exact h
        · split
          · exact h
          · dsimp only
            split
            · next er m' heq => exact (ksm_findOrAdd _ _ _ m h).of_eq heq
            · next r m' heq => exact (ksm_findOrAdd _ _ _ m h).of_eq heq

theorem ksm_dddmpRebuildLevel (o2n : List (Int × Int)) (j : Int) :
    ∀ (l : List (Int × DddmpEntry)) (umap : List (Int × Int)), KSM (dddmpRebuildLevel o2n j l umap) := by
  intro l
  induction l with
  | nil => intro umap m h; exact h
  | cons e rest ih =>
    intro umap m h
    have h1 := ksm_dddmpRebuildNode o2n j umap e m h
    simp only [dddmpRebuildLevel]
    split
    · next er m' heq => exact h1.of_eq heq
    · next umap' m' heq => exact ih umap' m' (h1.of_eq heq)

theorem ksm_dddmpRebuild (o2n : List (Int × Int)) (bdd : List (Int × DddmpEntry)) :
    ∀ (n : Nat) (umap : List (Int × Int)), KSM (dddmpRebuild o2n bdd n umap) := by
  intro n
  induction n with
  | zero => intro umap m h; exact h
  | succ n ih =>
    intro umap m h
    have h1 := ksm_dddmpRebuildLevel o2n (n : Int) bdd umap m h
    simp only [dddmpRebuild]
    split
    · next er m' heq => exact h1.of_eq heq
    · next umap' m' heq => exact ih umap' m' (h1.of_eq heq)

theorem dddmpNewMgr_ok_inv {nl : List (DddmpTok × Int)} {m : Mgr} (h : dddmpNewMgr nl = .ok m) :
    (dddmpAddVars nl {}).2 = m := by
  unfold dddmpNewMgr at h
  dsimp only at h
  split at h
  · cases h
  · split at h
    · cases h
    · next heq => cases h; rw [heq]

/-- a load that succeeded went through `BDD(new_levels)` and the rebuild loop -/
theorem dddmpLoadCore_ok_inv {f : DddmpFile} {m : Mgr} {umap : List (Int × Int)} {roots : List Int}
    (h : dddmpLoadCore f = .ok (m, umap, roots)) :
    ∃ nl o2n bdd m0, dddmpNewMgr nl = .ok m0 ∧
      (dddmpRebuild o2n bdd nl.length dddmpUmap0 m0).2 = m := by
  unfold dddmpLoadCore at h
  split at h
  · cases h
  · split at h
    · cases h
    · split at h
      · cases h
      · split at h
        · cases h
        · next nl o2n _ _ m0 hnew =>
          split at h
          · cases h
          · next heq => cases h; exact ⟨nl, o2n, _, m0, hnew, by rw [heq]⟩

theorem keysOK_loadDddmp (f : DddmpFile) (m : Mgr) (h : loadDddmp f = .ok m) : KeysOK m := by
  unfold loadDddmp loadDddmpU at h
  split at h
  · cases h
  · next m1 umap roots hc =>
    split at h
    · cases h
    · cases h
      obtain ⟨nl, o2n, bdd, m0, hnew, hre⟩ := dddmpLoadCore_ok_inv hc
      have h0 : KeysOK m0 := dddmpNewMgr_ok_inv hnew ▸ ksm_dddmpAddVars nl {} keysOK_init
      exact (hre ▸ ksm_dddmpRebuild o2n bdd nl.length dddmpUmap0 m0 h0).congr rfl

end DD
