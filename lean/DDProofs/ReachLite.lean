/-
  DDProofs.ReachLite — the part of the manager invariant that EVERY model function keeps
  for ARBITRARY arguments (unknown nodes, bad levels, undeclared names, any memo, any fuel):

    `Lite ext m` = every stored edge points to a node (`Closed`) ∧ the counters are exact
                   w.r.t. the user's ledger `ext` (`RefExact`) ∧ reordering is off.

  and the reordering signal is never raised (`_NeedsReordering` cannot appear when
  `_last_len is None`), so the decorator `_try_to_reorder` never enters `reorder`.
  The only mutations are `find_or_add` (which checks its children itself) and computed-table
  insertions: `find_or_add` is done here, `_ite` is an instance of its walk (`iteG_seq`,
  DDProofs.RecursionsSeq, at `Out.seqClosed`); then `ite` and `var` under the decorator.
  Used for the reference-count clause of `find_or_add`, `var`, `ite` with arbitrary arguments while
  reordering is not enabled (DDProofs.AutoCore, DDProofs.DumpJson, DDProofs.ApiXCopyProofs).  What every decorated call keeps from a state with `Inv` is
  `Decorated.off` (DDProofs.DynRejected).
-/
import DDProofs.RefCount
import DDProofs.Keeps
import DDProofs.RecursionsSeq
import DDProofs.Decorator
import DDProofs.Ite
open Std

namespace DD

/-- the argument-independent part of the invariant -/
structure Lite (ext : Nat → Nat) (m : Mgr) : Prop where
  closed : m.tbl.Closed
  exact : RefExact m ext
  off : m.lastLen = none

def LiteOut (ext : Nat → Nat) {α : Type} (x : Except Err α × Mgr) : Prop :=
  Lite ext x.2 ∧ x.1 ≠ .error .needsReordering

theorem Lite.congr {ext : Nat → Nat} {m m' : Mgr} (h : Lite ext m) (h1 : m'.tbl = m.tbl)
    (h2 : m'.ref = m.ref) (h3 : m'.lastLen = m.lastLen) : Lite ext m' :=
  ⟨by rw [h1]; exact h.closed, h.exact.congr h1 h2, by rw [h3]; exact h.off⟩

theorem Lite.ok {ext : Nat → Nat} {m : Mgr} {α : Type} (h : Lite ext m) (a : α) :
    LiteOut ext ((.ok a, m) : Except Err α × Mgr) := ⟨h, by simp⟩

theorem Lite.err {ext : Nat → Nat} {m : Mgr} {α : Type} (h : Lite ext m) (e : Err)
    (he : e ≠ .needsReordering) : LiteOut ext ((.error e, m) : Except Err α × Mgr) :=
  ⟨h, by simpa using he⟩

theorem Lite.setCtx {ext : Nat → Nat} {m : Mgr} (h : Lite ext m) (c : Bool) :
    Lite ext { m with ctx := c } := h.congr rfl rfl rfl

theorem Lite.setCache {ext : Nat → Nat} {m : Mgr} (h : Lite ext m) (c : TreeMap (List Int) Int) :
    Lite ext { m with cache := c } := h.congr rfl rfl rfl

theorem findOrAddCore_noNR (m : Mgr) (i : Nat) (v w : Int) :
    (findOrAddCore i v w m).1 ≠ .error .needsReordering := by
  rcases findOrAddCore_answer i v w m with ⟨r, h⟩ | h | h | h <;> rw [h] <;> simp

theorem findOrAddCore_closed (m : Mgr) (ext : Nat → Nat) (h : Lite ext m) (i : Nat) (v w : Int) :
    (findOrAddCore i v w m).2.tbl.Closed ∧ (findOrAddCore i v w m).2.lastLen = m.lastLen := by
  rcases findOrAddCore_cases m i v w h.exact.isSome with
    he | ⟨hmv, hmw, -, hfree, n, c1, c2, hlo, hhi, -, -, -, he⟩
  · rw [he]; exact ⟨h.closed, rfl⟩
  · rw [he]
    refine ⟨?_, rfl⟩
    have hnode : ∀ k, ({ m.tbl with succ := m.tbl.succ.insert m.minFree n } : Tbl).node? k =
        if m.minFree = k then some n else m.tbl.node? k := by
      intro k
      simp only [Tbl.node?, TreeMap.getElem?_insert, compare_eq_iff_eq]
    have hmono : ∀ x : Int, m.tbl.Mem x →
        ({ m.tbl with succ := m.tbl.succ.insert m.minFree n } : Tbl).Mem x := by
      intro x hx
      rcases hx with hx | hx
      · exact Or.inl hx
      · right
        rw [hnode]
        split
        · rfl
        · exact hx
    have habs : ∀ (x y : Int), x.natAbs = y.natAbs → m.tbl.Mem y → m.tbl.Mem x := by
      intro x y hxy hy
      unfold Tbl.Mem at *
      rw [hxy]; exact hy
    intro k x hk
    show ({ m.tbl with succ := m.tbl.succ.insert m.minFree n } : Tbl).Mem x.lo ∧
      ({ m.tbl with succ := m.tbl.succ.insert m.minFree n } : Tbl).Mem x.hi
    have hk' : ({ m.tbl with succ := m.tbl.succ.insert m.minFree n } : Tbl).node? k = some x := hk
    rw [hnode] at hk'
    split at hk'
    · cases hk'
      exact ⟨hmono _ (habs _ _ hlo hmv), hmono _ (habs _ _ hhi hmw)⟩
    · have := h.closed k x hk'
      exact ⟨hmono _ this.1, hmono _ this.2⟩

theorem findOrAddCore_lite (ext : Nat → Nat) (m : Mgr) (h : Lite ext m) (i : Nat) (v w : Int) :
    LiteOut ext (findOrAddCore i v w m) := by
  have hc := findOrAddCore_closed m ext h i v w
  exact ⟨⟨hc.1, findOrAddCore_refExact m ext i v w h.closed h.exact, by rw [hc.2]; exact h.off⟩,
    findOrAddCore_noNR m i v w⟩

theorem findOrAdd_lite (ext : Nat → Nat) (m : Mgr) (h : Lite ext m) (i : Int) (v w : Int) :
    LiteOut ext (findOrAdd i v w m) := by
  rw [findOrAdd_quiet m (Or.inr h.off)]
  split
  · exact h.err _ (by simp)
  · exact findOrAddCore_lite ext m h _ v w

/-- `_try_to_reorder` around a body that keeps `Lite`: the signal is never raised, `reorder` is
never entered -/
theorem tryToReorder_lite {α : Type} (ext : Nat → Nat) (f : M α)
    (hf : ∀ m, Lite ext m → LiteOut ext (f m)) (m : Mgr) (h : Lite ext m) :
    LiteOut ext (tryToReorder f m) := by
  have h1 := hf { m with ctx := true } (h.setCtx true)
  rw [tryToReorder_first f m (.inl h1.2)]
  exact ⟨h1.1.setCtx _, h1.2⟩

theorem LiteOut.of_eq {ext : Nat → Nat} {α : Type} {x y : Except Err α × Mgr} (h : LiteOut ext x)
    (e : x = y) : LiteOut ext y := e ▸ h

theorem LiteOut.reErr {ext : Nat → Nat} {α β : Type} {e : Err} {m : Mgr}
    (h : LiteOut ext ((.error e, m) : Except Err α × Mgr)) :
    LiteOut ext ((.error e, m) : Except Err β × Mgr) :=
  ⟨h.1, by have := h.2; simpa using this⟩

theorem LiteOut.out {ext : Nat → Nat} {α : Type} {x : Except Err α × Mgr} (h : LiteOut ext x) :
    Out (Lite ext) (· ≠ .needsReordering) x := ⟨h.1, fun _ he hne => h.2 (hne ▸ he)⟩

theorem Out.liteOut {ext : Nat → Nat} {α : Type} {x : Except Err α × Mgr}
    (h : Out (Lite ext) (· ≠ .needsReordering) x) : LiteOut ext x := ⟨h.1, fun he => h.2 _ he rfl⟩

theorem iteF_lite (ext : Nat → Nat) (f : Nat) (g u v : Int) (m : Mgr) (h : Lite ext m) :
    LiteOut ext (iteF f g u v m) :=
  (iteG_findOrAdd f g u v ▸ iteG_seq (Out.seqClosed fun _ he => he) findOrAdd
    (fun i v w m h => (findOrAdd_lite ext m h i v w).out) (fun _ _ _ w _ h => Out.ok (h.setCache _) w)
    f g u v m h).liteOut

/-- exact counts through `_ite` for ARBITRARY operands and fuel, same ledger (`iteF_refExact` of
DDProofs.DynRef is the same for valid operands, both outcomes) -/
theorem iteF_refExact' (m : Mgr) (ext : Nat → Nat) (hc : m.tbl.Closed) (hr : RefExact m ext)
    (hoff : m.lastLen = none) (f : Nat) (g u v : Int) :
    RefExact (iteF f g u v m).2 ext ∧ (iteF f g u v m).2.tbl.Closed :=
  have h := iteF_lite ext f g u v m ⟨hc, hr, hoff⟩
  ⟨h.1.exact, h.1.closed⟩

theorem iteRaw_lite (ext : Nat → Nat) (g u v : Int) (m : Mgr) (h : Lite ext m) :
    LiteOut ext (iteRaw g u v m) := by
  have : iteRaw g u v m = iteF (m.nvars + 2) g u v m := by
    simp [iteRaw, bind, M.bind', M.get]
  rw [this]; exact iteF_lite ext _ g u v m h

theorem ite_lite (ext : Nat → Nat) (g u v : Int) (m : Mgr) (h : Lite ext m) :
    LiteOut ext (ite g u v m) :=
  tryToReorder_lite ext _ (iteRaw_lite ext g u v) m h

/-- the body of `BDD.var` -/
def varBody (name : String) : M Int := do
  let m ← M.get
  match m.tbl.vars[name]? with
  | none => M.throw .value
  | some j => findOrAdd j (-1) 1

theorem var_eq (name : String) : var name = tryToReorder (varBody name) := rfl

theorem varBody_eq (name : String) (m : Mgr) :
    varBody name m = match m.tbl.vars[name]? with
      | none => (.error .value, m)
      | some j => findOrAdd (j : Int) (-1) 1 m := by
  simp only [varBody, bind, M.bind', M.get]
  cases m.tbl.vars[name]? <;> rfl

theorem varBody_lite (ext : Nat → Nat) (name : String) (m : Mgr) (h : Lite ext m) :
    LiteOut ext (varBody name m) := by
  rw [varBody_eq]
  split
  · exact h.err _ (by simp)
  · exact findOrAdd_lite ext m h _ _ _

theorem var_lite (ext : Nat → Nat) (name : String) (m : Mgr) (h : Lite ext m) :
    LiteOut ext (var name m) :=
  tryToReorder_lite ext _ (varBody_lite ext name) m h

end DD
