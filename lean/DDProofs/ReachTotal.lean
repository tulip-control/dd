/-
  DDProofs.ReachTotal — reordering not enabled: `find_or_add` under its documented guard keeps
  the manager (`Kept`: invariant, every old node unchanged, order and switches unchanged) whatever
  its arguments, and `var` on a declared / an undeclared name.  The public operations on
  ARBITRARY arguments are in DDProofs.DynRejectedOps (their rows `X_decorated`).
-/
import DDProofs.ReachLite
import DDProofs.SubstWrappers
import DDProofs.Total
open Std

namespace DD

theorem Inv.lite {m : Mgr} {ext : Nat → Nat} (hI : Inv m) (hr : RefExact m ext) (hoff : m.lastLen = none) :
    Lite ext m := ⟨hI.wf.toWF.closed, hr, hoff⟩

theorem findOrAdd_kept (m : Mgr) (hI : Inv m) (hoff : m.lastLen = none) (i : Int) (v w : Int)
    (hg : 0 ≤ i → FoaGuard m i.toNat v w) : Kept m (findOrAdd i v w m).2 := by
  rw [findOrAdd_quiet m (Or.inr hoff)]
  split
  · exact Kept.refl hI
  · exact findOrAddCore_total m hI _ v w (hg (by omega))

/-- `BDD.var(name)` of a declared variable returns a node denoting that variable -/
theorem var_spec (m : Mgr) (hI : Inv m) (hoff : m.lastLen = none) (name : String) (j : Nat)
    (hj : m.tbl.vars[name]? = some j) (hlt : j < m.nvars) :
    ∃ r m', var name m = (.ok r, m') ∧ Kept m m' ∧ m'.tbl.Mem r ∧ ∀ a, den m'.tbl r a = a j := by
  obtain ⟨g, m1, he, hs, hm, -, hd⟩ := varNode_off { m with ctx := true } (hI.setCtx true) hoff j hlt
  have hb : varBody name { m with ctx := true } = (.ok g, m1) := by
    rw [varBody_eq]
    simp only [hj, he]
  exact ⟨g, _, tryToReorder_ok _ m g m1 hb, hs.ofCtx.kept, hm, hd⟩

/-- `BDD.var(name)` of an undeclared name is refused and changes nothing -/
theorem var_undeclared (m : Mgr) (name : String) (hj : m.tbl.vars[name]? = none) :
    var name m = (.error .value, m) := by
  have hb : varBody name { m with ctx := true } = (.error .value, { m with ctx := true }) := by
    rw [varBody_eq]
    simp only [hj]
  rw [var_eq, tryToReorder_err _ m _ _ hb (by simp)]

theorem not_mem_cases {t : Tbl} {u : Int} (hu : ¬ t.Mem u) : u.natAbs ≠ 1 ∧ t.succ[u.natAbs]? = none := by
  refine ⟨fun h => hu (Or.inl h), ?_⟩
  cases hh : t.succ[u.natAbs]? with
  | none => rfl
  | some n => exact absurd (Or.inr (by simp [Tbl.node?, hh])) hu

end DD
