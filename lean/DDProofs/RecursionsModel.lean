/-
  DDProofs.RecursionsModel — the memoised recursions written over any `find_or_add` / `_ite`
  (`cofactorFG`, `quantifyFG`, `composeFG`, `vectorComposeFG`, `copyBddFG` and the bodies of the
  wrappers over them), taken at the model's own two primitives, ARE the model's recursions.
-/
import DD.Capacity3Cofactor
import DD.Capacity3Compose
import DD.Capacity3Rename
import DD.Capacity3

namespace DD

theorem cofactorFG_model (values : List (Nat × Bool)) :
    ∀ f u ov c, cofactorFG findOrAdd values f u ov c = cofactorF values f u ov c := by
  intro f
  induction f with
  | zero => intros; rfl
  | succ f ih =>
    intro u ov c
    funext m
    unfold cofactorFG cofactorF
    simp only [ih]
    rfl

theorem cofactorBodyG_model (u : Int) (d : List (Key × Bool)) :
    cofactorBodyG findOrAdd u d = cofactorBody u d := by
  unfold cofactorBodyG cofactorBody
  simp only [cofactorFG_model]
  rfl

theorem quantifyFG_model (Q : List Nat) (fa : Bool) :
    ∀ f u ov c, quantifyFG findOrAdd ite Q fa f u ov c = quantifyF Q fa f u ov c := by
  intro f
  induction f with
  | zero => intros; rfl
  | succ f ih =>
    intro u ov c
    funext m
    unfold quantifyFG quantifyF
    simp only [ih]
    rfl

theorem quantifyBodyG_model (u : Int) (q : List Key) (fa : Bool) :
    quantifyBodyG findOrAdd ite u q fa = quantifyBody u q fa := by
  unfold quantifyBodyG quantifyBody
  simp only [quantifyFG_model]
  rfl

theorem composeFG_model (j : Nat) :
    ∀ fu f g c, composeFG findOrAdd ite j fu f g c = composeF j fu f g c := by
  intro fu
  induction fu with
  | zero => intros; rfl
  | succ fu ih =>
    intro f g c
    funext m
    unfold composeFG composeF
    simp only [ih]
    rfl

theorem subOrVarG_model : subOrVarG findOrAdd = subOrVar := rfl

theorem vectorComposeFG_model (sub : List (Nat × Int)) :
    ∀ fu f c, vectorComposeFG findOrAdd ite sub fu f c = vectorComposeF sub fu f c := by
  intro fu
  induction fu with
  | zero => intros; rfl
  | succ fu ih =>
    intro f c
    funext m
    unfold vectorComposeFG vectorComposeF
    simp only [ih, subOrVarG_model]
    rfl

theorem copyBddFG_model (src : Option Tbl) (lm : List (Nat × Nat)) :
    ∀ fu u c, copyBddFG findOrAdd ite src lm fu u c = copyBddF src lm fu u c := by
  intro fu
  induction fu with
  | zero => intros; rfl
  | succ fu ih =>
    intro u c
    funext m
    unfold copyBddFG copyBddF
    simp only [ih]
    rfl

theorem renameBodyG_model (u : Int) (d : List (String × String)) :
    renameBodyG findOrAdd ite u d = renameBody u d := by
  unfold renameBodyG renameBody
  simp only [copyBddFG_model]
  rfl

theorem copyBddBodyG_model (src : Tbl) (u : Int) :
    copyBddBodyG findOrAdd ite src u = copyBddBody src u := by
  unfold copyBddBodyG copyBddBody
  simp only [copyBddFG_model]
  rfl

theorem composeBodyG_model (f : Int) (d : List (String × Int)) :
    composeBodyG findOrAdd ite f d = composeBody f d := by
  unfold composeBodyG composeBody
  simp only [composeFG_model, vectorComposeFG_model]
  rfl

end DD
