/-
  DDProofs.RecursionsSeq — the memoised recursions of the core operations (`_ite` over any
  `find_or_add`, `_cofactor`, `_quantify`, `_compose`, `_vector_compose`, `_copy_bdd`, `_image`),
  walked once for every property of computations that sequencing preserves (`SeqClosed`).

  The model writes them with an explicit `match` on the outcome of each call, on which no rule of
  `SeqClosed` fires; `X_succ` states one step of the recursion with `>>=` and `M.get` (the same
  function: a theorem), and `X_seq` is then the text of the function, one rule per line: the
  recursion has the property as soon as the calls it makes have it.
-/
import DDProofs.SeqClosed
import DD.Capacity3
import DD.Capacity3Cofactor
import DD.Capacity3Compose
import DD.Capacity3Rename
open Std

namespace DD

/- How the `X_succ` are proved.  After `funext m` the left side is the model's text, tests and
`match`es on OUTCOMES; the right side is the same tests on COMPUTATIONS, applied to `m`.  `rfl`
does not see through either difference while the scrutinee is stuck (`(if c then x else y) m` is no
`if c then x m else y m`, a pair taken apart by a pattern is not its projections), so the proof
follows the text: a test on values is `M.ite_run`, a `match` on a value is `cases`, and a call is
opened on the right by `rw [M.bind_eq]` (it fires on the outermost `>>=` only, the others being
under binders) and then split on both sides at once by `rcases call m`; `dsimp only` reduces the
`match` so that the next test stands at the head. -/

theorem iteG_succ (foa : Int → Int → Int → M Int) (f : Nat) (g u v : Int) :
    iteG foa (f + 1) g u v =
      if g = 1 then pure u else
      if g = -1 then pure v else
      M.get >>= fun m0 =>
      match m0.cache[iteKey g u v]? with
      | some w => pure w
      | none =>
        match m0.tbl.levelOf? g, m0.tbl.levelOf? u, m0.tbl.levelOf? v with
        | some lg, some lu, some lv =>
          liftE (topCofactor m0.tbl g (min lg (min lu lv))) >>= fun g01 =>
          liftE (topCofactor m0.tbl u (min lg (min lu lv))) >>= fun u01 =>
          liftE (topCofactor m0.tbl v (min lg (min lu lv))) >>= fun v01 =>
          iteG foa f g01.1 u01.1 v01.1 >>= fun p =>
          iteG foa f g01.2 u01.2 v01.2 >>= fun q =>
          foa (min lg (min lu lv) : Nat) p q >>= cachePut g u v
        | _, _, _ => M.throw .key := by
  funext m
  conv => lhs; unfold iteG
  refine M.ite_run (fun _ => rfl) fun _ => M.ite_run (fun _ => rfl) fun _ => ?_
  rw [M.get_bind]
  cases m.cache[iteKey g u v]? with
  | some w => rfl
  | none =>
  dsimp only
  rcases m.tbl.levelOf? g with _ | lg <;> rcases m.tbl.levelOf? u with _ | lu <;>
    rcases m.tbl.levelOf? v with _ | lv <;> try rfl
  dsimp only
  rcases topCofactor m.tbl g _ with e | ⟨g0, g1⟩ <;> rcases topCofactor m.tbl u _ with e' | ⟨u0, u1⟩ <;>
    rcases topCofactor m.tbl v _ with e'' | ⟨v0, v1⟩ <;> rfl

theorem cofactorFG_succ (foa : Int → Int → Int → M Int) (values : List (Nat × Bool)) (f : Nat)
    (u : Int) (ordvar : List Nat) (cache : HashMap Int Int) :
    cofactorFG foa values (f + 1) u ordvar cache =
      if u.natAbs = 1 then pure (u, cache) else
      match cache[u]? with
      | some r => pure (r, cache)
      | none => M.get >>= fun m0 =>
        match m0.tbl.succ[u.natAbs]? with
        | none => M.throw .key
        | some n =>
          if n.lo = 0 ∨ n.hi = 0 then M.throw .assertion else
          let ordvar := ordvar.dropWhile (· < n.lvl)
          if ordvar.isEmpty then pure (u, cache) else
          match values.lookup n.lvl with
          | some val =>
            cofactorFG foa values f (if val then n.hi else n.lo) ordvar cache >>= fun rc =>
            pure ((if u < 0 then -rc.1 else rc.1), rc.2.insert u (if u < 0 then -rc.1 else rc.1))
          | none =>
            cofactorFG foa values f n.lo ordvar cache >>= fun pc =>
            cofactorFG foa values f n.hi ordvar pc.2 >>= fun qc =>
            foa n.lvl pc.1 qc.1 >>= fun r =>
            pure ((if u < 0 then -r else r), qc.2.insert u (if u < 0 then -r else r)) := by
  funext m
  conv => lhs; unfold cofactorFG
  refine M.ite_run (fun _ => rfl) fun _ => ?_
  cases cache[u]? with
  | some r => rfl
  | none =>
  dsimp only
  rw [M.get_bind]
  cases m.tbl.succ[u.natAbs]? with
  | none => rfl
  | some n =>
  dsimp only
  refine M.ite_run (fun _ => rfl) fun _ => ?_
  refine M.ite_run (fun _ => rfl) fun _ => ?_
  cases values.lookup n.lvl with
  | some val =>
    dsimp only
    rw [M.bind_eq]
    rcases cofactorFG foa values f (if val = true then n.hi else n.lo)
      (ordvar.dropWhile (· < n.lvl)) cache m with ⟨e | rc, m1⟩ <;> rfl
  | none =>
    dsimp only
    rw [M.bind_eq]
    rcases cofactorFG foa values f n.lo (ordvar.dropWhile (· < n.lvl)) cache m with ⟨e | pc, m1⟩
    · rfl
    dsimp only
    rw [M.bind_eq]
    rcases cofactorFG foa values f n.hi (ordvar.dropWhile (· < n.lvl)) pc.2 m1 with ⟨e | qc, m2⟩
    · rfl
    dsimp only
    rw [M.bind_eq]
    rcases foa n.lvl pc.1 qc.1 m2 with ⟨e | r, m3⟩ <;> rfl

theorem quantifyFG_succ (foa iteX : Int → Int → Int → M Int) (qvars : List Nat) (fa : Bool) (f : Nat)
    (u : Int) (ordvar : List Nat) (cache : HashMap Int Int) :
    quantifyFG foa iteX qvars fa (f + 1) u ordvar cache =
      if u.natAbs = 1 then pure (u, cache) else
      match cache[u]? with
      | some r => pure (r, cache)
      | none => M.get >>= fun m0 =>
        match m0.tbl.succ[u.natAbs]? with
        | none => M.throw .key
        | some n =>
          if n.lo = 0 ∨ n.hi = 0 then M.throw .assertion else
          let ordvar := ordvar.dropWhile (· < n.lvl)
          if ordvar.isEmpty then pure (u, cache) else
          quantifyFG foa iteX qvars fa f (if u < 0 then -n.lo else n.lo) ordvar cache >>= fun pc =>
          quantifyFG foa iteX qvars fa f (if u < 0 then -n.hi else n.hi) ordvar pc.2 >>= fun qc =>
          (if qvars.contains n.lvl then (if fa then iteX pc.1 qc.1 (-1) else iteX pc.1 1 qc.1)
            else foa n.lvl pc.1 qc.1) >>= fun r =>
          pure (r, qc.2.insert u r) := by
  funext m
  conv => lhs; unfold quantifyFG
  refine M.ite_run (fun _ => rfl) fun _ => ?_
  cases cache[u]? with
  | some r => rfl
  | none =>
  dsimp only
  rw [M.get_bind]
  cases m.tbl.succ[u.natAbs]? with
  | none => rfl
  | some n =>
  dsimp only
  refine M.ite_run (fun _ => rfl) fun _ => ?_
  refine M.ite_run (fun _ => rfl) fun _ => ?_
  rw [M.bind_eq]
  rcases quantifyFG foa iteX qvars fa f (if u < 0 then -n.lo else n.lo)
    (ordvar.dropWhile (· < n.lvl)) cache m with ⟨e | pc, m1⟩
  · rfl
  dsimp only
  rw [M.bind_eq]
  rcases quantifyFG foa iteX qvars fa f (if u < 0 then -n.hi else n.hi)
    (ordvar.dropWhile (· < n.lvl)) pc.2 m1 with ⟨e | qc, m2⟩
  · rfl
  dsimp only
  rw [M.bind_eq]
  by_cases h4 : qvars.contains n.lvl = true
  · rw [if_pos h4, if_pos h4]
    cases fa
    · simp only [Bool.false_eq_true, if_false]
      rcases iteX pc.1 1 qc.1 m2 with ⟨e | r, m3⟩ <;> rfl
    · simp only [if_true]
      rcases iteX pc.1 qc.1 (-1) m2 with ⟨e | r, m3⟩ <;> rfl
  · rw [if_neg h4, if_neg h4]
    rcases foa n.lvl pc.1 qc.1 m2 with ⟨e | r, m3⟩ <;> rfl

theorem composeFG_succ (foa iteX : Int → Int → Int → M Int) (j fu : Nat) (f g : Int)
    (cache : HashMap (Int × Int) Int) :
    composeFG foa iteX j (fu + 1) f g cache =
      if f.natAbs = 1 then pure (f, cache) else
      match cache[(f, g)]? with
      | some r => pure (r, cache)
      | none => M.get >>= fun m0 =>
        match m0.tbl.succ[f.natAbs]? with
        | none => M.throw .key
        | some n =>
          if n.lo = 0 ∨ n.hi = 0 then M.throw .assertion else
          if j < n.lvl then pure (f, cache) else
          if n.lvl = j then
            iteX g n.hi n.lo >>= fun r =>
            pure ((if f < 0 then -r else r), cache.insert (f, g) (if f < 0 then -r else r))
          else
            match m0.tbl.levelOf? g with
            | none => M.throw .key
            | some k =>
              liftE (topCofactor m0.tbl f (min n.lvl k)) >>= fun f01 =>
              liftE (topCofactor m0.tbl g (min n.lvl k)) >>= fun g01 =>
              composeFG foa iteX j fu f01.1 g01.1 cache >>= fun pc =>
              composeFG foa iteX j fu f01.2 g01.2 pc.2 >>= fun qc =>
              foa (min n.lvl k : Nat) pc.1 qc.1 >>= fun r =>
              pure (r, qc.2.insert (f, g) r) := by
  funext m
  conv => lhs; unfold composeFG
  refine M.ite_run (fun _ => rfl) fun _ => ?_
  cases cache[(f, g)]? with
  | some r => rfl
  | none =>
  dsimp only
  rw [M.get_bind]
  cases m.tbl.succ[f.natAbs]? with
  | none => rfl
  | some n =>
  dsimp only
  refine M.ite_run (fun _ => rfl) fun _ => ?_
  refine M.ite_run (fun _ => rfl) fun _ => ?_
  refine M.ite_run (fun _ => ?_) fun _ => ?_
  · rw [M.bind_eq]
    rcases iteX g n.hi n.lo m with ⟨e | r, m1⟩ <;> rfl
  cases m.tbl.levelOf? g with
  | none => rfl
  | some k =>
  dsimp only
  rcases topCofactor m.tbl f _ with e | f01
  · rcases topCofactor m.tbl g _ with e' | g01 <;> rfl
  rcases topCofactor m.tbl g _ with e | g01
  · rfl
  dsimp only
  show _ = (composeFG foa iteX j fu f01.1 g01.1 cache >>= _) m
  rw [M.bind_eq]
  rcases composeFG foa iteX j fu f01.1 g01.1 cache m with ⟨e | pc, m1⟩
  · rfl
  dsimp only
  rw [M.bind_eq]
  rcases composeFG foa iteX j fu f01.2 g01.2 pc.2 m1 with ⟨e | qc, m2⟩
  · rfl
  dsimp only
  rw [M.bind_eq]
  rcases foa (min n.lvl k : Nat) pc.1 qc.1 m2 with ⟨e | r, m3⟩ <;> rfl

theorem subOrVarG_eq (foa : Int → Int → Int → M Int) (sub : List (Nat × Int)) (i : Nat) :
    subOrVarG foa sub i = match sub.lookup i with
      | some g => pure g
      | none => foa i (-1) 1 := by
  funext m
  unfold subOrVarG
  cases sub.lookup i <;> rfl

theorem vectorComposeFG_succ (foa iteX : Int → Int → Int → M Int) (sub : List (Nat × Int)) (fu : Nat)
    (f : Int) (cache : HashMap Nat Int) :
    vectorComposeFG foa iteX sub (fu + 1) f cache =
      if f.natAbs = 1 then pure (f, cache) else
      match cache[f.natAbs]? with
      | some r => if r = 0 then M.throw .assertion else pure ((if f < 0 then -r else r), cache)
      | none => M.get >>= fun m0 =>
        match m0.tbl.succ[f.natAbs]? with
        | none => M.throw .key
        | some n =>
          if n.lo = 0 ∨ n.hi = 0 then M.throw .assertion else
          vectorComposeFG foa iteX sub fu n.lo cache >>= fun pc =>
          vectorComposeFG foa iteX sub fu n.hi pc.2 >>= fun qc =>
          subOrVarG foa sub n.lvl >>= fun g =>
          iteX g qc.1 pc.1 >>= fun r =>
          pure ((if f < 0 then -r else r), qc.2.insert f.natAbs r) := by
  funext m
  conv => lhs; unfold vectorComposeFG
  refine M.ite_run (fun _ => rfl) fun _ => ?_
  cases cache[f.natAbs]? with
  | some r => by_cases h : r = 0 <;> simp only [h, if_false] <;> rfl
  | none =>
  dsimp only
  rw [M.get_bind]
  cases m.tbl.succ[f.natAbs]? with
  | none => rfl
  | some n =>
  dsimp only
  refine M.ite_run (fun _ => rfl) fun _ => ?_
  rw [M.bind_eq]
  rcases vectorComposeFG foa iteX sub fu n.lo cache m with ⟨e | pc, m1⟩
  · rfl
  dsimp only
  rw [M.bind_eq]
  rcases vectorComposeFG foa iteX sub fu n.hi pc.2 m1 with ⟨e | qc, m2⟩
  · rfl
  dsimp only
  rw [M.bind_eq]
  rcases subOrVarG foa sub n.lvl m2 with ⟨e | g, m3⟩
  · rfl
  dsimp only
  rw [M.bind_eq]
  rcases iteX g qc.1 pc.1 m3 with ⟨e | r, m4⟩ <;> rfl

theorem copyBddFG_succ (foa iteX : Int → Int → Int → M Int) (src : Option Tbl) (lm : List (Nat × Nat))
    (fu : Nat) (u : Int) (cache : HashMap Nat Int) :
    copyBddFG foa iteX src lm (fu + 1) u cache =
      if u.natAbs = 1 then pure (u, cache) else
      match cache[u.natAbs]? with
      | some r => if ¬ 0 < r then M.throw .assertion else pure ((if u < 0 then -r else r), cache)
      | none => M.get >>= fun m0 =>
        match (src.getD m0.tbl).succ[u.natAbs]? with
        | none => M.throw .key
        | some n =>
          if n.lo = 0 ∨ n.hi = 0 then M.throw .assertion else
          copyBddFG foa iteX src lm fu n.lo cache >>= fun pc =>
          copyBddFG foa iteX src lm fu n.hi pc.2 >>= fun qc =>
          if ¬ 0 < pc.1 * n.lo then M.throw .assertion else
          if ¬ 0 < qc.1 then M.throw .assertion else
          match lm.lookup n.lvl with
          | none => M.throw .key
          | some jnew =>
            foa jnew (-1) 1 >>= fun g =>
            iteX g qc.1 pc.1 >>= fun r =>
            if ¬ 0 < r then M.throw .assertion else
            pure ((if u < 0 then -r else r), qc.2.insert u.natAbs r) := by
  funext m
  conv => lhs; unfold copyBddFG
  refine M.ite_run (fun _ => rfl) fun _ => ?_
  cases cache[u.natAbs]? with
  | some r => by_cases h : ¬ 0 < r <;> simp only [h, if_false] <;> rfl
  | none =>
  dsimp only
  rw [M.get_bind]
  cases (src.getD m.tbl).succ[u.natAbs]? with
  | none => rfl
  | some n =>
  dsimp only
  refine M.ite_run (fun _ => rfl) fun _ => ?_
  rw [M.bind_eq]
  rcases copyBddFG foa iteX src lm fu n.lo cache m with ⟨e | pc, m1⟩
  · rfl
  dsimp only
  rw [M.bind_eq]
  rcases copyBddFG foa iteX src lm fu n.hi pc.2 m1 with ⟨e | qc, m2⟩
  · rfl
  dsimp only
  refine M.ite_run (fun _ => rfl) fun _ => ?_
  refine M.ite_run (fun _ => rfl) fun _ => ?_
  cases lm.lookup n.lvl with
  | none => rfl
  | some jnew =>
  dsimp only
  rw [M.bind_eq]
  rcases foa jnew (-1) 1 m2 with ⟨e | g, m3⟩
  · rfl
  dsimp only
  rw [M.bind_eq]
  rcases iteX g qc.1 pc.1 m3 with ⟨e | r, m4⟩
  · rfl
  dsimp only
  exact M.ite_run (fun _ => rfl) fun _ => rfl

theorem copyBddK_succ (lm : List (Nat × Key)) (fu : Nat) (u : Int) (cache : HashMap Nat Int) :
    copyBddK lm (fu + 1) u cache =
      if u.natAbs = 1 then pure (u, cache) else
      match cache[u.natAbs]? with
      | some r => if ¬ 0 < r then M.throw .assertion else pure ((if u < 0 then -r else r), cache)
      | none => M.get >>= fun m0 =>
        match m0.tbl.succ[u.natAbs]? with
        | none => M.throw .key
        | some n =>
          if n.lo = 0 ∨ n.hi = 0 then M.throw .assertion else
          copyBddK lm fu n.lo cache >>= fun pc =>
          copyBddK lm fu n.hi pc.2 >>= fun qc =>
          if ¬ 0 < pc.1 * n.lo then M.throw .assertion else
          if ¬ 0 < qc.1 then M.throw .assertion else
          match lm.lookup n.lvl with
          | none => M.throw .key
          | some jnew =>
            (match jnew with
              | .lvl i => findOrAdd i (-1) 1
              | .name _ => findOrAddNonInt) >>= fun g =>
            ite g qc.1 pc.1 >>= fun r =>
            if ¬ 0 < r then M.throw .assertion else
            pure ((if u < 0 then -r else r), qc.2.insert u.natAbs r) := by
  funext m
  conv => lhs; unfold copyBddK
  refine M.ite_run (fun _ => rfl) fun _ => ?_
  cases cache[u.natAbs]? with
  | some r => by_cases h : ¬ 0 < r <;> simp only [h, if_false] <;> rfl
  | none =>
  dsimp only
  rw [M.get_bind]
  cases m.tbl.succ[u.natAbs]? with
  | none => rfl
  | some n =>
  dsimp only
  refine M.ite_run (fun _ => rfl) fun _ => ?_
  rw [M.bind_eq]
  rcases copyBddK lm fu n.lo cache m with ⟨e | pc, m1⟩
  · rfl
  dsimp only
  rw [M.bind_eq]
  rcases copyBddK lm fu n.hi pc.2 m1 with ⟨e | qc, m2⟩
  · rfl
  dsimp only
  refine M.ite_run (fun _ => rfl) fun _ => ?_
  refine M.ite_run (fun _ => rfl) fun _ => ?_
  cases lm.lookup n.lvl with
  | none => rfl
  | some jnew =>
  dsimp only
  -- the node of the variable is made in one of two ways; what follows is the same
  have rest : ∀ (g : Int) (m3 : Mgr), (match ite g qc.1 pc.1 m3 with
        | (.error e, m4) => ((.error e, m4) : Except Err (Int × HashMap Nat Int) × Mgr)
        | (.ok r, m4) =>
          if ¬ 0 < r then (.error .assertion, m4) else
          (.ok ((if u < 0 then -r else r), qc.2.insert u.natAbs r), m4)) =
      (ite g qc.1 pc.1 >>= fun r =>
        if ¬ 0 < r then M.throw .assertion else
        pure ((if u < 0 then -r else r), qc.2.insert u.natAbs r)) m3 := by
    intro g m3
    rw [M.bind_eq]
    rcases ite g qc.1 pc.1 m3 with ⟨e | r, m4⟩
    · rfl
    dsimp only
    exact M.ite_run (fun _ => rfl) fun _ => rfl
  cases jnew with
  | lvl i =>
    dsimp only
    rw [M.bind_eq]
    rcases findOrAdd i (-1) 1 m2 with ⟨e | g, m3⟩
    · rfl
    · exact rest g m3
  | name nm =>
    dsimp only
    rw [M.bind_eq]
    rcases findOrAddNonInt m2 with ⟨e | g, m3⟩
    · rfl
    · exact rest g m3

theorem findOrAddNonInt_eq : findOrAddNonInt = M.get >>= fun m0 =>
    (if m0.ctx then requestReordering else pure ()) >>= fun _ => M.throw .type := by
  funext m
  unfold findOrAddNonInt
  rw [M.get_bind, M.bind_eq]
  cases m.ctx
  · rfl
  · simp only [if_true]
    rcases requestReordering m with ⟨e | x, m1⟩ <;> rfl

theorem imageF_succ (umap vmap : Option (List (Int × Int))) (ubad vbad : List Int) (Q : List Nat)
    (fa : Bool) (f : Nat) (u v : Int) (cache : HashMap (Int × Int) Int) :
    imageF umap vmap ubad vbad Q fa (f + 1) u v cache =
      if u = -1 ∨ v = -1 then pure (-1, cache) else
      if u = 1 ∧ v = 1 then pure (1, cache) else
      match cache[(u, v)]? with
      | some w => pure (w, cache)
      | none => M.get >>= fun m0 =>
        match m0.tbl.levelOf? u with
        | none => M.throw .key
        | some iu =>
        match m0.tbl.levelOf? v with
        | none => M.throw .key
        | some jv =>
          if vbad.contains (jv : Int) then M.throw .type else
          let iv : Int := mapLvl vmap jv
          let z : Int := min (iu : Int) iv
          liftE (topCofactorI m0.tbl u z) >>= fun u01 =>
          liftE (topCofactorI m0.tbl v ((jv : Int) + z - iv)) >>= fun v01 =>
          imageF umap vmap ubad vbad Q fa f u01.1 v01.1 cache >>= fun pc =>
          imageF umap vmap ubad vbad Q fa f u01.2 v01.2 pc.2 >>= fun qc =>
          (if 0 ≤ z ∧ Q.contains z.toNat = true then
              (if fa then ite pc.1 qc.1 (-1) else ite pc.1 1 qc.1)
            else
              (if ubad.contains z then findOrAddNonInt else findOrAdd (mapLvl umap z) (-1) 1) >>= fun g =>
              ite g qc.1 pc.1) >>= fun r =>
          pure (r, qc.2.insert (u, v) r) := by
  funext m
  conv => lhs; unfold imageF
  refine M.ite_run (fun _ => rfl) fun _ => ?_
  refine M.ite_run (fun _ => rfl) fun _ => ?_
  cases cache[(u, v)]? with
  | some w => rfl
  | none =>
  dsimp only
  rw [M.get_bind]
  cases m.tbl.levelOf? u with
  | none => rfl
  | some iu =>
  cases m.tbl.levelOf? v with
  | none => rfl
  | some jv =>
  dsimp only
  refine M.ite_run (fun _ => rfl) fun _ => ?_
  rcases topCofactorI m.tbl u _ with e | u01
  · rfl
  rcases topCofactorI m.tbl v _ with e | v01
  · rfl
  dsimp only
  show _ = (imageF umap vmap ubad vbad Q fa f u01.1 v01.1 cache >>= _) m
  rw [M.bind_eq]
  rcases imageF umap vmap ubad vbad Q fa f u01.1 v01.1 cache m with ⟨e | pc, m1⟩
  · rfl
  dsimp only
  rw [M.bind_eq]
  rcases imageF umap vmap ubad vbad Q fa f u01.2 v01.2 pc.2 m1 with ⟨e | qc, m2⟩
  · rfl
  dsimp only
  by_cases h4 : 0 ≤ min (iu : Int) (mapLvl vmap jv) ∧ Q.contains (min (iu : Int) (mapLvl vmap jv)).toNat = true
  · rw [if_pos h4, if_pos h4]
    cases fa
    · simp only [Bool.false_eq_true, if_false]
      rw [M.bind_eq]
      rcases ite pc.1 1 qc.1 m2 with ⟨e | r, m3⟩ <;> rfl
    · simp only [if_true]
      rw [M.bind_eq]
      rcases ite pc.1 qc.1 (-1) m2 with ⟨e | r, m3⟩ <;> rfl
  · rw [if_neg h4, if_neg h4]
    -- either way of making the node of the variable, then the same tail
    have tail : ∀ X : M Int, (match (match X m2 with
          | (.error e, m3) => ((.error e, m3) : Except Err Int × Mgr)
          | (.ok g, m3) => ite g qc.1 pc.1 m3) with
        | (.error e, m3) => ((.error e, m3) : Except Err (Int × HashMap (Int × Int) Int) × Mgr)
        | (.ok r, m3) => (.ok (r, qc.2.insert (u, v) r), m3)) =
        ((X >>= fun g => ite g qc.1 pc.1) >>= fun r => pure (r, qc.2.insert (u, v) r)) m2 := by
      intro X
      rw [M.bind_eq, M.bind_eq]
      rcases X m2 with ⟨e | g, m3⟩
      · rfl
      dsimp only
      rcases ite g qc.1 pc.1 m3 with ⟨e | r, m4⟩ <;> rfl
    by_cases h5 : ubad.contains (min (iu : Int) (mapLvl vmap jv)) = true
    · rw [if_pos h5, if_pos h5]; exact tail _
    · rw [if_neg h5, if_neg h5]; exact tail _

section
variable {C : ∀ {α : Type}, M α → Prop} (hC : SeqClosed C)
include hC

theorem iteG_seq (foa : Int → Int → Int → M Int) (hfoa : ∀ i v w, C (foa i v w))
    (hput : ∀ g u v w, C (cachePut g u v w)) : ∀ (f : Nat) (g u v : Int), C (iteG foa f g u v)
  | 0, _, _, _ => hC.raise .fuel
  | f+1, g, u, v => by
    have ih := iteG_seq foa hfoa hput f
    rw [iteG_succ]
    refine hC.ite _ (hC.pure _) (hC.ite _ (hC.pure _) (hC.read fun m0 => ?_))
    cases m0.cache[iteKey g u v]? with
    | some w => exact hC.pure w
    | none =>
    rcases m0.tbl.levelOf? g with _ | lg <;> rcases m0.tbl.levelOf? u with _ | lu <;>
      rcases m0.tbl.levelOf? v with _ | lv <;> try exact hC.raise .key
    exact hC.bind (hC.liftP (topCofactor_plain _ _ _)) fun _ =>
      hC.bind (hC.liftP (topCofactor_plain _ _ _)) fun _ =>
      hC.bind (hC.liftP (topCofactor_plain _ _ _)) fun _ =>
      hC.bind (ih _ _ _) fun _ => hC.bind (ih _ _ _) fun _ => hC.bind (hfoa _ _ _) fun _ => hput _ _ _ _

theorem cofactorFG_seq (foa : Int → Int → Int → M Int) (hfoa : ∀ i v w, C (foa i v w))
    (values : List (Nat × Bool)) :
    ∀ (f : Nat) (u : Int) (ordvar : List Nat) (cache : HashMap Int Int),
      C (cofactorFG foa values f u ordvar cache)
  | 0, _, _, _ => hC.raise .fuel
  | f+1, u, ordvar, cache => by
    have ih := cofactorFG_seq foa hfoa values f
    rw [cofactorFG_succ]
    refine hC.ite _ (hC.pure _) ?_
    cases cache[u]? with
    | some r => exact hC.pure _
    | none =>
    refine hC.read fun m0 => ?_
    cases m0.tbl.succ[u.natAbs]? with
    | none => exact hC.raise _
    | some n =>
    refine hC.ite _ (hC.raise _) (hC.ite _ (hC.pure _) ?_)
    cases values.lookup n.lvl with
    | some val => exact hC.bind (ih _ _ _) fun _ => hC.pure _
    | none =>
      exact hC.bind (ih _ _ _) fun _ => hC.bind (ih _ _ _) fun _ => hC.bind (hfoa _ _ _) fun _ => hC.pure _

theorem quantifyFG_seq (foa iteX : Int → Int → Int → M Int) (hfoa : ∀ i v w, C (foa i v w))
    (hite : ∀ g u v, C (iteX g u v)) (qvars : List Nat) (fa : Bool) :
    ∀ (f : Nat) (u : Int) (ordvar : List Nat) (cache : HashMap Int Int),
      C (quantifyFG foa iteX qvars fa f u ordvar cache)
  | 0, _, _, _ => hC.raise .fuel
  | f+1, u, ordvar, cache => by
    have ih := quantifyFG_seq foa iteX hfoa hite qvars fa f
    rw [quantifyFG_succ]
    refine hC.ite _ (hC.pure _) ?_
    cases cache[u]? with
    | some r => exact hC.pure _
    | none =>
    refine hC.read fun m0 => ?_
    cases m0.tbl.succ[u.natAbs]? with
    | none => exact hC.raise _
    | some n =>
    exact hC.ite _ (hC.raise _) (hC.ite _ (hC.pure _)
      (hC.bind (ih _ _ _) fun _ => hC.bind (ih _ _ _) fun _ =>
      hC.bind (hC.ite _ (hC.ite _ (hite _ _ _) (hite _ _ _)) (hfoa _ _ _)) fun _ => hC.pure _))

theorem composeFG_seq (foa iteX : Int → Int → Int → M Int) (hfoa : ∀ i v w, C (foa i v w))
    (hite : ∀ g u v, C (iteX g u v)) (j : Nat) :
    ∀ (fu : Nat) (f g : Int) (cache : HashMap (Int × Int) Int), C (composeFG foa iteX j fu f g cache)
  | 0, _, _, _ => hC.raise .fuel
  | fu+1, f, g, cache => by
    have ih := composeFG_seq foa iteX hfoa hite j fu
    rw [composeFG_succ]
    refine hC.ite _ (hC.pure _) ?_
    cases cache[(f, g)]? with
    | some r => exact hC.pure _
    | none =>
    refine hC.read fun m0 => ?_
    cases m0.tbl.succ[f.natAbs]? with
    | none => exact hC.raise _
    | some n =>
    refine hC.ite _ (hC.raise _) (hC.ite _ (hC.pure _)
      (hC.ite _ (hC.bind (hite _ _ _) fun _ => hC.pure _) ?_))
    cases m0.tbl.levelOf? g with
    | none => exact hC.raise _
    | some k =>
    exact hC.bind (hC.liftP (topCofactor_plain _ _ _)) fun _ =>
      hC.bind (hC.liftP (topCofactor_plain _ _ _)) fun _ =>
      hC.bind (ih _ _ _) fun _ => hC.bind (ih _ _ _) fun _ => hC.bind (hfoa _ _ _) fun _ => hC.pure _

variable (foa iteX : Int → Int → Int → M Int) (hvar : ∀ j : Nat, C (foa j (-1) 1))
  (hite : ∀ g u v, C (iteX g u v))
include hvar

theorem subOrVarG_seq (sub : List (Nat × Int)) (i : Nat) : C (subOrVarG foa sub i) := by
  rw [subOrVarG_eq]
  cases sub.lookup i with
  | some g => exact hC.pure g
  | none => exact hvar i

include hite

theorem vectorComposeFG_seq (sub : List (Nat × Int)) :
    ∀ (fu : Nat) (f : Int) (cache : HashMap Nat Int), C (vectorComposeFG foa iteX sub fu f cache)
  | 0, _, _ => hC.raise .fuel
  | fu+1, f, cache => by
    have ih := vectorComposeFG_seq sub fu
    rw [vectorComposeFG_succ]
    refine hC.ite _ (hC.pure _) ?_
    cases cache[f.natAbs]? with
    | some r => exact hC.ite _ (hC.raise _) (hC.pure _)
    | none =>
    refine hC.read fun m0 => ?_
    cases m0.tbl.succ[f.natAbs]? with
    | none => exact hC.raise _
    | some n =>
    exact hC.ite _ (hC.raise _) (hC.bind (ih _ _) fun _ => hC.bind (ih _ _) fun _ =>
      hC.bind (subOrVarG_seq hC foa hvar sub _) fun _ => hC.bind (hite _ _ _) fun _ => hC.pure _)

theorem copyBddFG_seq (src : Option Tbl) (lm : List (Nat × Nat)) :
    ∀ (fu : Nat) (u : Int) (cache : HashMap Nat Int), C (copyBddFG foa iteX src lm fu u cache)
  | 0, _, _ => hC.raise .fuel
  | fu+1, u, cache => by
    have ih := copyBddFG_seq src lm fu
    rw [copyBddFG_succ]
    refine hC.ite _ (hC.pure _) ?_
    cases cache[u.natAbs]? with
    | some r => exact hC.ite _ (hC.raise _) (hC.pure _)
    | none =>
    refine hC.read fun m0 => ?_
    cases (src.getD m0.tbl).succ[u.natAbs]? with
    | none => exact hC.raise _
    | some n =>
    refine hC.ite _ (hC.raise _) (hC.bind (ih _ _) fun pc => hC.bind (ih _ _) fun qc =>
      hC.ite _ (hC.raise _) (hC.ite _ (hC.raise _) ?_))
    cases lm.lookup n.lvl with
    | none => exact hC.raise _
    | some jnew =>
    exact hC.bind (hvar _) fun _ => hC.bind (hite _ _ _) fun _ =>
      hC.ite _ (hC.raise _) (hC.pure _)

omit hvar hite in
theorem findOrAddNonInt_seq (hreq : C requestReordering) : C findOrAddNonInt := by
  rw [findOrAddNonInt_eq]
  exact hC.read (fun _ => hC.bind (hC.ite _ hreq (hC.pure ())) fun _ =>
    hC.raise _)

omit hvar hite in
theorem imageF_seq (hvarI : ∀ j : Int, C (findOrAdd j (-1) 1)) (hbad : C findOrAddNonInt)
    (hiteM : ∀ g u v, C (ite g u v))
    (umap vmap : Option (List (Int × Int))) (ubad vbad : List Int) (Q : List Nat) (fa : Bool) :
    ∀ (f : Nat) (u v : Int) (cache : HashMap (Int × Int) Int),
      C (imageF umap vmap ubad vbad Q fa f u v cache)
  | 0, _, _, _ => hC.raise .fuel
  | f+1, u, v, cache => by
    have ih := imageF_seq hvarI hbad hiteM umap vmap ubad vbad Q fa f
    rw [imageF_succ]
    refine hC.ite _ (hC.pure _) (hC.ite _ (hC.pure _) ?_)
    cases cache[(u, v)]? with
    | some w => exact hC.pure _
    | none =>
    refine hC.read fun m0 => ?_
    cases m0.tbl.levelOf? u with
    | none => exact hC.raise _
    | some iu =>
    cases m0.tbl.levelOf? v with
    | none => exact hC.raise _
    | some jv =>
    exact hC.ite _ (hC.raise _)
      (hC.bind (hC.liftP (topCofactorI_plain _ _ _)) fun _ =>
      hC.bind (hC.liftP (topCofactorI_plain _ _ _)) fun _ =>
      hC.bind (ih _ _ _) fun _ => hC.bind (ih _ _ _) fun _ =>
      hC.bind (hC.ite _ (hC.ite _ (hiteM _ _ _) (hiteM _ _ _))
        (hC.bind (hC.ite _ hbad (hvarI _)) fun _ => hiteM _ _ _)) fun _ => hC.pure _)

omit hvar hite in
theorem copyBddK_seq (hvarI : ∀ j : Int, C (findOrAdd j (-1) 1)) (hbad : C findOrAddNonInt)
    (hiteM : ∀ g u v, C (ite g u v)) (lm : List (Nat × Key)) :
    ∀ (fu : Nat) (u : Int) (cache : HashMap Nat Int), C (copyBddK lm fu u cache)
  | 0, _, _ => hC.raise .fuel
  | fu+1, u, cache => by
    have ih := copyBddK_seq hvarI hbad hiteM lm fu
    rw [copyBddK_succ]
    refine hC.ite _ (hC.pure _) ?_
    cases cache[u.natAbs]? with
    | some r => exact hC.ite _ (hC.raise _) (hC.pure _)
    | none =>
    refine hC.read fun m0 => ?_
    cases m0.tbl.succ[u.natAbs]? with
    | none => exact hC.raise _
    | some n =>
    refine hC.ite _ (hC.raise _) (hC.bind (ih _ _) fun pc => hC.bind (ih _ _) fun qc =>
      hC.ite _ (hC.raise _) (hC.ite _ (hC.raise _) ?_))
    cases lm.lookup n.lvl with
    | none => exact hC.raise _
    | some jnew =>
    refine hC.bind ?_ fun _ => hC.bind (hiteM _ _ _) fun _ =>
      hC.ite _ (hC.raise _) (hC.pure _)
    cases jnew with
    | lvl i => exact hvarI i
    | name _ => exact hbad

end

end DD
