/-
  Exact reference counts (C06, part 1).  `indeg t u`, the number of stored edges into `u`, is a
  `sumRange` over the node numbers, so that storing or erasing ONE node changes one summand and no
  fact about the map's internal order is used.  `RefExact m ext`: `_ref` has the terminal and the
  stored nodes as keys and `ref u = indeg u + ext u (+1 for the terminal)`, where the ghost ledger
  `ext` counts the references the user holds.  `RefBut m ext d` is the same up to a discrepancy `d`
  (edges stored but not yet counted); the steps are proved for `RefBut` and read at `d = 0`.
-/
import DDProofs.FindOrAdd
import DDProofs.SumRange
open Std

namespace DD

/-- number of edges of the node `n` that point to `u` (0, 1 or 2) -/
def edgeCount (n : Nd) (u : Nat) : Nat :=
  (if n.lo.natAbs = u then 1 else 0) + (if n.hi.natAbs = u then 1 else 0)

/-- contribution of the slot `k` of the table to the in-degree of `u` -/
def slotCount (t : Tbl) (u k : Nat) : Nat :=
  match t.node? k with
  | some n => edgeCount n u
  | none => 0

/-- edges into `u` from the nodes numbered `< b` -/
def indegUpTo (t : Tbl) (u : Nat) : Nat → Nat
  | 0 => 0
  | b+1 => indegUpTo t u b + slotCount t u b

theorem indegUpTo_eq (t : Tbl) (u : Nat) : ∀ b, indegUpTo t u b = sumRange (slotCount t u) b
  | 0 => rfl
  | b+1 => by rw [indegUpTo, sumRange, indegUpTo_eq t u b]

theorem indegUpTo_eq_sum (t : Tbl) (u b : Nat) :
    indegUpTo t u b = ((List.range b).map (slotCount t u)).sum := by
  induction b with
  | zero => rfl
  | succ b ih => simp [indegUpTo, List.range_succ, ih]

/-- a number larger than every key of the table -/
def Tbl.bound (t : Tbl) : Nat := t.succ.keys.foldl max 0 + 1

theorem le_foldl_max (l : List Nat) : ∀ (a : Nat), a ≤ l.foldl max a ∧ ∀ k ∈ l, k ≤ l.foldl max a := by
  induction l with
  | nil => intro a; simp
  | cons x xs ih =>
    intro a
    simp only [List.foldl_cons, List.mem_cons, forall_eq_or_imp]
    have h := ih (max a x)
    refine ⟨by omega, by omega, h.2⟩

theorem Tbl.lt_bound (t : Tbl) {k : Nat} {n : Nd} (h : t.node? k = some n) : k < t.bound := by
  have hk : k ∈ t.succ.keys := by
    rw [TreeMap.mem_keys, TreeMap.mem_iff_isSome_getElem?]
    simp only [Tbl.node?] at h
    simp [h]
  have := (le_foldl_max t.succ.keys 0).2 k hk
  unfold Tbl.bound; omega

def indeg (t : Tbl) (u : Nat) : Nat := indegUpTo t u t.bound

/-- the in-degree as a sum over any range that covers the keys; every fact below is one about
`sumRange` -/
theorem indeg_eq_sum (t : Tbl) (u : Nat) {b : Nat} (hb : t.bound ≤ b) :
    indeg t u = sumRange (slotCount t u) b := by
  rw [indeg, indegUpTo_eq, sumRange_stable (fun k hk => ?_) b hb]
  unfold slotCount
  split
  · next n hn => have := t.lt_bound hn; omega
  · rfl

theorem indeg_pair (t t' : Tbl) (u : Nat) :
    indeg t u = sumRange (slotCount t u) (max t.bound t'.bound) ∧
    indeg t' u = sumRange (slotCount t' u) (max t.bound t'.bound) :=
  ⟨indeg_eq_sum t u (Nat.le_max_left _ _), indeg_eq_sum t' u (Nat.le_max_right _ _)⟩

theorem indeg_congr_slots {t t' : Tbl} (u : Nat) (h : ∀ k, slotCount t' u k = slotCount t u k) :
    indeg t' u = indeg t u := by
  rw [(indeg_pair t t' u).1, (indeg_pair t t' u).2]
  exact sumRange_congr _ fun k _ => h k

theorem indeg_le_of_slots {t t' : Tbl} (u : Nat) (h : ∀ k, slotCount t' u k ≤ slotCount t u k) :
    indeg t' u ≤ indeg t u := by
  rw [(indeg_pair t t' u).1, (indeg_pair t t' u).2]
  exact sumRange_mono _ fun k _ => h k

theorem indeg_congr {t t' : Tbl} (h : ∀ k, t'.node? k = t.node? k) (u : Nat) : indeg t' u = indeg t u :=
  indeg_congr_slots u fun k => by unfold slotCount; rw [h]

/-- `t'` is `t` with the node `n` added at the free slot `k` -/
structure Tbl.AddedAt (t t' : Tbl) (k : Nat) (n : Nd) : Prop where
  old : t.node? k = none
  new : t'.node? k = some n
  other : ∀ j, j ≠ k → t'.node? j = t.node? j

theorem indeg_added {t t' : Tbl} {k : Nat} {n : Nd} (h : t.AddedAt t' k n) (u : Nat) :
    indeg t' u = indeg t u + edgeCount n u := by
  have := sumRange_update (f := slotCount t' u) (g := slotCount t u) k (max t.bound t'.bound)
    (by have := t'.lt_bound h.new; omega) fun j hj => by unfold slotCount; rw [h.other j hj]
  rw [(indeg_pair t t' u).1, (indeg_pair t t' u).2]
  simp only [slotCount, h.old, h.new] at this
  omega

theorem edgeCount_le_indeg {t : Tbl} {k : Nat} {n : Nd} (h : t.node? k = some n) (u : Nat) :
    edgeCount n u ≤ indeg t u := by
  have := sumRange_le (f := slotCount t u) k t.bound (t.lt_bound h)
  rw [indeg_eq_sum t u (Nat.le_refl _)]
  simpa [slotCount, h] using this

theorem indeg_pos {t : Tbl} {u : Nat} (h : 0 < indeg t u) :
    ∃ k n, t.node? k = some n ∧ (n.lo.natAbs = u ∨ n.hi.natAbs = u) := by
  rw [indeg_eq_sum t u (Nat.le_refl _)] at h
  obtain ⟨k, -, hk⟩ := sumRange_pos _ h
  unfold slotCount at hk
  split at hk
  · next n hn =>
    refine ⟨k, n, hn, ?_⟩
    unfold edgeCount at hk
    by_cases h1 : n.lo.natAbs = u
    · exact Or.inl h1
    · exact Or.inr (by by_cases h2 : n.hi.natAbs = u; exact h2; simp [h1, h2] at hk)
  · omega

theorem indeg_pos_of_lo {t : Tbl} {k : Nat} {n : Nd} (h : t.node? k = some n) : 0 < indeg t n.lo.natAbs := by
  have := edgeCount_le_indeg h n.lo.natAbs
  simp only [edgeCount, if_true] at this
  omega

theorem indeg_pos_of_hi {t : Tbl} {k : Nat} {n : Nd} (h : t.node? k = some n) : 0 < indeg t n.hi.natAbs := by
  have := edgeCount_le_indeg h n.hi.natAbs
  simp only [edgeCount, if_true] at this
  omega

/-- the user takes one more reference to node `k` -/
def extInc (ext : Nat → Nat) (k : Nat) : Nat → Nat := fun j => if j = k then ext j + 1 else ext j
/-- the user releases one reference to node `k` -/
def extDec (ext : Nat → Nat) (k : Nat) : Nat → Nat := fun j => if j = k then ext j - 1 else ext j

/-- `m.ref` is exact w.r.t. the ghost ledger `ext` of user-held references -/
structure RefExact (m : Mgr) (ext : Nat → Nat) : Prop where
  dom : ∀ u, (m.ref[u]?).isSome ↔ (u = 1 ∨ (m.tbl.node? u).isSome)
  /-- the `+ 1` at the terminal: `_init_terminal` starts `_ref[1]` at 1 -/
  cnt : ∀ u c, m.ref[u]? = some c → c = indeg m.tbl u + ext u + (if u = 1 then 1 else 0)
  /-- the user holds nothing on numbers that are not nodes -/
  extZero : ∀ u, m.ref[u]? = none → ext u = 0

theorem RefExact.get {m : Mgr} {ext : Nat → Nat} (h : RefExact m ext) {u : Int} (hu : m.tbl.Mem u) :
    m.ref[u.natAbs]? = some (indeg m.tbl u.natAbs + ext u.natAbs + (if u.natAbs = 1 then 1 else 0)) := by
  have : (m.ref[u.natAbs]?).isSome := (h.dom _).mpr hu
  obtain ⟨c, hc⟩ := Option.isSome_iff_exists.mp this
  rw [hc, h.cnt _ _ hc]

theorem RefExact.mem_of_ext_pos {m : Mgr} {ext : Nat → Nat} (h : RefExact m ext) {u : Nat} (hu : 0 < ext u) :
    u = 1 ∨ (m.tbl.node? u).isSome := by
  apply (h.dom u).mp
  cases hr : m.ref[u]? with
  | none => have := h.extZero u hr; omega
  | some c => rfl

theorem RefExact.ref_eq {m : Mgr} {ext : Nat → Nat} (h : RefExact m ext) (k : Nat) :
    m.ref[k]? = if k = 1 ∨ (m.tbl.node? k).isSome then
      some (indeg m.tbl k + ext k + (if k = 1 then 1 else 0)) else none := by
  by_cases hk : k = 1 ∨ (m.tbl.node? k).isSome
  · rw [if_pos hk]
    obtain ⟨c, hc⟩ := Option.isSome_iff_exists.mp ((h.dom k).mpr hk)
    rw [hc, h.cnt k c hc]
  · rw [if_neg hk]
    cases hr : m.ref[k]? with
    | none => rfl
    | some c => exact absurd ((h.dom k).mp (by rw [hr]; rfl)) hk

theorem RefExact.pos_of_ext_pos {m : Mgr} {ext : Nat → Nat} (h : RefExact m ext) {u : Nat} (hu : 0 < ext u) :
    ∃ c, m.ref[u]? = some (c + 1) := by
  rw [h.ref_eq, if_pos (h.mem_of_ext_pos hu)]
  exact ⟨indeg m.tbl u + (ext u - 1) + (if u = 1 then 1 else 0), by congr 1; omega⟩

theorem RefExact.of_ref_eq {m : Mgr} {ext : Nat → Nat}
    (href : ∀ k, m.ref[k]? = if k = 1 ∨ (m.tbl.node? k).isSome then
      some (indeg m.tbl k + ext k + (if k = 1 then 1 else 0)) else none)
    (hext : ∀ k, ¬ (k = 1 ∨ (m.tbl.node? k).isSome) → ext k = 0) : RefExact m ext := by
  refine ⟨fun k => ?_, fun k c => ?_, fun k => ?_⟩ <;> rw [href] <;> split
  · simp [*]
  · simp [*]
  · intro hc; exact (Option.some.inj hc).symm
  · intro hc; cases hc
  · intro hc; cases hc
  · next hk => intro _; exact hext k hk

theorem decref_eq (m : Mgr) (u : Int) (c : Nat) (h : m.ref[u.natAbs]? = some (c + 1)) :
    decref u m = (.ok (), { m with ref := m.ref.insert u.natAbs c }) := by
  simp [decref, h]

theorem refOf_eq (m : Mgr) (u : Int) (c : Nat) (h : m.ref[u.natAbs]? = some c) :
    refOf u m = (.ok c, m) := by
  simp [refOf, h]

/-- counts exact up to the discrepancy `d`: edges that are stored but not counted at their target
(a new node whose children have not been `incref`ed yet; in `swap`, children already `decref`ed) -/
structure RefBut (m : Mgr) (ext d : Nat → Nat) : Prop where
  dom : ∀ u, (m.ref[u]?).isSome ↔ (u = 1 ∨ (m.tbl.node? u).isSome)
  cnt : ∀ u c, m.ref[u]? = some c → c + d u = indeg m.tbl u + ext u + (if u = 1 then 1 else 0)
  extZero : ∀ u, m.ref[u]? = none → ext u = 0

theorem RefExact.toBut {m : Mgr} {ext : Nat → Nat} (h : RefExact m ext) : RefBut m ext (fun _ => 0) :=
  ⟨h.dom, fun u c hc => by simpa using h.cnt u c hc, h.extZero⟩

theorem RefBut.toExact {m : Mgr} {ext d : Nat → Nat} (h : RefBut m ext d) (h0 : ∀ k, d k = 0) :
    RefExact m ext :=
  ⟨h.dom, fun u c hc => by have := h.cnt u c hc; rw [h0] at this; simpa using this, h.extZero⟩

theorem RefBut.congrD {m : Mgr} {ext d d' : Nat → Nat} (h : RefBut m ext d) (he : ∀ k, d' k = d k) :
    RefBut m ext d' :=
  ⟨h.dom, fun u c hc => by rw [he]; exact h.cnt u c hc, h.extZero⟩

theorem RefBut.get {m : Mgr} {ext d : Nat → Nat} (h : RefBut m ext d) {u : Int} (hu : m.tbl.Mem u) :
    ∃ c, m.ref[u.natAbs]? = some c ∧
      c + d u.natAbs = indeg m.tbl u.natAbs + ext u.natAbs + (if u.natAbs = 1 then 1 else 0) := by
  have : (m.ref[u.natAbs]?).isSome := (h.dom _).mpr hu
  obtain ⟨c, hc⟩ := Option.isSome_iff_exists.mp this
  exact ⟨c, hc, h.cnt _ _ hc⟩

theorem RefBut.congr {m m' : Mgr} {ext d : Nat → Nat} (h : RefBut m ext d)
    (h1 : m'.tbl.succ = m.tbl.succ) (h2 : m'.ref = m.ref) : RefBut m' ext d := by
  have hn : ∀ k, m'.tbl.node? k = m.tbl.node? k := fun k => by unfold Tbl.node?; rw [h1]
  have hi : ∀ k, indeg m'.tbl k = indeg m.tbl k := fun k => indeg_congr hn k
  exact ⟨fun u => by rw [h2, hn]; exact h.dom u, fun u c hc => by rw [hi]; rw [h2] at hc; exact h.cnt u c hc,
    fun u hu => by rw [h2] at hu; exact h.extZero u hu⟩

theorem RefExact.congrSucc {m m' : Mgr} {ext : Nat → Nat} (h : RefExact m ext)
    (h1 : m'.tbl.succ = m.tbl.succ) (h2 : m'.ref = m.ref) : RefExact m' ext :=
  (h.toBut.congr h1 h2).toExact (fun _ => rfl)

theorem RefBut.bump {m : Mgr} {ext ext' d d' : Nat → Nat} (h : RefBut m ext d) {k c : Nat}
    (hk : k = 1 ∨ (m.tbl.node? k).isSome)
    (hc : c + d' k = indeg m.tbl k + ext' k + (if k = 1 then 1 else 0))
    (hj : ∀ j, j ≠ k → ext' j = ext j ∧ d' j = d j) :
    RefBut { m with ref := m.ref.insert k c } ext' d' := by
  refine ⟨fun j => ?_, fun j cj => ?_, fun j => ?_⟩ <;>
    rw [show ({ m with ref := m.ref.insert k c } : Mgr).ref[j]? = _ from getElem?_insert_eq m.ref k c j]
  · by_cases e : k = j
    · rw [if_pos e, ← e]; exact ⟨fun _ => hk, fun _ => rfl⟩
    · rw [if_neg e]; exact h.dom j
  · by_cases e : k = j
    · rw [if_pos e, ← e]; intro hh; rw [← Option.some.inj hh]; exact hc
    · rw [if_neg e, (hj j fun e' => e e'.symm).1, (hj j fun e' => e e'.symm).2]; exact h.cnt j cj
  · by_cases e : k = j
    · rw [if_pos e]; intro hh; cases hh
    · rw [if_neg e, (hj j fun e' => e e'.symm).1]; exact h.extZero j

theorem RefBut.setRef {m : Mgr} {ext d d' : Nat → Nat} (h : RefBut m ext d) {k c c' : Nat}
    (hc : m.ref[k]? = some c) (hk : c' + d' k = c + d k) (hj : ∀ j, j ≠ k → d' j = d j) :
    RefBut { m with ref := m.ref.insert k c' } ext d' :=
  h.bump ((h.dom k).mp (by rw [hc]; rfl)) (by have := h.cnt k c hc; omega) fun j e => ⟨rfl, hj j e⟩

theorem RefExact.bump {m : Mgr} {ext ext' : Nat → Nat} (hr : RefExact m ext) {k c : Nat}
    (hk : k = 1 ∨ (m.tbl.node? k).isSome)
    (hc : c = indeg m.tbl k + ext' k + (if k = 1 then 1 else 0)) (hext : ∀ j, j ≠ k → ext' j = ext j) :
    RefExact { m with ref := m.ref.insert k c } ext' :=
  (hr.toBut.bump (d' := fun _ => 0) hk hc fun j e => ⟨hext j e, rfl⟩).toExact fun _ => rfl

/-- `incref u`: the user takes a reference; only `ref` changes and counts stay exact -/
theorem incref_spec (m : Mgr) (ext : Nat → Nat) (u : Int) (hr : RefExact m ext) (hu : m.tbl.Mem u) :
    ∃ c, m.ref[u.natAbs]? = some c ∧
      incref u m = (.ok (), { m with ref := m.ref.insert u.natAbs (c + 1) }) ∧
      RefExact { m with ref := m.ref.insert u.natAbs (c + 1) } (extInc ext u.natAbs) := by
  have hg := hr.get hu
  refine ⟨_, hg, incref_eq m u _ hg, hr.bump hu ?_ fun j hj => if_neg hj⟩
  rw [extInc, if_pos rfl]; omega

/-- `decref u` when the user holds a reference to `u`: the inverse of `incref` -/
theorem decref_spec (m : Mgr) (ext : Nat → Nat) (u : Int) (hr : RefExact m ext) (he : 0 < ext u.natAbs) :
    ∃ c, m.ref[u.natAbs]? = some (c + 1) ∧
      decref u m = (.ok (), { m with ref := m.ref.insert u.natAbs c }) ∧
      RefExact { m with ref := m.ref.insert u.natAbs c } (extDec ext u.natAbs) := by
  obtain ⟨c, hg⟩ := hr.pos_of_ext_pos he
  have hc := hr.cnt _ _ hg
  refine ⟨c, hg, decref_eq m u c hg, hr.bump (hr.mem_of_ext_pos he) ?_ fun j hj => if_neg hj⟩
  rw [extDec, if_pos rfl]; omega

/-- `decref` at count 0 does nothing (the Python code warns and returns) -/
theorem decref_floor (m : Mgr) (u : Int) (h : m.ref[u.natAbs]? = some 0) : decref u m = (.ok (), m) := by
  simp [decref, h]

/-- `incref` / `decref` on a number that is not a node raise `KeyError` and change nothing -/
theorem incref_not_mem (m : Mgr) (u : Int) (h : m.ref[u.natAbs]? = none) : incref u m = (.error .key, m) := by
  simp [incref, h]
theorem decref_not_mem (m : Mgr) (u : Int) (h : m.ref[u.natAbs]? = none) : decref u m = (.error .key, m) := by
  simp [decref, h]

theorem RefExact.isSome {m : Mgr} {ext : Nat → Nat} (h : RefExact m ext) (u : Int) (hu : m.tbl.Mem u) :
    (m.ref[u.natAbs]?).isSome := (h.dom _).mpr hu

/-- every stored edge points to a node of the table (the only clause of `WF` the
reference-count lemmas for `find_or_add` need; it also holds in the middle of `swap`,
when levels are temporarily not ordered) -/
def Tbl.Closed (t : Tbl) : Prop := ∀ u n, t.node? u = some n → t.Mem n.lo ∧ t.Mem n.hi

theorem WF.closed {t : Tbl} (h : WF t) : t.Closed := fun u n hn => ⟨h.lo_mem u n hn, h.hi_mem u n hn⟩

theorem ne_natAbs_of_free {t : Tbl} {k : Nat} (hk : 2 ≤ k) (hf : t.node? k = none) {u : Int}
    (hu : t.Mem u) : k ≠ u.natAbs := by
  rintro rfl
  rcases hu with hu | hu
  · omega
  · rw [hf] at hu; cases hu

theorem RefBut.free_fresh {m : Mgr} {ext d : Nat → Nat} (hw : m.tbl.Closed) (hr : RefBut m ext d) {k : Nat}
    (hk : 2 ≤ k) (hf : m.tbl.node? k = none) :
    m.ref[k]? = none ∧ ext k = 0 ∧ indeg m.tbl k = 0 := by
  have hrf : m.ref[k]? = none := by
    cases hx : m.ref[k]? with
    | none => rfl
    | some c =>
      rcases (hr.dom k).mp (by rw [hx]; rfl) with h1 | h1
      · omega
      · rw [hf] at h1; cases h1
  refine ⟨hrf, hr.extZero _ hrf, Nat.eq_zero_of_not_pos fun hpos => ?_⟩
  obtain ⟨j, nn, hj, hjj | hjj⟩ := indeg_pos hpos
  · exact ne_natAbs_of_free hk hf (hw _ _ hj).1 hjj.symm
  · exact ne_natAbs_of_free hk hf (hw _ _ hj).2 hjj.symm

theorem addedAt_insert (t : Tbl) {k : Nat} (n : Nd) (hf : t.node? k = none) :
    t.AddedAt { t with succ := t.succ.insert k n } k n :=
  ⟨hf, by rw [node?_insert, if_pos rfl], fun j hj => by rw [node?_insert, if_neg fun h => hj h.symm]⟩

theorem RefBut.addNode {m : Mgr} {ext d : Nat → Nat} (h : RefBut m ext d) (hw : m.tbl.Closed) {k : Nat}
    (hk : 2 ≤ k) (hf : m.tbl.node? k = none) (hd0 : d k = 0) (n : Nd) :
    RefBut { m with tbl := { m.tbl with succ := m.tbl.succ.insert k n }, ref := m.ref.insert k 0 } ext
      (fun u => d u + edgeCount n u) := by
  obtain ⟨hrf, e0, hi0⟩ := h.free_fresh hw hk hf
  refine ⟨fun u => ?_, fun u c => ?_, fun u => ?_⟩
  · show ((m.ref.insert k 0)[u]?).isSome ↔ (u = 1 ∨ (({ m.tbl with succ := m.tbl.succ.insert k n } : Tbl).node? u).isSome)
    rw [getElem?_insert_eq, node?_insert]
    by_cases hu : k = u
    · rw [if_pos hu, if_pos hu]; exact ⟨fun _ => Or.inr rfl, fun _ => rfl⟩
    · rw [if_neg hu, if_neg hu]; exact h.dom u
  · show (m.ref.insert k 0)[u]? = some c → c + (d u + edgeCount n u) =
      indeg ({ m.tbl with succ := m.tbl.succ.insert k n } : Tbl) u + ext u + (if u = 1 then 1 else 0)
    rw [getElem?_insert_eq, indeg_added (addedAt_insert m.tbl n hf) u]
    by_cases hu : k = u
    · subst hu
      rw [if_pos rfl, hi0, e0, hd0, if_neg (by omega)]
      intro hc; rw [← Option.some.inj hc]; omega
    · rw [if_neg hu]
      intro hc; have := h.cnt u c hc; omega
  · show (m.ref.insert k 0)[u]? = none → ext u = 0
    rw [getElem?_insert_eq]
    by_cases hu : k = u
    · rw [if_pos hu]; intro hc; cases hc
    · rw [if_neg hu]; exact h.extZero u

theorem RefBut.foa {m : Mgr} {ext d : Nat → Nat} (h : RefBut m ext d) (i : Nat) (v w : Int)
    (hmem : m.tbl.Closed) (hd0 : d m.minFree = 0) : RefBut (findOrAddCore i v w m).2 ext d := by
  have hdom : ∀ u : Int, m.tbl.Mem u → (m.ref[u.natAbs]?).isSome := fun u hu => (h.dom _).mpr hu
  rcases findOrAddCore_cases m i v w hdom with hs | ⟨-, -, h2, hfree, n, c1, c2, hlo, hhi, -, hc1, hc2, hs⟩
  · rw [hs]; exact h
  rw [hs]
  -- `_ref[u] = 0` for the created node (`addNode`), then `incref(v)`, `incref(w)` (`setRef` twice)
  have b1 := (h.addNode hmem h2 hfree hd0 n).setRef (c' := c1 + 1)
    (d' := fun u => d u + (if n.hi.natAbs = u then 1 else 0)) hc1
    (by simp only [edgeCount, hlo, if_true]; omega)
    (fun j hj => by simp only [edgeCount, hlo, if_neg fun e : v.natAbs = j => hj e.symm, Nat.zero_add])
  exact (b1.setRef (c' := c2 + 1) (d' := d) hc2 (by simp only [hhi, if_true]; omega)
    (fun j hj => by simp only [hhi, if_neg fun e : w.natAbs = j => hj e.symm, Nat.add_zero])).congr rfl rfl

/-- `find_or_add` keeps the counts exact: a new node starts with count 0 (nobody holds it yet)
and each of its children gains one stored edge; an existing or eliminated node changes nothing. -/
theorem findOrAddCore_refExact (m : Mgr) (ext : Nat → Nat) (i : Nat) (v w : Int)
    (hw : m.tbl.Closed) (hr : RefExact m ext) :
    RefExact (findOrAddCore i v w m).2 ext :=
  (hr.toBut.foa i v w hw rfl).toExact fun _ => rfl

/-- what `find_or_add` does to the counters: nothing, or (new node `n` at the old `minFree`)
the new node starts at 0 and every other count grows by the number of edges of `n` into it -/
theorem findOrAddCore_ref_effect (m : Mgr) (ext : Nat → Nat) (i : Nat) (v w : Int)
    (hw : m.tbl.Closed) (hr : RefExact m ext) :
    (findOrAddCore i v w m).2 = m ∨
    ∃ n : Nd, m.tbl.AddedAt (findOrAddCore i v w m).2.tbl m.minFree n ∧ n.lvl = i ∧
      n.lo.natAbs = v.natAbs ∧ n.hi.natAbs = w.natAbs ∧ m.tbl.Mem v ∧ m.tbl.Mem w ∧
      (findOrAddCore i v w m).2.ref[m.minFree]? = some 0 ∧
      ∀ u c, u ≠ m.minFree → m.ref[u]? = some c →
        (findOrAddCore i v w m).2.ref[u]? = some (c + edgeCount n u) := by
  rcases findOrAddCore_cases m i v w hr.isSome with h | ⟨hmv, hmw, h2, hfree, n, c1, c2, hlo, hhi, hlvl, _, _, h⟩
  · exact Or.inl h
  -- both states are exact for the same ledger, so every counter is read off the tables
  have hr' := findOrAddCore_refExact m ext i v w hw hr
  have hadd : m.tbl.AddedAt (findOrAddCore i v w m).2.tbl m.minFree n := by
    rw [h]; exact addedAt_insert m.tbl n hfree
  obtain ⟨-, e0, hi0⟩ := hr.toBut.free_fresh hw h2 hfree
  refine Or.inr ⟨n, hadd, hlvl, hlo, hhi, hmv, hmw, ?_, fun u c hu hc => ?_⟩
  · have : edgeCount n m.minFree = 0 := by
      rw [edgeCount, hlo, hhi, if_neg fun e => ne_natAbs_of_free h2 hfree hmv e.symm,
        if_neg fun e => ne_natAbs_of_free h2 hfree hmw e.symm]
    rw [hr'.ref_eq, if_pos (Or.inr (by rw [hadd.new]; rfl)), indeg_added hadd, hi0, e0, this,
      if_neg (by omega)]
  · have hk : u = 1 ∨ (m.tbl.node? u).isSome := (hr.dom u).mp (by rw [hc]; rfl)
    rw [hr'.ref_eq, if_pos (by rw [hadd.other u hu]; exact hk), indeg_added hadd, hr.cnt u c hc]
    congr 1; omega

theorem RefExact.congr {m m' : Mgr} {ext : Nat → Nat} (h : RefExact m ext) (h1 : m'.tbl = m.tbl)
    (h2 : m'.ref = m.ref) : RefExact m' ext :=
  h.congrSucc (congrArg Tbl.succ h1) h2

/-- `find_or_add` with its `_request_reordering` in front, which leaves `tbl` and `ref` alone -/
theorem findOrAdd_refExact (m : Mgr) (ext : Nat → Nat) (i : Int) (v w : Int)
    (hw : m.tbl.Closed) (hr : RefExact m ext) : RefExact (findOrAdd i v w m).2 ext := by
  obtain ⟨m1, h1, h2, h | h⟩ := findOrAdd_cases m i v w
  · rw [h]; exact hr.congr h1 h2
  · rw [h]
    exact findOrAddCore_refExact m1 ext i.toNat v w (by rw [h1]; exact hw) (hr.congr h1 h2)

/-- `find_or_add` never removes or changes a node -/
theorem findOrAddCore_ext (m : Mgr) (i : Nat) (v w : Int)
    (hdom : ∀ u : Int, m.tbl.Mem u → (m.ref[u.natAbs]?).isSome) :
    Ext m.tbl (findOrAddCore i v w m).2.tbl := by
  rcases findOrAddCore_cases m i v w hdom with h | ⟨-, -, -, hfree, n, c1, c2, -, -, -, -, -, h⟩
  · rw [h]; exact Ext.refl _
  · rw [h]; exact ext_insert m.tbl m.minFree n hfree

end DD
