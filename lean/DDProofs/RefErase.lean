/-
  Erasing a node of count 0 under exact counts.  Such a node is stored, has no stored parent and is
  not held (`RefExact.zero_iff`); when it is erased, its two stored edges become references held by
  the caller (`RefExact.erase`), who then releases them with two `decref`s.
-/
import DDProofs.RefCount
open Std

namespace DD

theorem Tbl.AddedAt.sub {t t' : Tbl} {k : Nat} {n : Nd} (h : t.AddedAt t' k n) {j : Nat} {x : Nd}
    (hj : t.node? j = some x) : t'.node? j = some x := by
  by_cases hjk : j = k
  · rw [hjk, h.old] at hj; cases hj
  · rw [h.other j hjk]; exact hj

theorem edgeCount_eq_zero {n : Nd} {k : Nat} : edgeCount n k = 0 ↔ ¬ (n.lo.natAbs = k ∨ n.hi.natAbs = k) := by
  unfold edgeCount
  by_cases h1 : n.lo.natAbs = k <;> by_cases h2 : n.hi.natAbs = k <;> simp [h1, h2]

theorem indeg_pos_iff {t : Tbl} {k : Nat} :
    0 < indeg t k ↔ ∃ q y, t.node? q = some y ∧ (y.lo.natAbs = k ∨ y.hi.natAbs = k) := by
  constructor
  · exact indeg_pos
  · rintro ⟨q, y, hq, h | h⟩
    · rw [← h]; exact indeg_pos_of_lo hq
    · rw [← h]; exact indeg_pos_of_hi hq

theorem indeg_eq_zero_iff {t : Tbl} {k : Nat} :
    indeg t k = 0 ↔ ∀ q y, t.node? q = some y → ¬ (y.lo.natAbs = k ∨ y.hi.natAbs = k) := by
  constructor
  · intro h q y hq hc
    have := indeg_pos_iff.mpr ⟨q, y, hq, hc⟩
    omega
  · intro h
    apply Nat.eq_zero_of_not_pos
    intro hp
    obtain ⟨q, y, hq, hc⟩ := indeg_pos_iff.mp hp
    exact h q y hq hc

theorem RefExact.zero_iff {m : Mgr} {ext : Nat → Nat} (h : RefExact m ext) {k : Nat} :
    m.ref[k]? = some 0 ↔ k ≠ 1 ∧ (m.tbl.node? k).isSome ∧ indeg m.tbl k = 0 ∧ ext k = 0 := by
  rw [h.ref_eq]
  by_cases h1 : k = 1
  · simp [h1]
  · by_cases hn : (m.tbl.node? k).isSome <;> simp [h1, hn]

theorem RefExact.ref_unique {a b : Mgr} {ext : Nat → Nat} (ha : RefExact a ext) (hb : RefExact b ext)
    (hn : ∀ k, a.tbl.node? k = b.tbl.node? k) (k : Nat) : a.ref[k]? = b.ref[k]? := by
  rw [ha.ref_eq, hb.ref_eq, hn, indeg_congr hn]

theorem extDec_extInc (ext : Nat → Nat) (a : Nat) : extDec (extInc ext a) a = ext := by
  funext j
  unfold extDec extInc
  split <;> rfl

theorem extInc_eq_add (ext : Nat → Nat) (a k : Nat) : extInc ext a k = ext k + if a = k then 1 else 0 := by
  unfold extInc
  by_cases h : k = a
  · simp [h]
  · simp [h]
    exact fun e => h e.symm

theorem extInc_self_pos (ext : Nat → Nat) (a : Nat) : 0 < extInc ext a a := by
  simp [extInc]

theorem extInc_edges (ext : Nat → Nat) (n : Nd) :
    extInc (extInc ext n.hi.natAbs) n.lo.natAbs = fun k => ext k + edgeCount n k := by
  funext k
  rw [extInc_eq_add, extInc_eq_add]
  unfold edgeCount
  omega

/-- The erased node's two edges are kept on the ledger, as references held by the caller:
the two `decref`s on the children that follow in `collect_garbage` are then releases of held
references (`decref_spec`). -/
theorem RefExact.erase {m m' : Mgr} {ext : Nat → Nat} {u : Nat} {n : Nd} (hr : RefExact m ext)
    (h0 : m.ref[u]? = some 0) (hrem : m'.tbl.AddedAt m.tbl u n) (href : m'.ref = m.ref.erase u)
    (hlo : m.tbl.Mem n.lo) (hhi : m.tbl.Mem n.hi) :
    RefExact m' (extInc (extInc ext n.hi.natAbs) n.lo.natAbs) := by
  rw [extInc_edges]
  obtain ⟨hu1, -, hi0, he0⟩ := hr.zero_iff.mp h0
  have hpar := indeg_eq_zero_iff.mp hi0 u n hrem.new
  refine .of_ref_eq (fun k => ?_) (fun k hk => ?_)
  · rw [href, getElem?_erase_eq]
    by_cases hku : k = u
    · subst hku
      simp [hrem.old, hu1]
    · have := edgeCount_le_indeg hrem.new k
      rw [if_neg (Ne.symm hku), hr.ref_eq, hrem.other k hku, indeg_added hrem k]
      split
      · congr 1; omega
      · rfl
  · have hch : ¬ (n.lo.natAbs = k ∨ n.hi.natAbs = k) := by
      rintro (h | h)
      · exact hk (by rw [← h, ← hrem.other _ (fun e => hpar (Or.inl e))]; exact hlo)
      · exact hk (by rw [← h, ← hrem.other _ (fun e => hpar (Or.inr e))]; exact hhi)
    rw [edgeCount_eq_zero.mpr hch, Nat.add_zero]
    by_cases hku : k = u
    · rw [hku]; exact he0
    · rw [← hrem.other k hku] at hk
      exact hr.extZero k (by rw [hr.ref_eq, if_neg hk])

end DD
