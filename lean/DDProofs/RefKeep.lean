/-
  DDProofs.RefKeep — what a step that only adds nodes does to the reference counts: they stay
  EXACT w.r.t. the same ledger of user-held references and never decrease, no key of `_ref`
  disappears.  `find_or_add` (request fired or not) is such a step.
-/
import DDProofs.RefCount
open Std

namespace DD

/-- no key of `_ref` is removed and no count decreases -/
def RefMono (m m' : Mgr) : Prop :=
  ∀ (k c : Nat), m.ref[k]? = some c → ∃ c' : Nat, m'.ref[k]? = some c' ∧ c ≤ c'

theorem RefMono.refl (m : Mgr) : RefMono m m := fun _ c h => ⟨c, h, Nat.le_refl _⟩

theorem RefMono.trans {a b c : Mgr} (h1 : RefMono a b) (h2 : RefMono b c) : RefMono a c := by
  intro k x hk
  obtain ⟨y, hy, hxy⟩ := h1 k x hk
  obtain ⟨z, hz, hyz⟩ := h2 k y hy
  exact ⟨z, hz, Nat.le_trans hxy hyz⟩

theorem RefMono.congr {a a' b b' : Mgr} (h : RefMono a b) (ha : a'.ref = a.ref) (hb : b'.ref = b.ref) :
    RefMono a' b' := by
  intro k c hk
  rw [ha] at hk
  rw [hb]
  exact h k c hk

/-- the step keeps the counts exact w.r.t. whatever ledger they were exact for, and then no
count decreased and no key of `_ref` was removed -/
def RefKeep (m m' : Mgr) : Prop :=
  ∀ ext : Nat → Nat, RefExact m ext → RefExact m' ext ∧ RefMono m m'

theorem RefKeep.refl (m : Mgr) : RefKeep m m := fun _ h => ⟨h, RefMono.refl m⟩

theorem RefKeep.trans {a b c : Mgr} (h1 : RefKeep a b) (h2 : RefKeep b c) : RefKeep a c := by
  intro ext hr
  obtain ⟨hb, m1⟩ := h1 ext hr
  obtain ⟨hc, m2⟩ := h2 ext hb
  exact ⟨hc, m1.trans m2⟩

theorem RefKeep.congr {a a' b b' : Mgr} (h : RefKeep a b) (ha1 : a'.tbl = a.tbl) (ha2 : a'.ref = a.ref)
    (hb1 : b'.tbl = b.tbl) (hb2 : b'.ref = b.ref) : RefKeep a' b' := by
  intro ext hr
  obtain ⟨h1, h2⟩ := h ext (hr.congr ha1.symm ha2.symm)
  exact ⟨h1.congr hb1 hb2, h2.congr ha2 hb2⟩

theorem RefKeep.of_eq {m m' : Mgr} (h1 : m'.tbl = m.tbl) (h2 : m'.ref = m.ref) : RefKeep m m' :=
  (RefKeep.refl m).congr rfl rfl h1 h2

theorem findOrAddCore_refMono (m : Mgr) (ext : Nat → Nat) (i : Nat) (v w : Int)
    (hW : WF m.tbl) (hr : RefExact m ext) : RefMono m (findOrAddCore i v w m).2 := by
  rcases findOrAddCore_cases m i v w hr.isSome with h | ⟨-, -, h2, hfree, -⟩
  · rw [h]; exact RefMono.refl _
  · rcases findOrAddCore_ref_effect m ext i v w hW.closed hr with h | ⟨n, -, -, -, -, -, -, -, heff⟩
    · rw [h]; exact RefMono.refl _
    · intro k c hk
      refine ⟨_, heff k c ?_ hk, Nat.le_add_right _ _⟩
      -- the new node's key `minFree` was not a key of `_ref`: exact counts have no stale keys
      rintro rfl
      rw [(hr.toBut.free_fresh hW.closed h2 hfree).1] at hk
      cases hk

theorem findOrAddCore_refKeep (m : Mgr) (i : Nat) (v w : Int) (hW : WF m.tbl) :
    RefKeep m (findOrAddCore i v w m).2 :=
  fun ext hr => ⟨findOrAddCore_refExact m ext i v w hW.closed hr, findOrAddCore_refMono m ext i v w hW hr⟩

theorem findOrAdd_refKeep (m : Mgr) (i : Int) (v w : Int) (hW : WF m.tbl) :
    RefKeep m (findOrAdd i v w m).2 := by
  obtain ⟨m1, h1, h2, h | h⟩ := findOrAdd_cases m i v w
  · rw [h]; exact RefKeep.of_eq h1 h2
  · rw [h]
    exact (findOrAddCore_refKeep m1 i.toNat v w (by rw [h1]; exact hW)).congr h1.symm h2.symm rfl rfl

end DD
