/-
  DDProofs.Relabel — relabeling the levels of a table by a map that is strictly increasing on
  the levels in use (same node numbers, same children): the table stays reduced, ordered and
  unique, every reference keeps its function up to the re-indexing of the assignment, and the
  manager invariant and the exact reference counts go along.
-/
import DDProofs.RefCount
open Std

namespace DD

section Increasing
variable {S : Nat → Prop} {f : Nat → Nat} (hf : ∀ i j, S i → S j → i < j → f i < f j)
include hf

theorem lt_of_increasingOn {i j : Nat} (hi : S i) (hj : S j) (h : f i < f j) : i < j := by
  rcases Nat.lt_trichotomy i j with c | c | c
  · exact c
  · rw [c] at h; exact absurd h (Nat.lt_irrefl _)
  · exact absurd (hf j i hj hi c) (Nat.lt_asymm h)

theorem eq_of_increasingOn {i j : Nat} (hi : S i) (hj : S j) (h : f i = f j) : i = j := by
  rcases Nat.lt_trichotomy i j with c | c | c
  · exact absurd h (Nat.ne_of_lt (hf i j hi hj c))
  · exact c
  · exact absurd h.symm (Nat.ne_of_lt (hf j i hj hi c))

theorem le_of_increasingOn {i j : Nat} (hi : S i) (hj : S j) (h : i ≤ j) : f i ≤ f j := by
  rcases Nat.lt_or_eq_of_le h with c | c
  · exact Nat.le_of_lt (hf i j hi hj c)
  · rw [c]; exact Nat.le_refl _

theorem min_le_of_increasingOn {a b c d : Nat} (ha : S a) (hb : S b) (hc : S c) (hd : S d)
    (h : min a (min b c) ≤ d) : min (f a) (min (f b) (f c)) ≤ f d := by
  have hd : ∀ x, S x → x ≤ d → f x ≤ f d := fun x hx => le_of_increasingOn hf hx hd
  have : a ≤ d ∨ b ≤ d ∨ c ≤ d := by omega
  rcases this with h | h | h
  · exact Nat.le_trans (Nat.min_le_left _ _) (hd a ha h)
  · exact Nat.le_trans (Nat.le_trans (Nat.min_le_right _ _) (Nat.min_le_left _ _)) (hd b hb h)
  · exact Nat.le_trans (Nat.le_trans (Nat.min_le_right _ _) (Nat.min_le_right _ _)) (hd c hc h)

end Increasing

/-- level `l` is in use: the terminal's level, or the level of a node -/
def Tbl.LevelUsed (t : Tbl) (l : Nat) : Prop :=
  l = t.nvars ∨ ∃ u n, t.node? u = some n ∧ n.lvl = l

/-- `t'` is `t` with every level `i` replaced by `f i` (same node numbers, same children) -/
structure Relabel (t t' : Tbl) (f : Nat → Nat) : Prop where
  node : ∀ u, t'.node? u = (t.node? u).map fun n => { n with lvl := f n.lvl }
  nvars : t'.nvars = f t.nvars
  mono : ∀ i j, t.LevelUsed i → t.LevelUsed j → i < j → f i < f j

theorem levelOf_used (t : Tbl) (u : Int) : t.LevelUsed (t.levelOf u) := by
  unfold Tbl.levelOf
  split
  · exact Or.inl rfl
  · split
    · next n hn => exact Or.inr ⟨_, n, hn, rfl⟩
    · exact Or.inl rfl

theorem WF.levelUsed_le {t : Tbl} (hw : WF t) {l : Nat} (h : t.LevelUsed l) : l ≤ t.nvars := by
  rcases h with rfl | ⟨u, n, hn, rfl⟩
  · exact Nat.le_refl _
  · exact Nat.le_of_lt (hw.lvl_lt u n hn)

section
variable {t t' : Tbl} {f : Nat → Nat} (h : Relabel t t' f)
include h

theorem Relabel.forall_node {P : Nat → Nd → Prop}
    (hP : ∀ u n, t.node? u = some n → P u { n with lvl := f n.lvl }) :
    ∀ u n', t'.node? u = some n' → P u n' := by
  intro u n' hu
  rw [h.node] at hu
  obtain ⟨n, hn, rfl⟩ := Option.map_eq_some_iff.mp hu
  exact hP u n hn

theorem Relabel.mem (u : Int) : t'.Mem u ↔ t.Mem u := by
  unfold Tbl.Mem
  rw [h.node, Option.isSome_map]

theorem Relabel.levelOf (u : Int) : t'.levelOf u = f (t.levelOf u) := by
  unfold Tbl.levelOf
  rw [h.node, h.nvars]
  by_cases h1 : u.natAbs = 1
  · rw [if_pos h1, if_pos h1]
  · rw [if_neg h1, if_neg h1]
    cases t.node? u.natAbs <;> rfl

theorem WFU_relabel (hw : WFU t) : WFU t' := by
  have hW := hw.toWF
  -- a node stays above whatever lay below it, the terminal (`x = 1`) included
  have hlt : ∀ u n (x : Int), t.node? u = some n → n.lvl < t.levelOf x → f n.lvl < t'.levelOf x := by
    intro u n x hn hx
    rw [h.levelOf]
    exact h.mono _ _ (Or.inr ⟨u, n, hn, rfl⟩) (levelOf_used t x) hx
  refine ⟨⟨?_, ?_, ?_, ?_, ?_, ?_, ?_, ?_⟩, ?_⟩
  · exact h.forall_node fun u n hn => hlt u n 1 hn (hW.lvl_lt u n hn)
  · exact h.forall_node fun u n hn => (h.mem _).mpr (hW.lo_mem u n hn)
  · exact h.forall_node fun u n hn => (h.mem _).mpr (hW.hi_mem u n hn)
  · exact h.forall_node fun u n hn => hlt u n n.lo hn (hW.lo_lt u n hn)
  · exact h.forall_node fun u n hn => hlt u n n.hi hn (hW.hi_lt u n hn)
  · exact h.forall_node hW.ge_two
  · exact h.forall_node hW.hi_pos
  · exact h.forall_node hW.lo_ne_hi
  · -- two numbers for one node of `t'`: the originals have the same children and, `f` being
    -- injective on the levels in use, the same level
    have hinv : ∀ u n', t'.node? u = some n' →
        ∃ n, t.node? u = some n ∧ n' = { n with lvl := f n.lvl } :=
      h.forall_node fun u n hn => ⟨n, hn, rfl⟩
    intro u u' n' hu hu'
    obtain ⟨n, hn, e⟩ := hinv u n' hu
    obtain ⟨n2, hn2, e2⟩ := hinv u' n' hu'
    injection e.symm.trans e2 with hl hlo hhi
    have hl : n.lvl = n2.lvl := eq_of_increasingOn h.mono (Or.inr ⟨u, n, hn, rfl⟩)
      (Or.inr ⟨u', n2, hn2, rfl⟩) hl
    have : n = n2 := Nd.key_inj (by unfold Nd.key; rw [hl, hlo, hhi])
    exact hw.unique u u' n hn (this ▸ hn2)

theorem den_relabel (hw : WFU t) (a a' : Asg)
    (ha : ∀ i, i < t.nvars → t.LevelUsed i → a' (f i) = a i) :
    ∀ u, t.Mem u → den t' u a' = den t u a := by
  have hW := hw.toWF
  have hW' := (WFU_relabel h hw).toWF
  apply ref_induction hW
  · intro u h1
    rw [den_terminal _ h1, den_terminal _ h1]
  · intro u n h1 hn ihlo ihhi
    have hn' : t'.node? u.natAbs = some { n with lvl := f n.lvl } := by rw [h.node]; exact congrArg _ hn
    rw [den_node t hW u n a h1 hn, den_node t' hW' u _ a' h1 hn', ihlo, ihhi]
    show (decide (u < 0) ^^ if a' (f n.lvl) then _ else _) = _
    rw [ha n.lvl (hW.lvl_lt _ _ hn) (Or.inr ⟨_, n, hn, rfl⟩)]

theorem Relabel.cacheEntryOK (hw : WFU t) {g u v w : Int} (he : CacheEntryOK t g u v w) :
    CacheEntryOK t' g u v w := by
  have hden : ∀ x, t.Mem x → ∀ a', den t' x a' = den t x fun i => a' (f i) :=
    fun x hx a' => den_relabel h hw _ a' (fun _ _ _ => rfl) x hx
  refine ⟨he.gnt, (h.mem g).mpr he.mg, (h.mem u).mpr he.mu, (h.mem v).mpr he.mv,
    (h.mem w).mpr he.mw, ?_, ?_⟩
  · rw [h.levelOf, h.levelOf, h.levelOf, h.levelOf]
    exact min_le_of_increasingOn h.mono (levelOf_used t g) (levelOf_used t u) (levelOf_used t v)
      (levelOf_used t w) he.lvl
  · intro a'
    rw [hden w he.mw, hden g he.mg, hden u he.mu, hden v he.mv]
    exact he.den _

end

theorem Inv.relabel {m m' : Mgr} {f : Nat → Nat} (hI : Inv m) (h : Relabel m.tbl m'.tbl f)
    (hp : ∀ (n : Nd) (u : Nat), m'.pred[n.key]? = some u ↔ m'.tbl.node? u = some n)
    (hf : m'.minFree = m.minFree) (hr : m'.ref = m.ref)
    (hc : ∀ (k : List Int) (w : Int), m'.cache[k]? = some w → m.cache[k]? = some w) : Inv m' := by
  refine ⟨WFU_relabel h hI.wf, hp, hf ▸ hI.freeGe, ?_, hr ▸ hI.refOne, ?_, ?_⟩
  · rw [hf, h.node, hI.free]; rfl
  · rw [hr]
    exact h.forall_node hI.refDom
  · intro g u v w hw
    exact h.cacheEntryOK hI.wf (hI.cache g u v w (hc _ w hw))

/-- more variables over the same nodes: only the terminal's level moves -/
theorem Relabel.more_vars {t t' : Tbl} (hW : WF t) (hs : t'.succ = t.succ) (hn : t.nvars ≤ t'.nvars) :
    Relabel t t' fun i => if i = t.nvars then t'.nvars else i := by
  refine ⟨fun u => ?_, (if_pos rfl).symm, fun i j _ hj hij => ?_⟩
  · have : t'.node? u = t.node? u := congrArg (·[u]?) hs
    rw [this]
    cases hu : t.node? u with
    | none => rfl
    | some n =>
      show some n = some { n with lvl := if n.lvl = t.nvars then t'.nvars else n.lvl }
      rw [if_neg (Nat.ne_of_lt (hW.lvl_lt u n hu))]
  · -- `i < j ≤ nvars`: `i` stays, `j` stays or moves up
    have := hW.levelUsed_le hj
    show (if i = t.nvars then t'.nvars else i) < if j = t.nvars then t'.nvars else j
    rw [if_neg (by omega)]
    split <;> omega

/-- what a run of `add_var` calls produces: the same nodes, tables and counts, MORE declared
variables -/
theorem Inv.more_vars {m m' : Mgr} (hI : Inv m) (hs : m'.tbl.succ = m.tbl.succ)
    (hp : m'.pred = m.pred) (hr : m'.ref = m.ref) (hc : m'.cache = m.cache)
    (hf : m'.minFree = m.minFree) (hn : m.tbl.nvars ≤ m'.tbl.nvars) :
    Inv m' ∧ (∀ u, m.tbl.Mem u → m'.tbl.Mem u ∧ ∀ a, den m'.tbl u a = den m.tbl u a) := by
  have hR := Relabel.more_vars hI.wf.toWF hs hn
  have hnode : ∀ k, m'.tbl.node? k = m.tbl.node? k := fun k => congrArg (·[k]?) hs
  refine ⟨hI.relabel hR (fun n u => by rw [hp, hnode]; exact hI.pred n u) hf hr
    (fun k w h => hc ▸ h), fun u hu => ⟨(hR.mem u).mpr hu, fun a => ?_⟩⟩
  -- the levels below the terminal's do not move, so the assignment is read as before
  exact den_relabel hR hI.wf a a (fun i hi _ => congrArg a (if_neg (Nat.ne_of_lt hi))) u hu

theorem Relabel.indeg {t t' : Tbl} {f : Nat → Nat} (h : Relabel t t' f) (u : Nat) :
    indeg t' u = indeg t u := by
  apply indeg_congr_slots
  intro k
  unfold slotCount
  rw [h.node k]
  cases t.node? k with
  | none => rfl
  | some n => rfl

theorem RefExact.of_relabel {m m' : Mgr} {ext : Nat → Nat} {f : Nat → Nat} (h : RefExact m ext)
    (hr : Relabel m.tbl m'.tbl f) (href : m'.ref = m.ref) : RefExact m' ext := by
  refine ⟨?_, ?_, ?_⟩
  · intro u
    rw [href, hr.node u, h.dom u]
    cases m.tbl.node? u <;> simp
  · intro u c hc
    rw [href] at hc
    rw [hr.indeg u]
    exact h.cnt u c hc
  · intro u hu
    rw [href] at hu
    exact h.extZero u hu

end DD
