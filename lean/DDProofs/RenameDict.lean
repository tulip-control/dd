/-
  DDProofs.RenameDict — the arguments of `image` / `preimage` before any node is touched: the
  renaming read as a Python `dict` (`renameDictOf`: a later duplicate of a key overwrites), its keys
  and values resolved to levels (`resolveRename`) or to names (`renameByName`), and `qvars` mapped to
  levels and back.  With the order maps inverse bijections (`VarsBij`) the detour of
  `_image_args_by_name` through the names returns the same levels
  (`resolveRename_renameByName`, `qvarsByName_ok`).
-/
import DDProofs.SatPick
import DDProofs.LetCopy
open Std

namespace DD

/-- some key or value of the resolved renaming is not an `int` (an undeclared name) -/
def renameNonLevel (rn : List (Key × Key)) : Bool :=
  rn.any fun (k, v) => match k, v with
    | .lvl _, .lvl _ => false
    | _, _ => true

theorem intPairs_map_lvl (l : List (Int × Int)) :
    intPairs (l.map fun p => (Key.lvl p.1, Key.lvl p.2)) = l := by
  rw [intPairs, List.filterMap_map]
  exact List.filterMap_some

theorem badKeys_map_lvl (l : List (Int × Int)) :
    badKeys (l.map fun p => (Key.lvl p.1, Key.lvl p.2)) = [] := by
  rw [badKeys, List.filterMap_map]
  exact List.filterMap_eq_nil_iff.mpr fun _ _ => rfl

theorem renameValues_map_lvl (l : List (Int × Int)) :
    renameValues (l.map fun p => (Key.lvl p.1, Key.lvl p.2)) = l.map (·.2) := by
  rw [renameValues, List.filterMap_map]
  exact congrFun (List.filterMap_eq_map (f := (·.2))) l

theorem eq_map_of_nonLevel : ∀ rn : List (Key × Key), renameNonLevel rn = false →
    rn = (intPairs rn).map fun p => (Key.lvl p.1, Key.lvl p.2)
  | [], _ => rfl
  | (.lvl a, .lvl b) :: rest, h =>
    congrArg ((Key.lvl a, Key.lvl b) :: ·) (eq_map_of_nonLevel rest h)
  | (.name _, _) :: _, h | (.lvl _, .name _) :: _, h => Bool.noConfusion h

theorem mem_intPairs {rn : List (Key × Key)} {p : Int × Int} (h : p ∈ intPairs rn) :
    (Key.lvl p.1, Key.lvl p.2) ∈ rn := by
  obtain ⟨⟨k, v⟩, hx, he⟩ := List.mem_filterMap.mp h
  cases k <;> cases v <;> cases he
  exact hx

theorem renameOverlap_lvls (l : List (Int × Int)) :
    renameOverlap (l.map fun p => (Key.lvl p.1, Key.lvl p.2)) = false ↔
      ∀ p p', p ∈ l → p' ∈ l → p.2 ≠ p'.1 := by
  unfold renameOverlap
  rw [← Bool.not_eq_true, List.any_eq_true]
  constructor
  · intro h p p' hp hp' he
    apply h
    refine ⟨(Key.lvl p.1, Key.lvl p.2), List.mem_map.mpr ⟨p, hp, rfl⟩, ?_⟩
    simp only [List.any_eq_true, decide_eq_true_eq]
    exact ⟨(Key.lvl p'.1, Key.lvl p'.2), List.mem_map.mpr ⟨p', hp', rfl⟩, by simp [he]⟩
  · rintro h ⟨x, hx, hx2⟩
    obtain ⟨p, hp, rfl⟩ := List.mem_map.mp hx
    simp only [List.any_eq_true, decide_eq_true_eq] at hx2
    obtain ⟨y, hy, hy2⟩ := hx2
    obtain ⟨p', hp', rfl⟩ := List.mem_map.mp hy
    exact h p p' hp hp' (Key.lvl.inj hy2).symm

theorem renameNonLevel_lvls (l : List (Int × Int)) :
    renameNonLevel (l.map fun p => (Key.lvl p.1, Key.lvl p.2)) = false := by
  unfold renameNonLevel
  rw [← Bool.not_eq_true, List.any_eq_true]
  rintro ⟨x, hx, hx2⟩
  obtain ⟨p, _, rfl⟩ := List.mem_map.mp hx
  simp at hx2

/-- `bdd.vars.get(k, k)` -/
def resKey (t : Tbl) : Key → Key
  | .name s => match t.vars[s]? with
    | some l => .lvl l
    | none => .name s
  | .lvl i => .lvl i

/-- a list of items read as a Python `dict` (a later duplicate of a key overwrites; order of
first insertion) -/
def renameDictOf (l : List (Key × Key)) : List (Key × Key) :=
  (dedup (l.reverse.map (·.1))).reverse.map fun k => (k, (l.reverse.lookup k).getD k)

theorem resolveRename_eq (t : Tbl) (rn : List (Key × Key)) :
    resolveRename t rn = renameDictOf (rn.map fun p => (resKey t p.1, resKey t p.2)) := by
  unfold resolveRename renameDictOf
  rfl

theorem renameDictOf_nodup (l : List (Key × Key)) (h : (l.map (·.1)).Nodup) : renameDictOf l = l := by
  unfold renameDictOf
  have hr : (l.reverse.map (·.1)).Nodup := by
    rw [List.map_reverse]
    exact List.pairwise_reverse.mpr (h.imp fun hab => hab.symm)
  rw [dedup_of_nodup _ hr, ← List.map_reverse, List.reverse_reverse, List.map_map]
  have : ∀ p, p ∈ l → ((fun k => (k, (l.reverse.lookup k).getD k)) ∘ (·.1)) p = id p := by
    intro p hp
    obtain ⟨k, v⟩ := p
    have := lookup_of_mem_nodup l.reverse hr k v (List.mem_reverse.mpr hp)
    simp [this]
  rw [List.map_congr_left this, List.map_id]

theorem intPairs_resolveRename_levels (t : Tbl) (l : List (Int × Int))
    (h : (l.map (·.1)).Nodup) :
    resolveRename t (l.map fun p => (Key.lvl p.1, Key.lvl p.2)) =
      l.map (fun p => (Key.lvl p.1, Key.lvl p.2)) ∧
    intPairs (l.map fun p => (Key.lvl p.1, Key.lvl p.2)) = l := by
  constructor
  · rw [resolveRename_eq, List.map_map]
    have : ((fun p : Key × Key => (resKey t p.1, resKey t p.2)) ∘
        fun p : Int × Int => (Key.lvl p.1, Key.lvl p.2)) = fun p => (Key.lvl p.1, Key.lvl p.2) := by
      funext p; rfl
    rw [this]
    apply renameDictOf_nodup
    rw [List.map_map]
    have : ((·.1) ∘ fun p : Int × Int => (Key.lvl p.1, Key.lvl p.2)) = Key.lvl ∘ (·.1) := by
      funext p; rfl
    rw [this, ← List.map_map]
    exact List.Pairwise.map _ (fun a b hab he => hab (Key.lvl.inj he)) h
  · exact intPairs_map_lvl l

theorem resolveRename_names (t : Tbl) (hV : VarsBij t) (l : List (String × String))
    (h : (l.map (·.1)).Nodup)
    (hd : ∀ p, p ∈ l → t.vars.contains p.1 = true ∧ t.vars.contains p.2 = true) :
    resolveRename t (l.map fun p => (Key.name p.1, Key.name p.2)) =
      l.map (fun p => (Key.lvl (lvlOf t p.1), Key.lvl (lvlOf t p.2))) := by
  have hres : ∀ s, t.vars.contains s = true → resKey t (.name s) = .lvl (lvlOf t s) := by
    intro s hs
    obtain ⟨i, hi⟩ := (vars_contains_iff t s).mp hs
    simp [resKey, hi, lvlOf]
  rw [resolveRename_eq, List.map_map]
  have : l.map ((fun p : Key × Key => (resKey t p.1, resKey t p.2)) ∘
      fun p : String × String => (Key.name p.1, Key.name p.2)) =
      l.map fun p => (Key.lvl (lvlOf t p.1), Key.lvl (lvlOf t p.2)) := by
    apply List.map_congr_left
    intro p hp
    simp only [Function.comp]
    rw [hres _ (hd p hp).1, hres _ (hd p hp).2]
  rw [this]
  apply renameDictOf_nodup
  rw [List.map_map, List.Nodup, List.pairwise_map]
  rw [List.Nodup, List.pairwise_map] at h
  exact h.imp_of_mem fun {a b} ha hb hab he => hab
    (hV.lvlOf_inj (hd a ha).1 (hd b hb).1 (by have := Key.lvl.inj he; omega))

/-- a renaming given BY NAME (declared names, pairwise distinct keys, no key is a value), as the
bodies see it: it resolves to the pairs of the levels of its names, which are declared levels, and
passes the checks on the resolved dictionary.  `R` and `lp` come with their defining equations so
that a caller passes its own spelling of either (a definition that unfolds to it) with `rfl`. -/
theorem lvlPairs_facts {t : Tbl} (hV : VarsBij t) (l : List (String × String))
    (hkeys : (l.map (·.1)).Nodup)
    (hd : ∀ p, p ∈ l → t.vars.contains p.1 = true ∧ t.vars.contains p.2 = true)
    (hov : ∀ p p', p ∈ l → p' ∈ l → p.2 ≠ p'.1) (R : List (Key × Key))
    (hR : R = resolveRename t (l.map fun p => (Key.name p.1, Key.name p.2)))
    (lp : List (Int × Int))
    (hlp : lp = l.map fun p => ((lvlOf t p.1 : Int), (lvlOf t p.2 : Int))) :
    intPairs R = lp ∧ renameOverlap R = false ∧ renameNonLevel R = false ∧ badKeys R = [] ∧
    (R ≠ [] → 0 < t.nvars) ∧
    (∀ x, x ∈ intPairs R → 0 ≤ x.1 ∧ x.1 < (t.nvars : Int) ∧ 0 ≤ x.2 ∧ x.2 < (t.nvars : Int)) := by
  have hres : R = lp.map (fun p => (Key.lvl p.1, Key.lvl p.2)) := by
    rw [hR, resolveRename_names t hV l hkeys hd, hlp, List.map_map]
    rfl
  subst hlp
  rw [hres, intPairs_map_lvl]
  refine ⟨rfl, ?_, renameNonLevel_lvls _, badKeys_map_lvl _, fun hne => ?_, ?_⟩
  · rw [renameOverlap_lvls]
    intro x x' hx hx' he
    obtain ⟨p, hp, rfl⟩ := List.mem_map.mp hx
    obtain ⟨p', hp', rfl⟩ := List.mem_map.mp hx'
    exact hov p p' hp hp' (hV.lvlOf_inj (hd p hp).2 (hd p' hp').1 (Int.ofNat.inj he))
  · cases l with
    | nil => exact absurd rfl hne
    | cons p _ => exact Nat.zero_lt_of_lt (hV.lvlOf_lt (hd p List.mem_cons_self).1)
  · intro x hx
    obtain ⟨p, hp, rfl⟩ := List.mem_map.mp hx
    have h1 := hV.lvlOf_lt (hd p hp).1
    have h2 := hV.lvlOf_lt (hd p hp).2
    simp only
    omega

theorem lvlPairs_targets {t : Tbl} {l : List (String × String)} {qs : List String}
    {P : Nat → Prop} (htg : ∀ p, p ∈ l → p.2 ∈ qs ∨ P (lvlOf t p.2)) :
    ∀ x, x ∈ l.map (fun p => ((lvlOf t p.1 : Int), (lvlOf t p.2 : Int))) → ∀ lv : Nat,
      x.2 = (lv : Int) → lv ∈ qs.map (lvlOf t) ∨ P lv := by
  intro x hx lv hlv
  obtain ⟨p, hp, rfl⟩ := List.mem_map.mp hx
  obtain rfl : lvlOf t p.2 = lv := Int.ofNat.inj hlv
  exact (htg p hp).imp_left fun h => List.mem_map.mpr ⟨p.2, h, rfl⟩

theorem resKey_keyByName (t : Tbl) (hV : VarsBij t) (k : Key) :
    resKey t (keyByName t k) = resKey t k := by
  cases k with
  | name s =>
    cases hv : t.vars[s]? with
    | none => simp [keyByName, resKey, hv]
    | some l =>
      have hl := hV.v2l s l hv
      simp [keyByName, resKey, hv, hl]
  | lvl i =>
    by_cases h0 : 0 ≤ i
    · cases hl : t.l2v[i.toNat]? with
      | none => simp [keyByName, resKey, h0, hl]
      | some nm =>
        have hv := hV.l2v _ _ hl
        simp only [keyByName, resKey, h0, if_true, hl, hv]
        congr 1
        omega
    · simp [keyByName, resKey, h0]

theorem keyByName_resKey (t : Tbl) (k : Key) : keyByName t (resKey t k) = keyByName t k := by
  cases k with
  | lvl i => rfl
  | name s =>
    cases hv : t.vars[s]? with
    | none => simp [resKey, hv]
    | some l =>
      have h0 : (0 : Int) ≤ (l : Int) := by omega
      simp only [resKey, hv, keyByName, h0, if_true, Int.toNat_natCast]

theorem resKey_inj_byName (t : Tbl) (hV : VarsBij t) (k k' : Key)
    (h : resKey t (keyByName t k) = resKey t (keyByName t k')) : keyByName t k = keyByName t k' := by
  have h2 := congrArg (keyByName t) h
  rw [keyByName_resKey, keyByName_resKey] at h2
  have idem : ∀ x, keyByName t (keyByName t x) = keyByName t x := by
    intro x
    rw [← keyByName_resKey t (keyByName t x), resKey_keyByName t hV, keyByName_resKey]
  rw [idem, idem] at h2
  exact h2

theorem renameDictOf_map_inj (f : Key → Key) (l : List (Key × Key))
    (hinj : ∀ a, a ∈ l.map (·.1) → ∀ b, b ∈ l.map (·.1) → f a = f b → a = b) :
    renameDictOf (l.map fun p => (f p.1, f p.2)) = (renameDictOf l).map fun p => (f p.1, f p.2) := by
  unfold renameDictOf
  have hrev : (l.map fun p => (f p.1, f p.2)).reverse = l.reverse.map fun p => (f p.1, f p.2) := by
    rw [List.map_reverse]
  have hkeys : (l.reverse.map fun p => (f p.1, f p.2)).map (·.1) = (l.reverse.map (·.1)).map f := by
    rw [List.map_map, List.map_map]; rfl
  have hinj' : ∀ a, a ∈ l.reverse.map (·.1) → ∀ b, b ∈ l.reverse.map (·.1) → f a = f b → a = b := by
    intro a ha b hb
    rw [List.map_reverse, List.mem_reverse] at ha hb
    exact hinj a ha b hb
  rw [hrev, hkeys, dedup_map_inj f _ hinj', ← List.map_reverse, List.map_map, List.map_map]
  apply List.map_congr_left
  intro k hk
  have hkl : k ∈ l.reverse.map (·.1) := mem_dedup.mp (List.mem_reverse.mp hk)
  simp only [Function.comp]
  rw [lookup_map_inj f f l.reverse k (fun p hp hfp => hinj' _ (List.mem_map.mpr ⟨p, hp, rfl⟩) _ hkl hfp)]
  cases l.reverse.lookup k <;> rfl

theorem renameDictOf_keys (l : List (Key × Key)) :
    (renameDictOf l).map (·.1) = (dedup (l.reverse.map (·.1))).reverse := by
  unfold renameDictOf
  rw [List.map_map]
  exact List.map_id' _

theorem renameDictOf_idem (l : List (Key × Key)) : renameDictOf (renameDictOf l) = renameDictOf l := by
  apply renameDictOf_nodup
  rw [renameDictOf_keys]
  exact List.pairwise_reverse.mpr ((nodup_dedup _).imp fun hab => hab.symm)

theorem renameByName_eq (t : Tbl) (rn : List (Key × Key)) :
    renameByName t rn = renameDictOf (rn.map fun p => (keyByName t p.1, keyByName t p.2)) := by
  unfold renameByName renameDictOf
  rfl

/-- `_image_of` resolves the renaming by name to the levels the caller's renaming resolves to -/
theorem resolveRename_renameByName (t : Tbl) (hV : VarsBij t) (rn : List (Key × Key)) :
    resolveRename t (renameByName t rn) = resolveRename t rn := by
  rw [resolveRename_eq, resolveRename_eq, renameByName_eq]
  generalize hl' : (rn.map fun p => (keyByName t p.1, keyByName t p.2)) = l'
  have hinj : ∀ a, a ∈ (renameDictOf l').map (·.1) → ∀ b, b ∈ (renameDictOf l').map (·.1) →
      resKey t a = resKey t b → a = b := by
    have hk : ∀ a, a ∈ (renameDictOf l').map (·.1) → ∃ k, a = keyByName t k := by
      intro a ha
      rw [renameDictOf_keys, List.mem_reverse, mem_dedup, List.map_reverse, List.mem_reverse,
        ← hl', List.map_map] at ha
      obtain ⟨p, _, rfl⟩ := List.mem_map.mp ha
      exact ⟨p.1, rfl⟩
    intro a ha b hb hab
    obtain ⟨k, rfl⟩ := hk a ha
    obtain ⟨k', rfl⟩ := hk b hb
    exact resKey_inj_byName t hV k k' hab
  have hinj2 : ∀ a, a ∈ l'.map (·.1) → ∀ b, b ∈ l'.map (·.1) → resKey t a = resKey t b → a = b := by
    intro a ha b hb hab
    rw [← hl', List.map_map] at ha hb
    obtain ⟨p, _, rfl⟩ := List.mem_map.mp ha
    obtain ⟨p', _, rfl⟩ := List.mem_map.mp hb
    exact resKey_inj_byName t hV p.1 p'.1 hab
  rw [renameDictOf_map_inj (resKey t) (renameDictOf l') hinj, renameDictOf_idem,
    ← renameDictOf_map_inj (resKey t) l' hinj2, ← hl', List.map_map]
  congr 1
  apply List.map_congr_left
  intro p _
  simp only [Function.comp, resKey_keyByName t hV]

/-- the two ways in which `_map_to_level` succeeds: every key is a level, and the result lists
them; or the first key is a declared name, and every key is looked up in `vars` -/
theorem mapToLevelE_ok_cases {t : Tbl} {keys : List Key} {q : List Nat}
    (h : mapToLevelE t keys = .ok q) :
    (keys.all (keyIsLevel t) = true ∧ q = keys.map fun k => match k with
      | .lvl i => i.toNat
      | .name _ => 0) ∨
    mapME (keyVarLevel t) keys = .ok q := by
  cases keys with
  | nil => cases h; exact Or.inl ⟨rfl, rfl⟩
  | cons k0 rest =>
    simp only [mapToLevelE] at h
    -- the first key is a name or a level; either way the same two tests follow
    split at h
    all_goals
      split at h
      · split at h
        · next hall => cases h; exact Or.inl ⟨hall, rfl⟩
        · cases h
      · exact Or.inr h

theorem mapToLevelE_named (t : Tbl) (hV : VarsBij t) (keys : List Key) (q : List Nat)
    (h : mapToLevelE t keys = .ok q) : ∀ j, j ∈ q → ∃ nm, t.l2v[j]? = some nm := by
  intro j hj
  rcases mapToLevelE_ok_cases h with ⟨hall, rfl⟩ | hm
  · obtain ⟨k, hk, rfl⟩ := List.mem_map.mp hj
    have hkl := List.all_eq_true.mp hall k hk
    cases k with
    | name s => cases hkl
    | lvl i =>
      simp only [keyIsLevel, Bool.and_eq_true, decide_eq_true_eq,
        TreeMap.contains_eq_isSome_getElem?] at hkl
      exact Option.isSome_iff_exists.mp hkl.2
  · obtain ⟨k, _, hk⟩ := mapM_ok_mem _ _ _ (mapME_eq_mapM _ _ ▸ hm) j hj
    cases k with
    | lvl i => cases hk
    | name s =>
      simp only [keyVarLevel] at hk
      split at hk
      · next l hl => cases hk; exact ⟨s, hV.v2l _ _ hl⟩
      · cases hk

theorem qvarsByName_eq (t : Tbl) (hV : VarsBij t) (qvars : List Key) (q : List Nat)
    (h : mapToLevelE t qvars = .ok q) :
    qvarsByName t qvars = .ok ((q.map t.nameOf).map Key.name) := by
  have hn := mapToLevelE_named t hV qvars q h
  unfold qvarsByName
  rw [h]
  simp only
  rw [List.map_map]
  apply mapME_ok
  intro j hj
  obtain ⟨nm, hnm⟩ := hn j hj
  simp [hnm, Tbl.nameOf]

/-- `_image_args_by_name` names the levels of `qvars`, and `_image_of` maps the names back to the
same levels -/
theorem qvarsByName_ok (t : Tbl) (hV : VarsBij t) (qvars : List Key) (q : List Nat)
    (h : mapToLevelE t qvars = .ok q) :
    ∃ qn, qvarsByName t qvars = .ok qn ∧ mapToLevelE t qn = .ok q := by
  have hn := mapToLevelE_named t hV qvars q h
  refine ⟨_, qvarsByName_eq t hV qvars q h, ?_⟩
  rw [mapToLevelE_names t (q.map t.nameOf)]
  · rw [List.map_map]
    congr 1
    conv => rhs; rw [← List.map_id q]
    apply List.map_congr_left
    intro j hj
    obtain ⟨nm, hnm⟩ := hn j hj
    simp only [Function.comp, Tbl.nameOf, hnm, Option.getD_some, id]
    exact lvlOf_eq (hV.l2v _ _ hnm)
  · intro s hs
    obtain ⟨j, hj, rfl⟩ := List.mem_map.mp hs
    obtain ⟨nm, hnm⟩ := hn j hj
    simp only [Tbl.nameOf, hnm, Option.getD_some]
    exact (vars_contains_iff t nm).mpr ⟨j, hV.l2v _ _ hnm⟩

theorem qvarsByName_error (t : Tbl) (qvars : List Key) (e : Err)
    (h : mapToLevelE t qvars = .error e) : qvarsByName t qvars = .error e := by
  unfold qvarsByName
  rw [h]

end DD
