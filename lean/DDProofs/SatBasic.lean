/-
  DDProofs.SatBasic — common ground of the C10 / C18 proofs.  `dependsOn t u i`: the function of
  `u` changes with the variable at level `i`.  On a reduced table a stored node depends on its
  own level (`node_depends_on_own_level`, by canonicity), which is why the levels of the nodes
  under `u` are exactly the semantic support of `u`.
-/
import DDProofs.Canon
open Std

namespace DD

theorem Tbl.Mem.cases {t : Tbl} {u : Int} (h : t.Mem u) :
    u.natAbs = 1 ∨ (u.natAbs ≠ 1 ∧ ∃ n, t.succ[u.natAbs]? = some n) := by
  by_cases h1 : u.natAbs = 1
  · exact Or.inl h1
  · rcases h with h | h
    · exact absurd h h1
    · exact Or.inr ⟨h1, Option.isSome_iff_exists.mp h⟩

theorem Tbl.Mem.of_node {t : Tbl} {u : Int} {n : Nd} (h : t.succ[u.natAbs]? = some n) : t.Mem u :=
  Or.inr (by simp [Tbl.node?, h])

theorem Tbl.Mem.of_node_nat {t : Tbl} {u : Nat} {n : Nd} (h : t.succ[u]? = some n) : t.Mem (u : Int) :=
  Or.inr (by simp [Tbl.node?, h])

theorem WF.node_ne_one {t : Tbl} (hw : WF t) {u : Nat} {n : Nd} (h : t.succ[u]? = some n) : u ≠ 1 := by
  have := hw.ge_two u n h; omega

/-- the recursions' guard against a missing child never fires -/
theorem WF.zero_test {t : Tbl} (hw : WF t) {u : Nat} {n : Nd} (h : t.succ[u]? = some n) :
    (n.lo = 0 || n.hi = 0) = false := by
  simp [mem_ne_zero hw (hw.lo_mem u n h), mem_ne_zero hw (hw.hi_mem u n h)]

theorem levelOf_node' {t : Tbl} {u : Int} {n : Nd} (h1 : u.natAbs ≠ 1) (hn : t.succ[u.natAbs]? = some n) :
    t.levelOf u = n.lvl := levelOf_node t u n h1 hn

theorem mem_natAbs {t : Tbl} {u : Int} (h : t.Mem u) : t.Mem (u.natAbs : Int) := by
  unfold Tbl.Mem at *; simpa using h

theorem mem_of_natAbs {t : Tbl} {u : Int} (h : t.Mem (u.natAbs : Int)) : t.Mem u := by
  unfold Tbl.Mem at *; simpa using h

theorem levelOf_natAbs (t : Tbl) (u : Int) : t.levelOf (u.natAbs : Int) = t.levelOf u := by
  unfold Tbl.levelOf; simp

theorem mem_nat_cases {t : Tbl} {x : Nat} (h : t.Mem (x : Int)) : x = 1 ∨ (x ≠ 1 ∧ ∃ n, t.succ[x]? = some n) := by
  rcases h.cases with h | ⟨h, n, hn⟩
  · left; simpa using h
  · right; exact ⟨by simpa using h, n, by simpa using hn⟩

theorem WF.succ_one {t : Tbl} (hw : WF t) : t.succ[1]? = none := by
  cases h : t.succ[1]? with
  | none => rfl
  | some n => exact absurd rfl (hw.node_ne_one h)

theorem levelOf_nat_node {t : Tbl} (hw : WF t) {u : Nat} {n : Nd} (hn : t.succ[u]? = some n) :
    t.levelOf (u : Int) = n.lvl :=
  levelOf_node t (u : Int) n (by simpa using hw.node_ne_one hn) (by simpa [Tbl.node?] using hn)

theorem den_natAbs {t : Tbl} (hw : WF t) {u : Int} (hm : t.Mem u) (a : Asg) :
    den t u a = ((decide (u < 0)) ^^ den t (u.natAbs : Int) a) := by
  by_cases h : u < 0
  · have : (u.natAbs : Int) = -u := by omega
    rw [this, den_neg t hw u a hm]; simp [h]
  · have : (u.natAbs : Int) = u := by omega
    rw [this]; simp [h]

theorem den_nat_ite {t : Tbl} (hw : WF t) {u : Nat} {n : Nd} (hn : t.succ[u]? = some n) (a : Asg) :
    den t (u : Int) a = if a n.lvl then den t n.hi a else den t n.lo a := by
  have h1 : (u : Int).natAbs ≠ 1 := by simpa using hw.node_ne_one hn
  rw [den_node t hw (u : Int) n a h1 (by simpa [Tbl.node?] using hn)]
  have : ¬ ((u : Int) < 0) := by omega
  simp only [this, decide_false, Bool.false_bne]

theorem den_nat_node {t : Tbl} (hw : WF t) {u : Nat} {n : Nd} (hn : t.succ[u]? = some n) (a : Asg) :
    den t (u : Int) a = if a n.lvl then den t (n.hi.natAbs : Int) a
      else ((decide (n.lo < 0)) ^^ den t (n.lo.natAbs : Int) a) := by
  rw [den_nat_ite hw hn, den_natAbs hw (hw.lo_mem _ _ hn), den_natAbs hw (hw.hi_mem _ _ hn)]
  have := hw.hi_pos _ _ hn
  have h' : ¬ (n.hi < 0) := by omega
  simp [h']

/-- the function of `u` depends on the variable at level `i` -/
def dependsOn (t : Tbl) (u : Int) (i : Nat) : Prop :=
  ∃ a, den t u (upd a i true) ≠ den t u (upd a i false)

theorem dependsOn_term {t : Tbl} {u : Int} (h1 : u.natAbs = 1) (i : Nat) : ¬ dependsOn t u i := by
  rintro ⟨a, h⟩; exact h (by rw [den_terminal _ h1, den_terminal _ h1])

theorem dependsOn_lt {t : Tbl} (hw : WF t) {u : Int} (hm : t.Mem u) {i : Nat} (h : i < t.levelOf u) :
    ¬ dependsOn t u i := by
  rintro ⟨a, hd⟩
  exact hd (by rw [den_indep t hw u hm i true a h, den_indep t hw u hm i false a h])

theorem dependsOn_neg {t : Tbl} (hw : WF t) {u : Int} (hm : t.Mem u) (i : Nat) :
    dependsOn t (-u) i ↔ dependsOn t u i := by
  unfold dependsOn
  constructor <;> rintro ⟨a, h⟩ <;> refine ⟨a, ?_⟩
  · intro h'; apply h; rw [den_neg t hw u _ hm, den_neg t hw u _ hm, h']
  · rw [den_neg t hw u _ hm, den_neg t hw u _ hm]; intro h'; apply h
    simpa using h'

/-- A stored node's function depends on the node's own level: `lo ≠ hi`, so by canonicity
`den lo ≠ den hi`, and both are independent of the level. -/
theorem node_depends_on_own_level {t : Tbl} (hw : WFU t) {u : Int} {n : Nd}
    (h1 : u.natAbs ≠ 1) (hn : t.succ[u.natAbs]? = some n) : dependsOn t u n.lvl := by
  have hW := hw.toWF
  have hne : ¬ ∀ a, den t n.lo a = den t n.hi a := by
    rw [canonical t hw n.lo n.hi (hW.lo_mem _ _ hn) (hW.hi_mem _ _ hn)]
    exact hW.lo_ne_hi _ _ hn
  obtain ⟨a, ha⟩ := Classical.not_forall.mp hne
  refine ⟨a, ?_⟩
  rw [den_node t hW u n _ h1 hn, den_node t hW u n _ h1 hn]
  simp only [upd_same, if_true]
  rw [den_indep t hW n.hi (hW.hi_mem _ _ hn) n.lvl true a (hW.hi_lt _ _ hn),
      den_indep t hW n.lo (hW.lo_mem _ _ hn) n.lvl false a (hW.lo_lt _ _ hn)]
  intro h; apply ha
  cases hd : decide (u < 0) <;> simp [hd] at h <;> simp [h]

theorem dependsOn_node {t : Tbl} (hw : WF t) {u : Int} {n : Nd}
    (h1 : u.natAbs ≠ 1) (hn : t.succ[u.natAbs]? = some n) {i : Nat} (hi : i ≠ n.lvl) :
    dependsOn t u i ↔ dependsOn t n.lo i ∨ dependsOn t n.hi i := by
  -- with the node's own variable set to `b`, `u` is its child on that side, up to the sign
  have hbr : ∀ (b : Bool) (a : Asg) (x : Bool), den t u (upd (upd a n.lvl b) i x) =
      ((decide (u < 0)) ^^ den t (if b then n.hi else n.lo) (upd a i x)) := by
    intro b a x
    rw [den_node t hw u n _ h1 hn, upd_other _ _ _ _ (Ne.symm hi), upd_same, ← upd_comm _ _ _ _ _ hi]
    cases b
    · rw [den_indep t hw n.lo (hw.lo_mem _ _ hn) n.lvl false _ (hw.lo_lt _ _ hn)]; rfl
    · rw [den_indep t hw n.hi (hw.hi_mem _ _ hn) n.lvl true _ (hw.hi_lt _ _ hn)]; rfl
  have hdep : ∀ (b : Bool) (a : Asg),
      den t u (upd (upd a n.lvl b) i true) ≠ den t u (upd (upd a n.lvl b) i false) ↔
        den t (if b then n.hi else n.lo) (upd a i true) ≠ den t (if b then n.hi else n.lo) (upd a i false) := by
    intro b a; rw [hbr, hbr]; simp
  constructor
  · rintro ⟨a, h⟩
    rw [← upd_eq_self a n.lvl, hdep] at h
    cases hb : a n.lvl
    · rw [hb] at h; exact Or.inl ⟨a, h⟩
    · rw [hb] at h; exact Or.inr ⟨a, h⟩
  · rintro (⟨a, h⟩ | ⟨a, h⟩)
    · exact ⟨upd a n.lvl false, (hdep false a).mpr h⟩
    · exact ⟨upd a n.lvl true, (hdep true a).mpr h⟩

end DD
