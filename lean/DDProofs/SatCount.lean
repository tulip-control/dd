/-
  DDProofs.SatCount — `count` (C10).  `cnt p vs a` counts the assignments over the variables
  `vs` that satisfy `p`.  `_sat_len(u)` returns `cntFrom`, the count of `u` over the support
  levels from `u`'s own level on: the level map of `count` sends a level to its position `pos`
  among the support levels (after the slack), so a gap between a node and a child doubles the
  child's count once per support level in between; the memo holds, per node, the count of the
  regular reference (`MemoOK`).
-/
import DDProofs.SatSupport
import DDProofs.MemoTable
import DDProofs.Inv
open Std

namespace DD

/-- number of assignments to the variables `vs` (the others fixed by `a`) satisfying `p` -/
def cnt (p : Asg → Bool) : List Nat → Asg → Nat
  | [], a => if p a then 1 else 0
  | v :: vs, a => cnt p vs (upd a v false) + cnt p vs (upd a v true)

/-- all assignments that differ from `a` only on the variables `vs` -/
def allAsg : List Nat → Asg → List Asg
  | [], a => [a]
  | v :: vs, a => allAsg vs (upd a v false) ++ allAsg vs (upd a v true)

theorem cnt_eq_filter (p : Asg → Bool) : ∀ vs a, cnt p vs a = ((allAsg vs a).filter p).length := by
  intro vs
  induction vs with
  | nil => intro a; by_cases h : p a <;> simp [cnt, allAsg, h]
  | cons v vs ih => intro a; simp [cnt, allAsg, ih, List.filter_append]

theorem allAsg_length : ∀ vs a, (allAsg vs a).length = 2 ^ vs.length := by
  intro vs
  induction vs with
  | nil => intro a; rfl
  | cons v vs ih => intro a; simp [allAsg, ih, Nat.pow_succ]; omega

theorem mem_allAsg : ∀ vs a b, b ∈ allAsg vs a ↔ ∀ i, i ∉ vs → b i = a i := by
  intro vs
  induction vs with
  | nil =>
    intro a b
    simp only [allAsg, List.mem_singleton, List.not_mem_nil, not_false_eq_true, forall_const]
    exact funext_iff
  | cons v vs ih =>
    intro a b
    rw [allAsg, List.mem_append, ih, ih]
    refine (Bool.exists_bool (p := fun x => ∀ i, i ∉ vs → b i = upd a v x i)).symm.trans ?_
    constructor
    · rintro ⟨x, h⟩ i hi
      rw [h i (fun hc => hi (List.mem_cons_of_mem _ hc))]
      exact upd_other _ _ _ _ (fun hc => hi (hc ▸ List.mem_cons_self))
    · intro h
      -- `b` lies on the side of its own value at `v`
      refine ⟨b v, fun i hi => ?_⟩
      by_cases hiv : i = v
      · subst hiv; exact (upd_same _ _ _).symm
      · rw [upd_other _ _ _ _ hiv]
        exact h i (fun hc => (List.mem_cons.mp hc).elim hiv hi)

theorem nodup_allAsg : ∀ vs a, vs.Nodup → (allAsg vs a).Nodup := by
  intro vs
  induction vs with
  | nil => intro a _; simp [allAsg]
  | cons v vs ih =>
    intro a hnd
    rw [List.nodup_cons] at hnd
    simp only [allAsg]
    rw [List.nodup_append]
    refine ⟨ih _ hnd.2, ih _ hnd.2, ?_⟩
    intro x hx y hy hxy
    subst hxy
    have h1 := (mem_allAsg vs _ x).mp hx v hnd.1
    have h2 := (mem_allAsg vs _ x).mp hy v hnd.1
    rw [upd_same] at h1 h2
    rw [h1] at h2; cases h2

theorem cnt_le (p : Asg → Bool) : ∀ vs a, cnt p vs a ≤ 2 ^ vs.length := by
  intro vs a
  rw [cnt_eq_filter, ← allAsg_length vs a]
  exact List.length_filter_le _ _

theorem cnt_compl (p : Asg → Bool) (vs : List Nat) (a : Asg) :
    cnt (fun b => !p b) vs a = 2 ^ vs.length - cnt p vs a := by
  -- the `2^|vs|` assignments are those satisfying `p` and the others
  have h := List.length_eq_countP_add_countP p (l := allAsg vs a)
  rw [allAsg_length, List.countP_eq_length_filter, List.countP_eq_length_filter, ← cnt_eq_filter] at h
  rw [cnt_eq_filter, h]
  simp

theorem cnt_congr {p q : Asg → Bool} (vs : List Nat) (a : Asg)
    (h : ∀ b, (∀ i, i ∉ vs → b i = a i) → p b = q b) : cnt p vs a = cnt q vs a := by
  rw [cnt_eq_filter, cnt_eq_filter, List.filter_congr (fun b hb => h b ((mem_allAsg vs a b).mp hb))]

theorem cnt_indep_base {p : Asg → Bool} {v : Nat} (hp : ∀ b x, p (upd b v x) = p b) :
    ∀ vs a x, cnt p vs (upd a v x) = cnt p vs a := by
  intro vs
  induction vs with
  | nil => intro a x; simp [cnt, hp]
  | cons w vs ih =>
    intro a x
    simp only [cnt]
    by_cases hwv : w = v
    · subst hwv
      rw [upd_upd_same, upd_upd_same]
    · rw [upd_comm a v w x false (Ne.symm hwv), upd_comm a v w x true (Ne.symm hwv), ih, ih]

theorem cnt_skip {p : Asg → Bool} : ∀ (mid vs : List Nat) a, (∀ v ∈ mid, ∀ b x, p (upd b v x) = p b) →
    cnt p (mid ++ vs) a = cnt p vs a * 2 ^ mid.length := by
  intro mid
  induction mid with
  | nil => intro vs a _; simp
  | cons v mid ih =>
    intro vs a h
    have hv := h v (by simp)
    have hmid : ∀ w ∈ mid, ∀ b x, p (upd b w x) = p b := fun w hw => h w (List.mem_cons_of_mem _ hw)
    simp only [List.cons_append, cnt, List.length_cons]
    rw [cnt_indep_base hv, cnt_indep_base hv, ih vs a hmid, Nat.pow_succ, ← Nat.mul_assoc]
    omega

/-- the levels of `ls` from `l` on -/
def lvGe (ls : List Nat) (l : Nat) : List Nat := ls.filter (fun x => decide (l ≤ x))

/-- the levels of `ls` in `[l, l')` -/
def lvMid (ls : List Nat) (l l' : Nat) : List Nat := ls.filter (fun x => decide (l ≤ x) && decide (x < l'))

theorem lvGe_zero (ls : List Nat) : lvGe ls 0 = ls := by
  unfold lvGe; apply List.filter_eq_self.mpr; simp

theorem lvGe_top {ls : List Nat} {n : Nat} (h : ∀ x ∈ ls, x < n) : lvGe ls n = [] := by
  unfold lvGe; apply List.filter_eq_nil_iff.mpr
  intro x hx; have := h x hx; simp; omega

theorem filter_lt_append_filter_ge {ls : List Nat} (hs : ls.Pairwise (· < ·)) (l : Nat) :
    ls.filter (fun x => decide (x < l)) ++ ls.filter (fun x => decide (l ≤ x)) = ls := by
  induction ls with
  | nil => rfl
  | cons x xs ih =>
    rw [List.pairwise_cons] at hs
    by_cases h : x < l
    · rw [List.filter_cons_of_pos (by simpa using h), List.filter_cons_of_neg (by simpa using h),
        List.cons_append, ih hs.2]
    · have hge : ∀ y ∈ x :: xs, l ≤ y := by
        intro y hy
        rcases List.mem_cons.mp hy with rfl | hy
        · omega
        · have := hs.1 y hy; omega
      rw [List.filter_eq_nil_iff.mpr (fun y hy => by simpa using hge y hy),
        List.filter_eq_self.mpr (fun y hy => by simpa using hge y hy), List.nil_append]

theorem lvGe_split {ls : List Nat} (hs : ls.Pairwise (· < ·)) {l l' : Nat} (hl : l ≤ l') :
    lvGe ls l = lvMid ls l l' ++ lvGe ls l' := by
  have h := congrArg (List.filter fun x => decide (l ≤ x)) (filter_lt_append_filter_ge hs l')
  rw [List.filter_append, List.filter_filter, List.filter_filter] at h
  rw [lvGe, ← h]
  congr 1
  apply List.filter_congr
  intro x _
  have : l' ≤ x → l ≤ x := Nat.le_trans hl
  simpa using this

theorem lvGe_mem {ls : List Nat} (hs : ls.Pairwise (· < ·)) {l : Nat} (hl : l ∈ ls) :
    lvGe ls l = l :: lvGe ls (l + 1) := by
  have hnd : ls.Nodup := hs.imp Nat.ne_of_lt
  -- the segment `[l, l + 1)` of a duplicate-free list is `[l]`
  have h : lvMid ls l (l + 1) = ls.filter (· == l) :=
    List.filter_congr (fun x _ => by rw [Bool.eq_iff_iff]; simp; omega)
  rw [lvGe_split hs (Nat.le_succ l), h, List.filter_beq, hnd.count, if_pos hl]
  rfl

theorem lvGe_length_le (ls : List Nat) (l : Nat) : (lvGe ls l).length ≤ ls.length :=
  List.length_filter_le _ _

section
variable (t : Tbl) (ls : List Nat) (a0 : Asg)

/-- the count of `v` over the support levels `ls` from its own level on -/
def cntFrom (v : Int) : Nat := cnt (den t v) (lvGe ls (t.levelOf v)) a0

theorem cntFrom_le (v : Int) : cntFrom t ls a0 v ≤ 2 ^ (lvGe ls (t.levelOf v)).length := cnt_le _ _ _

theorem cntFrom_neg (hw : WF t) {v : Int} (hm : t.Mem v) :
    cntFrom t ls a0 (-v) = 2 ^ (lvGe ls (t.levelOf v)).length - cntFrom t ls a0 v := by
  unfold cntFrom
  rw [levelOf_neg, ← cnt_compl]
  congr 1
  funext b
  exact den_neg t hw v b hm

/-- the complement step of `_sat_len` takes the count of the regular reference to the node of `u`
(what the memo holds) to the count of `u`; the subtraction is never refused -/
theorem cntFrom_compl (hw : WF t) {u : Int} (hm : t.Mem u) {l : Nat} (hl : t.levelOf u = l) :
    (if u < 0 then
        (if 2 ^ (lvGe ls l).length < cntFrom t ls a0 (u.natAbs : Int) then
          (Except.error Err.assertion : Except Err Nat)
        else .ok (2 ^ (lvGe ls l).length - cntFrom t ls a0 (u.natAbs : Int)))
      else .ok (cntFrom t ls a0 (u.natAbs : Int))) = .ok (cntFrom t ls a0 u) := by
  subst hl
  by_cases hneg : u < 0
  · have e : u = -((u.natAbs : Nat) : Int) := by omega
    have hle := cntFrom_le t ls a0 (u.natAbs : Int)
    rw [levelOf_natAbs] at hle
    rw [if_pos hneg, if_neg (Nat.not_lt.mpr hle)]
    conv => rhs; rw [e, cntFrom_neg t ls a0 hw (mem_natAbs hm), levelOf_natAbs]
  · have e : ((u.natAbs : Nat) : Int) = u := by omega
    rw [if_neg hneg, e]

theorem cntFrom_term (hb : ∀ x ∈ ls, x < t.nvars) {u : Int} (h1 : u.natAbs = 1) :
    cntFrom t ls a0 u = if 0 < u then 1 else 0 := by
  unfold cntFrom
  rw [levelOf_term t u h1, lvGe_top hb, cnt, den_terminal _ h1]
  simp

theorem not_mem_lvGe_succ (l : Nat) : l ∉ lvGe ls (l + 1) := by
  unfold lvGe; intro h
  have := (List.mem_filter.mp h).2
  simp at this
  omega

theorem cnt_skip_above (hw : WF t) (hs : ls.Pairwise (· < ·)) {c : Int} (hm : t.Mem c) {l : Nat}
    (hl : l ≤ t.levelOf c) (a : Asg) :
    cnt (den t c) (lvGe ls l) a = cntFrom t ls a c * 2 ^ (lvMid ls l (t.levelOf c)).length := by
  rw [lvGe_split hs hl, cnt_skip]
  · rfl
  · intro v hv b y
    have := (List.mem_filter.mp hv).2
    simp at this
    exact den_indep t hw c hm v y b this.2

theorem cnt_child (hw : WF t) (hs : ls.Pairwise (· < ·)) {u : Nat} {n : Nd} (hn : t.succ[u]? = some n)
    (x : Bool) :
    cnt (den t (u : Int)) (lvGe ls (n.lvl + 1)) (upd a0 n.lvl x) =
      cntFrom t ls a0 (if x then n.hi else n.lo) *
        2 ^ (lvMid ls (n.lvl + 1) (t.levelOf (if x then n.hi else n.lo))).length := by
  have hmc : t.Mem (if x then n.hi else n.lo) ∧ n.lvl < t.levelOf (if x then n.hi else n.lo) := by
    cases x
    · exact ⟨hw.lo_mem _ _ hn, hw.lo_lt _ _ hn⟩
    · exact ⟨hw.hi_mem _ _ hn, hw.hi_lt _ _ hn⟩
  obtain ⟨hmc, hlt⟩ := hmc
  refine (cnt_congr (q := den t (if x then n.hi else n.lo)) _ _ fun b hb => ?_).trans ?_
  · -- on the assignments counted, `u` takes the branch `x`
    have hbl : b n.lvl = x := by
      rw [hb n.lvl (not_mem_lvGe_succ ls n.lvl)]; exact upd_same _ _ _
    rw [den_nat_ite hw hn, hbl]
    cases x <;> rfl
  · rw [cnt_skip_above t ls hw hs hmc (by omega)]
    unfold cntFrom
    rw [cnt_indep_base (fun b y => den_indep t hw _ hmc n.lvl y b hlt)]

theorem cntFrom_node (hw : WF t) (hs : ls.Pairwise (· < ·)) {u : Nat} {n : Nd} (hn : t.succ[u]? = some n)
    (hl : n.lvl ∈ ls) :
    cntFrom t ls a0 (u : Int) =
      cntFrom t ls a0 n.lo * 2 ^ (lvMid ls (n.lvl + 1) (t.levelOf n.lo)).length +
      cntFrom t ls a0 n.hi * 2 ^ (lvMid ls (n.lvl + 1) (t.levelOf n.hi)).length := by
  have hlo := cnt_child t ls a0 hw hs hn false
  have hhi := cnt_child t ls a0 hw hs hn true
  simp only [Bool.false_eq_true, if_false, if_true] at hlo hhi
  rw [← hlo, ← hhi]
  unfold cntFrom
  rw [levelOf_nat_node hw hn, lvGe_mem hs hl]
  rfl

end

/-- where `count` puts the level `l`: after the `slack` free positions and the support levels
before `l` -/
def pos (ls : List Nat) (slack l : Nat) : Nat := ls.length - (lvGe ls l).length + slack

theorem pos_top (ls : List Nat) (slack l : Nat) :
    ls.length + slack = pos ls slack l + (lvGe ls l).length := by
  have := lvGe_length_le ls l
  unfold pos; omega

theorem pos_child {ls : List Nat} (hs : ls.Pairwise (· < ·)) (slack : Nat) {l l' : Nat} (hl : l ∈ ls)
    (hlt : l < l') : pos ls slack l' = pos ls slack l + 1 + (lvMid ls (l + 1) l').length := by
  have h1 := pos_top ls slack l
  have h2 := pos_top ls slack l'
  rw [lvGe_mem hs hl, lvGe_split hs (show l + 1 ≤ l' by omega), List.length_cons, List.length_append] at h1
  omega

theorem pos_eq {ls : List Nat} (hs : ls.Pairwise (· < ·)) (slack l : Nat) :
    pos ls slack l = (lvMid ls 0 l).length + slack := by
  have h1 := pos_top ls slack l
  have h2 := congrArg List.length (lvGe_split hs (Nat.zero_le l))
  rw [lvGe_zero, List.length_append] at h2
  omega

theorem pow2_sub {a b k : Nat} (h : a = b + k) : pow2 ((a : Int) - (b : Int)) = .ok (2 ^ k) := by
  unfold pow2
  have e : (a : Int) - (b : Int) = (k : Int) := by omega
  have : ¬ ((k : Int) < 0) := by omega
  simp [e, this]

theorem pow2_sub_one {a b k : Nat} (h : a = b + 1 + k) : pow2 ((a : Int) - (b : Int) - 1) = .ok (2 ^ k) := by
  have e : (a : Int) - (b : Int) - 1 = (a : Int) - ((b + 1 : Nat) : Int) := by omega
  rw [e]
  exact pow2_sub h

/-- the level compaction map of `count`: the `j`-th support level goes to `j + slack`, the
terminal's level to `n = k + slack`; written with the length of the segment from the level on -/
def MapOK (t : Tbl) (ls : List Nat) (slack : Nat) (mapLevel : List (Nat × Nat)) : Prop :=
  ∀ l, (l ∈ ls ∨ l = t.nvars) → mapLevel.lookup l = some (ls.length - (lvGe ls l).length + slack)

def MemoOK (t : Tbl) (ls : List Nat) (a0 : Asg) (d : HashMap Nat Nat) : Prop :=
  ∀ (x c : Nat), d[x]? = some c → c = cntFrom t ls a0 (x : Int)

theorem MemoOK.insert {t : Tbl} {ls : List Nat} {a0 : Asg} {d : HashMap Nat Nat} (hd : MemoOK t ls a0 d)
    (x : Nat) : MemoOK t ls a0 (d.insert x (cntFrom t ls a0 (x : Int))) :=
  memo_insert (P := fun (x : Nat) c => c = cntFrom t ls a0 (x : Int)) hd rfl

theorem MapOK.lookup_levelOf {t : Tbl} {ls : List Nat} {slack : Nat} {mapLevel : List (Nat × Nat)}
    (hmap : MapOK t ls slack mapLevel) {c : Int} (hc : t.Mem c)
    (hr : ∀ x n, Reach t c.natAbs x → t.succ[x]? = some n → n.lvl ∈ ls) :
    mapLevel.lookup (t.levelOf c) = some (pos ls slack (t.levelOf c)) := by
  apply hmap
  rcases hc.cases with h1 | ⟨h1, n, hn⟩
  · exact Or.inr (levelOf_term t c h1)
  · rw [levelOf_node t c n h1 hn]; exact Or.inl (hr _ n (Reach.refl _) hn)

/-- The recursion behind `count` (C10): `_sat_len(u)` is the number of models of `u` over the
compacted levels from `u`'s own level on.  The memo is keyed by the unsigned node and holds the
count of the regular reference (`MemoOK`); a complemented `u` gets `2^(n - i)` minus that. -/
theorem satLenF_spec {t : Tbl} (hw : WF t) {ls : List Nat} (hs : ls.Pairwise (· < ·))
    (hb : ∀ x ∈ ls, x < t.nvars) (a0 : Asg) {slack : Nat} {mapLevel : List (Nat × Nat)}
    (hmap : MapOK t ls slack mapLevel) :
    ∀ f u, t.Mem u → t.nvars + 1 ≤ f + t.levelOf u → ∀ d,
      (∀ x n, Reach t u.natAbs x → t.succ[x]? = some n → n.lvl ∈ ls) → MemoOK t ls a0 d →
      ∃ d', satLenF mapLevel (ls.length + slack) f t u d = .ok (cntFrom t ls a0 u, d') ∧
        MemoOK t ls a0 d' := by
  apply fuel_induction hw
  · intro f u h1 d _ hd
    have hc := cntFrom_term t ls a0 hb h1
    rcases abs_one h1 with rfl | rfl <;> exact ⟨d, by simp [satLenF, hc], hd⟩
  · intro f u n h1 hn ihlo ihhi d hreach hd
    have hu1 : u ≠ 1 := fun h => h1 (h ▸ rfl)
    have hum1 : u ≠ -1 := fun h => h1 (h ▸ rfl)
    have hmlo := hw.lo_mem _ _ hn
    have hmhi := hw.hi_mem _ _ hn
    have hlin : n.lvl ∈ ls := hreach _ n (Reach.refl _) hn
    have hrlo := fun x n' hr => hreach x n' (Reach.lo hn hr)
    have hrhi := fun x n' hr => hreach x n' (Reach.hi hn hr)
    have hlook : mapLevel.lookup n.lvl = some (pos ls slack n.lvl) := hmap _ (Or.inl hlin)
    have hcompl := cntFrom_compl t ls a0 hw (.of_node hn : t.Mem u) (levelOf_node t u n h1 hn)
    have hhi : ¬ (n.hi < 0) := Int.not_lt.mpr (Int.le_of_lt (hw.hi_pos _ _ hn))
    rw [satLenF]
    cases hdu : d[u.natAbs]? with
    | some c =>
      simp only [hu1, hum1, if_false, hn, hw.zero_test hn, Bool.false_eq_true, hlook,
        pow2_sub (pos_top ls slack n.lvl), hd _ _ hdu, hcompl]
      exact ⟨d, rfl, hd⟩
    | none =>
      obtain ⟨d1, e1, hd1⟩ := ihlo d hrlo hd
      obtain ⟨d2, e2, hd2⟩ := ihhi d1 hrhi hd1
      simp only [hu1, hum1, if_false, hn, hw.zero_test hn, Bool.false_eq_true, hlook,
        pow2_sub (pos_top ls slack n.lvl), e1, e2, Tbl.levelOf?_eq t _ hmlo, Tbl.levelOf?_eq t _ hmhi, hhi,
        hmap.lookup_levelOf hmlo hrlo, hmap.lookup_levelOf hmhi hrhi,
        pow2_sub_one (pos_child hs slack hlin (hw.lo_lt _ _ hn)),
        pow2_sub_one (pos_child hs slack hlin (hw.hi_lt _ _ hn))]
      rw [← cntFrom_node t ls a0 hw hs hn hlin, hcompl]
      exact ⟨_, rfl, hd2.insert _⟩

theorem lookup_zipIdx_append {pre suf : List Nat} {l : Nat} (h : l ∉ pre) (slack : Nat) :
    ((pre ++ l :: suf).zipIdx.map fun (p : Nat × Nat) => (p.1, p.2 + slack)).lookup l =
      some (pre.length + slack) := by
  rw [List.zipIdx_append, List.map_append, List.lookup_append, List.lookup_eq_none_iff.mpr,
    List.zipIdx_cons, List.map_cons, List.lookup_cons_self]
  · simp
  · intro p hp
    obtain ⟨q, hq, rfl⟩ := List.mem_map.mp hp
    have hne : l ≠ q.1 := fun he => h (he ▸ List.fst_mem_of_mem_zipIdx hq)
    simpa using hne

theorem lookup_zipIdx {ls : List Nat} (hs : ls.Pairwise (· < ·)) (slack : Nat) {l : Nat} (hl : l ∈ ls) :
    (ls.zipIdx.map fun (p : Nat × Nat) => (p.1, p.2 + slack)).lookup l = some (pos ls slack l) := by
  have h : ls = lvMid ls 0 l ++ l :: lvGe ls (l + 1) := by
    rw [← lvGe_mem hs hl, ← lvGe_split hs (Nat.zero_le l), lvGe_zero]
  have hnot : l ∉ lvMid ls 0 l := fun hm => by
    have := (List.mem_filter.mp hm).2
    simp at this
  rw [pos_eq hs]
  conv => lhs; rw [h]
  exact lookup_zipIdx_append hnot slack

/-- the map `count` builds: the entry for the terminal's level in front (no support level is
that level, so nothing is filtered out) -/
theorem mapOK_count {t : Tbl} {ls : List Nat} (hs : ls.Pairwise (· < ·)) (hb : ∀ x ∈ ls, x < t.nvars)
    (slack : Nat) :
    MapOK t ls slack ((t.nvars, ls.length + slack) ::
      (ls.zipIdx.map fun (p : Nat × Nat) => (p.1, p.2 + slack)).filter (fun p => decide (p.1 ≠ t.nvars))) := by
  intro l hl
  rw [List.filter_eq_self.mpr, List.lookup_cons]
  · rcases hl with hl | rfl
    · have : (l == t.nvars) = false := by simpa using Nat.ne_of_lt (hb l hl)
      rw [this, lookup_zipIdx hs slack hl]
      rfl
    · simp [lvGe_top hb]
  · intro p hp
    obtain ⟨q, hq, rfl⟩ := List.mem_map.mp hp
    simpa using Nat.ne_of_lt (hb _ (List.fst_mem_of_mem_zipIdx hq))

/-- what `count` returns: the count from the level of `u` on, doubled for every position before it -/
theorem cnt_total (t : Tbl) (hw : WF t) {ls : List Nat} (hs : ls.Pairwise (· < ·)) {u : Int} (hm : t.Mem u)
    (slack : Nat) (a0 : Asg) :
    cnt (den t u) ls a0 * 2 ^ slack = cntFrom t ls a0 u * 2 ^ pos ls slack (t.levelOf u) := by
  have h := cnt_skip_above t ls hw hs hm (Nat.zero_le _) a0
  rw [lvGe_zero] at h
  rw [h, pos_eq hs, Nat.pow_add, Nat.mul_assoc]

/-- `count(u, n)`: for `n ≥ |support|` the number of assignments over the support satisfying `u`
(whatever the base assignment `a0` outside the support) times `2^(n − |support|)`; `count(u)` that
number itself; refused for smaller `n` -/
theorem count_spec {t : Tbl} (hw : WFU t) (u : Int) (hm : t.Mem u) :
    ∃ ls, supportLevels t u = .ok ls ∧ ls.Pairwise (· < ·) ∧ (∀ i, i ∈ ls ↔ dependsOn t u i) ∧
      (∀ (n : Nat) (a0 : Asg), ls.length ≤ n →
        count t u (some (n : Int)) =
          .ok (((allAsg ls a0).filter (den t u)).length * 2 ^ (n - ls.length))) ∧
      (∀ a0 : Asg, count t u none = .ok ((allAsg ls a0).filter (den t u)).length) ∧
      (∀ n : Int, n < ls.length → count t u (some n) = .error .value) := by
  have hW := hw.toWF
  obtain ⟨ls, e, hs, hr⟩ := supportLevels_reach hW u hm
  have hb : ∀ x ∈ ls, x < t.nvars := fun x hx => by
    obtain ⟨_, n, _, hn, rfl⟩ := (hr x).mp hx
    exact hW.lvl_lt _ _ hn
  have hreach : ∀ x n, Reach t u.natAbs x → t.succ[x]? = some n → n.lvl ∈ ls :=
    fun x n hx hn => (hr _).mpr ⟨x, n, hx, hn, rfl⟩
  have main : ∀ (slack : Nat) (a0 : Asg),
      count t u (some ((ls.length + slack : Nat) : Int)) = .ok (cnt (den t u) ls a0 * 2 ^ slack) := by
    intro slack a0
    have hmap := mapOK_count hs hb slack
    obtain ⟨d', e', _⟩ := satLenF_spec hW hs hb a0 hmap (t.nvars + 2) u hm (by omega) {} hreach
      memo_empty
    have hslack : ((ls.length + slack : Nat) : Int) - (ls.length : Int) = (slack : Int) := by omega
    unfold count
    simp only [(Tbl.mem_iff t u).mpr hm, e, Bool.not_true, Bool.false_eq_true, if_false,
      Option.getD_some, hslack, Int.toNat_natCast, e', Tbl.levelOf?_eq t u hm,
      hmap.lookup_levelOf hm hreach, cnt_total t hW hs hm slack a0]
    exact if_neg (by omega)
  refine ⟨ls, e, hs, fun i => (hr i).trans (dependsOn_iff_reach hw i u hm).symm, ?_, ?_, ?_⟩
  · intro n a0 hn
    have := main (n - ls.length) a0
    rwa [Nat.add_sub_cancel' hn, cnt_eq_filter] at this
  · intro a0
    have := main 0 a0
    rw [Nat.pow_zero, Nat.mul_one, cnt_eq_filter] at this
    rw [← this]
    unfold count
    simp only [e, Option.getD_some, Option.getD_none]
    rfl
  · intro n hn
    unfold count
    have : (n - (ls.length : Int) < 0) := by omega
    simp [(Tbl.mem_iff t u).mpr hm, e, this]

end DD
