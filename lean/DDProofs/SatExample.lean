/-
  DDProofs.SatExample — a concrete table (x ∧ y over the order x < y) meeting the hypotheses
  of the C10 / C18 theorems (non-vacuity), because a guarded history reaches it.
-/
import DDProofs.Reach
open Std

namespace DD

/-- variables `x` (level 0), `y` (level 1); node 2 = `y`, node 3 = `x ∧ y` -/
def exTbl : Tbl where
  succ := (({} : TreeMap Nat Nd).insert 2 ⟨1, -1, 1⟩).insert 3 ⟨0, -1, 2⟩
  vars := (({} : TreeMap String Nat).insert "x" 0).insert "y" 1
  l2v := (({} : TreeMap Nat String).insert 0 "x").insert 1 "y"

/-- four calls from the empty manager build it: it is the table of a reachable state -/
def exTblHist : List UOp :=
  [.declare "x" none, .declare "y" none, .findOrAdd 1 (-1) 1, .findOrAdd 0 (-1) 2]

theorem exTbl_eq : exTbl = (run exTblHist St.init).m.tbl := rfl

theorem exTbl_reached : GoodState (run exTblHist St.init).m (run exTblHist St.init).ext :=
  reachable_inv exTblHist (by decide)

theorem exTbl_node2 : exTbl.node? 2 = some ⟨1, -1, 1⟩ := by decide
theorem exTbl_node3 : exTbl.node? 3 = some ⟨0, -1, 2⟩ := by decide

theorem exTbl_wfu : WFU exTbl := exTbl_eq ▸ exTbl_reached.inv.wf

theorem exTbl_orderOK : OrderOK exTbl := exTbl_eq ▸ exTbl_reached.order

theorem exTbl_varsOK : VarsOK exTbl := exTbl_orderOK.toVarsOK

theorem exTbl_mem3 : exTbl.Mem 3 := by decide
theorem exTbl_mem_neg3 : exTbl.Mem (-3) := by decide

end DD
