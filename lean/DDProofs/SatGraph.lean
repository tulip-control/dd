/-
  DDProofs.SatGraph — the graph exports `to_nx` and `_to_dot` (C18).  `GraphOK t g` says what
  makes an exported graph faithful to the table; evaluating a faithful export along its edges
  (`EvalG`) gives the denotation.  The content of `toDot` is computed exactly; `toNx` is shown
  faithful by following its work-list loop.
-/
import DDProofs.SatSupport
import DDProofs.Inv
import DDProofs.ApiLevels
open Std

namespace DD

/-- exported graph: nodes `(u, level)`, edges `(src, dst, value, complement)` -/
abbrev Graph := List (Nat × Nat) × List (Nat × Nat × Bool × Bool)

/-- Evaluation of an exported graph at a node (the value of the *regular* reference to the
node): at the terminal `true`; elsewhere read the node's level label, follow ANY edge whose
`value` mark equals the assignment's value at that level, and flip the result when the edge
carries a complement mark.  Relational, so that a multigraph with repeated edges is covered. -/
inductive EvalG (g : Graph) (a : Asg) : Nat → Bool → Prop
  | term {l : Nat} : (1, l) ∈ g.1 → EvalG g a 1 true
  | step {u l v : Nat} {c b : Bool} : u ≠ 1 → (u, l) ∈ g.1 → (u, v, a l, c) ∈ g.2 →
      EvalG g a v b → EvalG g a u (b ^^ c)

/-- evaluation from a (possibly complemented) root reference -/
def EvalRoot (g : Graph) (a : Asg) (r : Int) (b : Bool) : Prop :=
  ∃ b', EvalG g a r.natAbs b' ∧ b = ((decide (r < 0)) ^^ b')

def loEdge (u : Nat) (n : Nd) : Nat × Nat × Bool × Bool := (u, n.lo.natAbs, false, decide (n.lo < 0))
def hiEdge (u : Nat) (n : Nd) : Nat × Nat × Bool × Bool := (u, n.hi.natAbs, true, false)

/-- what makes an exported graph faithful to the table -/
structure GraphOK (t : Tbl) (g : Graph) : Prop where
  nodes : ∀ u l, (u, l) ∈ g.1 → t.Mem (u : Int) ∧ l = t.levelOf (u : Int)
  edges : ∀ e ∈ g.2, ∃ n, t.succ[e.1]? = some n ∧ (e = loEdge e.1 n ∨ e = hiEdge e.1 n)
  closed : ∀ u l, (u, l) ∈ g.1 → ∀ n, t.succ[u]? = some n →
    loEdge u n ∈ g.2 ∧ hiEdge u n ∈ g.2 ∧
    (∃ l', (n.lo.natAbs, l') ∈ g.1) ∧ (∃ l', (n.hi.natAbs, l') ∈ g.1)

def HasKey (ns : List (Nat × Nat)) (v : Nat) : Prop := ∃ l, (v, l) ∈ ns

/-- the child of a node on the side `b` of its variable: in terms of it the two edges of a node
need no separate treatment (the edge to `n.child b` is marked `b`, and complemented iff it is the
low edge to a complemented reference) -/
def Nd.child (n : Nd) (b : Bool) : Int := bif b then n.hi else n.lo

theorem GraphOK.edge_eq {t : Tbl} {g : Graph} (hg : GraphOK t g) {u v : Nat} {b c : Bool}
    (he : (u, v, b, c) ∈ g.2) :
    ∃ n, t.succ[u]? = some n ∧ v = (n.child b).natAbs ∧ c = (!b && decide (n.lo < 0)) := by
  obtain ⟨n, hn, h | h⟩ := hg.edges _ he
  · cases h; exact ⟨n, hn, rfl, rfl⟩
  · cases h; exact ⟨n, hn, rfl, rfl⟩

theorem GraphOK.edge_mem {t : Tbl} {g : Graph} (hg : GraphOK t g) {u l : Nat} (hu : (u, l) ∈ g.1)
    {n : Nd} (hn : t.succ[u]? = some n) (b : Bool) :
    (u, (n.child b).natAbs, b, !b && decide (n.lo < 0)) ∈ g.2 ∧ HasKey g.1 (n.child b).natAbs := by
  obtain ⟨elo, ehi, klo, khi⟩ := hg.closed u l hu n hn
  cases b
  · exact ⟨elo, klo⟩
  · exact ⟨ehi, khi⟩

theorem den_edge {t : Tbl} (hw : WF t) {u : Nat} {n : Nd} (hn : t.succ[u]? = some n) (a : Asg) :
    den t (u : Int) a =
      (den t ((n.child (a n.lvl)).natAbs : Int) a ^^ (!a n.lvl && decide (n.lo < 0))) := by
  rw [den_nat_node hw hn a]
  cases a n.lvl <;> simp [Nd.child, Bool.xor_comm]

theorem evalG_sound {t : Tbl} (hw : WF t) {g : Graph} (hg : GraphOK t g) {a : Asg} {u : Nat} {b : Bool}
    (h : EvalG g a u b) : b = den t (u : Int) a := by
  induction h with
  | term _ => exact (den_one t a).symm
  | @step u l v c b hu hnode hedge _ ih =>
    obtain ⟨n, hn, rfl, rfl⟩ := hg.edge_eq hedge
    rw [den_edge hw hn a, ← (hg.nodes u l hnode).2.trans (levelOf_nat_node hw hn), ih]

theorem evalG_complete {t : Tbl} (hw : WF t) {g : Graph} (hg : GraphOK t g) (a : Asg) :
    ∀ r : Int, t.Mem r → HasKey g.1 r.natAbs → EvalG g a r.natAbs (den t (r.natAbs : Int) a) := by
  apply ref_induction hw
  · intro r h1 ⟨l, hl⟩
    rw [h1] at hl ⊢
    have : den t ((1 : Nat) : Int) a = true := den_one t a
    rw [this]; exact EvalG.term hl
  · intro r n h1 hn ihlo ihhi ⟨l, hl⟩
    obtain ⟨he, hk⟩ := hg.edge_mem hl hn (a l)
    rw [den_edge hw hn a, ← (hg.nodes _ _ hl).2.trans (levelOf_nat_node hw hn)]
    refine EvalG.step h1 hl he ?_
    revert hk
    cases a l
    · exact ihlo
    · exact ihhi

/-- evaluating a faithful export from any exported node gives exactly the denotation -/
theorem graph_eval_of_ok {t : Tbl} (hw : WF t) {g : Graph} (hg : GraphOK t g) (r : Int) (hm : t.Mem r)
    (hr : HasKey g.1 r.natAbs) (a : Asg) (b : Bool) :
    EvalRoot g a r b ↔ b = den t r a := by
  rw [den_natAbs hw hm]
  constructor
  · rintro ⟨b', h, rfl⟩; rw [evalG_sound hw hg h]
  · intro h; exact ⟨_, evalG_complete hw hg a r hm hr, h⟩

def nodeEntry (t : Tbl) (x : Nat) : Nat × Nat := (x, t.levelOf (x : Int))

def edgesOf (t : Tbl) (x : Nat) : List (Nat × Nat × Bool × Bool) :=
  match t.succ[x]? with
  | some n => [loEdge x n, hiEdge x n]
  | none => []

theorem edgesOf_terminal (t : Tbl) (hw : WF t) : edgesOf t 1 = [] := by
  simp [edgesOf, hw.succ_one]

theorem edgesOf_node (t : Tbl) (x : Nat) (n : Nd) (hn : t.succ[x]? = some n) :
    edgesOf t x = [(x, n.lo.natAbs, false, decide (n.lo < 0)), (x, n.hi.natAbs, true, false)] := by
  simp [edgesOf, hn, loEdge, hiEdge]

theorem mem_edgesOf {t : Tbl} {x : Nat} {e : Nat × Nat × Bool × Bool} (h : e ∈ edgesOf t x) :
    ∃ n, t.succ[e.1]? = some n ∧ (e = loEdge e.1 n ∨ e = hiEdge e.1 n) := by
  unfold edgesOf at h
  split at h
  · next n hn =>
    rcases List.mem_cons.mp h with h | h
    · subst h; exact ⟨n, hn, Or.inl rfl⟩
    · rw [List.mem_singleton] at h; subst h; exact ⟨n, hn, Or.inr rfl⟩
  · simp at h

theorem foldlM_graph {t : Tbl} (F : Graph → Nat → Except Err Graph)
    (hF : ∀ (acc : Graph) (x : Nat), t.Mem (x : Int) → F acc x = .ok (acc.1 ++ [nodeEntry t x], acc.2 ++ edgesOf t x)) :
    ∀ (nodes : List Nat), (∀ x ∈ nodes, t.Mem (x : Int)) → ∀ acc : Graph,
      nodes.foldlM F acc = .ok (acc.1 ++ nodes.map (nodeEntry t), acc.2 ++ nodes.flatMap (edgesOf t)) := by
  intro nodes
  induction nodes with
  | nil => intro _ acc; simp [pure, Except.pure]
  | cons x rest ih =>
    intro hm acc
    rw [List.foldlM_cons, hF acc x (hm x (by simp))]
    simp only [bind, Except.bind]
    rw [ih (fun y hy => hm y (List.mem_cons_of_mem _ hy))]
    simp

theorem graphOf_eq {t : Tbl} (hw : WF t) (nodes : List Nat) (hm : ∀ x ∈ nodes, t.Mem (x : Int)) :
    graphOf t nodes = .ok (nodes.map (nodeEntry t), nodes.flatMap (edgesOf t)) := by
  unfold graphOf
  refine (foldlM_graph _ ?_ nodes hm ([], [])).trans (by simp)
  intro acc x hx
  rcases mem_nat_cases hx with h1 | ⟨h1, n, hn⟩
  · subst h1
    simp [nodeEntry, edgesOf_terminal t hw, levelOf_term]
  · simp [h1, hn, nodeEntry, edgesOf_node t x n hn, levelOf_nat_node hw hn]

theorem GraphOK.extend {t : Tbl} {ns ns' : List (Nat × Nat)} {es : List (Nat × Nat × Bool × Bool)}
    (hg : GraphOK t (ns, es)) {Q : List Nat} (hm : ∀ x ∈ Q, t.Mem (x : Int))
    (hnew : ∀ p ∈ ns', p ∈ ns ∨ ∃ x ∈ Q, p = nodeEntry t x)
    (hkey : ∀ x, HasKey ns x ∨ x ∈ Q → HasKey ns' x)
    (hkids : ∀ x ∈ Q, ∀ n, t.succ[x]? = some n → HasKey ns' n.lo.natAbs ∧ HasKey ns' n.hi.natAbs) :
    GraphOK t (ns', es ++ Q.flatMap (edgesOf t)) := by
  refine ⟨?_, ?_, ?_⟩
  · intro u l h
    rcases hnew _ h with h | ⟨x, hx, h⟩
    · exact hg.nodes u l h
    · cases h; exact ⟨hm _ hx, rfl⟩
  · intro e he
    rcases List.mem_append.mp he with h | h
    · exact hg.edges e h
    · obtain ⟨x, _, hex⟩ := List.mem_flatMap.mp h
      exact mem_edgesOf hex
  · intro u l h n hn
    rcases hnew _ h with h | ⟨x, hx, h⟩
    · obtain ⟨a, b, c, d⟩ := hg.closed u l h n hn
      exact ⟨List.mem_append_left _ a, List.mem_append_left _ b, hkey _ (Or.inl c), hkey _ (Or.inl d)⟩
    · cases h
      have he : ∀ e ∈ edgesOf t u, e ∈ es ++ Q.flatMap (edgesOf t) := fun e he =>
        List.mem_append_right _ (List.mem_flatMap.mpr ⟨u, hx, he⟩)
      exact ⟨he _ (by simp [edgesOf, hn]), he _ (by simp [edgesOf, hn]), hkids u hx n hn⟩

theorem hasKey_map_nodeEntry {t : Tbl} {nodes : List Nat} {u : Nat} :
    HasKey (nodes.map (nodeEntry t)) u ↔ u ∈ nodes := by
  constructor
  · rintro ⟨l, h⟩
    obtain ⟨x, hx, e⟩ := List.mem_map.mp h
    cases e; exact hx
  · exact fun h => ⟨_, List.mem_map.mpr ⟨u, h, rfl⟩⟩

theorem graphOK_of_closed {t : Tbl} (nodes : List Nat) (hm : ∀ x ∈ nodes, t.Mem (x : Int))
    (hc : PreClosed t nodes) : GraphOK t (nodes.map (nodeEntry t), nodes.flatMap (edgesOf t)) :=
  GraphOK.extend (ns := []) (es := []) ⟨by simp, by simp, by simp⟩ hm
    (fun p hp => Or.inr (by simpa [eq_comm] using hp))
    (fun x hx => hasKey_map_nodeEntry.mpr (hx.resolve_left (by simp [HasKey])))
    (fun x hx n hn => ⟨hasKey_map_nodeEntry.mpr (hc x hx n hn).1, hasKey_map_nodeEntry.mpr (hc x hx n hn).2⟩)

/-- `_to_dot(roots, bdd)`, exact content: the vertices are the descendants of the roots, each
ONCE (ascending list), each with its level (the rank it is drawn in); the edges are, for each
non-terminal vertex in that order, its low edge then its high edge, nothing else -/
theorem toDot_some_shape {t : Tbl} (hw : WF t) (roots : List Int) (hne : roots ≠ [])
    (hm : ∀ r ∈ roots, t.Mem r) :
    ∃ ns, descendants t roots = .ok ns ∧ ns.Pairwise (· < ·) ∧
      (∀ v, v ∈ ns ↔ ∃ r ∈ roots, Reach t r.natAbs v) ∧
      toDot t (some roots) = .ok (ns.map (nodeEntry t), ns.flatMap (edgesOf t)) := by
  obtain ⟨ns, e, p, s⟩ := descendants_spec hw roots hm
  obtain ⟨hmem, _, h1⟩ := reachSet_spec hw hm s
  refine ⟨ns, e, p, s, ?_⟩
  rw [show toDot t (some roots) = graphOf t ns from by simp [toDot, e, h1 hne]]
  exact graphOf_eq hw ns hmem

/-- `_to_dot(None, bdd)`: the same over all nodes of the manager -/
theorem toDot_none_shape {t : Tbl} (hw : WF t) :
    toDot t none = .ok ((iterNodes t).map (nodeEntry t), (iterNodes t).flatMap (edgesOf t)) :=
  graphOf_eq hw _ (fun x hx => (mem_iterNodes t x).mp hx)

/-- `_to_dot(roots=None)`: a faithful export of all nodes of the manager -/
theorem toDot_none_ok {t : Tbl} (hw : WF t) :
    ∃ g, toDot t none = .ok g ∧ GraphOK t g ∧ ∀ r : Int, t.Mem r → HasKey g.1 r.natAbs := by
  have hall : ∀ r : Int, t.Mem r → r.natAbs ∈ iterNodes t := fun r hr =>
    (mem_iterNodes t _).mpr (mem_natAbs hr)
  refine ⟨_, toDot_none_shape hw, graphOK_of_closed _ (fun x hx => (mem_iterNodes t x).mp hx) ?_,
    fun r hr => hasKey_map_nodeEntry.mpr (hall r hr)⟩
  intro v _ n hn
  exact ⟨hall _ (hw.lo_mem _ _ hn), hall _ (hw.hi_mem _ _ hn)⟩

/-- `_to_dot(roots)`: a faithful export of exactly the nodes reachable from the roots -/
theorem toDot_some_ok {t : Tbl} (hw : WF t) (roots : List Int) (hne : roots ≠ [])
    (hm : ∀ r ∈ roots, t.Mem r) :
    ∃ g, toDot t (some roots) = .ok g ∧ GraphOK t g ∧
      ∀ u, HasKey g.1 u ↔ ∃ r ∈ roots, Reach t r.natAbs u := by
  obtain ⟨ns, _, _, s, e⟩ := toDot_some_shape hw roots hne hm
  obtain ⟨hmem, hcl, _⟩ := reachSet_spec hw hm s
  exact ⟨_, e, graphOK_of_closed ns hmem hcl, fun u => hasKey_map_nodeEntry.trans (s u)⟩

/-- what `C18` says of an export of exactly the nodes reachable from the roots: the labels are
the levels, and evaluating from a root gives the function -/
theorem export_eval {t : Tbl} (hw : WF t) {g : Graph} (ok : GraphOK t g) {roots : List Int}
    (hm : ∀ r ∈ roots, t.Mem r) (s : ∀ u, HasKey g.1 u ↔ ∃ r ∈ roots, Reach t r.natAbs u) :
    (∀ u l, (u, l) ∈ g.1 → l = t.levelOf (u : Int)) ∧
    (∀ r ∈ roots, ∀ a b, EvalRoot g a r b ↔ b = den t r a) :=
  ⟨fun u l h => (ok.nodes u l h).2,
   fun r hr a b => graph_eval_of_ok hw ok r (hm r hr) ((s _).mpr ⟨r, hr, Reach.refl _⟩) a b⟩

theorem any_key_iff (ns : List (Nat × Nat)) (v : Nat) :
    ns.any (fun p => decide (p.1 = v)) = true ↔ HasKey ns v := by
  simp [HasKey]

theorem GraphOK.reach {t : Tbl} {g : Graph} (hg : GraphOK t g) {u v : Nat} (hr : Reach t u v) :
    HasKey g.1 u → HasKey g.1 v :=
  hr.closed (S := HasKey g.1) (fun _ ⟨l, hl⟩ n hn => (hg.closed _ l hl n hn).2.2)

/-- `g.add_node(u, level=i)` of `to_nx`: a node that has its entry keeps it -/
def addKey (t : Tbl) (ns : List (Nat × Nat)) (u : Nat) : List (Nat × Nat) :=
  if ns.any (·.1 = u) then ns else ns ++ [nodeEntry t u]

theorem addKey_spec (t : Tbl) (ns : List (Nat × Nat)) (u : Nat) :
    (∀ p ∈ addKey t ns u, p ∈ ns ∨ p = nodeEntry t u) ∧
      ∀ x, HasKey (addKey t ns u) x ↔ HasKey ns x ∨ x = u := by
  unfold addKey
  by_cases hk : HasKey ns u
  · rw [if_pos ((any_key_iff ns u).mpr hk)]
    exact ⟨fun _ h => Or.inl h, fun x => ⟨Or.inl, fun h => h.elim id (fun e => e ▸ hk)⟩⟩
  · rw [if_neg (mt (any_key_iff ns u).mp hk)]
    refine ⟨fun p hp => by simpa using hp, fun x => ?_⟩
    simp [HasKey, nodeEntry, exists_or]

def addKeys (t : Tbl) (ns : List (Nat × Nat)) (Q : List Nat) : List (Nat × Nat) := Q.foldl (addKey t) ns

theorem addKeys_spec (t : Tbl) : ∀ (Q : List Nat) (ns : List (Nat × Nat)),
    (∀ p ∈ addKeys t ns Q, p ∈ ns ∨ ∃ x ∈ Q, p = nodeEntry t x) ∧
      ∀ x, HasKey (addKeys t ns Q) x ↔ HasKey ns x ∨ x ∈ Q := by
  intro Q
  induction Q with
  | nil => intro ns; exact ⟨fun _ h => Or.inl h, by simp [addKeys]⟩
  | cons u Q ih =>
    intro ns
    obtain ⟨hnew, hkey⟩ := addKey_spec t ns u
    obtain ⟨hnews, hkeys⟩ := ih (addKey t ns u)
    constructor
    · intro p hp
      rcases hnews p hp with h | ⟨x, hx, h⟩
      · exact (hnew p h).imp id (fun e => ⟨u, by simp, e⟩)
      · exact Or.inr ⟨x, List.mem_cons_of_mem _ hx, h⟩
    · intro x
      show HasKey (addKeys t (addKey t ns u) Q) x ↔ _
      rw [hkeys, hkey, List.mem_cons, or_assoc]

/-- `if v not in g: Q.add(v)` of `to_nx` (`Q` is a set) -/
def nxPush (ns : List (Nat × Nat)) (work : List Nat) (v : Nat) : List Nat :=
  if ns.any (·.1 = v) then work else pushNew work v

theorem mem_nxPush {ns : List (Nat × Nat)} {work : List Nat} {v x : Nat} :
    x ∈ nxPush ns work v ↔ x ∈ work ∨ (x = v ∧ ¬ HasKey ns x) := by
  unfold nxPush
  by_cases hk : HasKey ns v
  · rw [if_pos ((any_key_iff ns v).mpr hk)]
    exact ⟨Or.inl, fun h => h.elim id (fun h => absurd hk (h.1 ▸ h.2))⟩
  · rw [if_neg (mt (any_key_iff ns v).mp hk), mem_pushNew]
    exact ⟨fun h => h.imp id (fun e => ⟨e, e ▸ hk⟩), fun h => h.imp id And.left⟩

theorem mem_nxPushes {ns : List (Nat × Nat)} {x : Nat} : ∀ (kids work : List Nat),
    x ∈ kids.foldl (nxPush ns) work ↔ x ∈ work ∨ (x ∈ kids ∧ ¬ HasKey ns x)
  | [], work => by simp
  | k :: ks, work => by
    rw [List.foldl_cons, mem_nxPushes ks, mem_nxPush, List.mem_cons, or_and_right, or_assoc]

theorem nodup_nxPushes {ns : List (Nat × Nat)} {P : List Nat} (hP : ∀ x ∈ P, HasKey ns x) :
    ∀ (kids work : List Nat), (P ++ work).Nodup → (P ++ kids.foldl (nxPush ns) work).Nodup
  | [], _, h => h
  | k :: ks, work, h => by
    refine nodup_nxPushes hP ks _ ?_
    unfold nxPush
    split
    · exact h
    · next hk =>
      have hkP : k ∉ P := fun hin => hk ((any_key_iff ns k).mpr (hP k hin))
      have e : P ++ pushNew work k = pushNew (P ++ work) k := by
        simp only [pushNew, List.contains_iff_mem, List.mem_append, hkP, false_or]
        split <;> simp
      rw [e]
      exact nodup_pushNew h

def kidsOf (t : Tbl) (x : Nat) : List Nat :=
  match t.succ[x]? with
  | some n => [n.lo.natAbs, n.hi.natAbs]
  | none => []

theorem kidsOf_spec {t : Tbl} (hw : WF t) {u k : Nat} (h : k ∈ kidsOf t u) :
    t.Mem (k : Int) ∧ Reach t u k := by
  unfold kidsOf at h
  split at h
  · next n hn =>
    rcases List.mem_cons.mp h with h | h
    · subst h; exact ⟨mem_natAbs (hw.lo_mem _ _ hn), Reach.lo hn (Reach.refl _)⟩
    · rw [List.mem_singleton] at h; subst h
      exact ⟨mem_natAbs (hw.hi_mem _ _ hn), Reach.hi hn (Reach.refl _)⟩
  · simp at h

/-- one iteration of the loop, the same for the terminal (no edges, no children) and a node -/
theorem nxLoop_step {t : Tbl} (hw : WF t) {u : Nat} (hm : t.Mem (u : Int)) (f : Nat) (work : List Nat)
    (ns : List (Nat × Nat)) (es : List (Nat × Nat × Bool × Bool)) :
    nxLoop t (f + 1) (u :: work) (ns, es) =
      nxLoop t f ((kidsOf t u).foldl (nxPush (addKey t ns u)) work) (addKey t ns u, es ++ edgesOf t u) := by
  rcases mem_nat_cases hm with h1 | ⟨h1, n, hn⟩
  · subst h1
    simp only [nxLoop, kidsOf, edgesOf, hw.succ_one, levelOf_term, addKey, nodeEntry, if_true,
      List.foldl_nil, List.append_nil, Int.natAbs_natCast]
  · simp only [nxLoop, h1, hn, kidsOf, edgesOf, levelOf_nat_node hw hn, addKey, nodeEntry, nxPush,
      loEdge, hiEdge, if_false, List.foldl_cons, List.foldl_nil]

/-- The `while Q:` loop of `to_nx` pops a sequence `Q` of nodes and adds their entries and edges.
`Q` contains what was queued, all of it is reachable from the root `r`, and in the end every
child of a member of `Q` has its entry.  For the fuel: the nodes `P` popped so far have their
entries, so none of them is queued again, and `P` with the queue never repeats a node of the
table. -/
theorem nxLoop_run {t : Tbl} (hw : WF t) {r : Nat} (hr : t.Mem (r : Int)) :
    ∀ f work ns es P, (∀ x ∈ P ++ work, Reach t r x) → (P ++ work).Nodup → (∀ x ∈ P, HasKey ns x) →
      t.succ.size + 2 ≤ f + P.length →
      ∃ Q, nxLoop t f work (ns, es) = .ok (addKeys t ns Q, es ++ Q.flatMap (edgesOf t)) ∧
        (∀ x ∈ work, x ∈ Q) ∧ (∀ x ∈ Q, Reach t r x) ∧
        ∀ x ∈ Q, ∀ k ∈ kidsOf t x, HasKey (addKeys t ns Q) k := by
  intro f
  induction f with
  | zero =>
    intro work ns es P hm hnd _ hf
    have := hnd.length_le_of_subset (fun x hx => (mem_iterNodes t x).mpr ((hm x hx).mem hw hr))
    rw [List.length_append, iterNodes_length t] at this
    have : work = [] := List.eq_nil_of_length_eq_zero (by omega)
    subst this
    exact ⟨[], by simp [nxLoop, addKeys], by simp, by simp, by simp⟩
  | succ f ih =>
    intro work ns es P hm hnd hP hf
    cases work with
    | nil => exact ⟨[], by simp [nxLoop, addKeys], by simp, by simp, by simp⟩
    | cons u work =>
      have hu : Reach t r u := hm u (by simp)
      rw [nxLoop_step hw (hu.mem hw hr)]
      obtain ⟨hnew, hkey⟩ := addKey_spec t ns u
      have hpush := fun x => mem_nxPushes (ns := addKey t ns u) (x := x) (kidsOf t u) work
      have hP' : ∀ x ∈ P ++ [u], HasKey (addKey t ns u) x := fun x hx =>
        (hkey x).mpr ((List.mem_append.mp hx).imp (hP x) List.mem_singleton.mp)
      obtain ⟨Q, e, hwork, hreach, hkids⟩ := ih ((kidsOf t u).foldl (nxPush (addKey t ns u)) work)
        (addKey t ns u) (es ++ edgesOf t u) (P ++ [u])
        (by
          intro x hx
          rw [← List.append_cons, List.mem_append, List.mem_cons, hpush] at hx
          rcases hx with h | rfl | h | ⟨h, _⟩
          · exact hm x (List.mem_append_left _ h)
          · exact hu
          · exact hm x (List.mem_append_right _ (List.mem_cons_of_mem _ h))
          · exact hu.trans (kidsOf_spec hw h).2)
        (nodup_nxPushes hP' _ _ (by rwa [← List.append_cons]))
        hP' (by rw [List.length_append, List.length_singleton]; omega)
      refine ⟨u :: Q, ?_, ?_, ?_, ?_⟩
      · rw [e, List.flatMap_cons, List.append_assoc]; rfl
      · intro x hx
        rcases List.mem_cons.mp hx with rfl | h
        · exact List.mem_cons_self
        · exact List.mem_cons_of_mem _ (hwork x ((hpush x).mpr (Or.inl h)))
      · intro x hx
        rcases List.mem_cons.mp hx with rfl | h
        · exact hu
        · exact hreach x h
      · intro x hx k hk
        rcases List.mem_cons.mp hx with rfl | h
        · -- a child of the popped node has its entry already, or is queued and popped later
          refine ((addKeys_spec t Q _).2 k).mpr ?_
          by_cases hkk : HasKey (addKey t ns x) k
          · exact Or.inl hkk
          · exact Or.inr (hwork k ((hpush k).mpr (Or.inr ⟨hk, hkk⟩)))
        · exact hkids x h k hk

theorem nxLoop_spec {t : Tbl} (hw : WF t) {r : Int} (hr : t.Mem r) {g : Graph} (hg : GraphOK t g) :
    ∃ g', nxLoop t (t.succ.size + 2) [r.natAbs] g = .ok g' ∧ GraphOK t g' ∧
      ∀ x, HasKey g'.1 x ↔ HasKey g.1 x ∨ Reach t r.natAbs x := by
  obtain ⟨ns, es⟩ := g
  obtain ⟨Q, e, hwork, hreach, hkids⟩ := nxLoop_run hw (mem_natAbs hr) (t.succ.size + 2) [r.natAbs]
    ns es [] (by simpa using Reach.refl _) (by simp) (by simp) (by simp)
  obtain ⟨hnews, hkeys⟩ := addKeys_spec t Q ns
  have ok := hg.extend (fun x hx => (hreach x hx).mem hw (mem_natAbs hr)) hnews
    (fun x => (hkeys x).mpr)
    (fun x hx n hn => ⟨hkids x hx _ (by simp [kidsOf, hn]), hkids x hx _ (by simp [kidsOf, hn])⟩)
  refine ⟨_, e, ok, fun x => ⟨fun h => ((hkeys x).mp h).imp id (hreach x), ?_⟩⟩
  rintro (h | h)
  · exact (hkeys x).mpr (Or.inl h)
  · exact ok.reach h ((hkeys _).mpr (Or.inr (hwork _ (by simp))))

/-- `to_nx(bdd, roots)`: a faithful export of exactly the nodes reachable from the roots
(edges of a root that was already exported are repeated: the result is a multigraph, and the
repeated edges are identical, as `GraphOK.edges` says every edge is one of the two of its source) -/
theorem toNx_ok {t : Tbl} (hw : WF t) (roots : List Int) (hm : ∀ r ∈ roots, t.Mem r) :
    ∃ g, toNx t roots = .ok g ∧ GraphOK t g ∧
      ∀ u, HasKey g.1 u ↔ ∃ r ∈ roots, Reach t r.natAbs u := by
  obtain ⟨g, e, ok, k⟩ := foldlM_reach (I := GraphOK t) (K := fun g => HasKey g.1)
    (F := fun g r => if !t.mem r then .error .value else nxLoop t (t.succ.size + 2) [r.natAbs] g)
    (by intro g r hr hg; rw [(Tbl.mem_iff t r).mpr hr]; exact nxLoop_spec hw hr hg)
    roots ([], []) hm ⟨by simp, by simp, by simp⟩
  exact ⟨g, e, ok, fun u => (k u).trans (by simp [HasKey])⟩

/-- follow the FIRST matching edge; `fuel` bounds the path length -/
def evalGraphF (g : Graph) (a : Asg) : Nat → Nat → Option Bool
  | 0, _ => none
  | f+1, u =>
    match g.1.lookup u with
    | none => none
    | some l =>
      if u = 1 then some true else
      match g.2.find? (fun e => e.1 == u && e.2.2.1 == a l) with
      | none => none
      | some e => (evalGraphF g a f e.2.1).map (· ^^ e.2.2.2)

theorem lookup_of_hasKey {ns : List (Nat × Nat)} {u : Nat} (h : HasKey ns u) :
    ∃ l, ns.lookup u = some l ∧ (u, l) ∈ ns := by
  obtain ⟨l, hl⟩ := h
  exact lookup_of_mem_keys (List.mem_map.mpr ⟨_, hl, rfl⟩)

/-- the executable evaluator computes the denotation on a faithful export -/
theorem evalGraphF_eq {t : Tbl} (hw : WF t) {g : Graph} (hg : GraphOK t g) (a : Asg) :
    ∀ f (r : Int), t.Mem r → t.nvars + 1 ≤ f + t.levelOf r → HasKey g.1 r.natAbs →
      evalGraphF g a f r.natAbs = some (den t (r.natAbs : Int) a) := by
  apply fuel_induction hw
  · intro f r h1 hk
    obtain ⟨l, hlook, _⟩ := lookup_of_hasKey hk
    rw [evalGraphF, hlook, h1]
    exact congrArg some (den_one t a).symm
  · intro f r n h1 hn ihlo ihhi hk
    obtain ⟨l, hlook, hmem⟩ := lookup_of_hasKey hk
    obtain ⟨he, hkid⟩ := hg.edge_mem hmem hn (a l)
    rw [evalGraphF, hlook]
    simp only [h1, if_false]
    cases hfind : g.2.find? (fun e => e.1 == r.natAbs && e.2.2.1 == a l) with
    | none => exact absurd (List.find?_eq_none.mp hfind _ he) (by simp)
    | some e =>
      -- the edge found is the one the assignment selects
      obtain ⟨u, v, b, c⟩ := e
      have hp := List.find?_some hfind
      simp only [Bool.and_eq_true, beq_iff_eq] at hp
      obtain ⟨rfl, rfl⟩ := hp
      obtain ⟨n', hn', rfl, rfl⟩ := hg.edge_eq (List.mem_of_find?_eq_some hfind)
      rw [hn] at hn'; cases hn'
      rw [den_edge hw hn a, ← (hg.nodes _ l hmem).2.trans (levelOf_nat_node hw hn)]
      revert hkid
      cases a l
      · exact fun h => congrArg (Option.map _) (ihlo h)
      · exact fun h => congrArg (Option.map _) (ihhi h)

end DD
