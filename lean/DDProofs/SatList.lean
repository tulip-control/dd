/-
  DDProofs.SatList — list lemmas for the model's `sortNat`, `dedup`, `pushNew`, the pigeonhole
  principle for duplicate-free lists, keys without repetition, lookups in association lists, and
  `mapM` in `Except Err`.
-/
import DD.Ops
open Std

namespace DD

theorem insertSorted_perm (a : Nat) (l : List Nat) : (insertSorted a l).Perm (a :: l) := by
  induction l with
  | nil => simp [insertSorted]
  | cons b l ih =>
    unfold insertSorted
    split
    · exact List.Perm.refl _
    · exact (List.Perm.cons b ih).trans (List.Perm.swap a b l)

theorem mem_insertSorted {a x : Nat} {l : List Nat} : x ∈ insertSorted a l ↔ x = a ∨ x ∈ l :=
  (insertSorted_perm a l).mem_iff.trans List.mem_cons

theorem sortNat_perm (l : List Nat) : (sortNat l).Perm l := by
  induction l with
  | nil => exact List.Perm.refl _
  | cons a l ih =>
    show (insertSorted a (sortNat l)).Perm (a :: l)
    exact (insertSorted_perm a _).trans (List.Perm.cons a ih)

theorem mem_sortNat {x : Nat} {l : List Nat} : x ∈ sortNat l ↔ x ∈ l := (sortNat_perm l).mem_iff

theorem length_sortNat (l : List Nat) : (sortNat l).length = l.length := (sortNat_perm l).length_eq

theorem insertSorted_sorted {a : Nat} {l : List Nat} (h : l.Pairwise (· ≤ ·)) :
    (insertSorted a l).Pairwise (· ≤ ·) := by
  induction l with
  | nil => simp [insertSorted]
  | cons b l ih =>
    unfold insertSorted
    rw [List.pairwise_cons] at h
    split
    · next hab =>
      refine List.pairwise_cons.mpr ⟨?_, List.pairwise_cons.mpr h⟩
      intro x hx
      rcases List.mem_cons.mp hx with hx | hx
      · omega
      · have := h.1 x hx; omega
    · next hab =>
      refine List.pairwise_cons.mpr ⟨?_, ih h.2⟩
      intro x hx
      rcases mem_insertSorted.mp hx with hx | hx
      · omega
      · exact h.1 x hx

theorem sortNat_sorted (l : List Nat) : (sortNat l).Pairwise (· ≤ ·) := by
  induction l with
  | nil => exact List.Pairwise.nil
  | cons a l ih => exact insertSorted_sorted ih

theorem sortNat_nodup {l : List Nat} (h : l.Nodup) : (sortNat l).Nodup :=
  (sortNat_perm l).nodup_iff.mpr h

theorem sortNat_strict {l : List Nat} (h : l.Nodup) : (sortNat l).Pairwise (· < ·) := by
  have h1 := sortNat_sorted l
  have h2 : (sortNat l).Pairwise (· ≠ ·) := sortNat_nodup h
  exact (h1.and h2).imp (fun ⟨h, h'⟩ => by omega)

theorem strict_sorted_ext {l1 l2 : List Nat} (h1 : l1.Pairwise (· < ·)) (h2 : l2.Pairwise (· < ·))
    (h : ∀ x, x ∈ l1 ↔ x ∈ l2) : l1 = l2 :=
  ((List.perm_ext_iff_of_nodup (h1.imp Nat.ne_of_lt) (h2.imp Nat.ne_of_lt)).mpr h).eq_of_pairwise
    (fun _ _ _ _ hab hba => absurd hab (Nat.lt_asymm hba)) h1 h2

theorem perm_of_nodup_subset_length {α} {l₁ l₂ : List α} (hnd : l₁.Nodup) (hsub : l₁ ⊆ l₂)
    (hlen : l₂.length ≤ l₁.length) : l₁.Perm l₂ := by
  classical
  induction l₁ generalizing l₂ with
  | nil => rw [List.eq_nil_of_length_eq_zero (Nat.le_zero.mp hlen)]
  | cons a t ih =>
    obtain ⟨hat, hndt⟩ := List.nodup_cons.mp hnd
    have ha : a ∈ l₂ := hsub List.mem_cons_self
    have hlen' : (l₂.erase a).length ≤ t.length := by
      rw [List.length_erase_of_mem ha]; simp only [List.length_cons] at hlen; omega
    have hsub' : t ⊆ l₂.erase a := fun y hy =>
      (List.mem_erase_of_ne fun h : y = a => hat (h ▸ hy)).mpr (hsub (List.mem_cons_of_mem _ hy))
    exact ((ih hndt hsub' hlen').cons a).trans (List.perm_cons_erase ha).symm

theorem nodup_bounded_length (n : Nat) (l : List Nat) (hn : l.Nodup) (hb : ∀ x ∈ l, x < n) :
    l.length ≤ n := by
  have := hn.length_le_of_subset (l₂ := List.range n) (fun x hx => List.mem_range.mpr (hb x hx))
  rwa [List.length_range] at this

theorem nodup_full (n : Nat) (l : List Nat) (hn : l.Nodup) (hb : ∀ x ∈ l, x < n) (hl : l.length = n) :
    ∀ x, x < n → x ∈ l := fun x hx =>
  (perm_of_nodup_subset_length hn (fun y hy => List.mem_range.mpr (hb y hy))
    (by rw [List.length_range, hl]; exact Nat.le_refl _)).mem_iff.mpr (List.mem_range.mpr hx)

theorem length_of_mem_iff_lt (n : Nat) (l : List Nat) (hn : l.Nodup) (h : ∀ x, x ∈ l ↔ x < n) :
    l.length = n := by
  have hp : l.Perm (List.range n) :=
    (List.perm_ext_iff_of_nodup hn List.nodup_range).mpr (fun a => by rw [h a, List.mem_range])
  rw [hp.length_eq, List.length_range]

theorem mem_consNew {α} [BEq α] [LawfulBEq α] {x y : α} {l : List α} :
    y ∈ (if l.contains x then l else x :: l) ↔ y = x ∨ y ∈ l := by
  split
  · next h =>
    rw [List.contains_iff_mem] at h
    constructor
    · exact Or.inr
    · rintro (rfl | h')
      · exact h
      · exact h'
  · exact List.mem_cons

theorem nodup_consNew {α} [BEq α] [LawfulBEq α] {x : α} {l : List α} (hl : l.Nodup) :
    (if l.contains x then l else x :: l).Nodup := by
  split
  · exact hl
  · next h =>
    rw [List.contains_iff_mem] at h
    exact List.nodup_cons.mpr ⟨h, hl⟩

theorem mem_dedup {α} [BEq α] [LawfulBEq α] {x : α} {l : List α} : x ∈ dedup l ↔ x ∈ l := by
  induction l with
  | nil => simp [dedup]
  | cons a l ih => simp only [dedup]; rw [mem_consNew, ih, List.mem_cons]

theorem nodup_dedup {α} [BEq α] [LawfulBEq α] (l : List α) : (dedup l).Nodup := by
  induction l with
  | nil => simp [dedup]
  | cons a l ih => simp only [dedup]; exact nodup_consNew ih

theorem dedup_of_nodup {α} [BEq α] [LawfulBEq α] : ∀ l : List α, l.Nodup → dedup l = l := by
  intro l
  induction l with
  | nil => intro _; rfl
  | cons b l ih =>
    intro h
    rw [List.nodup_cons] at h
    simp only [dedup]
    rw [ih h.2]
    simp [h.1]

theorem dedup_sublist {α} [BEq α] : ∀ l : List α, (dedup l).Sublist l
  | [] => .slnil
  | a :: l => by
    simp only [dedup]
    split
    · exact (dedup_sublist l).cons a
    · exact (dedup_sublist l).cons_cons a

/-- `len(set(l)) == len(l)`: no repetition -/
theorem nodup_of_dedup_length {α} [BEq α] [LawfulBEq α] (l : List α)
    (h : (dedup l).length = l.length) : l.Nodup :=
  (dedup_sublist l).eq_of_length h ▸ nodup_dedup l

theorem dedup_map_inj {α β} [BEq α] [LawfulBEq α] [BEq β] [LawfulBEq β] (f : α → β) :
    ∀ l : List α, (∀ a, a ∈ l → ∀ b, b ∈ l → f a = f b → a = b) →
      dedup (l.map f) = (dedup l).map f := by
  intro l
  induction l with
  | nil => intro _; rfl
  | cons a l ih =>
    intro h
    have ih' := ih (fun x hx y hy => h x (List.mem_cons_of_mem _ hx) y (List.mem_cons_of_mem _ hy))
    have hc : ((dedup l).map f).contains (f a) = (dedup l).contains a := by
      rw [Bool.eq_iff_iff]
      simp only [List.contains_iff_mem, List.mem_map]
      constructor
      · rintro ⟨x, hx, hfx⟩
        have hxl : x ∈ l := mem_dedup.mp hx
        have := h x (List.mem_cons_of_mem _ hxl) a List.mem_cons_self hfx
        subst this
        exact hx
      · intro ha
        exact ⟨a, ha, rfl⟩
    simp only [List.map_cons, dedup, ih', hc]
    split <;> simp

theorem mem_snocNew {α} [BEq α] [LawfulBEq α] {x u : α} {l : List α} :
    x ∈ (if l.contains u then l else l ++ [u]) ↔ x ∈ l ∨ x = u := by
  split
  · next h =>
    rw [List.contains_iff_mem] at h
    constructor
    · exact Or.inl
    · rintro (h' | rfl)
      · exact h'
      · exact h
  · rw [List.mem_append, List.mem_singleton]

theorem nodup_snocNew {α} [BEq α] [LawfulBEq α] {u : α} {l : List α} (h : l.Nodup) :
    (if l.contains u then l else l ++ [u]).Nodup := by
  split
  · exact h
  · next hc =>
    rw [List.contains_iff_mem] at hc
    rw [List.nodup_append]
    refine ⟨h, List.pairwise_singleton _ _, ?_⟩
    intro a ha b hb hab
    rw [List.mem_singleton] at hb
    rw [← hb, ← hab] at hc
    exact hc ha

theorem mem_pushNew {x u : Nat} {l : List Nat} : x ∈ pushNew l u ↔ x ∈ l ∨ x = u := mem_snocNew

theorem nodup_pushNew {u : Nat} {l : List Nat} (h : l.Nodup) : (pushNew l u).Nodup := nodup_snocNew h

theorem lookup_some_mem {α β} [BEq α] [LawfulBEq α] (k : α) (v : β) (l : List (α × β))
    (h : l.lookup k = some v) : (k, v) ∈ l := by
  obtain ⟨l1, l2, rfl, -⟩ := List.lookup_eq_some_iff.mp h
  simp

theorem lookup_cons_eq {κ β} [DecidableEq κ] (a k : κ) (v : β) (l : List (κ × β)) :
    ((k, v) :: l).lookup a = if a = k then some v else l.lookup a := by
  rw [List.lookup_cons]
  by_cases h : a = k
  · simp [h]
  · rw [if_neg h, beq_false_of_ne h]

theorem lookup_isSome_iff_mem_keys {κ β} [BEq κ] [LawfulBEq κ] {l : List (κ × β)} {k : κ} :
    (l.lookup k).isSome ↔ k ∈ l.map (·.1) := by
  rw [List.lookup_isSome_iff, List.mem_map]
  exact ⟨fun ⟨p, hp, e⟩ => ⟨p, hp, (eq_of_beq e).symm⟩, fun ⟨p, hp, e⟩ => ⟨p, hp, e ▸ BEq.rfl⟩⟩

theorem lookup_of_mem_keys {κ β} [BEq κ] [LawfulBEq κ] {l : List (κ × β)} {k : κ}
    (h : k ∈ l.map (·.1)) : ∃ v, l.lookup k = some v ∧ (k, v) ∈ l :=
  have ⟨v, hv⟩ := Option.isSome_iff_exists.mp (lookup_isSome_iff_mem_keys.mpr h)
  ⟨v, hv, lookup_some_mem k v l hv⟩

theorem lookup_isSome_append {κ β} [BEq κ] {l : List (κ × β)} {k : κ} (h : (l.lookup k).isSome)
    (d : List (κ × β)) : ((l ++ d).lookup k).isSome := by
  rw [List.lookup_append, Option.isSome_or, h]
  rfl

theorem eq_of_key_nodup {α β} (key : α → β) {l : List α} (h : (l.map key).Nodup)
    {x y : α} (hx : x ∈ l) (hy : y ∈ l) : key x = key y → x = y :=
  have hp := List.pairwise_map.mp h
  List.Pairwise.forall_of_forall_of_flip (R := fun a b => key a = key b → a = b) (fun _ _ _ => rfl)
    (hp.imp fun hab he => absurd he hab) (hp.imp fun hab he => absurd he.symm hab) hx hy

theorem fst_eq_of_snd_nodup {α β : Type} {l : List (α × β)} (h : (l.map (·.2)).Nodup)
    {a a' : α} {b : β} (h1 : (a, b) ∈ l) (h2 : (a', b) ∈ l) : a = a' :=
  congrArg Prod.fst (eq_of_key_nodup (·.2) h h1 h2 rfl)

theorem snd_eq_of_fst_nodup {α β : Type} {l : List (α × β)} (h : (l.map (·.1)).Nodup)
    {a : α} {b b' : β} (h1 : (a, b) ∈ l) (h2 : (a, b') ∈ l) : b = b' :=
  congrArg Prod.snd (eq_of_key_nodup (·.1) h h1 h2 rfl)

theorem nodup_of_map_nodup {α β} (f : α → β) (l : List α) (h : (l.map f).Nodup) : l.Nodup :=
  List.Pairwise.of_map f (fun _ _ hab e => hab (congrArg f e)) h

theorem nodup_map_of_inj_on {α β} (f : α → β) (l : List α)
    (hinj : ∀ a ∈ l, ∀ b ∈ l, f a = f b → a = b) (hnd : l.Nodup) : (l.map f).Nodup :=
  List.pairwise_map.mpr (hnd.imp_of_mem fun ha hb hne e => hne (hinj _ ha _ hb e))

theorem lookup_of_mem_nodup {κ β} [BEq κ] [LawfulBEq κ] (l : List (κ × β)) (hnd : (l.map (·.1)).Nodup)
    (k : κ) (v : β) (hm : (k, v) ∈ l) : l.lookup k = some v := by
  obtain ⟨w, hw, hm'⟩ := lookup_of_mem_keys (List.mem_map.mpr ⟨_, hm, rfl⟩)
  exact hw.trans (congrArg (some ·.2) (eq_of_key_nodup (·.1) hnd hm' hm rfl))

theorem lookup_map_snd {κ β γ} [BEq κ] [LawfulBEq κ] (g : β → γ) (L : List (κ × β)) (hnd : (L.map (·.1)).Nodup)
    (k : κ) (v : β) (h : (k, v) ∈ L) : (L.map fun x => (x.1, g x.2)).lookup k = some (g v) :=
  lookup_of_mem_nodup _ (by simpa [List.map_map, Function.comp_def] using hnd) k (g v)
    (List.mem_map.mpr ⟨(k, v), h, rfl⟩)

theorem lookup_map_inj {α β γ δ} [BEq α] [LawfulBEq α] [BEq β] [LawfulBEq β] (f : α → β) (g : γ → δ) :
    ∀ (l : List (α × γ)) (k : α), (∀ p, p ∈ l → f p.1 = f k → p.1 = k) →
      (l.map fun p => (f p.1, g p.2)).lookup (f k) = (l.lookup k).map g := by
  intro l
  induction l with
  | nil => intro k _; rfl
  | cons p l ih =>
    intro k h
    obtain ⟨k', v'⟩ := p
    rw [List.map_cons, List.lookup_cons, List.lookup_cons]
    by_cases he : k = k'
    · subst he
      simp
    · have h1 : (k == k') = false := by simpa using he
      have h2 : (f k == f k') = false := by
        simp only [beq_eq_false_iff_ne, ne_eq]
        intro hh
        exact he (h (k', v') List.mem_cons_self hh.symm).symm
      simp only [h1, h2]
      exact ih k (fun p hp => h p (List.mem_cons_of_mem _ hp))

/-! ### `List.mapM` in `Except Err`, and the model's own `mapME` -/

theorem mapME_eq_mapM {α β} (f : α → Except Err β) : ∀ l : List α, mapME f l = l.mapM f
  | [] => rfl
  | a :: l => by
    rw [List.mapM_cons, mapME, mapME_eq_mapM f l]
    cases f a with
    | error e => rfl
    | ok b => cases l.mapM f <;> rfl

/-- `mapM` returns `bs` exactly when `bs` lists the results, all of them successes -/
theorem mapM_ok_iff {α β} {f : α → Except Err β} : ∀ {l : List α} {bs : List β},
    l.mapM f = .ok bs ↔ l.map f = bs.map .ok
  | [], bs => by
    cases bs with
    | nil => exact ⟨fun _ => rfl, fun _ => rfl⟩
    | cons b bs => exact ⟨fun h => (by cases h), fun h => (by cases h)⟩
  | a :: l, bs => by
    rw [List.mapM_cons, List.map_cons]
    cases f a with
    | error e =>
      refine ⟨fun h => (by cases h), fun h => ?_⟩
      cases bs with
      | nil => cases h
      | cons b' bs => cases (List.cons.inj h).1
    | ok b =>
      cases bs with
      | nil =>
        refine ⟨fun h => ?_, fun h => (by cases h)⟩
        cases hl : l.mapM f <;> rw [hl] at h <;> cases h
      | cons b' bs =>
        rw [List.map_cons, List.cons.injEq, ← mapM_ok_iff (l := l) (bs := bs)]
        cases l.mapM f with
        | error e => exact ⟨fun h => (by cases h), fun h => (by cases h.2)⟩
        | ok bs' =>
          constructor
          · intro h; cases h; exact ⟨rfl, rfl⟩
          · rintro ⟨h1, h2⟩; cases h1; cases h2; rfl

/-- `mapM` fails with the error of one element -/
theorem mapM_error_mem {α β} {f : α → Except Err β} {e : Err} : ∀ {l : List α},
    l.mapM f = .error e → ∃ a ∈ l, f a = .error e
  | [], h => nomatch h
  | a :: l, h => by
    rw [List.mapM_cons] at h
    cases ha : f a with
    | error e' => rw [ha] at h; cases h; exact ⟨a, List.mem_cons_self, ha⟩
    | ok b =>
      cases hl : l.mapM f with
      | error e' =>
        rw [ha, hl] at h; cases h
        obtain ⟨x, hx, he⟩ := mapM_error_mem hl
        exact ⟨x, List.mem_cons_of_mem _ hx, he⟩
      | ok bs => rw [ha, hl] at h; cases h

/-- `mapM` of a function that never fails is `map` -/
theorem mapM_ok {α β} (f : α → Except Err β) (g : α → β) (l : List α) (h : ∀ x ∈ l, f x = .ok (g x)) :
    l.mapM f = .ok (l.map g) :=
  mapM_ok_iff.mpr ((List.map_congr_left h).trans (List.map_map ..).symm)

theorem mapME_ok {α β} (f : α → Except Err β) (g : α → β) (l : List α)
    (h : ∀ x, x ∈ l → f x = .ok (g x)) : mapME f l = .ok (l.map g) :=
  (mapME_eq_mapM f l).trans (mapM_ok f g l h)

/-- every result of a `mapM` that returned is the result of an element -/
theorem mapM_ok_mem {α β} (f : α → Except Err β) (l : List α) (bs : List β) (h : l.mapM f = .ok bs) :
    ∀ b ∈ bs, ∃ a ∈ l, f a = .ok b := fun _ hb =>
  List.mem_map.mp (mapM_ok_iff.mp h ▸ List.mem_map_of_mem hb)

end DD
