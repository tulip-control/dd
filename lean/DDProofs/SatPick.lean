/-
  DDProofs.SatPick — `pick_iter` (C10).  `_sat_iter` lists one cube per path from `u` to the
  terminal value asked for (`PathCubes`: sound, complete, pairwise incompatible); `pick_iter`
  names the levels and expands every cube into minterms over the care variables it does not
  mention.  That two yielded assignments are incompatible is what makes every model covered by
  exactly one of them.

  The vocabulary of statements BY NAME is defined here, where it is first needed: `Tbl.nameOf`,
  assignments to names `AsgN` and their reading by level `Tbl.lift`, the denotation by name `denN`,
  and `VarsOK` (`_level_to_var` names every level, injectively).
-/
import DDProofs.SatSupport
import DDProofs.Inv
open Std

namespace DD

/-- a (level) assignment agrees with a cube -/
def Agrees (a : Asg) (c : List (Nat × Bool)) : Prop := ∀ p ∈ c, a p.1 = p.2

/-- two cubes give opposite values to a common key -/
def Incompat {κ} (c1 c2 : List (κ × Bool)) : Prop := ∃ i b, (i, b) ∈ c1 ∧ (i, !b) ∈ c2

theorem not_incompat_of_agree {κ} {f : κ → Bool} {c1 c2 : List (κ × Bool)} (h1 : ∀ p ∈ c1, f p.1 = p.2)
    (h2 : ∀ p ∈ c2, f p.1 = p.2) : ¬ Incompat c1 c2 := by
  rintro ⟨i, b, hb1, hb2⟩
  have e1 := h1 _ hb1
  have e2 := h2 _ hb2
  simp only at e1 e2
  rw [e1] at e2
  cases b <;> simp at e2

theorem Agrees.not_incompat {a : Asg} {c1 c2 : List (Nat × Bool)} (h1 : Agrees a c1) (h2 : Agrees a c2) :
    ¬ Incompat c1 c2 :=
  not_incompat_of_agree h1 h2

/-- `L` lists the cubes of the paths from `u` to the terminal value `value`, each on top of
`cube`: sound, complete, and pairwise incompatible -/
def PathCubes (t : Tbl) (u : Int) (cube : List (Nat × Bool)) (value : Bool)
    (L : List (List (Nat × Bool))) : Prop :=
  (∀ c ∈ L, (∀ p ∈ cube, p ∈ c) ∧ (c.map (·.1)).Nodup ∧
    (∀ p ∈ c, p ∈ cube ∨ ∃ v n, Reach t u.natAbs v ∧ t.succ[v]? = some n ∧ n.lvl = p.1) ∧
    (∀ a, Agrees a c → den t u a = value)) ∧
  (∀ a, Agrees a cube → den t u a = value → ∃ c ∈ L, Agrees a c) ∧
  L.Pairwise Incompat

theorem PathCubes.branch {t : Tbl} (hw : WF t) {u : Int} {n : Nd} (h1 : u.natAbs ≠ 1)
    (hn : t.succ[u.natAbs]? = some n) {cube : List (Nat × Bool)} {value : Bool} (b : Bool)
    {L : List (List (Nat × Bool))}
    (h : PathCubes t (if b then n.hi else n.lo) ((n.lvl, b) :: cube) (if u < 0 then !value else value) L) :
    (∀ c ∈ L, (n.lvl, b) ∈ c ∧ (∀ p ∈ cube, p ∈ c) ∧ (c.map (·.1)).Nodup ∧
      (∀ p ∈ c, p ∈ cube ∨ ∃ v n, Reach t u.natAbs v ∧ t.succ[v]? = some n ∧ n.lvl = p.1) ∧
      (∀ a, Agrees a c → den t u a = value)) ∧
    (∀ a, a n.lvl = b → Agrees a cube → den t u a = value → ∃ c ∈ L, Agrees a c) := by
  -- on the branch `b` the node has the value of the child, up to the sign of `u`
  have hden : ∀ a : Asg, a n.lvl = b →
      (den t u a = value ↔ den t (if b then n.hi else n.lo) a = (if u < 0 then !value else value)) := by
    intro a hab
    rw [den_node t hw u n a h1 hn, hab]
    by_cases hneg : u < 0 <;> cases b <;> cases value <;> simp [hneg]
  obtain ⟨hi, hc, _⟩ := h
  constructor
  · intro c hcL
    obtain ⟨s, nd, dep, frc⟩ := hi c hcL
    refine ⟨s _ (by simp), fun p hp => s p (List.mem_cons_of_mem _ hp), nd, ?_, ?_⟩
    · intro p hp
      rcases dep p hp with hp | ⟨v, n', hr, hn', hl⟩
      · rcases List.mem_cons.mp hp with rfl | hp
        · exact Or.inr ⟨_, n, Reach.refl _, hn, rfl⟩
        · exact Or.inl hp
      · refine Or.inr ⟨v, n', ?_, hn', hl⟩
        cases b
        · exact Reach.lo hn hr
        · exact Reach.hi hn hr
    · intro a ha
      exact (hden a (ha (n.lvl, b) (s _ (by simp)))).mpr (frc a ha)
  · intro a hab ha hd
    refine hc a ?_ ((hden a hab).mp hd)
    intro p hp
    rcases List.mem_cons.mp hp with rfl | hp
    · exact hab
    · exact ha p hp

theorem satIterF_spec {t : Tbl} (hw : WF t) :
    ∀ f u, t.Mem u → t.nvars + 1 ≤ f + t.levelOf u → ∀ cube value,
      (∀ p ∈ cube, p.1 < t.levelOf u) → (cube.map (·.1)).Nodup →
      ∃ L, satIterF f t u cube value = .ok L ∧ PathCubes t u cube value L := by
  apply fuel_induction hw
  · intro f u h1 cube value _ hnd
    have hv : (if u < 0 then !value else value) = (decide (0 < u) == value) := by
      rcases abs_one h1 with rfl | rfl <;> cases value <;> rfl
    by_cases hval : decide (0 < u) = value
    · refine ⟨[cube], by simp [satIterF, h1, hv, hval], ?_, ?_, List.pairwise_singleton _ _⟩
      · intro c hc
        rw [List.mem_singleton] at hc; subst hc
        exact ⟨fun _ h => h, hnd, fun _ h => Or.inl h, fun a _ => (den_terminal _ h1 a).trans hval⟩
      · intro a ha _; exact ⟨cube, by simp, ha⟩
    · refine ⟨[], by simp [satIterF, h1, hv, hval], List.forall_mem_nil _, ?_, List.Pairwise.nil⟩
      intro a _ h
      exact absurd ((den_terminal _ h1 a).symm.trans h) hval
  · intro f u n h1 hn ihlo ihhi cube value hlt hnd
    rw [levelOf_node t u n h1 hn] at hlt
    -- the cube has no entry for the node's level yet
    have hne : ∀ p ∈ cube, p.1 ≠ n.lvl := fun p hp => Nat.ne_of_lt (hlt p hp)
    have hfil : cube.filter (fun p => decide (p.1 ≠ n.lvl)) = cube :=
      List.filter_eq_self.mpr fun p hp => decide_eq_true (hne p hp)
    have hnd' : ∀ b : Bool, (((n.lvl, b) :: cube).map (·.1)).Nodup := by
      intro b
      refine List.nodup_cons.mpr ⟨fun hmem => ?_, hnd⟩
      obtain ⟨p, hp, hp1⟩ := List.mem_map.mp hmem
      exact hne p hp hp1
    have hlt' : ∀ b : Bool, ∀ l', n.lvl < l' → ∀ p ∈ (n.lvl, b) :: cube, p.1 < l' := by
      intro b l' hl' p hp
      rcases List.mem_cons.mp hp with hp | hp
      · subst hp; exact hl'
      · have := hlt p hp; omega
    obtain ⟨L0, e0, h0⟩ := ihlo _ (if u < 0 then !value else value) (hlt' false _ (hw.lo_lt _ _ hn))
      (hnd' false)
    obtain ⟨L1, e1, h1'⟩ := ihhi _ (if u < 0 then !value else value) (hlt' true _ (hw.hi_lt _ _ hn))
      (hnd' true)
    obtain ⟨m0, c0⟩ := PathCubes.branch hw h1 hn false h0
    obtain ⟨m1, c1⟩ := PathCubes.branch hw h1 hn true h1'
    refine ⟨L0 ++ L1, ?_, ?_, ?_, ?_⟩
    · unfold satIterF
      simp only [h1, if_false, hn, hw.zero_test hn, Bool.false_eq_true, hfil]
      rw [e0, e1]
    · exact List.forall_mem_append.mpr ⟨fun c hc => (m0 c hc).2, fun c hc => (m1 c hc).2⟩
    · intro a ha hd
      cases hab : a n.lvl
      · obtain ⟨c, hc, hac⟩ := c0 a hab ha hd
        exact ⟨c, List.mem_append_left _ hc, hac⟩
      · obtain ⟨c, hc, hac⟩ := c1 a hab ha hd
        exact ⟨c, List.mem_append_right _ hc, hac⟩
    · rw [List.pairwise_append]
      exact ⟨h0.2.2, h1'.2.2, fun x hx y hy => ⟨n.lvl, false, (m0 x hx).1, (m1 y hy).1⟩⟩

/-- the variable name at a level (`_level_to_var`) -/
def Tbl.nameOf (t : Tbl) (i : Nat) : String := (t.l2v[i]?).getD ""

/-- `_level_to_var` names every level and is injective (part of `OrderOK`, the manager invariant
that `vars` and `_level_to_var` are inverse bijections) -/
structure VarsOK (t : Tbl) : Prop where
  total : ∀ i, i < t.nvars → ∃ v, t.l2v[i]? = some v
  inj : ∀ i j, i < t.nvars → j < t.nvars → t.nameOf i = t.nameOf j → i = j

theorem VarsOK.l2v_eq {t : Tbl} (hv : VarsOK t) {i : Nat} (hi : i < t.nvars) :
    t.l2v[i]? = some (t.nameOf i) := by
  obtain ⟨v, h⟩ := hv.total i hi
  simp [Tbl.nameOf, h]

abbrev AsgN := String → Bool

/-- the level assignment induced by an assignment to names -/
def Tbl.lift (t : Tbl) (σ : AsgN) : Asg := fun i => σ (t.nameOf i)

/-- denotation as a function of variable names -/
def denN (t : Tbl) (u : Int) (σ : AsgN) : Bool := den t u (t.lift σ)

theorem lift_congr {t t' : Tbl} (hl : t'.l2v = t.l2v) (σ : AsgN) : t'.lift σ = t.lift σ := by
  unfold Tbl.lift Tbl.nameOf; rw [hl]

/-- functions by variable NAME depend on the table only through `succ` and `l2v` -/
theorem denN_of_same_l2v {t t' : Tbl} (hl : t'.l2v = t.l2v) (u : Int) (σ : AsgN)
    (hden : ∀ a, den t' u a = den t u a) : denN t' u σ = denN t u σ := by
  unfold denN
  rw [lift_congr hl]; exact hden _

theorem Ext.byName {t t' : Tbl} (he : Ext t t') (hl : t'.l2v = t.l2v) (hW : WF t) {u : Int}
    (hu : t.Mem u) : t'.Mem u ∧ ∀ σ, denN t' u σ = denN t u σ :=
  ⟨he.mem hu, fun σ => denN_of_same_l2v hl u σ fun a => den_ext he hW u a hu⟩

theorem byName_trans {t1 t2 t3 : Tbl} {u : Int} (h1 : t2.Mem u ∧ ∀ σ, denN t2 u σ = denN t1 u σ)
    (h2 : t3.Mem u ∧ ∀ σ, denN t3 u σ = denN t2 u σ) : t3.Mem u ∧ ∀ σ, denN t3 u σ = denN t1 u σ :=
  ⟨h2.1, fun σ => (h2.2 σ).trans (h1.2 σ)⟩

def AgreesN (σ : AsgN) (m : List (String × Bool)) : Prop := ∀ p ∈ m, σ p.1 = p.2

theorem VarsOK.exists_lift {t : Tbl} (hv : VarsOK t) {ls : List Nat} (hlt : ∀ i ∈ ls, i < t.nvars)
    (b : Asg) : ∃ σ : AsgN, ∀ i ∈ ls, t.lift σ i = b i := by
  -- a name is true when it names a level of `ls` that `b` makes true; only one level has that name
  refine ⟨fun v => decide (∃ j ∈ ls, t.nameOf j = v ∧ b j = true), fun i hi => ?_⟩
  show decide (∃ j ∈ ls, t.nameOf j = t.nameOf i ∧ b j = true) = b i
  rw [Bool.eq_iff_iff, decide_eq_true_iff]
  constructor
  · rintro ⟨j, hj, he, hbj⟩
    rwa [← hv.inj j i (hlt j hj) (hlt i hi) he]
  · exact fun h => ⟨i, hi, rfl, h⟩

/-- `support(u)`: the names of the levels the function depends on, by ascending level -/
theorem support_spec {t : Tbl} (hw : WFU t) (hv : VarsOK t) (u : Int) (hm : t.Mem u) :
    ∃ ls, supportLevels t u = .ok ls ∧ ls.Pairwise (· < ·) ∧ (∀ i, i ∈ ls ↔ dependsOn t u i) ∧
      support t u = .ok (ls.map t.nameOf) := by
  obtain ⟨ls, e, p, s⟩ := supportLevels_spec hw u hm
  refine ⟨ls, e, p, s, ?_⟩
  unfold support
  rw [e]
  apply mapM_ok
  intro i hi
  rw [hv.l2v_eq (dependsOn_lt_nvars hw hm ((s i).mp hi))]

theorem allAssignments_keys : ∀ (bits : List String) x, x ∈ allAssignments bits → x.map (·.1) = bits := by
  intro bits
  induction bits with
  | nil => intro x hx; simp [allAssignments] at hx; subst hx; rfl
  | cons b bs ih =>
    intro x hx
    simp only [allAssignments, List.mem_append, List.mem_map] at hx
    rcases hx with ⟨y, hy, rfl⟩ | ⟨y, hy, rfl⟩ <;> simp [ih y hy]

theorem Incompat.symm {κ} {c1 c2 : List (κ × Bool)} (h : Incompat c1 c2) : Incompat c2 c1 := by
  obtain ⟨i, b, h1, h2⟩ := h
  exact ⟨i, !b, h2, by simpa using h1⟩

theorem allAssignments_pairwise : ∀ (bits : List String), (allAssignments bits).Pairwise Incompat := by
  intro bits
  induction bits with
  | nil => simp [allAssignments]
  | cons b bs ih =>
    have hcons : ∀ x : Bool, ((allAssignments bs).map fun a => (b, x) :: a).Pairwise Incompat := by
      intro x
      apply List.Pairwise.map _ _ ih
      rintro y z ⟨i, c, h1, h2⟩
      exact ⟨i, c, List.mem_cons_of_mem _ h1, List.mem_cons_of_mem _ h2⟩
    simp only [allAssignments]
    rw [List.pairwise_append]
    refine ⟨hcons false, hcons true, ?_⟩
    intro x hx y hy
    obtain ⟨x', _, rfl⟩ := List.mem_map.mp hx
    obtain ⟨y', _, rfl⟩ := List.mem_map.mp hy
    exact ⟨b, false, by simp, by simp⟩

theorem allAssignments_complete (σ : AsgN) : ∀ (bits : List String),
    bits.map (fun v => (v, σ v)) ∈ allAssignments bits := by
  intro bits
  induction bits with
  | nil => simp [allAssignments]
  | cons b bs ih =>
    simp only [allAssignments, List.map_cons, List.mem_append, List.mem_map]
    cases h : σ b
    · left; exact ⟨_, ih, rfl⟩
    · right; exact ⟨_, ih, rfl⟩

theorem allAssignments_length : ∀ (bits : List String), (allAssignments bits).length = 2 ^ bits.length := by
  intro bits
  induction bits with
  | nil => rfl
  | cons b bs ih =>
    simp only [allAssignments, List.length_append, List.length_map, ih, List.length_cons]
    rw [Nat.pow_succ]; omega

def Tbl.nameCube (t : Tbl) (c : List (Nat × Bool)) : List (String × Bool) :=
  c.map fun p => (t.nameOf p.1, p.2)

theorem nameCube_keys (t : Tbl) (c : List (Nat × Bool)) :
    (t.nameCube c).map (·.1) = (c.map (·.1)).map t.nameOf := by
  simp [Tbl.nameCube, List.map_map, Function.comp_def]

theorem agreesN_nameCube {t : Tbl} {σ : AsgN} {c : List (Nat × Bool)} :
    AgreesN σ (t.nameCube c) ↔ Agrees (t.lift σ) c :=
  List.forall_mem_map

theorem VarsOK.nodup_names {t : Tbl} (hv : VarsOK t) {l : List Nat} (hlt : ∀ i ∈ l, i < t.nvars)
    (hnd : l.Nodup) : (l.map t.nameOf).Nodup := by
  rw [List.Nodup, List.pairwise_map]
  exact hnd.imp_of_mem fun hi hj hne he => hne (hv.inj _ _ (hlt _ hi) (hlt _ hj) he)

/-- the minterms `_enumerate_minterms` makes of a named cube -/
def minterms (care : List String) (cube : List (String × Bool)) : List (List (String × Bool)) :=
  let bits := (dedup care).filter fun b => !(cube.any (·.1 = b))
  (allAssignments bits).map fun a => a ++ cube

theorem mem_minterms {care : List String} {cube m : List (String × Bool)} (hm : m ∈ minterms care cube) :
    (∀ p ∈ cube, p ∈ m) ∧ (∀ v, v ∈ m.map (·.1) ↔ v ∈ care ∨ v ∈ cube.map (·.1)) ∧
      ((cube.map (·.1)).Nodup → (m.map (·.1)).Nodup) := by
  obtain ⟨x, hx, rfl⟩ := List.mem_map.mp hm
  have hkey : ∀ v, v ∈ cube.map (·.1) ↔ cube.any (·.1 = v) = true := by intro v; simp
  have hxk : (x ++ cube).map (·.1) =
      ((dedup care).filter fun b => !(cube.any (·.1 = b))) ++ cube.map (·.1) := by
    rw [List.map_append, allAssignments_keys _ x hx]
  refine ⟨fun p hp => List.mem_append_right _ hp, ?_, ?_⟩
  · intro v
    rw [hxk, List.mem_append, List.mem_filter, mem_dedup, hkey]
    by_cases hin : cube.any (·.1 = v) = true <;> simp [hin]
  · intro hnd
    rw [hxk, List.nodup_append]
    refine ⟨(nodup_dedup _).sublist List.filter_sublist, hnd, ?_⟩
    intro a ha b hb hab
    subst hab
    rw [List.mem_filter, (hkey a).mp hb] at ha
    simp at ha

theorem minterms_pairwise (care : List String) (cube : List (String × Bool)) :
    (minterms care cube).Pairwise Incompat := by
  unfold minterms
  apply List.Pairwise.map _ _ (allAssignments_pairwise _)
  rintro x y ⟨i, b, h1, h2⟩
  exact ⟨i, b, List.mem_append_left _ h1, List.mem_append_left _ h2⟩

theorem minterms_complete (care : List String) {cube : List (String × Bool)} {σ : AsgN}
    (h : AgreesN σ cube) : ∃ m ∈ minterms care cube, AgreesN σ m := by
  refine ⟨_, List.mem_map_of_mem (allAssignments_complete σ _), ?_⟩
  intro p hp
  rcases List.mem_append.mp hp with hp | hp
  · obtain ⟨v, _, rfl⟩ := List.mem_map.mp hp
    rfl
  · exact h p hp

theorem minterms_ne_nil (care : List String) (cube : List (String × Bool)) : minterms care cube ≠ [] :=
  List.ne_nil_of_mem (List.mem_map_of_mem (allAssignments_complete (fun _ => false) _))

/-- `pickIter` computes: the minterms of the named path cubes of `satIterF` -/
theorem pickIter_eq {t : Tbl} (hw : WFU t) (hv : VarsOK t) (u : Int) (hm : t.Mem u)
    (care : Option (List String)) :
    ∃ (ls : List Nat) (cubes : List (List (Nat × Bool))), (∀ i, i ∈ ls ↔ dependsOn t u i) ∧
      support t u = .ok (ls.map t.nameOf) ∧
      satIterF (t.nvars + 2) t u [] true = .ok cubes ∧ PathCubes t u [] true cubes ∧
      (∀ c ∈ cubes, ∀ i ∈ c.map (·.1), i ∈ ls) ∧
      pickIter t u care =
        .ok ((cubes.map t.nameCube).flatMap (minterms (care.getD (ls.map t.nameOf)))) := by
  have hW := hw.toWF
  obtain ⟨ls, _, _, hls, hs⟩ := support_spec hw hv u hm
  obtain ⟨cubes, hc, hp⟩ := satIterF_spec hW (t.nvars + 2) u hm (by omega) [] true (by simp) (by simp)
  -- the levels on the paths are levels of the support
  have hk : ∀ c ∈ cubes, ∀ i ∈ c.map (·.1), i ∈ ls := by
    intro c hc' i hi
    obtain ⟨p, hp', rfl⟩ := List.mem_map.mp hi
    exact (hls _).mpr ((dependsOn_iff_reach hw _ u hm).mpr
      (((hp.1 c hc').2.2.1 p hp').resolve_left (by simp)))
  refine ⟨ls, cubes, hls, hs, hc, hp, hk, ?_⟩
  unfold pickIter
  rw [(Tbl.mem_iff t u).mpr hm, hs, hc]
  simp only [Bool.not_true, Bool.false_eq_true, if_false]
  rw [mapM_ok _ t.nameCube cubes]
  · rfl
  · intro c hc'
    apply mapM_ok
    rintro ⟨i, b⟩ hp'
    simp only [hv.l2v_eq (dependsOn_lt_nvars hw hm ((hls _).mp (hk c hc' _ (List.mem_map_of_mem hp'))))]

theorem not_incompat_self {κ} {m : List (κ × Bool)} (hnd : (m.map (·.1)).Nodup) : ¬ Incompat m m := by
  rintro ⟨i, b, h1, h2⟩
  have := congrArg Prod.snd (eq_of_key_nodup (·.1) hnd h1 h2 rfl)
  cases b <;> simp at this

theorem Incompat.agrees_unique {L : List (List (String × Bool))} (hpw : L.Pairwise Incompat)
    {σ : AsgN} {m m' : List (String × Bool)} (hm : m ∈ L) (hm' : m' ∈ L)
    (h : AgreesN σ m) (h' : AgreesN σ m') : m' = m := by
  -- incompatibility is symmetric, so it holds between any two different members
  have hall := List.Pairwise.forall_of_forall_of_flip
    (R := fun x y : List (String × Bool) => x = y ∨ Incompat x y)
    (fun _ _ => Or.inl rfl) (hpw.imp Or.inr) (hpw.imp fun hxy => Or.inr hxy.symm) hm' hm
  exact hall.resolve_right (not_incompat_of_agree h' h)

/-- `pick_iter(u, care_vars)` (C10): every yielded assignment makes `u` true however it is
completed and mentions every care variable, each key once (with the default care set: exactly
the support); the yielded assignments are pairwise incompatible, and every model is covered by
exactly one of them -/
theorem pickIter_spec {t : Tbl} (hw : WFU t) (hv : VarsOK t) (u : Int) (hm : t.Mem u)
    (care : Option (List String)) :
    ∃ supp L, support t u = .ok supp ∧ pickIter t u care = .ok L ∧
      (∀ m ∈ L, (∀ σ, AgreesN σ m → denN t u σ = true) ∧
        (∀ v ∈ care.getD supp, v ∈ m.map (·.1)) ∧ (m.map (·.1)).Nodup ∧
        (care = none → ∀ v, v ∈ m.map (·.1) ↔ v ∈ supp)) ∧
      L.Pairwise Incompat ∧
      (∀ σ, denN t u σ = true → ∃ m ∈ L, AgreesN σ m ∧ ∀ m' ∈ L, AgreesN σ m' → m' = m) := by
  obtain ⟨ls, cubes, hls, hs, _, ⟨hi, hcov, hpw⟩, hk, hL⟩ := pickIter_eq hw hv u hm care
  have hinc : ((cubes.map t.nameCube).flatMap (minterms (care.getD (ls.map t.nameOf)))).Pairwise
      Incompat := by
    rw [List.pairwise_flatMap]
    refine ⟨fun cN _ => minterms_pairwise _ cN, ?_⟩
    rw [List.pairwise_map]
    refine hpw.imp ?_
    rintro c1 c2 ⟨i, b, h1, h2⟩ x hx y hy
    exact ⟨t.nameOf i, b, (mem_minterms hx).1 _ (List.mem_map.mpr ⟨(i, b), h1, rfl⟩),
      (mem_minterms hy).1 _ (List.mem_map.mpr ⟨(i, !b), h2, rfl⟩)⟩
  refine ⟨_, _, hs, hL, ?_, hinc, ?_⟩
  · intro m hmem
    obtain ⟨cN, hcN, hmm⟩ := List.mem_flatMap.mp hmem
    obtain ⟨c, hc', rfl⟩ := List.mem_map.mp hcN
    obtain ⟨_, cnd, _, cfrc⟩ := hi c hc'
    obtain ⟨hsub, hkeys, hnd⟩ := mem_minterms hmm
    refine ⟨?_, fun v hvc => (hkeys v).mpr (Or.inl hvc), hnd ?_, ?_⟩
    · intro σ hσ
      exact cfrc _ (agreesN_nameCube.mp fun p hp => hσ p (hsub p hp))
    · rw [nameCube_keys]
      exact hv.nodup_names (fun i hi' => dependsOn_lt_nvars hw hm ((hls i).mp (hk c hc' i hi'))) cnd
    · -- the cube only mentions levels of the support
      intro hnone v
      subst hnone
      rw [hkeys, Option.getD_none, nameCube_keys]
      refine ⟨fun h => h.elim id ?_, Or.inl⟩
      intro h
      obtain ⟨i, hi', rfl⟩ := List.mem_map.mp h
      exact List.mem_map_of_mem (hk c hc' i hi')
  · intro σ hσ
    obtain ⟨c, hc', hac⟩ := hcov (t.lift σ) (by intro p hp; simp at hp) hσ
    obtain ⟨m, hm', hag⟩ := minterms_complete (care.getD (ls.map t.nameOf)) (agreesN_nameCube.mpr hac)
    have hmL := List.mem_flatMap.mpr ⟨_, List.mem_map_of_mem hc', hm'⟩
    exact ⟨m, hmL, hag, fun m' hm'' hag' => Incompat.agrees_unique hinc hmL hm'' hag hag'⟩

/-- `pick_iter` yields nothing exactly for the reference `-1` (so `pick` returns `None`
exactly for `false`) -/
theorem pickIter_nil_iff {t : Tbl} (hw : WFU t) (hv : VarsOK t) (u : Int) (hm : t.Mem u)
    (care : Option (List String)) :
    ∃ L, pickIter t u care = .ok L ∧ (L = [] ↔ u = -1) := by
  obtain ⟨ls, cubes, _, _, hc, ⟨_, hcov, _⟩, _, hL⟩ := pickIter_eq hw hv u hm care
  refine ⟨_, hL, ?_⟩
  constructor
  · intro hnil
    have hcn : cubes = [] := List.eq_nil_iff_forall_not_mem.mpr fun c hc' =>
      minterms_ne_nil _ _ (List.flatMap_eq_nil_iff.mp hnil _ (List.mem_map_of_mem hc'))
    subst hcn
    apply (canonical t hw u (-1) hm (Or.inl rfl)).mp
    intro a
    rw [den_neg_one]
    cases hd : den t u a
    · rfl
    · obtain ⟨c, hc', _⟩ := hcov a (by intro p hp; simp at hp) hd
      simp at hc'
  · intro hu
    subst hu
    have : satIterF (t.nvars + 2) t (-1) [] true = .ok [] := by simp [satIterF]
    rw [this] at hc; cases hc
    rfl

end DD
