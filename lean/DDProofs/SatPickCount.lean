/-
  DDProofs.SatPickCount — with the default care set `pick_iter` yields `count(u)` assignments
  (C10): reading a yielded minterm as an assignment over the support levels is a bijection onto
  the satisfying assignments that `cnt` counts.
-/
import DDProofs.SatCount
import DDProofs.SmallSupport
open Std

namespace DD

theorem den_congr_on {t : Tbl} (hw : WFU t) (a b : Asg) (u : Int) (hm : t.Mem u)
    (hab : ∀ i, dependsOn t u i → a i = b i) : den t u a = den t u b :=
  den_agree_supp t hw.toWF u hm a b (fun i h => hab i ((inSupp_iff_dependsOn hw u hm i).mp h))

/-- `pick_iter(u)` with the default care set yields exactly `count(u)` assignments -/
theorem pickIter_length {t : Tbl} (hw : WFU t) (hv : VarsOK t) (u : Int) (hm : t.Mem u) :
    ∃ L n, pickIter t u none = .ok L ∧ count t u none = .ok n ∧ L.length = n := by
  obtain ⟨supp, L, hs, hL, hmem, hpw, hcov⟩ := pickIter_spec hw hv u hm none
  obtain ⟨ls, e, hsorted, hdep, _, hcnt, _⟩ := count_spec hw u hm
  obtain ⟨ls', e', _, _, hs'⟩ := support_spec hw hv u hm
  rw [e] at e'; cases e'
  rw [hs] at hs'; cases hs'
  let a0 : Asg := fun _ => false
  refine ⟨L, _, hL, hcnt a0, ?_⟩
  have hlt : ∀ i ∈ ls, i < t.nvars := fun i hi => dependsOn_lt_nvars hw hm ((hdep i).mp hi)
  have hcongr : ∀ a b : Asg, (∀ i ∈ ls, a i = b i) → den t u a = den t u b := fun a b h =>
    den_congr_on hw a b u hm (fun i hd => h i ((hdep i).mpr hd))
  -- the valuation read off a minterm agrees with it (a minterm has one entry per key)
  let σOf : List (String × Bool) → AsgN := fun m v => decide ((v, true) ∈ m)
  have hσ : ∀ m ∈ L, AgreesN (σOf m) m := by
    intro m hmL p hp
    show decide ((p.1, true) ∈ m) = p.2
    rw [Bool.eq_iff_iff, decide_eq_true_iff]
    exact ⟨fun h => snd_eq_of_fst_nodup (hmem m hmL).2.2.1 hp h, fun h => h ▸ hp⟩
  -- the assignment read off a minterm: that valuation on the support, `a0` elsewhere
  let Φ : List (String × Bool) → Asg := fun m i => if i ∈ ls then t.lift (σOf m) i else a0 i
  -- a minterm mentions every support variable, so it fixes there every valuation agreeing with it
  have hΦ : ∀ m ∈ L, ∀ σ, AgreesN σ m → ∀ i ∈ ls, Φ m i = t.lift σ i := by
    intro m hmL σ hag i hi
    have : t.nameOf i ∈ m.map (·.1) := ((hmem m hmL).2.2.2 rfl _).mpr (List.mem_map.mpr ⟨i, hi, rfl⟩)
    obtain ⟨p, hp, hpe⟩ := List.mem_map.mp this
    simp only [Φ, hi, if_true, Tbl.lift, ← hpe]
    rw [hσ m hmL p hp, hag p hp]
  have hperm : (L.map Φ).Perm ((allAsg ls a0).filter (den t u)) := by
    rw [List.perm_ext_iff_of_nodup]
    · intro b
      rw [List.mem_filter, mem_allAsg, List.mem_map]
      constructor
      · rintro ⟨m, hmL, rfl⟩
        refine ⟨fun i hi => by simp [Φ, hi], ?_⟩
        rw [← (hmem m hmL).1 _ (hσ m hmL)]
        exact hcongr _ _ (hΦ m hmL _ (hσ m hmL))
      · rintro ⟨hout, hden⟩
        -- a name assignment inducing `b` on the support, and the minterm covering it
        obtain ⟨σ, hσl⟩ := hv.exists_lift hlt b
        have hdσ : denN t u σ = true := by
          rw [← hden]; exact hcongr _ _ hσl
        obtain ⟨m, hmL, hag, _⟩ := hcov σ hdσ
        refine ⟨m, hmL, ?_⟩
        funext i
        by_cases hi : i ∈ ls
        · rw [hΦ m hmL σ hag i hi, hσl i hi]
        · rw [hout i hi]; simp [Φ, hi]
    · -- incompatible minterms give different assignments
      rw [List.Nodup, List.pairwise_map]
      refine List.Pairwise.imp_of_mem ?_ hpw
      rintro m m' hmL hmL' ⟨v, c, h1, h2⟩ heq
      have hvs : v ∈ ls.map t.nameOf :=
        ((hmem m hmL).2.2.2 rfl v).mp (List.mem_map.mpr ⟨_, h1, rfl⟩)
      obtain ⟨i, hi, rfl⟩ := List.mem_map.mp hvs
      have e1 : σOf m (t.nameOf i) = c := hσ m hmL _ h1
      have e2 : σOf m' (t.nameOf i) = !c := hσ m' hmL' _ h2
      have := congrFun heq i
      simp only [Φ, hi, if_true, Tbl.lift, e1, e2] at this
      cases c <;> simp at this
    · exact (nodup_allAsg ls a0 (hsorted.imp Nat.ne_of_lt)).sublist List.filter_sublist
  rw [← hperm.length_eq, List.length_map]

end DD
