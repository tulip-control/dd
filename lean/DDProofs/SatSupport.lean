/-
  DDProofs.SatSupport — `is_essential`, `descendants` and `support` against the semantics.
  `Reach` is reachability between node indices; on a reduced table the levels of the nodes
  reachable from `u` are exactly the levels its function depends on (`dependsOn_iff_reach`), so
  each of the three walks is specified by what it reaches.  The fuel of `supportF` is given in
  terms of the table size, so it is measured in stored nodes (`nodesFrom`), not in levels.
-/
import DDProofs.SatBasic
import DDProofs.SatList
open Std

namespace DD

inductive Reach (t : Tbl) : Nat → Nat → Prop
  | refl (u : Nat) : Reach t u u
  | lo {u v : Nat} {n : Nd} : t.succ[u]? = some n → Reach t n.lo.natAbs v → Reach t u v
  | hi {u v : Nat} {n : Nd} : t.succ[u]? = some n → Reach t n.hi.natAbs v → Reach t u v

theorem Reach.closed {t : Tbl} {S : Nat → Prop}
    (hS : ∀ v, S v → ∀ n, t.succ[v]? = some n → S n.lo.natAbs ∧ S n.hi.natAbs) {u v : Nat}
    (hr : Reach t u v) : S u → S v := by
  induction hr with
  | refl => exact id
  | lo hn _ ih => intro hu; exact ih (hS _ hu _ hn).1
  | hi hn _ ih => intro hu; exact ih (hS _ hu _ hn).2

theorem Reach.mem {t : Tbl} (hw : WF t) {u v : Nat} (h : Reach t u v) : t.Mem (u : Int) → t.Mem (v : Int) :=
  h.closed (S := fun v => t.Mem (v : Int))
    (fun _ _ n hn => ⟨mem_natAbs (hw.lo_mem _ n hn), mem_natAbs (hw.hi_mem _ n hn)⟩)

theorem Reach.level_le {t : Tbl} (hw : WF t) {u v : Nat} (h : Reach t u v) :
    t.levelOf (u : Int) ≤ t.levelOf (v : Int) := by
  refine h.closed (S := fun v => t.levelOf (u : Int) ≤ t.levelOf (v : Int)) ?_ (Nat.le_refl _)
  intro v hv n hn
  have := levelOf_nat_node hw hn
  have := hw.lo_lt _ _ hn
  have := hw.hi_lt _ _ hn
  rw [levelOf_natAbs, levelOf_natAbs]
  omega

theorem Reach.trans {t : Tbl} {u v w : Nat} (h1 : Reach t u v) (h2 : Reach t v w) : Reach t u w := by
  induction h1 with
  | refl u => exact h2
  | lo hn _ ih => exact Reach.lo hn (ih h2)
  | hi hn _ ih => exact Reach.hi hn (ih h2)

theorem reach_one_iff {t : Tbl} (hw : WF t) (v : Nat) : Reach t 1 v ↔ v = 1 :=
  ⟨fun h => h.closed (S := (· = 1)) (fun _ hv _ hn => absurd hv (hw.node_ne_one hn)) rfl,
    fun h => h.symm ▸ Reach.refl 1⟩

theorem reach_term {t : Tbl} (hw : WF t) : ∀ u, t.Mem u → Reach t u.natAbs 1 := by
  apply ref_induction hw
  · intro u h1; rw [h1]; exact Reach.refl 1
  · intro u n _ hn ihlo _; exact Reach.lo hn ihlo

theorem reach_node_iff {t : Tbl} {u : Nat} {n : Nd} (hn : t.succ[u]? = some n) (v : Nat) :
    Reach t u v ↔ v = u ∨ Reach t n.lo.natAbs v ∨ Reach t n.hi.natAbs v := by
  constructor
  · intro h
    cases h with
    | refl => exact Or.inl rfl
    | lo hn' hr => rw [hn] at hn'; cases hn'; exact Or.inr (Or.inl hr)
    | hi hn' hr => rw [hn] at hn'; cases hn'; exact Or.inr (Or.inr hr)
  · rintro (rfl | h | h)
    · exact Reach.refl _
    · exact Reach.lo hn h
    · exact Reach.hi hn h

theorem dependsOn_iff_reach {t : Tbl} (hw : WFU t) (i : Nat) : ∀ u, t.Mem u →
    (dependsOn t u i ↔ ∃ v n, Reach t u.natAbs v ∧ t.succ[v]? = some n ∧ n.lvl = i) := by
  have hW := hw.toWF
  apply ref_induction hW
  · intro u h1
    constructor
    · intro h; exact absurd h (dependsOn_term h1 i)
    · rintro ⟨v, n, hr, hn, _⟩
      rw [h1, reach_one_iff hW] at hr
      subst hr
      exact absurd rfl (hW.node_ne_one hn)
  · intro u n h1 hn ihlo ihhi
    by_cases hi : i = n.lvl
    · subst hi
      constructor
      · intro _; exact ⟨u.natAbs, n, Reach.refl _, hn, rfl⟩
      · intro _; exact node_depends_on_own_level hw h1 hn
    · rw [dependsOn_node hW h1 hn hi, ihlo, ihhi]
      simp only [reach_node_iff hn]
      constructor
      · rintro (⟨v, n', hr, h⟩ | ⟨v, n', hr, h⟩)
        · exact ⟨v, n', Or.inr (Or.inl hr), h⟩
        · exact ⟨v, n', Or.inr (Or.inr hr), h⟩
      · rintro ⟨v, n', rfl | hr | hr, hn', hl⟩
        · rw [hn] at hn'; cases hn'; exact absurd hl.symm hi
        · exact Or.inl ⟨v, n', hr, hn', hl⟩
        · exact Or.inr ⟨v, n', hr, hn', hl⟩

theorem dependsOn_lt_nvars {t : Tbl} (hw : WFU t) {u : Int} (hm : t.Mem u) {i : Nat}
    (h : dependsOn t u i) : i < t.nvars := by
  obtain ⟨v, n, _, hn, hl⟩ := (dependsOn_iff_reach hw i u hm).mp h
  rw [← hl]; exact hw.lvl_lt _ _ hn

theorem isEssentialF_spec {t : Tbl} (hw : WFU t) {i : Nat} (hi : i < t.nvars) :
    ∀ f u, t.Mem u → t.nvars + 1 ≤ f + t.levelOf u →
      ∃ b, isEssentialF f t u i = .ok b ∧ (b = true ↔ dependsOn t u i) := by
  have hW := hw.toWF
  apply fuel_induction hW
  · intro f u h1
    exact ⟨false, by simp [isEssentialF, h1, hi], by simp [dependsOn_term h1]⟩
  · intro f u n h1 hn ⟨b1, e1, s1⟩ ⟨b2, e2, s2⟩
    unfold isEssentialF
    simp only [h1, if_false, hn, Option.map_some]
    by_cases c1 : i < n.lvl
    · refine ⟨false, by simp [c1], ?_⟩
      simp; exact dependsOn_lt hW (.of_node hn) (by rw [levelOf_node t u n h1 hn]; exact c1)
    · by_cases c2 : i = n.lvl
      · refine ⟨true, by simp [c2], ?_⟩
        simp; subst c2; exact node_depends_on_own_level hw h1 hn
      · simp only [c1, c2, if_false, hW.zero_test hn, Bool.false_eq_true]
        rw [e1, dependsOn_node hW h1 hn c2, ← s1, ← s2]
        cases b1 with
        | true => exact ⟨true, rfl, by simp⟩
        | false => exact ⟨b2, e2, by simp⟩

/-- `is_essential(u, var)` by name: `false` for an undeclared name, otherwise the
dependence of `u` on the variable's level -/
theorem isEssential_spec {t : Tbl} (hw : WFU t) (u : Int) (hm : t.Mem u) (var : String) :
    (t.vars[var]? = none → isEssential t u var = .ok false) ∧
    (∀ i, t.vars[var]? = some i → i < t.nvars →
      ∃ b, isEssential t u var = .ok b ∧ (b = true ↔ dependsOn t u i)) := by
  constructor
  · intro h; simp [isEssential, h]
  · intro i h hi
    obtain ⟨b, e, s⟩ := isEssentialF_spec hw hi (t.nvars + 2) u hm (by omega)
    exact ⟨b, by simp [isEssential, h, e], s⟩

/-- `_descendants` adds a node after its children, so at every call its `visited` set is closed
under children -/
def PreClosed (t : Tbl) (vis : List Nat) : Prop :=
  ∀ v ∈ vis, ∀ n, t.succ[v]? = some n → n.lo.natAbs ∈ vis ∧ n.hi.natAbs ∈ vis

theorem PreClosed.consNew {t : Tbl} {vis : List Nat} (hc : PreClosed t vis) {x : Nat}
    (hx : ∀ n, t.succ[x]? = some n → n.lo.natAbs ∈ vis ∧ n.hi.natAbs ∈ vis) :
    PreClosed t (if vis.contains x then vis else x :: vis) := by
  intro v hv n hn
  have hch : n.lo.natAbs ∈ vis ∧ n.hi.natAbs ∈ vis := by
    rcases mem_consNew.mp hv with rfl | hv
    · exact hx n hn
    · exact hc v hv n hn
  exact ⟨mem_consNew.mpr (Or.inr hch.1), mem_consNew.mpr (Or.inr hch.2)⟩

theorem descendantsF_spec {t : Tbl} (hw : WF t) :
    ∀ f u, t.Mem u → t.nvars + 1 ≤ f + t.levelOf u → ∀ vis, PreClosed t vis → 1 ∈ vis → vis.Nodup →
      ∃ vis', descendantsF f t u vis = .ok vis' ∧ PreClosed t vis' ∧ vis'.Nodup ∧
        ∀ v, v ∈ vis' ↔ v ∈ vis ∨ Reach t u.natAbs v := by
  apply fuel_induction hw
  · intro f u h1 vis hc h1v hnd
    refine ⟨vis, by simp [descendantsF, h1], hc, hnd, ?_⟩
    intro v
    rw [h1, reach_one_iff hw]
    exact ⟨Or.inl, fun h => h.elim id (fun e => e ▸ h1v)⟩
  · intro f u n h1 hn ihlo ihhi vis hc h1v hnd
    by_cases hcont : u.natAbs ∈ vis
    · refine ⟨vis, by simp [descendantsF, hcont], hc, hnd, ?_⟩
      intro v
      exact ⟨Or.inl, fun h => h.elim id (fun hr => hr.closed hc hcont)⟩
    · obtain ⟨v1, e1, c1, n1, s1⟩ := ihlo vis hc h1v hnd
      obtain ⟨v2, e2, c2, n2, s2⟩ := ihhi v1 c1 ((s1 1).mpr (Or.inl h1v)) n1
      refine ⟨if v2.contains u.natAbs then v2 else u.natAbs :: v2, ?_, c2.consNew ?_, nodup_consNew n2, ?_⟩
      · simp [descendantsF, h1, hcont, hn, hw.zero_test hn, e1, e2]
      · intro n' hn'
        rw [hn] at hn'; cases hn'
        exact ⟨(s2 _).mpr (Or.inl ((s1 _).mpr (Or.inr (Reach.refl _)))), (s2 _).mpr (Or.inr (Reach.refl _))⟩
      · intro v
        rw [mem_consNew, s2, s1, reach_node_iff hn, or_assoc, or_left_comm]

theorem foldlM_reach {t : Tbl} {σ : Type} {I : σ → Prop} {K : σ → Nat → Prop} {F : σ → Int → Except Err σ}
    (hF : ∀ s r, t.Mem r → I s →
      ∃ s', F s r = .ok s' ∧ I s' ∧ ∀ v, K s' v ↔ K s v ∨ Reach t r.natAbs v) :
    ∀ (roots : List Int) (s : σ), (∀ r ∈ roots, t.Mem r) → I s →
      ∃ s', roots.foldlM F s = .ok s' ∧ I s' ∧ ∀ v, K s' v ↔ K s v ∨ ∃ r ∈ roots, Reach t r.natAbs v := by
  intro roots
  induction roots with
  | nil => intro s _ hI; exact ⟨s, rfl, hI, by simp⟩
  | cons r rest ih =>
    intro s hm hI
    obtain ⟨s1, e1, I1, k1⟩ := hF s r (hm r (by simp)) hI
    obtain ⟨s2, e2, I2, k2⟩ := ih s1 (fun x hx => hm x (List.mem_cons_of_mem _ hx)) I1
    refine ⟨s2, by rw [List.foldlM_cons, e1]; exact e2, I2, fun v => ?_⟩
    rw [k2, k1]
    simp [or_assoc]

theorem descendants_go_eq (t : Tbl) : ∀ (roots : List Int) (vis : List Nat),
    descendants.go t roots vis = roots.foldlM (fun vis u =>
      descendantsF (t.nvars + 2) t u (if vis.contains 1 then vis else 1 :: vis)) vis
  | [], _ => rfl
  | u :: rest, vis => by
    rw [List.foldlM_cons, descendants.go]
    cases descendantsF (t.nvars + 2) t u (if vis.contains 1 then vis else 1 :: vis) with
    | error _ => rfl
    | ok vis' => exact descendants_go_eq t rest vis'

/-- a reference that is neither a member nor visited raises `KeyError` at once -/
theorem descendantsF_key {t : Tbl} {u : Int} {vis : List Nat} (hu : ¬ t.Mem u)
    (hv : u.natAbs ∉ vis) (f : Nat) : descendantsF (f + 1) t u vis = .error .key := by
  have h1 : u.natAbs ≠ 1 := fun h => hu (Or.inl h)
  have hn : t.succ[u.natAbs]? = none := by
    cases h : t.succ[u.natAbs]? with
    | none => rfl
    | some n => exact absurd (.of_node h) hu
  simp only [descendantsF, h1, decide_false, List.contains_eq_mem, hv, Bool.or_self, Bool.false_eq_true,
    ↓reduceIte, hn]

/-- `descendants` returns only when every root is a reference of the table -/
theorem descendants_go_mem {t : Tbl} (hw : WF t) : ∀ roots vis vis',
    descendants.go t roots vis = .ok vis' → PreClosed t vis → vis.Nodup →
    (∀ x ∈ vis, t.Mem (x : Int)) → ∀ u ∈ roots, t.Mem u := by
  intro roots
  induction roots with
  | nil => intro _ _ _ _ _ _ u hu; cases hu
  | cons r rest ih =>
    intro vis vis' h hc hnd hm u hu
    rw [descendants.go] at h
    have hm0 : ∀ x ∈ (if vis.contains 1 then vis else 1 :: vis), t.Mem (x : Int) := fun x hx =>
      (mem_consNew.mp hx).elim (fun e => e ▸ Or.inl rfl) (hm x)
    by_cases hr : t.Mem r
    · obtain ⟨v1, e1, c1, n1, s1⟩ := descendantsF_spec hw (t.nvars + 2) r hr (by omega) _
        (hc.consNew (x := 1) (fun n hn' => absurd rfl (hw.node_ne_one hn')))
        (mem_consNew.mpr (Or.inl rfl)) (nodup_consNew hnd)
      rw [e1] at h
      rcases List.mem_cons.mp hu with rfl | hu
      · exact hr
      · exact ih v1 vis' h c1 n1 (fun x hx => ((s1 x).mp hx).elim (hm0 x)
          (fun hreach => hreach.mem hw (mem_natAbs hr))) u hu
    · rw [descendantsF_key hr (fun hin => hr (mem_of_natAbs (hm0 _ hin)))] at h
      cases h

/-- `descendants`: the strictly ascending list of exactly the nodes reachable from the roots
(the terminal is reachable from every root) -/
theorem descendants_spec {t : Tbl} (hw : WF t) (roots : List Int) (hm : ∀ r ∈ roots, t.Mem r) :
    ∃ l, descendants t roots = .ok l ∧ l.Pairwise (· < ·) ∧
      ∀ v, v ∈ l ↔ ∃ r ∈ roots, Reach t r.natAbs v := by
  obtain ⟨vis, e, ⟨_, n⟩, s⟩ := foldlM_reach (I := fun vis => PreClosed t vis ∧ vis.Nodup)
    (K := fun vis v => v ∈ vis) (fun vis r hr ⟨hc, hn⟩ => by
      obtain ⟨v1, e1, c1, n1, s1⟩ := descendantsF_spec hw (t.nvars + 2) r hr (by omega) _
        (hc.consNew (x := 1) (fun n hn' => absurd rfl (hw.node_ne_one hn')))
        (mem_consNew.mpr (Or.inl rfl)) (nodup_consNew hn)
      refine ⟨v1, e1, ⟨c1, n1⟩, fun v => ?_⟩
      -- the terminal, put in first, is reachable from the root anyway
      rw [s1, mem_consNew, or_assoc, or_comm, or_assoc]
      exact or_congr_right ⟨fun h => h.elim id (fun e => e ▸ reach_term hw r hr), Or.inl⟩)
    roots [] hm ⟨by intro v hv; simp at hv, by simp⟩
  rw [← descendants_go_eq] at e
  exact ⟨sortNat vis, by simp [descendants, e], sortNat_strict n,
    fun v => mem_sortNat.trans ((s v).trans (by simp))⟩

theorem reachSet_spec {t : Tbl} (hw : WF t) {roots : List Int} (hm : ∀ r ∈ roots, t.Mem r) {ns : List Nat}
    (s : ∀ v, v ∈ ns ↔ ∃ r ∈ roots, Reach t r.natAbs v) :
    (∀ x ∈ ns, t.Mem (x : Int)) ∧ PreClosed t ns ∧ (roots ≠ [] → 1 ∈ ns) := by
  refine ⟨?_, ?_, ?_⟩
  · intro x hx
    obtain ⟨r, hr, hreach⟩ := (s x).mp hx
    exact hreach.mem hw (mem_natAbs (hm r hr))
  · intro v hv n hn
    obtain ⟨r, hr, hreach⟩ := (s v).mp hv
    exact ⟨(s _).mpr ⟨r, hr, hreach.trans (Reach.lo hn (Reach.refl _))⟩,
      (s _).mpr ⟨r, hr, hreach.trans (Reach.hi hn (Reach.refl _))⟩⟩
  · intro hne
    cases roots with
    | nil => exact absurd rfl hne
    | cons r rest => exact (s 1).mpr ⟨r, by simp, reach_term hw r (hm r (by simp))⟩

/-- number of stored nodes at level `l` or below it in the order (fuel measure of `supportF`,
whose fuel is given in terms of the table size) -/
def nodesFrom (t : Tbl) (l : Nat) : Nat := (t.succ.toList.filter (fun p => decide (l ≤ p.2.lvl))).length

theorem nodesFrom_le_size (t : Tbl) (l : Nat) : nodesFrom t l ≤ t.succ.size := by
  unfold nodesFrom
  rw [← TreeMap.length_toList]
  exact List.length_filter_le _ _

theorem nodesFrom_step {t : Tbl} {u : Nat} {n : Nd} (hn : t.succ[u]? = some n) {l' : Nat}
    (h : n.lvl < l') : nodesFrom t l' + 1 ≤ nodesFrom t n.lvl := by
  unfold nodesFrom
  have hsub : t.succ.toList.filter (fun p => decide (l' ≤ p.2.lvl)) =
      (t.succ.toList.filter (fun p => decide (n.lvl ≤ p.2.lvl))).filter (fun p => decide (l' ≤ p.2.lvl)) := by
    rw [List.filter_filter]
    apply List.filter_congr
    intro x _; simp; omega
  rw [hsub]
  apply List.length_filter_lt_length_iff_exists.mpr
  -- the node itself is counted from its own level on, but not from the deeper level `l'` on
  refine ⟨(u, n), List.mem_filter.mpr ⟨TreeMap.mem_toList_iff_getElem?_eq_some.mpr hn, by simp⟩, ?_⟩
  simp; omega

/-- `supportF` walks the nodes under `u` depth first, entering each node in `N` before its
children; so a node of the result is either one of the given `N` (possibly still on the stack
of an enclosing call) or finished: its level is in `L'` and its children are in `N'`.  The
early exit when all `nvars` levels have been found gives up that last clause. -/
theorem supportF_spec {t : Tbl} (hw : WF t) :
    ∀ f u L N, t.Mem u → nodesFrom t (t.levelOf u) + 1 ≤ f → L.Nodup →
      ∃ L' N', supportF f t u (L, N) = .ok (L', N') ∧ L'.Nodup ∧ L ⊆ L' ∧ N ⊆ N' ∧
        (∀ i ∈ L', i ∈ L ∨ ∃ v n, Reach t u.natAbs v ∧ t.succ[v]? = some n ∧ n.lvl = i) ∧
        (L'.length < t.nvars → u.natAbs ∈ N' ∧ ∀ x ∈ N', x ∈ N ∨
          ∀ n, t.succ[x]? = some n → n.lvl ∈ L' ∧ n.lo.natAbs ∈ N' ∧ n.hi.natAbs ∈ N') := by
  intro f
  induction f with
  | zero => intro u _ _ _ hf; omega
  | succ f ih =>
    intro u L N hm hf hnd
    by_cases hex : L.length = t.nvars
    · exact ⟨L, N, by simp [supportF, hex], hnd, fun _ h => h, fun _ h => h, fun _ h => Or.inl h,
        fun h => by omega⟩
    by_cases hcont : u.natAbs ∈ N
    · exact ⟨L, N, by simp [supportF, hex, hcont], hnd, fun _ h => h, fun _ h => h,
        fun _ h => Or.inl h, fun _ => ⟨hcont, fun x hx => Or.inl hx⟩⟩
    rcases hm.cases with h1 | ⟨h1, n, hn⟩
    · have hc1 : 1 ∉ N := h1 ▸ hcont
      refine ⟨L, u.natAbs :: N, by simp [supportF, hex, hc1, h1], hnd, fun _ h => h,
        fun _ h => List.mem_cons_of_mem _ h, fun _ h => Or.inl h, fun _ => ⟨by simp, ?_⟩⟩
      intro x hx
      rcases List.mem_cons.mp hx with hx | hx
      · right; intro n' hn'; rw [hx, h1] at hn'; exact absurd rfl (hw.node_ne_one hn')
      · exact Or.inl hx
    · have f2 := nodesFrom_step hn (hw.lo_lt _ _ hn)
      have f3 := nodesFrom_step hn (hw.hi_lt _ _ hn)
      rw [levelOf_node t u n h1 hn] at hf
      obtain ⟨L2, N2, e2, nd2, sL2, sN2, snd2, cmp2⟩ :=
        ih n.lo _ (u.natAbs :: N) (hw.lo_mem _ _ hn) (by omega) (nodup_consNew (x := n.lvl) hnd)
      obtain ⟨L3, N3, e3, nd3, sL3, sN3, snd3, cmp3⟩ :=
        ih n.hi L2 N2 (hw.hi_mem _ _ hn) (by omega) nd2
      refine ⟨L3, N3, ?_, nd3, ?_, ?_, ?_, ?_⟩
      · unfold supportF
        simp only [hex, if_false, List.contains_iff_mem, hcont, h1, hn, hw.zero_test hn,
          Bool.false_eq_true]
        simp only [List.contains_iff_mem] at e2
        rw [e2]
        exact e3
      · intro i hi; exact sL3 (sL2 (mem_consNew.mpr (Or.inr hi)))
      · intro x hx; exact sN3 (sN2 (List.mem_cons_of_mem _ hx))
      · intro i hi
        rcases snd3 i hi with h | ⟨v, n', hr, h⟩
        · rcases snd2 i h with h | ⟨v, n', hr, h⟩
          · rcases mem_consNew.mp h with h | h
            · exact Or.inr ⟨u.natAbs, n, Reach.refl _, hn, h.symm⟩
            · exact Or.inl h
          · exact Or.inr ⟨v, n', Reach.lo hn hr, h⟩
        · exact Or.inr ⟨v, n', Reach.hi hn hr, h⟩
      · intro hlen
        -- the levels only grow, so the first call did not stop early either
        obtain ⟨hin3, cl3⟩ := cmp3 hlen
        obtain ⟨hin2, cl2⟩ := cmp2 (Nat.lt_of_le_of_lt (nd2.length_le_of_subset sL3) hlen)
        refine ⟨sN3 (sN2 (by simp)), fun x hx => ?_⟩
        rcases cl3 x hx with hx2 | h
        · rcases cl2 x hx2 with hx1 | h
          · rcases List.mem_cons.mp hx1 with hx0 | hx0
            · right; intro n' hn'; rw [hx0, hn] at hn'; cases hn'
              exact ⟨sL3 (sL2 (mem_consNew.mpr (Or.inl rfl))), sN3 hin2, hin3⟩
            · exact Or.inl hx0
          · exact Or.inr fun n' hn' => ⟨sL3 (h n' hn').1, sN3 (h n' hn').2.1, sN3 (h n' hn').2.2⟩
        · exact Or.inr h

/-- `support(u, as_levels=True)` succeeds and returns the strictly ascending list of exactly the
levels of the nodes under `u` (the early exit at `len(levels) = nvars` is sound). -/
theorem supportLevels_reach {t : Tbl} (hw : WF t) (u : Int) (hm : t.Mem u) :
    ∃ l, supportLevels t u = .ok l ∧ l.Pairwise (· < ·) ∧
      ∀ i, i ∈ l ↔ ∃ v n, Reach t u.natAbs v ∧ t.succ[v]? = some n ∧ n.lvl = i := by
  obtain ⟨L, N, e, nd, _, _, snd, cmp⟩ := supportF_spec hw (2 * t.succ.size + 4) u [] [] hm
    (by have := nodesFrom_le_size t (t.levelOf u); omega) (by simp)
  have snd : ∀ i ∈ L, ∃ v n, Reach t u.natAbs v ∧ t.succ[v]? = some n ∧ n.lvl = i :=
    fun i hi => (snd i hi).resolve_left (by simp)
  refine ⟨sortNat L, by simp [supportLevels, e], sortNat_strict nd, fun i => ?_⟩
  rw [mem_sortNat]
  refine ⟨snd i, ?_⟩
  rintro ⟨v, n, hr, hn, rfl⟩
  by_cases hlen : L.length < t.nvars
  · -- no early exit: every node of `N` is finished, so `N` is closed under children
    obtain ⟨hin, cl⟩ := cmp hlen
    have fin := fun x hx => (cl x hx).resolve_left (by simp)
    exact (fin v (hr.closed (fun x hx n hn => (fin x hx n hn).2) hin) n hn).1
  · -- early exit: `nvars` distinct levels below `nvars` are all of them
    have b : ∀ i ∈ L, i < t.nvars := fun i hi => by
      obtain ⟨_, n', _, hn', rfl⟩ := snd i hi
      exact hw.lvl_lt _ _ hn'
    have := nodup_bounded_length t.nvars L nd b
    exact nodup_full t.nvars L nd b (by omega) _ (hw.lvl_lt _ _ hn)

/-- on a reduced table those are exactly the levels the function of `u` depends on -/
theorem supportLevels_spec {t : Tbl} (hw : WFU t) (u : Int) (hm : t.Mem u) :
    ∃ l, supportLevels t u = .ok l ∧ l.Pairwise (· < ·) ∧ ∀ i, i ∈ l ↔ dependsOn t u i := by
  obtain ⟨l, e, p, s⟩ := supportLevels_reach hw.toWF u hm
  exact ⟨l, e, p, fun i => (s i).trans (dependsOn_iff_reach hw i u hm).symm⟩

end DD
