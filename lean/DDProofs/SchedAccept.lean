/-
  DDProofs.SchedAccept — acceptance of recorded schedules: every valid choice of iteration orders
  (DD.OrderChoice) is realised by a schedule that the model of DD.Order accepts and consumes exactly.
  The choice-driven functions have the text of the scheduled ones, so the runs go in lock-step and
  no invariant of the manager is needed: each function is walked once, for `Sim`, which holds
  acceptance (`AcceptsF`, in any state; `AccC` adds the `ReorderInv` of the end, which comes from the
  scheduled run, DDProofs.DynSchedKeep) together with what replay needs (`RepC`: a run depends on
  the choice only through the answers it recorded).
-/
import DD.OrderChoice
import DDProofs.SchedNatural
import DDProofs.DynSchedKeep
open Std

namespace DD

/-- every answer of the choice is a permutation of the list it was given -/
structure Choice.Valid (c : Choice) : Prop where
  names : ∀ k l, (c.names k l).Perm l
  level : ∀ k j l, (c.level k j l).Perm l

theorem Choice.default_valid : Choice.default.Valid := ⟨fun _ _ => .refl _, fun _ _ _ => .refl _⟩

theorem isPerm_of_perm {a b : List Nat} (h : a.Perm b) : isPerm a b = true := by
  unfold isPerm
  simp only [Bool.and_eq_true, beq_iff_eq, List.all_eq_true, List.contains_iff_mem]
  exact ⟨⟨h.length_eq, fun x hx => h.mem_iff.mp hx⟩, fun x hx => h.mem_iff.mpr hx⟩

def logOf {α} : Except Err (α × List SchedItem) → Option (List SchedItem)
  | .ok (_, log) => some log
  | .error _ => none

def dropLog {α} : Except Err (α × List SchedItem) → Except Err α
  | .ok (r, _) => .ok r
  | .error e => .error e

/-- the choice-driven run `a` (started in `m` with `log` picked so far) is realised by the
scheduled function `F` -/
def AccC {α} (ext : Nat → Nat) (a : Except Err (α × List SchedItem) × Mgr) (log : List SchedItem)
    (F : M α) (m : Mgr) : Prop :=
  match a with
  | (.ok (r, log'), m') => ∃ new, log' = log ++ new ∧ ReorderInv ext m' ∧ m'.sched = m.sched ∧
      ∀ rest, F (setS (new ++ rest) m) = (.ok r, setS rest m')
  | (.error e, _) => e ≠ .sched ∧ ∃ new, ∀ rest, (F (setS (new ++ rest) m)).1 = .error e

/-- `c'` answers as `c` did, wherever `sch` holds the record of `c`'s answer -/
structure ChoiceAgrees (c c' : Choice) (sch : List SchedItem) : Prop where
  names : ∀ k l, sch[k]? = some (.sift (c.names k l)) → c'.names k l = c.names k l
  level : ∀ k x y lx ly, y ≠ x →
    sch[k]? = some (.swap [(x, c.level k x lx), (y, c.level k y ly)]) →
    c'.level k x lx = c.level k x lx ∧ c'.level k y ly = c.level k y ly

theorem ChoiceAgrees.refl (c : Choice) (sch : List SchedItem) : ChoiceAgrees c c sch :=
  ⟨fun _ _ _ => rfl, fun _ _ _ _ _ _ _ => ⟨rfl, rfl⟩⟩

/-- the run `a` (under `c`, from `log`) and the run `a'` (under `c'`): the record only grows; and
if `a` returned with a record that is a prefix of `sch`, then `a'` is the same run -/
def RepC {α} (a a' : Except Err (α × List SchedItem) × Mgr) (log sch : List SchedItem) : Prop :=
  match a with
  | (.ok (_, log'), _) => log <+: log' ∧ (log' <+: sch → a' = a)
  | (.error _, _) => True

/-- the choice-driven run `a` (started in `m` with `log` picked so far), beside the scheduled
function `F` and the run `a'` of the same function under another choice.  `new` is what `a` added
to the record, and `a'` is the same run if `a` returned with a record that is a prefix of `sch`.
Under `V` (the choice is valid, the steps are natural in the schedule): `a` does not end in `.sched`
and leaves the schedule of `m` alone, and `F` started with `new ++ rest` does what `a` did and
leaves `rest` -/
structure Sim (V : Prop) {α} (a a' : Except Err (α × List SchedItem) × Mgr) (log sch : List SchedItem)
    (F : M α) (m : Mgr) : Prop where
  ns : V → a.1 ≠ .error .sched
  sched : V → a.2.sched = m.sched
  real : ∃ new, (∀ r l', a.1 = .ok (r, l') → l' = log ++ new) ∧
    (V → ∀ rest, F (setS (new ++ rest) m) = (dropLog a.1, setS rest a.2))
  same : ∀ r l', a.1 = .ok (r, l') → l' <+: sch → a' = a

section
variable {V : Prop} {α β γ : Type} {m : Mgr} {log sch : List SchedItem}

theorem Sim.rep {a a' : Except Err (α × List SchedItem) × Mgr} {F : M α}
    (h : Sim V a a' log sch F m) : RepC a a' log sch := by
  obtain ⟨ra, m'⟩ := a
  cases ra with
  | error e => trivial
  | ok p =>
    obtain ⟨new, hl, _⟩ := h.real
    exact ⟨by rw [hl p.1 p.2 rfl]; exact List.prefix_append _ _, h.same p.1 p.2 rfl⟩

theorem Sim.mono {V' : Prop} (hV : V' → V) {a a' : Except Err (α × List SchedItem) × Mgr} {F : M α}
    (h : Sim V a a' log sch F m) : Sim V' a a' log sch F m := by
  obtain ⟨new, hl, hrun⟩ := h.real
  exact ⟨fun v => h.ns (hV v), fun v => h.sched (hV v), ⟨new, hl, fun v => hrun (hV v)⟩, h.same⟩

/-- the end of an accepted run satisfies the reordering invariant because the end of the scheduled
run does (`KS`) -/
theorem Sim.accC {ext : Nat → Nat} {a a' : Except Err (α × List SchedItem) × Mgr} {F : M α}
    (h : Sim V a a' log sch F m) (v : V) (hk : ∀ s, KS ext (setS s m) (F (setS s m))) :
    AccC ext a log F m := by
  obtain ⟨hns, hsc, ⟨new, hl, hrun⟩, _⟩ := h
  obtain ⟨ra, m'⟩ := a
  cases ra with
  | error e => exact ⟨fun he => hns v (by rw [he]), new, fun rest => by rw [hrun v rest]; rfl⟩
  | ok p =>
    have hK := hk (new ++ [])
    rw [hrun v []] at hK
    exact ⟨new, hl p.1 p.2 rfl, hK.1.setSched m'.sched, hsc v, hrun v⟩

theorem Sim.pure (r : α) (log sch : List SchedItem) (m : Mgr) :
    Sim V ((pure (r, log) : M (α × List SchedItem)) m) ((pure (r, log) : M _) m) log sch (pure r) m :=
  ⟨fun _ => nofun, fun _ => rfl, ⟨[], fun _ _ h => by cases h; exact (List.append_nil _).symm,
    fun _ _ => rfl⟩, fun _ _ _ _ => rfl⟩

theorem Sim.throw {e : Err} (log sch : List SchedItem) (m : Mgr) (he : e ≠ .sched := by decide) :
    Sim V ((M.throw e : M (α × List SchedItem)) m) ((M.throw e : M _) m) log sch (M.throw e) m :=
  ⟨fun _ h => he (by cases h; rfl), fun _ => rfl, ⟨[], nofun, fun _ _ => rfl⟩, nofun⟩

theorem Sim.bind {xa xa' : M (α × List SchedItem)} {xb : M α}
    {fa fa' : α × List SchedItem → M (β × List SchedItem)} {fb : α → M β}
    (h : Sim V (xa m) (xa' m) log sch xb m)
    (hf : ∀ r log1 m1, Sim V (fa (r, log1) m1) (fa' (r, log1) m1) log1 sch (fb r) m1) :
    Sim V ((xa >>= fa) m) ((xa' >>= fa') m) log sch (xb >>= fb) m := by
  obtain ⟨hns, hsc, ⟨new, hl, hrun⟩, hsame⟩ := h
  rw [M.bind_eq, M.bind_eq]
  generalize xa m = ra at hns hsc hl hrun hsame
  obtain ⟨ra, m1⟩ := ra
  cases ra with
  | error e =>
    exact ⟨fun v h => hns v (by cases h; rfl), hsc,
      ⟨new, nofun, fun v rest => by rw [M.bind_eq, hrun v rest]; rfl⟩, nofun⟩
  | ok p =>
    obtain ⟨r, log1⟩ := p
    obtain rfl := hl r log1 rfl
    obtain ⟨hns2, hsc2, ⟨new2, hl2, hrun2⟩, hsame2⟩ := hf r (log ++ new) m1
    refine ⟨hns2, fun v => (hsc2 v).trans (hsc v), ⟨new ++ new2,
      fun r2 l2 h2 => by rw [hl2 r2 l2 h2, List.append_assoc], fun v rest => ?_⟩, fun r2 l2 h2 hp => ?_⟩
    · rw [List.append_assoc, M.bind_eq, hrun v (new2 ++ rest)]
      exact hrun2 v rest
    · rw [hsame r _ rfl (((hl2 r2 l2 h2) ▸ List.prefix_append _ _).trans hp)]
      exact hsame2 r2 l2 h2 hp

theorem Sim.stepV {c : M γ} (hc : V → SchedNat m.ctx c) {fa fa' : γ → M (α × List SchedItem)}
    {fb : γ → M α} (hf : ∀ r m1, Sim V (fa r m1) (fa' r m1) log sch (fb r) m1) :
    Sim V ((c >>= fa) m) ((c >>= fa') m) log sch (c >>= fb) m := by
  have hs : V → ∀ s, c (setS s m) = ((c m).1, setS s (c m).2) := fun v s => (hc v s m rfl).eq
  have hns := fun v => (hc v [] m rfl).ns
  have hsc : V → (c m).2.sched = m.sched := fun v => congrArg (fun p => p.2.sched) (hs v m.sched)
  rw [M.bind_eq, M.bind_eq]
  generalize c m = rc at hs hns hsc
  obtain ⟨rc, m1⟩ := rc
  cases rc with
  | error e =>
    exact ⟨fun v h => hns v (by cases h; rfl), hsc,
      ⟨[], nofun, fun v rest => by rw [M.bind_eq, hs v]; rfl⟩, nofun⟩
  | ok r =>
    obtain ⟨hns2, hsc2, ⟨new, hl, hrun⟩, hsame⟩ := hf r m1
    exact ⟨hns2, fun v => (hsc2 v).trans (hsc v),
      ⟨new, hl, fun v rest => by rw [M.bind_eq, hs v]; exact hrun v rest⟩, hsame⟩

theorem Sim.step {c : M γ} (hc : SchedNat m.ctx c) {fa fa' : γ → M (α × List SchedItem)}
    {fb : γ → M α} (hf : ∀ r m1, Sim V (fa r m1) (fa' r m1) log sch (fb r) m1) :
    Sim V ((c >>= fa) m) ((c >>= fa') m) log sch (c >>= fb) m :=
  .stepV (fun _ => hc) hf

theorem Sim.congrF {a a' : Except Err (α × List SchedItem) × Mgr} {F F' : M α}
    (h : Sim V a a' log sch F m) (e : ∀ s, F' (setS s m) = F (setS s m)) : Sim V a a' log sch F' m := by
  obtain ⟨new, hl, hrun⟩ := h.real
  exact ⟨h.ns, h.sched, ⟨new, hl, fun v rest => (e _).trans (hrun v rest)⟩, h.same⟩

theorem Sim.last {c : M α} (hc : SchedNat m.ctx c) :
    Sim V ((c >>= fun r => (Pure.pure (r, log) : M (α × List SchedItem))) m)
      ((c >>= fun r => (Pure.pure (r, log) : M (α × List SchedItem))) m) log sch c m :=
  (Sim.step hc fun r m1 => .pure r log sch m1).congrF fun s => by
    rw [M.bind_eq]
    generalize c (setS s m) = rc
    obtain ⟨rc, m1⟩ := rc
    cases rc <;> rfl

/-- `let m ← M.get; …` in the three runs, the continuation using the state only through fields
other than the schedule -/
theorem Sim.get {fa fa' : Mgr → M (α × List SchedItem)} {fb : Mgr → M α}
    (h : Sim V (fa m m) (fa' m m) log sch (fb m) m) (hins : ∀ s, fb (setS s m) = fb m := by intros; rfl) :
    Sim V ((M.get >>= fa) m) ((M.get >>= fa') m) log sch (M.get >>= fb) m := by
  obtain ⟨hns, hsc, ⟨new, hl, hrun⟩, hsame⟩ := h
  refine ⟨hns, hsc, ⟨new, hl, fun v rest => ?_⟩, hsame⟩
  show fb (setS (new ++ rest) m) (setS (new ++ rest) m) = _
  rw [hins]
  exact hrun v rest

theorem Sim.ite (p : Prop) [Decidable p] {a1 a2 a1' a2' : M (α × List SchedItem)} {b1 b2 : M α}
    (h1 : p → Sim V (a1 m) (a1' m) log sch b1 m) (h2 : ¬p → Sim V (a2 m) (a2' m) log sch b2 m) :
    Sim V ((if p then a1 else a2) m) ((if p then a1' else a2') m) log sch (if p then b1 else b2) m := by
  by_cases hp : p
  · rw [if_pos hp, if_pos hp, if_pos hp]; exact h1 hp
  · rw [if_neg hp, if_neg hp, if_neg hp]; exact h2 hp

end

variable {c c' : Choice} {sch : List SchedItem}

theorem lookup_pair {β} (x y : Nat) (hxy : y ≠ x) (a b : β) :
    ([(x, a), (y, b)] : List (Nat × β)).lookup x = some a ∧
    ([(x, a), (y, b)] : List (Nat × β)).lookup y = some b := by
  have : (y == x) = false := by simpa using hxy
  simp [List.lookup, this]

theorem takeSwapOrders_cons (x y : Nat) (hxy : y ≠ x) (ox oy : List Nat) (rest : List SchedItem) (m : Mgr)
    (hpx : isPerm ox (nodesAt m.tbl x) = true) (hpy : isPerm oy (nodesAt m.tbl y) = true) :
    takeSwapOrders x y (setS (SchedItem.swap [(x, ox), (y, oy)] :: rest) m) = (.ok (ox, oy), setS rest m) := by
  show (if isPerm ((([(x, ox), (y, oy)] : List (Nat × List Nat)).lookup x).getD []) (nodesAt m.tbl x) &&
      isPerm ((([(x, ox), (y, oy)] : List (Nat × List Nat)).lookup y).getD []) (nodesAt m.tbl y)
    then (pure ((([(x, ox), (y, oy)] : List (Nat × List Nat)).lookup x).getD [],
      (([(x, ox), (y, oy)] : List (Nat × List Nat)).lookup y).getD []) : M _) else M.throw .sched) (setS rest m) = _
  rw [(lookup_pair x y hxy ox oy).1, (lookup_pair x y hxy ox oy).2, Option.getD_some, Option.getD_some, hpx, hpy]
  rfl

theorem getElem?_of_prefix_snoc {log sch : List SchedItem} {it : SchedItem}
    (h : (log ++ [it]) <+: sch) : sch[log.length]? = some it := by
  obtain ⟨t, rfl⟩ := h
  simp

/-- **one swap**: the orders picked by a valid choice, written as a schedule item, are accepted by
`swap`, which then does what the choice-driven swap does; the item records the two answers -/
theorem swapBodyC_sim (hA : ChoiceAgrees c c' sch) (x y : Nat) (hxy : y ≠ x)
    (log : List SchedItem) (m : Mgr) :
    Sim c.Valid (swapBodyC c x y log m) (swapBodyC c' x y log m) log sch (swapBody x y) m := by
  have key : ∀ c : Choice, swapBodyC c x y log m =
      ((swapWith x y m.len (c.level log.length x (nodesAt m.tbl x))
        (c.level log.length y (nodesAt m.tbl y)) >>= fun r => Pure.pure (r, log ++
          [SchedItem.swap [(x, c.level log.length x (nodesAt m.tbl x)),
            (y, c.level log.length y (nodesAt m.tbl y))]])) m) := fun _ => rfl
  have hp : c.Valid → isPerm (c.level log.length x (nodesAt m.tbl x)) (nodesAt m.tbl x) = true ∧
      isPerm (c.level log.length y (nodesAt m.tbl y)) (nodesAt m.tbl y) = true :=
    fun hc => ⟨isPerm_of_perm (hc.level _ _ _), isPerm_of_perm (hc.level _ _ _)⟩
  have hag := hA.level log.length x y (nodesAt m.tbl x) (nodesAt m.tbl y) hxy
  rw [key c, key c']
  generalize c.level log.length x (nodesAt m.tbl x) = ox at hp hag ⊢
  generalize c.level log.length y (nodesAt m.tbl y) = oy at hp hag ⊢
  have hW := swapWith_nat (b := m.ctx) x y m.len ox oy
  have hF : c.Valid → ∀ rest, swapBody x y (setS (SchedItem.swap [(x, ox), (y, oy)] :: rest) m) =
      ((swapWith x y m.len ox oy m).1, setS rest (swapWith x y m.len ox oy m).2) := fun hc rest => by
    unfold swapBody
    rw [M.bind_ok (M.get_eq _), M.bind_ok (takeSwapOrders_cons x y hxy ox oy rest m (hp hc).1 (hp hc).2)]
    exact (hW rest m rfl).eq
  have hns := (hW [] m rfl).ns
  have hsc : (swapWith x y m.len ox oy m).2.sched = m.sched :=
    congrArg (fun p => p.2.sched) (hW m.sched m rfl).eq
  rw [M.bind_eq]
  generalize hWm : swapWith x y m.len ox oy m = rw at hF hns hsc
  obtain ⟨rw, m1⟩ := rw
  cases rw with
  | error e => exact ⟨fun _ h => hns (by cases h; rfl), fun _ => hsc, ⟨[_], nofun, hF⟩, nofun⟩
  | ok r =>
    refine ⟨fun _ => nofun, fun _ => hsc, ⟨[_], fun _ _ h => by cases h; rfl, hF⟩, fun _ _ h hp => ?_⟩
    cases h
    obtain ⟨e1, e2⟩ := hag (getElem?_of_prefix_snoc hp)
    rw [e1, e2, M.bind_eq, hWm]

theorem swapC_tail (c : Choice) (xa ya : VarOrLevel) (log : List SchedItem) :
    swapC c xa ya log = (resolveVL xa >>= fun x => resolveVL ya >>= fun y =>
      swapTail (fun lo hi => swapBodyC c lo hi log) x y) :=
  rfl

section
variable (hA : ChoiceAgrees c c' sch)
include hA

theorem swapC_sim (xa ya : VarOrLevel) (log : List SchedItem) (m : Mgr) :
    Sim c.Valid (swapC c xa ya log m) (swapC c' xa ya log m) log sch (swap xa ya true) m := by
  rw [swap_given_tail, swapC_tail, swapC_tail]
  refine .step (resolveVL_nat xa) fun x m1 => ?_
  refine .step (resolveVL_nat ya) fun y m2 => ?_
  rcases swapTail_cases m2.nvars x y with h | ⟨i, hi, h⟩
  · rw [h _ m2 rfl, h _ m2 rfl]
    exact (Sim.throw log sch m2).congrF fun s => h _ _ rfl
  · rw [h _ m2 rfl, h _ m2 rfl]
    exact (swapBodyC_sim hA i (i + 1) (by omega) log m2).congrF fun s => h _ _ rfl

theorem swapPublicC_sim (xa ya : VarOrLevel) (log : List SchedItem) (m : Mgr) :
    Sim c.Valid (swapPublicC c xa ya log m) (swapPublicC c' xa ya log m) log sch (swap xa ya false) m := by
  have h : Sim c.Valid (swapPublicC c xa ya log m) (swapPublicC c' xa ya log m) log sch
      (collectGarbage none >>= fun _ => swap xa ya true) m := by
    unfold swapPublicC
    exact .step (collectGarbage_nat none) fun _ m1 => swapC_sim hA xa ya log m1
  exact h.congrF fun s => swap_public_eq xa ya _

theorem shiftLoopC_sim : ∀ (f : Nat) (i e d : Int) (sizes : List (Nat × Nat)) (log : List SchedItem)
    (m : Mgr), Sim c.Valid (shiftLoopC c f i e d sizes log m) (shiftLoopC c' f i e d sizes log m) log sch
      (shiftLoop f i e d sizes) m
  | 0, i, e, d, sizes, log, m => by
    unfold shiftLoopC shiftLoop
    exact .ite _ (fun _ => .pure _ _ _ _) fun _ => .throw _ _ _
  | f+1, i, e, d, sizes, log, m => by
    unfold shiftLoopC shiftLoop
    refine .ite _ (fun _ => .pure _ _ _ _) fun _ => ?_
    refine .bind (swapC_sim hA _ _ log m) ?_
    rintro ⟨oldn, n⟩ log1 m1
    exact shiftLoopC_sim f _ e d _ log1 m1

theorem shiftC_sim (start end_ : Nat) (log : List SchedItem) (m : Mgr) :
    Sim c.Valid (shiftC c start end_ log m) (shiftC c' start end_ log m) log sch (shift start end_) m := by
  unfold shiftC shift
  refine .get ?_
  refine .step (.assert _) fun _ m1 => ?_
  refine .step (.assert _) fun _ m2 => ?_
  exact shiftLoopC_sim hA _ _ _ _ _ log m2

theorem reorderVarC_sim (var : String) (log : List SchedItem) (m : Mgr) :
    Sim c.Valid (reorderVarC c var log m) (reorderVarC c' var log m) log sch (reorderVar var) m := by
  unfold reorderVarC reorderVar
  refine .get ?_
  refine .ite _ (fun _ => .throw _ _ _) fun _ => ?_
  refine .step (.assert _) fun _ m1 => ?_
  refine .step (levelOfVar_nat var) fun level m2 => ?_
  generalize (if 2 * level ≥ m.nvars - 1 then (m.nvars - 1, 0) else (0, m.nvars - 1)) = se
  obtain ⟨start, end_⟩ := se
  refine .bind (shiftC_sim hA level start log m2) fun _ log1 m3 => ?_
  refine .bind (shiftC_sim hA start end_ log1 m3) fun sizes log2 m4 => ?_
  refine .step (.ofOption _) fun k m5 => ?_
  refine .bind (shiftC_sim hA end_ k log2 m5) fun _ log3 m6 => ?_
  refine .get ?_
  refine .step (.assert _) fun _ m7 => ?_
  refine .step (.assert _) fun _ m8 => ?_
  exact .pure _ _ _ _

theorem siftVarsC_sim : ∀ (vars : List String) (log : List SchedItem) (m : Mgr),
    Sim c.Valid (siftVarsC c vars log m) (siftVarsC c' vars log m) log sch (siftVars vars) m
  | [], log, m => .pure _ _ _ _
  | v :: rest, log, m => by
    unfold siftVarsC siftVars
    exact .bind (reorderVarC_sim hA v log m) fun _ log1 m1 => siftVarsC_sim rest log1 m1

end

theorem takeSiftOrder_cons (names : List String) (rest : List SchedItem) (m : Mgr)
    (hp : names.Perm m.tbl.vars.keys) :
    takeSiftOrder (setS (SchedItem.sift names :: rest) m) = (.ok names, setS rest m) := by
  have hc : (names.length == m.tbl.vars.keys.length && names.all (m.tbl.vars.keys.contains ·) &&
      m.tbl.vars.keys.all (names.contains ·)) = true := by
    simp only [Bool.and_eq_true, beq_iff_eq, List.all_eq_true, List.contains_iff_mem]
    exact ⟨⟨hp.length_eq, fun x hx => hp.mem_iff.mp hx⟩, fun x hx => hp.mem_iff.mpr hx⟩
  show (if (names.length == m.tbl.vars.keys.length && names.all (m.tbl.vars.keys.contains ·) &&
      m.tbl.vars.keys.all (names.contains ·)) = true then (pure names : M _) else M.throw .sched) (setS rest m) = _
  rw [if_pos hc]
  rfl

/-- the model's `for var in names`: the order the choice picks is the next item of the schedule
and of the record -/
theorem Sim.sift {α} (hA : ChoiceAgrees c c' sch)
    (K : Choice → List String → List SchedItem → M (α × List SchedItem)) {fb : List String → M α}
    (log : List SchedItem) (m : Mgr)
    (h : ∀ names, Sim c.Valid (K c names (log ++ [SchedItem.sift names]) m)
      (K c' names (log ++ [SchedItem.sift names]) m) (log ++ [SchedItem.sift names]) sch (fb names) m) :
    Sim c.Valid
      (K c (c.names log.length m.tbl.vars.keys) (log ++ [.sift (c.names log.length m.tbl.vars.keys)]) m)
      (K c' (c'.names log.length m.tbl.vars.keys) (log ++ [.sift (c'.names log.length m.tbl.vars.keys)]) m)
      log sch (takeSiftOrder >>= fb) m := by
  have hp : c.Valid → _ := fun hc => hc.names log.length m.tbl.vars.keys
  have hag := hA.names log.length m.tbl.vars.keys
  generalize c.names log.length m.tbl.vars.keys = names at hp hag
  obtain ⟨hns, hsc, ⟨new, hl, hrun⟩, hsame⟩ := h names
  refine ⟨hns, hsc, ⟨SchedItem.sift names :: new, fun r l' h' => by rw [hl r l' h', List.append_assoc]; rfl,
    fun hc rest => ?_⟩, fun r l' h' hp' => ?_⟩
  · rw [List.cons_append, M.bind_ok (takeSiftOrder_cons names _ m (hp hc))]
    exact hrun hc rest
  · rw [hag (getElem?_of_prefix_snoc (((hl r l' h') ▸ List.prefix_append _ _).trans hp'))]
    exact hsame r l' h' hp'

section
variable (hA : ChoiceAgrees c c' sch)
include hA

theorem applySiftingC_sim (log : List SchedItem) (m : Mgr) :
    Sim c.Valid (applySiftingC c log m) (applySiftingC c' log m) log sch applySifting m := by
  unfold applySiftingC applySifting
  refine .step (collectGarbage_nat none) fun _ m1 => ?_
  refine .get ?_
  refine Sim.sift hA (fun c names log1 =>
    if names.isEmpty then M.throw .other else
      siftVarsC c names log1 >>= fun p => M.get >>= fun m' =>
        M.assert (m'.len ≤ m1.len) >>= fun _ => Pure.pure ((), p.2)) log m1 fun names => ?_
  refine .ite _ (fun _ => .throw _ _ _) fun _ => ?_
  refine .bind (siftVarsC_sim hA names _ m1) fun _ log1 m2 => ?_
  refine .get ?_
  exact .last (.assert _)

theorem sortStepC_sim (order : List (String × Int)) (i : Nat) (log : List SchedItem) (m : Mgr) :
    Sim c.Valid (sortStepC c order i log m) (sortStepC c' order i log m) log sch (sortStep order i) m := by
  unfold sortStepC sortStep
  refine .step checkRoots_nat fun _ m1 => ?_
  refine .step (varAtLevel_nat _) fun x m2 => ?_
  refine .step (varAtLevel_nat _) fun y m3 => ?_
  refine .step (.ofOption _) fun p m4 => ?_
  refine .step (.ofOption _) fun q m5 => ?_
  refine .ite _ (fun _ => ?_) fun _ => .pure _ _ _ _
  exact .bind (swapC_sim hA _ _ log m5) fun _ log1 m6 => .pure _ _ _ _

theorem sortInnerC_sim (order : List (String × Int)) : ∀ (l : List Nat) (log : List SchedItem) (m : Mgr),
    Sim c.Valid (sortInnerC c order l log m) (sortInnerC c' order l log m) log sch (sortInner order l) m
  | [], log, m => .pure _ _ _ _
  | i :: rest, log, m => by
    unfold sortInnerC sortInner
    exact .bind (sortStepC_sim hA order i log m) fun _ log1 m1 => sortInnerC_sim order rest log1 m1

theorem sortOuterC_sim (order : List (String × Int)) (n : Nat) :
    ∀ (k : Nat) (log : List SchedItem) (m : Mgr),
      Sim c.Valid (sortOuterC c order n k log m) (sortOuterC c' order n k log m) log sch (sortOuter order n k) m
  | 0, log, m => .pure _ _ _ _
  | k+1, log, m => by
    unfold sortOuterC sortOuter
    exact .bind (sortInnerC_sim hA order _ log m) fun _ log1 m1 => sortOuterC_sim order n k log1 m1

theorem sortToOrderC_sim (order : List (String × Int)) (log : List SchedItem) (m : Mgr) :
    Sim c.Valid (sortToOrderC c order log m) (sortToOrderC c' order log m) log sch (sortToOrder order) m := by
  unfold sortToOrderC sortToOrder
  refine .get ?_
  exact .ite _ (fun _ => .throw _ _ _) fun _ => sortOuterC_sim hA order _ _ log m

theorem reorderC_sim (order : Option (List (String × Int))) (log : List SchedItem) (m : Mgr) :
    Sim c.Valid (reorderC c order log m) (reorderC c' order log m) log sch (reorder order) m := by
  cases order with
  | none => exact applySiftingC_sim hA log m
  | some o => exact sortToOrderC_sim hA o log m

theorem pairStepC_sim (x y : String) (log : List SchedItem) (m : Mgr) :
    Sim c.Valid (pairStepC c x y log m) (pairStepC c' x y log m) log sch (pairStep x y) m := by
  unfold pairStepC pairStep
  refine .step (levelOfVar_nat x) fun jx m1 => ?_
  refine .step (levelOfVar_nat y) fun jy m2 => ?_
  refine .step (.assert _) fun _ m3 => ?_
  refine .ite _ (fun _ => ?_) fun _ => .pure _ _ _ _
  generalize (if jx > jy then (jy, jx) else (jx, jy)) = se
  obtain ⟨a, b⟩ := se
  exact .bind (shiftC_sim hA a (b - 1) log m3) fun _ log1 m4 => .pure _ _ _ _

theorem reorderToPairsC_sim : ∀ (pairs : List (String × String)) (log : List SchedItem) (m : Mgr),
    Sim c.Valid (reorderToPairsC c pairs log m) (reorderToPairsC c' pairs log m) log sch (reorderToPairs pairs) m
  | [], log, m => .pure _ _ _ _
  | (x, y) :: rest, log, m => by
    unfold reorderToPairsC reorderToPairs
    exact .bind (pairStepC_sim hA x y log m) fun _ log1 m1 => reorderToPairsC_sim rest log1 m1

end

/-- what acceptance says of a scheduled function `F` and its choice-driven version `FC` in `m`:
there is a schedule — the record, if `FC` returned — with which `F` does what `FC` does, which it
consumes exactly, and with which it does not answer `.sched` -/
def AcceptsF {α} (FC : M (α × List SchedItem)) (F : M α) (m : Mgr) : Prop :=
  ∃ sch, (∀ r log', (FC m).1 = .ok (r, log') → log' = sch) ∧
    (∀ rest, F (setS (sch ++ rest) m) = (dropLog (FC m).1, setS rest (FC m).2)) ∧
    ∀ rest, (F (setS (sch ++ rest) m)).1 ≠ .error .sched

theorem Sim.acceptsF {α} {FC : M (α × List SchedItem)} {F : M α} {m : Mgr}
    {V : Prop} {a' : Except Err (α × List SchedItem) × Mgr} {sch : List SchedItem}
    (h : Sim V (FC m) a' [] sch F m) (v : V) : AcceptsF FC F m := by
  obtain ⟨hn, _, ⟨new, hl, hrun⟩, _⟩ := h
  replace hn := hn v; replace hrun := hrun v
  refine ⟨new, fun r l' h => by rw [hl r l' h, List.nil_append], hrun, fun rest => ?_⟩
  rw [hrun rest]
  generalize (FC m).1 = a at hn
  cases a with
  | ok p => exact nofun
  | error e => exact fun h => hn (by cases h; rfl)

/-- acceptance read at the record: a record logged by the choice-driven run IS the schedule -/
theorem AcceptsF.of_log {α} {FC : M (α × List SchedItem)} {F : M α} {m : Mgr}
    (h : AcceptsF FC F m) {sch : List SchedItem} (hl : logOf (FC m).1 = some sch) :
    (∀ rest, F (setS (sch ++ rest) m) = (dropLog (FC m).1, setS rest (FC m).2)) ∧
    ∀ rest, (F (setS (sch ++ rest) m)).1 ≠ .error .sched := by
  obtain ⟨sch', hrec, hrun, hns⟩ := h
  obtain rfl : sch = sch' := by
    generalize (FC m).1 = a at hl hrec
    rcases a with e | ⟨r, log'⟩
    · cases hl
    · cases hl
      exact hrec r _ rfl
  exact ⟨hrun, hns⟩

/-- a step that reads the state outside the schedule, does not change it, and does not answer
`.sched` -/
structure Rd {γ} (c : M γ) : Prop where
  sn : SN c
  read : ∀ m, (c m).2 = m
  ne : ∀ m e, (c m).1 = .error e → e ≠ .sched

theorem Rd.assert (b : Bool) (e : Err) (he : e ≠ .sched) : Rd (M.assert b e) :=
  ⟨SN.assert b e, fun m => by cases b <;> rfl, fun m e' h => by cases b <;> cases h; exact he⟩

/-- **acceptance for one swap**: the orders picked by a valid choice, written as a schedule item,
are accepted by `swap`, which then does what the choice-driven swap does -/
theorem swapBodyC_acc (ext : Nat → Nat) (c : Choice) (hc : c.Valid) (m : Mgr) (h : ReorderInv ext m)
    (x : Nat) (hx : x + 1 < m.nvars) (log : List SchedItem) :
    AccC ext (swapBodyC c x (x + 1) log m) log (swapBody x (x + 1)) m :=
  (swapBodyC_sim (.refl c []) x (x + 1) (by omega) log m).accC hc
    fun s => swapBody_keepS ext _ (h.setSched s) x hx

/-- **`reorder(bdd)` / `reorder(bdd, order)`** under a valid choice is realised by the scheduled model -/
theorem reorderC_acc (ext : Nat → Nat) (c : Choice) (hc : c.Valid)
    (order : Option (List (String × Int))) (log : List SchedItem) (m : Mgr) (h : ReorderInv ext m) :
    AccC ext (reorderC c order log m) log (reorder order) m :=
  (reorderC_sim (.refl c []) order log m).accC hc fun s => reorder_keepS ext _ (h.setSched s) order

theorem reorderToPairsC_acc (ext : Nat → Nat) (c : Choice) (hc : c.Valid) :
    ∀ (pairs : List (String × String)) (log : List SchedItem) (m : Mgr), ReorderInv ext m →
      AccC ext (reorderToPairsC c pairs log m) log (reorderToPairs pairs) m :=
  fun pairs log m h => (reorderToPairsC_sim (.refl c []) pairs log m).accC hc
    fun s => reorderToPairs_keepS ext _ pairs _ (h.setSched s) (.refl ext _)

theorem swapPublicC_acc (ext : Nat → Nat) (c : Choice) (hc : c.Valid) (m : Mgr) (h : ReorderInv ext m)
    (xa ya : VarOrLevel) (log : List SchedItem) :
    AccC ext (swapPublicC c xa ya log m) log (swap xa ya false) m :=
  (swapPublicC_sim (.refl c []) xa ya log m).accC hc
    fun s => swap_public_keepS ext _ (h.setSched s) xa ya

/-- an accepted run that returned: the schedule it recorded makes the scheduled function return
the same value in the same state, consuming exactly that schedule -/
theorem AccC.ok_run {α} {ext : Nat → Nat} {r : α} {log log' : List SchedItem} {m m' : Mgr} {F : M α}
    (h : AccC ext (.ok (r, log'), m') log F m) :
    ∃ new, log' = log ++ new ∧ ReorderInv ext m' ∧ m'.sched = m.sched ∧
      ∀ rest, F (setS (new ++ rest) m) = (.ok r, setS rest m') := h

/-- … from the empty record: the record itself is the schedule -/
theorem AccC.realises {α} {ext : Nat → Nat} {r : α} {sch : List SchedItem} {m m' : Mgr} {F : M α}
    (h : AccC ext (.ok (r, sch), m') [] F m) :
    ReorderInv ext m' ∧ ∀ rest, F (setS (sch ++ rest) m) = (.ok r, setS rest m') := by
  obtain ⟨new, hl, hR, _, hacc⟩ := h.ok_run
  obtain rfl : sch = new := by rw [hl]; rfl
  exact ⟨hR, hacc⟩

/-- an accepted run never ends in the model's own schedule error: for some schedule the scheduled
function ends with the same exception of the code -/
theorem AccC.err_run {α} {ext : Nat → Nat} {e : Err} {log : List SchedItem} {m m' : Mgr} {F : M α}
    (h : AccC ext ((.error e : Except Err (α × List SchedItem)), m') log F m) :
    e ≠ .sched ∧ ∃ new, ∀ rest, (F (setS (new ++ rest) m)).1 = .error e := h

/-- **sifting is total under every valid choice**, and the scheduled model realises it: for every
valid choice `c` of iteration orders there is a schedule `sch` — the record of the orders `c`
picked — such that the scheduled `_apply_sifting` started with `sch` (followed by anything)
returns, in the state the choice-driven run ended in, with `sch` consumed exactly -/
theorem applySiftingC_total (ext : Nat → Nat) (c : Choice) (hc : c.Valid) (m : Mgr)
    (h : ReorderInv ext m) (h2 : 2 ≤ m.nvars) (log : List SchedItem) :
    ∃ sch m', applySiftingC c log m = (.ok ((), log ++ sch), m') ∧
      (ReorderInv ext m' ∧ NoGarbage m') ∧ ReorderRel ext m m' ∧
      ∀ rest, applySifting (setS (sch ++ rest) m) = (.ok (), setS rest m') := by
  obtain ⟨hns, hsc, ⟨new, hl, hrun⟩, _⟩ := applySiftingC_sim (.refl c []) log m
  replace hns := hns hc; replace hsc := hsc hc; replace hrun := hrun hc
  -- the scheduled run with what is left of the schedule at the end put behind `new`
  have hN := applySifting_never_raises ext (setS (new ++ (applySiftingC c log m).2.sched) m)
    (h.setSched _) h2
  rw [hrun] at hN
  generalize applySiftingC c log m = a at hns hsc hl hrun hN
  obtain ⟨ra, m'⟩ := a
  cases ra with
  | error e => exact absurd (show e = Err.sched from hN) fun he => hns (by rw [he])
  | ok p =>
    obtain ⟨⟨⟩, log'⟩ := p
    obtain rfl := hl () log' rfl
    exact ⟨new, m', rfl, hN.1, ⟨hN.2.held, hN.2.names, hN.2.nvars, hN.2.roots, hN.2.ctx, hN.2.lastLen,
      fun h0 => by rw [hsc, h0]⟩, hrun⟩

/-- acceptance read off the record alone: if the choice-driven run (from the empty record) logged
`sch`, then `reorder` started with `sch` returns in the state that run ended in, `sch` consumed -/
theorem reorder_of_log (c : Choice) (hc : c.Valid) (m : Mgr)
    (order : Option (List (String × Int))) (sch : List SchedItem)
    (hlog : logOf (reorderC c order [] m).1 = some sch) :
    reorder order (setS sch m) = (.ok (), setS [] (reorderC c order [] m).2) := by
  have h := (((reorderC_sim (.refl c []) order [] m).acceptsF hc).of_log hlog).1 []
  rw [List.append_nil] at h
  rw [h]
  generalize (reorderC c order [] m).1 = a at hlog
  rcases a with e | ⟨⟨⟩, l⟩
  · cases hlog
  · rfl

/-- what is read off a state that is `m'` with the schedule consumed.  Stated with variables: at a
concrete `m'` the same steps by `rfl` make the kernel compare `[]` with `m'.sched`, i.e. run `m'`. -/
theorem setS_nil_reads {x m' : Mgr} (h : x = setS [] m') : x.sched = [] ∧ x.tbl = m'.tbl := by
  subst h; exact ⟨rfl, rfl⟩

end DD
