/-
  DDProofs.SchedAcceptAuto — ACCEPTANCE of recorded schedules by the autoref layer (C08).

  A method of `autoref.BDD` / `Function` that may reorder is: reads of the handle registry (which
  neither touch nor look at the recorded schedule: `ASN`), ONE decorated call of the wrapped
  manager, and the wrapping of its result in a new `Function` (`ASN` again).  So the acceptance of
  the decorated call (DDProofs.SchedAcceptOps / SchedNaturalMore) lifts: for every valid choice of
  iteration orders there is a schedule — the record of the choice-driven method (DD.AutoChoice) —
  with which the method does what the choice-driven one does, which it consumes exactly, and with
  which it does not answer `MODEL-SCHEDULE-MISMATCH`.
-/
import DD.AutoChoice
import DDProofs.SchedNaturalMore
import DDProofs.AutoProofs
import DD.ApiAuto
open Std

namespace DD

def setSA (s : List SchedItem) (a : AMgr) : AMgr := { a with m := setS s a.m }

/-- natural in the recorded schedule, and never the model's schedule error -/
def ASN {α} (x : AM α) : Prop :=
  ∀ s a, x (setSA s a) = ((x a).1, setSA s (x a).2) ∧ (x a).1 ≠ .error .sched

theorem ASN.pure {α} (v : α) : ASN (Pure.pure v : AM α) := fun _ _ => ⟨rfl, fun h => by cases h⟩

theorem ASN.throw {α} (e : Err) (he : e ≠ .sched) : ASN (AM.throw e : AM α) :=
  fun _ _ => ⟨rfl, fun h => he (by cases h; rfl)⟩

theorem ASN.bind {α β} {x : AM α} {f : α → AM β} (hx : ASN x) (hf : ∀ v, ASN (f v)) : ASN (x >>= f) := by
  intro s a
  obtain ⟨h1, h2⟩ := hx s a
  rw [AM.bind_eq, AM.bind_eq, h1]
  generalize x a = r at h2
  obtain ⟨r, a1⟩ := r
  cases r with
  | error e => exact ⟨rfl, fun h' => h2 (by cases h'; rfl)⟩
  | ok v => exact hf v s a1

theorem ASN.check (b : Bool) (e : Err) (he : e ≠ .sched) : ASN (AM.check b e) := by
  cases b with
  | true => exact ASN.pure ()
  | false => exact ASN.throw e he

theorem ASN.liftM {α} {x : M α} (hs : SN x) (hn : NS x) : ASN (AM.liftM x) := by
  intro s a
  show ((x (setS s a.m)).1, { setSA s a with m := (x (setS s a.m)).2 }) = _ ∧ _
  rw [hs s a.m]
  exact ⟨rfl, hn a.m⟩

theorem ASN.liftE {α} (x : Mgr → Except Err α) (hx : ∀ s m, x (setS s m) = x m)
    (hn : ∀ m, x m ≠ .error .sched) : ASN (AM.liftE x) := by
  intro s a
  show (x (setS s a.m), setSA s a) = _ ∧ _
  rw [hx]
  exact ⟨rfl, hn a.m⟩

theorem ASN.onErr {α} {x : AM α} {cl : AM Unit} (hx : ASN x) (hc : ASN cl) : ASN (AM.onErr x cl) := by
  intro s a
  obtain ⟨h1, h2⟩ := hx s a
  show (match x (setSA s a) with
    | (.ok v, a') => ((Except.ok v : Except Err α), a')
    | (.error e, a') => (.error e, (cl a').2)) = _ ∧ _
  rw [h1]
  show _ = ((AM.onErr x cl a).1, setSA s (AM.onErr x cl a).2) ∧ (AM.onErr x cl a).1 ≠ _
  unfold AM.onErr
  generalize x a = r at h2
  obtain ⟨r, a1⟩ := r
  cases r with
  | ok v => exact ⟨rfl, fun h => by cases h⟩
  | error e =>
    simp only
    rw [(hc s a1).1]
    exact ⟨rfl, fun h' => h2 (by cases h'; rfl)⟩

theorem wrapF_asn (h : Nat) (u : Int) : ASN (wrapF h u) := by
  intro s a
  unfold wrapF
  have hm : (setSA s a).m.mem u = a.m.mem u := rfl
  cases hmu : a.m.mem u with
  | false =>
    simp only [hm, hmu, Bool.not_false, if_true]
    exact ⟨trivial, fun h => by cases h⟩
  | true =>
    simp only [hm, hmu, Bool.not_true, Bool.false_eq_true, if_false]
    show (match incref u (setS s a.m) with
      | (.ok _, m') => ((Except.ok () : Except Err Unit), { setSA s a with m := m', handles := a.handles.insert h u })
      | (.error e, m') => (.error e, { setSA s a with m := m' })) = _ ∧ _
    rw [incref_sn u s a.m]
    have hn := incref_ns u a.m
    generalize incref u a.m = r at hn
    obtain ⟨r, m1⟩ := r
    cases r with
    | ok _ => exact ⟨rfl, fun h => by cases h⟩
    | error e => exact ⟨rfl, fun h' => hn (by cases h'; rfl)⟩

theorem wrap_asn (h : Nat) (u : Int) : ASN (wrap h u) := wrapF_eq_wrap h u ▸ wrapF_asn h u

theorem drop_asn (h : Nat) : ASN (drop h) := by
  intro s a
  unfold drop
  show (match a.handles[h]? with
    | none => ((Except.error Err.other : Except Err Unit), setSA s a)
    | some u => (.ok (), { setSA s a with m := (decref u (setS s a.m)).2, handles := a.handles.erase h })) = _ ∧ _
  cases a.handles[h]? with
  | none => exact ⟨rfl, fun h => by cases h⟩
  | some u =>
    simp only
    rw [decref_sn u s a.m]
    exact ⟨rfl, fun h => by cases h⟩

theorem ASN.of_read {α} {x : AM α} (hr : ARead x) (hs : ∀ s a, (x (setSA s a)).1 = (x a).1)
    (hn : ∀ a, (x a).1 ≠ .error .sched) : ASN x := fun s a =>
  ⟨Prod.ext (hs s a) ((hr _).trans (congrArg (setSA s) (hr a).symm)), hn a⟩

theorem nodeAny_asn (h : Nat) : ASN (nodeAny h) :=
  .of_read (nodeAny_read h) (fun s a => by rw [nodeAny_run, nodeAny_run]; rfl) fun a => by
    rw [nodeAny_run]
    cases a.handles[h]? <;> cases a.foreign[h]? <;> exact fun h => nomatch h

theorem nodeOwn_asn (h : Nat) : ASN (nodeOwn h) :=
  .of_read (nodeOwn_read h) (fun s a => by rw [nodeOwn_run, nodeOwn_run]; rfl) fun a => by
    rw [nodeOwn_run]
    cases a.handles[h]? <;> exact fun h => nomatch h

theorem nodeSame_asn (h : Nat) : ASN (nodeSame h) :=
  .of_read (nodeSame_read h) (fun s a => by rw [nodeSame_run, nodeSame_run]; rfl) fun a => by
    rw [nodeSame_run]
    cases a.handles[h]? <;> cases a.foreign[h]? <;> exact fun h => nomatch h

theorem nodeIn_asn (h : Nat) : ASN (nodeIn h) :=
  .of_read (nodeIn_read h) (fun s a => by rw [nodeIn_run, nodeIn_run]; rfl) fun a => by
    rw [nodeIn_run]
    cases a.handles[h]? with
    | none => cases a.foreign[h]? <;> exact fun h => nomatch h
    | some u =>
      show (if a.m.mem u then Except.ok u else Except.error Err.value) ≠ _
      split <;> exact fun h => nomatch h

theorem optNode_asn {f : Nat → AM Int} (hf : ∀ h, ASN (f h)) : ∀ o, ASN (optNode f o)
  | none => ASN.pure none
  | some h => by
    unfold optNode
    exact ASN.bind (hf h) (fun u => ASN.pure (some u))

theorem nodesAny_asn : ∀ l, ASN (nodesAny l)
  | [] => ASN.pure []
  | (k, hv) :: rest => by
    unfold nodesAny
    exact ASN.bind (nodeAny_asn hv) (fun v => ASN.bind (nodesAny_asn rest) (fun r => ASN.pure _))

theorem aLetArgs_asn : ∀ d, ASN (aLetArgs d)
  | .bools d => ASN.pure _
  | .names d => ASN.pure _
  | .funs d => by
    unfold aLetArgs
    exact ASN.bind (nodesAny_asn d) (fun l => ASN.pure _)

/-- acceptance for a method `X` of the autoref layer and its choice-driven version `XC` -/
def AAccepts {α} (XC : AM (α × List SchedItem)) (X : AM α) (a : AMgr) : Prop :=
  ∃ sch, (∀ r log', (XC a).1 = .ok (r, log') → log' = sch) ∧
    (∀ rest, X (setSA (sch ++ rest) a) = (dropLog (XC a).1, setSA rest (XC a).2)) ∧
    ∀ rest, (X (setSA (sch ++ rest) a)).1 ≠ .error .sched

/-- acceptance read at the outcome of the choice-driven method: when it returns `r` with the record
`lg`, the method consumes `lg` and returns `r`; when it raises `e`, that is not the model's schedule
error, and with some schedule the method consumes it and raises `e` -/
theorem AAccepts.iff_outcome {α} {XC : AM (α × List SchedItem)} {X : AM α} {a : AMgr} :
    AAccepts XC X a ↔ match XC a with
      | (.ok (r, lg), a1) => ∀ rest, X (setSA (lg ++ rest) a) = (.ok r, setSA rest a1)
      | (.error e, a1) => e ≠ .sched ∧
          ∃ sch, ∀ rest, X (setSA (sch ++ rest) a) = (.error e, setSA rest a1) := by
  unfold AAccepts
  generalize XC a = rc
  obtain ⟨rc, a1⟩ := rc
  cases rc with
  | ok p =>
    obtain ⟨r, lg⟩ := p
    exact ⟨fun ⟨sch, h1, h2, _⟩ rest => h1 r lg rfl ▸ h2 rest,
      fun h => ⟨lg, fun _ _ e => by cases e; rfl, h, fun rest e => by rw [h rest] at e; cases e⟩⟩
  | error e =>
    exact ⟨fun ⟨sch, _, h2, h3⟩ => ⟨fun he => h3 [] (by rw [h2 [], he]; rfl), sch, h2⟩,
      fun ⟨he, sch, h2⟩ => ⟨sch, (fun _ _ e => by cases e), h2,
        fun rest e' => he (by rw [h2 rest] at e'; cases e'; rfl)⟩⟩

theorem AAccepts.liftM {α} {FC : M (α × List SchedItem)} {F : M α} {a : AMgr}
    (h : AcceptsF FC F a.m) : AAccepts (AM.liftM FC) (AM.liftM F) a := by
  obtain ⟨sch, h1, h2, h3⟩ := h
  refine ⟨sch, fun r log' hh => h1 r log' hh, fun rest => ?_, fun rest => h3 rest⟩
  show ((F (setS (sch ++ rest) a.m)).1, { setSA (sch ++ rest) a with m := (F (setS (sch ++ rest) a.m)).2 }) = _
  rw [h2 rest]
  rfl

theorem AAccepts.pre {γ α} {p : AM γ} (hp : ASN p) {KC : γ → AM (α × List SchedItem)}
    {K : γ → AM α} {a : AMgr}
    (hK : ∀ r a1, p a = (.ok r, a1) → AAccepts (KC r) (K r) a1) :
    AAccepts (p >>= KC) (p >>= K) a := by
  have hn := (hp [] a).2
  cases hpa : p a with
  | mk r a1 =>
    have hs : ∀ s, p (setSA s a) = (r, setSA s a1) := fun s => by rw [(hp s a).1, hpa]
    rw [hpa] at hn
    rw [AAccepts.iff_outcome, AM.bind_eq, hpa]
    cases r with
    | error e => exact ⟨fun he => hn (by rw [he]), [], fun rest => by rw [AM.bind_eq, hs]; rfl⟩
    | ok v =>
      simp only [AM.bind_eq, hs]
      exact AAccepts.iff_outcome.mp (hK v a1 hpa)

theorem AAccepts.post {α β} {XC : AM (α × List SchedItem)} {X : AM α} {a : AMgr}
    (h : AAccepts XC X a) {q : α → AM β} (hq : ∀ v, ASN (q v)) :
    AAccepts (XC >>= fun p => q p.1 >>= fun b => Pure.pure (b, p.2)) (X >>= q) a := by
  rw [AAccepts.iff_outcome] at h ⊢
  rw [AM.bind_eq]
  generalize XC a = rc at h ⊢
  obtain ⟨rc, a1⟩ := rc
  cases rc with
  | error e => exact ⟨h.1, h.2.imp fun sch h2 rest => by rw [AM.bind_eq, h2 rest]⟩
  | ok p =>
    obtain ⟨v, lg⟩ := p
    have h : ∀ rest, X (setSA (lg ++ rest) a) = (.ok v, setSA rest a1) := h
    cases hqa : q v a1 with
    | mk rq a2 =>
      have hs : ∀ s, q v (setSA s a1) = (rq, setSA s a2) := fun s => by rw [(hq v s a1).1, hqa]
      have hn := (hq v [] a1).2
      rw [hqa] at hn
      have hX : ∀ rest, (X >>= q) (setSA (lg ++ rest) a) = (rq, setSA rest a2) := fun rest => by
        rw [AM.bind_eq, h rest]; exact hs rest
      cases rq with
      | error e =>
        simp only [AM.bind_eq, hqa]
        exact ⟨fun he => hn (by rw [he]), lg, hX⟩
      | ok b =>
        simp only [AM.bind_eq, hqa]
        exact hX

theorem AAccepts.congr {α} {XC XC' : AM (α × List SchedItem)} {X X' : AM α} {a : AMgr}
    (h : AAccepts XC X a) (h1 : XC' a = XC a) (h2 : ∀ s, X' (setSA s a) = X (setSA s a)) :
    AAccepts XC' X' a := by
  rw [AAccepts.iff_outcome] at h ⊢
  simp only [h1, h2]
  exact h

theorem liftWrapC_eq (w : Int → AM Unit) (FC : M (Int × List SchedItem)) (a : AMgr) :
    (AM.liftM FC >>= fun p => w p.1 >>= fun _ => (Pure.pure p : AM (Int × List SchedItem))) a =
    (AM.liftM FC >>= fun p => (w p.1 >>= fun _ => (Pure.pure p.1 : AM Int)) >>=
      fun b => (Pure.pure (b, p.2) : AM (Int × List SchedItem))) a := by
  rw [AM.bind_eq, AM.bind_eq]
  generalize AM.liftM FC a = r
  obtain ⟨r, a1⟩ := r
  cases r with
  | error e => rfl
  | ok p =>
    simp only
    rw [AM.bind_eq, AM.bind_eq, AM.bind_eq]
    generalize w p.1 a1 = rw
    obtain ⟨rw, a2⟩ := rw
    cases rw <;> rfl

/-- one decorated call of the wrapped manager, then a step `w` on its result (the new
`Function`) that does not look at the schedule -/
theorem liftWrap_accepts {FC : M (Int × List SchedItem)} {F : M Int} {a : AMgr} (w : Int → AM Unit)
    (hw : ∀ r, ASN (w r)) (hA : AcceptsF FC F a.m) :
    AAccepts (AM.liftM FC >>= fun p => w p.1 >>= fun _ => (Pure.pure p : AM (Int × List SchedItem)))
      (AM.liftM F >>= fun r => w r >>= fun _ => (Pure.pure r : AM Int)) a :=
  ((AAccepts.liftM hA).post (q := fun r => w r >>= fun _ => Pure.pure r)
    (fun r => ASN.bind (hw r) (fun _ => ASN.pure r))).congr (liftWrapC_eq w FC a) (fun _ => rfl)

/-- `r = self._bdd.<op>(...); return self._wrap(r)` -/
theorem wrapResult_accepts {FC : M (Int × List SchedItem)} {F : M Int} {a : AMgr} (h : Nat)
    (hA : AcceptsF FC F a.m) : AAccepts (wrapResultC h FC) (wrapResult h F) a :=
  liftWrap_accepts (wrap h) (wrap_asn h) hA

theorem AAccepts.pre_read {γ α} {p : AM γ} (hp : ASN p) (hr : ARead p)
    {KC : γ → AM (α × List SchedItem)} {K : γ → AM α} {a : AMgr}
    (hK : ∀ r, p a = (.ok r, a) → AAccepts (KC r) (K r) a) :
    AAccepts (p >>= KC) (p >>= K) a := by
  refine AAccepts.pre hp (fun r a1 h => ?_)
  have : a1 = a := by have := hr a; rw [h] at this; exact this
  subst this
  exact hK r h

theorem AAccepts.ret {α} (v : α) (a : AMgr) :
    AAccepts (Pure.pure (v, []) : AM (α × List SchedItem)) (Pure.pure v : AM α) a :=
  AAccepts.iff_outcome.mpr fun _ => rfl

/-- a method that never looks at the schedule accepts every choice, with the empty record -/
theorem AAccepts.of_asn {α} {x : AM α} (hx : ASN x) (a : AMgr) :
    AAccepts (x >>= fun r => (Pure.pure (r, []) : AM (α × List SchedItem))) x a := by
  have hn := (hx [] a).2
  have hs : ∀ rest, x (setSA ([] ++ rest) a) = ((x a).1, setSA rest (x a).2) := fun rest => (hx rest a).1
  rw [AAccepts.iff_outcome, AM.bind_eq]
  generalize x a = rx at hn hs
  obtain ⟨rx, a1⟩ := rx
  cases rx with
  | error e => exact ⟨fun he => hn (by rw [he]), [], hs⟩
  | ok v => exact hs

theorem AAccepts.err {α} (e : Err) (he : e ≠ .sched) {XC : AM (α × List SchedItem)} {X : AM α} {a : AMgr}
    (h1 : XC a = (.error e, a)) (h2 : ∀ s, X (setSA s a) = (.error e, setSA s a)) : AAccepts XC X a := by
  rw [AAccepts.iff_outcome, h1]
  exact ⟨he, [], fun rest => h2 rest⟩

theorem AAccepts.finally' {α} {XC : AM (α × List SchedItem)} {X : AM α} {a : AMgr}
    (h : AAccepts XC X a) {cl : AM Unit} (hc : ASN cl) :
    AAccepts (AM.finally' XC cl) (AM.finally' X cl) a := by
  rw [AAccepts.iff_outcome] at h ⊢
  simp only [AM.finally_eq]
  generalize XC a = rc at h ⊢
  obtain ⟨rc, a1⟩ := rc
  cases rc with
  | error e => exact ⟨h.1, h.2.imp fun sch h2 rest => by rw [h2 rest, (hc rest a1).1]⟩
  | ok p => exact fun rest => by rw [h rest, (hc rest a1).1]

theorem AInv.dynInvS_of_two {a : AMgr} (hi : AInv false a) (h2 : Two false a) : DynInvS (hext a) a.m :=
  ⟨hi.minv.inv, hi.minv.order, hi.minv.counts, hi.minv.ctx,
    (fun r hr => by rw [hi.minv.roots] at hr; cases hr), h2 rfl⟩

section methods
variable (ext : Nat → Nat) (c : Choice) (hc : c.Valid) (a : AMgr) (hD : DynInvS ext a.m) (h : Nat)
include hc

theorem aVar_accepts (name : String) :
    AAccepts (wrapResultC h (tryToReorderC c (varBody name) [])) (aVar name h) a :=
  wrapResult_accepts h (acceptsC_of_snk hc (varBody_nat name) a.m)

theorem aIte_accepts (hg hu hv : Nat) : AAccepts (aIteC c hg hu hv h) (aIte hg hu hv h) a := by
  unfold aIteC aIte
  refine AAccepts.pre_read (nodeIn_asn hg) (nodeIn_read hg) (fun g _ => ?_)
  refine AAccepts.pre_read (nodeIn_asn hu) (nodeIn_read hu) (fun u _ => ?_)
  refine AAccepts.pre_read (nodeIn_asn hv) (nodeIn_read hv) (fun v _ => ?_)
  exact wrapResult_accepts h (acceptsC_of_snk hc (iteRaw_nat g u v) a.m)

theorem aQuantify_accepts (hu : Nat) (qvars : List Key) (fa : Bool) :
    AAccepts (aQuantifyC c hu qvars fa h) (aQuantify hu qvars fa h) a := by
  unfold aQuantifyC aQuantify
  refine AAccepts.pre_read (nodeIn_asn hu) (nodeIn_read hu) (fun u _ => ?_)
  exact wrapResult_accepts h (acceptsC_of_snk hc (quantifyBody_snk u qvars fa) a.m)

theorem aCube_accepts (dvars : List (String × Bool)) :
    AAccepts (wrapResultC h (tryToReorderC c (cubeBody dvars) [])) (aCube dvars h) a := by
  unfold aCube
  rw [cube_eq]
  exact wrapResult_accepts h (acceptsC_of_snk hc (cubeBody_snk dvars) a.m)

theorem aAddExpr_accepts (e : String) :
    AAccepts (wrapResultC h (tryToReorderC c (addExprToks (tokenize e)) [])) (aAddExpr e h) a :=
  wrapResult_accepts h (acceptsC_of_snk hc (addExprToks_snk _) a.m)

theorem aLet_accepts (d : ALetArg) (hu : Nat) : AAccepts (aLetC c d hu h) (aLet d hu h) a := by
  unfold aLetC aLet
  refine AAccepts.pre_read (nodeIn_asn hu) (nodeIn_read hu) (fun u _ => ?_)
  split
  · exact AAccepts.ret _ a
  refine AAccepts.pre_read (aLetArgs_asn d) (aLetArgs_read d) (fun d' _ => ?_)
  exact (wrapResult_accepts h ((letOp_decoratedC d' u a.m).accepts hc)).post
    (q := fun r => (Pure.pure (r, false) : AM (Int × Bool))) (fun r => ASN.pure _)

-- the three below pass `hD` to the core lemmas, which do not read it: acceptance asks nothing of the
-- state (`DecoratedC.accepts`)
include hD

theorem aApply_accepts (op : String) (hu : Nat) (hv hw : Option Nat) :
    AAccepts (aApplyC c op hu hv hw h) (aApply op hu hv hw h) a := by
  unfold aApplyC aApply
  refine AAccepts.pre_read (nodeIn_asn hu) (nodeIn_read hu) (fun u _ => ?_)
  refine AAccepts.pre_read (ASN.check _ _ (fun h => by cases h)) (ARead.check _ _) (fun _ _ => ?_)
  refine AAccepts.pre_read (optNode_asn nodeIn_asn hv) (optNode_read nodeIn_read hv) (fun v _ => ?_)
  refine AAccepts.pre_read (optNode_asn nodeIn_asn hw) (optNode_read nodeIn_read hw) (fun w _ => ?_)
  exact wrapResult_accepts h (apply_accepts ext c hc a.m hD op u v w)

theorem aImage_accepts (pre : Bool) (ht hs : Nat) (rn : List (Key × Key)) (q : List Key) (fa : Bool) :
    AAccepts (aImageC c pre ht hs rn q fa h) (aImage pre ht hs rn q fa h) a := by
  unfold aImageC aImage
  refine AAccepts.pre_read (nodeOwn_asn ht) (nodeOwn_read ht) (fun t _ => ?_)
  refine AAccepts.pre_read (nodeSame_asn hs) (nodeSame_read hs) (fun s _ => ?_)
  cases pre with
  | true => exact wrapResult_accepts h (preimage_accepts ext c hc a.m hD t s rn q fa)
  | false => exact wrapResult_accepts h (image_accepts ext c hc a.m hD t s rn q fa)

theorem fApply_accepts (op : String) (hs : Nat) (ho : Option Nat) :
    AAccepts (fApplyC c op hs ho h) (fApply op hs ho h) a := by
  unfold fApplyC fApply
  refine AAccepts.pre_read (nodeOwn_asn hs) (nodeOwn_read hs) (fun s _ => ?_)
  refine AAccepts.pre_read (optNode_asn nodeSame_asn ho) (optNode_read nodeSame_read ho) (fun o _ => ?_)
  exact liftWrap_accepts (wrapF h) (wrapF_asn h) (apply_accepts ext c hc a.m hD op s o none)

end methods

end DD
