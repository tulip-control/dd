/-
  DDProofs.SchedAcceptAutoLe — `Function.__le__` / `__lt__` accept every valid choice of iteration
  orders.  `__le__` makes the temporary `Function` `~self` (no reordering: `apply('not', …)` only
  negates the reference), then calls the decorated `other | ~self`, then releases its temporaries;
  every step but the decorated call is natural in the schedule (`ASN`), and a decorated call accepts
  every valid choice in whatever state it starts (`DecoratedC.accepts`), so nothing is asked of the
  session state (`fLe_accepts_any`).
-/
import DD.AutoChoiceLe
import DDProofs.SchedAcceptAuto
open Std

namespace DD

theorem applyEnd_not (s : Int) (m : Mgr) :
    (∃ e, applyEnd "not" s none none m = .err e) ∨ applyEnd "not" s none none m = .neg := by
  obtain ⟨r, hr, ht⟩ := table_unary "not" not_is_negation.1 not_is_negation.2
  unfold applyEnd
  simp only [hr, ht]
  cases assertOperatorArity "not" none none with
  | error e => exact Or.inl ⟨e, rfl⟩
  | ok _ =>
    cases m.mem s with
    | false => exact Or.inl ⟨_, rfl⟩
    | true => exact Or.inr rfl

/-- `apply('not', s)` does not reorder: natural in the schedule -/
theorem applyNot_asn (s : Int) : ASN (AM.liftM (apply "not" s none none)) := by
  refine ASN.liftM (fun sc m => ?_) (fun m => ?_)
  · rw [apply_eq_end, apply_eq_end, applyEnd_setS]
    rcases applyEnd_not s m with ⟨e, he⟩ | he <;> rw [he]
  · rw [apply_eq_end]
    rcases applyEnd_not s m with ⟨e, he⟩ | he
    · rw [he]; exact ns_triv (applyEnd_err_ne he)
    · rw [he]; exact fun h => by cases h

theorem freshH_asn : ASN freshH := fun _ _ => ⟨rfl, fun h => by cases h⟩
theorem freshH_read : ARead freshH := fun _ => rfl

theorem fEq_asn (hs ho : Nat) : ASN (fEq hs ho) := by
  unfold fEq
  exact ASN.bind (nodeOwn_asn hs) (fun s => ASN.bind (nodeSame_asn ho) (fun o => ASN.pure _))

theorem fNe_asn (hs ho : Nat) : ASN (fNe hs ho) := by
  unfold fNe
  exact ASN.bind (nodeSame_asn ho) (fun _ => ASN.bind (fEq_asn hs ho) (fun r => ASN.pure _))

theorem fLeTail_asn (t2 : Nat) (n2 : Int) : ASN (fLeTail t2 n2) := by
  unfold fLeTail
  refine ASN.bind freshH_asn (fun t3 => ?_)
  refine ASN.bind (ASN.onErr (wrap_asn t3 1) (drop_asn t2)) (fun _ => ?_)
  exact ASN.bind (drop_asn t2) (fun _ => ASN.bind (drop_asn t3) (fun _ => ASN.pure _))

theorem fLeOr_accepts_any (c : Choice) (hc : c.Valid) (a : AMgr) (ho : Nat) (n1 : Int) (t2 : Nat) :
    AAccepts (fLeOrC c ho n1 t2) (fLeOr ho n1 t2) a := by
  unfold fLeOrC fLeOr
  refine AAccepts.pre_read (nodeSame_asn ho) (nodeSame_read ho) (fun o _ => ?_)
  exact liftWrap_accepts (wrapF t2) (wrapF_asn t2) ((apply_decoratedC "or" o (some n1) none a.m).accepts hc)

theorem fLeOr_accepts (ext : Nat → Nat) (c : Choice) (hc : c.Valid) (a : AMgr) (hD : DynInvS ext a.m)
    (ho : Nat) (n1 : Int) (t2 : Nat) : AAccepts (fLeOrC c ho n1 t2) (fLeOr ho n1 t2) a :=
  fLeOr_accepts_any c hc a ho n1 t2

/-- `Function.__le__` accepts every valid choice, from ANY session state: every step but
`other | ~self` is natural in the schedule, and a decorated call accepts whatever the state -/
theorem fLe_accepts_any (c : Choice) (hc : c.Valid) (a : AMgr) (hs ho : Nat) :
    AAccepts (fLeC c hs ho) (fLe hs ho) a := by
  unfold fLeC
  show AAccepts _ (nodeOwn hs >>= fun s => freshH >>= fun t1 =>
    AM.liftM (apply "not" s none none) >>= fun n1 => wrapF t1 n1 >>= fun _ => freshH >>= fun t2 =>
    AM.finally' (fLeOr ho n1 t2) (drop t1) >>= fun n2 => fLeTail t2 n2) a
  refine AAccepts.pre_read (nodeOwn_asn hs) (nodeOwn_read hs) (fun s _ => ?_)
  refine AAccepts.pre_read freshH_asn freshH_read (fun t1 _ => ?_)
  refine AAccepts.pre (applyNot_asn s) (fun n1 a1 _ => ?_)
  refine AAccepts.pre (wrapF_asn t1 n1) (fun _ a2 _ => ?_)
  refine AAccepts.pre_read freshH_asn freshH_read (fun t2 _ => ?_)
  exact ((fLeOr_accepts_any c hc a2 ho n1 t2).finally' (drop_asn t1)).post
    (q := fLeTail t2) (fLeTail_asn t2)

theorem fLe_accepts (c : Choice) (hc : c.Valid) (a : AMgr) (hi : AInv false a) (h2 : Two false a)
    (hs ho : Nat) : AAccepts (fLeC c hs ho) (fLe hs ho) a :=
  fLe_accepts_any c hc a hs ho

/-- `Function.__lt__` accepts every valid choice -/
theorem fLt_accepts (c : Choice) (hc : c.Valid) (a : AMgr) (hi : AInv false a) (h2 : Two false a)
    (hs ho : Nat) : AAccepts (fLtC c hs ho) (fLt hs ho) a :=
  (fLe_accepts_any c hc a hs ho).post (q := fun le => if le then fNe hs ho else Pure.pure false)
    (fun le => by
      cases le with
      | false => exact ASN.pure _
      | true => exact fNe_asn hs ho)

end DD
