/-
  DDProofs.SchedAcceptAutoMore — the remaining methods of the autoref layer and recorded schedules.
  `BDD.succ`, `Function.low` / `.high` make no call that can reorder: they are natural in the
  recorded schedule (`ASN`: for EVERY schedule they run as with none and leave it untouched).
  `BDD.copy(u, other)` and module `copy_bdd(u, target)` between two managers serve reorderings in
  the target through the decorated `copy_bdd`: they accept every valid choice of iteration orders.
-/
import DD.AutoChoiceMore
import DDProofs.SchedAcceptAuto
open Std

namespace DD

theorem succOf_ne {t : Tbl} {u : Int} {e : Err} (h : succOf t u = .error e) : e ≠ .sched := by
  unfold succOf at h
  split at h
  · cases h
  · split at h
    · cases h; exact fun h => by cases h
    · cases h

theorem succOf_asn (u : Int) : ASN (AM.liftE fun m => succOf m.tbl u) :=
  ASN.liftE _ (fun _ _ => rfl) (fun m h => succOf_ne h rfl)

/-- `BDD.succ(u)` never looks at the recorded schedule -/
theorem aSucc_asn (hu h1 h2 : Nat) : ASN (aSucc hu h1 h2) := by
  unfold aSucc
  refine ASN.bind (nodeAny_asn hu) (fun u => ?_)
  refine ASN.bind (succOf_asn u) (fun p => ?_)
  cases p.2 with
  | none => exact ASN.pure _
  | some vw =>
    obtain ⟨v, w⟩ := vw
    refine ASN.bind ?_ (fun _ => ASN.pure _)
    unfold aSuccWrap
    exact ASN.bind (wrap_asn h1 v) (fun _ => ASN.onErr (wrap_asn h2 w) (drop_asn h1))

/-- `Function.low` / `Function.high` never look at the recorded schedule -/
theorem fChild_asn (high : Bool) (hs h : Nat) : ASN (fChild high hs h) := by
  unfold fChild
  refine ASN.bind (nodeOwn_asn hs) (fun s => ?_)
  refine ASN.bind (succOf_asn s) (fun p => ?_)
  obtain ⟨i, c⟩ := p
  cases c with
  | none => exact ASN.pure _
  | some vw =>
    obtain ⟨v, w⟩ := vw
    exact ASN.bind (wrapF_asn h _) (fun _ => ASN.pure _)

/-- a copy into another manager: the operand is read in the SOURCE session (`rd`: `u in self` for
`BDD.copy`, no test for `copy_bdd`), then the decorated `copy_bdd` runs in the target and serves
the reorderings there -/
theorem copyInto_accepts (c : Choice) (hc : c.Valid) (dst src : AMgr) (h : Nat) {rd : AM Int}
    (hrd : ASN rd)
    {XC : AM (Int × List SchedItem)} {X : AM Int}
    (hXC : XC dst = match rd src with
      | (.error e, _) => (.error e, dst)
      | (.ok u, _) => wrapResultC h (tryToReorderC c (copyBddBody src.m.tbl u) []) dst)
    (hX : ∀ d, X d = match rd src with
      | (.error e, _) => (.error e, d)
      | (.ok u, _) => wrapResult h (copyBdd src.m.tbl u) d) : AAccepts XC X dst := by
  have hn := (hrd [] src).2
  cases hres : rd src with
  | mk r a1 =>
    rw [hres] at hXC hX hn
    cases r with
    | error e => exact AAccepts.err e (fun he => hn (by rw [he])) hXC (fun s => hX _)
    | ok u =>
      exact (wrapResult_accepts h (copyBdd_accepts c hc dst.m src.m.tbl u)).congr hXC
        (fun s => hX _)

/-- `BDD.copy(u, other)` into another manager accepts every valid choice (of the TARGET's orders) -/
theorem aCopyTo_accepts (ext : Nat → Nat) (c : Choice) (hc : c.Valid) (dst : AMgr)
    (hD : DynInvS ext dst.m) (src : AMgr) (hu h : Nat) :
    AAccepts (aCopyToC c src hu h) (aCopyTo src hu h) dst :=
  copyInto_accepts c hc dst src h (nodeIn_asn hu) rfl (fun _ => rfl)

/-- module `copy_bdd(u, target)` into another manager accepts every valid choice -/
theorem aCopyBddTo_accepts (ext : Nat → Nat) (c : Choice) (hc : c.Valid) (dst : AMgr)
    (hD : DynInvS ext dst.m) (src : AMgr) (hu h : Nat) :
    AAccepts (aCopyBddToC c src hu h) (aCopyBddTo src hu h) dst :=
  copyInto_accepts c hc dst src h (nodeOwn_asn hu) rfl (fun _ => rfl)

end DD
