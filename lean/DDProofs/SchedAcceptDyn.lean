/-
  DDProofs.SchedAcceptDyn — acceptance for the DECORATED call: `_try_to_reorder` around a body that
  is natural in the recorded schedule inside the context (`SNc`, `NSc`, DDProofs.SchedNaturalOps).
  For every valid choice of the iteration orders of the sifting between the two attempts there is a
  schedule — empty when no reordering is requested, else the record of the orders picked — under
  which the scheduled model of the decorated call does exactly what the choice-driven one
  (`tryToReorderC`) does, and which it consumes exactly.
-/
import DD.DynChoice
import DDProofs.SchedAccept
import DDProofs.SchedNaturalOps
import DDProofs.DynRejected
open Std

namespace DD

variable {α : Type} {f : M α}

theorem withCtx_nat {b : Bool} (hs : SNc f) (hn : NSc f) : SchedNat b (withCtx f) := by
  intro s m hc
  have h := hn { m with ctx := true } rfl
  unfold withCtx
  rw [show ({ setS s m with ctx := true } : Mgr) = setS s { m with ctx := true } from rfl,
    hs s { m with ctx := true } rfl]
  generalize f { m with ctx := true } = r at h
  obtain ⟨r, m1⟩ := r
  cases r with
  | ok a => exact ⟨rfl, hc, nofun⟩
  | error e =>
    dsimp only [setS_ctx]
    split
    · exact ⟨rfl, hc, nofun⟩
    · exact ⟨rfl, hc, fun h' => h (by cases h'; rfl)⟩

/-- the second attempt of the decorated call, after a sifting that left `n` nodes -/
def retryOut (f : M α) (n : Nat) : M α := fun m3 =>
  match withCtx f m3 with
  | (.ok none, m4) => (.error .other, { m4 with lastLen := some (Gen.growthFactor * n) })
  | (.ok (some r), m4) => (.ok r, { m4 with lastLen := some (Gen.growthFactor * n) })
  | (.error e, m4) => (.error e, { m4 with lastLen := some (Gen.growthFactor * n) })

/-- the same for the choice-driven decorator: the record is returned with the result -/
def retryOutC {α} (f : M α) (log : List SchedItem) (m3 : Mgr) : Except Err (α × List SchedItem) × Mgr :=
  match withCtx f m3 with
  | (.ok none, m4) => (.error .other, { m4 with lastLen := some (Gen.growthFactor * m3.len) })
  | (.ok (some r), m4) => (.ok (r, log), { m4 with lastLen := some (Gen.growthFactor * m3.len) })
  | (.error e, m4) => (.error e, { m4 with lastLen := some (Gen.growthFactor * m3.len) })

theorem retryOutC_log {log log' : List SchedItem} {m3 : Mgr} {r : α}
    (h : (retryOutC f log m3).1 = .ok (r, log')) : log' = log := by
  unfold retryOutC at h
  generalize withCtx f m3 = r3 at h
  obtain ⟨r3, m4⟩ := r3
  cases r3 with
  | error e => cases h
  | ok o =>
    cases o with
    | none => cases h
    | some b => cases h; rfl

theorem retryOutC_sim (log sch : List SchedItem) (m : Mgr) :
    Sim (SNc f ∧ NSc f) (retryOutC f log m) (retryOutC f log m) log sch (retryOut f m.len) m := by
  have hW := fun v : SNc f ∧ NSc f => withCtx_nat (b := m.ctx) v.1 v.2
  have hs := fun v s => (hW v s m rfl).eq
  have hns := fun v => (hW v [] m rfl).ns
  have hsc : SNc f ∧ NSc f → (withCtx f m).2.sched = m.sched :=
    fun v => congrArg (fun p => p.2.sched) (hs v m.sched)
  have hF : ∀ rest, retryOut f m.len (setS ([] ++ rest) m) = (match withCtx f (setS rest m) with
      | (.ok none, m4) => (.error .other, { m4 with lastLen := some (Gen.growthFactor * m.len) })
      | (.ok (some r), m4) => (.ok r, { m4 with lastLen := some (Gen.growthFactor * m.len) })
      | (.error e, m4) => (.error e, { m4 with lastLen := some (Gen.growthFactor * m.len) })) :=
    fun _ => rfl
  unfold retryOutC
  generalize withCtx f m = r3 at hs hns hsc
  obtain ⟨r3, m4⟩ := r3
  rcases r3 with e | _ | b
  · exact ⟨fun v h => hns v (by cases h; rfl), hsc, ⟨[], nofun, fun v rest => by rw [hF, hs v]; rfl⟩, nofun⟩
  · exact ⟨fun _ => nofun, hsc, ⟨[], nofun, fun v rest => by rw [hF, hs v]; rfl⟩, nofun⟩
  · exact ⟨fun _ => nofun, hsc, ⟨[], fun _ _ h => by cases h; exact (List.append_nil _).symm,
      fun v rest => by rw [hF, hs v]; rfl⟩, fun _ _ _ _ => rfl⟩

variable {c c' : Choice} {sch : List SchedItem}

/-- **the decorated call**: body `f` natural in the schedule inside a context (`SNc`), never
answering `.sched` itself (`NSc`) -/
theorem tryToReorderC_sim (hA : ChoiceAgrees c c' sch) (f : M α) (log : List SchedItem) (m : Mgr) :
    Sim (c.Valid ∧ SNc f ∧ NSc f) (tryToReorderC c f log m) (tryToReorderC c' f log m) log sch
      (tryToReorder f) m := by
  unfold tryToReorderC tryToReorder
  refine .stepV (fun v => withCtx_nat v.2.1 v.2.2) fun o m1 => ?_
  cases o with
  | some a => exact .pure _ _ _ _
  | none =>
    dsimp only
    refine .step (.modify _) fun _ m2 => ?_
    refine .bind ((reorderC_sim hA none log m2).mono And.left) fun _ log1 m3 => ?_
    refine .get ?_
    exact (retryOutC_sim log1 sch m3).mono And.right

/-- acceptance of a decorated call `tryToReorder f`, for the choice `c` in `m` -/
abbrev AcceptsC {α} (c : Choice) (f : M α) (m : Mgr) : Prop :=
  AcceptsF (tryToReorderC c f []) (tryToReorder f) m

/-- **acceptance for the decorated call.**  For every valid choice `c` there is a schedule `sch`
(the record of `c`'s answers, if the choice-driven call returned) such that the scheduled model
of the decorated call started with `sch` — followed by any `rest` — ends with the same result in
the same state as the choice-driven call, with exactly `rest` left -/
theorem tryToReorderC_real (c : Choice) (hc : c.Valid) (f : M α) (hf : SNc f) (hns : NSc f) (m : Mgr) :
    ∃ sch, (∀ r log', (tryToReorderC c f [] m).1 = .ok (r, log') → log' = sch) ∧
      ∀ rest, tryToReorder f (setS (sch ++ rest) m) =
        (dropLog (tryToReorderC c f [] m).1, setS rest (tryToReorderC c f [] m).2) := by
  obtain ⟨sch, h1, h2, _⟩ := (tryToReorderC_sim (.refl c []) f [] m).acceptsF ⟨hc, hf, hns⟩
  exact ⟨sch, h1, h2⟩

/-- **the decorated call accepts every choice.**  Body `f` natural in the schedule inside a context (`SNc`), never
answering `.sched` itself, keeping the invariant (`TotE`); state between two decorated calls
(`DynInvS`: at least two variables).  For every valid choice `c` there is a schedule `sch` such
that the decorated call under `sch ++ rest` does what the choice-driven call does, leaves `rest`,
and does not end in the schedule error. -/
theorem tryToReorder_accepts {α} (ext : Nat → Nat) (c : Choice) (hc : c.Valid) (f : M α) (hf : SNc f)
    (hns : NSc f)
    (hbody : ∀ m0 : Mgr, Inv m0 → m0.ctx = true → OrderOK m0.tbl → TotE m0 (f m0))
    (m : Mgr) (hD : DynInvS ext m) :
    ∃ sch, (∀ r log', (tryToReorderC c f [] m).1 = .ok (r, log') → log' = sch) ∧
      (∀ rest, tryToReorder f (setS (sch ++ rest) m) =
        (dropLog (tryToReorderC c f [] m).1, setS rest (tryToReorderC c f [] m).2)) ∧
      ∀ rest, (tryToReorder f (setS (sch ++ rest) m)).1 ≠ .error .sched :=
  (tryToReorderC_sim (.refl c []) f [] m).acceptsF ⟨hc, hf, hns⟩

end DD
