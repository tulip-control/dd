/-
  DDProofs.SchedAcceptGuards — the guards `isSchedErr (… { m with sched := sch }).1 = false` of the
  history theorems (`OpGuard2`: `swap`, `sift`, `reorderTo`; `OpGuard4`: `reorderToPairs`;
  `CallGuardS`: a decorated call with a recorded schedule) hold for every schedule that ENCODES A
  CHOICE of iteration orders: the record of a choice-driven run that returned.

  `EncodesChoice run m sch` is decidable: read the choice off the schedule (`Choice.ofSched`: the
  k-th item answers the k-th query, the default order where it does not fit — always a valid
  choice), replay the choice-driven model, compare the record with `sch`.
-/
import DDProofs.SchedAcceptOps
import DDProofs.DynSchedReach
open Std

namespace DD

deriving instance DecidableEq for SchedItem

/-- the choice read off a schedule: the `k`-th item answers the `k`-th query, if it fits -/
def Choice.ofSched (sch : List SchedItem) : Choice where
  names k l :=
    match sch[k]? with
    | some (.sift ns) => if ns.Perm l then ns else l
    | _ => l
  level k j l :=
    match sch[k]? with
    | some (.swap lv) => if ((lv.lookup j).getD []).Perm l then (lv.lookup j).getD [] else l
    | _ => l

theorem Choice.ofSched_valid (sch : List SchedItem) : (Choice.ofSched sch).Valid := by
  refine ⟨fun k l => ?_, fun k j l => ?_⟩
  all_goals
    unfold Choice.ofSched
    dsimp only
    split
    · split
      · assumption
      · exact .refl _
    · exact .refl _

/-- **`sch` encodes a choice** for the choice-driven run `run` started in `m`: replaying the choice
read off `sch` returns, and records exactly `sch` -/
def EncodesChoice {α} (run : Choice → List SchedItem → M (α × List SchedItem)) (m : Mgr)
    (sch : List SchedItem) : Prop :=
  logOf (run (Choice.ofSched sch) [] m).1 = some sch

instance {α} (run : Choice → List SchedItem → M (α × List SchedItem)) (m : Mgr)
    (sch : List SchedItem) : Decidable (EncodesChoice run m sch) :=
  inferInstanceAs (Decidable (_ = _))

theorem AcceptsF.not_sched {α} {FC : M (α × List SchedItem)} {F : M α} {m : Mgr} (h : AcceptsF FC F m)
    {sch : List SchedItem} (hl : logOf (FC m).1 = some sch) :
    isSchedErr (F { m with sched := sch }).1 = false := by
  have := (h.of_log hl).2 []
  rw [List.append_nil] at this
  exact isSchedErr_of_ne this

section
variable {c : Choice} (hc : c.Valid) (m : Mgr) {sch : List SchedItem}
include hc

/-- `reorder(bdd)` / `reorder(bdd, order)`: the record of ANY valid choice passes the guard of
`UOp2.sift` / `UOp2.reorderTo` -/
theorem reorder_guard_of_choice (o : Option (List (String × Int)))
    (hl : logOf (reorderC c o [] m).1 = some sch) :
    isSchedErr (reorder o { m with sched := sch }).1 = false :=
  ((reorderC_sim (.refl c []) o [] m).acceptsF hc).not_sched hl

theorem swap_guard_of_choice (x y : VarOrLevel) (hl : logOf (swapPublicC c x y [] m).1 = some sch) :
    isSchedErr (swap x y false { m with sched := sch }).1 = false :=
  ((swapPublicC_sim (.refl c []) x y [] m).acceptsF hc).not_sched hl

theorem reorderToPairs_guard_of_choice (ps : List (String × String))
    (hl : logOf (reorderToPairsC c ps [] m).1 = some sch) :
    isSchedErr (reorderToPairs ps { m with sched := sch }).1 = false :=
  ((reorderToPairsC_sim (.refl c []) ps [] m).acceptsF hc).not_sched hl

end

/-- the result of a choice-driven call as a result of the history vocabulary, the record kept -/
def mapResC {α : Type} (f : α → Res) (x : Except Err (α × List SchedItem) × Mgr) :
    Except Err (Res × List SchedItem) × Mgr :=
  (match x.1 with
    | .ok (a, log) => .ok (f a, log)
    | .error e => .error e, x.2)

theorem logOf_mapResC {α : Type} (f : α → Res) (x : Except Err (α × List SchedItem) × Mgr) :
    logOf (mapResC f x).1 = logOf x.1 := by
  obtain ⟨r, m⟩ := x
  cases r with
  | ok p => rfl
  | error e => rfl

/-- one DECORATED user call under the choice `c` (the calls of `runOp` that go through
`_try_to_reorder`); the other calls have no iteration order to choose -/
def runOpC (c : Choice) : UOp → Mgr → Except Err (Res × List SchedItem) × Mgr
  | .var name, m => mapResC .ref (tryToReorderC c (varBody name) [] m)
  | .ite g u v, m => mapResC .ref (tryToReorderC c (iteRaw g u v) [] m)
  | .apply op u v w, m => mapResC .ref (applyC c op u v w [] m)
  | .neg u, m => mapResC .ref (applyC c "not" u none none [] m)
  | .cofactor u values, m => mapResC .ref (tryToReorderC c (cofactorBody u values) [] m)
  | .quantify u qvars fa, m => mapResC .ref (tryToReorderC c (quantifyBody u qvars fa) [] m)
  | .compose f varSub, m => mapResC .ref (tryToReorderC c (composeBody f varSub) [] m)
  | .rename u dvars, m => mapResC .ref (tryToReorderC c (renameBody u dvars) [] m)
  | .let_ d u, m => mapResC .ref (letOpC c d u [] m)
  | b, m => ((runOp b m).1.map (fun r => (r, [])), (runOp b m).2)

/-- every operation of `UOp`, ANY arguments: a decorated one has its row of `DecoratedC`, the
others have no iteration order to choose -/
theorem runOpC_row (b : UOp) (m : Mgr) :
    (∃ (FC : Choice → List SchedItem → M (Int × List SchedItem)) (F : M Int), b.decorated = true ∧
      (∀ m', runOp b m' = mapRes .ref (F m')) ∧ (∀ c, runOpC c b m = mapResC .ref (FC c [] m)) ∧
      DecoratedC m FC F) ∨
    (b.decorated = false ∧ ∀ c c', runOpC c b m = runOpC c' b m) := by
  cases b with
  | var name => exact .inl ⟨_, _, rfl, fun _ => rfl, fun _ => rfl, .of_snk (varBody_nat name) m⟩
  | ite g u v => exact .inl ⟨_, _, rfl, fun _ => rfl, fun _ => rfl, .of_snk (iteRaw_nat g u v) m⟩
  | apply o u v w => exact .inl ⟨_, _, rfl, fun _ => rfl, fun _ => rfl, apply_decoratedC o u v w m⟩
  | neg u => exact .inl ⟨_, _, rfl, fun _ => rfl, fun _ => rfl, apply_decoratedC "not" u none none m⟩
  | cofactor u values =>
    exact .inl ⟨_, _, rfl, fun _ => rfl, fun _ => rfl, .of_snk (cofactorBody_nat u values) m⟩
  | quantify u qvars fa =>
    exact .inl ⟨_, _, rfl, fun _ => rfl, fun _ => rfl, .of_snk (quantifyBody_snk u qvars fa) m⟩
  | compose f varSub =>
    exact .inl ⟨_, _, rfl, fun _ => rfl, fun _ => rfl, .of_snk (composeBody_snk f varSub) m⟩
  | rename u dvars =>
    exact .inl ⟨_, _, rfl, fun _ => rfl, fun _ => rfl, .of_snk (renameBody_snk u dvars) m⟩
  | let_ d u => exact .inl ⟨_, _, rfl, fun _ => rfl, fun _ => rfl, letOp_decoratedC d u m⟩
  | declare _ _ => exact .inr ⟨rfl, fun _ _ => rfl⟩
  | findOrAdd _ _ _ => exact .inr ⟨rfl, fun _ _ => rfl⟩
  | incref _ => exact .inr ⟨rfl, fun _ _ => rfl⟩
  | decref _ => exact .inr ⟨rfl, fun _ _ => rfl⟩
  | collectGarbage => exact .inr ⟨rfl, fun _ _ => rfl⟩

/-- every decorated operation of `UOp`, ANY arguments, accepts every valid choice -/
theorem decorated_accepts (ext : Nat → Nat) (c : Choice) (hc : c.Valid) (m : Mgr) (hD : DynInvS ext m)
    (b : UOp) (hdec : b.decorated = true) :
    ∃ (α : Type) (FC : M (α × List SchedItem)) (F : M α) (f : α → Res),
      (∀ m', runOp b m' = mapRes f (F m')) ∧ runOpC c b m = mapResC f (FC m) ∧ AcceptsF FC F m := by
  rcases runOpC_row b m with ⟨FC, F, _, e1, e2, h⟩ | ⟨hn, _⟩
  · exact ⟨_, _, _, _, e1, e2 c, h.accepts hc⟩
  · rw [hdec] at hn; cases hn

/-- **`CallGuardS` from a choice**: with two variables, for every decorated operation with ANY
arguments, a non-empty schedule recorded by the choice-driven call under a valid choice passes the
guard of a call with a recorded schedule — in any state: the row of the call is read directly -/
theorem callGuardS_of_choice (m : Mgr) (ext : Nat → Nat) (h2 : 2 ≤ m.nvars)
    (c : Choice) (hc : c.Valid) (b : UOp) (hdec : b.decorated = true) (s : SchedItem)
    (sch : List SchedItem) (hl : logOf (runOpC c b m).1 = some (s :: sch)) :
    CallGuardS m ext ⟨s :: sch, .op (.base b)⟩ := by
  refine ⟨hdec, h2, ?_⟩
  rcases runOpC_row b m with ⟨FC, F, _, e1, e2, hrow⟩ | ⟨hn, _⟩
  · rw [e1, mapRes_isSchedErr]
    rw [e2, logOf_mapResC] at hl
    exact (hrow.accepts hc).not_sched hl
  · rw [hdec] at hn
    cases hn

end DD
