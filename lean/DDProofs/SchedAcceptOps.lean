/-
  DDProofs.SchedAcceptOps — the decorated operations beside their choice-driven twins (DD.DynChoice).
  `DecoratedC m FC F`: whatever the arguments, the call `F` and its twin `FC` both answer at once,
  or both are `_try_to_reorder` around one body that is natural in the schedule.  A row gives `Sim`,
  hence — in ANY state — acceptance (for every valid choice there is a schedule under which the
  call does what the choice-driven call does, consumed exactly, `.sched` not among the answers)
  and replay.
-/
import DDProofs.SchedAcceptDyn
import DDProofs.ReachLite
import DDProofs.ApplyProofs
open Std

namespace DD

theorem varBody_nat {b : Bool} (name : String) : SchedNat b (varBody name) := by
  unfold varBody
  refine .get fun _ => ?_
  split
  · exact .throw
  · exact findOrAdd_nat _ _ _

theorem acceptsC_of_snk {α} {c : Choice} (hc : c.Valid) {f : M α} (hf : SNK f) (m : Mgr) :
    AcceptsC c f m :=
  (tryToReorderC_sim (.refl c []) f [] m).acceptsF ⟨hc, hf.snc, hf.nsc⟩

/-- a decorated call `F` beside its choice-driven twin `FC`, in `m`, whatever the arguments (the
twin of `Decorated`, DDProofs.DynRejected): both answer at once, the manager untouched — a refusal,
a negation, an empty `let` —, or both are `_try_to_reorder` around the same body, which is natural
in the schedule inside the context -/
inductive DecoratedC (m : Mgr) (FC : Choice → List SchedItem → M (Int × List SchedItem)) (F : M Int) :
    Prop
  | same (r : Except Err Int) (hr : r ≠ .error .sched)
      (hC : ∀ c log, FC c log m = (r.map (·, log), m)) (hF : ∀ s, F (setS s m) = (r, setS s m))
  | body (f : M Int) (hf : SNK f) (hC : ∀ c log, FC c log m = tryToReorderC c f log m)
      (hF : ∀ s, F (setS s m) = tryToReorder f (setS s m))

theorem DecoratedC.of_snk {f : M Int} (hf : SNK f) (m : Mgr) :
    DecoratedC m (fun c => tryToReorderC c f) (tryToReorder f) :=
  .body f hf (fun _ _ => rfl) fun _ => rfl

/-- a row gives acceptance and replay at once -/
theorem DecoratedC.sim {m : Mgr} {FC : Choice → List SchedItem → M (Int × List SchedItem)} {F : M Int}
    (h : DecoratedC m FC F) {c c' : Choice} {sch : List SchedItem} (hA : ChoiceAgrees c c' sch)
    (log : List SchedItem) : Sim c.Valid (FC c log m) (FC c' log m) log sch F m := by
  cases h with
  | same r hr hC hF =>
    rw [hC, hC]
    cases r with
    | ok a => exact (Sim.pure a log sch m).congrF hF
    | error e => exact (Sim.throw log sch m fun he => hr (by rw [he])).congrF hF
  | body f hf hC hF =>
    rw [hC, hC]
    exact ((tryToReorderC_sim hA f log m).mono fun hc => ⟨hc, hf.snc, hf.nsc⟩).congrF hF

theorem DecoratedC.accepts {m : Mgr} {FC : Choice → List SchedItem → M (Int × List SchedItem)}
    {F : M Int} (h : DecoratedC m FC F) {c : Choice} (hc : c.Valid) : AcceptsF (FC c []) F m :=
  (h.sim (.refl c []) []).acceptsF hc

@[simp] theorem setS_optNotMem (s : List SchedItem) (m : Mgr) (v : Option Int) :
    optNotMem (setS s m) v = optNotMem m v := by
  cases v <;> rfl

theorem applyEnd_setS (op : String) (u : Int) (v w : Option Int) (s : List SchedItem) (m : Mgr) :
    applyEnd op u v w (setS s m) = applyEnd op u v w m := by
  unfold applyEnd
  simp only [setS_mem, setS_tbl, setS_optNotMem]

theorem apply_decoratedC (op : String) (u : Int) (v w : Option Int) (m : Mgr) :
    DecoratedC m (fun c => applyC c op u v w) (apply op u v w) := by
  have e1 := fun c log => applyC_eq_end c op u v w log m
  have e2 := fun s => applyEnd_setS op u v w s m ▸ apply_eq_end op u v w (setS s m)
  cases hE : applyEnd op u v w m with
  | err e =>
    simp only [hE] at e1 e2
    exact .same (.error e) (fun h => applyEnd_err_ne hE (by cases h; rfl)) e1 e2
  | neg =>
    simp only [hE] at e1 e2
    exact .same (.ok (-u)) nofun e1 e2
  | ite a b c' =>
    simp only [hE] at e1 e2
    exact .body _ (iteRaw_nat a b c') e1 e2
  | quant b q fa =>
    simp only [hE] at e1 e2
    exact .body _ (quantifyBody_snk b q fa) e1 e2

/-- `bdd.apply(op, u, v, w)`, ANY operator string, arity and operands, accepts every valid choice -/
theorem apply_accepts (ext : Nat → Nat) (c : Choice) (hc : c.Valid) (m : Mgr) (hD : DynInvS ext m)
    (op : String) (u : Int) (v w : Option Int) :
    AcceptsF (applyC c op u v w []) (apply op u v w) m :=
  (apply_decoratedC op u v w m).accepts hc

theorem letOp_decoratedC (d : LetArg) (u : Int) (m : Mgr) :
    DecoratedC m (fun c => letOpC c d u) (letOp d u) := by
  have h0 : DecoratedC m (fun _ log => (pure (u, log) : M (Int × List SchedItem))) (pure u) :=
    .same (.ok u) nofun (fun _ _ => rfl) fun _ => rfl
  cases d with
  | bools l =>
    cases l with
    | nil => exact h0
    | cons x xs => exact .of_snk (cofactorBody_nat u (x :: xs)) m
  | refs l =>
    cases l with
    | nil => exact h0
    | cons x xs => exact .of_snk (composeBody_snk u (x :: xs)) m
  | names l =>
    cases l with
    | nil => exact h0
    | cons x xs => exact .of_snk (renameBody_snk u (x :: xs)) m

/-- `bdd.let(definitions, u)` accepts every valid choice -/
theorem letOp_accepts (ext : Nat → Nat) (c : Choice) (hc : c.Valid) (m : Mgr) (hD : DynInvS ext m)
    (d : LetArg) (u : Int) : AcceptsF (letOpC c d u []) (letOp d u) m :=
  (letOp_decoratedC d u m).accepts hc

end DD
