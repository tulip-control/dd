/-
  DDProofs.SchedAutoCore — the autoref methods with reordering not enabled, `add_var`, shutdown, for
  sessions with any recorded schedule (namespace `DD.S`): instances of DDProofs.AutoCore; at the head
  the guarantee "the registry ends as it started" (`AKeeps0`; the operations with temporaries are in
  DDProofs.AutoTemps).
-/
import DDProofs.AutoCore
import DDProofs.SchedAutoProofs
open Std

namespace DD.S

section
variable {off : Bool}

/-- an operation that leaves the registry exactly as it found it -/
def AKeeps0 (off : Bool) (x : AM α) : Prop :=
  ∀ a, AInv off a → ∀ r a', x a = (r, a') →
    AInv off a' ∧ (∀ j : Nat, a'.handles[j]? = a.handles[j]?) ∧
    (∀ (j : Nat) (u : Int), a.handles[j]? = some u →
      a'.m.tbl.Mem u ∧ ∀ asg, denN a'.m.tbl u asg = denN a.m.tbl u asg)

theorem AKeeps0.keeps {x : AM α} (h0 : AKeeps0 off x) (h : Nat) : AKeeps off h x :=
  Auto.AKeeps0.keeps h0 h

theorem AKeeps0.toL {x : AM α} (h0 : AKeeps0 off x) : AKeepsL off [] x := Auto.AKeeps0.toL h0

end

theorem OrderOK.congr_auto {t t' : Tbl} (h : OrderOK t) (hv : t'.vars = t.vars) (hl : t'.l2v = t.l2v) :
    OrderOK t' := h.congr hv hl

theorem RefExact.congr_nodes_auto {m m' : Mgr} {ext : Nat → Nat} (h : RefExact m ext)
    (h1 : ∀ k, m'.tbl.node? k = m.tbl.node? k) (h2 : m'.ref = m.ref) : RefExact m' ext :=
  h.congr_nodes h1 h2

/-- every variable of the support of `u` in the source is declared in the target (as `CopyPre`
of DDProofs.DynCopy) -/
def CopyPreA (s : Tbl) (u : Int) (t : Tbl) : Prop :=
  ∀ i v, InSupp s u i → s.l2v[i]? = some v → t.vars.contains v = true

/-- `AutoMInv true` without the flag (inside a decorated call the flag is set) -/
structure MInvC (ext : Nat → Nat) (m : Mgr) : Prop where
  inv : Inv m
  order : OrderOK m.tbl
  counts : RefExact m ext
  roots : m.roots = []
  off : m.lastLen = none

/-- all `Function`s dropped, then `collect_garbage()`, then the manager dies: the shutdown check
(`dd.bdd.BDD.__del__`) passes, only the terminal is left, every count is zero -/
theorem autoref_collect_then_shutdown {off : Bool} (a : AMgr) (hi : AInv off a)
    (he : a.handles.isEmpty = true) :
    ∃ m1 m2, collectGarbage none a.m = (.ok (), m1) ∧ (∀ u : Nat, m1.tbl.node? u = none) ∧
      shutdown m1 = (.ok (), m2) ∧ (∀ u : Nat, m2.tbl.node? u = none) ∧
      (∀ (k c : Nat), m2.ref[k]? = some c → c = 0) :=
  Auto.autoref_collect_then_shutdown session a hi he

theorem aVar_keepsOff (name : String) (h : Nat) : AKeeps true h (aVar name h) :=
  Auto.wrapResult_keeps session (Auto.decorated_keepsOff session (var_decorated name)) h

theorem aIte_keepsOff (hg hu hv h : Nat) : AKeeps true h (aIte hg hu hv h) :=
  Auto.aIte_keeps session (fun g u v => Auto.decorated_keepsOff session (ite_decorated g u v)) hg hu hv h

/-- `BDD.apply` with EVERY alias, the quantifier aliases included -/
theorem aApply_keepsOff (op : String) (hu : Nat) (hv hw : Option Nat) (h : Nat) :
    AKeeps true h (aApply op hu hv hw h) :=
  Auto.aApply_keeps session op (fun u v w => Auto.decorated_keepsOff session (apply_decorated op u v w)) hu hv hw h

theorem aQuantify_keepsOff (hu : Nat) (q : List Key) (fa : Bool) (h : Nat) :
    AKeeps true h (aQuantify hu q fa h) :=
  Auto.aQuantify_keeps session q fa (fun m u _ => Auto.decorated_keepsOff session (quantify_decorated u q fa) m) hu h

/-- `let` in its three forms (the values of the `Function` form may even belong to another
manager: the wrapper does not test them, the core operation is total) -/
theorem aLet_keepsOff (d : ALetArg) (hu h : Nat) : AKeeps true h (aLet d hu h) :=
  Auto.aLet_keeps session (fun d u => Auto.decorated_keepsOff session (letOp_decorated d u)) d hu h

theorem aCube_keepsOff (d : List (String × Bool)) (h : Nat) : AKeeps true h (aCube d h) :=
  Auto.wrapResult_keeps session (Auto.decorated_keepsOff session (cube_decorated d)) h

/-- `~f`, `f & g`, `f | g`, `f.implies(g)`, `f.equiv(g)` (any operator string) -/
theorem fApply_keepsOff (op : String) (hs : Nat) (ho : Option Nat) (h : Nat) :
    AKeeps true h (fApply op hs ho h) :=
  Auto.fApply_keeps session op (fun u v => Auto.decorated_keepsOff session (apply_decorated op u v none)) hs ho h

/-- `f <= g`: the three temporaries are released, nothing else changes -/
theorem fLe_keepsOff (hs ho : Nat) : AKeeps0 true (fLe hs ho) :=
  Auto.fLe_keeps session (fun op u v => Auto.decorated_keepsOff session (apply_decorated op u v none)) hs ho

theorem fLt_keepsOff (hs ho : Nat) : AKeeps0 true (fLt hs ho) :=
  Auto.fLt_keeps session (fun op u v => Auto.decorated_keepsOff session (apply_decorated op u v none)) hs ho

theorem aDeclare_keepsOff (ns : List String) (h : Nat) : AKeeps true h (aDeclare ns) :=
  Auto.liftM_keeps session (Auto.declare_keeps session ns) h

/-- `add_var(name, level)` where the level leaves no gap (every mode) -/
theorem aAddVar_keepsAt' {off : Bool} (a : AMgr) (n : String) (l : Option Int)
    (hg : ∀ l' : Int, l = some l' → a.m.tbl.vars[n]? = none → l' ≤ (a.m.nvars : Int)) (h : Nat) :
    AKeepsAt off a h (aAddVar n l) :=
  Auto.liftM_keepsAt session a (Auto.addVar_keepsAt session a.m n l hg) h

/-- `find_or_add(var, low, high)` when the level of `var` is above both children -/
theorem aFindOrAdd_keepsAtOff (a : AMgr) (var : String) (hlow hhigh h : Nat)
    (hg : ∀ level lo hi, (levelOfVar var a.m).1 = .ok level → (nodeAny hlow a).1 = .ok lo →
      (nodeAny hhigh a).1 = .ok hi → FoaGuard a.m level lo hi) :
    AKeepsAt true a h (aFindOrAdd var hlow hhigh h) :=
  Auto.aFindOrAdd_keepsAt session a var hlow hhigh h fun level lo hi h1 h2 h3 =>
    Auto.findOrAdd_keepsAt session a.m level lo hi (fun _ => by simpa using hg level lo hi h1 h2 h3)

/-- `BDD.copy(u, other)` into this manager `a` from `src` (the copy is total: neither hypothesis
is needed for the frame) -/
theorem aCopyTo_keepsAtOff (a src : AMgr) {offS : Bool} (hsrc : AInv offS src) (hu h : Nat)
    (hpre : ∀ u, (nodeIn hu src).1 = .ok u → CopyPreA src.m.tbl u a.m.tbl) :
    AKeepsAt true a h (aCopyTo src hu h) :=
  Auto.aCopyTo_keepsAt session a src hu h fun u _ =>
    Auto.decorated_keepsOff session (copyBdd_decorated src.m.tbl u) a.m

theorem aCopyBddTo_keepsAtOff (a src : AMgr) {offS : Bool} (hsrc : AInv offS src) (hu h : Nat)
    (hpre : ∀ u, (nodeOwn hu src).1 = .ok u → CopyPreA src.m.tbl u a.m.tbl) :
    AKeepsAt true a h (aCopyBddTo src hu h) :=
  Auto.aCopyBddTo_keepsAt session a src hu h fun u _ =>
    Auto.decorated_keepsOff session (copyBdd_decorated src.m.tbl u) a.m

theorem aImage_keepsOff (pre : Bool) (ht hs : Nat) (rn : List (Key × Key)) (q : List Key) (fa : Bool)
    (h : Nat) : AKeeps true h (aImage pre ht hs rn q fa h) :=
  Auto.aImage_keepsOff session pre ht hs rn q fa h

end DD.S
