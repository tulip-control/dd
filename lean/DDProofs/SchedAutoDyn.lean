/-
  DDProofs.SchedAutoDyn — explicit `reorder()` / `reorder(order)` for sessions with ANY recorded
  schedule (namespace `DD.S`), every outcome: returned, or the model's schedule mismatch
  (DDProofs.DynSchedKeep).
-/
import DDProofs.AutoDyn
import DDProofs.SchedAutoProofs
open Std

namespace DD.S

theorem RefExact.ext_unique {m : Mgr} {ext ext' : Nat → Nat} (h : RefExact m ext) (h' : RefExact m ext') :
    ext = ext' := by
  funext k
  cases hr : m.ref[k]? with
  | none => rw [h.extZero k hr, h'.extZero k hr]
  | some c =>
    have h1 := h.cnt k c hr
    have h2 := h'.cnt k c hr
    omega

theorem optNode_some_handle (hv : Nat) (a : AMgr) (vo : Option Int)
    (h : (optNode nodeIn (some hv) a).1 = .ok vo) : ∃ v, vo = some v ∧ a.handles[hv]? = some v :=
  (optNode_some_ok (nodeIn_read hv) a vo h).imp fun v hv' => ⟨hv'.1, nodeIn_handle hv a v hv'.2⟩

/-- `~f` (any unary alias): never changes the manager, any mode -/
theorem fApply_unary_keeps {off : Bool} (op : String) (hs h : Nat) : AKeeps off h (fApply op hs none h) :=
  Auto.fApply_unary_keeps session op hs h

theorem support_declared (m : Mgr) (hI : Inv m) (hO : OrderOK m.tbl) (u : Int) (hu : m.tbl.Mem u) :
    ∃ names, support m.tbl u = .ok names ∧ ∀ s ∈ names, m.tbl.vars.contains s = true :=
  let ⟨_, _, hs, hd⟩ := DD.support_declared m hI hO u hu
  ⟨_, hs, hd⟩

theorem nodesAny_own (a : AMgr) : ∀ (d : List (String × Nat)) (l : List (String × Int)),
    (∀ p ∈ d, ∃ v, a.handles[p.2]? = some v) → (nodesAny d a).1 = .ok l →
    l.map (·.1) = d.map (·.1) ∧ ∀ p ∈ l, HeldX (hext a) p.2 := DD.nodesAny_own a

/-- what C07 gives for a reordering that returned — or reported a schedule mismatch
(DDProofs.DynSchedKeep) -/
theorem minv_of_reorder {off : Bool} {ext : Nat → Nat} {m m' : Mgr} (hm : AutoMInv off ext m)
    (hR : ReorderInv ext m') (hrel : ReorderRel ext m m') :
    AutoMInv off ext m' ∧ HeldExt m.tbl m'.tbl ext :=
  ⟨⟨hR.inv, hR.order, hR.refExact, hrel.ctx.trans hm.ctx, hrel.roots.trans hm.roots,
    hm.mode.transfer hrel.lastLen (by rw [hrel.nvars]; exact Nat.le_refl _)⟩,
   heldExt_of_reorder hm.inv hm.counts hR hrel⟩

/-- `reorder(bdd)` (sifting) with at least two variables, ANY recorded schedule, every outcome -/
theorem reorder_sift_keepsAt {off : Bool} (m : Mgr) (h2 : 2 ≤ m.nvars) :
    CoreKeepsAt off m (reorder none) := by
  intro ext hm r m' he
  obtain ⟨r2, m2, hrun, _, hR, hrel⟩ := sift_every_outcome ext m hm.reorderInv h2
  rw [hrun] at he
  cases he
  exact minv_of_reorder hm hR hrel.toRel

/-- `reorder(bdd, order)` for a complete order of the declared variables, ANY recorded schedule,
every outcome (returned, or the model's schedule mismatch) -/
theorem reorder_order_keepsAt {off : Bool} (m : Mgr) (o : List (String × Int)) (ho : ReqOrder o m) :
    CoreKeepsAt off m (reorder (some o)) := by
  intro ext hm r m' he
  have hk := reorder_keepS ext m hm.reorderInv (some o)
  have hn := C07_reorder_order ext m hm.reorderInv o ho
  rw [he] at hk hn
  cases r with
  | ok u => exact minv_of_reorder hm hk.1 hk.2.toRel
  | error e =>
    have hes : e = Err.sched := hn
    exact minv_of_reorder hm (hk hes).1 (hk hes).2.toRel

theorem AutoMInv.dynInvS {ext : Nat → Nat} {m : Mgr} (h : AutoMInv false ext m) : DynInvS ext m :=
  ⟨h.inv, h.order, h.counts, h.ctx, (fun r hr => by rw [h.roots] at hr; cases hr), h.mode.2 rfl⟩

end DD.S
