/-
  DDProofs.SchedAutoDynTotal — the decorated core operations with dynamic reordering possibly
  ENABLED, ARBITRARY arguments, ANY recorded schedule (namespace `DD.S`): from the every-outcome
  reading `Decorated.totalK` of their rows of `Decorated` (DDProofs.DynGeneric): by it a call never
  lets the reordering signal escape and leaves `DynKeptW` from `DynInvS`, the model's own `.sched`
  report counted among the exceptions.  At the end `image` / `preimage` and the module-level
  functions on `Function`s.
-/
import DDProofs.AutoDynTotal
import DDProofs.SchedAutoDyn
open Std

namespace DD.S

/-- what `tryToReorder_total_dynK` (DDProofs.DynGeneric) gives for a decorated call with arbitrary
arguments under an arbitrary recorded schedule — EVERY outcome, the model's `.sched` included — is
what the autoref layer needs -/
theorem coreKeeps_false_of_total {α : Type} {op : M α}
    (h : ∀ (ext : Nat → Nat) (m : Mgr), DynInvS ext m → DynTotalK ext m (op m)) : CoreKeeps false op := by
  refine ⟨fun m ext hm r m' he => ?_⟩
  obtain ⟨_, hk, _⟩ := h ext m hm.dynInvS
  rw [he] at hk
  refine ⟨⟨hk.inv.inv, hk.inv.order, hk.inv.refs, hk.inv.ctx, by rw [hk.roots]; exact hm.roots,
    ⟨(fun h => nomatch h), fun _ => hk.inv.nvars⟩⟩, fun u _ hpos => hk.held u (Or.inr hpos)⟩

theorem coreKeeps_of_decorated {op : M Int} (hd : ∀ m, Decorated m (op m)) : CoreKeeps false op :=
  coreKeeps_false_of_total fun _ m hD => (hd m).totalK hD

theorem aImage_keeps {off : Bool} (hI : ∀ t s rn q f, CoreKeeps off (image t s rn q f))
    (hP : ∀ t s rn q f, CoreKeeps off (preimage t s rn q f)) (pre : Bool) (ht hs : Nat) (rn : List (Key × Key)) (q : List Key)
    (fa : Bool) (h : Nat) : AKeeps off h (aImage pre ht hs rn q fa h) :=
  Auto.aImage_keeps session (fun t s rn q f => (hI t s rn q f).keeps)
    (fun t s rn q f => (hP t s rn q f).keeps) pre ht hs rn q fa h

/-- `find_or_add(var, low, high)` when the level of `var` is above both children: EVERY mode -/
theorem aFindOrAdd_keepsAtAll {off : Bool} (a : AMgr) (var : String) (hlow hhigh h : Nat)
    (hg : ∀ level lo hi, (levelOfVar var a.m).1 = .ok level → (nodeAny hlow a).1 = .ok lo →
      (nodeAny hhigh a).1 = .ok hi → FoaGuard a.m level lo hi) :
    AKeepsAt off a h (aFindOrAdd var hlow hhigh h) :=
  Auto.aFindOrAdd_keepsAtAll session a var hlow hhigh h hg

/-! `image` / `preimage`: the bodies `_image_of` / `_preimage_of` do not depend on how sifting is
driven, the rows `image_decorated` / `preimage_decorated` are those of DDProofs.ImageDynTotal (the
case of no schedule); only the reading differs -/

/-- `image(trans, source, rename, qvars, bdd, forall)`, ARBITRARY arguments, reordering possibly
enabled: returns or raises — never the internal signal — and leaves `DynKeptW` -/
theorem image_total_dyn (ext : Nat → Nat) (m : Mgr) (hD : DynInvS ext m)
    (t s : Int) (rn : List (Key × Key)) (q : List Key) (fa : Bool) :
    DynTotalK ext m (image t s rn q fa m) :=
  (image_decorated t s rn q fa m).totalK hD

/-- `preimage(trans, target, rename, qvars, bdd, forall)`, ARBITRARY arguments -/
theorem preimage_total_dyn (ext : Nat → Nat) (m : Mgr) (hD : DynInvS ext m)
    (t s : Int) (rn : List (Key × Key)) (q : List Key) (fa : Bool) :
    DynTotalK ext m (preimage t s rn q fa m) :=
  (preimage_decorated t s rn q fa m).totalK hD

theorem image_keepsDyn (t s : Int) (rn : List (Key × Key)) (q : List Key) (fa : Bool) :
    CoreKeeps false (image t s rn q fa) :=
  coreKeeps_of_decorated (image_decorated t s rn q fa)

theorem preimage_keepsDyn (t s : Int) (rn : List (Key × Key)) (q : List Key) (fa : Bool) :
    CoreKeeps false (preimage t s rn q fa) :=
  coreKeeps_of_decorated (preimage_decorated t s rn q fa)

/-- module-level `image` / `preimage` on `Function`s, ARBITRARY arguments (ids not in use,
`Function`s of another manager, any renaming, any `qvars`), reordering possibly enabled -/
theorem aImage_keepsDynTotal (pre : Bool) (ht hs : Nat) (rn : List (Key × Key)) (q : List Key)
    (fa : Bool) (h : Nat) : AKeeps false h (aImage pre ht hs rn q fa h) :=
  aImage_keeps image_keepsDyn preimage_keepsDyn pre ht hs rn q fa h

end DD.S
