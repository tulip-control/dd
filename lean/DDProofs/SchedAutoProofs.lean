/-
  DDProofs.SchedAutoProofs — the invariant of the autoref layer for sessions whose manager carries
  ANY recorded iteration schedule (namespace `DD.S`), as an instance of DDProofs.AutoSession:
  `S.AutoMInv` is `AutoMInv` without the clause `sched = []`, and asks for two declared variables
  when reordering may be enabled (the every-outcome reading of the decorator under a schedule,
  `Decorated.totalK`, assumes them).
-/
import DDProofs.AutoSession
import DDProofs.SwapDrivers
open Std

namespace DD.S

variable {off : Bool}

theorem RefExact.extCongr {m : Mgr} {ext ext' : Nat → Nat} (h : RefExact m ext)
    (he : ∀ k, ext k = ext' k) : RefExact m ext' := DD.RefExact.extCongr h he

theorem RefExact.lookup {m : Mgr} {ext : Nat → Nat} (h : RefExact m ext) (k : Nat) :
    m.ref[k]? = if (k = 1 ∨ (m.tbl.node? k).isSome) then
      some (indeg m.tbl k + ext k + (if k = 1 then 1 else 0)) else none := DD.RefExact.lookup h k

/-- external references of an `autoref.BDD`: the live `Function`s (the reference that
`_init_terminal` gives to node 1 is accounted for by `RefExact` itself) -/
def hext (a : AMgr) : Nat → Nat := fun k => hcount a.handles k

/-- `off = true` : dynamic reordering is not enabled;  `off = false` : it may be enabled, and there
are at least two variables (with one variable sifting raises `ValueError`, C07
`sift_single_variable_raises`, so an operation that triggers reordering would fail) -/
def ModeOK (off : Bool) (m : Mgr) : Prop :=
  (off = true → m.lastLen = none) ∧ (off = false → 2 ≤ m.nvars)

theorem ModeOK.transfer {off : Bool} {m m' : Mgr} (h : ModeOK off m) (hl : m'.lastLen = m.lastLen)
    (hn : m.nvars ≤ m'.nvars) : ModeOK off m' :=
  ⟨fun ho => by rw [hl]; exact h.1 ho, fun ho => Nat.le_trans (h.2 ho) hn⟩

/-- the part of the invariant that speaks about the wrapped manager alone, relative to a
ledger `ext` of references held from outside: the manager invariant, the name maps (C14), exact
counts (C06), between two calls (`ctx = false`), no registered roots (`autoref` never sets
`bdd.roots`), and the mode -/
structure AutoMInv (off : Bool) (ext : Nat → Nat) (m : Mgr) : Prop where
  inv : Inv m
  order : OrderOK m.tbl
  counts : RefExact m ext
  ctx : m.ctx = false
  roots : m.roots = []
  mode : ModeOK off m

theorem AutoMInv.extCongr {ext ext' : Nat → Nat} {m : Mgr} (h : AutoMInv off ext m)
    (he : ∀ k, ext k = ext' k) : AutoMInv off ext' m :=
  ⟨h.inv, h.order, h.counts.extCongr he, h.ctx, h.roots, h.mode⟩

theorem AutoMInv.reorderInv {ext : Nat → Nat} {m : Mgr} (h : AutoMInv off ext m) : ReorderInv ext m :=
  ⟨h.inv, h.order, h.counts, Or.inl h.ctx, fun r hr => by rw [h.roots] at hr; cases hr⟩

structure AInv (off : Bool) (a : AMgr) : Prop where
  minv : AutoMInv off (hext a) a.m
  hmem : ∀ (h : Nat) (u : Int), a.handles[h]? = some u → a.m.tbl.Mem u

theorem AInv.counts {a : AMgr} (h : AInv off a) : RefExact a.m (hext a) := h.minv.counts
theorem AInv.mode {a : AMgr} (h : AInv off a) : ModeOK off a.m := h.minv.mode

/-- `transfer` uses `hn`: "two variables" survives a step that loses none -/
theorem session : Auto.Session AutoMInv AInv where
  inv h := h.inv
  order h := h.order
  counts h := h.counts
  ctx h := h.ctx
  roots h := h.roots
  lastLen h := h.mode.1
  transfer h hi ho hr hc _ hro hn hl :=
    ⟨hi, ho, hr, hc.trans h.ctx, hro.trans h.roots, hl, fun e => Nat.le_trans (h.mode.2 e) hn⟩
  minv h := h.minv
  hmem h := h.hmem
  intro h1 h2 := ⟨h1, h2⟩

theorem drop_wrap_id (a : AMgr) (h : Nat) (u : Int) (hi : AInv off a)
    (hf : a.handles.contains h = false) (hu : a.m.tbl.Mem u) :
    ∃ a1 a2, wrap h u a = (.ok (), a1) ∧ drop h a1 = (.ok (), a2) ∧ AInv off a2 ∧
      a2.m.tbl = a.m.tbl ∧ (∀ k : Nat, a2.m.ref[k]? = a.m.ref[k]?) ∧
      (∀ j : Nat, a2.handles[j]? = a.handles[j]?) := Auto.drop_wrap_id session a h u hi hf hu

/-- nodes that are referenced from outside stay, with the same meaning by variable name -/
def HeldExt (t t' : Tbl) (ext : Nat → Nat) : Prop :=
  ∀ u : Int, t.Mem u → 0 < ext u.natAbs → t'.Mem u ∧ ∀ σ : AsgN, denN t' u σ = denN t u σ

/-- what the autoref layer needs from a core operation in ONE start state, whatever the
outcome (a result or an exception): the manager invariant and the count equation relative
to the *same* external references are kept, externally referenced nodes survive with their
meaning, and (mode `off = true`) reordering stays disabled -/
def CoreKeepsAt (off : Bool) (m : Mgr) (op : M α) : Prop :=
  ∀ (ext : Nat → Nat), AutoMInv off ext m → ∀ r m', op m = (r, m') →
    AutoMInv off ext m' ∧ HeldExt m.tbl m'.tbl ext

/-- … in every start state -/
structure CoreKeeps (off : Bool) (op : M α) : Prop where
  keeps : ∀ m : Mgr, CoreKeepsAt off m op

/-- the guarantee of an autoref operation that creates at most the handle `h`: the
invariant is kept, no other handle is touched, every `Function` that was alive keeps its
node and its meaning (whether the operation returns or raises).  This and the three below unfold
to `Auto.AKeeps AInv`, … of DDProofs.AutoSession, whose lemmas apply to them as they are -/
def AKeeps (off : Bool) (h : Nat) (x : AM α) : Prop :=
  ∀ a, AInv off a → a.handles.contains h = false → ∀ r a', x a = (r, a') →
    AInv off a' ∧ (∀ j : Nat, j ≠ h → a'.handles[j]? = a.handles[j]?) ∧
    (∀ (j : Nat) (u : Int), a.handles[j]? = some u →
      a'.m.tbl.Mem u ∧ ∀ asg, denN a'.m.tbl u asg = denN a.m.tbl u asg)

/-- the guarantee for one start state -/
def AKeepsAt (off : Bool) (a : AMgr) (h : Nat) (x : AM α) : Prop :=
  AInv off a → a.handles.contains h = false → ∀ r a', x a = (r, a') →
    AInv off a' ∧ (∀ j : Nat, j ≠ h → a'.handles[j]? = a.handles[j]?) ∧
    (∀ (j : Nat) (u : Int), a.handles[j]? = some u →
      a'.m.tbl.Mem u ∧ ∀ asg, denN a'.m.tbl u asg = denN a.m.tbl u asg)

/-- the same for an operation that creates at most the handles in the list `H` (`BDD.succ`
creates two; comparisons create none) -/
def AKeepsL (off : Bool) (H : List Nat) (x : AM α) : Prop :=
  ∀ a, AInv off a → (∀ h, h ∈ H → a.handles.contains h = false) → ∀ r a', x a = (r, a') →
    AInv off a' ∧ (∀ j : Nat, j ∉ H → a'.handles[j]? = a.handles[j]?) ∧
    (∀ (j : Nat) (u : Int), a.handles[j]? = some u →
      a'.m.tbl.Mem u ∧ ∀ asg, denN a'.m.tbl u asg = denN a.m.tbl u asg)

/-- … for one start state -/
def AKeepsLAt (off : Bool) (a : AMgr) (H : List Nat) (x : AM α) : Prop :=
  AInv off a → (∀ h, h ∈ H → a.handles.contains h = false) → ∀ r a', x a = (r, a') →
    AInv off a' ∧ (∀ j : Nat, j ∉ H → a'.handles[j]? = a.handles[j]?) ∧
    (∀ (j : Nat) (u : Int), a.handles[j]? = some u →
      a'.m.tbl.Mem u ∧ ∀ asg, denN a'.m.tbl u asg = denN a.m.tbl u asg)

theorem AKeepsL.at {x : AM α} {H : List Nat} (hk : AKeepsL off H x) (a : AMgr) : AKeepsLAt off a H x :=
  hk a

theorem AKeepsAt.toL {x : AM α} {h : Nat} {a : AMgr} (hk : AKeepsAt off a h x) :
    AKeepsLAt off a [h] x := Auto.AKeepsAt.toL hk

theorem AKeeps.toL {x : AM α} {h : Nat} (hk : AKeeps off h x) : AKeepsL off [h] x :=
  fun a => Auto.AKeepsAt.toL (hk a)

/-- an autoref-level read -/
def ARead (x : AM α) : Prop := ∀ a, (x a).2 = a

theorem ARead.throw (e : Err) : ARead (AM.throw e : AM α) := fun _ => rfl

theorem ARead.ite {c : Prop} [Decidable c] {x y : AM α} (hx : ARead x) (hy : ARead y) :
    ARead (if c then x else y) := DD.ARead.ite hx hy

theorem nodeOwn_handle (hu : Nat) (a : AMgr) (u : Int) (h : (nodeOwn hu a).1 = .ok u) :
    a.handles[hu]? = some u := by
  rw [nodeOwn_run] at h
  cases hh : a.handles[hu]? with
  | none => rw [hh] at h; cases h
  | some v => rw [hh] at h; cases h; rfl

theorem AKeepsAt.then_read' {x : AM α} {f : α → AM β} {h : Nat} (a : AMgr) (hx : AKeepsAt off a h x)
    (hf : ∀ v, ARead (f v)) : AKeepsAt off a h (x >>= f) := Auto.AKeepsAt.then_read a hx hf

theorem wrap_keeps (h : Nat) (u : Int) : AKeeps off h (wrap h u) :=
  wrapF_eq_wrap h u ▸ Auto.wrapF_keeps session h u

theorem aCopyVars_keepsAt (a : AMgr) (src : Tbl) (names : List String)
    (hs : CoreKeepsAt off a.m (copyVarsCore src names)) (h : Nat) :
    AKeepsAt off a h (aCopyVars src names) := Auto.liftM_keepsAt session a hs h

/-- one step of a history in which the handles in `P` are never dropped: any operation that
creates at most the (fresh) handles `H` and has the guarantee `AKeepsLAt` in the current state
(`AKeepsL off H x` gives it in every state), or the drop of a live handle outside `P` -/
inductive AStep (off : Bool) (P : Nat → Prop) : AMgr → AMgr → Prop
  | op {α : Type} (H : List Nat) (x : AM α) (a : AMgr) (hk : AKeepsLAt off a H x)
      (hf : ∀ h, h ∈ H → a.handles.contains h = false) (r : Except Err α) (a' : AMgr)
      (he : x a = (r, a')) : AStep off P a a'
  | drop (h : Nat) (hP : ¬ P h) (a a' : AMgr) (u : Int) (hl : a.handles[h]? = some u)
      (he : drop h a = (.ok (), a')) : AStep off P a a'

inductive AReach (off : Bool) (P : Nat → Prop) : AMgr → AMgr → Prop
  | refl (a : AMgr) : AReach off P a a
  | step {a b c : AMgr} : AReach off P a b → AStep off P b c → AReach off P a c

/-- every live `Function` keeps denoting the same function (by variable name) through any
sequence of operations, collections and reorderings, no matter when other `Function`s are
dropped; and the count equation holds throughout -/
theorem autoref_live_den (P : Nat → Prop) {a a' : AMgr} (hi : AInv off a) (hr : AReach off P a a') :
    AInv off a' ∧ ∀ h, P h → ∀ u, a.handles[h]? = some u →
      a'.handles[h]? = some u ∧ a'.m.tbl.Mem u ∧
      ∀ asg, denN a'.m.tbl u asg = denN a.m.tbl u asg := by
  induction hr with
  | refl => exact Auto.LiveDen.refl session P hi
  | step _ hs ih =>
    cases hs with
    | op H x _ hk hf r _ he => exact Auto.LiveDen.op ih hk hf he
    | drop h hP _ _ v hl he => exact Auto.LiveDen.drop session ih hP hl he

/-- the count equation without the terminal's own reference (the state inside
`dd.bdd.BDD.__del__` after `decref(1)`): `ref k = indeg k + ext k`, no other keys -/
def RefExact0 (m : Mgr) (ext : Nat → Nat) : Prop :=
  ∀ k : Nat, m.ref[k]? = if (k = 1 ∨ (m.tbl.node? k).isSome) then some (indeg m.tbl k + ext k) else none

/-- what `collect_garbage()` is assumed to do in that state (a statement about `dd.bdd`
alone; `collectGarbage_spec` proves it for states that still have the terminal's reference):
it succeeds, keeps invariant and equation, and leaves no stored node with count zero -/
structure GcSpec0 : Prop where
  gc : ∀ (m : Mgr) (ext : Nat → Nat), Inv m → RefExact0 m ext →
    ∃ m', collectGarbage none m = (.ok (), m') ∧ Inv m' ∧ RefExact0 m' ext ∧
      ∀ (u : Nat) (n : Nd), m'.tbl.node? u = some n → m'.ref[u]? ≠ some 0

/-- once every `Function` of a manager is gone, the manager's shutdown check
(`dd.bdd.BDD.__del__`) passes — whatever garbage is still stored: after the terminal's own
reference is released and a collection, only the terminal remains and every count is zero
(`Auto.autoref_shutdown` needs no assumption about the collection) -/
theorem autoref_shutdown_of_gcSpec0 (gs : GcSpec0) (a : AMgr) (hi : AInv off a)
    (he : a.handles.isEmpty = true) :
    ∃ m', shutdown a.m = (.ok (), m') ∧ (∀ u : Nat, m'.tbl.node? u = none) ∧
      (∀ (k c : Nat), m'.ref[k]? = some c → c = 0) :=
  Auto.autoref_shutdown session a hi he

end DD.S
