/-
  DDProofs.SchedDumpJsonDyn — `_copy.load_json(load_order=False)` into a manager with dynamic
  reordering ENABLED and ANY recorded iteration schedule (`DynInvS`), EVERY outcome (C12).  Every node
  is made with the decorated `var` / `ite` while a live `Function` holds every node made so far, so a
  reordering served inside is transparent (C09); the only other outcome is the model's `.sched`, after
  which `except BaseException:` gives the shelf's references back.  Meaning is by variable NAME
  (`denN`): levels may change.  This is the instance `schedMode` (below) of `LoadMode`
  (DDProofs.DumpJson); `sched = []` is DDProofs.DumpJsonDyn.
-/
import DDProofs.DumpJson
open Std
namespace DD

theorem loadedAs_byName {src : Mgr} (hIs : Inv src) (hvs : DmpVarsOK src.tbl) {roots : Roots} {f : JsonFile}
    (hd : dumpJson src roots = .ok f) {t : Tbl} (hW : WF t) (hO : OrderOK t) {roots' : Roots}
    (R : RootsRel (fun u r => t.Mem r ∧ ∀ σ, denN t r σ = evalJson f u σ) f.roots roots') :
    LoadedAs src.tbl roots t roots' :=
  loadedAs_of_dump hIs hvs hd (R.denBy_of_denN hW hO)

theorem DynInvS.declared {ext : Nat → Nat} {names : List String} {m m' : Mgr} (hD : DynInvS ext m)
    (d : Declared names m m') : DynInvS ext m' :=
  ⟨d.inv, d.order, d.refs hD.refs, d.ctx.trans hD.ctx, by rw [d.roots]; exact hD.roots,
    Nat.le_trans hD.nvars d.nvars⟩

theorem HeldX.extAdd {e0 : Nat → Nat} {u : Int} (hu : HeldX e0 u) (l : List Nat) :
    HeldX (extAdd e0 l) u :=
  hu.imp id fun h => by simp only [DD.extAdd]; omega

theorem heldX_of_mem (e0 : Nat → Nat) {l : List Nat} {u : Int} (hu : u.natAbs ∈ l) :
    HeldX (extAdd e0 l) u :=
  Or.inr (by have : 0 < l.count u.natAbs := List.count_pos_iff.mpr hu; simp only [extAdd]; omega)

theorem heldX_cons {e0 : Nat → Nat} {l : List Nat} {w : Int} (h : HeldX (extAdd e0 l) w) (k : Nat) :
    HeldX (extAdd e0 (k :: l)) w := by
  rcases h with h | h
  · exact Or.inl h
  · refine Or.inr ?_
    simp only [extAdd, List.count_cons] at h ⊢
    omega

theorem heldX_append {e0 : Nat → Nat} {l : List Nat} {w : Int} (h : HeldX (extAdd e0 l) w) (l' : List Nat) :
    HeldX (extAdd e0 (l' ++ l)) w := by
  induction l' with
  | nil => exact h
  | cons k l' ih => exact heldX_cons ih k

end DD

namespace DD.S

/-- in this namespace the state between two calls carries ANY recorded schedule -/
abbrev DynInv := DynInvS

def Fails {α : Type} (e : Err) (r : Except Err α × Mgr) : Prop := r.1 = .error e

structure DynL (e0 : Nat → Nat) (l : List Nat) (m : Mgr) : Prop where
  dyn : DynInv (extAdd e0 l) m
  roots0 : ∀ r ∈ m.roots, 0 < e0 r.natAbs

/-- the ledger of the loader over `DynL`; what a step keeps is said by `DynKeeps`, which sees the
loader's own references -/
def ledger (e0 : Nat → Nat) : LCalc e0 where
  G := DynL e0
  K := fun _ _ => True
  inv := fun h => h.dyn.inv
  exact := fun h => h.dyn.refs
  refl := fun _ => trivial
  trans := fun _ _ => trivial
  setRef := fun _ _ h hI hr =>
    ⟨⟨hI, h.dyn.order, hr, h.dyn.ctx, fun x hx => by have := h.roots0 x hx; simp only [extAdd]; omega,
      h.dyn.nvars⟩, h.roots0⟩
  kRef := fun _ _ => trivial

theorem DynL.next {e0 : Nat → Nat} {l l' : List Nat} {m m' : Mgr} (h : DynL e0 l m)
    (hD : DynInv (extAdd e0 l') m') (hr : m'.roots = m.roots) : DynL e0 l' m' :=
  ⟨hD, fun r hr' => h.roots0 r (hr ▸ hr')⟩

/-- what a step of the loader keeps, with reordering possibly served inside -/
structure DynKeeps (ext : Nat → Nat) (m m' : Mgr) : Prop where
  enabled : m'.lastLen.isSome = m.lastLen.isSome
  names : ∀ s, m'.tbl.vars.contains s = m.tbl.vars.contains s
  roots : m'.roots = m.roots
  held : ∀ w, HeldX ext w → m'.tbl.Mem w ∧ ∀ σ, denN m'.tbl w σ = denN m.tbl w σ

/-- what a step of the loader keeps when it ends in the model's schedule error (the switch of
dynamic reordering is not among it: `_try_to_reorder` had switched it off for the sifting) -/
structure DynKeepsW (ext : Nat → Nat) (m m' : Mgr) : Prop where
  names : ∀ s, m'.tbl.vars.contains s = m.tbl.vars.contains s
  roots : m'.roots = m.roots
  held : ∀ w, HeldX ext w → m'.tbl.Mem w ∧ ∀ σ, denN m'.tbl w σ = denN m.tbl w σ

theorem DynKeeps.toW {ext : Nat → Nat} {m m' : Mgr} (h : DynKeeps ext m m') : DynKeepsW ext m m' :=
  ⟨h.names, h.roots, h.held⟩

theorem DynKeepsW.trans {ext : Nat → Nat} {m m1 m2 : Mgr} (h1 : DynKeepsW ext m m1)
    (h2 : DynKeepsW ext m1 m2) : DynKeepsW ext m m2 :=
  ⟨fun s => (h2.names s).trans (h1.names s), h2.roots.trans h1.roots,
    fun w hw => byName_trans (h1.held w hw) (h2.held w hw)⟩

theorem DynKeepsW.mono {ext ext' : Nat → Nat} {m m' : Mgr} (h : DynKeepsW ext' m m')
    (hm : ∀ w, HeldX ext w → HeldX ext' w) : DynKeepsW ext m m' :=
  ⟨h.names, h.roots, fun w hw => h.held w (hm w hw)⟩

theorem DynKeeps.ofW {ext : Nat → Nat} {m m' : Mgr} (h : DynKeepsW ext m m')
    (he : m'.lastLen.isSome = m.lastLen.isSome) : DynKeeps ext m m' := ⟨he, h.names, h.roots, h.held⟩

theorem DynKeeps.refl (ext : Nat → Nat) {m : Mgr} (hr : RefExact m ext) : DynKeeps ext m m :=
  ⟨rfl, fun _ => rfl, rfl, fun _ hw => ⟨hw.mem hr, fun _ => rfl⟩⟩

theorem DynKeeps.setRef {ext : Nat → Nat} {m m' : Mgr} (h : DynKeeps ext m m') (r : TreeMap Nat Nat) :
    DynKeeps ext m { m' with ref := r } := ⟨h.enabled, h.names, h.roots, h.held⟩

theorem DynKeepsW.setRef {ext : Nat → Nat} {m m' : Mgr} (h : DynKeepsW ext m m') (r : TreeMap Nat Nat) :
    DynKeepsW ext m { m' with ref := r } := ⟨h.names, h.roots, h.held⟩

/-- what a decorated call keeps whatever its outcome; it was made in a state `m0` that differs from
`m` in `_ref` only -/
theorem DynKeepsW.ofKept {ext : Nat → Nat} {m0 m m' : Mgr} (h : DynKeptW ext m0 m') (ht : m0.tbl = m.tbl)
    (hr : m0.roots = m.roots) : DynKeepsW ext m m' :=
  ⟨ht ▸ h.names, hr ▸ h.roots, ht ▸ h.held⟩

theorem DynKeeps.ofKept {ext : Nat → Nat} {m0 m m' : Mgr} (h : DynKeptS ext m0 m') (ht : m0.tbl = m.tbl)
    (hr : m0.roots = m.roots) (hl : m0.lastLen = m.lastLen) : DynKeeps ext m m' :=
  ⟨hl ▸ h.enabled, ht ▸ h.names, hr ▸ h.roots, ht ▸ h.held⟩

/-- the mode "dynamic reordering possibly enabled, ANY recorded schedule": a decorated call whose
operands are held by live `Function`s is transparent for everything that is held (C09), or ends in the
model's `.sched` — only with a recorded schedule —, everything kept but the switch (`DynKeepsW`).
`Ok`: the switch is kept and no schedule appears -/
def schedMode (e0 : Nat → Nat) : LoadMode e0 where
  C := ledger e0
  Keeps := fun l a b => DynKeepsW (extAdd e0 l) a b
  Ok := fun a b => b.lastLen.isSome = a.lastLen.isSome ∧ (a.sched = [] → b.sched = [])
  E := fun a er => er = .sched ∧ a.sched ≠ []
  refl := fun (g : DynL e0 _ _) => (DynKeeps.refl _ g.dyn.refs).toW
  kRef := fun (g : DynL e0 _ _) r => (DynKeeps.refl _ g.dyn.refs).toW.setRef r
  trans := DynKeepsW.trans
  mono := fun {k} _ _ _ q => q.mono fun _ hw0 => heldX_cons hw0 k
  names := fun q => q.names
  held := fun _ q w hw _ => q.held w (heldX_of_mem e0 hw)
  okRefl := fun _ => ⟨rfl, id⟩
  okRef := fun _ _ => ⟨rfl, id⟩
  okTrans := fun h1 h2 => ⟨h2.1.trans h1.1, fun h0 => h2.2 (h1.2 h0)⟩
  eBack := fun h1 h2 => ⟨h2.1, fun h0 => h2.2 (h1.2 h0)⟩
  var := fun {l m} name (g : DynL e0 l m) hdecl => by
    have T3 := ((var_decorated name _).totalK g.dyn).2.1
    rcases (var_transparentS _ _ g.dyn name hdecl).cases with ⟨r, m3, evar, p3⟩ | ⟨m3, evar, hs⟩
    · have K3 : DynKeeps (extAdd e0 l) m m3 := .ofKept (m := m) p3.kept rfl rfl rfl
      exact Or.inl ⟨r, m3, evar, g.next p3.inv p3.roots, K3.toW, ⟨K3.enabled, p3.sched⟩, p3.doc.1, p3.doc.2⟩
    · rw [evar] at T3
      exact Or.inr ⟨.sched, m3, evar, ⟨rfl, hs⟩, g.next T3.inv T3.roots, DynKeepsW.ofKept (m := m) T3 rfl rfl⟩
  ite := fun {l m} a u v (g : DynL e0 l m) ha hu hv => by
    have T5 := ((ite_decorated a u v m).totalK g.dyn).2.1
    rcases (ite_transparentS _ m g.dyn a u v (heldX_of_mem e0 ha) (heldX_of_mem e0 hu)
      (heldX_of_mem e0 hv)).cases with ⟨r, m5, eite, p5⟩ | ⟨m5, eite, hs⟩
    · have K5 : DynKeeps (extAdd e0 l) m m5 := .ofKept (m := m) p5.kept rfl rfl rfl
      exact Or.inl ⟨r, m5, eite, g.next p5.inv p5.roots, K5.toW, ⟨K5.enabled, p5.sched⟩, p5.doc.1, p5.doc.2⟩
    · rw [eite] at T5
      exact Or.inr ⟨.sched, m5, eite, ⟨rfl, hs⟩, g.next T5.inv T5.roots, DynKeepsW.ofKept (m := m) T5 rfl rfl⟩

/-- the state after `load_json(load_order=False)` into a manager with reordering possibly
enabled: as between two calls (`DynInv`) for the caller's ledger plus one reference per returned
`Function`; no stray unique-table entry (`assert_consistent` passes); reordering enabled iff it
was; the caller's names and the file's names are declared; `bdd.roots` untouched; every
reference the caller holds is still a node and denotes the same function of the variable NAMES;
the result has the shape of the file's container and denotes, by name, what the file says -/
structure JsonLoadedDyn (f : JsonFile) (ext : Nat → Nat) (tgt : Mgr) (roots' : Roots) (m' : Mgr) : Prop where
  dyn : DynInv (extAdd ext (roots'.values.map Int.natAbs)) m'
  pred : PredNodes m'
  reordering : m'.lastLen.isSome = tgt.lastLen.isSome
  oldNames : ∀ v : String, tgt.tbl.vars.contains v = true → m'.tbl.vars.contains v = true
  fileNames : ∀ v ∈ f.levelOfVar.map (·.1), m'.tbl.vars.contains v = true
  regRoots : m'.roots = tgt.roots
  held : ∀ w, HeldX ext w → m'.tbl.Mem w ∧ ∀ σ, denN m'.tbl w σ = denN tgt.tbl w σ
  roots : RootsRel (fun u r => m'.tbl.Mem r ∧ ∀ σ, denN m'.tbl r σ = evalJson f u σ) f.roots roots'

/-- `_copy.load_json(file, bdd, load_order=False)` into a manager with dynamic reordering possibly
ENABLED (any threshold, a request possible at every `find_or_add`), any recorded schedule, for a
well-formed content, EVERY outcome.  The load returns with `JsonLoadedDyn` (and no schedule is left if
there was none); or a sifting inside a decorated `var` / `ite` found that the recorded schedule does
not fit: then one was recorded, the `try:` body fails with `.sched`, `load_json` raises it, and the
manager is again as between two calls for the caller's OWN ledger (every reference the loader took
was given back), the caller's names, `bdd.roots` and held references kept by name -/
theorem loadJson_dyn_outcomes (f : JsonFile) (hf : JsonWF f) (tgt : Mgr) (ext : Nat → Nat)
    (hD : DynInv ext tgt) (hpn : PredNodes tgt) :
    (∃ roots' m', loadJson f false tgt = (.ok roots', m') ∧ JsonLoadedDyn f ext tgt roots' m' ∧
      (tgt.sched = [] → m'.sched = [])) ∨
    ((jsonTry f false tgt).1 = .error .sched ∧ tgt.sched ≠ [] ∧
      ∃ m', loadJson f false tgt = (.error .sched, m') ∧ DynInv ext m' ∧ PredNodes m' ∧
        (∀ (v : String), tgt.tbl.vars.contains v = true → m'.tbl.vars.contains v = true) ∧
        (∀ v ∈ f.levelOfVar.map (·.1), m'.tbl.vars.contains v = true) ∧
        m'.roots = tgt.roots ∧
        (∀ w, HeldX ext w → m'.tbl.Mem w ∧ ∀ σ, denN m'.tbl w σ = denN tgt.tbl w σ)) := by
  obtain ⟨m1, ed, d⟩ := declare_ok (f.levelOfVar.map (·.1)) tgt hD.inv hD.order
  have D1 := hD.declared d
  have hdecl : ∀ v ∈ f.levelOfVar.map (·.1), m1.tbl.vars.contains v = true := fun v hv => by
    rw [TreeMap.contains_eq_isSome_getElem?]; exact d.declared v hv
  have htry := jsonTry_header_ok f false tgt m1 (jsonHeader_false f tgt m1 ed)
  -- what the caller keeps, given what the node lines keep
  have kept : ∀ {m2 : Mgr}, DynKeepsW ext m1 m2 →
      (∀ (v : String), tgt.tbl.vars.contains v = true → m2.tbl.vars.contains v = true) ∧
      (∀ v ∈ f.levelOfVar.map (·.1), m2.tbl.vars.contains v = true) ∧ m2.roots = tgt.roots ∧
      (∀ w, HeldX ext w → m2.tbl.Mem w ∧ ∀ σ, denN m2.tbl w σ = denN tgt.tbl w σ) := fun q =>
    ⟨fun v hv => (q.names v).trans (d.contains hv), fun v hv => (q.names v).trans (hdecl v hv),
      q.roots.trans d.roots, fun w hw0 => byName_trans (d.held w (hw0.mem hD.refs)) (q.held w hw0)⟩
  rw [loadJson_false_eq, htry]
  obtain ⟨added, m2, (qW : DynKeepsW (extAdd ext []) m1 m2), n2, (L2 : DynL ext _ m2), c2,
      ⟨emk, o2, a2⟩ | ⟨_, emk, rfl, hs⟩⟩ := (schedMode ext).makeNodesE hf.wf _ f.nodes [] [] m1 []
    (by simpa using hf.order) (lineN_of_wf hf hdecl) (by simp)
    (show DynL ext [] m1 from ⟨by rw [extAdd_nil]; exact D1, D1.roots⟩)
    (fun k u h => by simp at h) (fun k u h => by simp at h) (by simp)
  all_goals
    have hk2 : KeysOK m2 := keysOK_makeNodesE (hpn.keysOK.congr d.pred) emk
    simp only [List.nil_append, List.append_nil] at emk L2 c2 n2
    rw [extAdd_nil] at qW
    have hk5 : ∀ r, KeysOK ({ m2 with ref := r } : Mgr) := fun _ => hk2.congr rfl
  · -- the node lines went through: the roots, the checks, the release of the shelf
    have hks := hf.rootsOnShelf (by simpa using a2)
    obtain ⟨r, efin, g⟩ := jsonAfterLines_false (ledger ext) f hf.roots m1 m2 added emk n2 (shelfN_ids n2 c2)
      L2 hks (hk2.predNodes L2.dyn.inv)
      (fun r hr => ((HeldX.extAdd (Or.inr (L2.roots0 r hr)) _).mem L2.dyn.refs))
    obtain ⟨hrel, hvals⟩ := c2.roots hf L2.dyn.inv.wf.toWF hks
    have g' : DynL ext _ { m2 with ref := r } := g
    obtain ⟨o, n, rt, hd⟩ := kept (qW.setRef r)
    exact Or.inl ⟨_, _, efin, ⟨by rw [hvals]; exact g'.dyn, (hk5 r).predNodes g'.dyn.inv,
      o2.1.trans (congrArg _ d.lastLen), o, n, rt, hd, hrel⟩, fun h0 => o2.2 (d.sched.trans h0)⟩
  · -- a decorated call ended in `.sched`: the handler gives the shelf's references back
    have eah := jsonAfterHeader_err f false m1 m2 .sched added emk
    obtain ⟨r, efin, g⟩ := jsonFinish_errC (ledger ext) f false .sched added n2 (shelfN_ids n2 c2) none m2
      (show DynL ext _ m2 by simpa [shelfRefs] using L2)
    have g' : DynL ext [] { m2 with ref := r } := g
    have D5 : DynInv ext ({ m2 with ref := r } : Mgr) := by simpa [extAdd_nil] using g'.dyn
    rw [eah, efin]
    exact Or.inr ⟨rfl, fun h0 => hs (d.sched.trans h0), _, rfl, D5, (hk5 r).predNodes D5.inv, kept (qW.setRef r)⟩

/-- `_make_node` (`load_order=False`), EVERY outcome of the decorated `var` / `ite`: the documented
shelf entry; or the model's schedule error, the temporaries released, everything kept -/
theorem makeNode_dynK {f : PickleFile} (hw : PickleWF f) (vat : List (Nat × String)) (ln : JLine)
    (e0 : Nat → Nat) (l : List Nat) (m : Mgr) (h : DynL e0 l m) (hk : KeysOK m)
    (cache : List (Nat × Int)) (hc : ShelfN f m.tbl cache)
    (hheld : ∀ k u, cache.lookup k = some u → u.natAbs ∈ l)
    (hnew : cache.lookup ln.id = none)
    (hline : PEntry.find f.succ ln.id = some ⟨ln.id, ln.lvl, some ln.lo, some ln.hi⟩) (hid : ln.id ≠ 1)
    (hlo : ln.lo.natAbs = 1 ∨ (cache.lookup ln.lo.natAbs).isSome)
    (hhi : ln.hi.natAbs = 1 ∨ (cache.lookup ln.hi.natAbs).isSome)
    (name : String) (hvat : vat.lookup ln.lvl = some name) (hname : f.nameAt ln.lvl = some name)
    (hdecl : m.tbl.vars.contains name = true) :
    (∃ u m', makeNode false vat ln cache m = (.ok (cache ++ [(ln.id, u)]), m') ∧
      DynL e0 (u.natAbs :: l) m' ∧ KeysOK m' ∧ ShelfN f m'.tbl (cache ++ [(ln.id, u)]) ∧
      DynKeeps (extAdd e0 l) m m') ∨
    (∃ m', makeNode false vat ln cache m = (.error .sched, m') ∧ DynL e0 l m' ∧ KeysOK m' ∧
      ShelfN f m'.tbl cache ∧ DynKeepsW (extAdd e0 l) m m') :=
  have k : ∀ {r m'}, makeNode false vat ln cache m = (r, m') → KeysOK m' := (ksm_makeNode false vat ln cache m hk).of_eq
  ((schedMode e0).makeNode hw vat ln l m h cache hc hheld hnew hline hid hlo hhi name hvat hname hdecl).imp
    (fun ⟨u, m', e, g, c, q, o⟩ => ⟨u, m', e, g, k e, c, .ofW q o.1⟩)
    fun ⟨_, m', e, ⟨rfl, _⟩, g, c, q⟩ => ⟨m', e, g, k e, c, q⟩

/-- `_make_node`, reordering possibly enabled: the documented shelf entry, or the decorated
`var` / `ite` made the model report `.sched` -/
theorem makeNode_dyn {f : PickleFile} (hw : PickleWF f) (vat : List (Nat × String)) (ln : JLine)
    (e0 : Nat → Nat) (l : List Nat) (m : Mgr) (h : DynL e0 l m) (hk : KeysOK m)
    (cache : List (Nat × Int)) (hc : ShelfN f m.tbl cache)
    (hheld : ∀ k u, cache.lookup k = some u → u.natAbs ∈ l)
    (hnew : cache.lookup ln.id = none)
    (hline : PEntry.find f.succ ln.id = some ⟨ln.id, ln.lvl, some ln.lo, some ln.hi⟩) (hid : ln.id ≠ 1)
    (hlo : ln.lo.natAbs = 1 ∨ (cache.lookup ln.lo.natAbs).isSome)
    (hhi : ln.hi.natAbs = 1 ∨ (cache.lookup ln.hi.natAbs).isSome)
    (name : String) (hvat : vat.lookup ln.lvl = some name) (hname : f.nameAt ln.lvl = some name)
    (hdecl : m.tbl.vars.contains name = true) :
    (∃ u m', makeNode false vat ln cache m = (.ok (cache ++ [(ln.id, u)]), m') ∧
      DynL e0 (u.natAbs :: l) m' ∧ KeysOK m' ∧ ShelfN f m'.tbl (cache ++ [(ln.id, u)]) ∧
      DynKeeps (extAdd e0 l) m m') ∨ Fails .sched (makeNode false vat ln cache m) :=
  (makeNode_dynK hw vat ln e0 l m h hk cache hc hheld hnew hline hid hlo hhi name hvat hname hdecl).imp_right
    fun ⟨_, e, _⟩ => congrArg Prod.fst e

theorem makeNodes_dyn {f : PickleFile} (hw : PickleWF f) (vat : List (Nat × String)) (e0 : Nat → Nat) :
    ∀ (rest pre : List JLine) (cache : List (Nat × Int)) (m : Mgr) (l : List Nat),
      ChildrenFirst (pre ++ rest) → (∀ ln ∈ rest, LineN f vat m.tbl.vars ln) →
      (∀ l' ∈ pre, (cache.lookup l'.id).isSome) → DynL e0 l m → KeysOK m → ShelfN f m.tbl cache →
      (∀ k u, cache.lookup k = some u → u.natAbs ∈ l) → (cache.map (·.1)).Nodup →
      (∃ added m', makeNodes false vat rest cache m = (.ok (cache ++ added), m') ∧
        DynL e0 (added.map (·.2.natAbs) ++ l) m' ∧ KeysOK m' ∧ ShelfN f m'.tbl (cache ++ added) ∧
        DynKeeps (extAdd e0 l) m m' ∧
        ((cache ++ added).map (·.1)).Nodup ∧ (∀ l' ∈ pre ++ rest, ((cache ++ added).lookup l'.id).isSome)) ∨
      Fails .sched (makeNodes false vat rest cache m) := by
  intro rest pre cache m l hcf hlines hpre h hk hc hheld hn
  obtain ⟨added, m', q, n, g, c, ⟨e, o, a⟩ | ⟨_, e, rfl, _⟩⟩ :=
    (schedMode e0).makeNodesE hw vat rest pre cache m l hcf hlines hpre h hc hheld hn
  · refine Or.inl ⟨added, m', by rw [makeNodes_eq, e], g,
      keysOK_makeNodesE hk e, c, .ofW q o.1, n, fun l' hl' => ?_⟩
    exact (List.mem_append.mp hl').elim (fun h' => lookup_isSome_append (hpre l' h') _) (a l')
  · exact Or.inr (by unfold Fails; rw [makeNodes_eq, e])

theorem loadJson_dyn_spec (f : JsonFile) (hf : JsonWF f) (tgt : Mgr) (ext : Nat → Nat)
    (hD : DynInv ext tgt) (hpn : PredNodes tgt) :
    (∃ roots' m', loadJson f false tgt = (.ok roots', m') ∧
      DynInv (extAdd ext (roots'.values.map Int.natAbs)) m' ∧ PredNodes m' ∧
      m'.lastLen.isSome = tgt.lastLen.isSome ∧
      (∀ (v : String), tgt.tbl.vars.contains v = true → m'.tbl.vars.contains v = true) ∧
      (∀ v ∈ f.levelOfVar.map (·.1), m'.tbl.vars.contains v = true) ∧
      m'.roots = tgt.roots ∧
      (∀ w, HeldX ext w → m'.tbl.Mem w ∧ ∀ σ, denN m'.tbl w σ = denN tgt.tbl w σ) ∧
      RootsRel (fun u r => m'.tbl.Mem r ∧ ∀ σ, denN m'.tbl r σ = evalJson f u σ) f.roots roots') ∨
    ((jsonTry f false tgt).1 = .error .sched ∧ ∃ e, (loadJson f false tgt).1 = .error e) :=
  (loadJson_dyn_outcomes f hf tgt ext hD hpn).imp
    (fun ⟨r, m', e, L, _⟩ => ⟨r, m', e, L.dyn, L.pred, L.reordering, L.oldNames, L.fileNames, L.regRoots, L.held, L.roots⟩)
    fun ⟨ht, _, _, e, _⟩ => ⟨ht, .sched, congrArg Prod.fst e⟩

/-- C12 for `_copy.load_json(load_order=False)` with dynamic reordering ENABLED in the receiving
manager (any threshold; a request may come at any `find_or_add` of the decorated `var` / `ite`
the loader calls, sifting runs and the call is retried) -/
def json_load_dyn_statement : Prop :=
  ∀ (f : JsonFile) (tgt : Mgr) (ext : Nat → Nat), JsonWF f → DynInv ext tgt → PredNodes tgt →
    (∃ roots' m', loadJson f false tgt = (.ok roots', m') ∧ JsonLoadedDyn f ext tgt roots' m') ∨
    ((jsonTry f false tgt).1 = .error .sched ∧ ∃ e, (loadJson f false tgt).1 = .error e)

theorem json_load_dyn_holds : json_load_dyn_statement := fun f tgt ext hf hD hpn =>
  (loadJson_dyn_outcomes f hf tgt ext hD hpn).imp (fun ⟨r, m', e, L, _⟩ => ⟨r, m', e, L⟩)
    fun ⟨ht, _, _, e, _⟩ => ⟨ht, .sched, congrArg Prod.fst e⟩

/-- JSON round trip with reordering possibly enabled in the receiving manager -/
def json_roundtrip_dyn_statement : Prop :=
  ∀ (src : Mgr) (roots : Roots) (f : JsonFile) (tgt : Mgr) (ext : Nat → Nat),
    Inv src → DmpVarsOK src.tbl → dumpJson src roots = .ok f → DynInv ext tgt → PredNodes tgt →
    (∃ roots' m', loadJson f false tgt = (.ok roots', m') ∧ JsonLoadedDyn f ext tgt roots' m' ∧
      LoadedAs src.tbl roots m'.tbl roots') ∨
    ((jsonTry f false tgt).1 = .error .sched ∧ ∃ e, (loadJson f false tgt).1 = .error e)

theorem json_roundtrip_dyn_holds : json_roundtrip_dyn_statement :=
  fun _ _ f tgt ext hIs hvs hd hD hpn =>
    (json_load_dyn_holds f tgt ext (dumpJson_jsonWF hIs hvs hd) hD hpn).imp_left
      fun ⟨r, m', e, L⟩ => ⟨r, m', e, L, loadedAs_byName hIs hvs hd L.dyn.inv.wf.toWF L.dyn.order L.roots⟩

theorem releaseFailed_dyn (e0 : Nat → Nat) (cache : List (Nat × Int)) (hn : (cache.map (·.1)).Nodup)
    (h1 : ∀ p ∈ cache, p.1 ≠ 1) :
    ∀ (ents : List (Nat × Int)) (prev : Option Int) (m : Mgr) (L : List Nat),
      (∀ p ∈ ents, p ∈ cache) →
      DynL e0 (prev.toList.map Int.natAbs ++ (shelfRefs ents ++ L)) m →
      ∃ last r, releaseFailed cache ents prev m = (.ok (), last, { m with ref := r }) ∧
        DynL e0 (last.toList.map Int.natAbs ++ L) { m with ref := r } :=
  releaseFailedC (ledger e0) cache hn h1

theorem heldX_append {e0 : Nat → Nat} {l : List Nat} {w : Int} (h : HeldX (extAdd e0 l) w) (l' : List Nat) :
    HeldX (extAdd e0 (l' ++ l)) w := DD.heldX_append h l'

theorem KeysOK.of_eq {α : Type} {x y : Except Err α × Mgr} (h : KeysOK x.2) (e : x = y) :
    KeysOK y.2 := DD.KeysOK.of_eq h e

end DD.S
