/-
  DDProofs.SchedDumpJsonDynK — `_copy.load_json(load_order=False)`, dynamic reordering enabled, ANY
  recorded schedule: what a load whose `try:` body fails with the model's `.sched` leaves behind, read
  off the every-outcome theorems for the mode `schedMode` and `loadJson_dyn_outcomes`.  The
  temporaries of `_make_node` die, `except BaseException:` gives the shelf's references back: the
  manager is again as between two calls for the caller's own ledger.
-/
import DDProofs.SchedDumpJsonDyn
open Std
namespace DD.S

/-- the loop over the node lines as `jsonTry` runs it, EVERY outcome: it goes through; or a
decorated call ended in the model's schedule error at some line — then the shelf holds one
reference per node made so far, and everything is kept -/
theorem makeNodesE_dynK {f : PickleFile} (hw : PickleWF f) (vat : List (Nat × String)) (e0 : Nat → Nat) :
    ∀ (rest pre : List JLine) (cache : List (Nat × Int)) (m : Mgr) (l : List Nat),
      ChildrenFirst (pre ++ rest) → (∀ ln ∈ rest, LineN f vat m.tbl.vars ln) →
      (∀ l' ∈ pre, (cache.lookup l'.id).isSome) → DynL e0 l m → KeysOK m → ShelfN f m.tbl cache →
      (∀ k u, cache.lookup k = some u → u.natAbs ∈ l) → (cache.map (·.1)).Nodup →
      (makeNodesE false vat rest cache m).1 = .ok () ∨
      (∃ added m', makeNodesE false vat rest cache m = (.error .sched, cache ++ added, m') ∧
        DynL e0 (added.map (·.2.natAbs) ++ l) m' ∧ KeysOK m' ∧ ShelfN f m'.tbl (cache ++ added) ∧
        DynKeepsW (extAdd e0 l) m m' ∧ ((cache ++ added).map (·.1)).Nodup) :=
  fun rest pre cache m l hcf hlines hpre h hk hc hheld hn =>
    have ⟨added, m', q, n, g, c, hcase⟩ :=
      (schedMode e0).makeNodesE hw vat rest pre cache m l hcf hlines hpre h hc hheld hn
    hcase.imp (fun ⟨e, _⟩ => congrArg Prod.fst e) fun ⟨_, e, rfl, _⟩ =>
      ⟨added, m', e, g, keysOK_makeNodesE hk e, c, q, n⟩

/-- **what a load that failed with the model's schedule error leaves behind**
(`load_json(load_order=False)`, reordering possibly enabled, any recorded schedule): if the `try:`
body of `_load_json` fails with `.sched`, then `load_json` raises that error and the manager is
again as between two calls for the caller's OWN ledger (`DynInv ext`: invariant, exact counts —
every reference the loader took was given back), the unique table has no stray key, the names that
were declared and the names of the file are declared, the registered roots are the same, and every
reference the caller holds is still a node with the same function of the variable names -/
theorem loadJson_dyn_failK (f : JsonFile) (hf : JsonWF f) (tgt : Mgr) (ext : Nat → Nat)
    (hD : DynInv ext tgt) (hpn : PredNodes tgt) (htry : (jsonTry f false tgt).1 = .error .sched) :
    ∃ m', loadJson f false tgt = (.error .sched, m') ∧ DynInv ext m' ∧ PredNodes m' ∧
      (∀ (v : String), tgt.tbl.vars.contains v = true → m'.tbl.vars.contains v = true) ∧
      (∀ v ∈ f.levelOfVar.map (·.1), m'.tbl.vars.contains v = true) ∧
      m'.roots = tgt.roots ∧
      (∀ w, HeldX ext w → m'.tbl.Mem w ∧ ∀ σ, denN m'.tbl w σ = denN tgt.tbl w σ) := by
  rcases loadJson_dyn_outcomes f hf tgt ext hD hpn with ⟨_, _, el, _⟩ | ⟨_, _, h⟩
  · obtain ⟨e', he'⟩ := jsonFinish_error f false _ htry
    rw [← loadJson_false_eq, el] at he'
    cases he'
  · exact h

end DD.S
