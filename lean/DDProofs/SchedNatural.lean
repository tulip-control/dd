/-
  DDProofs.SchedNatural — the node surgery of `swap` and `collect_garbage` neither read nor write
  the recorded schedule: running them with ANOTHER schedule in the state gives the same answer and
  the same state up to that schedule (`SN x`: `x (setS s m) = ((x m).1, setS s (x m).2)`).

  This is what makes a recorded schedule *a priori* meaningful: while the first items are being
  consumed, the later items sit in `m.sched`; `SN` says that they do not influence what happens
  until they are reached (DDProofs.SchedAccept).

  The property proved is `SchedNat`: natural in the schedule, the context flag left as it was, no
  `.sched` answer.  It is closed under sequencing (`SchedNat.seqClosed`) and the state-changing
  primitives have it (`SchedNat.swapPrims`), so the walks are those of DDProofs.SwapSeq.  The
  parts are read off where they are needed (`SN`, `NS`, `SNc`, …).
-/
import DDProofs.SwapSeq
import DDProofs.FindOrAddState
open Std

namespace DD

def setS (s : List SchedItem) (m : Mgr) : Mgr := { m with sched := s }

theorem setS_setS (s s' : List SchedItem) (m : Mgr) : setS s (setS s' m) = setS s m := rfl
theorem setS_self (m : Mgr) : setS m.sched m = m := rfl

/-- `x` is natural in the recorded schedule: it neither reads nor writes it -/
def SN {α} (x : M α) : Prop := ∀ (s : List SchedItem) (m : Mgr), x (setS s m) = ((x m).1, setS s (x m).2)

theorem SN.assert (b : Bool) (e : Err) : SN (M.assert b e) := by
  intro s m; cases b <;> rfl

theorem SN.of_eq {α} {x : M α} (h : ∀ s m, x (setS s m) = ((x m).1, setS s (x m).2)) : SN x := h

/-- the outcome `p` of a run with the schedule `s` put into the state, beside the outcome `q` of
the run without: the same answer, the same state up to the schedule; the context flag is `b` at
the end, and the answer is not the model's schedule error -/
structure SchedOut (b : Bool) (s : List SchedItem) {α} (p q : Except Err α × Mgr) : Prop where
  eq : p = (q.1, setS s q.2)
  ctx : q.2.ctx = b
  ns : q.1 ≠ .error .sched

/-- started with the context flag `b` (`true`: inside the decorator's reordering context), `x` is
natural in the recorded schedule, leaves the flag as it is, and does not answer `.sched` -/
def SchedNat (b : Bool) {α} (x : M α) : Prop :=
  ∀ s m, m.ctx = b → SchedOut b s (x (setS s m)) (x m)

theorem SchedNat.sn {α} {x : M α} (h : ∀ b, SchedNat b x) : SN x := fun s m => (h _ s m rfl).eq

theorem SchedOut.error {b : Bool} {s : List SchedItem} {α} {e : Err} {m : Mgr}
    (hc : m.ctx = b) (he : e ≠ .sched) : SchedOut b s ((.error e : Except Err α), setS s m) (.error e, m) :=
  ⟨rfl, hc, fun h => he (by cases h; rfl)⟩

variable {b : Bool}

theorem SchedOut.next {s : List SchedItem} {α} {p q : Except Err α × Mgr} (h : SchedOut b s p q) :
    (∃ e m1, q = (.error e, m1) ∧ p = (.error e, setS s m1) ∧ m1.ctx = b ∧ e ≠ .sched) ∨
    (∃ a m1, q = (.ok a, m1) ∧ p = (.ok a, setS s m1) ∧ m1.ctx = b) := by
  obtain ⟨h1, h2, h3⟩ := h
  obtain ⟨r, m1⟩ := q
  cases r with
  | error e => exact .inl ⟨e, m1, rfl, h1, h2, fun he => h3 (by rw [he])⟩
  | ok a => exact .inr ⟨a, m1, rfl, h1, h2⟩

theorem SchedOut.ite {s : List SchedItem} {α} {c : Prop} [Decidable c] {p p' q q' : Except Err α × Mgr}
    (h : c → SchedOut b s p q) (h' : ¬c → SchedOut b s p' q') :
    SchedOut b s (if c then p else p') (if c then q else q') := by
  split
  · exact h ‹c›
  · exact h' ‹¬c›

theorem SchedNat.pure {α} (a : α) : SchedNat b (pure a : M α) := fun _ _ hc => ⟨rfl, hc, nofun⟩

theorem SchedNat.throw {α} {e : Err} (he : e ≠ .sched := by decide) : SchedNat b (M.throw e : M α) :=
  fun _ _ hc => ⟨rfl, hc, fun h => he (by cases h; rfl)⟩

theorem SchedNat.assert (c : Bool) {e : Err} (he : e ≠ .sched := by decide) :
    SchedNat b (M.assert c e) := by
  cases c
  · exact .throw he
  · exact .pure ()

theorem SchedNat.ofOption {α} (o : Option α) {e : Err} (he : e ≠ .sched := by decide) :
    SchedNat b (M.ofOption e o) := by
  cases o
  · exact .throw he
  · exact .pure _

theorem SchedNat.bind {α β} {x : M α} {f : α → M β} (hx : SchedNat b x) (hf : ∀ a, SchedNat b (f a)) :
    SchedNat b (x >>= f) := by
  intro s m hc
  rw [M.bind_eq, M.bind_eq]
  obtain ⟨e, m1, hq, hp, hc1, he⟩ | ⟨a, m1, hq, hp, hc1⟩ := (hx s m hc).next <;> rw [hq, hp]
  · exact .error hc1 he
  · exact hf a s m1 hc1

/-- `let m ← M.get; …` when the continuation uses the state it got only through fields other
than the schedule -/
theorem SchedNat.get {β} {f : Mgr → M β} (hf : ∀ m0, SchedNat b (f m0))
    (hins : ∀ s m0, f (setS s m0) = f m0 := by intros; rfl) : SchedNat b (M.get >>= f) := by
  intro s m hc
  show SchedOut b s (f (setS s m) (setS s m)) (f m m)
  rw [hins s m]
  exact hf m s m hc

theorem SchedNat.modify (g : Mgr → Mgr) (hg : ∀ s m, g (setS s m) = setS s (g m) := by intros; rfl)
    (hc : ∀ m, (g m).ctx = m.ctx := by intros; rfl) : SchedNat b (M.modify g) := by
  intro s m hb
  refine ⟨?_, (hc m).trans hb, nofun⟩
  show ((Except.ok ()), g (setS s m)) = _
  rw [hg s m]
  rfl

theorem incref_nat (u : Int) : SchedNat b (incref u) := by
  intro s m hc
  unfold incref setS
  dsimp only
  split <;> exact ⟨rfl, hc, nofun⟩

theorem incref_sn (u : Int) : SN (incref u) := SchedNat.sn fun _ => incref_nat u

theorem decref_nat (u : Int) : SchedNat b (decref u) := by
  intro s m hc
  unfold decref setS
  dsimp only
  split
  · exact ⟨rfl, hc, nofun⟩
  · split <;> exact ⟨rfl, hc, nofun⟩

theorem decref_sn (u : Int) : SN (decref u) := SchedNat.sn fun _ => decref_nat u

theorem refOf_nat (u : Int) : SchedNat b (refOf u) := by
  intro s m hc
  unfold refOf setS
  dsimp only
  split <;> exact ⟨rfl, hc, nofun⟩

theorem refOfExact_nat (w : Int) : SchedNat b (refOfExact w) := by
  intro s m hc
  unfold refOfExact setS
  dsimp only
  split
  · exact ⟨rfl, hc, nofun⟩
  · split <;> exact ⟨rfl, hc, nofun⟩

theorem requestReordering_nat : SchedNat b requestReordering := by
  intro s m hc
  unfold requestReordering setS Mgr.len
  dsimp only
  split
  · exact ⟨rfl, hc, nofun⟩
  split
  · split <;> exact ⟨rfl, hc, nofun⟩
  · split <;> exact ⟨rfl, hc, nofun⟩

/-- the state in which `find_or_add` has entered the new node `(i, v', w')` at `min_free` -/
def foaNew (i : Nat) (v' w' : Int) (m : Mgr) : Mgr :=
  { m with
    tbl := { m.tbl with succ := m.tbl.succ.insert m.minFree ⟨i, v', w'⟩ }
    pred := m.pred.insert (⟨i, v', w'⟩ : Nd).key m.minFree
    ref := m.ref.insert m.minFree 0
    minFree := nextFree (m.tbl.succ.insert m.minFree ⟨i, v', w'⟩)
      ((m.tbl.succ.insert m.minFree ⟨i, v', w'⟩).size + 2) m.minFree }

theorem foaNew_setS (i : Nat) (v' w' : Int) (s : List SchedItem) (m : Mgr) :
    foaNew i v' w' (setS s m) = setS s (foaNew i v' w' m) := rfl

theorem increfTwo_nat (r v w : Int) : SchedNat b (increfTwo r v w) := by
  intro s m hc
  unfold increfTwo
  obtain ⟨e, m2, hq, hp, hc2, he⟩ | ⟨_, m2, hq, hp, hc2⟩ :=
    (incref_nat v s m hc).next <;> rw [hq, hp] <;> dsimp only
  · exact .error hc2 he
  obtain ⟨e, m3, hq, hp, hc3, he⟩ | ⟨_, m3, hq, hp, hc3⟩ :=
    (incref_nat w s m2 hc2).next <;> rw [hq, hp] <;> dsimp only
  · exact .error hc3 he
  exact ⟨rfl, hc3, nofun⟩

theorem findOrAddCore_nat (i : Nat) (v w : Int) : SchedNat b (findOrAddCore i v w) := by
  intro s m hc
  rw [findOrAddCore_nf, findOrAddCore_nf]
  -- the state the normal form stores into is `foaNew`, by unfolding
  refine .ite (c := FoaStores m i v w)
    (fun _ => increfTwo_nat _ _ _ s (foaNew i (foaNode i v w).lo (foaNode i v w).hi m) hc)
    fun _ => ⟨rfl, hc, ?_⟩
  unfold foaNoStore
  split
  · nofun
  split
  · nofun
  split <;> nofun

theorem findOrAdd_nat (i : Int) (v w : Int) : SchedNat b (findOrAdd i v w) := by
  intro s m hc
  unfold findOrAdd
  show SchedOut b s (match (if m.ctx then requestReordering (setS s m) else (.ok (), setS s m)) with
    | (.error e, m1) => (.error e, m1)
    | (.ok _, m1) => if i < 0 then (.error .value, m1) else findOrAddCore i.toNat v w m1) _
  have h : SchedOut b s (if m.ctx then requestReordering (setS s m) else (.ok (), setS s m))
      (if m.ctx then requestReordering m else (.ok (), m)) := by
    split
    · exact requestReordering_nat s m hc
    · exact ⟨rfl, hc, nofun⟩
  obtain ⟨e, m1, hq, hp, hc1, he⟩ | ⟨_, m1, hq, hp, hc1⟩ := h.next <;> rw [hq, hp] <;> dsimp only
  · exact .error hc1 he
  split
  · exact ⟨rfl, hc1, nofun⟩
  · exact findOrAddCore_nat _ v w s m1 hc1

theorem setNode_nat (u : Nat) (n : Nd) : SchedNat b (setNode u n) := by
  intro s m hc
  unfold setNode setS
  simp only [M.bind_eq, M.get_eq]
  cases !m.pred.contains n.key <;> exact ⟨rfl, hc, nofun⟩

theorem SchedNat.seqClosed (b : Bool) : SeqClosed (@SchedNat b) where
  pure := .pure
  throw := fun _ _ he => .throw he
  bind := .bind
  get := fun h hins => .get h fun s m0 => hins s m0.lastLen m0.fireIn m0

theorem SchedNat.swapPrims (b : Bool) : SwapPrims (@SchedNat b) where
  incref := incref_nat
  decref := decref_nat
  refOf := refOf_nat
  refOfExact := refOfExact_nat
  findOrAdd := findOrAdd_nat
  setNode := setNode_nat
  dropSucc := fun _ => .modify _
  dropPred := fun _ => .modify _
  dropRef := fun _ => .modify _
  dropCache := .modify _
  setVar := fun _ _ => .modify _
  setVars := fun _ _ _ _ => .modify _

theorem collectGarbage_nat (roots : Option (List Int)) : SchedNat b (collectGarbage roots) :=
  collectGarbage_seq (SchedNat.seqClosed b) (SchedNat.swapPrims b) roots

theorem collectGarbage_sn (roots : Option (List Int)) : SN (collectGarbage roots) :=
  SchedNat.sn fun _ => collectGarbage_nat roots

theorem swapWith_nat (x y oldsize : Nat) (ox oy : List Nat) : SchedNat b (swapWith x y oldsize ox oy) :=
  swapWith_seq (SchedNat.seqClosed b) (SchedNat.swapPrims b) x y oldsize ox oy

/-- **`swap` for fixed iteration orders neither reads nor writes the recorded schedule** -/
theorem swapWith_sn (x y oldsize : Nat) (ox oy : List Nat) : SN (swapWith x y oldsize ox oy) :=
  SchedNat.sn fun _ => swapWith_nat x y oldsize ox oy

theorem varAtLevel_nat (i : Int) : SchedNat b (varAtLevel i) := varAtLevel_seq (SchedNat.seqClosed b) i

theorem resolveVL_nat (a : VarOrLevel) : SchedNat b (resolveVL a) := resolveVL_seq (SchedNat.seqClosed b) a

theorem levelOfVar_nat (v : String) : SchedNat b (levelOfVar v) := levelOfVar_seq (SchedNat.seqClosed b) v

theorem checkRoots_nat : SchedNat b checkRoots := checkRoots_seq (SchedNat.seqClosed b)

end DD
