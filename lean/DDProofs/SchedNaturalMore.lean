/-
  DDProofs.SchedNaturalMore — the bodies of `cube`, `add_expr`, `image`, `preimage` are natural in
  the recorded schedule inside a reordering context (`SNK`, DDProofs.SchedNaturalOps): they call
  the decorated `var`, `apply`, `quantify`, `rename`, `ite` NESTED in the decorator's context,
  where those do not reorder.  With DDProofs.SchedAcceptDyn: every decorated operation of `UOp4`
  accepts every valid choice of iteration orders.
-/
import DDProofs.Reach4Sched
open Std

namespace DD

theorem var_snk (name : String) : SNK (var name) := by
  rw [var_eq]
  exact tryToReorder_snk (varBody_nat name)

theorem quantify_snk (u : Int) (qvars : List Key) (fa : Bool) : SNK (quantify u qvars fa) :=
  tryToReorder_snk (quantifyBody_snk u qvars fa)

theorem rename_snk (u : Int) (dvars : List (String × String)) : SNK (rename u dvars) :=
  tryToReorder_snk (renameBody_snk u dvars)

theorem apply_snk (op : String) (u : Int) (v w : Option Int) : SNK (apply op u v w) := by
  intro s m hc
  rw [apply_eq_end, apply_eq_end, applyEnd_setS]
  cases hE : applyEnd op u v w m with
  | err e => exact ⟨rfl, hc, ns_triv (applyEnd_err_ne hE)⟩
  | neg => exact ⟨rfl, hc, nofun⟩
  | ite a b c => exact ite_snk a b c s m hc
  | quant b q fa => exact quantify_snk b q fa s m hc

theorem cubeBody_snk (dvars : List (String × Bool)) : SNK (cubeBody dvars) :=
  cubeBodyG_seq (SchedNat.seqClosed true) var apply var_snk apply_snk dvars

theorem addExprToks_snk (toks : List Tok) : SNK (addExprToks toks) :=
  addExprToksG_model toks ▸ addExprToksG_seq (SchedNat.seqClosed true) evalAst
    (fun t => evalAstG_model t ▸
      evalAstG_seq (SchedNat.seqClosed true) var apply quantify rename var_snk apply_snk quantify_snk rename_snk t)
    toks

theorem findOrAddNonInt_snk : SNK findOrAddNonInt :=
  findOrAddNonInt_seq (SchedNat.seqClosed true) requestReordering_nat

theorem imageBody_snk (t s' : Int) (rn : List (Key × Key)) (q : List Key) (fa : Bool) :
    SNK (imageBody t s' rn q fa) :=
  imageBody_seq (SchedNat.seqClosed true) (fun _ => findOrAdd_nat _ _ _) findOrAddNonInt_snk ite_snk
    t s' rn q fa

/-- renaming the `.fuel` answer does not bring in `.sched` -/
theorem fuelToRuntime_snk {α} {x : M α} (hx : SNK x) : SNK (fuelToRuntime x) := by
  intro s m hc
  obtain ⟨h1, h2, h3⟩ := hx s m hc
  unfold fuelToRuntime
  rw [h1]
  generalize x m = r at h2 h3 ⊢
  obtain ⟨e | a, m2⟩ := r
  · refine ⟨rfl, h2, fun h => ?_⟩
    by_cases hf : e = .fuel
    · simp [hf] at h
    · exact h3 (by simpa [hf] using h)
  · exact ⟨rfl, h2, nofun⟩

theorem preimageBody_snk (t tg : Int) (rn : List (Key × Key)) (q : List Key) (fa : Bool) :
    SNK (preimageBody t tg rn q fa) :=
  preimageBody_seq (SchedNat.seqClosed true) (fun _ => findOrAdd_nat _ _ _) findOrAddNonInt_snk
    ite_snk quantify_snk fuelToRuntime_snk t tg rn q fa

/-- `bdd.cube(dvars)` accepts every valid choice -/
theorem cube_accepts (ext : Nat → Nat) (c : Choice) (hc : c.Valid) (m : Mgr) (hD : DynInvS ext m)
    (dvars : List (String × Bool)) : AcceptsC c (cubeBody dvars) m :=
  acceptsC_of_snk hc (cubeBody_snk dvars) m

/-- `bdd.add_expr(text)`, ANY text, accepts every valid choice -/
theorem addExpr_accepts (ext : Nat → Nat) (c : Choice) (hc : c.Valid) (m : Mgr) (hD : DynInvS ext m)
    (s : String) : AcceptsC c (addExprToks (tokenize s)) m :=
  acceptsC_of_snk hc (addExprToks_snk _) m

/-- the row of `image` / `preimage`: the quantified names are resolved first, outside the decorator -/
theorem DecoratedC.after_qvars {body : List Key → M Int} (hb : ∀ qn, SNK (body qn))
    {FC : Choice → List SchedItem → M (Int × List SchedItem)} {F : M Int} (m : Mgr) (q : List Key)
    (hFC : ∀ c log, FC c log m = match qvarsByName m.tbl q with
      | .error e => (.error e, m)
      | .ok qn => tryToReorderC c (body qn) log m)
    (hF : ∀ s, F (setS s m) = match qvarsByName m.tbl q with
      | .error e => (.error e, setS s m)
      | .ok qn => tryToReorder (body qn) (setS s m)) : DecoratedC m FC F := by
  cases hq : qvarsByName m.tbl q with
  | error e =>
    simp only [hq] at hFC hF
    exact .same (.error e) (fun h => qvarsByName_plain _ _ _ (.inr rfl) (by cases h; exact hq)) hFC hF
  | ok qn =>
    simp only [hq] at hFC hF
    exact .body _ (hb qn) hFC hF

theorem image_decoratedC (t s : Int) (rn : List (Key × Key)) (q : List Key) (fa : Bool) (m : Mgr) :
    DecoratedC m (fun c => imageC c t s rn q fa) (image t s rn q fa) :=
  .after_qvars (fun qn => imageBody_snk t s (renameByName m.tbl rn) qn fa) m q (fun _ _ => rfl)
    fun _ => rfl

theorem preimage_decoratedC (t s : Int) (rn : List (Key × Key)) (q : List Key) (fa : Bool) (m : Mgr) :
    DecoratedC m (fun c => preimageC c t s rn q fa) (preimage t s rn q fa) :=
  .after_qvars (fun qn => preimageBody_snk t s (renameByName m.tbl rn) qn fa) m q (fun _ _ => rfl)
    fun _ => rfl

/-- `image(trans, source, rename, qvars, bdd, forall)`, ANY arguments, accepts every valid choice -/
theorem image_accepts (ext : Nat → Nat) (c : Choice) (hc : c.Valid) (m : Mgr) (hD : DynInvS ext m)
    (t s : Int) (rn : List (Key × Key)) (q : List Key) (fa : Bool) :
    AcceptsF (imageC c t s rn q fa []) (image t s rn q fa) m :=
  (image_decoratedC t s rn q fa m).accepts hc

/-- `preimage(...)`, ANY arguments, accepts every valid choice -/
theorem preimage_accepts (ext : Nat → Nat) (c : Choice) (hc : c.Valid) (m : Mgr) (hD : DynInvS ext m)
    (t s : Int) (rn : List (Key × Key)) (q : List Key) (fa : Bool) :
    AcceptsF (preimageC c t s rn q fa []) (preimage t s rn q fa) m :=
  (preimage_decoratedC t s rn q fa m).accepts hc

/-- one decorated call of `UOp4` under the choice `c`: the operations `UOp4` adds -/
def runOp4C (c : Choice) : UOp4 → Mgr → Except Err (Res × List SchedItem) × Mgr
  | .op (.op (.base b)), m => runOpC c b m
  | .cube d, m => mapResC .ref (tryToReorderC c (cubeBody d) [] m)
  | .addExpr s, m => mapResC .ref (tryToReorderC c (addExprToks (tokenize s)) [] m)
  | .image t s rn q fa, m => mapResC .ref (imageC c t s rn q fa [] m)
  | .preimage t s rn q fa, m => mapResC .ref (preimageC c t s rn q fa [] m)
  | .copyFrom src u, m => mapResC .ref (tryToReorderC c (copyBddBody src u) [] m)
  | o, m => ((runOp4 o m).1.map (fun r => (r, [])), (runOp4 o m).2)

theorem guard_of_accepts {FC : M (Int × List SchedItem)} {F : M Int} {m : Mgr} (hA : AcceptsF FC F m)
    {sch : List SchedItem} (hl : logOf (mapResC Res.ref (FC m)).1 = some sch) :
    isSchedErr (mapRes Res.ref (F { m with sched := sch })).1 = false := by
  rw [mapRes_isSchedErr]
  exact hA.not_sched (by rw [← logOf_mapResC]; exact hl)

/-- **`CallGuard4S` from a choice**: in a good state with two variables, for `cube`, `add_expr`,
`image`, `preimage`, `copy_bdd` with ANY arguments, a non-empty schedule recorded by the
choice-driven call under a valid choice passes the guard of a call with a recorded schedule -/
theorem callGuard4S_new_of_choice (m : Mgr) (ext : Nat → Nat) (h : Good3 m ext) (h2 : 2 ≤ m.nvars)
    (c : Choice) (hc : c.Valid) (o : UOp4) (hdec : o.decoratedNew = true) (s : SchedItem)
    (sch : List SchedItem) (hl : logOf (runOp4C c o m).1 = some (s :: sch)) :
    CallGuard4S m ext ⟨s :: sch, o⟩ := by
  have hD := (h.dynInv h2).toS
  cases o with
  | cube d =>
    refine ⟨rfl, h2, ?_⟩
    show isSchedErr (mapRes Res.ref (cube d { m with sched := s :: sch })).1 = false
    rw [cube_eq]
    exact guard_of_accepts (cube_accepts ext c hc m hD d) hl
  | addExpr e => exact ⟨rfl, h2, guard_of_accepts (addExpr_accepts ext c hc m hD e) hl⟩
  | image t s' rn q fa => exact ⟨rfl, h2, guard_of_accepts (image_accepts ext c hc m hD t s' rn q fa) hl⟩
  | preimage t s' rn q fa =>
    exact ⟨rfl, h2, guard_of_accepts (preimage_accepts ext c hc m hD t s' rn q fa) hl⟩
  | copyFrom src u =>
    exact copyFrom_guard_of_choice m ext h2 c hc src u s sch (by rw [← logOf_mapResC]; exact hl)
  | op _ => cases hdec
  | gcRooted _ => cases hdec
  | reorderToPairs _ _ => cases hdec
  | loadPickle _ _ => cases hdec

end DD
