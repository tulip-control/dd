/-
  DDProofs.SchedNaturalOps — the bodies of the decorated operations are natural in the recorded
  schedule (`SN`, DDProofs.SchedNatural: they neither read nor write `Mgr.sched`) and never answer
  the model's own `.sched` error.  These are the two facts about a body that the acceptance
  theorem for the decorated call (DDProofs.SchedAcceptDyn) asks for, there in the form `SNc` /
  `NSc`: inside the decorator's context.  Here `_ite` and `cofactor`, as instances of their walks
  (DDProofs.RecursionsSeq, DDProofs.BodiesSeq) at `SchedNat b`; then `quantify`, `compose`, `rename`,
  which call the decorated `ite`, inside a context (`SNK`).
-/
import DDProofs.SchedNatural
import DDProofs.BodiesSeq
import DDProofs.Decorator
import DDProofs.Ite
import DDProofs.RecursionsModel
open Std

namespace DD

@[simp] theorem setS_tbl (s : List SchedItem) (m : Mgr) : (setS s m).tbl = m.tbl := rfl
@[simp] theorem setS_cache (s : List SchedItem) (m : Mgr) : (setS s m).cache = m.cache := rfl
@[simp] theorem setS_nvars (s : List SchedItem) (m : Mgr) : (setS s m).nvars = m.nvars := rfl
@[simp] theorem setS_mem (s : List SchedItem) (m : Mgr) (u : Int) : (setS s m).mem u = m.mem u := rfl
@[simp] theorem setS_ctx (s : List SchedItem) (m : Mgr) : (setS s m).ctx = m.ctx := rfl

/-- natural in the schedule when run inside a reordering context (`ctx = true`): what the decorator
asks of the body it wraps — the decorated operations called by a body are then nested, and do not
reorder -/
def SNc {α} (x : M α) : Prop := ∀ s m, m.ctx = true → x (setS s m) = ((x m).1, setS s (x m).2)

theorem SN.toC {α} {x : M α} (h : SN x) : SNc x := fun s m _ => h s m

/-- never the model's schedule error -/
def NS {α} (x : M α) : Prop := ∀ m, (x m).1 ≠ .error .sched

/-- … when run inside a reordering context -/
def NSc {α} (x : M α) : Prop := ∀ m, m.ctx = true → (x m).1 ≠ .error .sched

theorem NS.toC {α} {x : M α} (h : NS x) : NSc x := fun m _ => h m

theorem NS.of_eq {α β} {x : M α} (h : NS x) {m m1 : Mgr} {e : Err} (heq : x m = (.error e, m1)) :
    (Except.error e : Except Err β) ≠ .error .sched := by
  have := h m
  rw [heq] at this
  exact fun h' => this (by cases h'; rfl)

theorem SchedNat.ns {α} {x : M α} (h : ∀ b, SchedNat b x) : NS x := fun m => (h _ [] m rfl).ns

/-- inside the decorator's context: natural in the schedule, stays inside the context, never the
model's schedule error -/
abbrev SNK {α} (x : M α) : Prop := SchedNat true x

theorem SchedNat.snc {α} {x : M α} (h : SNK x) : SNc x := fun s m hc => (h s m hc).eq
theorem SchedNat.nsc {α} {x : M α} (h : SNK x) : NSc x := fun m hc => (h [] m hc).ns

theorem ns_triv {α} {e : Err} {m : Mgr} (h : e ≠ .sched) : ((Except.error e : Except Err α), m).1 ≠ .error .sched :=
  fun h' => h (by cases h'; rfl)

theorem incref_ns (u : Int) : NS (incref u) := SchedNat.ns fun _ => incref_nat u

variable {b : Bool}

theorem iteF_nat (f : Nat) (g u v : Int) : SchedNat b (iteF f g u v) :=
  iteG_findOrAdd f g u v ▸ iteG_seq (SchedNat.seqClosed b) findOrAdd findOrAdd_nat
    (fun _ _ _ _ _ _ hc => ⟨rfl, hc, nofun⟩) f g u v

theorem iteRaw_nat (g u v : Int) : SchedNat b (iteRaw g u v) := by
  unfold iteRaw
  exact .get fun _ => iteF_nat _ g u v

theorem cofactorBody_nat (u : Int) (values : List (Key × Bool)) : SchedNat b (cofactorBody u values) :=
  cofactorBodyG_model u values ▸ cofactorBodyG_seq (SchedNat.seqClosed b) findOrAdd findOrAdd_nat u values

/-! the bodies of `quantify`, `compose`, `rename` call the DECORATED `ite`; inside a reordering
context (`ctx = true`, where the decorator puts its body) such a call is nested and does not
reorder: the bodies have `SNK` as instances of their walks (DDProofs.BodiesSeq) -/

/-- one nested call in a proof of `SNK` written over the `match` on the call's outcome; `hc1` names
the fact that the context is still open -/
macro "snk_next " h:term " , " x:term " => " a:rcasesPat ppSpace m1:ident ppSpace hc1:ident : tactic =>
  `(tactic| (obtain ⟨h1, h2, h3⟩ := $h; rw [h1]; generalize $x = r at h2 h3 ⊢
             obtain ⟨r, $m1:ident⟩ := r; rcases r with e | $a:rcasesPat
             exact ⟨rfl, h2, fun h' => h3 (by cases h'; rfl)⟩
             have $hc1:ident : ($m1:ident).ctx = true := h2
             clear h1 h2 h3
             try simp only))

/-- a decorated call NESTED in a context is its body -/
theorem tryToReorder_snk {α} {f : M α} (hf : SNK f) : SNK (tryToReorder f) := by
  intro s m hc
  rw [tryToReorder_nested f (setS s m) hc, tryToReorder_nested f m hc, (hf s m hc).eq]
  exact ⟨rfl, rfl, (hf s m hc).ns⟩

theorem ite_snk (g u v : Int) : SNK (ite g u v) := tryToReorder_snk (iteRaw_nat g u v)

theorem quantifyBody_snk (u : Int) (qvars : List Key) (fa : Bool) : SNK (quantifyBody u qvars fa) :=
  quantifyBodyG_model u qvars fa ▸ quantifyBodyG_seq (SchedNat.seqClosed true) findOrAdd ite
    findOrAdd_nat ite_snk u qvars fa

theorem composeBody_snk (f : Int) (varSub : List (String × Int)) : SNK (composeBody f varSub) :=
  composeBodyG_model f varSub ▸ composeBodyG_seq (SchedNat.seqClosed true) findOrAdd ite
    findOrAdd_nat ite_snk f varSub

theorem renameBody_snk (u : Int) (dvars : List (String × String)) : SNK (renameBody u dvars) :=
  renameBodyG_model u dvars ▸ renameBodyG_seq (SchedNat.seqClosed true) findOrAdd ite
    (fun _ => findOrAdd_nat _ _ _) ite_snk u dvars

end DD
