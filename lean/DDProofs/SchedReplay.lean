/-
  DDProofs.SchedReplay — the decidable guard "the schedule encodes a choice" is COMPLETE: the
  record of a returning choice-driven run under ANY valid choice `c` is reproduced by replaying
  the choice read off that record (`Choice.ofSched`), so `EncodesChoice run m sch` holds exactly
  of the records of valid choices.

  A choice-driven run depends on the choice only through the answers to the queries it makes, the
  `k`-th query is recorded as the `k`-th item, and records only grow: `RepC a a' log sch` — if the
  run `a` under `c` returned with a record that is a prefix of `sch`, the run `a'` under a choice
  that agrees with `c` on `sch` is the same run (the last part of `Sim`, DDProofs.SchedAccept).
-/
import DDProofs.SchedNaturalMore
open Std

namespace DD

/-- the choice read off a schedule agrees with every valid choice on that schedule -/
theorem choiceAgrees_ofSched {c : Choice} (hc : c.Valid) (sch : List SchedItem) :
    ChoiceAgrees c (Choice.ofSched sch) sch := by
  refine ⟨fun k l h => ?_, fun k x y lx ly hxy h => ⟨?_, ?_⟩⟩
  all_goals
    unfold Choice.ofSched
    dsimp only
    rw [h]
    dsimp only
  · exact if_pos (hc.names k l)
  · rw [(lookup_pair x y hxy _ _).1, Option.getD_some]
    exact if_pos (hc.level k x lx)
  · rw [(lookup_pair x y hxy _ _).2, Option.getD_some]
    exact if_pos (hc.level k y ly)

theorem RepC.same {α} (a : Except Err (α × List SchedItem) × Mgr) (log sch : List SchedItem)
    (hg : ∀ r log' m', a = (.ok (r, log'), m') → log' = log) : RepC a a log sch := by
  obtain ⟨ra, m1⟩ := a
  cases ra with
  | error e => trivial
  | ok p =>
    obtain ⟨r, log'⟩ := p
    refine ⟨?_, fun _ => rfl⟩
    rw [hg r log' m1 rfl]
    exact List.prefix_refl _

theorem retryOutC_same {α} (f : M α) (log sch : List SchedItem) (m3 : Mgr) :
    RepC (retryOutC f log m3) (retryOutC f log m3) log sch :=
  RepC.same _ log sch (fun r log' m' h => retryOutC_log (by rw [h]))

theorem tryToReorderC_rep {α} {c c' : Choice} {sch : List SchedItem} (hA : ChoiceAgrees c c' sch)
    (f : M α) (log : List SchedItem) (m : Mgr) :
    RepC (tryToReorderC c f log m) (tryToReorderC c' f log m) log sch :=
  (tryToReorderC_sim hA f log m).rep

theorem RepC.logOf_eq {α} {a a' : Except Err (α × List SchedItem) × Mgr} {log sch : List SchedItem}
    (h : RepC a a' log sch) (hl : logOf a.1 = some sch) : logOf a'.1 = some sch := by
  obtain ⟨ra, m1⟩ := a
  cases ra with
  | error e => cases hl
  | ok p =>
    obtain ⟨r, log'⟩ := p
    have e : log' = sch := by cases hl; rfl
    subst e
    rw [h.2 (List.prefix_refl _)]
    exact hl

/-- **the decidable guard is complete** (explicit reorderings): the record of a returning run under
ANY valid choice encodes a choice -/
theorem encodes_of_choice (c : Choice) (hc : c.Valid) (m : Mgr) (sch : List SchedItem) :
    (∀ order, logOf (reorderC c order [] m).1 = some sch →
      EncodesChoice (fun c => reorderC c order) m sch) ∧
    (∀ x y, logOf (swapPublicC c x y [] m).1 = some sch →
      EncodesChoice (fun c => swapPublicC c x y) m sch) ∧
    (∀ ps, logOf (reorderToPairsC c ps [] m).1 = some sch →
      EncodesChoice (fun c => reorderToPairsC c ps) m sch) := by
  have hA := choiceAgrees_ofSched hc sch
  exact ⟨fun order hl => (reorderC_sim hA order [] m).rep.logOf_eq hl,
    fun x y hl => (swapPublicC_sim hA x y [] m).rep.logOf_eq hl,
    fun ps hl => (reorderToPairsC_sim hA ps [] m).rep.logOf_eq hl⟩

theorem mapResC_rep {α : Type} (f : α → Res) {a a' : Except Err (α × List SchedItem) × Mgr}
    {sch : List SchedItem} (h : RepC a a' [] sch) (hl : logOf (mapResC f a).1 = some sch) :
    logOf (mapResC f a').1 = some sch := by
  rw [logOf_mapResC] at hl ⊢
  exact h.logOf_eq hl

/-- … and for every decorated operation of the histories, any arguments -/
theorem runOpC_encodes_of_choice (c : Choice) (hc : c.Valid) (m : Mgr) (sch : List SchedItem)
    (b : UOp) (hl : logOf (runOpC c b m).1 = some sch) :
    logOf (runOpC (Choice.ofSched sch) b m).1 = some sch := by
  rcases runOpC_row b m with ⟨FC, F, _, _, e2, h⟩ | ⟨_, hsame⟩
  · rw [e2] at hl ⊢
    exact mapResC_rep _ (h.sim (choiceAgrees_ofSched hc sch) []).rep hl
  · rw [hsame _ c]; exact hl

/-- … and for the operations the widest alphabet of the histories adds: `cube`, `add_expr`,
`image`, `preimage`, `copy_bdd` -/
theorem runOp4C_encodes_of_choice (c : Choice) (hc : c.Valid) (m : Mgr) (sch : List SchedItem)
    (o : UOp4) (hl : logOf (runOp4C c o m).1 = some sch) :
    logOf (runOp4C (Choice.ofSched sch) o m).1 = some sch := by
  have hA := choiceAgrees_ofSched hc sch
  cases o with
  | op o3 =>
    cases o3 with
    | op o2 =>
      cases o2 with
      | base b => exact runOpC_encodes_of_choice c hc m sch b hl
      | swap _ _ _ => exact hl
      | sift _ => exact hl
      | reorderTo _ _ => exact hl
      | undeclare _ => exact hl
    | configure _ => exact hl
  | cube d => exact mapResC_rep _ (tryToReorderC_rep hA _ [] m) hl
  | addExpr e => exact mapResC_rep _ (tryToReorderC_rep hA _ [] m) hl
  | image t s rn q fa =>
    exact mapResC_rep _ ((image_decoratedC t s rn q fa m).sim hA []).rep hl
  | preimage t s rn q fa =>
    exact mapResC_rep _ ((preimage_decoratedC t s rn q fa m).sim hA []).rep hl
  | copyFrom src u => exact mapResC_rep _ (tryToReorderC_rep hA _ [] m) hl
  | gcRooted _ => exact hl
  | reorderToPairs _ _ => exact hl
  | loadPickle _ _ => exact hl

end DD
