/-
  DDProofs.Sem — what a reference means.  `den m u a` follows the edges from `u` under an
  assignment `a` of *levels* (names enter through `l2v` in `denN`) and complements at a negative
  reference.  `WF` (per node: `NodeOK`) is the structural invariant under which the children of a
  node lie strictly deeper, so that `nvars + 1` fuel is enough and one can induct on references.
-/
import Std.Data.TreeMap.Lemmas
import DD.Basic
open Std

namespace DD

/-- `abs(u) in self._succ` as a proposition -/
def Tbl.Mem (m : Tbl) (u : Int) : Prop := u.natAbs = 1 ∨ (m.node? u.natAbs).isSome

instance (m : Tbl) (u : Int) : Decidable (m.Mem u) := by unfold Tbl.Mem; infer_instance

/-- `self._succ[abs(u)][0]`, total -/
def Tbl.levelOf (m : Tbl) (u : Int) : Nat :=
  if u.natAbs = 1 then m.nvars else
  match m.node? u.natAbs with
  | some n => n.lvl
  | none => m.nvars

abbrev Asg := Nat → Bool

def denF (m : Tbl) : Nat → Int → Asg → Bool
  | 0, _, _ => false
  | f+1, u, a =>
    if u.natAbs = 1 then decide (0 < u) else
    match m.node? u.natAbs with
    | none => false
    | some n => (decide (u < 0)) ^^ (if a n.lvl then denF m f n.hi a else denF m f n.lo a)

def den (m : Tbl) (u : Int) (a : Asg) : Bool := denF m (m.nvars + 1) u a

structure WF (m : Tbl) : Prop where
  lvl_lt : ∀ u n, m.node? u = some n → n.lvl < m.nvars
  lo_mem : ∀ u n, m.node? u = some n → m.Mem n.lo
  hi_mem : ∀ u n, m.node? u = some n → m.Mem n.hi
  lo_lt : ∀ u n, m.node? u = some n → n.lvl < m.levelOf n.lo
  hi_lt : ∀ u n, m.node? u = some n → n.lvl < m.levelOf n.hi
  ge_two : ∀ u n, m.node? u = some n → 2 ≤ u
  hi_pos : ∀ u n, m.node? u = some n → 0 < n.hi
  lo_ne_hi : ∀ u n, m.node? u = some n → n.lo ≠ n.hi

theorem Nd.ext {a b : Nd} (h1 : a.lvl = b.lvl) (h2 : a.lo = b.lo) (h3 : a.hi = b.hi) : a = b := by
  cases a; cases b; cases h1; cases h2; cases h3; rfl

theorem abs_one {u : Int} (h : u.natAbs = 1) : u = 1 ∨ u = -1 := by omega

theorem Tbl.Mem.term_or_node {m : Tbl} {u : Int} (h : m.Mem u) :
    u.natAbs = 1 ∨ ∃ n, u.natAbs ≠ 1 ∧ m.node? u.natAbs = some n := by
  by_cases h1 : u.natAbs = 1
  · exact Or.inl h1
  · obtain ⟨n, hn⟩ := Option.isSome_iff_exists.mp (h.resolve_left h1)
    exact Or.inr ⟨n, h1, hn⟩

theorem mem_node {t : Tbl} {u : Int} (hm : t.Mem u) (h1 : u.natAbs ≠ 1) :
    ∃ n, t.node? u.natAbs = some n :=
  Option.isSome_iff_exists.mp (hm.resolve_left h1)

theorem mem_neg {m : Tbl} {u : Int} (h : m.Mem u) : m.Mem (-u) := by
  unfold Tbl.Mem at *; simpa using h

theorem levelOf_neg (m : Tbl) (u : Int) : m.levelOf (-u) = m.levelOf u := by
  unfold Tbl.levelOf; simp

theorem levelOf_node (m : Tbl) (u : Int) (n : Nd) (h1 : u.natAbs ≠ 1) (hn : m.node? u.natAbs = some n) :
    m.levelOf u = n.lvl := by simp [Tbl.levelOf, h1, hn]

theorem levelOf_term (m : Tbl) (u : Int) (h1 : u.natAbs = 1) : m.levelOf u = m.nvars := by
  simp [Tbl.levelOf, h1]

theorem levelOf_le (m : Tbl) (hw : WF m) (u : Int) : m.levelOf u ≤ m.nvars := by
  unfold Tbl.levelOf
  split
  · exact Nat.le_refl _
  · split
    · next n h => exact Nat.le_of_lt (hw.lvl_lt _ _ h)
    · exact Nat.le_refl _

theorem mem_ne_zero {m : Tbl} (hw : WF m) {u : Int} (h : m.Mem u) : u ≠ 0 := by
  intro h0; subst h0
  rcases h.term_or_node with h1 | ⟨n, -, hn⟩
  · cases h1
  · exact absurd (hw.ge_two _ _ hn) (by decide)

structure NodeOK (t : Tbl) (n : Nd) : Prop where
  lvl_lt : n.lvl < t.nvars
  lo_mem : t.Mem n.lo
  hi_mem : t.Mem n.hi
  lo_lt : n.lvl < t.levelOf n.lo
  hi_lt : n.lvl < t.levelOf n.hi
  hi_pos : 0 < n.hi
  lo_ne_hi : n.lo ≠ n.hi

theorem WF.nodeOK {t : Tbl} (hw : WF t) {u : Nat} {n : Nd} (hn : t.node? u = some n) : NodeOK t n :=
  ⟨hw.lvl_lt _ _ hn, hw.lo_mem _ _ hn, hw.hi_mem _ _ hn, hw.lo_lt _ _ hn, hw.hi_lt _ _ hn,
   hw.hi_pos _ _ hn, hw.lo_ne_hi _ _ hn⟩

theorem WF.of_nodeOK {t : Tbl} (h : ∀ u n, t.node? u = some n → 2 ≤ u ∧ NodeOK t n) : WF t :=
  ⟨fun u n hn => (h u n hn).2.lvl_lt, fun u n hn => (h u n hn).2.lo_mem, fun u n hn => (h u n hn).2.hi_mem,
   fun u n hn => (h u n hn).2.lo_lt, fun u n hn => (h u n hn).2.hi_lt, fun u n hn => (h u n hn).1,
   fun u n hn => (h u n hn).2.hi_pos, fun u n hn => (h u n hn).2.lo_ne_hi⟩

theorem NodeOK.mono {t t' : Tbl} {n : Nd} (h : NodeOK t n) (hv : t.nvars ≤ t'.nvars)
    (hm : ∀ u, t.Mem u → t'.Mem u ∧ t.levelOf u ≤ t'.levelOf u) : NodeOK t' n :=
  ⟨Nat.lt_of_lt_of_le h.lvl_lt hv, (hm _ h.lo_mem).1, (hm _ h.hi_mem).1,
   Nat.lt_of_lt_of_le h.lo_lt (hm _ h.lo_mem).2, Nat.lt_of_lt_of_le h.hi_lt (hm _ h.hi_mem).2,
   h.hi_pos, h.lo_ne_hi⟩

/-- The recursions of the model carry a fuel `f` that is spent by one at every call, and both
children of a node lie at a deeper level; so fuel `nvars + 1 - level` is enough, and a property
of `(fuel, reference)` follows from its terminal case and its node case. -/
theorem fuel_induction {t : Tbl} (hw : WF t) (P : Nat → Int → Prop)
    (hterm : ∀ f u, u.natAbs = 1 → P (f + 1) u)
    (hnode : ∀ f u n, u.natAbs ≠ 1 → t.succ[u.natAbs]? = some n → P f n.lo → P f n.hi → P (f + 1) u) :
    ∀ f u, t.Mem u → t.nvars + 1 ≤ f + t.levelOf u → P f u := by
  intro f
  induction f with
  | zero => intro u _ hf; have := levelOf_le t hw u; omega
  | succ f ih =>
    intro u hm hf
    rcases hm.term_or_node with h1 | ⟨n, h1, hn⟩
    · exact hterm f u h1
    · have := levelOf_node t u n h1 hn
      have := hw.lo_lt _ _ hn
      have := hw.hi_lt _ _ hn
      exact hnode f u n h1 hn (ih _ (hw.lo_mem _ _ hn) (by omega)) (ih _ (hw.hi_mem _ _ hn) (by omega))

/-- induction on references: `fuel_induction` at the fuel `nvars + 1`, which suffices for every
member; the node is looked up as the model's recursions write it, `t.succ[·]?` -/
theorem ref_induction {t : Tbl} (hw : WF t) (P : Int → Prop)
    (hterm : ∀ u, u.natAbs = 1 → P u)
    (hnode : ∀ u n, u.natAbs ≠ 1 → t.succ[u.natAbs]? = some n → P n.lo → P n.hi → P u) :
    ∀ u, t.Mem u → P u :=
  fun u hm => fuel_induction hw (fun _ => P) (fun _ => hterm) (fun _ => hnode) (t.nvars + 1) u hm
    (Nat.le_add_right _ _)

theorem denF_stable (m : Tbl) (hw : WF m) :
    ∀ f u a, m.Mem u → m.nvars + 1 ≤ f + m.levelOf u → denF m f u a = denF m (f+1) u a := by
  intro f u a
  refine fuel_induction hw (fun f u => denF m f u a = denF m (f+1) u a) (fun f u h1 => ?_)
    (fun f u n h1 hn ihlo ihhi => ?_) f u
  · simp [denF, h1]
  · rw [denF, denF]
    simp only [h1, if_false, Tbl.node?, hn]
    rw [ihlo, ihhi]

theorem denF_ge (m : Tbl) (hw : WF m) (u : Int) (a : Asg) (hm : m.Mem u) :
    ∀ k, denF m (m.nvars + 1 + k) u a = den m u a := by
  intro k
  induction k with
  | zero => rfl
  | succ k ih =>
    rw [← ih]
    exact (denF_stable m hw (m.nvars + 1 + k) u a hm (by omega)).symm

theorem den_node (m : Tbl) (hw : WF m) (u : Int) (n : Nd) (a : Asg)
    (h1 : u.natAbs ≠ 1) (hn : m.node? u.natAbs = some n) :
    den m u a = ((decide (u < 0)) ^^ (if a n.lvl then den m n.hi a else den m n.lo a)) := by
  have hm : m.Mem u := Or.inr (by simp [hn])
  rw [← denF_ge m hw u a hm 1]
  show denF m (m.nvars + 1 + 1) u a = _
  rw [denF]
  simp only [h1, if_false, hn]
  rfl

theorem den_terminal (m : Tbl) {u : Int} (h1 : u.natAbs = 1) (a : Asg) : den m u a = decide (0 < u) := by
  simp [den, denF, h1]

theorem den_one (m : Tbl) (a : Asg) : den m 1 a = true := den_terminal m rfl a
theorem den_neg_one (m : Tbl) (a : Asg) : den m (-1) a = false := den_terminal m rfl a

theorem den_neg (m : Tbl) (hw : WF m) (u : Int) (a : Asg) (hm : m.Mem u) : den m (-u) a = !den m u a := by
  have hu := mem_ne_zero hw hm
  rcases hm.term_or_node with h1 | ⟨n, h1, hn⟩
  · rw [den_terminal m h1, den_terminal m (by simpa using h1)]
    rcases abs_one h1 with h | h <;> subst h <;> rfl
  · rw [den_node m hw u n a h1 hn,
      den_node m hw (-u) n a (by simpa using h1) (by simpa using hn)]
    have : decide (-u < 0) = !decide (u < 0) := by
      by_cases h : u < 0 <;> simp [h] <;> omega
    rw [this, Bool.not_xor]

theorem den_flip (t : Tbl) (hw : WF t) (r u : Int) (a : Asg) (hr : t.Mem r) :
    den t (if u < 0 then -r else r) a = (decide (u < 0) ^^ den t r a) := by
  by_cases hneg : u < 0
  · simp only [hneg, if_true, decide_true, Bool.true_bne]
    exact den_neg t hw r a hr
  · simp [hneg]

theorem mem_flip {t : Tbl} {r : Int} (u : Int) (hr : t.Mem r) :
    t.Mem (if u < 0 then -r else r) := by
  split
  · exact mem_neg hr
  · exact hr

theorem levelOf_flip (t : Tbl) (r u : Int) :
    t.levelOf (if u < 0 then -r else r) = t.levelOf r := by
  split
  · exact levelOf_neg t r
  · rfl

theorem den_flip_node (t : Tbl) (hw : WF t) (u : Int) (n : Nd) (a : Asg)
    (h1 : u.natAbs ≠ 1) (hn : t.node? u.natAbs = some n) :
    den t u a = if a n.lvl then den t (if u < 0 then -n.hi else n.hi) a
      else den t (if u < 0 then -n.lo else n.lo) a := by
  rw [den_node t hw u n a h1 hn]
  by_cases hneg : u < 0
  · simp only [hneg, decide_true, if_true]
    rw [den_neg t hw n.hi a (hw.hi_mem _ _ hn), den_neg t hw n.lo a (hw.lo_mem _ _ hn)]
    split <;> simp
  · simp [hneg]

end DD
