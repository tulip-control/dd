/-
  DDProofs.SeqClosed — properties of computations in `M` that sequencing preserves.

  A function of the model is a tower of `>>=` over a few primitive calls, with reads of the state
  in between.  What is true of every outcome of such a function (a relation kept step by step,
  "never asks for a reordering", "runs the same whatever schedule is recorded") is proved for the
  primitives and follows for the function by closure under `pure`, `throw`, `>>=` and reading:
  one walk over the function (`X_seq`, generic in the property) serves all such properties.
-/
import DDProofs.MonadM
import DDProofs.PlainErrors
open Std

namespace DD

/-- the fields that only the decorator, the request and the entry points of reordering read -/
def Mgr.ghost (s : List SchedItem) (l fi : Option Nat) (m : Mgr) : Mgr :=
  { m with sched := s, lastLen := l, fireIn := fi }

/-- a property of computations that holds of `pure`, of raising any error but the reordering
signal and the model's `.sched`, of a sequence whose parts have it, and of reading the state when
what is done with it does not depend on the recorded schedule, `_last_len` or the trigger (the
side condition is `rfl` wherever the continuation reads other fields: it is what lets a property
of two runs from states that differ in those fields, such as `SchedNat` or `Blind`, be an
instance beside the properties of one run) -/
structure SeqClosed (C : ∀ {α : Type}, M α → Prop) : Prop where
  pure : ∀ {α : Type} (a : α), C (pure a : M α)
  throw : ∀ {α : Type} (e : Err), e ≠ .needsReordering → e ≠ .sched → C (M.throw e : M α)
  bind : ∀ {α β : Type} {x : M α} {f : α → M β}, C x → (∀ a, C (f a)) → C (x >>= f)
  get : ∀ {β : Type} {f : Mgr → M β}, (∀ m0, C (f m0)) →
    (∀ s l fi m0, f (m0.ghost s l fi) = f m0) → C (M.get >>= f)

theorem SeqClosed.liftE {C : ∀ {α : Type}, M α → Prop} (hC : SeqClosed C) {α : Type}
    (x : Except Err α) (hx : x ≠ .error .needsReordering) (hs : x ≠ .error .sched) : C (liftE x) := by
  cases x with
  | ok a => exact hC.pure a
  | error e => exact hC.throw e (fun h => hx (by rw [h])) (fun h => hs (by rw [h]))

theorem SeqClosed.liftP {C : ∀ {α : Type}, M α → Prop} (hC : SeqClosed C) {α : Type}
    {x : Except Err α} (h : ∀ s, Signal s → x ≠ .error s) : C (DD.liftE x) :=
  hC.liftE x (h _ (.inl rfl)) (h _ (.inr rfl))

section
variable {C : ∀ {α : Type}, M α → Prop} (hC : SeqClosed C)
include hC

/-- `throw` and `get` as the walks call them: the side conditions are closed facts there -/
theorem SeqClosed.raise {α : Type} (e : Err) (he : e ≠ .needsReordering := by decide)
    (hs : e ≠ .sched := by decide) : C (M.throw e : M α) :=
  hC.throw e he hs

theorem SeqClosed.read {β : Type} {f : Mgr → M β} (hf : ∀ m0, C (f m0))
    (hb : ∀ s l fi m0, f (m0.ghost s l fi) = f m0 := by intros; rfl) : C (M.get >>= f) :=
  hC.get hf hb

theorem SeqClosed.assert (b : Bool) {e : Err} (he : e ≠ .needsReordering := by decide)
    (hs : e ≠ .sched := by decide) : C (M.assert b e) := by
  cases b
  · exact hC.raise e he hs
  · exact hC.pure ()

theorem SeqClosed.ofOption {α : Type} (o : Option α) {e : Err}
    (he : e ≠ .needsReordering := by decide) (hs : e ≠ .sched := by decide) :
    C (M.ofOption e o) := by
  cases o
  · exact hC.throw e he hs
  · exact hC.pure _

end

/-- a test on values, not on the state (so that a walk reads `hC.ite _ … …`) -/
theorem SeqClosed.ite {C : ∀ {α : Type}, M α → Prop} (_ : SeqClosed C) {α : Type} (c : Prop)
    [Decidable c] {x y : M α} (hx : C x) (hy : C y) : C (if c then x else y) := by
  split
  · exact hx
  · exact hy

/-- `P` is kept, the end is `R`-related to the start, a raised error lies in `E`.  `E` can say no
more than "not the reordering request": closure under `throw` (`Always.seqClosed`) asks `E` of
every other error. -/
def Always (P : Mgr → Prop) (R : Mgr → Mgr → Prop) (E : Err → Prop) {α : Type} (x : M α) : Prop :=
  ∀ m, P m → P (x m).2 ∧ R m (x m).2 ∧ ∀ e, (x m).1 = .error e → E e

theorem Always.seqClosed {P : Mgr → Prop} {R : Mgr → Mgr → Prop} {E : Err → Prop}
    (hr : ∀ m, P m → R m m) (ht : ∀ a b c, R a b → R b c → R a c)
    (hE : ∀ e, e ≠ .needsReordering → E e) : SeqClosed (Always P R E) where
  pure := fun _ m hp => ⟨hp, hr m hp, fun _ h => by cases h⟩
  throw := fun e he _ m hp => ⟨hp, hr m hp, fun e' h => by cases h; exact hE e he⟩
  get := fun hf _ m hp => hf m m hp
  bind := by
    intro α β x f hx hf m hp
    obtain ⟨p1, r1, e1⟩ := hx m hp
    rw [M.bind_eq]
    generalize x m = out at p1 r1 e1
    obtain ⟨r, m1⟩ := out
    cases r with
    | error e => exact ⟨p1, r1, fun e' h => by cases h; exact e1 e rfl⟩
    | ok a =>
      obtain ⟨p2, r2, e2⟩ := hf a m1 p1
      exact ⟨p2, ht _ _ _ r1 r2, e2⟩

end DD
