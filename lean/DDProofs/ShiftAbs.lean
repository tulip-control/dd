/-
  DDProofs.ShiftAbs — `_shift` (with its `sizes` result) and `reorder_to_pairs` against the abstract
  swap contract `SwapOK` of DDProofs.OrderAbs; `_reorder_var` and `_apply_sifting` are in
  DDProofs.SiftTotal.
-/
import DDProofs.OrderAbs
import DDProofs.SizesDict
open Std

namespace DD

/-- where the name now at level `j` was before `_shift(start, end)`: the variable at `start`
moved to `end`, those in between moved one level towards `start` -/
def shiftPerm (s e j : Nat) : Nat :=
  if s < e then (if j = e then s else if s ≤ j ∧ j < e then j + 1 else j)
  else if e < s then (if j = e then s else if e < j ∧ j ≤ s then j - 1 else j)
  else j

theorem shiftPerm_self (s j : Nat) : shiftPerm s s j = j := by simp [shiftPerm]

theorem shiftPerm_of_lt {s e : Nat} (h : s < e) (j : Nat) :
    shiftPerm s e j = if j = e then s else if s ≤ j ∧ j < e then j + 1 else j := by
  rw [shiftPerm, if_pos h]

theorem shiftPerm_of_gt {s e : Nat} (h : e < s) (j : Nat) :
    shiftPerm s e j = if j = e then s else if e < j ∧ j ≤ s then j - 1 else j := by
  rw [shiftPerm, if_neg (Nat.lt_asymm h), if_pos h]

theorem shiftPerm_lt {s e n j : Nat} (hs : s < n) (he : e < n) : shiftPerm s e j < n ↔ j < n := by
  rcases Nat.lt_trichotomy s e with h | rfl | h
  · rw [shiftPerm_of_lt h]; split
    · omega
    · split <;> omega
  · rw [shiftPerm_self]
  · rw [shiftPerm_of_gt h]; split
    · omega
    · split <;> omega

theorem shiftPerm_end (s e : Nat) : shiftPerm s e e = s := by
  rcases Nat.lt_trichotomy s e with h | rfl | h
  · rw [shiftPerm_of_lt h, if_pos rfl]
  · rw [shiftPerm_self]
  · rw [shiftPerm_of_gt h, if_pos rfl]

/-! ### a shift takes one name out of the order and puts it back in elsewhere -/

/-- level of the `i`-th of the names other than the one at level `s` -/
def skipAt (s i : Nat) : Nat := if i < s then i else i + 1

/-- position of level `j` among the levels other than `e` -/
def dropAt (e j : Nat) : Nat := if j < e then j else j - 1

theorem skipAt_ne (s i : Nat) : skipAt s i ≠ s := by
  unfold skipAt; split <;> omega

theorem dropAt_skipAt (e i : Nat) : dropAt e (skipAt e i) = i := by
  by_cases h : i < e
  · rw [skipAt, if_pos h, dropAt, if_pos h]
  · rw [skipAt, if_neg h, dropAt, if_neg (by omega)]; rfl

theorem shiftPerm_eq (s e j : Nat) :
    shiftPerm s e j = if j = e then s else skipAt s (dropAt e j) := by
  by_cases hj : j = e
  · rw [if_pos hj, hj, shiftPerm_end]
  · rw [if_neg hj]
    unfold skipAt dropAt
    rcases Nat.lt_trichotomy s e with h | rfl | h
    · rw [shiftPerm_of_lt h, if_neg hj]
      split <;> split <;> split <;> omega
    · rw [shiftPerm_self]
      split
      · rfl
      · split <;> omega
    · rw [shiftPerm_of_gt h, if_neg hj]
      split <;> split <;> split <;> omega

/-- `_shift(e, k)` after `_shift(s, e)` is `_shift(s, k)`: the name taken out by the second is the
one the first put in -/
theorem shiftPerm_comp (s e k j : Nat) : shiftPerm s e (shiftPerm e k j) = shiftPerm s k j := by
  rw [shiftPerm_eq e k, shiftPerm_eq s k]
  by_cases hj : j = k
  · rw [if_pos hj, if_pos hj, shiftPerm_eq, if_pos rfl]
  · rw [if_neg hj, if_neg hj, shiftPerm_eq, if_neg (skipAt_ne e _), dropAt_skipAt]

theorem shiftPerm_inv (s e j : Nat) : shiftPerm s e (shiftPerm e s j) = j := by
  rw [shiftPerm_comp, shiftPerm_self]

theorem shiftPerm_adjacent (i j : Nat) :
    shiftPerm i (i + 1) j = swp i (i + 1) j ∧ shiftPerm (i + 1) i j = swp i (i + 1) j := by
  rw [shiftPerm_of_lt (Nat.lt_succ_self i), shiftPerm_of_gt (Nat.lt_succ_self i)]
  unfold swp
  constructor
  · split
    · split <;> omega
    · split <;> split <;> omega
  · split
    · rfl
    · split <;> split <;> omega

theorem shiftPerm_outside {s e j : Nat} (h : (j < s ∧ j < e) ∨ (s < j ∧ e < j)) :
    shiftPerm s e j = j := by
  rcases Nat.lt_trichotomy s e with h' | rfl | h'
  · rw [shiftPerm_of_lt h', if_neg (by omega), if_neg (by omega)]
  · rw [shiftPerm_self]
  · rw [shiftPerm_of_gt h', if_neg (by omega), if_neg (by omega)]

/-- when the variable at `lo` is moved up to just below `hi`, two levels other than `lo` and `hi`
that were adjacent stay adjacent: they lie on the same side of the moved block -/
theorem shiftPerm_keeps_adjacent {lo hi a b : Nat} (h : lo + 2 ≤ hi) (ha : a ≠ lo ∧ a ≠ hi)
    (hb : b ≠ lo ∧ b ≠ hi) (hab : a + 1 = b ∨ b + 1 = a) :
    shiftPerm (hi - 1) lo a + 1 = shiftPerm (hi - 1) lo b ∨
      shiftPerm (hi - 1) lo b + 1 = shiftPerm (hi - 1) lo a := by
  have hlt : lo < hi - 1 := by omega
  rw [shiftPerm_of_gt hlt, shiftPerm_of_gt hlt, if_neg ha.1, if_neg hb.1]
  split <;> split <;> omega

section Abs
variable {E : Err → Prop} {P : Mgr → Prop} {R : Mgr → Mgr → Prop}

/-- a state in which the variable that was at level `s` of `m0` has been moved to level `p` -/
def AtPos (P : Mgr → Prop) (R : Mgr → Mgr → Prop) (m0 : Mgr) (s p : Nat) (mp : Mgr) : Prop :=
  P mp ∧ R m0 mp ∧ MovedBy m0 (shiftPerm s p) mp

theorem AtPos.start (S : SwapOK E P R) {m : Mgr} (hP : P m) (s : Nat) : AtPos P R m s s m :=
  ⟨hP, S.refl m, rfl, rfl, fun j => by rw [shiftPerm_self]⟩

theorem shiftStep (S : SwapOK E P R) {m0 m : Mgr} {s c c' : Nat} (hA : AtPos P R m0 s c m)
    (hadj : c' = c + 1 ∨ c = c' + 1) (hc : c < m0.nvars) (hc' : c' < m0.nvars) :
    OkOr E (fun r m' => AtPos P R m0 s c' m' ∧ r = (m.len, m'.len))
      (swap (.level c) (.level c') true m) := by
  obtain ⟨hP, hR, hn, hr, hl⟩ := hA
  -- the lower of the two levels; the shift by one, either way, is the swap of the two
  obtain ⟨x, hx, hcc, hperm⟩ : ∃ x, x + 1 < m.nvars ∧
      ((c = x ∧ c' = x + 1) ∨ (c = x + 1 ∧ c' = x)) ∧ ∀ j, shiftPerm c c' j = swp x (x + 1) j := by
    rcases hadj with rfl | rfl
    · exact ⟨c, by rw [hn]; exact hc', Or.inl ⟨rfl, rfl⟩, fun j => (shiftPerm_adjacent c j).1⟩
    · exact ⟨c', by rw [hn]; exact hc, Or.inr ⟨rfl, rfl⟩, fun j => (shiftPerm_adjacent c' j).2⟩
  rw [swap_eq_body m (.level c) (.level c') x c c' hx rfl rfl hcc]
  refine OkOr.mono ?_ (S.step m x hP hx)
  intro r m1 ⟨hP1, hR1, he1, hr1⟩
  refine ⟨⟨hP1, S.trans _ _ _ hR hR1, he1.nvars.trans hn, he1.roots.trans hr, ?_⟩, hr1⟩
  intro j
  rw [he1.l2v, hl, ← hperm, shiftPerm_comp]

/-- the recorded sizes are sizes of states with the variable at the recorded level, and every level
of the range `lo..hi` has been recorded -/
structure SizesOK (P : Mgr → Prop) (R : Mgr → Mgr → Prop) (m0 : Mgr) (s lo hi : Nat)
    (sizes : List (Nat × Nat)) : Prop where
  nodup : NodupKeys sizes
  sound : ∀ p v, sizes.lookup p = some v → lo ≤ p ∧ p ≤ hi ∧ ∃ mp, AtPos P R m0 s p mp ∧ v = mp.len
  cover : lo < hi → ∀ p, lo ≤ p → p ≤ hi → (sizes.lookup p).isSome

theorem SizesOK.nil (m0 : Mgr) (s : Nat) {lo hi : Nat} (h : hi ≤ lo) : SizesOK P R m0 s lo hi [] :=
  ⟨List.nodup_nil, (fun _ _ h => by cases h), (fun h' => by omega)⟩

/-- the two entries written after a swap that took the variable from `c` one level further away
from its original level `s` -/
theorem SizesOK.record {m0 m m1 : Mgr} {s c c' : Nat} {sizes : List (Nat × Nat)}
    (hS : SizesOK P R m0 s (min s c) (max s c) sizes) (hA : AtPos P R m0 s c m)
    (hA1 : AtPos P R m0 s c' m1) (hfar : (c' = c + 1 ∧ s ≤ c) ∨ (c = c' + 1 ∧ c ≤ s)) :
    SizesOK P R m0 s (min s c') (max s c') (assocSet (assocSet sizes c m.len) c' m1.len) := by
  refine ⟨(hS.nodup.assocSet _ _).assocSet _ _, ?_, ?_⟩
  · intro p v hpv
    rw [lookup_assocSet, lookup_assocSet] at hpv
    by_cases h1 : p = c'
    · rw [if_pos h1] at hpv
      cases hpv
      exact ⟨by omega, by omega, m1, h1 ▸ hA1, rfl⟩
    · rw [if_neg h1] at hpv
      by_cases h2 : p = c
      · rw [if_pos h2] at hpv
        cases hpv
        exact ⟨by omega, by omega, m, h2 ▸ hA, rfl⟩
      · rw [if_neg h2] at hpv
        obtain ⟨a, b, c⟩ := hS.sound p v hpv
        exact ⟨by omega, by omega, c⟩
  · intro _ p hp1 hp2
    rw [lookup_assocSet, lookup_assocSet]
    by_cases h1 : p = c'
    · rw [if_pos h1]; rfl
    · rw [if_neg h1]
      by_cases h2 : p = c
      · rw [if_pos h2]; rfl
      · rw [if_neg h2]
        exact hS.cover (by omega) p (by omega) (by omega)

theorem shiftLoop_done (f : Nat) (c : Int) (d : Int) (sizes : List (Nat × Nat)) (m : Mgr) :
    shiftLoop f c c d sizes m = (.ok sizes, m) := by
  cases f <;> simp [shiftLoop, M.pure_eq]

/-- the loop of `_shift` from level `c` on, in the direction `d` away from the original level `s`,
with the size bookkeeping -/
theorem shiftLoop_sizes (S : SwapOK E P R) (m0 : Mgr) (s e : Nat) (d : Int) (hs : s < m0.nvars)
    (he : e < m0.nvars) : ∀ (dist f c : Nat) (sizes : List (Nat × Nat)) (m : Mgr),
    (d = 1 ∧ s ≤ c ∧ c + dist = e) ∨ (d = -1 ∧ e + dist = c ∧ c ≤ s) → dist ≤ f →
    AtPos P R m0 s c m → SizesOK P R m0 s (min s c) (max s c) sizes →
    OkOr E (fun sz m' => AtPos P R m0 s e m' ∧ SizesOK P R m0 s (min s e) (max s e) sz)
      (shiftLoop f (c : Int) (e : Int) d sizes m) := by
  intro dist
  induction dist with
  | zero =>
    intro f c sizes m hd _ hA hS
    obtain rfl : c = e := by omega
    rw [shiftLoop_done]
    exact ⟨hA, hS⟩
  | succ dist ih =>
    intro f c sizes m hd hf hA hS
    obtain ⟨f', rfl⟩ : ∃ f', f = f' + 1 := ⟨f - 1, by omega⟩
    obtain ⟨c', hc', hfar⟩ : ∃ c' : Nat, (c : Int) + d = c' ∧
        ((c' = c + 1 ∧ s ≤ c) ∨ (c = c' + 1 ∧ c ≤ s)) := by
      rcases hd with ⟨rfl, h1, h2⟩ | ⟨rfl, h1, h2⟩
      · exact ⟨c + 1, by omega, Or.inl ⟨rfl, h1⟩⟩
      · exact ⟨c - 1, by omega, Or.inr ⟨by omega, h2⟩⟩
    have hne : ¬ ((c : Int) = (e : Int)) := by omega
    rw [shiftLoop, if_neg hne, hc']
    refine OkOr.bind (shiftStep S hA (by omega) (by omega) (by omega)) ?_
    rintro _ m1 ⟨hA1, rfl⟩
    simp only [Int.toNat_natCast]
    exact ih f' c' _ m1 (by omega) (by omega) hA1 (hS.record hA hA1 hfar)

theorem shift_sizes (S : SwapOK E P R) (m : Mgr) (hP : P m) (s e : Nat) (hs : s < m.nvars)
    (he : e < m.nvars) :
    OkOr E (fun sz m' => AtPos P R m s e m' ∧ SizesOK P R m s (min s e) (max s e) sz) (shift s e m) := by
  unfold shift
  simp only [M.bind_eq, M.get_eq, hs, he, decide_true, M.assert_true]
  refine shiftLoop_sizes S m s e _ hs he (max s e - min s e) _ s [] m ?_ (by omega)
    (AtPos.start S hP s) (SizesOK.nil m s (by omega))
  by_cases hlt : s < e
  · rw [if_pos hlt]; exact Or.inl ⟨rfl, Nat.le_refl _, by omega⟩
  · rw [if_neg hlt]; exact Or.inr ⟨rfl, by omega, Nat.le_refl _⟩

theorem shift_order (S : SwapOK E P R) (m : Mgr) (hP : P m) (s e : Nat) (hs : s < m.nvars)
    (he : e < m.nvars) :
    OkOr E (fun _ m' => P m' ∧ R m m' ∧ MovedBy m (shiftPerm s e) m') (shift s e m) :=
  OkOr.mono (fun _ _ h => h.1) (shift_sizes S m hP s e hs he)

theorem AtPos.declared (S : SwapOK E P R) {m m' : Mgr} (hP : P m) {s p : Nat}
    (h : AtPos P R m s p m') {v : String} (hv : m.tbl.vars.contains v = true) :
    m'.tbl.vars.contains v = true := by
  rw [TreeMap.contains_eq_isSome_getElem?] at hv ⊢
  obtain ⟨i, hi⟩ := Option.isSome_iff_exists.mp hv
  rw [moved_vars (S.vars m hP) (S.vars m' h.1) (shiftPerm_inv s p) h.2.2 hi]
  rfl

/-- the two variables are declared and sit at adjacent levels -/
def Adj (m : Mgr) (x y : String) : Prop :=
  ∃ i j, m.tbl.vars[x]? = some i ∧ m.tbl.vars[y]? = some j ∧ (i + 1 = j ∨ j + 1 = i)

/-- `_shift(lo, hi - 1)` brings the variable at `lo` next to the one at `hi`, and keeps the
other variables next to each other -/
theorem shift_makes_adjacent (S : SwapOK E P R) (m : Mgr) (hP : P m) {vlo vhi : String} {lo hi : Nat}
    (hlo : m.tbl.vars[vlo]? = some lo) (hhi : m.tbl.vars[vhi]? = some hi) (hgap : lo + 2 ≤ hi)
    (hhn : hi < m.nvars) :
    OkOr E (fun _ m' => P m' ∧ R m m' ∧ m'.nvars = m.nvars ∧
        m'.tbl.vars[vlo]? = some (hi - 1) ∧ m'.tbl.vars[vhi]? = some hi ∧
        (∀ v, m.tbl.vars.contains v = true → m'.tbl.vars.contains v = true) ∧
        (∀ a b, a ≠ vlo → a ≠ vhi → b ≠ vlo → b ≠ vhi → Adj m a b → Adj m' a b))
      (shift lo (hi - 1) m) := by
  refine OkOr.mono ?_ (shift_order S m hP lo (hi - 1) (by omega) (by omega))
  intro _ m' hA
  obtain ⟨hP', hR', hmv⟩ := id hA
  have hV := S.vars m hP
  have hvars : ∀ {v : String} {i : Nat}, m.tbl.vars[v]? = some i →
      m'.tbl.vars[v]? = some (shiftPerm (hi - 1) lo i) :=
    fun hv => moved_vars hV (S.vars m' hP') (shiftPerm_inv lo (hi - 1)) hmv hv
  refine ⟨hP', hR', hmv.1, ?_, ?_, ?_, ?_⟩
  · rw [hvars hlo, shiftPerm_end]
  · rw [hvars hhi, shiftPerm_outside (Or.inr ⟨by omega, by omega⟩)]
  · exact fun v hv => AtPos.declared S hP hA hv
  · intro a b ha1 ha2 hb1 hb2 ⟨ia, ib, hia, hib, hadj⟩
    exact ⟨_, _, hvars hia, hvars hib, shiftPerm_keeps_adjacent hgap
      ⟨fun e => ha1 (hV.vars_inj hia (e ▸ hlo)), fun e => ha2 (hV.vars_inj hia (e ▸ hhi))⟩
      ⟨fun e => hb1 (hV.vars_inj hib (e ▸ hlo)), fun e => hb2 (hV.vars_inj hib (e ▸ hhi))⟩ hadj⟩

theorem pairStep_spec (S : SwapOK E P R) (m : Mgr) (hP : P m) (x y : String) (hxy : x ≠ y)
    (hx : m.tbl.vars.contains x = true) (hy : m.tbl.vars.contains y = true) :
    OkOr E (fun _ m' => P m' ∧ R m m' ∧ m'.nvars = m.nvars ∧ Adj m' x y ∧
        (∀ v, m.tbl.vars.contains v = true → m'.tbl.vars.contains v = true) ∧
        (∀ a b, a ≠ x → a ≠ y → b ≠ x → b ≠ y → Adj m a b → Adj m' a b))
      (pairStep x y m) := by
  have hV := S.vars m hP
  rw [TreeMap.contains_eq_isSome_getElem?] at hx hy
  obtain ⟨jx, hjx⟩ := Option.isSome_iff_exists.mp hx
  obtain ⟨jy, hjy⟩ := Option.isSome_iff_exists.mp hy
  have hne : jx ≠ jy := fun e => hxy (hV.vars_inj hjx (e ▸ hjy))
  have lx := hV.lt _ _ hjx
  have ly := hV.lt _ _ hjy
  unfold pairStep
  rw [M.bind_ok (levelOfVar_ok m x jx hjx), M.bind_ok (levelOfVar_ok m y jy hjy)]
  have hk : (0 < if jx ≤ jy then jy - jx else jx - jy) := by split <;> omega
  simp only [hk, decide_true, M.bind_eq, M.assert_true]
  by_cases h1 : (if jx ≤ jy then jy - jx else jx - jy) = 1
  · simp only [h1, ne_eq, not_true_eq_false, if_false]
    refine ⟨hP, S.refl m, rfl, ⟨jx, jy, hjx, hjy, ?_⟩, fun _ h => h, fun _ _ _ _ _ _ h => h⟩
    split at h1 <;> omega
  · simp only [h1, ne_eq, not_false_eq_true, if_true]
    by_cases hgt : jx > jy
    · simp only [hgt, if_true]
      refine OkOr.bind (shift_makes_adjacent S m hP hjy hjx (by split at h1 <;> omega) lx) ?_
      intro _ m' ⟨hP', hR', hn', hy', hx', hdec, hadj⟩
      exact ⟨hP', hR', hn', ⟨_, _, hx', hy', Or.inr (by omega)⟩, hdec,
        fun a b ax ay bx by' => hadj a b ay ax by' bx⟩
    · simp only [hgt, if_false]
      refine OkOr.bind (shift_makes_adjacent S m hP hjx hjy (by split at h1 <;> omega) ly) ?_
      intro _ m' ⟨hP', hR', hn', hx', hy', hdec, hadj⟩
      exact ⟨hP', hR', hn', ⟨_, _, hx', hy', Or.inl (by omega)⟩, hdec, hadj⟩

/-- all names occurring in a pairing -/
def pairNames : List (String × String) → List String
  | [] => []
  | (x, y) :: rest => x :: y :: pairNames rest

/-- **`reorder_to_pairs`**: for a pairing of pairwise distinct declared variables the call
succeeds and afterwards every requested pair is adjacent. -/
theorem reorderToPairs_adjacent (S : SwapOK E P R) : ∀ (pairs : List (String × String)) (m : Mgr),
    P m → (∀ v ∈ pairNames pairs, m.tbl.vars.contains v = true) → (pairNames pairs).Nodup →
    OkOr E (fun _ m' => P m' ∧ R m m' ∧ m'.nvars = m.nvars ∧
        (∀ p ∈ pairs, Adj m' p.1 p.2) ∧
        (∀ v, m.tbl.vars.contains v = true → m'.tbl.vars.contains v = true) ∧
        (∀ a b, a ∉ pairNames pairs → b ∉ pairNames pairs → Adj m a b → Adj m' a b))
      (reorderToPairs pairs m) := by
  intro pairs
  induction pairs with
  | nil =>
    intro m hP _ _
    exact ⟨hP, S.refl m, rfl, fun _ h => absurd h List.not_mem_nil, fun _ h => h, fun _ _ _ _ h => h⟩
  | cons pq rest ih =>
    obtain ⟨x, y⟩ := pq
    intro m hP hdecl hnd
    simp only [pairNames, List.nodup_cons, List.mem_cons, not_or] at hnd
    obtain ⟨⟨hxy, hxr⟩, hyr, hrest⟩ := hnd
    unfold reorderToPairs
    have h1 := pairStep_spec S m hP x y hxy (hdecl x (by simp [pairNames]))
      (hdecl y (by simp [pairNames]))
    refine OkOr.bind h1 ?_
    intro _ m1 ⟨hP1, hR1, hn1, hadj1, hdec1, hpres1⟩
    have h2 := ih m1 hP1 (fun v hv => hdec1 v (hdecl v (by simp [pairNames, hv]))) hrest
    refine OkOr.mono ?_ h2
    intro _ m2 ⟨hP2, hR2, hn2, hadj2, hdec2, hpres2⟩
    refine ⟨hP2, S.trans _ _ _ hR1 hR2, hn2.trans hn1, ?_, fun v hv => hdec2 v (hdec1 v hv), ?_⟩
    · intro p hp
      rcases List.mem_cons.mp hp with rfl | hp
      · exact hpres2 x y hxr hyr hadj1
      · exact hadj2 p hp
    · intro a b ha hb hab
      simp only [pairNames, List.mem_cons, not_or] at ha hb
      exact hpres2 a b ha.2.2 hb.2.2 (hpres1 a b ha.1 ha.2.1 hb.1 hb.2.1 hab)

/-- `_shift` between two different levels records at least one size -/
theorem shiftLoop_sizes_ne : ∀ (f : Nat) (i e d : Int) (sizes : List (Nat × Nat)) (m : Mgr)
    (sz : List (Nat × Nat)) (m' : Mgr), shiftLoop f i e d sizes m = (.ok sz, m') →
    (sizes ≠ [] ∨ i ≠ e) → sz ≠ [] := by
  intro f
  induction f with
  | zero =>
    intro i e d sizes m sz m' h hne
    by_cases hie : i = e
    · subst hie
      rw [shiftLoop_done] at h
      cases h
      exact hne.resolve_right fun h => h rfl
    · unfold shiftLoop at h
      rw [if_neg hie] at h; cases h
  | succ f ih =>
    intro i e d sizes m sz m' h hne
    by_cases hie : i = e
    · subst hie
      rw [shiftLoop_done] at h
      cases h
      exact hne.resolve_right fun h => h rfl
    · unfold shiftLoop at h
      rw [if_neg hie] at h
      obtain ⟨r, m1, _, h2⟩ := M.bind_ok_inv h
      exact ih _ _ _ _ _ _ _ h2 (Or.inl (assocSet_ne_nil _ _ _))

theorem shift_sizes_ne (s e : Nat) (m : Mgr) (sz : List (Nat × Nat)) (m' : Mgr)
    (h : shift s e m = (.ok sz, m')) (hse : s ≠ e) : sz ≠ [] := by
  unfold shift at h
  obtain ⟨m0, m0', g0, h0⟩ := M.bind_ok_inv h
  obtain ⟨e1, e2⟩ := M.get_ok_inv g0
  subst e1; subst e2
  obtain ⟨_, ma, ga, ha⟩ := M.bind_ok_inv h0
  obtain ⟨_, ea⟩ := M.assert_ok_inv ga
  subst ea
  obtain ⟨_, mb, gb, hb⟩ := M.bind_ok_inv ha
  obtain ⟨_, eb⟩ := M.assert_ok_inv gb
  subst eb
  exact shiftLoop_sizes_ne _ _ _ _ _ _ _ _ hb (Or.inr (by omega))

end Abs

end DD
