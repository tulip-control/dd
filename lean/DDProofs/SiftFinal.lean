/-
  DDProofs.SiftFinal — the sifting contract `SiftEnv` discharged: swaps leave no unreferenced
  node, the full collection removes them all, and the number of nodes is a function of the order
  and of the held functions (`len_determined`).  Hence `reorder(bdd)` never raises.
-/
import DDProofs.SwapDrivers
import DDProofs.SiftTotal
import DDProofs.SizeCanon
open Std

namespace DD

/-- equal name-denotations under the same order are equal level-denotations -/
theorem den_of_denN {t1 t2 : Tbl} (h1 : WF t1) (h2 : WF t2) (o1 : OrderOK t1)
    (hn : t1.nvars = t2.nvars) (hl : ∀ j : Nat, t1.l2v[j]? = t2.l2v[j]?) (u : Int)
    (hu1 : t1.Mem u) (hu2 : t2.Mem u) (hd : ∀ σ, denN t1 u σ = denN t2 u σ) (b : Asg) :
    den t1 u b = den t2 u b := by
  let σ : String → Bool := fun v => b ((t1.vars[v]?).getD 0)
  have hlift : t2.lift σ = t1.lift σ := by
    funext i
    simp only [Tbl.lift, Tbl.nameOf, hl]
  have hag : ∀ i, i < t1.nvars → t1.lift σ i = b i := by
    intro i hi
    obtain ⟨v, hv, hvi⟩ := o1.name_at hi
    simp only [Tbl.lift, Tbl.nameOf, hv, Option.getD_some, σ, hvi]
  have e1 : den t1 u b = den t1 u (t1.lift σ) :=
    den_agree_lt_nvars t1 h1 u hu1 _ _ (fun i hi => (hag i hi).symm)
  have e2 : den t2 u (t1.lift σ) = den t2 u b :=
    den_agree_lt_nvars t2 h2 u hu2 _ _ (fun i hi => hag i (by omega))
  have e3 := hd σ
  unfold denN at e3
  rw [hlift] at e3
  rw [e1, e3, e2]

theorem reorder_size (ext : Nat → Nat) (m0 m1 m2 : Mgr) (h1 : ReorderInv ext m1 ∧ NoGarbage m1)
    (h2 : ReorderInv ext m2 ∧ NoGarbage m2) (r1 : ReorderRel ext m0 m1) (r2 : ReorderRel ext m0 m2)
    (hn : m1.nvars = m2.nvars) (hl : ∀ j : Nat, m1.tbl.l2v[j]? = m2.tbl.l2v[j]?) : m1.len = m2.len := by
  apply len_determined m1 m2 ext h1.1.inv h2.1.inv h1.1.refExact h2.1.refExact h1.2 h2.2 hn
  intro u hu b
  apply den_of_denN h1.1.inv.wf.toWF h2.1.inv.wf.toWF h1.1.order hn hl (u : Int)
    (h1.1.held_mem hu) (h2.1.held_mem hu)
  intro σ
  rw [r1.held u hu σ, r2.held u hu σ]

theorem siftEnv (ext : Nat → Nat) :
    SiftEnv SchedErr (ReorderInv ext) (fun m => ReorderInv ext m ∧ NoGarbage m) (ReorderRel ext) where
  toSwapOK := swapOKng ext
  gc m h := by
    obtain ⟨m', hrun, a, g, b, hs⟩ := h.collect
    exact ⟨m', hrun, ⟨a, g⟩, b, hs.vars, hs.len_le⟩
  sched m s h hs := ⟨⟨h.1.setSched s, h.2⟩, (RelS.setSched ext m s hs).toRel⟩
  order _ _ _ := rfl
  size m0 m1 m2 h1 h2 r1 r2 hn hl := reorder_size ext m0 m1 m2 h1 h2 r1 r2 hn hl

/-- the same contract with no recorded schedule: no exception at all -/
theorem siftEnv_default (ext : Nat → Nat) :
    SiftEnv NoErr (fun m => ReorderInv ext m ∧ m.sched = [])
      (fun m => (ReorderInv ext m ∧ m.sched = []) ∧ NoGarbage m) (ReorderRel ext) where
  toSwapOK := swapOKng_default ext
  gc m h := by
    obtain ⟨m', hrun, a, g, b, hs⟩ := h.1.collect
    exact ⟨m', hrun, ⟨⟨a, b.sched h.2⟩, g⟩, b, hs.vars, hs.len_le⟩
  sched m s h hs := by
    have hR := (RelS.setSched ext m s hs).toRel
    exact ⟨⟨⟨h.1.1.setSched s, hR.sched h.1.2⟩, h.2⟩, hR⟩
  order _ h hne := (hne h.1.2).elim
  size m0 m1 m2 h1 h2 r1 r2 hn hl :=
    reorder_size ext m0 m1 m2 ⟨h1.1.1, h1.2⟩ ⟨h2.1.1, h2.2⟩ r1 r2 hn hl

/-- **`reorder(bdd)` (sifting) never raises**: with at least two variables, for every schedule -/
theorem applySifting_never_raises (ext : Nat → Nat) (m : Mgr) (h : ReorderInv ext m)
    (h2 : 2 ≤ m.nvars) :
    OkOrSched (fun _ m' => (ReorderInv ext m' ∧ NoGarbage m') ∧ ReorderRel ext m m') (applySifting m) :=
  applySifting_total (siftEnv ext) m h h2

/-- … and with no recorded schedule it returns normally -/
theorem applySifting_total_default (ext : Nat → Nat) (m : Mgr) (h : ReorderInv ext m)
    (h2 : 2 ≤ m.nvars) (hs : m.sched = []) :
    ∃ m', applySifting m = (.ok (), m') ∧ (ReorderInv ext m' ∧ NoGarbage m') ∧ m'.sched = [] ∧
      ReorderRel ext m m' := by
  obtain ⟨_, m', hrun, hp⟩ := Returns.elim (applySifting_total (siftEnv_default ext) m ⟨h, hs⟩ h2)
  exact ⟨m', hrun, ⟨hp.1.1.1, hp.1.2⟩, hp.1.1.2, hp.2⟩

end DD
