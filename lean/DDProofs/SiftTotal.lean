/-
  DDProofs.SiftTotal — sifting never raises: with the size bookkeeping of `_shift`
  (`shift_sizes`, DDProofs.ShiftAbs: the dict maps EVERY level between start and end to the number
  of nodes of a state with the variable at that level) and "the number of nodes is a function of
  the order and of the held functions" (`SiftEnv.size`, discharged by `len_determined`).
-/
import DDProofs.ShiftAbs
import DDProofs.DriversSeq
open Std

namespace DD

section Abs
variable {E : Err → Prop} {P : Mgr → Prop} {R : Mgr → Mgr → Prop}

/-- the swap contract plus: the initial collection establishes `P` from `P0`, consuming the
recorded iteration order keeps `P`, and the number of nodes is a function of the order and of
the `R`-class -/
structure SiftEnv (E : Err → Prop) (P0 P : Mgr → Prop) (R : Mgr → Mgr → Prop) : Prop
    extends SwapOK E P R where
  gc : ∀ m, P0 m → ∃ m', collectGarbage none m = (.ok (), m') ∧ P m' ∧ R m m' ∧
    m'.tbl.vars = m.tbl.vars ∧ m'.len ≤ m.len
  sched : ∀ m s, P m → s <:+ m.sched → P { m with sched := s } ∧ R m { m with sched := s }
  /-- the one exception of `takeSiftOrder` (`takeSiftOrder_run`) is allowed -/
  order : ∀ m, P m → m.sched ≠ [] → E .sched
  size : ∀ m0 m1 m2, P m1 → P m2 → R m0 m1 → R m0 m2 → m1.nvars = m2.nvars →
    (∀ j : Nat, m1.tbl.l2v[j]? = m2.tbl.l2v[j]?) → m1.len = m2.len

/-- **Sifting, partial correctness**: if `_apply_sifting` returns normally then `P` holds, the
final state is `R`-related to the initial one, and there are no more nodes than after the
initial collection (the code's own final check), hence no more than at the start. -/
theorem applySifting_partial {P0 : Mgr → Prop} (Ev : SiftEnv E P0 P R) (m : Mgr) (hP : P0 m) :
    ∃ mg, collectGarbage none m = (.ok (), mg) ∧ mg.len ≤ m.len ∧
      OkOr (fun _ => True) (fun _ m' => P m' ∧ R m m' ∧ m'.nvars = mg.nvars ∧ m'.len ≤ mg.len)
        (applySifting m) := by
  have S := Ev.toSwapOK
  obtain ⟨mg, hrun, hPg, hRg, -, hle⟩ := Ev.gc m hP
  refine ⟨mg, hrun, hle, ?_⟩
  unfold applySifting
  rw [M.bind_ok hrun, M.bind_ok (M.get_eq mg)]
  refine Ends.bind ((takeSiftOrder_run mg).imp (fun _ _ h => h) fun _ _ _ => trivial) ?_
  rintro names _ - ⟨⟨s, hs0, rfl⟩, _, _⟩
  obtain ⟨hPb, hRb⟩ := Ev.sched mg s hPg hs0
  split
  · trivial
  refine OkOr.bind (siftVars_seq S.keeps_seqClosed S.keeps_swap names _ hPb) ?_
  intro _ mc ⟨hPc, hRc, hnc⟩
  rw [M.bind_ok (M.get_eq mc)]
  by_cases hle : mc.len ≤ mg.len
  · rw [decide_eq_true hle]
    exact ⟨hPc, S.trans _ _ _ hRg (S.trans _ _ _ hRb hRc), hnc, hle⟩
  · rw [decide_eq_false hle]
    trivial

/-- **`_reorder_var` returns normally**: with at least two variables, for every schedule -/
theorem reorderVar_total {P0 : Mgr → Prop} (Ev : SiftEnv E P0 P R) (m : Mgr) (hP : P m) (var : String)
    (hv : m.tbl.vars.contains var = true) (h2 : 2 ≤ m.nvars) :
    OkOr E (fun _ m' => P m' ∧ R m m' ∧ m'.nvars = m.nvars ∧ m'.len ≤ m.len ∧
        ∀ v, m.tbl.vars.contains v = true → m'.tbl.vars.contains v = true) (reorderVar var m) := by
  have S := Ev.toSwapOK
  have hV := S.vars m hP
  rw [TreeMap.contains_eq_isSome_getElem?] at hv
  obtain ⟨level, hl⟩ := Option.isSome_iff_exists.mp hv
  have hlt := hV.lt _ _ hl
  unfold reorderVar
  rw [M.bind_ok (M.get_eq m)]
  have hc : ¬ ((!m.tbl.vars.contains var) = true) := by
    rw [TreeMap.contains_eq_isSome_getElem?, hl]; simp
  rw [if_neg hc]
  have h0 : decide (0 < m.nvars) = true := by simp; omega
  rw [h0, M.bind_ok (M.assert_true _ _), M.bind_ok (levelOfVar_ok m var level hl)]
  generalize hse : (if 2 * level ≥ m.nvars - 1 then (m.nvars - 1, 0) else (0, m.nvars - 1)) = se
  obtain ⟨start, end_⟩ := se
  have hnn : m.nvars = m.tbl.nvars := rfl
  have hst : start < m.nvars ∧ end_ < m.nvars ∧ start ≠ end_ ∧
      ((start ≤ level ∧ level ≤ end_) ∨ (end_ ≤ level ∧ level ≤ start)) := by
    split at hse <;> cases hse <;> omega
  dsimp only
  refine OkOr.bind (shift_sizes S m hP level start hlt hst.1) ?_
  intro _ m1 ⟨hA1, _⟩
  obtain ⟨hP1, hR1, hn1, hr1, hl1⟩ := id hA1
  refine OkOr.bind (shift_sizes S m1 hP1 start end_ (by rw [hn1]; exact hst.1)
    (by rw [hn1]; exact hst.2.1)) ?_
  intro sizes m2 ⟨hA2, hS2⟩
  obtain ⟨hP2, hR2, hn2, hr2, hl2⟩ := id hA2
  have hrange : min start end_ < max start end_ := by omega
  have hcov := hS2.cover hrange
  have hne : sizes ≠ [] := by
    intro e
    have := hcov start (by omega) (by omega)
    rw [e] at this; cases this
  obtain ⟨k, hk⟩ := argMin_some sizes hne
  rw [hk, M.bind_ok (M.ofOption_some _ _ _)]
  obtain ⟨vk, hvk, hmin⟩ := argMin_spec sizes hS2.nodup k hk
  obtain ⟨hk1, hk2, mk, hAk, hvk'⟩ := hS2.sound k vk hvk
  have hkn : k < m2.nvars := by rw [hn2, hn1]; omega
  refine OkOr.bind (shift_sizes S m2 hP2 end_ k (by rw [hn2, hn1]; exact hst.2.1) hkn) ?_
  intro _ m3 ⟨hA3, _⟩
  obtain ⟨hP3, hR3, hn3, hr3, hl3⟩ := id hA3
  rw [M.bind_ok (M.get_eq m3)]
  -- `m3` has the same order as the recorded state `mk`
  have hR13 : R m1 m3 := S.trans _ _ _ hR2 hR3
  have hsame : m3.len = mk.len := by
    apply Ev.size m1 m3 mk hP3 hAk.1 hR13 hAk.2.1 (by rw [hn3, hn2, hAk.2.2.1])
    intro j
    rw [hl3, hl2, hAk.2.2.2.2, shiftPerm_comp]
  -- the state recorded for the original level has the original order
  obtain ⟨vl, hvl⟩ := Option.isSome_iff_exists.mp (hcov level (by omega) (by omega))
  obtain ⟨_, _, ml, hAl, hvl'⟩ := hS2.sound level vl hvl
  have hlen0 : ml.len = m.len := by
    apply Ev.size m ml m hAl.1 hP (S.trans _ _ _ hR1 hAl.2.1) (S.refl m) (by rw [hAl.2.2.1, hn1])
    intro j
    rw [hAl.2.2.2.2, hl1, shiftPerm_inv]
  have hle : m3.len ≤ m.len := by
    have := hmin level vl hvl
    rw [hsame, ← hvk', ← hlen0, ← hvl']
    exact this
  have ha : sizes.lookup k = some m3.len := by rw [hvk, hvk', hsame]
  simp only [ha, hle, decide_true]
  rw [M.bind_ok (M.assert_true _ _), M.bind_ok (M.assert_true _ _)]
  exact ⟨hP3, S.trans _ _ _ hR1 hR13, hn3.trans (hn2.trans hn1), hle,
    fun v hv => hA3.declared S hP2 (hA2.declared S hP1 (hA1.declared S hP hv))⟩

theorem siftVars_total {P0 : Mgr → Prop} (Ev : SiftEnv E P0 P R) : ∀ (names : List String) (m : Mgr),
    P m → 2 ≤ m.nvars → (∀ v ∈ names, m.tbl.vars.contains v = true) →
    OkOr E (fun _ m' => P m' ∧ R m m' ∧ m'.len ≤ m.len) (siftVars names m) := by
  have S := Ev.toSwapOK
  intro names
  induction names with
  | nil => intro m hP _ _; exact ⟨hP, S.refl m, Nat.le_refl _⟩
  | cons v rest ih =>
    intro m hP h2 hd
    unfold siftVars
    refine OkOr.bind (reorderVar_total Ev m hP v (hd v List.mem_cons_self) h2) ?_
    intro _ m1 ⟨hP1, hR1, hn1, hl1, hd1⟩
    refine OkOr.mono ?_
      (ih m1 hP1 (by rw [hn1]; exact h2) (fun w hw => hd1 w (hd w (List.mem_cons_of_mem _ hw))))
    intro _ m2 ⟨hP2, hR2, hl2⟩
    exact ⟨hP2, S.trans _ _ _ hR1 hR2, Nat.le_trans hl2 hl1⟩

/-- **Sifting returns normally**: with at least two variables, for every schedule -/
theorem applySifting_total {P0 : Mgr → Prop} (Ev : SiftEnv E P0 P R) (m : Mgr) (hP : P0 m)
    (h2 : 2 ≤ m.nvars) :
    OkOr E (fun _ m' => P m' ∧ R m m') (applySifting m) := by
  have S := Ev.toSwapOK
  obtain ⟨mg, hrun, hPg, hRg, hvg, -⟩ := Ev.gc m hP
  have hng : mg.nvars = m.nvars := congrArg (·.size) hvg
  unfold applySifting
  rw [M.bind_ok hrun, M.bind_ok (M.get_eq mg)]
  refine Ends.bind ((takeSiftOrder_run mg).imp (fun _ _ h => h)
    fun _ _ ⟨he, hne, _⟩ => he ▸ Ev.order mg hPg hne) ?_
  rintro names mb - ⟨⟨s, hs0, rfl⟩, hlen, hdecl⟩
  obtain ⟨hPb, hRb⟩ := Ev.sched mg s hPg hs0
  have hne : ¬ (names.isEmpty = true) := by
    intro he
    have : names = [] := List.isEmpty_iff.mp he
    subst this
    have : mg.nvars = mg.tbl.vars.size := rfl
    simp at hlen
    omega
  rw [if_neg hne]
  refine OkOr.bind (siftVars_total Ev names _ hPb (by show 2 ≤ mg.nvars; omega) hdecl) ?_
  intro _ mc ⟨hPc, hRc, hlc⟩
  rw [M.bind_ok (M.get_eq mc)]
  have hle : mc.len ≤ mg.len := hlc
  simp only [hle, decide_true]
  exact ⟨hPc, S.trans _ _ _ hRg (S.trans _ _ _ hRb hRc)⟩

end Abs

end DD
