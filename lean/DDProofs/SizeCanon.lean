/-
  DDProofs.SizeCanon — the number of nodes is determined by the variable order and the functions
  of the externally held references (`len_determined`; needed for the size assertions of sifting,
  C07).  Proof: with no unreferenced node, every node is reachable from a held reference (C06);
  reachability transports the relation "denotes the same function of the LEVELS" from one table to
  the other (cofactors of equal functions are equal, and a node sits at the least level its
  function depends on); by canonicity this relation is a bijection between the two node sets.
-/
import DDProofs.SwapSem
import DDProofs.GcSpec
import DDProofs.Agree
open Std

namespace DD

theorem den_agree_lt_nvars (t : Tbl) (hw : WF t) (u : Int) (hm : t.Mem u) (a b : Asg)
    (hab : ∀ i, i < t.nvars → a i = b i) : den t u a = den t u b :=
  den_agree_ge t hw u hm a b (fun i _ hi => hab i hi)

theorem node_depends (t : Tbl) (hw : WFU t) (u : Int) (hu : t.Mem u) (h1 : u.natAbs ≠ 1) :
    ∃ b : Asg, den t u (upd b (t.levelOf u) true) ≠ den t u (upd b (t.levelOf u) false) := by
  rcases hu with hu | hu
  · exact absurd hu h1
  · obtain ⟨n, hn⟩ := Option.isSome_iff_exists.mp hu
    rw [levelOf_node t u n h1 hn]
    exact node_depends_on_own_level hw h1 hn

def SameFn (t1 t2 : Tbl) (r1 r2 : Int) : Prop :=
  t1.Mem r1 ∧ t2.Mem r2 ∧ ∀ b : Asg, den t1 r1 b = den t2 r2 b

theorem SameFn.symm {t1 t2 : Tbl} {r1 r2 : Int} (h : SameFn t1 t2 r1 r2) : SameFn t2 t1 r2 r1 :=
  ⟨h.2.1, h.1, fun b => (h.2.2 b).symm⟩

theorem SameFn.neg {t1 t2 : Tbl} (h1 : WF t1) (h2 : WF t2) {r1 r2 : Int} (h : SameFn t1 t2 r1 r2) :
    SameFn t1 t2 (-r1) (-r2) :=
  ⟨mem_neg h.1, mem_neg h.2.1, fun b => by
    rw [den_neg t1 h1 r1 b h.1, den_neg t2 h2 r2 b h.2.1, h.2.2 b]⟩

theorem SameFn.level_le {t1 t2 : Tbl} (h1 : WFU t1) (h2 : WFU t2) (hn : t1.nvars = t2.nvars)
    {r1 r2 : Int} (h : SameFn t1 t2 r1 r2) : t2.levelOf r2 ≤ t1.levelOf r1 := by
  apply Classical.byContradiction
  intro hlt
  have hlt' : t1.levelOf r1 < t2.levelOf r2 := by omega
  have hle := levelOf_le t2 h2.toWF r2
  have h11 : r1.natAbs ≠ 1 := by
    intro e; rw [levelOf_term t1 r1 e] at hlt'; omega
  obtain ⟨b, hb⟩ := node_depends t1 h1 r1 h.1 h11
  apply hb
  rw [h.2.2, h.2.2, den_indep t2 h2.toWF r2 h.2.1 _ true b hlt',
    den_indep t2 h2.toWF r2 h.2.1 _ false b hlt']

theorem SameFn.level_eq {t1 t2 : Tbl} (h1 : WFU t1) (h2 : WFU t2) (hn : t1.nvars = t2.nvars)
    {r1 r2 : Int} (h : SameFn t1 t2 r1 r2) : t1.levelOf r1 = t2.levelOf r2 := by
  have a := h.level_le h1 h2 hn
  have b := h.symm.level_le h2 h1 hn.symm
  omega

theorem SameFn.cof {t1 t2 : Tbl} (h1 : WFU t1) (h2 : WFU t2) (hn : t1.nvars = t2.nvars)
    {r1 r2 : Int} (h : SameFn t1 t2 r1 r2) (l : Nat) (hl : l = t1.levelOf r1) (hln : l < t1.nvars) :
    SameFn t1 t2 (cof t1 l r1).1 (cof t2 l r2).1 ∧ SameFn t1 t2 (cof t1 l r1).2 (cof t2 l r2).2 := by
  have hl2 : l = t2.levelOf r2 := by rw [hl]; exact h.level_eq h1 h2 hn
  obtain ⟨a0, a1, la0, la1, da⟩ := cof_spec t1 h1.toWF l r1 h.1 (by omega) hln
  obtain ⟨b0, b1, lb0, lb1, db⟩ := cof_spec t2 h2.toWF l r2 h.2.1 (by omega) (by omega)
  refine ⟨⟨a0, b0, fun b => ?_⟩, ⟨a1, b1, fun b => ?_⟩⟩
  · have e1 := da (upd b l false)
    have e2 := db (upd b l false)
    simp only [upd_same, Bool.false_eq_true, if_false] at e1 e2
    rw [den_indep t1 h1.toWF _ a0 l false b la0] at e1
    rw [den_indep t2 h2.toWF _ b0 l false b lb0] at e2
    rw [← e1, ← e2, h.2.2]
  · have e1 := da (upd b l true)
    have e2 := db (upd b l true)
    simp only [upd_same, if_true] at e1 e2
    rw [den_indep t1 h1.toWF _ a1 l true b la1] at e1
    rw [den_indep t2 h2.toWF _ b1 l true b lb1] at e2
    rw [← e1, ← e2, h.2.2]

theorem SameFn.children {t1 t2 : Tbl} (h1 : WFU t1) (h2 : WFU t2) (hn : t1.nvars = t2.nvars)
    {k : Nat} {n : Nd} (hk : t1.node? k = some n) {r2 : Int} (h : SameFn t1 t2 (k : Int) r2) :
    (∃ r, SameFn t1 t2 (n.lo.natAbs : Int) r) ∧ ∃ r, SameFn t1 t2 (n.hi.natAbs : Int) r := by
  have hk2 := h1.toWF.ge_two _ _ hk
  have h11 : ((k : Nat) : Int).natAbs ≠ 1 := by simp; omega
  have hk' : t1.node? ((k : Nat) : Int).natAbs = some n := by simpa using hk
  have hl := levelOf_node t1 (k : Int) n h11 hk'
  have hc := h.cof h1 h2 hn n.lvl hl.symm (h1.toWF.lvl_lt _ _ hk)
  rw [cof_at t1 n.lvl (k : Int) n h11 hk' rfl, if_neg (by omega)] at hc
  have habs : ∀ {c r : Int}, SameFn t1 t2 c r → ∃ r', SameFn t1 t2 (c.natAbs : Int) r' := by
    intro c r hcr
    by_cases hs : 0 ≤ c
    · exact ⟨_, by rw [show ((c.natAbs : Nat) : Int) = c by omega]; exact hcr⟩
    · exact ⟨_, by rw [show ((c.natAbs : Nat) : Int) = -c by omega]; exact hcr.neg h1.toWF h2.toWF⟩
  exact ⟨habs hc.1, habs hc.2⟩

theorem reach_same {t1 t2 : Tbl} (h1 : WFU t1) (h2 : WFU t2) (hn : t1.nvars = t2.nvars)
    (S : Nat → Prop) (hS : ∀ s, S s → SameFn t1 t2 (s : Int) (s : Int)) :
    ∀ u, GcReach t1 S u → ∃ r2, SameFn t1 t2 (u : Int) r2 := by
  intro u hu
  induction hu with
  | root hs => exact ⟨_, hS _ hs⟩
  | @lo k n _ hk ih =>
    obtain ⟨r2, hr2⟩ := ih
    exact (hr2.children h1 h2 hn hk).1
  | @hi k n _ hk ih =>
    obtain ⟨r2, hr2⟩ := ih
    exact (hr2.children h1 h2 hn hk).2

theorem SameFn.node {t1 t2 : Tbl} (h1 : WFU t1) (h2 : WFU t2) (hn : t1.nvars = t2.nvars)
    {k : Nat} {n : Nd} (hk : t1.node? k = some n) {r2 : Int} (h : SameFn t1 t2 (k : Int) r2) :
    ∃ k2 : Nat, r2 = (k2 : Int) ∧ (t2.node? k2).isSome := by
  have hk2 := h1.toWF.ge_two _ _ hk
  have h11 : ((k : Nat) : Int).natAbs ≠ 1 := by simp; omega
  have hk' : t1.node? ((k : Nat) : Int).natAbs = some n := by simpa using hk
  have hl := levelOf_node t1 (k : Int) n h11 hk'
  have hlt := h1.toWF.lvl_lt _ _ hk
  have hle := h.level_eq h1 h2 hn
  -- sign: both are true under the all-true assignment
  have s1 := den_alltrue t1 h1.toWF (k : Int) h.1
  have s2 := den_alltrue t2 h2.toWF r2 h.2.1
  rw [h.2.2] at s1
  have hpos : 0 < r2 := by
    have : decide (0 < r2) = decide (0 < (k : Int)) := s2.symm.trans s1
    have hk0 : 0 < (k : Int) := by omega
    rw [decide_eq_true hk0] at this
    exact of_decide_eq_true this
  have h21 : r2.natAbs ≠ 1 := by
    intro e
    rw [levelOf_term t2 r2 e] at hle
    omega
  refine ⟨r2.natAbs, by omega, ?_⟩
  rcases h.2.1 with hm | hm
  · exact absurd hm h21
  · exact hm

theorem length_le_of_inj_rel (Rl : Nat → Nat → Prop) : ∀ (l1 l2 : List Nat), l1.Nodup →
    (∀ a ∈ l1, ∃ b ∈ l2, Rl a b) → (∀ a a' b, Rl a b → Rl a' b → a = a') →
    l1.length ≤ l2.length := by
  intro l1
  induction l1 with
  | nil => intros; simp
  | cons a rest ih =>
    intro l2 hnd hex hinj
    rw [List.nodup_cons] at hnd
    obtain ⟨b, hb, hab⟩ := hex a List.mem_cons_self
    have hrest : ∀ a' ∈ rest, ∃ b' ∈ l2.erase b, Rl a' b' := by
      intro a' ha'
      obtain ⟨b', hb', hab'⟩ := hex a' (List.mem_cons_of_mem _ ha')
      refine ⟨b', ?_, hab'⟩
      have hne : b' ≠ b := by
        intro e; subst e
        have := hinj a a' b' hab hab'
        subst this
        exact hnd.1 ha'
      exact (List.mem_erase_of_ne hne).2 hb'
    have := ih (l2.erase b) hnd.2 hrest hinj
    have hlen : (l2.erase b).length = l2.length - 1 := by rw [List.length_erase]; simp [hb]
    have hpos : 1 ≤ l2.length := List.length_pos_of_mem hb
    simp only [List.length_cons]
    omega

theorem mem_succ_keys (t : Tbl) (k : Nat) : k ∈ t.succ.keys ↔ (t.node? k).isSome := by
  rw [TreeMap.mem_keys, TreeMap.mem_iff_isSome_getElem?]
  rfl

/-- `len(bdd)` is determined by the order and the held functions: two managers with the invariant,
exact counts for the same ledger, no unreferenced node and the same number of variables, in which
every held reference denotes the same function of the LEVELS, have the same number of nodes -/
theorem len_determined (m1 m2 : Mgr) (ext : Nat → Nat) (hI1 : Inv m1) (hI2 : Inv m2)
    (hR1 : RefExact m1 ext) (hR2 : RefExact m2 ext)
    (hz1 : ∀ k : Nat, m1.ref[k]? ≠ some 0) (hz2 : ∀ k : Nat, m2.ref[k]? ≠ some 0)
    (hn : m1.tbl.nvars = m2.tbl.nvars)
    (hden : ∀ u : Nat, 0 < ext u → ∀ b : Asg, den m1.tbl (u : Int) b = den m2.tbl (u : Int) b) :
    m1.len = m2.len := by
  have key : ∀ (ma mb : Mgr), Inv ma → Inv mb → RefExact ma ext → RefExact mb ext →
      (∀ k : Nat, ma.ref[k]? ≠ some 0) → ma.tbl.nvars = mb.tbl.nvars →
      (∀ u : Nat, 0 < ext u → ∀ b : Asg, den ma.tbl (u : Int) b = den mb.tbl (u : Int) b) →
      ma.tbl.succ.size ≤ mb.tbl.succ.size := by
    intro ma mb hIa hIb hRa hRb hza hnab hd
    have hS : ∀ s, GcHeld ext s → SameFn ma.tbl mb.tbl (s : Int) (s : Int) := by
      intro s hs
      refine ⟨?_, ?_, hd s hs⟩
      · simpa [Tbl.Mem] using hRa.mem_of_ext_pos hs
      · simpa [Tbl.Mem] using hRb.mem_of_ext_pos hs
    have hreach : ∀ k n, ma.tbl.node? k = some n → GcReach ma.tbl (GcHeld ext) k :=
      fun k n hk => survivor_reachable (GcSub.refl ma) hIa.toInvS hRa hza hk
    rw [← TreeMap.length_keys, ← TreeMap.length_keys]
    refine length_le_of_inj_rel (fun a b => SameFn ma.tbl mb.tbl (a : Int) (b : Int))
      _ _ TreeMap.nodup_keys ?_ ?_
    · intro k hk
      obtain ⟨n, hkn⟩ := Option.isSome_iff_exists.mp ((mem_succ_keys _ _).mp hk)
      obtain ⟨r2, hr2⟩ := reach_same hIa.wf hIb.wf hnab (GcHeld ext) hS k (hreach k n hkn)
      obtain ⟨k2, rfl, hk2⟩ := hr2.node hIa.wf hIb.wf hnab hkn
      exact ⟨k2, (mem_succ_keys _ _).mpr hk2, hr2⟩
    · intro a a' b hab hab'
      have : (a : Int) = (a' : Int) := by
        apply (canonical ma.tbl hIa.wf _ _ hab.1 hab'.1).mp
        intro x
        rw [hab.2.2, hab'.2.2]
      omega
  have a := key m1 m2 hI1 hI2 hR1 hR2 hz1 hn hden
  have b := key m2 m1 hI2 hI1 hR2 hR1 hz2 hn.symm (fun u hu x => (hden u hu x).symm)
  show m1.tbl.succ.size + 1 = m2.tbl.succ.size + 1
  omega

end DD
