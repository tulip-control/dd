/-
  DDProofs.SizesDict — the `sizes` dict of `_shift` as an association list: `assocSet` is
  `sizes[k] = v`, `argMin` is `min(sizes, key=sizes.get)`.
-/
import DDProofs.SatList
open Std

namespace DD

def NodupKeys (l : List (Nat × Nat)) : Prop := (l.map (·.1)).Nodup

theorem assocSet_cons (k0 v0 : Nat) (rest : List (Nat × Nat)) (k v : Nat) :
    assocSet ((k0, v0) :: rest) k v =
      if k0 = k then (k, v) :: rest.map (fun p => if p.1 = k then (k, v) else p)
      else (k0, v0) :: assocSet rest k v := by
  unfold assocSet
  by_cases h0 : k0 = k
  · simp [h0]
  · simp only [List.any_cons, h0, decide_false, Bool.false_or, List.map_cons, if_false]
    split
    · rfl
    · rfl

theorem lookup_map_other (rest : List (Nat × Nat)) (k v k' : Nat) (h : k' ≠ k) :
    (rest.map (fun p => if p.1 = k then (k, v) else p)).lookup k' = rest.lookup k' := by
  induction rest with
  | nil => rfl
  | cons a r ih =>
    obtain ⟨a1, a2⟩ := a
    rw [List.map_cons, lookup_cons_eq k' a1, ← ih]
    by_cases ha : a1 = k
    · rw [if_pos ha, lookup_cons_eq, if_neg h, if_neg (ha ▸ h)]
    · rw [if_neg ha, lookup_cons_eq]

theorem lookup_assocSet (l : List (Nat × Nat)) (k v k' : Nat) :
    (assocSet l k v).lookup k' = if k' = k then some v else l.lookup k' := by
  induction l with
  | nil => exact lookup_cons_eq k' k v []
  | cons a rest ih =>
    obtain ⟨k0, v0⟩ := a
    rw [assocSet_cons]
    by_cases h0 : k0 = k
    · subst h0
      rw [if_pos rfl, lookup_cons_eq, lookup_cons_eq]
      split
      · rfl
      · next h => exact lookup_map_other rest k0 v k' h
    · rw [if_neg h0, lookup_cons_eq, lookup_cons_eq, ih]
      split
      · next h => rw [if_neg (h ▸ h0)]
      · rfl
theorem keys_map_replace (rest : List (Nat × Nat)) (k v : Nat) :
    (rest.map (fun p => if p.1 = k then (k, v) else p)).map (·.1) = rest.map (·.1) := by
  induction rest with
  | nil => rfl
  | cons b r ih =>
    simp only [List.map_cons, ih]
    congr 1
    split
    · next h => exact h.symm
    · rfl

theorem keys_assocSet (l : List (Nat × Nat)) (k v : Nat) :
    (assocSet l k v).map (·.1) = if k ∈ l.map (·.1) then l.map (·.1) else l.map (·.1) ++ [k] := by
  induction l with
  | nil => simp [assocSet]
  | cons a rest ih =>
    obtain ⟨k0, v0⟩ := a
    rw [assocSet_cons]
    by_cases h0 : k0 = k
    · subst h0
      simp only [if_true, List.map_cons, List.mem_cons, true_or]
      rw [keys_map_replace]
    · simp only [h0, if_false, List.map_cons, ih, List.mem_cons]
      have : ¬ k = k0 := fun e => h0 e.symm
      simp only [this, false_or]
      split <;> simp

theorem NodupKeys.assocSet {l : List (Nat × Nat)} (h : NodupKeys l) (k v : Nat) :
    NodupKeys (assocSet l k v) := by
  unfold NodupKeys
  rw [keys_assocSet]
  simpa only [List.contains_iff_mem] using nodup_snocNew (u := k) h

theorem foldl_min (rest : List (Nat × Nat)) : ∀ (b : Nat × Nat),
    let r := rest.foldl (fun (b : Nat × Nat) p => if p.2 < b.2 then p else b) b
    (r = b ∨ r ∈ rest) ∧ r.2 ≤ b.2 ∧ ∀ p ∈ rest, r.2 ≤ p.2 := by
  induction rest with
  | nil => intro b; simp
  | cons a r ih =>
    intro b
    simp only [List.foldl_cons]
    by_cases hab : a.2 < b.2
    · simp only [hab, if_true]
      obtain ⟨h1, h2, h3⟩ := ih a
      refine ⟨Or.inr ?_, by omega, ?_⟩
      · rcases h1 with h1 | h1
        · rw [h1]; exact List.mem_cons_self
        · exact List.mem_cons_of_mem _ h1
      · intro p hp
        rcases List.mem_cons.mp hp with rfl | hp
        · exact h2
        · exact h3 p hp
    · simp only [hab, if_false]
      obtain ⟨h1, h2, h3⟩ := ih b
      refine ⟨?_, h2, ?_⟩
      · rcases h1 with h1 | h1
        · exact Or.inl h1
        · exact Or.inr (List.mem_cons_of_mem _ h1)
      · intro p hp
        rcases List.mem_cons.mp hp with rfl | hp
        · omega
        · exact h3 p hp

theorem argMin_spec (l : List (Nat × Nat)) (hn : NodupKeys l) (k : Nat) (h : argMin l = some k) :
    ∃ v, l.lookup k = some v ∧ ∀ k' v', l.lookup k' = some v' → v ≤ v' := by
  cases l with
  | nil => cases h
  | cons a rest =>
    obtain ⟨k0, v0⟩ := a
    simp only [argMin, Option.some.injEq] at h
    obtain ⟨h1, h2, h3⟩ := foldl_min rest (k0, v0)
    generalize hr : rest.foldl (fun (b : Nat × Nat) p => if p.2 < b.2 then p else b) (k0, v0) = r at h h1 h2 h3
    obtain ⟨rk, rv⟩ := r
    simp only at h h2 h3
    subst h
    have hmem : (rk, rv) ∈ (k0, v0) :: rest := by
      rcases h1 with h1 | h1
      · rw [h1]; exact List.mem_cons_self
      · exact List.mem_cons_of_mem _ h1
    refine ⟨rv, lookup_of_mem_nodup _ hn _ _ hmem, ?_⟩
    intro k' v' hl
    rcases List.mem_cons.mp (lookup_some_mem _ _ _ hl) with e | e
    · cases e; exact h2
    · exact h3 _ e

theorem assocSet_ne_nil (l : List (Nat × Nat)) (k v : Nat) : assocSet l k v ≠ [] := by
  unfold assocSet
  split
  · next h =>
    intro e
    have := List.map_eq_nil_iff.mp e
    subst this
    simp at h
  · simp


theorem argMin_some (l : List (Nat × Nat)) (h : l ≠ []) : ∃ k, argMin l = some k := by
  cases l with
  | nil => exact absurd rfl h
  | cons a rest => obtain ⟨k, v⟩ := a; exact ⟨_, rfl⟩

end DD
