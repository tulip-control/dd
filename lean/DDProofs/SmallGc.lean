/-
  DDProofs.SmallGc — frame facts of the rooted collection `collect_garbage(roots)` (C06):
  what happens to the counts of the surviving nodes.
-/
import DDProofs.GcSpec
open Std

namespace DD

theorem indeg_sub {t t' : Tbl} (h : ∀ k x, t'.node? k = some x → t.node? k = some x) (u : Nat) :
    indeg t' u ≤ indeg t u ∧
    ((∀ k x, t.node? k = some x → (x.lo.natAbs = u ∨ x.hi.natAbs = u) → t'.node? k = some x) →
      indeg t' u = indeg t u) := by
  have hslot : ∀ k, slotCount t' u k ≤ slotCount t u k ∧
      ((∀ k x, t.node? k = some x → (x.lo.natAbs = u ∨ x.hi.natAbs = u) → t'.node? k = some x) →
        slotCount t' u k = slotCount t u k) := by
    intro k
    unfold slotCount
    cases h' : t'.node? k with
    | some x => rw [h k x h']; exact ⟨Nat.le_refl _, fun _ => rfl⟩
    | none =>
      refine ⟨Nat.zero_le _, fun hp => ?_⟩
      cases h0 : t.node? k with
      | none => rfl
      | some x =>
        refine (edgeCount_eq_zero.mpr fun hc => ?_).symm
        rw [hp k x h0 hc] at h'; cases h'
  exact ⟨indeg_le_of_slots u fun k => (hslot k).1, fun hp => indeg_congr_slots u fun k => (hslot k).2 hp⟩

theorem gcStart_zero (roots : Option (List Int)) (m : Mgr) (k : Nat) (h : gcStart roots m k) :
    m.ref[k]? = some 0 := h.1

/-- a surviving node's count after the collection: never larger than before; unchanged when
none of its stored parents was removed -/
theorem GcPost.ref_le {m m' : Mgr} {ext : Nat → Nat} {W : Nat → Prop} (h : GcPost m ext W m')
    (hr : RefExact m ext) (u c : Nat) (hc : m'.ref[u]? = some c) :
    ∃ c0, m.ref[u]? = some c0 ∧ c ≤ c0 ∧
      ((∀ k x, m.tbl.node? k = some x → (x.lo.natAbs = u ∨ x.hi.natAbs = u) →
          m'.tbl.node? k = some x) → c = c0) := by
  have hmem : u = 1 ∨ (m.tbl.node? u).isSome :=
    ((h.refExact.dom u).mp (by rw [hc]; rfl)).imp id fun h1 => by
      obtain ⟨x, hx⟩ := Option.isSome_iff_exists.mp h1
      rw [h.sub.sub u x hx]; rfl
  have e0 := hr.ref_eq u
  rw [if_pos hmem] at e0
  have e1 := h.refExact.cnt u c hc
  have hle := indeg_sub h.sub.sub u
  exact ⟨_, e0, by omega, fun hp => by have := hle.2 hp; omega⟩

end DD
