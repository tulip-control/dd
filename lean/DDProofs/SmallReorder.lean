/-
  DDProofs.SmallReorder — `reorder(bdd, order)` / `_sort_to_order` for an ARBITRARY table
  `order` of the right length (C17, "bad order").  The code checks only `len(order)`; the names
  are looked up (`order[x]`, `order[y]`) when the bubble sort compares two adjacent levels, so a
  missing name raises `KeyError` in the middle of the first pass, after some swaps.  Levels are
  only compared (`p > q`): duplicates, gaps and out-of-range numbers are not rejected at all.
  Proved against the abstract contract of one adjacent swap (`SwapOK`, DDProofs.OrderAbs).
-/
import DDProofs.OrderAbs
open Std

namespace DD

/-- success in a state satisfying `Q`, or an exception allowed by `E` (the model's schedule
mismatch), or `KeyError` in a state satisfying `Q` -/
def OkOrKey {α} (E : Err → Prop) (Q : Mgr → Prop) : Except Err α × Mgr → Prop
  | (.ok _, m') => Q m'
  | (.error e, m') => E e ∨ (e = Err.key ∧ Q m')

theorem OkOrKey.mono {α} {E : Err → Prop} {Q Q' : Mgr → Prop} (h : ∀ m, Q m → Q' m)
    {r : Except Err α × Mgr} (hr : OkOrKey E Q r) : OkOrKey E Q' r :=
  Ends.imp hr (fun _ => h) fun _ m he => he.imp_right fun ⟨he, hq⟩ => ⟨he, h m hq⟩

theorem OkOrKey.of_okOr {α} {E : Err → Prop} {Q : Mgr → Prop} {r : Except Err α × Mgr}
    (hr : OkOr E (fun _ m' => Q m') r) : OkOrKey E Q r :=
  Ends.imp hr (fun _ _ q => q) fun _ _ he => Or.inl he

/-- sequencing: the first part ends, normally or by `KeyError`, in a state satisfying `Q`;
`Q` is enough for `Q'` where the run stops there, and where it goes on the rest ends in `Q'` -/
theorem OkOrKey.bind {α β} {E : Err → Prop} {x : M α} {f : α → M β} {m : Mgr} {Q Q' : Mgr → Prop}
    (hx : OkOrKey E Q (x m)) (hQ : ∀ m1, Q m1 → Q' m1)
    (hf : ∀ a m1, Q m1 → OkOrKey E Q' (f a m1)) : OkOrKey E Q' ((x >>= f) m) :=
  Ends.bind (Ends.imp hx (fun _ _ q => q) fun _ m1 he => he.imp_right fun ⟨he, hq⟩ => ⟨he, hQ m1 hq⟩)
    fun a m1 _ => hf a m1

theorem succ_lt_of_mem_range_pred {n i : Nat} (h : i ∈ List.range (n - 1)) : i + 1 < n := by
  have := List.mem_range.mp h
  omega

section Abs
variable {E : Err → Prop} {P : Mgr → Prop} {R : Mgr → Mgr → Prop}

/-- one comparison of the bubble sort, any table `order` -/
theorem sortStep_any (S : SwapOK E P R) (order : List (String × Int)) (m : Mgr) (i : Nat)
    (hP : P m) (hi : i + 1 < m.nvars) :
    OkOrKey E (fun m' => P m' ∧ R m m' ∧ m'.nvars = m.nvars ∧
        (∀ j, j ≠ i → j ≠ i + 1 → m'.tbl.l2v[j]? = m.tbl.l2v[j]?)) (sortStep order i m) ∧
    (∀ x, (m.tbl.l2v[i]? = some x ∨ m.tbl.l2v[i + 1]? = some x) → order.lookup x = none →
      ∃ e m', sortStep order i m = (.error e, m')) := by
  obtain ⟨x, hx⟩ := (S.vars m hP).total i (by show i < m.nvars; omega)
  obtain ⟨y, hy⟩ := (S.vars m hP).total (i + 1) hi
  unfold sortStep
  rw [M.bind_ok (checkRoots_ok m (S.roots m hP)), M.bind_ok (varAtLevel_ok m i x hx)]
  have hy' : varAtLevel ((i : Int) + 1) m = (.ok y, m) := varAtLevel_ok m (i + 1) y hy
  rw [M.bind_ok hy']
  have hQ0 : P m ∧ R m m ∧ m.nvars = m.nvars ∧
      (∀ j, j ≠ i → j ≠ i + 1 → m.tbl.l2v[j]? = m.tbl.l2v[j]?) :=
    ⟨hP, S.refl m, rfl, fun _ _ _ => rfl⟩
  cases hp : order.lookup x with
  | none =>
    simp only [M.bind_eq, M.ofOption_none]
    exact ⟨Or.inr ⟨rfl, hQ0⟩, fun _ _ _ => ⟨_, _, rfl⟩⟩
  | some p =>
    cases hq : order.lookup y with
    | none =>
      simp only [M.bind_eq, M.ofOption_some, M.ofOption_none]
      exact ⟨Or.inr ⟨rfl, hQ0⟩, fun _ _ _ => ⟨_, _, rfl⟩⟩
    | some q =>
      rw [M.bind_ok (M.ofOption_some _ p m), M.bind_ok (M.ofOption_some _ q m)]
      -- both names have a rank: the second claim holds for want of a premise
      refine ⟨?_, fun z hz hn => ?_⟩
      · by_cases hgt : p > q
        · rw [if_pos hgt]
          refine OkOrKey.bind ?_ (fun _ h => h) (fun _ _ h => h)
          rw [swap_levels_eq m i hi]
          refine OkOrKey.of_okOr (OkOr.mono ?_ (S.step m i hP hi))
          intro _ m' ⟨hP', hR, he, _⟩
          refine ⟨hP', hR, he.nvars, fun j h1 h2 => ?_⟩
          rw [he.l2v j, swp_other h1 h2]
        · rw [if_neg hgt]
          exact hQ0
      · rcases hz with hz | hz
        · rw [hx] at hz; cases hz; rw [hp] at hn; cases hn
        · rw [hy] at hz; cases hz; rw [hq] at hn; cases hn

/-- a pass over the levels `l`, any table `order`: the state is kept (`P`, `R`) whether the
pass returns or raises `KeyError` -/
theorem sortInner_any (S : SwapOK E P R) (order : List (String × Int)) (n : Nat) :
    ∀ (l : List Nat) (m : Mgr), P m → m.nvars = n → (∀ i ∈ l, i + 1 < n) →
    OkOrKey E (fun m' => P m' ∧ R m m' ∧ m'.nvars = n) (sortInner order l m) := by
  intro l
  induction l with
  | nil =>
    intro m hP hn _
    exact ⟨hP, S.refl m, hn⟩
  | cons i rest ih =>
    intro m hP hn hl
    unfold sortInner
    refine OkOrKey.bind (sortStep_any S order m i hP (hn ▸ hl i List.mem_cons_self)).1 ?_ ?_
    · intro m1 ⟨hP1, hR1, hn1, _⟩
      exact ⟨hP1, hR1, hn1.trans hn⟩
    · intro _ m1 ⟨hP1, hR1, hn1, _⟩
      refine OkOrKey.mono ?_
        (ih m1 hP1 (hn1.trans hn) fun j hj => hl j (List.mem_cons_of_mem _ hj))
      intro m2 ⟨hP2, hR2, hn2⟩
      exact ⟨hP2, S.trans _ _ _ hR1 hR2, hn2⟩

/-- a pass that compares the level of a variable without a requested rank never returns
normally: a comparison elsewhere leaves the variable where it is, and the first one at its level
looks it up -/
theorem sortInner_missing (S : SwapOK E P R) (order : List (String × Int)) (n : Nat) {v : String}
    (hnone : order.lookup v = none) (j : Nat) :
    ∀ (l : List Nat) (m : Mgr), P m → m.nvars = n → (∀ i ∈ l, i + 1 < n) →
    m.tbl.l2v[j]? = some v → (∃ k ∈ l, j = k ∨ j = k + 1) →
    ∃ e m', sortInner order l m = (.error e, m') := by
  intro l
  induction l with
  | nil => intro m _ _ _ _ ⟨k, hk, _⟩; cases hk
  | cons i rest ih =>
    intro m hP hn hl hv ⟨k, hk, hjk⟩
    unfold sortInner
    obtain ⟨h1, h1'⟩ := sortStep_any S order m i hP (hn ▸ hl i List.mem_cons_self)
    by_cases hnear : j = i ∨ j = i + 1
    · obtain ⟨e, m', he⟩ := h1' v (hnear.elim (fun e => Or.inl (e ▸ hv)) fun e => Or.inr (e ▸ hv)) hnone
      exact ⟨e, m', M.bind_err he⟩
    · have hk' : k ∈ rest := (List.mem_cons.mp hk).resolve_left fun e => hnear (e ▸ hjk)
      rw [M.bind_eq]
      generalize sortStep order i m = res at h1
      obtain ⟨r, m1⟩ := res
      cases r with
      | error e => exact ⟨e, m1, rfl⟩
      | ok u =>
        obtain ⟨hP1, _, hn1, hk1⟩ := h1
        refine ih m1 hP1 (hn1.trans hn) (fun j hj => hl j (List.mem_cons_of_mem _ hj)) ?_ ⟨k, hk', hjk⟩
        rw [hk1 j (fun e => hnear (Or.inl e)) (fun e => hnear (Or.inr e))]
        exact hv

/-- `for k in range(n)`: the state is kept through any number of passes -/
theorem sortOuter_any (S : SwapOK E P R) (order : List (String × Int)) (n : Nat) :
    ∀ (k : Nat) (m : Mgr), P m → m.nvars = n →
    OkOrKey E (fun m' => P m' ∧ R m m' ∧ m'.nvars = n) (sortOuter order n k m) := by
  intro k
  induction k with
  | zero => intro m hP hn; exact ⟨hP, S.refl m, hn⟩
  | succ k ih =>
    intro m hP hn
    unfold sortOuter
    refine OkOrKey.bind (sortInner_any S order n _ m hP hn fun i => succ_lt_of_mem_range_pred)
      (fun _ h => h) ?_
    intro _ m1 ⟨hP1, hR1, hn1⟩
    refine OkOrKey.mono ?_ (ih m1 hP1 hn1)
    intro m2 ⟨hP2, hR2, hn2⟩
    exact ⟨hP2, S.trans _ _ _ hR1 hR2, hn2⟩

/-- `_sort_to_order(bdd, order)` for ANY `order` of the right length: whether it returns or
raises `KeyError` (a variable of the manager that `order` does not list), the state satisfies
`P` and is related to the start by `R` (held references keep their functions, same variables) -/
theorem sortToOrder_any (S : SwapOK E P R) (order : List (String × Int)) (m : Mgr) (hP : P m)
    (hlen : order.length = m.nvars) :
    OkOrKey E (fun m' => P m' ∧ R m m' ∧ m'.nvars = m.nvars) (sortToOrder order m) := by
  rw [sortToOrder_eq order m hlen]
  exact sortOuter_any S order m.nvars m.nvars m hP rfl

/-- … and with at least two variables, one of which `order` does not list, it never returns
normally: the first pass looks every level up -/
theorem sortToOrder_missing (S : SwapOK E P R) (order : List (String × Int)) (m : Mgr) (hP : P m)
    (hlen : order.length = m.nvars) (h2 : 2 ≤ m.nvars)
    (hmiss : ∃ (j : Nat) (v : String), m.tbl.l2v[j]? = some v ∧ order.lookup v = none) :
    ∃ e m', sortToOrder order m = (.error e, m') := by
  obtain ⟨j, v, hv, hnone⟩ := hmiss
  have hj : j < m.nvars := ((S.vars m hP).inv v j).mpr hv |> (S.vars m hP).lt v j
  -- level `j` is the upper one of the comparison at `j - 1`, or the lower one of that at `0`
  obtain ⟨e, m', he⟩ := sortInner_missing S order m.nvars hnone j (List.range (m.nvars - 1)) m hP rfl
    (fun i => succ_lt_of_mem_range_pred) hv ⟨j - 1, List.mem_range.mpr (by omega), by omega⟩
  rw [sortToOrder_eq order m hlen]
  have : ∀ k, k ≠ 0 → ∃ e m', sortOuter order m.nvars k m = (.error e, m') := by
    intro k hk
    cases k with
    | zero => exact absurd rfl hk
    | succ k => exact ⟨e, m', M.bind_err he⟩
  exact this _ (by omega)

theorem sortToOrder_missing_name (S : SwapOK E P R) (order : List (String × Int)) (m : Mgr) (hP : P m)
    (hlen : order.length = m.nvars) (h2 : 2 ≤ m.nvars)
    (hmiss : ∃ v : String, m.tbl.vars.contains v = true ∧ order.lookup v = none) :
    ∃ e m', sortToOrder order m = (.error e, m') := by
  obtain ⟨v, hv, hnone⟩ := hmiss
  obtain ⟨j, hj⟩ := Option.isSome_iff_exists.mp (Std.TreeMap.contains_eq_isSome_getElem?.symm.trans hv)
  exact sortToOrder_missing S order m hP hlen h2 ⟨j, v, ((S.vars m hP).inv v j).mp hj, hnone⟩

/-- with at most one variable nothing is ever compared: any `order` of the right length is
accepted and nothing changes -/
theorem sortToOrder_trivial (order : List (String × Int)) (m : Mgr)
    (hlen : order.length = m.nvars) (h1 : m.nvars ≤ 1) :
    sortToOrder order m = (.ok (), m) := by
  rw [sortToOrder_eq order m hlen]
  have hin : sortInner order (List.range (m.nvars - 1)) m = (.ok (), m) := by
    have : m.nvars - 1 = 0 := by omega
    rw [this]; rfl
  have : ∀ k, sortOuter order m.nvars k m = (.ok (), m) := by
    intro k
    induction k with
    | zero => rfl
    | succ k ih => unfold sortOuter; rw [M.bind_ok hin]; exact ih
  exact this _

end Abs

end DD
