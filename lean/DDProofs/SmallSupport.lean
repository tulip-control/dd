/-
  DDProofs.SmallSupport — the structural support (`InSupp`, used by C03 / C04 / C11 / C13)
  and the semantic one (`dependsOn`, used by C10) are the same set; `support(u)` returns the
  names of exactly those levels; `is_essential(u, x)` agrees with `x ∈ support(u)`.
-/
import DDProofs.Names
import DDProofs.SubstWrappers
open Std

namespace DD

theorem inSupp_of_reach {t : Tbl} (hw : WF t) {a v : Nat} (h : Reach t a v) :
    ∀ (n : Nd), t.succ[v]? = some n → ∀ u : Int, u.natAbs = a → InSupp t u n.lvl := by
  induction h with
  | refl a => rintro n hn u rfl; exact InSupp.here (hw.node_ne_one hn) hn
  | lo hn' _ ih => rintro n hn u rfl; exact InSupp.lo (hw.node_ne_one hn') hn' (ih n hn _ rfl)
  | hi hn' _ ih => rintro n hn u rfl; exact InSupp.hi (hw.node_ne_one hn') hn' (ih n hn _ rfl)

theorem reach_of_inSupp {t : Tbl} {u : Int} {i : Nat} (h : InSupp t u i) :
    ∃ v n, Reach t u.natAbs v ∧ t.succ[v]? = some n ∧ n.lvl = i := by
  induction h with
  | @here u n _ hn => exact ⟨u.natAbs, n, Reach.refl _, hn, rfl⟩
  | lo _ hn _ ih =>
    obtain ⟨v, n', hr, h1, h2⟩ := ih
    exact ⟨v, n', Reach.lo hn hr, h1, h2⟩
  | hi _ hn _ ih =>
    obtain ⟨v, n', hr, h1, h2⟩ := ih
    exact ⟨v, n', Reach.hi hn hr, h1, h2⟩

/-- the level `i` labels a node reachable from `u` iff the function of `u` depends on `i` -/
theorem inSupp_iff_dependsOn {t : Tbl} (hw : WFU t) (u : Int) (hm : t.Mem u) (i : Nat) :
    InSupp t u i ↔ dependsOn t u i := by
  rw [dependsOn_iff_reach hw i u hm]
  constructor
  · exact reach_of_inSupp
  · rintro ⟨v, n, hr, hn, rfl⟩
    exact inSupp_of_reach hw.toWF hr n hn u rfl

/-- `support(u)` on a state with a good order (`OrderOK`): succeeds with a list of DECLARED names
whose levels are exactly the structural support of `u` -/
theorem support_inSupp {t : Tbl} (hw : WFU t) (hO : OrderOK t) (u : Int) (hm : t.Mem u) :
    ∃ names, support t u = .ok names ∧ (∀ s, s ∈ names → t.vars.contains s = true) ∧
      (∀ j, j ∈ names.map (lvlOf t) ↔ InSupp t u j) ∧
      (∀ s, s ∈ names ↔ ∃ j, t.vars[s]? = some j ∧ dependsOn t u j) := by
  obtain ⟨ls, _, _, hdep, hs⟩ := support_spec hw hO.toVarsOK u hm
  have hvar : ∀ i, i ∈ ls → t.vars[t.nameOf i]? = some i := fun i hi =>
    hO.vars_nameOf (dependsOn_lt_nvars hw hm ((hdep i).mp hi))
  refine ⟨_, hs, ?_, ?_, ?_⟩
  · intro s hs'
    obtain ⟨i, hi, rfl⟩ := List.mem_map.mp hs'
    exact (vars_contains_iff _ _).mpr ⟨i, hvar i hi⟩
  · -- the levels of the names are the support levels again
    intro j
    have hback : (ls.map t.nameOf).map (lvlOf t) = ls := by
      rw [List.map_map]
      exact (List.map_congr_left fun i hi => lvlOf_eq (hvar i hi)).trans (List.map_id _)
    rw [hback, hdep j]
    exact (inSupp_iff_dependsOn hw u hm j).symm
  · intro s
    constructor
    · intro hs'
      obtain ⟨i, hi, rfl⟩ := List.mem_map.mp hs'
      exact ⟨i, hvar i hi, (hdep i).mp hi⟩
    · rintro ⟨j, hj, hd⟩
      refine List.mem_map.mpr ⟨j, (hdep j).mpr hd, ?_⟩
      have := (hO.inv s j).mp hj
      simp [Tbl.nameOf, this]

theorem isEssential_iff_support {t : Tbl} (hw : WFU t) (hO : OrderOK t) (u : Int) (hm : t.Mem u)
    (var : String) :
    ∃ b names, isEssential t u var = .ok b ∧ support t u = .ok names ∧ (b = true ↔ var ∈ names) := by
  obtain ⟨names, hs, _, _, hmem⟩ := support_inSupp hw hO u hm
  obtain ⟨h1, h2⟩ := isEssential_spec hw u hm var
  cases hvar : t.vars[var]? with
  | none =>
    refine ⟨false, names, h1 hvar, hs, ?_⟩
    constructor
    · intro h; cases h
    · intro hin
      obtain ⟨j, hj, _⟩ := (hmem var).mp hin
      rw [hvar] at hj; cases hj
  | some i =>
    obtain ⟨b, hb, hbi⟩ := h2 i hvar (hO.lt var i hvar)
    refine ⟨b, names, hb, hs, hbi.trans ?_⟩
    rw [hmem var]
    constructor
    · intro hd; exact ⟨i, hvar, hd⟩
    · rintro ⟨j, hj, hd⟩
      rw [hvar] at hj; cases hj; exact hd

end DD
