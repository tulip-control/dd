/-
  DDProofs.SubstWrappers — the public entry points `cofactor` and `quantify`: `_map_to_level`,
  sorting of the levels, and the body walked once, by LEVEL, in any state in which no reordering
  request is served (`cofactorBody_lvl`, `quantifyBodyG_lvl`: documented result or abort).  With
  reordering not enabled the decorated call has that outcome and cannot be aborted
  (`Outcome.quiet`, `Outcome.off`): `cofactor_spec`, `quantify_spec`; the statements by NAME under
  dynamic reordering are lifts of the same lemmas (DDProofs.DynOps).
-/
import DDProofs.Quantify
import DDProofs.SatList
open Std

namespace DD

theorem mem_ordvar (x : Nat) (l : List Nat) : x ∈ sortNat (dedup l) ↔ x ∈ l := by
  rw [mem_sortNat, mem_dedup]

/-- the level of a declared variable (0 when not declared) -/
def lvlOf (t : Tbl) (s : String) : Nat := (t.vars[s]?).getD 0

theorem lvlOf_eq {t : Tbl} {s : String} {l : Nat} (h : t.vars[s]? = some l) : lvlOf t s = l := by
  simp [lvlOf, h]

theorem vars_contains_iff (t : Tbl) (s : String) :
    t.vars.contains s = true ↔ ∃ l, t.vars[s]? = some l := by
  rw [TreeMap.contains_eq_isSome_getElem?]
  exact Option.isSome_iff_exists

/-- `_map_to_level` of a set / dict whose keys are declared variable names -/
theorem mapToLevelE_names (t : Tbl) (names : List String)
    (h : ∀ s, s ∈ names → t.vars.contains s = true) :
    mapToLevelE t (names.map Key.name) = .ok (names.map (lvlOf t)) := by
  cases names with
  | nil => rfl
  | cons s rest =>
    have hs := h s List.mem_cons_self
    have hall : mapME (keyVarLevel t) ((s :: rest).map Key.name) =
        .ok (((s :: rest).map Key.name).map fun k => match k with
          | .name s => lvlOf t s
          | .lvl _ => 0) := by
      apply mapME_ok
      intro k hk
      obtain ⟨s', hs', rfl⟩ := List.mem_map.mp hk
      obtain ⟨l, hl⟩ := (vars_contains_iff t s').mp (h s' hs')
      simp [keyVarLevel, hl, lvlOf]
    simp only [mapToLevelE, List.map_cons, hs, Bool.not_true, Bool.false_eq_true, if_false]
    simp only [List.map_cons] at hall
    rw [hall]
    simp [List.map_map, Function.comp_def]

/-- `_map_to_level` of a set / dict whose keys are valid levels -/
theorem mapToLevelE_levels (t : Tbl) (ls : List Nat)
    (h : ∀ i, i ∈ ls → t.l2v.contains i = true) :
    mapToLevelE t (ls.map fun (i : Nat) => Key.lvl (i : Int)) = .ok ls := by
  cases ls with
  | nil => rfl
  | cons i rest =>
    have hall : ((i :: rest).map fun (i : Nat) => Key.lvl (i : Int)).all (keyIsLevel t) = true := by
      rw [List.all_eq_true]
      intro k hk
      obtain ⟨i', hi', rfl⟩ := List.mem_map.mp hk
      simp [keyIsLevel, h i' hi']
    simp only [List.map_cons] at hall
    simp only [mapToLevelE, List.map_cons, Bool.not_false, if_true, hall]
    simp [List.map_map, Function.comp_def]

/-- a dictionary `{name: value}` of declared names: the levels `_map_to_level` computes for its
keys, zipped with its values, are the dictionary by level -/
theorem mapToLevelE_dict {β : Type} (t : Tbl) (d : List (String × β))
    (hdecl : ∀ p ∈ d, t.vars.contains p.1 = true) :
    ∃ lv, mapToLevelE t ((d.map fun p => (Key.name p.1, p.2)).map (·.1)) = .ok lv ∧
      lv.zip ((d.map fun p => (Key.name p.1, p.2)).map (·.2)) =
        d.map fun p => (lvlOf t p.1, p.2) := by
  refine ⟨(d.map (·.1)).map (lvlOf t), ?_, ?_⟩
  · have hkeys : (d.map fun p => (Key.name p.1, p.2)).map (·.1) = (d.map (·.1)).map Key.name := by
      simp [List.map_map, Function.comp_def]
    rw [hkeys]
    apply mapToLevelE_names
    intro s hs
    obtain ⟨p, hp, rfl⟩ := List.mem_map.mp hs
    exact hdecl p hp
  · simp only [List.map_map, Function.comp_def]
    rw [List.zip_map']

theorem lookup_zip_reverse_mem (lv : List Nat) (vs : List Bool) (j : Nat)
    (h : (((lv.zip vs).reverse).lookup j).isSome = true) : j ∈ lv := by
  obtain ⟨b, hb⟩ := Option.isSome_iff_exists.mp h
  have := lookup_some_mem j b _ hb
  rw [List.mem_reverse] at this
  exact (List.of_mem_zip this).1

/-- the body of `cofactor(u, values)`: the keys are mapped to levels `lv` by `_map_to_level`; the
result denotes `u` under the assignment overridden by the dictionary — or the call is aborted by a
reordering request, having only added nodes -/
theorem cofactorBody_lvl (m0 : Mgr) (hI0 : Inv m0) (u : Int) (hu : m0.tbl.Mem u)
    (values : List (Key × Bool)) (lv : List Nat)
    (hlv : mapToLevelE m0.tbl (values.map (·.1)) = .ok lv) :
    Outcome m0 (fun r m1 => m1.tbl.Mem r ∧
        ∀ a, den m1.tbl r a = den m0.tbl u (ovr ((lv.zip (values.map (·.2))).reverse) a))
      (cofactorBody u values m0) := by
  have hmem : m0.mem u = true := (Mgr.mem_iff m0 u).mpr hu
  unfold cofactorBody
  simp only [hlv, hmem, Bool.not_true, Bool.false_eq_true, if_false]
  refine (cofactorF_out ((lv.zip (values.map (·.2))).reverse) (m0.nvars + 2) m0 u
    (sortNat (dedup lv)) {} hI0 hu (CofMemo.empty _ _)
    (fun j hj _ => (mem_ordvar j lv).mpr (lookup_zip_reverse_mem lv _ j hj)) (by omega)).elim ?_
    fun m1 hs ha => ⟨rfl, hs, ha⟩
  intro r c m1 hs ⟨_, hp⟩
  refine ⟨hs, hp.mr, fun a => ?_⟩
  rw [hp.den a]
  exact den_ext hs.ext hI0.wf.toWF u _ hu

/-- `BDD.cofactor(u, values)` with reordering not enabled -/
theorem cofactor_spec (m : Mgr) (hI : Inv m) (hoff : m.lastLen = none) (u : Int)
    (hu : m.tbl.Mem u) (values : List (Key × Bool)) (lv : List Nat)
    (hlv : mapToLevelE m.tbl (values.map (·.1)) = .ok lv) :
    ∃ r m', cofactor u values m = (.ok r, m') ∧ Inv m' ∧ Ext m.tbl m'.tbl ∧ m'.tbl.Mem r ∧
      Frame m m' ∧
      ∀ a, den m'.tbl r a = den m.tbl u (ovr ((lv.zip (values.map (·.2))).reverse) a) := by
  obtain ⟨r, m', he, hs, hr, hden⟩ := (Outcome.quiet (P := fun t r t' => t'.Mem r ∧
      ∀ a, den t' r a = den t u (ovr ((lv.zip (values.map (·.2))).reverse) a))
    (Or.inr hoff) (cofactorBody_lvl _ (hI.setCtx true) u hu values lv hlv)).off hoff
  exact ⟨r, m', he, hs.inv, hs.ext, hr, hs.frame, hden⟩

/-- the body of `quantify(u, qvars, forall)` over ANY `find_or_add` / nested `ite` with
three-outcome specifications, where no request is served: with `lv` the levels that `_map_to_level`
computes for `qvars`, the result is the quantification of `u` over `lv` | aborted | exception of
`E` -/
theorem quantifyBodyG_lvl (E : Err → Prop) (foa iteX : Int → Int → Int → M Int)
    (hfoa : FoaX E foa) (hite : IteNestedX E iteX)
    (m0 : Mgr) (hI0 : Inv m0) (hq : Quiet m0) (u : Int) (hu : m0.tbl.Mem u) (qvars : List Key)
    (fa : Bool) (lv : List Nat) (hlv : mapToLevelE m0.tbl qvars = .ok lv) :
    OutcomeX E m0 (fun r m1 => m1.tbl.Mem r ∧ m0.tbl.levelOf u ≤ m1.tbl.levelOf r ∧
        ∀ a, den m1.tbl r a = true ↔ qsem fa lv (den m0.tbl u) a)
      (quantifyBodyG foa iteX u qvars fa m0) := by
  unfold quantifyBodyG
  simp only [hlv]
  refine (quantifyFG_outX E foa iteX hfoa hite lv fa (m0.nvars + 2) m0 u (sortNat (dedup lv)) {}
    hI0 hq hu (QMemo.empty _ _ _) (fun j hj _ => (mem_ordvar j _).mpr hj) (by omega)).elim ?_
    fun _ _ => OutcomeX.fail (StepK.refl hI0)
  intro r c m1 hs ⟨_, hp⟩
  refine ⟨hs, hp.mr, ?_, fun a => ?_⟩
  · have := hp.lvl
    rw [hs.ext.levelOf hu] at this
    exact this
  · rw [hp.den a, den_ext_fun hs.ext hI0.wf.toWF u hu]

/-- `BDD.quantify(u, qvars, forall)` with reordering not enabled -/
theorem quantify_spec (m : Mgr) (hI : Inv m) (hoff : m.lastLen = none) (u : Int)
    (hu : m.tbl.Mem u) (qvars : List Key) (fa : Bool) (lv : List Nat)
    (hlv : mapToLevelE m.tbl qvars = .ok lv) :
    ∃ r m', quantify u qvars fa m = (.ok r, m') ∧ Inv m' ∧ Ext m.tbl m'.tbl ∧ m'.tbl.Mem r ∧
      Frame m m' ∧ m.tbl.levelOf u ≤ m'.tbl.levelOf r ∧
      ∀ a, den m'.tbl r a = true ↔ qsem fa lv (den m.tbl u) a := by
  have hb := (quantifyBodyG_lvl _ _ _ findOrAdd_foaX ite_nestedX _ (hI.setCtx true) (Or.inl rfl) u
    hu qvars fa lv hlv).toOutcome
  rw [quantifyBodyG_model] at hb
  obtain ⟨r, m', he, hs, hr, hl, hden⟩ := (Outcome.quiet (P := fun t r t' => t'.Mem r ∧
      t.levelOf u ≤ t'.levelOf r ∧ ∀ a, den t' r a = true ↔ qsem fa lv (den t u) a)
    (Or.inr hoff) hb).off hoff
  exact ⟨r, m', he, hs.inv, hs.ext, hr, hs.frame, hl, hden⟩

end DD
