/-
  DDProofs.SumRange — sums over `0..n-1` of a function that vanishes from some point on:
  what both in-degrees (BDD `indeg`, MDD `MTbl.indeg`) are.
-/
namespace DD

def sumRange (f : Nat → Nat) : Nat → Nat
  | 0 => 0
  | n+1 => sumRange f n + f n

theorem sumRange_congr {f g : Nat → Nat} : ∀ n, (∀ p, p < n → f p = g p) → sumRange f n = sumRange g n := by
  intro n
  induction n with
  | zero => intro _; rfl
  | succ n ih =>
    intro h
    simp only [sumRange]
    rw [ih (fun p hp => h p (by omega)), h n (by omega)]

theorem sumRange_mono {f g : Nat → Nat} : ∀ n, (∀ p, p < n → f p ≤ g p) → sumRange f n ≤ sumRange g n := by
  intro n
  induction n with
  | zero => intro _; exact Nat.le_refl _
  | succ n ih => intro h; exact Nat.add_le_add (ih fun p hp => h p (by omega)) (h n (by omega))

theorem sumRange_update {f g : Nat → Nat} (p : Nat) : ∀ n, p < n → (∀ q, q ≠ p → f q = g q) →
    sumRange f n + g p = sumRange g n + f p := by
  intro n
  induction n with
  | zero => intro h; omega
  | succ n ih =>
    intro hp h
    simp only [sumRange]
    by_cases hpn : p = n
    · subst hpn
      rw [sumRange_congr p (fun q hq => h q (by omega))]
      omega
    · have := ih (by omega) h
      rw [h n (fun hc => hpn hc.symm)]
      omega

theorem sumRange_le {f : Nat → Nat} (p : Nat) : ∀ n, p < n → f p ≤ sumRange f n := by
  intro n
  induction n with
  | zero => intro h; omega
  | succ n ih =>
    intro hp
    simp only [sumRange]
    by_cases hpn : p = n
    · subst hpn; omega
    · have := ih (by omega); omega

theorem sumRange_pos {f : Nat → Nat} : ∀ n, 0 < sumRange f n → ∃ p, p < n ∧ 0 < f p := by
  intro n
  induction n with
  | zero => intro h; simp [sumRange] at h
  | succ n ih =>
    intro h
    simp only [sumRange] at h
    by_cases hn : 0 < f n
    · exact ⟨n, by omega, hn⟩
    · obtain ⟨p, hp, hfp⟩ := ih (by omega)
      exact ⟨p, by omega, hfp⟩

theorem sumRange_stable {f : Nat → Nat} {b : Nat} (h : ∀ k, b ≤ k → f k = 0) :
    ∀ c, b ≤ c → sumRange f c = sumRange f b := by
  intro c
  induction c with
  | zero => intro hc; rw [Nat.le_zero.mp hc]
  | succ c ih =>
    intro hc
    by_cases e : b = c + 1
    · rw [e]
    · rw [sumRange, ih (by omega), h c (by omega), Nat.add_zero]

theorem length_le_sumRange {f : Nat → Nat} : ∀ (n : Nat) (l : List Nat), l.Nodup →
    (∀ k ∈ l, k < n ∧ 0 < f k) → l.length ≤ sumRange f n := by
  intro n
  induction n with
  | zero =>
    intro l _ h
    cases l with
    | nil => exact Nat.le_refl _
    | cons x xs => have := (h x (by simp)).1; omega
  | succ n ih =>
    intro l hnd h
    show l.length ≤ sumRange f n + f n
    by_cases hb : n ∈ l
    · have h1 := ih (l.erase n) (hnd.erase n) (by
        intro k hk
        have hk' := (hnd.mem_erase_iff).mp hk
        have := h k hk'.2
        exact ⟨by omega, this.2⟩)
      have h2 := List.length_erase_of_mem hb
      have h3 := (h n hb).2
      have : 0 < l.length := List.length_pos_of_mem hb
      omega
    · have h1 := ih l hnd (by
        intro k hk
        have := h k hk
        have : k ≠ n := fun e => hb (e ▸ hk)
        exact ⟨by omega, (h k hk).2⟩)
      omega

end DD
