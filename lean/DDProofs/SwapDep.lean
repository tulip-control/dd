/-
  DDProofs.SwapDep — the third loop of `swap`: every x-node that depends on the lower variable is
  rebuilt from the four cofactors with two `find_or_add`s.  None of the assertions of the Python
  code (`y <= iv`, `y == iv or y == iw`, `q >= 0`, `p != q`, duplicate triple) can fire, and the
  phase invariant `Mid` holds afterwards with the node no longer pending.
-/
import DDProofs.SwapLoops
open Std

namespace DD

theorem swapCofactor_mid {m0 m : Mgr} {x : Nat} {pend : Nat → Prop} (hM : Mid m0 m x pend)
    (hx : x + 1 < m0.nvars)
    (hY : ∀ k n, m0.tbl.node? k = some n → n.lvl = x + 1 → ¬ pend k)
    (c : Int) (hc : m0.tbl.Mem c) (hl : x + 1 ≤ m0.tbl.levelOf c) :
    ∃ a b, swapCofactor c (x + 1) m = (.ok (m0.tbl.levelOf c, a, b), m) ∧
      (if c < 0 ∧ x + 1 = m0.tbl.levelOf c then (-a, -b) else (a, b)) = cof m0.tbl (x + 1) c := by
  unfold swapCofactor
  simp only [M.bind_eq, M.get_eq]
  by_cases h1 : c.natAbs = 1
  · have hlt : x + 1 < m.nvars := by rw [hM.nvars]; exact hx
    have hlv : m0.tbl.levelOf c = m.nvars := by rw [levelOf_term _ _ h1, hM.nvars]; rfl
    refine ⟨c, c, by simp [h1, hlt, hlv, M.pure_eq], ?_⟩
    have : ¬ (c < 0 ∧ x + 1 = m0.tbl.levelOf c) := by
      rintro ⟨_, e⟩; rw [hlv] at e; omega
    rw [if_neg this, cof_of_ne _ _ _ (by rw [hlv]; omega)]
  · simp only [h1, if_false]
    rcases hc with hc | hc
    · exact absurd hc h1
    · obtain ⟨n, hn⟩ := Option.isSome_iff_exists.mp hc
      have hlv := levelOf_node m0.tbl c n h1 hn
      rw [hlv] at hl ⊢
      by_cases he : n.lvl = x + 1
      · have hcur : m.tbl.succ[c.natAbs]? = some ⟨x, n.lo, n.hi⟩ := hM.rel.up _ n hn he (hY _ n hn he)
        rw [hcur]
        have hnlt : ¬ (x + 1 < x) := by omega
        refine ⟨n.lo, n.hi, by simp only [M.bind_eq, M.ofOption_some, he, hnlt, if_false, M.pure_eq], ?_⟩
        rw [cof_at m0.tbl (x + 1) c n h1 hn he]
        by_cases hneg : c < 0
        · simp [hneg, he]
        · simp [hneg]
      · have hcur : m.tbl.succ[c.natAbs]? = some n := hM.rel.other _ n hn (by omega) he
        rw [hcur]
        have hlt : x + 1 < n.lvl := by omega
        refine ⟨c, c, by simp only [M.bind_eq, M.ofOption_some, hlt, if_true, M.pure_eq], ?_⟩
        have : ¬ (c < 0 ∧ x + 1 = n.lvl) := by rintro ⟨_, e⟩; omega
        rw [if_neg this, cof_of_ne _ _ _ (by rw [hlv]; exact he)]

theorem depCofactors_spec {m0 m : Mgr} {x : Nat} {pend : Nat → Prop} (hI : Inv m0)
    (hM : Mid m0 m x pend) (hx : x + 1 < m0.nvars)
    (hY : ∀ k n, m0.tbl.node? k = some n → n.lvl = x + 1 → ¬ pend k)
    {u : Nat} {n : Nd} (hn : m0.tbl.node? u = some n) (hlx : n.lvl = x)
    (hdep : m0.tbl.levelOf n.lo = x + 1 ∨ m0.tbl.levelOf n.hi = x + 1) :
    depCofactors n.lo n.hi (x + 1) m =
      (.ok ((cof m0.tbl (x + 1) n.lo).1, (cof m0.tbl (x + 1) n.lo).2,
            (cof m0.tbl (x + 1) n.hi).1, (cof m0.tbl (x + 1) n.hi).2), m) := by
  have hW := hI.wf.toWF
  obtain ⟨glo, ghi⟩ := child_lvl_ge hW hn hlx
  obtain ⟨a, b, hv, ev⟩ := swapCofactor_mid hM hx hY n.lo (hW.lo_mem _ _ hn) glo
  obtain ⟨c, d, hw, ew⟩ := swapCofactor_mid hM hx hY n.hi (hW.hi_mem _ _ hn) ghi
  have hpos := hW.hi_pos _ _ hn
  have ew' : (c, d) = cof m0.tbl (x + 1) n.hi := by
    have : ¬ (n.hi < 0 ∧ x + 1 = m0.tbl.levelOf n.hi) := by rintro ⟨h, _⟩; omega
    rw [if_neg this] at ew; exact ew
  unfold depCofactors
  rw [M.bind_ok hv]
  simp only
  rw [M.bind_ok hw]
  simp only
  have c1 : (decide (x + 1 ≤ m0.tbl.levelOf n.lo) && decide (x + 1 ≤ m0.tbl.levelOf n.hi)) = true := by
    simp [glo, ghi]
  have c2 : (decide (x + 1 = m0.tbl.levelOf n.lo) || decide (x + 1 = m0.tbl.levelOf n.hi)) = true := by
    rcases hdep with h | h <;> simp [h]
  simp only [c1, c2, M.bind_eq, M.assert_true, M.pure_eq]
  have e3 : (if (decide (n.lo < 0) && decide (x + 1 = m0.tbl.levelOf n.lo)) = true then (-a, -b) else (a, b)) =
      cof m0.tbl (x + 1) n.lo := by
    rw [← ev]
    by_cases hc : n.lo < 0 ∧ x + 1 = m0.tbl.levelOf n.lo
    · simp [hc.1, hc.2]
    · rw [if_neg hc]
      have : ¬ ((decide (n.lo < 0) && decide (x + 1 = m0.tbl.levelOf n.lo)) = true) := by
        simpa using hc
      rw [if_neg this]
  rw [e3, ← ew']

theorem normA_mem {t : Tbl} {a : Int} (b : Int) (ha : t.Mem a) : t.Mem (normA a b) := by
  unfold normA; split
  · exact mem_neg ha
  · exact ha

theorem normB_mem {t : Tbl} {b : Int} (hb : t.Mem b) : t.Mem (normB b) := by
  unfold normB; split
  · exact mem_neg hb
  · exact hb

theorem normA_lvl (t : Tbl) (a b : Int) : t.levelOf (normA a b) = t.levelOf a := by
  unfold normA; split
  · exact levelOf_neg t a
  · rfl

theorem normB_lvl (t : Tbl) (b : Int) : t.levelOf (normB b) = t.levelOf b := by
  unfold normB; split
  · exact levelOf_neg t b
  · rfl

theorem Mid.foa {m0 m : Mgr} {x : Nat} {pend : Nat → Prop} (hI : Inv m0) (hM : Mid m0 m x pend)
    (hx : x + 1 < m0.nvars) (a b : Int) (ha : m0.tbl.Mem a) (hb : m0.tbl.Mem b)
    (la : x + 1 < m0.tbl.levelOf a) (lb : x + 1 < m0.tbl.levelOf b) :
    ∃ r m', findOrAddCore (x + 1) a b m = (.ok r, m') ∧ Mid m0 m' x pend ∧
      Mk m'.tbl (x + 1) a b r ∧
      (∀ k n, m.tbl.node? k = some n → m'.tbl.node? k = some n) ∧
      (∀ k n, m'.tbl.node? k = some n → m.tbl.node? k = some n ∨ k = r.natAbs) := by
  have hW := hI.wf.toWF
  rcases findOrAddCore_struct m (x + 1) a b (by rw [hM.nvars]; exact hx) (hM.mem0 ha) (hM.mem0 hb)
      hM.freeGe hM.free (fun c hc => hM.refMem hc) with
    ⟨hab, hr⟩ | ⟨hab, k, hk, hr⟩ | ⟨hab, hnone, m', hr, hf⟩
  · exact ⟨a, m, hr, hM, Or.inl ⟨hab, rfl⟩, fun _ _ h => h, fun _ _ h => Or.inl h⟩
  · have hnode := ((hM.pred _ k).mp hk).1
    exact ⟨_, m, hr, hM, mk_of_found hab (hM.ge_two hW hnode) hnode, fun _ _ h => h,
      fun _ _ h => Or.inl h⟩
  · have hb0 := mem_ne_zero hW hb
    have hM' := hM.addFresh hf hnone rfl (normA_mem b ha) (normB_mem hb)
      (by rw [normA_lvl]; exact la) (by rw [normB_lvl]; exact lb)
      (by show 0 < normB b; unfold normB; split <;> omega)
      (by show normA a b ≠ normB b; unfold normA normB; split <;> omega)
    refine ⟨_, m', hr, hM', mk_of_found hab hM.freeGe (by rw [hf.node?, if_pos rfl]),
      fun _ _ => hf.mono hM.free, ?_⟩
    · intro k n hk
      rw [hf.node?] at hk
      by_cases e : m.minFree = k
      · right
        rw [← e]
        unfold sgn; split <;> omega
      · left; simpa [e] using hk

theorem Mid.children_mem {m0 m : Mgr} {x : Nat} {pend : Nat → Prop} (hI : Inv m0) (hM : Mid m0 m x pend)
    (hx : x + 1 < m0.nvars) {k : Nat} {n' : Nd} (hk : m.tbl.node? k = some n') :
    m.tbl.Mem n'.lo ∧ m.tbl.Mem n'.hi := by
  have hW := hI.wf.toWF
  by_cases hp : pend k
  · obtain ⟨n, hn0, hn, _⟩ := hM.pend_node hp
    rw [hn] at hk; cases hk
    exact ⟨hM.mem0 (hW.lo_mem _ _ hn0), hM.mem0 (hW.hi_mem _ _ hn0)⟩
  · rcases hM.rel.classify hk hp with ⟨_, _, _, mlo, mhi, _⟩ | ⟨n, hn, hc⟩
    · exact ⟨hM.mem0 mlo, hM.mem0 mhi⟩
    · have mlo := hW.lo_mem _ _ hn
      have mhi := hW.hi_mem _ _ hn
      rcases hc with ⟨_, _, e⟩ | ht
      · subst e; exact ⟨hM.mem0 mlo, hM.mem0 mhi⟩
      · cases ht with
        | up _ => exact ⟨hM.mem0 mlo, hM.mem0 mhi⟩
        | indep _ _ _ => exact ⟨hM.mem0 mlo, hM.mem0 mhi⟩
        | dep p q h1 _ hp' hq' =>
          obtain ⟨glo, ghi⟩ := child_lvl_ge hW hn h1
          obtain ⟨mv0, mv1, _⟩ := cof_spec m0.tbl hW (x + 1) n.lo mlo glo hx
          exact ⟨hp'.mem (hM.mem0 mv0), hq'.mem (hM.mem0 mv1)⟩

theorem moveDepStep_spec {m0 m : Mgr} {x : Nat} {pend : Nat → Prop} (hI : Inv m0)
    (hoff : m0.ctx = false ∨ m0.lastLen = none) (hM : Mid m0 m x pend) (hx : x + 1 < m0.nvars)
    (hY : ∀ k n, m0.tbl.node? k = some n → n.lvl = x + 1 → ¬ pend k)
    {u : Nat} {n : Nd} (hn : m0.tbl.node? u = some n) (hlx : n.lvl = x)
    (hdep : m0.tbl.levelOf n.lo = x + 1 ∨ m0.tbl.levelOf n.hi = x + 1) (hpu : pend u) :
    ∃ fr m', moveDepStep x (x + 1) u n.lo n.hi m = (.ok fr, m') ∧
      Mid m0 m' x (fun k => pend k ∧ k ≠ u) ∧
      (∀ r ∈ fr, ∃ nr, m'.tbl.node? r = some nr ∧ nr.lvl = x + 1) ∧
      (∀ ext, RefExact m ext → RefExact m' ext) ∧
      (∀ c nc, c ≠ u → m.tbl.node? c = some nc → m'.tbl.node? c = some nc) ∧
      (∀ k nk, m'.tbl.node? k = some nk → m.tbl.node? k = none →
        (∃ cu, m'.tbl.node? u = some cu ∧ (cu.lo.natAbs = k ∨ cu.hi.natAbs = k)) ∧
          (nk.lvl = x + 1 → k ∈ fr)) := by
  have hW := hI.wf.toWF
  have hx' : x + 1 < m0.tbl.nvars := hx
  have mlo := hW.lo_mem _ _ hn
  have mhi := hW.hi_mem _ _ hn
  have hpos := hW.hi_pos _ _ hn
  obtain ⟨glo, ghi⟩ := child_lvl_ge hW hn hlx
  have hlo0 : n.lo ≠ 0 := mem_ne_zero hW mlo
  have hhi0 : n.hi ≠ 0 := mem_ne_zero hW mhi
  have hcur : m.tbl.succ[u]? = some n := hM.rel.pending u n hn hpu
  obtain ⟨ma, hd1, hr1⟩ := decref_frame m n.lo (hM.refMem (hM.mem0 mlo))
  have hMa := hM.refOnly hr1
  obtain ⟨mb, hd2, hr2⟩ := decref_frame ma n.hi (hMa.refMem (hMa.mem0 mhi))
  have hMb := hMa.refOnly hr2
  have hdc := depCofactors_spec hI hMb hx hY hn hlx hdep
  obtain ⟨mv0, mv1, lv0, lv1, _⟩ := cof_spec m0.tbl hW (x + 1) n.lo mlo glo hx'
  obtain ⟨mw0, mw1, lw0, lw1, _⟩ := cof_spec m0.tbl hW (x + 1) n.hi mhi ghi hx'
  obtain ⟨p, mc, hfp, hMc, hp, hext1, hnew1⟩ := hMb.foa hI hx _ _ mv0 mw0 lv0 lw0
  obtain ⟨q, md, hfq, hMd, hq, hext2, hnew2⟩ := hMc.foa hI hx _ _ mv1 mw1 lv1 lw1
  have hp' : Mk md.tbl (x + 1) (cof m0.tbl (x + 1) n.lo).1 (cof m0.tbl (x + 1) n.hi).1 p :=
    hp.mono (fun k nk _ hk => hext2 k nk hk)
  have hqpos : 0 < q := hq.pos (cof_hi_pos m0.tbl hW (x + 1) n.hi hpos)
  have hsame : ∀ c : Int, m0.tbl.Mem c → x + 1 < m0.tbl.levelOf c → md.tbl.levelOf c = m0.tbl.levelOf c :=
    fun c hc hl => hMd.rel.lvl_above hc hl
  have hpq : p ≠ q := dep_p_ne_q hW hx' mlo mhi glo hdep hsame hp' hq
  have mp : md.tbl.Mem p := hp'.mem (hMd.mem0 mv0)
  have mq : md.tbl.Mem q := hq.mem (hMd.mem0 mv1)
  have hcurd : md.tbl.node? u = some n := hMd.rel.pending u n hn hpu
  obtain ⟨me, hset, hme, hMe, _⟩ := hMd.place hI hx hn hpu (.dep p q hlx hdep hp' hq)
    (fun h => by omega) (fun h => absurd h (by show x ≠ x + 1; omega))
  -- nodes of the lower level persist through `setNode u`
  have hkeep : ∀ k nk, nk.lvl = x + 1 → md.tbl.node? k = some nk → me.tbl.node? k = some nk := by
    intro k nk hl hk
    rw [hme]
    exact (node?_insert_ne _ (fun e => by subst e; rw [hcurd] at hk; cases hk; omega)).trans hk
  have hmemE : ∀ {r a b : Int}, Mk md.tbl (x + 1) a b r → md.tbl.Mem a → me.tbl.Mem r := by
    intro r a b hm ha
    have hm' : Mk me.tbl (x + 1) a b r := hm.mono (fun k nk hl hk => hkeep k nk hl hk)
    apply hm'.mem
    rcases ha with h | h
    · exact Or.inl h
    · right
      obtain ⟨na, hna⟩ := Option.isSome_iff_exists.mp h
      rw [hme]
      show (({ md.tbl with succ := md.tbl.succ.insert u _ } : Tbl).node? a.natAbs).isSome
      rw [node?_insert]; split <;> simp [hna]
  obtain ⟨mf, hi3, hr3⟩ := incref_frame me p (hMe.refMem (hmemE hp' (hMd.mem0 mv0)))
  have hMf := hMe.refOnly hr3
  obtain ⟨mg, hi4, hr4⟩ := incref_frame mf q
    (hMf.refMem (by rw [hr3.tbl]; exact hmemE hq (hMd.mem0 mv1)))
  have hMg := hMf.refOnly hr4
  have htb : mb.tbl = m.tbl := hr2.tbl.trans hr1.tbl
  have htg : mg.tbl = me.tbl := hr4.tbl.trans hr3.tbl
  have hnodeE : ∀ k, me.tbl.node? k = if u = k then some (⟨x, p, q⟩ : Nd) else md.tbl.node? k := by
    intro k
    rw [hme]
    exact node?_insert _ _ _ _
  refine ⟨(if md.tbl.levelOf p = x + 1 then [p.natAbs] else []) ++
    (if md.tbl.levelOf q = x + 1 then [q.natAbs] else []), mg, ?_, hMg, ?_, ?_, ?_, ?_⟩
  · unfold moveDepStep
    rw [M.bind_ok (M.get_eq m)]
    simp only [hcur]
    rw [M.bind_ok (M.ofOption_some _ _ _)]
    simp only [hlx, decide_true, hlo0, hhi0, ne_eq, not_false_eq_true, Bool.and_self]
    rw [M.bind_ok (M.assert_true _ _), M.bind_ok (M.assert_true _ _), M.bind_ok hd1, M.bind_ok hd2,
      M.bind_ok hdc]
    simp only
    have hfp' : findOrAdd ((x + 1 : Nat) : Int) (cof m0.tbl (x + 1) n.lo).1 (cof m0.tbl (x + 1) n.hi).1 mb =
        (.ok p, mc) := by rw [findOrAdd_eq_core _ (hMb.quiet hoff)]; exact hfp
    have hfq' : findOrAdd ((x + 1 : Nat) : Int) (cof m0.tbl (x + 1) n.lo).2 (cof m0.tbl (x + 1) n.hi).2 mc =
        (.ok q, md) := by rw [findOrAdd_eq_core _ (hMc.quiet hoff)]; exact hfq
    rw [M.bind_ok hfp', M.bind_ok hfq']
    have hq0 : decide (0 ≤ q) = true := by simp; omega
    have hpq' : (decide ¬ p = q) = true := by simp [hpq]
    rw [hq0, hpq', M.bind_ok (M.assert_true _ _), M.bind_ok (M.assert_true _ _),
      M.bind_ok (lowHighLevel_ok md p mp), M.bind_ok (lowHighLevel_ok md q mq)]
    rw [M.bind_ok hset, M.bind_ok hi3, M.bind_ok hi4]
    rfl
  · intro r hr
    rw [htg]
    simp only [List.mem_append] at hr
    have key : ∀ c : Int, md.tbl.Mem c → md.tbl.levelOf c = x + 1 → ∃ nr,
        me.tbl.node? c.natAbs = some nr ∧ nr.lvl = x + 1 := by
      intro c hc hl
      have hlt : x + 1 < md.tbl.nvars := by
        have : md.tbl.nvars = m0.tbl.nvars := hMd.rel.nvars
        rw [this]; exact hx
      obtain ⟨_, nr, hnr, hlr⟩ := node_of_level md.tbl c (x + 1) hc hl hlt
      exact ⟨nr, hkeep _ nr hlr hnr, hlr⟩
    rcases hr with hr | hr
    · split at hr
      · next h => rw [List.mem_singleton.mp hr]; exact key p mp h
      · cases hr
    · split at hr
      · next h => rw [List.mem_singleton.mp hr]; exact key q mq h
      · cases hr
  · -- reference counts: exact before, exact after
    intro ext hr
    have hbb := hr.decrefChildren (u := u) hcur (hM.mem0 mlo) (hM.mem0 mhi) hd1 hr1.tbl hd2
    have hfreeN : ∀ {mm : Mgr}, Mid m0 mm x pend → edgeCount n mm.minFree = 0 := by
      intro mm hMM
      unfold edgeCount
      rw [if_neg (hMM.free_ne (hMM.mem0 mlo)), if_neg (hMM.free_ne (hMM.mem0 mhi))]
    have hbc : RefBut mc ext (edgeCount n) := by
      have := hbb.foa (x + 1) (cof m0.tbl (x + 1) n.lo).1 (cof m0.tbl (x + 1) n.hi).1
        (fun k nk hk => hMb.children_mem hI hx hk) (hfreeN hMb)
      rw [hfp] at this; exact this
    have hbd : RefBut md ext (edgeCount n) := by
      have := hbc.foa (x + 1) (cof m0.tbl (x + 1) n.lo).2 (cof m0.tbl (x + 1) n.hi).2
        (fun k nk hk => hMc.children_mem hI hx hk) (hfreeN hMc)
      rw [hfq] at this; exact this
    have hbe : RefBut me ext (edgeCount (⟨x, p, q⟩ : Nd)) :=
      hbd.setNode hcurd ⟨x, p, q⟩ (by rw [hme]) (by rw [hme]) (fun k => Nat.add_comm _ _)
    exact hbe.increfChildren (hmemE hp' (hMd.mem0 mv0)) (hmemE hq (hMd.mem0 mv1)) hi3 hr3.tbl hi4
  · intro c nc hcu hc
    rw [htg, hnodeE]
    have : ¬ u = c := fun e => hcu e.symm
    simp only [this, if_false]
    exact hext2 c nc (hext1 c nc (by rw [htb]; exact hc))
  · intro k nk hk h0
    have hne : ¬ u = k := fun e => by rw [← e, show m.tbl.node? u = some n from hcur] at h0; cases h0
    rw [htg, hnodeE] at hk
    simp only [hne, if_false] at hk
    have hu' : mg.tbl.node? u = some (⟨x, p, q⟩ : Nd) := by rw [htg, hnodeE]; simp
    -- a node that is new is `|p|` or `|q|`; at the lower level it is then recorded as fresh
    have hlev : ∀ r : Int, k = r.natAbs → nk.lvl = x + 1 → md.tbl.levelOf r = x + 1 := by
      intro r e hl
      have h2 := hMd.ge_two hW hk
      rw [levelOf_node md.tbl r nk (by omega) (e ▸ hk), hl]
    rcases hnew2 k nk hk with h2 | h2
    · rcases hnew1 k nk h2 with h1 | h1
      · rw [htb, h0] at h1; cases h1
      · refine ⟨⟨_, hu', Or.inl h1.symm⟩, fun hl => List.mem_append_left _ ?_⟩
        rw [if_pos (hlev p h1 hl), h1]; exact List.mem_singleton_self _
    · refine ⟨⟨_, hu', Or.inr h2.symm⟩, fun hl => List.mem_append_right _ ?_⟩
      rw [if_pos (hlev q h2 hl), h2]; exact List.mem_singleton_self _

/-- what the third loop leaves when run from `m` to `m'` over the x-nodes `l`; `t0` is the table the
swap started from, `g` and `xf` are `garbage` and `xfresh` -/
structure Rebuilt (t0 : Tbl) (m : Mgr) (x : Nat) (l g xf : List Nat) (m' : Mgr) : Prop where
  fresh : ∀ r ∈ xf, ∃ nr, m'.tbl.node? r = some nr ∧ nr.lvl = x + 1
  garbage : ∀ r ∈ g, ∃ u n, IsDep t0 x u ∧ t0.node? u = some n ∧ (n.lo.natAbs = r ∨ n.hi.natAbs = r)
  garbageAll : ∀ u ∈ l, IsDep t0 x u → ∀ n, t0.node? u = some n → n.lo.natAbs ∈ g ∧ n.hi.natAbs ∈ g
  refExact : ∀ ext, RefExact m ext → RefExact m' ext
  created : ∀ k nk, m'.tbl.node? k = some nk → m.tbl.node? k = none →
    (∃ c nc, m'.tbl.node? c = some nc ∧ (nc.lo.natAbs = k ∨ nc.hi.natAbs = k)) ∧
      (nk.lvl = x + 1 → k ∈ xf)

theorem garbage_child {t : Tbl} (hW : WF t) {x : Nat} {g : List Nat}
    (hg : ∀ r ∈ g, ∃ u n, IsDep t x u ∧ t.node? u = some n ∧ (n.lo.natAbs = r ∨ n.hi.natAbs = r))
    {r : Nat} (hr : r ∈ g) :
    ∃ u n, IsDep t x u ∧ t.node? u = some n ∧
      ∃ c : Int, (c = n.lo ∨ c = n.hi) ∧ t.Mem c ∧ x + 1 ≤ t.levelOf c ∧ c.natAbs = r := by
  obtain ⟨u, n, hd, hn, hch⟩ := hg r hr
  obtain ⟨glo, ghi⟩ := child_lvl_ge hW hn (hd.of_node hn).1
  rcases hch with e | e
  · exact ⟨u, n, hd, hn, n.lo, Or.inl rfl, hW.lo_mem _ _ hn, glo, e⟩
  · exact ⟨u, n, hd, hn, n.hi, Or.inr rfl, hW.hi_mem _ _ hn, ghi, e⟩

/-- `l` is a suffix of `L` = `levels[x]`, `done` what the second loop returned for `L`.  The
hypotheses on `pend` are the order of the loops: of `l`, exactly the nodes that depend on the lower
variable are still pending, and the lower level has moved up. -/
theorem moveDep_spec {m0 : Mgr} (hI : Inv m0) (hoff : m0.ctx = false ∨ m0.lastLen = none) {x : Nat}
    (hx : x + 1 < m0.nvars) (done L : List Nat)
    (hdone : ∀ k, k ∈ done ↔ (k ∈ L ∧ ¬ IsDep m0.tbl x k)) :
    ∀ (l : List Nat) (m : Mgr) (pend : Nat → Prop), Mid m0 m x pend → l.Nodup → (∀ u ∈ l, u ∈ L) →
    (∀ u ∈ l, ∃ n, m0.tbl.node? u = some n ∧ n.lvl = x) →
    (∀ u ∈ l, IsDep m0.tbl x u → pend u) → (∀ u ∈ l, ¬ IsDep m0.tbl x u → ¬ pend u) →
    (∀ k n, m0.tbl.node? k = some n → n.lvl = x + 1 → ¬ pend k) →
    ∃ g xf m', moveDep x (x + 1) done (l.map (trip m0.tbl)) m = (.ok (g, xf), m') ∧
      Mid m0 m' x (fun k => pend k ∧ k ∉ l) ∧ Rebuilt m0.tbl m x l g xf m' ∧
      (∀ k nk, nk.lvl = x + 1 → m.tbl.node? k = some nk → m'.tbl.node? k = some nk) ∧
      (∀ c nc, c ∉ l → m.tbl.node? c = some nc → m'.tbl.node? c = some nc) := by
  intro l
  induction l with
  | nil =>
    intro m pend hM _ _ _ _ _ _
    exact ⟨[], [], m, rfl, hM.congr (fun k => by simp),
      ⟨fun _ h => absurd h List.not_mem_nil, fun _ h => absurd h List.not_mem_nil,
        fun _ h => absurd h List.not_mem_nil, fun _ h => h,
        fun k nk hk h0 => by rw [h0] at hk; cases hk⟩, fun _ _ _ h => h, fun _ _ _ h => h⟩
  | cons u rest ih =>
    intro m pend hM hnd hL hl hdp hip hY
    rw [List.nodup_cons] at hnd
    obtain ⟨n, hn, hlx⟩ := hl u List.mem_cons_self
    have ht : trip m0.tbl u = (u, n.lo, n.hi) := by simp [trip, hn]
    have hcont : done.contains u = true ↔ ¬ IsDep m0.tbl x u := by
      rw [List.contains_iff_mem, hdone]
      exact ⟨fun h => h.2, fun h => ⟨hL u List.mem_cons_self, h⟩⟩
    simp only [List.map_cons, ht]
    rw [moveDep]
    by_cases hdep : IsDep m0.tbl x u
    · -- rebuilt
      have hc : ¬ (done.contains u = true) := fun h => hcont.mp h hdep
      rw [if_neg hc]
      have hd' := (hdep.of_node hn).2
      have hpu := hdp u List.mem_cons_self hdep
      obtain ⟨fr, m1, hstep, hM1, hfr, hR1, hpers1, hnew1⟩ :=
        moveDepStep_spec hI hoff hM hx hY hn hlx hd' hpu
      obtain ⟨g, xf, m', hrun, hM', hR', hlower', hother'⟩ :=
        ih m1 (fun k => pend k ∧ k ≠ u) hM1 hnd.2
        (fun k hk => hL k (List.mem_cons_of_mem _ hk))
        (fun k hk => hl k (List.mem_cons_of_mem _ hk))
        (fun k hk hd => ⟨hdp k (List.mem_cons_of_mem _ hk) hd, fun e => hnd.1 (e ▸ hk)⟩)
        (fun k hk hd hp => hip k (List.mem_cons_of_mem _ hk) hd hp.1)
        (fun k nk hnk h1 hp => hY k nk hnk h1 hp.1)
      refine ⟨pushNew (pushNew g n.lo.natAbs) n.hi.natAbs, fr ++ xf, m', ?_,
        hM'.congr (fun k => by simp only [List.mem_cons, not_or, and_assoc, ne_eq]),
        ⟨?_, ?_, ?_, fun ext hr => hR'.refExact ext (hR1 ext hr), ?_⟩, ?_, ?_⟩
      · rw [M.bind_ok hstep, M.bind_ok hrun]; rfl
      · intro r hr
        rcases List.mem_append.mp hr with hr | hr
        · obtain ⟨nr, hnr, hlr⟩ := hfr r hr
          exact ⟨nr, hlower' r nr hlr hnr, hlr⟩
        · exact hR'.fresh r hr
      · intro r hr
        rcases mem_pushNew.mp hr with hr | rfl
        · rcases mem_pushNew.mp hr with hr | rfl
          · exact hR'.garbage r hr
          · exact ⟨u, n, hdep, hn, Or.inl rfl⟩
        · exact ⟨u, n, hdep, hn, Or.inr rfl⟩
      · intro k hk hdk nk hnk
        rcases List.mem_cons.mp hk with rfl | hk
        · rw [hn] at hnk; cases hnk
          exact ⟨mem_pushNew.mpr (Or.inl (mem_pushNew.mpr (Or.inr rfl))), mem_pushNew.mpr (Or.inr rfl)⟩
        · obtain ⟨a, b⟩ := hR'.garbageAll k hk hdk nk hnk
          exact ⟨mem_pushNew.mpr (Or.inl (mem_pushNew.mpr (Or.inl a))),
            mem_pushNew.mpr (Or.inl (mem_pushNew.mpr (Or.inl b)))⟩
      · intro k nk hk h0
        cases h1 : m1.tbl.node? k with
        | none =>
          obtain ⟨hp, hxf⟩ := hR'.created k nk hk h1
          exact ⟨hp, fun hl => List.mem_append_right _ (hxf hl)⟩
        | some nk1 =>
          -- created by the step for `u`: no node of `rest`, so left alone from then on
          have hkr : k ∉ rest := fun hkr => by
            obtain ⟨nr, hnr, _⟩ := hl k (List.mem_cons_of_mem _ hkr)
            obtain ⟨_, hm⟩ := hM.rel.node_some hnr
            rw [h0] at hm; cases hm
          have e := hother' k nk1 hkr h1
          rw [hk] at e; cases e
          obtain ⟨⟨cu, hcu, hch⟩, hfr1⟩ := hnew1 k nk h1 h0
          exact ⟨⟨u, cu, hother' u cu hnd.1 hcu, hch⟩, fun hl => List.mem_append_left _ (hfr1 hl)⟩
      · -- `u` is at the upper level, so a node of the lower level is another node
        intro k nk h1 hk
        refine hlower' k nk h1 (hpers1 k nk (fun e => ?_) hk)
        rw [e, hM.rel.pending u n hn hpu] at hk
        cases hk; omega
      · intro c nc hc hcm
        rw [List.mem_cons, not_or] at hc
        exact hother' c nc hc.2 (hpers1 c nc hc.1 hcm)
    · -- relabelled by the second loop: skipped
      rw [if_pos (hcont.mpr hdep)]
      have hnp := hip u List.mem_cons_self hdep
      obtain ⟨g, xf, m', hrun, hM', hR', hlower', hother'⟩ := ih m pend hM hnd.2
        (fun k hk => hL k (List.mem_cons_of_mem _ hk))
        (fun k hk => hl k (List.mem_cons_of_mem _ hk))
        (fun k hk hd => hdp k (List.mem_cons_of_mem _ hk) hd)
        (fun k hk hd => hip k (List.mem_cons_of_mem _ hk) hd) hY
      refine ⟨g, xf, m', hrun, hM'.congr ?_, { hR' with garbageAll := ?_ }, hlower',
        fun c nc hc => hother' c nc fun h => hc (List.mem_cons_of_mem _ h)⟩
      · intro k
        simp only [List.mem_cons, not_or]
        constructor
        · rintro ⟨a, b⟩
          exact ⟨a, fun e => hnp (e ▸ a), b⟩
        · rintro ⟨a, _, b⟩
          exact ⟨a, b⟩
      · intro k hk hdk nk hnk
        rcases List.mem_cons.mp hk with rfl | hk
        · exact absurd hdk hdep
        · exact hR'.garbageAll k hk hdk nk hnk

/-- **The node surgery of `swap` succeeds and ends with nothing pending.**  For every iteration
order of the two levels: no `KeyError`, no `AssertionError`; the resulting table is related to
the old one by `SwapRel` with no pending node, the unique table is in sync with ALL nodes again. -/
theorem swapNodes_spec (m : Mgr) (hI : Inv m) (hoff : m.ctx = false ∨ m.lastLen = none) (x : Nat)
    (hx : x + 1 < m.nvars) (ox oy : List Nat) (hox : LevelOrder m.tbl x ox)
    (hoy : LevelOrder m.tbl (x + 1) oy) :
    ∃ g xf m', swapNodes x (x + 1) ox oy m =
        (.ok (ox.map (trip m.tbl), oy.map (trip m.tbl), g, xf), m') ∧
      Mid m m' x (fun _ => False) ∧ Rebuilt m.tbl m x ox g xf m' := by
  obtain ⟨m1, m2, hp1, hp2, ht2, hr2, hM2⟩ := popLevels_spec m hI x ox oy hox hoy
  have hlvl : ∀ u, u ∈ ox → u ∈ oy → False :=
    fun u => hox.disjoint hoy (Nat.ne_of_lt (Nat.lt_succ_self x))
  obtain ⟨m3, hup, hM3, hF3, hR3⟩ := moveUp_spec m hI x hx oy m2 _ hM2 hoy.nodup
    (fun u hu => by
      obtain ⟨n, hn, hl⟩ := (hoy.mem u).mp hu
      exact ⟨⟨n, hn, Or.inr hl⟩, n, hn, hl⟩)
    (fun k n hn hl => ⟨n, hn, Or.inl hl⟩)
    (fun k hk => by rw [ht2]; exact hk)
  obtain ⟨done, m4, hind, hdone, hM4, hF4, hR4⟩ := moveIndep_spec m hI x hx ox m3 _ hM3 hox.nodup
    (fun u hu => by
      obtain ⟨n, hn, hl⟩ := (hox.mem u).mp hu
      exact ⟨⟨⟨n, hn, Or.inl hl⟩, fun h => hlvl u hu h⟩, n, hn, hl⟩)
    (fun k n hn hl hp => hp.2 ((hoy.mem k).mpr ⟨n, hn, hl⟩)) hF3
  obtain ⟨g, xf, m5, hdp, hM5, hR5, -, -⟩ := moveDep_spec hI hoff hx done ox hdone ox m4 _ hM4
    hox.nodup (fun _ h => h) (fun u hu => (hox.mem u).mp hu)
    (fun u hu hd => by
      obtain ⟨n, hn, hl⟩ := (hox.mem u).mp hu
      exact ⟨⟨⟨n, hn, Or.inl hl⟩, fun h => hlvl u hu h⟩, fun h => ((hdone u).mp h).2 hd⟩)
    (fun u hu hd hp => hp.2 ((hdone u).mpr ⟨hu, hd⟩))
    (fun k n hn hl hp => hp.1.2 ((hoy.mem k).mpr ⟨n, hn, hl⟩))
  have hrun : swapNodes x (x + 1) ox oy m =
      (.ok (ox.map (trip m.tbl), oy.map (trip m.tbl), g, xf), m5) := by
    unfold swapNodes
    rw [M.bind_ok hp1, M.bind_ok hp2, M.bind_ok hup, M.bind_ok hind, M.bind_ok hdp]
    rfl
  refine ⟨g, xf, m5, hrun, hM5.congr fun k => ⟨?_, False.elim⟩,
    { hR5 with
      refExact := fun ext hr => hR5.refExact ext (hR4 ext (hR3 ext (hr.congr ht2 hr2)))
      created := fun k nk hk h0 => hR5.created k nk hk (hF4 k h0) }⟩
  rintro ⟨⟨⟨⟨n, hn, hl⟩, h2⟩, _⟩, h4⟩
  rcases hl with hl | hl
  · exact h4 ((hox.mem k).mpr ⟨n, hn, hl⟩)
  · exact h2 ((hoy.mem k).mpr ⟨n, hn, hl⟩)

end DD
