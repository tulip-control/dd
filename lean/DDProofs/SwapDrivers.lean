/-
  DDProofs.SwapDrivers — the reordering invariant `ReorderInv` and what a reordering keeps
  (`ReorderRel`; `RelS`: with the schedule consumed from the front).  `ReorderInv.swapStep` is
  `swapBody_run` read with them: one level swap, every outcome.  The instances of the abstract
  contract `SwapOK` of DDProofs.OrderAbs (any schedule / no schedule, with or without "no
  unreferenced node") are its readings (`swapOK_of`), and so is what DDProofs.DynSchedKeep says of the
  state after the schedule report.  Then the public entry point `swap(x, y)` (names or levels,
  either order, after the full collection).
-/
import DDProofs.SwapFull
open Std

namespace DD

/-- the state predicate kept by every reordering operation: the invariant, the name maps, exact
counts w.r.t. the ledger `ext` of externally held references, reordering requests not armed
(explicit reordering; inside `_try_to_reorder` the request is disabled by `_last_len = None`),
and every element of `bdd.roots` held.  `off` is `¬ Armed m` (DDProofs.OutcomeX) written out. -/
structure ReorderInv (ext : Nat → Nat) (m : Mgr) : Prop where
  inv : Inv m
  order : OrderOK m.tbl
  refExact : RefExact m ext
  off : m.ctx = false ∨ m.lastLen = none
  rootsHeld : ∀ r ∈ m.roots, 0 < ext r.natAbs

/-- every externally held reference denotes the same function of the variable names -/
def HeldSame (ext : Nat → Nat) (m m' : Mgr) : Prop :=
  ∀ u : Nat, 0 < ext u → ∀ a, denN m'.tbl (u : Int) a = denN m.tbl (u : Int) a

/-- what every reordering operation keeps between the state before and after: held references
denote the same functions, the same names are declared, and the fields other than the node
table, the counters, the order and the consumed schedule are untouched -/
structure ReorderRel (ext : Nat → Nat) (m m' : Mgr) : Prop where
  held : HeldSame ext m m'
  names : ∀ v : String, m'.tbl.vars.contains v = m.tbl.vars.contains v
  nvars : m'.nvars = m.nvars
  roots : m'.roots = m.roots
  ctx : m'.ctx = m.ctx
  lastLen : m'.lastLen = m.lastLen
  sched : m.sched = [] → m'.sched = []

theorem ReorderRel.refl (ext : Nat → Nat) (m : Mgr) : ReorderRel ext m m :=
  ⟨fun _ _ _ => rfl, fun _ => rfl, rfl, rfl, rfl, rfl, fun h => h⟩

theorem ReorderRel.trans {ext : Nat → Nat} {a b c : Mgr} (h1 : ReorderRel ext a b)
    (h2 : ReorderRel ext b c) : ReorderRel ext a c :=
  ⟨fun u hu x => (h2.held u hu x).trans (h1.held u hu x), fun v => (h2.names v).trans (h1.names v),
   h2.nvars.trans h1.nvars, h2.roots.trans h1.roots, h2.ctx.trans h1.ctx, h2.lastLen.trans h1.lastLen,
   fun h => h2.sched (h1.sched h)⟩

/-- what every reordering keeps, with the consumed schedule: `ReorderRel` with "the schedule left
is a suffix of the schedule given" instead of "an empty schedule stays empty" -/
structure RelS (ext : Nat → Nat) (m m' : Mgr) : Prop where
  held : HeldSame ext m m'
  names : ∀ v : String, m'.tbl.vars.contains v = m.tbl.vars.contains v
  nvars : m'.nvars = m.nvars
  roots : m'.roots = m.roots
  ctx : m'.ctx = m.ctx
  lastLen : m'.lastLen = m.lastLen
  sched : m'.sched <:+ m.sched

theorem RelS.refl (ext : Nat → Nat) (m : Mgr) : RelS ext m m :=
  ⟨fun _ _ _ => rfl, fun _ => rfl, rfl, rfl, rfl, rfl, List.suffix_refl _⟩

theorem RelS.trans {ext : Nat → Nat} {a b c : Mgr} (h1 : RelS ext a b) (h2 : RelS ext b c) :
    RelS ext a c :=
  ⟨fun u hu x => (h2.held u hu x).trans (h1.held u hu x), fun v => (h2.names v).trans (h1.names v),
   h2.nvars.trans h1.nvars, h2.roots.trans h1.roots, h2.ctx.trans h1.ctx, h2.lastLen.trans h1.lastLen,
   h2.sched.trans h1.sched⟩

theorem RelS.toRel {ext : Nat → Nat} {m m' : Mgr} (h : RelS ext m m') : ReorderRel ext m m' :=
  ⟨h.held, h.names, h.nvars, h.roots, h.ctx, h.lastLen, fun h0 => by
    have := h.sched; rw [h0] at this; exact List.suffix_nil.mp this⟩

theorem RelS.ofRel {ext : Nat → Nat} {m m' : Mgr} (h : ReorderRel ext m m') (hs : m'.sched <:+ m.sched) :
    RelS ext m m' :=
  ⟨h.held, h.names, h.nvars, h.roots, h.ctx, h.lastLen, hs⟩

theorem RelS.setSched (ext : Nat → Nat) (m : Mgr) (s : List SchedItem) (hs : s <:+ m.sched) :
    RelS ext m { m with sched := s } :=
  ⟨fun _ _ _ => rfl, fun _ => rfl, rfl, rfl, rfl, rfl, hs⟩

theorem ReorderInv.held_mem {ext : Nat → Nat} {m : Mgr} (h : ReorderInv ext m) {u : Nat}
    (hu : 0 < ext u) : m.tbl.Mem (u : Int) := by
  simpa [Tbl.Mem] using h.refExact.mem_of_ext_pos hu

theorem gcSub_keeps {ext : Nat → Nat} {m m' : Mgr} (h : ReorderInv ext m) (hI : Inv m')
    (hR : RefExact m' ext) (hs : GcSub m m') : ReorderInv ext m' ∧ ReorderRel ext m m' := by
  have hv : m'.tbl.vars = m.tbl.vars := hs.vars
  have hl : m'.tbl.l2v = m.tbl.l2v := hs.l2v
  have hn : m'.tbl.nvars = m.tbl.nvars := hs.ext.nvars
  refine ⟨{ inv := hI, order := h.order.congr hv hl, refExact := hR, off := ?off,
            rootsHeld := ?rootsHeld },
    { held := ?held, names := fun v => by rw [hv], nvars := hn, roots := hs.roots, ctx := hs.ctx,
      lastLen := hs.lastLen, sched := fun h0 => by rw [hs.sched]; exact h0 }⟩
  case off => rw [hs.ctx, hs.lastLen]; exact h.off
  case rootsHeld => rw [hs.roots]; exact h.rootsHeld
  case held =>
    intro u hu a
    have h1 : m'.tbl.Mem (u : Int) := by simpa [Tbl.Mem] using hR.mem_of_ext_pos hu
    exact denN_sub hs hI.wf.toWF _ h1 a

theorem ReorderInv.setSched {ext : Nat → Nat} {m : Mgr} (h : ReorderInv ext m) (s : List SchedItem) :
    ReorderInv ext { m with sched := s } :=
  ⟨h.inv.setSched s, h.order, h.refExact.congr rfl rfl, h.off, h.rootsHeld⟩

theorem ReorderInv.setSched_rel {ext : Nat → Nat} {m : Mgr} (h : ReorderInv ext m)
    (s : List SchedItem) (hs : m.sched = [] → s = []) :
    ReorderInv ext { m with sched := s } ∧ ReorderRel ext m { m with sched := s } :=
  ⟨h.setSched s, ⟨fun _ _ _ => rfl, fun _ => rfl, rfl, rfl, rfl, rfl, hs⟩⟩

/-- when it returns, the invariant holds again, the state is related to the start state, exactly
the two names are exchanged, and no unreferenced node is left if there was none; when it reports
that the recorded schedule does not fit — the only other outcome — the invariant and the relation
hold as well (only the schedule has been consumed) -/
theorem ReorderInv.swapStep {ext : Nat → Nat} {m : Mgr} (h : ReorderInv ext m) (i : Nat)
    (hi : i + 1 < m.nvars) :
    Ends (fun r m' => ReorderInv ext m' ∧ RelS ext m m' ∧ Exch m m' i ∧ r = (m.len, m'.len) ∧
        (NoGarbage m → NoGarbage m'))
      (fun e m' => e = Err.sched ∧ m.sched ≠ [] ∧ ReorderInv ext m' ∧ RelS ext m m')
      (swapBody i (i + 1) m) := by
  refine (swapBody_run m ext h.inv h.order h.refExact h.off i hi).imp ?_ ?_
  · intro r m' ⟨hp, hsch⟩
    refine ⟨{ inv := hp.inv, order := hp.order, refExact := hp.refExact, off := ?off,
              rootsHeld := ?rootsHeld },
      { held := ?held, names := hp.names, nvars := hp.exch.nvars, roots := hp.exch.roots, ctx := hp.ctx,
        lastLen := hp.lastLen, sched := hsch }, hp.exch, hp.sizes, hp.noZero⟩
    case off => rw [hp.ctx, hp.lastLen]; exact h.off
    case rootsHeld => rw [hp.exch.roots]; exact h.rootsHeld
    case held =>
      intro u hu a
      obtain ⟨h0, h1⟩ := hp.held u hu
      exact hp.denN _ h0 h1 a
  · rintro e _ ⟨he, hne, s, hs, rfl⟩
    exact ⟨he, hne, h.setSched s, RelS.setSched ext m s hs⟩

theorem ReorderInv.collect {ext : Nat → Nat} {m : Mgr} (h : ReorderInv ext m) :
    ∃ m', collectGarbage none m = (.ok (), m') ∧ ReorderInv ext m' ∧ NoGarbage m' ∧
      ReorderRel ext m m' ∧ GcSub m m' := by
  obtain ⟨m', hrun, hp⟩ := collectGarbage_spec m ext h.inv h.refExact
  obtain ⟨a, b⟩ := gcSub_keeps h hp.inv hp.refExact hp.sub
  exact ⟨m', hrun, a, hp.noZero, b, hp.sub⟩

/-- the contract `SwapOK` read off `swapStep`, for a state predicate `P` that implies the
reordering invariant, is kept by a swap that returns (`hP`), and admits a recorded schedule only
where `E` allows the schedule report (`hE`) -/
theorem swapOK_of {ext : Nat → Nat} {E : Err → Prop} {P : Mgr → Prop}
    (hI : ∀ m, P m → ReorderInv ext m) (hE : ∀ m, P m → m.sched ≠ [] → E .sched)
    (hP : ∀ m m', P m → ReorderInv ext m' → RelS ext m m' → (NoGarbage m → NoGarbage m') → P m') :
    SwapOK E P (ReorderRel ext) := by
  refine ⟨ReorderRel.refl ext, fun _ _ _ h1 h2 => h1.trans h2, fun m h => (hI m h).order, ?_, ?_⟩
  · intro m h r hr
    exact (Mgr.mem_iff m r).mpr ((hI m h).refExact.mem_of_ext_pos ((hI m h).rootsHeld r hr))
  · intro m i h hi
    exact ((hI m h).swapStep i hi).imp
      (fun _ m' hp => ⟨hP m m' h hp.1 hp.2.1 hp.2.2.2.2, hp.2.1.toRel, hp.2.2.1, hp.2.2.2.1⟩)
      fun _ _ he => he.1 ▸ hE m h he.2.1

theorem swapOK (ext : Nat → Nat) : SwapOK SchedErr (ReorderInv ext) (ReorderRel ext) :=
  swapOK_of (fun _ h => h) (fun _ _ _ => rfl) fun _ _ _ h' _ _ => h'

/-- with no recorded schedule (the model iterates in ascending order) nothing can fail -/
theorem swapOK_default (ext : Nat → Nat) :
    SwapOK NoErr (fun m => ReorderInv ext m ∧ m.sched = []) (ReorderRel ext) :=
  swapOK_of (fun _ h => h.1) (fun _ h hne => hne h.2) fun _ _ h h' hR _ => ⟨h', hR.toRel.sched h.2⟩

theorem swapOKng (ext : Nat → Nat) :
    SwapOK SchedErr (fun m => ReorderInv ext m ∧ NoGarbage m) (ReorderRel ext) :=
  swapOK_of (fun _ h => h.1) (fun _ _ _ => rfl) fun _ _ h h' _ hg => ⟨h', hg h.2⟩

theorem swapOKng_default (ext : Nat → Nat) :
    SwapOK NoErr (fun m => (ReorderInv ext m ∧ m.sched = []) ∧ NoGarbage m) (ReorderRel ext) :=
  swapOK_of (fun _ h => h.1.1) (fun _ h hne => hne h.1.2)
    fun _ _ h h' hR hg => ⟨⟨h', hR.toRel.sched h.1.2⟩, hg h.2⟩

theorem swap_public_spec (ext : Nat → Nat) (m : Mgr) (h : ReorderInv ext m) (xa ya : VarOrLevel)
    (x a b : Nat) (hx : x + 1 < m.nvars) (ha : Resolves m xa a) (hb : Resolves m ya b)
    (hab : (a = x ∧ b = x + 1) ∨ (a = x + 1 ∧ b = x)) :
    OkOrSched (fun r m' => ReorderInv ext m' ∧ ReorderRel ext m m' ∧ Exch m m' x ∧ r.2 = m'.len ∧
        r.1 ≤ m.len)
      (swap xa ya false m) := by
  rw [swap_public_eq]
  obtain ⟨mg, hrun, hg, -, hsame, hsub⟩ := h.collect
  rw [M.bind_ok hrun]
  have hn : mg.nvars = m.nvars := hsame.nvars
  rw [swap_eq_body mg xa ya x a b (by rw [hn]; exact hx) (ha.congr hsub.vars) (hb.congr hsub.vars) hab]
  refine OkOr.mono ?_ ((swapOK ext).step mg x hg (by rw [hn]; exact hx))
  intro r m' ⟨hP', hR', hE, hr⟩
  refine ⟨hP', hsame.trans hR', ⟨?_, hE.nvars.trans hn, hE.roots.trans hsub.roots⟩, ?_, ?_⟩
  · intro j; rw [hE.l2v j, hsub.l2v]
  · rw [hr]
  · rw [hr]
    have := hsub.size
    show mg.tbl.succ.size + 1 ≤ m.tbl.succ.size + 1
    omega

end DD
