/-
  DDProofs.SwapFull — the whole body of `swap`: iteration orders (schedule), node surgery, name
  exchange, rooted collection, final level-set assertions.  The run up to the closing loops is
  described once, for fixed iteration orders, with everything the closing loops will find
  (`swapCore_spec`); it is read off here (`swapWith_spec`) and by the version that threads the
  dict of level sets (DDProofs.SwapLevelsEq).  `swapBody_run` is the statement for every schedule.
-/
import DDProofs.SwapLevelsSets
import DDProofs.SwapPre
open Std

namespace DD

theorem checkOld_ok (m : Mgr) (ok : Nat → Bool) : ∀ (l : List (Nat × Int × Int)) (m1 : Mgr),
    (∀ t ∈ l, ∀ n, m.tbl.node? t.1 = some n → ok n.lvl = true) →
    checkOld m ok l m1 = (.ok (), m1) := by
  intro l
  induction l with
  | nil => intros; rfl
  | cons t rest ih =>
    intro m1 h
    obtain ⟨u, v, w⟩ := t
    unfold checkOld
    cases hn : m.tbl.succ[u]? with
    | none => exact ih m1 (fun t ht => h t (List.mem_cons_of_mem _ ht))
    | some n =>
      simp only
      have : ok n.lvl = true := h (u, v, w) List.mem_cons_self n hn
      rw [this, M.bind_ok (M.assert_true _ _)]
      exact ih m1 (fun t ht => h t (List.mem_cons_of_mem _ ht))

theorem checkFresh_ok (m : Mgr) (y : Nat) : ∀ (l : List Nat) (m1 : Mgr),
    (∀ r ∈ l, ∃ n, m.tbl.node? r = some n ∧ n.lvl = y) → checkFresh m y l m1 = (.ok (), m1) := by
  intro l
  induction l with
  | nil => intros; rfl
  | cons r rest ih =>
    intro m1 h
    obtain ⟨n, hn, hl⟩ := h r List.mem_cons_self
    have hn' : m.tbl.succ[r]? = some n := hn
    unfold checkFresh
    rw [hn', M.bind_ok (M.ofOption_some _ _ _)]
    simp only [hl, decide_true]
    rw [M.bind_ok (M.assert_true _ _)]
    exact ih m1 (fun r hr => h r (List.mem_cons_of_mem _ hr))

/-- before the rooted collection, a node whose count is 0 is one of the old children of a rebuilt
node (given that no count was 0 when the swap started): the roots passed to the collection
are complete -/
theorem zero_in_garbage {m m6 : Mgr} {ext : Nat → Nat} {x : Nat} {ox oy g xf : List Nat}
    (hI : Inv m) (hR : RefExact m ext) (hz : ∀ k : Nat, m.ref[k]? ≠ some 0)
    (hP : SwapPrePost m x ox oy g xf m6) (hR6 : RefExact m6 ext) {k : Nat}
    (hk : m6.ref[k]? = some 0) : k ∈ g := by
  have hW := hI.wf.toWF
  have hc := hR6.cnt k 0 hk
  have hk1 : k ≠ 1 := by intro e; subst e; simp at hc
  have hi6 : indeg m6.tbl k = 0 := by omega
  have hnode : (m6.tbl.node? k).isSome := by
    rcases (hR6.dom k).mp (by rw [hk]; rfl) with h | h
    · exact absurd h hk1
    · exact h
  obtain ⟨nk, hnk⟩ := Option.isSome_iff_exists.mp hnode
  have hchild : ∀ c nc, m6.tbl.node? c = some nc → (nc.lo.natAbs = k ∨ nc.hi.natAbs = k) → False :=
    fun c nc hc' hch => Nat.ne_of_gt (indeg_pos_iff.mpr ⟨c, nc, hc', hch⟩) hi6
  cases h0 : m.tbl.node? k with
  | none =>
    obtain ⟨c, nc, hc', hch⟩ := hP.freshParent k nk hnk h0
    exact (hchild c nc hc' hch).elim
  | some n0 =>
    have hmem : m.tbl.Mem (k : Int) := Or.inr (by simp [h0])
    have hg := hR.get hmem
    simp only [Int.natAbs_natCast, hk1, if_false, Nat.add_zero] at hg
    have hpos : 0 < indeg m.tbl k := by
      have := hz k
      rw [hg] at this
      have hx0 : ext k = 0 := by omega
      apply Nat.pos_of_ne_zero
      intro e
      apply this
      rw [e, hx0]
    obtain ⟨c, nc, hc', hch⟩ := indeg_pos hpos
    by_cases hd : IsDep m.tbl x c
    · obtain ⟨a, b⟩ := hP.garbageAll c nc hd hc'
      rcases hch with e | e
      · rw [← e]; exact a
      · rw [← e]; exact b
    · exfalso
      have hsame : ∃ nc', m6.tbl.node? c = some nc' ∧ nc'.lo = nc.lo ∧ nc'.hi = nc.hi := by
        obtain ⟨nc', hnc', hcase⟩ := hP.rel.image hc' (fun hf => hf)
        rcases hcase with ⟨_, _, rfl⟩ | ht
        · exact ⟨_, hnc', rfl, rfl⟩
        · cases ht with
          | up _ => exact ⟨_, hnc', rfl, rfl⟩
          | indep _ _ _ => exact ⟨_, hnc', rfl, rfl⟩
          | dep _ _ h1 h2 _ _ => exact absurd ⟨nc, hc', h1, h2⟩ hd
      obtain ⟨nc', hnc', e1, e2⟩ := hsame
      exact hchild c nc' hnc' (by rw [e1, e2]; exact hch)

/-- what a call of `swap` on the adjacent levels `x`, `x+1` establishes -/
structure SwapPost (m : Mgr) (ext : Nat → Nat) (x : Nat) (r : Nat × Nat) (m' : Mgr) : Prop where
  inv : Inv m'
  order : OrderOK m'.tbl
  refExact : RefExact m' ext
  /-- exactly the two names are exchanged -/
  exch : Exch m m' x
  /-- a reference present before and after denotes the same function of the variable names -/
  denN : ∀ u : Int, m.tbl.Mem u → m'.tbl.Mem u → ∀ a, denN m'.tbl u a = denN m.tbl u a
  /-- externally held references are never collected (and keep their number) -/
  held : ∀ u : Nat, 0 < ext u → m.tbl.Mem (u : Int) ∧ m'.tbl.Mem (u : Int)
  /-- `(oldsize, newsize)` -/
  sizes : r = (m.len, m'.len)
  lastLen : m'.lastLen = m.lastLen
  ctx : m'.ctx = m.ctx
  cacheEmpty : m'.cache = {}
  /-- the declared names are the same -/
  names : ∀ v : String, m'.tbl.vars.contains v = m.tbl.vars.contains v
  /-- no unreferenced node is left behind (if there was none before) -/
  noZero : (∀ k : Nat, m.ref[k]? ≠ some 0) → ∀ k : Nat, m'.ref[k]? ≠ some 0

/-- the states of a `swap` with the names exchanged (`m6`) and after the rooted collection (`m7`),
and what the closing loops find in `m7` -/
structure SwapCore (m : Mgr) (ext : Nat → Nat) (x : Nat) (ox oy g xf : List Nat) (m6 m7 : Mgr) :
    Prop where
  pre : SwapPrePost m x ox oy g xf m6
  ref6 : RefExact m6 ext
  gc : GcPost m6 ext (gcStart (some (g.map (fun (k : Nat) => (k : Int)))) m6) m7
  levels : SwapLevelFacts m m7 x ox oy xf
  oldX : ∀ u ∈ ox, ∀ n, m7.tbl.node? u = some n → n.lvl = x ∨ n.lvl = x + 1
  fresh : ∀ r ∈ xf, ∃ n, m7.tbl.node? r = some n ∧ n.lvl = x + 1
  oldY : ∀ u ∈ oy, ∀ n, m7.tbl.node? u = some n → n.lvl = x
  noZero : (∀ k : Nat, m.ref[k]? ≠ some 0) → ∀ k : Nat, m7.ref[k]? ≠ some 0

theorem swapCore_spec (m : Mgr) (ext : Nat → Nat) (hI : Inv m) (hV : OrderOK m.tbl)
    (hR : RefExact m ext) (hoff : m.ctx = false ∨ m.lastLen = none) (x : Nat) (hx : x + 1 < m.nvars)
    (ox oy : List Nat) (hox : LevelOrder m.tbl x ox) (hoy : LevelOrder m.tbl (x + 1) oy) :
    ∃ g xf m5 m6 m7,
      swapNodes x (x + 1) ox oy m = (.ok (ox.map (trip m.tbl), oy.map (trip m.tbl), g, xf), m5) ∧
      exchangeNames x (x + 1) m5 = (.ok (), m6) ∧
      collectGarbage (some (g.map (fun (k : Nat) => (k : Int)))) m6 = (.ok (), m7) ∧
      SwapCore m ext x ox oy g xf m6 m7 := by
  obtain ⟨g, xf, m5, m6, hrun, hex, hB, hP⟩ := swapPre_spec m hI hV hoff x hx ox oy hox hoy
  have hR6 := hP.refExact ext hR
  have hroots : ∀ r ∈ gcRoots (some (g.map (fun (k : Nat) => (k : Int)))) m6, (m6.ref[r.natAbs]?).isSome := by
    intro r hr
    simp only [gcRoots, List.mem_map] at hr
    obtain ⟨k, hk, rfl⟩ := hr
    obtain ⟨c, hc, _, hck⟩ := hP.garbage k hk
    have := (hR6.dom c.natAbs).mpr (hP.mem c hc)
    simpa [hck] using this
  obtain ⟨m7, hgc, hG⟩ := collectGarbage_rooted_spec (some (g.map (fun (k : Nat) => (k : Int)))) m6 ext
    hP.inv hR6 hroots
  -- only old nodes of the lower level are removed; in `m6` these are at the upper level
  have hdead := dead_at_lower hI hx hP.rel hR6 hB.garbage
  have hsub := hG.sub.sub
  refine ⟨g, xf, m5, m6, m7, hrun, hex, hgc, hP, hR6, hG,
    swap_level_facts hI hx hox hoy hP.rel hR6 hB.garbage
      (fun k nk hk hl h0 => (hB.created k nk hk h0).2 hl) hG, ?_, ?_, ?_, ?_⟩
  · intro u hu n hn
    obtain ⟨n0, hn0, hl0⟩ := (hox.mem u).mp hu
    obtain ⟨n', hn', hcase⟩ := hP.rel.image hn0 (fun hf => hf)
    rw [hsub _ _ hn] at hn'
    cases hn'
    rcases hcase with ⟨h1, _⟩ | ht
    · exact absurd hl0 h1
    · cases ht with
      | up h1 => omega
      | indep _ _ _ => exact Or.inr rfl
      | dep _ _ _ _ _ _ => exact Or.inl rfl
  · intro r hr
    obtain ⟨nr, hnr, hlr⟩ := hP.fresh r hr
    refine ⟨nr, (hG.nodes r nr).mpr ⟨hnr, fun hd => ?_⟩, hlr⟩
    obtain ⟨n0, hn0, hl0⟩ := hdead r hd
    rw [hP.rel.up r n0 hn0 hl0 (fun hf => hf)] at hnr
    cases hnr
    exact absurd hlr (by show x ≠ x + 1; omega)
  · intro u hu n hn
    obtain ⟨n0, hn0, hl0⟩ := (hoy.mem u).mp hu
    have h6 := hsub _ _ hn
    rw [hP.rel.up u n0 hn0 hl0 (fun hf => hf)] at h6
    cases h6
    rfl
  · -- a count-0 node left by the collection was one before and was not on the start worklist
    intro hz k hk
    obtain ⟨h6, hnW⟩ := hG.zero k hk
    refine hnW ⟨h6, (k : Int), ?_, by simp⟩
    simp only [gcRoots, List.mem_map]
    exact ⟨k, zero_in_garbage hI hR hz hP hR6 h6, rfl⟩

theorem SwapCore.checkNewLevels_ok {m : Mgr} {ext : Nat → Nat} {x : Nat} {ox oy g xf : List Nat}
    {m6 m7 : Mgr} (h : SwapCore m ext x ox oy g xf m6 m7) :
    checkNewLevels x (x + 1) (ox.map (trip m.tbl)) (oy.map (trip m.tbl)) xf m7 = (.ok (), m7) := by
  unfold checkNewLevels
  rw [M.bind_ok (M.get_eq m7), M.bind_ok (checkOld_ok m7 _ _ m7 ?_),
    M.bind_ok (checkFresh_ok m7 (x + 1) xf m7 h.fresh)]
  · refine checkOld_ok m7 _ _ m7 ?_
    intro t ht n hn
    obtain ⟨u, hu, rfl⟩ := List.mem_map.mp ht
    rw [trip_fst] at hn
    simp [h.oldY u hu n hn]
  · intro t ht n hn
    obtain ⟨u, hu, rfl⟩ := List.mem_map.mp ht
    rw [trip_fst] at hn
    rcases h.oldX u hu n hn with e | e <;> simp [e]

theorem SwapCore.swapWith_run {m m5 : Mgr} {ext : Nat → Nat} {x : Nat} {ox oy g xf : List Nat}
    {m6 m7 : Mgr} (h : SwapCore m ext x ox oy g xf m6 m7) (oldsize : Nat)
    (hrun : swapNodes x (x + 1) ox oy m =
      (.ok (ox.map (trip m.tbl), oy.map (trip m.tbl), g, xf), m5))
    (hex : exchangeNames x (x + 1) m5 = (.ok (), m6))
    (hgc : collectGarbage (some (g.map (fun (k : Nat) => (k : Int)))) m6 = (.ok (), m7)) :
    swapWith x (x + 1) oldsize ox oy m = (.ok (oldsize, m7.len), m7) := by
  unfold swapWith
  rw [M.bind_ok hrun]
  simp only
  rw [M.bind_ok hex, M.bind_ok hgc, M.bind_ok (M.get_eq m7), M.bind_ok h.checkNewLevels_ok]
  rfl

theorem swapWith_spec (m : Mgr) (ext : Nat → Nat) (s : List SchedItem) (hI : Inv m) (hV : OrderOK m.tbl)
    (hR : RefExact m ext) (hoff : m.ctx = false ∨ m.lastLen = none) (x : Nat) (hx : x + 1 < m.nvars)
    (ox oy : List Nat) (hox : LevelOrder m.tbl x ox) (hoy : LevelOrder m.tbl (x + 1) oy) :
    ∃ r m', swapWith x (x + 1) m.len ox oy { m with sched := s } = (.ok r, m') ∧
      SwapPost m ext x r m' ∧ m'.sched = s := by
  obtain ⟨g, xf, m5, m6, m7, hrun, hex, hgc, hC⟩ :=
    swapCore_spec { m with sched := s } ext (hI.setSched s) hV (hR.congr rfl rfl) hoff x hx ox oy hox hoy
  have hP := hC.pre
  have hG := hC.gc
  have hv7 : m7.tbl.vars = m6.tbl.vars := hG.sub.vars
  have hl7 : m7.tbl.l2v = m6.tbl.l2v := hG.sub.l2v
  have hn7 : m7.tbl.nvars = m6.tbl.nvars := hG.sub.ext.nvars
  have hO6 := hP.varsOK
  refine ⟨_, m7, ?_, ⟨hG.inv, ?_, hG.refExact, ⟨?_, ?_, ?_⟩, ?_, ?_, rfl, ?_, ?_, hG.cacheEmpty,
      (fun v => by rw [hv7]; exact hP.names v), hC.noZero⟩,
    hG.sub.sched.trans hP.sched⟩
  · exact hC.swapWith_run m.len hrun hex hgc
  · exact hO6.congr hv7 hl7
  · intro j; rw [hl7]; exact hP.exch.l2v j
  · exact hn7.trans hP.exch.nvars
  · exact hG.sub.roots.trans hP.exch.roots
  · intro u hu hu7 a
    rw [denN_sub hG.sub hG.inv.wf.toWF u hu7 a]
    exact hP.denN u hu a
  · intro u hu
    have h0 : m.tbl.Mem (u : Int) := by simpa [Tbl.Mem] using hR.mem_of_ext_pos hu
    have h7 : m7.tbl.Mem (u : Int) := by simpa [Tbl.Mem] using hG.refExact.mem_of_ext_pos hu
    exact ⟨h0, h7⟩
  · exact hG.sub.lastLen.trans hP.lastLen
  · exact hG.sub.ctx.trans hP.ctx

/-- **`swap` on two adjacent levels, for every schedule, every outcome**: the call returns with
`SwapPost`, the schedule consumed from the front; the only other outcome is the model's report that
the recorded schedule does not fit, and then nothing but the schedule has changed -/
theorem swapBody_run (m : Mgr) (ext : Nat → Nat) (hI : Inv m) (hV : OrderOK m.tbl)
    (hR : RefExact m ext) (hoff : m.ctx = false ∨ m.lastLen = none) (x : Nat) (hx : x + 1 < m.nvars) :
    Ends (fun r m' => SwapPost m ext x r m' ∧ m'.sched <:+ m.sched)
      (fun e m' => e = Err.sched ∧ m.sched ≠ [] ∧ ∃ s, s <:+ m.sched ∧ m' = { m with sched := s })
      (swapBody x (x + 1) m) := by
  unfold swapBody
  rw [M.bind_ok (M.get_eq m)]
  refine Ends.bind (takeSwapOrders_run x (x + 1) m) ?_
  rintro ⟨ox, oy⟩ m1 - ⟨⟨s, hs, rfl⟩, hox, hoy⟩
  obtain ⟨r, m', hrun, hp, hs'⟩ := swapWith_spec m ext s hI hV hR hoff x hx ox oy hox hoy
  simp only
  rw [hrun]
  exact ⟨hp, by rw [hs']; exact hs⟩

theorem swapBody_spec (m : Mgr) (ext : Nat → Nat) (hI : Inv m) (hV : OrderOK m.tbl)
    (hR : RefExact m ext) (hoff : m.ctx = false ∨ m.lastLen = none) (x : Nat) (hx : x + 1 < m.nvars) :
    OkOrSched (SwapPost m ext x) (swapBody x (x + 1) m) :=
  (swapBody_run m ext hI hV hR hoff x hx).imp (fun _ _ h => h.1) fun _ _ h => h.1

end DD
