/-
  DDProofs.SwapLevelsDrivers — the callers of `swap` with the dict of level sets threaded
  (DD.OrderLevels: `swapL`, `shiftL`, `reorderVarL`, `applySiftingL`, `sortToOrderL`, `reorderL`,
  `reorderToPairsL`) do what the recomputing functions of DD.Order do.

  `SimL ext a b` (DDProofs.SwapLevelsEq): the threaded computation `a` returns what `b` returns —
  same result, same state, same exception — and on success the dict it hands back holds exactly
  the level sets of the final state (`LevelsOK`), the state satisfying the reordering invariant.
  The invariant `LevelsOK` is established by `levels = bdd._levels()` (`levelSets_ok`), kept by
  every `swap` (`swapBodyL_sim`), hence by every loop over swaps: `RelL ext xa xb` says `SimL` of
  the two functions from every state with the invariant and an exact dict, and is closed under the
  steps the drivers are made of, so the proof for a driver is its text, one rule per line (as in
  DDProofs.DriversSeq).
-/
import DDProofs.SwapLevelsEq
import DDProofs.ShiftAbs
open Std

namespace DD

theorem SimL.throw {α} {ext : Nat → Nat} (e : Err) (m : Mgr) :
    SimL ext ((M.throw e : M (α × LevelSets)) m) ((M.throw e : M α) m) := rfl

theorem SimL.of_eq {α} {ext : Nat → Nat} {a a' : Except Err (α × LevelSets) × Mgr}
    {b b' : Except Err α × Mgr} (h : SimL ext a b) (ea : a' = a) (eb : b' = b) : SimL ext a' b' := by
  rw [ea, eb]; exact h

/-- what is known of the outcome of the recomputing call holds of the threaded one, whose dict
is exact -/
theorem SimL.okOr {α} {ext : Nat → Nat} {E : Err → Prop} {Q : α → Mgr → Prop}
    {a : Except Err (α × LevelSets) × Mgr} {b : Except Err α × Mgr} (hs : SimL ext a b)
    (hp : OkOr E Q b) : OkOr E (fun r m' => Q r.1 m' ∧ LevelsOK r.2 m') a := by
  obtain ⟨rb, mb⟩ := b
  cases rb with
  | ok r =>
    obtain ⟨al', rfl, _, hal'⟩ := hs
    exact ⟨hp, hal'⟩
  | error e =>
    obtain rfl : a = (.error e, mb) := hs
    exact hp

/-- dropping the dict: a continuation that does not use it runs alike on both sides -/
theorem SimL.drop {α γ} {ext : Nat → Nat} {a : M (α × LevelSets)} {b : M α} {m : Mgr}
    (h : SimL ext (a m) (b m)) (k : α → M γ) : (a >>= fun p => k p.1) m = (b >>= k) m := by
  rw [M.bind_eq, M.bind_eq]
  generalize b m = rb at h
  obtain ⟨rb, mb⟩ := rb
  cases rb with
  | ok r =>
    obtain ⟨al', ha, _, _⟩ := h
    rw [ha]
  | error e =>
    have ha : a m = (.error e, mb) := h
    rw [ha]

theorem SimL.drop_unit {ext : Nat → Nat} {a : M (Unit × LevelSets)} {b : M Unit} {m : Mgr}
    (h : SimL ext (a m) (b m)) : (a >>= fun _ => (pure () : M Unit)) m = b m := by
  refine (SimL.drop h fun _ => (pure () : M Unit)).trans ?_
  rw [M.bind_eq]
  generalize b m = r
  obtain ⟨r, m'⟩ := r
  cases r <;> rfl

theorem resolveVL_reads (a : VarOrLevel) (m : Mgr) :
    (∃ e, resolveVL a m = (.error e, m)) ∨ ∃ x, resolveVL a m = (.ok x, m) := by
  unfold resolveVL
  cases a with
  | name s =>
    simp only [M.bind_eq, M.get_eq]
    cases m.tbl.vars[s]? with
    | none => exact Or.inl ⟨_, rfl⟩
    | some l => exact Or.inr ⟨_, rfl⟩
  | level i => exact Or.inr ⟨i, rfl⟩

theorem swapL_given_tail (xa ya : VarOrLevel) (al : LevelSets) :
    swapL xa ya (some al) =
      (resolveVL xa >>= fun x => resolveVL ya >>= fun y => swapTail (swapBodyL al) x y) :=
  rfl

/-- normal form of `swap … all_levels` with a dict given: an argument error of the public entry
point (the same for the threaded version, whatever the dict), or the body on two adjacent levels -/
theorem swap_given_normal_form (xa ya : VarOrLevel) (m : Mgr) :
    (∃ e, swap xa ya true m = (.error e, m) ∧ ∀ al, swapL xa ya (some al) m = (.error e, m)) ∨
    (∃ x, x + 1 < m.nvars ∧ swap xa ya true m = swapBody x (x + 1) m ∧
      ∀ al, swapL xa ya (some al) m = swapBodyL al x (x + 1) m) := by
  simp only [swap_given_tail, swapL_given_tail]
  rcases resolveVL_reads xa m with ⟨e, hx⟩ | ⟨x, hx⟩
  · exact Or.inl ⟨e, M.bind_err hx, fun _ => M.bind_err hx⟩
  rcases resolveVL_reads ya m with ⟨e, hy⟩ | ⟨y, hy⟩
  · exact Or.inl ⟨e, by rw [M.bind_ok hx, M.bind_err hy], fun _ => by rw [M.bind_ok hx, M.bind_err hy]⟩
  simp only [M.bind_ok hx, M.bind_ok hy]
  rcases swapTail_cases m.nvars x y with hbad | ⟨i, hi, hadj⟩
  · exact Or.inl ⟨_, hbad _ m rfl, fun _ => hbad _ m rfl⟩
  · exact Or.inr ⟨i, hi, hadj _ m rfl, fun _ => hadj _ m rfl⟩

/-- `swap(x, y, all_levels)` with the caller's dict: ANY arguments -/
theorem swapL_some_sim (ext : Nat → Nat) (m : Mgr) (h : ReorderInv ext m) (xa ya : VarOrLevel)
    (al : LevelSets) (hal : LevelsOK al m) :
    SimL ext (swapL xa ya (some al) m) (swap xa ya true m) := by
  rcases swap_given_normal_form xa ya m with ⟨e, h1, h2⟩ | ⟨x, hx, h1, h2⟩
  · rw [h1, h2 al]; exact rfl
  · rw [h1, h2 al]; exact swapBodyL_sim ext m h x hx al hal

/-- `swap(x, y)` with `all_levels is None`: full collection, `all_levels = self._levels()` -/
theorem swapL_none_sim (ext : Nat → Nat) (m : Mgr) (h : ReorderInv ext m) (xa ya : VarOrLevel) :
    SimL ext (swapL xa ya none m) (swap xa ya false m) := by
  obtain ⟨mg, hrun, hg, -⟩ := h.collect
  have e1 : swap xa ya false m = swap xa ya true mg := by
    rw [swap_public_eq, M.bind_ok hrun]
  have e2 : swapL xa ya none m = swapL xa ya (some (levelSets mg)) mg := by
    unfold swapL
    simp only
    rw [M.bind_eq, M.bind_eq, hrun]
    rfl
  rw [e1, e2]
  exact swapL_some_sim ext mg hg xa ya _ (levelSets_ok mg hg.order)

/-- a step that leaves the state alone -/
abbrev Reads {α : Type} (c : M α) : Prop :=
  Always (fun _ => True) (fun m m' => m' = m) (fun _ => True) c

theorem Reads.seqClosed : SeqClosed @Reads :=
  Always.seqClosed (fun _ _ => rfl) (fun _ _ _ h1 h2 => h2.trans h1) fun _ _ => trivial

theorem Reads.get : Reads M.get := fun _ _ => ⟨trivial, rfl, nofun⟩

/-- from every state with the reordering invariant and an exact dict, the threaded function `xa`
does what `xb` does -/
def RelL (ext : Nat → Nat) {α : Type} (xa : LevelSets → M (α × LevelSets)) (xb : M α) : Prop :=
  ∀ al m, ReorderInv ext m → LevelsOK al m → SimL ext (xa al m) (xb m)

section
variable {ext : Nat → Nat} {α β γ : Type}

theorem RelL.pure (r : α) : RelL ext (fun al => pure (r, al)) (pure r) :=
  fun al _ h hal => ⟨al, rfl, h, hal⟩

theorem RelL.throw (e : Err) : RelL ext (fun _ => (M.throw e : M (α × LevelSets))) (M.throw e) :=
  fun _ _ _ _ => rfl

theorem RelL.bind {xa : LevelSets → M (α × LevelSets)} {xb : M α}
    {fa : α × LevelSets → M (β × LevelSets)} {fb : α → M β} (h : RelL ext xa xb)
    (hf : ∀ r, RelL ext (fun al => fa (r, al)) (fb r)) : RelL ext (fun al => xa al >>= fa) (xb >>= fb) := by
  intro al m hR hal
  have h := h al m hR hal
  show SimL ext ((xa al >>= fa) m) ((xb >>= fb) m)
  rw [M.bind_eq, M.bind_eq]
  generalize xb m = rb at h
  obtain ⟨rb, mb⟩ := rb
  cases rb with
  | ok r =>
    obtain ⟨al', ha, hR', hal'⟩ := h
    rw [ha]
    exact hf r al' mb hR' hal'
  | error e =>
    have ha : xa al m = (.error e, mb) := h
    rw [ha]
    exact rfl

/-- a step that is the same on both sides and leaves the state alone (`M.get`, an assertion, a
lookup): the invariant and the dict are still those of the start -/
theorem RelL.step {c : M γ} (hc : Reads c) {fa : γ → LevelSets → M (β × LevelSets)} {fb : γ → M β}
    (hf : ∀ r, RelL ext (fa r) (fb r)) : RelL ext (fun al => c >>= fun r => fa r al) (c >>= fb) := by
  intro al m hR hal
  have hs : (c m).2 = m := (hc m trivial).2.1
  show SimL ext ((c >>= fun r => fa r al) m) ((c >>= fb) m)
  rw [M.bind_eq, M.bind_eq]
  generalize c m = rc at hs
  obtain ⟨rc, mc⟩ := rc
  cases rc with
  | ok r => subst hs; exact hf r al mc hR hal
  | error e => exact rfl

theorem RelL.ite (p : Prop) [Decidable p] {xa ya : LevelSets → M (α × LevelSets)} {xb yb : M α}
    (h1 : RelL ext xa xb) (h2 : RelL ext ya yb) :
    RelL ext (fun al => if p then xa al else ya al) (if p then xb else yb) := by
  by_cases hp : p
  · simp only [if_pos hp]; exact h1
  · simp only [if_neg hp]; exact h2

variable (ext)

theorem swapL_rel (xa ya : VarOrLevel) : RelL ext (fun al => swapL xa ya (some al)) (swap xa ya true) :=
  fun al m h hal => swapL_some_sim ext m h xa ya al hal

theorem shiftLoopL_sim : ∀ (f : Nat) (i e d : Int) (sizes : List (Nat × Nat)),
    RelL ext (shiftLoopL f i e d sizes) (shiftLoop f i e d sizes)
  | 0, _, _, _, _ =>
    .ite _ (.pure _) (.throw _)
  | f+1, _, _, _, _ =>
    .ite _ (.pure _) (.bind (swapL_rel ext _ _) fun ⟨_, _⟩ => shiftLoopL_sim f _ _ _ _)

theorem shiftL_sim (s e : Nat) : RelL ext (shiftL s e) (shift s e) :=
  .step .get fun _ =>
  .step (Reads.seqClosed.assert _) fun _ =>
  .step (Reads.seqClosed.assert _) fun _ =>
  shiftLoopL_sim ext _ _ _ _ _

theorem reorderVarL_sim (var : String) : RelL ext (reorderVarL var) (reorderVar var) := by
  unfold reorderVarL reorderVar
  refine .step .get fun m => .ite _ (.throw _) ?_
  refine .step (Reads.seqClosed.assert _) fun _ =>
    .step (levelOfVar_seq Reads.seqClosed var) fun level => ?_
  generalize (if 2 * level ≥ m.nvars - 1 then (m.nvars - 1, 0) else (0, m.nvars - 1)) = se
  obtain ⟨start, end_⟩ := se
  exact
    .bind (shiftL_sim ext _ _) fun _ =>
    .bind (shiftL_sim ext _ _) fun _ =>
    .step (Reads.seqClosed.ofOption _) fun _ =>
    .bind (shiftL_sim ext _ _) fun _ =>
    .step .get fun _ =>
    .step (Reads.seqClosed.assert _) fun _ =>
    .step (Reads.seqClosed.assert _) fun _ =>
    .pure _

theorem siftVarsL_sim : ∀ names : List String, RelL ext (siftVarsL names) (siftVars names)
  | [] => .pure _
  | v :: rest =>
    .bind (reorderVarL_sim ext v) fun _ => siftVarsL_sim rest

theorem sortStepL_sim (order : List (String × Int)) (i : Nat) :
    RelL ext (sortStepL order i) (sortStep order i) :=
  .step (checkRoots_seq Reads.seqClosed) fun _ =>
  .step (varAtLevel_seq Reads.seqClosed _) fun _ =>
  .step (varAtLevel_seq Reads.seqClosed _) fun _ =>
  .step (Reads.seqClosed.ofOption _) fun _ =>
  .step (Reads.seqClosed.ofOption _) fun _ =>
  .ite _ (.bind (swapL_rel ext _ _) fun _ => .pure _) (.pure _)

theorem sortInnerL_sim (order : List (String × Int)) :
    ∀ l : List Nat, RelL ext (sortInnerL order l) (sortInner order l)
  | [] => .pure _
  | i :: rest =>
    .bind (sortStepL_sim ext order i) fun _ => sortInnerL_sim order rest

theorem sortOuterL_sim (order : List (String × Int)) (n : Nat) :
    ∀ k : Nat, RelL ext (sortOuterL order n k) (sortOuter order n k)
  | 0 => .pure _
  | k+1 =>
    .bind (sortInnerL_sim ext order _) fun _ => sortOuterL_sim order n k

theorem pairStepL_sim (x y : String) : RelL ext (pairStepL x y) (pairStep x y) := by
  unfold pairStepL pairStep
  refine
    .step (levelOfVar_seq Reads.seqClosed x) fun jx =>
    .step (levelOfVar_seq Reads.seqClosed y) fun jy =>
    .step (Reads.seqClosed.assert _) fun _ =>
    .ite _ ?_ (.pure _)
  generalize (if jx > jy then (jy, jx) else (jx, jy)) = se
  obtain ⟨a, b⟩ := se
  exact .bind (shiftL_sim ext _ _) fun _ => .pure _

theorem pairsLoopL_sim : ∀ pairs : List (String × String),
    RelL ext (pairsLoopL pairs) (reorderToPairs pairs)
  | [] => .pure _
  | (x, y) :: rest =>
    .bind (pairStepL_sim ext x y) fun _ => pairsLoopL_sim rest

end

theorem LevelsOK.setSched {al : LevelSets} {m : Mgr} (h : LevelsOK al m) (s : List SchedItem) :
    LevelsOK al { m with sched := s } := h

/-- **`_apply_sifting` with `levels` computed once and patched by the swaps is `_apply_sifting`
with the level sets recomputed at every swap** -/
theorem applySiftingL_eq (ext : Nat → Nat) (m : Mgr) (h : ReorderInv ext m) :
    applySiftingL m = applySifting m := by
  obtain ⟨mg, hrun, hg, -⟩ := h.collect
  unfold applySiftingL applySifting
  rw [M.bind_ok hrun, M.bind_ok hrun, M.bind_ok (M.get_eq mg), M.bind_ok (M.get_eq mg),
    M.bind_eq, M.bind_eq]
  have hts := takeSiftOrder_run mg
  generalize takeSiftOrder mg = rt at hts
  obtain ⟨rt, mt⟩ := rt
  cases rt with
  | error e => rfl
  | ok names =>
    simp only
    obtain ⟨⟨s, -, rfl⟩, -⟩ := hts
    split
    · rfl
    · exact SimL.drop (siftVarsL_sim ext names (levelSets mg) _ (hg.setSched s)
        ((levelSets_ok mg hg.order).setSched s)) (fun _ => do
          let m ← M.get
          M.assert (m.len ≤ mg.len))

/-- **`_sort_to_order` with `levels` computed once is `_sort_to_order` with the level sets
recomputed at every swap** -/
theorem sortToOrderL_eq (ext : Nat → Nat) (m : Mgr) (h : ReorderInv ext m)
    (order : List (String × Int)) : sortToOrderL order m = sortToOrder order m := by
  unfold sortToOrderL sortToOrder
  rw [M.bind_ok (M.get_eq m), M.bind_ok (M.get_eq m)]
  split
  · rfl
  · exact SimL.drop_unit (sortOuterL_sim ext order order.length order.length (levelSets m) m h
      (levelSets_ok m h.order))

theorem reorderL_eq (ext : Nat → Nat) (m : Mgr) (h : ReorderInv ext m)
    (order : Option (List (String × Int))) : reorderL order m = reorder order m := by
  cases order with
  | none => exact applySiftingL_eq ext m h
  | some o => exact sortToOrderL_eq ext m h o

/-- **`reorder_to_pairs` with `levels` computed once** -/
theorem reorderToPairsL_eq (ext : Nat → Nat) (m : Mgr) (h : ReorderInv ext m)
    (pairs : List (String × String)) : reorderToPairsL pairs m = reorderToPairs pairs m := by
  unfold reorderToPairsL
  rw [M.bind_ok (M.get_eq m)]
  exact SimL.drop_unit (pairsLoopL_sim ext pairs (levelSets m) m h (levelSets_ok m h.order))

end DD
