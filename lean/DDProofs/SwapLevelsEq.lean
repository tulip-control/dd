/-
  DDProofs.SwapLevelsEq — one `swap` with the caller's dict of level sets THREADED (DD.OrderLevels)
  does what the `swap` of DD.Order does, and the patched dict again holds exactly the level sets:
  `LevelsOK al m` (every entry of a declared level is, as a set, the set of nodes at that level)
  holds of `bdd._levels()`, makes the threaded lookup of the iteration orders the recomputing one,
  and is re-established by the sets `newx`, `newy` that the three closing loops of `swap` build.
-/
import DDProofs.SwapDrivers
import DD.OrderLevels
open Std

namespace DD

/-- the threaded dict holds exactly the level sets: for every level of a declared variable its
entry is, as a set, the set of nodes at that level -/
def LevelsOK (al : LevelSets) (m : Mgr) : Prop :=
  ∀ j, j < m.nvars → ∃ l, al[j]? = some l ∧ ∀ u, u ∈ l ↔ ∃ n, m.tbl.node? u = some n ∧ n.lvl = j

theorem foldl_insert_get (f : Nat → List Nat) : ∀ (l : List Nat) (acc : LevelSets) (j : Nat),
    (l.foldl (fun acc j => acc.insert j (f j)) acc)[j]? =
      if j ∈ l then some (f j) else acc[j]? := by
  intro l
  induction l with
  | nil => intro acc j; simp
  | cons a rest ih =>
    intro acc j
    rw [List.foldl_cons, ih]
    by_cases h : j ∈ rest
    · simp [h]
    · simp only [h, if_false, List.mem_cons, or_false]
      rw [getElem?_insert_eq]
      by_cases e : a = j
      · rw [if_pos e, if_pos e.symm, e]
      · rw [if_neg e, if_neg (Ne.symm e)]

/-- `bdd._levels()` holds exactly the level sets -/
theorem levelSets_ok (m : Mgr) (hO : OrderOK m.tbl) : LevelsOK (levelSets m) m := by
  intro j hj
  refine ⟨nodesAt m.tbl j, ?_, mem_nodesAt m.tbl j⟩
  unfold levelSets
  rw [foldl_insert_get (fun j => nodesAt m.tbl j)]
  have : j ∈ m.tbl.vars.toList.map (·.2) := by
    obtain ⟨v, hv, _⟩ := hO.name_at hj
    have hvj : m.tbl.vars[v]? = some j := (hO.inv v j).mpr hv
    exact List.mem_map.mpr ⟨(v, j), TreeMap.mem_toList_iff_getElem?_eq_some.mpr hvj, rfl⟩
  simp [this]

theorem nodesAt_strict (t : Tbl) (j : Nat) : (nodesAt t j).Pairwise (· < ·) := by
  rw [nodesAt_eq]
  have h := TreeMap.ordered_keys_toList (t := t.succ)
  have h2 := h.filter (fun p => decide (p.2.lvl = j))
  rw [List.pairwise_map]
  refine h2.imp ?_
  intro a b hab
  exact Nat.compare_eq_lt.mp hab

/-- a Python set holding the nodes of a level, iterated in the model's default order, is the
recomputed level set -/
theorem sort_dedup_eq_nodesAt (t : Tbl) (j : Nat) (l : List Nat)
    (h : ∀ u, u ∈ l ↔ ∃ n, t.node? u = some n ∧ n.lvl = j) : sortNat (dedup l) = nodesAt t j := by
  apply strict_sorted_ext (sortNat_strict (nodup_dedup l)) (nodesAt_strict t j)
  intro x
  rw [mem_sortNat, mem_dedup, h, mem_nodesAt]

theorem takeSwapOrdersL_eq (al : LevelSets) (m : Mgr) (x y : Nat) (hx : x < m.nvars)
    (hy : y < m.nvars) (hal : LevelsOK al m) :
    takeSwapOrdersL al x y m = takeSwapOrders x y m := by
  obtain ⟨lx, hlx, hmx⟩ := hal x hx
  obtain ⟨ly, hly, hmy⟩ := hal y hy
  unfold takeSwapOrdersL takeSwapOrders
  rw [M.bind_ok (M.get_eq m), M.bind_ok (M.get_eq m), hlx, hly,
    M.bind_ok (M.ofOption_some _ _ _), M.bind_ok (M.ofOption_some _ _ _)]
  simp only [sort_dedup_eq_nodesAt m.tbl x lx hmx, sort_dedup_eq_nodesAt m.tbl y ly hmy]
  rfl

/-- `k` is a node at level `j` -/
def lvlAt (m : Mgr) (j k : Nat) : Bool :=
  match m.tbl.succ[k]? with
  | some n => n.lvl == j
  | none => false

theorem lvlAt_iff {m : Mgr} {j k : Nat} :
    lvlAt m j k = true ↔ ∃ n, m.tbl.node? k = some n ∧ n.lvl = j := by
  unfold lvlAt Tbl.node?
  cases m.tbl.succ[k]? <;> simp

/-- `for k in l: if p(k): acc.add(k)` -/
def addAll (p : Nat → Bool) (l acc : List Nat) : List Nat :=
  l.foldl (fun a k => if p k then pushNew a k else a) acc

theorem mem_addAll {p : Nat → Bool} {u : Nat} : ∀ {l acc : List Nat},
    u ∈ addAll p l acc ↔ u ∈ acc ∨ (u ∈ l ∧ p u = true) := by
  intro l
  induction l with
  | nil => simp [addAll]
  | cons k rest ih =>
    intro acc
    show u ∈ addAll p rest (if p k then pushNew acc k else acc) ↔ _
    rw [ih]
    by_cases hk : p k = true
    · rw [if_pos hk, mem_pushNew, List.mem_cons]
      constructor
      · rintro ((h | rfl) | ⟨h, hp⟩)
        · exact Or.inl h
        · exact Or.inr ⟨Or.inl rfl, hk⟩
        · exact Or.inr ⟨Or.inr h, hp⟩
      · rintro (h | ⟨rfl | h, hp⟩)
        · exact Or.inl (Or.inl h)
        · exact Or.inl (Or.inr rfl)
        · exact Or.inr ⟨h, hp⟩
    · rw [if_neg hk, List.mem_cons]
      constructor
      · rintro (h | ⟨h, hp⟩)
        · exact Or.inl h
        · exact Or.inr ⟨Or.inr h, hp⟩
      · rintro (h | ⟨rfl | h, hp⟩)
        · exact Or.inl h
        · exact absurd hp hk
        · exact Or.inr ⟨h, hp⟩

theorem newSetsX_eq (m : Mgr) {x y : Nat} (hxy : x ≠ y) (m1 : Mgr) :
    ∀ (l : List (Nat × Int × Int)) (nx ny : List Nat),
    (∀ t ∈ l, ∀ n, m.tbl.node? t.1 = some n → n.lvl = x ∨ n.lvl = y) →
    newSetsX m x y l (nx, ny) m1 =
      (.ok (addAll (lvlAt m y) (l.map (·.1)) nx, addAll (lvlAt m x) (l.map (·.1)) ny), m1) := by
  intro l
  induction l with
  | nil => intros; rfl
  | cons t rest ih =>
    intro nx ny h
    obtain ⟨u, v, w⟩ := t
    have hrest := fun t ht => h t (List.mem_cons_of_mem _ ht)
    unfold newSetsX
    show _ = (Except.ok (addAll (lvlAt m y) (rest.map (·.1)) (if lvlAt m y u then pushNew nx u else nx),
      addAll (lvlAt m x) (rest.map (·.1)) (if lvlAt m x u then pushNew ny u else ny)), m1)
    cases hn : m.tbl.succ[u]? with
    | none =>
      simp only [lvlAt, hn, Bool.false_eq_true, if_false]
      exact ih nx ny hrest
    | some n =>
      simp only
      by_cases hlx : n.lvl = x
      · rw [if_pos hlx, ih _ _ hrest]
        simp [lvlAt, hn, hlx, hxy]
      · have hly : n.lvl = y := (h (u, v, w) List.mem_cons_self n hn).resolve_left hlx
        rw [if_neg hlx, if_pos hly, ih _ _ hrest]
        simp [lvlAt, hn, hly, Ne.symm hxy]

theorem newSetsFresh_eq (m : Mgr) (y : Nat) (m1 : Mgr) : ∀ (l acc : List Nat),
    (∀ r ∈ l, ∃ n, m.tbl.node? r = some n ∧ n.lvl = y) →
    newSetsFresh m y l acc m1 = (.ok (addAll (fun _ => true) l acc), m1) := by
  intro l
  induction l with
  | nil => intros; rfl
  | cons r rest ih =>
    intro acc h
    obtain ⟨n, hn, hl⟩ := h r List.mem_cons_self
    have hn' : m.tbl.succ[r]? = some n := hn
    unfold newSetsFresh
    rw [hn', M.bind_ok (M.ofOption_some _ _ _)]
    simp only [hl, decide_true]
    rw [M.bind_ok (M.assert_true _ _)]
    exact ih _ (fun r hr => h r (List.mem_cons_of_mem _ hr))

theorem newSetsY_eq (m : Mgr) (x : Nat) (m1 : Mgr) : ∀ (l : List (Nat × Int × Int)) (acc : List Nat),
    (∀ t ∈ l, ∀ n, m.tbl.node? t.1 = some n → n.lvl = x) →
    newSetsY m x l acc m1 = (.ok (addAll (lvlAt m x) (l.map (·.1)) acc), m1) := by
  intro l
  induction l with
  | nil => intros; rfl
  | cons t rest ih =>
    intro acc h
    obtain ⟨u, v, w⟩ := t
    have hrest := fun t ht => h t (List.mem_cons_of_mem _ ht)
    unfold newSetsY
    show _ = (Except.ok (addAll (lvlAt m x) (rest.map (·.1)) (if lvlAt m x u then pushNew acc u else acc)), m1)
    cases hn : m.tbl.succ[u]? with
    | none =>
      simp only [lvlAt, hn, Bool.false_eq_true, if_false]
      exact ih acc hrest
    | some n =>
      have hl := h (u, v, w) List.mem_cons_self n hn
      simp only [lvlAt, hn, hl, decide_true, beq_self_eq_true, if_true]
      rw [M.bind_ok (M.assert_true _ _)]
      exact ih _ hrest

/-- the closing loops of `swap` with the sets built: they pass, `newx` holds the nodes now at the
lower level, `newy` those now at the upper level -/
theorem SwapCore.checkNewLevelsL_ok {m : Mgr} {ext : Nat → Nat} {x : Nat} {ox oy g xf : List Nat}
    {m6 m7 : Mgr} (h : SwapCore m ext x ox oy g xf m6 m7) :
    ∃ nx ny, checkNewLevelsL x (x + 1) (ox.map (trip m.tbl)) (oy.map (trip m.tbl)) xf m7 =
        (.ok (nx, ny), m7) ∧
      (∀ u, u ∈ nx ↔ ∃ n, m7.tbl.node? u = some n ∧ n.lvl = x + 1) ∧
      (∀ u, u ∈ ny ↔ ∃ n, m7.tbl.node? u = some n ∧ n.lvl = x) := by
  refine ⟨addAll (fun _ => true) xf (addAll (lvlAt m7 (x + 1)) ox []),
    addAll (lvlAt m7 x) oy (addAll (lvlAt m7 x) ox []), ?_, ?_, ?_⟩
  · unfold checkNewLevelsL
    rw [M.bind_ok (M.get_eq m7), M.bind_ok (newSetsX_eq m7 (by omega) m7 _ [] [] ?_)]
    · simp only
      rw [M.bind_ok (newSetsFresh_eq m7 (x + 1) m7 xf _ h.fresh), M.bind_ok (newSetsY_eq m7 x m7 _ _ ?_),
        map_trip_fst, map_trip_fst]
      · rfl
      · intro t ht n hn
        obtain ⟨u, hu, rfl⟩ := List.mem_map.mp ht
        rw [trip_fst] at hn
        exact h.oldY u hu n hn
    · intro t ht n hn
      obtain ⟨u, hu, rfl⟩ := List.mem_map.mp ht
      rw [trip_fst] at hn
      exact h.oldX u hu n hn
  · intro u
    rw [mem_addAll, mem_addAll, lvlAt_iff]
    constructor
    · rintro ((h0 | ⟨_, hn⟩) | ⟨hu, _⟩)
      · cases h0
      · exact hn
      · exact h.fresh u hu
    · rintro ⟨n, hn, hl⟩
      rcases h.levels.lower u n hn hl with hu | hu
      · exact Or.inl (Or.inr ⟨hu, n, hn, hl⟩)
      · exact Or.inr ⟨hu, rfl⟩
  · intro u
    rw [mem_addAll, mem_addAll, lvlAt_iff]
    constructor
    · rintro ((h0 | ⟨_, hn⟩) | ⟨_, hn⟩)
      · cases h0
      · exact hn
      · exact hn
    · rintro ⟨n, hn, hl⟩
      rcases h.levels.upper u n hn hl with hu | hu
      · exact Or.inl (Or.inr ⟨hu, n, hn, hl⟩)
      · exact Or.inr ⟨hu, n, hn, hl⟩

/-- the swap with the dict threaded, for FIXED iteration orders: returns what `swapWith` returns,
and the patched dict holds the level sets of the final state -/
theorem swapWithL_spec (m : Mgr) (ext : Nat → Nat) (s : List SchedItem) (hI : Inv m)
    (hV : OrderOK m.tbl) (hR : RefExact m ext) (hoff : m.ctx = false ∨ m.lastLen = none) (x : Nat)
    (hx : x + 1 < m.nvars) (ox oy : List Nat) (hox : LevelOrder m.tbl x ox)
    (hoy : LevelOrder m.tbl (x + 1) oy) (al : LevelSets) (hal : LevelsOK al m) :
    ∃ r m' al', swapWith x (x + 1) m.len ox oy { m with sched := s } = (.ok r, m') ∧
      swapWithL al x (x + 1) m.len ox oy { m with sched := s } = (.ok (r, al'), m') ∧
      LevelsOK al' m' := by
  obtain ⟨g, xf, m5, m6, m7, hrun, hex, hgc, hC⟩ :=
    swapCore_spec { m with sched := s } ext (hI.setSched s) hV (hR.congr rfl rfl) hoff x hx ox oy hox hoy
  obtain ⟨nx, ny, hchkL, hnx, hny⟩ := hC.checkNewLevelsL_ok
  refine ⟨(m.len, m7.len), m7, (al.insert x ny).insert (x + 1) nx, ?_, ?_, ?_⟩
  · exact hC.swapWith_run m.len hrun hex hgc
  · unfold swapWithL
    rw [M.bind_ok hrun]
    simp only
    rw [M.bind_ok hex, M.bind_ok hgc, M.bind_ok (M.get_eq m7), M.bind_ok hchkL]
    rfl
  · have hnv : m7.nvars = m.nvars := hC.gc.sub.ext.nvars.trans hC.pre.exch.nvars
    intro j hj
    rw [hnv] at hj
    by_cases hj1 : j = x + 1
    · subst hj1
      exact ⟨nx, TreeMap.getElem?_insert_self, hnx⟩
    · by_cases hj0 : j = x
      · subst hj0
        refine ⟨ny, ?_, hny⟩
        rw [getElem?_insert_eq, if_neg (Nat.succ_ne_self j)]
        exact TreeMap.getElem?_insert_self
      · obtain ⟨l, hl, hml⟩ := hal j hj
        refine ⟨l, ?_, fun u => ?_⟩
        · rw [getElem?_insert_eq, if_neg (Ne.symm hj1), getElem?_insert_eq, if_neg (Ne.symm hj0)]
          exact hl
        · rw [hml]
          exact (hC.levels.other j hj0 hj1 u).symm

/-- the threaded computation `a` does what the recomputing computation `b` does: on success the
same result and state, a dict that holds the level sets, and the reordering invariant; on failure
the same exception in the same state -/
def SimL {α} (ext : Nat → Nat) (a : Except Err (α × LevelSets) × Mgr) (b : Except Err α × Mgr) :
    Prop :=
  match b with
  | (.ok r, m') => ∃ al', a = (.ok (r, al'), m') ∧ ReorderInv ext m' ∧ LevelsOK al' m'
  | (.error e, m') => a = (.error e, m')

/-- `swap` on two adjacent valid levels, dict threaded vs. recomputed -/
theorem swapBodyL_sim (ext : Nat → Nat) (m : Mgr) (h : ReorderInv ext m) (x : Nat)
    (hx : x + 1 < m.nvars) (al : LevelSets) (hal : LevelsOK al m) :
    SimL ext (swapBodyL al x (x + 1) m) (swapBody x (x + 1) m) := by
  have hstep := (swapOK ext).step m x h hx
  unfold swapBodyL
  unfold swapBody at hstep ⊢
  rw [M.bind_ok (M.get_eq m), M.bind_eq] at hstep
  rw [M.bind_ok (M.get_eq m), M.bind_ok (M.get_eq m), M.bind_eq, M.bind_eq,
    takeSwapOrdersL_eq al m x (x + 1) (by omega) hx hal]
  have hts := takeSwapOrders_run x (x + 1) m
  generalize hres : takeSwapOrders x (x + 1) m = res at hts hstep ⊢
  obtain ⟨r, m1⟩ := res
  cases r with
  | error e => exact rfl
  | ok oo =>
    obtain ⟨ox, oy⟩ := oo
    obtain ⟨⟨s, -, rfl⟩, hox, hoy⟩ := hts
    simp only at hstep ⊢
    obtain ⟨r, m', al', hW, hWL, hal'⟩ := swapWithL_spec m ext s h.inv h.order h.refExact h.off x hx
      ox oy hox hoy al hal
    rw [hW] at hstep ⊢
    rw [hWL]
    exact ⟨al', rfl, hstep.1, hal'⟩

end DD
