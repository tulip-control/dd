/-
  DDProofs.SwapLevelsSets — which nodes are at which level after a `swap` of the levels `x`, `x+1`.
  The rooted collection at the end of `swap` removes only nodes that were at the LOWER level (a
  child of a removed node is re-referenced by the node that replaces its parent), and `xfresh` holds
  every node the surgery created; so a level other than the two keeps its nodes, every node at the
  upper level comes from `levels[x]` or `levels[y]`, and every node at the lower level from
  `levels[x]` or `xfresh` (`SwapLevelFacts`): what the closing loops of `swap` assert.
-/
import DDProofs.GcSpec
import DDProofs.SwapDep
open Std

namespace DD

theorem swapNodes_extra (m : Mgr) (hI : Inv m) (hoff : m.ctx = false ∨ m.lastLen = none) (x : Nat)
    (hx : x + 1 < m.nvars) (ox oy : List Nat) (hox : LevelOrder m.tbl x ox)
    (hoy : LevelOrder m.tbl (x + 1) oy) (g xf : List Nat) (m' : Mgr)
    (hrun : swapNodes x (x + 1) ox oy m =
      (.ok (ox.map (trip m.tbl), oy.map (trip m.tbl), g, xf), m')) :
    (∀ r ∈ g, ∃ u n, IsDep m.tbl x u ∧ m.tbl.node? u = some n ∧
      (n.lo.natAbs = r ∨ n.hi.natAbs = r)) ∧
    (∀ k nk, m'.tbl.node? k = some nk → nk.lvl = x + 1 → m.tbl.node? k = none → k ∈ xf) := by
  obtain ⟨g0, xf0, m5, hrun', _, hB⟩ := swapNodes_spec m hI hoff x hx ox oy hox hoy
  rw [hrun'] at hrun
  cases hrun
  exact ⟨hB.garbage, fun k nk hk hl h0 => (hB.created k nk hk h0).2 hl⟩

/-- an argument of `Mk … a b r` is a child of the node `r` stands for, or `r` itself -/
theorem mk_parent {t' : Tbl} {i : Nat} {a b r : Int} (h : Mk t' i a b r) {u : Nat} {nu : Nd}
    (hu : t'.node? u = some nu) (hr : nu.lo = r ∨ nu.hi = r) {d : Int} (hd : d = a ∨ d = b) :
    ∃ c nc, t'.node? c = some nc ∧ (nc.lo.natAbs = d.natAbs ∨ nc.hi.natAbs = d.natAbs) ∧
      (c = u ∨ nc.lvl = i) := by
  rcases h with ⟨h1, h2⟩ | ⟨_, k, _, hn, _⟩
  · have hd' : d = r := by
      rcases hd with e | e
      · exact e.trans h2.symm
      · exact e.trans (h1.symm.trans h2.symm)
    subst hd'
    exact ⟨u, nu, hu, hr.imp (congrArg _) (congrArg _), Or.inl rfl⟩
  · refine ⟨k, _, hn, ?_, Or.inr rfl⟩
    rcases hd with rfl | rfl
    · left
      show (if b < 0 then -d else d).natAbs = d.natAbs
      split
      · exact Int.natAbs_neg d
      · rfl
    · right
      show (if d < 0 then -d else d).natAbs = d.natAbs
      split
      · exact Int.natAbs_neg d
      · rfl

/-- **the rooted collection of `swap` removes only nodes that were at the lower level**: every
removed node is a node of the old table whose level was `x + 1` -/
theorem dead_at_lower {m m6 : Mgr} {ext : Nat → Nat} {x : Nat} {g : List Nat} (hI : Inv m)
    (hx : x + 1 < m.nvars)
    (hrel : SwapRel m.tbl m6.tbl x (fun _ => False)) (hR6 : RefExact m6 ext)
    (hg : ∀ r ∈ g, ∃ u n, IsDep m.tbl x u ∧ m.tbl.node? u = some n ∧
      (n.lo.natAbs = r ∨ n.hi.natAbs = r)) :
    ∀ k, Dead m6.tbl ext (gcStart (some (g.map (fun (k : Nat) => (k : Int)))) m6) k →
      ∃ n, m.tbl.node? k = some n ∧ n.lvl = x + 1 := by
  have hW := hI.wf.toWF
  have hx' : x + 1 < m.tbl.nvars := hx
  -- a cofactor `d` of a child `c` of a rebuilt node `u` has, in the new table, a parent that is
  -- `u` itself or a node of the lower level: it is an argument of one of the two `find_or_add`s
  have key : ∀ (u : Nat) (n : Nd), IsDep m.tbl x u → m.tbl.node? u = some n →
      ∀ c : Int, (c = n.lo ∨ c = n.hi) →
      ∀ d : Int, (d = (cof m.tbl (x + 1) c).1 ∨ d = (cof m.tbl (x + 1) c).2) →
      ∃ p np, m6.tbl.node? p = some np ∧ (np.lo.natAbs = d.natAbs ∨ np.hi.natAbs = d.natAbs) ∧
        (p = u ∨ np.lvl = x + 1) := by
    intro u n hd hn c hc d hdd
    obtain ⟨hl', hdep⟩ := hd.of_node hn
    obtain ⟨p, q, hu6, hmp, hmq⟩ := hrel.dep u n hn hl' hdep (fun hf => hf)
    have hlo : (⟨x, p, q⟩ : Nd).lo = p ∨ (⟨x, p, q⟩ : Nd).hi = p := Or.inl rfl
    have hhi : (⟨x, p, q⟩ : Nd).lo = q ∨ (⟨x, p, q⟩ : Nd).hi = q := Or.inr rfl
    rcases hdd with rfl | rfl
    · exact mk_parent hmp hu6 hlo (hc.imp (fun e => by rw [e]) (fun e => by rw [e]))
    · exact mk_parent hmq hu6 hhi (hc.imp (fun e => by rw [e]) (fun e => by rw [e]))
  -- the members of the start worklist: children of rebuilt nodes, of count 0
  have hstart : ∀ k, gcStart (some (g.map (fun (k : Nat) => (k : Int)))) m6 k →
      indeg m6.tbl k = 0 ∧ ∃ u n, IsDep m.tbl x u ∧ m.tbl.node? u = some n ∧
        ∃ c : Int, (c = n.lo ∨ c = n.hi) ∧ m.tbl.Mem c ∧ x + 1 ≤ m.tbl.levelOf c ∧ c.natAbs = k := by
    rintro k ⟨hz, r, hr, hrk⟩
    simp only [gcRoots, List.mem_map] at hr
    obtain ⟨k', hk', rfl⟩ := hr
    obtain rfl : k' = k := by simpa using hrk
    have hcnt := hR6.cnt k' 0 hz
    exact ⟨by omega, garbage_child hW hg hk'⟩
  -- only members of the start worklist are removed, and they were at the lower level
  suffices h : ∀ k, Dead m6.tbl ext (gcStart (some (g.map (fun (k : Nat) => (k : Int)))) m6) k →
      gcStart (some (g.map (fun (k : Nat) => (k : Int)))) m6 k ∧
        ∃ n, m.tbl.node? k = some n ∧ n.lvl = x + 1 from fun k hd => (h k hd).2
  intro k hd
  induction hd with
  | root hk =>
    rename_i k
    refine ⟨hk, ?_⟩
    obtain ⟨hind, u, n, hdp, hn, c, hc, hm, hge, hck⟩ := hstart k hk
    by_cases hlc : m.tbl.levelOf c = x + 1
    · obtain ⟨h1, nk, hnk, hlk⟩ := node_of_level m.tbl c (x + 1) hm hlc hx'
      exact ⟨nk, by rw [← hck]; exact hnk, hlk⟩
    · -- a child strictly below both levels keeps a parent
      exfalso
      obtain ⟨p, np, hp, hch', _⟩ :=
        key u n hdp hn c hc c (Or.inl (by rw [cof_of_ne m.tbl (x + 1) c hlc]))
      rw [hck] at hch'
      exact Nat.ne_of_gt (indeg_pos_iff.mpr ⟨p, np, hp, hch'⟩) hind
  | cascade hk1 hext hp hch hall ih =>
    rename_i k P X
    -- a parent `P` of `k` is removed: a child of a rebuilt node that was at the lower level; then
    -- `k` is a cofactor of that child and has a parent that is not removed
    exfalso
    obtain ⟨hPstart, nP, hnP, hlP⟩ := ih P X hp hch
    obtain ⟨_, u, n, hdp, hn, c, hc, _, _, hcP⟩ := hstart P hPstart
    rw [hrel.up P nP hnP hlP (fun hf => hf)] at hp
    cases hp
    have h1 : c.natAbs ≠ 1 := by rw [hcP]; have := hW.ge_two _ _ hnP; omega
    have hcof := cof_at m.tbl (x + 1) c nP h1 (by rw [hcP]; exact hnP) hlP
    obtain ⟨d, hdd, hdk⟩ : ∃ d : Int, (d = (cof m.tbl (x + 1) c).1 ∨ d = (cof m.tbl (x + 1) c).2) ∧
        d.natAbs = k := by
      rw [hcof]
      rcases hch with e | e
      · refine ⟨(if c < 0 then (-nP.lo, -nP.hi) else (nP.lo, nP.hi)).1, Or.inl rfl, ?_⟩
        split <;> simpa using e
      · refine ⟨(if c < 0 then (-nP.lo, -nP.hi) else (nP.lo, nP.hi)).2, Or.inr rfl, ?_⟩
        split <;> simpa using e
    obtain ⟨p, np, hp, hch', hpu⟩ := key u n hdp hn c hc d hdd
    rw [hdk] at hch'
    obtain ⟨_, n0, hn0, hl0⟩ := ih p np hp hch'
    rw [hrel.up p n0 hn0 hl0 (fun hf => hf)] at hp
    cases hp
    rcases hpu with rfl | e
    · have := (hdp.of_node hn0).1
      omega
    · exact absurd e (by show x ≠ x + 1; omega)

/-- where the nodes of each level come from, after a swap of the levels `x`, `x + 1` -/
structure SwapLevelFacts (m m7 : Mgr) (x : Nat) (ox oy xf : List Nat) : Prop where
  /-- levels other than the two: the same nodes as before -/
  other : ∀ j, j ≠ x → j ≠ x + 1 → ∀ k,
    (∃ n, m7.tbl.node? k = some n ∧ n.lvl = j) ↔ (∃ n, m.tbl.node? k = some n ∧ n.lvl = j)
  /-- the upper level: from `levels[x]` (rebuilt) or `levels[y]` (moved up) -/
  upper : ∀ k n, m7.tbl.node? k = some n → n.lvl = x → k ∈ ox ∨ k ∈ oy
  /-- the lower level: from `levels[x]` (relabelled) or `xfresh` (created) -/
  lower : ∀ k n, m7.tbl.node? k = some n → n.lvl = x + 1 → k ∈ ox ∨ k ∈ xf

theorem swap_level_facts {m m6 m7 : Mgr} {ext : Nat → Nat} {x : Nat} {ox oy g xf : List Nat}
    (hI : Inv m) (hx : x + 1 < m.nvars) (hox : LevelOrder m.tbl x ox)
    (hoy : LevelOrder m.tbl (x + 1) oy)
    (hrel : SwapRel m.tbl m6.tbl x (fun _ => False)) (hR6 : RefExact m6 ext)
    (hg : ∀ r ∈ g, ∃ u n, IsDep m.tbl x u ∧ m.tbl.node? u = some n ∧
      (n.lo.natAbs = r ∨ n.hi.natAbs = r))
    (hxf : ∀ k nk, m6.tbl.node? k = some nk → nk.lvl = x + 1 → m.tbl.node? k = none → k ∈ xf)
    (hG : GcPost m6 ext (gcStart (some (g.map (fun (k : Nat) => (k : Int)))) m6) m7) :
    SwapLevelFacts m m7 x ox oy xf := by
  have hdead := dead_at_lower hI hx hrel hR6 hg
  refine ⟨?_, ?_, ?_⟩
  · intro j hj1 hj2 k
    constructor
    · rintro ⟨n, hn, hl⟩
      have h6 := ((hG.nodes k n).mp hn).1
      rcases hrel.classify h6 (fun hf => hf) with ⟨_, _, hl', _⟩ | ⟨n0, hn0, hcase⟩
      · omega
      · rcases hcase with ⟨_, _, e⟩ | ht
        · subst e; exact ⟨n, hn0, hl⟩
        · cases ht <;> simp at hl <;> omega
    · rintro ⟨n, hn, hl⟩
      have h6 := hrel.other k n hn (by omega) (by omega)
      refine ⟨n, (hG.nodes k n).mpr ⟨h6, fun hd => ?_⟩, hl⟩
      obtain ⟨n', hn', hl'⟩ := hdead k hd
      rw [hn] at hn'; cases hn'; omega
  · intro k n hn hl
    have h6 := ((hG.nodes k n).mp hn).1
    rcases hrel.classify h6 (fun hf => hf) with ⟨_, _, hl', _⟩ | ⟨n0, hn0, hcase⟩
    · omega
    · rcases hcase with ⟨h1, _, e⟩ | ht
      · subst e; omega
      · cases ht with
        | up h1 => exact Or.inr ((hoy.mem k).mpr ⟨n0, hn0, h1⟩)
        | indep _ _ _ => simp at hl
        | dep _ _ h1 _ _ _ => exact Or.inl ((hox.mem k).mpr ⟨n0, hn0, h1⟩)
  · intro k n hn hl
    have h6 := ((hG.nodes k n).mp hn).1
    rcases hrel.classify h6 (fun hf => hf) with ⟨h0, _⟩ | ⟨n0, hn0, hcase⟩
    · exact Or.inr (hxf k n h6 hl h0)
    · rcases hcase with ⟨_, h2, e⟩ | ht
      · subst e; omega
      · cases ht with
        | up _ => simp at hl
        | indep h1 _ _ => exact Or.inl ((hox.mem k).mpr ⟨n0, hn0, h1⟩)
        | dep _ _ _ _ _ _ => simp at hl

end DD
