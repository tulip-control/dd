/-
  DDProofs.SwapLoops — the loops of `swap` that move nodes between the two levels:
  `moveUp` (level y up), `moveIndep` (relabel the x-nodes that do not depend on y).
  Each loop keeps the phase invariant `Mid`, with fewer pending nodes; none of the
  `AssertionError`s / `KeyError`s of the Python code can fire.

  All three loops (the third is in DDProofs.SwapDep) process a node by the same rule, `Mid.place`:
  the node receives its `Target` triple, which by `SwapRel.target_fresh` no processed node carries.
-/
import DDProofs.SwapPop
import DDProofs.SwapRef
open Std

namespace DD

/-- the x-node `u` depends on the lower variable -/
def IsDep (t : Tbl) (x u : Nat) : Prop :=
  ∃ n, t.node? u = some n ∧ n.lvl = x ∧ (t.levelOf n.lo = x + 1 ∨ t.levelOf n.hi = x + 1)

theorem IsDep.of_node {t : Tbl} {x u : Nat} {n : Nd} (h : IsDep t x u) (hn : t.node? u = some n) :
    n.lvl = x ∧ (t.levelOf n.lo = x + 1 ∨ t.levelOf n.hi = x + 1) := by
  obtain ⟨n', hn', h⟩ := h
  rw [hn] at hn'; cases hn'
  exact h

theorem mk_mono_insert {t' : Tbl} {i : Nat} {u : Nat} {n nd : Nd} (hu : t'.node? u = some n)
    (hl : n.lvl ≠ i) : ∀ a b r, Mk t' i a b r → Mk { t' with succ := t'.succ.insert u nd } i a b r := by
  intro a b r hm
  refine hm.mono ?_
  intro k nk hlk hk
  rw [node?_insert_ne nd (fun e => by subst e; rw [hu] at hk; cases hk; exact hl hlk)]
  exact hk

/-- the relation when the pending node `u` receives its `Target`.  Overwriting a node of the lower
level could invalidate the `Mk` facts of rebuilt nodes: by `hX` none has been rebuilt then. -/
theorem SwapRel.place {t t' : Tbl} {x : Nat} {pend : Nat → Prop} (h : SwapRel t t' x pend)
    {u : Nat} {n nd : Nd} (hn : t.node? u = some n) (hcur : t'.node? u = some n)
    (ht : Target t t' x n nd)
    (hX : n.lvl = x + 1 → ∀ k nk, t.node? k = some nk → nk.lvl = x → pend k) :
    SwapRel t { t' with succ := t'.succ.insert u nd } x (fun k => pend k ∧ k ≠ u) := by
  have hother : ∀ k, k ≠ u → ({ t' with succ := t'.succ.insert u nd } : Tbl).node? k = t'.node? k :=
    fun k hk => node?_insert_ne nd hk
  have hself := node?_insert_self t' u nd
  have hpk : ∀ {k}, k ≠ u → ¬ (pend k ∧ k ≠ u) → ¬ pend k := fun hk h1 h2 => h1 ⟨h2, hk⟩
  -- the node `u` itself: `nd` is what the field asks for; any other node: as before
  refine ⟨h.nvars, fun k nk hk h1 h2 => ?_, fun k nk hk h1 hp => ?_, fun k nk hk h1 h2 h3 hp => ?_,
    fun k nk hk h1 h2 hp => ?_, fun k nk hk hp => (hother k hp.2).trans (h.pending k nk hk hp.1),
    fun k nk hk hk' => ?_⟩
  · have : k ≠ u := by
      rintro rfl
      rw [hn] at hk
      cases hk
      have := ht.lvl_old
      omega
    rw [hother k this]
    exact h.other k nk hk h1 h2
  · by_cases hku : k = u
    · subst hku
      rw [hn] at hk
      cases hk
      rw [hself]
      cases ht with
      | up _ => rfl
      | indep hl _ _ => omega
      | dep _ _ hl _ _ _ => omega
    · rw [hother k hku]; exact h.up k nk hk h1 (hpk hku hp)
  · by_cases hku : k = u
    · subst hku
      rw [hn] at hk
      cases hk
      rw [hself]
      cases ht with
      | up hl => omega
      | indep _ _ _ => rfl
      | dep _ _ _ hd _ _ => exact hd.elim (absurd · h2) (absurd · h3)
    · rw [hother k hku]; exact h.indep k nk hk h1 h2 h3 (hpk hku hp)
  · by_cases hku : k = u
    · subst hku
      rw [hn] at hk
      cases hk
      cases ht with
      | up hl => omega
      | indep _ a b => exact h2.elim (absurd · a) (absurd · b)
      | dep p q hl _ hp' hq' =>
        have hmk := mk_mono_insert (nd := (⟨x, p, q⟩ : Nd)) hcur (by omega : n.lvl ≠ x + 1)
        exact ⟨p, q, hself, hmk _ _ _ hp', hmk _ _ _ hq'⟩
    · have hp0 := hpk hku hp
      obtain ⟨p, q, hh, hp', hq'⟩ := h.dep k nk hk h1 h2 hp0
      by_cases hl : n.lvl = x + 1
      · exact absurd (hX hl k nk hk h1) hp0
      · have hmk := mk_mono_insert (nd := nd) hcur hl
        exact ⟨p, q, (hother k hku).trans hh, hmk _ _ _ hp', hmk _ _ _ hq'⟩
  · have : k ≠ u := by
      rintro rfl
      rw [hn] at hk
      cases hk
    rw [hother k this] at hk'
    exact h.fresh k nk hk hk'

/-- **One pending node receives its new triple.**  `setNode u nd` succeeds (the `AssertionError` for
a duplicate triple cannot fire: `SwapRel.target_fresh`), the phase invariant holds with `u` no
longer pending, and if the children are the old ones the counts stay exact. -/
theorem Mid.place {m0 m : Mgr} {x : Nat} {pend : Nat → Prop} (hI : Inv m0) (hx : x + 1 < m0.nvars)
    (h : Mid m0 m x pend) {u : Nat} {n nd : Nd} (hn : m0.tbl.node? u = some n) (hpu : pend u)
    (ht : Target m0.tbl m.tbl x n nd)
    (hX : n.lvl = x + 1 → ∀ k nk, m0.tbl.node? k = some nk → nk.lvl = x → pend k)
    (hF : nd.lvl = x + 1 → ∀ k, m0.tbl.node? k = none → m.tbl.node? k = none) :
    ∃ m', DD.setNode u nd m = (.ok (), m') ∧
      m' = { m with tbl := { m.tbl with succ := m.tbl.succ.insert u nd }, pred := m.pred.insert nd.key u } ∧
      Mid m0 m' x (fun k => pend k ∧ k ≠ u) ∧
      (nd.lo = n.lo → nd.hi = n.hi → ∀ ext, RefExact m ext → RefExact m' ext) := by
  have hcur : m.tbl.node? u = some n := h.rel.pending u n hn hpu
  have hfreshKey : ∀ k, m.tbl.node? k = some nd → pend k :=
    fun k hk => h.rel.target_fresh hI.wf hx hn hpu ht hX hF hk
  have hnc : m.pred.contains nd.key = false := by
    rw [TreeMap.contains_eq_isSome_getElem?]
    cases hp : m.pred[nd.key]? with
    | none => rfl
    | some k => exact absurd (hfreshKey k ((h.pred nd k).mp hp).1) ((h.pred nd k).mp hp).2
  have hne_free : u ≠ m.minFree := by rintro rfl; rw [h.free] at hcur; cases hcur
  refine ⟨_, setNode_ok u nd m hnc, rfl, ⟨h.rel.place hn hcur ht hX, fun k hk => h.pendOK k hk.1, ?_,
    h.freeGe, ?_, h.refOne, fun k nk hk => ?_, { h.frame with }⟩,
    fun e1 e2 ext hr => hr.relabel hcur nd e1 e2 rfl rfl⟩
  · exact pred_sync_insert h.pred (fun k hk hnp => hnp (hfreshKey k hk)) (fun _ _ hnp => hnp hpu)
      (fun hh => hh.2 rfl) (fun k hk => ⟨fun hh hp => hh ⟨hp, hk⟩, fun hh hp => hh hp.1⟩)
  · exact (node?_insert_ne _ (Ne.symm hne_free)).trans h.free
  · have hk' : ({ m.tbl with succ := m.tbl.succ.insert u nd } : Tbl).node? k = some nk := hk
    rw [node?_insert] at hk'
    split at hk'
    · subst_vars; exact h.refDom _ _ hcur
    · exact h.refDom _ _ hk'

theorem node?_none_insert {t : Tbl} {t0 : Tbl} {u : Nat} {n : Nd} (nd : Nd) (hn : t0.node? u = some n)
    (hF : ∀ k, t0.node? k = none → t.node? k = none) :
    ∀ k, t0.node? k = none → ({ t with succ := t.succ.insert u nd } : Tbl).node? k = none :=
  fun k hk => (node?_insert_ne _ (fun e => by subst e; rw [hn] at hk; cases hk)).trans (hF k hk)

/-- once the lower level has moved up, a reference that was not above the lower level is now
at the upper level exactly when it was at the lower one -/
theorem Mid.lvl_child {m0 m : Mgr} {x : Nat} {pend : Nat → Prop} (h : Mid m0 m x pend)
    (hx : x + 1 < m0.nvars)
    (hY : ∀ k n, m0.tbl.node? k = some n → n.lvl = x + 1 → ¬ pend k)
    {c : Int} (hc : m0.tbl.Mem c) (hl : x + 1 ≤ m0.tbl.levelOf c) :
    m.tbl.levelOf c = if m0.tbl.levelOf c = x + 1 then x else m0.tbl.levelOf c := by
  by_cases he : m0.tbl.levelOf c = x + 1
  · obtain ⟨h1, n, hn, hny⟩ := node_of_level m0.tbl c (x + 1) hc he hx
    rw [if_pos he, levelOf_node m.tbl c _ h1 (h.rel.up _ n hn hny (hY _ n hn hny))]
  · rw [if_neg he]
    exact h.rel.lvl_above hc (by omega)

theorem lowHighLevel_ok (m : Mgr) (c : Int) (hc : m.tbl.Mem c) :
    lowHighLevel c m = (.ok (m.tbl.levelOf c), m) := by
  unfold lowHighLevel
  simp only [M.bind_eq, M.get_eq, Tbl.levelOf?_eq _ _ hc, M.ofOption_some]

theorem moveUp_spec (m0 : Mgr) (hI : Inv m0) (x : Nat) (hx : x + 1 < m0.nvars) :
    ∀ (l : List Nat) (m : Mgr) (pend : Nat → Prop),
    Mid m0 m x pend → l.Nodup →
    (∀ u ∈ l, pend u ∧ ∃ n, m0.tbl.node? u = some n ∧ n.lvl = x + 1) →
    (∀ k n, m0.tbl.node? k = some n → n.lvl = x → pend k) →
    (∀ k, m0.tbl.node? k = none → m.tbl.node? k = none) →
    ∃ m', moveUp x (x + 1) (l.map (trip m0.tbl)) m = (.ok (), m') ∧
      Mid m0 m' x (fun k => pend k ∧ k ∉ l) ∧
      (∀ k, m0.tbl.node? k = none → m'.tbl.node? k = none) ∧
      (∀ ext, RefExact m ext → RefExact m' ext) := by
  intro l
  induction l with
  | nil =>
    intro m pend hM _ _ _ hF
    exact ⟨m, rfl, hM.congr (fun k => by simp), hF, fun _ h => h⟩
  | cons u rest ih =>
    intro m pend hM hnd hl hX hF
    rw [List.nodup_cons] at hnd
    obtain ⟨hpu, n, hn, hlv⟩ := hl u List.mem_cons_self
    have hcur : m.tbl.succ[u]? = some n := hM.rel.pending u n hn hpu
    obtain ⟨m1, hrun, hm1, hM1, hR1⟩ := hM.place hI hx hn hpu (.up hlv) (fun _ => hX)
      (fun h => absurd h (by show x ≠ x + 1; omega))
    obtain ⟨m', hrun', hM', hF', hR'⟩ := ih m1 (fun k => pend k ∧ k ≠ u) hM1 hnd.2
      (fun k hk => ⟨⟨(hl k (List.mem_cons_of_mem _ hk)).1, fun e => hnd.1 (e ▸ hk)⟩,
        (hl k (List.mem_cons_of_mem _ hk)).2⟩)
      (fun k nk hnk h1 => ⟨hX k nk hnk h1, fun e => by subst e; rw [hn] at hnk; cases hnk; omega⟩)
      (hm1 ▸ node?_none_insert _ hn hF)
    refine ⟨m', ?_, hM'.congr (fun k => by simp only [List.mem_cons, not_or, and_assoc, ne_eq]), hF',
      fun ext hr => hR' ext (hR1 rfl rfl ext hr)⟩
    have ht : trip m0.tbl u = (u, n.lo, n.hi) := by simp [trip, hn]
    simp only [List.map_cons, ht]
    unfold moveUp
    simp only [M.bind_eq, M.get_eq, hcur, M.ofOption_some, hlv, decide_true, M.assert_true]
    rw [hrun]
    exact hrun'


theorem moveIndep_spec (m0 : Mgr) (hI : Inv m0) (x : Nat) (hx : x + 1 < m0.nvars) :
    ∀ (l : List Nat) (m : Mgr) (pend : Nat → Prop),
    Mid m0 m x pend → l.Nodup →
    (∀ u ∈ l, pend u ∧ ∃ n, m0.tbl.node? u = some n ∧ n.lvl = x) →
    (∀ k n, m0.tbl.node? k = some n → n.lvl = x + 1 → ¬ pend k) →
    (∀ k, m0.tbl.node? k = none → m.tbl.node? k = none) →
    ∃ done m', moveIndep x (x + 1) (l.map (trip m0.tbl)) m = (.ok done, m') ∧
      (∀ k, k ∈ done ↔ (k ∈ l ∧ ¬ IsDep m0.tbl x k)) ∧
      Mid m0 m' x (fun k => pend k ∧ k ∉ done) ∧
      (∀ k, m0.tbl.node? k = none → m'.tbl.node? k = none) ∧
      (∀ ext, RefExact m ext → RefExact m' ext) := by
  have hW := hI.wf.toWF
  intro l
  induction l with
  | nil =>
    intro m pend hM _ _ _ hF
    exact ⟨[], m, rfl, fun k => by simp, hM.congr (fun k => by simp), hF, fun _ h => h⟩
  | cons u rest ih =>
    intro m pend hM hnd hl hY hF
    rw [List.nodup_cons] at hnd
    obtain ⟨hpu, n, hn, hlv⟩ := hl u List.mem_cons_self
    have hcur : m.tbl.succ[u]? = some n := hM.rel.pending u n hn hpu
    have mlo := hW.lo_mem _ _ hn
    have mhi := hW.hi_mem _ _ hn
    obtain ⟨glo, ghi⟩ := child_lvl_ge hW hn hlv
    have hlo0 : n.lo ≠ 0 := mem_ne_zero hW mlo
    have hhi0 : n.hi ≠ 0 := mem_ne_zero hW mhi
    have ht : trip m0.tbl u = (u, n.lo, n.hi) := by simp [trip, hn]
    have hrest : ∀ k ∈ rest, (pend k ∧ ∃ n, m0.tbl.node? k = some n ∧ n.lvl = x) :=
      fun k hk => hl k (List.mem_cons_of_mem _ hk)
    have hdepu : IsDep m0.tbl x u ↔ (m0.tbl.levelOf n.lo = x + 1 ∨ m0.tbl.levelOf n.hi = x + 1) :=
      ⟨fun h => (h.of_node hn).2, fun hd => ⟨n, hn, hlv, hd⟩⟩
    simp only [List.map_cons, ht]
    rw [moveIndep]
    simp only [M.bind_eq, M.get_eq, hcur, M.ofOption_some, hlv, decide_true, M.assert_true,
      hlo0, hhi0, ne_eq, not_false_eq_true, Bool.and_self,
      lowHighLevel_ok m n.lo (hM.mem0 mlo), lowHighLevel_ok m n.hi (hM.mem0 mhi),
      hM.lvl_child hx hY mlo glo, hM.lvl_child hx hY mhi ghi]
    by_cases hdep : m0.tbl.levelOf n.lo = x + 1 ∨ m0.tbl.levelOf n.hi = x + 1
    · -- depends on the lower variable: left for the third loop
      rw [if_pos (by rcases hdep with h | h <;> simp [h])]
      obtain ⟨done, m', hrun, hdone, hM', hF', hR'⟩ := ih m pend hM hnd.2 hrest hY hF
      refine ⟨done, m', hrun, fun k => ?_, hM', hF', hR'⟩
      rw [hdone, List.mem_cons]
      exact ⟨fun ⟨a, b⟩ => ⟨Or.inr a, b⟩, fun ⟨a, b⟩ => ⟨a.resolve_left (fun e => b (e ▸ hdepu.mpr hdep)), b⟩⟩
    · -- independent: relabel
      have hlo : m0.tbl.levelOf n.lo ≠ x + 1 := fun e => hdep (Or.inl e)
      have hhi : m0.tbl.levelOf n.hi ≠ x + 1 := fun e => hdep (Or.inr e)
      have llo : ¬ m0.tbl.levelOf n.lo ≤ x + 1 := by omega
      have lhi : ¬ m0.tbl.levelOf n.hi ≤ x + 1 := by omega
      rw [if_neg hlo, if_neg hhi, decide_eq_false llo, decide_eq_false lhi, if_neg (by decide)]
      obtain ⟨m1, hrun1, hm1, hM1, hR1⟩ := hM.place hI hx hn hpu (.indep hlv hlo hhi)
        (fun h => by omega) (fun _ => hF)
      obtain ⟨done, m', hrun, hdone, hM', hF', hR'⟩ := ih m1 (fun k => pend k ∧ k ≠ u) hM1 hnd.2
        (fun k hk => ⟨⟨(hrest k hk).1, fun e => hnd.1 (e ▸ hk)⟩, (hrest k hk).2⟩)
        (fun k nk hnk h1 hp => hY k nk hnk h1 hp.1) (hm1 ▸ node?_none_insert _ hn hF)
      refine ⟨u :: done, m', ?_, fun k => ?_,
        hM'.congr (fun k => by simp only [List.mem_cons, not_or, and_assoc, ne_eq]), hF',
        fun ext hr => hR' ext (hR1 rfl rfl ext hr)⟩
      · rw [M.bind_ok hrun1, M.bind_ok hrun]; rfl
      · simp only [List.mem_cons, hdone]
        constructor
        · rintro (rfl | ⟨a, b⟩)
          · exact ⟨Or.inl rfl, fun h => hdep (hdepu.mp h)⟩
          · exact ⟨Or.inr a, b⟩
        · rintro ⟨rfl | a, b⟩
          · exact Or.inl rfl
          · exact Or.inr ⟨a, b⟩


end DD
