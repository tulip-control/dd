/-
  DDProofs.SwapMid — the phase invariant `Mid` of `swap` and the generic steps that keep it.

  During the swap the manager is NOT consistent: the unique table lacks the entries of the
  nodes still to be processed (`pend`), and those nodes carry their old triple although the
  levels around them have already changed.  `Mid m0 m x pend` says that the node table of `m`
  is related to the table of the state `m0` before the swap by `SwapRel … pend`, that the
  unique table is in sync with exactly the non-pending nodes, and the bookkeeping facts
  (`min_free`, domain of `_ref`, untouched fields).  It is kept by counter changes and by a
  `find_or_add` that creates a node at the lower level; the step in which a pending node gets its
  new triple and re-enters the unique table is `Mid.place` (DDProofs.SwapLoops).
-/
import DDProofs.SwapSem
import DDProofs.MonadM
import DD.Order
import DDProofs.FindOrAdd
open Std

namespace DD

structure Mid (m0 m : Mgr) (x : Nat) (pend : Nat → Prop) : Prop where
  rel : SwapRel m0.tbl m.tbl x pend
  /-- only nodes of the two levels are ever pending -/
  pendOK : ∀ u, pend u → ∃ n, m0.tbl.node? u = some n ∧ (n.lvl = x ∨ n.lvl = x + 1)
  /-- the unique table holds exactly the non-pending nodes -/
  pred : ∀ (n : Nd) (u : Nat), m.pred[n.key]? = some u ↔ (m.tbl.node? u = some n ∧ ¬ pend u)
  freeGe : 2 ≤ m.minFree
  free : m.tbl.node? m.minFree = none
  refOne : m.ref.contains 1 = true
  refDom : ∀ u n, m.tbl.node? u = some n → m.ref.contains u = true
  frame : Frame m0 m

namespace Mid
variable {m0 m : Mgr} {x : Nat} {pend : Nat → Prop}

theorem congr {pend' : Nat → Prop} (h : Mid m0 m x pend) (he : ∀ k, pend k ↔ pend' k) :
    Mid m0 m x pend' := by
  have : pend = pend' := funext fun k => propext (he k)
  rw [← this]; exact h

theorem nvars (h : Mid m0 m x pend) : m.nvars = m0.nvars := h.rel.nvars

theorem mem0 (h : Mid m0 m x pend) {c : Int} (hc : m0.tbl.Mem c) : m.tbl.Mem c := h.rel.mem hc

theorem refMem (h : Mid m0 m x pend) {c : Int} (hc : m.tbl.Mem c) : m.ref.contains c.natAbs = true := by
  rcases hc with h1 | h1
  · rw [h1]; exact h.refOne
  · obtain ⟨n, hn⟩ := Option.isSome_iff_exists.mp h1
    exact h.refDom _ _ hn

theorem pend_node (h : Mid m0 m x pend) {u : Nat} (hp : pend u) :
    ∃ n, m0.tbl.node? u = some n ∧ m.tbl.node? u = some n ∧ (n.lvl = x ∨ n.lvl = x + 1) := by
  obtain ⟨n, hn, hl⟩ := h.pendOK u hp
  exact ⟨n, hn, h.rel.pending u n hn hp, hl⟩

theorem ge_two (h : Mid m0 m x pend) (hw : WF m0.tbl) {k : Nat} {n : Nd} (hk : m.tbl.node? k = some n) :
    2 ≤ k := by
  cases hn : m0.tbl.node? k with
  | none => exact (h.rel.fresh k n hn hk).1
  | some n0 => exact hw.ge_two _ _ hn

theorem quiet (h : Mid m0 m x pend) (hoff : m0.ctx = false ∨ m0.lastLen = none) :
    m.ctx = false ∨ m.lastLen = none :=
  hoff.imp h.frame.ctx.trans h.frame.lastLen.trans

theorem free_ne (h : Mid m0 m x pend) {c : Int} (hc : m.tbl.Mem c) : c.natAbs ≠ m.minFree := by
  intro e
  rcases hc with h1 | h1
  · have := h.freeGe; omega
  · rw [e, h.free] at h1; cases h1

end Mid

/-- only the counters changed, and their key set did not -/
structure RefOnly (m m' : Mgr) : Prop where
  tbl : m'.tbl = m.tbl
  pred : m'.pred = m.pred
  minFree : m'.minFree = m.minFree
  cache : m'.cache = m.cache
  lastLen : m'.lastLen = m.lastLen
  ctx : m'.ctx = m.ctx
  fireIn : m'.fireIn = m.fireIn
  sched : m'.sched = m.sched
  roots : m'.roots = m.roots
  keys : ∀ k, m'.ref.contains k = m.ref.contains k

theorem Mid.refOnly {m0 m m' : Mgr} {x : Nat} {pend : Nat → Prop} (h : Mid m0 m x pend)
    (hr : RefOnly m m') : Mid m0 m' x pend := by
  refine ⟨by rw [hr.tbl]; exact h.rel, h.pendOK, ?_, by rw [hr.minFree]; exact h.freeGe,
    by rw [hr.minFree, hr.tbl]; exact h.free, by rw [hr.keys]; exact h.refOne, ?_,
    ⟨by rw [hr.tbl]; exact h.frame.vars, by rw [hr.tbl]; exact h.frame.l2v,
     hr.lastLen.trans h.frame.lastLen, hr.ctx.trans h.frame.ctx, hr.sched.trans h.frame.sched,
     hr.roots.trans h.frame.roots⟩⟩
  · intro n u; rw [hr.pred, hr.tbl]; exact h.pred n u
  · intro u n hn; rw [hr.keys]; rw [hr.tbl] at hn; exact h.refDom u n hn

theorem RefOnly.setRef (m : Mgr) {k c : Nat} (c' : Nat) (hc : m.ref[k]? = some c) :
    RefOnly m { m with ref := m.ref.insert k c' } := by
  refine ⟨rfl, rfl, rfl, rfl, rfl, rfl, rfl, rfl, rfl, fun j => ?_⟩
  show (m.ref.insert k c').contains j = m.ref.contains j
  rw [TreeMap.contains_insert]
  by_cases hk : k = j
  · subst hk
    rw [TreeMap.contains_eq_isSome_getElem?, hc]; simp
  · simp [hk]

theorem decref_frame (m : Mgr) (u : Int) (h : m.ref.contains u.natAbs = true) :
    ∃ m', decref u m = (.ok (), m') ∧ RefOnly m m' := by
  rw [TreeMap.contains_eq_isSome_getElem?] at h
  obtain ⟨c, hc⟩ := Option.isSome_iff_exists.mp h
  unfold decref
  rw [hc]
  by_cases h0 : c = 0
  · exact ⟨m, by simp [h0], ⟨rfl, rfl, rfl, rfl, rfl, rfl, rfl, rfl, rfl, fun _ => rfl⟩⟩
  · exact ⟨{ m with ref := m.ref.insert u.natAbs (c - 1) }, by simp [h0], .setRef m (c - 1) hc⟩

theorem incref_frame (m : Mgr) (u : Int) (h : m.ref.contains u.natAbs = true) :
    ∃ m', incref u m = (.ok (), m') ∧ RefOnly m m' := by
  rw [TreeMap.contains_eq_isSome_getElem?] at h
  obtain ⟨c, hc⟩ := Option.isSome_iff_exists.mp h
  exact ⟨_, incref_eq m u c hc, .setRef m (c + 1) hc⟩

theorem setNode_ok (u : Nat) (n : Nd) (m : Mgr) (h : m.pred.contains n.key = false) :
    setNode u n m = (.ok (), { m with tbl := { m.tbl with succ := m.tbl.succ.insert u n },
                                      pred := m.pred.insert n.key u }) := by
  unfold setNode
  simp only [M.bind_eq, M.get, M.assert, h, M.set]
  rfl

theorem node?_insert_ne {t : Tbl} {u k : Nat} (nd : Nd) (h : k ≠ u) :
    ({ t with succ := t.succ.insert u nd } : Tbl).node? k = t.node? k := by
  rw [node?_insert, if_neg (fun e => h e.symm)]

theorem node?_insert_self (t : Tbl) (u : Nat) (nd : Nd) :
    ({ t with succ := t.succ.insert u nd } : Tbl).node? u = some nd := by
  rw [node?_insert, if_pos rfl]

theorem key_ne_of_ne {a b : Nd} (h : a ≠ b) : compare a.key b.key ≠ .eq := by
  intro he
  exact h (Nd.key_inj (LawfulEqOrd.eq_of_compare he))

/-- entering `nd` at `u`, in the node table and in the unique table, keeps the unique table in sync
with the nodes satisfying `P` (now `P'`, which holds of `u`), provided no such node carries `nd`
and `u` was not one of them -/
theorem pred_sync_insert {pr : TreeMap (List Int) Nat} {t : Tbl} {P P' : Nat → Prop} {u : Nat} {nd : Nd}
    (h : ∀ (n : Nd) (k : Nat), pr[n.key]? = some k ↔ (t.node? k = some n ∧ P k))
    (hkey : ∀ k, t.node? k = some nd → ¬ P k) (hu : ∀ n, t.node? u = some n → ¬ P u)
    (hPu : P' u) (hPo : ∀ k, k ≠ u → (P' k ↔ P k)) :
    ∀ (n : Nd) (k : Nat), (pr.insert nd.key u)[n.key]? = some k ↔
      (({ t with succ := t.succ.insert u nd } : Tbl).node? k = some n ∧ P' k) := by
  intro n k
  rw [TreeMap.getElem?_insert, node?_insert]
  by_cases hn : nd = n
  · subst hn
    simp only [compare_self, if_true]
    constructor
    · intro e
      cases e
      exact ⟨by simp, hPu⟩
    · intro ⟨e1, e2⟩
      by_cases hk : u = k
      · rw [hk]
      · simp only [hk, if_false] at e1
        exact absurd ((hPo k (Ne.symm hk)).mp e2) (hkey k e1)
  · simp only [key_ne_of_ne hn, if_false]
    rw [h]
    constructor
    · intro ⟨e1, e2⟩
      have hk : u ≠ k := by intro e; subst e; exact hu n e1 e2
      exact ⟨by simp [hk, e1], (hPo k hk.symm).mpr e2⟩
    · intro ⟨e1, e2⟩
      by_cases hk : u = k
      · simp only [hk, if_true] at e1
        exact absurd (Option.some.inj e1) hn
      · simp only [hk, if_false] at e1
        exact ⟨e1, (hPo k (Ne.symm hk)).mp e2⟩

/-- the stored low child: complemented when the high child is -/
def normA (a b : Int) : Int := if b < 0 then -a else a
/-- the stored (regular) high child -/
def normB (b : Int) : Int := if b < 0 then -b else b
/-- the sign of the returned reference -/
def sgn (b : Int) : Int := if b < 0 then -1 else 1

/-- the state after `find_or_add` created the node `nd` at `min_free` -/
structure FoaNew (m : Mgr) (nd : Nd) (m' : Mgr) : Prop where
  tbl : m'.tbl = { m.tbl with succ := m.tbl.succ.insert m.minFree nd }
  pred : m'.pred = m.pred.insert nd.key m.minFree
  refMono : ∀ k, m.ref.contains k = true → m'.ref.contains k = true
  refNew : m'.ref.contains m.minFree = true
  freeGe : 2 ≤ m'.minFree
  free : m'.tbl.node? m'.minFree = none
  cache : m'.cache = m.cache
  lastLen : m'.lastLen = m.lastLen
  ctx : m'.ctx = m.ctx
  fireIn : m'.fireIn = m.fireIn
  sched : m'.sched = m.sched
  roots : m'.roots = m.roots

/-- `find_or_add(i, a, b)` needs no ordering invariant: with both children present, a valid
`min_free` and counters for all nodes it (1) returns `a` when `a = b`, (2) returns the signed
number found in the unique table, or (3) creates the normalised node at `min_free`. -/
theorem findOrAddCore_struct (m : Mgr) (i : Nat) (a b : Int) (hi : i < m.nvars)
    (ha : m.tbl.Mem a) (hb : m.tbl.Mem b) (hge : 2 ≤ m.minFree)
    (hfree : m.tbl.node? m.minFree = none)
    (href : ∀ c : Int, m.tbl.Mem c → m.ref.contains c.natAbs = true) :
    (a = b ∧ findOrAddCore i a b m = (.ok a, m)) ∨
    (a ≠ b ∧ ∃ k, m.pred[(⟨i, normA a b, normB b⟩ : Nd).key]? = some k ∧
      findOrAddCore i a b m = (.ok (sgn b * (k : Int)), m)) ∨
    (a ≠ b ∧ m.pred[(⟨i, normA a b, normB b⟩ : Nd).key]? = none ∧
      ∃ m', findOrAddCore i a b m = (.ok (sgn b * (m.minFree : Int)), m') ∧
        FoaNew m ⟨i, normA a b, normB b⟩ m') := by
  have hsgn : ∀ x : Int, sgn b * x = if b < 0 then -x else x := by
    intro x; unfold sgn; split <;> simp
  rcases findOrAddCore_eq m i a b
      (fun u hu => by rw [← TreeMap.contains_eq_isSome_getElem?]; exact href u hu)
      ⟨i, normA a b, normB b⟩ rfl with ⟨e, -, hn⟩ | ⟨-, -, -, h⟩
  · exact absurd ⟨hi, ha, hb, hge, hfree⟩ hn
  rcases h with h | ⟨hab, k, hk, he⟩ | ⟨hab, hp, -, -, c1, c2, -, -, he⟩
  · exact Or.inl h
  · exact Or.inr (Or.inl ⟨hab, k, hk, by rw [hsgn]; exact he⟩)
  · rw [← hsgn] at he
    refine Or.inr (Or.inr ⟨hab, hp, _, he, rfl, rfl, fun k hk => ?_, ?_, ?_, ?_, rfl, rfl, rfl, rfl, rfl, rfl⟩)
    · exact contains_insert_mono _ _ _ _ (contains_insert_mono _ _ _ _ (contains_insert_mono _ _ _ _ hk))
    · exact contains_insert_mono _ _ _ _ (contains_insert_mono _ _ _ _ (TreeMap.contains_insert_self))
    · exact Nat.le_trans hge (nextFree_ge _ _ _)
    · exact node?_none_of_not_contains _ _ (nextFree_not_contains _ _ hge)

theorem FoaNew.node? {m m' : Mgr} {nd : Nd} (hf : FoaNew m nd m') (k : Nat) :
    m'.tbl.node? k = if m.minFree = k then some nd else m.tbl.node? k := by
  rw [hf.tbl, node?_insert]

theorem FoaNew.mono {m m' : Mgr} {nd : Nd} (hf : FoaNew m nd m') (hfree : m.tbl.node? m.minFree = none)
    {k : Nat} {n : Nd} (hk : m.tbl.node? k = some n) : m'.tbl.node? k = some n := by
  rw [hf.node?, if_neg fun e => by rw [← e, hfree] at hk; cases hk]
  exact hk

theorem mk_of_found {t : Tbl} {i : Nat} {a b : Int} {k : Nat} (hab : a ≠ b) (hk : 2 ≤ k)
    (hn : t.node? k = some ⟨i, normA a b, normB b⟩) : Mk t i a b (sgn b * (k : Int)) :=
  Or.inr ⟨hab, k, hk, hn, rfl⟩

theorem Mid.addFresh {m0 m m' : Mgr} {x : Nat} {pend : Nat → Prop} (h : Mid m0 m x pend)
    {nd : Nd} (hf : FoaNew m nd m') (hnone : m.pred[nd.key]? = none)
    (hl : nd.lvl = x + 1) (mlo : m0.tbl.Mem nd.lo) (mhi : m0.tbl.Mem nd.hi)
    (llo : x + 1 < m0.tbl.levelOf nd.lo) (lhi : x + 1 < m0.tbl.levelOf nd.hi)
    (hpos : 0 < nd.hi) (hne : nd.lo ≠ nd.hi) : Mid m0 m' x pend := by
  have hnode := hf.node?
  have hold : ∀ k n, m.tbl.node? k = some n → m'.tbl.node? k = some n :=
    fun _ _ => hf.mono h.free
  have hnp : ¬ pend m.minFree := by
    intro hp
    obtain ⟨n, _, hn, _⟩ := h.pend_node hp
    rw [h.free] at hn; cases hn
  have hmk : ∀ a b r, Mk m.tbl (x + 1) a b r → Mk m'.tbl (x + 1) a b r :=
    fun a b r hm => hm.mono (fun k n _ hk => hold k n hk)
  refine ⟨⟨?_, ?_, ?_, ?_, ?_, ?_, ?_⟩, h.pendOK, ?_, hf.freeGe, hf.free, hf.refMono _ h.refOne, ?_,
    ⟨?_, ?_, hf.lastLen.trans h.frame.lastLen, hf.ctx.trans h.frame.ctx,
      hf.sched.trans h.frame.sched, hf.roots.trans h.frame.roots⟩⟩
  · show m'.tbl.nvars = m0.tbl.nvars
    rw [hf.tbl]; exact h.rel.nvars
  · intro u n hn h1 h2; exact hold _ _ (h.rel.other u n hn h1 h2)
  · intro u n hn h1 hp; exact hold _ _ (h.rel.up u n hn h1 hp)
  · intro u n hn h1 h2 h3 hp; exact hold _ _ (h.rel.indep u n hn h1 h2 h3 hp)
  · intro u n hn h1 h2 hp
    obtain ⟨p, q, hh, hp', hq'⟩ := h.rel.dep u n hn h1 h2 hp
    exact ⟨p, q, hold _ _ hh, hmk _ _ _ hp', hmk _ _ _ hq'⟩
  · intro u n hn hp; exact hold _ _ (h.rel.pending u n hn hp)
  · intro u n hn hk
    rw [hnode] at hk
    split at hk
    · cases hk; subst_vars
      exact ⟨h.freeGe, hl, mlo, mhi, llo, lhi, hpos, hne⟩
    · exact h.rel.fresh u n hn hk
  · rw [hf.pred, hf.tbl]
    refine pred_sync_insert h.pred (fun k hk hnp => ?_) (fun n hn => ?_) hnp (fun _ _ => Iff.rfl)
    · rw [(h.pred nd k).mpr ⟨hk, hnp⟩] at hnone
      cases hnone
    · rw [h.free] at hn
      cases hn
  · intro k n hk
    rw [hnode] at hk
    split at hk
    · subst_vars; exact hf.refNew
    · exact hf.refMono _ (h.refDom _ _ hk)
  · rw [hf.tbl]; exact h.frame.vars
  · rw [hf.tbl]; exact h.frame.l2v

end DD
