/-
  DDProofs.SwapPop — the first two loops of `swap`: the iteration orders (any permutation of
  the nodes of a level — the schedule) and the removal of the unique-table entries of the two
  levels (`popLevel`), ending in the phase invariant `Mid` with every node of the two levels
  pending.
-/
import DDProofs.SwapMid
import DDProofs.SatList
open Std

namespace DD

theorem nodesAt_eq (t : Tbl) (j : Nat) :
    nodesAt t j = (t.succ.toList.filter (fun p => decide (p.2.lvl = j))).map (·.1) :=
  foldl_select_keys t.succ fun _ n => n.lvl = j

theorem mem_nodesAt (t : Tbl) (j u : Nat) :
    u ∈ nodesAt t j ↔ ∃ n, t.node? u = some n ∧ n.lvl = j := by
  rw [nodesAt_eq]
  simp only [List.mem_map, List.mem_filter, decide_eq_true_eq]
  constructor
  · rintro ⟨⟨k, n⟩, ⟨hm, hl⟩, rfl⟩
    exact ⟨n, TreeMap.mem_toList_iff_getElem?_eq_some.mp hm, hl⟩
  · rintro ⟨n, hn, hl⟩
    exact ⟨(u, n), ⟨TreeMap.mem_toList_iff_getElem?_eq_some.mpr hn, hl⟩, rfl⟩

theorem nodup_nodesAt (t : Tbl) (j : Nat) : (nodesAt t j).Nodup :=
  nodesAt_eq t j ▸ nodup_select_keys t.succ _

theorem isPerm_spec {a b : List Nat} (h : isPerm a b = true) (hb : b.Nodup) :
    a.Nodup ∧ ∀ u, u ∈ a ↔ u ∈ b := by
  unfold isPerm at h
  simp only [Bool.and_eq_true, beq_iff_eq, List.all_eq_true, List.contains_iff_mem] at h
  obtain ⟨⟨hl, h1⟩, h2⟩ := h
  refine ⟨(perm_of_nodup_subset_length hb (fun z hz => h2 z hz) (by omega)).nodup hb, fun u => ⟨h1 u, h2 u⟩⟩

/-- an iteration order of the nodes at level `j`: every node of the level exactly once -/
structure LevelOrder (t : Tbl) (j : Nat) (l : List Nat) : Prop where
  nodup : l.Nodup
  mem : ∀ u, u ∈ l ↔ ∃ n, t.node? u = some n ∧ n.lvl = j

theorem LevelOrder.default (t : Tbl) (j : Nat) : LevelOrder t j (nodesAt t j) :=
  ⟨nodup_nodesAt t j, mem_nodesAt t j⟩

theorem LevelOrder.disjoint {t : Tbl} {j j' : Nat} {l l' : List Nat} (h : LevelOrder t j l)
    (h' : LevelOrder t j' l') (hne : j ≠ j') {u : Nat} (hu : u ∈ l) : u ∉ l' := by
  intro hu'
  obtain ⟨n, hn, hl⟩ := (h.mem u).mp hu
  obtain ⟨n', hn', hl'⟩ := (h'.mem u).mp hu'
  rw [hn] at hn'; cases hn'
  exact hne (hl.symm.trans hl')

/-- `takeSwapOrders` does nothing but consume the recorded schedule, from the front; when it
returns, it yields two level orders; every other outcome is the model's schedule-mismatch report,
which needs a recorded schedule -/
theorem takeSwapOrders_run (x y : Nat) (m : Mgr) :
    Ends (fun r m' => (∃ s, s <:+ m.sched ∧ m' = { m with sched := s }) ∧
        LevelOrder m.tbl x r.1 ∧ LevelOrder m.tbl y r.2)
      (fun e m' => e = Err.sched ∧ m.sched ≠ [] ∧ ∃ s, s <:+ m.sched ∧ m' = { m with sched := s })
      (takeSwapOrders x y m) := by
  unfold takeSwapOrders
  simp only [M.bind_eq, M.get_eq]
  cases hs : m.sched with
  | nil =>
    simp only
    exact ⟨⟨m.sched, by rw [hs]; exact List.suffix_refl _, rfl⟩, LevelOrder.default _ _,
      LevelOrder.default _ _⟩
  | cons it rest =>
    cases it with
    | sift names =>
      exact ⟨rfl, List.cons_ne_nil _ _, m.sched, by rw [hs]; exact List.suffix_refl _, rfl⟩
    | swap lv =>
      simp only
      by_cases hp : (isPerm ((lv.lookup x).getD []) (nodesAt m.tbl x) &&
          isPerm ((lv.lookup y).getD []) (nodesAt m.tbl y)) = true
      · rw [if_pos hp]
        simp only [Bool.and_eq_true] at hp
        obtain ⟨n1, e1⟩ := isPerm_spec hp.1 (nodup_nodesAt _ _)
        obtain ⟨n2, e2⟩ := isPerm_spec hp.2 (nodup_nodesAt _ _)
        exact ⟨⟨rest, List.suffix_cons _ _, rfl⟩, ⟨n1, fun u => (e1 u).trans (mem_nodesAt _ _ _)⟩,
          ⟨n2, fun u => (e2 u).trans (mem_nodesAt _ _ _)⟩⟩
      · rw [if_neg hp]; exact ⟨rfl, List.cons_ne_nil _ _, rest, List.suffix_cons _ _, rfl⟩

theorem takeSwapOrders_cases (x y : Nat) (m : Mgr) :
    ∃ s, s <:+ m.sched ∧ (takeSwapOrders x y m).2 = { m with sched := s } :=
  (takeSwapOrders_run x y m).elim (fun _ _ h => h.1) fun _ _ h => h.2.2

/-- the entry `levels[j][u] = (v, w)` -/
def trip (t : Tbl) (u : Nat) : Nat × Int × Int :=
  match t.node? u with
  | some n => (u, n.lo, n.hi)
  | none => (u, 0, 0)

theorem trip_fst (t : Tbl) (u : Nat) : (trip t u).1 = u := by
  unfold trip; split <;> rfl

theorem map_trip_fst (t : Tbl) (l : List Nat) : (l.map (trip t)).map (·.1) = l := by
  induction l with
  | nil => rfl
  | cons a r ih => simp [trip_fst, ih]

/-- the first loop of `swap` for one level: the unique-table entries of the listed nodes are
removed (no `KeyError`, no `AssertionError`), nothing else changes -/
theorem popLevel_spec (j : Nat) : ∀ (l : List Nat) (m : Mgr) (Out : Nat → Prop),
    (∀ n u, m.pred[n.key]? = some u ↔ (m.tbl.node? u = some n ∧ ¬ Out u)) →
    l.Nodup → (∀ u ∈ l, ¬ Out u ∧ ∃ n, m.tbl.node? u = some n ∧ n.lvl = j) →
    ∃ pr, popLevel j l m = (.ok (l.map (trip m.tbl)), { m with pred := pr }) ∧
      ∀ n u, pr[n.key]? = some u ↔ (m.tbl.node? u = some n ∧ ¬ (Out u ∨ u ∈ l)) := by
  intro l
  induction l with
  | nil =>
    intro m Out hp _ _
    refine ⟨m.pred, rfl, ?_⟩
    intro n u; rw [hp]; simp
  | cons u rest ih =>
    intro m Out hp hnd hl
    rw [List.nodup_cons] at hnd
    obtain ⟨hout, n, hn, hj⟩ := hl u List.mem_cons_self
    have hpu : m.pred[n.key]? = some u := (hp n u).mpr ⟨hn, hout⟩
    have hn' : m.tbl.succ[u]? = some n := hn
    let m1 : Mgr := { m with pred := m.pred.erase n.key }
    have hp1 : ∀ n' u', m1.pred[n'.key]? = some u' ↔
        (m1.tbl.node? u' = some n' ∧ ¬ ((fun k => Out k ∨ k = u) u')) := by
      intro n' u'
      show (m.pred.erase n.key)[n'.key]? = some u' ↔ (m.tbl.node? u' = some n' ∧ ¬ (Out u' ∨ u' = u))
      rw [TreeMap.getElem?_erase]
      by_cases hnn : n = n'
      · subst hnn
        simp only [compare_self, if_true]
        constructor
        · intro e; cases e
        · intro ⟨e1, e2⟩
          exfalso
          have := (hp n u').mpr ⟨e1, fun ho => e2 (Or.inl ho)⟩
          rw [hpu] at this
          exact e2 (Or.inr (Option.some.inj this).symm)
      · simp only [key_ne_of_ne hnn, if_false]
        rw [hp]
        constructor
        · intro ⟨e1, e2⟩
          refine ⟨e1, ?_⟩
          rintro (ho | rfl)
          · exact e2 ho
          · rw [hn] at e1; exact hnn (Option.some.inj e1)
        · intro ⟨e1, e2⟩
          exact ⟨e1, fun ho => e2 (Or.inl ho)⟩
    obtain ⟨pr, hrun, hpr⟩ := ih m1 (fun k => Out k ∨ k = u) hp1 hnd.2 (by
      intro k hk
      obtain ⟨ho, hh⟩ := hl k (List.mem_cons_of_mem _ hk)
      refine ⟨?_, hh⟩
      rintro (h1 | rfl)
      · exact ho h1
      · exact hnd.1 hk)
    refine ⟨pr, ?_, ?_⟩
    · unfold popLevel
      simp only [M.bind_eq, M.get_eq, hn', M.ofOption_some, hj, decide_true, M.assert_true, hpu,
        M.modify_eq]
      have : popLevel j rest { m with pred := m.pred.erase n.key } =
          (.ok (rest.map (trip m.tbl)), { m with pred := pr }) := hrun
      rw [this]
      simp only [M.pure_eq, List.map_cons]
      congr 2
      simp [trip, hn]
    · intro n' u'
      rw [hpr]
      show (m.tbl.node? u' = some n' ∧ _) ↔ _
      simp only [List.mem_cons]
      constructor
      · intro ⟨e1, e2⟩
        exact ⟨e1, fun hh => e2 (by rcases hh with h1 | h1 | h1 <;> simp [h1])⟩
      · intro ⟨e1, e2⟩
        exact ⟨e1, fun hh => e2 (by rcases hh with (h1 | h1) | h1 <;> simp [h1])⟩

def AtLevels (t : Tbl) (x : Nat) (u : Nat) : Prop :=
  ∃ n, t.node? u = some n ∧ (n.lvl = x ∨ n.lvl = x + 1)

/-- **After the first loop**: both levels popped, all their nodes pending, table untouched -/
theorem popLevels_spec (m : Mgr) (hI : Inv m) (x : Nat) (ox oy : List Nat)
    (hox : LevelOrder m.tbl x ox) (hoy : LevelOrder m.tbl (x + 1) oy) :
    ∃ m1 m2, popLevel x ox m = (.ok (ox.map (trip m.tbl)), m1) ∧
      popLevel (x + 1) oy m1 = (.ok (oy.map (trip m.tbl)), m2) ∧ m2.tbl = m.tbl ∧ m2.ref = m.ref ∧
      Mid m m2 x (AtLevels m.tbl x) := by
  have hp0 : ∀ n u, m.pred[n.key]? = some u ↔ (m.tbl.node? u = some n ∧ ¬ (fun _ => False) u) := by
    intro n u; rw [hI.pred]; simp
  obtain ⟨pr1, hrun1, hpr1⟩ := popLevel_spec x ox m (fun _ => False) hp0 hox.nodup
    (fun u hu => ⟨fun h => h, (hox.mem u).mp hu⟩)
  obtain ⟨pr2, hrun2, hpr2⟩ := popLevel_spec (x + 1) oy { m with pred := pr1 }
    (fun k => False ∨ k ∈ ox) hpr1 hoy.nodup (by
      intro u hu
      obtain ⟨n, hn, hl⟩ := (hoy.mem u).mp hu
      refine ⟨?_, n, hn, hl⟩
      rintro (h | h)
      · exact h
      · exact hox.disjoint hoy (Nat.ne_of_lt (Nat.lt_succ_self x)) h hu)
  refine ⟨_, _, hrun1, hrun2, rfl, rfl, ?_⟩
  · have hW := hI.wf.toWF
    refine ⟨⟨rfl, fun u n hn _ _ => hn, ?_, ?_, ?_, fun u n hn _ => hn, ?_⟩, fun u hu => hu, ?_,
      hI.freeGe, hI.free, hI.refOne, hI.refDom, ⟨rfl, rfl, rfl, rfl, rfl, rfl⟩⟩
    · intro u n hn hl hp; exact absurd ⟨n, hn, Or.inr hl⟩ hp
    · intro u n hn hl _ _ hp; exact absurd ⟨n, hn, Or.inl hl⟩ hp
    · intro u n hn hl _ hp; exact absurd ⟨n, hn, Or.inl hl⟩ hp
    · intro u n hn hk
      have hk' : m.tbl.node? u = some n := hk
      rw [hn] at hk'; cases hk'
    · intro n u
      rw [hpr2]
      show (m.tbl.node? u = some n ∧ _) ↔ (m.tbl.node? u = some n ∧ _)
      constructor
      · intro ⟨e1, e2⟩
        refine ⟨e1, ?_⟩
        rintro ⟨n', hn', hl⟩
        rw [e1] at hn'; cases hn'
        rcases hl with hl | hl
        · exact e2 (Or.inl (Or.inr ((hox.mem u).mpr ⟨n, e1, hl⟩)))
        · exact e2 (Or.inr ((hoy.mem u).mpr ⟨n, e1, hl⟩))
      · intro ⟨e1, e2⟩
        refine ⟨e1, ?_⟩
        rintro ((h | h) | h)
        · exact h
        · obtain ⟨n', hn', hl⟩ := (hox.mem u).mp h
          exact e2 ⟨n', hn', Or.inl hl⟩
        · obtain ⟨n', hn', hl⟩ := (hoy.mem u).mp h
          exact e2 ⟨n', hn', Or.inr hl⟩

end DD
