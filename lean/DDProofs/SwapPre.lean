/-
  DDProofs.SwapPre — `swap` up to (not including) the rooted collection: after the node surgery
  and the exchange of the two names the manager satisfies the full invariant `Inv` again
  (reduced, ordered w.r.t. the NEW levels, unique, unique table in sync for ALL levels), the maps
  `vars` / `_level_to_var` are mutually inverse again with exactly the two names exchanged, and
  EVERY reference of the old table denotes the same function of variable NAMES.
-/
import DDProofs.SwapDep
import DDProofs.OrderAbs
open Std

namespace DD

theorem den_congr {t t' : Tbl} (hs : t'.succ = t.succ) (hn : t'.nvars = t.nvars) (u : Int) (a : Asg) :
    den t' u a = den t u a := by
  unfold den
  rw [hn, denF_succ_eq hs]

theorem exchangeNames_spec (m : Mgr) (x : Nat) (vx vy : String)
    (hx : m.tbl.l2v[x]? = some vx) (hy : m.tbl.l2v[x + 1]? = some vy) :
    exchangeNames x (x + 1) m =
      (.ok (), { m with tbl := exchangeVars m.tbl x (x + 1) vx vy, cache := {} }) := by
  unfold exchangeNames
  rw [M.bind_ok (varAtLevel_ok m x vx hx)]
  rw [M.bind_ok (M.modify_eq _ _)]
  have hy' : varAtLevel ((x : Int) + 1)
      { m with tbl := { m.tbl with vars := m.tbl.vars.insert vx (x + 1) } } =
      (.ok vy, { m with tbl := { m.tbl with vars := m.tbl.vars.insert vx (x + 1) } }) :=
    varAtLevel_ok _ (x + 1) vy hy
  have e : ((x + 1 : Nat) : Int) = (x : Int) + 1 := by omega
  rw [e, M.bind_ok hy']
  rfl

/-- what holds when `swap` reaches its rooted collection -/
structure SwapPrePost (m : Mgr) (x : Nat) (ox oy : List Nat) (g xf : List Nat) (m' : Mgr) : Prop where
  inv : Inv m'
  varsOK : OrderOK m'.tbl
  exch : Exch m m' x
  /-- the node table is the swapped old table -/
  rel : SwapRel m.tbl m'.tbl x (fun _ => False)
  /-- every old reference is still a reference … -/
  mem : ∀ u : Int, m.tbl.Mem u → m'.tbl.Mem u
  /-- … and denotes the same function of the variable names -/
  denN : ∀ u : Int, m.tbl.Mem u → ∀ a, denN m'.tbl u a = denN m.tbl u a
  /-- `xfresh`: nodes at the lower level -/
  fresh : ∀ r ∈ xf, ∃ nr, m'.tbl.node? r = some nr ∧ nr.lvl = x + 1
  /-- `garbage`: old references not above the lower level -/
  garbage : ∀ r ∈ g, ∃ c : Int, m.tbl.Mem c ∧ x + 1 ≤ m.tbl.levelOf c ∧ c.natAbs = r
  lastLen : m'.lastLen = m.lastLen
  ctx : m'.ctx = m.ctx
  sched : m'.sched = m.sched
  /-- reference counts: exact before, exact after (same ledger of external references) -/
  refExact : ∀ ext, RefExact m ext → RefExact m' ext
  /-- the declared names are the same -/
  names : ∀ v : String, m'.tbl.vars.contains v = m.tbl.vars.contains v
  /-- `garbage` contains the old children of every rebuilt node -/
  garbageAll : ∀ u n, IsDep m.tbl x u → m.tbl.node? u = some n → n.lo.natAbs ∈ g ∧ n.hi.natAbs ∈ g
  /-- every node created by the swap has a parent -/
  freshParent : ∀ k nk, m'.tbl.node? k = some nk → m.tbl.node? k = none →
    ∃ c nc, m'.tbl.node? c = some nc ∧ (nc.lo.natAbs = k ∨ nc.hi.natAbs = k)

theorem Mid.toInv {m0 m : Mgr} {x : Nat} (hI : Inv m0) (hx : x + 1 < m0.nvars)
    (h : Mid m0 m x (fun _ => False)) (hc : ∀ k : List Int, m.cache[k]? = none) : Inv m := by
  have hW := swapRel_wf hI.wf hx h.rel
  have huniq : ∀ u u' n, m.tbl.node? u = some n → m.tbl.node? u' = some n → u = u' := by
    intro u u' n h1 h2
    have a := (h.pred n u).mpr ⟨h1, fun hf => hf⟩
    have b := (h.pred n u').mpr ⟨h2, fun hf => hf⟩
    rw [a] at b; exact Option.some.inj b
  refine ⟨⟨hW, huniq⟩, ?_, h.freeGe, h.free, h.refOne, h.refDom, ?_⟩
  · intro n u
    rw [h.pred]
    exact ⟨fun hh => hh.1, fun hh => ⟨hh, fun hf => hf⟩⟩
  · intro g u v w hcw
    rw [hc] at hcw; cases hcw

/-- **`swap` up to the rooted collection.**  For every iteration order of the two levels the node
surgery and the exchange of the names succeed; the invariant holds again and every old reference
denotes the same function of the variable names. -/
theorem swapPre_spec (m : Mgr) (hI : Inv m) (hV : OrderOK m.tbl)
    (hoff : m.ctx = false ∨ m.lastLen = none) (x : Nat) (hx : x + 1 < m.nvars)
    (ox oy : List Nat) (hox : LevelOrder m.tbl x ox) (hoy : LevelOrder m.tbl (x + 1) oy) :
    ∃ g xf m5 m6, swapNodes x (x + 1) ox oy m =
        (.ok (ox.map (trip m.tbl), oy.map (trip m.tbl), g, xf), m5) ∧
      exchangeNames x (x + 1) m5 = (.ok (), m6) ∧ Rebuilt m.tbl m x ox g xf m6 ∧
      SwapPrePost m x ox oy g xf m6 := by
  obtain ⟨g, xf, m5, hrun, hM, hB⟩ := swapNodes_spec m hI hoff x hx ox oy hox hoy
  have hW := hI.wf.toWF
  obtain ⟨vx, hvx, _⟩ := hV.name_at (i := x) (by have : m.nvars = m.tbl.nvars := rfl; omega)
  obtain ⟨vy, hvy, _⟩ := hV.name_at (i := x + 1) hx
  have hl5 : m5.tbl.l2v = m.tbl.l2v := hM.frame.l2v
  have hv5 : m5.tbl.vars = m.tbl.vars := hM.frame.vars
  have hV5 : OrderOK m5.tbl := hV.congr hv5 hl5
  have hvx5 : m5.tbl.l2v[x]? = some vx := by rw [hl5]; exact hvx
  have hvy5 : m5.tbl.l2v[x + 1]? = some vy := by rw [hl5]; exact hvy
  have hex := exchangeNames_spec m5 x vx vy hvx5 hvy5
  have hxy : x ≠ x + 1 := by omega
  have hn6 : (exchangeVars m5.tbl x (x + 1) vx vy).nvars = m5.tbl.nvars :=
    exchangeVars_nvars m5.tbl hV5 x (x + 1) vx vy hvx5 hvy5
  -- the invariant of the state with the names exchanged and the cache cleared
  have hI5' : Inv { m5 with cache := {} } := by
    have h' : Mid m { m5 with cache := {} } x (fun _ => False) :=
      ⟨hM.rel, hM.pendOK, hM.pred, hM.freeGe, hM.free, hM.refOne, hM.refDom,
        ⟨hM.frame.vars, hM.frame.l2v, hM.frame.lastLen, hM.frame.ctx, hM.frame.sched, hM.frame.roots⟩⟩
    exact h'.toInv hI hx (fun k => TreeMap.getElem?_emptyc)
  have hI6 : Inv { m5 with tbl := exchangeVars m5.tbl x (x + 1) vx vy, cache := {} } := by
    refine ⟨WFU_relabel (Relabel.more_vars hI5'.wf.toWF rfl (Nat.le_of_eq hn6.symm)) hI5'.wf,
      hI5'.pred, hI5'.freeGe, hI5'.free, hI5'.refOne, hI5'.refDom, ?_⟩
    intro g u v w hcw
    have : ({} : TreeMap (List Int) Int)[iteKey g u v]? = some w := hcw
    rw [TreeMap.getElem?_emptyc] at this; cases this
  have hW5 : WF m5.tbl := swapRel_wf hI.wf hx hM.rel
  have hB6 : Rebuilt m.tbl m x ox g xf
      { m5 with tbl := exchangeVars m5.tbl x (x + 1) vx vy, cache := {} } :=
    ⟨hB.fresh, hB.garbage, hB.garbageAll, fun ext hr => (hB.refExact ext hr).congrSucc rfl rfl,
      hB.created⟩
  have hexch : Exch m { m5 with tbl := exchangeVars m5.tbl x (x + 1) vx vy, cache := {} } x := by
    refine ⟨fun j => ?_, hn6.trans hM.rel.nvars, hM.frame.roots⟩
    show (exchangeVars m5.tbl x (x + 1) vx vy).l2v[j]? = _
    rw [exchangeVars_l2v m5.tbl x (x + 1) vx vy hxy hvx5 hvy5, hl5]
  have hrel : SwapRel m.tbl (exchangeVars m5.tbl x (x + 1) vx vy) x (fun _ => False) :=
    ⟨hn6.trans hM.rel.nvars, hM.rel.other, hM.rel.up, hM.rel.indep, hM.rel.dep, hM.rel.pending,
      hM.rel.fresh⟩
  refine ⟨g, xf, m5, _, hrun, hex, hB6,
    { inv := hI6, varsOK := hV5.exchange x (x + 1) vx vy hxy hvx5 hvy5, exch := hexch, rel := hrel
      mem := fun u hu => hM.mem0 hu
      denN := fun u hu a => ?_
      fresh := hB.fresh
      garbage := fun r hr => ?_
      lastLen := hM.frame.lastLen, ctx := hM.frame.ctx, sched := hM.frame.sched
      refExact := hB6.refExact
      names := fun v => ?_
      garbageAll := fun u n hd hn =>
        hB.garbageAll u ((hox.mem u).mpr ⟨n, hn, (hd.of_node hn).1⟩) hd n hn
      freshParent := fun k nk hk h0 => (hB.created k nk hk h0).1 }⟩
  · apply denN_of_den_swp m.tbl _ x (x + 1) vx vy hxy hvx hvy
    · show (exchangeVars m5.tbl x (x + 1) vx vy).l2v = (exchangeVars m.tbl x (x + 1) vx vy).l2v
      show (m5.tbl.l2v.insert (x + 1) vx).insert x vy = (m.tbl.l2v.insert (x + 1) vx).insert x vy
      rw [hl5]
    · intro b
      rw [den_congr (t := m5.tbl) (t' := exchangeVars m5.tbl x (x + 1) vx vy) rfl hn6]
      exact swapRel_den hI.wf hx hM.rel hW5 m.tbl.nvars u hu (by omega) b
  · obtain ⟨_, _, _, _, c, _, hc, hl, e⟩ := garbage_child hW hB.garbage hr
    exact ⟨c, hc, hl, e⟩
  · show (exchangeVars m5.tbl x (x + 1) vx vy).vars.contains v = m.tbl.vars.contains v
    rw [TreeMap.contains_eq_isSome_getElem?, TreeMap.contains_eq_isSome_getElem?,
      exchangeVars_vars m5.tbl hV5 x (x + 1) vx vy hxy hvx5 hvy5 v, Option.isSome_map, hv5]

end DD
