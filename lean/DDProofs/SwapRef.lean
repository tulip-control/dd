/-
  DDProofs.SwapRef — reference counts through `swap` (C07 / C06).

  While an x-node is being rebuilt its old children have already been `decref`ed although the
  stored edges are still there, so counts are exact only up to a known discrepancy:
  `RefBut m ext d` (DDProofs.RefCount).  Effect of the primitives of the swap on `RefBut`:
  `decref`, `incref`, a node that gets a new triple.
-/
import DDProofs.RefCount
open Std

namespace DD

theorem indeg_replace {t : Tbl} {u : Nat} {n : Nd} (hn : t.node? u = some n) (nd : Nd) (k : Nat) :
    indeg { t with succ := t.succ.insert u nd } k + edgeCount n k = indeg t k + edgeCount nd k := by
  let t0 : Tbl := { t with succ := t.succ.erase u }
  have h0 : t0.node? u = none := by simp [t0, Tbl.node?]
  have hother : ∀ j, j ≠ u → t.node? j = t0.node? j := by
    intro j hj
    have : ¬ u = j := fun e => hj e.symm
    simp [t0, Tbl.node?, TreeMap.getElem?_erase, this]
  have a1 : t0.AddedAt t u n := ⟨h0, hn, hother⟩
  have a2 : t0.AddedAt { t with succ := t.succ.insert u nd } u nd := by
    refine ⟨h0, by rw [node?_insert]; simp, ?_⟩
    intro j hj
    rw [node?_insert]
    have : ¬ u = j := fun e => hj e.symm
    simp only [this, if_false]
    exact hother j hj
  rw [indeg_added a1 k, indeg_added a2 k]
  omega

theorem RefBut.decref {m m' : Mgr} {ext d d' : Nat → Nat} (h : RefBut m ext d) (v : Int)
    (hv : m.tbl.Mem v) (hroom : d v.natAbs + 1 ≤ indeg m.tbl v.natAbs)
    (hrun : DD.decref v m = (.ok (), m'))
    (hd' : ∀ k, d' k = d k + (if k = v.natAbs then 1 else 0)) : RefBut m' ext d' := by
  obtain ⟨c, hc, hcnt⟩ := h.get hv
  obtain ⟨c0, rfl⟩ : ∃ c0, c = c0 + 1 := ⟨c - 1, by omega⟩
  rw [decref_eq m v c0 hc] at hrun
  cases hrun
  refine h.setRef hc ?_ (fun j e => ?_)
  · rw [hd', if_pos rfl]; omega
  · rw [hd', if_neg e]; rfl

theorem RefBut.incref {m m' : Mgr} {ext d d' : Nat → Nat} (h : RefBut m ext d) (p : Int)
    (hp : m.tbl.Mem p) (hrun : DD.incref p m = (.ok (), m'))
    (hd' : ∀ k, d' k + (if k = p.natAbs then 1 else 0) = d k) : RefBut m' ext d' := by
  obtain ⟨c, hc, hcnt⟩ := h.get hp
  rw [incref_eq m p c hc] at hrun
  cases hrun
  refine h.setRef hc ?_ (fun j e => ?_)
  · have := hd' p.natAbs
    rw [if_pos rfl] at this
    omega
  · have := hd' j
    rw [if_neg e] at this
    exact this

theorem edgeCount_eq (n : Nd) (k : Nat) :
    edgeCount n k = (if k = n.lo.natAbs then 1 else 0) + (if k = n.hi.natAbs then 1 else 0) := by
  unfold edgeCount
  simp only [eq_comm]

/-- both children of a stored node `decref`ed: the counts are exact up to the edges of that node -/
theorem RefExact.decrefChildren {m ma mb : Mgr} {ext : Nat → Nat} (h : RefExact m ext) {u : Nat}
    {n : Nd} (hn : m.tbl.node? u = some n) (hlo : m.tbl.Mem n.lo) (hhi : m.tbl.Mem n.hi)
    (h1 : DD.decref n.lo m = (.ok (), ma)) (ht : ma.tbl = m.tbl)
    (h2 : DD.decref n.hi ma = (.ok (), mb)) : RefBut mb ext (edgeCount n) := by
  have hba : RefBut ma ext (fun k => if k = n.lo.natAbs then 1 else 0) :=
    h.toBut.decref n.lo hlo (by have := indeg_pos_of_lo hn; omega) h1 (fun k => (Nat.zero_add _).symm)
  refine hba.decref n.hi (ht ▸ hhi) ?_ h2 (fun k => edgeCount_eq n k)
  have := edgeCount_le_indeg hn n.hi.natAbs
  rw [edgeCount_eq, if_pos rfl] at this
  rw [ht]
  exact this

theorem RefBut.increfChildren {m mf mg : Mgr} {ext : Nat → Nat} {nd : Nd}
    (h : RefBut m ext (edgeCount nd)) (hlo : m.tbl.Mem nd.lo) (hhi : m.tbl.Mem nd.hi)
    (h1 : DD.incref nd.lo m = (.ok (), mf)) (ht : mf.tbl = m.tbl)
    (h2 : DD.incref nd.hi mf = (.ok (), mg)) : RefExact mg ext := by
  have hbf : RefBut mf ext (fun k => if k = nd.hi.natAbs then 1 else 0) :=
    h.incref nd.lo hlo h1 (fun k => by rw [edgeCount_eq, Nat.add_comm])
  exact (hbf.incref nd.hi (ht ▸ hhi) h2 (fun k => Nat.zero_add _)).toExact (fun _ => rfl)

/-- one node gets a new triple (`setNode`): the discrepancy absorbs the change of its edges -/
theorem RefBut.setNode {m m' : Mgr} {ext d d' : Nat → Nat} (h : RefBut m ext d) {u : Nat} {n : Nd}
    (hn : m.tbl.node? u = some n) (nd : Nd)
    (hm' : m'.tbl.succ = m.tbl.succ.insert u nd) (hr : m'.ref = m.ref)
    (hd' : ∀ k, d' k + edgeCount n k = d k + edgeCount nd k) : RefBut m' ext d' := by
  have hnode : ∀ k, m'.tbl.node? k = if u = k then some nd else m.tbl.node? k := by
    intro k
    have : m'.tbl.node? k = ({ m.tbl with succ := m.tbl.succ.insert u nd } : Tbl).node? k := by
      unfold Tbl.node?; rw [hm']
    rw [this, node?_insert]
  have hindeg : ∀ k, indeg m'.tbl k + edgeCount n k = indeg m.tbl k + edgeCount nd k := by
    intro k
    have : indeg m'.tbl k = indeg ({ m.tbl with succ := m.tbl.succ.insert u nd } : Tbl) k :=
      indeg_congr (fun j => by unfold Tbl.node?; rw [hm']) k
    rw [this]
    exact indeg_replace hn nd k
  refine ⟨?_, ?_, ?_⟩
  · intro k
    rw [hr, hnode, h.dom]
    by_cases hk : u = k
    · subst hk; simp [hn]
    · simp [hk]
  · intro k c hc
    rw [hr] at hc
    have := h.cnt k c hc
    have := hindeg k
    have := hd' k
    omega
  · intro k hk
    rw [hr] at hk
    exact h.extZero k hk

theorem RefExact.relabel {m m' : Mgr} {ext : Nat → Nat} (h : RefExact m ext) {u : Nat} {n : Nd}
    (hn : m.tbl.node? u = some n) (nd : Nd) (hlo : nd.lo = n.lo) (hhi : nd.hi = n.hi)
    (hm' : m'.tbl.succ = m.tbl.succ.insert u nd) (hr : m'.ref = m.ref) : RefExact m' ext := by
  refine (h.toBut.setNode hn nd hm' hr (d' := fun _ => 0) ?_).toExact (fun _ => rfl)
  intro k
  simp [edgeCount, hlo, hhi]

end DD
