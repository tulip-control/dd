/-
  DDProofs.SwapSem — the semantic core of the adjacent-variable swap (C07), no model code.
  `SwapRel t t' x pend` relates the table before the swap of the levels `x`, `x+1` to a table during
  or after it, node by node (`pend` = the nodes of the two levels not yet processed).  A processed
  node carries its `Target` triple, built from the cofactors (`cof`) of its children by what
  `find_or_add` returns (`Mk`).  With nothing pending the new table is reduced and ordered for the
  NEW level assignment (`swapRel_wf`) and every old reference denotes the old function read through
  the transposition of the two levels (`swapRel_den`): the Shannon exchange.
-/
import DDProofs.Canon
import DDProofs.Transposition
open Std

namespace DD

/-- Shannon exchange: expanding first by `x` then by `y` equals expanding first by `y` then by `x`
with the two middle cofactors exchanged. -/
theorem shannon_exchange (bx by' f00 f01 f10 f11 : Bool) :
    (if bx then (if by' then f11 else f10) else (if by' then f01 else f00)) =
    (if by' then (if bx then f11 else f01) else (if bx then f10 else f00)) := by
  cases bx <;> cases by' <;> rfl

def iteA (i : Nat) (g h : Asg → Bool) : Asg → Bool := fun a => if a i then g a else h a

/-- cofactors `(low, high)` of the reference `v` w.r.t. level `y`, for `v` not above `y` (what
`_swap_cofactor` and the complement fix-up in `swap` compute): the children (complemented when
`v` is) if `v` is at level `y`, else `(v, v)`. -/
def cof (t : Tbl) (y : Nat) (v : Int) : Int × Int :=
  if v.natAbs = 1 then (v, v) else
  match t.node? v.natAbs with
  | none => (v, v)
  | some n => if n.lvl = y then (if v < 0 then (-n.lo, -n.hi) else (n.lo, n.hi)) else (v, v)

theorem cof_of_ne (t : Tbl) (y : Nat) (v : Int) (h : t.levelOf v ≠ y) : cof t y v = (v, v) := by
  unfold cof
  unfold Tbl.levelOf at h
  by_cases h1 : v.natAbs = 1
  · simp [h1]
  · simp only [h1, if_false] at h ⊢
    cases hn : t.node? v.natAbs with
    | none => rfl
    | some n =>
      rw [hn] at h
      simp only at h ⊢
      simp [h]

theorem cof_at (t : Tbl) (y : Nat) (v : Int) (n : Nd) (h1 : v.natAbs ≠ 1)
    (hn : t.node? v.natAbs = some n) (hl : n.lvl = y) :
    cof t y v = if v < 0 then (-n.lo, -n.hi) else (n.lo, n.hi) := by
  unfold cof
  simp [h1, hn, hl]

theorem node_of_level (t : Tbl) (v : Int) (y : Nat) (hv : t.Mem v) (hl : t.levelOf v = y)
    (hyn : y < t.nvars) : v.natAbs ≠ 1 ∧ ∃ n, t.node? v.natAbs = some n ∧ n.lvl = y := by
  by_cases h1 : v.natAbs = 1
  · rw [levelOf_term t v h1] at hl; omega
  · rcases hv with hv | hv
    · exact absurd hv h1
    · obtain ⟨n, hn⟩ := Option.isSome_iff_exists.mp hv
      exact ⟨h1, n, hn, by rw [← hl, levelOf_node t v n h1 hn]⟩

theorem cof_spec (t : Tbl) (hw : WF t) (y : Nat) (v : Int) (hv : t.Mem v)
    (hy : y ≤ t.levelOf v) (hyn : y < t.nvars) :
    t.Mem (cof t y v).1 ∧ t.Mem (cof t y v).2 ∧
    y < t.levelOf (cof t y v).1 ∧ y < t.levelOf (cof t y v).2 ∧
    ∀ a, den t v a = if a y then den t (cof t y v).2 a else den t (cof t y v).1 a := by
  by_cases hl : t.levelOf v = y
  · obtain ⟨h1, n, hn, hny⟩ := node_of_level t v y hv hl hyn
    rw [cof_at t y v n h1 hn hny]
    have hlo := hw.lo_lt _ _ hn
    have hhi := hw.hi_lt _ _ hn
    by_cases hneg : v < 0
    · simp only [hneg, if_true]
      refine ⟨mem_neg (hw.lo_mem _ _ hn), mem_neg (hw.hi_mem _ _ hn),
        by rw [levelOf_neg]; omega, by rw [levelOf_neg]; omega, ?_⟩
      intro a
      rw [den_node t hw v n a h1 hn, den_neg t hw n.hi a (hw.hi_mem _ _ hn),
        den_neg t hw n.lo a (hw.lo_mem _ _ hn), hny]
      simp only [hneg, decide_true]
      split <;> simp
    · simp only [hneg, if_false]
      refine ⟨hw.lo_mem _ _ hn, hw.hi_mem _ _ hn, by omega, by omega, ?_⟩
      intro a
      rw [den_node t hw v n a h1 hn, hny]
      simp [hneg]
  · rw [cof_of_ne t y v hl]
    refine ⟨hv, hv, ?_, ?_, ?_⟩
    · show y < t.levelOf v; omega
    · show y < t.levelOf v; omega
    · intro a; split <;> rfl

theorem cof_fst_ne_snd (t : Tbl) (hw : WF t) (y : Nat) (v : Int) (hv : t.Mem v)
    (hl : t.levelOf v = y) (hyn : y < t.nvars) : (cof t y v).1 ≠ (cof t y v).2 := by
  obtain ⟨h1, n, hn, hny⟩ := node_of_level t v y hv hl hyn
  rw [cof_at t y v n h1 hn hny]
  have := hw.lo_ne_hi _ _ hn
  split <;> simp only <;> omega

theorem cof_fst_eq_snd_iff (t : Tbl) (hw : WF t) (y : Nat) (v : Int) (hv : t.Mem v)
    (hyn : y < t.nvars) : (cof t y v).1 = (cof t y v).2 ↔ t.levelOf v ≠ y := by
  constructor
  · intro h hl; exact cof_fst_ne_snd t hw y v hv hl hyn h
  · intro h; rw [cof_of_ne t y v h]

/-- a reference is determined by its pair of cofactors (canonicity) -/
theorem cof_inj (t : Tbl) (hw : WFU t) (y : Nat) (v v' : Int) (hv : t.Mem v) (hv' : t.Mem v')
    (hy : y ≤ t.levelOf v) (hy' : y ≤ t.levelOf v') (hyn : y < t.nvars)
    (h : cof t y v = cof t y v') : v = v' := by
  apply (canonical t hw v v' hv hv').mp
  intro a
  rw [(cof_spec t hw.toWF y v hv hy hyn).2.2.2.2 a, (cof_spec t hw.toWF y v' hv' hy' hyn).2.2.2.2 a, h]

/-- the high cofactor of a regular reference is regular (this is why `q ≥ 0` in `swap`) -/
theorem cof_hi_pos (t : Tbl) (hw : WF t) (y : Nat) (v : Int) (hpos : 0 < v) : 0 < (cof t y v).2 := by
  unfold cof
  split
  · exact hpos
  · split
    · exact hpos
    · next n hn =>
      split
      · have : ¬ v < 0 := by omega
        simp only [this, if_false]
        exact hw.hi_pos _ _ hn
      · exact hpos

/-- `r` is the reference `find_or_add(i, a, b)` returns in the table `t`: `a` itself when the node
would be redundant, otherwise the (possibly complemented) number `k` of the stored node
`(i, ±a, |b|)` — the high edge is stored regular. -/
def Mk (t : Tbl) (i : Nat) (a b r : Int) : Prop :=
  (a = b ∧ r = a) ∨
  (a ≠ b ∧ ∃ k : Nat, 2 ≤ k ∧
    t.node? k = some ⟨i, if b < 0 then -a else a, if b < 0 then -b else b⟩ ∧
    r = (if b < 0 then -1 else 1) * (k : Int))

theorem Mk.mono {t t' : Tbl} {i : Nat} {a b r : Int}
    (h : ∀ k n, n.lvl = i → t.node? k = some n → t'.node? k = some n) (hm : Mk t i a b r) :
    Mk t' i a b r := by
  rcases hm with hm | ⟨hne, k, hk, hn, hr⟩
  · exact Or.inl hm
  · exact Or.inr ⟨hne, k, hk, h _ _ rfl hn, hr⟩

theorem Mk.pos {t : Tbl} {i : Nat} {a b r : Int} (hm : Mk t i a b r) (hb : 0 < b) : 0 < r := by
  rcases hm with ⟨h1, h2⟩ | ⟨hne, k, hk, hn, hr⟩
  · omega
  · have : ¬ b < 0 := by omega
    simp only [this, if_false] at hr
    omega

theorem Mk.mem {t : Tbl} {i : Nat} {a b r : Int} (hm : Mk t i a b r) (ha : t.Mem a) : t.Mem r := by
  rcases hm with ⟨h1, h2⟩ | ⟨hne, k, hk, hn, hr⟩
  · rw [h2]; exact ha
  · right
    have : r.natAbs = k := by split at hr <;> omega
    rw [this, hn]; rfl

theorem Mk.natAbs_node {t : Tbl} {i : Nat} {a b r : Int} (hm : Mk t i a b r) (hne : a ≠ b) :
    r.natAbs ≠ 1 ∧ ∃ n, t.node? r.natAbs = some n ∧ n.lvl = i := by
  rcases hm with ⟨h1, h2⟩ | ⟨_, k, hk, hn, hr⟩
  · exact absurd h1 hne
  · have : r.natAbs = k := by split at hr <;> omega
    rw [this]
    exact ⟨by omega, _, hn, rfl⟩

theorem Mk.lvl {t : Tbl} {i : Nat} {a b r : Int} (hm : Mk t i a b r) (ha : i < t.levelOf a) :
    i ≤ t.levelOf r := by
  by_cases hne : a = b
  · rcases hm with ⟨h1, h2⟩ | ⟨h, _⟩
    · rw [h2]; omega
    · exact absurd hne h
  · obtain ⟨h1, n, hn, hl⟩ := hm.natAbs_node hne
    rw [levelOf_node t r n h1 hn, hl]
    exact Nat.le_refl _

theorem Mk.lvl_eq {t : Tbl} {i : Nat} {a b r : Int} (hm : Mk t i a b r) (hne : a ≠ b) :
    t.levelOf r = i := by
  obtain ⟨h1, n, hn, hl⟩ := hm.natAbs_node hne
  rw [levelOf_node t r n h1 hn, hl]

theorem Mk.inj {t : Tbl} {i : Nat} {a b a' b' r : Int} (h : Mk t i a b r) (h' : Mk t i a' b' r)
    (ha : t.levelOf a ≠ i) (ha' : t.levelOf a' ≠ i) : a = a' ∧ b = b' := by
  by_cases hne : a = b
  · by_cases hne' : a' = b'
    · rcases h with ⟨_, h2⟩ | ⟨h, _⟩
      · rcases h' with ⟨_, h2'⟩ | ⟨h', _⟩
        · omega
        · exact absurd hne' h'
      · exact absurd hne h
    · exfalso
      have hl := h'.lvl_eq hne'
      rcases h with ⟨_, h2⟩ | ⟨h, _⟩
      · rw [h2] at hl; exact ha hl
      · exact absurd hne h
  · by_cases hne' : a' = b'
    · exfalso
      have hl := h.lvl_eq hne
      rcases h' with ⟨_, h2⟩ | ⟨h', _⟩
      · rw [h2] at hl; exact ha' hl
      · exact absurd hne' h'
    · rcases h with ⟨h, _⟩ | ⟨_, k, hk, hn, hr⟩
      · exact absurd h hne
      · rcases h' with ⟨h', _⟩ | ⟨_, k', hk', hn', hr'⟩
        · exact absurd h' hne'
        · have hkk : k = k' := by
            split at hr <;> split at hr' <;> omega
          subst hkk
          rw [hn] at hn'
          have e := Option.some.inj hn'
          simp only [Nd.mk.injEq, true_and] at e
          obtain ⟨e1, e2⟩ := e
          by_cases hb : b < 0 <;> by_cases hb' : b' < 0 <;>
            simp only [hb, hb', if_true, if_false] at e1 e2 hr hr' <;> omega

theorem Mk.den {t : Tbl} (hw : WF t) {i : Nat} {a b r : Int} (hm : Mk t i a b r)
    (ha : t.Mem a) (hb : t.Mem b) (e : Asg) :
    den t r e = if e i then den t b e else den t a e := by
  rcases hm with ⟨h1, h2⟩ | ⟨hne, k, hk, hn, hr⟩
  · subst h1; subst h2; split <;> rfl
  · by_cases hneg : b < 0
    · simp only [hneg, if_true] at hn hr
      have hr' : r = -(k : Int) := by omega
      have hkm : t.Mem (k : Int) := Or.inr (by simp [hn])
      have h1 : ((k : Nat) : Int).natAbs ≠ 1 := by simp; omega
      have hn' : t.node? ((k : Nat) : Int).natAbs = some ⟨i, -a, -b⟩ := by simpa using hn
      rw [hr', den_neg t hw _ e hkm, den_node t hw (k : Int) _ e h1 hn']
      have : ¬ ((k : Int) < 0) := by omega
      simp only [this, decide_false, Bool.false_bne]
      rw [den_neg t hw b e hb, den_neg t hw a e ha]
      split <;> simp
    · simp only [hneg, if_false] at hn hr
      have hr' : r = (k : Int) := by omega
      have h1 : ((k : Nat) : Int).natAbs ≠ 1 := by simp; omega
      have hn' : t.node? ((k : Nat) : Int).natAbs = some ⟨i, a, b⟩ := by simpa using hn
      rw [hr', den_node t hw (k : Int) _ e h1 hn']
      have : ¬ ((k : Int) < 0) := by omega
      simp [this]

/-- `t'` is the table `t` in which the levels `x` and `x+1` have been exchanged, except for the
nodes in `pend` (of these two levels), which still carry their old triple. -/
structure SwapRel (t t' : Tbl) (x : Nat) (pend : Nat → Prop) : Prop where
  nvars : t'.nvars = t.nvars
  /-- nodes of other levels are untouched -/
  other : ∀ u n, t.node? u = some n → n.lvl ≠ x → n.lvl ≠ x + 1 → t'.node? u = some n
  /-- nodes of the lower level moved up -/
  up : ∀ u n, t.node? u = some n → n.lvl = x + 1 → ¬ pend u → t'.node? u = some ⟨x, n.lo, n.hi⟩
  /-- upper nodes that do not depend on the lower variable were relabelled -/
  indep : ∀ u n, t.node? u = some n → n.lvl = x → t.levelOf n.lo ≠ x + 1 → t.levelOf n.hi ≠ x + 1 →
    ¬ pend u → t'.node? u = some ⟨x + 1, n.lo, n.hi⟩
  /-- upper nodes that depend on the lower variable and have been rebuilt -/
  dep : ∀ u n, t.node? u = some n → n.lvl = x → (t.levelOf n.lo = x + 1 ∨ t.levelOf n.hi = x + 1) →
    ¬ pend u →
    ∃ p q, t'.node? u = some ⟨x, p, q⟩ ∧
      Mk t' (x + 1) (cof t (x + 1) n.lo).1 (cof t (x + 1) n.hi).1 p ∧
      Mk t' (x + 1) (cof t (x + 1) n.lo).2 (cof t (x + 1) n.hi).2 q
  /-- … and those not yet rebuilt -/
  pending : ∀ u n, t.node? u = some n → pend u → t'.node? u = some n
  /-- nodes created by the swap: at the lower level, over references below both levels -/
  fresh : ∀ u n, t.node? u = none → t'.node? u = some n →
    2 ≤ u ∧ n.lvl = x + 1 ∧ t.Mem n.lo ∧ t.Mem n.hi ∧ x + 1 < t.levelOf n.lo ∧
      x + 1 < t.levelOf n.hi ∧ 0 < n.hi ∧ n.lo ≠ n.hi

/-- the triple the swap of the levels `x`, `x+1` gives the old node `n` of one of these levels; for
a node that depends on the lower variable: any `(x, p, q)` whose children are what `find_or_add`
makes of the cofactors in `t'` -/
inductive Target (t t' : Tbl) (x : Nat) (n : Nd) : Nd → Prop
  | up : n.lvl = x + 1 → Target t t' x n ⟨x, n.lo, n.hi⟩
  | indep : n.lvl = x → t.levelOf n.lo ≠ x + 1 → t.levelOf n.hi ≠ x + 1 →
      Target t t' x n ⟨x + 1, n.lo, n.hi⟩
  | dep (p q : Int) : n.lvl = x → (t.levelOf n.lo = x + 1 ∨ t.levelOf n.hi = x + 1) →
      Mk t' (x + 1) (cof t (x + 1) n.lo).1 (cof t (x + 1) n.hi).1 p →
      Mk t' (x + 1) (cof t (x + 1) n.lo).2 (cof t (x + 1) n.hi).2 q → Target t t' x n ⟨x, p, q⟩

theorem Target.lvl_old {t t' : Tbl} {x : Nat} {n nd : Nd} (h : Target t t' x n nd) :
    n.lvl = x ∨ n.lvl = x + 1 := by
  cases h with
  | up h => exact Or.inr h
  | indep h _ _ => exact Or.inl h
  | dep _ _ h _ _ _ => exact Or.inl h

namespace SwapRel

variable {t t' : Tbl} {x : Nat} {pend : Nat → Prop}

theorem image (h : SwapRel t t' x pend) {u : Nat} {n : Nd} (hn : t.node? u = some n)
    (hp : ¬ pend u) :
    ∃ n', t'.node? u = some n' ∧ ((n.lvl ≠ x ∧ n.lvl ≠ x + 1 ∧ n' = n) ∨ Target t t' x n n') := by
  by_cases h1 : n.lvl = x + 1
  · exact ⟨_, h.up u n hn h1 hp, Or.inr (.up h1)⟩
  · by_cases h2 : n.lvl = x
    · by_cases h3 : t.levelOf n.lo = x + 1 ∨ t.levelOf n.hi = x + 1
      · obtain ⟨p, q, hh, hp', hq'⟩ := h.dep u n hn h2 h3 hp
        exact ⟨_, hh, Or.inr (.dep p q h2 h3 hp' hq')⟩
      · have hlo : t.levelOf n.lo ≠ x + 1 := fun e => h3 (Or.inl e)
        have hhi : t.levelOf n.hi ≠ x + 1 := fun e => h3 (Or.inr e)
        exact ⟨_, h.indep u n hn h2 hlo hhi hp, Or.inr (.indep h2 hlo hhi)⟩
    · exact ⟨_, h.other u n hn h2 h1, Or.inl ⟨h2, h1, rfl⟩⟩

theorem classify (h : SwapRel t t' x pend) {k : Nat} {n' : Nd} (hk : t'.node? k = some n')
    (hp : ¬ pend k) :
    (t.node? k = none ∧ 2 ≤ k ∧ n'.lvl = x + 1 ∧ t.Mem n'.lo ∧ t.Mem n'.hi ∧
        x + 1 < t.levelOf n'.lo ∧ x + 1 < t.levelOf n'.hi ∧ 0 < n'.hi ∧ n'.lo ≠ n'.hi) ∨
    (∃ n, t.node? k = some n ∧ ((n.lvl ≠ x ∧ n.lvl ≠ x + 1 ∧ n' = n) ∨ Target t t' x n n')) := by
  cases hn : t.node? k with
  | none => exact Or.inl ⟨rfl, h.fresh k n' hn hk⟩
  | some n =>
    obtain ⟨n'', hk', hc⟩ := h.image hn hp
    rw [hk] at hk'
    cases hk'
    exact Or.inr ⟨n, rfl, hc⟩

theorem node_some (h : SwapRel t t' x pend)
    {u : Nat} {n : Nd} (hn : t.node? u = some n) : ∃ n', t'.node? u = some n' := by
  by_cases hpd : pend u
  · exact ⟨_, h.pending u n hn hpd⟩
  · obtain ⟨n', hn', _⟩ := h.image hn hpd
    exact ⟨n', hn'⟩

theorem mem (h : SwapRel t t' x pend) {c : Int} (hc : t.Mem c) : t'.Mem c := by
  rcases hc with hc | hc
  · exact Or.inl hc
  · obtain ⟨n, hn⟩ := Option.isSome_iff_exists.mp hc
    obtain ⟨n', hn'⟩ := h.node_some hn
    exact Or.inr (by rw [hn']; rfl)

theorem lvl_above (h : SwapRel t t' x pend) {c : Int} (hc : t.Mem c) (hl : x + 1 < t.levelOf c) :
    t'.levelOf c = t.levelOf c := by
  by_cases h1 : c.natAbs = 1
  · rw [levelOf_term t c h1, levelOf_term t' c h1, h.nvars]
  · rcases hc with hc | hc
    · exact absurd hc h1
    · obtain ⟨n, hn⟩ := Option.isSome_iff_exists.mp hc
      rw [levelOf_node t c n h1 hn] at hl ⊢
      have := h.other _ n hn (by omega) (by omega)
      rw [levelOf_node t' c n h1 this]

theorem lvl_min (h : SwapRel t t' x pend) {c : Int} (hc : t.Mem c) :
    min (t.levelOf c) x ≤ t'.levelOf c := by
  by_cases h1 : c.natAbs = 1
  · rw [levelOf_term t c h1, levelOf_term t' c h1, h.nvars]; omega
  · rcases hc with hc | hc
    · exact absurd hc h1
    · obtain ⟨n, hn⟩ := Option.isSome_iff_exists.mp hc
      rw [levelOf_node t c n h1 hn]
      by_cases hpd : pend c.natAbs
      · rw [levelOf_node t' c _ h1 (h.pending _ n hn hpd)]; omega
      · obtain ⟨n', hn', hcase⟩ := h.image hn hpd
        rw [levelOf_node t' c n' h1 hn']
        rcases hcase with ⟨_, _, rfl⟩ | ht
        · omega
        · cases ht <;> simp only <;> omega

end SwapRel

/-- the `p ≠ q` assertion of `swap`: for an upper node that depends on the lower variable the two
new children differ -/
theorem dep_p_ne_q {t t' : Tbl} (hw : WF t) {x : Nat} (hyn : x + 1 < t.nvars) {v w p q : Int}
    (hv : t.Mem v) (hw' : t.Mem w) (hlv : x + 1 ≤ t.levelOf v)
    (hdep : t.levelOf v = x + 1 ∨ t.levelOf w = x + 1)
    (hsame : ∀ c : Int, t.Mem c → x + 1 < t.levelOf c → t'.levelOf c = t.levelOf c)
    (hp : Mk t' (x + 1) (cof t (x + 1) v).1 (cof t (x + 1) w).1 p)
    (hq : Mk t' (x + 1) (cof t (x + 1) v).2 (cof t (x + 1) w).2 q) : p ≠ q := by
  intro he
  subst he
  obtain ⟨mv0, mv1, lv0, lv1, _⟩ := cof_spec t hw (x + 1) v hv hlv hyn
  have l0 : t'.levelOf (cof t (x + 1) v).1 ≠ x + 1 := by rw [hsame _ mv0 lv0]; omega
  have l1 : t'.levelOf (cof t (x + 1) v).2 ≠ x + 1 := by rw [hsame _ mv1 lv1]; omega
  obtain ⟨e1, e2⟩ := Mk.inj hp hq l0 l1
  rcases hdep with hd | hd
  · exact cof_fst_ne_snd t hw (x + 1) v hv hd hyn e1
  · exact cof_fst_ne_snd t hw (x + 1) w hw' hd hyn e2

/-- an upper node depends on the upper variable: its two children, hence their cofactor pairs,
differ -/
theorem cof_pairs_ne {t : Tbl} (hw : WFU t) {x : Nat} (hyn : x + 1 < t.nvars) {v w : Int}
    (hv : t.Mem v) (hw' : t.Mem w) (hlv : x + 1 ≤ t.levelOf v) (hlw : x + 1 ≤ t.levelOf w)
    (hne : v ≠ w) :
    ¬ ((cof t (x + 1) v).1 = (cof t (x + 1) w).1 ∧ (cof t (x + 1) v).2 = (cof t (x + 1) w).2) := by
  intro ⟨e1, e2⟩
  exact hne (cof_inj t hw (x + 1) v w hv hw' hlv hlw hyn (Prod.ext e1 e2))

theorem child_lvl_ge {t : Tbl} {x : Nat} (hw : WF t) {u : Nat} {n : Nd} (hn : t.node? u = some n) (hl : n.lvl = x) :
    x + 1 ≤ t.levelOf n.lo ∧ x + 1 ≤ t.levelOf n.hi := by
  have := hw.lo_lt _ _ hn
  have := hw.hi_lt _ _ hn
  omega

/-- **The new triples are pairwise distinct**: no processed node carries the triple a pending node
is about to receive, so `setNode` never meets a duplicate.  The two side conditions are the order
of the loops: the lower level has moved up before any upper node is rebuilt (`hX`), and the
independent upper nodes have been relabelled before any node is created (`hF`). -/
theorem SwapRel.target_fresh {t t' : Tbl} {x : Nat} {pend : Nat → Prop} (hw : WFU t)
    (hyn : x + 1 < t.nvars) (h : SwapRel t t' x pend) {u : Nat} {n nd : Nd}
    (hn : t.node? u = some n) (hpu : pend u) (ht : Target t t' x n nd)
    (hX : n.lvl = x + 1 → ∀ k nk, t.node? k = some nk → nk.lvl = x → pend k)
    (hF : nd.lvl = x + 1 → ∀ k, t.node? k = none → t'.node? k = none)
    {k : Nat} (hk : t'.node? k = some nd) : pend k := by
  have hW := hw.toWF
  apply Classical.byContradiction
  intro hnp
  -- an old node with the level and children of `n` is `n`, at `u`
  have same : ∀ nk, t.node? k = some nk → nk.lvl = n.lvl → nk.lo = n.lo → nk.hi = n.hi → False := by
    intro nk hnk e1 e2 e3
    have := Nd.ext e1 e2 e3
    subst this
    have := hw.unique _ _ _ hnk hn
    subst this
    exact hnp hpu
  rcases h.classify hk hnp with ⟨h0, _, hl', _⟩ | ⟨nk, hnk, ⟨h1, h2, e⟩ | ho⟩
  · cases ht with
    | up _ => simp at hl'
    | indep _ _ _ => rw [hF rfl k h0] at hk; cases hk
    | dep _ _ _ _ _ _ => simp at hl'
  · subst e
    cases ht with
    | up _ => exact h1 rfl
    | indep _ _ _ => exact h2 rfl
    | dep _ _ _ _ _ _ => exact h1 rfl
  · generalize e : nd = nd' at ho
    cases ho with
    | up h1 =>
      cases ht with
      | up hl =>
        simp only [Nd.mk.injEq, true_and] at e
        exact same nk hnk (by omega) e.1.symm e.2.symm
      | indep _ _ _ => simp at e
      | dep p q hl hdep hp hq =>
        -- `(x, p, q)` is a node moved up from the lower level: then `p`, `q` are not at the
        -- lower level, both `find_or_add`s eliminated, and the children of `n` coincide
        simp only [Nd.mk.injEq, true_and] at e
        obtain ⟨ep, eq⟩ := e
        have mlo := hW.lo_mem _ _ hn
        have mhi := hW.hi_mem _ _ hn
        obtain ⟨glo, ghi⟩ := child_lvl_ge hW hn hl
        have l1 := hW.lo_lt _ _ hnk
        have l2 := hW.hi_lt _ _ hnk
        have lp : t'.levelOf p ≠ x + 1 := by
          rw [ep, h.lvl_above (hW.lo_mem _ _ hnk) (by omega)]; omega
        have lq : t'.levelOf q ≠ x + 1 := by
          rw [eq, h.lvl_above (hW.hi_mem _ _ hnk) (by omega)]; omega
        have e1 : (cof t (x + 1) n.lo).1 = (cof t (x + 1) n.hi).1 :=
          Classical.byContradiction fun hne => lp (hp.lvl_eq hne)
        have e2 : (cof t (x + 1) n.lo).2 = (cof t (x + 1) n.hi).2 :=
          Classical.byContradiction fun hne => lq (hq.lvl_eq hne)
        exact cof_pairs_ne hw hyn mlo mhi glo ghi (hW.lo_ne_hi _ _ hn) ⟨e1, e2⟩
    | indep h1 _ _ =>
      cases ht with
      | up _ => simp at e
      | indep hl _ _ =>
        simp only [Nd.mk.injEq, true_and] at e
        exact same nk hnk (by omega) e.1.symm e.2.symm
      | dep _ _ _ _ _ _ => simp at e
    | dep p' q' h1 h2 hp2 hq2 =>
      cases ht with
      | up hl => exact hnp (hX hl k nk hnk h1)
      | indep _ _ _ => simp at e
      | dep p q hl hdep hp hq =>
        -- another rebuilt node with the same children: it is the same old node
        simp only [Nd.mk.injEq, true_and] at e
        obtain ⟨ep, eq⟩ := e
        subst ep; subst eq
        have mlo := hW.lo_mem _ _ hn
        have mhi := hW.hi_mem _ _ hn
        have mlo' := hW.lo_mem _ _ hnk
        have mhi' := hW.hi_mem _ _ hnk
        obtain ⟨glo, ghi⟩ := child_lvl_ge hW hn hl
        obtain ⟨glo', ghi'⟩ := child_lvl_ge hW hnk h1
        obtain ⟨mv0, mv1, lv0, lv1, _⟩ := cof_spec t hW (x + 1) n.lo mlo glo hyn
        obtain ⟨mv0', mv1', lv0', lv1', _⟩ := cof_spec t hW (x + 1) nk.lo mlo' glo' hyn
        have a1 := Mk.inj hp hp2 (by rw [h.lvl_above mv0 lv0]; omega) (by rw [h.lvl_above mv0' lv0']; omega)
        have a2 := Mk.inj hq hq2 (by rw [h.lvl_above mv1 lv1]; omega) (by rw [h.lvl_above mv1' lv1']; omega)
        exact same nk hnk (by omega)
          (cof_inj t hw (x + 1) _ _ mlo' mlo glo' glo hyn (Prod.ext a1.1.symm a2.1.symm))
          (cof_inj t hw (x + 1) _ _ mhi' mhi ghi' ghi hyn (Prod.ext a1.2.symm a2.2.symm))

section Sound

variable {t t' : Tbl} {x : Nat}

/-- **The table after the swap is reduced and ordered w.r.t. the new level assignment** -/
theorem swapRel_wf (hw : WFU t) (hyn : x + 1 < t.nvars) (h : SwapRel t t' x (fun _ => False)) :
    WF t' := by
  have hW := hw.toWF
  have hmem : ∀ {c : Int}, t.Mem c → t'.Mem c := fun hc => h.mem hc
  have habove : ∀ c : Int, t.Mem c → x + 1 < t.levelOf c → t'.levelOf c = t.levelOf c :=
    fun c hc hl => h.lvl_above hc hl
  -- every node of the new table, by its origin
  refine WF.of_nodeOK fun u n' hn' => ?_
  rcases h.classify hn' (fun hf => hf) with ⟨_, h2, hl, mlo, mhi, llo, lhi, hpos, hne⟩ | ⟨n, hn, hc⟩
  · refine ⟨h2, by rw [h.nvars]; omega, hmem mlo, hmem mhi, ?_, ?_, hpos, hne⟩
    · rw [habove _ mlo llo]; omega
    · rw [habove _ mhi lhi]; omega
  · have g2 := hW.ge_two _ _ hn
    obtain ⟨hlt, mlo, mhi, llo, lhi, hpos, hne⟩ := hW.nodeOK hn
    rcases hc with ⟨h2, h1, rfl⟩ | ht
    · have m1 := h.lvl_min mlo
      have m2 := h.lvl_min mhi
      refine ⟨g2, by rw [h.nvars]; exact hlt, hmem mlo, hmem mhi, ?_, ?_, hpos, hne⟩
      · by_cases hb : x + 1 < n'.lvl
        · rw [habove _ mlo (by omega)]; exact llo
        · omega
      · by_cases hb : x + 1 < n'.lvl
        · rw [habove _ mhi (by omega)]; exact lhi
        · omega
    · cases ht with
      | up h1 =>
        refine ⟨g2, by rw [h.nvars]; show x < t.nvars; omega, hmem mlo, hmem mhi, ?_, ?_, hpos, hne⟩
        · rw [habove _ mlo (by omega)]; show x < _; omega
        · rw [habove _ mhi (by omega)]; show x < _; omega
      | indep h2 hlo hhi =>
        refine ⟨g2, by rw [h.nvars]; exact hyn, hmem mlo, hmem mhi, ?_, ?_, hpos, hne⟩
        · rw [habove _ mlo (by omega)]; show x + 1 < _; omega
        · rw [habove _ mhi (by omega)]; show x + 1 < _; omega
      | dep p q h2 h3 hp hq =>
        obtain ⟨gl, gh⟩ := child_lvl_ge hW hn h2
        obtain ⟨mv0, mv1, lv0, lv1, _⟩ := cof_spec t hW (x + 1) n.lo mlo gl hyn
        obtain ⟨mw0, mw1, lw0, lw1, _⟩ := cof_spec t hW (x + 1) n.hi mhi gh hyn
        have lp := hp.lvl (by rw [habove _ mv0 lv0]; exact lv0)
        have lq := hq.lvl (by rw [habove _ mv1 lv1]; exact lv1)
        exact ⟨g2, by rw [h.nvars]; show x < t.nvars; omega, hp.mem (hmem mv0), hq.mem (hmem mv1),
          Nat.lt_of_succ_le lp, Nat.lt_of_succ_le lq,
          hq.pos (cof_hi_pos t hW (x + 1) n.hi hpos), dep_p_ne_q hW hyn mlo mhi gl h3 habove hp hq⟩

/-- **Every old reference denotes the old function read through the transposition** -/
theorem swapRel_den (hw : WFU t) (hyn : x + 1 < t.nvars) (h : SwapRel t t' x (fun _ => False))
    (hW' : WF t') :
    ∀ k u, t.Mem u → t.nvars ≤ k + t.levelOf u → ∀ b : Asg,
      den t' u (b.swp x (x + 1)) = den t u b := by
  have hW := hw.toWF
  have hmem : ∀ {c : Int}, t.Mem c → t'.Mem c := fun hc => h.mem hc
  have hterm : ∀ u : Int, u.natAbs = 1 → ∀ b : Asg, den t' u (b.swp x (x + 1)) = den t u b := by
    intro u h1 b
    rcases abs_one h1 with e | e <;> subst e
    · rw [den_one, den_one]
    · rw [den_neg_one, den_neg_one]
  intro k
  induction k with
  | zero =>
    intro u hu hk b
    by_cases h1 : u.natAbs = 1
    · exact hterm u h1 b
    · rcases hu with hu | hu
      · exact absurd hu h1
      · obtain ⟨n, hn⟩ := Option.isSome_iff_exists.mp hu
        have := levelOf_node t u n h1 hn
        have := hW.lvl_lt _ _ hn
        omega
  | succ k ih =>
    intro u hu hk b
    by_cases h1 : u.natAbs = 1
    · exact hterm u h1 b
    · rcases hu with hu | hu
      · exact absurd hu h1
      · obtain ⟨n, hn⟩ := Option.isSome_iff_exists.mp hu
        have hl := levelOf_node t u n h1 hn
        obtain ⟨-, mlo, mhi, llo, lhi, -, -⟩ := hW.nodeOK hn
        have ihlo := ih n.lo mlo (by omega) b
        have ihhi := ih n.hi mhi (by omega) b
        rw [den_node t hW u n b h1 hn]
        obtain ⟨n', hn', hc⟩ := h.image hn (fun hf => hf)
        rw [den_node t' hW' u n' _ h1 hn']
        rcases hc with ⟨c2, c1, rfl⟩ | ht
        · rw [ihlo, ihhi]
          simp [swp_other c2 c1]
        · cases ht with
          | up c1 =>
            rw [ihlo, ihhi]
            simp [c1]
          | indep c2 _ _ =>
            rw [ihlo, ihhi]
            simp [c2]
          | dep p q c2 c3 hp hq =>
            obtain ⟨gl, gh⟩ := child_lvl_ge hW hn c2
            obtain ⟨mv0, mv1, lv0, lv1, dv⟩ := cof_spec t hW (x + 1) n.lo mlo gl hyn
            obtain ⟨mw0, mw1, lw0, lw1, dw⟩ := cof_spec t hW (x + 1) n.hi mhi gh hyn
            simp only
            rw [hp.den hW' (hmem mv0) (hmem mw0), hq.den hW' (hmem mv1) (hmem mw1),
              ih _ mv0 (by omega) b, ih _ mv1 (by omega) b, ih _ mw0 (by omega) b,
              ih _ mw1 (by omega) b, dv b, dw b, c2]
            simp only [Asg.swp_apply, swp_left, swp_right]
            congr 1
            exact (shannon_exchange _ _ _ _ _ _).symm

end Sound

end DD
