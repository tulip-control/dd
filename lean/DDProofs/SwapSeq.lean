/-
  DDProofs.SwapSeq — `collect_garbage` and one level swap, walked once for every property of
  computations that sequencing preserves (`SeqClosed`).  Each `X_seq` mirrors the text of `X`: a
  property that the state-changing primitives have (`SwapPrims`) holds of `X`.  `takeSwapOrders`
  consumes the recorded schedule, so it is a hypothesis of `swapBody_seq` and `swap_seq` only: a
  property of two runs that differ in the schedule has the walks up to `swapWith_seq`.  What
  `takeSiftOrder` does is said first (`takeSiftOrder_run`; `takeSwapOrders_run` is in DDProofs.SwapPop).
-/
import DDProofs.SeqClosed
open Std

namespace DD

/-- `takeSiftOrder` does nothing but consume the recorded schedule, from the front; when it
returns, it yields a permutation of the declared names; every other outcome is the model's
schedule-mismatch report, which needs a recorded schedule -/
theorem takeSiftOrder_run (m : Mgr) :
    Ends (fun names m' => (∃ s, s <:+ m.sched ∧ m' = { m with sched := s }) ∧
        names.length = m.tbl.vars.size ∧ ∀ v ∈ names, m.tbl.vars.contains v = true)
      (fun e m' => e = Err.sched ∧ m.sched ≠ [] ∧ ∃ s, s <:+ m.sched ∧ m' = { m with sched := s })
      (takeSiftOrder m) := by
  have hkeys : ∀ v ∈ m.tbl.vars.keys, m.tbl.vars.contains v = true := by
    intro v hv
    rw [TreeMap.mem_keys] at hv
    exact TreeMap.contains_iff_mem.mpr hv
  unfold takeSiftOrder
  rw [M.bind_ok (M.get_eq m)]
  cases hs : m.sched with
  | nil =>
    exact ⟨⟨m.sched, by rw [hs]; exact List.suffix_refl _, rfl⟩, TreeMap.length_keys, hkeys⟩
  | cons it rest =>
    cases it with
    | swap lv =>
      exact ⟨rfl, List.cons_ne_nil _ _, m.sched, by rw [hs]; exact List.suffix_refl _, rfl⟩
    | sift names =>
      simp only
      rw [M.bind_ok (M.set_eq _ _)]
      split
      · next hc =>
        simp only [Bool.and_eq_true, beq_iff_eq, List.all_eq_true, List.contains_iff_mem] at hc
        refine ⟨⟨rest, List.suffix_cons _ _, rfl⟩, ?_, ?_⟩
        · rw [hc.1.1]; exact TreeMap.length_keys
        · intro v hv; exact hkeys v (hc.1.2 v hv)
      · exact ⟨rfl, List.cons_ne_nil _ _, rest, List.suffix_cons _ _, rfl⟩

theorem takeSiftOrder_cases (m : Mgr) :
    ∃ s, s <:+ m.sched ∧ (takeSiftOrder m).2 = { m with sched := s } :=
  (takeSiftOrder_run m).elim (fun _ _ h => h.1) fun _ _ h => h.2.2

/-- the primitives through which `collect_garbage` and `swap` change the state -/
structure SwapPrims (C : ∀ {α : Type}, M α → Prop) : Prop where
  incref : ∀ u, C (incref u)
  decref : ∀ u, C (decref u)
  refOf : ∀ u, C (refOf u)
  refOfExact : ∀ u, C (refOfExact u)
  findOrAdd : ∀ i v w, C (findOrAdd i v w)
  setNode : ∀ u n, C (setNode u n)
  dropSucc : ∀ u : Nat,
    C (M.modify fun m => { m with tbl := { m.tbl with succ := m.tbl.succ.erase u } })
  dropPred : ∀ k : List Int, C (M.modify fun m => { m with pred := m.pred.erase k })
  dropRef : ∀ u : Nat,
    C (M.modify fun m => { m with ref := m.ref.erase u, minFree := min u m.minFree })
  dropCache : C (M.modify fun m => { m with cache := {} })
  setVar : ∀ (v : String) (y : Nat),
    C (M.modify fun m => { m with tbl := { m.tbl with vars := m.tbl.vars.insert v y } })
  setVars : ∀ (vx vy : String) (x y : Nat), C (M.modify fun m => { m with
    tbl := { m.tbl with
      vars := m.tbl.vars.insert vy x
      l2v := (m.tbl.l2v.insert y vx).insert x vy }
    cache := {} })

/-! ### the closing loops read the table of the state they are given, nothing else -/

theorem checkOld_tbl {m m' : Mgr} (h : m'.tbl = m.tbl) (ok : Nat → Bool) :
    ∀ l : List (Nat × Int × Int), checkOld m' ok l = checkOld m ok l
  | [] => rfl
  | (u, v, w) :: rest => by
    unfold checkOld
    rw [h, checkOld_tbl h ok rest]

theorem checkFresh_tbl {m m' : Mgr} (h : m'.tbl = m.tbl) (y : Nat) :
    ∀ l : List Nat, checkFresh m' y l = checkFresh m y l
  | [] => rfl
  | u :: rest => by
    unfold checkFresh
    rw [h, checkFresh_tbl h y rest]

theorem checkRootsL_tbl {m m' : Mgr} (h : m'.tbl = m.tbl) :
    ∀ l : List Int, checkRootsL m' l = checkRootsL m l
  | [] => rfl
  | r :: rest => by
    unfold checkRootsL Mgr.mem
    rw [h, checkRootsL_tbl h rest]

section
variable {C : ∀ {α : Type}, M α → Prop} (hC : SeqClosed C) (hP : SwapPrims @C)
include hC

theorem lowHighLevel_seq (u : Int) : C (lowHighLevel u) :=
  hC.read fun _ => hC.ofOption _

theorem varAtLevel_seq (i : Int) : C (varAtLevel i) :=
  hC.read fun _ => hC.ite _ (hC.raise _) (hC.ofOption _)

theorem levelOfVar_seq (v : String) : C (levelOfVar v) :=
  hC.read fun _ => hC.ofOption _

theorem resolveVL_seq (a : VarOrLevel) : C (resolveVL a) :=
  hC.read (fun _ => by
    cases a with
    | name s => exact hC.bind (hC.ofOption _) fun _ => hC.pure _
    | level i => exact hC.pure _)

theorem swapCofactor_seq (u : Int) (y : Nat) : C (swapCofactor u y) :=
  hC.read (fun _ => hC.ite _ (hC.ite _ (hC.pure _) (hC.raise _)) <|
    hC.bind (hC.ofOption _) fun _ => hC.ite _ (hC.pure _) (hC.pure _))

theorem depCofactors_seq (v w : Int) (y : Nat) : C (depCofactors v w y) :=
  hC.bind (swapCofactor_seq hC v y) fun ⟨_, _, _⟩ =>
  hC.bind (swapCofactor_seq hC w y) fun ⟨_, _, _⟩ =>
  hC.bind (hC.assert _) fun _ => hC.bind (hC.assert _) fun _ => hC.pure _

theorem checkOld_seq (m0 : Mgr) (ok : Nat → Bool) :
    ∀ l : List (Nat × Int × Int), C (checkOld m0 ok l)
  | [] => hC.pure _
  | (u, _, _) :: rest => by
    unfold checkOld
    split
    · exact checkOld_seq m0 ok rest
    · exact hC.bind (hC.assert _) fun _ => checkOld_seq m0 ok rest

theorem checkFresh_seq (m0 : Mgr) (y : Nat) : ∀ l : List Nat, C (checkFresh m0 y l)
  | [] => hC.pure _
  | _ :: rest =>
    hC.bind (hC.ofOption _) fun _ => hC.bind (hC.assert _) fun _ => checkFresh_seq m0 y rest

theorem checkNewLevels_seq (x y : Nat) (lx ly : List (Nat × Int × Int)) (xf : List Nat) :
    C (checkNewLevels x y lx ly xf) :=
  hC.get (fun m0 => hC.bind (checkOld_seq hC m0 _ _) fun _ =>
    hC.bind (checkFresh_seq hC m0 _ _) fun _ => checkOld_seq hC m0 _ _) fun s l fi m0 => by
    have h : (m0.ghost s l fi).tbl = m0.tbl := rfl
    rw [checkOld_tbl h, checkFresh_tbl h, checkOld_tbl h]

theorem checkRootsL_seq (m0 : Mgr) : ∀ l : List Int, C (checkRootsL m0 l)
  | [] => hC.pure _
  | _ :: rest => hC.ite _ (hC.raise _) (checkRootsL_seq m0 rest)

theorem checkRoots_seq : C checkRoots :=
  hC.get (fun m0 => checkRootsL_seq hC m0 m0.roots) fun s l fi m0 =>
    checkRootsL_tbl (m := m0) (m' := m0.ghost s l fi) rfl _

include hP

theorem gcStep_seq (u : Nat) (work : List Nat) : C (gcStep u work) := by
  unfold gcStep
  dsimp only
  -- `if u = 1 then raise` is followed by the rest of the body in both branches
  refine hC.ite _ (hC.bind (hC.raise _) fun _ => ?rest) ?rest
  exact hC.read (fun _ => hC.bind (hC.ofOption _) fun _ => hC.bind (hP.dropSucc _) fun _ =>
    hC.bind (hC.ofOption _) fun _ => hC.bind (hP.dropPred _) fun _ =>
    hC.bind (hC.ofOption _) fun _ => hC.bind (hP.dropRef _) fun _ =>
    hC.bind (hC.assert _) fun _ => hC.bind (hC.assert _) fun _ =>
    hC.read (fun _ => hC.bind (hC.assert _) fun _ => hC.bind (hP.decref _) fun _ =>
      hC.bind (hP.decref _) fun _ => hC.bind (hP.refOf _) fun _ =>
      hC.bind (hP.refOfExact _) fun _ => hC.pure _))

theorem gcLoop_seq : ∀ (f : Nat) (work : List Nat), C (gcLoop f work)
  | 0, [] => hC.pure _
  | _+1, [] => hC.pure _
  | 0, _ :: _ => hC.raise _
  | f+1, u :: rest => hC.bind (gcStep_seq hC hP u rest) fun w => gcLoop_seq f w

theorem unusedOf_seq : ∀ l : List Int, C (unusedOf l)
  | [] => hC.pure _
  | _ :: rest => hC.bind (hP.refOf _) fun _ => hC.bind (unusedOf_seq rest) fun _ =>
    hC.ite _ (hC.pure _) (hC.pure _)

theorem collectGarbage_seq (roots : Option (List Int)) : C (collectGarbage roots) :=
  hC.read (fun _ => hC.bind (unusedOf_seq hC hP _) fun _ => hC.bind (gcLoop_seq hC hP _ _) fun _ =>
    hC.bind hP.dropCache fun _ => hC.read fun _ => hC.assert _)

theorem popLevel_seq (j : Nat) : ∀ l : List Nat, C (popLevel j l)
  | [] => hC.pure _
  | _ :: rest =>
    hC.read (fun _ => hC.bind (hC.ofOption _) fun _ => hC.bind (hC.assert _) fun _ =>
      hC.bind (hC.ofOption _) fun _ => hC.bind (hP.dropPred _) fun _ =>
      hC.bind (hC.assert _) fun _ => hC.bind (popLevel_seq j rest) fun _ => hC.pure _)

theorem moveUp_seq (x y : Nat) : ∀ l : List (Nat × Int × Int), C (moveUp x y l)
  | [] => hC.pure _
  | (_, _, _) :: rest =>
    hC.read (fun _ => hC.bind (hC.ofOption _) fun _ => hC.bind (hC.assert _) fun _ =>
      hC.bind (hP.setNode _ _) fun _ => moveUp_seq x y rest)

theorem moveIndep_seq (x y : Nat) : ∀ l : List (Nat × Int × Int), C (moveIndep x y l)
  | [] => hC.pure _
  | (_, _, _) :: rest =>
    hC.read (fun _ => hC.bind (hC.ofOption _) fun _ => hC.bind (hC.assert _) fun _ =>
      hC.bind (hC.assert _) fun _ => hC.bind (lowHighLevel_seq hC _) fun _ =>
      hC.bind (lowHighLevel_seq hC _) fun _ =>
      hC.ite _ (moveIndep_seq x y rest) <| hC.bind (hP.setNode _ _) fun _ =>
        hC.bind (moveIndep_seq x y rest) fun _ => hC.pure _)

theorem moveDepStep_seq (x y u : Nat) (v w : Int) : C (moveDepStep x y u v w) :=
  hC.read (fun _ => hC.bind (hC.ofOption _) fun _ => hC.bind (hC.assert _) fun _ =>
    hC.bind (hC.assert _) fun _ => hC.bind (hP.decref _) fun _ => hC.bind (hP.decref _) fun _ =>
    hC.bind (depCofactors_seq hC _ _ _) fun ⟨_, _, _, _⟩ =>
    hC.bind (hP.findOrAdd _ _ _) fun _ => hC.bind (hP.findOrAdd _ _ _) fun _ =>
    hC.bind (hC.assert _) fun _ => hC.bind (hC.assert _) fun _ =>
    hC.bind (lowHighLevel_seq hC _) fun _ => hC.bind (lowHighLevel_seq hC _) fun _ =>
    hC.bind (hP.setNode _ _) fun _ => hC.bind (hP.incref _) fun _ =>
    hC.bind (hP.incref _) fun _ => hC.pure _)

theorem moveDep_seq (x y : Nat) (done : List Nat) :
    ∀ l : List (Nat × Int × Int), C (moveDep x y done l)
  | [] => hC.pure _
  | (_, _, _) :: rest =>
    hC.ite _ (moveDep_seq x y done rest) <| hC.bind (moveDepStep_seq hC hP _ _ _ _ _) fun _ =>
      hC.bind (moveDep_seq x y done rest) fun ⟨_, _⟩ => hC.pure _

theorem swapNodes_seq (x y : Nat) (ox oy : List Nat) : C (swapNodes x y ox oy) :=
  hC.bind (popLevel_seq hC hP _ _) fun _ => hC.bind (popLevel_seq hC hP _ _) fun _ =>
  hC.bind (moveUp_seq hC hP _ _ _) fun _ => hC.bind (moveIndep_seq hC hP _ _ _) fun _ =>
  hC.bind (moveDep_seq hC hP _ _ _ _) fun ⟨_, _⟩ => hC.pure _

theorem exchangeNames_seq (x y : Nat) : C (exchangeNames x y) :=
  hC.bind (varAtLevel_seq hC _) fun _ => hC.bind (hP.setVar _ _) fun _ =>
  hC.bind (varAtLevel_seq hC _) fun _ => hP.setVars _ _ _ _

theorem swapWith_seq (x y oldsize : Nat) (ox oy : List Nat) : C (swapWith x y oldsize ox oy) :=
  hC.bind (swapNodes_seq hC hP _ _ _ _) fun ⟨_, _, _, _⟩ =>
  hC.bind (exchangeNames_seq hC hP _ _) fun _ => hC.bind (collectGarbage_seq hC hP _) fun _ =>
  hC.read fun _ => hC.bind (checkNewLevels_seq hC _ _ _ _ _) fun _ => hC.pure _

variable (hT : ∀ x y, C (takeSwapOrders x y))
include hT

theorem swapBody_seq (x y : Nat) : C (swapBody x y) :=
  hC.read fun _ => hC.bind (hT _ _) fun ⟨_, _⟩ => swapWith_seq hC hP _ _ _ _ _

theorem swap_seq (xa ya : VarOrLevel) (given : Bool) : C (swap xa ya given) := by
  unfold swap
  dsimp only
  -- `if not given: collect_garbage()` is followed by the rest of the body in both branches
  refine hC.ite _ (hC.bind (collectGarbage_seq hC hP _) fun _ => ?rest) ?rest
  exact hC.bind (resolveVL_seq hC _) fun _ => hC.bind (resolveVL_seq hC _) fun _ =>
    hC.read (fun _ => hC.ite _ (hC.raise _) <|
      hC.ite _ (hC.raise _) <|
      hC.ite _ (hC.raise _) <|
      hC.ite _ (hC.raise _) (swapBody_seq hC hP hT _ _))

end

end DD
