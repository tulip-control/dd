/-
  DDProofs.ToExprProofs — `to_expr` writes the text of a syntax tree that unfolds the
  diagram (the memo table only shares texts), and the front end of `add_expr`
  (tokenizer + parser) reads that text back as the same tree.  The tree is meaningful and means
  the node it was printed from (`toExprAst_sem`), so whatever reference has its meaning is that
  node (`toExprAst_unique`); `to_expr` is total on the nodes of a well-formed table.
-/
import DDProofs.LexProofs
import DDProofs.DynExpr
import DDProofs.SatSupport
import DDProofs.Reach
open Std
namespace DD

/-- the term `to_expr` prints, as a syntax tree (no cache) -/
def toExprAstF : Nat → Tbl → Int → Except Err Ast
  | 0, _, _ => .error .fuel
  | f+1, t, u =>
    if u = 1 then .ok (.bool true) else
    if u = -1 then .ok (.bool false) else
    match t.succ[u.natAbs]? with
    | none => .error .key
    | some n =>
      if n.lo = 0 || n.hi = 0 then .error .assertion else
      match t.l2v[n.lvl]? with
      | none => .error .key
      | some var =>
        match toExprAstF f t n.lo with
        | .error e => .error e
        | .ok p =>
          match toExprAstF f t n.hi with
          | .error e => .error e
          | .ok q =>
            let e : Ast := if p = .bool false ∧ q = .bool true then .var var else .ite (.var var) q p
            .ok (if u < 0 then .not e else e)

theorem toExprAstF_ok {f : Nat} {t : Tbl} {u : Int} {a : Ast} (h : toExprAstF (f+1) t u = .ok a) :
    (u = 1 ∧ a = .bool true) ∨ (u = -1 ∧ a = .bool false) ∨
    (u ≠ 1 ∧ u ≠ -1 ∧ ∃ n var p q e, t.succ[u.natAbs]? = some n ∧
      (n.lo = 0 || n.hi = 0) = false ∧ t.l2v[n.lvl]? = some var ∧
      toExprAstF f t n.lo = .ok p ∧ toExprAstF f t n.hi = .ok q ∧
      e = (if p = .bool false ∧ q = .bool true then .var var else .ite (.var var) q p) ∧
      a = if u < 0 then .not e else e) := by
  rw [toExprAstF] at h
  split at h
  · next h1 => exact Or.inl ⟨h1, (Except.ok.inj h).symm⟩
  split at h
  · next h2 => exact Or.inr (Or.inl ⟨h2, (Except.ok.inj h).symm⟩)
  next h1 h2 =>
  split at h
  · cases h
  next n hn =>
  split at h
  · cases h
  next hz =>
  split at h
  · cases h
  next var hv =>
  split at h
  · cases h
  next p hp =>
  split at h
  · cases h
  next q hq =>
  exact Or.inr (Or.inr ⟨h1, h2, n, var, p, q, _, hn, (Bool.not_eq_true _).mp hz, hv, hp, hq, rfl, (Except.ok.inj h).symm⟩)

theorem toExprAstF_le_step (t : Tbl) : ∀ (f : Nat) (u : Int) (a : Ast),
    toExprAstF f t u = .ok a → toExprAstF (f+1) t u = .ok a := by
  intro f
  induction f with
  | zero => intro u a h; cases h
  | succ f ih =>
    intro u a h
    rcases toExprAstF_ok h with ⟨rfl, rfl⟩ | ⟨rfl, rfl⟩ | ⟨h1, h2, n, var, p, q, e, hn, hz, hv, hp, hq, rfl, rfl⟩
    · rfl
    · rfl
    · rw [toExprAstF]
      simp only [h1, h2, if_false, hn, hz, hv, ih _ _ hp, ih _ _ hq, Bool.false_eq_true]

theorem toExprAstF_le (t : Tbl) (f g : Nat) (u : Int) (a : Ast) (hfg : f ≤ g)
    (h : toExprAstF f t u = .ok a) : toExprAstF g t u = .ok a := by
  induction hfg with
  | refl => exact h
  | step _ ih => exact toExprAstF_le_step t _ u a ih

theorem natAbs_ne_one {u : Int} (h1 : u ≠ 1) (h2 : u ≠ -1) : u.natAbs ≠ 1 := by omega

theorem toExprAst_sem (t : Tbl) (hw : WF t) (hV : VarsBij t) :
    ∀ (f : Nat) (u : Int) (a : Ast), toExprAstF f t u = .ok a → t.Mem u →
      Meaningful t a ∧ ∀ an, evalFormula t a an = den t u (asgOf t an) := by
  intro f
  induction f with
  | zero => intro u a h; cases h
  | succ f ih =>
    intro u a h hu
    rcases toExprAstF_ok h with ⟨rfl, rfl⟩ | ⟨rfl, rfl⟩ | ⟨h1, h2, n, var, p, q, e, hn, -, hv, hp, hq, he, rfl⟩
    · exact ⟨trivial, fun an => (den_one _ _).symm⟩
    · exact ⟨trivial, fun an => (den_neg_one _ _).symm⟩
    have hnode : t.node? u.natAbs = some n := hn
    have hna := natAbs_ne_one h1 h2
    obtain ⟨hMp, hdp⟩ := ih n.lo p hp (hw.lo_mem _ _ hnode)
    obtain ⟨hMq, hdq⟩ := ih n.hi q hq (hw.hi_mem _ _ hnode)
    have hvar : t.vars.contains var = true :=
      (vars_contains_iff _ _).mpr ⟨n.lvl, hV.l2v _ _ hv⟩
    have hlvl : ∀ an, asgOf t an n.lvl = an var := by
      intro an; simp [asgOf, hv]
    -- `e`, the text of `|u|`, means `ite(var, high, low)`, also when it is printed as the bare variable
    have hin : Meaningful t e ∧ ∀ an, evalFormula t e an =
        (if asgOf t an n.lvl then den t n.hi (asgOf t an) else den t n.lo (asgOf t an)) := by
      rw [he]
      by_cases hc : p = .bool false ∧ q = .bool true
      · rw [if_pos hc]
        refine ⟨hvar, ?_⟩
        intro an
        have e1 := hdp an
        have e2 := hdq an
        rw [hc.1] at e1
        rw [hc.2] at e2
        simp only [evalFormula] at e1 e2
        rw [← e1, ← e2, hlvl]
        simp only [evalFormula]
        cases an var <;> rfl
      · rw [if_neg hc]
        refine ⟨⟨hvar, hMq, hMp⟩, ?_⟩
        intro an
        simp only [evalFormula]
        rw [hdp, hdq, hlvl]
        by_cases hb : an var = true <;> simp [hb]
    by_cases hneg : u < 0
    · simp only [hneg, if_true]
      refine ⟨hin.1, ?_⟩
      intro an
      simp only [evalFormula]
      rw [hin.2, den_node t hw u n _ hna hnode]
      simp [hneg]
    · simp only [hneg, if_false]
      refine ⟨hin.1, ?_⟩
      intro an
      rw [hin.2, den_node t hw u n _ hna hnode]
      simp [hneg]

/-- a reference that means, by name, what the unfolding of `u` means is `u`: the round trip
`add_expr(to_expr(u)) = u` once `add_expr` is known to return the meaning of the tree it reads -/
theorem toExprAst_unique {t T : Tbl} (hw : WF t) (hO : OrderOK t) (hW : WFU T) (hO' : OrderOK T)
    {f : Nat} {u r : Int} {a : Ast} (ha : toExprAstF f t u = .ok a) (hu : t.Mem u)
    (hr : ExprDoc a t r T) (hk : T.Mem u ∧ ∀ σ, denN T u σ = denN t u σ) : r = u :=
  (eq_iff_denN hW hO' r u hr.1 hk.1).mpr fun σ => by
    rw [hr.2, hk.2, (toExprAst_sem t hw (.ofOrderOK hO) f u a ha hu).2, denN_eq_asgOf hw hO u hu]

/-- the text `to_expr` writes for a tree of its image -/
def teStr (a : Ast) : String := String.ofList (teChars a)

/-- the constants are the only trees of the image of `to_expr` whose text is a keyword: a variable
is not called by a reserved word, and `ite(…`, `(~ …` start with another character -/
theorem teStr_bool {a : Ast} (h : TE a) (b : Bool) :
    teStr a = cond b "TRUE" "FALSE" ↔ a = .bool b := by
  have eb : cond b "TRUE" "FALSE" = teStr (.bool b) := by
    cases b <;> exact String.ofList_toList.symm
  refine ⟨fun e => ?_, fun e => e ▸ eb.symm⟩
  rw [eb, teStr, teStr, String.ofList_inj] at e
  have e1 : "ite(".toList = ['i', 't', 'e', '('] := by decide
  have e2 : "(~ ".toList = ['(', '~', ' '] := by decide
  have e3 : "FALSE".toList = ['F', 'A', 'L', 'S', 'E'] := by decide
  have e4 : "TRUE".toList = ['T', 'R', 'U', 'E'] := by decide
  -- a text that starts with neither `F` nor `T` is not a constant
  have hc : ∀ (c : Char) (l : List Char), c ≠ 'F' → c ≠ 'T' → c :: l ≠ teChars (.bool b) := by
    intro c l hF hT h
    cases b
    · exact hF (List.cons.inj (h.trans e3)).1
    · exact hT (List.cons.inj (h.trans e4)).1
  cases h with
  | tt => cases b <;> first | rfl | exact absurd e (by decide)
  | ff => cases b <;> first | rfl | exact absurd e (by decide)
  | var x hx =>
    have : x = teStr (.bool b) := String.toList_injective (by rw [teStr, String.toList_ofList]; exact e)
    subst this
    cases b <;> exact absurd hx.2 (by decide)
  | ite v q p _ _ _ =>
    rw [teChars, e1] at e
    exact absurd e (hc 'i' _ (by decide) (by decide))
  | neg x _ =>
    rw [teChars, e2] at e
    exact absurd e (hc '(' _ (by decide) (by decide))

theorem teStr_var (x : String) : teStr (.var x) = x := by
  simp [teStr, teChars, String.ofList_toList]

theorem teStr_ite (v : String) (q p : Ast) :
    teStr (.ite (.var v) q p) = "ite(" ++ v ++ ", " ++ teStr q ++ ", " ++ teStr p ++ ")" := by
  apply String.toList_injective
  have e : ")".toList = [')'] := by decide
  simp [teStr, teChars, String.toList_append, String.toList_ofList, e]

theorem teStr_not (a : Ast) : teStr (.not a) = "(~ " ++ teStr a ++ ")" := by
  apply String.toList_injective
  have e : ")".toList = [')'] := by decide
  simp [teStr, teChars, String.toList_append, String.toList_ofList, e]

/-- every cached text is the text of the tree of its node -/
def CacheOK (t : Tbl) (cache : HashMap Int String) : Prop :=
  ∀ k s, cache[k]? = some s → ∃ f a, toExprAstF f t k = .ok a ∧ TE a ∧ s = teStr a

/-- the variables that label the nodes of the diagram below `u` (the levels of the support of
`u`, `namesBelow_of_support`) are NAME tokens and not reserved words -/
def NamesBelow (t : Tbl) (u : Int) : Prop :=
  ∀ v n, Reach t u.natAbs v → t.succ[v]? = some n → ∀ x, t.l2v[n.lvl]? = some x → nameOk x

theorem NamesBelow.lo {t : Tbl} {u : Int} {n : Nd} (h : NamesBelow t u)
    (hn : t.succ[u.natAbs]? = some n) : NamesBelow t n.lo :=
  fun v n' hr => h v n' (Reach.lo hn hr)

theorem NamesBelow.hi {t : Tbl} {u : Int} {n : Nd} (h : NamesBelow t u)
    (hn : t.succ[u.natAbs]? = some n) : NamesBelow t n.hi :=
  fun v n' hr => h v n' (Reach.hi hn hr)

theorem NamesBelow.of_all {t : Tbl} (h : ∀ (lvl : Nat) (v : String), t.l2v[lvl]? = some v → nameOk v)
    (u : Int) : NamesBelow t u :=
  fun _ n _ _ x hx => h n.lvl x hx

theorem toExprF_spec (t : Tbl) :
    ∀ (f : Nat) (u : Int) (cache cache' : HashMap Int String) (s : String), NamesBelow t u →
    CacheOK t cache → toExprF f t u cache = .ok (s, cache') →
    CacheOK t cache' ∧ ∃ f' a, toExprAstF f' t u = .ok a ∧ TE a ∧ s = teStr a := by
  intro f
  induction f with
  | zero => intro u cache cache' s _ _ h; simp [toExprF] at h
  | succ f ih =>
    intro u cache cache' s hnames hc h
    rw [toExprF] at h
    split at h
    · next h1 =>
      obtain ⟨rfl, rfl⟩ := Prod.mk.inj (Except.ok.inj h)
      exact ⟨hc, 1, .bool true, by simp [toExprAstF, h1], TE.tt, by decide⟩
    split at h
    · next h2 =>
      obtain ⟨rfl, rfl⟩ := Prod.mk.inj (Except.ok.inj h)
      exact ⟨hc, 1, .bool false, by simp [toExprAstF, h2], TE.ff, by decide⟩
    next h1 h2 =>
    split at h
    · next s0 hcu =>
      obtain ⟨rfl, rfl⟩ := Prod.mk.inj (Except.ok.inj h)
      exact ⟨hc, hc u _ hcu⟩
    split at h
    · cases h
    next n hn =>
    split at h
    · cases h
    next hz =>
    split at h
    · cases h
    next var hv =>
    split at h
    · cases h
    next ps c1 hp =>
    split at h
    · cases h
    next qs c2 hq =>
    obtain ⟨hs, hcache⟩ : _ = s ∧ _ = cache' := Prod.mk.inj (Except.ok.inj h)
    obtain ⟨hc1, fp, ap, hap, htp, rfl⟩ := ih _ _ _ _ (hnames.lo hn) hc hp
    obtain ⟨hc2, fq, aq, haq, htq, rfl⟩ := ih _ _ _ _ (hnames.hi hn) hc1 hq
    have hvar : nameOk var := hnames _ n (Reach.refl _) hn _ hv
    let e : Ast := if ap = .bool false ∧ aq = .bool true then .var var else .ite (.var var) aq ap
    let a : Ast := if u < 0 then .not e else e
    have hte : TE e := by
      simp only [e]
      split
      · exact TE.var _ hvar
      · exact TE.ite _ _ _ hvar htq htp
    have hta : TE a := by
      simp only [a]
      split
      · exact TE.neg _ hte
      · exact hte
    have hast : toExprAstF (max fp fq + 1) t u = .ok a := by
      rw [toExprAstF]
      simp only [h1, h2, if_false, hn, hz, hv,
        toExprAstF_le t fp (max fp fq) _ _ (Nat.le_max_left _ _) hap,
        toExprAstF_le t fq (max fp fq) _ _ (Nat.le_max_right _ _) haq]
      rfl
    have hes : (if (teStr ap == "FALSE" && teStr aq == "TRUE") = true then var
        else s!"ite({var}, {teStr aq}, {teStr ap})") = teStr e := by
      have hiff : (teStr ap == "FALSE" && teStr aq == "TRUE") = true ↔ ap = .bool false ∧ aq = .bool true := by
        rw [Bool.and_eq_true, beq_iff_eq, beq_iff_eq]
        exact and_congr (teStr_bool htp false) (teStr_bool htq true)
      simp only [hiff, e]
      split
      · exact (teStr_var _).symm
      · rw [teStr_ite]; rfl
    have hs' : s = teStr a := by
      rw [← hs, hes]
      simp only [a]
      split
      · rw [teStr_not]; rfl
      · rfl
    refine ⟨?_, _, a, hast, hta, hs'⟩
    rw [← hcache, hs]
    exact memo_insert hc2 ⟨_, a, hast, hta, hs'⟩

theorem TE_wf {a : Ast} (h : TE a) : a.WF := by
  induction h with
  | tt => trivial
  | ff => trivial
  | var x _ => trivial
  | ite v q p _ _ _ ihq ihp => exact ⟨trivial, ihq, ihp⟩
  | neg e _ ih => exact ih

theorem TE_atNodes {t : Ast} (h : TE t) : t.atNodes = [] := by
  induction h with
  | tt => rfl
  | ff => rfl
  | var x _ => rfl
  | ite v q p _ _ _ ihq ihp => simp [Ast.atNodes, ihq, ihp]
  | neg e _ ih => simpa [Ast.atNodes] using ih

/-- lexing the text `to_expr` writes for a tree gives the tokens of the tree, with
parentheses exactly around the negations -/
theorem tokenize_teStr {a : Ast} (h : TE a) : tokenize (teStr a) = printG isNot a := by
  rw [teStr, tokenize_ofList, lex_teChars h]

/-- the text written by `to_expr` is the text of the syntax tree that unfolds the diagram
below `u` (`ite(var, high, low)`, a variable for `ite(var, TRUE, FALSE)`, `(~ …)` for a
complemented reference), provided the names of the variables BELOW `u` are NAME tokens -/
theorem toExpr_spec (t : Tbl) (u : Int) (hnames : NamesBelow t u)
    (s : String) (h : toExpr t u = .ok s) :
    ∃ f a, toExprAstF f t u = .ok a ∧ TE a ∧ s = teStr a := by
  unfold toExpr at h
  split at h
  · exact absurd h (by simp)
  · cases hr : toExprF (t.nvars + 2) t u {} with
    | error e => simp [hr, Except.map] at h
    | ok r =>
      obtain ⟨s', c⟩ := r
      simp only [hr, Except.map, Except.ok.injEq] at h
      subst h
      exact (toExprF_spec t _ _ _ _ _ hnames memo_empty hr).2

/-- the hypothesis of the round trip stated with `support`: the names of the levels of the
support of `u` are NAME tokens (other declared variables may have any name) -/
def lexableSupport (tb : Tbl) (u : Int) : Prop :=
  ∀ ls, supportLevels tb u = .ok ls → ∀ lvl ∈ ls, ∀ v, tb.l2v[lvl]? = some v → nameOk v

/-- the levels of the nodes below `u` are the levels of `support(u)` -/
theorem namesBelow_of_support {t : Tbl} (hw : WFU t) {u : Int} (hm : t.Mem u)
    (h : lexableSupport t u) : NamesBelow t u := by
  obtain ⟨l, e, _, s⟩ := supportLevels_spec hw u hm
  intro v n hr hn x hx
  exact h l e n.lvl ((s _).mpr ((dependsOn_iff_reach hw _ u hm).mpr ⟨v, n, hr, hn, rfl⟩)) x hx

/-- `to_expr`, then the front end of `add_expr`: the tree of the diagram comes back -/
theorem parse_toExpr (t : Tbl) (u : Int) (hnames : NamesBelow t u)
    (s : String) (h : toExpr t u = .ok s) :
    ∃ f a, toExprAstF f t u = .ok a ∧ TE a ∧ parse (tokenize s) = some a := by
  obtain ⟨f, a, ha, hte, rfl⟩ := toExpr_spec t u hnames s h
  exact ⟨f, a, ha, hte, by rw [tokenize_teStr hte, parse_printG isNot a (TE_wf hte)]⟩

theorem toExprF_total (t : Tbl) (hw : WF t) (hV : VarsBij t) :
    ∀ (f : Nat) (u : Int) (cache : HashMap Int String), t.Mem u → t.nvars + 1 ≤ f + t.levelOf u →
      ∃ s c', toExprF f t u cache = .ok (s, c') := by
  intro f
  induction f with
  | zero =>
    intro u cache _ hf
    have := levelOf_le t hw u
    omega
  | succ f ih =>
    intro u cache hu hf
    rw [toExprF]
    by_cases h1 : u = 1
    · exact ⟨_, _, by simp only [h1, if_true]; rfl⟩
    · by_cases h2 : u = -1
      · exact ⟨_, _, by simp only [h2, if_true]; rfl⟩
      · simp only [h1, h2, if_false]
        cases hcu : cache[u]? with
        | some s0 => exact ⟨_, _, rfl⟩
        | none =>
          have hna := natAbs_ne_one h1 h2
          obtain ⟨n, hn⟩ := mem_node hu hna
          have hn' : t.succ[u.natAbs]? = some n := hn
          have hz : (n.lo = 0 || n.hi = 0) = false := by
            have := node_succ_ne_zero hw hn
            simp only [not_or] at this
            simp [this.1, this.2]
          have hlt := hw.lvl_lt _ _ hn
          obtain ⟨v, hv⟩ := hV.onto n.lvl hlt
          have hl2v := hV.v2l _ _ hv
          have hlu := levelOf_node t u n hna hn
          obtain ⟨ps, c1, hp⟩ := ih n.lo cache (hw.lo_mem _ _ hn)
            (by have := hw.lo_lt _ _ hn; omega)
          obtain ⟨qs, c2, hq⟩ := ih n.hi c1 (hw.hi_mem _ _ hn)
            (by have := hw.hi_lt _ _ hn; omega)
          simp only [hn', hz, Bool.false_eq_true, if_false, hl2v, hp, hq]
          exact ⟨_, _, rfl⟩

theorem toExpr_total (t : Tbl) (hw : WF t) (hV : VarsBij t) (u : Int) (hu : t.Mem u) :
    ∃ s, toExpr t u = .ok s := by
  obtain ⟨s, c, h⟩ := toExprF_total t hw hV (t.nvars + 2) u {} hu (by omega)
  refine ⟨s, ?_⟩
  unfold toExpr
  simp [(Tbl.mem_iff t u).mpr hu, h, Except.map]

end DD
