/-
  DDProofs.Total — `find_or_add`, `incref`, `decref` as TOTAL functions: whatever the
  arguments (unknown nodes, bad levels), the state after the call satisfies the invariant,
  extends the old node table and keeps the order (`Kept`).
  This is the core of C17 ("an operation that raises leaves everything intact"); the decorated
  operations are in DDProofs.DynRejectedOps (their rows `X_decorated`, read by `Decorated.off`).
-/
import DDProofs.Agree
open Std

namespace DD

/-- what every call, failed or not, must leave behind.  Field for field this is `Step`
(DDProofs.Agree), the conclusion of the `_spec` theorems about calls that return; the theorems about
arbitrary arguments speak of `Kept` -/
structure Kept (m m' : Mgr) : Prop where
  inv : Inv m'
  ext : Ext m.tbl m'.tbl
  frame : Frame m m'

theorem Step.kept {m m' : Mgr} (h : Step m m') : Kept m m' := ⟨h.inv, h.ext, h.frame⟩
theorem Kept.toStep {m m' : Mgr} (h : Kept m m') : Step m m' := ⟨h.inv, h.ext, h.frame⟩
theorem Kept.off {m m' : Mgr} (h : Kept m m') (hoff : m.lastLen = none) : m'.lastLen = none :=
  h.toStep.off hoff

theorem Kept.refl {m : Mgr} (h : Inv m) : Kept m m := ⟨h, Ext.refl _, Frame.refl _⟩

theorem Kept.trans {a b c : Mgr} (h1 : Kept a b) (h2 : Kept b c) : Kept a c :=
  ⟨h2.inv, h1.ext.trans h2.ext, h1.frame.trans h2.frame⟩

theorem Kept.den {m m' : Mgr} (h : Kept m m') (hI : Inv m) (u : Int) (hu : m.tbl.Mem u) :
    m'.tbl.Mem u ∧ ∀ a, den m'.tbl u a = den m.tbl u a :=
  ⟨h.ext.mem hu, fun a => den_ext h.ext hI.wf.toWF u a hu⟩

/-- the documented precondition of the raw `find_or_add`: the level is above both children
(the code does not check it; every other argument is checked) -/
def FoaGuard (m : Mgr) (i : Nat) (v w : Int) : Prop :=
  i < m.nvars → m.tbl.Mem v → m.tbl.Mem w → i < m.tbl.levelOf v ∧ i < m.tbl.levelOf w

/-- C17 (find_or_add): a bad level or an unknown child is refused with nothing changed; an
accepted call keeps the invariant under `FoaGuard` -/
theorem findOrAddCore_total (m : Mgr) (hI : Inv m) (i : Nat) (v w : Int) (hg : FoaGuard m i v w) :
    Kept m (findOrAddCore i v w m).2 := by
  by_cases h : i < m.nvars ∧ m.tbl.Mem v ∧ m.tbl.Mem w
  · obtain ⟨hlv, hlw⟩ := hg h.1 h.2.1 h.2.2
    obtain ⟨r, m', he, hp⟩ := findOrAddCore_spec m hI i v w h.1 h.2.1 h.2.2 hlv hlw
    rw [he]; exact ⟨hp.inv, hp.ext, hp.frame⟩
  · rcases findOrAddCore_eq m i v w (fun u hu => by
        rw [← TreeMap.contains_eq_isSome_getElem?]; exact hI.refMem hu) _ rfl
      with ⟨e, he, -⟩ | ⟨h1, h2, h3, -⟩
    · rw [he]; exact Kept.refl hI
    · exact absurd ⟨h1, h2, h3⟩ h

/-- C17 (`incref` / `decref` of anything): the node table is never touched (an unknown node is a
`KeyError`) -/
theorem incref_kept (m : Mgr) (hI : Inv m) (u : Int) : Kept m (incref u m).2 := by
  unfold incref
  cases h : m.ref[u.natAbs]? with
  | none => exact Kept.refl hI
  | some c => exact ⟨hI.refGrow fun k => contains_insert_mono _ _ _ _, Ext.refl _, ⟨rfl, rfl, rfl, rfl, rfl, rfl⟩⟩

theorem decref_kept (m : Mgr) (hI : Inv m) (u : Int) : Kept m (decref u m).2 := by
  unfold decref
  cases h : m.ref[u.natAbs]? with
  | none => exact Kept.refl hI
  | some c =>
    dsimp only
    split
    · exact Kept.refl hI
    · exact ⟨hI.refGrow fun k => contains_insert_mono _ _ _ _, Ext.refl _, ⟨rfl, rfl, rfl, rfl, rfl, rfl⟩⟩

end DD
