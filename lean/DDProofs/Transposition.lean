/-
  DDProofs.Transposition — the exchange of two levels, as a map of levels (`swp`) and on
  assignments of levels (`Asg.swp`): an involution that moves nothing else.
-/
import DDProofs.Sem

namespace DD

/-- exchange `x` and `y`, keep everything else -/
def swp (x y i : Nat) : Nat := if i = x then y else if i = y then x else i

@[simp] theorem swp_left (x y : Nat) : swp x y x = y := by simp [swp]
@[simp] theorem swp_right (x y : Nat) : swp x y y = x := by
  unfold swp; split <;> simp_all
theorem swp_other {x y i : Nat} (h1 : i ≠ x) (h2 : i ≠ y) : swp x y i = i := by simp [swp, h1, h2]
@[simp] theorem swp_swp (x y i : Nat) : swp x y (swp x y i) = i := by
  unfold swp
  by_cases h1 : i = x
  · subst h1; by_cases h2 : y = i <;> simp [h2]
  · by_cases h2 : i = y
    · subst h2; simp [h1]
    · simp [h1, h2]
theorem swp_inj {x y i j : Nat} (h : swp x y i = swp x y j) : i = j := by
  have := congrArg (swp x y) h
  simpa using this
theorem swp_lt {x y n i : Nat} (hx : x < n) (hy : y < n) : swp x y i < n ↔ i < n := by
  unfold swp
  by_cases h1 : i = x
  · subst h1; simp [hx, hy]
  · by_cases h2 : i = y
    · subst h2; simp [h1, hx, hy]
    · simp [h1, h2]

/-- an assignment of levels seen through the transposition -/
def Asg.swp (b : Asg) (x y : Nat) : Asg := fun i => b (DD.swp x y i)

@[simp] theorem Asg.swp_apply (b : Asg) (x y i : Nat) : b.swp x y i = b (DD.swp x y i) := rfl
@[simp] theorem Asg.swp_swp (b : Asg) (x y : Nat) : (b.swp x y).swp x y = b := by
  funext i; simp [Asg.swp]

end DD
