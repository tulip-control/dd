/-
  DDProofs.Undeclare — `undeclare_vars` (C14): refusals leave the state as it was; a successful
  call removes exactly the requested (or all unused) variables, compacts the levels keeping the
  relative order, keeps the manager invariant, and keeps every function BY NAME.

  The new table is the old one with the levels relabeled by the compaction map
  (DDProofs.Relabel); the new `_level_to_var` and `_pred` are inverses built by a fold of inserts
  (DDProofs.MapBijection).
-/
import DDProofs.Names
import DDProofs.MapBijection
open Std

namespace DD

/-- the place of `i` among the numbers that satisfy `p` -/
def rank (p : Nat → Bool) (i : Nat) : Nat := ((List.range i).filter p).length

theorem rank_succ (p : Nat → Bool) (i : Nat) : rank p (i + 1) = rank p i + (if p i then 1 else 0) := by
  unfold rank
  rw [List.range_succ, List.filter_append]
  by_cases h : p i <;> simp [h]

theorem rank_mono (p : Nat → Bool) {i j : Nat} (h : i ≤ j) : rank p i ≤ rank p j := by
  induction h with
  | refl => exact Nat.le_refl _
  | step _ ih => rw [rank_succ]; omega

theorem rank_lt (p : Nat → Bool) {i j : Nat} (hi : p i = true) (h : i < j) : rank p i < rank p j := by
  have h1 : rank p (i + 1) = rank p i + 1 := by rw [rank_succ]; simp [hi]
  have h2 := rank_mono p (show i + 1 ≤ j from h)
  omega

theorem rank_surj (p : Nat → Bool) (n j : Nat) (h : j < rank p n) :
    ∃ i, i < n ∧ p i = true ∧ rank p i = j := by
  induction n with
  | zero => exact absurd h (Nat.not_lt_zero j)
  | succ n ih =>
    by_cases hj : j < rank p n
    · obtain ⟨i, hi, h1, h2⟩ := ih hj
      exact ⟨i, Nat.lt_succ_of_lt hi, h1, h2⟩
    · -- `j` is the rank of `n` itself, which is kept since the rank went up
      rw [rank_succ] at h
      by_cases hp : p n = true
      · exact ⟨n, Nat.lt_succ_self n, hp, by rw [if_pos hp] at h; omega⟩
      · rw [if_neg hp] at h
        exact absurd h hj

theorem mem_foldl_dedup {α : Type} (c : α → Bool) (g : α → Nat) (l : List α) (x : Nat) :
    ∀ init : List Nat,
    (x ∈ l.foldl (fun acc p => if c p || acc.contains (g p) then acc else g p :: acc) init ↔
      x ∈ init ∨ ∃ p ∈ l, c p = false ∧ g p = x) := by
  induction l with
  | nil => intro init; simp
  | cons p l ih =>
    intro init
    have step : x ∈ (if c p || init.contains (g p) then init else g p :: init) ↔
        x ∈ init ∨ (c p = false ∧ g p = x) := by
      by_cases hc : c p = true
      · simp [hc]
      · by_cases hm : g p ∈ init
        · simp only [hc, hm, List.contains_iff_mem, Bool.false_or, if_true, true_and]
          exact ⟨Or.inl, fun h => h.elim id (· ▸ hm)⟩
        · simp [hc, hm, eq_comm, or_comm]
    rw [List.foldl_cons, ih, step]
    simp only [List.mem_cons, or_and_right, exists_or, exists_eq_left, or_assoc]

/-- `full_levels` before the `|=`: exactly the levels in use -/
theorem mem_undeclNodeLevels (t : Tbl) (l : Nat) : l ∈ undeclNodeLevels t ↔ t.LevelUsed l := by
  unfold undeclNodeLevels Tbl.LevelUsed
  rw [TreeMap.foldl_eq_foldl_toList]
  refine (mem_foldl_dedup (fun _ => false) (fun p : Nat × Nd => p.2.lvl) _ l _).trans ?_
  rw [List.mem_singleton, exists_mem_toList t.succ fun _ n => false = false ∧ n.lvl = l]
  simp only [true_and]
  rfl

/-- `full_levels` after the `|=` -/
theorem mem_undeclFull (t : Tbl) (vrs : List String) (l : Nat) :
    l ∈ undeclFull t vrs ↔
      t.LevelUsed l ∨ (vrs ≠ [] ∧ ∃ v : String, v ∉ vrs ∧ t.vars[v]? = some l) := by
  unfold undeclFull
  by_cases he : vrs = []
  · subst he
    simp [mem_undeclNodeLevels]
  · have : vrs.isEmpty = false := by cases vrs <;> simp_all
    simp only [this, Bool.false_eq_true, if_false]
    rw [TreeMap.foldl_eq_foldl_toList,
      mem_foldl_dedup (fun p : String × Nat => vrs.contains p.1) (fun p => p.2), mem_undeclNodeLevels,
      exists_mem_toList t.vars fun v i => vrs.contains v = false ∧ i = l]
    refine or_congr_right ⟨?_, ?_⟩
    · rintro ⟨v, i, hv, hc, rfl⟩
      exact ⟨he, v, by simpa using hc, hv⟩
    · rintro ⟨_, v, hc, hv⟩
      exact ⟨v, l, hv, by simpa using hc, rfl⟩

/-- the relabeling of levels: `i ↦` number of kept levels below `i` -/
abbrev undeclMap (full : List Nat) : Nat → Nat := rank (fun j => full.contains j)

theorem undeclMap_lt {full : List Nat} {i j : Nat} (hi : i ∈ full) (h : i < j) :
    undeclMap full i < undeclMap full j :=
  rank_lt _ (by simpa using hi) h

theorem undeclNewLevel?_eq (full : List Nat) (n i : Nat) :
    undeclNewLevel? full n i = if i < n ∧ i ∈ full then some (undeclMap full i) else none := by
  unfold undeclNewLevel? undeclMap rank
  by_cases h1 : i < n <;> by_cases h2 : i ∈ full <;> simp [h1, h2]

section State
variable (m : Mgr) (full : List Nat)

theorem undeclState_vars (hO : OrderOK m.tbl) (v : String) (j : Nat) :
    (undeclState m full).tbl.vars[v]? = some j ↔
      ∃ l, m.tbl.vars[v]? = some l ∧ l ∈ full ∧ j = undeclMap full l := by
  show (m.tbl.vars.filterMap fun _ old => undeclNewLevel? full (1 + m.nvars) old)[v]? = some j ↔ _
  rw [TreeMap.getElem?_filterMap']
  cases hv : m.tbl.vars[v]? with
  | none => simp
  | some l =>
    have hl : l < 1 + m.nvars := by have := hO.lt v l hv; show l < 1 + m.tbl.nvars; omega
    rw [Option.bind_some, undeclNewLevel?_eq]
    by_cases hf : l ∈ full
    · rw [if_pos ⟨hl, hf⟩]
      exact ⟨fun h => ⟨l, rfl, hf, (Option.some.inj h).symm⟩,
        fun ⟨l', h1, _, h3⟩ => by cases h1; rw [h3]⟩
    · rw [if_neg fun h => hf h.2]
      exact ⟨fun h => (nomatch h), fun ⟨l', h1, h2, _⟩ => by cases h1; exact absurd h2 hf⟩

theorem undeclState_vars_inj (hO : OrderOK m.tbl) (v w : String) (j : Nat)
    (hv : (undeclState m full).tbl.vars[v]? = some j)
    (hw : (undeclState m full).tbl.vars[w]? = some j) : v = w := by
  obtain ⟨l, h1, h2, h3⟩ := (undeclState_vars m full hO v j).mp hv
  obtain ⟨l', h1', h2', h3'⟩ := (undeclState_vars m full hO w j).mp hw
  have : l = l' := eq_of_increasingOn (fun i j hi _ => undeclMap_lt hi) h2 h2' (h3.symm.trans h3')
  exact hO.vars_inj h1 (this ▸ h1')

theorem undeclState_l2v (hO : OrderOK m.tbl) (v : String) (j : Nat) :
    (undeclState m full).tbl.l2v[j]? = some v ↔ (undeclState m full).tbl.vars[v]? = some j := by
  refine (getElem?_foldl_insert_inv (undeclState m full).tbl.vars (fun _ k => k)
    (fun k k' i i' h1 h2 he => undeclState_vars_inj m full hO k k' i h1 (he ▸ h2)) j v).trans ⟨?_, ?_⟩
  · rintro ⟨i, h1, rfl⟩; exact h1
  · intro h; exact ⟨j, h, rfl⟩

theorem undeclState_order (hO : OrderOK m.tbl) :
    OrderOK (undeclState m full).tbl ∧
      (undeclState m full).tbl.nvars = undeclMap full m.tbl.nvars := by
  apply OrderOK.of_bij fun v i => (undeclState_l2v m full hO v i).symm
  · intro v j hv
    obtain ⟨l, h1, h2, h3⟩ := (undeclState_vars m full hO v j).mp hv
    rw [h3]; exact undeclMap_lt h2 (hO.lt v l h1)
  · intro j hj
    obtain ⟨l, hl, hp, hr⟩ := rank_surj _ _ _ hj
    obtain ⟨v, -, hv⟩ := hO.name_at hl
    exact ⟨v, (undeclState_l2v m full hO v j).mpr
      ((undeclState_vars m full hO v j).mpr ⟨l, hv, by simpa using hp, hr.symm⟩)⟩

theorem undeclState_relabel (hW : WF m.tbl) (hO : OrderOK m.tbl)
    (hfull : ∀ l, m.tbl.LevelUsed l → l ∈ full) :
    Relabel m.tbl (undeclState m full).tbl (undeclMap full) := by
  refine ⟨?_, (undeclState_order m full hO).2, fun i j hi _ h => undeclMap_lt (hfull i hi) h⟩
  intro u
  show (m.tbl.succ.map fun _ nd => { nd with lvl := (undeclNewLevel? full (1 + m.nvars) nd.lvl).getD 0 })[u]? = _
  rw [TreeMap.getElem?_map]
  show Option.map _ (m.tbl.node? u) = _
  cases hn : m.tbl.node? u with
  | none => rfl
  | some n =>
    have h1 : n.lvl < 1 + m.nvars := by have := hW.lvl_lt u n hn; show n.lvl < 1 + m.tbl.nvars; omega
    have h2 : n.lvl ∈ full := hfull _ (Or.inr ⟨u, n, hn, rfl⟩)
    simp only [undeclNewLevel?_eq, h1, h2, and_self, if_true, Option.getD_some, Option.map_some]

theorem undeclState_inv (hI : Inv m) (hO : OrderOK m.tbl)
    (hfull : ∀ l, m.tbl.LevelUsed l → l ∈ full) : Inv (undeclState m full) := by
  have hR := undeclState_relabel m full hI.wf.toWF hO hfull
  refine hI.relabel hR ?_ rfl rfl ?_
  · -- the new `_pred` inverts the new `_succ`, which has no two numbers for one node
    intro n u
    refine (getElem?_foldl_insert_inv (undeclState m full).tbl.succ (fun _ nd => nd.key)
      (fun k k' v v' h1 h2 he => (WFU_relabel hR hI.wf).unique k k' v h1 (Nd.key_inj he ▸ h2))
      n.key u).trans ⟨?_, fun h => ⟨n, h, rfl⟩⟩
    rintro ⟨v, h1, h2⟩
    rw [← Nd.key_inj h2]; exact h1
  · intro k w hc
    have : (∅ : TreeMap (List Int) Int)[k]? = some w := hc
    simp at this

/-- every reference keeps its function BY NAME -/
theorem undeclState_denN (hI : Inv m) (hO : OrderOK m.tbl)
    (hfull : ∀ l, m.tbl.LevelUsed l → l ∈ full) (u : Int) (hu : m.tbl.Mem u) :
    (undeclState m full).tbl.Mem u ∧
      ∀ σ, denN (undeclState m full).tbl u σ = denN m.tbl u σ := by
  have hR := undeclState_relabel m full hI.wf.toWF hO hfull
  refine ⟨(hR.mem u).mpr hu, fun σ => ?_⟩
  unfold denN
  refine den_relabel hR hI.wf _ _ ?_ u hu
  -- the name at the compacted level is the name that was at the level
  intro i hi hused
  unfold Tbl.lift Tbl.nameOf
  obtain ⟨v, hv, hv'⟩ := hO.name_at hi
  have h1 : (undeclState m full).tbl.l2v[undeclMap full i]? = some v :=
    (undeclState_l2v m full hO v _).mpr
      ((undeclState_vars m full hO v _).mpr ⟨i, hv', hfull i hused, rfl⟩)
  rw [h1, hv]

end State

/-- a node sits at level `l` -/
def Tbl.LevelHasNode (t : Tbl) (l : Nat) : Prop := ∃ u n, t.node? u = some n ∧ n.lvl = l

theorem levelUsed_iff_of_var {t : Tbl} (hO : OrderOK t) {v : String} {l : Nat}
    (hv : t.vars[v]? = some l) : t.LevelUsed l ↔ t.LevelHasNode l :=
  ⟨fun h => h.resolve_left (Nat.ne_of_lt (hO.lt v l hv)), Or.inr⟩

/-- `rm_vars`, the names `undeclare_vars(*vrs)` returns -/
def undeclRemoved (t : Tbl) (vrs : List String) : List String :=
  (t.vars.toList.filter fun p => !(undeclFull t vrs).contains p.2).map (·.1)

/-- REFUSALS: a name that is not declared, or a variable whose level carries a node, makes
`undeclare_vars` raise `ValueError`; the state is unchanged -/
theorem undeclare_refuses (m : Mgr) (vrs : List String)
    (h : ∃ v ∈ vrs, m.tbl.vars[v]? = none ∨
      ∃ l, m.tbl.vars[v]? = some l ∧ m.tbl.LevelHasNode l) :
    undeclareVars vrs m = (.error .value, m) := by
  unfold undeclareVars
  by_cases h1 : (vrs.any fun v => !m.tbl.vars.contains v) = true
  · simp only [h1, if_true]
  · simp only [h1, Bool.false_eq_true, if_false]
    rw [if_pos]
    obtain ⟨v, hv, hc⟩ := h
    rw [List.any_eq_true]
    refine ⟨v, hv, ?_⟩
    rcases hc with hc | ⟨l, hl, u, n, hn, hnl⟩
    · simp only [hc]
    · simp only [hl]
      rw [List.contains_iff_mem]
      exact (mem_undeclNodeLevels m.tbl l).mpr (Or.inr ⟨u, n, hn, hnl⟩)

/-- SUCCESS: with every named variable declared and at a level without nodes, the call returns
`undeclRemoved` and leaves the state `undeclState` -/
theorem undeclare_ok (m : Mgr) (hW : WF m.tbl) (hO : OrderOK m.tbl) (vrs : List String)
    (hvrs : ∀ v ∈ vrs, ∃ l, m.tbl.vars[v]? = some l ∧ ¬ m.tbl.LevelHasNode l) :
    undeclareVars vrs m =
      (.ok (undeclRemoved m.tbl vrs), undeclState m (undeclFull m.tbl vrs)) := by
  unfold undeclareVars
  have h1 : (vrs.any fun v => !m.tbl.vars.contains v) = false := by
    rw [List.any_eq_false]
    intro v hv
    obtain ⟨l, hl, _⟩ := hvrs v hv
    rw [TreeMap.contains_eq_isSome_getElem?, hl]; simp
  have h3 : (m.tbl.succ.toList.any fun p =>
      (undeclNewLevel? (undeclFull m.tbl vrs) (1 + m.nvars) p.2.lvl).isNone) = false := by
    rw [List.any_eq_false]
    intro p hp
    have hn : m.tbl.node? p.1 = some p.2 := TreeMap.mem_toList_iff_getElem?_eq_some.mp hp
    have a : p.2.lvl < 1 + m.nvars := by
      have := hW.lvl_lt _ _ hn; show p.2.lvl < 1 + m.tbl.nvars; omega
    have b : p.2.lvl ∈ undeclFull m.tbl vrs :=
      (mem_undeclFull _ _ _).mpr (Or.inl (Or.inr ⟨p.1, p.2, hn, rfl⟩))
    simp [undeclNewLevel?_eq, a, b]
  simp only [h1, h3, Bool.false_eq_true, if_false]
  rw [if_neg]
  · rfl
  · rw [Bool.not_eq_true, List.any_eq_false]
    intro v hv
    obtain ⟨l, hl, hno⟩ := hvrs v hv
    simp only [hl]
    rw [List.contains_iff_mem, mem_undeclNodeLevels, levelUsed_iff_of_var hO hl]
    exact hno

theorem mem_undeclRemoved (t : Tbl) (vrs : List String) (v : String) :
    v ∈ undeclRemoved t vrs ↔ ∃ l, t.vars[v]? = some l ∧ l ∉ undeclFull t vrs := by
  unfold undeclRemoved
  rw [List.mem_map]
  constructor
  · rintro ⟨p, hp, rfl⟩
    rw [List.mem_filter] at hp
    exact ⟨p.2, TreeMap.mem_toList_iff_getElem?_eq_some.mp hp.1, by simpa using hp.2⟩
  · rintro ⟨l, h1, h2⟩
    exact ⟨(v, l), List.mem_filter.mpr ⟨TreeMap.mem_toList_iff_getElem?_eq_some.mpr h1, by simpa using h2⟩, rfl⟩

theorem undeclRemoved_nodup (t : Tbl) (vrs : List String) : (undeclRemoved t vrs).Nodup :=
  List.pairwise_map.mpr
    ((pairwise_toList_of_inj t.vars Prod.fst fun _ _ _ _ _ _ e => e).filter _)

theorem mem_undeclFull_of_var {t : Tbl} (hO : OrderOK t) (vrs : List String) {v : String} {l : Nat}
    (hv : t.vars[v]? = some l) :
    l ∈ undeclFull t vrs ↔ t.LevelHasNode l ∨ (vrs ≠ [] ∧ v ∉ vrs) := by
  rw [mem_undeclFull, levelUsed_iff_of_var hO hv]
  refine or_congr_right (and_congr_right fun _ => ⟨?_, fun hn => ⟨v, hn, hv⟩⟩)
  rintro ⟨w, hw, hwl⟩
  exact hO.vars_inj hwl hv ▸ hw

/-- the removed names: exactly the named ones, or (no name given) exactly the variables whose
level carries no node -/
theorem undeclRemoved_spec (t : Tbl) (hO : OrderOK t) (vrs : List String)
    (hvrs : ∀ v ∈ vrs, ∃ l, t.vars[v]? = some l ∧ ¬ t.LevelHasNode l) (v : String) :
    v ∈ undeclRemoved t vrs ↔
      if vrs = [] then (∃ l, t.vars[v]? = some l ∧ ¬ t.LevelHasNode l) else v ∈ vrs := by
  rw [mem_undeclRemoved]
  by_cases he : vrs = []
  · rw [if_pos he]
    refine exists_congr fun l => and_congr_right fun hl => not_congr ?_
    rw [mem_undeclFull_of_var hO vrs hl]
    exact ⟨fun h => h.elim id fun h => absurd he h.1, Or.inl⟩
  · rw [if_neg he]
    constructor
    · rintro ⟨l, hl, h⟩
      exact Classical.byContradiction fun hv => h ((mem_undeclFull_of_var hO vrs hl).mpr (Or.inr ⟨he, hv⟩))
    · intro hv
      obtain ⟨l, hl, hno⟩ := hvrs v hv
      exact ⟨l, hl, fun h => ((mem_undeclFull_of_var hO vrs hl).mp h).elim hno fun h => h.2 hv⟩

theorem undeclFull_used (t : Tbl) (vrs : List String) (l : Nat) (h : t.LevelUsed l) : l ∈ undeclFull t vrs :=
  (mem_undeclFull _ _ _).mpr (Or.inl h)

theorem undeclRemoved_declared (t : Tbl) (vrs : List String) (v : String) (hv : v ∈ undeclRemoved t vrs) :
    t.vars.contains v = true := by
  obtain ⟨l, hl, _⟩ := (mem_undeclRemoved _ _ _).mp hv
  rw [TreeMap.contains_eq_isSome_getElem?, hl]; rfl

theorem undeclState_vars_kept (m : Mgr) (hO : OrderOK m.tbl) (vrs : List String) (v : String) (j : Nat) :
    (undeclState m (undeclFull m.tbl vrs)).tbl.vars[v]? = some j ↔
      ∃ l, m.tbl.vars[v]? = some l ∧ v ∉ undeclRemoved m.tbl vrs ∧ j = undeclMap (undeclFull m.tbl vrs) l := by
  rw [undeclState_vars m _ hO]
  refine exists_congr fun l => and_congr_right fun hl => and_congr_left fun _ => ?_
  rw [mem_undeclRemoved]
  exact ⟨fun h ⟨l', hl', hn⟩ => hn (Option.some.inj (hl.symm.trans hl') ▸ h),
    fun h => Classical.byContradiction fun hn => h ⟨l, hl, hn⟩⟩

/-- the removed names are the variables that were declared and no longer are -/
theorem undeclRemoved_iff_dropped (m : Mgr) (hO : OrderOK m.tbl) (vrs : List String) (v : String) :
    v ∈ undeclRemoved m.tbl vrs ↔
      (m.tbl.vars.contains v ∧ ¬ (undeclState m (undeclFull m.tbl vrs)).tbl.vars.contains v) := by
  simp only [TreeMap.contains_eq_isSome_getElem?, Option.isSome_iff_exists, undeclState_vars m _ hO,
    mem_undeclRemoved]
  constructor
  · rintro ⟨l, hl, hn⟩
    exact ⟨⟨l, hl⟩, fun ⟨_, l', hl', hf, _⟩ => hn (Option.some.inj (hl.symm.trans hl') ▸ hf)⟩
  · rintro ⟨⟨l, hl⟩, hn⟩
    exact ⟨l, hl, fun hf => hn ⟨_, l, hl, hf, rfl⟩⟩

/-- the variables left keep their relative order: the compaction map is increasing on the kept levels -/
theorem undeclState_rel_order (m : Mgr) (full : List Nat) (hO : OrderOK m.tbl) (v w : String)
    (i j i' j' : Nat) (hv : m.tbl.vars[v]? = some i) (hw : m.tbl.vars[w]? = some j)
    (hv' : (undeclState m full).tbl.vars[v]? = some i') (hw' : (undeclState m full).tbl.vars[w]? = some j') :
    i < j ↔ i' < j' := by
  obtain ⟨l, h1, h2, h3⟩ := (undeclState_vars m full hO v i').mp hv'
  obtain ⟨l', h1', h2', h3'⟩ := (undeclState_vars m full hO w j').mp hw'
  rw [hv] at h1; cases h1
  rw [hw] at h1'; cases h1'
  rw [h3, h3']
  exact ⟨undeclMap_lt h2, lt_of_increasingOn (fun i j hi _ => undeclMap_lt hi) h2 h2'⟩

/-- the hypotheses of `undeclare_refuses` and of `undeclare_ok` are complementary -/
theorem undeclare_cases (m : Mgr) (vrs : List String) :
    (∃ v ∈ vrs, m.tbl.vars[v]? = none ∨ ∃ l, m.tbl.vars[v]? = some l ∧ m.tbl.LevelHasNode l) ∨
    (∀ v ∈ vrs, ∃ l, m.tbl.vars[v]? = some l ∧ ¬ m.tbl.LevelHasNode l) := by
  by_cases h : ∃ v ∈ vrs, m.tbl.vars[v]? = none ∨ ∃ l, m.tbl.vars[v]? = some l ∧ m.tbl.LevelHasNode l
  · exact Or.inl h
  · refine Or.inr fun v hv => ?_
    cases hl : m.tbl.vars[v]? with
    | none => exact absurd ⟨v, hv, Or.inl hl⟩ h
    | some l => exact ⟨l, rfl, fun hn => h ⟨v, hv, Or.inr ⟨l, hl, hn⟩⟩⟩

/-- every call is refused with nothing changed, or returns `undeclRemoved` and leaves `undeclState` -/
theorem undeclare_total (m : Mgr) (hW : WF m.tbl) (hO : OrderOK m.tbl) (vrs : List String) :
    undeclareVars vrs m = (.error .value, m) ∨
    undeclareVars vrs m = (.ok (undeclRemoved m.tbl vrs), undeclState m (undeclFull m.tbl vrs)) :=
  (undeclare_cases m vrs).imp (undeclare_refuses m vrs) (undeclare_ok m hW hO vrs)

end DD
