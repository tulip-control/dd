/-
  DDProofs.UndeclareExample — a concrete small manager built by model operations from the
  empty manager, used for the non-vacuity examples of C14 (removal).  Variables `a` (level 0),
  `b` (level 1), `c` (level 2); nodes 2 = `c`, 3 = `a ∧ c`; no node at the level of `b`.
-/
import DDProofs.Undeclare
import DDProofs.Reach
open Std

namespace DD

def undeclEx0 : Mgr := addVarState (addVarState (addVarState {} "a") "b") "c"
/-- node 2 = `c` -/
def undeclEx1 : Mgr := (findOrAddCore 2 (-1) 1 undeclEx0).2
/-- node 3 = `a ∧ c` : the example manager -/
def undeclExM : Mgr := (findOrAddCore 0 (-1) 2 undeclEx1).2

/-- the same five steps as calls of the user: `undeclExM` is a reachable state -/
def undeclExHist : List UOp :=
  [.declare "a" none, .declare "b" none, .declare "c" none, .findOrAdd 2 (-1) 1, .findOrAdd 0 (-1) 2]

theorem undeclExM_eq : undeclExM = (run undeclExHist St.init).m := rfl

theorem undeclExM_ok : Inv undeclExM ∧ OrderOK undeclExM.tbl :=
  have h := reachable_inv undeclExHist (by decide)
  undeclExM_eq ▸ ⟨h.inv, h.order⟩

theorem undeclExM_lookups :
    undeclExM.tbl.vars["a"]? = some 0 ∧ undeclExM.tbl.vars["b"]? = some 1 ∧
    undeclExM.tbl.vars["z"]? = none ∧ undeclExM.tbl.node? 3 = some ⟨0, -1, 2⟩ ∧
    1 ∉ undeclNodeLevels undeclExM.tbl := by
  decide +kernel

theorem undeclExM_b : ∀ v ∈ ["b"], ∃ l, undeclExM.tbl.vars[v]? = some l ∧ ¬ undeclExM.tbl.LevelHasNode l := by
  intro v hv
  rw [List.mem_singleton] at hv
  subst hv
  exact ⟨1, undeclExM_lookups.2.1,
    fun hn => undeclExM_lookups.2.2.2.2 ((mem_undeclNodeLevels _ _).mpr (Or.inr hn))⟩

theorem undeclExM_a : ∃ l, undeclExM.tbl.vars["a"]? = some l ∧ undeclExM.tbl.LevelHasNode l :=
  ⟨0, undeclExM_lookups.1, 3, ⟨0, -1, 2⟩, undeclExM_lookups.2.2.2.1, rfl⟩

theorem undeclExM_runs : (undeclareVars ["b"] undeclExM).1.toOption = some ["b"] ∧
    (undeclareVars ["b"] undeclExM).2.tbl.vars["c"]? = some 1 ∧
    (undeclareVars [] undeclExM).1.toOption = some ["b"] := by
  decide +kernel

end DD
