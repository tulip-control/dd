/-
  DDProofs.UsedExample — a USED manager for the non-vacuity examples of the property theorems:
  four variables declared in the order c, a, d, b (so the order of the levels is NOT the order of
  the names), thirteen nodes, the user holds `a ∧ b` (node 4) once and the four-variable function
  `ite(c ≡ d, a ∧ b, ¬b)` (node 13) twice — once through the complemented edge —, the rest is
  garbage (node 14 = `a ∨ d`, intermediate results).  Reached by a guarded history, so
  `reachable_inv` / `reachable_predNodes` give the hypotheses those theorems make about a manager.
-/
import DDProofs.PredNodesReach
open Std
namespace DD

def usedHistory : List UOp :=
  [ .declare "c" none, .declare "a" none, .declare "d" none, .declare "b" none,
    .var "a", .var "b", .apply "and" 2 (some 3) none,          -- 2, 3, 4 = a ∧ b
    .var "c", .var "d", .apply "xor" 5 (some 6) none,          -- 5, 6, -7
    .ite 7 4 (-3),                                              -- 13
    .incref 4, .incref 13, .incref (-13),
    .apply "or" 2 (some 6) none ]                               -- 14, garbage

def usedM : Mgr := (run usedHistory St.init).m
/-- the user's ledger: node 4 once, node 13 twice -/
def usedExt : Nat → Nat := (run usedHistory St.init).ext

theorem usedHistory_guarded : OpsGuarded usedHistory St.init := by decide

/-- everything the examples ask of `usedM`, in one declaration: the kernel evaluates the history
once per declaration that compares `usedM` with the state the history reaches -/
theorem usedM_facts : GoodState usedM usedExt ∧ PredNodes usedM ∧
    (usedM.tbl.vars.toList = [("a", 1), ("b", 3), ("c", 0), ("d", 2)] ∧
      usedM.tbl.succ.keys = [2, 3, 4, 5, 6, 7, 8, 9, 10, 11, 12, 13, 14] ∧
      usedM.tbl.node? 13 = some ⟨0, -10, 12⟩ ∧
      usedExt 4 = 1 ∧ usedExt 13 = 2 ∧ usedM.roots = [] ∧ usedM.sched = []) ∧
    ∀ k : Fin 15, 1 ≤ k.val → usedM.tbl.Mem (k.val : Int) :=
  ⟨reachable_inv usedHistory usedHistory_guarded, reachable_predNodes usedHistory usedHistory_guarded,
    by decide +kernel⟩

theorem usedM_good : GoodState usedM usedExt := usedM_facts.1
theorem usedM_predNodes : PredNodes usedM := usedM_facts.2.1

theorem usedM_shape : usedM.tbl.vars.toList = [("a", 1), ("b", 3), ("c", 0), ("d", 2)] ∧
    usedM.tbl.succ.keys = [2, 3, 4, 5, 6, 7, 8, 9, 10, 11, 12, 13, 14] ∧
    usedM.tbl.node? 13 = some ⟨0, -10, 12⟩ ∧
    usedExt 4 = 1 ∧ usedExt 13 = 2 ∧ usedM.roots = [] ∧ usedM.sched = [] := usedM_facts.2.2.1

theorem usedM_mem4 : usedM.tbl.Mem 4 := usedM_facts.2.2.2 4 (by decide)
theorem usedM_mem13 : usedM.tbl.Mem 13 := usedM_facts.2.2.2 13 (by decide)

attribute [irreducible] usedM usedExt

end DD
