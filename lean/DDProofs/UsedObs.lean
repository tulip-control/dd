/-
  DDProofs.UsedObs — observation helpers for the non-vacuity examples on the USED manager
  `usedM` (DDProofs.UsedExample): the truth table of a reference over the four levels, and the
  remaining hypotheses the property theorems ask for (`VarsBij`, membership of every reference).

  Levels of `usedM`: 0 = c, 1 = a, 2 = d, 3 = b (declared in this order).  References:
  2 = a, 3 = b, 4 = a ∧ b, 5 = c, 6 = d, 7 = (c ≡ d), 13 = ite(c ≡ d, a ∧ b, ¬b), 14 = a ∨ d.
-/
import DDProofs.UsedExample
import DDProofs.SatCount
import DDProofs.VarsBijOrder
open Std
namespace DD

/-- the truth table of `u` over levels 0..3: sixteen rows in lexicographic order of
`(level 0, level 1, level 2, level 3)`, `false` before `true`; every other level is `false` -/
def tt4 (t : Tbl) (u : Int) : List Bool :=
  (allAsg [0, 1, 2, 3] (fun _ => false)).map (den t u)

def rows4 : List Asg := allAsg [0, 1, 2, 3] (fun _ => false)

theorem usedM_varsBij : VarsBij usedM.tbl := VarsBij.ofOrderOK usedM_good.order

theorem usedM_mem {u : Int} (h : 1 ≤ u.natAbs ∧ u.natAbs ≤ 14) : usedM.tbl.Mem u := by
  have h1 := usedM_facts.2.2.2 ⟨u.natAbs, by omega⟩ h.1
  unfold Tbl.Mem at h1 ⊢
  simpa using h1

/-- the two functions held by the user and the garbage node 14; a row reads c a d b -/
theorem usedM_tables :
    tt4 usedM.tbl 4 = [false, false, false, false, false, true, false, true,
                       false, false, false, false, false, true, false, true] ∧
    tt4 usedM.tbl 13 = [false, false, true, false, false, true, true, false,
                        true, false, false, false, true, false, false, true] ∧
    tt4 usedM.tbl 14 = [false, false, true, true, true, true, true, true,
                        false, false, true, true, true, true, true, true] := by decide +kernel

theorem tt4_of_den {t : Tbl} {u : Int} {g : Asg → Bool} (h : ∀ a, den t u a = g a) :
    tt4 t u = rows4.map g := by
  unfold tt4 rows4
  exact List.map_congr_left (fun a _ => h a)

theorem tt4_of_iff {t : Tbl} {u : Int} {g : Asg → Bool} (h : ∀ a, den t u a = true ↔ g a = true) :
    tt4 t u = rows4.map g :=
  tt4_of_den (fun a => Bool.eq_iff_iff.mpr (h a))

/-- `qsem false [j]` unfolded, as a test on the two values at level `j` -/
theorem exists_one_level (p : Asg → Bool) (a : Asg) (j : Nat) :
    (∃ b : Asg, (∀ i, i ∉ [j] → b i = a i) ∧ p b = true) ↔
      (p (upd a j false) || p (upd a j true)) = true := by
  rw [Bool.or_eq_true]
  exact (qsem_cons false j [] p a).trans (or_congr (qsem_nil false p _) (qsem_nil false p _))

/-- `qsem true [j]` unfolded -/
theorem forall_one_level (p : Asg → Bool) (a : Asg) (j : Nat) :
    (∀ b : Asg, (∀ i, i ∉ [j] → b i = a i) → p b = true) ↔
      (p (upd a j false) && p (upd a j true)) = true := by
  rw [Bool.and_eq_true]
  exact (qsem_cons true j [] p a).trans (and_congr (qsem_nil true p _) (qsem_nil true p _))

end DD
