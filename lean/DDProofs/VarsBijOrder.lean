/-
  DDProofs.VarsBijOrder — the order invariant of reachable managers (`OrderOK`, C14) is the
  bijection `VarsBij` with which the substitution / parser theorems are stated.
-/
import DDProofs.VarsProofs
import DDProofs.LetCopy
open Std
namespace DD

theorem VarsBij.ofOrderOK {t : Tbl} (h : OrderOK t) : VarsBij t :=
  ⟨fun v i hv => (h.inv v i).mp hv, fun i v hl => (h.inv v i).mpr hl, h.lt,
   fun i hi => by obtain ⟨v, hv⟩ := h.total i hi; exact ⟨v, (h.inv v i).mpr hv⟩⟩

theorem OrderOK.ofVarsBij {t : Tbl} (h : VarsBij t) : OrderOK t :=
  ⟨fun v i => ⟨h.v2l v i, h.l2v i v⟩, h.lt,
   fun i hi => by obtain ⟨v, hv⟩ := h.onto i hi; exact ⟨v, h.v2l v i hv⟩⟩

theorem VarsBij.frame {m m' : Mgr} (hf : Frame m m') (h : VarsBij m.tbl) : VarsBij m'.tbl :=
  .ofOrderOK ((OrderOK.ofVarsBij h).frame hf)

end DD
