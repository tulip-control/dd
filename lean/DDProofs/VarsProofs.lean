/-
  DDProofs.VarsProofs — `OrderOK t`, the invariant of the order (`vars` and `_level_to_var` are
  inverse bijections between the names and the levels 0..n-1), and `add_var` / `declare`: they
  keep it, existing nodes and their functions are untouched, the manager invariant is kept.
-/
import DDProofs.AddVar
import DDProofs.Relabel
open Std

namespace DD

/-- `vars` and `_level_to_var` describe one bijection between the names and the levels 0..n-1 -/
structure OrderOK (t : Tbl) : Prop where
  inv : ∀ (v : String) (i : Nat), t.vars[v]? = some i ↔ t.l2v[i]? = some v
  lt : ∀ (v : String) (i : Nat), t.vars[v]? = some i → i < t.nvars
  total : ∀ (i : Nat), i < t.nvars → ∃ v : String, t.l2v[i]? = some v

theorem OrderOK.l2v_none {t : Tbl} (h : OrderOK t) : t.l2v[t.nvars]? = none := by
  cases hh : t.l2v[t.nvars]? with
  | none => rfl
  | some v =>
    have := h.lt v t.nvars ((h.inv v t.nvars).mpr hh)
    omega

theorem OrderOK.congr {t t' : Tbl} (h : OrderOK t) (hv : t'.vars = t.vars) (hl : t'.l2v = t.l2v) :
    OrderOK t' := by
  have hn : t'.nvars = t.nvars := by simp only [Tbl.nvars, hv]
  exact ⟨by rw [hv, hl]; exact h.inv, by rw [hv, hn]; exact h.lt, by rw [hn, hl]; exact h.total⟩

theorem OrderOK.frame {m m' : Mgr} (hf : Frame m m') (h : OrderOK m.tbl) : OrderOK m'.tbl :=
  h.congr hf.vars hf.l2v

/-- C14 (`C14_views_agree`): `level_of_var` and `var_at_level` are inverse bijections between
the names and the levels 0..n-1 -/
theorem OrderOK.views {t : Tbl} (h : OrderOK t) :
    (∀ (v : String) (i : Nat), t.vars[v]? = some i → t.l2v[i]? = some v ∧ i < t.nvars) ∧
    (∀ (i : Nat) (v : String), t.l2v[i]? = some v → t.vars[v]? = some i ∧ i < t.nvars) ∧
    (∀ (i : Nat), i < t.nvars → ∃ v : String, t.l2v[i]? = some v ∧ t.vars[v]? = some i) := by
  refine ⟨fun v i hv => ⟨(h.inv v i).mp hv, h.lt v i hv⟩, fun i v hl => ?_, fun i hi => ?_⟩
  · have := (h.inv v i).mpr hl
    exact ⟨this, h.lt v i this⟩
  · obtain ⟨v, hv⟩ := h.total i hi
    exact ⟨v, hv, (h.inv v i).mpr hv⟩

theorem denF_succ_eq {t t' : Tbl} (hs : t'.succ = t.succ) :
    ∀ f u a, denF t' f u a = denF t f u a := by
  intro f
  induction f with
  | zero => intros; rfl
  | succ f ih =>
    intro u a
    rw [denF, denF]
    have : t'.node? u.natAbs = t.node? u.natAbs := by simp [Tbl.node?, hs]
    rw [this]
    split
    · rfl
    · split
      · rfl
      · rw [ih, ih]

/-- the state after declaring a new variable at the next bottom level -/
def addVarState (m : Mgr) (var : String) : Mgr :=
  { m with tbl := { m.tbl with
      vars := m.tbl.vars.insert var m.nvars
      l2v := m.tbl.l2v.insert m.nvars var } }

theorem addVarState_nvars (m : Mgr) (var : String) (hnew : m.tbl.vars[var]? = none) :
    (addVarState m var).tbl.nvars = m.tbl.nvars + 1 := by
  show (m.tbl.vars.insert var m.nvars).size = m.tbl.vars.size + 1
  rw [TreeMap.size_insert]
  have : ¬ var ∈ m.tbl.vars := by
    intro hc
    rw [TreeMap.mem_iff_isSome_getElem?, hnew] at hc
    cases hc
  simp [this]

/-- `add_var(var)` for a new name: next bottom level, maps extended -/
theorem addVar_new (m : Mgr) (var : String) (hnew : m.tbl.vars[var]? = none)
    (hfree : m.tbl.l2v[m.nvars]? = none) :
    addVar var none m = (.ok m.nvars, addVarState m var) := by
  rw [addVar_run, hnew]
  have h0 : ¬ ((m.nvars : Int) < 0) := by omega
  simp only [Option.getD_none, h0, if_false, Int.toNat_natCast, hfree]
  rfl

/-- `add_var(var)` / `add_var(var, its level)` for an existing name: nothing happens -/
theorem addVar_existing (m : Mgr) (var : String) (i : Nat) (hex : m.tbl.vars[var]? = some i) :
    addVar var none m = (.ok i, m) ∧ addVar var (some (i : Int)) m = (.ok i, m) := by
  simp [addVar_run, hex]

/-- `add_var(var, level)` with a level other than the variable's own is refused, nothing changes -/
theorem addVar_conflict (m : Mgr) (var : String) (i : Nat) (l : Int) (hex : m.tbl.vars[var]? = some i)
    (hne : l ≠ i) : addVar var (some l) m = (.error .value, m) := by
  simp [addVar_run, hex, hne]

/-- `add_var(new, level)` with a level already used by another variable is refused -/
theorem addVar_level_in_use (m : Mgr) (var : String) (l : Nat) (other : String)
    (hnew : m.tbl.vars[var]? = none) (hused : m.tbl.l2v[l]? = some other) :
    addVar var (some (l : Int)) m = (.error .value, m) := by
  have h0 : ¬ ((l : Int) < 0) := by omega
  simp [addVar_run, hnew, h0, hused]

/-- C14: declaring a new variable keeps the invariant, every node, every function, and the order
of the existing variables; the new variable gets the next bottom level -/
theorem addVar_new_spec (m : Mgr) (hI : Inv m) (hO : OrderOK m.tbl) (var : String)
    (hnew : m.tbl.vars[var]? = none) :
    Inv (addVarState m var) ∧ OrderOK (addVarState m var).tbl ∧
    (addVarState m var).tbl.nvars = m.tbl.nvars + 1 ∧
    (addVarState m var).tbl.vars[var]? = some m.nvars ∧
    (∀ (v : String) (i : Nat), m.tbl.vars[v]? = some i →
      (addVarState m var).tbl.vars[v]? = some i) ∧
    (∀ u, m.tbl.Mem u →
      (addVarState m var).tbl.Mem u ∧ ∀ a, den (addVarState m var).tbl u a = den m.tbl u a) ∧
    (addVarState m var).tbl.succ = m.tbl.succ ∧ (addVarState m var).ref = m.ref := by
  have hn : (addVarState m var).tbl.nvars = m.tbl.nvars + 1 := addVarState_nvars m var hnew
  obtain ⟨hI', hden⟩ := hI.more_vars (m' := addVarState m var) rfl rfl rfl rfl rfl (by omega)
  have hmono : ∀ (v : String) (i : Nat), m.tbl.vars[v]? = some i →
      (m.tbl.vars.insert var m.nvars)[v]? = some i := fun v i => getElem?_insert_of_ne_none hnew
  refine ⟨hI', ⟨inverse_insert hO.inv hnew hO.l2v_none, fun v i hv => ?_, fun i hi => ?_⟩, hn,
    by show (m.tbl.vars.insert var m.nvars)[var]? = some m.nvars; simp, hmono, hden, rfl, rfl⟩
  · -- a declared name is the new one, at the old `nvars`, or an old one
    have hv' : (m.tbl.vars.insert var m.nvars)[v]? = some i := hv
    rw [TreeMap.getElem?_insert] at hv'
    rw [hn]
    split at hv'
    · cases hv'; exact Nat.lt_succ_self _
    · exact Nat.lt_succ_of_lt (hO.lt v i hv')
  · show ∃ v, (m.tbl.l2v.insert m.nvars var)[i]? = some v
    by_cases he : i = m.tbl.nvars
    · subst he; exact ⟨var, TreeMap.getElem?_insert_self⟩
    · rw [getElem?_insert_ne _ m.nvars i var he]
      exact hO.total i (by omega)

/-- the call and what it leaves, for callers that do not look inside the new state -/
theorem addVar_new_run (m : Mgr) (hI : Inv m) (hO : OrderOK m.tbl) (var : String)
    (hnew : m.tbl.vars[var]? = none) :
    ∃ m', addVar var none m = (.ok m.nvars, m') ∧
      Inv m' ∧ OrderOK m'.tbl ∧ m'.tbl.nvars = m.tbl.nvars + 1 ∧
      m'.tbl.vars[var]? = some m.nvars ∧
      (∀ (v : String) (i : Nat), m.tbl.vars[v]? = some i → m'.tbl.vars[v]? = some i) ∧
      (∀ u, m.tbl.Mem u → m'.tbl.Mem u ∧ ∀ a, den m'.tbl u a = den m.tbl u a) ∧
      m'.tbl.succ = m.tbl.succ ∧ m'.ref = m.ref :=
  ⟨_, addVar_new m var hnew hO.l2v_none, addVar_new_spec m hI hO var hnew⟩

theorem OrderOK.empty : OrderOK ({} : Tbl) := by
  refine ⟨?_, ?_, ?_⟩ <;> simp [Tbl.nvars]

end DD
