/-
  DDProofs.VectorCompose — specification of `_vector_compose` (simultaneous substitution of
  functions for variables; the replacements may mention replaced variables).
-/
import DDProofs.SatBasic
import DDProofs.Cofactor
open Std

namespace DD

/-- the assignment seen by the operand of a simultaneous substitution -/
def vsub (t : Tbl) (sub : List (Nat × Int)) (a : Asg) : Asg := fun i =>
  match sub.lookup i with
  | some g => den t g a
  | none => a i

def SubMem (t : Tbl) (sub : List (Nat × Int)) : Prop := ∀ i g, sub.lookup i = some g → t.Mem g

theorem SubMem.ext {m t : Tbl} (he : Ext m t) {sub : List (Nat × Int)} (h : SubMem m sub) :
    SubMem t sub := fun i g hl => he.mem (h i g hl)

theorem vsub_ext {m t : Tbl} (he : Ext m t) (hw : WF m) {sub : List (Nat × Int)}
    (hs : SubMem m sub) (a : Asg) : vsub t sub a = vsub m sub a := by
  funext i
  simp only [vsub]
  cases hl : sub.lookup i with
  | none => rfl
  | some g => exact den_ext he hw g a (hs i g hl)

theorem levelOf_abs (t : Tbl) (f : Int) : t.levelOf (f.natAbs : Int) = t.levelOf f :=
  levelOf_natAbs t f

/-- what `_vector_compose` guarantees about the reference it returns for `f` -/
structure VPost (sub : List (Nat × Int)) (t : Tbl) (f r : Int) : Prop where
  mf : t.Mem f
  mr : t.Mem r
  den : ∀ a, den t r a = den t f (vsub t sub a)

/-- the memo is keyed by the unsigned node and holds the result for the regular reference -/
def VMemo (sub : List (Nat × Int)) (t : Tbl) (c : HashMap Nat Int) : Prop :=
  ∀ (k : Nat) (r : Int), c[k]? = some r → VPost sub t (k : Int) r

theorem VPost.ext {sub : List (Nat × Int)} {m t : Tbl} (hw : WF m) (he : Ext m t)
    (hs : SubMem m sub) {f r : Int} (h : VPost sub m f r) : VPost sub t f r := by
  refine ⟨he.mem h.mf, he.mem h.mr, ?_⟩
  intro a
  rw [den_ext he hw r a h.mr, den_ext he hw f _ h.mf, vsub_ext he hw hs]
  exact h.den a

theorem VMemo.ext {sub : List (Nat × Int)} {m t : Tbl} (hw : WF m) (he : Ext m t)
    (hs : SubMem m sub) {c : HashMap Nat Int} (h : VMemo sub m c) : VMemo sub t c :=
  fun k r hc => (h k r hc).ext hw he hs

theorem VMemo.empty (sub : List (Nat × Int)) (t : Tbl) : VMemo sub t {} := memo_empty

theorem VMemo.insert {sub : List (Nat × Int)} {t : Tbl} {c : HashMap Nat Int}
    (h : VMemo sub t c) {k : Nat} {r : Int} (he : VPost sub t (k : Int) r) :
    VMemo sub t (c.insert k r) := memo_insert h he

theorem VPost.flip {sub : List (Nat × Int)} {t : Tbl} (hw : WF t) {f r : Int} (hf : t.Mem f)
    (h : VPost sub t (f.natAbs : Int) r) : VPost sub t f (if f < 0 then -r else r) := by
  refine ⟨hf, mem_flip f h.mr, ?_⟩
  intro a
  rw [den_flip t hw r f a h.mr, h.den a, den_natAbs hw hf]

/-- `level_sub.get(i)` or the variable's own node: a reference denoting the value the operand
sees at level `i` -/
theorem subOrVar_out (m : Mgr) (hI : Inv m) (sub : List (Nat × Int))
    (hs : SubMem m.tbl sub) (i : Nat) (hi : i < m.nvars) :
    Outcome m (fun g m' => m'.tbl.Mem g ∧ ∀ a, den m'.tbl g a = vsub m.tbl sub a i)
      (subOrVar sub i m) := by
  unfold subOrVar
  cases hl : sub.lookup i with
  | some g =>
    refine ⟨StepK.refl hI, hs i g hl, ?_⟩
    intro a; simp [vsub, hl]
  | none =>
    refine (varNode_out m hI i hi).mono ?_
    intro g m' _ ⟨hg, _, hd⟩
    refine ⟨hg, ?_⟩
    intro a; rw [hd a]; simp [vsub, hl]

/-- `_vector_compose`: inside a reordering context (or with requests disabled) the recursion
keeps its memo sound and returns a reference that denotes the operand under the simultaneously
substituted assignment, or is aborted by a reordering request (from `find_or_add`, or re-raised
by the nested decorated `ite`), having only added nodes. -/
theorem vectorComposeF_out (sub : List (Nat × Int)) :
    ∀ (fu : Nat) (m : Mgr) (f : Int) (cache : HashMap Nat Int),
    Inv m → Quiet m → m.tbl.Mem f → SubMem m.tbl sub → VMemo sub m.tbl cache →
    m.nvars + 1 ≤ fu + m.tbl.levelOf f →
    Outcome2 m (fun r c m' => VMemo sub m'.tbl c ∧ VPost sub m'.tbl f r)
      (vectorComposeF sub fu f cache m) := by
  intro fu
  induction fu with
  | zero =>
    intro m f cache hI _ hf _ _ hfu
    have := levelOf_le m.tbl hI.wf.toWF f
    have : m.nvars = m.tbl.nvars := rfl
    omega
  | succ fu ih =>
    intro m f cache hI hq hf hsub hmemo hfu
    have hW := hI.wf.toWF
    unfold vectorComposeF
    by_cases h1 : f.natAbs = 1
    · simp only [h1, if_true]
      exact ⟨StepK.refl hI, hmemo, hf, hf, fun a => den_term_any _ f h1 _ _⟩
    · simp only [h1, if_false]
      cases hc : cache[f.natAbs]? with
      | some r =>
        simp only
        have hp := hmemo _ r hc
        have hr0 : r ≠ 0 := mem_ne_zero hW hp.mr
        simp only [hr0, if_false]
        exact ⟨StepK.refl hI, hmemo, hp.flip hW hf⟩
      | none =>
        simp only
        obtain ⟨n, hN⟩ := node_open hW hf h1
        rw [hN.get]
        simp only [hN.nz, if_false]
        have hlu := hN.lvl
        have hlo := hN.lo
        have hhi := hN.hi
        have hnv : m.nvars = m.tbl.nvars := rfl
        refine (ih m n.lo cache hI hq hN.lom hsub hmemo (by omega)).elim ?_
          fun _ => Outcome.abort (StepK.refl hI)
        intro p c1 m1 hs1 ⟨hm1, hp1⟩
        simp only
        have hsub1 := hsub.ext hs1.ext
        refine (ih m1 n.hi c1 hs1.inv (hq.step hs1) (hs1.ext.mem hN.him) hsub1 hm1
          (by rw [hs1.nvars, hs1.ext.levelOf hN.him]; omega)).elim ?_
          fun _ => Outcome.abort hs1
        intro q c2 m2 hs2 ⟨hm2, hp2⟩
        simp only
        have hW2 := hs2.inv.wf.toWF
        have hs12 := hs1.trans hs2
        have hsub2 := hsub1.ext hs2.ext
        refine (subOrVar_out m2 hs2.inv sub hsub2 n.lvl (by rw [hs12.nvars]; exact hN.lt)).elim ?_
          fun _ => Outcome.abort hs12
        intro g m3 hs3 ⟨hg3, hd3⟩
        simp only
        have hW3 := hs3.inv.wf.toWF
        have hs123 := hs12.trans hs3
        have hsub3 := hsub2.ext hs3.ext
        have hp1_3 := (hp1.ext hs1.inv.wf.toWF hs2.ext hsub1).ext hW2 hs3.ext hsub2
        have hp2_3 := hp2.ext hW2 hs3.ext hsub2
        refine (ite_nested_spec m3 hs3.inv (hq.step hs123) g q p hg3 hp2_3.mr hp1_3.mr).elim ?_
          fun _ => Outcome.abort hs123
        intro r m4 hk4 hp4
        have hs4 := hs123.trans hk4
        have hW4 := hp4.inv.wf.toWF
        have hn4 : m4.tbl.node? ((f.natAbs : Int)).natAbs = some n := by
          simpa using hs4.ext.nodes _ _ hN.get
        have hpos : VPost sub m4.tbl (f.natAbs : Int) r := by
          refine ⟨mem_natAbs (hs4.ext.mem hf), hp4.mem, ?_⟩
          intro a
          rw [hp4.den a, den_node m4.tbl hW4 (f.natAbs : Int) n _ (by simpa using h1) hn4,
            ← den_ext hp4.ext hW3 q a hp2_3.mr, ← den_ext hp4.ext hW3 p a hp1_3.mr,
            (hp1_3.ext hW3 hp4.ext hsub3).den a, (hp2_3.ext hW3 hp4.ext hsub3).den a, hd3 a,
            vsub_ext (hs3.trans hk4).ext hW2 hsub2 a]
          have : ¬ ((f.natAbs : Int) < 0) := by omega
          simp [this]
        exact ⟨hs4, ((hm2.ext hW2 hs3.ext hsub2).ext hW3 hp4.ext hsub3).insert hpos,
          hpos.flip hW4 (hs4.ext.mem hf)⟩

/-- `_vector_compose`: total when reordering is not enabled; the result denotes the operand
under the simultaneously substituted assignment. -/
theorem vectorComposeF_spec (sub : List (Nat × Int)) :
    ∀ (fu : Nat) (m : Mgr) (f : Int) (cache : HashMap Nat Int),
    Inv m → m.lastLen = none → m.tbl.Mem f → SubMem m.tbl sub → VMemo sub m.tbl cache →
    m.nvars + 1 ≤ fu + m.tbl.levelOf f →
    ∃ r c' m', vectorComposeF sub fu f cache m = (.ok (r, c'), m') ∧ Step m m' ∧
      VMemo sub m'.tbl c' ∧ VPost sub m'.tbl f r := by
  intro fu m f cache hI hoff hf hsub hmemo hfu
  obtain ⟨r, c', m', he, hs, hm, hp⟩ :=
    (vectorComposeF_out sub fu m f cache hI (Or.inr hoff) hf hsub hmemo hfu).off hoff
  exact ⟨r, c', m', he, hs.step, hm, hp⟩

end DD
