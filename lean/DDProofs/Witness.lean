/-
  DDProofs.Witness — a concrete manager with one declared variable and the node of that
  variable: used by the non-vacuity examples of the property files C03 / C04 / C11.
-/
import DDProofs.Reach
import DDProofs.VarsBijOrder
open Std

namespace DD

/-- `bdd.declare('x'); bdd.var('x')`: the single variable `x` at level 0, its node 2 -/
def witSt : St := run [.declare "x" none, .var "x"] St.init

theorem natAbs_ne_one_of_den_proj {t : Tbl} {u : Int} (hd : ∀ a, den t u a = a 0) : u.natAbs ≠ 1 := by
  intro h1
  rcases abs_one h1 with h | h <;> subst h
  · have := hd (fun _ => false); rw [den_one] at this; cases this
  · have := hd (fun _ => true); rw [den_neg_one] at this; cases this

/-- there is a manager satisfying every hypothesis of the C03 / C04 / C11 theorems that holds
a non-constant function: the variable `x` -/
theorem witness :
    ∃ (m : Mgr) (u : Int), Inv m ∧ m.lastLen = none ∧ VarsBij m.tbl ∧ m.tbl.Mem u ∧
      m.tbl.vars["x"]? = some 0 ∧ m.tbl.nvars = 1 ∧ (∀ a, den m.tbl u a = a 0) ∧
      InSupp m.tbl u 0 := by
  have hg : GoodState witSt.m witSt.ext := reachable_inv _ (by decide)
  have hn : witSt.m.tbl.node? 2 = some ⟨0, -1, 1⟩ := by decide
  refine ⟨witSt.m, 2, hg.inv, hg.off, .ofOrderOK hg.order, by decide, by decide, by decide,
    fun a => ?_, InSupp.here (u := 2) (by decide) hn⟩
  rw [den_node _ hg.inv.wf.toWF 2 _ a (by decide) hn, den_one, den_neg_one]
  cases a 0 <;> rfl

end DD
