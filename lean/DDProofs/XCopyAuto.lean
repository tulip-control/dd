/-
  DDProofs.XCopyAuto — `dd._copy.copy_bdd` / `copy_bdds_from` over `dd.autoref` as the code runs
  it (`DD.xcF`: every intermediate result a `Function`, in the target AND in the source), the
  target in either mode (`off = false`: dynamic reordering possibly enabled, it may fire inside
  `target.var` / `target.ite` in the middle of the recursion), ANY arguments, EVERY outcome: the
  target keeps its invariant, only the result is new, live `Function`s keep their meaning by name;
  the source is back exactly (its counters move during the call: `~u`, `u.low`, `u.high` are
  `Function`s of the source).  Every step of the recursion is an autoref operation with the
  guarantee `AKeeps` that creates a `Function` with an unused id, or the death of a `Function`
  created during the call: an `AReach` history in each manager that protects the `Function`s of
  before the call; `autoref_live_den` does the rest.
-/
import DDProofs.ApiXCopyProofs
import DDProofs.AutoDyn
import DDProofs.VarsBijOrder
open Std

namespace DD

/-- the `Function`s that exist when the call starts -/
def PIn (a0 : AMgr) (j : Nat) : Prop := a0.handles.contains j = true

theorem PIn.some {a0 : AMgr} {j : Nat} (h : PIn a0 j) : ∃ u, a0.handles[j]? = some u := by
  unfold PIn at h
  rw [TreeMap.contains_eq_isSome_getElem?] at h
  exact Option.isSome_iff_exists.mp h

theorem PIn.of_some {a0 : AMgr} {j : Nat} {u : Int} (h : a0.handles[j]? = Option.some u) : PIn a0 j := by
  unfold PIn
  rw [TreeMap.contains_eq_isSome_getElem?, h]
  rfl

theorem not_pIn_of_none {a0 : AMgr} {j : Nat} (h : a0.handles[j]? = none) : ¬ PIn a0 j := by
  intro hp
  obtain ⟨u, hu⟩ := hp.some
  rw [h] at hu; cases hu

theorem reach_live {off : Bool} {a0 a : AMgr} (hi : AInv off a0) (hr : AReach off (PIn a0) a0 a) :
    AInv off a ∧ (∀ j, PIn a0 j → a.handles[j]? = a0.handles[j]?) ∧
    (∀ (j : Nat) (u : Int), a0.handles[j]? = some u →
      a.m.tbl.Mem u ∧ ∀ σ, denN a.m.tbl u σ = denN a0.m.tbl u σ) := by
  obtain ⟨i, h⟩ := autoref_live_den (PIn a0) hi hr
  refine ⟨i, fun j hj => ?_, fun j u hu => ?_⟩
  · obtain ⟨u, hu⟩ := hj.some
    rw [hu]; exact (h j hj u hu).1
  · exact (h j (.of_some hu) u hu).2

theorem not_pIn_of_fresh {off : Bool} {a0 a : AMgr} (hi : AInv off a0)
    (hr : AReach off (PIn a0) a0 a) {t : Nat} (ht : a.handles[t]? = none) : ¬ PIn a0 t := by
  intro hp
  obtain ⟨u, hu⟩ := hp.some
  have := (reach_live hi hr).2.1 t hp
  rw [ht, hu] at this; cases this

theorem reach_new {off : Bool} {α : Type} {a0 a : AMgr} (hr : AReach off (PIn a0) a0 a)
    (x : Nat → AM α) (hk : ∀ t, AKeeps off t (x t)) {t : Nat} (ht : a.handles[t]? = none)
    (r : Except Err α) (a' : AMgr) (he : x t a = (r, a')) : AReach off (PIn a0) a0 a' :=
  .step hr (.op [t] (x t) a (Auto.AKeepsAt.toL (hk t a))
    (List.forall_mem_singleton.mpr (contains_false_of_none ht)) r a' he)

theorem dropQ_other (t : Nat) (d : AMgr) {j : Nat} (hj : j ≠ t) :
    (dropQ t d).2.handles[j]? = d.handles[j]? := by
  show (drop t d).2.handles[j]? = _
  unfold drop
  split
  · rfl
  · exact getElem?_erase_ne _ _ _ hj

theorem dropQ_self (t : Nat) (d : AMgr) : (dropQ t d).2.handles[t]? = none := by
  show (drop t d).2.handles[t]? = _
  unfold drop
  split
  · next h => exact h
  · exact TreeMap.getElem?_erase_self

theorem dropKeys_handles : ∀ (L : List Nat) (a : AMgr),
    (∀ j, j ∈ L → (dropKeys L a).handles[j]? = none) ∧
    (∀ j, j ∉ L → (dropKeys L a).handles[j]? = a.handles[j]?)
  | [], _ => ⟨fun _ h => (nomatch h), fun _ _ => rfl⟩
  | k :: ks, a => by
    obtain ⟨z2, s2⟩ := dropKeys_handles ks (dropQ k a).2
    refine ⟨fun j hj => ?_, fun j hj => ?_⟩
    · by_cases hjk : j ∈ ks
      · exact z2 j hjk
      · obtain rfl : j = k := (List.mem_cons.mp hj).resolve_right hjk
        exact (s2 j hjk).trans (dropQ_self j a)
    · exact (s2 j fun h => hj (List.mem_cons_of_mem _ h)).trans
        (dropQ_other k a fun h => hj (h ▸ List.mem_cons_self))

theorem reach_dropQ {off : Bool} {a0 a : AMgr} (hi : AInv off a0) (hr : AReach off (PIn a0) a0 a)
    {t : Nat} (ht : ¬ PIn a0 t) : AReach off (PIn a0) a0 (dropQ t a).2 := by
  show AReach off (PIn a0) a0 (drop t a).2
  cases hl : a.handles[t]? with
  | none => rw [show drop t a = (.error .other, a) by unfold drop; rw [hl]]; exact hr
  | some u =>
    obtain ⟨a2, h2, _⟩ := Auto.drop_spec session a t u (reach_live hi hr).1 hl
    rw [h2]
    exact .step hr (.drop t ht a a2 u hl h2)

theorem reach_dropKeys {off : Bool} {a0 : AMgr} (hi : AInv off a0) :
    ∀ (L : List Nat) (a : AMgr), AReach off (PIn a0) a0 a → (∀ k ∈ L, ¬ PIn a0 k) →
      AReach off (PIn a0) a0 (dropKeys L a)
  | [], _, hr, _ => hr
  | k :: ks, a, hr, hL =>
    reach_dropKeys hi ks (dropQ k a).2 (reach_dropQ hi hr (hL k List.mem_cons_self))
      (fun j hj => hL j (List.mem_cons_of_mem _ hj))

theorem reach_cleanup {off : Bool} {a0 a : AMgr} (hi : AInv off a0)
    (hr : AReach off (PIn a0) a0 a) :
    AReach off (PIn a0) a0 (dropKeys (newKeys a0 a) a) ∧
    ∀ j : Nat, (dropKeys (newKeys a0 a) a).handles[j]? = a0.handles[j]? := by
  have hmem : ∀ k, k ∈ newKeys a0 a ↔ (a.handles.contains k = true ∧ a0.handles.contains k = false) := by
    intro k
    unfold newKeys
    rw [List.mem_filter, TreeMap.mem_keys, ← TreeMap.contains_iff_mem]
    simp
  have r := reach_dropKeys hi (newKeys a0 a) a hr
    (fun k hk hp => by
      have := ((hmem k).mp hk).2
      unfold PIn at hp
      rw [hp] at this; cases this)
  obtain ⟨z, s⟩ := dropKeys_handles (newKeys a0 a) a
  refine ⟨r, fun j => ?_⟩
  by_cases hj : j ∈ newKeys a0 a
  · rw [z j hj]
    have := ((hmem j).mp hj).2
    exact (TreeMap.getElem?_eq_none_of_contains_eq_false this).symm
  · rw [s j hj]
    by_cases hp : PIn a0 j
    · exact (reach_live hi hr).2.1 j hp
    · have h0 : a0.handles.contains j = false := by
        cases hc : a0.handles.contains j with
        | false => rfl
        | true => exact absurd hc hp
      have h1 : a.handles.contains j = false := by
        cases hc : a.handles.contains j with
        | false => rfl
        | true => exact absurd ((hmem j).mpr ⟨hc, h0⟩) hj
      rw [TreeMap.getElem?_eq_none_of_contains_eq_false h0,
        TreeMap.getElem?_eq_none_of_contains_eq_false h1]

def TblSame {α : Type} (x : AM α) : Prop := ∀ a, (x a).2.m.tbl = a.m.tbl

theorem TblSame.of_read {α : Type} {x : AM α} (h : ARead x) : TblSame x := fun a => by rw [h a]

theorem TblSame.bind_val {α β : Type} {x : AM α} {f : α → AM β} (hx : TblSame x)
    (hf : ∀ a v a1, x a = (.ok v, a1) → (f v a1).2.m.tbl = a1.m.tbl) : TblSame (x >>= f) := by
  intro a
  rw [AM.bind_eq]
  have h1 := hx a
  cases hxa : x a with
  | mk r a1 =>
    rw [hxa] at h1
    cases r with
    | error e => exact h1
    | ok v => exact (hf a v a1 hxa).trans h1

theorem TblSame.bind {α β : Type} {x : AM α} {f : α → AM β} (hx : TblSame x)
    (hf : ∀ v, TblSame (f v)) : TblSame (x >>= f) :=
  hx.bind_val fun _ v a1 _ => hf v a1

theorem wrapF_tblSame (h : Nat) (u : Int) : TblSame (wrapF h u) := by
  intro a
  unfold wrapF
  split
  · rfl
  · have : (incref u a.m).2.tbl = a.m.tbl := by
      unfold incref
      split <;> rfl
    split
    · next heq => rw [heq] at this; exact this
    · next heq => rw [heq] at this; exact this

theorem drop_tblSame (h : Nat) : TblSame (drop h) := by
  intro a
  unfold drop
  split
  · rfl
  · next u _ =>
    show (decref u a.m).2.tbl = a.m.tbl
    unfold decref
    split
    · rfl
    · split <;> rfl

theorem fChild_tblSame (high : Bool) (hs h : Nat) : TblSame (fChild high hs h) := by
  unfold fChild
  refine TblSame.bind (TblSame.of_read (nodeOwn_read hs)) fun s => ?_
  refine TblSame.bind (TblSame.of_read (ARead.liftE _)) fun p => ?_
  obtain ⟨_, c⟩ := p
  cases c with
  | none => exact TblSame.of_read (ARead.pure _)
  | some vw =>
    obtain ⟨v, w⟩ := vw
    exact TblSame.bind (wrapF_tblSame h _) fun _ => TblSame.of_read (ARead.pure _)

theorem fApply_unary_tblSame (op : String) (hs h : Nat) : TblSame (fApply op hs none h) := by
  unfold fApply
  refine TblSame.bind (TblSame.of_read (nodeOwn_read hs)) fun s => ?_
  refine TblSame.bind_val (TblSame.of_read (optNode_read nodeSame_read none)) fun a o a1 ho => ?_
  have : o = none := by
    change ((Except.ok none : Except Err (Option Int)), a) = (.ok o, a1) at ho
    cases ho; rfl
  subst this
  exact (TblSame.bind (TblSame.of_read (ARead.liftM (apply_unary_state op s))) fun r =>
    TblSame.bind (wrapF_tblSame h r) fun _ => TblSame.of_read (ARead.pure _)) a1

/-- both managers have been reached by histories that protect their initial `Function`s -/
structure XR (offS off : Bool) (src0 dst0 : AMgr) (st : XSt) : Prop where
  rs : AReach offS (PIn src0) src0 st.src
  rd : AReach off (PIn dst0) dst0 st.dst
  ts : st.src.m.tbl = src0.m.tbl

theorem XR.refl {offS off : Bool} (st : XSt) : XR offS off st.src st.dst st := ⟨.refl _, .refl _, rfl⟩

/-- a step of the copy: `XR` is kept whatever the outcome; an answer satisfies `Post` -/
def XKeeps (offS off : Bool) (src0 dst0 : AMgr) {α : Type} (x : XM α) (Post : α → Prop) : Prop :=
  ∀ st, XR offS off src0 dst0 st → ∀ r st', x st = (r, st') →
    XR offS off src0 dst0 st' ∧ ∀ v, r = .ok v → Post v

section
variable {offS off : Bool} {src0 dst0 : AMgr}

theorem XKeeps.pure {α : Type} {Post : α → Prop} (v : α) (h : Post v) :
    XKeeps offS off src0 dst0 (pure v : XM α) Post := by
  intro st hx r st' he
  cases he
  exact ⟨hx, fun w hw => by cases hw; exact h⟩

theorem XKeeps.throw {α : Type} {Post : α → Prop} (e : Err) :
    XKeeps offS off src0 dst0 (XM.throw e : XM α) Post := by
  intro st hx r st' he
  cases he
  exact ⟨hx, fun w hw => by cases hw⟩

theorem XKeeps.bind {α β : Type} {x : XM α} {f : α → XM β} {P : α → Prop} {Q : β → Prop}
    (hx : XKeeps offS off src0 dst0 x P) (hf : ∀ v, P v → XKeeps offS off src0 dst0 (f v) Q) :
    XKeeps offS off src0 dst0 (x >>= f) Q := by
  intro st hr r st' he
  change XM.bind' x f st = _ at he
  unfold XM.bind' at he
  cases hxs : x st with
  | mk r1 st1 =>
    rw [hxs] at he
    obtain ⟨h1, p1⟩ := hx st hr r1 st1 hxs
    cases r1 with
    | error e => simp only at he; cases he; exact ⟨h1, fun w hw => by cases hw⟩
    | ok v => simp only at he; exact hf v (p1 v rfl) st1 h1 r st' he

theorem XKeeps.mono {α : Type} {x : XM α} {P Q : α → Prop} (hx : XKeeps offS off src0 dst0 x P)
    (h : ∀ v, P v → Q v) : XKeeps offS off src0 dst0 x Q := by
  intro st hr r st' he
  obtain ⟨h1, p1⟩ := hx st hr r st' he
  exact ⟨h1, fun v hv => h v (p1 v hv)⟩

theorem XKeeps.get : XKeeps offS off src0 dst0 XM.get (fun _ => True) := by
  intro st hx r st' he
  cases he
  exact ⟨hx, fun _ _ => trivial⟩

theorem XKeeps.memo (k c : Nat) : XKeeps offS off src0 dst0 (XM.memo k c) (fun _ => True) := by
  intro st hx r st' he
  cases he
  exact ⟨⟨hx.rs, hx.rd, hx.ts⟩, fun _ _ => trivial⟩

theorem XKeeps.logSrc : XKeeps offS off src0 dst0 XM.logSrc (fun _ => True) := by
  intro st hx r st' he
  cases he
  exact ⟨⟨hx.rs, hx.rd, hx.ts⟩, fun _ _ => trivial⟩

theorem XKeeps.readSrc {α : Type} {x : AM α} (hx : ARead x) :
    XKeeps offS off src0 dst0 (XM.onSrc x) (fun _ => True) := by
  intro st hr r st' he
  unfold XM.onSrc at he
  have h1 := hx st.src
  cases hxs : x st.src with
  | mk r1 s1 =>
    rw [hxs] at he h1
    simp only at he h1
    subst h1
    cases he
    exact ⟨⟨hr.rs, hr.rd, hr.ts⟩, fun _ _ => trivial⟩

theorem reach_fresh {off : Bool} {α : Type} {a0 a : AMgr} (hi : AInv off a0)
    (hr : AReach off (PIn a0) a0 a) (x : Nat → AM α) (hk : ∀ t, AKeeps off t (x t)) :
    ∃ t, freshH a = (.ok t, a) ∧ ¬ PIn a0 t ∧ AReach off (PIn a0) a0 (x t a).2 := by
  obtain ⟨t, hf, hn⟩ := freshH_spec a
  exact ⟨t, hf, not_pIn_of_fresh hi hr hn, reach_new hr x hk hn _ _ rfl⟩

theorem XKeeps.newSrc {α : Type} (hs : AInv offS src0) (x : Nat → AM α)
    (hk : ∀ t, AKeeps offS t (x t)) (htb : ∀ t, TblSame (x t)) :
    XKeeps offS off src0 dst0 (XM.newSrc x) (fun t => ¬ PIn src0 t) := by
  intro st hr r st' he
  obtain ⟨t, hf, hp, hr1⟩ := reach_fresh hs hr.rs x hk
  have ht1 := (htb t st.src).trans hr.ts
  unfold XM.newSrc at he
  rw [hf] at he
  simp only at he
  cases hxs : x t st.src with
  | mk r1 s1 =>
    rw [hxs] at he hr1 ht1
    cases r1 <;> cases he
    · exact ⟨⟨hr1, hr.rd, ht1⟩, fun w hw => nomatch hw⟩
    · exact ⟨⟨hr1, hr.rd, ht1⟩, fun w hw => by cases hw; exact hp⟩

theorem XKeeps.newDst {α : Type} (hd : AInv off dst0) (x : Nat → AM α)
    (hk : ∀ t, AKeeps off t (x t)) :
    XKeeps offS off src0 dst0 (XM.newDst x) (fun t => ¬ PIn dst0 t) := by
  intro st hr r st' he
  obtain ⟨t, hf, hp, hr1⟩ := reach_fresh hd hr.rd x hk
  unfold XM.newDst at he
  rw [hf] at he
  simp only at he
  cases hxs : x t st.dst with
  | mk r1 s1 =>
    rw [hxs] at he hr1
    cases r1 <;> cases he
    · exact ⟨⟨hr.rs, hr1, hr.ts⟩, fun w hw => nomatch hw⟩
    · exact ⟨⟨hr.rs, hr1, hr.ts⟩, fun w hw => by cases hw; exact hp⟩

theorem XKeeps.dropSrc (hs : AInv offS src0) {t : Nat} (ht : ¬ PIn src0 t) :
    XKeeps offS off src0 dst0 (XM.onSrc (dropQ t)) (fun _ => True) := by
  intro st hr r st' he
  have : XM.onSrc (dropQ t) st = (.ok (), { st with src := (dropQ t st.src).2 }) := rfl
  rw [this] at he
  cases he
  exact ⟨⟨reach_dropQ hs hr.rs ht, hr.rd, (drop_tblSame t st.src).trans hr.ts⟩, fun _ _ => trivial⟩

theorem XKeeps.dropDst (hd : AInv off dst0) {t : Nat} (ht : ¬ PIn dst0 t) :
    XKeeps offS off src0 dst0 (XM.onDst (dropQ t)) (fun _ => True) := by
  intro st hr r st' he
  have : XM.onDst (dropQ t) st = (.ok (), { st with dst := (dropQ t st.dst).2 }) := rfl
  rw [this] at he
  cases he
  exact ⟨⟨hr.rs, reach_dropQ hd hr.rd ht, hr.ts⟩, fun _ _ => trivial⟩

/-- the answer of a piece that returns a target `Function`: a new object was not there before -/
def Owned (dst0 : AMgr) (p : Nat × Bool) : Prop := p.2 = true → ¬ PIn dst0 p.1

theorem xTerm_keeps (hd : AInv off dst0) (b : Bool) :
    XKeeps offS off src0 dst0 (xTerm b) (Owned dst0) := by
  unfold xTerm
  refine XKeeps.bind (XKeeps.newDst hd _ (fun t => Auto.aConst_keeps session b t)) (fun t ht => ?_)
  exact XKeeps.pure _ (fun _ => ht)

theorem xFlip_keeps (hd : AInv off dst0) (c : Nat) (neg : Bool) :
    XKeeps offS off src0 dst0 (xFlip c neg) (Owned dst0) := by
  unfold xFlip
  split
  · refine XKeeps.bind (XKeeps.newDst hd _ (fun t => fApply_keepsAll off "not" c none t)) (fun t ht => ?_)
    exact XKeeps.pure _ (fun _ => ht)
  · exact XKeeps.pure _ (fun h => by cases h)

theorem xZ_keeps (hs : AInv offS src0) (hu : Nat) (neg : Bool) :
    XKeeps offS off src0 dst0 (xZ hu neg) (fun o => ∀ z, o = some z → ¬ PIn src0 z) := by
  unfold xZ
  split
  · refine XKeeps.bind (XKeeps.newSrc hs _ (fun t => fApply_keepsAll offS "not" hu none t)
      (fun t => fApply_unary_tblSame "not" hu t)) (fun t ht => ?_)
    exact XKeeps.pure _ (fun z hz => by cases hz; exact ht)
  · exact XKeeps.pure _ (fun z hz => by cases hz)

theorem xDropOpt_keeps (hs : AInv offS src0) (o : Option Nat) (ho : ∀ z, o = some z → ¬ PIn src0 z) :
    XKeeps offS off src0 dst0 (xDropOpt o) (fun _ => True) := by
  cases o with
  | none => exact XKeeps.pure _ trivial
  | some z => exact XKeeps.dropSrc hs (ho z rfl)

theorem xDropIf_keeps (hd : AInv off dst0) (p : Nat × Bool) (hp : Owned dst0 p) :
    XKeeps offS off src0 dst0 (xDropIf p.2 p.1) (fun _ => True) := by
  unfold xDropIf
  split
  · next h => exact XKeeps.dropDst hd (hp h)
  · exact XKeeps.pure _ trivial

theorem xChild_keeps (hs : AInv offS src0) (high : Bool) (hu : Nat) :
    XKeeps offS off src0 dst0 (xChild high hu) (fun t => ¬ PIn src0 t) :=
  XKeeps.newSrc hs _ (fun t => Auto.fChild_keeps session high hu t) (fun t => fChild_tblSame high hu t)

theorem fVar_read (hs : Nat) : ARead (fVar hs) := by
  unfold fVar
  refine ARead.bind (nodeOwn_read hs) fun s => ?_
  refine ARead.bind (ARead.liftE _) fun p => ?_
  obtain ⟨i, c⟩ := p
  cases c with
  | none => exact ARead.pure _
  | some _ => exact ARead.bind (ARead.liftM (fun m => (varAtLevel_read _ m).1)) fun _ => ARead.pure _

/-- the recursion `_copy_bdd` over `dd.autoref`, ANY arguments: whatever the outcome both sessions
are reached from the start by histories that protect the `Function`s of the start (`XR`); an answer
that is a new object is none of the target's ids of the start -/
theorem xcF_keeps (hs : AInv offS src0) (hd : AInv off dst0) :
    ∀ (fu hu : Nat), XKeeps offS off src0 dst0 (xcF fu hu) (Owned dst0)
  | 0, _ => XKeeps.throw _
  | fu+1, hu => by
    unfold xcF
    refine XKeeps.bind (XKeeps.readSrc (nodeOwn_read hu)) (fun u _ => ?_)
    split
    · exact xTerm_keeps hd true
    split
    · exact xTerm_keeps hd false
    refine XKeeps.bind (xZ_keeps hs hu _) (fun hz hzp => ?_)
    refine XKeeps.bind XKeeps.get (fun st _ => ?_)
    split
    · next c _ =>
      refine XKeeps.bind (xFlip_keeps hd c _) (fun res hres => ?_)
      refine XKeeps.bind (xDropOpt_keeps hs hz hzp) (fun _ _ => ?_)
      exact XKeeps.pure _ hres
    · refine XKeeps.bind (xChild_keeps hs false hu) (fun hl hlp => ?_)
      refine XKeeps.bind (xcF_keeps hs hd fu hl) (fun low hlow => ?_)
      refine XKeeps.bind (XKeeps.dropSrc hs hlp) (fun _ _ => ?_)
      refine XKeeps.bind (xChild_keeps hs true hu) (fun hh hhp => ?_)
      refine XKeeps.bind (xcF_keeps hs hd fu hh) (fun high hhigh => ?_)
      refine XKeeps.bind (XKeeps.dropSrc hs hhp) (fun _ _ => ?_)
      refine XKeeps.bind (XKeeps.readSrc (fVar_read hu)) (fun name _ => ?_)
      split
      · exact XKeeps.throw _
      · next nm =>
        refine XKeeps.bind XKeeps.logSrc (fun _ _ => ?_)
        have hvar : ∀ t, AKeeps off t (aVar nm t) := fun t =>
          Auto.wrapResult_keeps session (coreKeeps off (var_decorated nm)) t
        have hite : ∀ g t, AKeeps off t (aIte g high.1 low.1 t) := fun g t =>
          Auto.aIte_keeps session (fun g u v => coreKeeps off (ite_decorated g u v)) g high.1 low.1 t
        refine XKeeps.bind (XKeeps.newDst hd _ hvar) (fun g hg => ?_)
        refine XKeeps.bind (XKeeps.newDst hd _ (hite g)) (fun r _ => ?_)
        refine XKeeps.bind (XKeeps.memo _ _) (fun _ _ => ?_)
        refine XKeeps.bind (xFlip_keeps hd r _) (fun res hres => ?_)
        refine XKeeps.bind (xDropOpt_keeps hs hz hzp) (fun _ _ => ?_)
        refine XKeeps.bind (xDropIf_keeps hd low hlow) (fun _ _ => ?_)
        refine XKeeps.bind (xDropIf_keeps hd high hhigh) (fun _ _ => ?_)
        refine XKeeps.bind (XKeeps.dropDst hd hg) (fun _ _ => ?_)
        exact XKeeps.pure _ hres

end

theorem dropKeys_tbl : ∀ (L : List Nat) (a : AMgr), (dropKeys L a).m.tbl = a.m.tbl
  | [], _ => rfl
  | k :: ks, a => (dropKeys_tbl ks (dropQ k a).2).trans (drop_tblSame k a)

/-- what holds of both managers when a copy is over (returned or raised): `hids` = the ids given
to the results -/
structure XDone (offS off : Bool) (src dst : AMgr) (hids : List Nat) (st : XSt) : Prop where
  /-- the target: invariant with the count equation -/
  dinv : AInv off st.dst
  /-- no `Function` of the target other than the results was created or lost -/
  dsame : ∀ j : Nat, j ∉ hids → st.dst.handles[j]? = dst.handles[j]?
  /-- every `Function` of the target that was alive keeps its meaning by name -/
  dden : ∀ (j : Nat) (w : Int), dst.handles[j]? = some w →
    st.dst.m.tbl.Mem w ∧ ∀ σ, denN st.dst.m.tbl w σ = denN dst.m.tbl w σ
  /-- the source is back exactly: invariant, the same `Function`s, the same table, the same
  counts -/
  sinv : AInv offS st.src
  ssame : ∀ j : Nat, st.src.handles[j]? = src.handles[j]?
  stbl : st.src.m.tbl = src.m.tbl
  sref : ∀ k : Nat, st.src.m.ref[k]? = src.m.ref[k]?

theorem XDone.ofCleanup {offS off : Bool} {src0 dst0 : AMgr} (hs : AInv offS src0)
    (hd : AInv off dst0) (st : XSt) (hx : XR offS off src0 dst0 st) (hids : List Nat) :
    XDone offS off src0 dst0 hids (xCleanup src0 dst0 st) := by
  obtain ⟨rd, hdh⟩ := reach_cleanup hd hx.rd
  obtain ⟨rs, hsh⟩ := reach_cleanup hs hx.rs
  obtain ⟨id, _, dd⟩ := reach_live hd rd
  have is := (reach_live hs rs).1
  have ht : (dropKeys (newKeys src0 st.src) st.src).m.tbl = src0.m.tbl :=
    (dropKeys_tbl _ _).trans hx.ts
  exact ⟨id, fun j _ => hdh j, dd, is, hsh, ht, Auto.ref_eq_of_handles_eq session hs is ht hsh⟩

theorem XDone.unused {offS off : Bool} {src dst : AMgr} {st : XSt} (h : XDone offS off src dst [] st)
    {j : Nat} (hf : dst.handles.contains j = false) : st.dst.handles.contains j = false := by
  rw [TreeMap.contains_eq_isSome_getElem?, h.dsame j List.not_mem_nil,
    ← TreeMap.contains_eq_isSome_getElem?]
  exact hf

/-- the end of both runs: after the cleanup the results are wrapped, a step `x` of the target
session that creates at most the ids `ids` -/
theorem XDone.thenKeeps {offS off : Bool} {src dst : AMgr} (hs : AInv offS src) (hd : AInv off dst)
    {st : XSt} (hx : XR offS off src dst st) {ids : List Nat}
    (hf : ∀ h ∈ ids, dst.handles.contains h = false) {α : Type} {x : AM α}
    (hk : AKeepsLAt off (xCleanup src dst st).dst ids x) :
    XDone offS off src dst ids { xCleanup src dst st with dst := (x (xCleanup src dst st).dst).2 } := by
  have h0 := XDone.ofCleanup hs hd st hx []
  obtain ⟨i, s, dd⟩ := hk h0.dinv (fun h hh => h0.unused (hf h hh)) _ _ rfl
  exact ⟨i, fun j hj => (s j hj).trans (h0.dsame j List.not_mem_nil), fun j w hj =>
    let ⟨_, e1⟩ := h0.dden j w hj
    let ⟨m2, e2⟩ := dd j w ((h0.dsame j List.not_mem_nil).trans hj)
    ⟨m2, fun σ => (e2 σ).trans (e1 σ)⟩, h0.sinv, h0.ssame, h0.stbl, h0.sref⟩

/-- `dd._copy.copy_bdd(u, target)` over `dd.autoref`, target in ANY mode (reordering enabled or
not, it may fire in the middle of the recursion), ANY arguments (an id that is not a `Function` of
the source, variables the target does not declare, …), whether it returns or raises:
the target keeps its invariant, only the result `h` is new, every live `Function` keeps its
meaning; the source is back exactly; when the call returns `r`, the new `Function` sits on `r` -/
theorem aXCopyRun_total {offS off : Bool} (src dst : AMgr) (hs : AInv offS src) (hd : AInv off dst)
    (hu h : Nat) (hf : dst.handles.contains h = false) :
    XDone offS off src dst [h] (aXCopyRun src dst hu h).2 ∧
    ∀ r, (aXCopyRun src dst hu h).1 = .ok r → (aXCopyRun src dst hu h).2.dst.handles[h]? = some r := by
  unfold aXCopyRun
  cases hrun : xcF (src.m.nvars + 2) hu { src := src, dst := dst } with
  | mk r0 st =>
    obtain ⟨hx, _⟩ := xcF_keeps hs hd (src.m.nvars + 2) hu _ (.refl { src := src, dst := dst }) r0 st hrun
    have hdone := XDone.ofCleanup hs hd st hx [h]
    cases r0 with
    | error e => exact ⟨hdone, fun r hr => nomatch hr⟩
    | ok p =>
      obtain ⟨t, ow⟩ := p
      simp only
      cases hl : st.dst.handles[t]? with
      | none => exact ⟨hdone, fun r hr => nomatch hr⟩
      | some r =>
        simp only
        have done2 := XDone.thenKeeps hs hd hx (List.forall_mem_singleton.mpr hf)
          ((Auto.wrapF_keeps session h r).toL _)
        cases hw : wrapF h r (xCleanup src dst st).dst with
        | mk rw d =>
          rw [hw] at done2
          cases rw with
          | error e => exact ⟨done2, fun r' hr' => nomatch hr'⟩
          | ok _ =>
            refine ⟨done2, fun r' hr' => ?_⟩
            cases hr'
            exact wrapF_ok_handle hw

/-- the same seen from the target only, in the terms of DDProps.C08: `copy_bdd` of `dd._copy` into
a target in ANY mode, ANY arguments, every outcome -/
theorem aXCopyTo_keepsAll {offS off : Bool} (a src : AMgr) (hsrc : AInv offS src) (hu h : Nat) :
    AKeepsAt off a h (aXCopyTo src hu h) := by
  intro hi hf r a' he
  obtain ⟨hdone, _⟩ := aXCopyRun_total src a hsrc hi hu h hf
  unfold aXCopyTo at he
  cases hrun : aXCopyRun src a hu h with
  | mk r0 st =>
    rw [hrun] at he hdone
    cases he
    exact ⟨hdone.dinv, fun j hj => hdone.dsame j fun hm => hj (List.mem_singleton.mp hm), hdone.dden⟩

theorem xcList_keeps {offS off : Bool} {src0 dst0 : AMgr} (hs : AInv offS src0) (hd : AInv off dst0)
    (fuel : Nat) : ∀ (hus : List Nat), XKeeps offS off src0 dst0 (xcList fuel hus) (fun _ => True)
  | [] => XKeeps.pure _ trivial
  | hu :: rest => by
    unfold xcList
    refine XKeeps.bind (xcF_keeps hs hd fuel hu) (fun r _ => ?_)
    refine XKeeps.bind (xcList_keeps hs hd fuel rest) (fun rs _ => ?_)
    exact XKeeps.pure _ trivial

theorem wrapResults_keeps {off : Bool} (ts : List Nat) :
    ∀ (hs : List Nat) (i : Nat) (nodes : List Int) (a : AMgr), AInv off a →
      (∀ h ∈ hs, a.handles.contains h = false) → hs.Nodup →
      ∀ r a', wrapResults ts i hs nodes a = (r, a') →
        AInv off a' ∧ (∀ j : Nat, j ∉ hs → a'.handles[j]? = a.handles[j]?) ∧
        (∀ (j : Nat) (w : Int), a.handles[j]? = some w →
          a'.m.tbl.Mem w ∧ ∀ σ, denN a'.m.tbl w σ = denN a.m.tbl w σ)
  | [], i, nodes, a, hi, _, _, r, a', he => by
    cases nodes <;> (cases he; exact ⟨hi, fun _ _ => rfl, fun j w hj => ⟨hi.hmem j w hj, fun _ => rfl⟩⟩)
  | h :: hs, i, [], a, hi, _, _, r, a', he => by
    cases he; exact ⟨hi, fun _ _ => rfl, fun j w hj => ⟨hi.hmem j w hj, fun _ => rfl⟩⟩
  | h :: hs, i, n :: nodes, a, hi, hf, hnd, r, a', he => by
    have hnd' := List.nodup_cons.mp hnd
    have step : AKeepsL off [h] (if (aliasOf ts i).isNone then wrapF h n else (pure () : AM Unit)) := by
      split
      · exact Auto.AKeeps.toL (Auto.wrapF_keeps session h n)
      · exact Auto.AKeeps.toL (Auto.AKeeps.of_read session h (ARead.pure ()))
    unfold wrapResults at he
    exact Auto.AKeepsL.bind step
      (fun _ a1 i1 hf1 r a' he => wrapResults_keeps ts hs (i + 1) nodes a1 i1 hf1 hnd'.2 r a' he)
      (fun h' hh' hm => hnd'.1 (List.mem_singleton.mp hm ▸ hh')) a hi hf r a' he

/-- `dd._copy.copy_bdds_from(roots, target)` over `dd.autoref`, target in ANY mode, ANY arguments,
every outcome: the target keeps its invariant, only the results are new (ids `hs`: not in use,
pairwise different), every live `Function` keeps its meaning; the source is back exactly -/
theorem aXCopyFromRun_total {offS off : Bool} (src dst : AMgr) (hs : AInv offS src)
    (hd : AInv off dst) (hus ids : List Nat) (hf : ∀ h ∈ ids, dst.handles.contains h = false)
    (hnd : ids.Nodup) :
    XDone offS off src dst ids (aXCopyFromRun src dst hus ids).2 := by
  unfold aXCopyFromRun
  cases hrun : xcList (src.m.nvars + 2) hus { src := src, dst := dst } with
  | mk r0 st =>
    obtain ⟨hx, _⟩ := xcList_keeps hs hd (src.m.nvars + 2) hus _ (.refl { src := src, dst := dst }) r0 st hrun
    have hdone := XDone.ofCleanup hs hd st hx ids
    cases r0 with
    | error e => exact hdone
    | ok rs =>
      simp only
      cases hn : (rs.map (·.1)).mapM (fun t => st.dst.handles[t]?) with
      | none => exact hdone
      | some nodes =>
        simp only
        have done2 := XDone.thenKeeps hs hd hx hf (x := wrapResults (rs.map (·.1)) 0 ids nodes)
          (fun i hfr r a' he => wrapResults_keeps (rs.map (·.1)) ids 0 nodes _ i hfr hnd r a' he)
        cases hw : wrapResults (rs.map (·.1)) 0 ids nodes (xCleanup src dst st).dst with
        | mk rw d =>
          rw [hw] at done2
          cases rw <;> exact done2

/-- the core of `dd._copy.copy_bdd` under the caller's obligation (every variable of the support
declared in the target), reordering not enabled -/
theorem xcopyBody_keepsAtOff (s : Tbl) (hS : WF s) (hOs : OrderOK s) (u : Int) (hu : s.Mem u)
    (m : Mgr) (hO : OrderOK m.tbl) (hsup : CopyPreA s u m.tbl) :
    CoreKeepsAt true m (xcopyBody s u) :=
  Auto.keepsAtOff_of session
    (fun _ hi _ ho => by
      obtain ⟨r, m', he, hI', hE, _, hF, _⟩ :=
        xcopyBody_spec s hS (VarsBij.ofOrderOK hOs) m hi ho (VarsBij.ofOrderOK hO) u hu hsup
      rw [he]; exact ⟨hI', hE, hF⟩)
    (fun ext hl => (xcopyBody_lite ext s u m hl).1.exact)

/-- `aXCopyTo_keepsAll` in the mode `off = true`, in the shape of the other copies; the hypothesis
on the support is not needed for the invariant (it is for the VALUE, `C08_xcopy_value`) -/
theorem aXCopyTo_keepsAtOff (a src : AMgr) {offS : Bool} (hsrc : AInv offS src) (hu h : Nat)
    (_hpre : ∀ u, (nodeOwn hu src).1 = .ok u → CopyPreA src.m.tbl u a.m.tbl) :
    AKeepsAt true a h (aXCopyTo src hu h) :=
  aXCopyTo_keepsAll a src hsrc hu h

end DD
