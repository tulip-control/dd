/-
  DDProofs.XCopyValue — the VALUE of `dd._copy.copy_bdd` over `dd.autoref` (`DD.aXCopyRun`), the
  target in BOTH modes (`off = false`: dynamic reordering possibly enabled; it may fire inside any
  `target.var` / `target.ite` of the recursion; this mode with at least two variables, `Two`): when
  every variable of a node reachable from the root is declared in the target, the call RETURNS, the
  new `Function` sits on the result, and the result denotes — by variable NAME — the function of the
  root in the source.

  The memo maps each copied source node to a LIVE `Function` of the target that denotes it; every
  step is an autoref operation whose value theorem (`VarDoc`, `IteDoc`) keeps every live `Function`
  and its meaning (`Pres`), so the memo stays valid whatever the target does to its order.  What
  holds for EVERY outcome — both invariants, the `Function`s of the two sessions as they were when
  the call started — is taken from `xcF_keeps` (DDProofs.XCopyAuto), for the call as a whole and
  along it (`XKeeps.ret`); the walk here (`XM.Ret`: the program returns) adds only the value, the
  memo, and that no temporary that dies is the answer or an object of the memo.
-/
import DDProofs.XCopyAuto
import DDProofs.SmallSupport
import DDProofs.AutoValues2
import DDProofs.DynCopy
open Std

namespace DD

variable {off : Bool}

theorem wrap_keepsTbl (a : AMgr) (h : Nat) (r : Int) (a' : AMgr) (hw : wrap h r a = (.ok (), a')) :
    a'.m.tbl = a.m.tbl := by
  have := wrapF_tblSame h r a
  rw [wrapF_eq_wrap, hw] at this
  exact this

/-! ### programs that return

States are written `⟨s, d, ca, lg⟩` throughout: with `{ st with src := s1 }` on top of one another
the projections `{ … }.dst` stay unreduced in the goal and pile up along the walk below. -/

def XM.Ret {α : Type} (x : XM α) (st : XSt) (Q : α → XSt → Prop) : Prop :=
  ∃ v st', x st = (.ok v, st') ∧ Q v st'

theorem XM.Ret.pure {α : Type} {st : XSt} {Q : α → XSt → Prop} (v : α) (h : Q v st) :
    XM.Ret (pure v) st Q := ⟨v, st, rfl, h⟩

theorem XM.Ret.step {α β : Type} {x : XM α} {f : α → XM β} {st st1 : XSt} {v : α}
    {Q : β → XSt → Prop} (he : x st = (.ok v, st1)) (hf : XM.Ret (f v) st1 Q) :
    XM.Ret (x >>= f) st Q := by
  obtain ⟨w, st2, he2, hq⟩ := hf
  refine ⟨w, st2, ?_, hq⟩
  change XM.bind' x f st = _
  unfold XM.bind'
  rw [he]
  exact he2

theorem XM.Ret.bind {α β : Type} {x : XM α} {f : α → XM β} {st : XSt} {P : α → XSt → Prop}
    {Q : β → XSt → Prop} (hx : XM.Ret x st P) (hf : ∀ v st', P v st' → XM.Ret (f v) st' Q) :
    XM.Ret (x >>= f) st Q :=
  let ⟨v, _, he, hp⟩ := hx
  .step he (hf v _ hp)

theorem XM.Ret.ofPair {x : XM (Nat × Bool)} {st : XSt} {Q : Nat → Bool → XSt → Prop}
    (h : ∃ t ow st', x st = (.ok (t, ow), st') ∧ Q t ow st') :
    XM.Ret x st (fun p st' => Q p.1 p.2 st') :=
  let ⟨t, ow, st', he, hq⟩ := h
  ⟨(t, ow), st', he, hq⟩

theorem XM.onSrc_read {α : Type} {x : AM α} {st : XSt} {v : α} (he : x st.src = (.ok v, st.src)) :
    XM.onSrc x st = (.ok v, st) := by
  unfold XM.onSrc
  rw [he]

theorem XM.Ret.newSrc {α : Type} {x : Nat → AM α} {s d : AMgr} {ca : List (Nat × Nat)}
    {lg : List (List (Nat × Nat))} {Q : Nat → XSt → Prop}
    (h : ∀ t, s.handles[t]? = none → ∃ v s1, x t s = (.ok v, s1) ∧ Q t ⟨s1, d, ca, lg⟩) :
    XM.Ret (XM.newSrc x) ⟨s, d, ca, lg⟩ Q := by
  obtain ⟨t, hf, hn⟩ := freshH_spec s
  obtain ⟨v, s1, he, hq⟩ := h t hn
  refine ⟨t, _, ?_, hq⟩
  unfold XM.newSrc
  rw [hf]
  simp only
  rw [he]

/-- a new `Function` `t ↦ r` of the target made by a method with a step theorem (`aVar_step`,
`aIte_step`, …), whatever unused id it gets -/
theorem XM.Ret.newDst {x : Nat → AM Int} {s d : AMgr} {ca : List (Nat × Nat)}
    {lg : List (List (Nat × Nat))} {Doc : Int → AMgr → Prop}
    (h : ∀ t, d.handles[t]? = none → ∃ r d', x t d = (.ok r, d') ∧ DStep off d t r d' ∧ Doc r d') :
    XM.Ret (XM.newDst x) ⟨s, d, ca, lg⟩ (fun t st' => ∃ r d', st' = ⟨s, d', ca, lg⟩ ∧
      d.handles[t]? = none ∧ DStep off d t r d' ∧ Doc r d') := by
  obtain ⟨t, hf, hn⟩ := freshH_spec d
  obtain ⟨r, d', he, hs, hd⟩ := h t hn
  refine ⟨t, _, ?_, r, d', rfl, hn, hs, hd⟩
  unfold XM.newDst
  rw [hf]
  simp only
  rw [he]

/-- a step that returns, from a state reached by histories that protect the `Function`s of `src0`
and `dst0`: so is the state it returns in, and the answer is as for every outcome -/
theorem XKeeps.ret {offS : Bool} {src0 dst0 : AMgr} {α : Type} {x : XM α} {P : α → Prop}
    (hk : XKeeps offS off src0 dst0 x P) {st : XSt} (hr : XR offS off src0 dst0 st)
    {Q : α → XSt → Prop} (h : XM.Ret x st Q) :
    XM.Ret x st (fun v st' => XR offS off src0 dst0 st' ∧ P v ∧ Q v st') :=
  let ⟨v, st', he, hq⟩ := h
  let ⟨hr', hp⟩ := hk st hr _ st' he
  ⟨v, st', he, hr', hp v rfl, hq⟩

/-- the memo is valid: each entry is a LIVE `Function` of the target that denotes the source node -/
def XCacheOK (S : Tbl) (d : AMgr) (cache : List (Nat × Nat)) : Prop :=
  ∀ p ∈ cache, ∃ r, d.handles[p.2]? = some r ∧ ∀ σ, denN d.m.tbl r σ = denN S (p.1 : Int) σ

structure XI (offS off : Bool) (S T0 : Tbl) (st : XSt) : Prop where
  sinv : AInv offS st.src
  stbl : st.src.m.tbl = S
  dinv : AInv off st.dst
  two : Two off st.dst
  names : ∀ s, st.dst.m.tbl.vars.contains s = T0.vars.contains s
  cache : XCacheOK S st.dst st.cache

def Pres (d d' : AMgr) : Prop :=
  ∀ (j : Nat) (w : Int), d.handles[j]? = some w →
    d'.handles[j]? = some w ∧ ∀ σ, denN d'.m.tbl w σ = denN d.m.tbl w σ

theorem Pres.trans {a b c : AMgr} (h1 : Pres a b) (h2 : Pres b c) : Pres a c := fun j w hj =>
  let ⟨l1, d1⟩ := h1 j w hj
  let ⟨l2, d2⟩ := h2 j w l1
  ⟨l2, fun σ => (d2 σ).trans (d1 σ)⟩

theorem Pres.none {d d' : AMgr} (h : Pres d d') {t : Nat} (hn : d'.handles[t]? = none) :
    d.handles[t]? = none := by
  cases hst : d.handles[t]? with
  | none => rfl
  | some w => rw [(h t w hst).1] at hn; cases hn

theorem DStep.pres {d d' : AMgr} {t : Nat} {r : Int} (h : DStep off d t r d')
    (hn : d.handles[t]? = none) : Pres d d' := fun j w hj => by
  have hne : j ≠ t := fun e => by rw [e, hn] at hj; cases hj
  exact ⟨by rw [h.same j hne]; exact hj, (h.den j w hj).2⟩

theorem XCacheOK.pres {S : Tbl} {d d' : AMgr} {c : List (Nat × Nat)} (h : XCacheOK S d c)
    (hp : Pres d d') : XCacheOK S d' c := fun p hpm => by
  obtain ⟨r, hl, hd⟩ := h p hpm
  obtain ⟨l2, d2⟩ := hp p.2 r hl
  exact ⟨r, l2, fun σ => (d2 σ).trans (hd σ)⟩

theorem XCacheOK.ne_fresh {S : Tbl} {d : AMgr} {c : List (Nat × Nat)} (h : XCacheOK S d c) {x : Nat}
    (hn : d.handles[x]? = none) : ∀ p ∈ c, p.2 ≠ x := fun p hp =>
  let ⟨_, hl, _⟩ := h p hp
  ne_of_some_none hl hn

/-- a `Function` that is alive in `b` and no object of the memo `c` is no object of a later memo
whose new objects got ids that were not in use in `b` -/
theorem notMemo_later {b : AMgr} {x : Nat} {w : Int} (ha : b.handles[x]? = some w)
    {c c' : List (Nat × Nat)} (hnew : ∀ p ∈ c', p ∈ c ∨ b.handles[p.2]? = none)
    (h : ∀ p ∈ c, p.2 ≠ x) : ∀ p ∈ c', p.2 ≠ x := fun p hp =>
  (hnew p hp).elim (h p) fun hn => (ne_of_some_none ha hn).symm

theorem reach_pres {a0 a : AMgr} (hi : AInv off a0) (hr : AReach off (PIn a0) a0 a) :
    AInv off a ∧ Pres a0 a := by
  obtain ⟨i, hs, hd⟩ := reach_live hi hr
  refine ⟨i, fun j w hj => ⟨?_, (hd j w hj).2⟩⟩
  rw [hs j (.of_some hj)]
  exact hj

theorem dropQ_pres (a : AMgr) (hi : AInv off a) (t : Nat) (j : Nat) (w : Int) (hj : a.handles[j]? = some w)
    (hne : j ≠ t) :
    (dropQ t a).2.handles[j]? = some w ∧ ∀ σ, denN (dropQ t a).2.m.tbl w σ = denN a.m.tbl w σ := by
  exact ⟨by rw [dropQ_other t a hne]; exact hj, fun σ => by
    rw [show (dropQ t a).2.m.tbl = a.m.tbl from drop_tblSame t a]⟩

theorem dropIf_other (b : Bool) (t : Nat) (d : AMgr) {j : Nat} (hj : b = true → j ≠ t) :
    (if b then (dropQ t d).2 else d).handles[j]? = d.handles[j]? := by
  cases b
  · rfl
  · exact dropQ_other t d (hj rfl)

theorem dropIf_tbl (b : Bool) (t : Nat) (d : AMgr) :
    (if b then (dropQ t d).2 else d).m.tbl = d.m.tbl := by
  cases b
  · rfl
  · exact drop_tblSame t d

section
variable {s d : AMgr} {ca : List (Nat × Nat)} {lg : List (List (Nat × Nat))}

theorem xDropIf_eval (b : Bool) (t : Nat) : xDropIf b t ⟨s, d, ca, lg⟩ =
    (.ok (), ⟨s, if b then (dropQ t d).2 else d, ca, lg⟩) := by
  unfold xDropIf
  cases b <;> rfl

theorem XM.get_eval : XM.get ⟨s, d, ca, lg⟩ = (.ok ⟨s, d, ca, lg⟩, ⟨s, d, ca, lg⟩) := rfl

theorem XM.memo_eval (k r : Nat) : XM.memo k r ⟨s, d, ca, lg⟩ = (.ok (), ⟨s, d, (k, r) :: ca, lg⟩) :=
  rfl

theorem XM.logSrc_eval : XM.logSrc ⟨s, d, ca, lg⟩ = (.ok (), ⟨s, d, ca, lg ++ [s.m.ref.toList]⟩) :=
  rfl

theorem XM.dropSrc_eval (t : Nat) :
    XM.onSrc (dropQ t) ⟨s, d, ca, lg⟩ = (.ok (), ⟨(dropQ t s).2, d, ca, lg⟩) := rfl

theorem XM.dropDst_eval (t : Nat) :
    XM.onDst (dropQ t) ⟨s, d, ca, lg⟩ = (.ok (), ⟨s, (dropQ t d).2, ca, lg⟩) := rfl

end

/-- what a call of `_copy_bdd` on the source `Function` `hu ↦ u` establishes -/
structure XPost (S : Tbl) (u : Int) (st st' : XSt) (t : Nat) (ow : Bool) : Prop where
  /-- the answer is a live `Function` of the target that denotes `u` by name -/
  res : ∃ r, st'.dst.handles[t]? = some r ∧ ∀ σ, denN st'.dst.m.tbl r σ = denN S u σ
  /-- a new object is not in the memo -/
  notCache : ow = true → ∀ p ∈ st'.cache, p.2 ≠ t
  /-- every `Function` of the target that was alive is, with its meaning -/
  frame : Pres st.dst st'.dst
  cacheMono : ∀ p ∈ st.cache, p ∈ st'.cache
  cacheNew : ∀ p ∈ st'.cache, p ∈ st.cache ∨ st.dst.handles[p.2]? = none

/-- the part of it that does not hold for every outcome -/
structure XCore (off : Bool) (S T0 : Tbl) (u : Int) (st st' : XSt) (t : Nat) (ow : Bool) : Prop where
  two : Two off st'.dst
  names : ∀ s, st'.dst.m.tbl.vars.contains s = T0.vars.contains s
  cache : XCacheOK S st'.dst st'.cache
  res : ∃ r, st'.dst.handles[t]? = some r ∧ ∀ σ, denN st'.dst.m.tbl r σ = denN S u σ
  notCache : ow = true → ∀ p ∈ st'.cache, p.2 ≠ t
  cacheMono : ∀ p ∈ st.cache, p ∈ st'.cache
  cacheNew : ∀ p ∈ st'.cache, p ∈ st.cache ∨ st.dst.handles[p.2]? = none

theorem XR.src {offS : Bool} {src0 dst0 : AMgr} {st : XSt} (h : XR offS off src0 dst0 st)
    (hs : AInv offS src0) : AInv offS st.src ∧ st.src.m.tbl = src0.m.tbl ∧ Pres src0 st.src :=
  let ⟨i, p⟩ := reach_pres hs h.rs
  ⟨i, h.ts, p⟩

/-- the rest comes from the theorem for every outcome, with the state of the call as the start -/
theorem XCore.finish {offS : Bool} {S T0 : Tbl} {fu hu : Nat} {st st' : XSt} {u : Int} {t : Nat}
    {ow : Bool} (c : XCore off S T0 u st st' t ow) (hx : XI offS off S T0 st)
    (hE : xcF fu hu st = (.ok (t, ow), st')) :
    XI offS off S T0 st' ∧ XPost S u st st' t ow := by
  obtain ⟨hr, _⟩ := xcF_keeps hx.sinv hx.dinv fu hu st (.refl st) _ st' hE
  obtain ⟨is, ts, _⟩ := hr.src hx.sinv
  obtain ⟨id, pd⟩ := reach_pres hx.dinv hr.rd
  exact ⟨⟨is, ts.trans hx.stbl, id, c.two, c.names, c.cache⟩,
    ⟨c.res, c.notCache, pd, c.cacheMono, c.cacheNew⟩⟩

theorem XCore.ofPres {offS : Bool} {S T0 : Tbl} {u : Int} {st st' : XSt} {t : Nat} {ow : Bool}
    (hx : XI offS off S T0 st) (hc : st'.cache = st.cache) (hp : Pres st.dst st'.dst)
    (htb : st'.dst.m.tbl = st.dst.m.tbl)
    (hres : ∃ r, st'.dst.handles[t]? = some r ∧ ∀ σ, denN st'.dst.m.tbl r σ = denN S u σ)
    (hnew : ow = true → st.dst.handles[t]? = none) : XCore off S T0 u st st' t ow := by
  refine ⟨hx.two.of_tbl htb, fun s => by rw [htb]; exact hx.names s, ?_, hres, ?_, ?_, ?_⟩ <;> rw [hc]
  · exact hx.cache.pres hp
  · exact fun h => hx.cache.ne_fresh (hnew h)
  · exact fun _ h => h
  · exact fun _ h => Or.inl h

section
variable {s d : AMgr} {ca : List (Nat × Nat)} {lg : List (List (Nat × Nat))}

theorem xZ_ret {offS : Bool} (hi : AInv offS s) (hu : Nat) (u : Int) (hl : s.handles[hu]? = some u)
    (neg : Bool) : XM.Ret (xZ hu neg) ⟨s, d, ca, lg⟩ (fun _ st1 => ∃ s1, st1 = ⟨s1, d, ca, lg⟩) := by
  unfold xZ
  split
  · refine .bind (.newSrc (Q := fun _ st1 => ∃ s1, st1 = ⟨s1, d, ca, lg⟩) fun z hn => ?_)
      fun z _ h => .pure _ h
    obtain ⟨s1, he, _⟩ := fApply_not_eval s hi "not" not_is_negation.1 not_is_negation.2 hu z
      (contains_false_of_none hn) u hl
    exact ⟨_, s1, he, s1, rfl⟩
  · exact .pure _ ⟨s, rfl⟩

theorem xChild_ret {offS : Bool} (hi : AInv offS s) (high : Bool) (hu : Nat) (u : Int) (n : Nd)
    (hl : s.handles[hu]? = some u) (h1 : u.natAbs ≠ 1) (hn : s.m.tbl.succ[u.natAbs]? = some n) :
    XM.Ret (xChild high hu) ⟨s, d, ca, lg⟩ (fun z st1 => ∃ s1, st1 = ⟨s1, d, ca, lg⟩ ∧
      s1.handles[z]? = some (if high then n.hi else n.lo)) := by
  unfold xChild
  refine .newSrc fun z hz => ?_
  obtain ⟨s1, he, _, hh⟩ := fChild_eval s hi high hu z u n (contains_false_of_none hz) hl h1 hn
  exact ⟨_, s1, he, s1, rfl, by rw [hh]; exact TreeMap.getElem?_insert_self⟩

theorem XM.Ret.dropOpt {β : Type} {o : Option Nat} {f : Unit → XM β} {Q : β → XSt → Prop}
    (h : ∀ s', XM.Ret (f ()) ⟨s', d, ca, lg⟩ Q) : XM.Ret (xDropOpt o >>= f) ⟨s, d, ca, lg⟩ Q := by
  cases o
  · exact .step (st1 := ⟨s, d, ca, lg⟩) rfl (h _)
  · exact .step (XM.dropSrc_eval _) (h _)

end

theorem dst_not (d : AMgr) (hi : AInv off d) (ht : Two off d) (c : Nat) (rc : Int)
    (hl : d.handles[c]? = some rc) (t : Nat) (hn : d.handles[t]? = none) :
    ∃ d', fApply "not" c none t d = (.ok (-rc), d') ∧ DStep off d t (-rc) d' ∧ d'.m.tbl = d.m.tbl := by
  obtain ⟨d', he, htb, hh⟩ := fApply_not_eval d hi "not" not_is_negation.1 not_is_negation.2 c t
    (contains_false_of_none hn) rc hl
  exact ⟨d', he, DStep.of_tblSame hi ht (contains_false_of_none hn)
    (fApply_keepsAll off "not" c none t) he htb (by rw [hh]; exact TreeMap.getElem?_insert_self), htb⟩

theorem xTerm_ret {offS : Bool} {S T0 : Tbl} {s d : AMgr} {ca : List (Nat × Nat)}
    {lg : List (List (Nat × Nat))} (hx : XI offS off S T0 ⟨s, d, ca, lg⟩) (b : Bool) :
    XM.Ret (xTerm b) ⟨s, d, ca, lg⟩
      (fun p st' => XCore off S T0 (if b then 1 else -1) ⟨s, d, ca, lg⟩ st' p.1 p.2) := by
  unfold xTerm
  refine .bind (.newDst (Doc := fun r d' => r = (if b then 1 else -1) ∧ d'.m.tbl = d.m.tbl)
    fun t hn =>
      let ⟨d', he, hs, htb⟩ := aConst_step d hx.dinv hx.two b t hn
      ⟨_, d', he, hs, rfl, htb⟩) ?_
  rintro t _ ⟨_, d', rfl, hn, hs, rfl, htb⟩
  refine .pure _ (XCore.ofPres hx rfl (hs.pres hn) htb ⟨_, hs.at_t, fun σ => ?_⟩ fun _ => hn)
  cases b
  · exact (den_neg_one _ _).trans (den_neg_one _ _).symm
  · exact (den_one _ _).trans (den_one _ _).symm

/-- `_flip(r, u)` for the memo's `Function` `c ↦ rc` of the unsigned node of `u`: `~ r`, a new
object, or `r` itself -/
theorem xFlip_ret {s d : AMgr} {ca : List (Nat × Nat)} {lg : List (List (Nat × Nat))}
    (hi : AInv off d) (h2 : Two off d) {S : Tbl}
    (hS : WF S) (c : Nat) (rc : Int) (u : Int) (hmem : S.Mem u) (hl : d.handles[c]? = some rc)
    (hd : ∀ σ, denN d.m.tbl rc σ = denN S (u.natAbs : Int) σ) :
    XM.Ret (xFlip c (decide (u < 0))) ⟨s, d, ca, lg⟩ (fun p st' => ∃ d', st' = ⟨s, d', ca, lg⟩ ∧
      Pres d d' ∧ d'.m.tbl = d.m.tbl ∧
      (∃ r, d'.handles[p.1]? = some r ∧ ∀ σ, denN d'.m.tbl r σ = denN S u σ) ∧
      (p.2 = true → d.handles[p.1]? = none) ∧ (p.2 = false → p.1 = c)) := by
  unfold xFlip
  by_cases hneg : u < 0
  · simp only [hneg, decide_true, if_true]
    refine .bind (.newDst (Doc := fun r d' => r = -rc ∧ d'.m.tbl = d.m.tbl) fun t hn =>
      let ⟨d', he, hs, htb⟩ := dst_not d hi h2 c rc hl t hn
      ⟨_, d', he, hs, rfl, htb⟩) ?_
    rintro t _ ⟨_, d', rfl, hn, hs, rfl, htb⟩
    refine .pure _ ⟨d', rfl, hs.pres hn, htb, ⟨-rc, hs.at_t, fun σ => ?_⟩, fun _ => hn,
      fun h => (by cases h)⟩
    have hu : u = -((u.natAbs : Nat) : Int) := by omega
    have h1 : denN d'.m.tbl (-rc) σ = !denN d.m.tbl rc σ := by
      rw [htb]
      exact den_neg d.m.tbl hi.inv.wf.toWF rc _ (hi.hmem c rc hl)
    have h2' : denN S u σ = !denN S (u.natAbs : Int) σ := by
      conv => lhs; rw [hu]
      exact den_neg S hS _ _ (mem_natAbs hmem)
    rw [h1, h2', hd σ]
  · simp only [hneg, decide_false, Bool.false_eq_true, if_false]
    refine .pure _ ⟨d, rfl, fun _ _ h => ⟨h, fun _ => rfl⟩, rfl, ⟨rc, hl, fun σ => ?_⟩,
      fun h => (by cases h), fun _ => rfl⟩
    have hu : (u.natAbs : Int) = u := by omega
    rw [hd σ, hu]

/-- the fuel suffices for a child: it lies at a deeper level -/
theorem fuel_child {N fu l l' : Nat} (h : N + 1 ≤ fu + 1 + l) (hlt : l < l') : N + 1 ≤ fu + l' := by
  omega

theorem Two.of_tbl' {a b : AMgr} (h : Two off a) (ht : b.m.tbl = a.m.tbl) : Two off b := h.of_tbl ht

/-- every variable of a node reachable from `u` in the source is declared in the target -/
def XDecl (S : Tbl) (u : Int) (T : Tbl) : Prop :=
  ∀ (v : Nat) (n : Nd), Reach S u.natAbs v → S.succ[v]? = some n →
    T.vars.contains (S.nameOf n.lvl) = true

/-- `_copy_bdd(u, bdd, cache)` over autoref RETURNS a live `Function` of the target that denotes
`u` by name — target in either mode, the reordering firing wherever it may -/
theorem xcF_value {offS : Bool} {S T0 : Tbl} (hS : WF S) (hO : OrderOK S) :
    ∀ (fu hu : Nat) (st : XSt) (u : Int), XI offS off S T0 st → st.src.handles[hu]? = some u →
      S.nvars + 1 ≤ fu + S.levelOf u → XDecl S u T0 →
      ∃ t ow st', xcF fu hu st = (.ok (t, ow), st') ∧ XI offS off S T0 st' ∧ XPost S u st st' t ow
  | 0, hu, st, u, _, _, hfu, _ => by
    have := levelOf_le S hS u
    omega
  | fu+1, hu, ⟨s0, d0, c0, l0⟩, u, hx, hl, hfu, hdecl => by
    suffices core : XM.Ret (xcF (fu+1) hu) ⟨s0, d0, c0, l0⟩
        (fun p st' => XCore off S T0 u ⟨s0, d0, c0, l0⟩ st' p.1 p.2) by
      obtain ⟨⟨t, ow⟩, st', hE, c⟩ := core
      exact ⟨t, ow, st', hE, c.finish hx hE⟩
    have hs : AInv offS s0 := hx.sinv
    have hd : AInv off d0 := hx.dinv
    have e0 : s0.m.tbl = S := hx.stbl
    have hmu : S.Mem u := e0 ▸ hs.hmem hu u hl
    have hr0 : XR offS off s0 d0 ⟨s0, d0, c0, l0⟩ := .refl ⟨s0, d0, c0, l0⟩
    unfold xcF
    refine .step (XM.onSrc_read (nodeOwn_eval hl)) ?_
    by_cases h1 : u = 1
    · subst h1
      rw [if_pos rfl]
      exact xTerm_ret hx true
    rw [if_neg h1]
    by_cases hm1 : u = -1
    · subst hm1
      rw [if_pos rfl]
      exact xTerm_ret hx false
    rw [if_neg hm1]
    have hnt : u.natAbs ≠ 1 := by omega
    obtain ⟨n, (hn : S.succ[u.natAbs]? = some n)⟩ := mem_node hmu hnt
    have hnS : ∀ {s : AMgr}, s.m.tbl = s0.m.tbl → s.m.tbl.succ[u.natAbs]? = some n :=
      fun e => (e.trans e0) ▸ hn
    refine .bind ((xZ_keeps hs hu _).ret hr0 (xZ_ret hs hu u hl _)) ?_
    rintro hz _ ⟨hr1, hzp, s1, rfl⟩
    obtain ⟨i1, tb1, p1⟩ := hr1.src hs
    refine .step XM.get_eval ?_
    split
    · next c hlk =>
      obtain ⟨rc, hlc, hdc⟩ := hx.cache _ (lookup_some_mem _ _ _ hlk)
      refine .bind (xFlip_ret hd hx.two hS c rc u hmu hlc hdc) ?_
      rintro ⟨t, ow⟩ _ ⟨d', rfl, pd, tbd, hres, hnew, -⟩
      exact .dropOpt fun _ => .pure _ (XCore.ofPres hx rfl pd tbd hres hnew)
    · -- low: the `Function` on the child lives in the source while the child is copied
      have hlvl : S.levelOf u = n.lvl := levelOf_node S u n hnt hn
      refine .bind ((xChild_keeps hs false hu).ret hr1
        (xChild_ret i1 false hu u n (p1 hu u hl).1 hnt (hnS tb1))) ?_
      rintro hl' _ ⟨hr2, hlp, s2, rfl, hl2⟩
      obtain ⟨i2, tb2, -⟩ := hr2.src hs
      refine .bind ((xcF_keeps hs hd fu hl').ret hr2 (.ofPair
        (xcF_value hS hO fu hl' ⟨s2, d0, c0, l0⟩ n.lo
          ⟨i2, tb2.trans e0, hd, hx.two, hx.names, hx.cache⟩ hl2
          (fuel_child hfu (hlvl ▸ hS.lo_lt _ _ hn)) fun v nv hr hv => hdecl v nv (.lo hn hr) hv))) ?_
      rintro ⟨tl, owl⟩ ⟨s3, d3, c3, l3⟩ ⟨hr3, -, hx3, hp3⟩
      have hr4 : XR offS off s0 d0 ⟨(dropQ hl' s3).2, d3, c3, l3⟩ :=
        ((XKeeps.dropSrc hs hlp) _ hr3 _ _ rfl).1
      refine .step (XM.dropSrc_eval hl') ?_
      obtain ⟨i4, tb4, p4⟩ := hr4.src hs
      refine .bind ((xChild_keeps hs true hu).ret hr4
        (xChild_ret i4 true hu u n (p4 hu u hl).1 hnt (hnS tb4))) ?_
      rintro hh' _ ⟨hr5, hhp, s5, rfl, hl5⟩
      obtain ⟨i5, tb5, -⟩ := hr5.src hs
      refine .bind ((xcF_keeps hs hd fu hh').ret hr5 (.ofPair
        (xcF_value hS hO fu hh' ⟨s5, d3, c3, l3⟩ n.hi
          ⟨i5, tb5.trans e0, hx3.dinv, hx3.two, hx3.names, hx3.cache⟩ hl5
          (fuel_child hfu (hlvl ▸ hS.hi_lt _ _ hn)) fun v nv hr hv => hdecl v nv (.hi hn hr) hv))) ?_
      rintro ⟨th, owh⟩ ⟨s6, d6, c6, l6⟩ ⟨hr6, -, hx6, hp6⟩
      have hr7 : XR offS off s0 d0 ⟨(dropQ hh' s6).2, d6, c6, l6⟩ :=
        ((XKeeps.dropSrc hs hhp) _ hr6 _ _ rfl).1
      refine .step (XM.dropSrc_eval hh') ?_
      obtain ⟨i7, tb7, p7⟩ := hr7.src hs
      have hvE := fVar_eval (dropQ hh' s6).2 i7 hu u n (p7 hu u hl).1 hnt (hnS tb7)
      rw [show (dropQ hh' s6).2.m.tbl = S from tb7.trans e0] at hvE
      refine .step (XM.onSrc_read hvE) (.step XM.logSrc_eval ?_)
      -- g = bdd.var(u.var)
      have hdn : d6.m.tbl.vars.contains (S.nameOf n.lvl) = true := by
        rw [hx6.names]; exact hdecl u.natAbs n (.refl _) hn
      refine .bind (.newDst fun g hng =>
        aVar_step d6 hx6.dinv hx6.two (S.nameOf n.lvl) g (contains_false_of_none hng) hdn) ?_
      rintro g _ ⟨rg, d9, rfl, hng, hsg, hdg⟩
      have p69 := hsg.pres hng
      -- the two results are still alive in `d9`
      obtain ⟨rl, hll3, hdl3⟩ := hp3.res
      obtain ⟨rh, hlh6, hdh6⟩ := hp6.res
      obtain ⟨hll6, hdl6⟩ := hp6.frame tl rl hll3
      obtain ⟨hll9, hdl9⟩ := p69 tl rl hll6
      obtain ⟨hlh9, hdh9⟩ := p69 th rh hlh6
      -- r = bdd.ite(g, high, low)
      refine .bind (.newDst fun r hnr => aIte_step d9 hsg.inv hsg.two g th tl r
        (contains_false_of_none hnr) rg rh rl hsg.at_t hlh9 hll9) ?_
      rintro r _ ⟨rr, d10, rfl, hnr, hsr, hdr⟩
      have p910 := hsr.pres hnr
      -- what `r` denotes: the unsigned node
      have hden_r : ∀ σ, denN d10.m.tbl rr σ = denN S (u.natAbs : Int) σ := by
        intro σ
        have hk1 : ((u.natAbs : Nat) : Int).natAbs ≠ 1 := by simpa using hnt
        have hkn : S.succ[((u.natAbs : Nat) : Int).natAbs]? = some n := by simpa using hn
        have hsh := (C18_expand_spec S hS (u.natAbs : Int) n hk1 hkn).2.1 σ
        have hpos : decide (((u.natAbs : Nat) : Int) < 0) = false := by
          simp
        rw [hsh, hpos, Bool.false_xor, hdr.2 σ, hdg.2 σ, hdh9 σ, hdh6 σ, hdl9 σ, hdl6 σ, hdl3 σ]
      have hc10 : XCacheOK S d10 ((u.natAbs, r) :: c6) :=
        List.forall_mem_cons.mpr ⟨⟨rr, hsr.at_t, hden_r⟩, hx6.cache.pres (p69.trans p910)⟩
      refine .step (XM.memo_eval u.natAbs r) ?_
      refine .bind (xFlip_ret hsr.inv hsr.two hS r rr u hmu hsr.at_t hden_r) ?_
      rintro ⟨t, ow⟩ _ ⟨d12, rfl, p1012, tb12, ⟨rt, hlt, hdt⟩, hnew, hold⟩
      -- the frame dies: `z`, `low`, `high`, `g`
      refine .dropOpt fun _ => .step (xDropIf_eval owl tl)
        (.step (xDropIf_eval owh th) (.step (XM.dropDst_eval g) (.pure _ ?_)))
      have tbF := (drop_tblSame g _).trans ((dropIf_tbl owh th _).trans (dropIf_tbl owl tl d12))
      have keepF : ∀ j : Nat, (owl = true → j ≠ tl) → (owh = true → j ≠ th) → j ≠ g → _ =
          d12.handles[j]? := fun j a b c =>
        (dropQ_other g _ c).trans ((dropIf_other owh th _ b).trans (dropIf_other owl tl d12 a))
      -- an id that was not in use in `d9` is none of the three that die; nor is an object of the memo
      have apart : ∀ y, d9.handles[y]? = none →
          (owl = true → y ≠ tl) ∧ (owh = true → y ≠ th) ∧ y ≠ g := fun y hy =>
        ⟨fun _ => (ne_of_some_none hll9 hy).symm, fun _ => (ne_of_some_none hlh9 hy).symm,
          (ne_of_some_none hsg.at_t hy).symm⟩
      have ht9 : d9.handles[t]? = none := by
        cases ow
        · exact (show t = r from hold rfl) ▸ hnr
        · exact p910.none (hnew rfl)
      have memo : ∀ p ∈ (u.natAbs, r) :: c6,
          (owl = true → p.2 ≠ tl) ∧ (owh = true → p.2 ≠ th) ∧ p.2 ≠ g :=
        List.forall_mem_cons.mpr ⟨apart r hnr, fun p hp =>
          ⟨fun how => notMemo_later hll3 hp6.cacheNew (hp3.notCache how) p hp,
            fun how => hp6.notCache how p hp, hx6.cache.ne_fresh hng p hp⟩⟩
      refine ⟨hsr.two.of_tbl (tbF.trans tb12), fun s => ?_, fun p hp => ?_, ?_,
        fun how => hc10.ne_fresh (hnew how), fun p hp => ?_, fun p hp => ?_⟩
      · exact (congrArg (fun tb : Tbl => tb.vars.contains s) (tbF.trans tb12)).trans
          (((hsr.names s).trans (hsg.names s)).trans (hx6.names s))
      · obtain ⟨rp, hlp, hdp⟩ := hc10.pres p1012 p hp
        obtain ⟨a, b, c⟩ := memo p hp
        exact ⟨rp, (keepF p.2 a b c).trans hlp, fun σ => (congrArg (denN · rp σ) tbF).trans (hdp σ)⟩
      · obtain ⟨a, b, c⟩ := apart t ht9
        exact ⟨rt, (keepF t a b c).trans hlt, fun σ => (congrArg (denN · rt σ) tbF).trans (hdt σ)⟩
      · exact List.mem_cons_of_mem _ (hp6.cacheMono p (hp3.cacheMono p hp))
      · rcases List.mem_cons.mp hp with rfl | hp
        · exact Or.inr (((hp3.frame.trans hp6.frame).trans p69).none hnr)
        · exact (hp6.cacheNew p hp).elim (hp3.cacheNew p) fun h3 => Or.inr (hp3.frame.none h3)

/-- the usual hypothesis of a copy (`CopyPre`: every variable of the support of `u` is declared in
the target) gives the hypothesis of the recursion -/
theorem xdecl_of_copyPre {S T : Tbl} (hw : WF S) (hO : OrderOK S) (u : Int) (h : CopyPre S u T) :
    XDecl S u T := by
  intro v n hr hn
  have hin := inSupp_of_reach hw hr n hn u rfl
  obtain ⟨x, hx⟩ := hO.total n.lvl (hw.lvl_lt _ _ hn)
  have : S.nameOf n.lvl = x := by unfold Tbl.nameOf; rw [hx]; rfl
  rw [this]
  exact h n.lvl x hin hx

/-- `dd._copy.copy_bdd(u, target)` over `dd.autoref`, the target in EITHER mode (in the mode
`off = false` with at least two variables, dynamic reordering possibly enabled and firing inside
any `target.var` / `target.ite` of the recursion): when `u` is a live `Function` of the source and
every variable of a node reachable from it is declared in the target, the call RETURNS `r`, the
new `Function` `h` sits on `r`, and `r` denotes in the target — by variable NAME — the function of
`u` in the source -/
theorem aXCopyRun_value {offS : Bool} (src dst : AMgr) (hs : AInv offS src) (hd : AInv off dst)
    (h2 : Two off dst) (hu h : Nat) (hf : dst.handles.contains h = false) (u : Int)
    (hl : src.handles[hu]? = some u) (hdecl : XDecl src.m.tbl u dst.m.tbl) :
    ∃ r, (aXCopyRun src dst hu h).1 = .ok r ∧
      (aXCopyRun src dst hu h).2.dst.handles[h]? = some r ∧
      ∀ σ, denN (aXCopyRun src dst hu h).2.dst.m.tbl r σ = denN src.m.tbl u σ := by
  have hS := hs.inv.wf.toWF
  have hx0 : XI offS off src.m.tbl dst.m.tbl { src := src, dst := dst } :=
    ⟨hs, rfl, hd, h2, fun _ => rfl, fun _ hp => by cases hp⟩
  have hfu : src.m.tbl.nvars + 1 ≤ (src.m.nvars + 2) + src.m.tbl.levelOf u := by
    show src.m.tbl.nvars + 1 ≤ (src.m.tbl.nvars + 2) + _
    omega
  obtain ⟨t, ow, st', hE, hx', hp⟩ :=
    xcF_value hS hs.order (src.m.nvars + 2) hu { src := src, dst := dst } u hx0 hl hfu hdecl
  obtain ⟨r, hlr, hdr⟩ := hp.res
  -- the run, with the facts of the every-outcome theorem
  obtain ⟨hxr, _⟩ := xcF_keeps hs hd (src.m.nvars + 2) hu _ (.refl { src := src, dst := dst }) _ st' hE
  have h0 := XDone.ofCleanup hs hd st' hxr []
  have htbc : (xCleanup src dst st').dst.m.tbl = st'.dst.m.tbl := dropKeys_tbl _ _
  have hmr : (xCleanup src dst st').dst.m.tbl.Mem r := by
    rw [htbc]; exact hx'.dinv.hmem t r hlr
  obtain ⟨d', hw, _, htb, _⟩ :=
    Auto.wrapF_spec session (xCleanup src dst st').dst h r h0.dinv (h0.unused hf) hmr
  have hrun : aXCopyRun src dst hu h = (.ok r, { xCleanup src dst st' with dst := d' }) := by
    unfold aXCopyRun
    rw [hE]
    simp only [hlr, hw]
  rw [hrun]
  refine ⟨r, rfl, wrapF_ok_handle hw, fun σ => ?_⟩
  show denN d'.m.tbl r σ = _
  rw [htb, htbc]
  exact hdr σ

end DD
