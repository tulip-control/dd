/-
  DDProps.All — the WHOLE property set imported together, and used together.
  Every module under `DDProps/` is imported here (and through them every module of `DDProofs/`,
  `DD/`, `Generated/`; the line-protocol drivers and the one proof file about the driver's
  constructor are imported explicitly, so that every library module of the project is covered).
  Two modules that declare the same name cannot be imported together, so this file compiling
  is the check that the names of the project are disjoint.
  The theorems chain theorems of DIFFERENT properties on the SAME state in one statement — each
  chain uses modules that declare related notions under different names (`Tok` / `DddmpTok`, …)
  in one environment.
-/
import DDProps.Api
import DDProps.ApiAuto
import DDProps.ApiMdd
import DDProps.C01
import DDProps.C02
import DDProps.C02Constructor
import DDProps.C02Copy
import DDProps.C03
import DDProps.C04
import DDProps.C05
import DDProps.C05Auto
import DDProps.C05Grammar
import DDProps.C05Lex
import DDProps.C06
import DDProps.C06Rooted
import DDProps.C07
import DDProps.C07Accept
import DDProps.C07Levels
import DDProps.C08
import DDProps.C08Accept
import DDProps.C08AcceptLe
import DDProps.C08AcceptMore
import DDProps.C08Sched
import DDProps.C08Values
import DDProps.C08Values2
import DDProps.C09
import DDProps.C09Accept
import DDProps.C09Few
import DDProps.C09Sched
import DDProps.C09SchedKeep
import DDProps.C10
import DDProps.C11
import DDProps.C11CopyVars
import DDProps.C12
import DDProps.C12Dyn
import DDProps.C12Sched
import DDProps.C12SchedKeep
import DDProps.C12Total
import DDProps.C12Perm
import DDProps.C13
import DDProps.C13Counts
import DDProps.C14
import DDProps.C15
import DDProps.C16
import DDProps.C16Chain
import DDProps.C16Text
import DDProps.C17
import DDProps.C17Load
import DDProps.C17Load2
import DDProps.C17Load2Sched
import DDProps.C17Reorder
import DDProps.C18
import DDProps.C19
import DDProps.C19Quant
import DDProps.Histories
import DDProps.Histories2
import DDProps.Histories2Firing
import DDProps.Histories3
import DDProps.Histories4
import DDProps.Histories5
import DDProps.Histories4Sched
import DDProps.Tables
import DD.ApiDriver
import DD.AutoDriver
import DD.DumpDriver
import DD.MddDriver
import DD.ParseDriver
import DDProofs.ConstructorDriver
import DDProps.C08XCopy
import DDProps.C17Capacity
import DDProps.C17Capacity2
import DDProps.C17Capacity3
open Std

namespace DD

/-- the assignment of levels induced by an assignment of names, as C16 (`dddmpAsgOf`) and as C05
(`asgOf`) write it: the same function -/
theorem All_asgOf_eq : @dddmpAsgOf = @asgOf := rfl

/-- load a DDDMP file (C16), then `add_expr` (C05) in the loaded manager: any text that parses to
a formula over declared variables is added, its node means the formula, and every root entry of
the file is still denoted by a root of the manager — both meanings read with the same assignment
of the names -/
theorem All_load_then_addExpr (f : DddmpFile) (hf : f.WF) (s : String) (t : Ast)
    (hp : parse (tokenize s) = some t) :
    ∃ m, loadDddmp f = .ok m ∧ (Meaningful m.tbl t →
      ∃ r m', addExpr s m = (.ok r, m') ∧ Inv m' ∧ m'.tbl.Mem r ∧
        (∀ α, den m'.tbl r (asgOf m'.tbl α) = evalFormula m.tbl t α) ∧
        ∀ ρ ∈ f.rootids.getD [], ∃ r₀ ∈ m.roots, m'.tbl.Mem r₀ ∧
          ∀ α, den m'.tbl r₀ (asgOf m'.tbl α) = evalFile f α ρ) := by
  obtain ⟨m, h, hg, -, -, -, -, hr, -⟩ := C16_load_good f hf
  refine ⟨m, h, fun hM => ?_⟩
  obtain ⟨r, m', he, hI', hx, hfr, hm, hd⟩ := C05_addExpr_spec m hg.inv hg.off hg.order s t hp hM
  refine ⟨r, m', he, hI', hm, hd, fun ρ hρ => ?_⟩
  obtain ⟨r₀, hr₀, hm₀, hd₀⟩ := hr.1 ρ hρ
  refine ⟨r₀, hr₀, hx.mem hm₀, fun α => ?_⟩
  rw [asgOf_congr hfr.l2v, den_ext hx hg.inv.wf.toWF r₀ _ hm₀, ← hd₀ α, All_asgOf_eq]

/-- load a DDDMP file (C16); run ANY guarded history of user calls on the loaded manager
(DDProofs.Reach: declarations, `apply`, `ite`, `let`, quantification, `incref` / `decref`,
collections, accepted or rejected); `collect_garbage()` (C06): it succeeds, the state is good for
the same ledger and exactly the nodes reachable from a held node remain; `dump` to a pickle
(C12) whatever roots are given: if it returns, the file is well formed, stores the roots as
given and evaluates, by name, to the functions of the collected manager -/
theorem All_load_history_gc_dump (f : DddmpFile) (hf : f.WF) :
    ∃ m, loadDddmp f = .ok m ∧ ∀ ops : List UOp, OpsGuarded ops ⟨m, fun _ => 0⟩ →
      ∃ m', collectGarbage none (run ops ⟨m, fun _ => 0⟩).m = (.ok (), m') ∧
        GoodState m' (run ops ⟨m, fun _ => 0⟩).ext ∧
        (∀ u : Nat, (u = 1 ∨ (m'.tbl.node? u).isSome) ↔
          (u = 1 ∨ GcReach (run ops ⟨m, fun _ => 0⟩).m.tbl (GcHeld (run ops ⟨m, fun _ => 0⟩).ext) u)) ∧
        ∀ (roots : Roots) (pf : PickleFile), dumpPickle m' roots = .ok pf →
          PickleWF pf ∧ pf.roots = roots ∧
          ∀ α, ∀ u ∈ roots.values, evalPickle pf u α = denBy m'.tbl u α := by
  obtain ⟨m, h, hh⟩ := C16_then_every_history f hf
  refine ⟨m, h, fun ops hops => ?_⟩
  have hG := hh ops hops
  obtain ⟨m', he, -, hG'⟩ := collectGarbage_good _ _ hG
  obtain ⟨m'', he', -, -, hmem, -⟩ := C06_gc_exact _ _ hG.inv hG.exact
  rw [he] at he'
  cases he'
  refine ⟨m', he, hG', hmem, fun roots pf hd => ?_⟩
  obtain ⟨h1, -, h3, h4⟩ := C12_pickle_dump_spec hG'.inv hG'.order.toDmp hd
  exact ⟨h1, h3, h4⟩

/-- `BDD(levels)` as the line-protocol DRIVER runs it (DD.Driver, result type `DRes`) for a valid
table of levels: (1) every guarded history of the fourth vocabulary (DDProofs.Reach4, result
type `Res`) that starts there reaches a good state; (2) wrapped by `autoref` (C08), dropping
every `Function`, collecting and shutting down passes the shutdown check; (3) `bdd_to_mdd` on it
(C15) returns, and the MDD manager satisfies ITS invariant `MInv` while the autoref side holds
`AutoMInv` -/
theorem All_constructor_chains (levels : List (String × Int)) (hnames : (levels.map (·.1)).Nodup)
    (hchk : newMgrCheck levels = true) :
    (newMgr levels).1 = .ok DRes.unit ∧
    (∀ ops : List UOp4, Ops4Guarded ops ⟨(newMgr levels).2, fun _ => 0⟩ →
      Good3 (run4 ops ⟨(newMgr levels).2, fun _ => 0⟩).m (run4 ops ⟨(newMgr levels).2, fun _ => 0⟩).ext) ∧
    (∃ m1 m2, collectGarbage none (newMgr levels).2 = (.ok (), m1) ∧ shutdown m1 = (.ok (), m2) ∧
      ∀ (k c : Nat), m2.ref[k]? = some c → c = 0) ∧
    (AutoMInv true (fun _ => 0) (newMgr levels).2 ∧
      ∀ dvars, KeysShaped (newMgr levels).2 → DvarsFull (newMgr levels).2.tbl dvars →
        ∃ out mb', bddToMdd dvars none (newMgr levels).2 = (.ok out, mb') ∧ MInv out.mdd ∧ Inv mb') := by
  obtain ⟨h1, hP, -, -⟩ := newMgr_good levels hnames hchk
  have hA := AInv.of_goodParts hP
  refine ⟨h1, fun ops hg => reachable4_from_parts ops _ _ hP hg, ?_, ?_, ?_⟩
  · obtain ⟨m1, m2, e1, -, e2, -, hz⟩ := C08_collect_then_shutdown _ hA TreeMap.isEmpty_emptyc
    exact ⟨m1, m2, e1, e2, hz⟩
  · exact hP.autoMInv
  · intro dvars hks hd
    obtain ⟨out, mb', he, hb, -, -⟩ :=
      C15_bddToMdd_total _ _ hA.minv.reorderInv hks hP.sched dvars hd
    exact ⟨out, mb', he, hb.mdd, hb.bdd⟩

/-- C16 → C05 on the example file of DDProps.C16Chain (`x, y, z`; roots `2` and `-4`):
`add_expr('x /\ ~ z')` in the loaded manager -/
example : ∃ m, loadDddmp dddmpChain = .ok m ∧ ∃ r m', addExpr "x /\\ ~ z" m = (.ok r, m') ∧
    Inv m' ∧ (∀ α, den m'.tbl r (asgOf m'.tbl α) = (α "x" && !α "z")) ∧
    ∀ ρ ∈ [(2 : Int), -4], ∃ r₀ ∈ m.roots, m'.tbl.Mem r₀ ∧
      ∀ α, den m'.tbl r₀ (asgOf m'.tbl α) = evalFile dddmpChain α ρ := by
  obtain ⟨m, h, hh⟩ := All_load_then_addExpr dddmpChain dddmpChain_wf "x /\\ ~ z"
    (.bin .and (.var "x") (.not (.var "z"))) (by decide +kernel)
  have hv : (loadDddmp dddmpChain).toOption.map
      (fun m => (m.tbl.vars.contains "x", m.tbl.vars.contains "z")) = some (true, true) := by
    decide +kernel
  rw [h] at hv
  have hx : m.tbl.vars.contains "x" = true := congrArg Prod.fst (Option.some.inj hv)
  have hz : m.tbl.vars.contains "z" = true := congrArg Prod.snd (Option.some.inj hv)
  obtain ⟨r, m', he, hI, -, hd, hr⟩ := hh ⟨by decide, hx, hz⟩
  exact ⟨m, h, r, m', he, hI, fun α => by rw [hd α]; rfl, hr⟩

/-- C16 → history → C06 → C12 on the same file: declare `w`, a rejected `ite`, the conjunction
of the two loaded roots, then collect and dump -/
example : ∃ m, loadDddmp dddmpChain = .ok m ∧
    ∃ m', collectGarbage none (run [.declare "w" none, .ite 99 1 1,
        .apply "and" 4 (some (-3)) none] ⟨m, fun _ => 0⟩).m = (.ok (), m') ∧ Inv m' ∧
      ∀ (roots : Roots) (pf : PickleFile), dumpPickle m' roots = .ok pf → PickleWF pf := by
  obtain ⟨m, h, hh⟩ := All_load_history_gc_dump dddmpChain dddmpChain_wf
  obtain ⟨m', he, hG, -, hd⟩ := hh [.declare "w" none, .ite 99 1 1, .apply "and" 4 (some (-3)) none]
    ⟨trivial, trivial, trivial, trivial⟩
  exact ⟨m, h, m', he, hG.inv, fun roots pf hp => (hd roots pf hp).1⟩

/-- the constructor chains on `BDD({'a': 1, 'b': 0})` -/
example : (newMgr [("a", 1), ("b", 0)]).1 = .ok DRes.unit ∧
    AutoMInv true (fun _ => 0) (newMgr [("a", 1), ("b", 0)]).2 ∧
    ∃ m1 m2, collectGarbage none (newMgr [("a", 1), ("b", 0)]).2 = (.ok (), m1) ∧
      shutdown m1 = (.ok (), m2) ∧ ∀ (k c : Nat), m2.ref[k]? = some c → c = 0 :=
  let h := All_constructor_chains [("a", 1), ("b", 0)] (by decide) (by decide)
  ⟨h.1, h.2.2.2.1, h.2.2.1⟩

end DD
