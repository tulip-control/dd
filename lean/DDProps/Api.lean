/-
  DDProps.Api — the rest of the public surface of `dd.bdd.BDD`, the comparison of managers and
  `dd._copy` (slice "api", see API_COVERAGE.md), each callable under the property it falls under
  (C02, C03, C11, C14, C18; the `Function` methods are in DDProps.ApiAuto, `MDD.to_expr` in
  DDProps.ApiMdd).
  Every theorem about an iteration over the `_succ` dict holds for EVERY listing `ord` of its keys
  (`SuccOrder`): the insertion order of a Python dict is history the model does not keep.
-/
import DDProofs.ApiPred
import DDProofs.ApiReduction
import DDProofs.ApiXCopyProofs
import DDProps.Histories
import DDProps.C03
import DDProps.C11
open Std

namespace DD

local notation "⟪" ops "⟫" => run ops St.init

/-- C02 / C11 (`BDD.reduction()`): from a manager that satisfies the invariant and whose order is
a bijection (every reachable state; dynamic reordering of `self` enabled OR NOT, inside a
reordering context or not) and whose `roots` are nodes, for every iteration order of `_succ`, the
call returns normally and leaves `self` as it was; the new manager has the same variable order, is
in a good state for an empty ledger (canonical, counts exact, empty computed table, reordering not
enabled), and every reference `u` of the source has a translation `tr u` in it with
`tr (-u) = - tr u`, the same function by level and by name, distinct for distinct references; its
`roots` are the translated roots. -/
theorem C02_reduction (m : Mgr) (hI : Inv m) (hO : OrderOK m.tbl)
    (hroots : ∀ v ∈ m.roots, m.tbl.Mem v) (ord : List Nat) (ho : SuccOrder m.tbl ord) :
    ∃ b tr, reduction ord m = (.ok b, m) ∧ ReductionPost m.tbl m.roots b tr :=
  reduction_spec m hI hO hroots ord ho

/-- after any history -/
theorem C02_reduction_every_history (ops : List UOp) (hg : OpsGuarded ops St.init)
    (hroots : ∀ v ∈ ⟪ops⟫.m.roots, ⟪ops⟫.m.tbl.Mem v) (ord : List Nat)
    (ho : SuccOrder ⟪ops⟫.m.tbl ord) :
    ∃ b tr, reduction ord ⟪ops⟫.m = (.ok b, ⟪ops⟫.m) ∧
      ReductionPost ⟪ops⟫.m.tbl ⟪ops⟫.m.roots b tr :=
  C02_reduction _ (reachable_inv ops hg).inv (reachable_inv ops hg).order hroots ord ho

/-- a root that is not a node: `KeyError`, `self` unchanged (whatever the other roots are: `hothers`
is not used) -/
theorem C02_reduction_bad_root (m : Mgr) (hI : Inv m) (hO : OrderOK m.tbl) (ord : List Nat)
    (ho : SuccOrder m.tbl ord) (v : Int) (hv : v ∈ m.roots) (hnm : ¬ m.tbl.Mem v)
    (hothers : ∀ w ∈ m.roots, w ≠ v → m.tbl.Mem w) :
    reduction ord m = (.error .key, m) :=
  reduction_bad_root m hI hO ord ho v hv hnm

/-- C02 (`update_predecessors()`), any iteration order: only `_pred` changes; afterwards the
triple of every stored node is mapped to that node, other keys keep their entry; and in a manager
that is good except that `_pred` LOST entries the invariant `Inv` holds again afterwards (so
`find_or_add` finds every stored node again and `ite` keeps the diagram reduced). -/
theorem C02_update_predecessors (m : Mgr) (ord : List Nat) (ho : SuccOrder m.tbl ord) :
    (WFU m.tbl → ∃ p, updatePredecessors ord m = (.ok (), { m with pred := p }) ∧
      (∀ u n, m.tbl.node? u = some n → p[n.key]? = some u) ∧
      (∀ k, (∀ u n, m.tbl.node? u = some n → n.key ≠ k) → p[k]? = m.pred[k]?)) ∧
    (InvLostPred m → ∃ p, updatePredecessors ord m = (.ok (), { m with pred := p }) ∧
      Inv { m with pred := p }) :=
  ⟨fun hw => updatePredecessors_spec m hw ord ho, fun h => updatePredecessors_restores m h ord ho⟩

/-- what the comparisons of managers compare: `dd.bdd.BDD.__eq__` is the stub inherited from the
protocol class — its value is `None` for ANY two managers, the same object included, so `==` is
falsy and `!=` true; `dd.autoref.BDD.__eq__` is identity of the wrapped manager. -/
theorem C02_manager_eq (a b : Nat) :
    mgrEq a b = none ∧ mgrNe a b = true ∧ (aMgrEq a b = true ↔ a = b) :=
  ⟨rfl, rfl, by simp [aMgrEq]⟩

/-- C18 (`BDD.levels(skip_terminals)`), any iteration order of `_succ`: every stored node once,
with its own level and edges; the terminal exactly when not skipped; nothing else; levels never
increase along the sequence (the bottom level first). -/
theorem C18_levels (t : Tbl) (hw : WF t) (skip : Bool) (ord : List Nat) (ho : SuccOrder t ord) :
    (∀ u n, t.node? u = some n → (u, n.lvl, some (n.lo, n.hi)) ∈ levelsIter t skip ord) ∧
    ((1, t.nvars, none) ∈ levelsIter t skip ord ↔ skip = false) ∧
    (∀ it ∈ levelsIter t skip ord,
      (it = (1, t.nvars, none) ∧ skip = false) ∨
      ∃ n, t.node? it.1 = some n ∧ it = (it.1, n.lvl, some (n.lo, n.hi))) ∧
    ((levelsIter t skip ord).map (·.1)).Nodup ∧
    (levelsIter t skip ord).Pairwise (fun x y => y.2.1 ≤ x.2.1) :=
  levelsIter_spec t hw skip ord ho

/-- C18 (`iter(bdd)`): exactly the terminal and the stored nodes, each once -/
theorem C18_iter (t : Tbl) (hw : WF t) : SuccOrder t (iterNodes t) := SuccOrder.ascending t hw

/-- C14 (`bdd.vars` / `bdd.var_levels`): the pairs of the view are exactly the entries of `vars`,
which — the order being a bijection — are exactly the entries of `_level_to_var` read backwards;
there is one pair per level `0 .. n-1`. -/
theorem C14_var_levels_view (t : Tbl) (h : OrderOK t) :
    (∀ v i, (v, i) ∈ varLevels t ↔ t.vars[v]? = some i) ∧
    (∀ v i, (v, i) ∈ varLevels t ↔ t.l2v[i]? = some v) ∧
    (varLevels t).length = t.nvars ∧
    (∀ i, i < t.nvars → ∃ v, (v, i) ∈ varLevels t) := by
  have h1 : ∀ v i, (v, i) ∈ varLevels t ↔ t.vars[v]? = some i :=
    fun v i => TreeMap.mem_toList_iff_getElem?_eq_some
  refine ⟨h1, fun v i => (h1 v i).trans (h.inv v i), ?_, fun i hi => ?_⟩
  · show t.vars.toList.length = t.vars.size
    exact TreeMap.length_toList
  · obtain ⟨v, hv⟩ := h.total i hi
    exact ⟨v, (h1 v i).mpr ((h.inv v i).mpr hv)⟩

/-- `bdd.ordering` is refused (`DeprecationWarning`) -/
theorem C14_ordering_refused : orderingView = .error .other := rfl

/-- C03 (`BDD.exist(qvars, u)`, `BDD.forall(qvars, u)`): they ARE `quantify(u, qvars, forall)`;
hence `C03_quantify` is their specification. -/
theorem C03_exist_forall_methods (qvars : List Key) (u : Int) :
    existOp qvars u = quantify u qvars false ∧ forallOp qvars u = quantify u qvars true :=
  ⟨rfl, rfl⟩

/-- C03 (`BDD.exist(qvars, u)`): the instance `forall = False` of `C03_quantify` written out (the
one for `BDD.forall` is its instance `forall = True`) -/
theorem C03_exist_method (m : Mgr) (hI : Inv m) (hoff : m.lastLen = none) (u : Int)
    (hu : m.tbl.Mem u) (qvars : List Key) (lv : List Nat)
    (hlv : mapToLevelE m.tbl qvars = .ok lv) :
    ∃ r m', existOp qvars u m = (.ok r, m') ∧ Inv m' ∧ m'.tbl.Mem r ∧
      ∀ a, den m'.tbl r a = true ↔
        ∃ b : Asg, (∀ j, j ∉ lv → b j = a j) ∧ den m.tbl u b = true := by
  obtain ⟨r, m', h1, h2, _, h4, _, h6⟩ := C03_quantify m hI hoff u hu qvars false lv hlv
  exact ⟨r, m', h1, h2, h4, h6⟩

/-- C11 (`BDD.copy(u, other)`): it IS `copy_bdd(u, self, other)`; `C11_copyBdd_denN` is its
specification. -/
theorem C11_copy_method (s : Tbl) (hS : WFU s) (hVs : VarsBij s) (m : Mgr) (hI : Inv m)
    (hoff : m.lastLen = none) (hVm : VarsBij m.tbl) (u : Int) (hu : s.Mem u)
    (hsup : ∀ i v, InSupp s u i → s.l2v[i]? = some v → m.tbl.vars.contains v = true) :
    ∃ r m', copyMethod s u m = (.ok r, m') ∧ denName m'.tbl r = denName s u :=
  C11_copyBdd_denN s hS hVs m hI hoff hVm u hu hsup

/-- C11 (`dd._copy.copy_bdd(u, target)` / each element of `copy_bdds_from`: the copy through the
public `Function` interface): `s` is the node table of the manager of `u`, `m` the target with
reordering not enabled, every variable of the support of `u` declared in it.  The call returns
normally; the copy denotes the same function of the variable NAMES whatever the two orders;
the target keeps its invariant and only gains nodes (what it held keeps its meaning); copies of
regular references are regular. -/
theorem C11_copy_bdd_public (s : Tbl) (hS : WFU s) (hVs : VarsBij s) (m : Mgr) (hI : Inv m)
    (hoff : m.lastLen = none) (hVm : VarsBij m.tbl) (u : Int) (hu : s.Mem u)
    (hsup : ∀ i v, InSupp s u i → s.l2v[i]? = some v → m.tbl.vars.contains v = true) :
    ∃ r m', xcopyBody s u m = (.ok r, m') ∧ Inv m' ∧ Ext m.tbl m'.tbl ∧ m'.tbl.Mem r ∧
      (0 < r ↔ 0 < u) ∧ denName m'.tbl r = denName s u := by
  obtain ⟨r, m', h1, h2, h3, h4, _, h6, h7⟩ := xcopyBody_spec s hS.toWF hVs m hI hoff hVm u hu hsup
  exact ⟨r, m', h1, h2, h3, h4, h6, h7⟩

/-- C11 (`dd._copy.copy_bdds_from(roots, target)`): one memo serves all roots; every element of
the result denotes, by variable name, the function of the corresponding root; the target keeps
its invariant and only gains nodes. -/
theorem C11_copy_bdds_from (s : Tbl) (hS : WFU s) (hVs : VarsBij s) (m : Mgr) (hI : Inv m)
    (hoff : m.lastLen = none) (hVm : VarsBij m.tbl) (us : List Int) (hu : ∀ u ∈ us, s.Mem u)
    (hsup : ∀ u ∈ us, ∀ i v, InSupp s u i → s.l2v[i]? = some v → m.tbl.vars.contains v = true) :
    ∃ rs m', xcopyList s us {} m = (.ok rs, m') ∧ Inv m' ∧ Ext m.tbl m'.tbl ∧
      rs.length = us.length ∧
      ∀ p ∈ us.zip rs, m'.tbl.Mem p.2 ∧ denName m'.tbl p.2 = denName s p.1 := by
  obtain ⟨rs, m', h1, h2, h3, _, h5, h6⟩ := xcopyList_denName s hS.toWF hVs m hI hoff hVm us hu hsup
  exact ⟨rs, m', h1, h2, h3, h5, fun p hp => ⟨(h6 p hp).1, (h6 p hp).2.2⟩⟩

/-- the state of the example history before the release: nodes 2, 3, 4 -/
abbrev apiExM : Mgr := ⟪exHistory.take 12⟫.m

theorem apiExM_good : GoodState apiExM ⟪exHistory.take 12⟫.ext :=
  reachable_inv (exHistory.take 12) (opsGuarded_take 12 exHistory_guarded)

/-- a listing of its `_succ` keys that is NOT ascending -/
theorem apiExM_order : SuccOrder apiExM.tbl [1, 4, 2, 3] :=
  (succOrderOk_iff _ _).mp (by decide +kernel)

theorem apiExM_roots : ∀ v ∈ apiExM.roots, apiExM.tbl.Mem v := by
  have : apiExM.roots = [] := by decide +kernel
  intro v hv; rw [this] at hv; cases hv

example := C02_reduction apiExM apiExM_good.inv apiExM_good.order apiExM_roots [1, 4, 2, 3] apiExM_order
/-- … and with dynamic reordering ENABLED in the source -/
-- (stated for a variable manager and instantiated afterwards: comparing `{ apiExM with … }.tbl`
-- with `apiExM.tbl` directly makes the elaborator unfold `apiExM`, that is, run the history)
example := (fun (m : Mgr) (hI : Inv m) (hO : OrderOK m.tbl) (hr : ∀ v ∈ m.roots, m.tbl.Mem v)
    (ord : List Nat) (ho : SuccOrder m.tbl ord) =>
  C02_reduction { m with lastLen := some 1 }
    (hI.setLastLen _) hO hr ord ho)
  apiExM apiExM_good.inv apiExM_good.order apiExM_roots [1, 4, 2, 3] apiExM_order
/-- the model really builds the three nodes, in the order the listing dictates -/
example : ((reduction [1, 4, 2, 3] apiExM).1.toOption.map fun b => b.tbl.succ.toList.map
    fun (u, n) => (u, n.lvl, n.lo, n.hi)) = some [(2, 1, -1, 1), (3, 0, -1, 2), (4, 0, -1, 1)] := by
  decide +kernel
example := (fun (m : Mgr) (ord : List Nat) (ho : SuccOrder m.tbl ord) =>
  C02_update_predecessors (predClear m).2 ord ho) apiExM [1, 4, 2, 3] apiExM_order
example : InvLostPred (predClear apiExM).2 := predClear_lost apiExM apiExM_good.inv
example : ∃ p, updatePredecessors [1, 4, 2, 3] (predClear apiExM).2 =
    (.ok (), { (predClear apiExM).2 with pred := p }) ∧ Inv { (predClear apiExM).2 with pred := p } :=
  (fun (m : Mgr) (h : Inv m) (ord : List Nat) (ho : SuccOrder m.tbl ord) =>
    (C02_update_predecessors (predClear m).2 ord ho).2 (predClear_lost m h))
    apiExM apiExM_good.inv _ apiExM_order
example := C18_levels apiExM.tbl apiExM_good.inv.wf.toWF true [1, 4, 2, 3] apiExM_order
example : (levelsIter apiExM.tbl false [1, 4, 2, 3]).map (·.1) = [1, 3, 4, 2] := by decide +kernel
example := C18_iter apiExM.tbl apiExM_good.inv.wf.toWF
/-- the hypotheses of `C11_copy_bdd_public` (those of `C11_copyBdd_denN`) are satisfiable with a
non-terminal node: copy within the witness manager's own variables -/
example : ∃ (s : Tbl) (m : Mgr) (u : Int) (r : Int) (m' : Mgr), u.natAbs ≠ 1 ∧
    xcopyBody s u m = (.ok r, m') ∧ denName m'.tbl r = denName s u := by
  obtain ⟨m, u, hI, hoff, hV, hu, hx, hn, hd, _⟩ := witness
  have h1 : u.natAbs ≠ 1 := natAbs_ne_one_of_den_proj hd
  obtain ⟨r, m', he, _, _, _, _, hden⟩ := C11_copy_bdd_public m.tbl hI.wf hV m hI hoff hV u hu
    (fun i v _ hv => by
      rw [TreeMap.contains_eq_isSome_getElem?, hV.l2v i v hv]; rfl)
  exact ⟨m.tbl, m, u, r, m', h1, he, hden⟩

example : ∃ (s : Tbl) (m : Mgr) (u : Int) (rs : List Int) (m' : Mgr), u.natAbs ≠ 1 ∧
    xcopyList s [u, -u] {} m = (.ok rs, m') ∧ rs.length = 2 := by
  obtain ⟨m, u, hI, hoff, hV, hu, hx, hn, hd, _⟩ := witness
  have h1 : u.natAbs ≠ 1 := natAbs_ne_one_of_den_proj hd
  obtain ⟨rs, m', he, _, _, hlen, _⟩ := C11_copy_bdds_from m.tbl hI.wf hV m hI hoff hV [u, -u]
    (List.forall_mem_cons.mpr ⟨hu, List.forall_mem_singleton.mpr (mem_neg hu)⟩)
    (fun x _ i v _ hv => by
      rw [TreeMap.contains_eq_isSome_getElem?, hV.l2v i v hv]; rfl)
  exact ⟨m.tbl, m, u, rs, m', h1, he, hlen⟩
example := C14_var_levels_view apiExM.tbl apiExM_good.order
example : varLevels apiExM.tbl = [("a", 0), ("b", 1)] := by decide +kernel

end DD
