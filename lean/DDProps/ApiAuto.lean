/-
  DDProps.ApiAuto — slice "api", the autoref part: the `Function` methods inherited from the mixin
  class `dd._abc.Operator` (`count`, `pick`, `exist`, `forall`, `let`, `__hash__`, `__str__`) and
  `autoref.BDD.add_expr`, as corollaries of the C08 / C10 theorems; `BDD.pick` (inherited from
  `dd._abc.BDD`).
-/
import DDProofs.ApiAutoProofs
import DDProofs.XCopyAuto
import DDProps.C08
import DDProps.C10
import DDProofs.AutoValues2
open Std

namespace DD

/-- C08: `f.exist(*vars)`, `f.forall(*vars)`, `f.let(**defs)` and `bdd.add_expr(text)`, reordering
not enabled, ARBITRARY arguments: the invariant with the count equation is kept, at most the
handle of the result is created, every live `Function` keeps its node and its meaning — whether
the method returns or raises. -/
theorem C08_function_mixins (h : Nat) :
    (∀ hs vs, AKeeps true h (fExist hs vs h)) ∧ (∀ hs vs, AKeeps true h (fForall hs vs h)) ∧
    (∀ d hs, AKeeps true h (fLet d hs h)) ∧ (∀ e, AKeeps true h (aAddExpr e h)) :=
  -- the mixins are `let` and `quantify` of the manager: the fifth and sixth row of `C08_ops_off`
  have t := (C08_ops_off h).2.2.2.2
  ⟨fun hs _ => t.2.1 hs _ false, fun hs _ => t.2.1 hs _ true, t.1,
   fun e => Auto.wrapResult_keeps session (coreKeeps true (addExpr_decorated e)) h⟩

/-- C08: the read-only methods of a live `Function` on node `u` (`count`, `pick`, `hash`, `str`)
return the value of the core function at `u` and change NOTHING (no handle, no count). -/
theorem C08_function_readonly (off : Bool) (a : AMgr) (hi : AInv off a) (hs : Nat) (u : Int)
    (hh : a.handles[hs]? = some u) :
    (∀ n, fCount hs n a = (count a.m.tbl u n, a)) ∧
    (∀ care, fPick hs care a = ((pickIter a.m.tbl u care).map List.head?, a)) ∧
    fHash hs a = (.ok (pyHash u), a) ∧ fStr hs a = (.ok s!"@{u}", a) :=
  ⟨fun n => fCount_live a hi hs u n hh, fun care => fPick_live a hi hs u care hh,
   fHash_live a hs u hh, fStr_live a hs u hh⟩

/-- C10 through `Function`: `f.count(n)` for a live `f` is the number of satisfying assignments
over the support times `2^(n − |support|)`, refused for smaller `n`; `f.count()` the number over
the support. -/
theorem C10_function_count (off : Bool) (a : AMgr) (hi : AInv off a) (hs : Nat) (u : Int)
    (hh : a.handles[hs]? = some u) :
    ∃ ls, supportLevels a.m.tbl u = .ok ls ∧ (∀ i, i ∈ ls ↔ dependsOn a.m.tbl u i) ∧
      (∀ (n : Nat) (a0 : Asg), ls.length ≤ n →
        fCount hs (some (n : Int)) a =
          (.ok (((allAsg ls a0).filter (den a.m.tbl u)).length * 2 ^ (n - ls.length)), a)) ∧
      (∀ a0 : Asg, fCount hs none a = (.ok ((allAsg ls a0).filter (den a.m.tbl u)).length, a)) ∧
      (∀ n : Int, n < ls.length → fCount hs (some n) a = (.error .value, a)) := by
  have hm := hi.hmem hs u hh
  obtain ⟨ls, e, _, s, h1, h2, h3⟩ := count_spec hi.inv.wf u hm
  refine ⟨ls, e, s, fun n a0 hn => ?_, fun a0 => ?_, fun n hn => ?_⟩
  · rw [fCount_live a hi hs u _ hh, h1 n a0 hn]
  · rw [fCount_live a hi hs u _ hh, h2 a0]
  · rw [fCount_live a hi hs u _ hh, h3 n hn]

/-- C10 through `Function`: `f.pick(care)` is `None` exactly for the constant `false`, otherwise
one of the assignments `pick_iter` yields. -/
theorem C10_function_pick (off : Bool) (a : AMgr) (hi : AInv off a) (hs : Nat) (u : Int)
    (hh : a.handles[hs]? = some u) (care : Option (List String)) :
    ∃ L, pickIter a.m.tbl u care = .ok L ∧ fPick hs care a = (.ok L.head?, a) ∧
      (L.head? = none ↔ u = -1) ∧ (∀ m, L.head? = some m → m ∈ L) := by
  have hm := hi.hmem hs u hh
  obtain ⟨L, hL, h1, h2⟩ := C10_pick_spec a.m.tbl hi.inv.wf hi.order.toVarsOK u hm care
  exact ⟨L, hL, by rw [fPick_live a hi hs u care hh, hL]; rfl, h1, h2⟩

/-- C10 (`BDD.pick(u, care_vars)`, inherited from `dd._abc.BDD`): the first assignment `pick_iter`
yields — `None` exactly for the reference `-1`, otherwise one of the assignments of
`C10_pickIter_spec`. -/
theorem C10_pick_method (t : Tbl) (hw : WFU t) (hv : VarsOK t) (u : Int) (hm : t.Mem u)
    (care : Option (List String)) :
    ∃ L, pickIter t u care = .ok L ∧ pickOp t u care = .ok L.head? ∧
      (L.head? = none ↔ u = -1) ∧ (∀ m, L.head? = some m → m ∈ L) := by
  obtain ⟨L, hL, h1, h2⟩ := C10_pick_spec t hw hv u hm care
  exact ⟨L, hL, by simp [pickOp, hL], h1, h2⟩

/-- C08 / C11 (`dd._copy.copy_bdd(u, target)` between two `dd.autoref` managers — the model
`DD.aXCopyRun` runs the recursion as the code does, every intermediate result a `Function`, in the
target and in the source): the target in ANY mode (dynamic reordering enabled or not; enabled, it
may fire inside `target.var` / `target.ite` in the middle of the recursion), ANY arguments, whether
the call returns or raises: the target keeps its invariant with the count equation, no handle
other than `h` differs from before the call — every temporary `Function` the recursion created is
gone — and every `Function` alive in the target keeps its node and its meaning.  (That `h` sits on
the returned node, and the source: `C08_xcopy_total`, DDProps/C08XCopy.lean; the value:
`C08_xcopy_value`.) -/
theorem C08_copy_bdd_public {off : Bool} (a src : AMgr) {offS : Bool} (hsrc : AInv offS src)
    (hu h : Nat) : AKeepsAt off a h (aXCopyTo src hu h) :=
  aXCopyTo_keepsAll a src hsrc hu h

/-- a live `Function` (the constant `true` as handle 0) -/
theorem apiExA : AInv true (aConst true 0 {}).2 ∧ (aConst true 0 {}).2.handles[(0 : Nat)]? = some 1 :=
  ⟨AKeeps.inv_end (Auto.aConst_keeps session true 0) AInv.empty (by decide), by decide⟩

example := C08_function_readonly true _ apiExA.1 0 1 apiExA.2
example := C10_function_count true _ apiExA.1 0 1 apiExA.2
example := C10_function_pick true _ apiExA.1 0 1 apiExA.2 none

example := C10_pick_method exTbl exTbl_wfu exTbl_varsOK 3 exTbl_mem3 none

/-- the same on a state with three variables, stored nodes and three handles (`nvA4` of
`DDProps/C08.lean`: `fa`, `fb`, `fx = fa xor fb` on the complemented node −4) -/
example := C08_function_readonly true nvA4 nvA4_inv 2 (-4) nvA4_h2
example := C10_function_count true nvA4 nvA4_inv 2 (-4) nvA4_h2
example := C10_function_pick true nvA4 nvA4_inv 2 (-4) nvA4_h2 none
example := (C08_function_mixins 3).1 2 ["a"] nvA4 nvA4_inv nvA4_f3 _ _ (Prod.eta _).symm
example : (fHash 2 nvA4).1 = .ok (-4) ∧ (fStr 2 nvA4).1 = .ok "@-4" := by decide +kernel


end DD
