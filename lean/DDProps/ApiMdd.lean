/-
  DDProps.ApiMdd — slice "api", the MDD part: `dd.mdd.MDD.to_expr`.
-/
import DDProofs.ApiMddProofs
import DDProofs.MddFoa
open Std

namespace DD

/-- C15 (`MDD.to_expr(u)`): for a well-formed MDD table whose levels all have a variable and any
reference `u` of it, the call returns normally and the conditional chain it prints, evaluated
under ANY assignment of integers to the variable names, has the value of `u` under the
corresponding assignment of the levels. -/
theorem C15_mdd_to_expr (t : MTbl) (hw : MWF t) (hN : t.Named) (u : Int) (hm : t.Mem u) :
    ∃ e, mToExpr t u = .ok e ∧ ∀ σ, e.eval σ = denM t u (t.liftN σ) :=
  mToExprF_spec t hw hN (t.nvars + 2) u hm (by omega)

/-- an MDD table: one variable `x` with three values, node 2 = (x: 1, -1, 1) -/
def apiExMdd : MTbl :=
  { succ := ({} : TreeMap Nat MNd).insert 2 ⟨0, [1, -1, 1]⟩,
    vars := [{ name := "x", level := 0, len := 3 }] }

/-- it is what one `find_or_add` makes of the fresh `MDD` declaring `x` -/
theorem apiExMdd_made : ∃ m', mFindOrAdd 0 [1, -1, 1] (MddMgr.new (some apiExMdd.vars)) = (.ok 2, m') ∧
    m'.tbl = apiExMdd := ⟨_, rfl, rfl⟩

theorem apiExMdd_wf : MWF apiExMdd := by
  obtain ⟨m', e, ht⟩ := apiExMdd_made
  exact ht ▸ (mFindOrAdd_spec _ (MInv.init _) 0 [1, -1, 1] (by decide) 2 m' e).inv.wf.toMWF

theorem apiExMdd_named : apiExMdd.Named := by
  intro i hi
  have : i = 0 := by
    have : apiExMdd.nvars = 1 := rfl
    omega
  subst this
  decide

example := C15_mdd_to_expr apiExMdd apiExMdd_wf apiExMdd_named (-2) (Or.inr (by decide))
example : (mToExpr apiExMdd (-2)).toOption.map MExpr.show = some "![x:1?0;[x:0.2?1;#]]" := by decide

end DD
