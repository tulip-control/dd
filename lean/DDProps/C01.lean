/-
  DDProps.C01 — connectives and ITE compute the stated truth function.
  "Whatever the manager went through before" = any manager satisfying `Inv`
  (warm computed table included: `Inv.cache` says every remembered entry is sound).
-/
import DDProofs.ApplyProofs
import DDProps.C02
namespace DD

/-- C01 (ITE): on any manager satisfying the invariant, with whatever computed table,
`_ite(g, u, v)` either returns a reference denoting `if g then u else v` — leaving the
invariant intact and every existing node untouched — or is aborted by a reordering
request (possible only inside an armed reordering context) having only added nodes. -/
theorem C01_ite (m : Mgr) (hI : Inv m) (g u v : Int)
    (hg : m.tbl.Mem g) (hu : m.tbl.Mem u) (hv : m.tbl.Mem v) :
    IteOutcome m g u v (iteRaw g u v m) :=
  iteF_spec (m.nvars + 2) m g u v hI hg hu hv (by omega)

/-- C01 (ITE, reordering not armed): the call cannot fail -/
theorem C01_ite_total (m : Mgr) (hI : Inv m) (g u v : Int)
    (hg : m.tbl.Mem g) (hu : m.tbl.Mem u) (hv : m.tbl.Mem v)
    (hoff : m.ctx = false ∨ m.lastLen = none) :
    ∃ r m', iteRaw g u v m = (.ok r, m') ∧ ItePost m g u v r m' :=
  (C01_ite m hI g u v hg hu hv).ok hoff

/-- C01 (negation): `-u` denotes the complement -/
theorem C01_neg (m : Mgr) (hI : Inv m) (u : Int) (hu : m.tbl.Mem u) :
    m.tbl.Mem (-u) ∧ ∀ a, den m.tbl (-u) a = !den m.tbl u a :=
  ⟨mem_neg hu, fun a => den_neg m.tbl hI.wf.toWF u a hu⟩

/-- C01 (unique table): `find_or_add(i, v, w)` past its `_request_reordering` (`findOrAddCore`; the
whole call when no request can fire, `findOrAdd_eq_core`) denotes `if x_i then w else v` -/
theorem C01_find_or_add (m : Mgr) (hI : Inv m) (i : Nat) (v w : Int)
    (hi : i < m.nvars) (hv : m.tbl.Mem v) (hw : m.tbl.Mem w)
    (hlv : i < m.tbl.levelOf v) (hlw : i < m.tbl.levelOf w) :
    ∃ r m', findOrAddCore i v w m = (.ok r, m') ∧ FoaPost m i v w r m' :=
  findOrAddCore_spec m hI i v w hi hv hw hlv hlw

/-- C01 (public `ite`, reordering not enabled): total; result = if-then-else; invariant kept;
existing nodes untouched -/
theorem C01_public_ite (m : Mgr) (hI : Inv m) (hoff : m.lastLen = none) (g u v : Int)
    (hg : m.tbl.Mem g) (hu : m.tbl.Mem u) (hv : m.tbl.Mem v) :
    ∃ r m', ite g u v m = (.ok r, m') ∧ ItePost m g u v r m' :=
  ite_spec_off' m hI hoff g u v hg hu hv

/-- C01 (`apply`, binary connectives): for EVERY alias of the vocabulary that the current source
accepts and that documents a propositional binary connective (or / and / xor / implies / equiv /
diff in all their spellings), the result's value under every assignment is that connective of the
operands' values.  The table is regenerated from `dd/bdd.py` on every run; `applyTable_sound` and
`vocab_complete` are re-decided on it. -/
theorem C01_apply_binary (m : Mgr) (hI : Inv m) (hoff : m.lastLen = none)
    (op : String) (c : Conn) (hc : docConn op = some c) (h2 : c.arity = 2)
    (hq1 : c ≠ .forall_) (hq2 : c ≠ .exists_) (hall : Gen.allOps.contains op = true)
    (u v : Int) (hu : m.tbl.Mem u) (hv : m.tbl.Mem v) :
    ∃ r m', apply op u (some v) none m = (.ok r, m') ∧ Inv m' ∧ Ext m.tbl m'.tbl ∧
      m'.tbl.Mem r ∧ Frame m m' ∧
      ∀ a, den m'.tbl r a = c.eval (den m.tbl u a) (den m.tbl v a) false :=
  apply_binary_spec m hI hoff op c hc h2 hq1 hq2 hall u v hu hv

/-- C01 (`apply`, negation in all spellings) -/
theorem C01_apply_not (m : Mgr) (hI : Inv m) (op : String) (hc : docConn op = some .not)
    (hall : Gen.allOps.contains op = true) (u : Int) (hu : m.tbl.Mem u) :
    apply op u none none m = (.ok (-u), m) ∧ m.tbl.Mem (-u) ∧
      ∀ a, den m.tbl (-u) a = !den m.tbl u a :=
  apply_not_spec m hI op hc hall u hu

/-- C01 (`apply('ite', u, v, w)`) -/
theorem C01_apply_ite (m : Mgr) (hI : Inv m) (hoff : m.lastLen = none)
    (op : String) (hc : docConn op = some .ite) (hall : Gen.allOps.contains op = true)
    (u v w : Int) (hu : m.tbl.Mem u) (hv : m.tbl.Mem v) (hw : m.tbl.Mem w) :
    ∃ r m', apply op u (some v) (some w) m = (.ok r, m') ∧ Inv m' ∧ Ext m.tbl m'.tbl ∧
      m'.tbl.Mem r ∧ Frame m m' ∧
      ∀ a, den m'.tbl r a = if den m.tbl u a then den m.tbl v a else den m.tbl w a :=
  apply_ite_spec m hI hoff op hc hall u v w hu hv hw

/-- the hypotheses on the alias, e.g. for the TLA+ conjunction -/
example : docConn "/\\" = some .and ∧ Conn.and.arity = 2 ∧ Gen.allOps.contains "/\\" = true := by decide

/-- non-vacuity on the empty manager (a used one: `usedM` below) -/
example : ∃ m : Mgr, Inv m ∧ m.tbl.Mem 1 ∧ m.tbl.Mem (-1) := ⟨{}, Inv.init, Or.inl rfl, Or.inl rfl⟩

/-- C01 (`Function.__le__`): `u <= v` is computed as `(v | ~u) == true`; it holds exactly when
`u` implies `v` under every assignment (the comparison with `true` decides validity by C02). -/
theorem C01_le_spec (m : Mgr) (hI : Inv m) (hoff : m.lastLen = none) (u v : Int)
    (hu : m.tbl.Mem u) (hv : m.tbl.Mem v) :
    ∃ r m', apply "or" v (some (-u)) none m = (.ok r, m') ∧ Inv m' ∧
      (r = 1 ↔ ∀ a, den m.tbl u a = true → den m.tbl v a = true) := by
  obtain ⟨r, m', he, hI', hext, hmem, _, hden⟩ :=
    apply_binary_spec m hI hoff "or" .or (by decide) (by decide) (by decide) (by decide) (by decide)
      v (-u) hv (mem_neg hu)
  refine ⟨r, m', he, hI', ?_⟩
  rw [C02_eq_true_iff_valid m' hI' r hmem]
  refine forall_congr' fun a => ?_
  rw [hden a, den_neg m.tbl hI.wf.toWF u a hu]
  cases den m.tbl u a <;> simp [Conn.eval]

/-- C01 (`Function.__eq__` / `__ne__`): integer equality of references decides equality of the
functions (C02) -/
theorem C01_eq_spec (m : Mgr) (hI : Inv m) (u v : Int) (hu : m.tbl.Mem u) (hv : m.tbl.Mem v) :
    (u = v ↔ ∀ a, den m.tbl u a = den m.tbl v a) :=
  (canonical m.tbl hI.wf u v hu hv).symm

end DD

/-! ### non-vacuity on a USED manager

`usedM` (DDProofs.UsedExample): four variables declared in the order c, a, d, b (levels 0..3),
thirteen nodes, reached by a guarded history, node 4 = `a ∧ b` held once, node 13 =
`ite(c ≡ d, a ∧ b, ¬b)` held twice, node 14 = `a ∨ d` garbage, a warm computed table.  Every
hypothesis comes from the reachability theorem (`usedM_good`); the operands are complemented,
have different supports (all four variables / {a, d} / {a, b}), and every conclusion that can be
evaluated is evaluated by the kernel on the sixteen assignments (`tt4`: rows in the order
c a d b). -/
namespace DD

/-- `apply('->', ¬f, a ∨ d)` (TLA+ and Promela spellings alike): the theorem instantiated -/
example : ∃ r m', apply "=>" (-13) (some 14) none usedM = (.ok r, m') ∧ Inv m' ∧
    Ext usedM.tbl m'.tbl ∧ m'.tbl.Mem r ∧ Frame usedM m' ∧
    ∀ a, den m'.tbl r a = (!den usedM.tbl (-13) a || den usedM.tbl 14 a) :=
  C01_apply_binary usedM usedM_good.inv usedM_good.off "=>" .implies (by decide) (by decide)
    (by decide) (by decide) (by decide) (-13) 14 (usedM_mem (by decide)) (usedM_mem (by decide))

/-- … and evaluated: three NEW nodes are built (15, 16, 17), the answer is 17 = `f ∨ a ∨ d` and its table is
row by row the implication of the operands' tables; same for `xor` of two complemented operands
of different supports (answer −15 in that manager: the complement edge is on the result) and for `\/` whose
answer is an EXISTING node (`¬(a ∧ b) ∨ (a ∨ d)` = TRUE) -/
example :
    (apply "=>" (-13) (some 14) none usedM).1 = .ok 17 ∧
    (apply "=>" (-13) (some 14) none usedM).2.tbl.succ.keys.length = 16 ∧
    tt4 (apply "=>" (-13) (some 14) none usedM).2.tbl 17 =
      List.zipWith (fun x y => !x || y) (tt4 usedM.tbl (-13)) (tt4 usedM.tbl 14) ∧
    tt4 (apply "=>" (-13) (some 14) none usedM).2.tbl 17 =
      [false, false, true, true, true, true, true, true,
       true, false, true, true, true, true, true, true] ∧
    (∃ r, (apply "^" (-4) (some (-14)) none usedM).1 = .ok r ∧
      tt4 (apply "^" (-4) (some (-14)) none usedM).2.tbl r =
        List.zipWith (fun x y => x != y) (tt4 usedM.tbl (-4)) (tt4 usedM.tbl (-14))) ∧
    (apply "\\/" (-4) (some 14) none usedM).1 = .ok 1 := by
  obtain ⟨h1, h2, h3, h4, h5, h6⟩ :
      (apply "=>" (-13) (some 14) none usedM).1 = .ok 17 ∧
      (apply "=>" (-13) (some 14) none usedM).2.tbl.succ.keys.length = 16 ∧
      tt4 (apply "=>" (-13) (some 14) none usedM).2.tbl 17 =
        List.zipWith (fun x y => !x || y) (tt4 usedM.tbl (-13)) (tt4 usedM.tbl 14) ∧
      tt4 (apply "=>" (-13) (some 14) none usedM).2.tbl 17 =
        [false, false, true, true, true, true, true, true,
         true, false, true, true, true, true, true, true] ∧
      ((apply "^" (-4) (some (-14)) none usedM).1 = .ok (-15) ∧
        tt4 (apply "^" (-4) (some (-14)) none usedM).2.tbl (-15) =
          List.zipWith (fun x y => x != y) (tt4 usedM.tbl (-4)) (tt4 usedM.tbl (-14))) ∧
      (apply "\\/" (-4) (some 14) none usedM).1 = .ok 1 := by decide +kernel
  exact ⟨h1, h2, h3, h4, ⟨-15, h5⟩, h6⟩

/-- `_ite(¬(c ≡ d) , ¬f, a ∧ b)` with a complemented condition and a complemented branch, every
outcome (`C01_ite`), the total form and the public `ite` -/
example : IteOutcome usedM (-7) (-13) 4 (iteRaw (-7) (-13) 4 usedM) ∧
    (∃ r m', iteRaw (-7) (-13) 4 usedM = (.ok r, m') ∧ ItePost usedM (-7) (-13) 4 r m') ∧
    (∃ r m', ite (-7) (-13) 4 usedM = (.ok r, m') ∧ ItePost usedM (-7) (-13) 4 r m') :=
  ⟨C01_ite usedM usedM_good.inv _ _ _ (usedM_mem (by decide)) (usedM_mem (by decide))
      (usedM_mem (by decide)),
   C01_ite_total usedM usedM_good.inv _ _ _ (usedM_mem (by decide)) (usedM_mem (by decide))
      (usedM_mem (by decide)) (Or.inl usedM_good.ctx),
   C01_public_ite usedM usedM_good.inv usedM_good.off _ _ _ (usedM_mem (by decide))
      (usedM_mem (by decide)) (usedM_mem (by decide))⟩

/-- evaluated: the public call and the recursion agree, the table is the if-then-else of the
three tables -/
example : ∃ r, (ite (-7) (-13) 4 usedM).1 = .ok r ∧ (iteRaw (-7) (-13) 4 usedM).1 = .ok r ∧
    tt4 (ite (-7) (-13) 4 usedM).2.tbl r =
      (List.zip (tt4 usedM.tbl (-7)) (List.zip (tt4 usedM.tbl (-13)) (tt4 usedM.tbl 4))).map
        (fun x => if x.1 then x.2.1 else x.2.2) :=
  ⟨19, by decide +kernel⟩

/-- `apply('ite', ...)`, negation in a non-default spelling, `find_or_add` above two existing
nodes (level 0 = `c`; `¬(a ∧ b)` and `a ∨ d` start at level 1), `<=` and `==` between held
functions -/
example :
    (∃ r m', apply "ite" (-7) (some (-13)) (some 4) usedM = (.ok r, m') ∧ Inv m' ∧
      Ext usedM.tbl m'.tbl ∧ m'.tbl.Mem r ∧ Frame usedM m' ∧
      ∀ a, den m'.tbl r a =
        if den usedM.tbl (-7) a then den usedM.tbl (-13) a else den usedM.tbl 4 a) ∧
    (apply "!" (-13) none none usedM = (.ok 13, usedM)) ∧
    (∃ r m', findOrAddCore 0 (-4) 14 usedM = (.ok r, m') ∧ FoaPost usedM 0 (-4) 14 r m') ∧
    (∃ r m', apply "or" 14 (some (-4)) none usedM = (.ok r, m') ∧ Inv m' ∧
      (r = 1 ↔ ∀ a, den usedM.tbl 4 a = true → den usedM.tbl 14 a = true)) ∧
    ((13 : Int) = -13 ↔ ∀ a, den usedM.tbl 13 a = den usedM.tbl (-13) a) :=
  have above : 0 < usedM.nvars ∧ 0 < usedM.tbl.levelOf (-4) ∧ 0 < usedM.tbl.levelOf 14 := by
    decide +kernel
  ⟨C01_apply_ite usedM usedM_good.inv usedM_good.off "ite" (by decide) (by decide) _ _ _
      (usedM_mem (by decide)) (usedM_mem (by decide)) (usedM_mem (by decide)),
   (C01_apply_not usedM usedM_good.inv "!" (by decide) (by decide) (-13) (usedM_mem (by decide))).1,
   C01_find_or_add usedM usedM_good.inv 0 (-4) 14 above.1 (usedM_mem (by decide))
      (usedM_mem (by decide)) above.2.1 above.2.2,
   C01_le_spec usedM usedM_good.inv usedM_good.off 4 14 (usedM_mem (by decide))
      (usedM_mem (by decide)),
   C01_eq_spec usedM usedM_good.inv 13 (-13) (usedM_mem (by decide)) (usedM_mem (by decide))⟩

/-- evaluated: `a ∧ b ≤ a ∨ d` holds (answer 1), `f ≤ a ∧ b` does not; `find_or_add` builds the
node 15 = `ite(c, a ∨ d, ¬(a ∧ b))` -/
example : (apply "or" 14 (some (-4)) none usedM).1 = .ok 1 ∧
    (apply "or" 4 (some (-13)) none usedM).1 ≠ .ok 1 ∧
    (findOrAddCore 0 (-4) 14 usedM).1 = .ok 15 ∧
    tt4 (findOrAddCore 0 (-4) 14 usedM).2.tbl 15 =
      (tt4 usedM.tbl (-4)).take 8 ++ (tt4 usedM.tbl 14).drop 8 := by
  decide +kernel

end DD
