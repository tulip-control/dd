/-
  DDProps.C02Constructor — the constructor `BDD(levels)` starts a history in a good state (C02;
  also the base case of the every-history theorems for managers not created by `BDD()`).
  Model: `mkBDD` (DD.Dump; levels as naturals — a negative level fails the check already):
  `_assert_valid_ordering(levels)`, then `add_var(var, level)` for each item in `dict` order —
  for ANY order of the items, so with transient gaps in the level map (`{'a': 1, 'b': 0}`
  declares `a` at level 1 first).
-/
import DDProofs.Constructor
open Std

namespace DD

/-- C02 (`BDD(levels)`): for a table with distinct names (a `dict`) whose levels are exactly
`0..n-1` in any order, the constructor returns a manager that (1) is a `GoodState` for the empty
ledger — `Inv` (reduced, ordered, canonical: there are no nodes), `OrderOK` (the two views are
inverse bijections onto `0..n-1`), exact counts, reordering off — so `reachable_inv` and every
per-operation theorem apply to histories that start here; (2) declares exactly the given pairs,
in both views; (3) has no node and no root.  A table that fails the check is refused with
`AssertionError`. -/
theorem C02_constructor (levels : List (String × Nat)) :
    ((levels.map (·.1)).Nodup → validOrdering levels = true →
      ∃ m, mkBDD levels = .ok m ∧ GoodState m (fun _ => 0) ∧
        (∀ (v : String) (l : Nat), m.tbl.vars[v]? = some l ↔ (v, l) ∈ levels) ∧
        (∀ (l : Nat) (v : String), m.tbl.l2v[l]? = some v ↔ (v, l) ∈ levels) ∧
        m.tbl.nvars = levels.length ∧ m.tbl.succ = ({} : Mgr).tbl.succ ∧ m.roots = []) ∧
    (validOrdering levels = false → mkBDD levels = .error .assertion) :=
  ⟨mkBDD_good levels, mkBDD_refuses levels⟩

/-- what the check accepts: the levels are pairwise distinct, all below `n`, and cover `0..n-1` -/
theorem C02_valid_ordering_facts (levels : List (String × Nat)) (h : validOrdering levels = true) :
    (levels.map (·.2)).Nodup ∧ (∀ k ∈ levels.map (·.2), k < levels.length) ∧
    (∀ i, i < levels.length → i ∈ levels.map (·.2)) :=
  validOrdering_facts levels h

/-- non-vacuity: `BDD({'a': 1, 'b': 0})` — the first `add_var` leaves a gap at level 0 -/
example : ∃ m, mkBDD [("a", 1), ("b", 0)] = .ok m ∧ GoodState m (fun _ => 0) ∧
    m.tbl.vars["a"]? = some 1 ∧ m.tbl.l2v[0]? = some "b" := by
  obtain ⟨m, h1, h2, hv, hl, _⟩ := (C02_constructor [("a", 1), ("b", 0)]).1 (by decide) (by decide)
  exact ⟨m, h1, h2, (hv "a" 1).mpr (by simp), (hl 0 "b").mpr (by simp)⟩
example : mkBDD [("a", 0), ("b", 0)] = .error .assertion ∧ mkBDD [("a", 0), ("b", 2)] = .error .assertion :=
  ⟨(C02_constructor _).2 (by decide), (C02_constructor _).2 (by decide)⟩

/-! ### ONE constructor

`mkBDD` above is the constructor call inside `_load_manager`; the line-protocol driver's op `new`
runs `newMgr` = `newMgrCore` (`newMgr_eq_core`, DDProofs.ConstructorDriver), for which
`newMgrCore_start` (DDProofs.Reach4Start) is the base case of the every-history theorems.  They
are the same function (`mkBDD_eq_newMgrCore`, DDProofs.Constructor), and both theorems are read
off the one analysis of the declaration loop from the empty manager (`addVars_good`):
`C02_constructor` through `mkBDD_good`, `C02_constructor_driver` below through `newMgrCore_good`,
whose conclusion contains that of `newMgrCore_start`. -/

/-- the two models of `BDD(levels)` agree: on natural levels `mkBDD` is the driver's `newMgrCore`
read through the change of result type; the remaining inputs of `newMgrCore` (a negative level)
are refused by `_assert_valid_ordering`; the two transcriptions of the check agree -/
theorem C02_constructor_models_agree :
    (∀ levels : List (String × Nat), mkBDD levels = asMkBDD (newMgrCore (castLevels levels))) ∧
    (∀ levels : List (String × Nat), newMgrCheck (castLevels levels) = validOrdering levels) ∧
    (∀ levels : List (String × Int), (∃ p ∈ levels, p.2 < 0) →
      newMgrCore levels = (.error .assertion, {})) ∧
    (∀ levels : List (String × Int), (∀ p ∈ levels, 0 ≤ p.2) →
      levels = castLevels (levels.map fun p => (p.1, p.2.toNat))) :=
  ⟨mkBDD_eq_newMgrCore, newMgrCheck_cast, newMgrCore_negative, eq_castLevels_of_nonneg⟩

/-- C02 (`BDD(levels)`, the function the DRIVER runs; integer levels): the statement of
`C02_constructor` for `newMgrCore` — a dictionary (distinct names)
that passes `_assert_valid_ordering` gives a good manager for the empty ledger, declaring exactly
the given pairs in both views, with no node, no root and no schedule (`GoodParts`: the start of
`reachable4_from_parts`); any table that fails the check — a negative level included — raises
`AssertionError` and leaves no manager. -/
theorem C02_constructor_driver (levels : List (String × Int)) :
    ((levels.map (·.1)).Nodup → newMgrCheck levels = true →
      (newMgrCore levels).1 = .ok () ∧
      GoodState (newMgrCore levels).2 (fun _ => 0) ∧ GoodParts (newMgrCore levels).2 (fun _ => 0) ∧
      (∀ (v : String) (l : Nat),
        (newMgrCore levels).2.tbl.vars[v]? = some l ↔ (v, (l : Int)) ∈ levels) ∧
      (∀ (l : Nat) (v : String),
        (newMgrCore levels).2.tbl.l2v[l]? = some v ↔ (v, (l : Int)) ∈ levels) ∧
      (newMgrCore levels).2.tbl.nvars = levels.length ∧
      (newMgrCore levels).2.tbl.succ = ({} : Mgr).tbl.succ ∧ (newMgrCore levels).2.roots = []) ∧
    (newMgrCheck levels = false → newMgrCore levels = (.error .assertion, {})) :=
  ⟨fun hnames hchk =>
    have ⟨h1, hP, hv, _, hl, hn, hs⟩ := newMgrCore_good levels hnames hchk
    ⟨h1, ⟨hP.inv, hP.order, hP.exact, hP.off, hP.ctx⟩, hP, hv, hl, hn, hs, hP.roots⟩,
   newMgrCore_refused levels⟩

/-- non-vacuity (the driver's function): `BDD({'a': 1, 'b': 0})` is accepted, `{'a': -1, 'b': 0}`
and `{'a': 0, 'b': 2}` raise; and `mkBDD` gives the very same manager -/
example : (newMgrCore [("a", 1), ("b", 0)]).1 = .ok () ∧
    GoodState (newMgrCore [("a", 1), ("b", 0)]).2 (fun _ => 0) ∧
    (newMgrCore [("a", 1), ("b", 0)]).2.tbl.l2v[0]? = some "b" ∧
    newMgrCore [("a", -1), ("b", 0)] = (.error .assertion, {}) ∧
    newMgrCore [("a", 0), ("b", 2)] = (.error .assertion, {}) ∧
    mkBDD [("a", 1), ("b", 0)] = .ok (newMgrCore [("a", 1), ("b", 0)]).2 := by
  obtain ⟨h1, h2, -, -, hl, -⟩ := (C02_constructor_driver [("a", 1), ("b", 0)]).1 (by decide) (by decide)
  refine ⟨h1, h2, (hl 0 "b").mpr (by simp), (C02_constructor_driver _).2 (by decide),
    (C02_constructor_driver _).2 (by decide), ?_⟩
  rw [mkBDD_eq_newMgrCore]
  show asMkBDD (newMgrCore [("a", 1), ("b", 0)]) = _
  generalize newMgrCore [("a", 1), ("b", 0)] = res at h1 ⊢
  obtain ⟨r, m⟩ := res
  cases h1
  rfl

end DD
