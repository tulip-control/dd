/-
  DDProps.C03 — quantification equals the disjunction / conjunction of cofactors.

  Assignments are over LEVELS (`Asg = Nat → Bool`); names enter only through the `vars`
  lookups of `_map_to_level`.  "Reordering not enabled" is `m.lastLen = none`; "whatever the
  manager went through before" is any manager satisfying `Inv` (warm computed table included).
  Every theorem below is proved for all managers, operands, variable sets and both quantifiers.
-/
import DDProofs.SmallSupport
import DDProofs.UsedObs
import DDProofs.Witness
namespace DD
open Std

/-- C03 (the recursion `_quantify`): for every set `Q` of levels, every sound memo (keyed by the
SIGNED reference), every list `ordvar` that contains all the levels of `Q` at or below `u` (the
calls pass suffixes of the sorted levels), the recursion is total, only adds nodes, keeps the
memo sound, and returns `r` with `r` true under `a` iff some / every `b` that agrees with `a`
outside `Q` makes `u` true; the level of `r` is not above that of `u` (which is what
`find_or_add(i, p, q)` needs). -/
theorem C03_quantifyF (Q : List Nat) (fa : Bool) (f : Nat) (m : Mgr) (u : Int)
    (ordvar : List Nat) (cache : HashMap Int Int)
    (hI : Inv m) (hoff : m.lastLen = none) (hu : m.tbl.Mem u) (hmemo : QMemo fa Q m.tbl cache)
    (hord : ∀ j, j ∈ Q → m.tbl.levelOf u ≤ j → j ∈ ordvar)
    (hfuel : m.nvars + 1 ≤ f + m.tbl.levelOf u) :
    ∃ r c' m', quantifyF Q fa f u ordvar cache m = (.ok (r, c'), m') ∧
      Inv m' ∧ Ext m.tbl m'.tbl ∧ Frame m m' ∧ QMemo fa Q m'.tbl c' ∧
      m'.tbl.Mem r ∧ m.tbl.levelOf u ≤ m'.tbl.levelOf r ∧
      ∀ a, den m'.tbl r a = true ↔
        (match fa with
         | true => ∀ b : Asg, (∀ j, j ∉ Q → b j = a j) → den m.tbl u b = true
         | false => ∃ b : Asg, (∀ j, j ∉ Q → b j = a j) ∧ den m.tbl u b = true) := by
  obtain ⟨r, c', m', he, hs, hm, hp⟩ := quantifyF_spec Q fa f m u ordvar cache hI hoff hu hmemo hord hfuel
  refine ⟨r, c', m', he, hs.inv, hs.ext, hs.frame, hm, hp.mr, ?_, ?_⟩
  · have := hp.lvl; rwa [hs.ext.levelOf hu] at this
  · intro a
    rw [hp.den a, den_ext_fun hs.ext hI.wf.toWF u hu]
    cases fa <;> exact Iff.rfl

/-- C03 (`quantify(u, qvars, forall)`): with `lv` the levels `_map_to_level` computes for
`qvars` (names or levels), the call succeeds, keeps the invariant, leaves every existing node
untouched, and its result is true under `a` exactly when some (`forall = False`) / every
(`forall = True`) choice of values for the levels in `lv` makes `u` true. -/
theorem C03_quantify (m : Mgr) (hI : Inv m) (hoff : m.lastLen = none) (u : Int)
    (hu : m.tbl.Mem u) (qvars : List Key) (fa : Bool) (lv : List Nat)
    (hlv : mapToLevelE m.tbl qvars = .ok lv) :
    ∃ r m', quantify u qvars fa m = (.ok r, m') ∧ Inv m' ∧ Ext m.tbl m'.tbl ∧ m'.tbl.Mem r ∧
      Frame m m' ∧
      ∀ a, den m'.tbl r a = true ↔
        (match fa with
         | true => ∀ b : Asg, (∀ j, j ∉ lv → b j = a j) → den m.tbl u b = true
         | false => ∃ b : Asg, (∀ j, j ∉ lv → b j = a j) ∧ den m.tbl u b = true) := by
  obtain ⟨r, m', h1, h2, h3, h4, h5, _, h7⟩ := quantify_spec m hI hoff u hu qvars fa lv hlv
  exact ⟨r, m', h1, h2, h3, h4, h5, h7⟩

/-- C03 (name → level mapping): a set of declared variable names is mapped to their levels -/
theorem C03_map_to_level_names (t : Tbl) (names : List String)
    (h : ∀ s, s ∈ names → t.vars.contains s = true) :
    mapToLevelE t (names.map Key.name) = .ok (names.map (lvlOf t)) :=
  mapToLevelE_names t names h

/-- C03 (level-keyed sets are taken as they are) -/
theorem C03_map_to_level_levels (t : Tbl) (ls : List Nat)
    (h : ∀ i, i ∈ ls → t.l2v.contains i = true) :
    mapToLevelE t (ls.map fun (i : Nat) => Key.lvl (i : Int)) = .ok ls :=
  mapToLevelE_levels t ls h

/-- C03 (`exist(qvars, u)` over declared names) -/
theorem C03_exist (m : Mgr) (hI : Inv m) (hoff : m.lastLen = none) (u : Int)
    (hu : m.tbl.Mem u) (names : List String)
    (hdecl : ∀ s, s ∈ names → m.tbl.vars.contains s = true) :
    ∃ r m', existOp (names.map Key.name) u m = (.ok r, m') ∧ Inv m' ∧ Ext m.tbl m'.tbl ∧
      m'.tbl.Mem r ∧ Frame m m' ∧
      ∀ a, den m'.tbl r a = true ↔
        ∃ b : Asg, (∀ j, j ∉ names.map (lvlOf m.tbl) → b j = a j) ∧ den m.tbl u b = true :=
  C03_quantify m hI hoff u hu _ false _ (mapToLevelE_names m.tbl names hdecl)

/-- C03 (`forall(qvars, u)` over declared names) -/
theorem C03_forall (m : Mgr) (hI : Inv m) (hoff : m.lastLen = none) (u : Int)
    (hu : m.tbl.Mem u) (names : List String)
    (hdecl : ∀ s, s ∈ names → m.tbl.vars.contains s = true) :
    ∃ r m', forallOp (names.map Key.name) u m = (.ok r, m') ∧ Inv m' ∧ Ext m.tbl m'.tbl ∧
      m'.tbl.Mem r ∧ Frame m m' ∧
      ∀ a, den m'.tbl r a = true ↔
        ∀ b : Asg, (∀ j, j ∉ names.map (lvlOf m.tbl) → b j = a j) → den m.tbl u b = true :=
  C03_quantify m hI hoff u hu _ true _ (mapToLevelE_names m.tbl names hdecl)

/-- C03 (independence): the result does not depend on any quantified level -/
theorem C03_quantify_indep (m : Mgr) (hI : Inv m) (hoff : m.lastLen = none) (u : Int)
    (hu : m.tbl.Mem u) (qvars : List Key) (fa : Bool) (lv : List Nat)
    (hlv : mapToLevelE m.tbl qvars = .ok lv) :
    ∃ r m', quantify u qvars fa m = (.ok r, m') ∧
      ∀ j, j ∈ lv → ∀ (a : Asg) (x : Bool), den m'.tbl r (upd a j x) = den m'.tbl r a := by
  obtain ⟨r, m', h1, _, _, _, _, _, h7⟩ := quantify_spec m hI hoff u hu qvars fa lv hlv
  exact ⟨r, m', h1, fun j hj a x => quantify_indep fa lv _ m'.tbl r h7 j hj a x⟩

/-- C03 (no-op): when no quantified level is in the support of `u` — in particular when the
set is empty — the very same reference comes back (canonicity of the extended table) -/
theorem C03_quantify_noop (m : Mgr) (hI : Inv m) (hoff : m.lastLen = none) (u : Int)
    (hu : m.tbl.Mem u) (qvars : List Key) (fa : Bool) (lv : List Nat)
    (hlv : mapToLevelE m.tbl qvars = .ok lv)
    (hdisj : ∀ j, j ∈ lv → ¬ InSupp m.tbl u j) :
    ∃ m', quantify u qvars fa m = (.ok u, m') ∧ Inv m' ∧ Ext m.tbl m'.tbl ∧ Frame m m' := by
  obtain ⟨r, m', h1, h2, h3, h4, h5, _, h7⟩ := quantify_spec m hI hoff u hu qvars fa lv hlv
  have : r = u := quantify_noop fa lv m.tbl m'.tbl hI.wf.toWF h2.wf h3 u r hu h4 h7 hdisj
  subst this
  exact ⟨m', h1, h2, h3, h5⟩

/-- C03 (empty set) -/
theorem C03_quantify_empty (m : Mgr) (hI : Inv m) (hoff : m.lastLen = none) (u : Int)
    (hu : m.tbl.Mem u) (fa : Bool) :
    ∃ m', quantify u [] fa m = (.ok u, m') ∧ Inv m' ∧ Ext m.tbl m'.tbl ∧ Frame m m' :=
  C03_quantify_noop m hI hoff u hu [] fa [] rfl (fun _ h => by cases h)

/-- C03 (`apply` with `\A`, `\E`, `forall`, `exists`): for every such spelling in the regenerated
vocabulary, `apply(op, u, v)` quantifies the SECOND operand `v` over the variables that
`support(u)` returns for the FIRST one.  The one fact used about `support` is its answer `names`
(a list of declared names); its own specification (the names of the levels in `InSupp m.tbl u`)
is property C10. -/
theorem C03_apply_quant (m : Mgr) (hI : Inv m) (hoff : m.lastLen = none)
    (op : String) (c : Conn) (hc : docConn op = some c) (hq : c = .forall_ ∨ c = .exists_)
    (hall : Gen.allOps.contains op = true)
    (u v : Int) (hu : m.tbl.Mem u) (hv : m.tbl.Mem v)
    (names : List String) (hsupp : support m.tbl u = .ok names)
    (hdecl : ∀ s, s ∈ names → m.tbl.vars.contains s = true) :
    ∃ r m', apply op u (some v) none m = (.ok r, m') ∧ Inv m' ∧ Ext m.tbl m'.tbl ∧
      m'.tbl.Mem r ∧ Frame m m' ∧
      ∀ a, den m'.tbl r a = true ↔
        (match decide (c = .forall_) with
         | true => ∀ b : Asg, (∀ j, j ∉ names.map (lvlOf m.tbl) → b j = a j) →
             den m.tbl v b = true
         | false => ∃ b : Asg, (∀ j, j ∉ names.map (lvlOf m.tbl) → b j = a j) ∧
             den m.tbl v b = true) :=
  apply_quant_spec m hI hoff op c hc hq hall u v hu hv names hsupp hdecl

/-- C03 (`apply` quantifiers, in terms of the support): if the levels of the names that
`support(u)` returns are exactly the levels of the nodes reachable from `u`, then the result
quantifies `v` over the support of `u`. -/
theorem C03_apply_quant_support (m : Mgr) (hI : Inv m) (hoff : m.lastLen = none)
    (op : String) (c : Conn) (hc : docConn op = some c) (hq : c = .forall_ ∨ c = .exists_)
    (hall : Gen.allOps.contains op = true)
    (u v : Int) (hu : m.tbl.Mem u) (hv : m.tbl.Mem v)
    (names : List String) (hsupp : support m.tbl u = .ok names)
    (hdecl : ∀ s, s ∈ names → m.tbl.vars.contains s = true)
    (hsem : ∀ j, j ∈ names.map (lvlOf m.tbl) ↔ InSupp m.tbl u j) :
    ∃ r m', apply op u (some v) none m = (.ok r, m') ∧ Inv m' ∧ Ext m.tbl m'.tbl ∧
      m'.tbl.Mem r ∧ Frame m m' ∧
      ∀ a, den m'.tbl r a = true ↔
        (match decide (c = .forall_) with
         | true => ∀ b : Asg, (∀ j, ¬ InSupp m.tbl u j → b j = a j) → den m.tbl v b = true
         | false => ∃ b : Asg, (∀ j, ¬ InSupp m.tbl u j → b j = a j) ∧ den m.tbl v b = true) := by
  obtain ⟨r, m', h1, h2, h3, h4, h5, h6⟩ :=
    C03_apply_quant m hI hoff op c hc hq hall u v hu hv names hsupp hdecl
  refine ⟨r, m', h1, h2, h3, h4, h5, ?_⟩
  intro a
  rw [h6 a]
  exact quant_iff (fun b => forall_congr' fun j => imp_congr (not_congr (hsem j)) Iff.rfl) _ _

/-- C03: the structural support used above (`InSupp`: levels of the nodes reachable from `u`)
is the semantic one of C10 (`dependsOn`: flipping the level changes the value somewhere). -/
theorem C03_inSupp_iff_dependsOn (t : Tbl) (hw : WFU t) (u : Int) (hm : t.Mem u) (i : Nat) :
    InSupp t u i ↔ dependsOn t u i := inSupp_iff_dependsOn hw u hm i

/-- C03: what `support(u)` answers on a state with `Inv` and a good order: it succeeds, every
returned name is declared, and the levels of the returned names are exactly `InSupp m.tbl u` —
the three facts `hsupp`, `hdecl`, `hsem` that `C03_apply_quant(_support)` take as hypotheses. -/
theorem C03_support_facts (t : Tbl) (hw : WFU t) (hO : OrderOK t) (u : Int) (hm : t.Mem u) :
    ∃ names, support t u = .ok names ∧ (∀ s, s ∈ names → t.vars.contains s = true) ∧
      (∀ j, j ∈ names.map (lvlOf t) ↔ InSupp t u j) := by
  obtain ⟨names, h1, h2, h3, -⟩ := support_inSupp hw hO u hm
  exact ⟨names, h1, h2, h3⟩

/-- C03 (`apply` quantifiers, UNCONDITIONAL form for reachable states): on every manager with
the invariant and a good order (`reachable_inv` gives both for every history), for every
quantifier spelling and every two operands, `apply(op, u, v)` returns normally and its result
quantifies `v` over exactly the variables the function of `u` depends on.  `hsupp`, `hdecl`,
`hsem` of `C03_apply_quant_support` are `C03_support_facts` (= C10's `support` specification). -/
theorem C03_apply_quant_support_reachable (m : Mgr) (hI : Inv m) (hO : OrderOK m.tbl)
    (hoff : m.lastLen = none)
    (op : String) (c : Conn) (hc : docConn op = some c) (hq : c = .forall_ ∨ c = .exists_)
    (hall : Gen.allOps.contains op = true)
    (u v : Int) (hu : m.tbl.Mem u) (hv : m.tbl.Mem v) :
    ∃ r m', apply op u (some v) none m = (.ok r, m') ∧ Inv m' ∧ Ext m.tbl m'.tbl ∧
      m'.tbl.Mem r ∧ Frame m m' ∧
      (∀ a, den m'.tbl r a = true ↔
        (match decide (c = .forall_) with
         | true => ∀ b : Asg, (∀ j, ¬ InSupp m.tbl u j → b j = a j) → den m.tbl v b = true
         | false => ∃ b : Asg, (∀ j, ¬ InSupp m.tbl u j → b j = a j) ∧ den m.tbl v b = true)) ∧
      (∀ a, den m'.tbl r a = true ↔
        (match decide (c = .forall_) with
         | true => ∀ b : Asg, (∀ j, ¬ dependsOn m.tbl u j → b j = a j) → den m.tbl v b = true
         | false => ∃ b : Asg, (∀ j, ¬ dependsOn m.tbl u j → b j = a j) ∧ den m.tbl v b = true)) := by
  obtain ⟨names, hsupp, hdecl, hsem⟩ := C03_support_facts m.tbl hI.wf hO u hu
  obtain ⟨r, m', h1, h2, h3, h4, h5, h6⟩ :=
    C03_apply_quant_support m hI hoff op c hc hq hall u v hu hv names hsupp hdecl hsem
  refine ⟨r, m', h1, h2, h3, h4, h5, h6, ?_⟩
  intro a
  rw [h6 a]
  exact quant_iff (fun b => forall_congr' fun j =>
    imp_congr (not_congr (inSupp_iff_dependsOn hI.wf u hu j)) Iff.rfl) _ _

/-- non-vacuity of the unconditional form: the witness manager (variable `x`, the node of `x`)
has `Inv`, a good order, reordering off, and an operand whose support is not empty -/
example : ∃ (m : Mgr) (u : Int), Inv m ∧ OrderOK m.tbl ∧ m.lastLen = none ∧ m.tbl.Mem u ∧
    InSupp m.tbl u 0 ∧ dependsOn m.tbl u 0 := by
  obtain ⟨m, u, hI, hoff, hV, hu, _, _, _, hs⟩ := witness
  have hO : OrderOK m.tbl := by
    refine ⟨fun v i => ⟨hV.v2l v i, hV.l2v i v⟩, hV.lt, fun i hi => ?_⟩
    obtain ⟨v, hv⟩ := hV.onto i hi
    exact ⟨v, hV.v2l v i hv⟩
  exact ⟨m, u, hI, hO, hoff, hu, hs, (C03_inSupp_iff_dependsOn m.tbl hI.wf u hu 0).mp hs⟩

/-- every quantifier spelling meets the hypotheses on the alias -/
example : docConn "\\A" = some .forall_ ∧ docConn "\\E" = some .exists_ ∧
    docConn "forall" = some .forall_ ∧ docConn "exists" = some .exists_ ∧
    Gen.allOps.contains "\\A" = true ∧ Gen.allOps.contains "\\E" = true ∧
    Gen.allOps.contains "forall" = true ∧ Gen.allOps.contains "exists" = true := by decide +kernel

/-- non-vacuity: a manager, a non-constant operand and a non-empty set of declared names that
meet every hypothesis of `C03_quantify` / `C03_exist` / `C03_forall`; quantifying really changes
the function there (`∃x. x` is true where `x` is false) -/
example : ∃ (m : Mgr) (u : Int) (names : List String), Inv m ∧ m.lastLen = none ∧ m.tbl.Mem u ∧
    (∀ s, s ∈ names → m.tbl.vars.contains s = true) ∧
    mapToLevelE m.tbl (names.map Key.name) = .ok [0] ∧
    den m.tbl u (fun _ => false) = false ∧
    (∃ b : Asg, (∀ j, j ∉ [0] → b j = false) ∧ den m.tbl u b = true) := by
  obtain ⟨m, u, hI, hoff, _, hu, hx, _, hd, _⟩ := witness
  have hdecl : ∀ s, s ∈ ["x"] → m.tbl.vars.contains s = true := by
    intro s hs
    have : s = "x" := by simpa using hs
    subst this
    exact (vars_contains_iff _ _).mpr ⟨0, hx⟩
  refine ⟨m, u, ["x"], hI, hoff, hu, hdecl, ?_, by rw [hd], ?_⟩
  · rw [mapToLevelE_names m.tbl ["x"] hdecl]; simp [lvlOf, hx]
  · refine ⟨upd (fun _ => false) 0 true, ?_, by rw [hd]; simp⟩
    intro j hj
    have : j ≠ 0 := by simpa using hj
    exact upd_other _ _ _ _ this

/-! ### non-vacuity on a USED manager

`usedM` (DDProofs.UsedExample): levels 0..3 = c, a, d, b; thirteen nodes; `f` = node 13 =
`ite(c ≡ d, a ∧ b, ¬b)` (all four variables), 4 = `a ∧ b`, 14 = `a ∨ d` (garbage); hypotheses from
the reachability theorem.  The quantified variables are IN THE MIDDLE of the order (levels 1, 2),
the operands are complemented and of different supports. -/

private theorem usedM_support :
    support usedM.tbl (-14) = .ok ["a", "d"] ∧ support usedM.tbl 4 = .ok ["a", "b"] ∧
    ["a", "d"].map (lvlOf usedM.tbl) = [1, 2] ∧ ["a", "b"].map (lvlOf usedM.tbl) = [1, 3] := by
  decide +kernel

private theorem usedM_inSupp4 (j : Nat) : InSupp usedM.tbl 4 j ↔ j ∈ [1, 3] := by
  obtain ⟨names, hs, -, hsem⟩ := C03_support_facts usedM.tbl usedM_good.inv.wf usedM_good.order 4
    (usedM_mem (by decide))
  rw [usedM_support.2.1] at hs
  cases hs
  rw [← hsem j, usedM_support.2.2.2]

/-- `C03_quantify` (names, both quantifiers; levels, in another order), `C03_exist`, `C03_forall`,
independence, the no-op form (`c`, `d` are not in the support of `a ∧ b`) and the empty set -/
example :
    (∀ fa, ∃ r m', quantify (-13) [.name "a", .name "d"] fa usedM = (.ok r, m') ∧ Inv m' ∧
      Ext usedM.tbl m'.tbl ∧ m'.tbl.Mem r ∧ Frame usedM m' ∧
      ∀ a, den m'.tbl r a = true ↔
        (match fa with
         | true => ∀ b : Asg, (∀ j, j ∉ [1, 2] → b j = a j) → den usedM.tbl (-13) b = true
         | false => ∃ b : Asg, (∀ j, j ∉ [1, 2] → b j = a j) ∧ den usedM.tbl (-13) b = true)) ∧
    (∃ r m', quantify 13 [.lvl 2, .lvl 1] false usedM = (.ok r, m') ∧
      ∀ j, j ∈ [2, 1] → ∀ (a : Asg) (x : Bool), den m'.tbl r (upd a j x) = den m'.tbl r a) ∧
    (∃ r m', existOp (["d"].map Key.name) 13 usedM = (.ok r, m') ∧ Inv m' ∧ Ext usedM.tbl m'.tbl ∧
      m'.tbl.Mem r ∧ Frame usedM m' ∧
      ∀ a, den m'.tbl r a = true ↔
        ∃ b : Asg, (∀ j, j ∉ ["d"].map (lvlOf usedM.tbl) → b j = a j) ∧
          den usedM.tbl 13 b = true) ∧
    (∃ r m', forallOp (["a"].map Key.name) 13 usedM = (.ok r, m') ∧ Inv m' ∧ Ext usedM.tbl m'.tbl ∧
      m'.tbl.Mem r ∧ Frame usedM m' ∧
      ∀ a, den m'.tbl r a = true ↔
        ∀ b : Asg, (∀ j, j ∉ ["a"].map (lvlOf usedM.tbl) → b j = a j) →
          den usedM.tbl 13 b = true) ∧
    (∃ m', quantify 4 [.name "c", .name "d"] true usedM = (.ok 4, m') ∧ Inv m' ∧
      Ext usedM.tbl m'.tbl ∧ Frame usedM m') ∧
    (∃ m', quantify (-13) [] false usedM = (.ok (-13), m') ∧ Inv m' ∧ Ext usedM.tbl m'.tbl ∧
      Frame usedM m') := by
  have hdecl : ∀ (l : List String), l.all (fun s => usedM.tbl.vars.contains s) = true →
      ∀ s, s ∈ l → usedM.tbl.vars.contains s = true := fun l h s hs => List.all_eq_true.mp h s hs
  obtain ⟨k1, k2, k3, k4, k5⟩ :
      mapToLevelE usedM.tbl [.name "a", .name "d"] = .ok [1, 2] ∧
      mapToLevelE usedM.tbl [.lvl 2, .lvl 1] = .ok [2, 1] ∧
      ["d"].all (fun s => usedM.tbl.vars.contains s) = true ∧
      ["a"].all (fun s => usedM.tbl.vars.contains s) = true ∧
      mapToLevelE usedM.tbl [.name "c", .name "d"] = .ok [0, 2] := by decide +kernel
  refine ⟨fun fa => C03_quantify usedM usedM_good.inv usedM_good.off (-13) (usedM_mem (by decide))
      _ fa [1, 2] k1,
    C03_quantify_indep usedM usedM_good.inv usedM_good.off 13 (usedM_mem (by decide)) _ false
      [2, 1] k2,
    C03_exist usedM usedM_good.inv usedM_good.off 13 (usedM_mem (by decide)) ["d"] (hdecl _ k3),
    C03_forall usedM usedM_good.inv usedM_good.off 13 (usedM_mem (by decide)) ["a"] (hdecl _ k4),
    C03_quantify_noop usedM usedM_good.inv usedM_good.off 4 (usedM_mem (by decide)) _ true [0, 2]
      k5 ?_,
    C03_quantify_empty usedM usedM_good.inv usedM_good.off (-13) (usedM_mem (by decide)) false⟩
  intro j hj hs
  have := (usedM_inSupp4 j).mp hs
  simp only [List.mem_cons, List.not_mem_nil, or_false] at hj this
  omega

/-- the conclusion evaluated (the kernel cannot run the `HashMap` memo of `_quantify`, so the
TABLE of the result is derived from the theorem and then computed from `f`'s table by the
kernel; rows c a d b): `∃d. f` = `a ∨ ¬b` and `∀a. f` = `(c xor d) ∧ ¬b`, neither is `f`.
(`#eval`: the answers are 15 and −15 — NEW nodes —, `∀a,d. ¬f` = −1, `∃a,d. ¬f` = 1,
`∀c,d. a ∧ b` = 4 with no node added.) -/
example :
    (∃ r m', quantify 13 [.lvl 2] false usedM = (.ok r, m') ∧
      tt4 m'.tbl r = [true, false, true, false, true, true, true, true,
                      true, false, true, false, true, true, true, true] ∧
      tt4 m'.tbl r ≠ tt4 usedM.tbl 13) ∧
    (∃ r m', quantify 13 [.name "a"] true usedM = (.ok r, m') ∧
      tt4 m'.tbl r = [false, false, true, false, false, false, true, false,
                      true, false, false, false, true, false, false, false] ∧
      tt4 m'.tbl r ≠ tt4 usedM.tbl 13) := by
  obtain ⟨k1, k2, k3, k4⟩ :
      mapToLevelE usedM.tbl [.lvl 2] = .ok [2] ∧ mapToLevelE usedM.tbl [.name "a"] = .ok [1] ∧
      rows4.map (fun a => den usedM.tbl 13 (upd a 2 false) || den usedM.tbl 13 (upd a 2 true)) =
        [true, false, true, false, true, true, true, true,
         true, false, true, false, true, true, true, true] ∧
      rows4.map (fun a => den usedM.tbl 13 (upd a 1 false) && den usedM.tbl 13 (upd a 1 true)) =
        [false, false, true, false, false, false, true, false,
         true, false, false, false, true, false, false, false] := by decide +kernel
  constructor
  · obtain ⟨r, m', he, -, -, -, -, h⟩ := C03_quantify usedM usedM_good.inv usedM_good.off 13
      (usedM_mem (by decide)) [.lvl 2] false [2] k1
    have ht := (tt4_of_iff fun a => (h a).trans (exists_one_level _ a 2)).trans k3
    exact ⟨r, m', he, ht, by rw [ht, usedM_tables.2.1]; decide⟩
  · obtain ⟨r, m', he, -, -, -, -, h⟩ := C03_quantify usedM usedM_good.inv usedM_good.off 13
      (usedM_mem (by decide)) [.name "a"] true [1] k2
    have ht := (tt4_of_iff fun a => (h a).trans (forall_one_level _ a 1)).trans k4
    exact ⟨r, m', he, ht, by rw [ht, usedM_tables.2.1]; decide⟩

/-- `apply('\\E', ¬(a ∨ d), f)` / `apply('forall', a ∧ b, ¬f)`: the unconditional form on the used
state — the FIRST operand (complemented, support {a, d} in the middle of the order / {a, b}) only
contributes its support, the SECOND is quantified.  (`#eval`: the answers are 1 and −1;
`apply('\\A', a ∧ b, f)` = `quantify(f, {a, b}, forall=True)` = −1.) -/
example :
    (∃ r m', apply "\\E" (-14) (some 13) none usedM = (.ok r, m') ∧ Inv m' ∧ Ext usedM.tbl m'.tbl ∧
      m'.tbl.Mem r ∧ Frame usedM m' ∧
      (∀ a, den m'.tbl r a = true ↔
        ∃ b : Asg, (∀ j, ¬ InSupp usedM.tbl (-14) j → b j = a j) ∧ den usedM.tbl 13 b = true) ∧
      (∀ a, den m'.tbl r a = true ↔
        ∃ b : Asg, (∀ j, ¬ dependsOn usedM.tbl (-14) j → b j = a j) ∧ den usedM.tbl 13 b = true)) ∧
    (∃ r m', apply "forall" 4 (some (-13)) none usedM = (.ok r, m') ∧ Inv m' ∧
      Ext usedM.tbl m'.tbl ∧ m'.tbl.Mem r ∧ Frame usedM m' ∧
      (∀ a, den m'.tbl r a = true ↔
        ∀ b : Asg, (∀ j, ¬ InSupp usedM.tbl 4 j → b j = a j) → den usedM.tbl (-13) b = true) ∧
      (∀ a, den m'.tbl r a = true ↔
        ∀ b : Asg, (∀ j, ¬ dependsOn usedM.tbl 4 j → b j = a j) → den usedM.tbl (-13) b = true)) :=
  ⟨C03_apply_quant_support_reachable usedM usedM_good.inv usedM_good.order usedM_good.off
      "\\E" .exists_ (by decide) (Or.inr rfl) (by decide) (-14) 13 (usedM_mem (by decide))
      (usedM_mem (by decide)),
   C03_apply_quant_support_reachable usedM usedM_good.inv usedM_good.order usedM_good.off
      "forall" .forall_ (by decide) (Or.inl rfl) (by decide) 4 (-13) (usedM_mem (by decide))
      (usedM_mem (by decide))⟩

/-- the three facts about `support` that the conditional forms take as hypotheses, evaluated:
`support(¬(a ∨ d))` = {a, d} (levels 1, 2: the middle of the order), `support(a ∧ b)` = {a, b} -/
example : support usedM.tbl (-14) = .ok ["a", "d"] ∧ support usedM.tbl 4 = .ok ["a", "b"] ∧
    ["a", "d"].map (lvlOf usedM.tbl) = [1, 2] ∧ ["a", "b"].map (lvlOf usedM.tbl) = [1, 3] :=
  usedM_support

end DD
