/-
  DDProps.C04 — `let` performs exact simultaneous substitution: Boolean constants (cofactor),
  functions (compose, one or several variables at once), names (rename, any map).

  Assignments are over LEVELS; names enter through `vars` / `_level_to_var` lookups only.
  Reordering not enabled: `m.lastLen = none`.  Any manager with `Inv` (warm computed table,
  other nodes, any variable order) is covered; all operands, dictionaries and signs.
-/
import DDProofs.LetCopy
import DDProofs.UsedExample
import DDProofs.Witness
import DDProofs.UsedObs
namespace DD
open Std

/-- C04 (the recursion `_cofactor`, memo keyed by the signed reference) -/
theorem C04_cofactorF (values : List (Nat × Bool)) (f : Nat) (m : Mgr) (u : Int)
    (ordvar : List Nat) (cache : HashMap Int Int)
    (hI : Inv m) (hoff : m.lastLen = none) (hu : m.tbl.Mem u)
    (hmemo : CofMemo values m.tbl cache)
    (hord : ∀ j, (values.lookup j).isSome = true → m.tbl.levelOf u ≤ j → j ∈ ordvar)
    (hfuel : m.nvars + 1 ≤ f + m.tbl.levelOf u) :
    ∃ r c' m', cofactorF values f u ordvar cache m = (.ok (r, c'), m') ∧
      Inv m' ∧ Ext m.tbl m'.tbl ∧ Frame m m' ∧ CofMemo values m'.tbl c' ∧ m'.tbl.Mem r ∧
      m.tbl.levelOf u ≤ m'.tbl.levelOf r ∧
      ∀ a, den m'.tbl r a = den m.tbl u
        (fun i => match values.lookup i with | some b => b | none => a i) := by
  obtain ⟨r, c', m', he, hs, hm, hp⟩ :=
    cofactorF_spec values f m u ordvar cache hI hoff hu hmemo hord hfuel
  refine ⟨r, c', m', he, hs.inv, hs.ext, hs.frame, hm, hp.mr, ?_, ?_⟩
  · have := hp.lvl; rwa [hs.ext.levelOf hu] at this
  · intro a
    rw [hp.den a]
    exact den_ext hs.ext hI.wf.toWF u _ hu

/-- C04 (`cofactor(u, values)`): `lv` are the levels of the keys (by `_map_to_level`); the
result denotes `u` under the assignment in which every key has its given value (a later
duplicate of a key wins, as in a `dict`) and every other level is untouched. -/
theorem C04_cofactor (m : Mgr) (hI : Inv m) (hoff : m.lastLen = none) (u : Int)
    (hu : m.tbl.Mem u) (values : List (Key × Bool)) (lv : List Nat)
    (hlv : mapToLevelE m.tbl (values.map (·.1)) = .ok lv) :
    ∃ r m', cofactor u values m = (.ok r, m') ∧ Inv m' ∧ Ext m.tbl m'.tbl ∧ m'.tbl.Mem r ∧
      Frame m m' ∧
      ∀ a, den m'.tbl r a = den m.tbl u
        (fun i => match ((lv.zip (values.map (·.2))).reverse).lookup i with
          | some b => b
          | none => a i) :=
  cofactor_spec m hI hoff u hu values lv hlv

/-- C04 (`cofactor` with declared names as keys) -/
theorem C04_cofactor_names (m : Mgr) (hI : Inv m) (hoff : m.lastLen = none) (u : Int)
    (hu : m.tbl.Mem u) (d : List (String × Bool))
    (hdecl : ∀ p, p ∈ d → m.tbl.vars.contains p.1 = true) :
    ∃ r m', cofactor u (d.map fun p => (Key.name p.1, p.2)) m = (.ok r, m') ∧ Inv m' ∧
      Ext m.tbl m'.tbl ∧ m'.tbl.Mem r ∧ Frame m m' ∧
      ∀ a, den m'.tbl r a = den m.tbl u
        (fun i => match ((d.map fun p => (lvlOf m.tbl p.1, p.2)).reverse).lookup i with
          | some b => b
          | none => a i) := by
  obtain ⟨lv, hlv, hz⟩ := mapToLevelE_dict m.tbl d hdecl
  obtain ⟨r, m', h1, h2, h3, h4, h5, h6⟩ := cofactor_spec m hI hoff u hu _ lv hlv
  refine ⟨r, m', h1, h2, h3, h4, h5, fun a => ?_⟩
  rw [h6 a, hz]
  rfl

/-- C04 (the recursion `_compose`, memo keyed by the pair `(f, g)`, simultaneous descent) -/
theorem C04_composeF (j : Nat) (fu : Nat) (m : Mgr) (f g : Int)
    (cache : HashMap (Int × Int) Int)
    (hI : Inv m) (hoff : m.lastLen = none) (hf : m.tbl.Mem f) (hg : m.tbl.Mem g)
    (hmemo : KMemo j m.tbl cache)
    (hfuel : 2 * m.nvars + 1 ≤ fu + m.tbl.levelOf f + m.tbl.levelOf g) :
    ∃ r c' m', composeF j fu f g cache m = (.ok (r, c'), m') ∧
      Inv m' ∧ Ext m.tbl m'.tbl ∧ Frame m m' ∧ KMemo j m'.tbl c' ∧ m'.tbl.Mem r ∧
      ∀ a, den m'.tbl r a = den m.tbl f (upd a j (den m.tbl g a)) := by
  obtain ⟨r, c', m', he, hs, hm, hp⟩ := composeF_spec j fu m f g cache hI hoff hf hg hmemo hfuel
  refine ⟨r, c', m', he, hs.inv, hs.ext, hs.frame, hm, hp.mr, ?_⟩
  intro a
  have hW := hI.wf.toWF
  rw [hp.den a, den_ext hs.ext hW g a hg, den_ext hs.ext hW f _ hf]

/-- C04 (the recursion `_vector_compose`, memo keyed by the unsigned node): simultaneous
substitution; the replacements are evaluated under the ORIGINAL assignment, so they may mention
replaced variables -/
theorem C04_vectorComposeF (sub : List (Nat × Int)) (fu : Nat) (m : Mgr) (f : Int)
    (cache : HashMap Nat Int)
    (hI : Inv m) (hoff : m.lastLen = none) (hf : m.tbl.Mem f)
    (hsub : ∀ i g, sub.lookup i = some g → m.tbl.Mem g)
    (hmemo : VMemo sub m.tbl cache)
    (hfuel : m.nvars + 1 ≤ fu + m.tbl.levelOf f) :
    ∃ r c' m', vectorComposeF sub fu f cache m = (.ok (r, c'), m') ∧
      Inv m' ∧ Ext m.tbl m'.tbl ∧ Frame m m' ∧ VMemo sub m'.tbl c' ∧ m'.tbl.Mem r ∧
      ∀ a, den m'.tbl r a = den m.tbl f
        (fun i => match sub.lookup i with | some g => den m.tbl g a | none => a i) := by
  obtain ⟨r, c', m', he, hs, hm, hp⟩ :=
    vectorComposeF_spec sub fu m f cache hI hoff hf hsub hmemo hfuel
  refine ⟨r, c', m', he, hs.inv, hs.ext, hs.frame, hm, hp.mr, ?_⟩
  intro a
  have hW := hI.wf.toWF
  rw [hp.den a, den_ext hs.ext hW f _ hf, vsub_ext hs.ext hW hsub]
  rfl

/-- C04 (`compose(f, {var: g})`, one variable) -/
theorem C04_compose_single (m : Mgr) (hI : Inv m) (hoff : m.lastLen = none) (f g : Int)
    (hf : m.tbl.Mem f) (hg : m.tbl.Mem g) (v : String) (j : Nat) (hv : m.tbl.vars[v]? = some j) :
    ∃ r m', compose f [(v, g)] m = (.ok r, m') ∧ Inv m' ∧ Ext m.tbl m'.tbl ∧ m'.tbl.Mem r ∧
      Frame m m' ∧ ∀ a, den m'.tbl r a = den m.tbl f (upd a j (den m.tbl g a)) :=
  compose_single_spec m hI hoff f g hf hg v j hv

/-- C04 (`compose(f, var_sub)`, any number of declared variables — the one-variable path
`_compose` and the general path `_vector_compose` agree on the meaning): simultaneous
substitution of the functions for the variables -/
theorem C04_compose (m : Mgr) (hI : Inv m) (hoff : m.lastLen = none) (f : Int)
    (hf : m.tbl.Mem f) (varSub : List (String × Int))
    (hdecl : ∀ p, p ∈ varSub → m.tbl.vars.contains p.1 = true)
    (hmem : ∀ p, p ∈ varSub → m.tbl.Mem p.2) :
    ∃ r m', compose f varSub m = (.ok r, m') ∧ Inv m' ∧ Ext m.tbl m'.tbl ∧ m'.tbl.Mem r ∧
      Frame m m' ∧
      ∀ a, den m'.tbl r a = den m.tbl f
        (fun i => match (varSub.map fun p => (lvlOf m.tbl p.1, p.2)).lookup i with
          | some g => den m.tbl g a
          | none => a i) :=
  compose_spec m hI hoff f hf varSub hdecl hmem

/-- C04 (the recursion `_copy_bdd` on ONE manager, i.e. `rename`; memo keyed by the unsigned
node): for any level map defined on the support of `u` (injective or not), the result denotes
`u` read through the map -/
theorem C04_copyBddF_rename (lm : List (Nat × Nat)) (fu : Nat) (m : Mgr) (u : Int)
    (hI : Inv m) (hoff : m.lastLen = none) (hu : m.tbl.Mem u)
    (hlm : ∀ i, InSupp m.tbl u i → ∃ j, lm.lookup i = some j ∧ j < m.nvars)
    (hfuel : m.nvars + 1 ≤ fu + m.tbl.levelOf u) :
    ∃ r c' m', copyBddF none lm fu u {} m = (.ok (r, c'), m') ∧
      Inv m' ∧ Ext m.tbl m'.tbl ∧ Frame m m' ∧ m'.tbl.Mem r ∧ (0 < r ↔ 0 < u) ∧
      ∀ a, den m'.tbl r a = den m.tbl u
        (fun i => match lm.lookup i with | some j => a j | none => false) := by
  obtain ⟨r, c', m', he, hs, _, hp⟩ := copyBddF_spec none lm m.tbl hI.wf.toWF fu m u {} hI hoff
    (Ext.refl _) hu (CMemo.empty _ _ _) hlm hfuel
  exact ⟨r, c', m', he, hs.inv, hs.ext, hs.frame, hp.mr, hp.sign, hp.den⟩

/-- C04 (`rename(u, dvars)`, names to declared names; swaps and non-injective maps included):
the result denotes `u` with every level `i` read at the level of the target name of the
variable at `i` (its own name when it is not a key of `dvars`) -/
theorem C04_rename (m : Mgr) (hI : Inv m) (hoff : m.lastLen = none) (hV : VarsBij m.tbl)
    (u : Int) (hu : m.tbl.Mem u) (dvars : List (String × String))
    (hd : ∀ p, p ∈ dvars → m.tbl.vars.contains p.2 = true) :
    ∃ r m', rename u dvars m = (.ok r, m') ∧ Inv m' ∧ Ext m.tbl m'.tbl ∧ m'.tbl.Mem r ∧
      Frame m m' ∧
      ∀ a, den m'.tbl r a = den m.tbl u (fun i =>
        a (match m.tbl.l2v[i]? with
           | some v => lvlOf m.tbl ((dvars.reverse.lookup v).getD v)
           | none => i)) :=
  rename_spec m hI hoff hV u hu dvars hd

/-- C04 (dispatch of `let` on homogeneous dictionaries: the type of the values selects
`cofactor` / `compose` / `rename`; an empty dictionary returns `u`) -/
theorem C04_let_dispatch (u : Int) :
    (∀ m, letOp (.bools []) u m = (.ok u, m)) ∧
    (∀ m, letOp (.refs []) u m = (.ok u, m)) ∧
    (∀ m, letOp (.names []) u m = (.ok u, m)) ∧
    (∀ d, d ≠ [] → letOp (.bools d) u = cofactor u d) ∧
    (∀ d, d ≠ [] → letOp (.refs d) u = compose u d) ∧
    (∀ d, d ≠ [] → letOp (.names d) u = rename u d) :=
  ⟨letOp_bools_nil u, letOp_refs_nil u, letOp_names_nil u,
   fun d hd => letOp_bools d hd u, fun d hd => letOp_refs d hd u, fun d hd => letOp_names d hd u⟩

/-- C04 (`let` with Boolean values) -/
theorem C04_let_bools (m : Mgr) (hI : Inv m) (hoff : m.lastLen = none) (u : Int)
    (hu : m.tbl.Mem u) (d : List (Key × Bool)) (lv : List Nat)
    (hlv : mapToLevelE m.tbl (d.map (·.1)) = .ok lv) :
    ∃ r m', letOp (.bools d) u m = (.ok r, m') ∧ Inv m' ∧ Ext m.tbl m'.tbl ∧ m'.tbl.Mem r ∧
      Frame m m' ∧
      ∀ a, den m'.tbl r a = den m.tbl u
        (fun i => match ((lv.zip (d.map (·.2))).reverse).lookup i with
          | some b => b
          | none => a i) := by
  cases d with
  | nil =>
    cases hlv
    exact ⟨u, m, rfl, hI, Ext.refl _, hu, Frame.refl _, fun a => rfl⟩
  | cons x xs =>
    rw [letOp_bools _ (by simp)]
    exact cofactor_spec m hI hoff u hu _ lv hlv

/-- C04 (`let` with references as values) -/
theorem C04_let_refs (m : Mgr) (hI : Inv m) (hoff : m.lastLen = none) (u : Int)
    (hu : m.tbl.Mem u) (d : List (String × Int))
    (hdecl : ∀ p, p ∈ d → m.tbl.vars.contains p.1 = true)
    (hmem : ∀ p, p ∈ d → m.tbl.Mem p.2) :
    ∃ r m', letOp (.refs d) u m = (.ok r, m') ∧ Inv m' ∧ Ext m.tbl m'.tbl ∧ m'.tbl.Mem r ∧
      Frame m m' ∧
      ∀ a, den m'.tbl r a = den m.tbl u
        (fun i => match (d.map fun p => (lvlOf m.tbl p.1, p.2)).lookup i with
          | some g => den m.tbl g a
          | none => a i) := by
  cases d with
  | nil => exact ⟨u, m, rfl, hI, Ext.refl _, hu, Frame.refl _, fun a => rfl⟩
  | cons x xs =>
    rw [letOp_refs _ (by simp)]
    exact compose_spec m hI hoff u hu _ hdecl hmem

/-- C04 (`let` with names as values) -/
theorem C04_let_names (m : Mgr) (hI : Inv m) (hoff : m.lastLen = none) (hV : VarsBij m.tbl)
    (u : Int) (hu : m.tbl.Mem u) (d : List (String × String))
    (hd : ∀ p, p ∈ d → m.tbl.vars.contains p.2 = true) :
    ∃ r m', letOp (.names d) u m = (.ok r, m') ∧ Inv m' ∧ Ext m.tbl m'.tbl ∧ m'.tbl.Mem r ∧
      Frame m m' ∧
      ∀ a, den m'.tbl r a = den m.tbl u (fun i =>
        a (match m.tbl.l2v[i]? with
           | some v => lvlOf m.tbl ((d.reverse.lookup v).getD v)
           | none => i)) := by
  cases d with
  | nil => exact ⟨u, m, rfl, hI, Ext.refl _, hu, Frame.refl _, den_renLevel_nil hI.wf.toWF hV hu⟩
  | cons x xs =>
    rw [letOp_names _ (by simp)]
    exact rename_spec m hI hoff hV u hu _ hd

/-- C04 (variables that are not keys are untouched): the overridden / substituted assignment
agrees with the given one at every level that is not a key -/
theorem C04_untouched_levels (a : Asg) (i : Nat) :
    (∀ values : List (Nat × Bool), values.lookup i = none → ovr values a i = a i) ∧
    (∀ (t : Tbl) (sub : List (Nat × Int)), sub.lookup i = none → vsub t sub a i = a i) := by
  constructor
  · intro values h; simp [ovr, h]
  · intro t sub h; simp [vsub, h]

/-- C04 (the operand itself is unchanged): after any operation that only adds nodes — every
operation of this file — `u` is still a reference of the manager and denotes what it did -/
theorem C04_operand_unchanged (m m' : Mgr) (hI : Inv m) (he : Ext m.tbl m'.tbl) (u : Int)
    (hu : m.tbl.Mem u) :
    m'.tbl.Mem u ∧ m'.tbl.levelOf u = m.tbl.levelOf u ∧ ∀ a, den m'.tbl u a = den m.tbl u a :=
  ⟨he.mem hu, he.levelOf hu, fun a => den_ext he hI.wf.toWF u a hu⟩

/-- non-vacuity: a manager with the variable `x`, its node `u` (a non-constant function), a
non-empty dictionary of each of the three kinds meeting the hypotheses above; the substitution
`x := TRUE` really changes the value at the all-false assignment -/
example : ∃ (m : Mgr) (u : Int), Inv m ∧ m.lastLen = none ∧ VarsBij m.tbl ∧ m.tbl.Mem u ∧
    mapToLevelE m.tbl ([(Key.name "x", true)].map (·.1)) = .ok [0] ∧
    (∀ p, p ∈ [("x", u)] → m.tbl.vars.contains p.1 = true ∧ m.tbl.Mem p.2) ∧
    (∀ p, p ∈ [("x", "x")] → m.tbl.vars.contains p.2 = true) ∧
    den m.tbl u (fun _ => false) ≠ den m.tbl u (ovr [(0, true)] (fun _ => false)) := by
  obtain ⟨m, u, hI, hoff, hV, hu, hx, _, hd, _⟩ := witness
  have hc : m.tbl.vars.contains "x" = true := (vars_contains_iff _ _).mpr ⟨0, hx⟩
  refine ⟨m, u, hI, hoff, hV, hu, ?_, ?_, ?_, ?_⟩
  · have := mapToLevelE_names m.tbl ["x"] (by intro s hs; simp at hs; subst hs; exact hc)
    simpa [lvlOf, hx] using this
  · intro p hp; simp at hp; subst hp; exact ⟨hc, hu⟩
  · intro p hp; simp at hp; subst hp; exact hc
  · rw [hd, hd]; simp [ovr, List.lookup]

/-! ### non-vacuity on a USED manager

`usedM` (DDProofs.UsedExample): levels 0..3 = c, a, d, b; thirteen nodes; `f` = node 13 =
`ite(c ≡ d, a ∧ b, ¬b)`, 4 = `a ∧ b`, 14 = `a ∨ d`; hypotheses from the reachability theorem
(`usedM_good`, `usedM_varsBij`).  The substituted variables `a`, `d` are IN THE MIDDLE of the
order, the operand and the substituted functions are complemented and have different supports.
The kernel cannot run the `HashMap` memos of `_cofactor` / `_compose` / `_copy_bdd`, so each TABLE
of a result (rows c a d b) is derived from the theorem's conclusion and then computed by the
kernel from the tables of the operands. -/

private theorem usedM_decl (l : List String)
    (h : l.all (fun s => usedM.tbl.vars.contains s) = true) :
    ∀ s, s ∈ l → usedM.tbl.vars.contains s = true := fun s hs => List.all_eq_true.mp h s hs

/-- the four names are declared; the facts about the state in one statement, since the kernel
evaluates a closed term once per declaration -/
private theorem usedM_names (l : List String) (h : l.all (["a", "b", "c", "d"].contains ·) = true) :
    l.all (fun s => usedM.tbl.vars.contains s) = true :=
  List.all_eq_true.mpr fun s hs => List.all_eq_true.mp
    (by decide +kernel : ["a", "b", "c", "d"].all (fun s => usedM.tbl.vars.contains s) = true) s
    (List.contains_iff_mem.mp (List.all_eq_true.mp h s hs))

/-- `cofactor(¬f, {a: True, d: False})` by names and `cofactor(f, {2: True, 1: False, 2: False})`
by levels (a later duplicate wins); `let` with Boolean values.  (`#eval`: the answers are the NEW nodes 15 and −15.) -/
example :
    (∃ r m', cofactor (-13) ([("a", true), ("d", false)].map fun p => (Key.name p.1, p.2)) usedM
        = (.ok r, m') ∧ Inv m' ∧ Ext usedM.tbl m'.tbl ∧ m'.tbl.Mem r ∧ Frame usedM m' ∧
      tt4 m'.tbl r = rows4.map (fun a => den usedM.tbl (-13) (upd (upd a 1 true) 2 false)) ∧
      tt4 m'.tbl r = [true, false, true, false, true, false, true, false,
                      false, true, false, true, false, true, false, true]) ∧
    (∃ r m', letOp (.bools [(.lvl 2, true), (.lvl 1, false), (.lvl 2, false)]) 13 usedM
        = (.ok r, m') ∧ Inv m' ∧ Frame usedM m' ∧
      tt4 m'.tbl r = rows4.map (fun a => den usedM.tbl 13 (upd (upd a 1 false) 2 false))) := by
  constructor
  · obtain ⟨r, m', he, hI, hx, hm, hf, h⟩ := C04_cofactor_names usedM usedM_good.inv usedM_good.off
      (-13) (usedM_mem (by decide)) [("a", true), ("d", false)] (by
        intro p hp
        exact usedM_decl ["a", "d"] (usedM_names _ (by decide)) p.1 (List.mem_map.mpr ⟨p, hp, rfl⟩))
    refine ⟨r, m', he, hI, hx, hm, hf, ?_⟩
    rw [tt4_of_den h]
    decide +kernel
  · obtain ⟨r, m', he, hI, -, -, hf, h⟩ := C04_let_bools usedM usedM_good.inv usedM_good.off 13
      (usedM_mem (by decide)) [(.lvl 2, true), (.lvl 1, false), (.lvl 2, false)] [2, 1, 2]
      (mapToLevelE_levels usedM.tbl [2, 1, 2] (by decide +kernel))
    exact ⟨r, m', he, hI, hf, (tt4_of_den h).trans (by decide +kernel)⟩

/-- `compose(f, {d: ¬(a ∧ b), a: a ∨ d})` — SIMULTANEOUS substitution for the two middle
variables of functions that mention the substituted variables themselves — and the one-variable
path `compose(¬f, {d: ¬(a ∧ b)})`; `let` with references.  The tables are those of `f` read at
the substituted values.  (`#eval`: the answers are −18, 16, −18 — new nodes.) -/
example :
    (∃ r m', compose 13 [("d", -4), ("a", 14)] usedM = (.ok r, m') ∧ Inv m' ∧
      Ext usedM.tbl m'.tbl ∧ m'.tbl.Mem r ∧ Frame usedM m' ∧
      tt4 m'.tbl r = rows4.map (fun a =>
        den usedM.tbl 13 (upd (upd a 1 (den usedM.tbl 14 a)) 2 (den usedM.tbl (-4) a)))) ∧
    (∃ r m', compose (-13) [("d", -4)] usedM = (.ok r, m') ∧ Inv m' ∧
      tt4 m'.tbl r = rows4.map (fun a => den usedM.tbl (-13) (upd a 2 (den usedM.tbl (-4) a))) ∧
      tt4 m'.tbl r ≠ tt4 usedM.tbl (-13)) ∧
    (∃ r m', letOp (.refs [("d", -4), ("a", 14)]) 13 usedM = (.ok r, m') ∧ Inv m' ∧
      tt4 m'.tbl r = rows4.map (fun a =>
        den usedM.tbl 13 (upd (upd a 1 (den usedM.tbl 14 a)) 2 (den usedM.tbl (-4) a)))) := by
  have hd : ∀ p, p ∈ [("d", (-4 : Int)), ("a", 14)] → usedM.tbl.vars.contains p.1 = true := by
    intro p hp
    exact usedM_decl ["d", "a"] (usedM_names _ (by decide)) p.1 (List.mem_map.mpr ⟨p, hp, rfl⟩)
  have hm : ∀ p, p ∈ [("d", (-4 : Int)), ("a", 14)] → usedM.tbl.Mem p.2 :=
    List.forall_mem_cons.mpr ⟨usedM_mem (by decide), List.forall_mem_singleton.mpr (usedM_mem (by decide))⟩
  obtain ⟨r, m', he, hI, hx, hmr, hf, h⟩ := C04_compose usedM usedM_good.inv usedM_good.off 13
    (usedM_mem (by decide)) _ hd hm
  have ht : tt4 m'.tbl r = rows4.map (fun a =>
      den usedM.tbl 13 (upd (upd a 1 (den usedM.tbl 14 a)) 2 (den usedM.tbl (-4) a))) :=
    (tt4_of_den h).trans (by decide +kernel)
  -- `let` with references is `compose`
  refine ⟨⟨r, m', he, hI, hx, hmr, hf, ht⟩, ?_,
    ⟨r, m', by rw [letOp_refs _ (by simp)]; exact he, hI, ht⟩⟩
  · clear he h ht
    obtain ⟨r, m', he, hI, -, -, -, h⟩ := C04_compose_single usedM usedM_good.inv usedM_good.off
      (-13) (-4) (usedM_mem (by decide)) (usedM_mem (by decide)) "d" 2
      (TreeMap.mem_toList_iff_getElem?_eq_some.mp (by rw [usedM_shape.1]; decide))
    refine ⟨r, m', he, hI, ?_⟩
    rw [tt4_of_den h]
    decide +kernel

/-- `rename(¬f, {a: d, d: a})` — the SWAP of the two middle variables — and the non-injective
`let(f, {a: 'b'})`: each row of the result's table is the row of the operand with the levels
exchanged / merged.  (`#eval`: the answers are −21 and 15 — new nodes.) -/
example :
    (∃ r m', rename (-13) [("a", "d"), ("d", "a")] usedM = (.ok r, m') ∧ Inv m' ∧
      Ext usedM.tbl m'.tbl ∧ m'.tbl.Mem r ∧ Frame usedM m' ∧
      tt4 m'.tbl r = rows4.map (fun a => den usedM.tbl (-13) (upd (upd a 1 (a 2)) 2 (a 1))) ∧
      tt4 m'.tbl r ≠ tt4 usedM.tbl (-13)) ∧
    (∃ r m', letOp (.names [("a", "b")]) 13 usedM = (.ok r, m') ∧ Inv m' ∧
      tt4 m'.tbl r = rows4.map (fun a => den usedM.tbl 13 (upd a 1 (a 3)))) := by
  constructor
  · obtain ⟨r, m', he, hI, hx, hm, hf, h⟩ := C04_rename usedM usedM_good.inv usedM_good.off
      usedM_varsBij (-13) (usedM_mem (by decide)) [("a", "d"), ("d", "a")] (by
        intro p hp
        exact usedM_decl ["d", "a"] (usedM_names _ (by decide)) p.2 (List.mem_map.mpr ⟨p, hp, rfl⟩))
    refine ⟨r, m', he, hI, hx, hm, hf, ?_⟩
    rw [tt4_of_den h]
    decide +kernel
  · obtain ⟨r, m', he, hI, -, -, -, h⟩ := C04_let_names usedM usedM_good.inv usedM_good.off
      usedM_varsBij 13 (usedM_mem (by decide)) [("a", "b")] (by
        intro p hp
        exact usedM_decl ["b"] (usedM_names _ (by decide)) p.2 (List.mem_map.mpr ⟨p, hp, rfl⟩))
    exact ⟨r, m', he, hI, (tt4_of_den h).trans (by decide +kernel)⟩

end DD
