/-
  DDProps.C05 — `add_expr` reads formulas with the documented precedence,
  associativity and spellings; `to_expr` round trip.

  The theorems are about the model parser of `DD/Parse.lean` (tokenizer + Pratt
  parser parametrised by the tables regenerated from `dd/_parser.py`); the PLY-generated
  LALR(1) parser of the real code is tied to it by the correspondence check
  (`harness/checks_parse.py`), not by proof.
-/
import DDProofs.DynExpr
import DDProofs.ToExprProofs
import DDProofs.Reach
import DDProofs.Witness
open Std
namespace DD

/-- the precedence list of `Parser.__init__` is the documented one (low to high), and every
binary level is left associative -/
theorem C05_precTable_eq_documented :
    Gen.precedence.map (·.2) = docPrecedence ∧
    (Gen.precedence.all fun r => r.2 == "NOT" || r.2 == "UMINUS" || r.1 == Assoc.left) = true := by
  decide +kernel

/-- spellings per precedence level as listed in `doc.md` ("The token precedence (lowest to
highest) and associativity is") -/
def docPrecSpellings : List (List String) :=
  [[":"], ["<=>", "<->"], ["=>", "->"], ["-"], ["#", "^"], ["\\/", "|"], ["/\\", "&"], ["="], ["~", "!"]]

def spellingPrec (s : String) : Option Nat :=
  (Gen.spellings.find? (·.1 == s)).bind fun r => precIdxIn Gen.precedence r.2.1

def zipIdxFrom : Nat → List α → List (α × Nat)
  | _, [] => []
  | i, a :: l => (a, i) :: zipIdxFrom (i + 1) l

/-- every documented spelling sits at its documented level -/
theorem C05_precedence_of_spellings :
    ((zipIdxFrom 0 docPrecSpellings).all fun r => r.1.all fun s => spellingPrec s == some r.2) = true := by
  decide +kernel

/-- all spellings of one operator produce the same token: a spelling lexes to exactly the
token of its row `(type, canonical value)`; the canonical value that reaches `BDD.apply`
stands for the same documented connective as the spelling itself; two rows of one token type
stand for the same connective -/
theorem C05_spellings_same :
    (Gen.spellings.all fun r =>
      (tokOfRow r.2.1 r.2.2).isSome && tokenize r.1 == (tokOfRow r.2.1 r.2.2).toList &&
      docConn r.1 == docConn r.2.2 &&
      Gen.spellings.all fun r' => r.2.1 != r'.2.1 || docConn r.2.2 == docConn r'.2.2) = true := by
  decide +kernel

/-- the binary operator tokens carry the type and value of their row, and the value is
accepted by `apply` with the documented connective (`=` has none) -/
theorem C05_binop_values :
    (BinOp.all.all fun o =>
      tokOfRow o.type o.value == some (.op o) &&
      (o == .equals || (docConn o.value).isSome) &&
      Gen.spellings.any fun r => r.2.1 == o.type && r.2.2 == o.value) = true := by
  decide +kernel

def idxOf (x : String) : List String → Option Nat
  | [] => none
  | y :: l => if x = y then some 0 else (idxOf x l).map (· + 1)

def rowIdx (sp : String) : List (String × String × String) → Option Nat
  | [] => none
  | r :: l => if r.1 = sp then some 0 else (rowIdx sp l).map (· + 1)

/-- the tokenizer's longest match is PLY's first match: whenever one spelling is a proper
prefix of another, the rule of the longer one is tried first by the master regular expression
(or both are alternatives of one rule, the longer one first); NAME is the first rule; the
comment rules come before `(`; ignored characters; the remaining token rules are the regular
expressions the tokenizer implements; reserved words map to the three keyword tokens -/
theorem C05_lexer_rules :
    (Gen.spellings.all fun r1 => Gen.spellings.all fun r2 =>
      !(r1.1 != r2.1 && isPrefixChars r1.1.toList r2.1.toList) ||
      (match idxOf r2.2.1 Gen.lexRuleOrder, idxOf r1.2.1 Gen.lexRuleOrder,
          rowIdx r2.1 Gen.spellings, rowIdx r1.1 Gen.spellings with
        | some i2, some i1, some k2, some k1 => i2 < i1 || (i2 == i1 && k2 < k1)
        | _, _, _, _ => false)) = true ∧
    Gen.lexRuleOrder.head? = some "NAME" ∧
    (Gen.spellings.all fun r => (idxOf r.2.1 Gen.lexRuleOrder).isSome) = true ∧
    (match idxOf "doubly_delimited_comment" Gen.lexRuleOrder, idxOf "trailing_comment" Gen.lexRuleOrder,
        idxOf "LPAREN" Gen.lexRuleOrder, idxOf "NUMBER" Gen.lexRuleOrder with
      | some c2, some c1, some lp, some _ => c2 < lp && c1 < lp
      | _, _, _, _ => false) = true ∧
    Gen.lexIgnore = " \t" ∧
    Gen.otherTokens = [("NAME", "[A-Za-z_][A-Za-z0-9_']*"), ("NUMBER", "\\d+"),
      ("doubly_delimited_comment", "\\(\\*[\\s\\S]*?\\*\\)"), ("error", ""), ("ignore", ""),
      ("newline", "\\n+"), ("trailing_comment", "\\\\\\*.*")] ∧
    (Gen.reserved.all fun r => r.2 == "ITE" || r.2 == "TRUE" || r.2 == "FALSE") = true := by
  decide +kernel

/-- the productions the Pratt parser implements -/
def modelProductions : List (String × String) :=
  [("p_binary", "expr : expr AND expr | expr OR expr | expr XOR expr | expr IMPLIES expr | expr EQUIV expr | expr EQUALS expr | expr MINUS expr"),
   ("p_bool", "expr : TRUE | FALSE"),
   ("p_name", "name : NAME"),
   ("p_names_end", "names : name"),
   ("p_names_iter", "names : names COMMA name"),
   ("p_negative_number", "number : MINUS NUMBER %prec UMINUS"),
   ("p_node", "expr : AT number"),
   ("p_number", "number : NUMBER"),
   ("p_paren", "expr : LPAREN expr RPAREN"),
   ("p_quantifier", "expr : EXISTS names COLON expr | FORALL names COLON expr"),
   ("p_rename", "expr : RENAME subs COLON expr"),
   ("p_substitution", "sub : name DIV name"),
   ("p_substitutions_end", "subs : sub"),
   ("p_substitutions_iter", "subs : subs COMMA sub"),
   ("p_ternary_conditional", "expr : ITE LPAREN expr COMMA expr COMMA expr RPAREN"),
   ("p_unary", "expr : NOT expr"),
   ("p_var", "expr : name")]

/-- the grammar of the current source is the grammar the model was written for -/
theorem C05_productions_covered : Gen.productions = modelProductions := rfl

/-- printing a syntax tree with parentheses exactly where precedence and left
associativity require them, and parsing the tokens, gives the tree back: every formula
is read with the precedence of the table -/
theorem C05_parse_printMin (t : Ast) (h : t.WF) : parse (printMin t) = some t :=
  parse_printG _ t h

/-- redundant parentheses are harmless (every sub-formula parenthesised) -/
theorem C05_parse_printFull (t : Ast) (h : t.WF) : parse (printFull t) = some t :=
  parse_printG _ t h

/-- any choice `ex` of additional parentheses is harmless -/
theorem C05_parse_redundant (ex : Ast → Bool) (t : Ast) (h : t.WF) : parse (printG ex t) = some t :=
  parse_printG ex t h

/-- non-vacuity: a well-formed tree with every construct; its minimal print needs two pairs of parentheses -/
def exampleAst : Ast :=
  .quant true ["x", "y"] (.bin .implies (.bin .or (.var "a") (.bin .and (.not (.var "b")) (.num true "3")))
    (.subst [("p", "q")] (.ite (.bool true) (.bin .minus (.bin .minus (.var "a") (.var "b")) (.bin .equiv (.var "c") (.var "d")))
      (.bool false))))

example : exampleAst.WF := by simp [exampleAst, Ast.WF]
example : printMin exampleAst =
    [.forall_, .name "x", .comma, .name "y", .colon, .name "a", .op .or, .not, .name "b", .op .and,
     .at, .op .minus, .number "3", .op .implies, .lparen, .rename, .name "p", .div, .name "q", .colon,
     .ite, .lparen, .tt, .comma, .name "a", .op .minus, .name "b", .op .minus,
     .lparen, .name "c", .op .equiv, .name "d", .rparen, .comma, .ff, .rparen, .rparen] := by decide +kernel
example : parse (printMin exampleAst) = some exampleAst := by decide +kernel
example : parse (printFull exampleAst) = some exampleAst := by decide +kernel

/-- precedence of every operator pair: the operator lower in the table is the root,
whichever comes first -/
theorem C05_precedence_pairs (o1 o2 : BinOp) (a b c : String) (h : o1.prec < o2.prec) :
    parse [.name a, .op o1, .name b, .op o2, .name c] =
      some (.bin o1 (.var a) (.bin o2 (.var b) (.var c))) ∧
    parse [.name a, .op o2, .name b, .op o1, .name c] =
      some (.bin o1 (.bin o2 (.var a) (.var b)) (.var c)) :=
  ⟨Pr.parse_eq (.bin (Nat.zero_le _) (Nat.zero_le _) (.atom (.name a))
      (.bin h (Nat.zero_le _) (.atom (.name b)) (.atom (.name c)))),
   Pr.parse_eq (.bin (Nat.zero_le _) (Nat.zero_le _)
      (.bin (Nat.zero_le _) (Nat.succ_le_succ (Nat.le_of_lt h)) (.atom (.name a)) (.atom (.name b)))
      (.atom (.name c)))⟩

/-- the parentheses `printMin` writes are needed: without them the other tree is read -/
theorem C05_parens_required (o1 o2 : BinOp) (a b c : String) (h : o1.prec < o2.prec) :
    printMin (.bin o2 (.var a) (.bin o1 (.var b) (.var c))) =
      [.name a, .op o2, .lparen, .name b, .op o1, .name c, .rparen] ∧
    parse [.name a, .op o2, .name b, .op o1, .name c] ≠
      some (.bin o2 (.var a) (.bin o1 (.var b) (.var c))) := by
  constructor
  · have hn := binop_prec_lt_not o2
    have e1 : o1.prec < o2.prec + 1 := by omega
    have e2 : ¬ (notPrec + 2 < o2.prec) := by omega
    have e3 : ¬ (notPrec + 2 < o1.prec) := by omega
    have e4 : ¬ (notPrec + 2 < o1.prec + 1) := by omega
    simp [printMin, printG, printRaw, paren, Ast.lvl, e1, e2, e3, e4]
  · rw [(C05_precedence_pairs o1 o2 a b c h).2]
    simp

/-- left associativity, also between different operators of one level (`#` and `^`) -/
theorem C05_left_assoc (o1 o2 : BinOp) (a b c : String) (h : o1.prec = o2.prec) :
    parse [.name a, .op o1, .name b, .op o2, .name c] =
      some (.bin o2 (.bin o1 (.var a) (.var b)) (.var c)) :=
  Pr.parse_eq (.bin (Nat.zero_le _) (Nat.zero_le _)
    (.bin (Nat.zero_le _) (Nat.le_of_eq (congrArg (· + 1) h.symm)) (.atom (.name a)) (.atom (.name b)))
    (.atom (.name c)))

/-- negation binds tighter than every binary operator -/
theorem C05_not_binds_tighter (o : BinOp) (a b : String) :
    parse [.not, .name a, .op o, .name b] = some (.bin o (.not (.var a)) (.var b)) ∧
    parse [.name a, .op o, .not, .name b] = some (.bin o (.var a) (.not (.var b))) :=
  ⟨Pr.parse_eq (.bin (tl := [.not, .name a]) (Nat.zero_le _) (Nat.zero_le _) (.not (.atom (.name a)))
      (.atom (.name b))),
   Pr.parse_eq (.bin (Nat.zero_le _) (Nat.zero_le _) (.atom (.name a)) (.not (.atom (.name b))))⟩

example : (BinOp.and).prec < (BinOp.equals).prec ∧ (BinOp.or).prec < (BinOp.and).prec ∧
    (BinOp.xorHash).prec = (BinOp.xorCaret).prec := by decide +kernel

/-- the body of `\A`, `\E`, `\S` extends as far to the right as possible: whatever
(minimally printed) formula follows the colon is the body, no parentheses needed -/
theorem C05_binder_extends (fa : Bool) (ns : List String) (ss : List (String × String)) (e : Ast)
    (hns : ns ≠ []) (hss : ss ≠ []) (he : e.WF) :
    parse ((if fa then Tok.forall_ else .exists_) :: (printNames ns ++ printMin e)) = some (.quant fa ns e) ∧
    parse (Tok.rename :: (printSubs ss ++ printMin e)) = some (.subst ss e) := by
  have h1 := C05_parse_printMin (.quant fa ns e) ⟨hns, he⟩
  have h2 := C05_parse_printMin (.subst ss e) ⟨hss, he⟩
  simp [printMin, printG, printRaw, paren] at h1 h2 ⊢
  exact ⟨h1, h2⟩

/-- … also when the binder is the right operand of a binary operator: it takes everything to its
right, `l op \A ns : e` is `l op (\A ns : e)` whatever operators `e` contains -/
theorem C05_binder_extends_rhs (l e : Ast) (o : BinOp) (fa : Bool) (ns : List String)
    (hl : l.WF) (he : e.WF) (hns : ns ≠ []) (hlvl : o.prec ≤ l.lvl) :
    parse (printMin l ++ Tok.op o :: (if fa then Tok.forall_ else .exists_) ::
      (printNames ns ++ printMin e)) = some (.bin o l (.quant fa ns e)) :=
  Pr.parse_eq (.bin (Nat.zero_le _) (Nat.zero_le _)
    (Pr_printRaw _ l hl 0 _ (fitsP_zero l) (Nat.succ_le_succ hlvl))
    (.quant (Nat.zero_le _) hns (Pr_printRaw _ e he _ 0 (fitsP_body e) (Nat.zero_le _))))

example : parse (tokenize "a & \\E x, y: b | c => d") =
    some (.bin .and (.var "a") (.quant false ["x", "y"]
      (.bin .implies (.bin .or (.var "b") (.var "c")) (.var "d")))) := by
  -- `tokenize_ofList` reads the characters off the literal; the kernel would encode and decode it
  rw [tokenize_ofList]; decide +kernel

/-- lexing the canonical text of a token string (canonical spelling of every token, one
space after each) gives the token string back -/
theorem C05_tokenize_spell (toks : List Tok) (h : ∀ t ∈ toks, t.LexWF) :
    tokenize (spell toks) = toks :=
  tokenize_spell toks h

/-- the TEXT of every formula — names that are NAME tokens and not reserved words, node
numbers in ASCII digits, parentheses where the precedence table requires them and wherever
`ex` adds redundant ones — is read back as its syntax tree -/
theorem C05_parse_text (ex : Ast → Bool) (t : Ast) (hwf : t.WF) (hlex : t.LexWF) :
    parse (tokenize (spell (printG ex t))) = some t :=
  parse_tokenize_spell ex t hwf hlex

/-- … and `add_expr` on that text is the bottom-up evaluation of the tree -/
theorem C05_addExpr_text (ex : Ast → Bool) (t : Ast) (hwf : t.WF) (hlex : t.LexWF) :
    addExpr (spell (printG ex t)) = tryToReorder (evalAst t) :=
  addExpr_parsed (parse_tokenize_spell ex t hwf hlex)

example : exampleAst.LexWF := lexOk_sound _ (by decide +kernel)
example : spell (printMin exampleAst) =
    "\\A x , y : a | ~ b & @ - 3 => ( \\S p / q : ite ( TRUE , a - b - ( c <-> d ) , FALSE ) ) " :=
  -- the characters are compared: deciding the equation of `String`s would encode both sides
  congrArg String.ofList (by decide +kernel)

/-- `add_expr` of the printed formula is the bottom-up evaluation of the tree (operands left
to right, then `apply` / `quantify` / `rename` with the canonical operator value) -/
theorem C05_addExpr_printed (ex : Ast → Bool) (t : Ast) (h : t.WF) :
    addExprToks (printG ex t) = evalAst t :=
  addExprToks_parsed (parse_printG ex t h)

/-- `@n` / `@-n` is the reference `n` with its sign when `|n|` is a node of the manager,
`ValueError` otherwise; the manager is unchanged -/
theorem C05_at_n (neg : Bool) (d : String) (m : Mgr) :
    evalAst (.num neg d) m =
      let i : Int := if neg then -(digitsToNat d : Int) else (digitsToNat d : Int)
      if m.mem i then (.ok i, m) else (.error .value, m) :=
  evalAst_num neg d m

example : (match addExpr "@2 /\\ ~ @-1" ({} : Mgr) with | (.error .value, _) => true | _ => false) = true := by
  decide +kernel
example : (match addExpr "@1 /\\ ~ @-1" ({} : Mgr) with | (.ok 1, _) => true | _ => false) = true := by
  decide +kernel

/-- C05 (meaning of a formula): in a manager that satisfies the invariant and whose order tables
`vars` / `_level_to_var` are inverse bijections (`OrderOK`, the order invariant of C14), with
reordering not enabled, for every text `s` that the front end reads as the tree `t` (`parse (tokenize s) = some t`,
i.e. with the documented precedence and associativity — `C05_parse_text`) whose names are
declared, whose `@n` name nodes of the manager and which does not use `=` (`Meaningful`):
`add_expr(s)` succeeds, keeps the invariant, only adds nodes, and the reference it returns
denotes, under every assignment of the variables by NAME, the value `evalFormula` gives to the
tree — an independent evaluator that knows nothing about diagrams: connectives by their truth
functions, `\A`/`\E` by expansion over the two values of each bound name, `\S` by simultaneous
renaming, `ite` as if-then-else, `@n` as the function of node `n`. -/
theorem C05_addExpr_spec (m : Mgr) (hI : Inv m) (hoff : m.lastLen = none) (hO : OrderOK m.tbl)
    (s : String) (t : Ast) (hp : parse (tokenize s) = some t) (hM : Meaningful m.tbl t) :
    ∃ r m', addExpr s m = (.ok r, m') ∧ Inv m' ∧ Ext m.tbl m'.tbl ∧ Frame m m' ∧ m'.tbl.Mem r ∧
      ∀ an, den m'.tbl r (asgOf m'.tbl an) = evalFormula m.tbl t an := by
  obtain ⟨r, m', he, hs, hm, hd⟩ := (addExpr_out m hI (Or.inr hoff) hO s t hp hM).off hoff
  exact ⟨r, m', he, hs.inv, hs.ext, hs.frame, hm, fun an =>
    (denN_eq_asgOf hs.inv.wf.toWF (hO.frame hs.frame) r hm an).symm.trans (hd an)⟩

/-- C05 (from the text of a tree): the canonical text of a lexically well-formed, meaningful
tree — with the parentheses the precedence table requires and any redundant ones — is given
the meaning of the tree -/
theorem C05_addExpr_text_spec (m : Mgr) (hI : Inv m) (hoff : m.lastLen = none) (hO : OrderOK m.tbl)
    (ex : Ast → Bool) (t : Ast) (hwf : t.WF) (hlex : t.LexWF) (hM : Meaningful m.tbl t) :
    ∃ r m', addExpr (spell (printG ex t)) m = (.ok r, m') ∧ Inv m' ∧ Ext m.tbl m'.tbl ∧
      m'.tbl.Mem r ∧ ∀ an, den m'.tbl r (asgOf m'.tbl an) = evalFormula m.tbl t an := by
  obtain ⟨r, m', he, hI', hx, _, hm, hd⟩ :=
    C05_addExpr_spec m hI hoff hO _ t (parse_tokenize_spell ex t hwf hlex) hM
  exact ⟨r, m', he, hI', hx, hm, hd⟩

/-- C05 (meaning, every spelling): in a manager that satisfies the invariant and `OrderOK`, with
reordering not enabled, the text of a meaningful tree under ANY admissible layout is given the
documented meaning of the tree -/
theorem C05_addExpr_any_spelling_spec (m : Mgr) (hI : Inv m) (hoff : m.lastLen = none) (hO : OrderOK m.tbl)
    (ex : Ast → Bool) (t : Ast) (hwf : t.WF) (hM : Meaningful m.tbl t) (L : Layout)
    (hL : layoutOk L (printG ex t) = true) :
    ∃ r m', addExpr (spellWith L (printG ex t)) m = (.ok r, m') ∧ Inv m' ∧ Ext m.tbl m'.tbl ∧
      m'.tbl.Mem r ∧ ∀ an, den m'.tbl r (asgOf m'.tbl an) = evalFormula m.tbl t an := by
  obtain ⟨r, m', he, hI', hx, _, hm, hd⟩ :=
    C05_addExpr_spec m hI hoff hO _ t (parse_tokenize_spellWith ex t hwf L hL) hM
  exact ⟨r, m', he, hI', hx, hm, hd⟩

/-- non-vacuity of `C05_addExpr_any_spelling_spec`: the fresh manager, a formula over constants
and the node `@1` with three operators, the layout "second spelling, no blanks" -/
def exConst : Ast := .bin .implies (.bin .and (.bool true) (.not (.bool false))) (.bin .or (.num false "1") (.bool false))

example : Inv ({} : Mgr) ∧ ({} : Mgr).lastLen = none ∧ OrderOK ({} : Mgr).tbl ∧ exConst.WF ∧
    Meaningful ({} : Mgr).tbl exConst ∧
    layoutOk { choice := fun _ => 1, gap := fun _ => [] } (printG (fun _ => false) exConst) = true ∧
    spellWith { choice := fun _ => 1, gap := fun _ => [] } (printG (fun _ => false) exConst) = "True&!False->@1|False" := by
  refine ⟨Inv.init, rfl, OrderOK.empty, by simp [exConst, Ast.WF], ?_, by decide +kernel,
    congrArg String.ofList (by decide +kernel)⟩
  have e : digitsToNat "1" = 1 := by decide
  simp only [exConst, Meaningful, e]
  exact ⟨by decide, ⟨by decide, trivial, trivial⟩, by decide, mem_one _, trivial⟩

/-- the bottom-up evaluation itself (what the translator does during the reductions) -/
theorem C05_evalAst_spec (t : Ast) (m : Mgr) (hI : Inv m) (hoff : m.lastLen = none)
    (hO : OrderOK m.tbl) (hM : Meaningful m.tbl t) :
    ∃ r m', evalAst t m = (.ok r, m') ∧ Step m m' ∧ m'.tbl.Mem r ∧
      ∀ an, den m'.tbl r (asgOf m.tbl an) = evalFormula m.tbl t an :=
  evalAst_spec t m hI hoff hO hM

/-- the semantic evaluator on the operators: the documented truth tables -/
example : evalFormula ({} : Tbl) (.bin .implies (.var "a") (.bin .xorHash (.var "b") (.not (.var "a"))))
    (fun x => x == "b") = true := by decide +kernel
example : evalFormula ({} : Tbl) (.quant false ["a"] (.bin .and (.var "a") (.var "b"))) (fun x => x == "b") = true ∧
    evalFormula ({} : Tbl) (.quant true ["a"] (.bin .and (.var "a") (.var "b"))) (fun x => x == "b") = false ∧
    evalFormula ({} : Tbl) (.subst [("b", "a")] (.var "a")) (fun x => x == "b") = true := by decide +kernel

/-- non-vacuity: a manager with the variable `x` and its node `u`, and a formula with a
quantifier, a renaming, a node reference and connectives that meets every hypothesis -/
example : ∃ (m : Mgr) (u : Int) (d : String), Inv m ∧ m.lastLen = none ∧ VarsBij m.tbl ∧
    Meaningful m.tbl (.bin .or (.quant false ["x"] (.bin .and (.var "x") (.bool true)))
      (.subst [("x", "x")] (.not (.num false d)))) := by
  obtain ⟨m, u, hI, hoff, hV, hu, hx, _, _, _⟩ := witness
  have hc : m.tbl.vars.contains "x" = true := (vars_contains_iff _ _).mpr ⟨0, hx⟩
  refine ⟨m, u, "1", hI, hoff, hV, by decide +kernel, ⟨?_, by decide +kernel, hc, trivial⟩, ?_, ?_⟩
  · intro y hy; simp at hy; subst hy; exact hc
  · intro p hp; simp at hp; subst hp; exact hc
  · have e : digitsToNat "1" = 1 := by decide +kernel
    simp only [Meaningful, e]
    exact mem_one _

/-! ## `to_expr` round trip

`dd` accepts any string as a variable name and `to_expr` prints names verbatim, so the text of
a diagram that mentions a variable called `TRUE`, `ite`, `x-y`, … is not read back as that
variable (finding F13).  That is the ONLY excluded case: the hypothesis `lexableSupport`
constrains the names of the variables in the SUPPORT of `u` (= the names that `to_expr(u)`
prints); the manager may declare other variables with any name (`witnessT`: a manager that
declares `TRUE` next to `x` round-trips `x`). -/

/-- every variable name of the manager is a NAME token and not a reserved word
(stronger than needed: see `lexableSupport`) -/
def lexableNames (tb : Tbl) : Prop :=
  ∀ (lvl : Nat) (v : String), tb.l2v[lvl]? = some v → nameOk v

theorem lexableNames.support {tb : Tbl} (h : lexableNames tb) (u : Int) : lexableSupport tb u :=
  fun _ _ lvl _ v hv => h lvl v hv

/-- the text written by `to_expr` is the text of the syntax
tree `a` that unfolds the diagram below `u` — `ite(var, high, low)`, the variable itself for
`ite(var, TRUE, FALSE)`, `(~ …)` for a complemented reference; the memo table of `_to_expr`
only shares texts — -/
theorem C05_toExpr_text (tb : Tbl) (hw : WFU tb) (u : Int) (hu : tb.Mem u)
    (hn : lexableSupport tb u) (s : String) (h : toExpr tb u = .ok s) :
    ∃ f a, toExprAstF f tb u = .ok a ∧ TE a ∧ s = teStr a :=
  toExpr_spec tb u (namesBelow_of_support hw hu hn) s h

/-- … the lexer reads that text as the tokens of `a` with parentheses around negations … -/
theorem C05_tokenize_toExpr_text (a : Ast) (h : TE a) : tokenize (teStr a) = printG isNot a :=
  tokenize_teStr h

/-- … and `add_expr` on it is the evaluation of that tree: `add_expr(to_expr(u))`
evaluates, bottom-up, the `ite(var, high, low)` unfolding of `u` -/
theorem C05_addExpr_toExpr_partial (m : Mgr) (hw : WFU m.tbl) (u : Int) (hu : m.tbl.Mem u)
    (hn : lexableSupport m.tbl u) (s : String) (h : toExpr m.tbl u = .ok s) :
    ∃ f a, toExprAstF f m.tbl u = .ok a ∧ TE a ∧ parse (tokenize s) = some a ∧
      addExpr s = tryToReorder (evalAst a) := by
  obtain ⟨f, a, ha, hte, hp⟩ := parse_toExpr m.tbl u (namesBelow_of_support hw hu hn) s h
  exact ⟨f, a, ha, hte, hp, addExpr_parsed hp⟩

/-- `add_expr(to_expr(u)) == u` -/
theorem addExpr_toExpr (m : Mgr) (hI : Inv m) (hoff : m.lastLen = none) (hO : OrderOK m.tbl)
    (u : Int) (hn : NamesBelow m.tbl u)
    (hu : m.tbl.Mem u) (s : String) (h : toExpr m.tbl u = .ok s) :
    ∃ m', addExpr s m = (.ok u, m') ∧ Step m m' := by
  obtain ⟨f, a, ha, _, hp⟩ := parse_toExpr m.tbl u hn s h
  have hM := (toExprAst_sem m.tbl hI.wf.toWF (.ofOrderOK hO) f u a ha hu).1
  obtain ⟨r, m', he, hs, hd⟩ := (addExpr_out m hI (Or.inr hoff) hO s a hp hM).off hoff
  cases toExprAst_unique hI.wf.toWF hO hs.inv.wf (hO.frame hs.frame) ha hu hd
    (hs.ext.byName hs.frame.l2v hI.wf.toWF hu)
  exact ⟨m', he, hs.step⟩

/-- the round trip for whatever text `to_expr` returned (it does return one: `toExpr_total`) -/
theorem C05_addExpr_toExpr_of_text (m : Mgr) (hI : Inv m) (hoff : m.lastLen = none)
    (hO : OrderOK m.tbl) (u : Int) (hu : m.tbl.Mem u) (hn : lexableSupport m.tbl u) (s : String)
    (h : toExpr m.tbl u = .ok s) :
    ∃ m', addExpr s m = (.ok u, m') ∧ Inv m' ∧ Ext m.tbl m'.tbl := by
  obtain ⟨m', he, hst⟩ := addExpr_toExpr m hI hoff hO u
    (namesBelow_of_support hI.wf hu hn) hu s h
  exact ⟨m', he, hst.inv, hst.ext⟩

/-- C05 (round trip): in a manager that satisfies the invariant and `OrderOK` (the order tables
are inverse bijections), with reordering not enabled, `add_expr(to_expr(u))` is `u` again, for every reference `u` of the manager (either sign) whose
SUPPORT consists of variables named by NAME tokens that are not reserved words (`lexableSupport`;
the other declared variables may have any name; F13 is exactly the excluded case); the manager
keeps its invariant and only gains nodes.  (The printed `ite(var, high, low)` unfolding denotes
the function of `u` — `toExprAst_sem` — and equal functions are equal references —
`canonical`.) -/
theorem C05_addExpr_toExpr (m : Mgr) (hI : Inv m) (hoff : m.lastLen = none) (hO : OrderOK m.tbl)
    (u : Int) (hu : m.tbl.Mem u) (hn : lexableSupport m.tbl u) :
    ∃ s m', toExpr m.tbl u = .ok s ∧ addExpr s m = (.ok u, m') ∧ Inv m' ∧ Ext m.tbl m'.tbl := by
  obtain ⟨s, hs⟩ := toExpr_total m.tbl hI.wf.toWF (VarsBij.ofOrderOK hO) u hu
  exact ⟨s, (C05_addExpr_toExpr_of_text m hI hoff hO u hu hn s hs).imp fun _ h => ⟨hs, h⟩⟩

/-- under the stronger hypothesis that every declared name is lexable -/
theorem C05_addExpr_toExpr_allNames (m : Mgr) (hI : Inv m) (hoff : m.lastLen = none)
    (hO : OrderOK m.tbl) (hn : lexableNames m.tbl) (u : Int) (hu : m.tbl.Mem u) :
    ∃ s m', toExpr m.tbl u = .ok s ∧ addExpr s m = (.ok u, m') ∧ Inv m' ∧ Ext m.tbl m'.tbl :=
  C05_addExpr_toExpr m hI hoff hO u hu (hn.support u)

/-! ### non-vacuity, exhibiting the hypothesis: a manager that declares `x` (level 0) and a
variable called `TRUE` (level 1; a reserved word, so `lexableNames` FAILS) and holds the node of
`x`, whose support is `{x}` -/

def witT : St := run [.declare "x" none, .declare "TRUE" none, .var "x"] St.init

theorem witT_node : witT.m.tbl.mem 2 = true ∧ (supportLevels witT.m.tbl 2).toOption = some [0] ∧
    witT.m.tbl.l2v[0]? = some "x" ∧ witT.m.tbl.l2v[1]? = some "TRUE" := by decide +kernel

/-- a state that meets every hypothesis of `C05_addExpr_toExpr` for the node `u` of `x`, although
the manager declares a variable (`TRUE`) whose name is not lexable -/
theorem witnessT :
    ∃ (m : Mgr) (u : Int), Inv m ∧ m.lastLen = none ∧ OrderOK m.tbl ∧ m.tbl.Mem u ∧
      u.natAbs ≠ 1 ∧ lexableSupport m.tbl u ∧ ¬ lexableNames m.tbl ∧
      m.tbl.l2v[1]? = some "TRUE" := by
  have hg : GoodState witT.m witT.ext := reachable_inv _ ⟨trivial, trivial, trivial, trivial⟩
  obtain ⟨hm, hsup, hx, hT⟩ := witT_node
  refine ⟨witT.m, 2, hg.inv, hg.off, hg.order, (Mgr.mem_iff _ _).mp hm, by decide, ?_,
    fun hall => absurd (hall 1 "TRUE" hT).2 (by decide), hT⟩
  -- the support of node 2 is level 0, named `x`
  intro ls hls lvl hlvl v hv
  rw [hls] at hsup
  cases hsup
  cases List.mem_singleton.mp hlvl
  rw [hx] at hv
  cases hv
  exact nameOk_of_check (by decide +kernel)

/-- … so the round trip holds there: `add_expr(to_expr(u)) = u` in a manager declaring `TRUE` -/
example : ∃ (m : Mgr) (u : Int) (s : String) (m' : Mgr), ¬ lexableNames m.tbl ∧ u.natAbs ≠ 1 ∧
    toExpr m.tbl u = .ok s ∧ addExpr s m = (.ok u, m') := by
  obtain ⟨m, u, hI, hoff, hO, hu, h1, hn, hnot, -⟩ := witnessT
  obtain ⟨s, m', hs, he, -, -⟩ := C05_addExpr_toExpr m hI hoff hO u hu hn
  exact ⟨m, u, s, m', hnot, h1, hs, he⟩

/-- non-vacuity: a table with one variable and one node; a tree of the image of `to_expr` -/
def exTblC05 : Tbl :=
  { succ := ({} : TreeMap Nat Nd).insert 2 ⟨0, -1, 1⟩,
    vars := ({} : TreeMap String Nat).insert "a" 0,
    l2v := ({} : TreeMap Nat String).insert 0 "a" }
example : (match toExprAstF 3 exTblC05 (-2) with | .ok a => a == .not (.var "a") | _ => false) = true := by
  decide +kernel
def exTe : Ast := .not (.ite (.var "a") (.bool true) (.not (.var "b'")))
example : TE exTe :=
  have h : nameCheck "a" = true ∧ nameCheck "b'" = true := by decide +kernel
  .neg _ (.ite _ _ _ (nameOk_of_check h.1) .tt (.neg _ (.var _ (nameOk_of_check h.2))))
example : teStr exTe = "(~ ite(a, TRUE, (~ b')))" := by decide +kernel
example : parse (tokenize "(~ ite(a, TRUE, (~ b')))") = some exTe := by
  rw [tokenize_ofList]; decide +kernel

end DD
