/-
  DDProps.C05Auto — the `add_expr` / `to_expr` round trip over `dd.autoref`
  (`autoref.BDD.to_expr(f)` = `aToExpr`, `autoref.BDD.add_expr(text)` = `aAddExpr` of
  `DD/ApiAuto.lean`: the core call wrapped into a new `Function`), with dynamic reordering
  switched off or ENABLED (`off = false`: the decorated `add_expr` may sift at any
  `find_or_add` of any nested operation; the node of a live `Function` keeps its number and
  its meaning, so the comparison `bdd.add_expr(bdd.to_expr(f)) == f` is between node numbers
  of the state after the call).
-/
import DDProofs.ToExprProofs
import DDProofs.ApiAutoProofs
import DDProofs.AutoValues2
import DDProps.C08Values2
open Std
namespace DD

variable {off : Bool}

/-- C05 over autoref (round trip): for a live `Function` `ju` on the node `u` whose support
consists of variables named by NAME tokens that are not reserved words (`lexableSupport`; F13 is
the excluded case), `s = bdd.to_expr(f)` succeeds without changing anything and
`g = bdd.add_expr(s)` returns a NEW `Function` `h` ON THE SAME NODE `u` (`g == f`); the
invariant of the wrapper (count equation included) holds after the call, no other `Function`
is touched, and every live `Function` keeps its meaning by name.  Both with reordering off
(`off = true`) and enabled (`off = false`; then with two declared variables, `Two`: with fewer a
fired request ends in the `ValueError` of sifting, an outcome of `C08_ops_dyn_total`). -/
theorem C05_autoref_addExpr_toExpr (a : AMgr) (hi : AInv off a) (ht : Two off a) (ju h : Nat) (u : Int)
    (hu : a.handles[ju]? = some u) (hf : a.handles.contains h = false)
    (hn : lexableSupport a.m.tbl u) :
    ∃ s a', aToExpr ju a = (.ok s, a) ∧ aAddExpr s h a = (.ok u, a') ∧
      a'.handles[h]? = some u ∧ a'.handles[ju]? = some u ∧ AInv off a' ∧
      (∀ j : Nat, j ≠ h → a'.handles[j]? = a.handles[j]?) ∧
      (∀ (j : Nat) (w : Int), a.handles[j]? = some w →
        a'.m.tbl.Mem w ∧ ∀ σ, denN a'.m.tbl w σ = denN a.m.tbl w σ) := by
  have hmem : a.m.tbl.Mem u := hi.hmem ju u hu
  have hV := VarsBij.ofOrderOK hi.order
  obtain ⟨s, hs⟩ := toExpr_total a.m.tbl hi.inv.wf.toWF hV u hmem
  obtain ⟨f, t, ha, hte, hp⟩ := parse_toExpr a.m.tbl u (namesBelow_of_support hi.inv.wf hmem hn) s hs
  have hM := (toExprAst_sem a.m.tbl hi.inv.wf.toWF hV f u t ha hmem).1
  -- the tree that `to_expr` prints has no `@n`
  have hat : ∀ w ∈ t.atNodes, ∃ j : Nat, a.handles[j]? = some w := by
    intro w hw
    rw [TE_atNodes hte] at hw
    cases hw
  obtain ⟨r, a', he, hr, hdoc, hi', hoth, hkeep⟩ := aAddExpr_value a hi ht s t h hf hp hM hat
  cases toExprAst_unique hi.inv.wf.toWF hi.order hi'.inv.wf hi'.order ha hmem hdoc (hkeep ju u hu)
  have hjh : ju ≠ h := by
    intro e; subst e
    rw [TreeMap.contains_eq_isSome_getElem?, hu] at hf
    cases hf
  refine ⟨s, a', ?_, he, hr, ?_, hi', hoth, hkeep⟩
  · rw [aToExpr_eval a hi ju u hu, hs]
  · rw [hoth ju hjh]; exact hu

/-! ### non-vacuity: the states `nvA4` (reordering off) and `nvD` (reordering enabled) of C08 —
variables `a b c`, the `Function` 2 on the node −4 = `a xor b` (a complemented reference with two
levels in its support) -/

theorem lexableSupport_of_check {tb : Tbl} (h : (tb.l2v.toList.all fun p => nameCheck p.2) = true)
    (u : Int) : lexableSupport tb u := by
  intro _ _ lvl _ v hv
  have hm : (lvl, v) ∈ tb.l2v.toList := TreeMap.mem_toList_iff_getElem?_eq_some.mpr hv
  exact nameOk_of_check (List.all_eq_true.mp h (lvl, v) hm)

theorem abc_nameCheck : ([((0 : Nat), "a"), (1, "b"), (2, "c")].all fun p => nameCheck p.2) = true := by
  decide +kernel

example : ∃ s a', aToExpr 2 nvA4 = (.ok s, nvA4) ∧ aAddExpr s 3 nvA4 = (.ok (-4), a') ∧
    a'.handles[(3 : Nat)]? = some (-4) ∧ AInv true a' := by
  obtain ⟨s, a', h1, h2, h3, -, h5, -⟩ := C05_autoref_addExpr_toExpr nvA4 nvA4_inv nvA4_two 2 3 (-4) nvA4_h2
    nvA4_f3 (lexableSupport_of_check (nvA4_facts.2.2.2.1 ▸ abc_nameCheck) _)
  exact ⟨s, a', h1, h2, h3, h5⟩

example : ∃ s a', aToExpr 2 nvD = (.ok s, nvD) ∧ aAddExpr s 3 nvD = (.ok (-4), a') ∧
    a'.handles[(3 : Nat)]? = some (-4) ∧ AInv false a' := by
  obtain ⟨s, a', h1, h2, h3, -, h5, -⟩ := C05_autoref_addExpr_toExpr nvD nvD_inv nvD_two 2 3 (-4) nvD_h2
    nvD_f3 (lexableSupport_of_check (nvD_facts.2.2.2.2.2.2.2 ▸ abc_nameCheck) _)
  exact ⟨s, a', h1, h2, h3, h5⟩

end DD
