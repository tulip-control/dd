/-
  DDProps.C05Grammar — the Pratt model of `dd._parser` is SOUND for the grammar of the source:
  whatever tree `parse` returns for a token string, the productions of `dd/_parser.py`
  (regenerated table `Gen.grammar`, one entry per alternative of `Gen.productions`) derive that
  string from `expr` with that tree as the value of the semantic actions.

  So "LALR ↔ model" is not by test only in this direction: the model never invents a
  reading the grammar does not have.  What remains tied by the correspondence check is the
  CHOICE among the derivations of an ambiguous string (the LALR tables with the precedence
  declarations vs. the binding powers of the model; for the model: `C05_parse_printMin/Top`,
  `C05_precedence_pairs`, `C05_left_assoc`) and the rejection of strings outside the grammar.
-/
import DDProofs.ParseGrammar
import DDProps.C05
open Std
namespace DD

/-- the alternatives of the grammar the relation `Derives` has a constructor for -/
def modelGrammar : List (String × String × List String) :=
  [("p_binary", "expr", ["expr", "AND", "expr"]), ("p_binary", "expr", ["expr", "OR", "expr"]),
   ("p_binary", "expr", ["expr", "XOR", "expr"]), ("p_binary", "expr", ["expr", "IMPLIES", "expr"]),
   ("p_binary", "expr", ["expr", "EQUIV", "expr"]), ("p_binary", "expr", ["expr", "EQUALS", "expr"]),
   ("p_binary", "expr", ["expr", "MINUS", "expr"]), ("p_bool", "expr", ["TRUE"]), ("p_bool", "expr", ["FALSE"]),
   ("p_name", "name", ["NAME"]), ("p_names_end", "names", ["name"]),
   ("p_names_iter", "names", ["names", "COMMA", "name"]), ("p_negative_number", "number", ["MINUS", "NUMBER"]),
   ("p_node", "expr", ["AT", "number"]), ("p_number", "number", ["NUMBER"]),
   ("p_paren", "expr", ["LPAREN", "expr", "RPAREN"]), ("p_quantifier", "expr", ["EXISTS", "names", "COLON", "expr"]),
   ("p_quantifier", "expr", ["FORALL", "names", "COLON", "expr"]),
   ("p_rename", "expr", ["RENAME", "subs", "COLON", "expr"]), ("p_substitution", "sub", ["name", "DIV", "name"]),
   ("p_substitutions_end", "subs", ["sub"]), ("p_substitutions_iter", "subs", ["subs", "COMMA", "sub"]),
   ("p_ternary_conditional", "expr", ["ITE", "LPAREN", "expr", "COMMA", "expr", "COMMA", "expr", "RPAREN"]),
   ("p_unary", "expr", ["NOT", "expr"]), ("p_var", "expr", ["name"])]

/-- the alternatives of the current source are exactly those (a new or changed production breaks
this obligation; a removed one also breaks `derives_generic`), every alternative has a semantic
action in `act` under its function name, and the table lists the functions of `Gen.productions` -/
theorem C05_grammar_covered :
    Gen.grammar = modelGrammar ∧
    (Gen.grammar.all fun r => Gen.productions.any fun q => q.1 == r.1) = true ∧
    (Gen.productions.all fun q => Gen.grammar.any fun r => q.1 == r.1) = true :=
  ⟨rfl, by decide +kernel, by decide +kernel⟩

/-- C05 (soundness for the grammar, inductive form): a tree the model returns for a token string
is derived for that string by the productions (`Derives`: one constructor per alternative, no
precedence) -/
theorem C05_parse_sound (toks : List Tok) (t : Ast) (h : parse toks = some t) : Derives toks t :=
  parse_sound toks t h

/-- C05 (soundness for the REGENERATED grammar): … and by a parse tree over `Gen.grammar` whose
value under the semantic actions of the `p_*` functions is `t` -/
theorem C05_parse_sound_grammar (toks : List Tok) (t : Ast) (h : parse toks = some t) :
    GDerives toks t :=
  parse_sound_generic toks t h

/-- from text: what `add_expr` evaluates is a tree the grammar derives for the token string of
the text -/
theorem C05_addExpr_tree_derived (s : String) (t : Ast) (h : parse (tokenize s) = some t) :
    GDerives (tokenize s) t ∧ addExpr s = tryToReorder (evalAst t) :=
  ⟨parse_sound_generic _ _ h, addExpr_parsed h⟩

/-- every well-formed tree has a derivation of each of its printed forms -/
theorem C05_printed_derived (ex : Ast → Bool) (t : Ast) (h : t.WF) : Derives (printG ex t) t :=
  parse_sound _ _ (parse_printG ex t h)

/-- non-vacuity: the example formula of `DDProps/C05.lean` (every construct) -/
example : Derives (printMin exampleAst) exampleAst :=
  C05_parse_sound _ _ (by decide +kernel)

example : GDerives (tokenize "a & \\E x, y: b | c => d")
    (.bin .and (.var "a") (.quant false ["x", "y"]
      (.bin .implies (.bin .or (.var "b") (.var "c")) (.var "d")))) :=
  C05_parse_sound_grammar _ _ (by rw [tokenize_ofList]; decide +kernel)

/-- the relation is the AMBIGUOUS grammar: `a & b | c` is derived with both trees; `parse`
returns the one the precedence table selects (`C05_precedence_pairs`) -/
example : Derives [.name "a", .op .and, .name "b", .op .or, .name "c"]
      (.bin .and (.var "a") (.bin .or (.var "b") (.var "c"))) ∧
    Derives [.name "a", .op .and, .name "b", .op .or, .name "c"]
      (.bin .or (.bin .and (.var "a") (.var "b")) (.var "c")) ∧
    parse [.name "a", .op .and, .name "b", .op .or, .name "c"] =
      some (.bin .or (.bin .and (.var "a") (.var "b")) (.var "c")) :=
  ⟨.bin .and (.var "a") (.bin .or (.var "b") (.var "c")),
   .bin .or (.bin .and (.var "a") (.var "b")) (.var "c"), by decide⟩

end DD
