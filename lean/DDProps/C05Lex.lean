/-
  DDProps.C05Lex — C05, the lexical layer: every spelling of every operator, anywhere in a
  formula, with any blanks and comments, is read as the same token; hence all spellings mean
  the same in every formula, and comments are skipped.

  Model: `tokenize` of `DD/Parse.lean` (the PLY lexer of `dd/_parser.py`: rule order of the
  master regular expression, `t_ignore`, the two comment rules, the newline rule); the tables
  `Gen.spellings`, `Gen.reserved`, `Gen.lexIgnore` are regenerated from the source.
-/
import DDProofs.LexComments
import DDProofs.LexNeeds
import DDProofs.ParseDerives
import DDProofs.LexProofs
open Std
namespace DD

/-- C05 (lexer round trip).  For EVERY token string `toks` — operators, delimiters, `\A \E \S`,
`ite`, `TRUE`/`FALSE`, names `[A-Za-z_][A-Za-z0-9_']*` that are not reserved words, numbers
`\d+` — and EVERY layout `L`: a choice, per position, of one of the spellings the regenerated
tables offer for the token (`Tok.spellings`: `&& & /\`, `|| | \/`, `~ !`, `=> ->`, `<=> <->`,
`TRUE True`, `FALSE False`, …), blanks and comments before, between and after the tokens —
the lexer returns `toks`.  The one side condition, inside `layoutOk`, is maximal munch: the
text of a token must not `clash` with the single character that follows it. -/
theorem C05_tokenize_spellWith (L : Layout) (toks : List Tok) (h : layoutOk L toks = true) :
    tokenize (spellWith L toks) = toks :=
  tokenize_spellWith L toks h

/-- … with at least one space / tab / newline / `(* *)` comment after every token there is no
side condition at all: every choice of spellings is read back -/
theorem C05_tokenize_spellWith_spaced (L : Layout) (toks : List Tok) (hok : ∀ t ∈ toks, t.lexOk = true)
    (h : L.spaced toks.length) : tokenize (spellWith L toks) = toks :=
  tokenize_spellWith L toks (layoutOk_spaced L toks hok h)

/-- the alternatives are those of the regenerated tables, and every row of the tables is an
alternative of some token -/
theorem C05_spellings_table :
    (Tok.spellings (.op .and) = ["&&", "&", "/\\"] ∧ Tok.spellings (.op .or) = ["||", "|", "\\/"] ∧
     Tok.spellings .not = ["~", "!"] ∧ Tok.spellings (.op .implies) = ["=>", "->"] ∧
     Tok.spellings (.op .equiv) = ["<=>", "<->"] ∧ Tok.spellings (.op .xorHash) = ["#"] ∧
     Tok.spellings (.op .xorCaret) = ["^"] ∧ Tok.spellings (.op .minus) = ["-"] ∧
     Tok.spellings (.op .equals) = ["="] ∧ Tok.spellings .tt = ["TRUE", "True"] ∧
     Tok.spellings .ff = ["FALSE", "False"] ∧ Tok.spellings .ite = ["ite"] ∧
     Tok.spellings .forall_ = ["\\A"] ∧ Tok.spellings .exists_ = ["\\E"] ∧ Tok.spellings .rename = ["\\S"] ∧
     Tok.spellings .lparen = ["("] ∧ Tok.spellings .rparen = [")"] ∧ Tok.spellings .comma = [","] ∧
     Tok.spellings .colon = [":"] ∧ Tok.spellings .div = ["/"] ∧ Tok.spellings .at = ["@"]) ∧
    ((Gen.spellings.all fun r => match tokOfRow r.2.1 r.2.2 with
      | some t => t.spellings.contains r.1 | none => false) = true ∧
     (Gen.reserved.all fun r => (nameTok r.1).spellings.contains r.1) = true) :=
  ⟨by decide +kernel, by decide +kernel⟩

/-- all spellings mean the same IN EVERY FORMULA: two admissible layouts of one token string
— different spellings, different blanks, different comments — are parsed to the same result
(tree, or error with the same partially reduced forest) and `add_expr` does the same -/
theorem C05_spelling_independent (L L' : Layout) (toks : List Tok)
    (h : layoutOk L toks = true) (h' : layoutOk L' toks = true) :
    parseE (tokenize (spellWith L toks)) = parseE (tokenize (spellWith L' toks)) ∧
    addExpr (spellWith L toks) = addExpr (spellWith L' toks) := by
  unfold addExpr
  rw [tokenize_layout_irrelevant L L' toks h h']
  exact ⟨rfl, rfl⟩

/-- the text of every formula, under every admissible layout, is read back as its tree
(parentheses where the precedence table requires them and wherever `ex` adds redundant ones) -/
theorem C05_parse_text_any_spelling (ex : Ast → Bool) (t : Ast) (hwf : t.WF) (L : Layout)
    (hL : layoutOk L (printG ex t) = true) :
    parse (tokenize (spellWith L (printG ex t))) = some t :=
  parse_tokenize_spellWith ex t hwf L hL

/-- … in particular with a blank after every token, for every choice of spellings -/
theorem C05_parse_text_spaced (ex : Ast → Bool) (t : Ast) (hwf : t.WF) (hlex : t.LexWF) (L : Layout)
    (hL : L.spaced (printG ex t).length) :
    parse (tokenize (spellWith L (printG ex t))) = some t :=
  parse_tokenize_spellWith ex t hwf L (layoutOk_spaced L _ (lexOk_printG ex t hwf hlex) hL)

/-! ### non-vacuity: one token string with every kind of token, primed names, nested binders -/

def exToks : List Tok :=
  [.forall_, .name "x'", .comma, .name "_y1", .colon, .lparen, .name "a", .op .and, .name "b", .rparen,
   .op .or, .not, .name "c''", .op .implies, .tt, .op .equiv,
   .ite, .lparen, .ff, .comma, .at, .op .minus, .number "3", .comma,
   .exists_, .name "z", .colon, .rename, .name "p", .div, .name "q", .colon,
   .name "d", .op .xorHash, .name "e", .op .xorCaret, .name "f", .op .equals, .name "g", .op .minus,
   .not, .name "h", .rparen]

/-- the three layouts "`k`-th spelling everywhere, one space" use every row of the tables -/
example : spellWith {} exToks =
    "\\A x' , _y1 : ( a && b ) || ~ c'' => TRUE <=> ite ( FALSE , @ - 3 , \\E z : \\S p / q : d # e ^ f = g - ~ h ) " :=
  -- the characters are compared: deciding the equation of `String`s would encode both sides
  congrArg String.ofList (by decide +kernel)
example : spellWith { choice := fun _ => 1 } exToks =
    "\\A x' , _y1 : ( a & b ) | ! c'' -> True <-> ite ( False , @ - 3 , \\E z : \\S p / q : d # e ^ f = g - ! h ) " :=
  congrArg String.ofList (by decide +kernel)
example : spellWith { choice := fun _ => 2 } exToks =
    "\\A x' , _y1 : ( a /\\ b ) \\/ ~ c'' => TRUE <=> ite ( FALSE , @ - 3 , \\E z : \\S p / q : d # e ^ f = g - ~ h ) " :=
  congrArg String.ofList (by decide +kernel)
theorem exToks_lexOk : ∀ t ∈ exToks, t.lexOk = true := by decide +kernel

theorem exToks_spaced (ch : Nat → Nat) : layoutOk { choice := ch } exToks = true :=
  layoutOk_spaced _ _ exToks_lexOk ⟨rfl, rfl, fun _ _ => ⟨rfl, .sp, [], rfl, rfl⟩⟩

example : layoutOk {} exToks = true ∧ layoutOk { choice := fun _ => 1 } exToks = true ∧
    layoutOk { choice := fun _ => 2 } exToks = true :=
  ⟨exToks_spaced _, exToks_spaced _, exToks_spaced _⟩

/-- one space after every token: EVERY choice function `ch` of spellings is read back -/
example (ch : Nat → Nat) : tokenize (spellWith { choice := ch } exToks) = exToks :=
  C05_tokenize_spellWith _ _ (exToks_spaced ch)

/-- no blank at all, spellings mixed by position -/
example : spellWith { choice := fun i => i + 1, gap := fun _ => [] } exToks =
    "\\Ax',_y1:(a/\\b)\\/~c''=>True<=>ite(False,@-3,\\Ez:\\Sp/q:d#e^f=g-!h)" :=
  congrArg String.ofList (by decide +kernel)
theorem exToks_glued_ok : layoutOk { choice := fun i => i + 1, gap := fun _ => [] } exToks = true := by
  decide +kernel
example : layoutOk { choice := fun i => i + 1, gap := fun _ => [] } exToks = true := exToks_glued_ok

/-- the side condition of the round trip, per pair of adjacent tokens: after a word (a name,
`ite`, `TRUE`, `FALSE`, …) a blank is needed before a word or a number starting with an ASCII
digit; after a number before a number; and between the operator spellings `& &`, `& &&`,
`| |`, `| ||`, `/ \/`, `/ \A`, `/ \E`, `/ \S` — nowhere else: a number may be followed directly
by a name (`7x` is `7`,`x`), every operator by a name or number, `!` by `=`, `=` by `=>`, … -/
theorem C05_needsBlank_spec (t1 t2 : Tok) (a b : String) (h1 : t1.lexOk = true) (h2 : t2.lexOk = true)
    (ha : a ∈ t1.spellings) (hb : b ∈ t2.spellings) :
    needsBlank a b =
      if t1.isWord then (t2.isWord || (t2.isNum && startsAscii b))
      else if t1.isNum then t2.isNum
      else clashPairs.contains (a, b) :=
  needsBlank_spec t1 t2 a b h1 h2 ha hb

/-- the operator spellings that can be extended by one more character, read off the regenerated
table: exactly these five (and `(` before `*`) need care when nothing separates them from what
follows; no spelling extends another by more than one character -/
theorem C05_clash_table :
    (Gen.spellings.filterMap fun r =>
      if (extChars r.1.toList).isEmpty then none else some (r.1, extChars r.1.toList)) =
      [("&", ['&']), ("/", ['\\']), ("=", ['>']), ("-", ['>']), ("|", ['|'])] ∧
    (Gen.spellings.flatMap fun r1 => Gen.spellings.filterMap fun r2 =>
      if needsBlank r1.1 r2.1 then some (r1.1, r2.1) else none) = clashPairs ∧
    (Gen.spellings.all fun r1 => Gen.spellings.all fun r2 =>
      !(isPrefixChars r1.1.toList r2.1.toList && r1.1 != r2.1) ||
      r2.1.toList.length == r1.1.toList.length + 1) = true :=
  ⟨by decide +kernel, clashPairs_eq, by decide +kernel⟩

/-- the blank IS needed there: where `needsBlank` holds, the glued text is not read as the two
tokens — except `&` `&&` and `|` `||`, where `&&&` splits as `&&`,`&` into the same two tokens -/
theorem C05_needsBlank_necessary (t1 t2 : Tok) (a b : String) (h1 : t1.lexOk = true) (h2 : t2.lexOk = true)
    (ha : a ∈ t1.spellings) (hb : b ∈ t2.spellings) (hn : needsBlank a b = true)
    (hex : (a, b) ∉ coincide) : tokenize (a ++ b) ≠ [t1, t2] :=
  needsBlank_necessary t1 t2 a b h1 h2 ha hb hn hex

example : needsBlank "x'" "y" = true ∧ needsBlank "x" "7" = true ∧ needsBlank "7" "x" = false ∧
    needsBlank "7" "٣" = true ∧ needsBlank "x" "٣" = false ∧ needsBlank "ite" "(" = false ∧
    needsBlank "!" "=" = false ∧ needsBlank "=" "=>" = false ∧ needsBlank "/" "\\/" = true ∧
    needsBlank "\\A" "x" = false ∧ needsBlank "&" "&&" = true := by decide +kernel
example : tokenize "7x" = [.number "7", .name "x"] ∧ tokenize "x7" = [.name "x7"] ∧
    tokenize "/\\/" = [.op .and, .div] ∧ tokenize "&&&" = [.op .and, .op .and] ∧
    tokenize "\\Ax':y" = [.forall_, .name "x'", .colon, .name "y"] := by
  repeat rw [tokenize_ofList]
  decide +kernel
/-- a layout is rejected exactly for the clash -/
example : layoutOk { gap := fun _ => [] } [.name "a", .op .and, .op .and, .name "b"] = true ∧
    layoutOk { choice := fun _ => 1, gap := fun _ => [] } [.name "a", .op .and, .op .and, .name "b"] = false ∧
    layoutOk { choice := fun _ => 1, gap := fun i => if i = 1 then [.block []] else [] }
      [.name "a", .op .and, .op .and, .name "b"] = true := by decide +kernel

/-- COMMENTS (1): `(* body *)` in front of ANY text — well-formed or not — is dropped -/
theorem C05_block_comment_skipped (body s : String) (hb : hasClose body.toList = false) :
    tokenize ("(*" ++ body ++ "*)" ++ s) = tokenize s := by
  have e : ("(*" ++ body ++ "*)" ++ s).toList = '(' :: '*' :: (body.toList ++ '*' :: ')' :: s.toList) := by
    simp [String.toList_append]
  rw [tokenize_eq_lex, e, lex_block (closeComment_body _ _ hb), tokenize_eq_lex]

/-- COMMENTS (2): `\* body ⏎` in front of any text is dropped; without newline it swallows
the rest of the text -/
theorem C05_line_comment_skipped (body s : String) (hb : body.toList.contains '\n' = false) :
    tokenize ("\\*" ++ body ++ "\n" ++ s) = tokenize s ∧ tokenize ("\\*" ++ body) = [] := by
  constructor
  · have e : ("\\*" ++ body ++ "\n" ++ s).toList = '\\' :: '*' :: (body.toList ++ '\n' :: s.toList) := by
      simp [String.toList_append]
    rw [tokenize_eq_lex, e, lex_lineComment, skipLine_body _ _ hb, lex_newline, tokenize_eq_lex]
  · have e : ("\\*" ++ body).toList = finChars (some body.toList) := by
      simp [String.toList_append, finChars]
    rw [tokenize_eq_lex, e]
    exact lex_fin (some body.toList) (by simpa [finOk] using hb)

/-- COMMENTS (3): after any well-spelled tokens, a comment (or any blank) followed by ANY text:
the tokens, then the tokens of that text -/
theorem C05_comment_after_tokens (lead : List Blank) (ps : List Piece) (c : Blank) (k : List Char)
    (hl : lead.all Blank.ok = true) (hc : c.ok = true) (h : piecesOk (some c.first) ps = true) :
    tokenize (String.ofList (layoutChars lead ps (c.chars ++ k))) =
      ps.map (·.tok) ++ tokenize (String.ofList k) := by
  rw [tokenize_layoutChars lead ps (c.chars ++ k) hl (by rw [Blank.chars_head]; exact h), lex_blank c hc,
    tokenize_ofList]

/-- COMMENTS (4): inserting a comment `c` anywhere into the blanks after a token of an
admissible text does not change the token string: `(* … *)` anywhere, also directly after the
token and where there was no blank (`sepOk_blank`); `\* … ⏎` anywhere but directly after `/`
(`sepOk_line_comment`: `/\` is the conjunction) -/
theorem C05_comment_between_tokens (lead : List Blank) (fin : Option (List Char)) (t : Tok) (sp : String)
    (g₁ g₂ : List Blank) (c : Blank) (ps₁ ps₂ : List Piece)
    (hl : lead.all Blank.ok = true) (hfin : finOk fin = true) (hc : c.ok = true)
    (hfront : g₁ = [] → sepOk sp.toList (some c.first) = true)
    (h : piecesOk (finChars fin).head? (ps₁ ++ ⟨t, sp, g₁ ++ g₂⟩ :: ps₂) = true) :
    tokenize (String.ofList (layoutChars lead (ps₁ ++ ⟨t, sp, g₁ ++ c :: g₂⟩ :: ps₂) (finChars fin))) =
    tokenize (String.ofList (layoutChars lead (ps₁ ++ ⟨t, sp, g₁ ++ g₂⟩ :: ps₂) (finChars fin))) := by
  rw [tokenize_pieces lead _ fin hl hfin h,
    tokenize_pieces lead _ fin hl hfin (piecesOk_insert _ t sp g₁ g₂ c ps₂ hc hfront ps₁ h)]
  simp

/-- the side condition `hfront` of (4), discharged: a `(* *)` comment may follow every token
text; a `\*` comment every token text but `/` -/
theorem C05_comment_may_follow (t : Tok) (sp : String) (hok : t.lexOk = true) (hsp : sp ∈ t.spellings) :
    (∀ body, sepOk sp.toList (some (Blank.block body).first) = true) ∧
    (∀ body, sepOk sp.toList (some (Blank.line body).first) = (sp != "/")) :=
  ⟨fun body => sepOk_blank t sp hok hsp (.block body) rfl, fun _ => sepOk_line_comment t sp hok hsp⟩

/-- UNTERMINATED COMMENT: `(*` without `*)` after any well-spelled tokens is read as `(`
followed by an illegal character; the parser answers with the syntax error (`RuntimeError`,
raised by the lexer's `t_error` in the code) after the reductions done so far -/
theorem C05_unterminated_comment (lead : List Blank) (ps : List Piece) (b : List Char)
    (hl : lead.all Blank.ok = true) (h : piecesOk (some '(') ps = true) (hb : closeComment b = none) :
    tokenize (String.ofList (layoutChars lead ps ('(' :: '*' :: b))) = ps.map (·.tok) ++ [.lparen, .bad] ∧
    ∃ fr, parseE (tokenize (String.ofList (layoutChars lead ps ('(' :: '*' :: b)))) = .error (fr, .syntax) ∧
      addExpr (String.ofList (layoutChars lead ps ('(' :: '*' :: b))) =
        tryToReorder (do evalForest fr; M.throw .runtime) := by
  have ht := tokenize_open_comment lead ps b hl h hb
  refine ⟨ht, ?_⟩
  obtain ⟨fr, hfr⟩ := (parseE_bad (ps.map (·.tok) ++ [.lparen, .bad])).2 (by simp)
  refine ⟨fr, by rw [ht]; exact hfr, ?_⟩
  unfold addExpr addExprToks
  rw [ht, hfr]
  rfl

/-- an ILLEGAL CHARACTER anywhere: whatever the text, if the lexer meets a character it has no
rule for, the parser answers with the syntax error — never "unexpected end of input", and the
model parser never runs out of fuel -/
theorem C05_illegal_character (s : String) :
    (∀ fr, parseE (tokenize s) ≠ .error (fr, .fuel)) ∧
    (Tok.bad ∈ tokenize s → ∃ fr, parseE (tokenize s) = .error (fr, .syntax)) :=
  parseE_bad (tokenize s)

/-! ### non-vacuity: comments of both kinds, with comment-like and formula-like bodies -/

def exGap (i : Nat) : List Blank :=
  if i % 3 == 0 then [.block "c *".toList]
  else if i % 3 == 1 then [.nl, .line " x (* ".toList, .tab]
  else [.sp, .block []]

def exLayout : Layout :=
  { lead := [.block "lead".toList], choice := fun i => i, gap := exGap, fin := some " end".toList }

theorem exLayout_ok : layoutOk exLayout exToks = true := by
  refine layoutOk_spaced _ _ exToks_lexOk ⟨by decide, by decide, fun i _ => ?_⟩
  show (exGap i).all Blank.ok = true ∧ ∃ b g, exGap i = b :: g ∧ b.isSep = true
  unfold exGap
  split
  · exact ⟨by decide, _, _, rfl, rfl⟩
  · split
    · exact ⟨by decide, _, _, rfl, rfl⟩
    · exact ⟨rfl, _, _, rfl, rfl⟩
example : layoutOk exLayout exToks = true := exLayout_ok
example : tokenize (spellWith exLayout exToks) = exToks := C05_tokenize_spellWith _ _ exLayout_ok
example : spellWith exLayout [.name "a", .op .and, .not, .name "b'"] =
    "(*lead*)a(*c **)&\n\\* x (* \n\t~ (**)b'(*c **)\\* end" :=
  congrArg String.ofList (by decide +kernel)
example : tokenize "a (* b" = [.name "a", .lparen, .bad] ∧ tokenize "a (*)" = [.name "a", .lparen, .bad] ∧
    tokenize "a /\\* c\n b" = [.name "a", .op .and, .bad] ∧ tokenize "a / \\* c\n b" = [.name "a", .div, .name "b"] ∧
    tokenize "(* a *) b (* c \n *)" = [.name "b"] := by
  repeat rw [tokenize_ofList]
  decide +kernel
example : closeComment " b".toList = none ∧ hasClose "c *".toList = false ∧ hasClose "a *) b".toList = true := by
  decide +kernel

/-- the whole example formula: every layout above is read as the same tree -/
example : ∃ t, parse exToks = some t ∧ parse (tokenize (spellWith exLayout exToks)) = some t ∧
    parse (tokenize (spellWith { choice := fun i => i + 1, gap := fun _ => [] } exToks)) = some t := by
  rw [C05_tokenize_spellWith exLayout exToks exLayout_ok, C05_tokenize_spellWith _ exToks exToks_glued_ok]
  exact (Option.isSome_iff_exists.mp (by decide +kernel)).imp fun t h => ⟨h, h, h⟩

/-- C05 (precedence, wider printer).  Print a tree with the parentheses that precedence and left
associativity require, ANY number `ex e` of redundant pairs around every sub-formula `e`
(`((a))`), and binders `\A \E \S` left open — unparenthesised as right operand or operand of
`~` — wherever only a closing token follows (`a & \E x: b | c => d`, `~ \S p/q: c <-> \E z: z`):
the parser returns the tree.  (`C05_parse_redundant` is the case of at most one redundant pair
and binders always parenthesised in operand position.) -/
theorem C05_parse_printTop (ex : Ast → Nat) (t : Ast) (h : t.WF) : parse (printTop ex t) = some t :=
  parse_printTop ex t h

/-- … and as TEXT under every admissible layout: spellings, blanks, comments, parentheses and
open binders all at once -/
theorem C05_parse_text_open_any_spelling (ex : Ast → Nat) (t : Ast) (hwf : t.WF) (L : Layout)
    (hL : layoutOk L (printTop ex t) = true) :
    parse (tokenize (spellWith L (printTop ex t))) = some t := by
  rw [tokenize_spellWith L _ hL, parse_printTop ex t hwf]

/-- … with a blank after every token: no side condition besides lexable names and numbers -/
theorem C05_parse_text_open_spaced (ex : Ast → Nat) (t : Ast) (hwf : t.WF) (hlex : t.LexWF) (L : Layout)
    (hL : L.spaced (printTop ex t).length) :
    parse (tokenize (spellWith L (printTop ex t))) = some t :=
  C05_parse_text_open_any_spelling ex t hwf L (layoutOk_spaced L _ (lexOk_printTop ex t hwf hlex) hL)

/-- non-vacuity: open binders in right-operand and `~` position, nested, doubled parentheses -/
def exOpen : Ast :=
  .bin .or (.not (.quant true ["x", "y"] (.var "a")))
    (.bin .and (.var "b") (.not (.subst [("p", "q")] (.bin .equiv (.var "c") (.quant false ["z"] (.var "z'"))))))

example : exOpen.WF := by simp [exOpen, Ast.WF]
example : spell (printTop (fun _ => 0) exOpen) =
    "~ ( \\A x , y : a ) | b & ~ \\S p / q : c <-> \\E z : z' " :=
  congrArg String.ofList (by decide +kernel)
example : spell (printMin exOpen) =
    "~ ( \\A x , y : a ) | b & ~ ( \\S p / q : c <-> ( \\E z : z' ) ) " :=
  congrArg String.ofList (by decide +kernel)
example : spell (printTop (fun e => if e matches .var _ then 2 else 0) exOpen) =
    "~ ( \\A x , y : ( ( a ) ) ) | ( ( b ) ) & ~ \\S p / q : ( ( c ) ) <-> \\E z : ( ( z' ) ) " :=
  congrArg String.ofList (by decide +kernel)
example : layoutOk { choice := fun i => i, gap := fun i => if i % 2 = 0 then [] else [.block "c".toList] }
    (printTop (fun _ => 0) exOpen) = true := by decide +kernel
example : spellWith { choice := fun i => i, gap := fun i => if i % 2 = 0 then [] else [.block "c".toList] }
    (printTop (fun _ => 0) exOpen) =
    "~((*c*)\\Ax(*c*),y(*c*):a(*c*))||(*c*)b/\\(*c*)~\\S(*c*)p/(*c*)q:(*c*)c<->(*c*)\\Ez(*c*):z'(*c*)" :=
  congrArg String.ofList (by decide +kernel)

end DD
