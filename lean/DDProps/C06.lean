/-
  DDProps.C06 — garbage collection frees exactly the unreachable nodes; counts stay exact.

  Vocabulary (DDProofs.RefCount / GcStep / GcLoop / GcSpec / GcSched):
  * `ext : Nat → Nat` — ghost ledger: references the USER holds per node number.
  * `RefExact m ext` — `m.ref` has exactly the terminal and the stored nodes as keys and
    `ref u = indeg u + ext u (+1 for the terminal)`; `ext` is 0 outside the nodes.
  * `GcReach t (GcHeld ext) u` — `u` is reachable through stored edges from a node with `ext > 0`.
  * `GcRun m W mf` — the collection loop popping ANY element of the worklist (a Python `set`);
    `GcSteps` — any prefix of such a run; `gcFinish` — the cache reset at the end.
  * `Mgr.Same a b` — equal field by field (maps compared by lookup).
  Each theorem is followed by a non-vacuity example on `exM` (DDProofs.GcExample: variables
  a, b; nodes 2 = a, 3 = b, 4 = a ∧ b; the user holds node 4; node 2 is garbage).
-/
import DDProofs.SmallGc
import DDProofs.GcSched
import DDProofs.VarsProofs
import DDProofs.GcExample
open Std

namespace DD

/-- `find_or_add` keeps every count exact w.r.t. the SAME ledger (the caller has not taken a
reference yet): a new node starts at 0, each of its children gains exactly its new stored
edges, an existing or eliminated node changes nothing; no node is removed or altered. -/
theorem C06_counts_exact_findOrAdd (m : Mgr) (ext : Nat → Nat) (i : Int) (v w : Int)
    (hi : Inv m) (hr : RefExact m ext) :
    RefExact (findOrAdd i v w m).2 ext ∧
    ∀ j : Nat,
      RefExact (findOrAddCore j v w m).2 ext ∧
      Ext m.tbl (findOrAddCore j v w m).2.tbl ∧
      ((findOrAddCore j v w m).2 = m ∨
        ∃ n : Nd, m.tbl.AddedAt (findOrAddCore j v w m).2.tbl m.minFree n ∧ n.lvl = j ∧
          n.lo.natAbs = v.natAbs ∧ n.hi.natAbs = w.natAbs ∧ m.tbl.Mem v ∧ m.tbl.Mem w ∧
          (findOrAddCore j v w m).2.ref[m.minFree]? = some 0 ∧
          ∀ u c, u ≠ m.minFree → m.ref[u]? = some c →
            (findOrAddCore j v w m).2.ref[u]? = some (c + edgeCount n u)) :=
  ⟨findOrAdd_refExact m ext i v w hi.wf.toWF.closed hr, fun j =>
    ⟨findOrAddCore_refExact m ext j v w hi.wf.toWF.closed hr, findOrAddCore_ext m j v w hr.isSome,
     findOrAddCore_ref_effect m ext j v w hi.wf.toWF.closed hr⟩⟩

/-- non-vacuity: the hypotheses hold for the example manager -/
example : RefExact (findOrAdd 1 (-1) 4 exM).2 exExt :=
  (C06_counts_exact_findOrAdd exM exExt 1 (-1) 4 exM_inv exM_refExact).1
/-- … and there the call really creates a node (number 5) with count 0 -/
example : (findOrAddCore 1 (-1) 1 exM).2 = exM ∧ (findOrAddCore 1 2 1 exM).2.ref[5]? = some 0 := by
  constructor
  · rcases (C06_counts_exact_findOrAdd exM exExt 1 (-1) 1 exM_inv exM_refExact).2 1 with ⟨-, -, h | ⟨n, h, -⟩⟩
    · exact h
    · exfalso
      have h1 := h.old
      have h2 := h.new
      have : (findOrAddCore 1 (-1) 1 exM).2.tbl.node? exM.minFree = none := by decide +kernel
      rw [this] at h2; cases h2
  · decide +kernel

/-- `incref u` = the user takes a reference (ledger +1 at `|u|`), `decref u` with a held
reference = the user releases it (ledger −1); only `ref` changes, the invariant is kept;
on a number that is not a node both raise `KeyError` and change nothing. -/
theorem C06_counts_exact_incref_decref (m : Mgr) (ext : Nat → Nat) (u : Int)
    (hi : Inv m) (hr : RefExact m ext) :
    (m.tbl.Mem u → ∃ m', incref u m = (.ok (), m') ∧ RefExact m' (extInc ext u.natAbs) ∧ Inv m' ∧
        m'.tbl = m.tbl ∧ m'.pred = m.pred ∧ m'.minFree = m.minFree ∧ m'.cache = m.cache) ∧
    (0 < ext u.natAbs → ∃ m', decref u m = (.ok (), m') ∧ RefExact m' (extDec ext u.natAbs) ∧ Inv m' ∧
        m'.tbl = m.tbl ∧ m'.pred = m.pred ∧ m'.minFree = m.minFree ∧ m'.cache = m.cache) ∧
    (¬ m.tbl.Mem u → incref u m = (.error .key, m) ∧ decref u m = (.error .key, m)) := by
  refine ⟨fun hu => ?_, fun he => ?_, fun hn => ?_⟩
  · obtain ⟨c, -, h2, h3⟩ := incref_spec m ext u hr hu
    exact ⟨_, h2, h3, Inv.of_parts { hi.toInvS with } h3 hi.cache, rfl, rfl, rfl, rfl⟩
  · obtain ⟨c, -, h2, h3⟩ := decref_spec m ext u hr he
    exact ⟨_, h2, h3, Inv.of_parts { hi.toInvS with } h3 hi.cache, rfl, rfl, rfl, rfl⟩
  · have : m.ref[u.natAbs]? = none := by rw [hr.ref_eq]; exact if_neg hn
    exact ⟨incref_not_mem m u this, decref_not_mem m u this⟩

example : ∃ m', decref (-4) exM = (.ok (), m') ∧ RefExact m' (extDec exExt 4) ∧ Inv m' ∧
    m'.tbl = exM.tbl ∧ m'.pred = exM.pred ∧ m'.minFree = exM.minFree ∧ m'.cache = exM.cache :=
  (C06_counts_exact_incref_decref exM exExt (-4) exM_inv exM_refExact).2.1 (by decide)

/-- `decref` at count 0 is a no-op (the Python code warns and returns); and a user who
releases only what he holds (`ext |u| > 0`) never reaches the floor: the count is positive. -/
theorem C06_decref_floor (m : Mgr) (u : Int) :
    (m.ref[u.natAbs]? = some 0 → decref u m = (.ok (), m)) ∧
    (∀ ext, RefExact m ext → 0 < ext u.natAbs → ∃ c, m.ref[u.natAbs]? = some (c + 1)) :=
  ⟨decref_floor m u, fun _ hr he => hr.pos_of_ext_pos he⟩

example : decref 2 exM = (.ok (), exM) := (C06_decref_floor exM 2).1 ((exM_ref_zero 2).mpr rfl)

/-- `collect_garbage()`: terminates without error; afterwards the invariant and exact counts
hold (same ledger), the remaining nodes are EXACTLY the nodes reachable from a node the user
holds (plus the terminal), each unchanged and denoting what it denoted; every remaining count
is positive; the computed table is empty; `_min_free` is again the least unused number. -/
theorem C06_gc_exact (m : Mgr) (ext : Nat → Nat) (hi : Inv m) (hr : RefExact m ext) :
    ∃ m', collectGarbage none m = (.ok (), m') ∧ Inv m' ∧ RefExact m' ext ∧
      (∀ u : Nat, (u = 1 ∨ (m'.tbl.node? u).isSome) ↔ (u = 1 ∨ GcReach m.tbl (GcHeld ext) u)) ∧
      (∀ u n, m'.tbl.node? u = some n ↔ (m.tbl.node? u = some n ∧ GcReach m.tbl (GcHeld ext) u)) ∧
      (∀ (u : Int) a, m'.tbl.Mem u → den m'.tbl u a = den m.tbl u a) ∧
      (∀ (u c : Nat), m'.ref[u]? = some c → 0 < c) ∧
      (∀ key : List Int, m'.cache[key]? = none) ∧
      m'.tbl.vars = m.tbl.vars ∧ m'.tbl.l2v = m.tbl.l2v ∧
      (LeastFree m → LeastFree m') ∧ m'.len ≤ m.len := by
  obtain ⟨m', hrun, hp, hnodes, hden, hpos, hcache⟩ := collectGarbage_exact m ext hi hr
  exact ⟨m', hrun, hp.inv, hp.refExact, hp.mem_iff hi.toInvS, hnodes, fun u a hu => hden u hu a, hpos, hcache,
    hp.sub.vars, hp.sub.l2v, hp.sub.leastFree, hp.sub.len_le⟩

example : ∃ m', collectGarbage none exM = (.ok (), m') ∧ Inv m' ∧ RefExact m' exExt := by
  obtain ⟨m', h1, h2, h3, -⟩ := C06_gc_exact exM exExt exM_inv exM_refExact
  exact ⟨m', h1, h2, h3⟩
/-- on the example the collection really frees node 2 (garbage) and keeps 3 and 4 -/
example : (collectGarbage none exM).2.tbl.succ.keys = [3, 4] ∧
    (collectGarbage none exM).2.ref.toList = [(1, 4), (3, 1), (4, 1)] ∧
    (collectGarbage none exM).2.minFree = 2 := by decide +kernel

/-- At EVERY intermediate state of a collection (any pop order, full or rooted start
worklist `W`), every node reachable from a node the user holds is still present, unchanged,
with a positive count if held, and denotes what it denoted. -/
theorem C06_held_never_freed (m : Mgr) (ext : Nat → Nat) (W : List Nat) (m' : Mgr) (W' : List Nat)
    (hi : Inv m) (hr : RefExact m ext) (hz : ∀ w ∈ W, m.ref[w]? = some 0) (hnd : W.Nodup)
    (hsteps : GcSteps m W m' W') (u : Nat) (hu : GcReach m.tbl (GcHeld ext) u) :
    (u = 1 ∨ (m'.tbl.node? u).isSome) ∧
    (∀ n, m.tbl.node? u = some n → m'.tbl.node? u = some n) ∧
    (0 < ext u → ∃ c, m'.ref[u]? = some (c + 1)) ∧
    (∀ a, den m'.tbl (u : Int) a = den m.tbl (u : Int) a) ∧
    RefExact m' ext := by
  obtain ⟨h1, h2⟩ := hsteps.spec (ext := ext) ⟨hi.toInvS, hr, hz, hnd⟩
  obtain ⟨hmem, hden⟩ := reach_den (u := (u : Int)) h2 h1.invS h1.refExact hi.toInvS hu
  exact ⟨hmem, fun n => reach_node h2 h1.invS h1.refExact hi.toInvS hu, h1.refExact.pos_of_ext_pos, hden,
    h1.refExact⟩

/-- the same for the state returned by `collect_garbage(roots)` (full or rooted) -/
theorem C06_held_never_freed_collect (roots : Option (List Int)) (m : Mgr) (ext : Nat → Nat)
    (hi : Inv m) (hr : RefExact m ext)
    (hroots : ∀ r ∈ gcRoots roots m, (m.ref[r.natAbs]?).isSome) :
    ∃ m', collectGarbage roots m = (.ok (), m') ∧ Inv m' ∧ RefExact m' ext ∧
      ∀ u, GcReach m.tbl (GcHeld ext) u →
        (u = 1 ∨ (m'.tbl.node? u).isSome) ∧ ∀ a, den m'.tbl (u : Int) a = den m.tbl (u : Int) a := by
  obtain ⟨m', hrun, hp⟩ := collectGarbage_rooted_spec roots m ext hi hr hroots
  exact ⟨m', hrun, hp.inv, hp.refExact, fun u hu => hp.reach_den hi.toInvS hu⟩

/-- non-vacuity: node 3 is reachable from the held node 4 in the example, the start worklist is `[2]` -/
example : GcReach exM.tbl (GcHeld exExt) 3 ∧ (∀ w ∈ [2], exM.ref[w]? = some 0) := by
  constructor
  · have h4 : GcReach exM.tbl (GcHeld exExt) 4 := GcReach.root (show 0 < exExt 4 by decide)
    have hn : exM.tbl.node? 4 = some ⟨0, -1, 3⟩ := by decide
    exact GcReach.hi h4 hn
  · intro w hw
    exact (exM_ref_zero w).mpr (List.mem_singleton.mp hw)

/-- … and a genuine (one-step) prefix of a run exists from that worklist -/
example : ∃ m' W', GcSteps exM [2] m' W' ∧ m'.tbl.succ.size + 1 = exM.tbl.succ.size := by
  have hi : GcInv exM exExt [2] :=
    ⟨exM_inv.toInvS, exM_refExact, fun w hw => (exM_ref_zero w).mpr (List.mem_singleton.mp hw), by simp⟩
  obtain ⟨work', m', hstep, -, hsz⟩ := gc_progress hi (u := 2) (by simp)
  exact ⟨m', work', GcSteps.step (u := 2) (by simp) hstep (GcSteps.refl _ _), hsz⟩

/-- The Python worklist is a `set`; whatever element `unused.pop()` returns at each step:
(1) the step succeeds (no assertion, no `KeyError`) and removes one node, so every run
terminates; (2) every maximal run from a worklist with the elements of the initial `unused`
ends — after the final cache reset — in the SAME state as the model's `collectGarbage`
(which pops the list head).  Full (`roots = none`) and rooted collections alike. -/
theorem C06_gc_any_schedule (roots : Option (List Int)) (m : Mgr) (ext : Nat → Nat)
    (hi : Inv m) (hr : RefExact m ext)
    (hroots : ∀ r ∈ gcRoots roots m, (m.ref[r.natAbs]?).isSome) :
    (∃ m', collectGarbage roots m = (.ok (), m') ∧
      ∀ (W : List Nat) (mf : Mgr), W.Nodup →
        (∀ k, k ∈ W ↔ (m.ref[k]? = some 0 ∧ ∃ r ∈ gcRoots roots m, r.natAbs = k)) →
        GcRun m W mf → Mgr.Same (gcFinish mf) m') ∧
    (∀ (m1 : Mgr) (work : List Nat) (u : Nat), GcInv m1 ext work → u ∈ work →
      ∃ work' m2, gcStep u (work.erase u) m1 = (.ok work', m2) ∧ GcInv m2 ext work' ∧
        m2.tbl.succ.size + 1 = m1.tbl.succ.size) :=
  ⟨gc_any_schedule roots m ext hi hr hroots, fun _ _ _ h hu => gc_progress h hu⟩

example : ∃ m', collectGarbage none exM = (.ok (), m') := by
  obtain ⟨m', h, -⟩ := (C06_gc_any_schedule none exM exExt exM_inv exM_refExact (gcRoots_none_isSome exM)).1
  exact ⟨m', h⟩
/-- the start worklist of the example is `[2]`, and `[2]` admits a run -/
example : ∀ k, k ∈ [2] ↔ (exM.ref[k]? = some 0 ∧ ∃ r ∈ gcRoots none exM, r.natAbs = k) := by
  intro k
  rw [gcRoots_none_mem, exM_ref_zero, List.mem_singleton]
  exact ⟨fun h => ⟨h, by rw [(exM_ref_zero k).mpr h]; rfl⟩, fun h => h.1⟩

/-- `collect_garbage(roots)`: terminates without error (all roots being nodes), keeps the
invariant and exact counts (SAME ledger), empties the computed table and removes EXACTLY the
count-0 cascade started at the roots whose count is 0 (`Dead`); nothing else changes.
Frame facts (as for the full collection, `C06_gc_exact`):
* the removed set by reachability: a node stays iff it is reachable from a node the user holds
  or from a count-0 node that is NOT among the roots (`GcKeep`: the rooted collection only
  starts at the given roots, other unreferenced nodes and what hangs below them are not
  looked at); when every count-0 node is among the roots this is "reachable from a held node";
* everything reachable from a held node stays; the surviving nodes are unchanged and denote
  what they denoted;
* `vars`, the level order, the reordering switches (`lastLen`, `ctx`) are unchanged, hence
  `OrderOK` is kept;
* the count of a surviving node never grows, and is unchanged when none of its stored
  parents was removed; no count drops to 0 through the ledger (held nodes keep a positive count);
* unique-table entries of survivors are untouched, those of removed nodes are gone;
  `_min_free` is still the least unused number; `len` does not grow. -/
theorem C06_gc_rooted (rs : List Int) (m : Mgr) (ext : Nat → Nat) (hi : Inv m) (hr : RefExact m ext)
    (hroots : ∀ r ∈ rs, m.tbl.Mem r) :
    ∃ m', collectGarbage (some rs) m = (.ok (), m') ∧ Inv m' ∧ RefExact m' ext ∧
      (∀ k x, m'.tbl.node? k = some x ↔
        (m.tbl.node? k = some x ∧ ¬ Dead m.tbl ext (gcStart (some rs) m) k)) ∧
      (∀ (u : Int) a, m'.tbl.Mem u → den m'.tbl u a = den m.tbl u a) ∧
      (∀ key : List Int, m'.cache[key]? = none) ∧
      -- the removed set by reachability
      (∀ k x, m'.tbl.node? k = some x ↔
        (m.tbl.node? k = some x ∧ GcReach m.tbl (GcKeep m ext (gcStart (some rs) m)) k)) ∧
      ((∀ k, m.ref[k]? = some 0 → ∃ r ∈ rs, r.natAbs = k) →
        ∀ k x, m'.tbl.node? k = some x ↔ (m.tbl.node? k = some x ∧ GcReach m.tbl (GcHeld ext) k)) ∧
      (∀ u, GcReach m.tbl (GcHeld ext) u → (u = 1 ∨ (m'.tbl.node? u).isSome)) ∧
      -- the order and the switches
      m'.tbl.vars = m.tbl.vars ∧ m'.tbl.l2v = m.tbl.l2v ∧ m'.lastLen = m.lastLen ∧ m'.ctx = m.ctx ∧
      (OrderOK m.tbl → OrderOK m'.tbl) ∧
      -- counts of the survivors
      (∀ u c, m'.ref[u]? = some c → ∃ c0, m.ref[u]? = some c0 ∧ c ≤ c0 ∧
        ((∀ k x, m.tbl.node? k = some x → (x.lo.natAbs = u ∨ x.hi.natAbs = u) →
            m'.tbl.node? k = some x) → c = c0)) ∧
      (∀ u, 0 < ext u → ∃ c, m'.ref[u]? = some (c + 1)) ∧
      -- unique table, `_min_free`, size
      (∀ k x, m'.tbl.node? k = some x → m'.pred[x.key]? = m.pred[x.key]?) ∧
      (∀ k x, m.tbl.node? k = some x → m'.tbl.node? k = none → m'.pred[x.key]? = none) ∧
      (LeastFree m → LeastFree m') ∧ m'.len ≤ m.len := by
  obtain ⟨m', hrun, hp⟩ := collectGarbage_rooted_spec (some rs) m ext hi hr
    (fun r hr' => (hr.dom _).mpr (hroots r hr'))
  have hW : ∀ k, gcStart (some rs) m k → m.ref[k]? = some 0 := fun k h => h.1
  refine ⟨m', hrun, hp.inv, hp.refExact, hp.nodes, fun u a hu => hp.den_eq u hu a,
    collectGarbage_ok_cache _ m m' hrun, hp.nodes_reach hi.toInvS hr hW,
    fun hall => hp.nodes_held hi.toInvS hr hW fun k hk => ⟨hk, hall k hk⟩,
    fun u hu => (hp.reach_den hi.toInvS hu).1,
    hp.sub.vars, hp.sub.l2v, hp.sub.lastLen, hp.sub.ctx,
    fun ho => ho.congr hp.sub.vars hp.sub.l2v,
    fun u c hc => hp.ref_le hr u c hc, fun u he => hp.refExact.pos_of_ext_pos he, ?_, hp.sub.predGone,
    hp.sub.leastFree, hp.sub.len_le⟩
  intro k x hk
  apply hp.sub.predKeep
  intro k' x' hk' hkey
  have hk0 := hp.sub.sub k x hk
  have hx : x' = x := Nd.key_inj hkey
  subst hx
  have : k' = k := hi.wf.unique _ _ _ hk' hk0
  subst this
  simp [hk]

example : ∃ m', collectGarbage (some [2, -3]) exM = (.ok (), m') ∧ Inv m' := by
  obtain ⟨m', h1, h2, -⟩ := C06_gc_rooted [2, -3] exM exExt exM_inv exM_refExact (by decide +kernel)
  exact ⟨m', h1, h2⟩
/-- on the example the rooted collection from `{2, -3}` frees node 2 only (3 has count 1) -/
example : (collectGarbage (some [2, -3]) exM).2.tbl.succ.keys = [3, 4] := by decide +kernel
/-- non-vacuity of the rooted/unrooted difference: with the root `-3` only, the unreferenced
node 2 is NOT among the roots, is a `GcKeep` node, and stays (the code really keeps it);
and the premise "every count-0 node is among the roots" holds for the roots `{2, -3}` -/
example : (collectGarbage (some [-3]) exM).2.tbl.succ.keys = [2, 3, 4] ∧
    GcKeep exM exExt (gcStart (some [-3]) exM) 2 := by
  refine ⟨by decide +kernel, Or.inr ⟨(exM_ref_zero 2).mpr rfl, ?_⟩⟩
  · rintro ⟨-, r, hr', h⟩
    simp only [gcRoots, List.mem_cons, List.not_mem_nil, or_false] at hr'
    subst hr'; revert h; decide
/-- … and for the roots `{2, -3}` every count-0 node is a root, so that collection leaves
exactly what is reachable from the held node 4 -/
example : ∀ k, exM.ref[k]? = some 0 → ∃ r ∈ [(2 : Int), -3], r.natAbs = k :=
  fun k h => ⟨2, by simp, ((exM_ref_zero k).mp h).symm⟩

/-- (a) whenever `collect_garbage` (full or rooted) returns normally, the computed table is
empty — no hypothesis needed — so no result remembered for a number that was freed (and may be
re-used by the next `find_or_add`) can ever be returned;
(b) between collections every entry `(g,u,v) ↦ w` of a manager satisfying the invariant mentions
only live nodes and is semantically right (this is the clause `Inv.cache`);
(c) in particular no entry names a freed number. -/
theorem C06_no_stale_cache (roots : Option (List Int)) (m m' : Mgr)
    (h : collectGarbage roots m = (.ok (), m')) :
    (∀ key : List Int, m'.cache[key]? = none) ∧
    (∀ g u v w, Inv m' → m'.cache[iteKey g u v]? = some w →
      m'.tbl.Mem g ∧ m'.tbl.Mem u ∧ m'.tbl.Mem v ∧ m'.tbl.Mem w ∧
      ∀ a, den m'.tbl w a = if den m'.tbl g a then den m'.tbl u a else den m'.tbl v a) ∧
    (∀ (k : Nat) g u v, m'.tbl.node? k = none → m'.cache[iteKey g u v]? ≠ some (k : Int) ∧
      m'.cache[iteKey g u v]? ≠ some (-(k : Int))) := by
  have hc := collectGarbage_ok_cache roots m m' h
  refine ⟨hc, ?_, ?_⟩
  · intro g u v w hi he
    have := hi.cache g u v w he
    exact ⟨this.mg, this.mu, this.mv, this.mw, this.den⟩
  · intro k g u v _
    rw [hc]; exact ⟨by simp, by simp⟩

/-- clause (b) for every manager satisfying the invariant (states between collections) -/
theorem C06_cache_entries_live (m : Mgr) (hi : Inv m) (g u v w : Int)
    (h : m.cache[iteKey g u v]? = some w) :
    m.tbl.Mem g ∧ m.tbl.Mem u ∧ m.tbl.Mem v ∧ m.tbl.Mem w ∧
    ∀ a, den m.tbl w a = if den m.tbl g a then den m.tbl u a else den m.tbl v a :=
  ⟨(hi.cache g u v w h).mg, (hi.cache g u v w h).mu, (hi.cache g u v w h).mv, (hi.cache g u v w h).mw,
   (hi.cache g u v w h).den⟩

/-- non-vacuity: a manager WITH a computed-table entry, on which the collection returns normally -/
example : (∀ key : List Int,
    (collectGarbage none { exM with cache := exM.cache.insert (iteKey 2 3 (-1)) 4 }).2.cache[key]? = none) := by
  -- for a variable manager first: compared with `exM` itself, `{ exM with cache := … }` makes the
  -- elaborator unfold `exM`, that is, run its six calls
  have key : ∀ (m : Mgr) (c : TreeMap (List Int) Int), Inv m → RefExact m exExt →
      ∃ m', collectGarbage none { m with cache := c } = (.ok (), m') := fun m c hI hr =>
    have ⟨_, _, hrun, _⟩ := collectGarbage_run none { m with cache := c } exExt
      { hI.toInvS with } (hr.congr rfl rfl) (gcRoots_none_isSome _)
    ⟨_, hrun⟩
  obtain ⟨m', h⟩ := key exM _ exM_inv exM_refExact
  rw [h]
  exact (C06_no_stale_cache none _ m' h).1

end DD
