/-
  DDProps.C06Rooted — `collect_garbage(roots)` maps reachable states to reachable states
  (C06, "rooted collections in interleavings"): the `GoodState` of the every-history theorems
  (DDProofs.Reach: `Inv`, `OrderOK`, `RefExact`, reordering off, no context open) is kept for
  the same ledger, so every per-operation theorem and every history theorem can be continued
  after a rooted collection.
-/
import DDProps.C06
import DDProofs.Reach
open Std

namespace DD

/-- C06 (rooted collection, good states): from a good state, `collect_garbage(roots)` with roots
that are nodes returns normally into a good state for the SAME ledger; everything reachable from
a held node is still there and denotes what it denoted -/
theorem C06_gc_rooted_good (rs : List Int) (m : Mgr) (ext : Nat → Nat) (h : GoodState m ext)
    (hroots : ∀ r ∈ rs, m.tbl.Mem r) :
    ∃ m', collectGarbage (some rs) m = (.ok (), m') ∧ GoodState m' ext ∧
      (∀ u, GcReach m.tbl (GcHeld ext) u →
        (u = 1 ∨ (m'.tbl.node? u).isSome) ∧ ∀ a, den m'.tbl (u : Int) a = den m.tbl (u : Int) a) ∧
      m'.tbl.vars = m.tbl.vars ∧ m'.tbl.l2v = m.tbl.l2v := by
  obtain ⟨m', hrun, hp⟩ := collectGarbage_rooted_spec (some rs) m ext h.inv h.exact
    fun r hr => (h.exact.dom _).mpr (hroots r hr)
  exact ⟨m', hrun, h.gcSub hp.sub hp.inv hp.refExact, fun u hu => hp.reach_den h.inv.toInvS hu,
    hp.sub.vars, hp.sub.l2v⟩

/-- non-vacuity: the initial state is good, and so is the state after a rooted collection there -/
example : ∃ m', collectGarbage (some [1]) ({} : Mgr) = (.ok (), m') ∧ GoodState m' (fun _ => 0) := by
  obtain ⟨m', h1, h2, _⟩ := C06_gc_rooted_good [1] {} (fun _ => 0) GoodState.init
    (List.forall_mem_singleton.mpr (Or.inl rfl))
  exact ⟨m', h1, h2⟩

/-- … and on the example manager of C06 (variables `a`, `b`; nodes 2, 3, 4; the user holds 4):
it is a good state, `{2, -3}` are nodes, the rooted collection from them frees node 2 -/
example : GoodState exM exExt ∧ (∀ r ∈ [(2 : Int), -3], exM.tbl.Mem r) ∧
    (collectGarbage (some [2, -3]) exM).2.tbl.succ.keys = [3, 4] := by
  exact ⟨exM_good, by decide +kernel, by decide +kernel⟩

end DD
