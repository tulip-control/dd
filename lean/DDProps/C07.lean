/-
  DDProps.C07 — reordering never changes what a held reference denotes.

  State predicate (`ReorderInv ext m`, DDProofs.SwapDrivers): the manager invariant `Inv`, the name
  maps `OrderOK` (C14), exact reference counts `RefExact m ext` (C06) w.r.t. the ledger `ext` of
  externally held references, reordering requests not armed (explicit reordering, or inside
  `_try_to_reorder` where `_last_len = None`), every element of `bdd.roots` held.
  Relation (`ReorderRel ext m m'`): every held reference denotes the same function of the variable
  NAMES (`.held : HeldSame`, via `denN`); the same names are declared; `roots`, the reordering
  switches and an empty schedule are kept.  Integer identity is built in (the same number `u` is
  looked up in both managers); "same external count" is `RefExact m' ext` for the SAME ledger.

  Iteration orders of Python sets are schedule inputs (`Mgr.sched`); every theorem holds for every
  schedule: the outcome `OkOrSched Q r` is "returned normally with `Q`", the only alternative being
  the model's own report `MODEL-SCHEDULE-MISMATCH` (the recorded schedule is not a permutation of
  the level sets — not a behaviour of the code).  With no recorded schedule the calls are total.

  Finding: with fewer than two variables sifting raises (`sift_single_variable_raises`).
-/
import DDProofs.DynExample
open Std

namespace DD

/-- C07 (semantic core): exchanging the order of two Shannon expansions exchanges the two middle
cofactors — `(x, (y, f00, f01), (y, f10, f11))` and `(y, (x, f00, f10), (x, f01, f11))` are the
same function. -/
theorem C07_shannon_exchange (x y : Nat) (f00 f01 f10 f11 : Asg → Bool) :
    iteA x (iteA y f11 f10) (iteA y f01 f00) = iteA y (iteA x f11 f01) (iteA x f10 f00) := by
  funext a
  simp only [iteA]
  exact shannon_exchange _ _ _ _ _ _

/-- C07 (names): the in-place update of `vars` / `_level_to_var` done by `swap` keeps the two maps
mutually inverse bijections onto `0..n-1` (hence the four views of the order — `vars`,
`_level_to_var`, `level_of_var`, `var_at_level` — agree, C14_views_agree), exchanges exactly the
two names and keeps the number of variables. -/
theorem C07_names_exchange (t : Tbl) (h : OrderOK t) (x : Nat) (vx vy : String)
    (hx : t.l2v[x]? = some vx) (hy : t.l2v[x + 1]? = some vy) :
    OrderOK (exchangeVars t x (x + 1) vx vy) ∧
    (exchangeVars t x (x + 1) vx vy).nvars = t.nvars ∧
    (exchangeVars t x (x + 1) vx vy).l2v[x]? = some vy ∧
    (exchangeVars t x (x + 1) vx vy).l2v[x + 1]? = some vx ∧
    (exchangeVars t x (x + 1) vx vy).vars[vx]? = some (x + 1) ∧
    (exchangeVars t x (x + 1) vx vy).vars[vy]? = some x ∧
    (∀ i, i ≠ x → i ≠ x + 1 → (exchangeVars t x (x + 1) vx vy).l2v[i]? = t.l2v[i]?) := by
  have hxy : x ≠ x + 1 := by omega
  have hO := h.exchange x (x + 1) vx vy hxy hx hy
  obtain ⟨a, b, c⟩ := exchangeVars_names t x (x + 1) vx vy hxy hx hy
  exact ⟨hO, exchangeVars_nvars t h x (x + 1) vx vy hx hy, a, b, (hO.inv vx (x + 1)).mpr b,
    (hO.inv vy x).mpr a, c⟩

/-- C07 (swap): `swap(x, x+1, levels)` on two adjacent valid levels, FOR EVERY SCHEDULE: returns
normally; afterwards `Inv` (reduced, ordered w.r.t. the new levels, unique table in sync for all
levels, computed table empty), `OrderOK`, exact counts for the same ledger; exactly the two names
are exchanged; every reference present before and after denotes the same function of the variable
names; every externally held reference is present before and after; the result is
`(len before, len after)`.  In particular none of the `AssertionError`s / `KeyError`s inside
`swap` can fire. -/
theorem C07_swap (ext : Nat → Nat) (m : Mgr) (h : ReorderInv ext m) (x : Nat) (hx : x + 1 < m.nvars) :
    OkOrSched (SwapPost m ext x) (swap (.level x) (.level ((x : Int) + 1)) true m) := by
  rw [swap_levels_eq m x hx]
  exact swapBody_spec m ext h.inv h.order h.refExact h.off x hx

/-- C07 (swap, arguments the other way round — `_shift` towards the top) -/
theorem C07_swap_flipped (ext : Nat → Nat) (m : Mgr) (h : ReorderInv ext m) (x : Nat)
    (hx : x + 1 < m.nvars) :
    OkOrSched (SwapPost m ext x) (swap (.level ((x : Int) + 1)) (.level x) true m) := by
  rw [swap_eq_body m (.level ((x : Int) + 1)) (.level x) x (x + 1) x hx
    (show (x : Int) + 1 = ((x + 1 : Nat) : Int) by omega) rfl (Or.inr ⟨rfl, rfl⟩)]
  exact swapBody_spec m ext h.inv h.order h.refExact h.off x hx

/-- C07 (swap, no recorded schedule): total -/
theorem C07_swap_total (ext : Nat → Nat) (m : Mgr) (h : ReorderInv ext m) (x : Nat)
    (hx : x + 1 < m.nvars) (hs : m.sched = []) :
    ∃ r m', swap (.level x) (.level ((x : Int) + 1)) true m = (.ok r, m') ∧ SwapPost m ext x r m' := by
  rw [swap_levels_eq m x hx]
  exact Returns.elim ((swapBody_run m ext h.inv h.order h.refExact h.off x hx).imp
    (fun _ _ hp => hp.1) fun _ _ he => he.2.1 hs)

/-- C07 (swap, public form `bdd.swap(x, y)`): names or levels of two adjacent levels in either
order, preceded by the full collection -/
theorem C07_swap_public (ext : Nat → Nat) (m : Mgr) (h : ReorderInv ext m) (xa ya : VarOrLevel)
    (x a b : Nat) (hx : x + 1 < m.nvars) (ha : Resolves m xa a) (hb : Resolves m ya b)
    (hab : (a = x ∧ b = x + 1) ∨ (a = x + 1 ∧ b = x)) :
    OkOrSched (fun r m' => ReorderInv ext m' ∧ ReorderRel ext m m' ∧ Exch m m' x ∧ r.2 = m'.len ∧
        r.1 ≤ m.len)
      (swap xa ya false m) :=
  swap_public_spec ext m h xa ya x a b hx ha hb hab

/-- C07 (held references through a swap, spelled out): a held reference `u` is a node before and
after, denotes the same function of the names, and its counter still is
`stored edges + external references (+1 for the terminal)` for the unchanged number `ext u` of
external references. -/
theorem C07_swap_held (ext : Nat → Nat) (m : Mgr) (x : Nat) (r : Nat × Nat) (m' : Mgr)
    (hp : SwapPost m ext x r m') (u : Nat) (hu : 0 < ext u) :
    m.tbl.Mem (u : Int) ∧ m'.tbl.Mem (u : Int) ∧
    (∀ a, denN m'.tbl (u : Int) a = denN m.tbl (u : Int) a) ∧
    m'.ref[u]? = some (indeg m'.tbl u + ext u + (if u = 1 then 1 else 0)) := by
  obtain ⟨h0, h1⟩ := hp.held u hu
  refine ⟨h0, h1, hp.denN _ h0 h1, ?_⟩
  have := hp.refExact.get h1
  simpa using this

/-- C07 (`_shift(start, end)`): for valid levels, for every schedule: returns normally, keeps
`ReorderInv`, held references keep their denotation; the variable at `start` is at `end`
afterwards, the ones in between moved one level towards `start`, all others stayed. -/
theorem C07_shift (ext : Nat → Nat) (m : Mgr) (h : ReorderInv ext m) (s e : Nat)
    (hs : s < m.nvars) (he : e < m.nvars) :
    OkOrSched (fun _ m' => ReorderInv ext m' ∧ ReorderRel ext m m' ∧ m'.nvars = m.nvars ∧
        ∀ j, m'.tbl.l2v[j]? = m.tbl.l2v[shiftPerm s e j]?)
      (shift s e m) :=
  OkOrSched.mono (fun _ _ hp => ⟨hp.1, hp.2.1, hp.2.2.1, hp.2.2.2.2⟩)
    (shift_order (swapOK ext) m h s e hs he)

/-- C07 (`_sort_to_order`, sortedness): for every table of requested ranks covering the declared
variables, for every schedule: returns normally, keeps `ReorderInv` and the denotation of held
references, and the requested ranks along the levels are non-decreasing afterwards. -/
theorem C07_sortToOrder_sorted (ext : Nat → Nat) (m : Mgr) (h : ReorderInv ext m)
    (order : List (String × Int)) (hlen : order.length = m.nvars) (hc : Covered order m.nvars m) :
    OkOrSched (fun _ m' => ReorderInv ext m' ∧ ReorderRel ext m m' ∧ m'.nvars = m.nvars ∧
        SortedBy order m')
      (sortToOrder order m) :=
  OkOrSched.mono (fun _ _ hp => ⟨hp.1, hp.2.1, hp.2.2.1, hp.2.2.2.2.1⟩)
    (sortToOrder_sorted (swapOK ext) order m h hlen hc)

/-- C07 (`_sort_to_order` reaches exactly the requested order): when `order` maps the declared
variables bijectively onto `0..n-1`, afterwards `level_of_var(v) = order[v]` and
`var_at_level(order[v]) = v` for every variable. -/
theorem C07_sortToOrder (ext : Nat → Nat) (m : Mgr) (h : ReorderInv ext m)
    (order : List (String × Int)) (ho : ReqOrder order m) :
    OkOrSched (fun _ m' => ReorderInv ext m' ∧ ReorderRel ext m m' ∧ m'.nvars = m.nvars ∧
        ∀ v p, order.lookup v = some p → m.tbl.vars.contains v = true →
          m'.tbl.vars[v]? = some p.toNat ∧ m'.tbl.l2v[p.toNat]? = some v)
      (sortToOrder order m) :=
  sortToOrder_exact (swapOK ext) order m h ho

/-- C07 (`reorder(bdd, order)`) -/
theorem C07_reorder_order (ext : Nat → Nat) (m : Mgr) (h : ReorderInv ext m)
    (order : List (String × Int)) (ho : ReqOrder order m) :
    OkOrSched (fun _ m' => ReorderInv ext m' ∧ ReorderRel ext m m' ∧ m'.nvars = m.nvars ∧
        ∀ v p, order.lookup v = some p → m.tbl.vars.contains v = true →
          m'.tbl.vars[v]? = some p.toNat ∧ m'.tbl.l2v[p.toNat]? = some v)
      (reorder (some order) m) :=
  C07_sortToOrder ext m h order ho

/-- C07 (`reorder_to_pairs`): for a pairing of pairwise distinct declared variables, for every
schedule: returns normally, keeps `ReorderInv` and the denotation of held references, and every
requested pair is adjacent afterwards. -/
theorem C07_reorderToPairs (ext : Nat → Nat) (m : Mgr) (h : ReorderInv ext m)
    (pairs : List (String × String))
    (hdecl : ∀ v ∈ pairNames pairs, m.tbl.vars.contains v = true) (hnd : (pairNames pairs).Nodup) :
    OkOrSched (fun _ m' => ReorderInv ext m' ∧ ReorderRel ext m m' ∧ m'.nvars = m.nvars ∧
        ∀ p ∈ pairs, Adj m' p.1 p.2)
      (reorderToPairs pairs m) :=
  OkOrSched.mono (fun _ _ hp => ⟨hp.1, hp.2.1, hp.2.2.1, hp.2.2.2.1⟩)
    (reorderToPairs_adjacent (swapOK ext) pairs m h hdecl hnd)

/-- C07 (sifting, what a normal return guarantees): if `_apply_sifting` (= `reorder(bdd)`) returns
normally — for whatever schedule of variable and level-set iteration orders — then `ReorderInv`
holds, every held reference denotes the same function, the variables are the same, and there are
no more nodes than after the initial collection (the inequality is the code's own final check). -/
theorem C07_sift_partial (ext : Nat → Nat) (m m' : Mgr) (h : ReorderInv ext m)
    (hrun : reorder none m = (.ok (), m')) :
    ∃ mg, collectGarbage none m = (.ok (), mg) ∧ ReorderInv ext m' ∧ ReorderRel ext m m' ∧
      m'.nvars = mg.nvars ∧ m'.len ≤ mg.len ∧ mg.len ≤ m.len := by
  obtain ⟨mg, h1, hle, hq⟩ := applySifting_partial (siftEnv ext) m h
  rw [show applySifting m = reorder none m from rfl, hrun] at hq
  exact ⟨mg, h1, hq.1.1, hq.2.1, hq.2.2.1, hq.2.2.2, hle⟩

/-- C07 (sifting): with at least two variables, FOR EVERY SCHEDULE of variable and level-set
iteration orders, `reorder(bdd)` (Rudell sifting) returns normally: none of the size assertions of
`_reorder_var` / `_apply_sifting` / `_shift` can fire and no other exception is possible.
Afterwards `ReorderInv` holds, no unreferenced node is left, every held reference denotes the same
function of the names, the same variables are declared. -/
theorem C07_sift (ext : Nat → Nat) (m : Mgr) (h : ReorderInv ext m) (h2 : 2 ≤ m.nvars) :
    OkOrSched (fun _ m' => ReorderInv ext m' ∧ NoGarbage m' ∧ ReorderRel ext m m') (reorder none m) :=
  OkOrSched.mono (fun _ _ hp => ⟨hp.1.1, hp.1.2, hp.2⟩) (applySifting_never_raises ext m h h2)

/-- the clause of C07 on the assertions inside sifting, as a statement … -/
def sift_never_asserts_statement : Prop :=
  ∀ (ext : Nat → Nat) (m : Mgr), ReorderInv ext m → 2 ≤ m.nvars →
    OkOrSched (fun _ _ => True) (reorder none m)

/-- … which is `C07_sift` without its post-condition (the argument is that of
`applySifting_never_raises`, DDProofs.SiftFinal).  The hypothesis `2 ≤ nvars` is necessary:
`sift_single_variable_raises`. -/
theorem sift_never_asserts : sift_never_asserts_statement :=
  fun ext m h h2 => OkOrSched.mono (fun _ _ _ => trivial) (C07_sift ext m h h2)

/-! ### with no recorded schedule (the model iterates in ascending order) every call is total -/

/-- C07 (sifting, default schedule): returns normally -/
theorem C07_sift_total (ext : Nat → Nat) (m : Mgr) (h : ReorderInv ext m) (h2 : 2 ≤ m.nvars)
    (hs : m.sched = []) :
    ∃ m', reorder none m = (.ok (), m') ∧ ReorderInv ext m' ∧ NoGarbage m' ∧ m'.sched = [] ∧
      ReorderRel ext m m' := by
  obtain ⟨m', a, b, c, d⟩ := applySifting_total_default ext m h h2 hs
  exact ⟨m', a, b.1, b.2, c, d⟩

/-- C07 (`_shift`, default schedule) -/
theorem C07_shift_total (ext : Nat → Nat) (m : Mgr) (h : ReorderInv ext m) (hs0 : m.sched = [])
    (s e : Nat) (hs : s < m.nvars) (he : e < m.nvars) :
    ∃ r m', shift s e m = (.ok r, m') ∧ ReorderInv ext m' ∧ m'.sched = [] ∧ ReorderRel ext m m' ∧
      ∀ j, m'.tbl.l2v[j]? = m.tbl.l2v[shiftPerm s e j]? := by
  obtain ⟨r, m', hrun, hp⟩ := Returns.elim (shift_order (swapOK_default ext) m ⟨h, hs0⟩ s e hs he)
  exact ⟨r, m', hrun, hp.1.1, hp.1.2, hp.2.1, hp.2.2.2.2⟩

/-- C07 (`reorder(bdd, order)`, default schedule) -/
theorem C07_reorder_order_total (ext : Nat → Nat) (m : Mgr) (h : ReorderInv ext m)
    (hs0 : m.sched = []) (order : List (String × Int)) (ho : ReqOrder order m) :
    ∃ m', reorder (some order) m = (.ok (), m') ∧ ReorderInv ext m' ∧ m'.sched = [] ∧
      ReorderRel ext m m' ∧
      ∀ v p, order.lookup v = some p → m.tbl.vars.contains v = true →
        m'.tbl.vars[v]? = some p.toNat ∧ m'.tbl.l2v[p.toNat]? = some v := by
  obtain ⟨_, m', hrun, hp⟩ := Returns.elim (sortToOrder_exact (swapOK_default ext) order m ⟨h, hs0⟩ ho)
  exact ⟨m', hrun, hp.1.1, hp.1.2, hp.2.1, hp.2.2.2⟩

/-- C07 (`reorder_to_pairs`, default schedule) -/
theorem C07_reorderToPairs_total (ext : Nat → Nat) (m : Mgr) (h : ReorderInv ext m)
    (hs0 : m.sched = []) (pairs : List (String × String))
    (hdecl : ∀ v ∈ pairNames pairs, m.tbl.vars.contains v = true) (hnd : (pairNames pairs).Nodup) :
    ∃ m', reorderToPairs pairs m = (.ok (), m') ∧ ReorderInv ext m' ∧ m'.sched = [] ∧
      ReorderRel ext m m' ∧ ∀ p ∈ pairs, Adj m' p.1 p.2 := by
  obtain ⟨_, m', hrun, hp⟩ :=
    Returns.elim (reorderToPairs_adjacent (swapOK_default ext) pairs m ⟨h, hs0⟩ hdecl hnd)
  exact ⟨m', hrun, hp.1.1, hp.1.2, hp.2.1, hp.2.2.2.1⟩

def errOf {α} : Except Err α → Option Err
  | .error e => some e
  | .ok _ => none

/-- a manager with exactly one declared variable and no node -/
def exOneVar : Mgr := ((addVar "x" none : M Nat) {}).2

/-- FINDING (real code: `b = BDD(); b.declare('x'); dd.bdd.reorder(b)` raises
`ValueError: min() iterable argument is empty`): with exactly one variable `_reorder_var` calls
`min` on an empty `sizes` dict.  (With no variable at all `_apply_sifting` raises
`UnboundLocalError`.)  The model mirrors both. -/
theorem sift_single_variable_raises :
    exOneVar.nvars = 1 ∧ errOf (reorder none exOneVar).1 = some .value ∧
    errOf (reorder none ({} : Mgr)).1 = some .other := by
  decide

/-! ### non-vacuity

`exM` (DDProofs.GcExample): variables `a` (level 0), `b` (level 1); nodes 2 = `a`, 3 = `b`,
4 = `a ∧ b`; the user holds node 4, which depends on both levels. -/

/-- … and the swap of its two levels returns normally with the postcondition -/
example : ∃ r m', swap (.level 0) (.level 1) true exM = (.ok r, m') ∧ SwapPost exM exExt 0 r m' :=
  C07_swap_total exExt exM exM_reorderInv 0 (by decide) (by decide)

/-- the held node 4 (`a ∧ b`) is an x-node that depends on the lower level: the rebuilding loop
(cofactors, two `find_or_add`s) is exercised by the example -/
example : IsDep exM.tbl 0 4 ∧ 0 < exExt 4 := by
  refine ⟨⟨⟨0, -1, 3⟩, by decide, rfl, Or.inr (by decide)⟩, by decide⟩

/-- sifting the example manager (two variables, held node 4) returns normally -/
example : ∃ m', reorder none exM = (.ok (), m') ∧ ReorderInv exExt m' ∧ ReorderRel exExt exM m' := by
  obtain ⟨m', a, b, _, _, d⟩ := C07_sift_total exExt exM exM_reorderInv (by decide) (by decide)
  exact ⟨m', a, b, d⟩

/-- a requested order for the example: `b` first -/
example : ReqOrder [("a", 1), ("b", 0)] exM := reqOrder_of_check (by decide)

/-- a pairing for the example -/
example : (∀ v ∈ pairNames [("a", "b")], exM.tbl.vars.contains v = true) ∧ (pairNames [("a", "b")]).Nodup :=
  ⟨by decide, by decide⟩

end DD
