/-
  DDProps.C07Accept — ACCEPTANCE of recorded schedules by the reordering model (C07).

  The theorems of DDProps.C07 / C07Levels / C09SchedKeep hold "for every recorded schedule", with
  `.sched` (MODEL-SCHEDULE-MISMATCH) as an allowed outcome of every non-empty schedule.  Here: the
  iteration orders the real code can take are the VALID CHOICES (`Choice.Valid`: a permutation of
  the variable names for `for var in names`, a permutation of each level set at the entry of each
  `swap`); the choice-driven model (DD.OrderChoice: the text of DD.Order with the orders taken
  from the choice, returning the record of the orders it was given) is the relation "the run
  follows this choice"; and

  * the scheduled model REALISES every element of the relation: the record of a returning
    choice-driven run is a schedule that the scheduled model accepts — it returns the same value in
    the same state and consumes the schedule exactly (`C07_reorder_realises_choice`, …);
  * a choice-driven run that raises, raises an exception of the code — never `.sched` — and so
    does the scheduled model under some schedule;
  * for sifting with two variables the relation is TOTAL: every valid choice has a returning run
    (`C07_sift_accepts_every_choice`, from `C07_sift`);
  * the guards `isSchedErr … = false` of the history theorems follow from "`sch` encodes a
    choice" (`EncodesChoice`, decidable), which holds exactly of the records of valid choices
    (`C07_encodes_iff_choice`).
-/
import DDProofs.SchedReplay
import DDProps.C09Sched
open Std

namespace DD

/-- C07 (acceptance, sifting): with at least two variables, FOR EVERY VALID CHOICE `c` of iteration
orders there is a schedule `sch` — the record of the orders `c` picked: `reorderC c none [] m`
returns it — such that `reorder(bdd)` started with `sch` in `m.sched` returns normally, in the
state the choice-driven run ended in, with the schedule consumed exactly (`sched = []`; followed by
any `rest`, exactly `rest` is left); that state satisfies `ReorderInv`, has no unreferenced node
and keeps every held reference. -/
theorem C07_sift_accepts_every_choice (ext : Nat → Nat) (c : Choice) (hc : c.Valid) (m : Mgr)
    (h : ReorderInv ext m) (h2 : 2 ≤ m.nvars) :
    ∃ sch m', reorderC c none [] m = (.ok ((), sch), m') ∧
      reorder none { m with sched := sch } = (.ok (), { m' with sched := [] }) ∧
      (∀ rest, reorder none { m with sched := sch ++ rest } = (.ok (), { m' with sched := rest })) ∧
      ReorderInv ext m' ∧ NoGarbage m' ∧ ReorderRel ext m m' := by
  obtain ⟨sch, m', hrun, hp, hrel, hacc⟩ := applySiftingC_total ext c hc m h h2 []
  refine ⟨sch, m', by rw [← List.nil_append sch]; exact hrun, ?_, hacc, hp.1, hp.2, hrel⟩
  have := hacc []
  rw [List.append_nil] at this
  exact this

/-- C07 (acceptance, `reorder(bdd)` / `reorder(bdd, order)`, any arguments): the record of a
returning choice-driven run is accepted and consumed exactly -/
theorem C07_reorder_realises_choice (ext : Nat → Nat) (c : Choice) (hc : c.Valid) (m : Mgr)
    (h : ReorderInv ext m) (order : Option (List (String × Int))) (sch : List SchedItem) (m' : Mgr)
    (hrun : reorderC c order [] m = (.ok ((), sch), m')) :
    ReorderInv ext m' ∧
    ∀ rest, reorder order { m with sched := sch ++ rest } = (.ok (), { m' with sched := rest }) := by
  have hA := reorderC_acc ext c hc order [] m h
  rw [hrun] at hA
  exact hA.realises

/-- … and a choice-driven run that raises, raises an exception of the code, which the scheduled
model raises too under some schedule -/
theorem C07_reorder_choice_raises (ext : Nat → Nat) (c : Choice) (hc : c.Valid) (m : Mgr)
    (h : ReorderInv ext m) (order : Option (List (String × Int))) (e : Err) (m' : Mgr)
    (hrun : reorderC c order [] m = (.error e, m')) :
    e ≠ .sched ∧ ∃ sch, ∀ rest, (reorder order { m with sched := sch ++ rest }).1 = .error e := by
  have hA := reorderC_acc ext c hc order [] m h
  rw [hrun] at hA
  exact hA.err_run

/-- C07 (acceptance, the public `swap(x, y)`, any arguments) -/
theorem C07_swap_realises_choice (ext : Nat → Nat) (c : Choice) (hc : c.Valid) (m : Mgr)
    (h : ReorderInv ext m) (x y : VarOrLevel) (r : Nat × Nat) (sch : List SchedItem) (m' : Mgr)
    (hrun : swapPublicC c x y [] m = (.ok (r, sch), m')) :
    ReorderInv ext m' ∧
    ∀ rest, swap x y false { m with sched := sch ++ rest } = (.ok r, { m' with sched := rest }) := by
  have hA := swapPublicC_acc ext c hc m h x y []
  rw [hrun] at hA
  exact hA.realises

/-- C07 (acceptance, `reorder_to_pairs`) -/
theorem C07_reorderToPairs_realises_choice (ext : Nat → Nat) (c : Choice) (hc : c.Valid) (m : Mgr)
    (h : ReorderInv ext m) (ps : List (String × String)) (sch : List SchedItem) (m' : Mgr)
    (hrun : reorderToPairsC c ps [] m = (.ok ((), sch), m')) :
    ReorderInv ext m' ∧
    ∀ rest, reorderToPairs ps { m with sched := sch ++ rest } = (.ok (), { m' with sched := rest }) := by
  have hA := reorderToPairsC_acc ext c hc ps [] m h
  rw [hrun] at hA
  exact hA.realises

/-- the default choice (ascending orders) is valid; so is the choice read off ANY schedule -/
theorem C07_choices_exist : Choice.default.Valid ∧ ∀ sch, (Choice.ofSched sch).Valid :=
  ⟨Choice.default_valid, Choice.ofSched_valid⟩

/-- C07 (guards): in a good state of a history, a schedule that ENCODES A CHOICE (decidable:
replaying the choice read off the schedule records exactly the schedule) passes the guards that
`OpGuard2` / `OpGuard4` put on the explicit reorderings -/
theorem C07_guards_of_encodes (m : Mgr) (ext : Nat → Nat) (h : Good3 m ext) (sch : List SchedItem) :
    (EncodesChoice (fun c => reorderC c none) m sch → OpGuard2 m ext (.sift sch)) ∧
    (∀ o, EncodesChoice (fun c => reorderC c (some o)) m sch → OpGuard2 m ext (.reorderTo sch o)) ∧
    (∀ x y, EncodesChoice (fun c => swapPublicC c x y) m sch → OpGuard2 m ext (.swap sch x y)) ∧
    (∀ ps, EncodesChoice (fun c => reorderToPairsC c ps) m sch →
      OpGuard4 m ext (.reorderToPairs sch ps)) :=
  ⟨reorder_guard_of_choice (Choice.ofSched_valid sch) m none,
    fun o => reorder_guard_of_choice (Choice.ofSched_valid sch) m (some o),
    swap_guard_of_choice (Choice.ofSched_valid sch) m,
    reorderToPairs_guard_of_choice (Choice.ofSched_valid sch) m⟩

/-- C07 (guards, sifting is total): with two variables every valid choice yields a schedule that
passes the guard of `sift` -/
theorem C07_sift_guard_every_choice (m : Mgr) (ext : Nat → Nat) (h : Good3 m ext) (h2 : 2 ≤ m.nvars)
    (c : Choice) (hc : c.Valid) :
    ∃ sch, logOf (reorderC c none [] m).1 = some sch ∧ OpGuard2 m ext (.sift sch) := by
  obtain ⟨sch, m', hrun, _⟩ := applySiftingC_total ext c hc m (h.reorderInv m.sched) h2 []
  have hl : logOf (reorderC c none [] m).1 = some sch := by
    show logOf (applySiftingC c [] m).1 = some sch
    rw [hrun]; rfl
  exact ⟨sch, hl, reorder_guard_of_choice hc m none hl⟩

/-- C07 (guards, the decidable guard is EXACT): a schedule encodes a choice — replaying the choice
read off the schedule records the schedule — IFF it is the record of a returning choice-driven run
under SOME valid choice (DDProofs.SchedReplay: a run depends on the choice only through the
answers recorded) -/
theorem C07_encodes_iff_choice (m : Mgr) (sch : List SchedItem) :
    (∀ order, EncodesChoice (fun c => reorderC c order) m sch ↔
      ∃ c : Choice, c.Valid ∧ logOf (reorderC c order [] m).1 = some sch) ∧
    (∀ x y, EncodesChoice (fun c => swapPublicC c x y) m sch ↔
      ∃ c : Choice, c.Valid ∧ logOf (swapPublicC c x y [] m).1 = some sch) ∧
    (∀ ps, EncodesChoice (fun c => reorderToPairsC c ps) m sch ↔
      ∃ c : Choice, c.Valid ∧ logOf (reorderToPairsC c ps [] m).1 = some sch) :=
  ⟨fun order => ⟨fun h => ⟨_, Choice.ofSched_valid sch, h⟩,
      fun ⟨c, hc, hl⟩ => (encodes_of_choice c hc m sch).1 order hl⟩,
   fun x y => ⟨fun h => ⟨_, Choice.ofSched_valid sch, h⟩,
      fun ⟨c, hc, hl⟩ => (encodes_of_choice c hc m sch).2.1 x y hl⟩,
   fun ps => ⟨fun h => ⟨_, Choice.ofSched_valid sch, h⟩,
      fun ⟨c, hc, hl⟩ => (encodes_of_choice c hc m sch).2.2 ps hl⟩⟩

/-! ### non-vacuity: a choice that is not the default one -/

/-- every set in descending order -/
def Choice.rev : Choice := ⟨fun _ l => l.reverse, fun _ _ l => l.reverse⟩

theorem Choice.rev_valid : Choice.rev.Valid :=
  ⟨fun _ l => List.reverse_perm l, fun _ _ l => List.reverse_perm l⟩

/-- the record of sifting `exSchedM` (three variables, five nodes; DDProps.C09Sched) under
`Choice.rev`: the variables in the order `c, b, a`, thirteen swaps — the default choice visits
`a, b, c` and swaps fourteen times -/
def exRevSched : List SchedItem :=
  [.sift ["c", "b", "a"],
   .swap [(1, [3]), (2, [4])],
   .swap [(0, [6, 5, 2]), (1, [4])],
   .swap [(0, [6, 5, 4]), (1, [2])],
   .swap [(1, [4]), (2, [3])],
   .swap [(1, [3]), (2, [4])],
   .swap [(1, [4]), (2, [3])],
   .swap [(0, [6, 5, 2]), (1, [3])],
   .swap [(0, [3]), (1, [6, 5, 2])],
   .swap [(1, [3]), (2, [4])],
   .swap [(0, [6, 5, 2]), (1, [4])],
   .swap [(1, [2]), (2, [3])],
   .swap [(1, [3]), (2, [2])],
   .swap [(0, [6, 5, 4]), (1, [2])]]

/-- the two choice-driven siftings of `exSchedM`, each evaluated once: the record and the order
left under `Choice.rev`, the length of the record under the default choice -/
theorem exRev_runs :
    (logOf (reorderC Choice.rev none [] exSchedM).1 = some exRevSched ∧
     (reorderC Choice.rev none [] exSchedM).2.tbl.l2v.toList = [(0, "a"), (1, "c"), (2, "b")]) ∧
    (logOf (reorderC Choice.default none [] exSchedM).1).map List.length = some 15 := by
  decide +kernel

theorem C07_accept_example :
    logOf (reorderC Choice.rev none [] exSchedM).1 = some exRevSched ∧
    (logOf (reorderC Choice.default none [] exSchedM).1).map List.length = some 15 ∧
    (reorder none { exSchedM with sched := exRevSched }).1.toOption = some () ∧
    (reorder none { exSchedM with sched := exRevSched }).2.sched = [] ∧
    (reorder none { exSchedM with sched := exRevSched }).2.tbl.l2v.toList =
      [(0, "a"), (1, "c"), (2, "b")] ∧
    (reorderC Choice.rev none [] exSchedM).2.tbl.l2v.toList = [(0, "a"), (1, "c"), (2, "b")] ∧
    EncodesChoice (fun c => reorderC c none) exSchedM exRevSched := by
  obtain ⟨⟨hlog, hl2v⟩, hdef⟩ := exRev_runs
  -- the scheduled run is the choice-driven one (acceptance) and the replay records the same
  -- (`encodes_of_choice`): neither is evaluated
  have hacc := reorder_of_log Choice.rev Choice.rev_valid exSchedM none _ hlog
  obtain ⟨h1, h2⟩ := setS_nil_reads (congrArg Prod.snd hacc)
  exact ⟨hlog, hdef, congrArg (fun x => x.1.toOption) hacc, h1, h2 ▸ hl2v, hl2v,
    (encodes_of_choice Choice.rev Choice.rev_valid exSchedM exRevSched).1 none hlog⟩

/-- the hypotheses of `C07_sift_accepts_every_choice` hold of the example, and the schedule it
yields is the one computed above -/
example : ∃ m', reorder none { exSchedM with sched := exRevSched } =
      (.ok (), { m' with sched := [] }) ∧ ReorderInv exSchedExt m' ∧ NoGarbage m' := by
  obtain ⟨sch, m', hrun, hacc, _, hR, hN, _⟩ :=
    C07_sift_accepts_every_choice exSchedExt Choice.rev Choice.rev_valid exSchedM
      exSchedM_dynInv.toS.reorderInv exSchedM_dynInv.nvars
  have h1 := C07_accept_example.1
  rw [hrun] at h1
  cases h1
  exact ⟨m', hacc, hR, hN⟩

end DD
