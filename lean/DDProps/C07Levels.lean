/-
  DDProps.C07Levels — C07, the clause "no assertion of `swap` can fire", for the code AS WRITTEN:
  with the caller's dict of level sets computed once and PATCHED by every swap.

  `BDD.swap(x, y, all_levels)` iterates over `all_levels[x]` and `all_levels[y]`.  The dict is
  computed ONCE by the caller — `levels = bdd._levels()` in `_apply_sifting`, `_sort_to_order`,
  `reorder_to_pairs` (in `swap` itself when `all_levels is None`) — and every `swap` patches the
  two entries it touched from the sets `newx`, `newy` built by its closing loops
  (`all_levels[x] = newy; all_levels[y] = newx`).  Were an entry stale, the loops of a later
  `swap` would raise: `KeyError` at `self._succ[abs(u)]` for a node that was collected,
  `AssertionError` at `if i != j` for a node that moved, or silently skip a node that is missing
  from its set (`C07_stale_levels_example`: the table is then NOT rebuilt correctly).  The model of
  DD.Order recomputes `nodesAt m.tbl j` from `_succ` at every swap (`takeSwapOrders`), and its
  `checkNewLevels` does the assertions without building the sets; so the theorems of DDProps.C07
  rest on the unproved assumption that the patched sets ARE the level sets at every swap.

  DD.OrderLevels threads the dict explicitly (`LevelSets`): `levelSets` = `_levels()`,
  `checkNewLevelsL` builds `newx` / `newy` in the three closing loops with the code's assertions,
  `swapWithL` / `swapBodyL` / `swapL` patch it, the drivers pass it along as the Python functions
  pass `levels`; the iteration order of a set comes from the recorded schedule, checked against
  the THREADED set (ascending order when nothing is recorded), as in DD.Order.
  `LevelsOK al m`: for every level `j` of a declared variable, `al[j]` is — as a set — the set of
  nodes whose level is `j`.  `C07_all_levels_invariant`: a `swap` of two adjacent levels started
  with `LevelsOK al m` (and `ReorderInv ext m` of DDProps.C07) does exactly what the recomputing
  `swap` does, and the patched dict satisfies `LevelsOK` for the final state.  Three facts carry
  the proof: `xfresh` holds EVERY node the surgery created (`swapNodes_extra`); the rooted
  collection at the end of `swap` removes only nodes that were at the LOWER level — a child of a
  removed node is re-referenced by the node replacing its parent — so the sets of all other levels
  stay exact although nobody patches them (`dead_at_lower`); the nodes at the two levels afterwards
  all come from `levels[x]`, `levels[y]`, `xfresh` (`swap_level_facts`).  Hence the drivers with the
  dict threaded ARE the functions of DD.Order, and every theorem of DDProps.C07 transfers.
-/
import DDProps.C07
namespace DD

/-- C07: `levels = bdd._levels()` holds exactly the level sets -/
theorem C07_levels_initial (m : Mgr) (hO : OrderOK m.tbl) : LevelsOK (levelSets m) m :=
  levelSets_ok m hO

/-- what `SimL ext a b` says (DDProofs.SwapLevelsEq): the threaded computation `a` returns what
the recomputing computation `b` returns — on success the same result and final state, together
with a dict that holds exactly the level sets of that state, which satisfies the reordering
invariant; on failure the same exception in the same state -/
theorem C07_simL_means {α} (ext : Nat → Nat) (a : Except Err (α × LevelSets) × Mgr)
    (b : Except Err α × Mgr) (h : SimL ext a b) :
    a.2 = b.2 ∧ a.1.map (·.1) = b.1 ∧
    ∀ r al, a.1 = .ok (r, al) → LevelsOK al a.2 ∧ ReorderInv ext a.2 := by
  obtain ⟨rb, mb⟩ := b
  cases rb with
  | ok r =>
    obtain ⟨al', ha, hR, hal⟩ := h
    subst ha
    exact ⟨rfl, rfl, fun r' al'' e => by cases e; exact ⟨hal, hR⟩⟩
  | error e =>
    have ha : a = (.error e, mb) := h
    subst ha
    exact ⟨rfl, rfl, fun r al e' => by cases e'⟩

/-- C07, THE INVARIANT OF `all_levels`: a `swap` of the adjacent levels `x`, `x + 1`, FOR EVERY
SCHEDULE, started in a state satisfying the reordering invariant with a dict `al` that holds
exactly the level sets: iterating over the THREADED sets `al[x]`, `al[x+1]` and patching
`al[x] := newy`, `al[x+1] := newx` from the closing loops, it returns what the swap that
recomputes the level sets returns (`C07_swap`: normally, or the model's schedule mismatch), in the
same final state, and the patched dict again holds exactly the level sets — of ALL levels, also
those nobody patched.  In particular none of the `KeyError`s / `AssertionError`s of the loops over
`all_levels[j]` can fire, at this swap or at any later one. -/
theorem C07_all_levels_invariant (ext : Nat → Nat) (m : Mgr) (h : ReorderInv ext m) (x : Nat)
    (hx : x + 1 < m.nvars) (al : LevelSets) (hal : LevelsOK al m) :
    SimL ext (swapBodyL al x (x + 1) m) (swapBody x (x + 1) m) ∧
    OkOrSched (fun r m' => SwapPost m ext x r.1 m' ∧ LevelsOK r.2 m') (swapBodyL al x (x + 1) m) := by
  have hs := swapBodyL_sim ext m h x hx al hal
  exact ⟨hs, hs.okOr (swapBody_spec m ext h.inv h.order h.refExact h.off x hx)⟩

/-- C07: the invariant for fixed iteration orders (any two orders of the two level sets): the
run with the dict threaded is the run of `swapWith`, and the patched dict is exact -/
theorem C07_swapWith_levels (m : Mgr) (ext : Nat → Nat) (s : List SchedItem) (h : ReorderInv ext m)
    (x : Nat) (hx : x + 1 < m.nvars) (ox oy : List Nat) (hox : LevelOrder m.tbl x ox)
    (hoy : LevelOrder m.tbl (x + 1) oy) (al : LevelSets) (hal : LevelsOK al m) :
    ∃ r m' al', swapWith x (x + 1) m.len ox oy { m with sched := s } = (.ok r, m') ∧
      swapWithL al x (x + 1) m.len ox oy { m with sched := s } = (.ok (r, al'), m') ∧
      LevelsOK al' m' :=
  swapWithL_spec m ext s h.inv h.order h.refExact h.off x hx ox oy hox hoy al hal

/-- C07: what stays exact without being patched — the rooted collection at the end of `swap`
removes only nodes that were at the lower of the two levels -/
theorem C07_swap_collects_lower_level_only {m m6 : Mgr} {ext : Nat → Nat} {x : Nat} {g : List Nat}
    (hI : Inv m) (hx : x + 1 < m.nvars)
    (hrel : SwapRel m.tbl m6.tbl x (fun _ => False)) (hR6 : RefExact m6 ext)
    (hg : ∀ r ∈ g, ∃ u n, IsDep m.tbl x u ∧ m.tbl.node? u = some n ∧
      (n.lo.natAbs = r ∨ n.hi.natAbs = r)) :
    ∀ k, Dead m6.tbl ext (gcStart (some (g.map (fun (k : Nat) => (k : Int)))) m6) k →
      ∃ n, m.tbl.node? k = some n ∧ n.lvl = x + 1 :=
  dead_at_lower hI hx hrel hR6 hg

/-- C07: the public `swap(x, y, all_levels)` with ANY arguments (names or
levels, valid or not), the dict given by the caller or `None` (full collection, then
`all_levels = self._levels()`): the version that threads and patches the dict agrees with the
version that recomputes the level sets -/
theorem C07_swapWithLevels_eq (ext : Nat → Nat) (m : Mgr) (h : ReorderInv ext m) (xa ya : VarOrLevel) :
    (∀ al, LevelsOK al m → SimL ext (swapL xa ya (some al) m) (swap xa ya true m)) ∧
    SimL ext (swapL xa ya none m) (swap xa ya false m) :=
  ⟨fun al hal => swapL_some_sim ext m h xa ya al hal, swapL_none_sim ext m h xa ya⟩

/-- C07: `_shift(bdd, start, end, levels)` with the dict threaded -/
theorem C07_shift_levels_eq (ext : Nat → Nat) (m : Mgr) (h : ReorderInv ext m) (s e : Nat)
    (al : LevelSets) (hal : LevelsOK al m) : SimL ext (shiftL s e al m) (shift s e m) :=
  shiftL_sim ext s e al m h hal

/-- C07: `reorder(bdd)` (sifting) and `reorder(bdd, order)` with `levels = bdd._levels()`
computed once and patched by the swaps ARE the functions of DD.Order: same result, same state -/
theorem C07_reorder_levels_eq (ext : Nat → Nat) (m : Mgr) (h : ReorderInv ext m)
    (order : Option (List (String × Int))) : reorderL order m = reorder order m :=
  reorderL_eq ext m h order

/-- C07: the same for `reorder_to_pairs` -/
theorem C07_reorderToPairs_levels_eq (ext : Nat → Nat) (m : Mgr) (h : ReorderInv ext m)
    (pairs : List (String × String)) : reorderToPairsL pairs m = reorderToPairs pairs m :=
  reorderToPairsL_eq ext m h pairs

/-- C07 (sifting, dict threaded): with at least two variables, for every schedule, `reorder(bdd)`
returns normally — none of the assertions of `swap`, `_shift`, `_reorder_var`, `_apply_sifting`
fires, no `KeyError` from a stale level set — with the post-condition of `C07_sift` -/
theorem C07_sift_levels (ext : Nat → Nat) (m : Mgr) (h : ReorderInv ext m) (h2 : 2 ≤ m.nvars) :
    OkOrSched (fun _ m' => ReorderInv ext m' ∧ NoGarbage m' ∧ ReorderRel ext m m') (reorderL none m) := by
  rw [reorderL_eq ext m h none]
  exact C07_sift ext m h h2

/-- C07 (`reorder(bdd, order)`, dict threaded) -/
theorem C07_reorder_order_levels (ext : Nat → Nat) (m : Mgr) (h : ReorderInv ext m)
    (order : List (String × Int)) (ho : ReqOrder order m) :
    OkOrSched (fun _ m' => ReorderInv ext m' ∧ ReorderRel ext m m' ∧ m'.nvars = m.nvars ∧
        ∀ v p, order.lookup v = some p → m.tbl.vars.contains v = true →
          m'.tbl.vars[v]? = some p.toNat ∧ m'.tbl.l2v[p.toNat]? = some v)
      (reorderL (some order) m) := by
  rw [reorderL_eq ext m h (some order)]
  exact C07_reorder_order ext m h order ho

/-- C07 (`reorder_to_pairs`, dict threaded) -/
theorem C07_reorderToPairs_levels (ext : Nat → Nat) (m : Mgr) (h : ReorderInv ext m)
    (pairs : List (String × String))
    (hdecl : ∀ v ∈ pairNames pairs, m.tbl.vars.contains v = true) (hnd : (pairNames pairs).Nodup) :
    OkOrSched (fun _ m' => ReorderInv ext m' ∧ ReorderRel ext m m' ∧ m'.nvars = m.nvars ∧
        ∀ p ∈ pairs, Adj m' p.1 p.2)
      (reorderToPairsL pairs m) := by
  rw [reorderToPairsL_eq ext m h pairs]
  exact C07_reorderToPairs ext m h pairs hdecl hnd

/-- C07 (public `bdd.swap(x, y)`, dict computed by `swap` itself and patched) -/
theorem C07_swap_public_levels (ext : Nat → Nat) (m : Mgr) (h : ReorderInv ext m) (xa ya : VarOrLevel)
    (x a b : Nat) (hx : x + 1 < m.nvars) (ha : Resolves m xa a) (hb : Resolves m ya b)
    (hab : (a = x ∧ b = x + 1) ∨ (a = x + 1 ∧ b = x)) :
    OkOrSched (fun r m' => ReorderInv ext m' ∧ ReorderRel ext m m' ∧ Exch m m' x ∧ r.1.2 = m'.len ∧
        r.1.1 ≤ m.len ∧ LevelsOK r.2 m')
      (swapL xa ya none m) :=
  ((swapL_none_sim ext m h xa ya).okOr (C07_swap_public ext m h xa ya x a b hx ha hb hab)).mono
    (fun _ _ hp => ⟨hp.1.1, hp.1.2.1, hp.1.2.2.1, hp.1.2.2.2.1, hp.1.2.2.2.2, hp.2⟩)

/-! ### non-vacuity

`exM` (DDProofs.GcExample): variables `a` (level 0), `b` (level 1); nodes 2 = `a`, 3 = `b`,
4 = `a ∧ b`; the user holds node 4. -/

/-- the hypotheses hold of `exM` with the dict `bdd._levels()` = `{0: {2, 4}, 1: {3}}` -/
example : ReorderInv exExt exM ∧ LevelsOK (levelSets exM) exM ∧
    (levelSets exM).toList = [(0, [2, 4]), (1, [3])] :=
  ⟨exM_reorderInv, levelSets_ok exM exM_orderOK, by decide⟩

/-! The four states below are `@[irreducible]`: when a theorem is applied to them, the elaborator's
unification would otherwise unfold them and run `swap` / `swapL` by `whnf` (the application in the
`example` after `C07_levels_example` does not elaborate without it); `decide +kernel` evaluates
them all the same. -/

/-- `exM` with a NON-default recorded order of `all_levels[0]` (`4, 2`; the default is `2, 4`) -/
@[irreducible] def exMsw : Mgr := { exM with sched := [.swap [(0, [4, 2]), (1, [3])]] }

/-- the caller's dict `bdd._levels()` of `exM` -/
@[irreducible] def exLv : LevelSets := levelSets exM

/-- `exM` itself (no recorded schedule), as an irreducible constant -/
@[irreducible] def exM0 : Mgr := exM

/-- a STALE dict: node 4 is missing from the set of level 0 -/
@[irreducible] def exLvStale : LevelSets := (levelSets exM).insert 0 [2]

theorem exMsw_reorderInv : ReorderInv exExt exMsw := by
  unfold exMsw
  exact exM_good3.reorderInv _

theorem exLv_ok : LevelsOK exLv exMsw := by
  unfold exLv exMsw
  exact (levelSets_ok exM exM_orderOK).setSched _

/-- a swap with the caller's dict under the non-default recorded order: the threaded version
returns what the recomputing one returns, and hands back the patched dict `{0: {4}, 1: {2}}` -/
theorem C07_levels_example :
    (swapL (.level 0) (.level 1) (some exLv) exMsw).1.toOption.map
      (fun r => (r.1, r.2.toList)) = some ((4, 3), [(0, [4]), (1, [2])]) ∧
    (swap (.level 0) (.level 1) true exMsw).1.toOption = some (4, 3) := by
  decide +kernel

example : SimL exExt (swapL (.level 0) (.level 1) (some exLv) exMsw)
    (swap (.level 0) (.level 1) true exMsw) :=
  (C07_swapWithLevels_eq exExt exMsw exMsw_reorderInv _ _).1 exLv exLv_ok

/-- the hypothesis `LevelsOK` is NOT redundant: with the STALE dict the threaded swap silently
skips node 4 and answers differently from the recomputing swap — this is what the invariant
excludes for the dicts the code actually passes -/
theorem C07_stale_levels_example :
    (swapL (.level 0) (.level 1) (some exLvStale) exM0).1.toOption.map (·.1) = some (4, 4) ∧
    (swap (.level 0) (.level 1) true exM0).1.toOption = some (4, 3) := by
  decide +kernel

/-- sifting `exM` with the dict threaded returns normally -/
example : ∃ m', reorderL none exM = (.ok (), m') ∧ ReorderInv exExt m' ∧ ReorderRel exExt exM m' := by
  rw [C07_reorder_levels_eq exExt exM exM_reorderInv none]
  obtain ⟨m', a, b, _, _, d⟩ := C07_sift_total exExt exM exM_reorderInv (by decide) (by decide)
  exact ⟨m', a, b, d⟩

end DD
