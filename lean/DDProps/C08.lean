/-
  DDProps.C08 — `dd.autoref` keeps live `Function`s valid and releases exactly what is dropped.
  Model: `DD.AMgr` (a `dd.bdd.BDD` manager + the registry of live `Function`s, lean/DD/Auto.lean).
  Invariant `AInv off a`: `Inv a.m`, every handle on a stored node, and the count equation
  `ref k = indeg k + #{h | |handles h| = k} + (if k = 1 then 1 else 0)` with no key of `_ref`
  outside `_succ`; `off = true` adds "dynamic reordering is not enabled", `off = false` is EVERY
  configuration (reordering enabled or not, any number of declared variables).  Every method keeps
  it, touches no handle but the new one and keeps the meaning by name of every live `Function`,
  whether it returns or raises: for ARBITRARY arguments in both modes (`C08_ops_off`,
  `C08_ops_dyn_total`), under the documented precondition for the methods that have one
  (`C08_ops_guarded`, `C08_find_or_add`, `C08_copy_vars`; `add_var` that leaves a gap, F7, is not
  covered); through histories (`C08_live_den`); and the shutdown check passes once every `Function`
  is gone (`C08_shutdown`).  What the methods RETURN: DDProps/C08Values.lean, C08Values2.lean.
-/
import DDProofs.AutoDyn
import DDProofs.AutoCopyVars
import DDProofs.AutoDynTotal
import DDProofs.ApiReduction
import DDProps.C09
import DDProofs.DynCopy
import DDProofs.DynImageOps
open Std

namespace DD

variable {off : Bool}

/-- creating a `Function` (`Function.__init__`, `_wrap`) on a stored node with a fresh id:
succeeds, the invariant (count equation included) is kept, the table is untouched -/
theorem C08_wrap (a : AMgr) (h : Nat) (u : Int) (hi : AInv off a)
    (hf : a.handles.contains h = false) (hu : a.m.tbl.Mem u) :
    ∃ a', wrap h u a = (.ok (), a') ∧ wrapF h u a = (.ok (), a') ∧ AInv off a' ∧ a'.m.tbl = a.m.tbl ∧
      a'.handles = a.handles.insert h u := by
  obtain ⟨a1, h1, i1, t1, hh1, _⟩ := Auto.wrapF_spec session a h u hi hf hu
  exact ⟨a1, wrapF_eq_wrap h u ▸ h1, h1, i1, t1, hh1⟩

/-- dropping a live `Function` (`__del__`): exactly one reference is released, the invariant
(count equation included) is kept, the table is untouched -/
theorem C08_drop (a : AMgr) (h : Nat) (u : Int) (hi : AInv off a) (hh : a.handles[h]? = some u) :
    ∃ a', drop h a = (.ok (), a') ∧ AInv off a' ∧ a'.m.tbl = a.m.tbl ∧
      a'.handles = a.handles.erase h := by
  obtain ⟨a1, h1, i1, t1, hh1, _⟩ := Auto.drop_spec session a h u hi hh
  exact ⟨a1, h1, i1, t1, hh1⟩

/-- a temporary `Function` (created and dropped again) leaves every count as it was -/
theorem C08_drop_wrap_id (a : AMgr) (h : Nat) (u : Int) (hi : AInv off a)
    (hf : a.handles.contains h = false) (hu : a.m.tbl.Mem u) :
    ∃ a1 a2, wrap h u a = (.ok (), a1) ∧ drop h a1 = (.ok (), a2) ∧ AInv off a2 ∧
      a2.m.tbl = a.m.tbl ∧ (∀ k : Nat, a2.m.ref[k]? = a.m.ref[k]?) ∧
      (∀ j : Nat, a2.handles[j]? = a.handles[j]?) :=
  Auto.drop_wrap_id session a h u hi hf hu

/-- the count equation in the form of the property statement -/
theorem C08_counts (a : AMgr) (hi : AInv off a) (u : Int) (hu : a.m.tbl.Mem u) :
    a.m.ref[u.natAbs]? =
      some (indeg a.m.tbl u.natAbs + hcount a.handles u.natAbs + (if u.natAbs = 1 then 1 else 0)) :=
  hi.counts.get hu

/-- the per-operation guarantee: invariant kept (count equation included), no handle
touched other than the new one(s), every live `Function` keeps its node and its meaning by
variable name, whether the method returns or raises.
`AKeeps off h` : creates at most handle `h`;  `AKeeps0 off` : the registry ends exactly as
it started (temporaries of `<=`, `<` released);  `AKeepsL off [h1, h2]` : `succ`;
`AKeepsAt off a h` : the same for the start state `a` only (methods with a precondition). -/
def C08_ops_list (off : Bool) (h : Nat) : Prop :=
  (∀ name, AKeeps off h (aVar name h)) ∧
  (∀ b, AKeeps off h (aConst b h)) ∧
  (∀ op hu hv hw, AKeeps off h (aApply op hu hv hw h)) ∧
  (∀ hg hu hv, AKeeps off h (aIte hg hu hv h)) ∧
  (∀ d hu, AKeeps off h (aLet d hu h)) ∧
  (∀ hu q fa, AKeeps off h (aQuantify hu q fa h)) ∧
  (∀ d, AKeeps off h (aCube d h)) ∧
  (∀ i, AKeeps off h (aAddInt i h)) ∧
  (∀ hu, AKeeps off h (aCopyBddSame hu h)) ∧
  (∀ pre ht hs rn q fa, AKeeps off h (aImage pre ht hs rn q fa h)) ∧
  (∀ op hs ho, AKeeps off h (fApply op hs ho h)) ∧
  (∀ high hs, AKeeps off h (fChild high hs h)) ∧
  (∀ hs, AKeeps off h (fCopy hs h)) ∧
  (∀ hu h2, h ≠ h2 → AKeepsL off [h, h2] (aSucc hu h h2)) ∧
  (∀ hs ho, AKeeps0 off (fEq hs ho)) ∧
  (∀ hs ho, AKeeps0 off (fNe hs ho)) ∧
  (∀ hs ho, AKeeps0 off (fLe hs ho)) ∧
  (∀ hs ho, AKeeps0 off (fLt hs ho)) ∧
  AKeeps off h aCollectGarbage ∧
  (∀ r, (off = true → r ≠ some true) → AKeeps off h (aConfigure r)) ∧
  (∀ ns, AKeeps off h (aDeclare ns))

/-- reordering NOT enabled: every method of the list, ARBITRARY arguments, no hypothesis.
(`apply` with every alias incl. the quantifiers; `let` in its three forms; `image`/`preimage`
as state transformers — their denotation is C13.) -/
theorem C08_ops_off (h : Nat) : C08_ops_list true h :=
  -- the table of the methods (`Auto.ops_total`) in the order of `C08_ops_list`, which leaves out
  -- `add_expr` and the copies between two managers
  have ⟨t1, t2, t3, t4, t5, t6, t7, t8, t9, _, t11, t12, t13, t14, t15, t16, t17, t18, t19, t20,
      t21, _, _, t24⟩ :=
    Auto.ops_total session (coreKeeps true) h fun r hr => Auto.aConfigure_keeps session r hr h
  ⟨t1, t2, t3, t4, t5, t6, t7, t8, t9, t24, t11, t12, t13, t14, t15, t16, t17, t18, t19, t20, t21⟩

/-- the methods with a documented precondition, reordering not enabled: the guarantee holds
in every state that meets it.
* `add_var(name, level)`: the level leaves no gap (finding F7) — every mode;
* `find_or_add(var, low, high)`: the level of `var` is above both children (the wrapper adds no
  test of its own);
* `reorder()`: at least two variables (with one the code raises `ValueError`) — every mode;
* `reorder(order)`: a complete order of the declared variables — every mode;
* `copy(u, other)` / `copy_bdd(u, other)`: the source satisfies the invariant and every variable
  of the support of `u` is declared in the target (the obligations of the VALUE; this guarantee
  does not use them, as `C08_ops_dyn_total` states it for any source and any `u`). -/
theorem C08_ops_guarded (a : AMgr) (h : Nat) :
    (∀ n l, (∀ l' : Int, l = some l' → a.m.tbl.vars[n]? = none → l' ≤ (a.m.nvars : Int)) →
      AKeepsAt off a h (aAddVar n l)) ∧
    (∀ var hlow hhigh, (∀ level lo hi, (levelOfVar var a.m).1 = .ok level →
        (nodeAny hlow a).1 = .ok lo → (nodeAny hhigh a).1 = .ok hi → FoaGuard a.m level lo hi) →
      AKeepsAt true a h (aFindOrAdd var hlow hhigh h)) ∧
    (2 ≤ a.m.nvars → AKeepsAt off a h (aReorder none)) ∧
    (∀ o, ReqOrder o a.m → AKeepsAt off a h (aReorder (some o))) ∧
    (∀ (src : AMgr) (offS : Bool) hu, AInv offS src →
      (∀ u, (nodeIn hu src).1 = .ok u → CopyPreA src.m.tbl u a.m.tbl) →
      AKeepsAt true a h (aCopyTo src hu h)) ∧
    (∀ (src : AMgr) (offS : Bool) hu, AInv offS src →
      (∀ u, (nodeOwn hu src).1 = .ok u → CopyPreA src.m.tbl u a.m.tbl) →
      AKeepsAt true a h (aCopyBddTo src hu h)) :=
  ⟨fun n l hg => Auto.liftM_keepsAt session a (Auto.addVar_keepsAt session a.m n l hg) h,
   fun var hlow hhigh hg => Auto.aFindOrAdd_keepsAtAll session a var hlow hhigh h hg,
   fun h2 => Auto.liftM_keepsAt session a (reorder_sift_keepsAt a.m h2) h,
   fun o ho => Auto.liftM_keepsAt session a (reorder_order_keepsAt a.m o ho) h,
   fun src _ hu _ _ => Auto.aCopyTo_keepsAt session a src hu h fun u _ => coreKeeps true (copyBdd_decorated _ u) a.m,
   fun src _ hu _ _ => Auto.aCopyBddTo_keepsAt session a src hu h fun u _ => coreKeeps true (copyBdd_decorated _ u) a.m⟩

/-- the methods that need no hypothesis in ANY mode (reordering enabled or not): `true`/`false`,
`_add_int`, `copy_bdd` into the same manager, `low`/`high`, `copy.copy(f)`, `succ`, `==`, `!=`,
`collect_garbage` -/
theorem C08_ops_unconditional (h : Nat) :
    (∀ b, AKeeps off h (aConst b h)) ∧ (∀ i, AKeeps off h (aAddInt i h)) ∧
    (∀ hu, AKeeps off h (aCopyBddSame hu h)) ∧ (∀ high hs, AKeeps off h (fChild high hs h)) ∧
    (∀ hs, AKeeps off h (fCopy hs h)) ∧
    (∀ hu h2, h ≠ h2 → AKeepsL off [h, h2] (aSucc hu h h2)) ∧
    (∀ hs ho, AKeeps0 off (fEq hs ho)) ∧ (∀ hs ho, AKeeps0 off (fNe hs ho)) ∧
    AKeeps off h aCollectGarbage :=
  ⟨fun b => Auto.aConst_keeps session b h, fun i => Auto.aAddInt_keeps session i h,
   fun hu => Auto.aCopyBddSame_keeps session hu h,
   fun high hs => Auto.fChild_keeps session high hs h, fun hs => Auto.fCopy_keeps session hs h,
   fun hu h2 hne => Auto.aSucc_keepsL session hu h h2 hne, fun hs ho => Auto.fEq_keeps0 session hs ho,
   fun hs ho => Auto.fNe_keeps0 session hs ho, Auto.liftM_keeps session (Auto.gc_keeps session) h⟩

/-- comparisons with an operand that is not a `Function`, and `f ^ g` (no `__xor__`): nothing
changes in any mode, whatever the answer — `f == None` is `False`, `f != None` is `True`, everything
else raises `NotImplementedError`; `f ^ g` raises `TypeError` -/
theorem C08_function_non_function_operands :
    (∀ op hs x, AKeeps0 off (fCmpOther op hs x)) ∧ (∀ hs ho, AKeeps0 off (fXor hs ho)) ∧
    (∀ (a : AMgr) hs u, a.handles[hs]? = some u →
      fCmpOther "eq" hs .none_ a = (.ok false, a) ∧ fCmpOther "ne" hs .none_ a = (.ok true, a) ∧
      (∀ op, fCmpOther op hs .other a = (.error .notImplemented, a)) ∧
      (∀ x, fCmpOther "le" hs x a = (.error .notImplemented, a)) ∧
      (∀ x, fCmpOther "lt" hs x a = (.error .notImplemented, a)) ∧
      ∀ ho v, a.handles[ho]? = some v → fXor hs ho a = (.error .type, a)) := by
  refine ⟨fun op hs x => Auto.AKeeps0.of_read session (Auto.fCmpOther_read op hs x),
    fun hs ho => Auto.AKeeps0.of_read session (Auto.fXor_read hs ho),
    fun a hs u hu => ?_⟩
  have hown : nodeOwn hs a = (.ok u, a) := by unfold nodeOwn; rw [hu]
  have ev : ∀ op x, fCmpOther op hs x a =
      (if op == "eq" && x == .none_ then (pure false : AM Bool)
       else if op == "ne" && x == .none_ then pure true else AM.throw .notImplemented) a := by
    intro op x
    unfold fCmpOther
    rw [AM.bind_eq, hown]
  refine ⟨by rw [ev]; rfl, by rw [ev]; rfl, fun op => ?_, fun x => by rw [ev]; rfl,
    fun x => by rw [ev]; rfl, fun ho v hv => ?_⟩
  · rw [ev]
    have h1 : (AOther.other == AOther.none_) = false := by decide
    simp only [h1, Bool.and_false, Bool.false_eq_true, if_false]
    rfl
  · have hany : nodeAny ho a = (.ok v, a) := by unfold nodeAny; rw [hv]
    unfold fXor
    rw [AM.bind_eq, hown]
    simp only
    rw [AM.bind_eq, hany]
    rfl

/-- dynamic reordering possibly ENABLED, ARBITRARY arguments (the counterpart of `C08_ops_off`; lifted
from the rows `X_decorated` of the table `Decorated`, read in every configuration by
`coreKeeps_of_decorated`, DDProofs/AutoFew.lean): every method of the
list, whatever the handle ids (`Function`s of this manager, of another manager, ids that are not
in use), names (declared or not) and operator strings, whether it returns or raises — with a
reordering fired at any node creation or not — keeps `AInv false` (count equation included),
touches no handle other than the new one, and every live `Function` keeps its node and its
meaning by name.  `copy` / `copy_bdd` INTO this manager from any source state.
`image` / `preimage` with arbitrary arguments (last conjunct) come from `image_decorated` /
`preimage_decorated` (DDProofs/ImageDynTotal.lean: the arguments are named and validated outside
the decorator, the bodies — fused traversal, or `_copy_bdd` / `ite` / `quantify` in the fallback
of `_preimage_of` — only add nodes); the documented result of well-formed calls is `C08_image_dyn`.
Not in this list: `reorder` / `add_var` / `find_or_add` (preconditions: `C08_ops_guarded`,
`C08_find_or_add`). -/
theorem C08_ops_dyn_total (h : Nat) :
    (∀ name, AKeeps false h (aVar name h)) ∧
    (∀ b, AKeeps false h (aConst b h)) ∧
    (∀ op hu hv hw, AKeeps false h (aApply op hu hv hw h)) ∧
    (∀ hg hu hv, AKeeps false h (aIte hg hu hv h)) ∧
    (∀ d hu, AKeeps false h (aLet d hu h)) ∧
    (∀ hu q fa, AKeeps false h (aQuantify hu q fa h)) ∧
    (∀ d, AKeeps false h (aCube d h)) ∧
    (∀ i, AKeeps false h (aAddInt i h)) ∧
    (∀ hu, AKeeps false h (aCopyBddSame hu h)) ∧
    (∀ e, AKeeps false h (aAddExpr e h)) ∧
    (∀ op hs ho, AKeeps false h (fApply op hs ho h)) ∧
    (∀ high hs, AKeeps false h (fChild high hs h)) ∧
    (∀ hs, AKeeps false h (fCopy hs h)) ∧
    (∀ hu h2, h ≠ h2 → AKeepsL false [h, h2] (aSucc hu h h2)) ∧
    (∀ hs ho, AKeeps0 false (fEq hs ho)) ∧
    (∀ hs ho, AKeeps0 false (fNe hs ho)) ∧
    (∀ hs ho, AKeeps0 false (fLe hs ho)) ∧
    (∀ hs ho, AKeeps0 false (fLt hs ho)) ∧
    AKeeps false h aCollectGarbage ∧
    (∀ r, AKeeps false h (aConfigure r)) ∧
    (∀ ns, AKeeps false h (aDeclare ns)) ∧
    (∀ (src : AMgr) hu, AKeeps false h (aCopyTo src hu h)) ∧
    (∀ (src : AMgr) hu, AKeeps false h (aCopyBddTo src hu h)) ∧
    (∀ pre ht hs rn q fa, AKeeps false h (aImage pre ht hs rn q fa h)) :=
  Auto.ops_total session (coreKeeps false) h fun r =>
    Auto.aConfigure_keeps (off := false) session r (nomatch ·) h

/-- dynamic reordering possibly ENABLED (mode `off = false`; the reordering request may fire at any
node creation, C09): for live `Function` operands and declared names these methods keep the
invariant, every other handle and the meaning of every live `Function`.
Every conjunct is an instance of `C08_ops_dyn_total` above: for THIS guarantee the hypotheses about
operands and names are not needed (what the well-formed calls RETURN is DDProps/C08Values.lean).
`image` / `preimage` with reordering enabled are in `C08_image_dyn` below; the raw `find_or_add`
is `C08_find_or_add`. -/
theorem C08_ops_dyn (a : AMgr) (h : Nat) :
    (∀ hg hu hv, AKeepsAt false a h (aIte hg hu hv h)) ∧
    (∀ op c, docConn op = some c → c.arity = 2 → c ≠ .forall_ → c ≠ .exists_ →
      Gen.allOps.contains op = true → ∀ hu hv, AKeepsAt false a h (aApply op hu (some hv) none h)) ∧
    (∀ op, docConn op = some .ite → Gen.allOps.contains op = true →
      ∀ hu hv hw, AKeepsAt false a h (aApply op hu (some hv) (some hw) h)) ∧
    (∀ name, AKeepsAt false a h (aVar name h)) ∧
    (∀ hu (names : List String) fa, (∀ s ∈ names, a.m.tbl.vars.contains s = true) →
      AKeepsAt false a h (aQuantify hu (names.map Key.name) fa h)) ∧
    (∀ (d : List (String × Bool)), (∀ p ∈ d, a.m.tbl.vars.contains p.1 = true) →
      AKeepsAt false a h (aCube d h)) ∧
    (∀ (vals : List (String × Bool)), vals ≠ [] → (∀ p ∈ vals, a.m.tbl.vars.contains p.1 = true) →
      ∀ hu, AKeepsAt false a h (aLet (.bools (boolKeys vals)) hu h)) ∧
    (∀ (dvars : List (String × String)), dvars ≠ [] → (∀ p ∈ dvars, a.m.tbl.vars.contains p.2 = true) →
      ∀ hu, AKeepsAt false a h (aLet (.names dvars) hu h)) ∧
    (∀ op c, docConn op = some c → c.arity = 2 → c ≠ .forall_ → c ≠ .exists_ →
      Gen.allOps.contains op = true → ∀ hs ho, AKeepsAt false a h (fApply op hs (some ho) h)) ∧
    (∀ op c, docConn op = some c → (c = .forall_ ∨ c = .exists_) → Gen.allOps.contains op = true →
      ∀ hu hv, AKeepsAt false a h (aApply op hu (some hv) none h)) ∧
    (∀ (d : List (String × Nat)), d ≠ [] → (∀ p ∈ d, a.m.tbl.vars.contains p.1 = true) →
      (∀ p ∈ d, ∃ v, a.handles[p.2]? = some v) → ∀ hu, AKeepsAt false a h (aLet (.funs d) hu h)) ∧
    (∀ ns, AKeeps false h (aDeclare ns)) ∧
    (∀ op hs, AKeeps false h (fApply op hs none h)) ∧
    (∀ hs ho, AKeeps0 false (fLe hs ho)) ∧
    (∀ hs ho, AKeeps0 false (fLt hs ho)) ∧
    (∀ (src : AMgr) (offS : Bool) hu, AInv offS src →
      (∀ u, (nodeIn hu src).1 = .ok u → CopyPre src.m.tbl u a.m.tbl) →
      AKeepsAt false a h (aCopyTo src hu h)) :=
  have ⟨t1, _, t3, t4, t5, t6, t7, _, _, _, t11, _, _, _, _, _, t17, t18, _, _, t21, t22, _, _⟩ :=
    C08_ops_dyn_total h
  ⟨fun hg hu hv => t4 hg hu hv a, fun op _ _ _ _ _ _ hu hv => t3 op hu (some hv) none a,
   fun op _ _ hu hv hw => t3 op hu (some hv) (some hw) a, fun name => t1 name a,
   fun hu _ fa _ => t6 hu _ fa a, fun d _ => t7 d a, fun _ _ _ hu => t5 _ hu a,
   fun _ _ _ hu => t5 _ hu a, fun op _ _ _ _ _ _ hs ho => t11 op hs (some ho) a,
   fun op _ _ _ _ hu hv => t3 op hu (some hv) none a, fun _ _ _ _ hu => t5 _ hu a,
   t21, fun op hs => t11 op hs none, t17, t18, fun src _ hu _ _ => t22 src hu a⟩

/-- the raw `find_or_add(var, low, high)` of `autoref.BDD` in BOTH modes (it runs outside the
reordering decorator, so it never reorders: `C09_findOrAdd_outside_context`): under its
documented level guard the invariant, the other handles and every live meaning are kept; the
name may be undeclared and the operands need not be live (the method raises) -/
theorem C08_find_or_add (a : AMgr) (var : String) (hlow hhigh h : Nat)
    (hg : ∀ level lo hi, (levelOfVar var a.m).1 = .ok level → (nodeAny hlow a).1 = .ok lo →
      (nodeAny hhigh a).1 = .ok hi → FoaGuard a.m level lo hi) :
    AKeepsAt off a h (aFindOrAdd var hlow hhigh h) :=
  Auto.aFindOrAdd_keepsAtAll session a var hlow hhigh h hg

/-- reordering possibly enabled, `image` / `preimage` (they run inside the decorator with their
arguments turned into names: F4c): operands live `Function`s, renaming and `qvars` by declared
names, the preconditions by name (instances of the last conjunct of `C08_ops_dyn_total`; the
documented RESULT is `C09_image_transparent` / `C09_preimage_transparent`).  The invariant (count
equation included) is kept, no handle other than the new one is touched, every live `Function`
keeps its node and its meaning by name — at whichever `find_or_add` a reordering is requested. -/
theorem C08_image_dyn (a : AMgr) (h : Nat) (ht hs : Nat) (l : List (String × String))
    (qs : List String) (fa : Bool) :
    ((∀ t s, a.handles[ht]? = some t → a.handles[hs]? = some s → ImagePre t s l qs a.m.tbl) →
      AKeepsAt false a h (aImage false ht hs (l.map fun p => (Key.name p.1, Key.name p.2))
        (qs.map Key.name) fa h)) ∧
    ((∀ s, a.handles[hs]? = some s → PreimagePreN s l qs a.m.tbl) →
      AKeepsAt false a h (aImage true ht hs (l.map fun p => (Key.name p.1, Key.name p.2))
        (qs.map Key.name) fa h)) :=
  have t := (C08_ops_dyn_total h).2.2.2.2.2.2.2.2.2.2.2.2.2.2.2.2.2.2.2.2.2.2.2
  ⟨fun _ => t false ht hs _ _ fa a, fun _ => t true ht hs _ _ fa a⟩

/-- non-vacuity (`C08_image_dyn`): the preconditions by name on the C09 example manager -/
example : ImagePre 4 1 [("b", "a")] ["a"] exDyn.tbl ∧ PreimagePreN 1 [("a", "b")] ["b"] exDyn.tbl :=
  ⟨exDyn_imagePre, exDyn_preimagePreN⟩

/-- non-vacuity of the mode: the C09 example manager (reordering enabled, two variables) -/
example : DynInv exExt exDyn := exDyn_dynInv

/-- `copy_vars(source, target)` into a target WITHOUT nodes whose declarations are compatible with
the source (a fresh target in particular, `VarsCompat.empty`): every mode.  The instance of
`C08_copy_vars` below, which does not ask `hnone`.  Afterwards the target declares exactly the
source's variables at the source's levels (C11 `copyVarsCore_spec`). -/
theorem C08_copy_vars_fresh (a : AMgr) (src : Tbl) (hO : OrderOK src) (names : List String)
    (hperm : names.Perm src.vars.keys) (hc : VarsCompat src a.m.tbl)
    (hnone : ∀ u : Nat, a.m.tbl.node? u = none) (h : Nat) :
    AKeepsAt off a h (aCopyVars src names) :=
  aCopyVars_keepsAt_compat a src hO names hperm hc h

/-- `copy_vars(source, target)` into ANY target whose declarations are compatible with the source
(`VarsCompat`: every variable the target declares is declared by the source at the same level —
the condition under which `add_var(var, level)` of the loop neither raises nor leaves a gap, F7), the
target possibly storing nodes: every mode, no hypothesis about the core left (discharged by C11
`C11_copy_vars` = `copyVarsCore_spec` + `copyVarsCore_inv`).  The invariant with the count equation
is kept, and every live `Function` keeps its meaning by name. -/
theorem C08_copy_vars (a : AMgr) (src : Tbl) (hO : OrderOK src) (names : List String)
    (hperm : names.Perm src.vars.keys) (hc : VarsCompat src a.m.tbl) (h : Nat) :
    AKeepsAt off a h (aCopyVars src names) :=
  aCopyVars_keepsAt_compat a src hO names hperm hc h

/-- the general form, from the core hypothesis -/
theorem C08_copy_vars_of_core (a : AMgr) (src : Tbl) (names : List String) (h : Nat)
    (hs : CoreKeepsAt off a.m (copyVarsCore src names)) : AKeepsAt off a h (aCopyVars src names) :=
  Auto.liftM_keepsAt session a hs h

/-- histories: through any sequence of operations with the guarantee `AKeepsL` (constructions,
operators, traversals, collections, reorderings; `AKeeps off h x` gives `AKeepsL off [h] x`,
`AKeeps0 off x` gives `AKeepsL off [] x`) and drops of *other* handles in any order, the
invariant holds and every protected live `Function` keeps its node and its meaning.
With `off = true` every operation of `C08_ops_off` qualifies without hypothesis. -/
theorem C08_live_den (P : Nat → Prop) {a a' : AMgr} (hi : AInv off a) (hr : AReach off P a a') :
    AInv off a' ∧ ∀ h, P h → ∀ u, a.handles[h]? = some u →
      a'.handles[h]? = some u ∧ a'.m.tbl.Mem u ∧
      ∀ asg, denN a'.m.tbl u asg = denN a.m.tbl u asg :=
  autoref_live_den P hi hr

/-- all `Function`s dropped, then `collect_garbage()`, then the manager dies: the collection
leaves only the terminal, the shutdown check (`dd.bdd.BDD.__del__`) passes, every count is
zero — no hypothesis, every mode -/
theorem C08_collect_then_shutdown (a : AMgr) (hi : AInv off a) (he : a.handles.isEmpty = true) :
    ∃ m1 m2, collectGarbage none a.m = (.ok (), m1) ∧ (∀ u : Nat, m1.tbl.node? u = none) ∧
      shutdown m1 = (.ok (), m2) ∧ (∀ u : Nat, m2.tbl.node? u = none) ∧
      (∀ (k c : Nat), m2.ref[k]? = some c → c = 0) :=
  Auto.autoref_collect_then_shutdown session a hi he

/-- shutdown, the statement of the property: once every `Function` of a manager is gone, the
manager's shutdown check (`dd.bdd.BDD.__del__`: release the terminal's own reference, collect,
assert that every count is zero) passes, whatever garbage is still stored -/
def C08_shutdown_statement : Prop :=
  ∀ (off : Bool) (a : AMgr), AInv off a → a.handles.isEmpty = true →
    ∃ m', shutdown a.m = (.ok (), m') ∧ (∀ u : Nat, m'.tbl.node? u = none) ∧
      (∀ (k c : Nat), m'.ref[k]? = some c → c = 0)

/-- … proved without hypothesis: the collection after the terminal's release is simulated step by
step by the collection of the state with exact counts (`sim_step`, `sim_loop`), to which C06's
`GcRun.spec` applies -/
theorem C08_shutdown : C08_shutdown_statement :=
  fun _ a hi he => Auto.autoref_shutdown session a hi he

theorem C08_drop_end (a : AMgr) (h : Nat) (u : Int) (hi : AInv off a) (hh : a.handles[h]? = some u) :
    drop h a = (.ok (), (drop h a).2) ∧ AInv off (drop h a).2 := by
  obtain ⟨a', he, i', _⟩ := C08_drop a h u hi hh
  rw [he]
  exact ⟨rfl, i'⟩

/-- a fresh `autoref.BDD()` satisfies the invariant (reordering is not enabled in it) -/
theorem AInv.empty : AInv true ({} : AMgr) :=
  AInv.of_goodParts ⟨Inv.init, OrderOK.empty, freshLike_refExact {}, rfl, rfl, rfl, rfl⟩

/-- the usual script start `b = autoref.BDD(); b.configure(reordering=True); b.declare('x');
f = b.var('x'); g = b.var('x')`: every state is inside the mode `off = false` (which asks nothing
about the number of variables), so `C08_ops_dyn_total` applies from the empty manager on -/
def nvS1 : AMgr := (aConfigure (some true) {}).2
def nvS2 : AMgr := (aDeclare ["x"] nvS1).2
def nvS3 : AMgr := (aVar "x" 0 nvS2).2
def nvS4 : AMgr := (aVar "x" 1 nvS3).2

theorem nvS_inv : AInv false nvS1 ∧ AInv false nvS2 ∧ AInv false nvS3 ∧ AInv false nvS4 ∧
    nvS4.m.lastLen.isSome = true ∧ nvS4.m.nvars = 1 ∧ nvS4.handles.toList = [(0, 2), (1, 2)] := by
  have f : nvS1.handles.contains 99 = false ∧ nvS2.handles.contains 0 = false ∧
      nvS3.handles.contains 1 = false ∧ nvS4.m.lastLen.isSome = true ∧ nvS4.m.nvars = 1 ∧
      nvS4.handles.toList = [(0, 2), (1, 2)] := by decide +kernel
  have i1 : AInv false nvS1 :=
    AKeeps.inv_end (Auto.aConfigure_keeps (off := false) session (some true) (nomatch ·) 99)
      AInv.empty.toDyn (by decide)
  have i2 : AInv false nvS2 :=
    AKeeps.inv_end (Auto.liftM_keeps session (Auto.declare_keeps session ["x"]) 99) i1 f.1
  have i3 : AInv false nvS3 := ((C08_ops_dyn_total 0).1 "x").inv_end i2 f.2.1
  have i4 : AInv false nvS4 := ((C08_ops_dyn_total 1).1 "x").inv_end i3 f.2.2.1
  exact ⟨i1, i2, i3, i4, f.2.2.2⟩

/-- a state with a live `Function` (the constant `true` as handle 0) satisfies the invariant:
the hypotheses of `C08_drop`, `C08_live_den` are satisfiable with a non-empty registry -/
example : AInv true (aConst true 0 {}).2 ∧ (aConst true 0 {}).2.handles[(0 : Nat)]? = some 1 :=
  ⟨AKeeps.inv_end (Auto.aConst_keeps session true 0) AInv.empty (by decide), by decide⟩

/-- the hypothesis structure `CoreKeeps` is satisfiable (here: by a read; `ite_keepsOff`,
`apply_keepsOff`, `var_keepsOff`, `gc_keeps` are instances for real operations) -/
example : CoreKeeps off (addIntA 1) := ⟨Auto.CoreKeeps.of_read (addIntA_read 1)⟩
example : CoreKeeps true (ite 2 3 4) := ite_keepsOff 2 3 4

/-- the hypotheses of the shutdown theorems are met by a fresh manager -/
example : AInv true ({} : AMgr) ∧ ({} : AMgr).handles.isEmpty = true :=
  ⟨AInv.empty, TreeMap.isEmpty_emptyc⟩

/-! ### non-vacuity on a state with variables, nodes, several handles, a drop and a collection

`bdd = autoref.BDD(); bdd.declare('a', 'b', 'c'); fa = bdd.var('a'); fb = bdd.var('b');
fx = bdd.apply('xor', fa, fb); del fa; bdd.collect_garbage()` — handles `0 ↦ 2` (`a`),
`1 ↦ 3` (`b`), `2 ↦ -4` (`a xor b`, a complemented edge); the collection removes node 2. -/

def nvA1 : AMgr := (aDeclare ["a", "b", "c"] {}).2
def nvA2 : AMgr := (aVar "a" 0 nvA1).2
def nvA3 : AMgr := (aVar "b" 1 nvA2).2
def nvA4 : AMgr := (aApply "xor" 0 (some 1) none 2 nvA3).2
def nvA5 : AMgr := (drop 0 nvA4).2
def nvA6 : AMgr := (aCollectGarbage nvA5).2

/-- what the examples below use of the states `nvA1` … `nvA6`, in one statement: the kernel
evaluates a closed term once per declaration -/
theorem nvA_facts :
    (nvA1.handles.contains 0 = false ∧ nvA2.handles.contains 1 = false ∧
      nvA3.handles.contains 2 = false) ∧
    (nvA4.handles[(0 : Nat)]? = some 2 ∧ nvA4.handles[(1 : Nat)]? = some 3 ∧
      nvA4.handles[(2 : Nat)]? = some (-4) ∧ nvA4.handles.contains 3 = false) ∧
    (nvA4.m.tbl.succ.toList.map (fun (k, n) => (k, n.lvl, n.lo, n.hi)) =
        [(2, 0, -1, 1), (3, 1, -1, 1), (4, 0, -3, 3)] ∧
      nvA4.m.ref.toList = [(1, 5), (2, 1), (3, 3), (4, 1)]) ∧
    (nvA4.m.tbl.node? (3 : Int).natAbs).isSome = true ∧
    (nvA5.handles[(2 : Nat)]? = some (-4) ∧ nvA5.handles.contains 99 = false) ∧
    (nvA6.m.tbl.node? 2 = none ∧ nvA6.m.ref[(3 : Nat)]? = some 3) ∧
    nvA6.handles[(1 : Nat)]? = some 3 ∧ ((nvA6.handles.erase 1).erase 2).isEmpty = true := by
  decide +kernel

theorem nvA1_inv : AInv true nvA1 :=
  AKeeps.inv_end (Auto.liftM_keeps session (Auto.declare_keeps session ["a", "b", "c"]) 99) AInv.empty
    (by decide)
theorem nvA2_inv : AInv true nvA2 := ((C08_ops_off 0).1 "a").inv_end nvA1_inv nvA_facts.1.1
theorem nvA3_inv : AInv true nvA3 := ((C08_ops_off 1).1 "b").inv_end nvA2_inv nvA_facts.1.2.1
theorem nvA4_inv : AInv true nvA4 :=
  ((C08_ops_off 2).2.2.1 "xor" 0 (some 1) none).inv_end nvA3_inv nvA_facts.1.2.2
theorem nvA4_h0 : nvA4.handles[(0 : Nat)]? = some 2 := nvA_facts.2.1.1
theorem nvA4_h1 : nvA4.handles[(1 : Nat)]? = some 3 := nvA_facts.2.1.2.1
theorem nvA4_h2 : nvA4.handles[(2 : Nat)]? = some (-4) := nvA_facts.2.1.2.2.1
theorem nvA4_f3 : nvA4.handles.contains 3 = false := nvA_facts.2.1.2.2.2

/-- what the state looks like: three stored nodes, three handles, counts 2 = one handle + one
in-edge … -/
example : nvA4.m.tbl.succ.toList.map (fun (k, n) => (k, n.lvl, n.lo, n.hi)) =
      [(2, 0, -1, 1), (3, 1, -1, 1), (4, 0, -3, 3)] ∧
    nvA4.m.ref.toList = [(1, 5), (2, 1), (3, 3), (4, 1)] := nvA_facts.2.2.1

/-- the count equation (`C08_counts`) on a non-terminal node with two in-edges and a handle -/
example : nvA4.m.ref[(3 : Nat)]? = some (indeg nvA4.m.tbl 3 + hcount nvA4.handles 3 + 0) := by
  have := C08_counts nvA4 nvA4_inv 3 (Or.inr nvA_facts.2.2.2.1)
  simpa using this

/-- `del fa` (`C08_drop`) -/
theorem nvA5_inv : AInv true nvA5 := (C08_drop_end nvA4 0 2 nvA4_inv nvA4_h0).2
theorem nvA5_h2 : nvA5.handles[(2 : Nat)]? = some (-4) := nvA_facts.2.2.2.2.1.1

/-- the history "drop `fa`, collect" protects `fx` (handle 2): `C08_live_den` applies, the
collection really removes a node (node 2 is gone, node 3 keeps count 3) -/
theorem nvA_history : AReach true (· = 2) nvA4 nvA6 :=
  .step (.step (.refl _) (.drop 0 (by decide) nvA4 nvA5 2 nvA4_h0 (C08_drop_end nvA4 0 2 nvA4_inv nvA4_h0).1))
    -- not `rfl` at the end: unifying with `(_, nvA6)` would run the collection in the elaborator
    (.op [99] aCollectGarbage nvA5 (Auto.AKeeps.toL (Auto.liftM_keeps session (Auto.gc_keeps session) 99) nvA5)
      (List.forall_mem_singleton.mpr nvA_facts.2.2.2.2.1.2) _ _ (Prod.eta _).symm)

example : AInv true nvA6 ∧ nvA6.handles[(2 : Nat)]? = some (-4) ∧
    (∀ σ, denN nvA6.m.tbl (-4) σ = denN nvA4.m.tbl (-4) σ) ∧
    nvA6.m.tbl.node? 2 = none ∧ nvA6.m.ref[(3 : Nat)]? = some 3 := by
  obtain ⟨i6, h⟩ := C08_live_den (· = 2) nvA4_inv nvA_history
  obtain ⟨h2, _, hd⟩ := h 2 rfl (-4) nvA4_h2
  exact ⟨i6, h2, hd, nvA_facts.2.2.2.2.2.1⟩

/-- after the remaining `Function`s are dropped the shutdown theorem applies to this state -/
example : ∃ m', shutdown ((drop 2 (drop 1 nvA6).2).2).m = (.ok (), m') ∧
    (∀ u : Nat, m'.tbl.node? u = none) := by
  obtain ⟨i6, h⟩ := C08_live_den (· = 2) nvA4_inv nvA_history
  obtain ⟨a7, he7, i7, _, hh7⟩ := C08_drop nvA6 1 3 i6 nvA_facts.2.2.2.2.2.2.1
  obtain ⟨a8, he8, i8, _, hh8⟩ := C08_drop a7 2 (-4) i7
    (by rw [hh7, getElem?_erase_ne _ _ _ (by decide)]; exact (h 2 rfl (-4) nvA4_h2).1)
  have e : (drop 2 (drop 1 nvA6).2).2 = a8 := by rw [he7]; show (drop 2 a7).2 = a8; rw [he8]
  rw [e]
  obtain ⟨m', hm, hn, _⟩ := C08_shutdown true a8 i8 (by
    rw [hh8, hh7]; exact nvA_facts.2.2.2.2.2.2.2)
  exact ⟨m', hm, hn⟩

end DD
