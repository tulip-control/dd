/-
  DDProps.C08Accept — ACCEPTANCE of recorded schedules by the autoref layer (C08).

  `C08_ops_dyn_total_anySchedule` & co. (DDProps.C08Sched) hold for every recorded schedule, with
  the model's `MODEL-SCHEDULE-MISMATCH` allowed for every non-empty one.  Here: for the methods of
  `autoref.BDD` / `Function` that may serve a reordering — `var`, `apply` (any operator string),
  `ite`, `let`, `quantify`, `cube`, `add_expr`, `image` / `preimage`, `Function._apply` (the
  operators `~ & | ^ …`) — with ANY arguments, from the state between two calls with two
  variables (`AInv false a`, `Two false a`): for every VALID CHOICE of iteration orders
  (DDProps.C07Accept) there is a schedule `sch` — the record of the choice-driven method
  (DD.AutoChoice), empty if no reordering is served — such that the driver's execution
  `runSched sch x` does exactly what the choice-driven method does (same result, same session
  state, schedule consumed) and does not answer `.sched`.
  (The other methods of the list of `C08_ops_dyn_total` never consume a schedule item.)
-/
import DDProofs.SchedAcceptAuto
import DDProps.C08Sched
import DDProps.C07Accept
open Std

namespace DD

/-- what acceptance says of a method `x` and its choice-driven version `xC`, in the driver's terms -/
def RunAccepts {α} (xC : AM (α × List SchedItem)) (x : AM α) (a : AMgr) : Prop :=
  ∃ sch, (∀ r log', (xC a).1 = .ok (r, log') → log' = sch) ∧
    runSched sch x a = (dropLog (xC a).1, setSchedA [] (xC a).2) ∧
    (runSched sch x a).1 ≠ .error .sched ∧
    ∀ rest, (x (setSchedA (sch ++ rest) a)).2.m.sched = rest

theorem RunAccepts.of {α} {xC : AM (α × List SchedItem)} {x : AM α} {a : AMgr}
    (h : AAccepts xC x a) : RunAccepts xC x a := by
  obtain ⟨sch, h1, h2, h3⟩ := h
  refine ⟨sch, h1, ?_, ?_, fun rest => ?_⟩
  · have := h2 []
    rw [List.append_nil] at this
    show ((x (setSA sch a)).1, setSA [] (x (setSA sch a)).2) = _
    rw [this]
    rfl
  · have := h3 []
    rw [List.append_nil] at this
    exact this
  · show (x (setSA (sch ++ rest) a)).2.m.sched = rest
    rw [h2 rest]
    rfl

theorem RunAccepts.reads {α} {xC : AM (α × List SchedItem)} {x : AM α} {a : AMgr}
    {sch : List SchedItem} (h : RunAccepts xC x a) (hl : logOf (xC a).1 = some sch) :
    (runSched sch x a).1 = dropLog (xC a).1 ∧ (x (setSchedA sch a)).2.m.sched = [] ∧
    (runSched sch x a).2.m.tbl = (xC a).2.m.tbl := by
  obtain ⟨sch0, h1, h2, -, h4⟩ := h
  obtain rfl : sch0 = sch := by
    generalize (xC a).1 = r at h1 hl
    rcases r with e | ⟨r, l⟩
    · cases hl
    · cases hl; exact (h1 r _ rfl).symm
  have h4 := h4 []
  rw [List.append_nil] at h4
  rw [h2]
  exact ⟨rfl, h4, rfl⟩

/-- C08 (acceptance): the methods of the autoref layer that may serve a reordering, ANY arguments,
accept every valid choice of iteration orders -/
theorem C08_methods_accept_every_choice (a : AMgr) (hi : AInv false a) (h2 : Two false a)
    (c : Choice) (hc : c.Valid) (h : Nat) :
    (∀ name, RunAccepts (wrapResultC h (tryToReorderC c (varBody name) [])) (aVar name h) a) ∧
    (∀ op hu hv hw, RunAccepts (aApplyC c op hu hv hw h) (aApply op hu hv hw h) a) ∧
    (∀ hg hu hv, RunAccepts (aIteC c hg hu hv h) (aIte hg hu hv h) a) ∧
    (∀ d hu, RunAccepts (aLetC c d hu h) (aLet d hu h) a) ∧
    (∀ hu q fa, RunAccepts (aQuantifyC c hu q fa h) (aQuantify hu q fa h) a) ∧
    (∀ d, RunAccepts (wrapResultC h (tryToReorderC c (cubeBody d) [])) (aCube d h) a) ∧
    (∀ e, RunAccepts (wrapResultC h (tryToReorderC c (addExprToks (tokenize e)) [])) (aAddExpr e h) a) ∧
    (∀ op hs ho, RunAccepts (fApplyC c op hs ho h) (fApply op hs ho h) a) ∧
    (∀ pre ht hs rn q fa, RunAccepts (aImageC c pre ht hs rn q fa h) (aImage pre ht hs rn q fa h) a) := by
  have hD := hi.dynInvS_of_two h2
  exact ⟨fun n => .of (aVar_accepts c hc a h n),
    fun op hu hv hw => .of (aApply_accepts (hext a) c hc a hD h op hu hv hw),
    fun hg hu hv => .of (aIte_accepts c hc a h hg hu hv),
    fun d hu => .of (aLet_accepts c hc a h d hu),
    fun hu q fa => .of (aQuantify_accepts c hc a h hu q fa),
    fun d => .of (aCube_accepts c hc a h d),
    fun e => .of (aAddExpr_accepts c hc a h e),
    fun op hs ho => .of (fApply_accepts (hext a) c hc a hD h op hs ho),
    fun pre ht hs rn q fa => .of (aImage_accepts (hext a) c hc a hD h pre ht hs rn q fa)⟩

/-- C08 (acceptance + every outcome): under the schedule that realises a valid choice the
guarantees of `C08_ops_dyn_total_anySchedule` hold and the outcome is not `.sched` — e.g. for
`Function._apply` -/
theorem C08_fApply_choice (a : AMgr) (hi : AInv false a) (h2 : Two false a) (c : Choice)
    (hc : c.Valid) (h : Nat) (hfresh : a.handles.contains h = false) (op : String) (hs : Nat)
    (ho : Option Nat) :
    ∃ sch, (runSched sch (fApply op hs ho h) a).1 ≠ .error .sched ∧
      AInv false (runSched sch (fApply op hs ho h) a).2 ∧
      (∀ j : Nat, j ≠ h → (runSched sch (fApply op hs ho h) a).2.handles[j]? = a.handles[j]?) ∧
      (∀ (j : Nat) (u : Int), a.handles[j]? = some u →
        (runSched sch (fApply op hs ho h) a).2.m.tbl.Mem u ∧
        ∀ asg, denN (runSched sch (fApply op hs ho h) a).2.m.tbl u asg = denN a.m.tbl u asg) := by
  obtain ⟨sch, _, _, hns, _⟩ :=
    RunAccepts.of (fApply_accepts (hext a) c hc a (hi.dynInvS_of_two h2) h op hs ho)
  exact ⟨sch, hns, (C08_ops_dyn_total_anySchedule h sch).2.2.2.2.2.2.2.2.2.2.1 op hs ho
    a hi h2 hfresh _ _ (Prod.eta _).symm⟩

/-- the record of `fb & fx` on `exAutoS` (DDProps.C08Sched: reordering enabled, a request due) under
the choice `Choice.rev` (DDProps.C07Accept): variables visited `c, b, a`, thirteen swaps; only the
two level sets of each swap are listed (the schedule recorded from the real run, `exAutoSched`,
lists every level) -/
def exAutoRevSched : List SchedItem :=
  [.sift ["c", "b", "a"],
   .swap [(1, [3]), (2, [])],
   .swap [(0, [4, 2]), (1, [])],
   .swap [(0, []), (1, [4, 2])],
   .swap [(1, []), (2, [3])],
   .swap [(1, [3]), (2, [])],
   .swap [(1, []), (2, [3])],
   .swap [(0, [4, 2]), (1, [3])],
   .swap [(0, [4, 3]), (1, [2])],
   .swap [(1, [3]), (2, [])],
   .swap [(0, [4, 2]), (1, [])],
   .swap [(1, [4, 2]), (2, [3])],
   .swap [(1, [4, 3]), (2, [2])],
   .swap [(0, []), (1, [4, 2])]]

/-- the choice-driven `fb & fx` on `exAutoS` under `Choice.rev`, evaluated once: its record, the
node of the new `Function`, the order it leaves -/
theorem exAutoRev_apply :
    logOf (fApplyC Choice.rev "and" 1 (some 2) 5 exAutoS).1 = some exAutoRevSched ∧
    (dropLog (fApplyC Choice.rev "and" 1 (some 2) 5 exAutoS).1).toOption = some (-5) ∧
    (fApplyC Choice.rev "and" 1 (some 2) 5 exAutoS).2.m.tbl.l2v.toList =
      [(0, "a"), (1, "c"), (2, "b")] := by
  unfold exAutoS
  decide +kernel

/-- with that record the driver's execution returns the new `Function` on node `-5`, consumes the
schedule, and leaves the order `a, c, b` -/
theorem C08_accept_example :
    logOf (fApplyC Choice.rev "and" 1 (some 2) 5 exAutoS).1 = some exAutoRevSched ∧
    (runSched exAutoRevSched (fApply "and" 1 (some 2) 5) exAutoS).1.toOption = some (-5) ∧
    (fApply "and" 1 (some 2) 5 (setSchedA exAutoRevSched exAutoS)).2.m.sched = [] ∧
    (runSched exAutoRevSched (fApply "and" 1 (some 2) 5) exAutoS).2.m.tbl.l2v.toList =
      [(0, "a"), (1, "c"), (2, "b")] := by
  obtain ⟨hlog, hval, hl2v⟩ := exAutoRev_apply
  -- the driver's run is the choice-driven one (acceptance): it is not evaluated
  obtain ⟨e1, e2, e3⟩ := ((C08_methods_accept_every_choice exAutoS exAutoS_inv exAutoS_two Choice.rev
    Choice.rev_valid 5).2.2.2.2.2.2.2.1 "and" 1 (some 2)).reads hlog
  exact ⟨hlog, e1 ▸ hval, e2, e3 ▸ hl2v⟩

example : ∃ sch, (runSched sch (fApply "and" 1 (some 2) 5) exAutoS).1 ≠ .error .sched ∧
    AInv false (runSched sch (fApply "and" 1 (some 2) 5) exAutoS).2 := by
  obtain ⟨sch, h1, h2, _⟩ := C08_fApply_choice exAutoS exAutoS_inv exAutoS_two Choice.rev
    Choice.rev_valid 5 (by unfold exAutoS; decide +kernel) "and" 1 (some 2)
  exact ⟨sch, h1, h2⟩

end DD
