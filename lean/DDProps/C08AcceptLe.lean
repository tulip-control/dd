/-
  DDProps.C08AcceptLe — C08 (acceptance): `Function.__le__` / `__lt__` of `dd.autoref`, ANY operands,
  from the state between two calls with two variables: for every valid choice of iteration orders
  there is a schedule — the record of the choice-driven comparison (DD.AutoChoiceLe) — with which the
  driver's execution does what the choice-driven comparison does, consumes it, and does not answer
  `MODEL-SCHEDULE-MISMATCH`.  (The one call that can reorder is `other | ~self`; the steps around
  it — the temporary `~self`, the releases — never look at the schedule.  The hypotheses on `a` are
  not used: `fLe_accepts_any`, DDProofs/SchedAcceptAutoLe.lean, is the statement for every state.)
-/
import DDProofs.SchedAcceptAutoLe
import DDProps.C08Accept
open Std

namespace DD

/-- C08 (acceptance): `f <= g` and `f < g`, any operands, accept every valid choice -/
theorem C08_le_lt_accept_every_choice (a : AMgr) (hi : AInv false a) (h2 : Two false a)
    (c : Choice) (hc : c.Valid) (hs ho : Nat) :
    RunAccepts (fLeC c hs ho) (fLe hs ho) a ∧ RunAccepts (fLtC c hs ho) (fLt hs ho) a :=
  ⟨.of (fLe_accepts c hc a hi h2 hs ho), .of (fLt_accepts c hc a hi h2 hs ho)⟩

/-- the hypotheses hold of `exAutoS` (DDProps.C08Sched: reordering enabled, a request due, which
fires inside `fx | ~fb`; evaluating the model there gives a record of fourteen items, the answer
`False`, and no temporary `Function` left — `TreeMap.maxKey?` in `freshH` does not reduce in the
kernel, so that computation is not restated as a `decide` here) -/
example : RunAccepts (fLeC Choice.rev 1 2) (fLe 1 2) exAutoS :=
  (C08_le_lt_accept_every_choice exAutoS exAutoS_inv exAutoS_two Choice.rev Choice.rev_valid 1 2).1

end DD
