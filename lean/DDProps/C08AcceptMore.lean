/-
  DDProps.C08AcceptMore — recorded schedules and the remaining methods of the autoref layer (C08).

  * `BDD.succ`, `Function.low` / `.high`: no call that can reorder — for EVERY recorded schedule
    they do what they do with none, do not answer `.sched`, and leave the schedule untouched
    (`C08_succ_child_any_schedule`).
  * `BDD.copy(u, other)`, module `copy_bdd(u, target)` between two managers (DD.Auto): a reordering
    may be served in the TARGET; for every valid choice of its iteration orders there is a schedule
    — the record of the choice-driven copy — with which the driver's execution does what the
    choice-driven copy does, consumes it, and does not answer `.sched`
    (`C08_copies_accept_every_choice`).
  `Function.__le__` / `__lt__` (the decorated `other | ~self` between steps that never look at the
  schedule): DDProps.C08AcceptLe.  Not lifted: the faithful recursive copy of DD.ApiXCopy.
-/
import DDProofs.SchedAcceptAutoMore
import DDProps.C08Accept
open Std

namespace DD

/-- C08: `BDD.succ`, `Function.low`, `Function.high` under ANY recorded schedule -/
theorem C08_succ_child_any_schedule (sch : List SchedItem) (a : AMgr) :
    (∀ hu h1 h2, aSucc hu h1 h2 (setSchedA sch a) =
        ((aSucc hu h1 h2 a).1, setSchedA sch (aSucc hu h1 h2 a).2) ∧
      (aSucc hu h1 h2 a).1 ≠ .error .sched) ∧
    (∀ high hs h, fChild high hs h (setSchedA sch a) =
        ((fChild high hs h a).1, setSchedA sch (fChild high hs h a).2) ∧
      (fChild high hs h a).1 ≠ .error .sched) :=
  ⟨fun hu h1 h2 => aSucc_asn hu h1 h2 sch a, fun high hs h => fChild_asn high hs h sch a⟩

/-- C08 (acceptance): the copies between two managers accept every valid choice of the iteration
orders of a reordering served in the target -/
theorem C08_copies_accept_every_choice (dst : AMgr) (hi : AInv false dst) (h2 : Two false dst)
    (c : Choice) (hc : c.Valid) (src : AMgr) (hu h : Nat) :
    RunAccepts (aCopyToC c src hu h) (aCopyTo src hu h) dst ∧
    RunAccepts (aCopyBddToC c src hu h) (aCopyBddTo src hu h) dst :=
  ⟨.of (aCopyTo_accepts (hext dst) c hc dst (hi.dynInvS_of_two h2) src hu h),
   .of (aCopyBddTo_accepts (hext dst) c hc dst (hi.dynInvS_of_two h2) src hu h)⟩

/-- the hypotheses hold of `exAutoS` (DDProps.C08Sched), taken as source and as target -/
example : RunAccepts (aCopyBddToC Choice.rev exAutoS 2 7) (aCopyBddTo exAutoS 2 7) exAutoS :=
  (C08_copies_accept_every_choice exAutoS exAutoS_inv exAutoS_two Choice.rev Choice.rev_valid
    exAutoS 2 7).2

/-- `Function.high` of `fx` under the recorded schedule of another call: the schedule is untouched -/
theorem C08_child_sched_example :
    (fChild true 2 9 (setSchedA exAutoSched exAutoS)).2.m.sched.length = exAutoSched.length ∧
    (fChild true 2 9 (setSchedA exAutoSched exAutoS)).1.toOption = (fChild true 2 9 exAutoS).1.toOption := by
  unfold exAutoS
  decide +kernel

end DD
