/-
  DDProps.C08Sched — C08 (`dd.autoref`) with dynamic reordering ENABLED, for EVERY RECORDED
  ITERATION SCHEDULE, every outcome accounted for.  `AInv false a` (DDProps.C08) contains
  `a.m.sched = []`, so the sifting that a method may trigger is covered there for the model's
  default iteration order only.  The autoref driver (`DD.runA`, DD/AutoDriver.lean) puts the recorded
  schedule of the protocol line into `a.m.sched`, runs the method and drops what is left: that is
  `runSched sch x`.  The theorems `…_anySchedule` state the guarantees of DDProps.C08 for
  `runSched sch x`, for EVERY `sch` and WHATEVER the method returns or raises — the model's own
  `MODEL-SCHEDULE-MISMATCH` (`.sched`) included (DDProofs.DynSchedKeep: a mismatch inside sifting
  leaves the reordering invariant and every held reference intact; that it does not occur for a
  schedule recorded from a real run is the harness's tie, DDProps.C09Sched).  They come from the
  instance of the autoref development in the namespace `DD.S` (DDProofs/SchedAutoProofs.lean):
  `AutoMInv` WITHOUT the field `sched` and with two declared variables when reordering may be
  enabled (`ainvS_iff`), the core hypotheses from the every-outcome reading `Decorated.totalK` of
  the rows of `Decorated`.
-/
import DDProofs.SchedAutoDynTotal
import DDProps.C08
import DDProofs.SchedAutoCore
open Std

namespace DD

def setSchedA (sch : List SchedItem) (a : AMgr) : AMgr := { a with m := { a.m with sched := sch } }

/-- `DD.runA`: the recorded schedule is put in, the operation runs, the remainder is dropped -/
def runSched {α} (sch : List SchedItem) (x : AM α) : AM α := fun a =>
  ((x (setSchedA sch a)).1, setSchedA [] (x (setSchedA sch a)).2)

theorem hext_setSchedA (sch : List SchedItem) (a : AMgr) : hext (setSchedA sch a) = hext a := rfl

theorem ainvS_of_ainv {off : Bool} {a : AMgr} (h : AInv off a) (h2 : Two off a) (sch : List SchedItem) :
    S.AInv off (setSchedA sch a) :=
  ⟨⟨h.minv.inv.setSched sch, h.minv.order, h.minv.counts.congr rfl rfl, h.minv.ctx, h.minv.roots,
    ⟨h.minv.mode, h2⟩⟩, h.hmem⟩

theorem ainv_of_ainvS {off : Bool} {a : AMgr} (h : S.AInv off a) : AInv off (setSchedA [] a) :=
  ⟨⟨h.minv.inv.setSched [], h.minv.order, h.minv.counts.congr rfl rfl, h.minv.ctx, rfl, h.minv.roots,
    h.minv.mode.1⟩, h.hmem⟩

/-- `DD.S.AInv` is `AInv` without the clause on the recorded schedule, with `Two` built in -/
theorem ainvS_iff {off : Bool} (a : AMgr) :
    (AInv off a ∧ Two off a) ↔ (S.AInv off a ∧ a.m.sched = []) := by
  constructor
  · rintro ⟨h, h2⟩
    exact ⟨⟨⟨h.minv.inv, h.minv.order, h.minv.counts, h.minv.ctx, h.minv.roots, ⟨h.minv.mode, h2⟩⟩, h.hmem⟩,
      h.minv.sched⟩
  · rintro ⟨h, hs⟩
    exact ⟨⟨⟨h.minv.inv, h.minv.order, h.minv.counts, h.minv.ctx, hs, h.minv.roots, h.minv.mode.1⟩, h.hmem⟩,
      h.minv.mode.2⟩

/-! ### the guarantees of DDProps.C08 for start states with at least two variables

The every-schedule theorems below come from the C09 / C17 theorems about the decorator, which assume
two declared variables (`Two false a := 2 ≤ a.m.nvars`; nothing for `off = true`).  `AKeeps2` … are
`AKeeps` … for those start states.  (With fewer variables and the model's DEFAULT schedule the
methods are covered by `C08_ops_dyn_total`, DDProofs.AutoFew.) -/

def AKeeps2 {α} (off : Bool) (h : Nat) (x : AM α) : Prop :=
  ∀ a, AInv off a → Two off a → a.handles.contains h = false → ∀ r a', x a = (r, a') →
    AInv off a' ∧ (∀ j : Nat, j ≠ h → a'.handles[j]? = a.handles[j]?) ∧
    (∀ (j : Nat) (u : Int), a.handles[j]? = some u →
      a'.m.tbl.Mem u ∧ ∀ asg, denN a'.m.tbl u asg = denN a.m.tbl u asg)

def AKeepsAt2 {α} (off : Bool) (a : AMgr) (h : Nat) (x : AM α) : Prop :=
  AInv off a → Two off a → a.handles.contains h = false → ∀ r a', x a = (r, a') →
    AInv off a' ∧ (∀ j : Nat, j ≠ h → a'.handles[j]? = a.handles[j]?) ∧
    (∀ (j : Nat) (u : Int), a.handles[j]? = some u →
      a'.m.tbl.Mem u ∧ ∀ asg, denN a'.m.tbl u asg = denN a.m.tbl u asg)

def AKeepsL2 {α} (off : Bool) (H : List Nat) (x : AM α) : Prop :=
  ∀ a, AInv off a → Two off a → (∀ h, h ∈ H → a.handles.contains h = false) → ∀ r a', x a = (r, a') →
    AInv off a' ∧ (∀ j : Nat, j ∉ H → a'.handles[j]? = a.handles[j]?) ∧
    (∀ (j : Nat) (u : Int), a.handles[j]? = some u →
      a'.m.tbl.Mem u ∧ ∀ asg, denN a'.m.tbl u asg = denN a.m.tbl u asg)

def AKeeps02 {α} (off : Bool) (x : AM α) : Prop :=
  ∀ a, AInv off a → Two off a → ∀ r a', x a = (r, a') →
    AInv off a' ∧ (∀ j : Nat, a'.handles[j]? = a.handles[j]?) ∧
    (∀ (j : Nat) (u : Int), a.handles[j]? = some u →
      a'.m.tbl.Mem u ∧ ∀ asg, denN a'.m.tbl u asg = denN a.m.tbl u asg)

/-- from the guarantee for every state without the schedule clause to the guarantee, in the terms
of DDProps.C08, for the driver's execution under ANY recorded schedule: the state of `runSched sch x a`
is that of `x` on `setSchedA sch a` with the remainder dropped, and neither the handles nor the
table see the schedule -/
theorem runSched_keeps {α} {off : Bool} {h : Nat} {x : AM α} (hk : S.AKeeps off h x)
    (sch : List SchedItem) : AKeeps2 off h (runSched sch x) := fun a hi h2 hf =>
  have k := AM.ends_iff.mp (hk (setSchedA sch a) (ainvS_of_ainv hi h2 sch) hf)
  AM.ends_iff.mpr ⟨ainv_of_ainvS k.1, k.2⟩

theorem runSched_keepsL {α} {off : Bool} {H : List Nat} {x : AM α} (hk : S.AKeepsL off H x)
    (sch : List SchedItem) : AKeepsL2 off H (runSched sch x) := fun a hi h2 hf =>
  have k := AM.ends_iff.mp (hk (setSchedA sch a) (ainvS_of_ainv hi h2 sch) hf)
  AM.ends_iff.mpr ⟨ainv_of_ainvS k.1, k.2⟩

theorem runSched_keeps0 {α} {off : Bool} {x : AM α} (hk : S.AKeeps0 off x)
    (sch : List SchedItem) : AKeeps02 off (runSched sch x) := fun a hi h2 =>
  have k := AM.ends_iff.mp (hk (setSchedA sch a) (ainvS_of_ainv hi h2 sch))
  AM.ends_iff.mpr ⟨ainv_of_ainvS k.1, k.2⟩

theorem runSched_keepsAt {α} {off : Bool} {h : Nat} {x : AM α} (a : AMgr)
    (hk : ∀ sch, S.AKeepsAt off (setSchedA sch a) h x) (sch : List SchedItem) :
    AKeepsAt2 off a h (runSched sch x) := fun hi h2 hf =>
  have k := AM.ends_iff.mp (hk sch (ainvS_of_ainv hi h2 sch) hf)
  AM.ends_iff.mpr ⟨ainv_of_ainvS k.1, k.2⟩

theorem runSched_nil {α} {off : Bool} (x : AM α) (a : AMgr) (hi : AInv off a) :
    (runSched [] x a).1 = (x a).1 ∧ (runSched [] x a).2 = setSchedA [] (x a).2 := by
  have : setSchedA [] a = a := by
    unfold setSchedA
    rw [← hi.minv.sched]
  unfold runSched
  rw [this]
  exact ⟨rfl, rfl⟩

namespace S

/-- `C08_ops_dyn_total` without the clause `sched = []`: ARBITRARY arguments,
reordering enabled, ANY schedule in `a.m.sched`, EVERY outcome — the core operations from the
every-outcome reading of their rows of `Decorated` (`S.coreKeeps_of_decorated`,
DDProofs.SchedAutoDynTotal) -/
theorem C08_ops_dyn_total (h : Nat) :
    (∀ name, AKeeps false h (aVar name h)) ∧
    (∀ b, AKeeps false h (aConst b h)) ∧
    (∀ op hu hv hw, AKeeps false h (aApply op hu hv hw h)) ∧
    (∀ hg hu hv, AKeeps false h (aIte hg hu hv h)) ∧
    (∀ d hu, AKeeps false h (aLet d hu h)) ∧
    (∀ hu q fa, AKeeps false h (aQuantify hu q fa h)) ∧
    (∀ d, AKeeps false h (aCube d h)) ∧
    (∀ i, AKeeps false h (aAddInt i h)) ∧
    (∀ hu, AKeeps false h (aCopyBddSame hu h)) ∧
    (∀ e, AKeeps false h (aAddExpr e h)) ∧
    (∀ op hs ho, AKeeps false h (fApply op hs ho h)) ∧
    (∀ high hs, AKeeps false h (fChild high hs h)) ∧
    (∀ hs, AKeeps false h (fCopy hs h)) ∧
    (∀ hu h2, h ≠ h2 → AKeepsL false [h, h2] (aSucc hu h h2)) ∧
    (∀ hs ho, AKeeps0 false (fEq hs ho)) ∧
    (∀ hs ho, AKeeps0 false (fNe hs ho)) ∧
    (∀ hs ho, AKeeps0 false (fLe hs ho)) ∧
    (∀ hs ho, AKeeps0 false (fLt hs ho)) ∧
    AKeeps false h aCollectGarbage ∧
    (∀ r, AKeeps false h (aConfigure r)) ∧
    (∀ ns, AKeeps false h (aDeclare ns)) ∧
    (∀ (src : AMgr) hu, AKeeps false h (aCopyTo src hu h)) ∧
    (∀ (src : AMgr) hu, AKeeps false h (aCopyBddTo src hu h)) ∧
    (∀ pre ht hs rn q fa, AKeeps false h (aImage pre ht hs rn q fa h)) :=
  Auto.ops_total session (fun hd => (coreKeeps_of_decorated hd).keeps) h fun r =>
    Auto.aConfigure_keeps (off := false) session r (nomatch ·) h

end S

/-- C08, dynamic reordering ENABLED, ARBITRARY arguments, EVERY RECORDED SCHEDULE, EVERY outcome.
`runSched sch x` is the driver's execution of the method `x` (`DD.runA`: the schedule of the
protocol line put into the manager, the remainder dropped).  From `AInv false a` (the state
between two calls) with two declared variables (`AKeeps2`), for every list `sch` whatsoever and
whatever the method returns or raises —
an exception of the code, or the model's `MODEL-SCHEDULE-MISMATCH` when `sch` does not describe a
run of the code from this state —: `AInv false a'` (manager invariant, order bijection, count
equation for the live `Function`s, no schedule), no handle other than the new one touched, every
live `Function` is still a node and denotes the same function of the variable NAMES.
The list is `C08_ops_dyn_total`'s. -/
theorem C08_ops_dyn_total_anySchedule (h : Nat) (sch : List SchedItem) :
    (∀ name, AKeeps2 false h (runSched sch (aVar name h))) ∧
    (∀ b, AKeeps2 false h (runSched sch (aConst b h))) ∧
    (∀ op hu hv hw, AKeeps2 false h (runSched sch (aApply op hu hv hw h))) ∧
    (∀ hg hu hv, AKeeps2 false h (runSched sch (aIte hg hu hv h))) ∧
    (∀ d hu, AKeeps2 false h (runSched sch (aLet d hu h))) ∧
    (∀ hu q fa, AKeeps2 false h (runSched sch (aQuantify hu q fa h))) ∧
    (∀ d, AKeeps2 false h (runSched sch (aCube d h))) ∧
    (∀ i, AKeeps2 false h (runSched sch (aAddInt i h))) ∧
    (∀ hu, AKeeps2 false h (runSched sch (aCopyBddSame hu h))) ∧
    (∀ e, AKeeps2 false h (runSched sch (aAddExpr e h))) ∧
    (∀ op hs ho, AKeeps2 false h (runSched sch (fApply op hs ho h))) ∧
    (∀ high hs, AKeeps2 false h (runSched sch (fChild high hs h))) ∧
    (∀ hs, AKeeps2 false h (runSched sch (fCopy hs h))) ∧
    (∀ hu h2, h ≠ h2 → AKeepsL2 false [h, h2] (runSched sch (aSucc hu h h2))) ∧
    (∀ hs ho, AKeeps02 false (runSched sch (fEq hs ho))) ∧
    (∀ hs ho, AKeeps02 false (runSched sch (fNe hs ho))) ∧
    (∀ hs ho, AKeeps02 false (runSched sch (fLe hs ho))) ∧
    (∀ hs ho, AKeeps02 false (runSched sch (fLt hs ho))) ∧
    AKeeps2 false h (runSched sch aCollectGarbage) ∧
    (∀ r, AKeeps2 false h (runSched sch (aConfigure r))) ∧
    (∀ ns, AKeeps2 false h (runSched sch (aDeclare ns))) ∧
    (∀ (src : AMgr) hu, AKeeps2 false h (runSched sch (aCopyTo src hu h))) ∧
    (∀ (src : AMgr) hu, AKeeps2 false h (runSched sch (aCopyBddTo src hu h))) ∧
    (∀ pre ht hs rn q fa, AKeeps2 false h (runSched sch (aImage pre ht hs rn q fa h))) := by
  obtain ⟨a1, a2, a3, a4, a5, a6, a7, a8, a9, a10, a11, a12, a13, a14, a15, a16, a17, a18, a19, a20,
    a21, a22, a23, a24⟩ := S.C08_ops_dyn_total h
  exact ⟨fun n => runSched_keeps (a1 n) sch, fun b => runSched_keeps (a2 b) sch,
    fun op hu hv hw => runSched_keeps (a3 op hu hv hw) sch,
    fun hg hu hv => runSched_keeps (a4 hg hu hv) sch, fun d hu => runSched_keeps (a5 d hu) sch,
    fun hu q fa => runSched_keeps (a6 hu q fa) sch, fun d => runSched_keeps (a7 d) sch,
    fun i => runSched_keeps (a8 i) sch, fun hu => runSched_keeps (a9 hu) sch,
    fun e => runSched_keeps (a10 e) sch, fun op hs ho => runSched_keeps (a11 op hs ho) sch,
    fun high hs => runSched_keeps (a12 high hs) sch, fun hs => runSched_keeps (a13 hs) sch,
    fun hu h2 hne => runSched_keepsL (a14 hu h2 hne) sch,
    fun hs ho => runSched_keeps0 (a15 hs ho) sch, fun hs ho => runSched_keeps0 (a16 hs ho) sch,
    fun hs ho => runSched_keeps0 (a17 hs ho) sch, fun hs ho => runSched_keeps0 (a18 hs ho) sch,
    runSched_keeps a19 sch, fun r => runSched_keeps (a20 r) sch, fun ns => runSched_keeps (a21 ns) sch,
    fun src hu => runSched_keeps (a22 src hu) sch, fun src hu => runSched_keeps (a23 src hu) sch,
    fun pre ht hs rn q fa => runSched_keeps (a24 pre ht hs rn q fa) sch⟩

/-- C08 `C08_ops_dyn` for every recorded schedule: the well-formed calls of that theorem are
instances of the calls with arbitrary arguments above (its hypotheses — declared names, live
operands — are not needed for "the invariant and every live meaning are kept") -/
theorem C08_ops_dyn_anySchedule (a : AMgr) (h : Nat) (sch : List SchedItem) :
    (∀ hg hu hv, AKeepsAt2 false a h (runSched sch (aIte hg hu hv h))) ∧
    (∀ op hu hv hw, AKeepsAt2 false a h (runSched sch (aApply op hu hv hw h))) ∧
    (∀ name, AKeepsAt2 false a h (runSched sch (aVar name h))) ∧
    (∀ hu q fa, AKeepsAt2 false a h (runSched sch (aQuantify hu q fa h))) ∧
    (∀ d, AKeepsAt2 false a h (runSched sch (aCube d h))) ∧
    (∀ d hu, AKeepsAt2 false a h (runSched sch (aLet d hu h))) ∧
    (∀ op hs ho, AKeepsAt2 false a h (runSched sch (fApply op hs ho h))) ∧
    (∀ ns, AKeepsAt2 false a h (runSched sch (aDeclare ns))) ∧
    (∀ hs ho, AKeeps02 false (runSched sch (fLe hs ho))) ∧
    (∀ hs ho, AKeeps02 false (runSched sch (fLt hs ho))) ∧
    (∀ (src : AMgr) hu, AKeepsAt2 false a h (runSched sch (aCopyTo src hu h))) ∧
    (∀ (src : AMgr) hu, AKeepsAt2 false a h (runSched sch (aCopyBddTo src hu h))) := by
  obtain ⟨a1, _, a3, a4, a5, a6, a7, _, _, _, a11, _, _, _, _, _, a17, a18, _, _,
    a21, a22, a23, _⟩ := C08_ops_dyn_total_anySchedule h sch
  exact ⟨fun hg hu hv => a4 hg hu hv a, fun op hu hv hw => a3 op hu hv hw a, fun n => a1 n a,
    fun hu q fa => a6 hu q fa a, fun d => a7 d a, fun d hu => a5 d hu a,
    fun op hs ho => a11 op hs ho a, fun ns => a21 ns a, a17, a18,
    fun src hu => a22 src hu a, fun src hu => a23 src hu a⟩

/-- C08 `C08_image_dyn` for every recorded schedule (ANY arguments) -/
theorem C08_image_dyn_anySchedule (h : Nat) (sch : List SchedItem) (pre : Bool) (ht hs : Nat)
    (rn : List (Key × Key)) (q : List Key) (fa : Bool) :
    AKeeps2 false h (runSched sch (aImage pre ht hs rn q fa h)) :=
  (C08_ops_dyn_total_anySchedule h sch).2.2.2.2.2.2.2.2.2.2.2.2.2.2.2.2.2.2.2.2.2.2.2 pre ht hs rn q fa

/-- C08, the explicit `reorder()` (sifting, at least two variables) and `reorder(order)` (a
complete order) under ANY recorded schedule, any mode: every outcome — returned, or the model's
schedule mismatch — keeps the invariant and every live meaning -/
theorem C08_reorder_anySchedule {off : Bool} (a : AMgr) (h : Nat) (sch : List SchedItem) :
    (2 ≤ a.m.nvars → AKeepsAt2 off a h (runSched sch (aReorder none))) ∧
    (∀ o, ReqOrder o a.m → AKeepsAt2 off a h (runSched sch (aReorder (some o)))) :=
  ⟨fun h2 => runSched_keepsAt a (fun s =>
     Auto.liftM_keepsAt S.session _ (S.reorder_sift_keepsAt (setSchedA s a).m h2) h) sch,
   fun o ho => runSched_keepsAt a (fun s => Auto.liftM_keepsAt S.session _
     (S.reorder_order_keepsAt (setSchedA s a).m o ⟨ho.len, ho.cover, ho.range, ho.inj⟩) h) sch⟩

/-- what `AKeeps2 false h (runSched sch x)` says, spelled out -/
theorem C08_anySchedule_means {α} (h : Nat) (sch : List SchedItem) (x : AM α)
    (hk : AKeeps2 false h (runSched sch x)) (a : AMgr) (hi : AInv false a) (h2 : Two false a)
    (hf : a.handles.contains h = false) :
    AInv false (setSchedA [] (x (setSchedA sch a)).2) ∧
    (∀ j : Nat, j ≠ h → (x (setSchedA sch a)).2.handles[j]? = a.handles[j]?) ∧
    (∀ (j : Nat) (u : Int), a.handles[j]? = some u →
      (x (setSchedA sch a)).2.m.tbl.Mem u ∧
      ∀ asg, denN (x (setSchedA sch a)).2.m.tbl u asg = denN a.m.tbl u asg) :=
  hk a hi h2 hf _ _ rfl

/-- with no recorded schedule the statements above are those of DDProps.C08 -/
theorem C08_anySchedule_default {α} {off : Bool} (x : AM α) (a : AMgr) (hi : AInv off a) :
    (runSched [] x a).1 = (x a).1 ∧ (runSched [] x a).2 = setSchedA [] (x a).2 :=
  runSched_nil x a hi

/-! ### non-vacuity: an autoref session under a NON-default recorded schedule

`nvA4` (DDProps.C08): `bdd.declare('a', 'b', 'c'); fa = bdd.var('a'); fb = bdd.var('b');
fx = bdd.apply('xor', fa, fb)` — handles `0 ↦ 2` (`a`), `1 ↦ 3` (`b`), `2 ↦ -4` (`a xor b`) — with
dynamic reordering switched on and a request due at the next `find_or_add`. -/

@[irreducible] def exAutoS : AMgr :=
  { nvA4 with m := { nvA4.m with lastLen := some 1, fireIn := some 1 } }

theorem exAutoS_inv : AInv false exAutoS := by
  unfold exAutoS
  exact nvA4_inv.setRequest _ _

theorem exAutoS_facts : 2 ≤ exAutoS.m.nvars ∧ exAutoS.handles.contains 5 = false := by
  unfold exAutoS; decide +kernel

theorem exAutoS_two : Two false exAutoS := fun _ => exAutoS_facts.1

/-- a recorded schedule for `fb & fx` on that session: variables in the order `c, b, a` (the
default is `a, b, c`), every level set descending; thirteen swaps -/
def exAutoSched : List SchedItem :=
  [.sift ["c", "b", "a"],
   .swap [(0, [4, 2]), (1, [3]), (2, [])],
   .swap [(0, [4, 2]), (1, []), (2, [3])],
   .swap [(0, []), (1, [4, 2]), (2, [3])],
   .swap [(0, [4, 2]), (1, []), (2, [3])],
   .swap [(0, [4, 2]), (1, [3]), (2, [])],
   .swap [(0, [4, 2]), (1, []), (2, [3])],
   .swap [(0, [4, 2]), (1, [3]), (2, [])],
   .swap [(0, [4, 3]), (1, [2]), (2, [])],
   .swap [(0, [4, 2]), (1, [3]), (2, [])],
   .swap [(0, [4, 2]), (1, []), (2, [3])],
   .swap [(0, []), (1, [4, 2]), (2, [3])],
   .swap [(0, []), (1, [4, 3]), (2, [2])],
   .swap [(0, []), (1, [4, 2]), (2, [3])]]

/-- under that schedule the call `fb & fx` IS served a reordering (the schedule is consumed to
the last item), returns the new `Function` 5 on node `-5`, leaves the order `a, c, b` (the default
schedule leaves `a, b, c`), the other handles as they were, reordering still enabled; a schedule
that does not describe a run of the code makes the model answer `.sched` -/
theorem C08_recorded_schedule_example :
    (fApply "and" 1 (some 2) 5 (setSchedA exAutoSched exAutoS)).1.toOption = some (-5) ∧
    (fApply "and" 1 (some 2) 5 (setSchedA exAutoSched exAutoS)).2.m.sched = [] ∧
    (fApply "and" 1 (some 2) 5 (setSchedA exAutoSched exAutoS)).2.m.tbl.l2v.toList =
      [(0, "a"), (1, "c"), (2, "b")] ∧
    (fApply "and" 1 (some 2) 5 (setSchedA exAutoSched exAutoS)).2.handles.toList =
      [(0, 2), (1, 3), (2, -4), (5, -5)] ∧
    (fApply "and" 1 (some 2) 5 exAutoS).2.m.tbl.l2v.toList = [(0, "a"), (1, "b"), (2, "c")] ∧
    raisedErr (fApply "and" 1 (some 2) 5 (setSchedA [.swap []] exAutoS)).1 = some .sched := by
  decide +kernel

/-- what the theorem says of that call, and of the call under the bogus schedule -/
example : AInv false (setSchedA [] (fApply "and" 1 (some 2) 5 (setSchedA exAutoSched exAutoS)).2) ∧
    AInv false (setSchedA [] (fApply "and" 1 (some 2) 5 (setSchedA [.swap []] exAutoS)).2) :=
  ⟨(C08_anySchedule_means 5 exAutoSched _
      ((C08_ops_dyn_total_anySchedule 5 exAutoSched).2.2.2.2.2.2.2.2.2.2.1 "and" 1 (some 2))
      exAutoS exAutoS_inv exAutoS_two exAutoS_facts.2).1,
   (C08_anySchedule_means 5 [.swap []] _
      ((C08_ops_dyn_total_anySchedule 5 [.swap []]).2.2.2.2.2.2.2.2.2.2.1 "and" 1 (some 2))
      exAutoS exAutoS_inv exAutoS_two exAutoS_facts.2).1⟩

end DD
