/-
  DDProps.C08Values — what the methods of `dd.autoref` RETURN (C08 with C01 / C18 behind it).

  `DDProps/C08.lean` states that every method keeps the invariant, the other handles and the
  live meanings.  Here: the new `Function` sits on the node the core operation returned and
  that node means the documented connective BY VARIABLE NAME (`C08_fApply_value`,
  `C08_function_operators`); `<=`, `<`, `==`, `!=` return the truth value of the relation
  between the two functions, with the temporaries released (`C08_le_value`, `C08_lt_value`,
  `C08_eq_value`); `var`, `level`, `low`, `high`, `negated` of a live `Function` satisfy the
  Shannon expansion by name (`C08_shannon`); `len(f)` / `dag_size` is the number of reachable
  nodes (`C08_len_value`); `succ` (`C08_succ_value`).
  Every theorem holds in BOTH modes (`off = true`: reordering not enabled; `off = false`: it
  may be enabled and may fire inside the call, C09).  Where a decorated operation is involved the
  mode `off = false` carries `Two off a` = at least two declared variables (`DD.Two`: with fewer a
  request that fires ends in the `ValueError` of sifting — an outcome of `C08_ops_dyn_total`, not a
  value).
-/
import DDProps.C08
import DDProofs.AutoValues
open Std

namespace DD

variable {off : Bool}

/-- `f.<op>(g)` (`Function._apply`) for live `Function`s `f` on `u`, `g` on `v` of this manager
and a binary propositional alias `op`: the method RETURNS; the new `Function` `h` sits on the
node `r` that `apply(op, u, v)` of the wrapped manager returned; `r` denotes the documented
connective of the operands as a function of the variable NAMES; the invariant (count equation
included) holds afterwards, no other handle is touched, every live `Function` keeps its
meaning. -/
theorem C08_fApply_value (a : AMgr) (hi : AInv off a) (ht : Two off a) (op : String) (c : Conn)
    (hc : docConn op = some c) (h2 : c.arity = 2) (hq1 : c ≠ .forall_) (hq2 : c ≠ .exists_)
    (hall : Gen.allOps.contains op = true) (hs ho h : Nat)
    (hf : a.handles.contains h = false) (u v : Int)
    (hu : a.handles[hs]? = some u) (hv : a.handles[ho]? = some v) :
    ∃ (r : Int) (a' : AMgr), fApply op hs (some ho) h a = (.ok r, a') ∧
      a'.handles[h]? = some r ∧
      (∃ m1, apply op u (some v) none a.m = (.ok r, m1) ∧ a'.m.tbl = m1.tbl) ∧
      (∀ σ, denN a'.m.tbl r σ = c.eval (denN a.m.tbl u σ) (denN a.m.tbl v σ) false) ∧
      AInv off a' ∧ (∀ j : Nat, j ≠ h → a'.handles[j]? = a.handles[j]?) ∧
      (∀ (j : Nat) (w : Int), a.handles[j]? = some w →
        a'.m.tbl.Mem w ∧ ∀ σ, denN a'.m.tbl w σ = denN a.m.tbl w σ) := by
  obtain ⟨r, a', he, hh, hm, _, hd⟩ :=
    fApply_binary_value a hi ht op c hc h2 hq1 hq2 hall hs ho h hf u v hu hv
  obtain ⟨i', hs', hd'⟩ := fApply_keepsAll off op hs (some ho) h a hi hf _ _ he
  exact ⟨r, a', he, by rw [hh]; exact TreeMap.getElem?_insert_self, hm, hd, i', hs', hd'⟩

/-- the implication form: IF `fApply` returned `r`, then … (the call is deterministic, so this is
`C08_fApply_value` read backwards) -/
theorem C08_fApply_value_of_ok (a : AMgr) (hi : AInv off a) (ht : Two off a) (op : String) (c : Conn)
    (hc : docConn op = some c) (h2 : c.arity = 2) (hq1 : c ≠ .forall_) (hq2 : c ≠ .exists_)
    (hall : Gen.allOps.contains op = true) (hs ho h : Nat)
    (hf : a.handles.contains h = false) (u v : Int)
    (hu : a.handles[hs]? = some u) (hv : a.handles[ho]? = some v)
    (r : Int) (a' : AMgr) (he : fApply op hs (some ho) h a = (.ok r, a')) :
    a'.handles[h]? = some r ∧
      (∃ m1, apply op u (some v) none a.m = (.ok r, m1) ∧ a'.m.tbl = m1.tbl) ∧
      (∀ σ, denN a'.m.tbl r σ = c.eval (denN a.m.tbl u σ) (denN a.m.tbl v σ) false) := by
  obtain ⟨r0, a0, he0, h1, h2', h3, _⟩ :=
    C08_fApply_value a hi ht op c hc h2 hq1 hq2 hall hs ho h hf u v hu hv
  rw [he] at he0
  cases he0
  exact ⟨h1, h2', h3⟩

/-- `~f` (every unary alias): returns `-u`, the new `Function` sits on it, it means the
negation by name, the table is untouched -/
theorem C08_fApply_not_value (a : AMgr) (hi : AInv off a) (op : String)
    (hc : docConn op = some .not) (hall : Gen.allOps.contains op = true) (hs h : Nat)
    (hf : a.handles.contains h = false) (u : Int) (hu : a.handles[hs]? = some u) :
    ∃ a', fApply op hs none h a = (.ok (-u), a') ∧ a'.handles[h]? = some (-u) ∧
      a'.m.tbl = a.m.tbl ∧ (∀ σ, denN a'.m.tbl (-u) σ = !denN a.m.tbl u σ) ∧
      AInv off a' ∧ (∀ j : Nat, j ≠ h → a'.handles[j]? = a.handles[j]?) := by
  obtain ⟨a', he, ht, hh⟩ := fApply_not_eval a hi op hc hall hs h hf u hu
  obtain ⟨i', hs', _⟩ := fApply_keepsAll off op hs none h a hi hf _ _ he
  refine ⟨a', he, by rw [hh]; exact TreeMap.getElem?_insert_self, ht, fun σ => ?_, i', hs'⟩
  rw [ht]
  exact den_neg a.m.tbl hi.inv.wf.toWF u _ (hi.hmem hs u hu)

/-- the operators of `dd.autoref.Function` by their Python spelling — `f & g`, `f | g`,
`f.implies(g)`, `f.equiv(g)`, `~f`: each returns a `Function` whose node means, by name,
the conjunction / disjunction / implication / equivalence / negation of the operands -/
theorem C08_function_operators (a : AMgr) (hi : AInv off a) (ht : Two off a) (hs ho h : Nat)
    (hf : a.handles.contains h = false) (u v : Int)
    (hu : a.handles[hs]? = some u) (hv : a.handles[ho]? = some v) :
    (∃ r a', fApply "and" hs (some ho) h a = (.ok r, a') ∧ a'.handles[h]? = some r ∧ AInv off a' ∧
      ∀ σ, denN a'.m.tbl r σ = (denN a.m.tbl u σ && denN a.m.tbl v σ)) ∧
    (∃ r a', fApply "or" hs (some ho) h a = (.ok r, a') ∧ a'.handles[h]? = some r ∧ AInv off a' ∧
      ∀ σ, denN a'.m.tbl r σ = (denN a.m.tbl u σ || denN a.m.tbl v σ)) ∧
    (∃ r a', fApply "implies" hs (some ho) h a = (.ok r, a') ∧ a'.handles[h]? = some r ∧
      AInv off a' ∧ ∀ σ, denN a'.m.tbl r σ = (!denN a.m.tbl u σ || denN a.m.tbl v σ)) ∧
    (∃ r a', fApply "equiv" hs (some ho) h a = (.ok r, a') ∧ a'.handles[h]? = some r ∧
      AInv off a' ∧ ∀ σ, denN a'.m.tbl r σ = (denN a.m.tbl u σ == denN a.m.tbl v σ)) ∧
    (∃ a', fApply "not" hs none h a = (.ok (-u), a') ∧ a'.handles[h]? = some (-u) ∧ AInv off a' ∧
      ∀ σ, denN a'.m.tbl (-u) σ = !denN a.m.tbl u σ) := by
  have bin : ∀ (op : String) (c : Conn), docConn op = some c ∧ Gen.allOps.contains op = true →
      c.arity = 2 → c ≠ .forall_ → c ≠ .exists_ →
      ∃ r a', fApply op hs (some ho) h a = (.ok r, a') ∧ a'.handles[h]? = some r ∧ AInv off a' ∧
        ∀ σ, denN a'.m.tbl r σ = c.eval (denN a.m.tbl u σ) (denN a.m.tbl v σ) false := by
    intro op c hop h2 hq1 hq2
    obtain ⟨r, a', he, hh, _, hd, i', _⟩ :=
      C08_fApply_value a hi ht op c hop.1 h2 hq1 hq2 hop.2 hs ho h hf u v hu hv
    exact ⟨r, a', he, hh, i', hd⟩
  refine ⟨bin "and" .and and_is_conjunction rfl (nomatch ·) (nomatch ·),
    bin "or" .or or_is_disjunction rfl (nomatch ·) (nomatch ·),
    bin "implies" .implies implies_is_implication rfl (nomatch ·) (nomatch ·),
    bin "equiv" .equiv equiv_is_equivalence rfl (nomatch ·) (nomatch ·), ?_⟩
  obtain ⟨a', he, hh, _, hd, i', _⟩ := C08_fApply_not_value a hi "not" not_is_negation.1
    not_is_negation.2 hs h hf u hu
  exact ⟨a', he, hh, i', hd⟩

/-- `f <= g` for live `Function`s `f` on `u`, `g` on `v`: the method RETURNS, and returns
`True` exactly when `f` implies `g` as functions of the variable names; its three temporaries
(`~f`, `g | ~f`, `bdd.true`) are released: the registry ends exactly as it started, the
invariant (count equation included) holds, every live `Function` keeps its meaning -/
theorem C08_le_value (a : AMgr) (hi : AInv off a) (ht : Two off a) (hs ho : Nat) (u v : Int)
    (hu : a.handles[hs]? = some u) (hv : a.handles[ho]? = some v) :
    ∃ (b : Bool) (a' : AMgr), fLe hs ho a = (.ok b, a') ∧
      (b = true ↔ ∀ σ, denN a.m.tbl u σ = true → denN a.m.tbl v σ = true) ∧
      AInv off a' ∧ (∀ j : Nat, a'.handles[j]? = a.handles[j]?) ∧
      (∀ (j : Nat) (w : Int), a.handles[j]? = some w →
        a'.m.tbl.Mem w ∧ ∀ σ, denN a'.m.tbl w σ = denN a.m.tbl w σ) := by
  obtain ⟨b, a', he, hb⟩ := fLe_eval a hi ht hs ho u v hu hv
  exact ⟨b, a', he, hb, fLe_keepsAll off hs ho a hi _ _ he⟩

/-- `f < g`: `True` exactly when `f` implies `g` and they are not the same function -/
theorem C08_lt_value (a : AMgr) (hi : AInv off a) (ht : Two off a) (hs ho : Nat) (u v : Int)
    (hu : a.handles[hs]? = some u) (hv : a.handles[ho]? = some v) :
    ∃ (b : Bool) (a' : AMgr), fLt hs ho a = (.ok b, a') ∧
      (b = true ↔ (∀ σ, denN a.m.tbl u σ = true → denN a.m.tbl v σ = true) ∧
        ¬ ∀ σ, denN a.m.tbl u σ = denN a.m.tbl v σ) ∧
      AInv off a' ∧ (∀ j : Nat, a'.handles[j]? = a.handles[j]?) ∧
      (∀ (j : Nat) (w : Int), a.handles[j]? = some w →
        a'.m.tbl.Mem w ∧ ∀ σ, denN a'.m.tbl w σ = denN a.m.tbl w σ) := by
  obtain ⟨b, a', he, hb⟩ := fLt_eval a hi ht hs ho u v hu hv
  exact ⟨b, a', he, hb, fLt_keepsAll off hs ho a hi _ _ he⟩

/-- `f == g` / `f != g`: nothing changes, and the answer is "the same function of the
variable names" (canonicity, C02) -/
theorem C08_eq_value (a : AMgr) (hi : AInv off a) (hs ho : Nat) (u v : Int)
    (hu : a.handles[hs]? = some u) (hv : a.handles[ho]? = some v) :
    (∃ b, fEq hs ho a = (.ok b, a) ∧ (b = true ↔ ∀ σ, denN a.m.tbl u σ = denN a.m.tbl v σ)) ∧
    (∃ b, fNe hs ho a = (.ok b, a) ∧ (b = true ↔ ¬ ∀ σ, denN a.m.tbl u σ = denN a.m.tbl v σ)) := by
  have hq := eq_iff_denN hi.inv.wf hi.order u v (hi.hmem hs u hu) (hi.hmem ho v hv)
  refine ⟨⟨u == v, fEq_eval a hs ho u v hu hv, ?_⟩, ⟨!(u == v), fNe_eval a hs ho u v hu hv, ?_⟩⟩
  · rw [beq_iff_eq, hq]
  · rw [← hq]; simp

/-- a live `Function` `f` on a NON-TERMINAL node `u`: `f.var` is a declared name `x` whose level
is `f.level`; `f.low` / `f.high` return new `Function`s on stored nodes `lo`, `hi` (`hi`
positive); `f.negated` is `u < 0`; and the function of `f` is the Shannon expansion BY NAME
  `⟦f⟧ σ = (if σ x then ⟦hi⟧ σ else ⟦lo⟧ σ) xor negated`.
The reads change nothing; `low` / `high` create the one new handle and keep the invariant. -/
theorem C08_shannon (a : AMgr) (hi : AInv off a) (hs h : Nat) (hf : a.handles.contains h = false)
    (u : Int) (hu : a.handles[hs]? = some u) (hnt : u.natAbs ≠ 1) :
    ∃ (x : String) (lvl : Nat) (lo hiN : Int),
      fVar hs a = (.ok (some x), a) ∧ fLevel hs a = (.ok lvl, a) ∧
      a.m.tbl.vars[x]? = some lvl ∧
      (∃ a1, fChild false hs h a = (.ok (some lo), a1) ∧ a1.handles[h]? = some lo ∧
        a1.m.tbl = a.m.tbl ∧ AInv off a1 ∧ ∀ j : Nat, j ≠ h → a1.handles[j]? = a.handles[j]?) ∧
      (∃ a2, fChild true hs h a = (.ok (some hiN), a2) ∧ a2.handles[h]? = some hiN ∧
        a2.m.tbl = a.m.tbl ∧ AInv off a2 ∧ ∀ j : Nat, j ≠ h → a2.handles[j]? = a.handles[j]?) ∧
      a.m.tbl.Mem lo ∧ a.m.tbl.Mem hiN ∧ 0 < hiN ∧
      lvl < a.m.tbl.levelOf lo ∧ lvl < a.m.tbl.levelOf hiN ∧
      ∀ σ, denN a.m.tbl u σ =
        ((decide (u < 0)) ^^ (if σ x then denN a.m.tbl hiN σ else denN a.m.tbl lo σ)) := by
  obtain ⟨n, hn⟩ := mem_node (hi.hmem hs u hu) hnt
  obtain ⟨_, hsh, hml, hmh, hpos, _, hll, hlh⟩ :=
    C18_expand_spec a.m.tbl hi.inv.wf.toWF u n hnt hn
  have hlt : n.lvl < a.m.tbl.nvars := hi.inv.wf.toWF.lvl_lt _ _ hn
  obtain ⟨a1, he1, ht1, hh1⟩ := fChild_eval a hi false hs h u n hf hu hnt hn
  obtain ⟨a2, he2, ht2, hh2⟩ := fChild_eval a hi true hs h u n hf hu hnt hn
  obtain ⟨i1, hs1, _⟩ := Auto.fChild_keeps session false hs h a hi hf _ _ he1
  obtain ⟨i2, hs2, _⟩ := Auto.fChild_keeps session true hs h a hi hf _ _ he2
  exact ⟨a.m.tbl.nameOf n.lvl, n.lvl, n.lo, n.hi, fVar_eval a hi hs u n hu hnt hn,
    fLevel_eval a hs u n hu hnt hn, hi.order.vars_nameOf hlt,
    ⟨a1, he1, by rw [hh1]; exact TreeMap.getElem?_insert_self, ht1, i1, hs1⟩,
    ⟨a2, he2, by rw [hh2]; exact TreeMap.getElem?_insert_self, ht2, i2, hs2⟩,
    hml, hmh, hpos, hll, hlh, hsh⟩

/-- `len(f)` / `f.dag_size` of a live `Function` on `u`: changes nothing and returns the
number of nodes reachable from `u`, the terminal included (the list `l` of these nodes is
strictly ascending, so its length counts each node once) -/
theorem C08_len_value (a : AMgr) (hi : AInv off a) (hs : Nat) (u : Int)
    (hu : a.handles[hs]? = some u) :
    ∃ l : List Nat, fLen hs a = (.ok l.length, a) ∧ l.Pairwise (· < ·) ∧
      (∀ v, v ∈ l ↔ Reach a.m.tbl u.natAbs v) ∧ 1 ∈ l :=
  fLen_eval a hi hs u hu

/-- `bdd.succ(f)` on a non-terminal node: returns `(level, low, high)` with two new
`Function`s on the stored children; together with the name at that level they satisfy the
Shannon expansion; the invariant holds, no other handle is touched -/
theorem C08_succ_value (a : AMgr) (hi : AInv off a) (hu h1 h2 : Nat) (hne : h1 ≠ h2)
    (hf1 : a.handles.contains h1 = false) (hf2 : a.handles.contains h2 = false)
    (u : Int) (hl : a.handles[hu]? = some u) (hnt : u.natAbs ≠ 1) :
    ∃ (lvl : Nat) (lo hiN : Int) (a' : AMgr),
      aSucc hu h1 h2 a = (.ok (lvl, some (lo, hiN)), a') ∧
      a'.handles[h1]? = some lo ∧ a'.handles[h2]? = some hiN ∧ a'.m.tbl = a.m.tbl ∧
      AInv off a' ∧ (∀ j : Nat, j ∉ [h1, h2] → a'.handles[j]? = a.handles[j]?) ∧
      ∀ σ, denN a.m.tbl u σ = ((decide (u < 0)) ^^
        (if σ (a.m.tbl.nameOf lvl) then denN a.m.tbl hiN σ else denN a.m.tbl lo σ)) := by
  obtain ⟨n, hn⟩ := mem_node (hi.hmem hu u hl) hnt
  obtain ⟨_, hsh, _⟩ := C18_expand_spec a.m.tbl hi.inv.wf.toWF u n hnt hn
  obtain ⟨a', he, ht, hh⟩ := aSucc_eval a hi hu h1 h2 hne hf1 hf2 u n hl hnt hn
  obtain ⟨i', hs', _⟩ := Auto.aSucc_keepsL session hu h1 h2 hne a hi
    (List.forall_mem_cons.mpr ⟨hf1, List.forall_mem_singleton.mpr hf2⟩) _ _ he
  refine ⟨n.lvl, n.lo, n.hi, a', he, ?_, ?_, ht, i', hs', hsh⟩
  · rw [hh, getElem?_insert_ne _ _ _ _ hne]; exact TreeMap.getElem?_insert_self
  · rw [hh]; exact TreeMap.getElem?_insert_self

/-! ### non-vacuity: the state of `DDProps/C08.lean` (three variables, handles on 2, 3, −4) -/

theorem nvA4_two : Two true nvA4 := fun h => nomatch h

/-- what the examples (here and in the files that import this one) use of `nvA4` beyond
`nvA4_h0` … `nvA4_f3`, in one statement: the kernel evaluates a closed term once per declaration -/
theorem nvA4_facts : nvA4.handles.contains 4 = false ∧ nvA4.handles.contains 99 = false ∧
    (nvA4.m.tbl.vars.contains "a" = true ∧ nvA4.m.tbl.vars.contains "b" = true ∧
      nvA4.m.tbl.vars.contains "c" = true) ∧
    nvA4.m.tbl.l2v.toList = [(0, "a"), (1, "b"), (2, "c")] ∧
    denN nvA4.m.tbl 2 (fun _ => true) = true ∧ denN nvA4.m.tbl (-4) (fun _ => true) = false := by
  decide +kernel

/-- `fa & fx`: hypotheses met; the theorem gives a returned node, its handle and its meaning -/
example := C08_fApply_value nvA4 nvA4_inv nvA4_two "and" .and and_is_conjunction.1 rfl (nomatch ·)
  (nomatch ·) and_is_conjunction.2 0 2 3 nvA4_f3 2 (-4) nvA4_h0 nvA4_h2
example := C08_function_operators nvA4 nvA4_inv nvA4_two 0 2 3 nvA4_f3 2 (-4) nvA4_h0 nvA4_h2
example := C08_lt_value nvA4 nvA4_inv nvA4_two 0 2 2 (-4) nvA4_h0 nvA4_h2
example := C08_eq_value nvA4 nvA4_inv 0 2 2 (-4) nvA4_h0 nvA4_h2
/-- `fx` sits on a non-terminal, complemented node: `var`, `low`, `high`, `negated` -/
example := C08_shannon nvA4 nvA4_inv 2 3 nvA4_f3 (-4) nvA4_h2 (by decide)
example := C08_succ_value nvA4 nvA4_inv 2 3 4 (by decide) nvA4_f3 nvA4_facts.1 (-4) nvA4_h2
  (by decide)
example : (fVar 2 nvA4).1 = .ok (some "a") ∧ (fLen 2 nvA4).1 = .ok 3 ∧
    (fEq 0 2 nvA4).1 = .ok false := by decide +kernel

/-- `fa <= fx` is `False` (not vacuously: from the value theorem and the assignment that makes
every variable true) -/
example : ∃ a', fLe 0 2 nvA4 = (.ok false, a') ∧ ∀ j : Nat, a'.handles[j]? = nvA4.handles[j]? := by
  obtain ⟨b, a', he, hb, _, hsame, _⟩ := C08_le_value nvA4 nvA4_inv nvA4_two 0 2 2 (-4) nvA4_h0 nvA4_h2
  cases b with
  | false => exact ⟨a', he, hsame⟩
  | true =>
    have h1 := hb.mp rfl (fun _ => true) nvA4_facts.2.2.2.2.1
    rw [nvA4_facts.2.2.2.2.2] at h1
    cases h1

/-- `fx <= fx` is `True` -/
example : ∃ a', fLe 2 2 nvA4 = (.ok true, a') := by
  obtain ⟨b, a', he, hb, _⟩ := C08_le_value nvA4 nvA4_inv nvA4_two 2 2 (-4) (-4) nvA4_h2 nvA4_h2
  have : b = true := hb.mpr (fun _ h => h)
  subst this
  exact ⟨a', he⟩

/-- the same state with dynamic reordering ENABLED (`bdd.configure(reordering=True)`): the
mode `off = false` is inhabited by a state with variables, nodes and handles, and the value
theorems and `C08_ops_dyn_total` apply to it -/
def nvD : AMgr := (aConfigure (some true) nvA4).2

theorem nvD_inv : AInv false nvD :=
  (Auto.aConfigure_keeps session (some true) (fun hf => Bool.noConfusion hf) 99 nvA4 nvA4_inv.toDyn
    nvA4_facts.2.1 _ _ rfl).1

theorem nvD_facts : nvD.m.lastLen.isSome = true ∧ 2 ≤ nvD.m.nvars ∧
    nvD.handles[(0 : Nat)]? = some 2 ∧ nvD.handles[(1 : Nat)]? = some 3 ∧
    nvD.handles[(2 : Nat)]? = some (-4) ∧ nvD.handles.contains 3 = false ∧
    (nvD.m.tbl.vars.contains "a" = true ∧ nvD.m.tbl.vars.contains "b" = true ∧
      nvD.m.tbl.vars.contains "c" = true) ∧
    nvD.m.tbl.l2v.toList = [(0, "a"), (1, "b"), (2, "c")] := by decide +kernel

example : nvD.m.lastLen.isSome = true := nvD_facts.1
theorem nvD_two : Two false nvD := fun _ => nvD_facts.2.1
theorem nvD_h0 : nvD.handles[(0 : Nat)]? = some 2 := nvD_facts.2.2.1
theorem nvD_h2 : nvD.handles[(2 : Nat)]? = some (-4) := nvD_facts.2.2.2.2.1
theorem nvD_f3 : nvD.handles.contains 3 = false := nvD_facts.2.2.2.2.2.1

example := C08_fApply_value nvD nvD_inv nvD_two "and" .and and_is_conjunction.1 rfl (nomatch ·)
  (nomatch ·) and_is_conjunction.2 0 2 3 nvD_f3 2 (-4) nvD_h0 nvD_h2
example := C08_le_value nvD nvD_inv nvD_two 0 2 2 (-4) nvD_h0 nvD_h2
example := C08_shannon nvD nvD_inv 2 3 nvD_f3 (-4) nvD_h2 (by decide)
/-- a rejected call with reordering enabled: an id that is not in use, an unknown operator, an
undeclared name — the guarantee of `C08_ops_dyn_total` applies to this state -/
example := (C08_ops_dyn_total 3).2.2.1 "nonsense" 7 (some 0) none nvD nvD_inv nvD_f3
  _ _ (Prod.eta _).symm
example := (C08_ops_dyn_total 3).1 "undeclared" nvD nvD_inv nvD_f3
  _ _ (Prod.eta _).symm
/-- … and these calls do raise (`ValueError` for the undeclared name and for the unknown
operator on live operands; the lookup of the id that is not in use fails first) -/
example : (aVar "undeclared" 3 nvD).1 = .error .value ∧
    (aApply "nonsense" 7 (some 0) none 3 nvD).1 = .error .other ∧
    (aApply "nonsense" 0 (some 1) none 3 nvD).1 = .error .value := by decide +kernel

end DD
