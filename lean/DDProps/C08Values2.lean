/-
  DDProps.C08Values2 — what the methods of `dd.autoref.BDD` RETURN: `var`, `ite`, `apply`
  (binary connectives, the ternary conditional, the quantifier aliases), `quantify` / `exist` /
  `forall`, `let` in its three forms (Boolean values / names / `Function`s), `cube`, `add_expr`,
  `support`.  Each theorem holds in BOTH modes (`off = true`: reordering not enabled, every state
  of the mode; `off = false`: reordering may be enabled and may fire inside the call, C09 — with
  `Two off a`, at least two declared variables).

  Shape of the statements about a method that returns a new `Function` (`AValue off a h x Doc`,
  DDProofs/AutoValues2.lean; `let` answers a pair and is stated with `AResult`, `support` creates
  nothing): for live operands and declared names the method RETURNS a node `r`; the new `Function`
  `h` sits on `r`; `r` is a stored node whose function of the variable NAMES is the documented one
  (`Doc`, written out in each statement, relative to the operands as they were before the call); the
  invariant `AInv` (count equation included) holds afterwards; no other handle is touched; every
  `Function` that was alive keeps its meaning.  (`count` / `pick`: `C10_function_count`,
  `C10_function_pick`, `C08_function_readonly` in DDProps/ApiAuto.lean.)
-/
import DDProps.C08Values
import DDProofs.AutoValues2
import DDProofs.LexSteps
open Std

namespace DD

variable {off : Bool}

/-- `AValue`, spelled out -/
theorem C08_value_unfold (a : AMgr) (h : Nat) (x : AM Int) (Doc : Tbl → Int → Tbl → Prop) :
    AValue off a h x Doc ↔
    ∃ (r : Int) (a' : AMgr), x a = (.ok r, a') ∧ a'.handles[h]? = some r ∧
      Doc a.m.tbl r a'.m.tbl ∧ AInv off a' ∧
      (∀ j : Nat, j ≠ h → a'.handles[j]? = a.handles[j]?) ∧
      (∀ (j : Nat) (w : Int), a.handles[j]? = some w →
        a'.m.tbl.Mem w ∧ ∀ σ, denN a'.m.tbl w σ = denN a.m.tbl w σ) := Iff.rfl

/-- `bdd.var(name)` for a declared name: the projection on that name -/
theorem C08_var_value (a : AMgr) (hi : AInv off a) (ht : Two off a) (name : String) (h : Nat)
    (hf : a.handles.contains h = false) (hd : a.m.tbl.vars.contains name = true) :
    AValue off a h (aVar name h) (fun _ r t' => t'.Mem r ∧ ∀ σ, denN t' r σ = σ name) :=
  .of_step (aVar_step a hi ht name h hf hd)

/-- `bdd.ite(g, u, v)` (C01) -/
theorem C08_ite_value (a : AMgr) (hi : AInv off a) (ht : Two off a) (jg ju jv h : Nat)
    (hf : a.handles.contains h = false) (g u v : Int)
    (hg : a.handles[jg]? = some g) (hu : a.handles[ju]? = some u) (hv : a.handles[jv]? = some v) :
    AValue off a h (aIte jg ju jv h) (fun t r t' => t'.Mem r ∧
      ∀ σ, denN t' r σ = if denN t g σ then denN t u σ else denN t v σ) :=
  .of_step (aIte_step a hi ht jg ju jv h hf g u v hg hu hv)

/-- `bdd.apply(op, u, v)` for every binary propositional alias (C01) -/
theorem C08_apply_binary_value (a : AMgr) (hi : AInv off a) (ht : Two off a) (op : String) (c : Conn)
    (hc : docConn op = some c) (h2 : c.arity = 2) (hq1 : c ≠ .forall_) (hq2 : c ≠ .exists_)
    (hall : Gen.allOps.contains op = true) (ju jv h : Nat) (hf : a.handles.contains h = false)
    (u v : Int) (hu : a.handles[ju]? = some u) (hv : a.handles[jv]? = some v) :
    AValue off a h (aApply op ju (some jv) none h) (fun t r t' => t'.Mem r ∧
      ∀ σ, denN t' r σ = c.eval (denN t u σ) (denN t v σ) false) :=
  have ⟨hk, hd⟩ := applyBin_ok off a hi ht op c hc h2 hq1 hq2 hall ju jv u v hu hv
  .of_eq (aApply_eval a hi op ju jv none h u v none hu hv rfl)
    (wrapResult_value a hi h hf _ (ConnDoc c u v) hk (fun _ _ _ d => d.1) hd)

/-- `bdd.apply('ite', u, v, w)` (C01) -/
theorem C08_apply_ite_value (a : AMgr) (hi : AInv off a) (ht : Two off a) (op : String)
    (hc : docConn op = some .ite) (hall : Gen.allOps.contains op = true) (ju jv jw h : Nat)
    (hf : a.handles.contains h = false) (u v w : Int) (hu : a.handles[ju]? = some u)
    (hv : a.handles[jv]? = some v) (hw : a.handles[jw]? = some w) :
    AValue off a h (aApply op ju (some jv) (some jw) h) (fun t r t' => t'.Mem r ∧
      ∀ σ, denN t' r σ = if denN t u σ then denN t v σ else denN t w σ) :=
  have ⟨hk, hd⟩ := applyConn_ok off a hi ht op .ite hc (by decide) nofun nofun hall u v (some w) rfl
    (heldX_of_handle a hu) (heldX_of_handle a hv) (heldX_of_handle a hw)
  .of_eq (aApply_eval a hi op ju jv (some jw) h u v (some w) hu hv
      (optNode_eval (hi.nodeIn hw)))
    (wrapResult_value a hi h hf _ (Ite3Doc u v w) hk (fun _ _ _ d => d.1) hd)

/-- `bdd.apply(op, u, v)` with a quantifier alias (`\A`, `\E`, `forall`, `exists`; C03): `v` is
quantified over `names` = the answer of `support(u)` -/
theorem C08_apply_quant_value (a : AMgr) (hi : AInv off a) (ht : Two off a) (op : String) (c : Conn)
    (hc : docConn op = some c) (hq : c = .forall_ ∨ c = .exists_)
    (hall : Gen.allOps.contains op = true) (ju jv h : Nat) (hf : a.handles.contains h = false)
    (u v : Int) (hu : a.handles[ju]? = some u) (hv : a.handles[jv]? = some v) :
    ∃ names, support a.m.tbl u = .ok names ∧
      AValue off a h (aApply op ju (some jv) none h) (fun t r t' => t'.Mem r ∧
        ∀ σ, denN t' r σ = true ↔ qsemN (decide (c = .forall_)) names (denN t v) σ) := by
  have mu := hi.hmem ju u hu
  obtain ⟨ls, -, hs, hdecl⟩ := support_declared a.m hi.inv hi.order u mu
  generalize ls.map a.m.tbl.nameOf = names at hs hdecl
  refine ⟨names, hs, .of_eq (aApply_eval a hi op ju jv none h u v none hu hv rfl) (.of_step
    (wrapResult_step a hi h hf _ (QuantDoc (decide (c = .forall_)) names v)
      (coreKeeps off (apply_decorated op u (some v) none) a.m) (fun _ _ _ d => d.1) ?_))⟩
  rw [apply_quant_eq a.m op c hc hq hall u v mu (hi.hmem jv v hv) names hs]
  exact (quantify_docBody v _ names).session off a hi ht (by simp [heldX_of_handle a hv]) hdecl

/-- `bdd.quantify(u, names, forall)` = `bdd.exist(names, u)` / `bdd.forall(names, u)` over
declared names (C03): `qsemN false` = "some assignment that differs from σ only on `names`
satisfies `u`", `qsemN true` = "every such assignment" -/
theorem C08_quantify_value (a : AMgr) (hi : AInv off a) (ht : Two off a) (ju h : Nat)
    (hf : a.handles.contains h = false) (u : Int) (hu : a.handles[ju]? = some u) (fa : Bool)
    (names : List String) (hd : ∀ s ∈ names, a.m.tbl.vars.contains s = true) :
    AValue off a h (aQuantify ju (names.map Key.name) fa h) (fun t r t' => t'.Mem r ∧
      ∀ σ, denN t' r σ = true ↔ qsemN fa names (denN t u) σ) :=
  .of_eq (by unfold aQuantify; rw [AM.bind_ok (hi.nodeIn hu)])
    (.of_step (wrapResult_step a hi h hf _ (QuantDoc fa names u) (coreKeeps off (quantify_decorated u _ fa) a.m)
      (fun _ _ _ d => d.1)
      ((quantify_docBody u fa names).session off a hi ht (by simp [heldX_of_handle a hu]) hd)))

/-- `Function.exist` / `Function.forall` (the mixin methods): the same -/
theorem C08_exist_forall_value (a : AMgr) (hi : AInv off a) (ht : Two off a) (ju h : Nat)
    (hf : a.handles.contains h = false) (u : Int) (hu : a.handles[ju]? = some u)
    (names : List String) (hd : ∀ s ∈ names, a.m.tbl.vars.contains s = true) :
    AValue off a h (fExist ju names h) (fun t r t' => t'.Mem r ∧
      ∀ σ, denN t' r σ = true ↔ ∃ τ : AsgN, (∀ s, s ∉ names → τ s = σ s) ∧ denN t u τ = true) ∧
    AValue off a h (fForall ju names h) (fun t r t' => t'.Mem r ∧
      ∀ σ, denN t' r σ = true ↔ ∀ τ : AsgN, (∀ s, s ∉ names → τ s = σ s) → denN t u τ = true) :=
  ⟨C08_quantify_value a hi ht ju h hf u hu false names hd, C08_quantify_value a hi ht ju h hf u hu true names hd⟩

/-- `bdd.let({name: bool}, u)` (C04, cofactor): `u` read under σ overridden by the dictionary -/
theorem C08_let_bools_value (a : AMgr) (hi : AInv off a) (ht : Two off a) (ju h : Nat)
    (hf : a.handles.contains h = false) (u : Int) (hu : a.handles[ju]? = some u)
    (vals : List (String × Bool)) (hne : vals ≠ [])
    (hd : ∀ p ∈ vals, a.m.tbl.vars.contains p.1 = true) :
    ∃ r a', aLet (.bools (boolKeys vals)) ju h a = (.ok (r, false), a') ∧
      AResult off a h (fun t r t' => t'.Mem r ∧ ∀ σ, denN t' r σ = denN t u (ovrN vals σ)) r a' :=
  have hk := boolKeys_ne_nil hne
  aLet_value a hi (.bools (boolKeys vals)) ju h hf u hu (List.isEmpty_eq_false_iff.mpr hk) _ rfl
    (CofDoc vals u) (fun _ _ _ d => d.1) (letOp_bools _ hk u ▸
      (cofactor_docBody u vals).session off a hi ht (by simp [heldX_of_handle a hu]) hd)

/-- `bdd.let({name: name'}, u)` (C04, rename; the targets declared): every variable is read at its
target name -/
theorem C08_let_names_value (a : AMgr) (hi : AInv off a) (ht : Two off a) (ju h : Nat)
    (hf : a.handles.contains h = false) (u : Int) (hu : a.handles[ju]? = some u)
    (dvars : List (String × String)) (hne : dvars ≠ [])
    (hd : ∀ p ∈ dvars, a.m.tbl.vars.contains p.2 = true) :
    ∃ r a', aLet (.names dvars) ju h a = (.ok (r, false), a') ∧
      AResult off a h (fun t r t' => t'.Mem r ∧
        ∀ σ, denN t' r σ = denN t u (fun s => σ (tgtName dvars s))) r a' :=
  aLet_value a hi (.names dvars) ju h hf u hu (List.isEmpty_eq_false_iff.mpr hne) _ rfl
    (RenameDoc dvars u) (fun _ _ _ d => d.1) (letOp_names _ hne u ▸
      (rename_docBody u dvars).session off a hi ht (by simp [heldX_of_handle a hu]) hd)

/-- `bdd.let({name: Function}, u)` (C04, compose; names declared, values alive in this manager,
`node j` the node under the `Function` `j`): every substituted name is read as the function of its
value -/
theorem C08_let_funs_value (a : AMgr) (hi : AInv off a) (ht : Two off a) (ju h : Nat)
    (hf : a.handles.contains h = false) (u : Int) (hu : a.handles[ju]? = some u)
    (d : List (String × Nat)) (node : Nat → Int) (hne : d ≠ [])
    (hv : ∀ p ∈ d, a.handles[p.2]? = some (node p.2))
    (hd : ∀ p ∈ d, a.m.tbl.vars.contains p.1 = true) :
    ∃ r a', aLet (.funs d) ju h a = (.ok (r, false), a') ∧
      AResult off a h (fun t r t' => t'.Mem r ∧
        ∀ σ, denN t' r σ = denN t u (subN t (d.map fun p => (p.1, node p.2)) σ)) r a' := by
  have hargs : aLetArgs (.funs d) a = (.ok (.refs (d.map fun p => (p.1, node p.2))), a) := by
    show (nodesAny d >>= fun l => pure (LetArg.refs l)) a = _
    rw [AM.bind_ok (nodesAny_eval a node d hv)]
    rfl
  refine aLet_value a hi (.funs d) ju h hf u hu (List.isEmpty_eq_false_iff.mpr hne) _ hargs _
    (fun _ _ _ d => d.1) ?_
  rw [letOp_refs _ fun h => hne (List.map_eq_nil_iff.mp h)]
  refine (compose_docBody u _).session off a hi ht
    (List.forall_mem_cons.mpr ⟨heldX_of_handle a hu, fun w hw => ?_⟩) fun q hq => ?_
  · obtain ⟨q, hq, rfl⟩ := List.mem_map.mp hw
    obtain ⟨p, hp, rfl⟩ := List.mem_map.mp hq
    exact heldX_of_handle a (hv p hp)
  · obtain ⟨p, hp, rfl⟩ := List.mem_map.mp hq
    exact hd p hp

/-- `bdd.cube({name: bool})` over declared names: the conjunction of the literals -/
theorem C08_cube_value (a : AMgr) (hi : AInv off a) (ht : Two off a) (dvars : List (String × Bool)) (h : Nat)
    (hf : a.handles.contains h = false) (hd : ∀ p ∈ dvars, a.m.tbl.vars.contains p.1 = true) :
    AValue off a h (aCube dvars h) (fun _ r t' => t'.Mem r ∧
      ∀ σ, denN t' r σ = dvars.all fun p => σ p.1 == p.2) :=
  .of_step (wrapResult_step a hi h hf (cube dvars) (CubeDoc dvars) (coreKeeps off (cube_decorated dvars) a.m)
    (fun _ _ _ d => d.1) (cube_eq dvars ▸ (cube_docBody dvars).session off a hi ht nofun hd))

/-- `bdd.add_expr(text)` (C05): when the text parses to the tree `t`, `t` is meaningful in the
manager (names declared, `@n` stored) and every `@n` is the node of a live `Function`, the result
denotes the value the independent evaluator `evalFormula` gives to the tree -/
theorem C08_add_expr_value (a : AMgr) (hi : AInv off a) (ht : Two off a) (s : String) (t : Ast) (h : Nat)
    (hf : a.handles.contains h = false) (hp : parse (tokenize s) = some t)
    (hM : Meaningful a.m.tbl t) (hh : ∀ u ∈ t.atNodes, ∃ j : Nat, a.handles[j]? = some u) :
    AValue off a h (aAddExpr s h) (fun T r t' => t'.Mem r ∧
      ∀ σ, denN t' r σ = evalFormula T t σ) :=
  aAddExpr_value a hi ht s t h hf hp hM hh

/-- `bdd.support(f)` / `f.support` (C10): nothing changes; the answer lists the names of exactly
the levels the function depends on; all of them are declared -/
theorem C08_support_value (a : AMgr) (hi : AInv off a) (ju : Nat) (u : Int)
    (hu : a.handles[ju]? = some u) :
    ∃ ls : List Nat, (∀ i, i ∈ ls ↔ dependsOn a.m.tbl u i) ∧
      aSupport ju a = (.ok (ls.map a.m.tbl.nameOf), a) ∧
      fSupport ju a = (.ok (ls.map a.m.tbl.nameOf), a) ∧
      ∀ s ∈ ls.map a.m.tbl.nameOf, a.m.tbl.vars.contains s = true := by
  have hm := hi.hmem ju u hu
  obtain ⟨ls, hdep, hs, hdecl⟩ := support_declared a.m hi.inv hi.order u hm
  have h2 : (AM.liftE fun m => support m.tbl u) a = (.ok (ls.map a.m.tbl.nameOf), a) := by
    show (support a.m.tbl u, a) = _; rw [hs]
  refine ⟨ls, hdep, ?_, ?_, hdecl⟩
  · unfold aSupport
    rw [AM.bind_ok (hi.nodeIn hu)]; exact h2
  · unfold fSupport
    rw [AM.bind_ok (nodeOwn_eval hu)]; exact h2

/-! ### non-vacuity: the state `nvA4` (three variables `a b c`; `Function`s 0 ↦ 2 = `a`,
1 ↦ 3 = `b`, 2 ↦ −4 = `a xor b`) and the same state with reordering enabled (`nvD`) -/

theorem nvA4_decl : nvA4.m.tbl.vars.contains "a" = true ∧ nvA4.m.tbl.vars.contains "b" = true ∧
    nvA4.m.tbl.vars.contains "c" = true := nvA4_facts.2.2.1
theorem nvD_decl : nvD.m.tbl.vars.contains "a" = true ∧ nvD.m.tbl.vars.contains "b" = true ∧
    nvD.m.tbl.vars.contains "c" = true := nvD_facts.2.2.2.2.2.2.1
theorem nvD_h1 : nvD.handles[(1 : Nat)]? = some 3 := nvD_facts.2.2.2.1

/-- the formula of the `add_expr` example: a quantifier, `@n` (the node under `fb`), `~`,
connectives, `ite(…)`, a substitution -/
def nvFormula : String := "\\E a: (@3 | ~ b) & ite(a, b, TRUE) & (\\S b / a: a)"
def nvFormulaTree : Ast :=
  .quant false ["a"] (.bin .and (.bin .and (.bin .or (.num false "3") (.not (.var "b")))
    (.ite (.var "a") (.var "b") (.bool true))) (.subst [("b", "a")] (.var "a")))

theorem nvFormula_parse : parse (tokenize nvFormula) = some nvFormulaTree := by
  -- the characters are read off the literal by `tokenize_ofList`; the kernel would encode and
  -- decode it (UTF-8) to get at them
  unfold nvFormula
  rw [tokenize_ofList]
  decide +kernel

theorem nvFormula_meaningful {t : Tbl} (ha : t.vars.contains "a" = true)
    (hb : t.vars.contains "b" = true) (h3 : t.Mem 3) : Meaningful t nvFormulaTree := by
  have h3' : t.Mem (if false = true then -(digitsToNat "3" : Int) else (digitsToNat "3" : Int)) := by
    have : (if false = true then -(digitsToNat "3" : Int) else (digitsToNat "3" : Int)) = 3 := by
      decide
    rw [this]; exact h3
  exact ⟨List.forall_mem_singleton.mpr ha, ⟨by decide, ⟨by decide, ⟨by decide, h3', hb⟩, ha, hb, trivial⟩,
    List.forall_mem_singleton.mpr hb, ha⟩⟩

theorem nvFormula_atNodes : ∀ u ∈ nvFormulaTree.atNodes, u = 3 := by
  intro u hu
  simp only [nvFormulaTree, Ast.atNodes, List.append_nil, List.mem_cons,
    List.not_mem_nil, or_false] at hu
  rw [hu]; decide

/-- every theorem of this file applies to a state of each mode -/
theorem nv_values (off : Bool) (a : AMgr) (hi : AInv off a) (ht : Two off a)
    (h0 : a.handles[(0 : Nat)]? = some 2) (h1 : a.handles[(1 : Nat)]? = some 3)
    (h2 : a.handles[(2 : Nat)]? = some (-4)) (hf : a.handles.contains 3 = false)
    (hd : a.m.tbl.vars.contains "a" = true ∧ a.m.tbl.vars.contains "b" = true ∧
      a.m.tbl.vars.contains "c" = true) : True := by
  obtain ⟨x1, x2, i1, i2, e1, e2⟩ : docConn "xor" = some .xor ∧ Gen.allOps.contains "xor" = true ∧
      docConn "ite" = some .ite ∧ Gen.allOps.contains "ite" = true ∧
      docConn "\\E" = some .exists_ ∧ Gen.allOps.contains "\\E" = true := by decide +kernel
  have _ := C08_var_value a hi ht "c" 3 hf hd.2.2
  have _ := C08_ite_value a hi ht 2 0 1 3 hf (-4) 2 3 h2 h0 h1
  have _ := C08_apply_binary_value a hi ht "xor" .xor x1 rfl (nomatch ·) (nomatch ·) x2 0 2 3 hf 2 (-4)
    h0 h2
  have _ := C08_apply_ite_value a hi ht "ite" i1 i2 2 0 1 3 hf (-4) 2 3 h2 h0 h1
  have _ := C08_apply_quant_value a hi ht "\\E" .exists_ e1 (Or.inr rfl) e2 0 2 3 hf 2 (-4) h0 h2
  have _ := C08_quantify_value a hi ht 2 3 hf (-4) h2 false ["a"] (List.forall_mem_singleton.mpr hd.1)
  have _ := C08_exist_forall_value a hi ht 2 3 hf (-4) h2 ["a"] (List.forall_mem_singleton.mpr hd.1)
  have _ := C08_let_bools_value a hi ht 2 3 hf (-4) h2 [("a", true)] (by simp)
    (List.forall_mem_singleton.mpr hd.1)
  have _ := C08_let_names_value a hi ht 2 3 hf (-4) h2 [("a", "c")] (by simp)
    (List.forall_mem_singleton.mpr hd.2.2)
  have _ := C08_let_funs_value a hi ht 2 3 hf (-4) h2 [("a", 1)] (fun _ => 3) (by simp)
    (List.forall_mem_singleton.mpr h1) (List.forall_mem_singleton.mpr hd.1)
  have _ := C08_cube_value a hi ht [("a", true), ("b", false)] 3 hf
    (List.forall_mem_cons.mpr ⟨hd.1, List.forall_mem_singleton.mpr hd.2.1⟩)
  have _ := C08_add_expr_value a hi ht nvFormula nvFormulaTree 3 hf nvFormula_parse
    (nvFormula_meaningful hd.1 hd.2.1 (hi.hmem 1 3 h1))
    (fun u hu => ⟨1, by rw [nvFormula_atNodes u hu]; exact h1⟩)
  have _ := C08_support_value a hi 2 (-4) h2
  trivial

example := nv_values true nvA4 nvA4_inv nvA4_two nvA4_h0 nvA4_h1 nvA4_h2 nvA4_f3 nvA4_decl
example := nv_values false nvD nvD_inv nvD_two nvD_h0 nvD_h1 nvD_h2 nvD_f3 nvD_decl

/-- a derived concrete fact, reordering ENABLED: `bdd.exist(['a'], fx)` with `fx = a xor b` returns
the constant `true` (from the value theorem: under every σ some τ that differs on `a` only
satisfies `a xor b`; a stored node that is true everywhere is the terminal) -/
example : ∃ a', aQuantify 2 [Key.name "a"] false 3 nvD = (.ok 1, a') ∧ AInv false a' := by
  obtain ⟨r, a', he, _, ⟨hm, hd⟩, hi', _⟩ :=
    C08_quantify_value nvD nvD_inv nvD_two 2 3 nvD_f3 (-4) nvD_h2 false ["a"]
      (List.forall_mem_singleton.mpr nvD_decl.1)
  have hr : r = 1 := by
    refine (eq_one_iff_denN hi'.inv.wf hi'.order r hm).mpr fun σ => ?_
    refine (hd σ).mpr ?_
    -- the witness: `a := ¬ σ b`
    refine ⟨fun s => if s = "a" then !σ "b" else σ s, fun s hs => ?_, ?_⟩
    · have : s ≠ "a" := fun h => hs (by simp [h])
      simp [this]
    · -- `a xor b` read off the two nodes of the concrete table
      have hx : ∀ τ : AsgN, denN nvD.m.tbl (-4) τ = (τ "a" != τ "b") := by
        intro τ
        obtain ⟨h4, h3, n0, n1⟩ : nvD.m.tbl.succ[(4 : Nat)]? = some ⟨0, -3, 3⟩ ∧
            nvD.m.tbl.succ[(3 : Nat)]? = some ⟨1, -1, 1⟩ ∧
            nvD.m.tbl.nameOf 0 = "a" ∧ nvD.m.tbl.nameOf 1 = "b" := by decide +kernel
        have W := nvD_inv.inv.wf.toWF
        have e4 := (C18_expand_spec nvD.m.tbl W (-4) ⟨0, -3, 3⟩ (by decide) h4).2.1 τ
        have e3 := (C18_expand_spec nvD.m.tbl W 3 ⟨1, -1, 1⟩ (by decide) h3).2.1 τ
        have e3n : denN nvD.m.tbl (-3) τ = !denN nvD.m.tbl 3 τ :=
          den_neg nvD.m.tbl W 3 _ (nvD_inv.hmem 1 3 nvD_h1)
        have t1 : denN nvD.m.tbl 1 τ = true := den_one _ _
        have t0 : denN nvD.m.tbl (-1) τ = false := den_neg_one _ _
        simp only at e4 e3
        rw [e4, e3n, e3, n0, n1, t1, t0]
        cases τ "a" <;> cases τ "b" <;> decide
      rw [hx]
      cases σ "b" <;> simp
  subst hr
  exact ⟨a', he, hi'⟩

end DD
