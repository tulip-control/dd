/-
  DDProps.C08XCopy — C08 / C11: `dd._copy.copy_bdd(u, target)` and `dd._copy.copy_bdds_from(roots,
  target)` between two `dd.autoref` managers, as the code runs them.

  Model (`DD/ApiXCopy.lean`, `DD.xcF` / `DD.aXCopyRun` / `DD.aXCopyFromRun`): `_copy_bdd` goes through
  the PUBLIC `Function` interface, so every intermediate result is a `Function` with a reference of
  its own — `low`, `high`, `g = target.var(...)`, the memo's values `r = target.ite(g, high, low)`,
  the partial results, in the TARGET; `~u`, `u.low`, `u.high` in the SOURCE.  They are what protects
  the intermediate nodes when `target.var` / `target.ite` triggers a reordering in the middle of the
  recursion (sifting collects garbage); the memo hands out the SAME `Function` object for the same
  unsigned node (an aliased result, no second reference); the source's counters move during the
  call.  When the call is over (returned, or raised and the exception dropped) every `Function`
  created during it dies.

  For ANY mode of the target, ANY arguments and EVERY outcome: `C08_xcopy_total`,
  `C08_xcopy_from_total`; the VALUE, when every variable of the root's support is declared in the
  target (`CopyPre`), reordering enabled or not (in the mode `off = false` with at least two
  variables, `Two`): `C08_xcopy_value`.
-/
import DDProofs.XCopyValue
import DDProps.C08Values
open Std

namespace DD

variable {offS off : Bool}

/-- C08 / C11 `dd._copy.copy_bdd(u, target)` over `dd.autoref`: the target in ANY mode (`off = false`:
dynamic reordering possibly enabled — it may fire inside any `target.var` / `target.ite` of the
recursion — any number of variables), ANY arguments (`hu` need not be a `Function` of the source,
the target need not declare the variables), WHETHER THE CALL RETURNS OR RAISES:
* target: `AInv off` (count equation included), no `Function` other than the result `h` was created
  or lost, every `Function` that was alive keeps its meaning by name;
* source: `AInv offS`, the same `Function`s, the same table, the same reference counts;
* when the call returns `r`, the new `Function` `h` sits on `r`. -/
theorem C08_xcopy_total (src dst : AMgr) (hs : AInv offS src) (hd : AInv off dst) (hu h : Nat)
    (hf : dst.handles.contains h = false) :
    XDone offS off src dst [h] (aXCopyRun src dst hu h).2 ∧
    ∀ r, (aXCopyRun src dst hu h).1 = .ok r → (aXCopyRun src dst hu h).2.dst.handles[h]? = some r :=
  aXCopyRun_total src dst hs hd hu h hf

/-- what `XDone` says -/
theorem C08_xcopy_done_unfold (src dst : AMgr) (ids : List Nat) (st : XSt) :
    XDone offS off src dst ids st ↔
    (AInv off st.dst ∧ (∀ j : Nat, j ∉ ids → st.dst.handles[j]? = dst.handles[j]?) ∧
     (∀ (j : Nat) (w : Int), dst.handles[j]? = some w →
        st.dst.m.tbl.Mem w ∧ ∀ σ, denN st.dst.m.tbl w σ = denN dst.m.tbl w σ) ∧
     AInv offS st.src ∧ (∀ j : Nat, st.src.handles[j]? = src.handles[j]?) ∧
     st.src.m.tbl = src.m.tbl ∧ ∀ k : Nat, st.src.m.ref[k]? = src.m.ref[k]?) :=
  ⟨fun h => ⟨h.dinv, h.dsame, h.dden, h.sinv, h.ssame, h.stbl, h.sref⟩,
   fun ⟨a, b, c, d, e, f, g⟩ => ⟨a, b, c, d, e, f, g⟩⟩

/-- C08 / C11 `dd._copy.copy_bdds_from(roots, target)`: one memo for all roots, the partial results
stay alive; roots may repeat (the memo returns the same `Function` object: the result is an alias,
`DD.aliasOf`, and gets no reference of its own), be complemented (`~r`: a new object) or constant.
Any mode, any arguments, every outcome; `ids` = the ids for the results (not in use, pairwise
different). -/
theorem C08_xcopy_from_total (src dst : AMgr) (hs : AInv offS src) (hd : AInv off dst)
    (hus ids : List Nat) (hf : ∀ h ∈ ids, dst.handles.contains h = false) (hnd : ids.Nodup) :
    XDone offS off src dst ids (aXCopyFromRun src dst hus ids).2 :=
  aXCopyFromRun_total src dst hs hd hus ids hf hnd

/-- C08 / C11 / C09 the VALUE of `dd._copy.copy_bdd(u, target)` over `dd.autoref`, the target in
EITHER mode (`Two`: in the mode `off = false` at least two variables — then dynamic reordering may be
enabled and fire inside any `target.var` / `target.ite` of the recursion): `u` a live `Function` of
the source, every variable of its support declared in the target (`CopyPre`, the hypothesis of
C11).  The call RETURNS `r`; the new `Function` `h` sits on `r`; `r` denotes in the target — by
variable NAME — the function of `u` in the source.  (Everything of `C08_xcopy_total` holds as
well.) -/
theorem C08_xcopy_value (src dst : AMgr) (hs : AInv offS src) (hd : AInv off dst) (h2 : Two off dst)
    (hu h : Nat) (hf : dst.handles.contains h = false) (u : Int) (hl : src.handles[hu]? = some u)
    (hpre : CopyPre src.m.tbl u dst.m.tbl) :
    ∃ r, (aXCopyRun src dst hu h).1 = .ok r ∧
      (aXCopyRun src dst hu h).2.dst.handles[h]? = some r ∧
      (∀ σ, denN (aXCopyRun src dst hu h).2.dst.m.tbl r σ = denN src.m.tbl u σ) ∧
      XDone offS off src dst [h] (aXCopyRun src dst hu h).2 := by
  obtain ⟨r, h1, h2', h3⟩ := aXCopyRun_value src dst hs hd h2 hu h hf u hl
    (xdecl_of_copyPre hs.inv.wf.toWF hs.order u hpre)
  exact ⟨r, h1, h2', h3, (aXCopyRun_total src dst hs hd hu h hf).1⟩

/-! ### non-vacuity: from the three-variable state `nvA4` (`fx = a xor b` on the complemented node
−4) into a target with the order `c, b, a` and dynamic reordering ENABLED -/

def nvT1 : AMgr := (aDeclare ["c", "b", "a"] {}).2
def nvT2 : AMgr := (aConfigure (some true) nvT1).2

theorem nvT2_inv : AInv false nvT2 :=
  have i1 : AInv false nvT1 :=
    AKeeps.inv_end (Auto.liftM_keeps session (Auto.declare_keeps session ["c", "b", "a"]) 99)
      AInv.empty.toDyn (by decide)
  AKeeps.inv_end (Auto.aConfigure_keeps session (some true) (fun hf => Bool.noConfusion hf) 99) i1
    (by decide +kernel)

theorem nvT2_facts : Two false nvT2 ∧ nvT2.m.lastLen.isSome = true ∧
    nvT2.handles.contains 0 = false ∧ nvT2.m.tbl.vars.toList = [("a", 2), ("b", 1), ("c", 0)] :=
  ⟨fun _ => by decide +kernel, by decide +kernel, by decide +kernel, by decide +kernel⟩

theorem nvA4_copyPre (u : Int) : CopyPre nvA4.m.tbl u nvT2.m.tbl :=
  copyPre_of_check (by rw [nvA4_facts.2.2.2.1]; decide +kernel) u

/-- the hypotheses of `C08_xcopy_value` are met with reordering enabled in the target -/
example := C08_xcopy_value nvA4 nvT2 nvA4_inv nvT2_inv nvT2_facts.1 2 0 nvT2_facts.2.2.1 (-4)
  nvA4_h2 (nvA4_copyPre (-4))
example := C08_xcopy_total nvA4 nvT2 nvA4_inv nvT2_inv 7 0 nvT2_facts.2.2.1
example := C08_xcopy_from_total nvA4 nvT2 nvA4_inv nvT2_inv [2, 2, 0, 2] [0, 1, 2, 3]
  (by decide +kernel) (by decide)

end DD
