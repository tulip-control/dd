/-
  DDProps.C09 — dynamic reordering is invisible.

  The decorator `_try_to_reorder` is modelled exactly as written (context flag, swallowing the
  signal only at the outermost level, `_last_len := None`, sifting, one retry, the `finally`
  that re-arms with `GROWTH_FACTOR * len`).  The trigger is left abstract: no theorem below
  unfolds `requestReordering`, so each covers the request firing at any `find_or_add` (every
  `_last_len`, and the harness's "fire at the k-th request" override).

  The theorems start from `DynInv ext m` (DDProofs.DynKept: the state between two decorated calls —
  invariant, order maps inverse, counts exact for the ledger `ext` of references the user holds
  (`HeldX ext u`), no context, no recorded schedule, roots held, two variables: with one the real
  `reorder` raises `ValueError`, C07 `sift_single_variable_raises`) and speak of meanings by
  variable name (`denN`).  They are the readings for the default schedule of the theorems for every
  recorded schedule (DDProps.C09Sched).  What sifting does between the two attempts is C07's theorem
  about sifting under any schedule (`siftKeepS`, DDProofs.DynGeneric: `sift_every_outcome`, and
  `applySifting_total_default` for the empty schedule), so the transparency theorems are
  UNCONDITIONAL; `SiftContract ext` (DDProofs.DynSched; `C09_siftContract` below) states it for the
  default schedule.  The same contract asked of every `Inv` state (`SiftSpec`) is false (`not_siftSpec`,
  DDProofs.DynExample: sifting fails on a state whose recorded schedule does not start with a
  sifting order).
-/
import DDProofs.DynExample
import DDProofs.DynApply
import DDProofs.DynExpr
import DDProofs.LexProofs
import DDProofs.DynLoad
import DDProofs.DynImageKeys
import DDProofs.DumpProofs
import DDProofs.DynCopy
import DDProofs.DumpExamples
namespace DD

/-- C09: an attempt aborted by a reordering request has only ADDED nodes — the invariant holds,
every existing node is unchanged, the order and the flags are as before; and a request can only
fire inside an armed context. -/
theorem C09_abort_only_adds (m : Mgr) (hI : Inv m) (g u v : Int)
    (hg : m.tbl.Mem g) (hu : m.tbl.Mem u) (hv : m.tbl.Mem v) (m1 : Mgr)
    (h : iteF (m.nvars + 2) g u v m = (.error .needsReordering, m1)) :
    AbortPost m m1 := by
  have := iteF_spec (m.nvars + 2) m g u v hI hg hu hv (by omega)
  rw [h] at this
  exact this.2

/-- C09: the path of the decorator after an aborted first attempt — requests disabled during
sifting and the retry, re-armed with `GROWTH_FACTOR * len` -/
theorem C09_retry_path {α} (f : M α) (m m1 m3 m4 : Mgr) (a : α) (hctx : m.ctx = false)
    (h1 : f { m with ctx := true } = (.error .needsReordering, m1))
    (h2 : reorder none { m1 with ctx := m.ctx, lastLen := none } = (.ok (), m3))
    (h3 : f { m3 with ctx := true } = (.ok a, m4)) :
    tryToReorder f m =
      (.ok a, { m4 with ctx := m3.ctx, lastLen := some (Gen.growthFactor * m3.len) }) := by
  rw [tryToReorder_outer f m hctx, h1]
  simp only [if_true, h2, h3]

/-- C09 (and C06): through `_ite`, whether it returns or is aborted by a reordering request, the
reference counts stay exact for the same ledger of user-held references (the nodes an aborted
attempt leaves behind are unreferenced), no count decreases and no key of `_ref` disappears —
so everything the user holds is still held when sifting takes over. -/
theorem C09_counts_through_ite (f : Nat) (m : Mgr) (ext : Nat → Nat) (g u v : Int) (hI : Inv m)
    (hr : RefExact m ext) (hg : m.tbl.Mem g) (hu : m.tbl.Mem u) (hv : m.tbl.Mem v)
    (hf : m.nvars + 1 ≤ f + min (m.tbl.levelOf g) (min (m.tbl.levelOf u) (m.tbl.levelOf v))) :
    RefExact (iteF f g u v m).2 ext ∧ RefMono m (iteF f g u v m).2 :=
  iteF_refKeep f m g u v hI hg hu hv hf ext hr

example : Inv exM ∧ RefExact exM exExt ∧ exM.tbl.Mem 4 := ⟨exM_inv, exM_refExact, Or.inr (by decide +kernel)⟩

/-- C09: the decorated `ite` nested in a reordering context (as the recursions call it) is `_ite`:
the flag stays set and every exception, the reordering signal included, is re-raised. -/
theorem C09_nested_ite_is_raw (g u v : Int) (m : Mgr) (h : m.ctx = true) :
    ite g u v m = ((iteRaw g u v m).1, { (iteRaw g u v m).2 with ctx := true }) :=
  tryToReorder_nested _ m h

/-- C09: hence, inside a context or with requests disabled (`Quiet`), the decorated `ite` returns
the if-then-else or is aborted having only added nodes (`Outcome`) — it never reorders. -/
theorem C09_nested_ite (m : Mgr) (hI : Inv m) (hq : Quiet m) (g u v : Int)
    (hg : m.tbl.Mem g) (hu : m.tbl.Mem u) (hv : m.tbl.Mem v) :
    Outcome m (fun r m' => ItePost m g u v r m') (ite g u v m) :=
  ite_nested_spec m hI hq g u v hg hu hv

/-- C09: `_cofactor` in any state satisfying the invariant: documented restriction, or abort by a
reordering request having only added nodes (counts exact and monotone included). -/
theorem C09_cofactorF_abort_aware (values : List (Nat × Bool)) (f : Nat) (m : Mgr) (u : Int)
    (ordvar : List Nat) (cache : Std.HashMap Int Int) (hI : Inv m) (hu : m.tbl.Mem u)
    (hmemo : CofMemo values m.tbl cache)
    (hord : ∀ j, (values.lookup j).isSome = true → m.tbl.levelOf u ≤ j → j ∈ ordvar)
    (hf : m.nvars + 1 ≤ f + m.tbl.levelOf u) :
    Outcome2 m (fun r c m' => CofMemo values m'.tbl c ∧ CofEntry values m'.tbl u r)
      (cofactorF values f u ordvar cache m) :=
  cofactorF_out values f m u ordvar cache hI hu hmemo hord hf

/-- C09: `_quantify` inside a context (or with requests disabled) -/
theorem C09_quantifyF_abort_aware (Q : List Nat) (fa : Bool) (f : Nat) (m : Mgr) (u : Int)
    (ordvar : List Nat) (cache : Std.HashMap Int Int) (hI : Inv m) (hq : Quiet m)
    (hu : m.tbl.Mem u) (hmemo : QMemo fa Q m.tbl cache)
    (hord : ∀ j, j ∈ Q → m.tbl.levelOf u ≤ j → j ∈ ordvar)
    (hf : m.nvars + 1 ≤ f + m.tbl.levelOf u) :
    Outcome2 m (fun r c m' => QMemo fa Q m'.tbl c ∧ QEntry fa Q m'.tbl u r)
      (quantifyF Q fa f u ordvar cache m) :=
  quantifyF_out Q fa f m u ordvar cache hI hq hu hmemo hord hf

/-- C09: `_compose` inside a context (or with requests disabled) -/
theorem C09_composeF_abort_aware (j : Nat) (fu : Nat) (m : Mgr) (f g : Int)
    (cache : Std.HashMap (Int × Int) Int) (hI : Inv m) (hq : Quiet m) (hf : m.tbl.Mem f)
    (hg : m.tbl.Mem g) (hmemo : KMemo j m.tbl cache)
    (hfu : 2 * m.nvars + 1 ≤ fu + m.tbl.levelOf f + m.tbl.levelOf g) :
    Outcome2 m (fun r c m' => KMemo j m'.tbl c ∧ KPost j m'.tbl f g r)
      (composeF j fu f g cache m) :=
  composeF_out j fu m f g cache hI hq hf hg hmemo hfu

/-- C09: `_vector_compose` inside a context (or with requests disabled) -/
theorem C09_vectorComposeF_abort_aware (sub : List (Nat × Int)) (fu : Nat) (m : Mgr) (f : Int)
    (cache : Std.HashMap Nat Int) (hI : Inv m) (hq : Quiet m) (hf : m.tbl.Mem f)
    (hsub : SubMem m.tbl sub) (hmemo : VMemo sub m.tbl cache)
    (hfu : m.nvars + 1 ≤ fu + m.tbl.levelOf f) :
    Outcome2 m (fun r c m' => VMemo sub m'.tbl c ∧ VPost sub m'.tbl f r)
      (vectorComposeF sub fu f cache m) :=
  vectorComposeF_out sub fu m f cache hI hq hf hsub hmemo hfu

/-- C09: `_copy_bdd` (rename, copy between managers) inside a context of the target -/
theorem C09_copyBddF_abort_aware (src : Option Tbl) (lm : List (Nat × Nat)) (S : Tbl) (hS : WF S)
    (fu : Nat) (m : Mgr) (u : Int) (cache : Std.HashMap Nat Int) (hI : Inv m) (hq : Quiet m)
    (hsrc : SrcOK src S m.tbl) (hu : S.Mem u) (hmemo : CMemo lm S m.tbl cache)
    (hlm : ∀ i, InSupp S u i → ∃ j, lm.lookup i = some j ∧ j < m.nvars)
    (hfu : S.nvars + 1 ≤ fu + S.levelOf u) :
    Outcome2 m (fun r c m' => CMemo lm S m'.tbl c ∧ CPost lm S m'.tbl u r)
      (copyBddF src lm fu u cache m) :=
  copyBddF_out src lm S hS fu m u cache hI hq hsrc hu hmemo hlm hfu

example : Inv { exM with ctx := true } ∧ Quiet { exM with ctx := true } :=
  ⟨exM_inv.setCtx true, Or.inl rfl⟩

/-- C09, generic: for any body `f` that in every state satisfying the invariant (inside a context,
`Pre` on its table, operands `ops` present) returns a result documented by `Doc` or is aborted
having only added nodes, with `Pre` / `Doc` stable under a change of order that keeps the
operands' meaning by name: the decorated `f` — reordering enabled or not, the request firing at
whichever `find_or_add` — returns the documented result relative to the operands as they were,
never raises the signal (`.ok`), leaves a state `DynInv` (counts exact for the same ledger, flag
cleared), reordering enabled iff it was, the same declared names, and every user-held reference
with the same meaning by name. -/
theorem C09_decorator_transparent {α} (ext : Nat → Nat) (f : M α) (ops : List Int)
    (Pre : Tbl → Prop) (Doc : Tbl → α → Tbl → Prop)
    (hbody : ∀ m0 : Mgr, Inv m0 → m0.ctx = true → OrderOK m0.tbl → Pre m0.tbl →
      (∀ u ∈ ops, m0.tbl.Mem u) → Outcome m0 (fun r m1 => Doc m0.tbl r m1.tbl) (f m0))
    (hpre : ∀ t t', Bridge ops t t' → Pre t → Pre t')
    (hdoc : ∀ t t' r t'', Bridge ops t t' → Pre t → Doc t' r t'' → Doc t r t'')
    (m : Mgr) (hD : DynInv ext m) (hops : ∀ u ∈ ops, HeldX ext u) (hpre0 : Pre m.tbl) :
    ∃ r m', tryToReorder f m = (.ok r, m') ∧ DynPostG ext Doc m r m' :=
  (tryToReorder_transparentS ext f ops Pre Doc hbody hpre hdoc m hD.toS hops hpre0).default hD.sched

/-- C09 `ite` (with dynamic reordering enabled, at whichever node creation the request fires):
the result denotes — by variable name — the if-then-else of the operands as they were. -/
theorem C09_ite_transparent (ext : Nat → Nat) (m : Mgr)
    (hD : DynInv ext m) (g u v : Int) (hg : HeldX ext g) (hu : HeldX ext u) (hv : HeldX ext v) :
    ∃ r m', ite g u v m = (.ok r, m') ∧ DynPostG ext (IteDoc g u v) m r m' :=
  (ite_transparentS ext m hD.toS g u v hg hu hv).default hD.sched

/-- non-vacuity: a state with reordering enabled and a request due at the next `find_or_add`,
operands held; on it the first attempt IS aborted and the decorated call returns normally -/
example : DynInv exExt exDyn ∧ HeldX exExt 4 ∧ HeldX exExt (-1) ∧ exDyn.lastLen.isSome = true ∧
    (iteRaw 4 4 (-1) { exDyn with ctx := true }).1.toOption = none :=
  ⟨exDyn_dynInv, exExt_held4, Or.inl rfl, rfl, by decide +kernel⟩

/-- C09 `apply(op, u, v)` for every binary propositional alias of the regenerated vocabulary -/
theorem C09_apply_binary_transparent (ext : Nat → Nat) (m : Mgr) (hD : DynInv ext m) (op : String)
    (c : Conn) (hc : docConn op = some c)
    (h2 : c.arity = 2) (hq1 : c ≠ .forall_) (hq2 : c ≠ .exists_)
    (hall : Gen.allOps.contains op = true) (u v : Int) (hu : HeldX ext u) (hv : HeldX ext v) :
    ∃ r m', apply op u (some v) none m = (.ok r, m') ∧ DynPostG ext (ConnDoc c u v) m r m' :=
  (apply_binary_transparentS ext m hD.toS op c hc h2 hq1 hq2 hall u v hu hv).default hD.sched

example : docConn "and" = some .and ∧ Conn.and.arity = 2 ∧ Gen.allOps.contains "and" = true := by
  decide +kernel

/-- C09 `apply('ite', u, v, w)` -/
theorem C09_apply_ite_transparent (ext : Nat → Nat) (m : Mgr) (hD : DynInv ext m) (op : String)
    (hc : docConn op = some .ite)
    (hall : Gen.allOps.contains op = true) (u v w : Int) (hu : HeldX ext u) (hv : HeldX ext v)
    (hw : HeldX ext w) :
    ∃ r m', apply op u (some v) (some w) m = (.ok r, m') ∧ DynPostG ext (Ite3Doc u v w) m r m' :=
  (apply_ite_transparentS ext m hD.toS op hc hall u v w hu hv hw).default hD.sched

/-- C09 `var(name)` -/
theorem C09_var_transparent (ext : Nat → Nat) (m : Mgr)
    (hD : DynInv ext m) (name : String) (hdecl : m.tbl.vars.contains name = true) :
    ∃ r m', var name m = (.ok r, m') ∧ DynPostG ext (VarDoc name) m r m' :=
  (var_transparentS ext m hD.toS name hdecl).default hD.sched

/-- both variables of `exDyn` are declared: the side condition of the examples below -/
theorem exDyn_decl : exDyn.tbl.vars.contains "a" = true ∧ exDyn.tbl.vars.contains "b" = true := by
  decide +kernel

example : exDyn.tbl.vars.contains "a" = true := exDyn_decl.1

/-- C09 `quantify` / `exist` / `forall` over declared variable NAMES: the result is the
quantification, over those names, of the operand as it was -/
theorem C09_quantify_transparent (ext : Nat → Nat) (m : Mgr) (hD : DynInv ext m) (u : Int)
    (hu : HeldX ext u) (fa : Bool) (names : List String)
    (hdecl : ∀ s ∈ names, m.tbl.vars.contains s = true) :
    ∃ r m', quantify u (names.map Key.name) fa m = (.ok r, m') ∧
      DynPostG ext (QuantDoc fa names u) m r m' :=
  (quantify_transparentS ext m hD.toS u hu fa names hdecl).default hD.sched

example : ∀ s ∈ ["a"], exDyn.tbl.vars.contains s = true := List.forall_mem_singleton.mpr exDyn_decl.1

/-- C09 `cofactor` (`let` with Boolean values) -/
theorem C09_cofactor_transparent (ext : Nat → Nat) (m : Mgr) (hD : DynInv ext m) (u : Int)
    (hu : HeldX ext u) (vals : List (String × Bool))
    (hdecl : ∀ p ∈ vals, m.tbl.vars.contains p.1 = true) :
    ∃ r m', cofactor u (boolKeys vals) m = (.ok r, m') ∧ DynPostG ext (CofDoc vals u) m r m' :=
  (cofactor_transparentS ext m hD.toS u hu vals hdecl).default hD.sched

/-- C09 `compose` (`let` with references) -/
theorem C09_compose_transparent (ext : Nat → Nat) (m : Mgr) (hD : DynInv ext m) (f : Int)
    (hf : HeldX ext f) (varSub : List (String × Int))
    (hdecl : ∀ p ∈ varSub, m.tbl.vars.contains p.1 = true)
    (hheld : ∀ p ∈ varSub, HeldX ext p.2) :
    ∃ r m', compose f varSub m = (.ok r, m') ∧ DynPostG ext (ComposeDoc varSub f) m r m' :=
  (compose_transparentS ext m hD.toS f hf varSub hdecl hheld).default hD.sched

example : ∀ p ∈ [("a", (4 : Int))], exDyn.tbl.vars.contains p.1 = true ∧ HeldX exExt p.2 :=
  List.forall_mem_singleton.mpr ⟨exDyn_decl.1, exExt_held4⟩

/-- C09 `rename` (`let` with names) -/
theorem C09_rename_transparent (ext : Nat → Nat) (m : Mgr) (hD : DynInv ext m) (u : Int)
    (hu : HeldX ext u) (dvars : List (String × String))
    (hd : ∀ p ∈ dvars, m.tbl.vars.contains p.2 = true) :
    ∃ r m', rename u dvars m = (.ok r, m') ∧ DynPostG ext (RenameDoc dvars u) m r m' :=
  (rename_transparentS ext m hD.toS u hu dvars hd).default hD.sched

/-- C09 `let` in its three homogeneous forms -/
theorem C09_let_transparent (ext : Nat → Nat) (m : Mgr)
    (hD : DynInv ext m) (u : Int) (hu : HeldX ext u) :
    (∀ (vals : List (String × Bool)), vals ≠ [] →
      (∀ p ∈ vals, m.tbl.vars.contains p.1 = true) →
      ∃ r m', letOp (.bools (boolKeys vals)) u m = (.ok r, m') ∧
        DynPostG ext (CofDoc vals u) m r m') ∧
    (∀ (varSub : List (String × Int)), varSub ≠ [] →
      (∀ p ∈ varSub, m.tbl.vars.contains p.1 = true) → (∀ p ∈ varSub, HeldX ext p.2) →
      ∃ r m', letOp (.refs varSub) u m = (.ok r, m') ∧
        DynPostG ext (ComposeDoc varSub u) m r m') ∧
    (∀ (dvars : List (String × String)), dvars ≠ [] →
      (∀ p ∈ dvars, m.tbl.vars.contains p.2 = true) →
      ∃ r m', letOp (.names dvars) u m = (.ok r, m') ∧
        DynPostG ext (RenameDoc dvars u) m r m') :=
  ⟨fun vals hne hd => (let_bools_transparentS ext m hD.toS u hu vals hne hd).default hD.sched,
   fun varSub hne hd hh =>
     (let_refs_transparentS ext m hD.toS u hu varSub hne hd hh).default hD.sched,
   fun dvars hne hd => (let_names_transparentS ext m hD.toS u hu dvars hne hd).default hD.sched⟩

/-- C09, non-vacuity of the contract: its hypotheses hold of the concrete manager `exM`, hence its
conclusion — sifting returns normally, `DynInv` for the same ledger, same variables, the held
node 4 denotes the same function of the names. -/
theorem C09_siftContract_example :
    DynInv exExt exM ∧ exM.lastLen = none ∧
    ∃ m', reorder none exM = (.ok (), m') ∧ DynInv exExt m' ∧ m'.lastLen = none ∧
      m'.nvars = exM.nvars ∧
      (∀ s, m'.tbl.vars.contains s = exM.tbl.vars.contains s) ∧
      ∀ u : Int, HeldX exExt u → ∀ σ, denN m'.tbl u σ = denN exM.tbl u σ :=
  ⟨exM_dynInv, exM_good.off, (siftContract exExt).run exM exM_dynInv exM_good.off⟩

/-- C09, the retry path is inhabited in the model: on `exDyn` the first attempt of
`ite(4, 3, -1)` is aborted by the request, yet the decorated call returns the reference of
`a ∧ b` with reordering still enabled and the flag cleared. -/
theorem C09_retry_example :
    (iteRaw 4 3 (-1) { exDyn with ctx := true }).1.toOption = none ∧
    (ite 4 3 (-1) exDyn).1.toOption = some 4 ∧ (ite 4 3 (-1) exDyn).2.lastLen = some 6 ∧
      (ite 4 3 (-1) exDyn).2.ctx = false :=
  ⟨exDyn_first_attempt_aborts, exDyn_ite_ok⟩

/-- C09: the contract of sifting holds for every ledger (C07's totality of sifting). -/
theorem C09_siftContract (ext : Nat → Nat) : SiftContract ext := siftContract ext

/-- C09 `cube(dvars)` over declared names (a loop of the decorated `var` and `apply('and')`,
nested in the context of `cube`, where they re-raise the signal): the conjunction of the
literals, by name. -/
theorem C09_cube_transparent (ext : Nat → Nat) (m : Mgr) (hD : DynInv ext m)
    (dvars : List (String × Bool)) (hdecl : ∀ p ∈ dvars, m.tbl.vars.contains p.1 = true) :
    ∃ r m', cube dvars m = (.ok r, m') ∧ DynPostG ext (CubeDoc dvars) m r m' :=
  (cube_transparentS ext m hD.toS dvars hdecl).default hD.sched

example : ∀ p ∈ [("a", true), ("b", false)], exDyn.tbl.vars.contains p.1 = true :=
  List.forall_mem_cons.mpr ⟨exDyn_decl.1, List.forall_mem_singleton.mpr exDyn_decl.2⟩

/-- C09 `copy_bdd(u, from_bdd, to_bdd)` into a target with dynamic reordering enabled (the body
runs inside the target's decorator; run outside it, a reordering of the target in mid-copy gave
`KeyError` or a wrong node: F4b): the copy denotes the same function of the variable
names as `u` in the source `s`, whatever the target does to its order meanwhile. -/
theorem C09_copy_bdd_transparent (ext : Nat → Nat) (s : Tbl) (hS : WF s) (hOs : OrderOK s)
    (m : Mgr) (hD : DynInv ext m) (u : Int) (hu : s.Mem u) (hsup : CopyPre s u m.tbl) :
    ∃ r m', copyBdd s u m = (.ok r, m') ∧ DynPostG ext (CopyDoc s u) m r m' :=
  (copyBdd_transparentS ext s hS hOs m hD.toS u hu hsup).default hD.sched

example : WF exM.tbl ∧ OrderOK exM.tbl ∧ exM.tbl.Mem 4 ∧ CopyPre exM.tbl 4 exDyn.tbl :=
  ⟨exM_inv.wf.toWF, exM_orderOK, Or.inr (by decide +kernel), copyPre_of_check (by decide +kernel) 4⟩

/-- C09 `apply` with a quantifier alias (`\A`, `\E`, `forall`, `exists`): the variables are the
support of the first operand (`names`, all declared), the second operand is quantified. -/
theorem C09_apply_quant_transparent (ext : Nat → Nat) (m : Mgr) (hD : DynInv ext m) (op : String)
    (c : Conn) (hc : docConn op = some c) (hq : c = .forall_ ∨ c = .exists_)
    (hall : Gen.allOps.contains op = true) (u v : Int) (hu : m.tbl.Mem u) (hv : HeldX ext v)
    (names : List String) (hsupp : support m.tbl u = .ok names)
    (hdecl : ∀ s ∈ names, m.tbl.vars.contains s = true) :
    ∃ r m', apply op u (some v) none m = (.ok r, m') ∧
      DynPostG ext (QuantDoc (decide (c = .forall_)) names v) m r m' :=
  (apply_quant_transparentS ext m hD.toS op c hc hq hall u v hu hv names hsupp hdecl).default hD.sched

/-- C09, chaining: two decorated calls in a row (the expression `ite(g, u, v) /\ w`), the first
result `incref`ed in between as the autoref wrapper does; a reordering request may fire in either
call, the ledger of user-held references grows along the way. -/
theorem C09_chained_calls_transparent (ext : Nat → Nat) (m : Mgr) (hD : DynInv ext m)
    (g u v w : Int) (hg : HeldX ext g) (hu : HeldX ext u) (hv : HeldX ext v) (hw : HeldX ext w) :
    ∃ r1 m1, ite g u v m = (.ok r1, m1) ∧ ∃ m1', incref r1 m1 = (.ok (), m1') ∧
      ∃ r2 m2, apply "and" r1 (some w) none m1' = (.ok r2, m2) ∧
        DynInv (extInc ext r1.natAbs) m2 ∧ m2.tbl.Mem r2 ∧
        ∀ σ, denN m2.tbl r2 σ =
          ((if denN m.tbl g σ then denN m.tbl u σ else denN m.tbl v σ) && denN m.tbl w σ) := by
  obtain ⟨r1, m1, he1, hp1⟩ := (ite_transparentS ext m hD.toS g u v hg hu hv).default hD.sched
  obtain ⟨m1', hinc, hD1, htbl, _⟩ := hp1.inv.incref r1 hp1.doc.1
  obtain ⟨r2, m2, he2, hp2⟩ := (apply_binary_transparentS (extInc ext r1.natAbs) m1' hD1.toS
    "and" .and (by decide) (by decide) (by decide) (by decide) (by decide) r1 w
    (HeldX.extInc_self ext r1) (hw.extInc _)).default hD1.sched
  refine ⟨r1, m1, he1, m1', hinc, r2, m2, he2, hp2.inv, hp2.doc.1, fun σ => ?_⟩
  rw [hp2.doc.2 σ, and_eval, htbl, hp1.doc.2 σ, (hp1.held w hw).2 σ]

/-- C09, the bottom-up evaluation of a syntax tree INSIDE a reordering context (what the
translator of `add_expr` does during the reductions): every node of the tree is a public decorated
operation (`var`, `apply`, `quantify`, `rename`) nested in the context, where its decorator runs the
body and re-raises the signal.  For a meaningful tree the evaluation returns the reference of the
documented meaning (`evalFormula`, by variable name), or it is aborted by a reordering request —
at whichever `find_or_add` of whichever operation — having only added nodes. -/
theorem C09_evalAst_abort_aware (t : Ast) (m : Mgr) (hI : Inv m) (hc : m.ctx = true)
    (hO : OrderOK m.tbl) (hM : Meaningful m.tbl t) :
    Outcome m (fun r m' => m'.tbl.Mem r ∧ ∀ σ, denN m'.tbl r σ = evalFormula m.tbl t σ)
      (evalAst t m) :=
  evalAst_out t m hI (Or.inl hc) hO hM

/-- C09 `add_expr`: for a text `s` that the front end reads as the tree `t` (C05), meaningful in
the manager (names declared, no `=`, every `@n` a node) and whose `@n` nodes the user holds:
with dynamic reordering enabled or not, and at whichever `find_or_add` of whichever nested
operation the request fires, `add_expr(s)` returns normally a reference that denotes — by variable
name — the value the independent evaluator `evalFormula` gives to the tree, the `@n` read as the
functions those nodes had at the call (`ExprDoc`); the state is again as between two calls
(`DynInv`: invariant, counts exact for the same ledger, flag cleared), reordering is enabled iff
it was, the declared names are the same, every held reference keeps its meaning by name.  All
constructs of the grammar are covered: names, constants, `@n`, `~`, the binary connectives,
`ite(…)`, `\A` / `\E`, `\S`.

The intermediate results of the evaluation are not referenced (the translator holds plain
integers): that is harmless, because no sifting happens in the middle of an evaluation — an
aborted attempt leaves only unreferenced nodes, sifting collects them, and the retry starts again
from the operands the user holds. -/
theorem C09_addExpr_transparent (ext : Nat → Nat) (m : Mgr) (hD : DynInv ext m) (s : String)
    (t : Ast) (hp : parse (tokenize s) = some t) (hM : Meaningful m.tbl t)
    (hheld : ∀ u ∈ t.atNodes, HeldX ext u) :
    ∃ r m', addExpr s m = (.ok r, m') ∧ DynPostG ext (ExprDoc t) m r m' :=
  (addExpr_transparentS ext m hD.toS s t hp hM hheld).default hD.sched

/-- C09 `add_expr`, "invisible" literally: the call with reordering enabled (any threshold, any
trigger position) and the call on the same manager with reordering switched off both return
normally, and the two results denote the same function of the variable names. -/
theorem C09_addExpr_same_as_disabled (ext : Nat → Nat) (m : Mgr) (hD : DynInv ext m) (s : String)
    (t : Ast) (hp : parse (tokenize s) = some t) (hM : Meaningful m.tbl t)
    (hheld : ∀ u ∈ t.atNodes, HeldX ext u) :
    ∃ r m' r0 m0', addExpr s m = (.ok r, m') ∧
      addExpr s { m with lastLen := none } = (.ok r0, m0') ∧ m'.tbl.Mem r ∧ m0'.tbl.Mem r0 ∧
      ∀ σ, denN m'.tbl r σ = denN m0'.tbl r0 σ := by
  have hD0 : DynInv ext { m with lastLen := none } := (hD.toS.setLastLen none).toDynInv hD.sched
  obtain ⟨r, m', he, hp1⟩ := C09_addExpr_transparent ext m hD s t hp hM hheld
  obtain ⟨r0, m0', he0, hp0⟩ := C09_addExpr_transparent ext _ hD0 s t hp hM hheld
  exact ⟨r, m', r0, m0', he, he0, hp1.doc.1, hp0.doc.1, fun σ => by rw [hp1.doc.2 σ, hp0.doc.2 σ]⟩

/-- C09 `add_expr` from the text of a tree: the canonical text of any lexically well-formed,
meaningful tree — with the parentheses the precedence table requires and any redundant ones
(`ex`) — is given the meaning of the tree, reordering enabled or not (C05's round trip
`parse_tokenize_spell` composed with the theorem above) -/
theorem C09_addExpr_text_transparent (ext : Nat → Nat) (m : Mgr) (hD : DynInv ext m)
    (ex : Ast → Bool) (t : Ast) (hwf : t.WF) (hlex : t.LexWF) (hM : Meaningful m.tbl t)
    (hheld : ∀ u ∈ t.atNodes, HeldX ext u) :
    ∃ r m', addExpr (spell (printG ex t)) m = (.ok r, m') ∧ DynPostG ext (ExprDoc t) m r m' :=
  C09_addExpr_transparent ext m hD _ t (parse_tokenize_spell ex t hwf hlex) hM hheld

/-- the formula of the non-vacuity example: a quantifier, `@n`, `~`, connectives, `ite(…)`, `\S` -/
def exFormula : String := "\\E a: (@4 | ~ b) & ite(a, b, TRUE) & (\\S b / a: a)"

def exFormulaTree : Ast :=
  .quant false ["a"] (.bin .and (.bin .and (.bin .or (.num false "4") (.not (.var "b")))
    (.ite (.var "a") (.var "b") (.bool true))) (.subst [("b", "a")] (.var "a")))

/-- non-vacuity of `C09_addExpr_transparent`: on `exDyn` (reordering enabled, a request due at the
next `find_or_add`) the text reads as the tree, the tree is meaningful, its `@4` is held; the first
evaluation IS aborted by the request (so the call goes through sifting and the retry) -/
example : DynInv exExt exDyn ∧ parse (tokenize exFormula) = some exFormulaTree ∧
    Meaningful exDyn.tbl exFormulaTree ∧ (∀ u ∈ exFormulaTree.atNodes, HeldX exExt u) ∧
    (evalAst exFormulaTree { exDyn with ctx := true }).1.toOption = none := by
  obtain ⟨ha, hb⟩ := exDyn_decl
  have h4 : exDyn.tbl.Mem (if false = true then -(digitsToNat "4" : Int) else (digitsToNat "4" : Int)) :=
    Or.inr (by decide +kernel)
  refine ⟨exDyn_dynInv, by unfold exFormula; rw [tokenize_ofList]; decide +kernel, ?_, ?_,
    by decide +kernel⟩
  · exact ⟨List.forall_mem_singleton.mpr ha,
      ⟨by decide +kernel, ⟨by decide +kernel, ⟨by decide +kernel, h4, hb⟩, ha, hb, trivial⟩,
      List.forall_mem_singleton.mpr hb, ha⟩⟩
  · intro u hu
    have : u = 4 := by
      simp only [exFormulaTree, Ast.atNodes, List.append_nil, List.mem_cons,
        List.not_mem_nil, or_false] at hu
      rw [hu]; decide +kernel
    subst this
    exact exExt_held4

/-- C09: outside a reordering context `find_or_add` does not even call `_request_reordering`
(`if self._reordering_context: _request_reordering(self)`; without the test the internal signal
reached the caller of a top-level `find_or_add`, `load`, `swap`: F4a), whatever `_last_len` is -/
theorem C09_findOrAdd_outside_context (i v w : Int) (m : Mgr) (hc : m.ctx = false) :
    findOrAdd i v w m = if i < 0 then (.error .value, m) else findOrAddCore i.toNat v w m :=
  findOrAdd_quiet m (Or.inl hc) i v w

/-- C09 `load` (pickle) NEVER reorders.  `BDD.load` / `_load_pickle` / `_load` are not decorated,
open no reordering context, and build the nodes with the private `find_or_add` / `_ite`.  Hence
for any value of `_last_len` — dynamic reordering enabled at whatever threshold, or not — the call
(outside a context) returns exactly what it returns with `_last_len = None`, in exactly that
state except that `_last_len` is what it was; the reordering signal is not raised;
`_request_reordering` is not called (the trigger counter `fireIn` is untouched); the flag stays
cleared. -/
theorem C09_load_never_reorders (f : PickleFile) (levels : Bool) (m : Mgr) (hc : m.ctx = false) :
    loadPickle f levels m =
      ((loadPickle f levels { m with lastLen := none }).1,
       { (loadPickle f levels { m with lastLen := none }).2 with lastLen := m.lastLen }) ∧
    (loadPickle f levels m).1 ≠ .error .needsReordering ∧
    (loadPickle f levels m).2.lastLen = m.lastLen ∧
    (loadPickle f levels m).2.fireIn = m.fireIn ∧
    (loadPickle f levels m).2.ctx = false :=
  loadPickle_never_reorders f levels m hc

/-- the same for `dd.autoref.BDD.load` of a pickle (the roots wrapped in `Function`s) -/
theorem C09_load_autoref_never_reorders (f : PickleFile) (levels : Bool) (m : Mgr)
    (hc : m.ctx = false) :
    loadPickleAutoref f levels m =
      ((loadPickleAutoref f levels { m with lastLen := none }).1,
       { (loadPickleAutoref f levels { m with lastLen := none }).2 with lastLen := m.lastLen }) ∧
    (loadPickleAutoref f levels m).1 ≠ .error .needsReordering :=
  (loadPickleAutoref_blind f levels).never_reorders hc

/-- C09 / C12: the theorem of C12 for `BDD.load` (`C12_pickle_load`: any well-formed content, any
`levels`, any order of the receiving manager, constant or absent roots) holds verbatim with
dynamic reordering enabled — there is no hypothesis on `_last_len` — and the threshold and the
trigger counter are what they were. -/
theorem C09_load_spec_enabled (f : PickleFile) (levels : Bool)
    (m : Mgr) (hI : Inv m) (hb : DmpVarsBij m.tbl) (hc : m.ctx = false)
    (hwf : PickleWF f) (hr : RootsResolvable f)
    (lm : List (Nat × Nat)) (m1 : Mgr)
    (hv : loadVars levels f.vars.length f.vars [] m = (.ok lm, m1))
    (hg : Contig m1.tbl) (hperm : levels = true → levelsPermutation f.vars = true) :
    ∃ roots' m', loadPickle f levels m = (.ok roots', m') ∧ Inv m' ∧ DmpVarsBij m'.tbl ∧
      Contig m'.tbl ∧ m'.ctx = false ∧ (∀ u n, m.tbl.node? u = some n → m'.tbl.node? u = some n) ∧
      LoadedFrom f m'.tbl roots' ∧ m'.lastLen = m.lastLen ∧ m'.fireIn = m.fireIn := by
  obtain ⟨roots', m', he, h1, h2, h3, h4, h5, h6⟩ := pickle_load f levels m hI hb hc hwf hr lm m1 hv hg hperm
  have hn := loadPickle_never_reorders f levels m hc
  rw [he] at hn
  exact ⟨roots', m', he, h1, h2, h3, h4, h5, h6, hn.2.2.1, hn.2.2.2.1⟩

/-- non-vacuity: the target `mgrAB` of C12's example with reordering enabled and a request due at
the very next eligible `find_or_add` (`fireIn = 1`): every hypothesis of `C09_load_spec_enabled`
holds, and the model computes the ordered diagram of `a ∧ b` with the threshold and the trigger
counter untouched -/
example : PickleWF fileBA ∧ Inv { mgrAB with lastLen := some 1, fireIn := some 1 } ∧
    DmpVarsBij ({ mgrAB with lastLen := some 1, fireIn := some 1 } : Mgr).tbl ∧
    ({ mgrAB with lastLen := some 1, fireIn := some 1 } : Mgr).ctx = false ∧
    (loadPickle fileBA false { mgrAB with lastLen := some 1, fireIn := some 1 }).1 = .ok (.list [4]) ∧
    (loadPickle fileBA false { mgrAB with lastLen := some 1, fireIn := some 1 }).2.lastLen = some 1 ∧
    (loadPickle fileBA false { mgrAB with lastLen := some 1, fireIn := some 1 }).2.fireIn = some 1 := by
  have hI := mgrAB_nodeFree.inv
  exact ⟨fileBA_wf, hI.congr rfl rfl rfl rfl rfl, mgrAB_bij,
    rfl, by decide +kernel⟩

/-! ## `image` / `preimage`

Run outside a reordering context, a request served in a nested `ite` reordered in mid-recursion
(F4c).  The module-level functions turn `qvars` and `rename` into variable names (`_image_args_by_name`)
and run the bodies `_image_of` / `_preimage_of` under `_try_to_reorder`: a request raised by a
nested `ite` / `find_or_add` propagates to that outermost decorator, sifting runs, and the body is
retried with the names mapped to the new levels.  Both theorems are instances of
`C09_decorator_transparent`. -/

/-- C09: `_image` (the recursion behind `image` and `preimage`) inside a context (or with requests
disabled): it returns a reference or is aborted by a request having only added nodes — whatever
the level maps do to the order (`ImgOKs`: no monotonicity asked); the reference denotes
`rename_U (Q qvars. u ∧ rename_V v)` under any condition `C` that makes `vmap` increasing on the
support of `v` (`C = True` for `image`) -/
theorem C09_imageF_abort_aware (umap vmap : Option (List (Int × Int))) (ubad vbad : List Int)
    (Q : List Nat) (fa : Bool) (rU rV : Nat → Nat) (S : Nat → Prop) (C : Prop)
    (f : Nat) (m : Mgr) (u v : Int) (cache : Std.HashMap (Int × Int) Int)
    (hP : ImgOKs umap vmap ubad vbad Q rU rV S m.nvars) (hmono : C → MonoOn rV S)
    (hI : Inv m) (hq : Quiet m) (hu : m.tbl.Mem u) (hv : m.tbl.Mem v)
    (hS : ∀ j, InSupp m.tbl v j → S j) (hmemo : IMemoC C fa Q rU rV m.tbl cache)
    (hf : 2 * m.nvars + 1 ≤ f + m.tbl.levelOf u + m.tbl.levelOf v) :
    Outcome2 m (fun r c m' => IMemoC C fa Q rU rV m'.tbl c ∧ IPostC C fa Q rU rV m'.tbl u v r)
      (imageF umap vmap ubad vbad Q fa f u v cache m) :=
  imageF_out umap vmap ubad vbad Q fa rU rV S m.nvars C hP hmono f m u v cache hI hq rfl hu hv hS
    hmemo hf

/-- non-vacuity (`C09_imageF_abort_aware`): `image`'s use on `exDyn` inside a context -/
example : ImgOKs (some [(1, 0)]) none [] [] [0] (renOf [(1, 0)]) id (fun j => j < 2)
      ({ exDyn with ctx := true } : Mgr).nvars ∧ Quiet { exDyn with ctx := true } ∧
    (True → MonoOn id (fun j => j < 2)) := by
  have hn : ({ exDyn with ctx := true } : Mgr).nvars = 2 := by decide +kernel
  refine ⟨⟨?_, fun j hj => ⟨rfl, by rw [hn]; exact hj⟩, rfl, fun _ _ _ => rfl, fun _ _ => rfl⟩,
    Or.inl rfl, fun _ _ _ _ _ h => h⟩
  intro z hz hq
  rw [hn] at hz ⊢
  have : z = 1 := by
    match z, hz with
    | 0, _ => simp at hq
    | 1, _ => rfl
  subst this
  decide +kernel

/-- C09: the branch of `_preimage_of` for partners that are not neighbours (rename with
`_copy_bdd`, conjoin with `ite`, quantify — three calls nested in the decorator's context): the
documented result `Q q. trans ∧ target[rename]`, or abort having only added nodes; any order -/
theorem C09_preimageFallback_abort_aware (m : Mgr) (hI : Inv m) (hc : m.ctx = true)
    (trans target : Int) (hu : m.tbl.Mem trans) (hv : m.tbl.Mem target) (fa : Bool)
    (rn : List (Key × Key)) (q : List Nat) (hb : badKeys rn = [])
    (hlv : ∀ p, p ∈ intPairs rn →
      0 ≤ p.1 ∧ p.1 < (m.nvars : Int) ∧ 0 ≤ p.2 ∧ p.2 < (m.nvars : Int))
    (hql : ∀ i, i ∈ q → m.tbl.l2v.contains i = true) :
    Outcome m (fun r m' => PreFallbackPost fa q (intPairs rn) trans target m.tbl r m'.tbl)
      (preimageFallback trans target rn q fa m) :=
  preimageFallback_out m hI (Or.inl hc) trans target hu hv fa rn q hb hlv hql

/-- non-vacuity (`C09_preimageFallback_abort_aware`) on `exDyn` inside a context -/
example : Inv { exDyn with ctx := true } ∧ ({ exDyn with ctx := true } : Mgr).ctx = true ∧
    badKeys [(Key.lvl 0, Key.lvl 1)] = [] ∧
    ∀ i, i ∈ [1] → ({ exDyn with ctx := true } : Mgr).tbl.l2v.contains i = true := by
  exact ⟨exDyn_dynInv.inv.setCtx true, rfl, by decide +kernel,
    List.forall_mem_singleton.mpr (by decide +kernel)⟩

/-- C09 `image(trans, source, rename, qvars, bdd, forall)`, renaming and quantified variables given
by declared names, operands held by the user, under the code's own preconditions stated by name
(`ImagePre`: pairwise distinct keys, no key is a value, every target quantified or outside the
supports of both operands): whether or not a reordering request is served — at whichever
`find_or_add` — the call returns normally; the result is the C13 image
`rename(Q qvars. trans ∧ source)` of the operands as they were, by name (`ImageDoc`); `DynInv`
again (invariant, order maps, counts exact for the same ledger, flag cleared); reordering stays
enabled; every held reference keeps its meaning by name.  No condition on the variable order
(C13: `image` is correct for any order), so none on what sifting does. -/
theorem C09_image_transparent (ext : Nat → Nat) (m : Mgr) (hD : DynInv ext m)
    (trans source : Int) (ht : HeldX ext trans) (hs : HeldX ext source) (fa : Bool)
    (l : List (String × String)) (qs : List String) (hpre : ImagePre trans source l qs m.tbl) :
    ∃ r m', image trans source (l.map fun p => (Key.name p.1, Key.name p.2)) (qs.map Key.name)
        fa m = (.ok r, m') ∧ DynPostG ext (ImageDoc fa qs l trans source) m r m' :=
  (image_transparentS ext m hD.toS trans source ht hs fa l qs hpre).default hD.sched

/-- the preconditions by name on `exDyn` (order `a < b`), for `image(·, TRUE, {b: a}, {a})` … -/
theorem exDyn_imagePre : ImagePre 4 1 [("b", "a")] ["a"] exDyn.tbl :=
  ⟨by decide, List.forall_mem_singleton.mpr ⟨exDyn_decl.2, exDyn_decl.1⟩,
    List.forall_mem_singleton.mpr exDyn_decl.1,
    fun p p' hp hp' => (by decide : ∀ p ∈ [("b", "a")], ∀ p' ∈ [("b", "a")], p.2 ≠ p'.1) p hp p' hp',
    fun p hp => Or.inl ((by decide : ∀ p ∈ [("b", "a")], p.2 ∈ ["a"]) p hp)⟩

/-- … and for `preimage(·, TRUE, {a: b}, {b})` -/
theorem exDyn_preimagePreN : PreimagePreN 1 [("a", "b")] ["b"] exDyn.tbl :=
  ⟨by decide, List.forall_mem_singleton.mpr exDyn_decl, List.forall_mem_singleton.mpr exDyn_decl.2,
    fun p p' hp hp' => (by decide : ∀ p ∈ [("a", "b")], ∀ p' ∈ [("a", "b")], p.2 ≠ p'.1) p hp p' hp',
    fun p p' hp hp' _ => (by decide : ∀ p ∈ [("a", "b")], ∀ p' ∈ [("a", "b")], p.1 = p'.1) p hp p' hp',
    fun p _ => not_dependsOnN_one _ _⟩

theorem exDyn_preimagePreL : PreimagePreL [("a", "b")] ["b"] exDyn.tbl := exDyn_preimagePreN.toL

/-- non-vacuity (`C09_image_transparent`): on `exDyn` (order `a < b`, node 4 = `a ∧ b` held,
reordering enabled, a request due at the next `find_or_add`): `image(a ∧ b, TRUE, {b: a}, {a})` -/
example : ImagePre 4 1 [("b", "a")] ["a"] exDyn.tbl ∧ HeldX exExt 4 ∧ HeldX exExt 1 ∧
    ∃ r m', image 4 1 [(.name "b", .name "a")] [.name "a"] false exDyn = (.ok r, m') ∧
      m'.lastLen.isSome = true := by
  refine ⟨exDyn_imagePre, exExt_held4, Or.inl rfl, ?_⟩
  obtain ⟨r, m', he, hp⟩ := C09_image_transparent exExt exDyn exDyn_dynInv 4 1 exExt_held4
    (Or.inl rfl) false [("b", "a")] ["a"] exDyn_imagePre
  exact ⟨r, m', he, by rw [hp.enabled]; rfl⟩

/-- C09 `preimage(trans, target, rename, qvars, bdd, forall)`, arguments by declared NAMES,
operands held, under the preconditions of `C13_preimage_any_order` by name (`PreimagePreN`:
pairwise distinct keys, no key is a value, no two keys with the same value, the target
independent of every value — nothing about the variable order): whether or not a request is
served, the call returns normally with the frame of every decorated operation (`DynInv`, counts,
reordering enabled, held references) and the result denotes `Q qvars. trans ∧ rename(target)` of
the operands as they were (`PreimageDoc`).  Sifting moves single variables and may separate a
variable from its partner (finding F4d): the retried body then renames, conjoins and quantifies
instead of running the recursion `_image`. -/
theorem C09_preimage_transparent (ext : Nat → Nat) (m : Mgr) (hD : DynInv ext m)
    (trans target : Int) (ht : HeldX ext trans) (hs : HeldX ext target) (fa : Bool)
    (l : List (String × String)) (qs : List String) (hpre : PreimagePreN target l qs m.tbl) :
    ∃ r m', preimage trans target (l.map fun p => (Key.name p.1, Key.name p.2)) (qs.map Key.name)
        fa m = (.ok r, m') ∧ DynPostG ext (PreimageDoc fa qs l trans target) m r m' :=
  (preimage_transparentS ext m hD.toS trans target ht hs fa l qs hpre).default hD.sched

/-- non-vacuity (`C09_preimage_transparent`): on `exDyn`, `preimage(a ∧ b, TRUE, {a: b}, {b})` -/
example : PreimagePreN 1 [("a", "b")] ["b"] exDyn.tbl ∧ HeldX exExt 4 ∧ HeldX exExt 1 ∧
    ∃ r m', preimage 4 1 [(.name "a", .name "b")] [.name "b"] false exDyn = (.ok r, m') ∧
      m'.lastLen.isSome = true ∧ m'.tbl.Mem r := by
  refine ⟨exDyn_preimagePreN, exExt_held4, Or.inl rfl, ?_⟩
  obtain ⟨r, m', he, hp⟩ := C09_preimage_transparent exExt exDyn exDyn_dynInv 4 1 exExt_held4
    (Or.inl rfl) false [("a", "b")] ["b"] exDyn_preimagePreN
  exact ⟨r, m', he, by rw [hp.enabled]; rfl, hp.doc.1⟩

/-- C09 `image` with the arguments of `C13_image`: renaming and `qvars` given by any keys (names
or levels) that resolve, at the time of the call, to declared levels; the code's own checks pass
(no key is a value; every target quantified or outside the supports).  The wrapper turns the keys
into the names at these levels before anything can reorder, so the result is the documented image
stated with the names the levels had when the call was made (`namePairs`, `nameOf`). -/
theorem C09_image_keys_transparent (ext : Nat → Nat) (m : Mgr) (hD : DynInv ext m)
    (trans source : Int) (ht : HeldX ext trans) (hs : HeldX ext source)
    (fa : Bool) (rn : List (Key × Key)) (qvars : List Key) (q : List Nat)
    (hq : mapToLevelE m.tbl qvars = .ok q)
    (hov : renameOverlap (resolveRename m.tbl rn) = false)
    (hnl : renameNonLevel (resolveRename m.tbl rn) = false)
    (hlv : ∀ p, p ∈ intPairs (resolveRename m.tbl rn) →
      0 ≤ p.1 ∧ p.1 < (m.nvars : Int) ∧ 0 ≤ p.2 ∧ p.2 < (m.nvars : Int))
    (htg : ∀ p, p ∈ intPairs (resolveRename m.tbl rn) → ∀ l : Nat, p.2 = (l : Int) →
      l ∈ q ∨ (¬ dependsOn m.tbl trans l ∧ ¬ dependsOn m.tbl source l)) :
    ∃ r m', image trans source rn qvars fa m = (.ok r, m') ∧
      DynPostG ext (ImageDoc fa (q.map m.tbl.nameOf)
        (namePairs m.tbl (intPairs (resolveRename m.tbl rn))) trans source) m r m' :=
  (image_keys_transparentS ext m hD.toS trans source ht hs fa rn qvars q hq hov hnl hlv
    htg).default hD.sched

/-- C09 `preimage` with the arguments of `C13_preimage_any_order` (any keys resolving to declared
levels; no key is a value; no two keys with the same value; the target independent of every
value; no adjacency asked, neither of the order of the call nor of the order the manager is left
in): the documented preimage, stated with the names the levels had when the call was made.  The two
conditions of C13 on the values (`hinj`, `hind`) are not used:
`C09_preimage_keys_literal_transparent` is this statement without them. -/
theorem C09_preimage_keys_transparent (ext : Nat → Nat) (m : Mgr) (hD : DynInv ext m)
    (trans target : Int) (ht : HeldX ext trans) (hs : HeldX ext target)
    (fa : Bool) (rn : List (Key × Key)) (qvars : List Key) (q : List Nat)
    (hq : mapToLevelE m.tbl qvars = .ok q)
    (hov : renameOverlap (resolveRename m.tbl rn) = false)
    (hnl : renameNonLevel (resolveRename m.tbl rn) = false)
    (hlv : ∀ p, p ∈ intPairs (resolveRename m.tbl rn) →
      0 ≤ p.1 ∧ p.1 < (m.nvars : Int) ∧ 0 ≤ p.2 ∧ p.2 < (m.nvars : Int))
    (hinj : ∀ p p', p ∈ intPairs (resolveRename m.tbl rn) →
      p' ∈ intPairs (resolveRename m.tbl rn) → p.2 = p'.2 → p.1 = p'.1)
    (hind : ∀ p, p ∈ intPairs (resolveRename m.tbl rn) → ∀ l : Nat, p.2 = (l : Int) →
      ¬ dependsOn m.tbl target l) :
    ∃ r m', preimage trans target rn qvars fa m = (.ok r, m') ∧
      DynPostG ext (PreimageDoc fa (q.map m.tbl.nameOf)
        (namePairs m.tbl (intPairs (resolveRename m.tbl rn))) trans target) m r m' :=
  (preimage_keys_literal_transparentS ext m hD.toS trans target ht hs fa rn qvars q hq hov hnl
    hlv).default hD.sched

/-- C09 `preimage` under its LITERAL preconditions (the inputs of F5 / F5b included), arguments
by declared names: pairwise distinct keys, no key is a value — any order, any renaming (two keys
may share a value), any target (it may depend on the values): the documented preimage
`Q qvars. trans ∧ rename(target)` of the operands as they were, whether or not a reordering
request is served. -/
theorem C09_preimage_literal_transparent (ext : Nat → Nat) (m : Mgr) (hD : DynInv ext m)
    (trans target : Int) (ht : HeldX ext trans) (hs : HeldX ext target) (fa : Bool)
    (l : List (String × String)) (qs : List String) (hpre : PreimagePreL l qs m.tbl) :
    ∃ r m', preimage trans target (l.map fun p => (Key.name p.1, Key.name p.2)) (qs.map Key.name)
        fa m = (.ok r, m') ∧ DynPostG ext (PreimageDoc fa qs l trans target) m r m' :=
  (preimage_literal_transparentS ext m hD.toS trans target ht hs fa l qs hpre).default hD.sched

/-- the same with keys as names or levels resolving to declared levels at the time of the call -/
theorem C09_preimage_keys_literal_transparent (ext : Nat → Nat) (m : Mgr) (hD : DynInv ext m)
    (trans target : Int) (ht : HeldX ext trans) (hs : HeldX ext target)
    (fa : Bool) (rn : List (Key × Key)) (qvars : List Key) (q : List Nat)
    (hq : mapToLevelE m.tbl qvars = .ok q)
    (hov : renameOverlap (resolveRename m.tbl rn) = false)
    (hnl : renameNonLevel (resolveRename m.tbl rn) = false)
    (hlv : ∀ p, p ∈ intPairs (resolveRename m.tbl rn) →
      0 ≤ p.1 ∧ p.1 < (m.nvars : Int) ∧ 0 ≤ p.2 ∧ p.2 < (m.nvars : Int)) :
    ∃ r m', preimage trans target rn qvars fa m = (.ok r, m') ∧
      DynPostG ext (PreimageDoc fa (q.map m.tbl.nameOf)
        (namePairs m.tbl (intPairs (resolveRename m.tbl rn))) trans target) m r m' :=
  (preimage_keys_literal_transparentS ext m hD.toS trans target ht hs fa rn qvars q hq hov hnl
    hlv).default hD.sched

/-- non-vacuity (`C09_preimage_literal_transparent`): on `exDyn` the target `a ∧ b` DEPENDS on the
value `b` of the renaming `{a: b}` (the F5 shape): `preimage(a ∧ b, a ∧ b, {a: b}, {b})` -/
example : PreimagePreL [("a", "b")] ["b"] exDyn.tbl ∧
    ∃ r m', preimage 4 4 [(.name "a", .name "b")] [.name "b"] false exDyn = (.ok r, m') ∧
      m'.lastLen.isSome = true ∧ m'.tbl.Mem r := by
  have hpre := exDyn_preimagePreL
  refine ⟨hpre, ?_⟩
  obtain ⟨r, m', he, hp⟩ := C09_preimage_literal_transparent exExt exDyn exDyn_dynInv 4 4
    exExt_held4 exExt_held4 false [("a", "b")] ["b"] hpre
  exact ⟨r, m', he, by rw [hp.enabled]; rfl, hp.doc.1⟩

/-- non-vacuity (`C09_image_keys_transparent`, `C09_preimage_keys_transparent`, keys as LEVELS):
on `exDyn` (`a` at level 0, `b` at level 1): `image(a ∧ b, TRUE, {1: 0}, {0})` and
`preimage(a ∧ b, TRUE, {0: 1}, {1})` -/
example : (∃ r m', image 4 1 [(.lvl 1, .lvl 0)] [.lvl 0] false exDyn = (.ok r, m') ∧
      DynPostG exExt (ImageDoc false ["a"] [("b", "a")] 4 1) exDyn r m') ∧
    (∃ r m', preimage 4 1 [(.lvl 0, .lvl 1)] [.lvl 1] false exDyn = (.ok r, m') ∧
      DynPostG exExt (PreimageDoc false ["b"] [("a", "b")] 4 1) exDyn r m') := by
  obtain ⟨hn, h0, h1⟩ : exDyn.nvars = 2 ∧ exDyn.tbl.nameOf 0 = "a" ∧ exDyn.tbl.nameOf 1 = "b" := by
    decide +kernel
  constructor
  · obtain ⟨hres, hip⟩ := intPairs_resolveRename_levels exDyn.tbl [(1, 0)] (by simp)
    simp only [List.map] at hres hip
    have := C09_image_keys_transparent exExt exDyn exDyn_dynInv 4 1 exExt_held4 (Or.inl rfl) false
      [(.lvl 1, .lvl 0)] [.lvl 0] [0] (by rfl) (by rw [hres]; decide +kernel) (by rw [hres]; decide +kernel)
      (by rw [hres, hip, hn]; decide)
      (by
        rw [hres, hip]
        exact List.forall_mem_singleton.mpr fun l (hl : (0 : Int) = l) =>
          Or.inl (List.mem_singleton.mpr (by omega)))
    rw [hres, hip] at this
    simpa [namePairs, h0, h1] using this
  · obtain ⟨hres, hip⟩ := intPairs_resolveRename_levels exDyn.tbl [(0, 1)] (by simp)
    simp only [List.map] at hres hip
    have := C09_preimage_keys_transparent exExt exDyn exDyn_dynInv 4 1 exExt_held4 (Or.inl rfl)
      false [(.lvl 0, .lvl 1)] [.lvl 1] [1] (by rfl) (by rw [hres]; decide +kernel)
      (by rw [hres]; decide +kernel)
      (by rw [hres, hip, hn]; decide)
      (by rw [hres, hip]; exact inj_of_one_pair _)
      (by rw [hres, hip]; exact fun p _ l _ => dependsOn_term rfl l)
    rw [hres, hip] at this
    simpa [namePairs, h0, h1] using this

/-! ## what is not covered

The decorated entry points of the model are all above.  Elsewhere: `load_json` with reordering
enabled (`C12_json_load_dyn`, DDProps.C12Dyn), `autoref.BDD.find_or_add` (outside a context it
never requests a reordering: `C08_find_or_add`).  Not covered by a theorem: DDDMP `load` (C16); it
is decided by correspondence at every trigger position. -/

end DD
