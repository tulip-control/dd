/-
  DDProps.C09Accept — ACCEPTANCE of recorded schedules by the DECORATED calls (C09, C17).

  `C09_*_anySchedule`, `C17_*_dyn_anySchedule`, `*_every_outcome` hold for every recorded schedule,
  with `.sched` (MODEL-SCHEDULE-MISMATCH) allowed for every non-empty one.  Here: for every VALID
  CHOICE of the iteration orders of the sifting between the two attempts (`Choice.Valid`,
  DDProps.C07Accept) there is a schedule — empty if no reordering is requested, else the record of
  the orders picked — with which the scheduled model of the decorated call does exactly what the
  choice-driven call (`tryToReorderC`, DD.DynChoice) does, which it consumes exactly, and with
  which it does NOT answer `.sched`: it returns the documented result (C09), or raises an
  exception of the code with everything kept (C17).

  The body has to be natural in the recorded schedule inside a reordering context (`SNc`: it
  neither reads nor writes `Mgr.sched`) and not answer `.sched` itself (`NSc`); proved for the
  bodies of `var`, `ite`, `cofactor`, `quantify`, `compose`, `rename`, hence for `apply`, `~`,
  `let`: every decorated operation of the histories (`UOp`).
-/
import DDProps.C07Accept
open Std

namespace DD

/-- C09 / C17 (acceptance, generic): `_try_to_reorder` around a body `f` that is natural in the
schedule (`SNc`), does not answer `.sched` (`NSc`) and keeps the invariant whatever its arguments
(`TotE`, the hypothesis of `C17_total_dyn_anySchedule`).  Between two decorated calls (`DynInvS`,
two variables), for every valid choice `c` there is a schedule `sch` such that

* if the choice-driven call returned, `sch` is the record of the orders `c` picked;
* with `sch ++ rest` recorded, the decorated call ends with the result and in the state of the
  choice-driven call, `rest` left: the schedule is consumed exactly;
* in particular it does not end in `MODEL-SCHEDULE-MISMATCH`. -/
theorem C09_decorator_accepts_every_choice {α} (ext : Nat → Nat) (c : Choice) (hc : c.Valid)
    (f : M α) (hf : SNc f) (hns : NSc f)
    (hbody : ∀ m0 : Mgr, Inv m0 → m0.ctx = true → OrderOK m0.tbl → TotE m0 (f m0))
    (m : Mgr) (hD : DynInvS ext m) :
    ∃ sch, (∀ r log', (tryToReorderC c f [] m).1 = .ok (r, log') → log' = sch) ∧
      (∀ rest, tryToReorder f { m with sched := sch ++ rest } =
        (dropLog (tryToReorderC c f [] m).1, { (tryToReorderC c f [] m).2 with sched := rest })) ∧
      ∀ rest, (tryToReorder f { m with sched := sch ++ rest }).1 ≠ .error .sched :=
  tryToReorder_accepts ext c hc f hf hns hbody m hD

/-- the bodies of the decorated operations satisfy the two hypotheses on the body -/
theorem C09_bodies_natural :
    (∀ name, SNc (varBody name) ∧ NSc (varBody name)) ∧
    (∀ g u v, SNc (iteRaw g u v) ∧ NSc (iteRaw g u v)) ∧
    (∀ u values, SNc (cofactorBody u values) ∧ NSc (cofactorBody u values)) ∧
    (∀ u qvars fa, SNc (quantifyBody u qvars fa) ∧ NSc (quantifyBody u qvars fa)) ∧
    (∀ f varSub, SNc (composeBody f varSub) ∧ NSc (composeBody f varSub)) ∧
    (∀ u dvars, SNc (renameBody u dvars) ∧ NSc (renameBody u dvars)) :=
  ⟨fun n => ⟨(varBody_nat n).snc, (varBody_nat n).nsc⟩,
   fun g u v => ⟨(iteRaw_nat g u v).snc, (iteRaw_nat g u v).nsc⟩,
   fun u vs => ⟨(cofactorBody_nat u vs).snc, (cofactorBody_nat u vs).nsc⟩,
   fun u q fa => ⟨(quantifyBody_snk u q fa).snc, (quantifyBody_snk u q fa).nsc⟩,
   fun f vs => ⟨(composeBody_snk f vs).snc, (composeBody_snk f vs).nsc⟩,
   fun u d => ⟨(renameBody_snk u d).snc, (renameBody_snk u d).nsc⟩⟩

/-- C09 / C17 (acceptance, every decorated operation of the histories, ANY arguments): `var`,
`ite`, `apply` with any operator string, `~`, `cofactor`, `quantify`, `compose`, `rename`, `let`.
`runOpC c b` is the choice-driven call; for every valid choice there is a schedule with which
`runOp b` does what `runOpC c b` does, consumes it exactly, and does not answer `.sched`. -/
theorem C09_decorated_accepts_every_choice (ext : Nat → Nat) (c : Choice) (hc : c.Valid) (m : Mgr)
    (hD : DynInvS ext m) (b : UOp) (hdec : b.decorated = true) :
    ∃ sch, (logOf (runOpC c b m).1 = none ∨ logOf (runOpC c b m).1 = some sch) ∧
      (∀ rest, (runOp b { m with sched := sch ++ rest }).2 = { (runOpC c b m).2 with sched := rest }) ∧
      (∀ rest, (runOp b { m with sched := sch ++ rest }).1 =
        (match (runOpC c b m).1 with | .ok (r, _) => .ok r | .error e => .error e)) ∧
      ∀ rest, isSchedErr (runOp b { m with sched := sch ++ rest }).1 = false := by
  obtain ⟨α, FC, F, f, e1, e2, sch, hrec, heq, hns⟩ := decorated_accepts ext c hc m hD b hdec
  refine ⟨sch, ?_, fun rest => ?_, fun rest => ?_, fun rest => ?_⟩
  · rw [e2, logOf_mapResC]
    generalize (FC m).1 = a at hrec
    cases a with
    | error e => exact Or.inl rfl
    | ok p =>
      obtain ⟨r, log'⟩ := p
      exact Or.inr (by rw [hrec r log' rfl]; rfl)
  · rw [e1, e2]
    exact congrArg Prod.snd (heq rest)
  · have := heq rest
    rw [e1, e2]
    show (mapRes f (F (setS (sch ++ rest) m))).1 = _
    rw [this]
    generalize (FC m) = a
    obtain ⟨ra, ma⟩ := a
    cases ra with
    | error e => rfl
    | ok p => rfl
  · rw [e1, mapRes_isSchedErr]
    exact isSchedErr_of_ne (hns rest)

/-- C09 (acceptance + transparency): `ite` of held references under a schedule that realises a
valid choice RETURNS the documented result (`DynPostS`: if-then-else of the operands by name,
every held reference kept) — `.sched` is not among the outcomes -/
theorem C09_ite_choice_documented (ext : Nat → Nat) (c : Choice) (hc : c.Valid) (m : Mgr)
    (hD : DynInvS ext m) (g u v : Int) (hg : HeldX ext g) (hu : HeldX ext u) (hv : HeldX ext v) :
    ∃ sch, ∀ rest, ∃ r m', ite g u v { m with sched := sch ++ rest } = (.ok r, m') ∧
      DynPostS ext (IteDoc g u v) { m with sched := sch ++ rest } r m' ∧ m'.sched = rest := by
  obtain ⟨sch, _, heq, hns⟩ := acceptsC_of_snk hc (iteRaw_nat g u v) m
  refine ⟨sch, fun rest => ?_⟩
  have hO := C09_ite_transparent_anySchedule ext { m with sched := sch ++ rest }
    (hD.setSched _) g u v hg hu hv
  rcases hO.cases with ⟨r, m', hrun, hp⟩ | ⟨m', hrun, _⟩
  · exact ⟨r, m', hrun, hp, congrArg (fun x => x.2.sched) (hrun.symm.trans (heq rest))⟩
  · exact (hns rest (congrArg Prod.fst hrun)).elim

/-- C17 (acceptance + totality): every decorated operation with ANY arguments, under a schedule
that realises a valid choice: the result is not the internal signal and not `.sched`, and
everything the caller holds is kept (`DynKeptS`) -/
theorem C17_decorated_choice_total (ext : Nat → Nat) (c : Choice) (hc : c.Valid) (m : Mgr)
    (hD : DynInvS ext m) (b : UOp) (hdec : b.decorated = true) :
    ∃ sch, ∀ rest, ∃ (α : Type) (x : Except Err α × Mgr) (f : α → Res),
      runOp b { m with sched := sch ++ rest } = mapRes f x ∧
      x.1 ≠ .error .needsReordering ∧ x.1 ≠ .error .sched ∧
      DynKeptS ext { m with sched := sch ++ rest } x.2 := by
  obtain ⟨sch, _, _, _, hns⟩ := C09_decorated_accepts_every_choice ext c hc m hD b hdec
  refine ⟨sch, fun rest => ?_⟩
  obtain ⟨x, hrun, hd⟩ := runOp_decorated b hdec { m with sched := sch ++ rest }
  have htot := (hd.totalK (hD.setSched _)).toS
  have h1 := hns rest
  rw [hrun, mapRes_isSchedErr] at h1
  have hx : x.1 ≠ .error .sched := fun h => by rw [h] at h1; cases h1
  rcases htot with ⟨hsig, hk⟩ | ⟨he, _⟩
  · exact ⟨_, x, _, hrun, hsig, hx, hk⟩
  · exact absurd he hx

/-- C09 / C17 (histories): in a good state with two variables, a decorated call with ANY arguments
whose recorded schedule is the record of a valid choice is a GUARDED call of the histories with
recorded schedules (`CallGuardS`, DDProofs.DynSchedReach): `stepS_inv` / `reachableS_inv` apply —
the guard "the model does not answer `.sched`" is discharged -/
theorem C09_callGuardS_of_choice (m : Mgr) (ext : Nat → Nat) (h : Good3 m ext) (h2 : 2 ≤ m.nvars)
    (c : Choice) (hc : c.Valid) (b : UOp) (hdec : b.decorated = true) (s : SchedItem)
    (sch : List SchedItem) (hl : logOf (runOpC c b m).1 = some (s :: sch)) :
    CallGuardS m ext ⟨s :: sch, .op (.base b)⟩ ∧
    Good3 (runCallS ⟨s :: sch, .op (.base b)⟩ m).2 (ledger3 (.op (.base b)) m ext) ∧
    Held2 ext m (runCallS ⟨s :: sch, .op (.base b)⟩ m).2 ∧
    (runCallS ⟨s :: sch, .op (.base b)⟩ m).1 ≠ .error .needsReordering := by
  have hg := callGuardS_of_choice m ext h2 c hc b hdec s sch hl
  exact ⟨hg, stepS_inv m ext ⟨s :: sch, .op (.base b)⟩ h hg⟩

/-- … and in decidable form: the schedule encodes a choice (replaying the choice read off the
schedule records the schedule) -/
theorem C09_callGuardS_of_encodes (m : Mgr) (ext : Nat → Nat) (h : Good3 m ext) (h2 : 2 ≤ m.nvars)
    (b : UOp) (hdec : b.decorated = true) (s : SchedItem) (sch : List SchedItem)
    (he : logOf (runOpC (Choice.ofSched (s :: sch)) b m).1 = some (s :: sch)) :
    CallGuardS m ext ⟨s :: sch, .op (.base b)⟩ :=
  callGuardS_of_choice m ext h2 _ (Choice.ofSched_valid _) b hdec s sch he

/-- the decidable guard of a decorated call is EXACT: replaying the choice read off `sch` records
`sch` iff `sch` is the record of the choice-driven call under some valid choice -/
theorem C09_encodes_iff_choice (m : Mgr) (b : UOp) (sch : List SchedItem) :
    logOf (runOpC (Choice.ofSched sch) b m).1 = some sch ↔
      ∃ c : Choice, c.Valid ∧ logOf (runOpC c b m).1 = some sch :=
  ⟨fun h => ⟨_, Choice.ofSched_valid sch, h⟩,
   fun ⟨c, hc, hl⟩ => runOpC_encodes_of_choice c hc m sch b hl⟩

/-- the history's choice-driven call of `apply` is `applyC`.  Stated with variables: at a concrete
manager the `rfl` between the two makes the kernel run the call. -/
theorem runOpC_apply (c : Choice) (o : String) (u : Int) (v w : Option Int) (m : Mgr) :
    runOpC c (.apply o u v w) m = mapResC .ref (applyC c o u v w [] m) := rfl

/-- the choice-driven call on `exSchedM` under `Choice.rev`, evaluated once: its record, its value,
the order it leaves -/
theorem exRev_apply :
    logOf (runOpC Choice.rev (.apply "and" 3 (some 5) none) exSchedM).1 = some exRevSched ∧
    dropLog (runOpC Choice.rev (.apply "and" 3 (some 5) none) exSchedM).1 = .ok (.ref 8) ∧
    (runOpC Choice.rev (.apply "and" 3 (some 5) none) exSchedM).2.tbl.l2v.toList =
      [(0, "a"), (1, "c"), (2, "b")] := by
  unfold exSchedM
  decide +kernel

/-- `apply('and', 3, 5)` on `exSchedM` (reordering enabled, a request due) under `Choice.rev`: the
choice-driven call records `exRevSched` (thirteen swaps, variables visited `c, b, a`) and returns
node 8; the scheduled model with that schedule returns the same node and consumes it; so does the
schedule recorded from the real run (`exSched`, DDProps.C09Sched), which lists every level -/
theorem C09_accept_example :
    logOf (runOpC Choice.rev (.apply "and" 3 (some 5) none) exSchedM).1 = some exRevSched ∧
    (apply "and" 3 (some 5) none { exSchedM with sched := exRevSched }).1.toOption = some 8 ∧
    (apply "and" 3 (some 5) none { exSchedM with sched := exRevSched }).2.sched = [] ∧
    (apply "and" 3 (some 5) none { exSchedM with sched := exRevSched }).2.tbl.l2v.toList =
      [(0, "a"), (1, "c"), (2, "b")] ∧
    logOf (runOpC (Choice.ofSched exRevSched) (.apply "and" 3 (some 5) none) exSchedM).1 =
      some exRevSched := by
  obtain ⟨hlog, hval, hl2v⟩ := exRev_apply
  -- the replay records the same (`runOpC_encodes_of_choice`), and the scheduled call does what the
  -- choice-driven call did (acceptance read at the record): neither is evaluated
  have henc := runOpC_encodes_of_choice Choice.rev Choice.rev_valid exSchedM _ _ hlog
  refine ⟨hlog, ?_⟩
  rw [runOpC_apply] at hlog hval hl2v
  rw [logOf_mapResC] at hlog
  have hrun := ((apply_accepts exSchedExt Choice.rev Choice.rev_valid exSchedM exSchedM_dynInv.toS
    "and" 3 (some 5) none).of_log hlog).1 []
  rw [List.append_nil] at hrun
  unfold setS at hrun
  rw [hrun]
  generalize applyC Choice.rev "and" 3 (some 5) none [] exSchedM = x at hval hl2v
  obtain ⟨e | ⟨r, l⟩, m1⟩ := x
  · cases hval
  · cases hval
    exact ⟨rfl, rfl, hl2v, henc⟩

example : CallGuardS exSchedM exSchedExt
    ⟨exRevSched, .op (.base (.apply "and" 3 (some 5) none))⟩ :=
  (C09_callGuardS_of_choice exSchedM exSchedExt exSchedM_good3
    exSchedM_dynInv.nvars Choice.rev Choice.rev_valid _ rfl _ _ C09_accept_example.1).1

end DD
