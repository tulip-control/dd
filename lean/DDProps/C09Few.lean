/-
  DDProps.C09Few — C09 / C17: the decorated calls with FEWER THAN TWO declared variables under ANY
  recorded schedule, every outcome.  The every-schedule theorems (DDProps.C09Sched, C09SchedKeep)
  assume two variables; `tryToReorder_few` (DDProofs.Reach2) covers fewer with the default schedule.
  With fewer than two variables a request that fires ends in an exception of sifting — or in the
  model's `.sched` when the recorded schedule does not begin with the order of `for var in names`
  (the model reads that item before the loop fails: the schedule is NOT untouched, one item may be
  consumed) — and in every case the manager is kept.
-/
import DDProofs.DynSchedFew
open Std

namespace DD

/-- C09 / C17 (generic): `_try_to_reorder` around a body that accepts arbitrary arguments and does
not answer `.sched` inside a context; fewer than two variables; whatever the switch; ANY recorded
schedule: the manager stays good (counts exact for the same ledger), every held reference keeps its
function of the variable names, the signal does not escape, `.sched` only with a recorded schedule -/
theorem C17_decorator_few_anySchedule {α : Type} (ext : Nat → Nat) (f : M α)
    (hbody : ∀ m0 : Mgr, Inv m0 → m0.ctx = true → OrderOK m0.tbl → TotE m0 (f m0)) (hns : NSc f)
    (m : Mgr) (h : Good3S m ext) (hfew : m.nvars < 2) : Few3S m ext (tryToReorder f m) :=
  tryToReorder_fewS ext f hbody hns m h hfew

/-- C17: every decorated operation of `UOp`, ANY arguments, fewer than two variables, ANY recorded
schedule, in the driver's form -/
theorem C17_decorated_few_anySchedule (ext : Nat → Nat) (m : Mgr) (h : Good3 m ext) (hfew : m.nvars < 2)
    (sch : List SchedItem) (b : UOp) (hdec : b.decorated = true) :
    Few3 m ext (clearSched (runOp b { m with sched := sch })) :=
  decorated_few_recorded ext m h hfew sch b hdec

/-- C09 (histories with recorded schedules): with fewer than two variables a decorated call with ANY
recorded schedule is a good step; the guard `CallGuardS` (two variables, no `.sched`) is needed only
from two variables on -/
theorem C09_stepS_few (m : Mgr) (ext : Nat → Nat) (h : Good3 m ext) (hfew : m.nvars < 2) (b : UOp)
    (hdec : b.decorated = true) (s : SchedItem) (sch : List SchedItem) :
    Good3 (runCallS ⟨s :: sch, .op (.base b)⟩ m).2 (ledger3 (.op (.base b)) m ext) ∧
    Held2 ext m (runCallS ⟨s :: sch, .op (.base b)⟩ m).2 ∧
    (runCallS ⟨s :: sch, .op (.base b)⟩ m).1 ≠ .error .needsReordering :=
  stepS_few m ext h hfew b hdec s sch

/-! ### non-vacuity: one variable, reordering enabled, a request due -/

def exFewHist : List UOp3 := [.op (.base (.declare "x" none))]

theorem exFewHist_guarded : Ops3Guarded exFewHist St.init := by decide +kernel

@[irreducible] def exFewExt : Nat → Nat := (run3 exFewHist St.init).ext

@[irreducible] def exFewM : Mgr :=
  { (run3 exFewHist St.init).m with lastLen := some 1, fireIn := some 1 }

theorem exFewM_good3 : Good3 exFewM exFewExt := by
  unfold exFewM exFewExt
  exact (reachable3_inv exFewHist exFewHist_guarded).setRequest _ _

/-- `bdd.var('x')`: the request fires, sifting one variable raises `ValueError`; with the recorded
order of `for var in names` that item is consumed; with a schedule that does not fit the model
answers `.sched`; the variable stays declared and reordering is switched off in both cases -/
theorem C09_few_example :
    exFewM.nvars = 1 ∧
    raisedErr (var "x" { exFewM with sched := [.sift ["x"]] }).1 = some .value ∧
    (var "x" { exFewM with sched := [.sift ["x"]] }).2.sched = [] ∧
    raisedErr (var "x" { exFewM with sched := [.swap []] }).1 = some .sched ∧
    (var "x" { exFewM with sched := [.swap []] }).2.tbl.vars.toList = [("x", 0)] ∧
    (var "x" { exFewM with sched := [.swap []] }).2.lastLen = none := by
  unfold exFewM
  decide +kernel

example : Few3 exFewM exFewExt (clearSched (runOp (.var "x") { exFewM with sched := [.swap []] })) :=
  C17_decorated_few_anySchedule exFewExt exFewM exFewM_good3 (by rw [C09_few_example.1]; decide)
    [.swap []] (.var "x") rfl

end DD
