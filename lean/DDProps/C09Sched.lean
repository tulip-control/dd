/-
  DDProps.C09Sched — C09 (dynamic reordering is invisible) and the dynamic part of C17 (rejected
  calls with reordering enabled) for EVERY RECORDED ITERATION SCHEDULE.

  The theorems of DDProps.C09 / DDProps.C17 assume `DynInv ext m`, which contains `m.sched = []`:
  the sifting inside `_try_to_reorder` is covered for the model's DEFAULT iteration order of the
  Python sets only (`for var in set(bdd.vars)` in `_apply_sifting` sorted by name, the level sets
  `all_levels[j]` inside `swap` ascending).  The differential check runs these operations with
  RECORDED orders: `DD.stepLine` executes a protocol line with the trailing field
  `S:sift=…;swap=…` of the line in `m.sched` and drops what is left afterwards.

  The schedule: `m.sched : List SchedItem` is the sequence of iteration orders of Python `set`s
  taken by the run of the REAL code for this call, as recorded by the harness (`harness/impl.py`
  wraps `BDD.swap`, `BDD._levels`, `_reorder_var`): `.sift names` = the order of
  `for var in set(bdd.vars)` of one `_apply_sifting`; `.swap lv` = the orders of the level sets
  given to one `swap`.  The model consumes the head item at each such loop (`takeSiftOrder`,
  `takeSwapOrders`), checks that it is a permutation of the set the MODEL has at that point, and
  iterates in that order (ascending when no item is left); otherwise it raises its own error
  `.sched`, printed `MODEL-SCHEDULE-MISMATCH` (never an answer of the real code).

  Proved here: from `DynInvS ext m` (`DynInv` without the clause on the schedule, `dynInv_iff`), for
  EVERY list in `m.sched`, every decorated operation returns `.ok r` with `DynPostS` (the
  post-condition of DDProps.C09 with `DynInvS`; what the driver stores, `{ m' with sched := [] }`,
  satisfies `DynInv` again: `C09_decorator_transparent_recorded`) — or fails with `.sched`, only if
  `m.sched ≠ []` and only inside the sifting between the two attempts.  With `m.sched = []` this is
  the theorem of DDProps.C09 (`C09_anySchedule_default`).

  That `.sched` does not occur for a schedule recorded from a real run is NOT a theorem; it is the
  tie the harness makes.  The model is deterministic given the schedule; the check replays every
  call on the model and compares answers and (sorted) states with the real code's.  As long as they
  have agreed so far, the sets the real code iterated over are, item by item, the sets the model has
  when it reaches the same loop (C07, `C07_sift`, `C07_swap`: the model's sifting reaches each loop
  without any other exception), so each recorded order is a permutation of the model's set and the
  items are consumed in step.  A `MODEL-SCHEDULE-MISMATCH`, or items left after a success
  (`SCHED-LEFT`), differs from the real code's answer and is reported as a violation.  What the
  theorems contribute is that `.sched` is the ONLY way in which the model's decorated call can
  deviate from "returns the documented result, everything held keeps its meaning" — for all lists.
  What sifting does under any schedule is `siftKeepS` (DDProofs.DynGeneric), from C07's
  `sift_every_outcome`.
-/
import DDProofs.DynSchedReach
import DDProofs.DynApply
import DDProofs.DynCopy
import DDProofs.DynExpr
import DDProofs.DynImageKeys
import DDProofs.DynRejectedExpr
namespace DD

/-- C09: the contract of sifting for EVERY schedule holds for every ledger: from `DynInvS ext m`
with requests disabled, `reorder(bdd)` returns normally — `DynInvS`, requests still disabled, same
number of variables, same declared names, every held reference with the same meaning by name,
same roots, no schedule left if there was none — or the model reports `.sched`, which requires a
recorded schedule.  (C07: `applySifting_never_raises`, `applySifting_total_default`.) -/
theorem C09_siftContract_anySchedule (ext : Nat → Nat) : SiftContractS ext := siftContractS ext

/-- C09: the contract for every schedule contains the contract of DDProps.C09 -/
theorem C09_siftContract_anySchedule_default (ext : Nat → Nat) : SiftContract ext :=
  (siftContractS ext).toDefault

/-- C09, GENERIC, EVERY SCHEDULE.  Same hypotheses on the body `f` as
`C09_decorator_transparent` (they do not mention the schedule).  From `DynInvS ext m` — whatever
list of iteration orders is in `m.sched` — the decorated `f`, reordering enabled or not, the
request firing at whichever `find_or_add`:
returns `.ok r` with `DynPostS ext Doc m r m'` (documented result relative to the operands as
they were, `DynInvS ext m'`, reordering enabled iff it was, same declared names, every held
reference with the same meaning by name, same roots, no schedule left if there was none);
or fails with `.sched` (`MODEL-SCHEDULE-MISMATCH`), only if `m.sched ≠ []`.

The schedule is the list of set-iteration orders recorded from the run of the real code; `.sched`
means that this list does not describe a run of the code from this state; that it does not occur
for a list recorded from a real run is the harness's tie (file header), not part of the theorem. -/
theorem C09_decorator_transparent_anySchedule {α} (ext : Nat → Nat) (f : M α) (ops : List Int)
    (Pre : Tbl → Prop) (Doc : Tbl → α → Tbl → Prop)
    (hbody : ∀ m0 : Mgr, Inv m0 → m0.ctx = true → OrderOK m0.tbl → Pre m0.tbl →
      (∀ u ∈ ops, m0.tbl.Mem u) → Outcome m0 (fun r m1 => Doc m0.tbl r m1.tbl) (f m0))
    (hpre : ∀ t t', Bridge ops t t' → Pre t → Pre t')
    (hdoc : ∀ t t' r t'', Bridge ops t t' → Pre t → Doc t' r t'' → Doc t r t'')
    (m : Mgr) (hD : DynInvS ext m) (hops : ∀ u ∈ ops, HeldX ext u) (hpre0 : Pre m.tbl) :
    (∃ r m', tryToReorder f m = (.ok r, m') ∧ DynPostS ext Doc m r m') ∨
    (∃ m', tryToReorder f m = (.error .sched, m') ∧ m.sched ≠ []) :=
  (tryToReorder_transparentS ext f ops Pre Doc hbody hpre hdoc m hD hops
    hpre0).cases

/-- C09, GENERIC, in the form of the driver (`DD.stepLine`): the stored manager `m` is as between
two calls (`DynInv`, no schedule); the recorded schedule `sch` of the protocol line is put in for
the call; whatever is left is dropped afterwards.  Then the call returns with EXACTLY the
post-condition of `C09_decorator_transparent` between `m` and `{ m' with sched := [] }` (in
particular `DynInv ext { m' with sched := [] }`: the next line starts from such a state again) —
or the model answers `MODEL-SCHEDULE-MISMATCH`, only for `sch ≠ []`. -/
theorem C09_decorator_transparent_recorded {α} (ext : Nat → Nat) (f : M α) (ops : List Int)
    (Pre : Tbl → Prop) (Doc : Tbl → α → Tbl → Prop)
    (hbody : ∀ m0 : Mgr, Inv m0 → m0.ctx = true → OrderOK m0.tbl → Pre m0.tbl →
      (∀ u ∈ ops, m0.tbl.Mem u) → Outcome m0 (fun r m1 => Doc m0.tbl r m1.tbl) (f m0))
    (hpre : ∀ t t', Bridge ops t t' → Pre t → Pre t')
    (hdoc : ∀ t t' r t'', Bridge ops t t' → Pre t → Doc t' r t'' → Doc t r t'')
    (m : Mgr) (hD : DynInv ext m) (hops : ∀ u ∈ ops, HeldX ext u) (hpre0 : Pre m.tbl)
    (sch : List SchedItem) :
    (∃ r m', tryToReorder f { m with sched := sch } = (.ok r, m') ∧
      DynPostG ext Doc m r { m' with sched := [] }) ∨
    (∃ m', tryToReorder f { m with sched := sch } = (.error .sched, m') ∧ sch ≠ []) :=
  (tryToReorder_transparentS ext f ops Pre Doc hbody hpre hdoc
    { m with sched := sch } (hD.withSched sch) hops hpre0).driver

/-- C09: how to read the outcome `DynOutS` of the instances below (`OkOr` of DDProofs.MonadM):
`.ok r` with `DynPostS`, or `.error .sched` with a recorded schedule present -/
theorem C09_anySchedule_means {α} (ext : Nat → Nat) (Doc : Tbl → α → Tbl → Prop) (m : Mgr)
    (res : Except Err α × Mgr) (h : DynOutS ext Doc m res) :
    (∃ r m', res = (.ok r, m') ∧ DynInvS ext m' ∧ Doc m.tbl r m'.tbl ∧
      m'.lastLen.isSome = m.lastLen.isSome ∧
      (∀ s, m'.tbl.vars.contains s = m.tbl.vars.contains s) ∧
      (∀ w, HeldX ext w → m'.tbl.Mem w ∧ ∀ σ, denN m'.tbl w σ = denN m.tbl w σ) ∧
      m'.roots = m.roots ∧ (m.sched = [] → m'.sched = [])) ∨
    (∃ m', res = (.error .sched, m') ∧ m.sched ≠ []) := by
  rcases h.cases with ⟨r, m', he, hp⟩ | h
  · exact Or.inl ⟨r, m', he, hp.inv, hp.doc, hp.enabled, hp.names, hp.held, hp.roots, hp.sched⟩
  · exact Or.inr h

/-- C09: with no recorded schedule the outcome is the one of DDProps.C09 — the theorems of this
file contain those -/
theorem C09_anySchedule_default {α} (ext : Nat → Nat) (Doc : Tbl → α → Tbl → Prop) (m : Mgr)
    (res : Except Err α × Mgr) (h : DynOutS ext Doc m res) (hs : m.sched = []) :
    ∃ r m', res = (.ok r, m') ∧ DynPostG ext Doc m r m' := h.default hs

/-- C09: in the driver's form (schedule put in, remainder dropped) -/
theorem C09_anySchedule_recorded {α} (ext : Nat → Nat) (Doc : Tbl → α → Tbl → Prop) (m : Mgr)
    (sch : List SchedItem) (res : Except Err α × Mgr)
    (h : DynOutS ext Doc { m with sched := sch } res) :
    (∃ r m', res = (.ok r, m') ∧ DynPostG ext Doc m r { m' with sched := [] }) ∨
    (∃ m', res = (.error .sched, m') ∧ sch ≠ []) := h.driver

/-- C09: the state the driver gives to a call (`DynInv` between two calls, any schedule put in)
satisfies `DynInvS`; the state it stores afterwards satisfies `DynInv` -/
theorem C09_driver_states (ext : Nat → Nat) (m : Mgr) :
    (DynInv ext m → ∀ sch, DynInvS ext { m with sched := sch }) ∧
    (DynInvS ext m → DynInv ext { m with sched := [] }) ∧
    (DynInv ext m ↔ DynInvS ext m ∧ m.sched = []) :=
  ⟨fun h sch => h.withSched sch, fun h => h.clear, dynInv_iff ext m⟩

/-- C09 `ite`, every schedule -/
theorem C09_ite_transparent_anySchedule (ext : Nat → Nat) (m : Mgr) (hD : DynInvS ext m)
    (g u v : Int) (hg : HeldX ext g) (hu : HeldX ext u) (hv : HeldX ext v) :
    DynOutS ext (IteDoc g u v) m (ite g u v m) :=
  ite_transparentS ext m hD g u v hg hu hv

/-- C09 `apply(op, u, v)` for every binary propositional alias, every schedule -/
theorem C09_apply_binary_transparent_anySchedule (ext : Nat → Nat) (m : Mgr) (hD : DynInvS ext m)
    (op : String) (c : Conn) (hc : docConn op = some c)
    (h2 : c.arity = 2) (hq1 : c ≠ .forall_) (hq2 : c ≠ .exists_)
    (hall : Gen.allOps.contains op = true) (u v : Int) (hu : HeldX ext u) (hv : HeldX ext v) :
    DynOutS ext (ConnDoc c u v) m (apply op u (some v) none m) :=
  apply_binary_transparentS ext m hD op c hc h2 hq1 hq2 hall u v hu hv

/-- C09 `apply('ite', u, v, w)`, every schedule -/
theorem C09_apply_ite_transparent_anySchedule (ext : Nat → Nat) (m : Mgr) (hD : DynInvS ext m)
    (op : String) (hc : docConn op = some .ite)
    (hall : Gen.allOps.contains op = true) (u v w : Int) (hu : HeldX ext u) (hv : HeldX ext v)
    (hw : HeldX ext w) :
    DynOutS ext (Ite3Doc u v w) m (apply op u (some v) (some w) m) :=
  apply_ite_transparentS ext m hD op hc hall u v w hu hv hw

/-- C09 `apply` with a quantifier alias, every schedule -/
theorem C09_apply_quant_transparent_anySchedule (ext : Nat → Nat) (m : Mgr) (hD : DynInvS ext m)
    (op : String) (c : Conn) (hc : docConn op = some c) (hq : c = .forall_ ∨ c = .exists_)
    (hall : Gen.allOps.contains op = true) (u v : Int) (hu : m.tbl.Mem u) (hv : HeldX ext v)
    (names : List String) (hsupp : support m.tbl u = .ok names)
    (hdecl : ∀ s ∈ names, m.tbl.vars.contains s = true) :
    DynOutS ext (QuantDoc (decide (c = .forall_)) names v) m (apply op u (some v) none m) :=
  apply_quant_transparentS ext m hD op c hc hq hall u v hu hv names hsupp hdecl

/-- C09 `var(name)`, every schedule -/
theorem C09_var_transparent_anySchedule (ext : Nat → Nat) (m : Mgr) (hD : DynInvS ext m)
    (name : String) (hdecl : m.tbl.vars.contains name = true) :
    DynOutS ext (VarDoc name) m (var name m) :=
  var_transparentS ext m hD name hdecl

/-- C09 `quantify` / `exist` / `forall` over declared names, every schedule -/
theorem C09_quantify_transparent_anySchedule (ext : Nat → Nat) (m : Mgr) (hD : DynInvS ext m)
    (u : Int) (hu : HeldX ext u) (fa : Bool) (names : List String)
    (hdecl : ∀ s ∈ names, m.tbl.vars.contains s = true) :
    DynOutS ext (QuantDoc fa names u) m (quantify u (names.map Key.name) fa m) :=
  quantify_transparentS ext m hD u hu fa names hdecl

/-- C09 `cofactor`, every schedule -/
theorem C09_cofactor_transparent_anySchedule (ext : Nat → Nat) (m : Mgr) (hD : DynInvS ext m)
    (u : Int) (hu : HeldX ext u) (vals : List (String × Bool))
    (hdecl : ∀ p ∈ vals, m.tbl.vars.contains p.1 = true) :
    DynOutS ext (CofDoc vals u) m (cofactor u (boolKeys vals) m) :=
  cofactor_transparentS ext m hD u hu vals hdecl

/-- C09 `compose`, every schedule -/
theorem C09_compose_transparent_anySchedule (ext : Nat → Nat) (m : Mgr) (hD : DynInvS ext m)
    (f : Int) (hf : HeldX ext f) (varSub : List (String × Int))
    (hdecl : ∀ p ∈ varSub, m.tbl.vars.contains p.1 = true)
    (hheld : ∀ p ∈ varSub, HeldX ext p.2) :
    DynOutS ext (ComposeDoc varSub f) m (compose f varSub m) :=
  compose_transparentS ext m hD f hf varSub hdecl hheld

/-- C09 `rename`, every schedule -/
theorem C09_rename_transparent_anySchedule (ext : Nat → Nat) (m : Mgr) (hD : DynInvS ext m)
    (u : Int) (hu : HeldX ext u) (dvars : List (String × String))
    (hd : ∀ p ∈ dvars, m.tbl.vars.contains p.2 = true) :
    DynOutS ext (RenameDoc dvars u) m (rename u dvars m) :=
  rename_transparentS ext m hD u hu dvars hd

/-- C09 `let` in its three homogeneous forms, every schedule -/
theorem C09_let_transparent_anySchedule (ext : Nat → Nat) (m : Mgr) (hD : DynInvS ext m)
    (u : Int) (hu : HeldX ext u) :
    (∀ (vals : List (String × Bool)), vals ≠ [] →
      (∀ p ∈ vals, m.tbl.vars.contains p.1 = true) →
      DynOutS ext (CofDoc vals u) m (letOp (.bools (boolKeys vals)) u m)) ∧
    (∀ (varSub : List (String × Int)), varSub ≠ [] →
      (∀ p ∈ varSub, m.tbl.vars.contains p.1 = true) → (∀ p ∈ varSub, HeldX ext p.2) →
      DynOutS ext (ComposeDoc varSub u) m (letOp (.refs varSub) u m)) ∧
    (∀ (dvars : List (String × String)), dvars ≠ [] →
      (∀ p ∈ dvars, m.tbl.vars.contains p.2 = true) →
      DynOutS ext (RenameDoc dvars u) m (letOp (.names dvars) u m)) :=
  ⟨fun vals hne hd => let_bools_transparentS ext m hD u hu vals hne hd,
   fun varSub hne hd hh => let_refs_transparentS ext m hD u hu varSub hne hd hh,
   fun dvars hne hd => let_names_transparentS ext m hD u hu dvars hne hd⟩

/-- C09 `cube(dvars)` over declared names, every schedule -/
theorem C09_cube_transparent_anySchedule (ext : Nat → Nat) (m : Mgr) (hD : DynInvS ext m)
    (dvars : List (String × Bool)) (hdecl : ∀ p ∈ dvars, m.tbl.vars.contains p.1 = true) :
    DynOutS ext (CubeDoc dvars) m (cube dvars m) :=
  cube_transparentS ext m hD dvars hdecl

/-- C09 `copy_bdd(u, from_bdd, to_bdd)` into a target with dynamic reordering enabled, every
schedule (recorded for the TARGET: the driver's `copy` line puts it into `tgt.sched`) -/
theorem C09_copy_bdd_transparent_anySchedule (ext : Nat → Nat) (s : Tbl) (hS : WF s)
    (hOs : OrderOK s) (m : Mgr) (hD : DynInvS ext m) (u : Int) (hu : s.Mem u)
    (hsup : CopyPre s u m.tbl) :
    DynOutS ext (CopyDoc s u) m (copyBdd s u m) :=
  copyBdd_transparentS ext s hS hOs m hD u hu hsup

/-- C09 `add_expr`, every schedule -/
theorem C09_addExpr_transparent_anySchedule (ext : Nat → Nat) (m : Mgr) (hD : DynInvS ext m)
    (s : String) (t : Ast) (hp : parse (tokenize s) = some t) (hM : Meaningful m.tbl t)
    (hheld : ∀ u ∈ t.atNodes, HeldX ext u) :
    DynOutS ext (ExprDoc t) m (addExpr s m) :=
  addExpr_transparentS ext m hD s t hp hM hheld

/-- C09 `image` (renaming and quantified variables by declared names), every schedule -/
theorem C09_image_transparent_anySchedule (ext : Nat → Nat) (m : Mgr) (hD : DynInvS ext m)
    (trans source : Int) (ht : HeldX ext trans) (hs : HeldX ext source) (fa : Bool)
    (l : List (String × String)) (qs : List String) (hpre : ImagePre trans source l qs m.tbl) :
    DynOutS ext (ImageDoc fa qs l trans source) m
      (image trans source (l.map fun p => (Key.name p.1, Key.name p.2)) (qs.map Key.name) fa m) :=
  image_transparentS ext m hD trans source ht hs fa l qs hpre

/-- C09 `preimage`, every schedule -/
theorem C09_preimage_transparent_anySchedule (ext : Nat → Nat) (m : Mgr) (hD : DynInvS ext m)
    (trans target : Int) (ht : HeldX ext trans) (hs : HeldX ext target) (fa : Bool)
    (l : List (String × String)) (qs : List String) (hpre : PreimagePreN target l qs m.tbl) :
    DynOutS ext (PreimageDoc fa qs l trans target) m
      (preimage trans target (l.map fun p => (Key.name p.1, Key.name p.2)) (qs.map Key.name)
        fa m) :=
  preimage_transparentS ext m hD trans target ht hs fa l qs hpre

/-- C09 `preimage` under its literal preconditions (any order, any renaming, any target), every
schedule -/
theorem C09_preimage_literal_transparent_anySchedule (ext : Nat → Nat) (m : Mgr)
    (hD : DynInvS ext m) (trans target : Int) (ht : HeldX ext trans) (hs : HeldX ext target)
    (fa : Bool) (l : List (String × String)) (qs : List String) (hpre : PreimagePreL l qs m.tbl) :
    DynOutS ext (PreimageDoc fa qs l trans target) m
      (preimage trans target (l.map fun p => (Key.name p.1, Key.name p.2)) (qs.map Key.name)
        fa m) :=
  preimage_literal_transparentS ext m hD trans target ht hs fa l qs hpre

/-- C09 `image`, arguments as names or levels resolving to declared levels, every schedule -/
theorem C09_image_keys_transparent_anySchedule (ext : Nat → Nat) (m : Mgr) (hD : DynInvS ext m)
    (trans source : Int) (ht : HeldX ext trans) (hs : HeldX ext source)
    (fa : Bool) (rn : List (Key × Key)) (qvars : List Key) (q : List Nat)
    (hq : mapToLevelE m.tbl qvars = .ok q)
    (hov : renameOverlap (resolveRename m.tbl rn) = false)
    (hnl : renameNonLevel (resolveRename m.tbl rn) = false)
    (hlv : ∀ p, p ∈ intPairs (resolveRename m.tbl rn) →
      0 ≤ p.1 ∧ p.1 < (m.nvars : Int) ∧ 0 ≤ p.2 ∧ p.2 < (m.nvars : Int))
    (htg : ∀ p, p ∈ intPairs (resolveRename m.tbl rn) → ∀ l : Nat, p.2 = (l : Int) →
      l ∈ q ∨ (¬ dependsOn m.tbl trans l ∧ ¬ dependsOn m.tbl source l)) :
    DynOutS ext (ImageDoc fa (q.map m.tbl.nameOf)
        (namePairs m.tbl (intPairs (resolveRename m.tbl rn))) trans source) m
      (image trans source rn qvars fa m) :=
  image_keys_transparentS ext m hD trans source ht hs fa rn qvars q hq hov hnl hlv htg

/-- C09 `preimage`, arguments as names or levels resolving to declared levels, every schedule -/
theorem C09_preimage_keys_transparent_anySchedule (ext : Nat → Nat) (m : Mgr)
    (hD : DynInvS ext m) (trans target : Int) (ht : HeldX ext trans) (hs : HeldX ext target)
    (fa : Bool) (rn : List (Key × Key)) (qvars : List Key) (q : List Nat)
    (hq : mapToLevelE m.tbl qvars = .ok q)
    (hov : renameOverlap (resolveRename m.tbl rn) = false)
    (hnl : renameNonLevel (resolveRename m.tbl rn) = false)
    (hlv : ∀ p, p ∈ intPairs (resolveRename m.tbl rn) →
      0 ≤ p.1 ∧ p.1 < (m.nvars : Int) ∧ 0 ≤ p.2 ∧ p.2 < (m.nvars : Int)) :
    DynOutS ext (PreimageDoc fa (q.map m.tbl.nameOf)
        (namePairs m.tbl (intPairs (resolveRename m.tbl rn))) trans target) m
      (preimage trans target rn qvars fa m) :=
  preimage_keys_literal_transparentS ext m hD trans target ht hs fa rn qvars q hq hov hnl hlv

/-- C09, chaining under recorded schedules, as the driver does it: two protocol lines in a row,
each with its own recorded schedule (`sch1`, `sch2`), the remainder dropped after each; the first
result is `incref`ed in between.  Either both calls return and the second result is
`ite(g, u, v) ∧ w` of the operands as they were, by name — or one of the two lines answers
`MODEL-SCHEDULE-MISMATCH`. -/
theorem C09_chained_calls_recorded (ext : Nat → Nat) (m : Mgr) (hD : DynInv ext m)
    (g u v w : Int) (hg : HeldX ext g) (hu : HeldX ext u) (hv : HeldX ext v) (hw : HeldX ext w)
    (sch1 sch2 : List SchedItem) :
    (∃ m1, ite g u v { m with sched := sch1 } = (.error .sched, m1) ∧ sch1 ≠ []) ∨
    ∃ r1 m1, ite g u v { m with sched := sch1 } = (.ok r1, m1) ∧
      ∃ m1', incref r1 { m1 with sched := [] } = (.ok (), m1') ∧
        ((∃ m2, apply "and" r1 (some w) none { m1' with sched := sch2 } = (.error .sched, m2) ∧
            sch2 ≠ []) ∨
         ∃ r2 m2, apply "and" r1 (some w) none { m1' with sched := sch2 } = (.ok r2, m2) ∧
          DynInv (extInc ext r1.natAbs) { m2 with sched := [] } ∧ m2.tbl.Mem r2 ∧
          ∀ σ, denN m2.tbl r2 σ =
            ((if denN m.tbl g σ then denN m.tbl u σ else denN m.tbl v σ) && denN m.tbl w σ)) := by
  rcases (ite_transparentS ext _ (hD.withSched sch1) g u v hg hu hv).driver with
    ⟨r1, m1, he1, hp1⟩ | h
  rotate_left
  · exact Or.inl h
  refine Or.inr ⟨r1, m1, he1, ?_⟩
  obtain ⟨m1', hinc, hD1, htbl, _⟩ := hp1.inv.incref r1 hp1.doc.1
  refine ⟨m1', hinc, ?_⟩
  rcases (apply_binary_transparentS (extInc ext r1.natAbs) _ (hD1.withSched sch2)
    "and" .and (by decide) (by decide) (by decide) (by decide) (by decide) r1 w
    (HeldX.extInc_self ext r1) (hw.extInc _)).driver with ⟨r2, m2, he2, hp2⟩ | h
  rotate_left
  · exact Or.inl h
  refine Or.inr ⟨r2, m2, he2, hp2.inv, hp2.doc.1, fun σ => ?_⟩
  have h2 := hp2.doc.2 σ
  rw [and_eval, htbl, hp1.doc.2 σ, (hp1.held w hw).2 σ] at h2
  exact h2

/-- C09 / C17, EVERY HISTORY WITH RECORDED SCHEDULES.  A call is a pair (recorded schedule,
operation); `runCallS` runs it as `DD.stepLine` does (a decorated operation with a non-empty
schedule runs with that schedule in `m.sched`, the remainder is dropped; the explicit
reorderings of `UOp2` carry their own schedule).  The guard `CallGuardS` is the guard of
DDProofs.Reach3 for a call without schedule; for a call WITH one it asks: the operation is a
decorated one, two variables are declared, and the model's answer is not
`MODEL-SCHEDULE-MISMATCH` (as `OpGuard2` asks of `sift sch`; for a schedule recorded from a real
run that is the harness's tie).  Then: every state reached from the empty manager is good
(`Good3`: invariant, order bijection, exact counts for the user's ledger, flag cleared, no
schedule) — with two variables it satisfies `DynInv`, so the theorems above apply to the next
call; and no call ever answers the internal signal. -/
theorem C09_every_history_recorded (cs : List SCall) (hg : CallsGuardedS cs St.init) :
    Good3 (runS cs St.init).m (runS cs St.init).ext ∧
    (2 ≤ (runS cs St.init).m.nvars → DynInv (runS cs St.init).ext (runS cs St.init).m) ∧
    ∀ r ∈ resultsS cs St.init, r ≠ .error .needsReordering :=
  ⟨reachableS_inv cs hg, fun h2 => (reachableS_inv cs hg).dynInv h2,
    levelS.results_noSignal resultsS (fun _ => rfl) (fun _ _ _ => rfl) cs St.init Good3.init hg⟩

/-- C09: the same from any good state, and one step spelled out -/
theorem C09_step_recorded (m : Mgr) (ext : Nat → Nat) (c : SCall) (h : Good3 m ext)
    (hg : CallGuardS m ext c) :
    Good3 (runCallS c m).2 (ledger3 c.op m ext) ∧ Held2 ext m (runCallS c m).2 ∧
    (runCallS c m).1 ≠ .error .needsReordering :=
  stepS_inv m ext c h hg

/-- C09: a reference the user holds and does not release stays a node and keeps its function of
the variable NAMES through any guarded continuation, siftings under recorded schedules included -/
theorem C09_held_every_history_recorded (cs : List SCall) (s : St) (h : Good3 s.m s.ext)
    (hg : CallsGuardedS cs s) (u : Int)
    (hheld : ∀ (pre post : List SCall), cs = pre ++ post → 0 < (runS pre s).ext u.natAbs) :
    (runS cs s).m.tbl.Mem u ∧ ∀ σ, denN (runS cs s).m.tbl u σ = denN s.m.tbl u σ :=
  levelS.run_held cs s h hg u hheld

/-- C09: a history without recorded schedules is a history of DDProofs.Reach3 -/
theorem C09_history_recorded_extends (ops : List UOp3) (s : St) :
    runS (ops.map (SCall.mk [])) s = run3 ops s :=
  histS.run_map hist3 (SCall.mk []) (fun o _ => by rcases o with (_ | _ | _ | _ | _) | _ <;> rfl) ops s

/-- C17, GENERIC, EVERY SCHEDULE (the failure counterpart of
`C09_decorator_transparent_anySchedule`; hypotheses on the body as in `C17_rejected_dyn`).  From
`DynInvS ext m`, whatever is in `m.sched`, the decorated call, whatever it returns or raises:
(1) the exception is never the internal signal; (2) unless the model reports `.sched` (only
possible if `m.sched ≠ []`, raised by the sifting between the two attempts): the final state is
`DynInvS ext m'` — also when the failure happens in the SECOND attempt after sifting —,
reordering is enabled iff it was (F11), same declared names, every held reference a member with
the same function by name, `roots` unchanged, no schedule left if there was none; and a returned
result is the documented one.  The schedule and the status of `.sched` are as in
`C09_decorator_transparent_anySchedule`. -/
theorem C17_rejected_dyn_anySchedule {α} (ext : Nat → Nat) (f : M α) (ops : List Int)
    (Pre : Tbl → Prop) (Doc : Tbl → α → Tbl → Prop)
    (hbody : ∀ m0 : Mgr, Inv m0 → m0.ctx = true → OrderOK m0.tbl → Pre m0.tbl →
      (∀ u ∈ ops, m0.tbl.Mem u) → OutcomeE m0 (fun r m1 => Doc m0.tbl r m1.tbl) (f m0))
    (hpre : ∀ t t', Bridge ops t t' → Pre t → Pre t')
    (hdoc : ∀ t t' r t'', Bridge ops t t' → Pre t → Doc t' r t'' → Doc t r t'')
    (m : Mgr) (hD : DynInvS ext m) (hops : ∀ u ∈ ops, HeldX ext u) (hpre0 : Pre m.tbl) :
    DynResultS ext Doc m (tryToReorder f m) ∧
    (tryToReorder f m).1 ≠ .error .needsReordering ∧
    ((DynKeptS ext m (tryToReorder f m).2) ∨
      ((tryToReorder f m).1 = .error .sched ∧ m.sched ≠ [])) := by
  have h := tryToReorder_rejectedS ext f ops Pre Doc hbody hpre hdoc m hD hops
    hpre0
  refine ⟨h, h.total.noSignal, ?_⟩
  rcases h.total with h' | h'
  · exact Or.inl h'.2
  · exact Or.inr h'

/-- C17, generic, bodies accepting ARBITRARY arguments, every schedule -/
theorem C17_total_dyn_anySchedule {α} (ext : Nat → Nat) (f : M α)
    (hbody : ∀ m0 : Mgr, Inv m0 → m0.ctx = true → OrderOK m0.tbl → TotE m0 (f m0))
    (m : Mgr) (hD : DynInvS ext m) : DynTotalS ext m (tryToReorder f m) :=
  tryToReorder_total_dynS ext (siftContractS ext) f hbody m hD

/-- C17: what `DynTotalS` says, spelled out; and its two specialisations: no recorded schedule
(the statement `DynTotal` of DDProps.C17), and the driver's form -/
theorem C17_dyn_anySchedule_means {α} (ext : Nat → Nat) (m : Mgr) (res : Except Err α × Mgr)
    (h : DynTotalS ext m res) :
    res.1 ≠ .error .needsReordering ∧
    (((Inv res.2 ∧ OrderOK res.2.tbl ∧ RefExact res.2 ext ∧ res.2.ctx = false) ∧
      (res.2.lastLen.isSome = m.lastLen.isSome) ∧
      (∀ s, res.2.tbl.vars.contains s = m.tbl.vars.contains s) ∧
      (∀ w, HeldX ext w → res.2.tbl.Mem w ∧ ∀ σ, denN res.2.tbl w σ = denN m.tbl w σ) ∧
      res.2.roots = m.roots ∧ (m.sched = [] → res.2.sched = [])) ∨
     (res.1 = .error .sched ∧ m.sched ≠ [])) ∧
    (m.sched = [] → DynTotal ext m res) := by
  refine ⟨h.noSignal, ?_, fun hs => h.default hs⟩
  rcases h with h | h
  · exact Or.inl ⟨⟨h.2.inv.inv, h.2.inv.order, h.2.inv.refs, h.2.inv.ctx⟩, h.2.enabled, h.2.names,
      h.2.held, h.2.roots, h.2.sched⟩
  · exact Or.inr h

/-- C17, the driver's form: stored manager as between two calls, recorded schedule put in,
remainder dropped: never the signal; `DynKept ext m { m' with sched := [] }` (the statement of
DDProps.C17), or `MODEL-SCHEDULE-MISMATCH` (only for `sch ≠ []`) -/
theorem C17_dyn_recorded {α} (ext : Nat → Nat) (m : Mgr) (sch : List SchedItem)
    (res : Except Err α × Mgr) (h : DynTotalS ext { m with sched := sch } res) :
    res.1 ≠ .error .needsReordering ∧
    (DynKept ext m { res.2 with sched := [] } ∨ (res.1 = .error .sched ∧ sch ≠ [])) := by
  refine ⟨h.noSignal, ?_⟩
  rcases h.driver with h' | h'
  · exact Or.inl h'.2
  · exact Or.inr h'

/-- C17 `ite` on ARBITRARY integers, every schedule -/
theorem C17_ite_dyn_anySchedule (ext : Nat → Nat) (m : Mgr) (hD : DynInvS ext m) (g u v : Int) :
    DynTotalS ext m (ite g u v m) := ((ite_decorated g u v m).totalK hD).toS

/-- C17 `apply` with ANY operator string, arity and operands, every schedule -/
theorem C17_apply_dyn_anySchedule (ext : Nat → Nat) (m : Mgr) (hD : DynInvS ext m) (op : String)
    (u : Int) (v w : Option Int) : DynTotalS ext m (apply op u v w m) :=
  ((apply_decorated op u v w m).totalK hD).toS

/-- C17 `var` for ANY name, every schedule -/
theorem C17_var_dyn_anySchedule (ext : Nat → Nat) (m : Mgr) (hD : DynInvS ext m) (name : String) :
    DynTotalS ext m (var name m) := ((var_decorated name m).totalK hD).toS

/-- C17 `quantify` for ANY node and names / levels, every schedule -/
theorem C17_quantify_dyn_anySchedule (ext : Nat → Nat) (m : Mgr) (hD : DynInvS ext m) (u : Int)
    (qvars : List Key) (fa : Bool) : DynTotalS ext m (quantify u qvars fa m) :=
  ((quantify_decorated u qvars fa m).totalK hD).toS

/-- C17 `cofactor` for ANY node and dictionary, every schedule -/
theorem C17_cofactor_dyn_anySchedule (ext : Nat → Nat) (m : Mgr) (hD : DynInvS ext m) (u : Int)
    (values : List (Key × Bool)) : DynTotalS ext m (cofactor u values m) :=
  ((cofactor_decorated u values m).totalK hD).toS

/-- C17 `compose` for ANY node and dictionary, every schedule -/
theorem C17_compose_dyn_anySchedule (ext : Nat → Nat) (m : Mgr) (hD : DynInvS ext m) (f : Int)
    (varSub : List (String × Int)) : DynTotalS ext m (compose f varSub m) :=
  ((compose_decorated f varSub m).totalK hD).toS

/-- C17 `rename` for ANY node and renaming, every schedule -/
theorem C17_rename_dyn_anySchedule (ext : Nat → Nat) (m : Mgr) (hD : DynInvS ext m) (u : Int)
    (dvars : List (String × String)) : DynTotalS ext m (rename u dvars m) :=
  ((rename_decorated u dvars m).totalK hD).toS

/-- C17 `let` for ANY node and (homogeneous) dictionary, every schedule -/
theorem C17_let_dyn_anySchedule (ext : Nat → Nat) (m : Mgr) (hD : DynInvS ext m) (d : LetArg)
    (u : Int) : DynTotalS ext m (letOp d u m) := ((letOp_decorated d u m).totalK hD).toS

/-- C17 `cube` for ANY names, every schedule -/
theorem C17_cube_dyn_anySchedule (ext : Nat → Nat) (m : Mgr) (hD : DynInvS ext m)
    (dvars : List (String × Bool)) : DynTotalS ext m (cube dvars m) :=
  ((cube_decorated dvars m).totalK hD).toS

/-- C17 `copy_bdd` for ANY source table and node, every schedule -/
theorem C17_copy_bdd_dyn_anySchedule (ext : Nat → Nat) (m : Mgr) (hD : DynInvS ext m) (src : Tbl)
    (u : Int) : DynTotalS ext m (copyBdd src u m) :=
  ((copyBdd_decorated src u m).totalK hD).toS

/-- C17 `add_expr` for ANY text, every schedule -/
theorem C17_add_expr_dyn_anySchedule (ext : Nat → Nat) (m : Mgr) (hD : DynInvS ext m)
    (s : String) : DynTotalS ext m (addExpr s m) :=
  ((addExpr_decorated s m).totalK hD).toS

/-! ## non-vacuity: a run with a NON-default recorded schedule

A state reached by a 13-call history (three variables `a`, `b`, `c` at levels 0, 1, 2; held nodes
2 = `a`, 3 = `b`, 4 = `c`, 5 = `a ∧ c`, 6 = `a xor c`: level 0 carries THREE nodes), with
reordering enabled and a request due at the next `find_or_add`.  The recorded schedule visits the
variables in the order `c, a, b` (the default is `a, b, c`) and iterates every level set in
DESCENDING order (the default is ascending). -/

def exSchedHist : List UOp3 :=
  [.op (.base (.declare "a" none)), .op (.base (.declare "b" none)), .op (.base (.declare "c" none)),
   .op (.base (.var "a")), .op (.base (.incref 2)),
   .op (.base (.var "b")), .op (.base (.incref 3)),
   .op (.base (.var "c")), .op (.base (.incref 4)),
   .op (.base (.apply "and" 2 (some 4) none)), .op (.base (.incref 5)),
   .op (.base (.apply "xor" 2 (some 4) none)), .op (.base (.incref 6))]

theorem exSchedHist_guarded : Ops3Guarded exSchedHist St.init := by decide +kernel

-- irreducible (as `exSchedM`): applied to these, a theorem's elaboration would otherwise run the
-- history by `whnf` (the application of `C09_apply_binary_transparent_anySchedule` below times out)
@[irreducible] def exSchedExt : Nat → Nat := (run3 exSchedHist St.init).ext

/-- the manager after the history, reordering enabled, a request due at the next `find_or_add` -/
@[irreducible] def exSchedM : Mgr :=
  { (run3 exSchedHist St.init).m with lastLen := some 1, fireIn := some 1 }

theorem exSchedM_good3 : Good3 exSchedM exSchedExt := by
  unfold exSchedM exSchedExt
  exact (reachable3_inv exSchedHist exSchedHist_guarded).setRequest _ _

/-- what the examples read off the state, in one evaluation of the history: at least two variables,
the operands 3 and 5 held -/
theorem exSchedM_facts : 2 ≤ exSchedM.nvars ∧ 0 < exSchedExt 3 ∧ 0 < exSchedExt 5 := by
  decide +kernel

theorem exSchedM_dynInv : DynInv exSchedExt exSchedM := exSchedM_good3.dynInv exSchedM_facts.1

theorem exSched_held3 : HeldX exSchedExt 3 := Or.inr exSchedM_facts.2.1
theorem exSched_held5 : HeldX exSchedExt 5 := Or.inr exSchedM_facts.2.2

/-- a recorded schedule for the call `apply('and', 3, 5)` on `exSchedM`: variables in the order
`c, a, b`, every level set descending; thirteen swaps -/
def exSched : List SchedItem :=
  [.sift ["c", "a", "b"],
   .swap [(0, [6, 5, 2]), (1, [3]), (2, [4])],
   .swap [(0, [6, 5, 2]), (1, [4]), (2, [3])],
   .swap [(0, [6, 5, 4]), (1, [2]), (2, [3])],
   .swap [(0, [6, 5, 2]), (1, [4]), (2, [3])],
   .swap [(0, [6, 5, 2]), (1, [3]), (2, [4])],
   .swap [(0, [3]), (1, [6, 5, 2]), (2, [4])],
   .swap [(0, [3]), (1, [6, 5, 4]), (2, [2])],
   .swap [(0, [3]), (1, [6, 5, 2]), (2, [4])],
   .swap [(0, [6, 5, 2]), (1, [3]), (2, [4])],
   .swap [(0, [6, 5, 2]), (1, [4]), (2, [3])],
   .swap [(0, [6, 5, 2]), (1, [3]), (2, [4])],
   .swap [(0, [3]), (1, [6, 5, 2]), (2, [4])],
   .swap [(0, [6, 5, 2]), (1, [3]), (2, [4])]]

/-- the hypotheses of `C09_apply_binary_transparent_anySchedule` hold for the call
`apply('and', 3, 5)` on `exSchedM` with the recorded schedule `exSched` -/
example : DynInvS exSchedExt { exSchedM with sched := exSched } ∧
    HeldX exSchedExt 3 ∧ HeldX exSchedExt 5 ∧ docConn "and" = some .and ∧
    ({ exSchedM with sched := exSched } : Mgr).lastLen.isSome = true :=
  ⟨exSchedM_dynInv.withSched exSched, exSched_held3, exSched_held5, by decide, by decide +kernel⟩

/-- on that state the first attempt IS aborted by the request, sifting runs under the recorded
schedule and CONSUMES ALL of it, the retry succeeds: the `.ok` alternative of the theorems is
inhabited by a run with a non-default schedule.  The order afterwards is `a, c, b` — with the
default schedule the same call leaves `a, b, c`: the recorded schedule changes what sifting does,
not what the call returns (by name). -/
theorem C09_recorded_schedule_example :
    (iteRaw 3 5 (-1) { exSchedM with ctx := true, sched := exSched }).1.toOption = none ∧
    (apply "and" 3 (some 5) none { exSchedM with sched := exSched }).1.toOption = some 8 ∧
    (apply "and" 3 (some 5) none { exSchedM with sched := exSched }).2.sched = [] ∧
    (apply "and" 3 (some 5) none { exSchedM with sched := exSched }).2.tbl.l2v.toList =
      [(0, "a"), (1, "c"), (2, "b")] ∧
    (apply "and" 3 (some 5) none exSchedM).1.toOption = some 8 ∧
    (apply "and" 3 (some 5) none exSchedM).2.tbl.l2v.toList = [(0, "a"), (1, "b"), (2, "c")] := by
  decide +kernel

/-- what the theorem gives for that call: it returns (the `.sched` alternative is excluded by
the evaluation above), the result is the conjunction of the operands as they were, by name, and
the state the driver stores satisfies `DynInv` again -/
example : ∃ r m', apply "and" 3 (some 5) none { exSchedM with sched := exSched } = (.ok r, m') ∧
    DynPostG exSchedExt (ConnDoc .and 3 5) exSchedM r { m' with sched := [] } := by
  have h0 : DynOutS exSchedExt (ConnDoc .and 3 5) { exSchedM with sched := exSched }
      (apply "and" 3 (some 5) none { exSchedM with sched := exSched }) :=
    C09_apply_binary_transparent_anySchedule exSchedExt { exSchedM with sched := exSched }
      (exSchedM_dynInv.withSched exSched) "and" .and (by decide) (by decide) (by decide)
      (by decide) (by decide) 3 5 exSched_held3 exSched_held5
  rcases C09_anySchedule_recorded exSchedExt (ConnDoc .and 3 5) exSchedM exSched _ h0 with
    h | ⟨m', he, _⟩
  · exact h
  · exfalso
    have h1 := C09_recorded_schedule_example.2.1
    rw [he] at h1
    cases h1

/-- the `.sched` alternative is inhabited too, by schedules that do NOT describe a run of the code
from this state: a schedule starting with a swap order, and a sifting order that is not a
permutation of the declared variables -/
theorem C09_bogus_schedule_example :
    raisedErr (apply "and" 3 (some 5) none { exSchedM with sched := [.swap []] }).1 = some .sched ∧
    raisedErr (apply "and" 3 (some 5) none { exSchedM with sched := [.sift ["a", "b"]] }).1 =
      some .sched := by
  decide +kernel

/-- C17 under the recorded schedule: a call rejected in the RETRY (first attempt aborted while
building the node of `a`, sifting under the recorded schedule, second attempt rejected at the
undeclared name): `ValueError`, reordering still enabled, flag cleared, schedule consumed -/
theorem C17_recorded_schedule_example :
    raisedErr (cubeBody [("a", true), ("nosuch", true)]
      { exSchedM with ctx := true, sched := exSched }).1 = some .needsReordering ∧
    raisedErr (cube [("a", true), ("nosuch", true)] { exSchedM with sched := exSched }).1 =
      some .value ∧
    (cube [("a", true), ("nosuch", true)] { exSchedM with sched := exSched }).2.lastLen.isSome = true ∧
    (cube [("a", true), ("nosuch", true)] { exSchedM with sched := exSched }).2.ctx = false ∧
    (cube [("a", true), ("nosuch", true)] { exSchedM with sched := exSched }).2.sched = [] := by
  decide +kernel

example : DynTotalS exSchedExt { exSchedM with sched := exSched }
    (cube [("a", true), ("nosuch", true)] { exSchedM with sched := exSched }) :=
  C17_cube_dyn_anySchedule exSchedExt _ (exSchedM_dynInv.withSched exSched) _

/-- a history from `exSchedM` whose decorated calls carry recorded schedules: the call of the
example above with its non-default schedule (the request fires, sifting consumes the schedule),
the result `incref`ed, a second decorated call with no schedule, a call with a bogus operator
(rejected), a collection -/
def exSchedCalls : List SCall :=
  [⟨exSched, .op (.base (.apply "and" 3 (some 5) none))⟩,
   ⟨[], .op (.base (.incref 8))⟩,
   ⟨[], .op (.base (.apply "or" 8 (some 6) none))⟩,
   ⟨[], .op (.base (.apply "nand" 8 (some 6) none))⟩,
   ⟨[], .op (.base .collectGarbage)⟩]

theorem callGuardS_apply_of_ok {m : Mgr} {ext : Nat → Nat} {s : SchedItem} {sch : List SchedItem}
    {o : String} {u r : Int} {v w : Option Int} (h2 : 2 ≤ m.nvars)
    (h : (apply o u v w { m with sched := s :: sch }).1.toOption = some r) :
    CallGuardS m ext ⟨s :: sch, .op (.base (.apply o u v w))⟩ := by
  refine ⟨rfl, h2, ?_⟩
  show isSchedErr (mapRes Res.ref (apply o u v w { m with sched := s :: sch })).1 = false
  rw [mapRes_isSchedErr]
  generalize (apply o u v w { m with sched := s :: sch }).1 = x at h ⊢
  cases x
  · cases h
  · rfl

/-- the history is guarded (in particular the recorded schedule fits), so
`C09_held_every_history_recorded` applies to it from the state `exSchedM` -/
theorem exSchedCalls_guarded : CallsGuardedS exSchedCalls ⟨exSchedM, exSchedExt⟩ :=
  -- only the guard of the first call looks at the state: the recorded schedule fits, as evaluated in
  -- `C09_recorded_schedule_example`; `incref`, `apply` without a schedule and the collection have none
  ⟨callGuardS_apply_of_ok exSchedM_dynInv.nvars C09_recorded_schedule_example.2.1,
    trivial, trivial, trivial, trivial, trivial⟩

example : Good3 (runS exSchedCalls ⟨exSchedM, exSchedExt⟩).m (runS exSchedCalls ⟨exSchedM, exSchedExt⟩).ext :=
  levelS.from_good exSchedCalls ⟨exSchedM, exSchedExt⟩ exSchedM_good3 exSchedCalls_guarded

end DD
