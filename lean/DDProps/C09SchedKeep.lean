/-
  DDProps.C09SchedKeep — C07 / C09 / C17 under a recorded schedule, EVERY OUTCOME: the state after
  the model's own `.sched` report, and the consumption of the schedule.

  DDProps.C07 states reorderings as `OkOrSched Q r` and DDProps.C09Sched the decorated calls as
  "documented result, or `.sched`"; neither says anything about the state after `.sched`.
  DDProofs.DynSchedKeep closes that: `.sched` is raised only by `takeSwapOrders` / `takeSiftOrder`,
  between two completed swaps, so the state then satisfies the reordering invariant and is related
  to the start state exactly like the state after a normal return.  Consequences:
    * `C07_reorder_every_outcome`, `C07_swap_every_outcome`, `C07_reorderToPairs_every_outcome`;
    * `C07_sched_suffix`: the schedule left by a reordering is a SUFFIX of the schedule given —
      the model consumes the recorded orders front to back;
    * `C09_decorator_every_outcome` / `C17_total_dyn_every_outcome`: a decorated call under any
      recorded schedule, whatever it returns or raises (`.sched` included), leaves `DynInvS`, the
      names, the roots and every held reference by name; reordering is enabled afterwards iff it
      was unless the exception is `.sched`; the schedule left is a suffix of the schedule given.
  This is what makes the layers stated as "every outcome keeps the invariant" (autoref, C08)
  go through for every schedule (DDProps.C08Sched).
-/
import DDProofs.DynRejectedExpr
import DDProps.C09Sched
namespace DD

/-- C07: `reorder(bdd)` / `reorder(bdd, order)` with ANY arguments under ANY recorded schedule: if
the call returns, OR the model reports a schedule mismatch, the reordering invariant holds, every
held reference denotes the same function of the names, names / `nvars` / `roots` / `ctx` /
`_last_len` are as before and the schedule left is a suffix of the one given (`RelS`) -/
theorem C07_reorder_every_outcome (ext : Nat → Nat) (m : Mgr) (h : ReorderInv ext m)
    (order : Option (List (String × Int))) : KS ext m (reorder order m) :=
  reorder_keepS ext m h order

/-- C07: the same for `swap` (dict given, or `None`) -/
theorem C07_swap_every_outcome (ext : Nat → Nat) (m : Mgr) (h : ReorderInv ext m) (xa ya : VarOrLevel) :
    KS ext m (swap xa ya true m) ∧ KS ext m (swap xa ya false m) :=
  ⟨swap_given_keepS ext m h xa ya, swap_public_keepS ext m h xa ya⟩

/-- C07: … and for `reorder_to_pairs`, any pairs -/
theorem C07_reorderToPairs_every_outcome (ext : Nat → Nat) (m : Mgr) (h : ReorderInv ext m)
    (pairs : List (String × String)) : KS ext m (reorderToPairs pairs m) :=
  reorderToPairs_keepS ext m pairs m h (RelS.refl ext m)

/-- what `KS ext m r` says -/
theorem C07_every_outcome_means {α} (ext : Nat → Nat) (m : Mgr) (r : Except Err α × Mgr)
    (h : KS ext m r) (hr : (∃ a, r.1 = .ok a) ∨ r.1 = .error .sched) :
    ReorderInv ext r.2 ∧ HeldSame ext m r.2 ∧
    (∀ v, r.2.tbl.vars.contains v = m.tbl.vars.contains v) ∧ r.2.nvars = m.nvars ∧
    r.2.roots = m.roots ∧ r.2.ctx = m.ctx ∧ r.2.lastLen = m.lastLen ∧ r.2.sched <:+ m.sched := by
  obtain ⟨r1, m'⟩ := r
  have key : ReorderInv ext m' ∧ RelS ext m m' := by
    cases r1 with
    | ok a => exact h
    | error e =>
      rcases hr with ⟨a, ha⟩ | he
      · cases ha
      · have : e = Err.sched := by simpa using he
        exact h this
  exact ⟨key.1, key.2.held, key.2.names, key.2.nvars, key.2.roots, key.2.ctx, key.2.lastLen, key.2.sched⟩

/-- C07: sifting with two variables under any schedule — it returns or reports `.sched` (C07_sift),
and in BOTH cases the state is good -/
theorem C07_sift_every_outcome (ext : Nat → Nat) (m : Mgr) (h : ReorderInv ext m) (h2 : 2 ≤ m.nvars) :
    ∃ r m', reorder none m = (r, m') ∧ (r = .ok () ∨ r = .error .sched) ∧
      ReorderInv ext m' ∧ RelS ext m m' :=
  sift_every_outcome ext m h h2

/-- C07: the recorded schedule is consumed front to back -/
theorem C07_sched_suffix (ext : Nat → Nat) (m : Mgr) (h : ReorderInv ext m)
    (order : Option (List (String × Int))) (r : Except Err Unit) (m' : Mgr)
    (hrun : reorder order m = (r, m')) (hr : r = .ok () ∨ r = .error .sched) :
    m'.sched <:+ m.sched :=
  reorder_sched_suffix ext m h order r m' hrun hr

/-- C09 / C17, GENERIC, EVERY OUTCOME under any recorded schedule (hypotheses on the body as in
`C17_rejected_dyn`): see `DynResultK` — the documented result with `DynPostS` and the suffix
property; or an exception that is not the internal signal, with `DynKeptW` (state as between two
calls, names, roots, held references by name, suffix), reordering enabled iff it was unless the
exception is the model's `.sched` (then a schedule was recorded) -/
theorem C09_decorator_every_outcome {α} (ext : Nat → Nat) (f : M α) (ops : List Int)
    (Pre : Tbl → Prop) (Doc : Tbl → α → Tbl → Prop)
    (hbody : ∀ m0 : Mgr, Inv m0 → m0.ctx = true → OrderOK m0.tbl → Pre m0.tbl →
      (∀ u ∈ ops, m0.tbl.Mem u) → OutcomeE m0 (fun r m1 => Doc m0.tbl r m1.tbl) (f m0))
    (hpre : ∀ t t', Bridge ops t t' → Pre t → Pre t')
    (hdoc : ∀ t t' r t'', Bridge ops t t' → Pre t → Doc t' r t'' → Doc t r t'')
    (m : Mgr) (hD : DynInvS ext m) (hops : ∀ u ∈ ops, HeldX ext u) (hpre0 : Pre m.tbl) :
    DynResultK ext Doc m (tryToReorder f m) :=
  tryToReorder_rejectedK ext f ops Pre Doc hbody hpre hdoc m hD hops hpre0

/-- C17, every decorated operation with ARBITRARY arguments, any recorded schedule, EVERY outcome -/
theorem C17_total_dyn_every_outcome (ext : Nat → Nat) (m : Mgr) (hD : DynInvS ext m) :
    (∀ g u v, DynTotalK ext m (ite g u v m)) ∧
    (∀ op u v w, DynTotalK ext m (apply op u v w m)) ∧
    (∀ name, DynTotalK ext m (var name m)) ∧
    (∀ u q fa, DynTotalK ext m (quantify u q fa m)) ∧
    (∀ u vals, DynTotalK ext m (cofactor u vals m)) ∧
    (∀ f vs, DynTotalK ext m (compose f vs m)) ∧
    (∀ u d, DynTotalK ext m (rename u d m)) ∧
    (∀ d u, DynTotalK ext m (letOp d u m)) ∧
    (∀ d, DynTotalK ext m (cube d m)) ∧
    (∀ src u, DynTotalK ext m (copyBdd src u m)) ∧
    (∀ s, DynTotalK ext m (addExpr s m)) :=
  ⟨fun g u v => (ite_decorated g u v m).totalK hD,
   fun op u v w => (apply_decorated op u v w m).totalK hD,
   fun n => (var_decorated n m).totalK hD, fun u q fa => (quantify_decorated u q fa m).totalK hD,
   fun u vals => (cofactor_decorated u vals m).totalK hD,
   fun f vs => (compose_decorated f vs m).totalK hD, fun u d => (rename_decorated u d m).totalK hD,
   fun d u => (letOp_decorated d u m).totalK hD, fun d => (cube_decorated d m).totalK hD,
   fun src u => (copyBdd_decorated src u m).totalK hD, fun s => (addExpr_decorated s m).totalK hD⟩

/-- what `DynTotalK` says, spelled out, and the driver's form -/
theorem C17_every_outcome_means {α} (ext : Nat → Nat) (m : Mgr) (res : Except Err α × Mgr)
    (h : DynTotalK ext m res) :
    res.1 ≠ .error .needsReordering ∧ DynInvS ext res.2 ∧
    (∀ s, res.2.tbl.vars.contains s = m.tbl.vars.contains s) ∧
    (∀ w, HeldX ext w → res.2.tbl.Mem w ∧ ∀ σ, denN res.2.tbl w σ = denN m.tbl w σ) ∧
    res.2.roots = m.roots ∧ res.2.sched <:+ m.sched ∧
    (res.2.lastLen.isSome = m.lastLen.isSome ∨ (res.1 = .error .sched ∧ m.sched ≠ [])) ∧
    DynInv ext { res.2 with sched := [] } :=
  ⟨h.1, h.2.1.inv, h.2.1.names, h.2.1.held, h.2.1.roots, h.2.1.sched, h.2.2, h.2.1.inv.clear⟩

/-- non-vacuity: the bogus schedule of DDProps.C09Sched on `exSchedM` — the call answers `.sched`,
and the theorem says the state is still good -/
example : DynTotalK exSchedExt { exSchedM with sched := [.swap []] }
    (apply "and" 3 (some 5) none { exSchedM with sched := [.swap []] }) :=
  (C17_total_dyn_every_outcome exSchedExt _ (exSchedM_dynInv.withSched _)).2.1 "and" 3 (some 5) none

end DD
