/-
  DDProps.C10 — count, pick, pick_iter, support describe exactly the satisfying assignments.

  The statements are over a table `t` that is reduced, ordered and unique (`WFU t`, part of
  the manager invariant `Inv`; the recursion behind `count` needs `WF` only) and a reference `u`
  of it (`t.Mem u`).  Variables are levels;
  names enter through `_level_to_var` (`VarsOK`: every level has a name, names are distinct).
-/
import DDProofs.SatPickCount
import DDProofs.SatExample
namespace DD

/-- a stored node's function depends on the node's own variable -/
theorem C10_node_depends_on_own_level (t : Tbl) (hw : WFU t) (u : Int) (n : Nd)
    (h1 : u.natAbs ≠ 1) (hn : t.succ[u.natAbs]? = some n) : dependsOn t u n.lvl :=
  node_depends_on_own_level hw h1 hn

/-- `is_essential(u, var)`: `False` for an undeclared name; for a declared variable (at level
`i`) it answers, without error, whether the function of `u` depends on it -/
theorem C10_isEssential_spec (t : Tbl) (hw : WFU t) (u : Int) (hm : t.Mem u) (var : String) :
    (t.vars[var]? = none → isEssential t u var = .ok false) ∧
    (∀ i, t.vars[var]? = some i → i < t.nvars →
      ∃ b, isEssential t u var = .ok b ∧ (b = true ↔ dependsOn t u i)) :=
  isEssential_spec hw u hm var

/-- `support(u, as_levels=True)`: succeeds; strictly ascending (no duplicates); exactly the levels
the function depends on, which are exactly the levels of the nodes reachable from `u` -/
theorem C10_supportLevels_spec (t : Tbl) (hw : WFU t) (u : Int) (hm : t.Mem u) :
    ∃ l, supportLevels t u = .ok l ∧ l.Pairwise (· < ·) ∧ (∀ i, i ∈ l ↔ dependsOn t u i) ∧
      (∀ i, i ∈ l ↔ ∃ v n, Reach t u.natAbs v ∧ t.succ[v]? = some n ∧ n.lvl = i) := by
  obtain ⟨l, e, p, s⟩ := supportLevels_reach hw.toWF u hm
  exact ⟨l, e, p, fun i => (s i).trans (dependsOn_iff_reach hw i u hm).symm, s⟩

/-- `support(u)`: the names of those levels -/
theorem C10_support_spec (t : Tbl) (hw : WFU t) (hv : VarsOK t) (u : Int) (hm : t.Mem u) :
    ∃ ls, supportLevels t u = .ok ls ∧ (∀ i, i ∈ ls ↔ dependsOn t u i) ∧
      support t u = .ok (ls.map t.nameOf) := by
  obtain ⟨ls, e, _, s, h⟩ := support_spec hw hv u hm
  exact ⟨ls, e, s, h⟩

/-- `support(u)` by NAME on a state with a good order: succeeds; a name is returned iff it is
a declared variable on which the function depends; every returned name is declared -/
theorem C10_support_names (t : Tbl) (hw : WFU t) (hO : OrderOK t) (u : Int) (hm : t.Mem u) :
    ∃ names, support t u = .ok names ∧
      (∀ s, s ∈ names ↔ ∃ j, t.vars[s]? = some j ∧ dependsOn t u j) ∧
      (∀ s, s ∈ names → t.vars.contains s = true) := by
  obtain ⟨names, h1, h2, -, h4⟩ := support_inSupp hw hO u hm
  exact ⟨names, h1, h4, h2⟩

/-- `is_essential(u, x)` agrees with `x ∈ support(u)`: both calls succeed and the Boolean
answer is `True` exactly when the name is in the returned support (for an undeclared name:
`False`, and the name is not in the support) -/
theorem C10_isEssential_iff_support (t : Tbl) (hw : WFU t) (hO : OrderOK t) (u : Int) (hm : t.Mem u)
    (var : String) :
    ∃ b names, isEssential t u var = .ok b ∧ support t u = .ok names ∧ (b = true ↔ var ∈ names) :=
  isEssential_iff_support hw hO u hm var

/-- the levels of the nodes reachable from `u` (`InSupp`, the support of C03 / C04 / C11 / C13)
are the levels the function depends on -/
theorem C10_inSupp_iff_dependsOn (t : Tbl) (hw : WFU t) (u : Int) (hm : t.Mem u) (i : Nat) :
    InSupp t u i ↔ dependsOn t u i := inSupp_iff_dependsOn hw u hm i

/-- `count(u, n)` for `n ≥ |support|` is the number of assignments over the support satisfying
`u` (the base assignment `a0` outside the support is irrelevant) times `2^(n − |support|)`;
`count(u)` is that number itself -/
theorem C10_count_spec (t : Tbl) (hw : WFU t) (u : Int) (hm : t.Mem u) :
    ∃ ls, supportLevels t u = .ok ls ∧ (∀ i, i ∈ ls ↔ dependsOn t u i) ∧
      (∀ (n : Nat) (a0 : Asg), ls.length ≤ n →
        count t u (some (n : Int)) =
          .ok (((allAsg ls a0).filter (den t u)).length * 2 ^ (n - ls.length))) ∧
      (∀ a0 : Asg, count t u none = .ok ((allAsg ls a0).filter (den t u)).length) := by
  obtain ⟨ls, e, _, s, h1, h2, _⟩ := count_spec hw u hm
  exact ⟨ls, e, s, h1, h2⟩

/-- `count(u, n)` is refused (`ValueError`) when `n` is smaller than the support -/
theorem C10_count_refuses (t : Tbl) (hw : WFU t) (u : Int) (hm : t.Mem u) :
    ∃ ls, supportLevels t u = .ok ls ∧
      ∀ n : Int, n < ls.length → count t u (some n) = .error .value := by
  obtain ⟨ls, e, _, _, _, _, h3⟩ := count_spec hw u hm
  exact ⟨ls, e, h3⟩

/-- the recursion behind `count`: `_sat_len` returns the number of models over the compacted
levels from the node's level on (complement arithmetic, memo on the unsigned node) -/
theorem C10_satLen_core (t : Tbl) (hw : WF t) (ls : List Nat) (hs : ls.Pairwise (· < ·))
    (hb : ∀ x ∈ ls, x < t.nvars) (a0 : Asg) (slack : Nat) (mapLevel : List (Nat × Nat))
    (hmap : MapOK t ls slack mapLevel) (f : Nat) (u : Int) (d : Std.HashMap Nat Nat)
    (hm : t.Mem u) (hf : t.nvars + 1 ≤ f + t.levelOf u)
    (hr : ∀ x n, Reach t u.natAbs x → t.succ[x]? = some n → n.lvl ∈ ls) (hd : MemoOK t ls a0 d) :
    ∃ d', satLenF mapLevel (ls.length + slack) f t u d = .ok (cntFrom t ls a0 u, d') ∧
      MemoOK t ls a0 d' :=
  satLenF_spec hw hs hb a0 hmap f u hm hf d hr hd

/-- `pick_iter(u, care_vars)` (care set `care`, default = support): succeeds; every yielded
assignment (1) makes `u` true however it is completed, (2) mentions every care variable,
(3) is a dictionary (no repeated key), (4) with the default care set mentions exactly the
support; (5) two yielded assignments at different positions give opposite values to a common
variable; (6) every model of `u` is covered, (7) by exactly one of them -/
theorem C10_pickIter_spec (t : Tbl) (hw : WFU t) (hv : VarsOK t) (u : Int) (hm : t.Mem u)
    (care : Option (List String)) :
    ∃ supp L, support t u = .ok supp ∧ pickIter t u care = .ok L ∧
      (∀ m ∈ L, (∀ σ, AgreesN σ m → denN t u σ = true) ∧
        (∀ v ∈ care.getD supp, v ∈ m.map (·.1)) ∧ (m.map (·.1)).Nodup ∧
        (care = none → ∀ v, v ∈ m.map (·.1) ↔ v ∈ supp)) ∧
      L.Pairwise Incompat ∧
      (∀ σ, denN t u σ = true → ∃ m ∈ L, AgreesN σ m ∧ ∀ m' ∈ L, AgreesN σ m' → m' = m) :=
  pickIter_spec hw hv u hm care

/-- with the default care set, `pick_iter(u)` and `count(u)` both succeed and the number of
yielded assignments is `count(u)` (that they are the models over the support is the previous
theorem, not this one) -/
theorem C10_pickIter_default (t : Tbl) (hw : WFU t) (hv : VarsOK t) (u : Int) (hm : t.Mem u) :
    ∃ L n, pickIter t u none = .ok L ∧ count t u none = .ok n ∧ L.length = n :=
  pickIter_length hw hv u hm

/-- `pick(u, care_vars)` = first element of `pick_iter`, `None` when there is none:
it is `None` exactly for the reference `-1` (`false`), otherwise one of the yielded assignments -/
theorem C10_pick_spec (t : Tbl) (hw : WFU t) (hv : VarsOK t) (u : Int) (hm : t.Mem u)
    (care : Option (List String)) :
    ∃ L, pickIter t u care = .ok L ∧ (L.head? = none ↔ u = -1) ∧
      (∀ m, L.head? = some m → m ∈ L) := by
  obtain ⟨L, hL, h⟩ := pickIter_nil_iff hw hv u hm care
  refine ⟨L, hL, ?_, fun m hm' => List.mem_of_head? hm'⟩
  rw [List.head?_eq_none_iff]; exact h

/-! ### non-vacuity: the table of `x ∧ y` (node 3) meets all hypotheses -/

example : WFU exTbl ∧ VarsOK exTbl ∧ exTbl.Mem 3 ∧ exTbl.Mem (-3) :=
  ⟨exTbl_wfu, exTbl_varsOK, exTbl_mem3, exTbl_mem_neg3⟩
example : dependsOn exTbl 3 0 :=
  C10_node_depends_on_own_level exTbl exTbl_wfu 3 ⟨0, -1, 2⟩ (by decide) (by decide)
example := C10_isEssential_spec exTbl exTbl_wfu (-3) exTbl_mem_neg3 "y"
example : isEssential exTbl 3 "y" = .ok true := by rfl
example := C10_supportLevels_spec exTbl exTbl_wfu 3 exTbl_mem3
example : supportLevels exTbl 3 = .ok [0, 1] := by rfl
example := C10_support_spec exTbl exTbl_wfu exTbl_varsOK 3 exTbl_mem3
example : support exTbl 3 = .ok ["x", "y"] := by rfl
example := C10_support_names exTbl exTbl_wfu exTbl_orderOK 3 exTbl_mem3
example := C10_isEssential_iff_support exTbl exTbl_wfu exTbl_orderOK 3 exTbl_mem3 "y"
example := C10_isEssential_iff_support exTbl exTbl_wfu exTbl_orderOK (-3) exTbl_mem_neg3 "undeclared"
example : isEssential exTbl (-3) "undeclared" = .ok false := by rfl
example := (C10_inSupp_iff_dependsOn exTbl exTbl_wfu 3 exTbl_mem3 1).mp
  (InSupp.hi (n := ⟨0, -1, 2⟩) (by decide) (by decide) (InSupp.here (n := ⟨1, -1, 1⟩) (by decide) (by decide)))
example := C10_count_spec exTbl exTbl_wfu (-3) exTbl_mem_neg3
example := C10_count_refuses exTbl exTbl_wfu (-3) exTbl_mem_neg3
example := C10_pickIter_spec exTbl exTbl_wfu exTbl_varsOK (-3) exTbl_mem_neg3 (some ["y", "z"])
example := C10_pickIter_default exTbl exTbl_wfu exTbl_varsOK (-3) exTbl_mem_neg3
example : pickIter exTbl 3 none = .ok [[("y", true), ("x", true)]] := by rfl
example := C10_pick_spec exTbl exTbl_wfu exTbl_varsOK 3 exTbl_mem3 none
/-- `MapOK` is met by the map `count` builds (instance: no support, no slack, constant) -/
example : MapOK exTbl [] 0 [(exTbl.nvars, 0)] :=
  mapOK_count .nil (fun _ h => nomatch h) 0

end DD
