/-
  DDProps.C11 — copying between managers preserves the function BY VARIABLE NAME.

  The source manager enters as its table `s` (it is only read: `copyBdd` runs in the monad of
  the TARGET manager and has no way to write to `s`); the target is any manager with `Inv`
  (whatever nodes, computed-table entries and variable order it already has), reordering not
  enabled (`lastLen = none`).  `denName t u` is the value of `u` as a function of variable names.
-/
import DDProofs.UsedExample
import DDProofs.UsedObs
import DDProofs.VarsBijOrder
import DDProofs.Witness
namespace DD
open Std

/-- C11 (the recursion `_copy_bdd` between two managers; memo keyed by the unsigned source
node, shared between roots): for ANY sound memo — in particular the one left by the copies of
earlier roots — the recursion is total, adds only nodes to the target, keeps the memo sound and
returns a reference of the same sign that denotes the source function read through the level
map. -/
theorem C11_copyBddF (s : Tbl) (hS : WF s) (lm : List (Nat × Nat)) (fu : Nat) (m : Mgr)
    (u : Int) (cache : HashMap Nat Int)
    (hI : Inv m) (hoff : m.lastLen = none) (hu : s.Mem u) (hmemo : CMemo lm s m.tbl cache)
    (hlm : ∀ i, InSupp s u i → ∃ j, lm.lookup i = some j ∧ j < m.nvars)
    (hfuel : s.nvars + 1 ≤ fu + s.levelOf u) :
    ∃ r c' m', copyBddF (some s) lm fu u cache m = (.ok (r, c'), m') ∧
      Inv m' ∧ Ext m.tbl m'.tbl ∧ Frame m m' ∧ CMemo lm s m'.tbl c' ∧ m'.tbl.Mem r ∧
      (0 < r ↔ 0 < u) ∧
      ∀ a, den m'.tbl r a = den s u
        (fun i => match lm.lookup i with | some j => a j | none => false) := by
  obtain ⟨r, c', m', he, hs, hm, hp⟩ :=
    copyBddF_spec (some s) lm s hS fu m u cache hI hoff rfl hu hmemo hlm hfuel
  exact ⟨r, c', m', he, hs.inv, hs.ext, hs.frame, hm, hp.mr, hp.sign, hp.den⟩

/-- C11 (`copy_bdd(u, from_bdd, to_bdd)`): whatever the two variable orders (each a bijection
between names and levels, `VarsBij`) and whatever the target already holds, if every variable of
the support of `u` is declared in the target then
the copy succeeds and denotes the same function of the same-named variables; the target keeps
its invariant (hence stays canonical), its existing nodes and its variables. -/
theorem C11_copyBdd (s : Tbl) (hS : WFU s) (hVs : VarsBij s) (m : Mgr) (hI : Inv m)
    (hoff : m.lastLen = none) (hVm : VarsBij m.tbl) (u : Int) (hu : s.Mem u)
    (hsup : ∀ i v, InSupp s u i → s.l2v[i]? = some v → m.tbl.vars.contains v = true) :
    ∃ r m', copyBdd s u m = (.ok r, m') ∧ Inv m' ∧ Ext m.tbl m'.tbl ∧ m'.tbl.Mem r ∧
      Frame m m' ∧ (0 < r ↔ 0 < u) ∧
      (∀ a : String → Bool,
        den m'.tbl r (fun i => match m'.tbl.l2v[i]? with | some v => a v | none => false) =
        den s u (fun i => match s.l2v[i]? with | some v => a v | none => false)) := by
  obtain ⟨r, m', h1, h2, h3, h4, h5, h6, h7⟩ :=
    copyBdd_spec s hS.toWF hVs m hI hoff hVm u hu hsup
  exact ⟨r, m', h1, h2, h3, h4, h5, h6, fun a => congrFun h7 a⟩

/-- C11 in the `denName` vocabulary -/
theorem C11_copyBdd_denN (s : Tbl) (hS : WFU s) (hVs : VarsBij s) (m : Mgr) (hI : Inv m)
    (hoff : m.lastLen = none) (hVm : VarsBij m.tbl) (u : Int) (hu : s.Mem u)
    (hsup : ∀ i v, InSupp s u i → s.l2v[i]? = some v → m.tbl.vars.contains v = true) :
    ∃ r m', copyBdd s u m = (.ok r, m') ∧ denName m'.tbl r = denName s u := by
  obtain ⟨r, m', h1, _, _, _, _, _, h7⟩ := copyBdd_spec s hS.toWF hVs m hI hoff hVm u hu hsup
  exact ⟨r, m', h1, h7⟩

/-- C11 (the target stays canonical after the copy; its two variable maps are still inverse
bijections): two references of the target after the copy denote the same function iff they are
equal -/
theorem C11_target_canonical (s : Tbl) (hS : WFU s) (hVs : VarsBij s) (m : Mgr) (hI : Inv m)
    (hoff : m.lastLen = none) (hVm : VarsBij m.tbl) (u : Int) (hu : s.Mem u)
    (hsup : ∀ i v, InSupp s u i → s.l2v[i]? = some v → m.tbl.vars.contains v = true) :
    ∃ r m', copyBdd s u m = (.ok r, m') ∧ VarsBij m'.tbl ∧
      ∀ x y, m'.tbl.Mem x → m'.tbl.Mem y → ((∀ a, den m'.tbl x a = den m'.tbl y a) ↔ x = y) := by
  obtain ⟨r, m', h1, h2, _, _, h5, _, _⟩ := copyBdd_spec s hS.toWF hVs m hI hoff hVm u hu hsup
  exact ⟨r, m', h1, hVm.frame h5, fun x y hx hy => canonical m'.tbl h2.wf x y hx hy⟩

/-- C11 (copying twice gives the same reference) — a consequence of canonicity of the target -/
theorem C11_copy_twice (s : Tbl) (hS : WFU s) (hVs : VarsBij s) (m : Mgr) (hI : Inv m)
    (hoff : m.lastLen = none) (hVm : VarsBij m.tbl) (u : Int) (hu : s.Mem u)
    (hsup : ∀ i v, InSupp s u i → s.l2v[i]? = some v → m.tbl.vars.contains v = true) :
    ∃ r m' m'', copyBdd s u m = (.ok r, m') ∧ copyBdd s u m' = (.ok r, m'') := by
  obtain ⟨r, m', h1, h2, h3, h4, h5, _, h7⟩ := copyBdd_spec s hS.toWF hVs m hI hoff hVm u hu hsup
  have hoff' : m'.lastLen = none := by rw [h5.lastLen]; exact hoff
  have hsup' : ∀ i v, InSupp s u i → s.l2v[i]? = some v → m'.tbl.vars.contains v = true := by
    intro i v hi hv; rw [h5.vars]; exact hsup i v hi hv
  obtain ⟨r', m'', g1, g2, g3, g4, g5, _, g7⟩ :=
    copyBdd_spec s hS.toWF hVs m' h2 hoff' (hVm.frame h5) u hu hsup'
  -- both copies denote the source function by name, in a target that is still canonical
  have : r' = r := by
    refine eq_of_denName_eq g2.wf ((hVm.frame h5).frame g5) g4 (g3.mem h4) (g7.trans ?_)
    rw [← h7]
    funext a
    show den m'.tbl r (nameAsg m'.tbl a) = den m''.tbl r (nameAsg m''.tbl a)
    rw [den_ext g3 h2.wf.toWF r _ h4]
    congr 1
    funext i
    simp [nameAsg, g5.l2v]
  subst this
  exact ⟨r', m', m'', h1, g1⟩

/-- non-vacuity: the hypotheses are met by a source holding the variable `x` with its node and
a target declaring `x` (here the same table serves as source and as target manager) -/
example : ∃ (s : Tbl) (m : Mgr) (u : Int), WFU s ∧ VarsBij s ∧ Inv m ∧ m.lastLen = none ∧
    VarsBij m.tbl ∧ s.Mem u ∧ u.natAbs ≠ 1 ∧
    (∀ i v, InSupp s u i → s.l2v[i]? = some v → m.tbl.vars.contains v = true) := by
  obtain ⟨m, u, hI, hoff, hV, hu, hx, hn, hd, _⟩ := witness
  exact ⟨m.tbl, m, u, hI.wf, hV, hI, hoff, hV, hu, natAbs_ne_one_of_den_proj hd,
    fun i v _ hv => (vars_contains_iff _ _).mpr ⟨i, hV.l2v _ _ hv⟩⟩

/-! ### non-vacuity on USED managers with DIFFERENT orders

source: `usedM` (DDProofs.UsedExample; levels c, a, d, b; `f` = node 13 over all four variables);
target: `tgtM`, reached by its own guarded history — five variables in the order b, e, d, a, c
(another order, one more variable), its own nodes 2, 3, 4 with `b ∧ c` held. -/

def tgtHistory : List UOp :=
  [ .declare "b" none, .declare "e" none, .declare "d" none, .declare "a" none, .declare "c" none,
    .var "b", .var "c", .apply "and" 2 (some 3) none, .incref 4 ]

def tgtM : Mgr := (run tgtHistory St.init).m

theorem tgtM_good : GoodState tgtM (run tgtHistory St.init).ext :=
  reachable_inv tgtHistory (by decide)

private theorem used_sup_in_tgt (u : Int) : ∀ i v, InSupp usedM.tbl u i →
    usedM.tbl.l2v[i]? = some v → tgtM.tbl.vars.contains v = true := by
  intro i v hi hv
  have hlt := hi.lt_nvars usedM_good.inv.wf.toWF
  obtain ⟨h4, hall⟩ : usedM.tbl.nvars = 4 ∧
      ∀ k : Fin 4, (usedM.tbl.l2v[k.val]?).all (fun v => tgtM.tbl.vars.contains v) = true := by
    decide +kernel
  have := hall ⟨i, by omega⟩
  simpa [hv] using this

/-- `copy_bdd(¬f, used, target)`: every hypothesis holds; the copy denotes, BY NAME, what the
operand denotes in the source; the target stays canonical; a second copy returns the same
reference.  (`#eval`: the answer is −18 and the target grows from 3 to 17 nodes.) -/
example :
    (∃ r m', copyBdd usedM.tbl (-13) tgtM = (.ok r, m') ∧ Inv m' ∧ Ext tgtM.tbl m'.tbl ∧
      m'.tbl.Mem r ∧ Frame tgtM m' ∧ (0 < r ↔ 0 < (-13 : Int)) ∧
      (∀ a : String → Bool,
        den m'.tbl r (fun i => match m'.tbl.l2v[i]? with | some v => a v | none => false) =
        den usedM.tbl (-13)
          (fun i => match usedM.tbl.l2v[i]? with | some v => a v | none => false))) ∧
    (∃ r m' m'', copyBdd usedM.tbl (-13) tgtM = (.ok r, m') ∧
      copyBdd usedM.tbl (-13) m' = (.ok r, m'')) :=
  ⟨C11_copyBdd usedM.tbl usedM_good.inv.wf usedM_varsBij tgtM tgtM_good.inv tgtM_good.off
      (VarsBij.ofOrderOK tgtM_good.order) (-13) (usedM_mem (by decide)) (used_sup_in_tgt _),
   C11_copy_twice usedM.tbl usedM_good.inv.wf usedM_varsBij tgtM tgtM_good.inv tgtM_good.off
      (VarsBij.ofOrderOK tgtM_good.order) (-13) (usedM_mem (by decide)) (used_sup_in_tgt _)⟩

/-- the two orders really differ -/
example : tgtM.tbl.vars.toList = [("a", 3), ("b", 0), ("c", 4), ("d", 2), ("e", 1)] ∧
    usedM.tbl.vars.toList = [("a", 1), ("b", 3), ("c", 0), ("d", 2)] ∧
    tgtM.tbl.succ.keys = [2, 3, 4] := by decide +kernel

end DD
