/-
  DDProps.C11CopyVars — C11, last clause: `copy_vars` reproduces names and levels.
-/
import DDProofs.CopyVars
namespace DD
open Std

/-- C11 (`copy_vars(source, target)`): the source's order is a bijection (true of every reachable
manager: `reachable_inv`); the loop visits the source's variables in dictionary order — ANY
permutation `names` of them; the target's existing declarations are compatible with the source
(`VarsCompat`: it declares nothing, or some of the same variables at the same levels, and its own
two maps are inverse).  Then the
call returns normally and the target declares exactly the source's variables at the source's
levels, in both views (`vars` and `_level_to_var`); nodes, counts, caches, configuration and
roots of the target are untouched.
The TARGET afterwards is again a full reachable-state: its order is a bijection onto
`0..n-1` (`OrderOK`, with the source's number of variables, never fewer than before); if it had
the invariant `Inv` it still has it and every reference of the target denotes what it denoted;
exact counts stay exact for the same ledger.  (The source is a pure value: `copy_vars` reads
`source.vars` only, there is nothing of it that could change.) -/
theorem C11_copy_vars (src : Tbl) (hO : OrderOK src) (names : List String)
    (hperm : names.Perm src.vars.keys) (m : Mgr) (hc : VarsCompat src m.tbl) :
    ∃ m', copyVarsCore src names m = (.ok (), m') ∧
      (∀ v : String, m'.tbl.vars[v]? = src.vars[v]?) ∧ (∀ i : Nat, m'.tbl.l2v[i]? = src.l2v[i]?) ∧
      m'.tbl.succ = m.tbl.succ ∧ m'.ref = m.ref ∧ m'.pred = m.pred ∧ m'.cache = m.cache ∧
      m'.minFree = m.minFree ∧ m'.lastLen = m.lastLen ∧ m'.ctx = m.ctx ∧ m'.roots = m.roots ∧
      OrderOK m'.tbl ∧ m'.tbl.nvars = src.nvars ∧ m.tbl.nvars ≤ m'.tbl.nvars ∧
      (Inv m → Inv m' ∧ ∀ u, m.tbl.Mem u → m'.tbl.Mem u ∧ ∀ a, den m'.tbl u a = den m.tbl u a) ∧
      (∀ ext, RefExact m ext → RefExact m' ext) := by
  obtain ⟨m', h, a1, a2, a3, a4, a5, a6, a7, a8, a9, a10⟩ := copyVarsCore_spec src hO names hperm m hc
  exact ⟨m', h, a1, a2, a3, a4, a5, a6, a7, a8, a9, a10, copyVarsCore_inv src hO names hperm m hc h⟩

/-- into a fresh manager: the result has the invariant and the source's order -/
theorem C11_copy_vars_fresh (src : Tbl) (hO : OrderOK src) (names : List String)
    (hperm : names.Perm src.vars.keys) :
    ∃ m', copyVarsCore src names ({} : Mgr) = (.ok (), m') ∧
      (∀ v : String, m'.tbl.vars[v]? = src.vars[v]?) ∧ (∀ i : Nat, m'.tbl.l2v[i]? = src.l2v[i]?) ∧
      Inv m' ∧ OrderOK m'.tbl ∧ m'.tbl.nvars = src.nvars ∧ m'.lastLen = none ∧ m'.ctx = false := by
  obtain ⟨m', h, hv, hl, _, _, _, _, _, h8, h9, _, ho, hn, _, hi, _⟩ :=
    C11_copy_vars src hO names hperm {} (VarsCompat.empty src)
  exact ⟨m', h, hv, hl, (hi Inv.init).1, ho, hn, h8, h9⟩

theorem c11Ex_ok : Inv (addVarState {} "x") ∧ OrderOK (addVarState {} "x").tbl ∧
    OrderOK (addVarState (addVarState {} "x") "y").tbl ∧
    ∀ (v : String) (i : Nat), (addVarState {} "x").tbl.vars[v]? = some i →
      (addVarState (addVarState {} "x") "y").tbl.vars[v]? = some i := by
  obtain ⟨i1, o1, _⟩ := addVar_new_spec {} Inv.init OrderOK.empty "x" (by decide)
  obtain ⟨_, o2, _, _, hmono, _⟩ := addVar_new_spec (addVarState {} "x") i1 o1 "y" (by decide)
  exact ⟨i1, o1, o2, hmono⟩

/-- non-vacuity: a source with two variables (built by two `add_var` steps from the empty
manager, hence `OrderOK`), visited in the reverse of the sorted order -/
example : ∃ (src : Tbl) (names : List String), OrderOK src ∧ names.Perm src.vars.keys ∧
    names = ["y", "x"] := by
  refine ⟨(addVarState (addVarState {} "x") "y").tbl, ["y", "x"], c11Ex_ok.2.2.1, ?_, rfl⟩
  have : (addVarState (addVarState {} "x") "y").tbl.vars.keys = ["x", "y"] := by decide +kernel
  rw [this]
  exact List.Perm.swap "x" "y" []

/-- non-vacuity with a NON-EMPTY compatible target: the target already declares `x` at level 0
and satisfies `Inv`; the source declares `x`, `y` -/
example : ∃ (src : Tbl) (m : Mgr), OrderOK src ∧ VarsCompat src m.tbl ∧ Inv m ∧
    m.tbl.vars["x"]? = some 0 ∧ src.vars["y"]? = some 1 :=
  ⟨(addVarState (addVarState {} "x") "y").tbl, addVarState {} "x", c11Ex_ok.2.2.1,
    ⟨c11Ex_ok.2.2.2, c11Ex_ok.2.1.inv⟩, c11Ex_ok.1, by decide +kernel, by decide +kernel⟩

end DD
