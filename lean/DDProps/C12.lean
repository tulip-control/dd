/-
  DDProps.C12 — dump / load round trips (pickle, whole-manager pickle, JSON).

  The serialisers (pickle, json, shelve, the file system) are modelled, not verified:
  the theorems are about file *contents* (`PickleFile`, `ManagerFile`, `JsonFile`), which
  the check re-reads from every file the real code writes and compares with the model's.

  The pickle theorems are unconditional: they rest on the core specifications
  `findOrAdd_spec` (DDProofs.Ite), `iteF_spec` (DDProofs.IteOutcome) and the `add_var` facts (DDProofs.VarsProofs).
  They are about the loader that builds each node with `_ite` on the mapped variable (storing the
  file's triples as they are gives unordered nodes under another order: F3) and accepts a file
  without roots or with constant roots (F2, F12): any `levels`, any variable order of the receiving
  manager, roots given as a list, a dict or not at all, constants among them.  The remaining hypotheses describe what
  the loader itself may refuse (`levels=True` with a conflicting order) and exclude the
  level gaps of F7 (`Contig`).  JSON: the writer, and the reader for both values of `load_order` with
  dynamic reordering not enabled in the receiving manager (enabled: DDProps/C12Dyn.lean, C12Sched.lean).
-/
import DDProofs.DumpPerm
import DDProofs.DumpExamples
open Std
namespace DD

/-- `pickle_load_statement` — C12 for `BDD.load`, conditional on the loader's first loop — holds for
the current code; `C12_pickle_load_false` and `C12_pickle_load_levels` are the unconditional forms -/
theorem C12_pickle_load_statement : pickle_load_statement := by
  intro f levels tgt hwf hr hI hb hc hperm lm m1 hv hg
  obtain ⟨r, m', e, I, _, _, _, _, L⟩ := pickle_load f levels tgt hI hb hc hwf hr lm m1 hv hg hperm
  exact ⟨r, m', e, I, L⟩

/-- `BDD.load` on ANY well-formed content (whatever wrote it, whatever the order of the dict
items): the receiving manager keeps its invariant (reduced, ordered,
unique — canonicity is C02 on `Inv`), its order tables stay consistent, every node it had is
still there unchanged.  Exact reference counts are not part of `Inv` (C06's counting
invariant): `C12_load_target_counts_bdd` states them under the same hypotheses. -/
theorem C12_pickle_load (f : PickleFile) (levels : Bool)
    (m : Mgr) (hI : Inv m) (hb : DmpVarsBij m.tbl) (hc : m.ctx = false)
    (hwf : PickleWF f) (hr : RootsResolvable f)
    (lm : List (Nat × Nat)) (m1 : Mgr)
    (hv : loadVars levels f.vars.length f.vars [] m = (.ok lm, m1))
    (hg : Contig m1.tbl) (hperm : levels = true → levelsPermutation f.vars = true) :
    ∃ roots' m', loadPickle f levels m = (.ok roots', m') ∧ Inv m' ∧ DmpVarsBij m'.tbl ∧
      Contig m'.tbl ∧ m'.ctx = false ∧ (∀ u n, m.tbl.node? u = some n → m'.tbl.node? u = some n) ∧
      LoadedFrom f m'.tbl roots' :=
  pickle_load f levels m hI hb hc hwf hr lm m1 hv hg hperm

/-- `pickle_roundtrip` (general): dump the container `roots` of `src`, load the content into
`tgt`: same container shape, every member denotes — by variable name — the dumped function;
the invariant is kept and old nodes of `tgt` are untouched. -/
theorem C12_pickle_roundtrip
    (src : Mgr) (hIs : Inv src) (hvs : DmpVarsOK src.tbl)
    (roots : Roots) (f : PickleFile) (hd : dumpPickle src roots = .ok f)
    (levels : Bool) (tgt : Mgr) (hI : Inv tgt) (hb : DmpVarsBij tgt.tbl) (hc : tgt.ctx = false)
    (lm : List (Nat × Nat)) (m1 : Mgr)
    (hv : loadVars levels f.vars.length f.vars [] tgt = (.ok lm, m1))
    (hg : Contig m1.tbl) :
    ∃ roots' m', loadPickle f levels tgt = (.ok roots', m') ∧ Inv m' ∧ DmpVarsBij m'.tbl ∧
      (∀ u n, tgt.tbl.node? u = some n → m'.tbl.node? u = some n) ∧
      LoadedAs src.tbl roots m'.tbl roots' :=
  pickle_roundtrip src hIs hvs roots f hd levels tgt hI hb hc lm m1 hv hg

/-- `levels=False` into ANY manager with a consistent order (other order, extra or missing
variables, pre-existing nodes): never refused, returns the dumped functions.  (The inputs of F3.) -/
theorem C12_pickle_roundtrip_any_order
    (src : Mgr) (hIs : Inv src) (hvs : DmpVarsOK src.tbl)
    (roots : Roots) (f : PickleFile) (hd : dumpPickle src roots = .ok f)
    (tgt : Mgr) (hI : Inv tgt) (hO : OrderOK tgt.tbl) (hc : tgt.ctx = false) :
    ∃ roots' m', loadPickle f false tgt = (.ok roots', m') ∧ Inv m' ∧ OrderOK m'.tbl ∧
      (∀ u n, tgt.tbl.node? u = some n → m'.tbl.node? u = some n) ∧
      LoadedAs src.tbl roots m'.tbl roots' := by
  obtain ⟨roots', m', e, I, O, _, _, N, R⟩ :=
    pickle_load_false_any f (dumpPickle_wf hIs hvs hd) (dumpPickle_resolvable hIs hd) tgt hI hO hc
  exact ⟨roots', m', e, I, O, N, loadedAs_of_loadedFrom hIs hvs hd R⟩

/-- into a manager that already declares the variables at the same levels, either `levels` -/
theorem C12_pickle_roundtrip_declared
    (src : Mgr) (hIs : Inv src) (hvs : DmpVarsOK src.tbl)
    (roots : Roots) (f : PickleFile) (hd : dumpPickle src roots = .ok f)
    (levels : Bool) (tgt : Mgr) (hI : Inv tgt) (hb : DmpVarsBij tgt.tbl) (hg : Contig tgt.tbl)
    (hc : tgt.ctx = false)
    (hdecl : ∀ (var : String) (i : Nat), src.tbl.vars[var]? = some i → tgt.tbl.vars[var]? = some i) :
    ∃ roots' m', loadPickle f levels tgt = (.ok roots', m') ∧ Inv m' ∧ DmpVarsBij m'.tbl ∧
      (∀ u n, tgt.tbl.node? u = some n → m'.tbl.node? u = some n) ∧
      LoadedAs src.tbl roots m'.tbl roots' :=
  pickle_roundtrip_declared src hIs hvs roots f hd levels tgt hI hb hg hc hdecl

/-- into the same manager -/
theorem C12_pickle_roundtrip_same_manager (m : Mgr) (hI : Inv m) (hv : DmpVarsOK m.tbl)
    (hc : m.ctx = false) (roots : Roots) (f : PickleFile) (hd : dumpPickle m roots = .ok f)
    (levels : Bool) :
    ∃ roots' m', loadPickle f levels m = (.ok roots', m') ∧ Inv m' ∧ DmpVarsBij m'.tbl ∧
      (∀ u n, m.tbl.node? u = some n → m'.tbl.node? u = some n) ∧
      LoadedAs m.tbl roots m'.tbl roots' :=
  pickle_roundtrip_declared m hI hv roots f hd levels m hI hv.bij hv.contig hc (fun _ _ h => h)

/-- `roots_container`: list / dict shape (positions, keys) is what was given to `dump` -/
theorem C12_roots_container {m : Mgr} {roots : Roots} {f : PickleFile}
    (h : dumpPickle m roots = .ok f) : f.roots = roots := roots_container h

/-- the writer: well-formed content with resolvable roots, roots container stored as given,
same functions by name -/
theorem C12_pickle_dump_spec {m : Mgr} (hI : Inv m) (hv : DmpVarsOK m.tbl) {roots : Roots} {f : PickleFile}
    (h : dumpPickle m roots = .ok f) :
    PickleWF f ∧ RootsResolvable f ∧ f.roots = roots ∧
    ∀ α, ∀ u ∈ roots.values, evalPickle f u α = denBy m.tbl u α :=
  ⟨dumpPickle_wf hI hv h, dumpPickle_resolvable hI h, roots_container h,
   fun α => dumpPickle_eval hI hv h α⟩

/-- `add_var` keeps the invariant, also at a free level that is not the next one -/
theorem C12_addVar_inv {m m' : Mgr} {var : String} {lvl : Option Int} {j : Nat} (hI : Inv m)
    (h : addVar var lvl m = (.ok j, m')) : Inv m' := addVar_inv hI h

/-- `manager_roundtrip`: the whole-manager pickle written by `dumpManager` is read back by
`loadManager` as the manager that was stored (`MgrStored`) -/
theorem C12_manager_roundtrip (m : Mgr) (hv : DmpVarsOK m.tbl) (hp : PredShape m) :
    ∃ m', loadManager (dumpManager m) = .ok m' ∧ MgrStored m m' :=
  manager_roundtrip m hv hp

/-- the writer: the content `dump_json` writes is what `load_json` accepts, the roots
container is stored as given, and every root denotes the same function by name -/
theorem C12_json_dump_spec {m : Mgr} (hI : Inv m) (hv : DmpVarsOK m.tbl) {roots : Roots} {f : JsonFile}
    (h : dumpJson m roots = .ok f) :
    JsonWF f ∧ f.roots = roots ∧ ∀ α, ∀ u ∈ roots.values, evalJson f u α = denBy m.tbl u α :=
  ⟨dumpJson_jsonWF hI hv h, (dumpJson_spec hI hv h).2.1, (dumpJson_spec hI hv h).2.2⟩

/-- the reader, `load_order=False`, dynamic reordering not enabled (the `_partial` of
`json_load_statement`): any well-formed content loads into any good manager — other variable
order, other variables, pre-existing nodes, user references `e` — `assert_consistent` and the
`ref < 2` assertions pass, every temporary `Function` is released, the result has the
container shape of the file's roots and denotes, by variable name, what the file says; the
counts are exact for the ledger `e` plus one reference per returned `Function`; every node
the manager had is still there. -/
theorem C12_json_load_partial (f : JsonFile) (hf : JsonWF f) (tgt : Mgr) (e : Nat → Nat)
    (hg : GoodState tgt e) (hpn : PredNodes tgt) (hroots : ∀ r ∈ tgt.roots, tgt.tbl.Mem r) :
    ∃ roots' m', loadJson f false tgt = (.ok roots', m') ∧
      GoodState m' (extAdd e (roots'.values.map Int.natAbs)) ∧ PredNodes m' ∧
      (∀ u n, tgt.tbl.node? u = some n → m'.tbl.node? u = some n) ∧
      RootsRel (fun u r => m'.tbl.Mem r ∧ ∀ α, denBy m'.tbl r α = evalJson f u α) f.roots roots' :=
  loadJson_false_spec f hf tgt e hg hpn hroots

/-- C12, JSON, `load_order=False`, dynamic reordering not enabled in the receiving manager:
dump `roots` of `src` with `dump_json`, load the content into ANY good manager `tgt` (other
variable order, other variables, pre-existing nodes, references `e` held by the user): the
load succeeds; the result has the container shape of `roots`, every member denotes — by
variable name — the dumped function; the manager stays good with EXACT reference counts for
the ledger "`e` plus one reference per returned `Function`"; nothing of `tgt` is lost. -/
theorem C12_json_roundtrip_off (src : Mgr) (hIs : Inv src) (hvs : DmpVarsOK src.tbl)
    (roots : Roots) (f : JsonFile) (hd : dumpJson src roots = .ok f)
    (tgt : Mgr) (e : Nat → Nat) (hg : GoodState tgt e) (hpn : PredNodes tgt)
    (hroots : ∀ r ∈ tgt.roots, tgt.tbl.Mem r) :
    ∃ roots' m', loadJson f false tgt = (.ok roots', m') ∧
      GoodState m' (extAdd e (roots'.values.map Int.natAbs)) ∧
      (∀ u n, tgt.tbl.node? u = some n → m'.tbl.node? u = some n) ∧
      LoadedAs src.tbl roots m'.tbl roots' := by
  obtain ⟨roots', m', el, g, _, N, R⟩ :=
    loadJson_false_spec f (dumpJson_jsonWF hIs hvs hd) tgt e hg hpn hroots
  exact ⟨roots', m', el, g, N, loadedAs_of_dump hIs hvs hd R⟩

/-- `json_load_statement`: `_copy.load_json` for BOTH values of `load_order`; dynamic reordering
not enabled in the receiving manager.  `load_order=True` under `LoadOrderOK` (a content whose
every line is a root or a child, distinct names, no variable declared that the file lacks,
`bdd.roots` held, the model's default schedule):
`reorder(order)` by `C07_reorder_order_total` (default schedule), the unique table stays free of
stray entries through the swaps (`reorder_predNodes`), `find_or_add` by name at the level of the
file, the `ref < 3` assertion by exact counts and in-degrees, `assert_consistent`. -/
theorem C12_json_load : json_load_statement := json_load_holds

/-- `json_roundtrip`, both values of `load_order`; reordering not enabled in the target -/
theorem C12_json_roundtrip : json_roundtrip_statement := json_roundtrip_holds

/-- the reordering operations keep the unique table free of stray entries -/
theorem C12_reorder_predNodes (order : Option (List (String × Int))) (m : Mgr) (hp : PredNodes m)
    (hI : Inv (reorder order m).2) : PredNodes (reorder order m).2 := reorder_predNodes order m hp hI

/-- observation (outside the text of C12): after `load_json(load_order=True)` dynamic
reordering is enabled, whatever it was before -/
theorem C12_loadJson_loadOrder_enables_reordering (f : JsonFile) (m m' : Mgr) (r : Roots)
    (h : loadJson f true m = (.ok r, m')) : m'.lastLen.isSome = true :=
  loadJson_loadOrder_enables_reordering f m m' r h

/-- `dd.bdd.BDD.load` (pickle): the returned roots are plain integers — nothing is held for
the caller, the counts are exact for the SAME ledger -/
theorem C12_load_target_counts_bdd (ext : Nat → Nat) (f : PickleFile) (levels : Bool)
    (m : Mgr) (hI : Inv m) (hx : RefExact m ext) (hb : DmpVarsBij m.tbl) (hc : m.ctx = false)
    (hwf : PickleWF f) (hr : RootsResolvable f) (lm : List (Nat × Nat)) (m1 : Mgr)
    (hv : loadVars levels f.vars.length f.vars [] m = (.ok lm, m1)) (hg : Contig m1.tbl)
    (hperm : levels = true → levelsPermutation f.vars = true) :
    ∃ roots' m', loadPickle f levels m = (.ok roots', m') ∧ Inv m' ∧ RefExact m' ext ∧
      LoadedFrom f m'.tbl roots' :=
  pickle_load_counts ext f levels m hI hx hb hc hwf hr lm m1 hv hg hperm

/-- `dd.autoref.BDD.load` (pickle): each returned `Function` holds one reference, everything
else nets to zero -/
theorem C12_load_target_counts_autoref_pickle (ext : Nat → Nat) (f : PickleFile) (levels : Bool)
    (m : Mgr) (hI : Inv m) (hx : RefExact m ext) (hb : DmpVarsBij m.tbl) (hc : m.ctx = false)
    (hwf : PickleWF f) (hr : RootsResolvable f) (lm : List (Nat × Nat)) (m1 : Mgr)
    (hv : loadVars levels f.vars.length f.vars [] m = (.ok lm, m1)) (hg : Contig m1.tbl)
    (hperm : levels = true → levelsPermutation f.vars = true) :
    ∃ roots' m', loadPickleAutoref f levels m = (.ok roots', m') ∧ Inv m' ∧
      RefExact m' (extAdd ext (roots'.values.map Int.natAbs)) ∧ LoadedFrom f m'.tbl roots' := by
  obtain ⟨roots', m2, e2, I2, R2, L2⟩ := pickle_load_counts ext f levels m hI hx hb hc hwf hr lm m1 hv hg hperm
  have hmem : ∀ u ∈ roots'.values, m2.tbl.Mem u := by
    intro u hu
    obtain ⟨_, h, _⟩ := RootsRel.right_mem L2 u hu
    exact h
  obtain ⟨r, e3, I3, R3⟩ := wrapList_spec roots'.values m2 ext I2 R2 hmem
  refine ⟨roots', { m2 with ref := r }, ?_, I3, R3, L2⟩
  unfold loadPickleAutoref
  rw [e2]
  simp only [e3]

/-- `_copy.load_json` on `dd.autoref` (`load_order=False`, reordering not enabled): the `+1` of
`_make_node` and every temporary are released; each returned `Function` holds one reference -/
theorem C12_load_target_counts_json (f : JsonFile) (hf : JsonWF f) (tgt : Mgr) (e : Nat → Nat)
    (hg : GoodState tgt e) (hpn : PredNodes tgt) (hroots : ∀ r ∈ tgt.roots, tgt.tbl.Mem r) :
    ∃ roots' m', loadJson f false tgt = (.ok roots', m') ∧
      RefExact m' (extAdd e (roots'.values.map Int.natAbs)) := by
  obtain ⟨r, m', h1, h2, _⟩ := loadJson_false_spec f hf tgt e hg hpn hroots
  exact ⟨r, m', h1, h2.exact⟩

/-- the empty manager is a source and a target -/
example : Inv ({} : Mgr) ∧ DmpVarsOK ({} : Mgr).tbl ∧ OrderOK ({} : Mgr).tbl ∧ PredShape {} :=
  ⟨Inv.init, varsOK_empty, OrderOK.empty, by intro k u h; simp at h⟩

/-- every hypothesis of `C12_pickle_load` on a non-trivial input: the content `b ∧ a` written
under the order b < a (`fileBA`, well formed, root resolvable), `levels=False`, a fresh
manager declaring the OTHER order a < b (`mgrAB`), the loader's first loop, no gap -/
example : PickleWF fileBA ∧ RootsResolvable fileBA ∧ Inv mgrAB ∧ DmpVarsBij mgrAB.tbl ∧
    mgrAB.ctx = false ∧ Contig mgrAB.tbl ∧
    ∃ lm, loadVars false fileBA.vars.length fileBA.vars [] mgrAB = (.ok lm, mgrAB) := by
  refine ⟨fileBA_wf, ?_, mgrAB_nodeFree.inv, mgrAB_bij, rfl, mgrAB_contig, [(0, 1), (1, 0)], ?_⟩
  · intro u hu
    simp [fileBA, Roots.values] at hu
    subst hu
    exact Or.inr ⟨⟨3, 0, some (-1), some 2⟩, by simp [fileBA], rfl⟩
  · simp [loadVars, fileBA, addVar, bind, M.bind', M.get, mgrAB_vars, pure, M.pure']

/-- and what the model computes there (the input of F3): the ordered diagram of `a ∧ b` -/
example : (loadPickle fileBA false mgrAB).1 = .ok (.list [4]) ∧
    (loadPickle fileBA false mgrAB).2.tbl.node? 4 = some ⟨0, -1, 3⟩ ∧
    (loadPickle fileBA false mgrAB).2.tbl.node? 3 = some ⟨1, -1, 1⟩ := load_levels_false_ordered

/-- the inputs of F2 / F12: no roots → empty list; a constant root → itself -/
example : (loadPickle fileNoRoots true {}).1 = .ok (.list []) ∧
    (loadPickle fileConstRoot true {}).1 = .ok (.list [1]) :=
  ⟨load_roots_none_ok, load_constant_root_ok⟩

/-- JSON: the content of `b ∧ a` (order b < a) -/
def jsonBA : JsonFile :=
  { levelOfVar := [("a", 1), ("b", 0)]
    roots := .list [3]
    nodes := [⟨2, 1, -1, 1⟩, ⟨3, 0, -1, 2⟩] }

/-- the hypotheses of `C12_json_load_partial` on the fresh manager (no user references), and
what the model computes for `jsonBA` loaded into a manager declaring a < b: the ordered
diagram of `a ∧ b`, one reference on the returned root, none left on the temporaries -/
example : GoodState ({} : Mgr) (fun _ => 0) ∧ PredNodes {} ∧ (∀ r ∈ ({} : Mgr).roots, ({} : Mgr).tbl.Mem r) :=
  ⟨GoodState.init, by intro k u h; simp at h, by intro r hr; simp at hr⟩

example : (loadJson jsonBA false mgrAB).1 = .ok (.list [4]) ∧
    (loadJson jsonBA false mgrAB).2.tbl.node? 4 = some ⟨0, -1, 3⟩ ∧
    (loadJson jsonBA false mgrAB).2.ref[4]? = some 1 ∧
    (loadJson jsonBA false mgrAB).2.ref[2]? = some 0 := by decide +kernel

end DD
