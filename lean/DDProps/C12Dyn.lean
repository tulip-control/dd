/-
  DDProps.C12Dyn — C12 for `_copy.load_json` with dynamic reordering ENABLED in the receiving
  manager: the restriction left in `C12_json_load` is gone.  `load_order=False`: the loader calls
  the DECORATED `bdd.var` and `bdd.ite`; a reordering request may interrupt either, sifting runs and
  the call is retried, so levels may change while the file is read.  The operands of every call are
  live `Function`s (the shelf's and the temporaries'), so the C09 transparency of `var` / `ite`
  applies at every line: the induction carries "every shelf entry is held and denotes, by variable
  NAME, what the file says" (DDProofs.SchedDumpJsonDyn, any recorded schedule; here none).
  `load_order=True`: `configure(reordering=False)` comes first, so the run is that of `C12_json_load`.
-/
import DDProofs.DumpJsonDyn
import DDProps.C12
import DDProofs.DumpExamples
open Std
namespace DD

/-- C12, `load_json(load_order=False)`, dynamic reordering enabled (any threshold, a request
possible at every `find_or_add`): for every well-formed content the load returns; the state is
as between two calls (`DynInv`) for the caller's ledger `ext` plus ONE reference per returned
`Function` (every temporary and every shelf reference released); the reader's assertions pass
(`ref >= 2` in the loop of the checks, `assert_consistent`); reordering is enabled afterwards iff it
was; every reference the caller holds is still a node and denotes the same function of the
variable names; the returned container has the file's shape and every member denotes, by name,
what the file says. -/
theorem C12_json_load_dyn : json_load_dyn_statement := json_load_dyn_holds

/-- C12, JSON round trip into a manager with reordering enabled: `dump_json` from any manager,
`load_json(load_order=False)` into any manager in a between-calls state -/
theorem C12_json_roundtrip_dyn : json_roundtrip_dyn_statement := json_roundtrip_dyn_holds

/-- C12, `load_json(load_order=True)` with reordering enabled: the conclusion of `C12_json_load`
(`JsonLoaded … true`), under the conditions that `load_order=True` has anyway (`LoadOrderOK`:
rooted content, distinct names, no other variable declared; the schedule and the held roots are
part of `DynInv`).  The loader switches reordering off first, so the run is that of
`C12_json_load` from the same manager with the switch off; afterwards it is enabled (as it is for
managers that had it off) -/
theorem C12_json_load_order_dyn (f : JsonFile) (tgt : Mgr) (ext : Nat → Nat) (hf : JsonWF f)
    (hD : DynInv ext tgt) (hpn : PredNodes tgt) (hrt : Rooted f)
    (hnd : (f.levelOfVar.map (·.1)).Nodup)
    (hsub : ∀ v : String, tgt.tbl.vars.contains v = true → v ∈ f.levelOfVar.map (·.1)) :
    ∃ roots' m', loadJson f true tgt = (.ok roots', m') ∧ JsonLoaded f ext true roots' m' := by
  rw [loadJson_true_off]
  exact json_load_holds f true { tgt with lastLen := none } ext hf hD.goodOff (hpn.congr rfl rfl)
    (fun r hr => (HeldX.mem hD.refs (Or.inr (hD.roots r hr)) : tgt.tbl.Mem r))
    (fun _ => ⟨hrt, hnd, hD.sched, hD.roots, hsub⟩)

/-- the one-step lemma of the induction: one node line, reordering possibly enabled -/
theorem C12_makeNode_dyn {f : PickleFile} (hw : PickleWF f) (vat : List (Nat × String)) (ln : JLine)
    (e0 : Nat → Nat) (l : List Nat) (m : Mgr) (h : DynL e0 l m) (hk : KeysOK m)
    (cache : List (Nat × Int)) (hc : ShelfN f m.tbl cache)
    (hheld : ∀ k u, cache.lookup k = some u → u.natAbs ∈ l)
    (hnew : cache.lookup ln.id = none)
    (hline : PEntry.find f.succ ln.id = some ⟨ln.id, ln.lvl, some ln.lo, some ln.hi⟩) (hid : ln.id ≠ 1)
    (hlo : ln.lo.natAbs = 1 ∨ (cache.lookup ln.lo.natAbs).isSome)
    (hhi : ln.hi.natAbs = 1 ∨ (cache.lookup ln.hi.natAbs).isSome)
    (name : String) (hvat : vat.lookup ln.lvl = some name) (hname : f.nameAt ln.lvl = some name)
    (hdecl : m.tbl.vars.contains name = true) :
    ∃ u m', makeNode false vat ln cache m = (.ok (cache ++ [(ln.id, u)]), m') ∧
      DynL e0 (u.natAbs :: l) m' ∧ KeysOK m' ∧ ShelfN f m'.tbl (cache ++ [(ln.id, u)]) ∧
      DynKeeps (extAdd e0 l) m m' :=
  makeNode_dyn hw vat ln e0 l m h hk cache hc hheld hnew hline hid hlo hhi name hvat hname hdecl

/-! ### non-vacuity: `jsonBA` (the content of `b ∧ a`, order b < a) into `exDyn` — variables
a < b, nodes 2 = a, 3 = b, 4 = a ∧ b, the user holds node 4, reordering ENABLED and a request due
at the next `find_or_add` inside a context -/

/-- `jsonBA` is what `dump_json` writes for the manager `fileBA` was written from -/
theorem jsonBA_eq : dumpJson srcBA.m (.list [3]) = .ok jsonBA := by decide +kernel

theorem jsonBA_wf : JsonWF jsonBA :=
  dumpJson_jsonWF srcBA_good.inv srcBA_good.order.toDmp jsonBA_eq

theorem exDyn_predNodes : PredNodes exDyn :=
  (exM_eq ▸ reachable_predNodes exHist (by decide) : PredNodes exM).ghost _ _ _

/-- every hypothesis of `C12_json_load_dyn` holds on `jsonBA`, `exDyn`, the ledger "node 4" -/
example : JsonWF jsonBA ∧ DynInv exExt exDyn ∧ PredNodes exDyn ∧ exDyn.lastLen = some 1 ∧
    exDyn.fireIn = some 1 :=
  ⟨jsonBA_wf, exDyn_dynInv, exDyn_predNodes, rfl, rfl⟩

/-- and the model's run: the request fires inside the first decorated call, sifting runs (the
threshold moves to 6, the trigger is consumed), the call is retried; the result is the EXISTING
node 4 = `a ∧ b`, now with two references (the caller's and the new `Function`'s); the shelf's
and the temporaries' references are gone (node 2: 0, node 3: in-degree 1) -/
example : (loadJson jsonBA false exDyn).1 = .ok (.list [4]) ∧
    (loadJson jsonBA false exDyn).2.lastLen = some 6 ∧
    (loadJson jsonBA false exDyn).2.fireIn = none ∧
    (loadJson jsonBA false exDyn).2.ref.toList = [(1, 6), (2, 0), (3, 1), (4, 2)] := by
  decide +kernel

example : ∃ roots' m', loadJson jsonBA false exDyn = (.ok roots', m') ∧
    JsonLoadedDyn jsonBA exExt exDyn roots' m' :=
  C12_json_load_dyn jsonBA exDyn exExt jsonBA_wf exDyn_dynInv exDyn_predNodes

/-- `load_order=True` into the same manager: the order of the file (b < a) is imposed -/
example : (loadJson jsonBA true exDyn).1 = .ok (.list [4]) ∧
    (loadJson jsonBA true exDyn).2.tbl.vars.toList = [("a", 1), ("b", 0)] ∧
    (loadJson jsonBA true exDyn).2.lastLen.isSome = true := by decide +kernel

theorem jsonBA_rooted : Rooted jsonBA := dumpJson_rooted jsonBA_eq

example : ∃ roots' m', loadJson jsonBA true exDyn = (.ok roots', m') ∧
    JsonLoaded jsonBA exExt true roots' m' :=
  C12_json_load_order_dyn jsonBA exDyn exExt jsonBA_wf exDyn_dynInv exDyn_predNodes jsonBA_rooted
    (by decide) (by
      intro v hv
      have hk : exDyn.tbl.vars.keys = ["a", "b"] := by decide
      have : v ∈ exDyn.tbl.vars.keys := by rw [TreeMap.mem_keys, TreeMap.mem_iff_contains]; exact hv
      rw [hk] at this
      simpa [jsonBA] using this)

end DD
