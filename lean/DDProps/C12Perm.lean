/-
  DDProps.C12Perm — C12 and the ORDER of the items of a file, and the round trips into a manager
  that declares the source's variables, without hypotheses about the callee's own intermediate
  results.

  The model's `dumpPickle` writes `vars` sorted by name (the insertion order of Python's
  `bdd.vars` dict is not part of the model state: `Tbl.vars` is a map) and `succ` in ascending id
  order (Python: iteration order of a `set`).  `dump_json` writes its node lines in a determined
  order — the recursion `dumpJsonF` of the model — but `level_of_var` in dict order.  The file
  Python writes is therefore a PERMUTATION of the model's file, and the theorems are stated for
  every permutation: permuting the items keeps well-formedness and what every id denotes by name
  (JSON: under "children first" of the permuted lines, the one thing `_make_node` relies on), and the
  round trips read `∀ f', f' ≈ dump(src, roots) → load(f', …)` returns the dumped functions by name.
-/
import DDProofs.DumpPerm
import DDProofs.UsedExample
import DDProps.Histories
open Std
namespace DD

/-- C12: a pickle content with its items in ANY order -/
theorem C12_pickle_perm {f f' : PickleFile} (h : PickleFile.Equiv f' f) (hV : VarsWF f.vars)
    (hu : UniqueIds f.succ) :
    (PickleWF f → PickleWF f') ∧ VarsWF f'.vars ∧ UniqueIds f'.succ ∧
    (RootsResolvable f → RootsResolvable f') ∧ ∀ u α, evalPickle f' u α = evalPickle f u α :=
  pickle_perm h hV hu

/-- C12: every dump has one entry per id (so that `C12_pickle_perm` applies to it) -/
theorem C12_dump_uniqueIds {m : Mgr} {roots : Roots} {f : PickleFile}
    (h : dumpPickle m roots = .ok f) : UniqueIds f.succ := dumpPickle_uniqueIds h

/-- C12: a JSON content with `level_of_var` in any order and the node lines in any order that
keeps children first -/
theorem C12_json_perm {f f' : JsonFile} (h : JsonFile.Equiv f' f) (hf : JsonWF f)
    (hcf : ChildrenFirst f'.nodes) :
    JsonWF f' ∧ (∀ u α, evalJson f' u α = evalJson f u α) ∧ (Rooted f → Rooted f') :=
  json_perm h hf hcf

/-- C12: `dump(file, roots); load(file)` (defaults), every order of the file's items -/
theorem C12_pickle_roundtrip_levels_perm (src : Mgr) (hIs : Inv src) (hOs : OrderOK src.tbl) (roots : Roots)
    (hroots : ∀ u ∈ roots.values, src.tbl.Mem u)
    (tgt : Mgr) (hI : Inv tgt) (hO : OrderOK tgt.tbl) (hc : tgt.ctx = false)
    (hcomp : levelsCompatible tgt.tbl src.tbl.vars.toList = true) :
    ∃ f, dumpPickle src roots = .ok f ∧ ∀ f', PickleFile.Equiv f' f →
      ∃ roots' m', loadPickle f' true tgt = (.ok roots', m') ∧
        Inv m' ∧ OrderOK m'.tbl ∧ (∀ ext, RefExact tgt ext → RefExact m' ext) ∧
        (∀ (v : String) (i : Nat), src.tbl.vars[v]? = some i → m'.tbl.vars[v]? = some i) ∧
        (∀ u n, tgt.tbl.node? u = some n → m'.tbl.node? u = some n) ∧
        LoadedAs src.tbl roots m'.tbl roots' :=
  pickle_roundtrip_levels_perm src hIs hOs roots hroots tgt hI hO hc hcomp

/-- C12: `load(file, levels=False)` of ANY well-formed content into any manager with a bijective
order -/
theorem C12_pickle_load_false (f : PickleFile) (hwf : PickleWF f) (hr : RootsResolvable f)
    (tgt : Mgr) (hI : Inv tgt) (hO : OrderOK tgt.tbl) (hc : tgt.ctx = false) :
    ∃ roots' m', loadPickle f false tgt = (.ok roots', m') ∧ Inv m' ∧ OrderOK m'.tbl ∧
      (∀ ext, RefExact tgt ext → RefExact m' ext) ∧
      (∀ (v : String) (i : Nat), tgt.tbl.vars[v]? = some i → m'.tbl.vars[v]? = some i) ∧
      (∀ u n, tgt.tbl.node? u = some n → m'.tbl.node? u = some n) ∧ LoadedFrom f m'.tbl roots' :=
  pickle_load_false_any f hwf hr tgt hI hO hc

/-- C12: `dump(file, roots); load(file, levels=False)`, every order of the file's items, ANY
target with a bijective order -/
theorem C12_pickle_roundtrip_any_order_perm (src : Mgr) (hIs : Inv src) (hOs : OrderOK src.tbl) (roots : Roots)
    (hroots : ∀ u ∈ roots.values, src.tbl.Mem u)
    (tgt : Mgr) (hI : Inv tgt) (hO : OrderOK tgt.tbl) (hc : tgt.ctx = false) :
    ∃ f, dumpPickle src roots = .ok f ∧ ∀ f', PickleFile.Equiv f' f →
      ∃ roots' m', loadPickle f' false tgt = (.ok roots', m') ∧ Inv m' ∧ OrderOK m'.tbl ∧
        (∀ ext, RefExact tgt ext → RefExact m' ext) ∧
        (∀ (v : String) (i : Nat), tgt.tbl.vars[v]? = some i → m'.tbl.vars[v]? = some i) ∧
        (∀ u n, tgt.tbl.node? u = some n → m'.tbl.node? u = some n) ∧
        LoadedAs src.tbl roots m'.tbl roots' :=
  pickle_roundtrip_any_order_perm src hIs hOs roots hroots tgt hI hO hc

/-- C12, pickle, `levels=False` into the FRESH manager `BDD()`, for EVERY order of the items of
the dump: the load returns; the variable ORDER that results is the order of the ITEMS OF THE FILE
(the `k`-th item of `vars` is at level `k` — Python: the insertion order of the source's
`bdd.vars` dict, NOT the source's levels); the counts are exact; the functions by NAME are the
dumped ones whatever that order is -/
theorem C12_pickle_roundtrip_false_fresh_perm (src : Mgr) (hIs : Inv src) (hOs : OrderOK src.tbl)
    (roots : Roots) (hroots : ∀ u ∈ roots.values, src.tbl.Mem u) :
    ∃ f, dumpPickle src roots = .ok f ∧ ∀ f', PickleFile.Equiv f' f →
      ∃ roots' m', loadPickle f' false {} = (.ok roots', m') ∧ Inv m' ∧ OrderOK m'.tbl ∧
        RefExact m' (fun _ => 0) ∧ m'.nvars = f'.vars.length ∧
        (∀ k (hk : k < f'.vars.length), m'.tbl.vars[(f'.vars[k]).1]? = some k) ∧
        LoadedAs src.tbl roots m'.tbl roots' := by
  obtain ⟨f, hd, H⟩ := pickle_roundtrip_any_order_perm src hIs hOs roots hroots {} Inv.init OrderOK.empty rfl
  refine ⟨f, hd, fun f' he => ?_⟩
  obtain ⟨roots', m', e, I, O, X, _, _, R⟩ := H f' he
  obtain ⟨hwf, hV, _⟩ := dumpPickle_equiv_spec hIs hOs.toDmp hd he
  obtain ⟨lm, m1, hv, P, _, N⟩ := loadVars_false_positions f'.vars.length f'.vars [] {} Inv.init
    OrderOK.empty hV.names (fun p _ => by show ({} : TreeMap String Nat)[p.1]? = none; simp)
    (fun p hp => hwf.bound p.1 p.2 hp)
  have hvars := loadPickle_false_vars f' {} Inv.init rfl lm m1 hv
  rw [e] at hvars
  have h0 : ({} : Mgr).nvars = 0 := rfl
  refine ⟨roots', m', e, I, O, X _ GoodState.init.exact, ?_, ?_, R⟩
  · show m'.tbl.vars.size = _
    rw [hvars]
    have : m1.tbl.vars.size = m1.nvars := rfl
    rw [this, N, h0]; simp
  · intro k hk
    rw [hvars, P k hk, h0]; simp

/-- C12: into a manager that declares the source's variables at the source's levels, either
`levels`, every order of the items (`C12_pickle_roundtrip_declared` asks in addition that the dump
and the loader's first loop are given) -/
theorem C12_pickle_roundtrip_declared_total (src : Mgr) (hIs : Inv src) (hOs : OrderOK src.tbl) (roots : Roots)
    (hroots : ∀ u ∈ roots.values, src.tbl.Mem u) (levels : Bool)
    (tgt : Mgr) (hI : Inv tgt) (hO : OrderOK tgt.tbl) (hc : tgt.ctx = false)
    (hdecl : ∀ (var : String) (i : Nat), src.tbl.vars[var]? = some i → tgt.tbl.vars[var]? = some i) :
    ∃ f, dumpPickle src roots = .ok f ∧ ∀ f', PickleFile.Equiv f' f →
      ∃ roots' m', loadPickle f' levels tgt = (.ok roots', m') ∧ Inv m' ∧ OrderOK m'.tbl ∧
        (∀ ext, RefExact tgt ext → RefExact m' ext) ∧
        (∀ (v : String) (i : Nat), tgt.tbl.vars[v]? = some i → m'.tbl.vars[v]? = some i) ∧
        (∀ u n, tgt.tbl.node? u = some n → m'.tbl.node? u = some n) ∧
        LoadedAs src.tbl roots m'.tbl roots' :=
  pickle_roundtrip_declared_total src hIs hOs roots hroots levels tgt hI hO hc hdecl

/-- C12: into the same manager, either `levels`, every order of the items
(`C12_pickle_roundtrip_same_manager` asks in addition that the dump is given) -/
theorem C12_pickle_roundtrip_same_manager_total (m : Mgr) (hI : Inv m) (hO : OrderOK m.tbl)
    (hc : m.ctx = false) (roots : Roots) (hroots : ∀ u ∈ roots.values, m.tbl.Mem u) (levels : Bool) :
    ∃ f, dumpPickle m roots = .ok f ∧ ∀ f', PickleFile.Equiv f' f →
      ∃ roots' m', loadPickle f' levels m = (.ok roots', m') ∧ Inv m' ∧ OrderOK m'.tbl ∧
        (∀ ext, RefExact m ext → RefExact m' ext) ∧
        (∀ (v : String) (i : Nat), m.tbl.vars[v]? = some i → m'.tbl.vars[v]? = some i) ∧
        (∀ u n, m.tbl.node? u = some n → m'.tbl.node? u = some n) ∧
        LoadedAs m.tbl roots m'.tbl roots' :=
  pickle_roundtrip_declared_total m hI hO roots hroots levels m hI hO hc (fun _ _ h => h)

/-- C12: JSON round trip, either `load_order`, `level_of_var` in any order, the node lines in any
order that keeps children first -/
theorem C12_json_roundtrip_perm (src : Mgr) (hIs : Inv src) (hOs : OrderOK src.tbl) (roots : Roots)
    (hn : roots ≠ .none) (hne : roots.values ≠ []) (hroots : ∀ u ∈ roots.values, src.tbl.Mem u)
    (lo : Bool) (tgt : Mgr) (e : Nat → Nat) (hg : GoodState tgt e) (hpn : PredNodes tgt)
    (hr : ∀ r ∈ tgt.roots, tgt.tbl.Mem r)
    (hlo : lo = true → tgt.sched = [] ∧ (∀ r ∈ tgt.roots, 0 < e r.natAbs) ∧
      ∀ v : String, tgt.tbl.vars.contains v = true → src.tbl.vars.contains v = true) :
    ∃ f, dumpJson src roots = .ok f ∧ ∀ f', JsonFile.Equiv f' f → ChildrenFirst f'.nodes →
      ∃ roots' m', loadJson f' lo tgt = (.ok roots', m') ∧ JsonLoaded f' e lo roots' m' ∧
        LoadedAs src.tbl roots m'.tbl roots' :=
  have ⟨f, hd⟩ := dumpJson_total src hIs roots hn hne hroots
  ⟨f, hd, fun _ he hcf => json_roundtrip_equiv hIs hOs.toDmp hd he hcf lo tgt e hg hpn hr hlo⟩

/-! ### non-vacuity on the USED manager `usedM` (c < a < d < b; 13 nodes; the user holds
`a ∧ b` once and the four-variable node 13 twice) -/

/-- the roots of the examples: the four-variable function, the complement of `a ∧ b`, TRUE -/
def usedRoots : Roots := .dict [("f", 13), ("g", -4), ("t", 1)]

theorem usedRoots_mem : ∀ u ∈ usedRoots.values, usedM.tbl.Mem u := by
  intro u hu
  have : u = 13 ∨ u = -4 ∨ u = 1 := by simpa [usedRoots, Roots.values] using hu
  rcases this with rfl | rfl | rfl
  · exact usedM_mem13
  · exact mem_neg usedM_mem4
  · exact Or.inl rfl

def usedFile : PickleFile := (dumpPickle usedM usedRoots).toOption.getD default

theorem usedFile_eq : dumpPickle usedM usedRoots = .ok usedFile := by
  obtain ⟨f, hf⟩ := dumpPickle_total usedM usedM_good.inv usedRoots usedRoots_mem
  unfold usedFile
  rw [hf]; rfl

/-- the same items in the REVERSE order (the names then read d, c, b, a; the ids descend) -/
def usedFileRev : PickleFile :=
  { vars := usedFile.vars.reverse, succ := usedFile.succ.reverse, roots := usedFile.roots }

-- stated for any file first: compared directly, the kernel would evaluate both files
theorem usedFileRev_equiv : PickleFile.Equiv usedFileRev usedFile := PickleFile.Equiv.reverse usedFile

/-- the default round trip of the used manager into ITSELF and into `BDD()`, the file read in the
reverse order of its items -/
example : (∃ roots' m', loadPickle usedFileRev true usedM = (.ok roots', m') ∧ Inv m' ∧ OrderOK m'.tbl ∧
      RefExact m' usedExt ∧ LoadedAs usedM.tbl usedRoots m'.tbl roots') ∧
    (∃ roots' m', loadPickle usedFileRev true {} = (.ok roots', m') ∧ Inv m' ∧
      (∀ (v : String) (i : Nat), usedM.tbl.vars[v]? = some i → m'.tbl.vars[v]? = some i) ∧
      LoadedAs usedM.tbl usedRoots m'.tbl roots') := by
  constructor
  · obtain ⟨f, hd, H⟩ := C12_pickle_roundtrip_same_manager_total usedM usedM_good.inv usedM_good.order
      usedM_good.ctx usedRoots usedRoots_mem true
    rw [usedFile_eq] at hd; cases hd
    obtain ⟨roots', m', e, I, O, X, _, _, R⟩ := H usedFileRev usedFileRev_equiv
    exact ⟨roots', m', e, I, O, X _ usedM_good.exact, R⟩
  · obtain ⟨f, hd, H⟩ := C12_pickle_roundtrip_levels_perm usedM usedM_good.inv usedM_good.order usedRoots
      usedRoots_mem {} Inv.init OrderOK.empty rfl (levelsCompatible_fresh _)
    rw [usedFile_eq] at hd; cases hd
    obtain ⟨roots', m', e, I, _, _, V, _, R⟩ := H usedFileRev usedFileRev_equiv
    exact ⟨roots', m', e, I, V, R⟩

/-- `levels=False` of the reversed file into ANOTHER used manager (`a < b` only, nodes 2, 3, 4, the
user holds node 4): never refused, the dumped functions by name -/
example : ∃ roots' m', loadPickle usedFileRev false (run (exHistory.take 12) St.init).m = (.ok roots', m') ∧
    Inv m' ∧ OrderOK m'.tbl ∧ RefExact m' (run (exHistory.take 12) St.init).ext ∧
    LoadedAs usedM.tbl usedRoots m'.tbl roots' := by
  have hg : GoodState (run (exHistory.take 12) St.init).m (run (exHistory.take 12) St.init).ext :=
    reachable_inv _ (opsGuarded_take 12 exHistory_guarded)
  obtain ⟨f, hd, H⟩ := C12_pickle_roundtrip_any_order_perm usedM usedM_good.inv usedM_good.order usedRoots
    usedRoots_mem _ hg.inv hg.order hg.ctx
  rw [usedFile_eq] at hd; cases hd
  obtain ⟨roots', m', e, I, O, X, _, _, R⟩ := H usedFileRev usedFileRev_equiv
  exact ⟨roots', m', e, I, O, X _ hg.exact, R⟩

/-- what the model computes: the file (names sorted, ids ascending: 8 of the 13 nodes are
reachable), and the orders that result in a fresh manager — the SOURCE's levels with the default
`levels=True` whatever the item order, the ITEM order with `levels=False` -/
example : usedFile.vars = [("a", 1), ("b", 3), ("c", 0), ("d", 2)] ∧
    usedFile.succ.map (·.id) = [1, 3, 4, 8, 9, 10, 11, 12, 13] ∧
    (loadPickle usedFileRev true {}).2.tbl.vars.toList = [("a", 1), ("b", 3), ("c", 0), ("d", 2)] ∧
    (loadPickle usedFile false {}).2.tbl.vars.toList = [("a", 0), ("b", 1), ("c", 2), ("d", 3)] ∧
    (loadPickle usedFileRev false {}).2.tbl.vars.toList = [("a", 3), ("b", 2), ("c", 1), ("d", 0)] := by
  decide +kernel

end DD
