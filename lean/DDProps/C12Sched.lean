/-
  DDProps.C12Sched — C12 for `_copy.load_json(load_order=False)` with dynamic reordering ENABLED
  in the receiving manager, for EVERY RECORDED ITERATION SCHEDULE.

  `C12_json_load_dyn` / `C12_json_roundtrip_dyn` (DDProps.C12Dyn) assume `DynInv ext tgt`, which
  contains `tgt.sched = []`, while the differential check runs the `load_json` line with the recorded
  schedule of ALL the siftings of that load put into `tgt.sched` (one schedule, consumed front to back
  by the successive decorated calls).  Here, from `DynInvS ext tgt` — whatever is in `tgt.sched` — the
  load returns with `JsonLoadedS` (`JsonLoadedDyn` with `DynInvS` for `DynInv`), or one of the siftings
  reported a mismatch: the `try:` body (`jsonTry`) failed with the model's `.sched` and `_load_json`
  raises.  That `.sched` does not occur for a schedule recorded from a real run is the harness's tie
  (DDProps.C09Sched).  `load_order=True` switches reordering off first: its only consumer of the
  schedule is the explicit `reorder(order)` (`C07_reorder_order`); for every recorded schedule:
  DDProps.C17Load2Sched.
-/
import DDProps.C12Dyn
open Std
namespace DD

/-- the state after `load_json(load_order=False)` under an arbitrary recorded schedule:
`JsonLoadedDyn` with `DynInvS` -/
structure JsonLoadedS (f : JsonFile) (ext : Nat → Nat) (tgt : Mgr) (roots' : Roots) (m' : Mgr) : Prop where
  dyn : DynInvS (extAdd ext (roots'.values.map Int.natAbs)) m'
  pred : PredNodes m'
  reordering : m'.lastLen.isSome = tgt.lastLen.isSome
  oldNames : ∀ v : String, tgt.tbl.vars.contains v = true → m'.tbl.vars.contains v = true
  fileNames : ∀ v ∈ f.levelOfVar.map (·.1), m'.tbl.vars.contains v = true
  regRoots : m'.roots = tgt.roots
  held : ∀ w, HeldX ext w → m'.tbl.Mem w ∧ ∀ σ, denN m'.tbl w σ = denN tgt.tbl w σ
  roots : RootsRel (fun u r => m'.tbl.Mem r ∧ ∀ σ, denN m'.tbl r σ = evalJson f u σ) f.roots roots'

theorem JsonLoadedS.of {f : JsonFile} {ext : Nat → Nat} {tgt : Mgr} {roots' : Roots} {m' : Mgr}
    (h : S.JsonLoadedDyn f ext tgt roots' m') : JsonLoadedS f ext tgt roots' m' :=
  ⟨h.dyn, h.pred, h.reordering, h.oldNames, h.fileNames, h.regRoots, h.held, h.roots⟩

/-- what the driver stores after the line (`{ m' with sched := [] }`) satisfies the conclusion of
DDProps.C12Dyn literally -/
theorem JsonLoadedS.driver {f : JsonFile} {ext : Nat → Nat} {tgt : Mgr} {sch : List SchedItem}
    {roots' : Roots} {m' : Mgr} (h : JsonLoadedS f ext { tgt with sched := sch } roots' m') :
    JsonLoadedDyn f ext tgt roots' { m' with sched := [] } :=
  ⟨h.dyn.clear, h.pred.congr rfl rfl, h.reordering, h.oldNames, h.fileNames, h.regRoots, h.held, h.roots⟩

/-- C12, `load_json(load_order=False)`, dynamic reordering enabled, EVERY RECORDED SCHEDULE: for
every well-formed content, from `DynInvS ext tgt` (whatever is in `tgt.sched`): the load returns
with `JsonLoadedS`, or the `try:` body failed with the model's `.sched` (a sifting inside one of
the decorated `var` / `ite` calls found that the recorded schedule does not fit) and the load
raises -/
theorem C12_json_load_dyn_anySchedule (f : JsonFile) (tgt : Mgr) (ext : Nat → Nat) (hf : JsonWF f)
    (hD : DynInvS ext tgt) (hpn : PredNodes tgt) :
    (∃ roots' m', loadJson f false tgt = (.ok roots', m') ∧ JsonLoadedS f ext tgt roots' m') ∨
    ((jsonTry f false tgt).1 = .error .sched ∧ ∃ e, (loadJson f false tgt).1 = .error e) := by
  rcases S.json_load_dyn_holds f tgt ext hf hD hpn with ⟨roots', m', el, L⟩ | hfail
  · exact Or.inl ⟨roots', m', el, JsonLoadedS.of L⟩
  · exact Or.inr hfail

/-- C12, in the driver's form: the stored manager is as between two calls (`DynInv`), the
recorded schedule of the line is put in, the remainder dropped: the conclusion of
`C12_json_load_dyn` for `{ m' with sched := [] }`, or the schedule mismatch -/
theorem C12_json_load_dyn_recorded (f : JsonFile) (tgt : Mgr) (ext : Nat → Nat) (hf : JsonWF f)
    (hD : DynInv ext tgt) (hpn : PredNodes tgt) (sch : List SchedItem) :
    (∃ roots' m', loadJson f false { tgt with sched := sch } = (.ok roots', m') ∧
      JsonLoadedDyn f ext tgt roots' { m' with sched := [] }) ∨
    ((jsonTry f false { tgt with sched := sch }).1 = .error .sched ∧
      ∃ e, (loadJson f false { tgt with sched := sch }).1 = .error e) := by
  rcases C12_json_load_dyn_anySchedule f { tgt with sched := sch } ext hf (hD.withSched sch)
    (hpn.congr rfl rfl) with ⟨roots', m', el, L⟩ | hfail
  · exact Or.inl ⟨roots', m', el, L.driver⟩
  · exact Or.inr hfail

/-- C12, JSON round trip into a manager with reordering enabled, every recorded schedule -/
theorem C12_json_roundtrip_dyn_anySchedule (src : Mgr) (roots : Roots) (f : JsonFile) (tgt : Mgr)
    (ext : Nat → Nat) (hIs : Inv src) (hvs : DmpVarsOK src.tbl) (hd : dumpJson src roots = .ok f)
    (hD : DynInvS ext tgt) (hpn : PredNodes tgt) :
    (∃ roots' m', loadJson f false tgt = (.ok roots', m') ∧ JsonLoadedS f ext tgt roots' m' ∧
      LoadedAs src.tbl roots m'.tbl roots') ∨
    ((jsonTry f false tgt).1 = .error .sched ∧ ∃ e, (loadJson f false tgt).1 = .error e) := by
  rcases S.json_roundtrip_dyn_holds src roots f tgt ext hIs hvs hd hD hpn with
    ⟨roots', m', el, L, hl⟩ | hfail
  · exact Or.inl ⟨roots', m', el, JsonLoadedS.of L, hl⟩
  · exact Or.inr hfail

/-- the one-step lemma: one node line under an arbitrary recorded schedule — the documented
shelf entry, or the decorated `var` / `ite` made the model report `.sched` -/
theorem C12_makeNode_dyn_anySchedule {f : PickleFile} (hw : PickleWF f) (vat : List (Nat × String))
    (ln : JLine) (e0 : Nat → Nat) (l : List Nat) (m : Mgr) (h : S.DynL e0 l m) (hk : KeysOK m)
    (cache : List (Nat × Int)) (hc : S.ShelfN f m.tbl cache)
    (hheld : ∀ k u, cache.lookup k = some u → u.natAbs ∈ l)
    (hnew : cache.lookup ln.id = none)
    (hline : PEntry.find f.succ ln.id = some ⟨ln.id, ln.lvl, some ln.lo, some ln.hi⟩) (hid : ln.id ≠ 1)
    (hlo : ln.lo.natAbs = 1 ∨ (cache.lookup ln.lo.natAbs).isSome)
    (hhi : ln.hi.natAbs = 1 ∨ (cache.lookup ln.hi.natAbs).isSome)
    (name : String) (hvat : vat.lookup ln.lvl = some name) (hname : f.nameAt ln.lvl = some name)
    (hdecl : m.tbl.vars.contains name = true) :
    (∃ u m', makeNode false vat ln cache m = (.ok (cache ++ [(ln.id, u)]), m') ∧
      S.DynL e0 (u.natAbs :: l) m' ∧ KeysOK m' ∧ S.ShelfN f m'.tbl (cache ++ [(ln.id, u)]) ∧
      S.DynKeeps (extAdd e0 l) m m') ∨ (makeNode false vat ln cache m).1 = .error .sched :=
  S.makeNode_dyn hw vat ln e0 l m h hk cache hc hheld hnew hline hid hlo hhi name hvat hname hdecl

/-- the variables are visited in the order `b, a` (the default is `a, b`); four swaps -/
def exJsonSched : List SchedItem :=
  [.sift ["b", "a"], .swap [(0, [4]), (1, [3])], .swap [(0, [4]), (1, [2])],
   .swap [(0, [4]), (1, [3])], .swap [(0, [4]), (1, [2])]]

@[irreducible] def exDynJ : Mgr := { exDyn with sched := exJsonSched }

/-- `exDyn` with a schedule that does not describe a run of the code -/
@[irreducible] def exDynBad : Mgr := { exDyn with sched := [.swap []] }

theorem exDynJ_inv : DynInvS exExt exDynJ ∧ PredNodes exDynJ := by
  unfold exDynJ
  exact ⟨exDyn_dynInv.withSched _, exDyn_predNodes.ghost _ _ _⟩

/-- under the recorded schedule the request fires in the first decorated call, sifting consumes
the WHOLE schedule, the load returns the existing node 4; under the bogus schedule the `try:`
body fails with `.sched`, the load raises, and its clean-up has released every reference it took
(the caller's node 4 keeps its count 1) -/
theorem C12_recorded_schedule_example :
    (loadJson jsonBA false exDynJ).1 = .ok (.list [4]) ∧
    (loadJson jsonBA false exDynJ).2.sched = [] ∧
    (loadJson jsonBA false exDynJ).2.ref.toList = [(1, 6), (2, 0), (3, 1), (4, 2)] ∧
    (jsonTry jsonBA false exDynBad).1 = .error .sched ∧
    (loadJson jsonBA false exDynBad).1 = .error .sched ∧
    (loadJson jsonBA false exDynBad).2.ref.toList = [(1, 4), (3, 1), (4, 1)] := by
  decide +kernel

example : ∃ roots' m', loadJson jsonBA false exDynJ = (.ok roots', m') ∧
    JsonLoadedS jsonBA exExt exDynJ roots' m' := by
  rcases C12_json_load_dyn_anySchedule jsonBA exDynJ exExt jsonBA_wf exDynJ_inv.1 exDynJ_inv.2 with
    h | ⟨_, e, he⟩
  · exact h
  · rw [C12_recorded_schedule_example.1] at he
    cases he

end DD
