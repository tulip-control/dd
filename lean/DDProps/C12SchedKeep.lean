/-
  DDProps.C12SchedKeep — C12, `load_json(load_order=False)` with dynamic reordering enabled and ANY
  recorded schedule: EVERY OUTCOME.

  `C12_json_load_dyn_anySchedule` (DDProps.C12Sched) says of the failing branch only that the load
  raises.  Here it is spelled out (`S.loadJson_dyn_outcomes`, DDProofs.SchedDumpJsonDyn): a schedule
  was recorded (with none the load returns, `C12_json_load_dyn`); `load_json` raises that same
  `.sched` after `except BaseException:` has given back every reference the loader took: the manager
  is again as between two calls for the caller's OWN ledger (`DynInvS ext`), no stray key in the unique
  table, names, registered roots and held references (by name) kept.
-/
import DDProofs.SchedDumpJsonDynK
import DDProps.C12Sched
open Std
namespace DD

/-- what a `load_json` that failed under a recorded schedule leaves behind -/
structure JsonLoadFailedS (f : JsonFile) (ext : Nat → Nat) (tgt m' : Mgr) : Prop where
  inv : Inv m'
  refs : RefExact m' ext
  dyn : DynInvS ext m'
  pred : PredNodes m'
  oldNames : ∀ v : String, tgt.tbl.vars.contains v = true → m'.tbl.vars.contains v = true
  fileNames : ∀ v ∈ f.levelOfVar.map (·.1), m'.tbl.vars.contains v = true
  regRoots : m'.roots = tgt.roots
  held : ∀ w, HeldX ext w → m'.tbl.Mem w ∧ ∀ σ, denN m'.tbl w σ = denN tgt.tbl w σ

/-- C12, `load_json(load_order=False)`, dynamic reordering enabled, every recorded schedule, EVERY
OUTCOME: the load returns with `JsonLoadedS`; or a sifting inside one of the decorated `var` /
`ite` calls found that the recorded schedule does not fit — then a schedule was recorded, the load
raises the model's `.sched`, and the failed load has kept everything (`JsonLoadFailedS`) -/
theorem C12_json_load_dyn_every_outcome (f : JsonFile) (tgt : Mgr) (ext : Nat → Nat) (hf : JsonWF f)
    (hD : DynInvS ext tgt) (hpn : PredNodes tgt) :
    (∃ roots' m', loadJson f false tgt = (.ok roots', m') ∧ JsonLoadedS f ext tgt roots' m') ∨
    ((jsonTry f false tgt).1 = .error .sched ∧ tgt.sched ≠ [] ∧
      ∃ m', loadJson f false tgt = (.error .sched, m') ∧ JsonLoadFailedS f ext tgt m') := by
  rcases S.loadJson_dyn_outcomes f hf tgt ext hD hpn with ⟨roots', m', el, L, _⟩ | ⟨htry, hs, m', el, D, P, a, b, c, d⟩
  · exact Or.inl ⟨roots', m', el, JsonLoadedS.of L⟩
  · exact Or.inr ⟨htry, hs, m', el, D.inv, D.refs, D, P, a, b, c, d⟩

/-- the driver's form: the recorded schedule of the line is put in, the remainder dropped -/
theorem C12_json_load_dyn_every_outcome_recorded (f : JsonFile) (tgt : Mgr) (ext : Nat → Nat)
    (hf : JsonWF f) (hD : DynInv ext tgt) (hpn : PredNodes tgt) (sch : List SchedItem) :
    (∃ roots' m', loadJson f false { tgt with sched := sch } = (.ok roots', m') ∧
      JsonLoadedDyn f ext tgt roots' { m' with sched := [] }) ∨
    (sch ≠ [] ∧ ∃ m', loadJson f false { tgt with sched := sch } = (.error .sched, m') ∧
      DynInv ext { m' with sched := [] } ∧
      ∀ w, HeldX ext w → m'.tbl.Mem w ∧ ∀ σ, denN m'.tbl w σ = denN tgt.tbl w σ) := by
  rcases C12_json_load_dyn_every_outcome f { tgt with sched := sch } ext hf (hD.withSched sch)
    (hpn.congr rfl rfl) with ⟨roots', m', el, L⟩ | ⟨_, hs, m', el, K⟩
  · exact Or.inl ⟨roots', m', el, L.driver⟩
  · exact Or.inr ⟨hs, m', el, K.dyn.clear, K.held⟩

/-- C12, JSON round trip into a manager with reordering enabled, every recorded schedule, every
outcome -/
theorem C12_json_roundtrip_dyn_every_outcome (src : Mgr) (roots : Roots) (f : JsonFile) (tgt : Mgr)
    (ext : Nat → Nat) (hIs : Inv src) (hvs : DmpVarsOK src.tbl) (hd : dumpJson src roots = .ok f)
    (hf : JsonWF f) (hD : DynInvS ext tgt) (hpn : PredNodes tgt) :
    (∃ roots' m', loadJson f false tgt = (.ok roots', m') ∧ JsonLoadedS f ext tgt roots' m' ∧
      LoadedAs src.tbl roots m'.tbl roots') ∨
    ((jsonTry f false tgt).1 = .error .sched ∧ tgt.sched ≠ [] ∧
      ∃ m', loadJson f false tgt = (.error .sched, m') ∧ JsonLoadFailedS f ext tgt m') := by
  rcases C12_json_load_dyn_every_outcome f tgt ext hf hD hpn with ⟨roots', m', el, L⟩ | h
  · exact Or.inl ⟨roots', m', el, L,
      loadedAs_byName hIs hvs hd L.dyn.inv.wf.toWF L.dyn.order L.roots⟩
  · exact Or.inr h

theorem exDynBad_inv : DynInvS exExt exDynBad ∧ PredNodes exDynBad := by
  unfold exDynBad
  exact ⟨exDyn_dynInv.withSched _, exDyn_predNodes.ghost _ _ _⟩

/-- the `.sched` branch of `C12_json_load_dyn_every_outcome` is the one that holds of `exDynBad`;
the counts computed in `C12_recorded_schedule_example` are those of the caller's ledger -/
example : ∃ m', loadJson jsonBA false exDynBad = (.error .sched, m') ∧
    JsonLoadFailedS jsonBA exExt exDynBad m' := by
  rcases C12_json_load_dyn_every_outcome jsonBA exDynBad exExt jsonBA_wf exDynBad_inv.1
    exDynBad_inv.2 with ⟨_, m', el, _⟩ | ⟨_, _, h⟩
  · have := C12_recorded_schedule_example.2.2.2.2.1
    rw [el] at this
    cases this
  · exact h

end DD
