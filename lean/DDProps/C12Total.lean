/-
  DDProps.C12Total — C12 without hypotheses about the callee's own intermediate results.

  * `dump` is TOTAL on references of the manager: the round-trip theorems here do not assume
    `dump … = .ok f`.
  * The default call `load(file)` (`levels=True`): after the pre-check of `_load_pickle`
    (`levelsCompatible`) the declaration loop cannot fail for a file whose `(variable, level)`
    pairs are a bijection onto `0..n-1` (`VarsWF`; every dump writes such pairs), the transient
    level gaps (F7) are closed when the loop ends, and the conclusion is `OrderOK`, not merely
    "consistent tables".  A fresh manager passes the pre-check.
-/
import DDProofs.DumpTotal
import DDProofs.DumpJsonOrder
import DDProofs.UsedExample
import DDProofs.DumpPerm
import DDProps.Histories
open Std
namespace DD

/-- C12: `BDD.dump(file.p, roots)` cannot fail on references of the manager (any container,
`roots=None` included) -/
theorem C12_dump_pickle_total (m : Mgr) (hI : Inv m) (roots : Roots)
    (hr : ∀ u ∈ roots.values, m.tbl.Mem u) : ∃ f, dumpPickle m roots = .ok f :=
  dumpPickle_total m hI roots hr

/-- C12: `autoref.BDD.dump(file.json, roots)` cannot fail on a non-empty container of references
of the manager (`roots=None` and an empty container are refused: `ValueError` / `StopIteration`) -/
theorem C12_dump_json_total (m : Mgr) (hI : Inv m) (roots : Roots) (hn : roots ≠ .none)
    (hne : roots.values ≠ []) (hr : ∀ u ∈ roots.values, m.tbl.Mem u) :
    ∃ f, dumpJson m roots = .ok f :=
  dumpJson_total m hI roots hn hne hr

/-- C12: every dump writes pairs that are a bijection onto `0..n-1` -/
theorem C12_dump_varsWF {m : Mgr} (hv : DmpVarsOK m.tbl) {roots : Roots} {f : PickleFile}
    (h : dumpPickle m roots = .ok f) : VarsWF f.vars := dumpPickle_varsWF hv h

/-- C12: the declaration loop of `load(levels=True)` after the pre-check: it cannot fail, the
order is a bijection again when it ends, every pair of the file is in place, declared variables
keep their level -/
theorem C12_loadVars_true_total (F : List (String × Nat)) (hF : VarsWF F) (m : Mgr) (hO : OrderOK m.tbl)
    (hc : levelsCompatible m.tbl F = true) :
    ∃ lm m1, loadVars true F.length F [] m = (.ok lm, m1) ∧ OrderOK m1.tbl ∧
      (∀ var i, (var, i) ∈ F → m1.tbl.vars[var]? = some i) ∧
      (∀ (v : String) (l : Nat), m.tbl.vars[v]? = some l → m1.tbl.vars[v]? = some l) :=
  loadVars_true_total F hF m hO hc

/-- a fresh manager passes the pre-check, whatever the file -/
theorem C12_levelsCompatible_fresh (vs : List (String × Nat)) :
    levelsCompatible ({} : Mgr).tbl vs = true := levelsCompatible_fresh vs

/-- C12: `BDD.load(file)` (`levels=True`) of any well-formed content with bijective pairs into a
manager that passes the pre-check: returns, `Inv`, `OrderOK`, exact counts, the variables at the
file's levels, old nodes kept, the roots by name -/
theorem C12_pickle_load_levels (f : PickleFile) (hwf : PickleWF f) (hV : VarsWF f.vars)
    (hr : RootsResolvable f) (m : Mgr) (hI : Inv m) (hO : OrderOK m.tbl) (hc : m.ctx = false)
    (hcomp : levelsCompatible m.tbl f.vars = true) :
    ∃ roots' m', loadPickle f true m = (.ok roots', m') ∧ Inv m' ∧ OrderOK m'.tbl ∧
      (∀ ext, RefExact m ext → RefExact m' ext) ∧
      (∀ var i, (var, i) ∈ f.vars → m'.tbl.vars[var]? = some i) ∧
      (∀ u n, m.tbl.node? u = some n → m'.tbl.node? u = some n) ∧ LoadedFrom f m'.tbl roots' :=
  pickle_load_levels f hwf hV hr m hI hO hc hcomp

/-- C12: `dump(file, roots); load(file)` with the defaults, no hypothesis about the dump or the
loader's first loop -/
theorem C12_pickle_roundtrip_levels (src : Mgr) (hIs : Inv src) (hOs : OrderOK src.tbl) (roots : Roots)
    (hroots : ∀ u ∈ roots.values, src.tbl.Mem u)
    (tgt : Mgr) (hI : Inv tgt) (hO : OrderOK tgt.tbl) (hc : tgt.ctx = false)
    (hcomp : levelsCompatible tgt.tbl src.tbl.vars.toList = true) :
    ∃ f roots' m', dumpPickle src roots = .ok f ∧ loadPickle f true tgt = (.ok roots', m') ∧
      Inv m' ∧ OrderOK m'.tbl ∧ (∀ ext, RefExact tgt ext → RefExact m' ext) ∧
      (∀ (v : String) (i : Nat), src.tbl.vars[v]? = some i → m'.tbl.vars[v]? = some i) ∧
      (∀ u n, tgt.tbl.node? u = some n → m'.tbl.node? u = some n) ∧
      LoadedAs src.tbl roots m'.tbl roots' :=
  pickle_roundtrip_levels src hIs hOs roots hroots tgt hI hO hc hcomp

/-- C12: the same into `BDD()`: the loaded manager has the source's order and exact counts -/
theorem C12_pickle_roundtrip_fresh (src : Mgr) (hIs : Inv src) (hOs : OrderOK src.tbl) (roots : Roots)
    (hroots : ∀ u ∈ roots.values, src.tbl.Mem u) :
    ∃ f roots' m', dumpPickle src roots = .ok f ∧ loadPickle f true {} = (.ok roots', m') ∧
      Inv m' ∧ OrderOK m'.tbl ∧ RefExact m' (fun _ => 0) ∧
      (∀ (v : String) (i : Nat), src.tbl.vars[v]? = some i → m'.tbl.vars[v]? = some i) ∧
      LoadedAs src.tbl roots m'.tbl roots' := by
  obtain ⟨f, roots', m', hd, e, I, O, X, V, _, R⟩ := pickle_roundtrip_levels src hIs hOs roots hroots {}
    Inv.init OrderOK.empty rfl (levelsCompatible_fresh _)
  exact ⟨f, roots', m', hd, e, I, O, X _ GoodState.init.exact, V, R⟩

/-- C12: JSON round trip (either `load_order`, reordering not enabled in the target) without the
hypothesis that the dump succeeds -/
theorem C12_json_roundtrip_total (src : Mgr) (hIs : Inv src) (hOs : OrderOK src.tbl) (roots : Roots)
    (hn : roots ≠ .none) (hne : roots.values ≠ []) (hroots : ∀ u ∈ roots.values, src.tbl.Mem u)
    (lo : Bool) (tgt : Mgr) (e : Nat → Nat) (hg : GoodState tgt e) (hpn : PredNodes tgt)
    (hr : ∀ r ∈ tgt.roots, tgt.tbl.Mem r)
    (hlo : lo = true → tgt.sched = [] ∧ (∀ r ∈ tgt.roots, 0 < e r.natAbs) ∧
      ∀ v : String, tgt.tbl.vars.contains v = true → src.tbl.vars.contains v = true) :
    ∃ f roots' m', dumpJson src roots = .ok f ∧ loadJson f lo tgt = (.ok roots', m') ∧
      JsonLoaded f e lo roots' m' ∧ LoadedAs src.tbl roots m'.tbl roots' := by
  obtain ⟨f, hd⟩ := dumpJson_total src hIs roots hn hne hroots
  obtain ⟨roots', m', h⟩ := json_roundtrip_holds src roots f lo tgt e hIs hOs.toDmp hd hg hpn hr hlo
  exact ⟨f, roots', m', hd, h⟩

/-- C12: `PredNodes` — the hypothesis of `C12_json_load` / `C12_json_roundtrip` about the unique
table — holds in every state reached from the empty manager by a guarded history of user
operations (whatever their arguments, whichever were rejected) -/
theorem C12_reachable_predNodes (ops : List UOp) (hg : OpsGuarded ops St.init) :
    PredNodes (run ops St.init).m := reachable_predNodes ops hg

/-- C12: `PredShape` — the hypothesis of `C12_manager_roundtrip` — holds in every such state -/
theorem C12_reachable_predShape (ops : List UOp) : PredShape (run ops St.init).m :=
  reachable_predShape ops

/-- C12: every user operation keeps the unique table free of stray keys -/
theorem C12_runOp_keysOK (op : UOp) (m : Mgr) (h : KeysOK m) : KeysOK (runOp op m).2 :=
  runOp_keysOK op m h

/-- C12: `load_json` into ANY reachable manager (reordering is not enabled in these histories):
no hypothesis about the unique table left -/
theorem C12_json_load_reachable (f : JsonFile) (lo : Bool) (hf : JsonWF f) (ops : List UOp)
    (hg : OpsGuarded ops St.init)
    (hroots : ∀ r ∈ (run ops St.init).m.roots, (run ops St.init).m.tbl.Mem r)
    (hlo : lo = true → LoadOrderOK f (run ops St.init).m (run ops St.init).ext) :
    ∃ roots' m', loadJson f lo (run ops St.init).m = (.ok roots', m') ∧
      JsonLoaded f (run ops St.init).ext lo roots' m' :=
  json_load_holds f lo _ _ hf (reachable_inv ops hg) (reachable_predNodes ops hg) hroots hlo

/-! ### non-vacuity: the example manager `exM` (a < b; 2 = a, 3 = b, 4 = a ∧ b) -/

example : ∃ f roots' m', dumpPickle exM (.list [4]) = .ok f ∧ loadPickle f true {} = (.ok roots', m') ∧
    Inv m' ∧ OrderOK m'.tbl ∧ RefExact m' (fun _ => 0) ∧
    (∀ (v : String) (i : Nat), exM.tbl.vars[v]? = some i → m'.tbl.vars[v]? = some i) ∧
    LoadedAs exM.tbl (.list [4]) m'.tbl roots' :=
  C12_pickle_roundtrip_fresh exM exM_inv exM_orderOK (.list [4])
    (List.forall_mem_singleton.mpr (Or.inr (by decide)))

/-- what the model computes for it -/
example : (dumpPickle exM (.list [4])).toOption.map (·.vars) = some [("a", 0), ("b", 1)] ∧
    (match dumpPickle exM (.list [4]) with
     | .ok f => decide ((loadPickle f true {}).1 = .ok (.list [4])) &&
         decide ((loadPickle f true {}).2.tbl.vars.toList = [("a", 0), ("b", 1)])
     | .error _ => false) = true := by decide +kernel

/-! ### non-vacuity on a USED manager: `usedM` (four variables declared c, a, d, b; thirteen
nodes; the user holds `a ∧ b` once and the four-variable node 13 twice, DDProofs.UsedExample) -/

private theorem usedM_mem_roots : ∀ u ∈ [(13 : Int), -4], usedM.tbl.Mem u :=
  List.forall_mem_cons.mpr ⟨usedM_mem13, List.forall_mem_singleton.mpr (mem_neg usedM_mem4)⟩

/-- `dump(file, [13, -4]); load(file)` of the used manager into ITSELF (it passes the pre-check),
with its user references in place: exact counts for the same ledger -/
example : ∃ f roots' m', dumpPickle usedM (.list [13, -4]) = .ok f ∧ loadPickle f true usedM = (.ok roots', m') ∧
    Inv m' ∧ OrderOK m'.tbl ∧ RefExact m' usedExt ∧ LoadedAs usedM.tbl (.list [13, -4]) m'.tbl roots' := by
  obtain ⟨f, roots', m', hd, e, I, O, X, _, _, R⟩ := C12_pickle_roundtrip_levels usedM usedM_good.inv
    usedM_good.order (.list [13, -4]) usedM_mem_roots
    usedM usedM_good.inv usedM_good.order usedM_good.ctx
    (levelsCompatible_declared _ _ (fun var i hm => TreeMap.mem_toList_iff_getElem?_eq_some.mp hm))
  exact ⟨f, roots', m', hd, e, I, O, X _ usedM_good.exact, R⟩

/-- the JSON round trip, BOTH values of `load_order`, from the used manager (order c < a < d < b)
into ANOTHER used manager with another order (`a < b` only, nodes 2, 3, 4, the user holds node
4): `load_order=True` imposes the source's order on it -/
example (lo : Bool) : ∃ f roots' m', dumpJson usedM (.dict [("f", 13), ("g", -4)]) = .ok f ∧
    loadJson f lo (run (exHistory.take 12) St.init).m = (.ok roots', m') ∧
    JsonLoaded f (run (exHistory.take 12) St.init).ext lo roots' m' ∧
    LoadedAs usedM.tbl (.dict [("f", 13), ("g", -4)]) m'.tbl roots' := by
  have hops := opsGuarded_take 12 exHistory_guarded
  obtain ⟨hroots, hk, hsched⟩ : (run (exHistory.take 12) St.init).m.roots = [] ∧
      (run (exHistory.take 12) St.init).m.tbl.vars.keys = ["a", "b"] ∧
      (run (exHistory.take 12) St.init).m.sched = [] := by decide +kernel
  have hg := reachable_inv _ hops
  have hsub : ∀ v : String, (run (exHistory.take 12) St.init).m.tbl.vars.contains v = true →
      usedM.tbl.vars.contains v = true := by
    -- the keys of both managers are known as lists: `hk`, `usedM_shape`
    intro v hv
    have hv' := TreeMap.mem_keys.mpr (TreeMap.mem_iff_contains.mpr hv)
    rw [hk] at hv'
    refine TreeMap.mem_iff_contains.mp (TreeMap.mem_keys.mp ?_)
    rw [← TreeMap.map_fst_toList_eq_keys, usedM_shape.1]
    exact (by decide : ∀ v ∈ ["a", "b"], v ∈ [("a", 1), ("b", 3), ("c", 0), ("d", 2)].map (·.1)) v hv'
  have hnone : ∀ r ∈ (run (exHistory.take 12) St.init).m.roots,
      0 < (run (exHistory.take 12) St.init).ext r.natAbs := by
    rw [hroots]; intro r hr; cases hr
  exact C12_json_roundtrip_total usedM usedM_good.inv usedM_good.order (.dict [("f", 13), ("g", -4)])
    (by simp) (by simp [Roots.values]) usedM_mem_roots lo _ _ hg (reachable_predNodes _ hops)
    (by rw [hroots]; intro r hr; cases hr) (fun _ => ⟨hsched, hnone, hsub⟩)

end DD
