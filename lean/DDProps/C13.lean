/-
  DDProps.C13 — `image` and `preimage` equal rename, conjoin, quantify (relational product).

  Assignments are over LEVELS; `qsem fa Q f a` is `∀` (`fa = true`) / `∃` (`fa = false`) over the
  values of the levels of `Q`.  Reordering not enabled: `m.lastLen = none`.  Any manager with
  `Inv` (warm computed table, other nodes, any variable order) is covered; all operands and signs.

  The recursion `_image` with BOTH level maps returns `rename_U (Q qvars. u ∧ rename_V v)`
  (`C13_imageF`).  `image` is right for ANY variable order (pairs adjacent or not — the code only
  warns), because a level that is not quantified is rebuilt with `ite(var, q, p)` (`C13_image`; its
  two precondition checks: `C13_image_refuses`).  `preimage`, THE FULL STATEMENT (`C13_preimage`):
  under the literal preconditions (declared levels, keys disjoint from values, no undeclared name
  as a value) for ANY order, ANY renaming, ANY target — `_preimage_of` runs the fused recursion
  `_image` only when its test `fused` holds (partners neighbours, no two keys with the same value,
  no value in the support of the target: the hypotheses of `C13_adjacent_mono`, which gives the
  increasing renaming that the recursion's theorem `C13_imageF_preimage` asks for) and renames,
  conjoins, quantifies otherwise.  `C13_preimage_statement_holds` is the
  statement under the documented preconditions; the witnesses of findings F5 / F5b (on which the
  fused recursion alone returns something else, `imgM_F5_run`, `imgM3_noninj_run`) are `example`s
  returning FALSE.  The statements under the documented preconditions, by name and by
  level, are instances.  Every theorem is followed by a non-vacuity `example` on a concrete manager
  (`imgM`: `x < xp`; `imgM3`: `a < b < c`).
-/
import DDProofs.PreimageAny
import DDProofs.ImageF5
namespace DD
open Std

/-- C13 (the recursion `_image`, both level maps at once): total when reordering is not
enabled; only adds nodes; the memo (keyed by the pair) stays sound; the result is
`a ↦ Q qvars. (u ∧ v∘rV) (a∘rU)`: `v` is renamed through `vmap` BEFORE the conjunction, the
quantified conjunction through `umap` AFTERWARDS.  `ImgOK` asks: `umap` sends the levels that
are not quantified to declared levels; `vmap` is strictly increasing on the support of `v`
(all that is used of "neighbours"), sends it to declared levels, and does not move the level
of the terminal; no level met is a key whose value is an undeclared name (`ubad`, `vbad`). -/
theorem C13_imageF (umap vmap : Option (List (Int × Int))) (ubad vbad : List Int) (Q : List Nat)
    (fa : Bool) (rU rV : Nat → Nat) (S : Nat → Prop) (f : Nat) (m : Mgr) (u v : Int)
    (cache : HashMap (Int × Int) Int)
    (hP : ImgOK umap vmap ubad vbad Q rU rV S m.nvars)
    (hI : Inv m) (hoff : m.lastLen = none) (hu : m.tbl.Mem u) (hv : m.tbl.Mem v)
    (hS : ∀ j, InSupp m.tbl v j → S j) (hmemo : IMemo fa Q rU rV m.tbl cache)
    (hfuel : 2 * m.nvars + 1 ≤ f + m.tbl.levelOf u + m.tbl.levelOf v) :
    ∃ r c' m', imageF umap vmap ubad vbad Q fa f u v cache m = (.ok (r, c'), m') ∧
      Inv m' ∧ Ext m.tbl m'.tbl ∧ Frame m m' ∧ IMemo fa Q rU rV m'.tbl c' ∧ m'.tbl.Mem r ∧
      ∀ a, den m'.tbl r a = true ↔
        qsem fa Q (fun b => den m.tbl u b && den m.tbl v (fun j => b (rV j)))
          (fun z => a (rU z)) :=
  imageF_spec_den umap vmap ubad vbad Q fa rU rV S f m u v cache hP hI hoff hu hv hS hmemo hfuel

/-- C13 (`_image` as `image` calls it: `umap = rename`, `vmap = None`), ANY variable order,
pairs adjacent or not: the result is the quantified conjunction read through the renaming
(`ren z` is where level `z` of the conjunction appears in the result).  The only requirement:
every level that is not quantified is sent to a declared level. -/
theorem C13_imageF_image (rn : List (Int × Int)) (Q : List Nat) (fa : Bool) (ren : Nat → Nat)
    (f : Nat) (m : Mgr) (u v : Int) (cache : HashMap (Int × Int) Int)
    (hI : Inv m) (hoff : m.lastLen = none) (hu : m.tbl.Mem u) (hv : m.tbl.Mem v)
    (hren : ∀ z, z < m.nvars → z ∉ Q →
      (rn.lookup (z : Int)).getD (z : Int) = (ren z : Int) ∧ ren z < m.nvars)
    (hmemo : IMemo fa Q ren id m.tbl cache)
    (hfuel : 2 * m.nvars + 1 ≤ f + m.tbl.levelOf u + m.tbl.levelOf v) :
    ∃ r c' m', imageF (some rn) none [] [] Q fa f u v cache m = (.ok (r, c'), m') ∧
      Inv m' ∧ Ext m.tbl m'.tbl ∧ Frame m m' ∧ IMemo fa Q ren id m'.tbl c' ∧ m'.tbl.Mem r ∧
      ∀ a, den m'.tbl r a = true ↔
        qsem fa Q (fun b => den m.tbl u b && den m.tbl v b) (fun z => a (ren z)) :=
  imageF_spec_image rn Q fa ren f m u v cache hI hoff hu hv hren hmemo hfuel

/-- C13 (`_image` as `preimage` calls it: `umap = None`, `vmap = rename`): when the renaming is
strictly increasing on (a set `S` containing) the support of `v`, sends it to declared levels
and does not move the terminal's level, the result is `Q qvars. u ∧ rename(v)`. -/
theorem C13_imageF_preimage (rn : List (Int × Int)) (Q : List Nat) (fa : Bool) (rV : Nat → Nat)
    (S : Nat → Prop) (f : Nat) (m : Mgr) (u v : Int) (cache : HashMap (Int × Int) Int)
    (hI : Inv m) (hoff : m.lastLen = none) (hu : m.tbl.Mem u) (hv : m.tbl.Mem v)
    (hS : ∀ j, InSupp m.tbl v j → S j)
    (hval : ∀ j, S j → (rn.lookup (j : Int)).getD (j : Int) = (rV j : Int) ∧ rV j < m.nvars)
    (hterm : (rn.lookup (m.nvars : Int)).getD (m.nvars : Int) = (m.nvars : Int))
    (hmono : ∀ j j', S j → S j' → j < j' → rV j < rV j')
    (hmemo : IMemo fa Q id rV m.tbl cache)
    (hfuel : 2 * m.nvars + 1 ≤ f + m.tbl.levelOf u + m.tbl.levelOf v) :
    ∃ r c' m', imageF none (some rn) [] [] Q fa f u v cache m = (.ok (r, c'), m') ∧
      Inv m' ∧ Ext m.tbl m'.tbl ∧ Frame m m' ∧ IMemo fa Q id rV m'.tbl c' ∧ m'.tbl.Mem r ∧
      ∀ a, den m'.tbl r a = true ↔
        qsem fa Q (fun b => den m.tbl u b && den m.tbl v (fun j => b (rV j))) a :=
  imageF_spec_preimage rn Q fa rV S f m u v cache hI hoff hu hv hS hval hterm hmono hmemo hfuel

/-- C13 (the arithmetic behind "each renamed variable adjacent to its partner"): values that are
levels (`0 ≤`), adjacent pairs, no two keys with the same value, no value in `S` ⟹ the renaming is
strictly increasing on `S` -/
theorem C13_adjacent_mono (rn : List (Int × Int)) (S : Nat → Prop)
    (hval : ∀ p, p ∈ rn → 0 ≤ p.2)
    (hadj : ∀ p, p ∈ rn → (p.1 - p.2).natAbs = 1)
    (hinj : ∀ p p', p ∈ rn → p' ∈ rn → p.2 = p'.2 → p.1 = p'.1)
    (hdis : ∀ p, p ∈ rn → ∀ j, S j → p.2 ≠ (j : Int)) :
    ∀ j j', S j → S j' → j < j' → renOf rn j < renOf rn j' :=
  renOf_mono rn S hval hadj hinj hdis

/-- non-vacuity (`C13_imageF`, `C13_imageF_image`): `_image` as `image` calls it on the example
manager (`x` < `xp`): `∃ x. (x ↔ xp) ∧ (x ∨ xp)`, then `xp` renamed to `x`, is `x` -/
example : ∃ r c' m', imageF (some [(1, 0)]) none [] [] [0] false 8 3 4 {} imgM = (.ok (r, c'), m') ∧
    ∀ a, den m'.tbl r a = a 0 := by
  have hP : ImgOK (some [(1, 0)]) none [] [] [0] (renOf [(1, 0)]) id (fun j => j < 2) imgM.nvars :=
    ⟨fun z hz _ => renOf_declared (by decide) z hz, fun j hj => ⟨rfl, by rw [imgM_nvars']; exact hj⟩,
      rfl, fun _ _ _ _ h => h, fun _ _ _ => rfl, fun _ _ => rfl⟩
  obtain ⟨r, c', m', he, _, _, _, _, _, hd⟩ := C13_imageF (some [(1, 0)]) none [] [] [0] false
    (renOf [(1, 0)]) id (fun j => j < 2) 8 imgM 3 4 {} hP imgM_inv rfl
    (imgM_mem _ (by decide)) (imgM_mem _ (by decide))
    (fun j hj => by have := hj.lt_nvars imgM_inv.wf.toWF; rwa [imgM_nvars] at this)
    (IMemo.empty _ _ _ _ _) (by rw [imgM_nvars']; omega)
  exact ⟨r, c', m', he, fun a => Bool.eq_iff_iff.mpr ((hd a).trans (imgM_image_sem a))⟩

/-- non-vacuity (`C13_imageF_preimage`, `C13_adjacent_mono`): `_image` as `preimage` calls it:
`∃ xp. (x ↔ xp) ∧ xp` (the target `x` renamed to `xp`) is `x` -/
example : ∃ r c' m', imageF none (some [(0, 1)]) [] [] [1] false 8 3 5 {} imgM = (.ok (r, c'), m') ∧
    ∀ a, den m'.tbl r a = a 0 := by
  have hW := imgM_inv.wf.toWF
  have hS : ∀ j, InSupp imgM.tbl 5 j → j = 0 := by
    intro j hj
    have h2 := hj.lt_nvars hW
    rw [imgM_nvars] at h2
    match j, h2 with
    | 0, _ => rfl
    | 1, _ => exact absurd (hj.dependsOn imgM_inv.wf) imgM_indep5_1
  have hmono := C13_adjacent_mono [(0, 1)] (fun j => j = 0) (by decide) (by decide)
    (inj_of_one_pair _)
    (by intro p hp j hj; simp at hp; subst hp hj; decide)
  obtain ⟨r, c', m', he, _, _, _, _, _, hd⟩ := C13_imageF_preimage [(0, 1)] [1] false
    (renOf [(0, 1)]) (fun j => j = 0) 8 imgM 3 5 {} imgM_inv rfl
    (imgM_mem _ (by decide)) (imgM_mem _ (by decide)) hS
    (fun j hj => by subst hj; rw [imgM_nvars']; decide) (by rw [imgM_nvars']; decide) hmono
    (IMemo.empty _ _ _ _ _) (by rw [imgM_nvars']; omega)
  exact ⟨r, c', m', he, fun a => Bool.eq_iff_iff.mpr ((hd a).trans (imgM_preimage_sem a))⟩

/-- C13 (`image(trans, source, rename, qvars, bdd, forall)`), both quantifier kinds, keys given
as names or as levels (`q` = what `_map_to_level` computes for `qvars`; the renaming = the level
pairs that `{bdd.vars.get(k, k): bdd.vars.get(v, v)}` produces), ANY variable order — adjacent
pairs or not.  When every pair of the renaming resolves to declared levels (`hnl`, `hlv`) and the
code's own checks pass (no key is a value; every rename target is quantified or outside the
supports of both operands) the result is
`rename(Q qvars. trans ∧ source)`: a level `z` of the quantified conjunction is read at
`renOf pairs z` in the result. -/
theorem C13_image (m : Mgr) (hI : Inv m) (hoff : m.lastLen = none) (hV : VarsBij m.tbl)
    (trans source : Int) (hu : m.tbl.Mem trans) (hv : m.tbl.Mem source)
    (rn : List (Key × Key)) (qvars : List Key) (fa : Bool) (q : List Nat)
    (hq : mapToLevelE m.tbl qvars = .ok q)
    (hov : renameOverlap (resolveRename m.tbl rn) = false)
    (hnl : renameNonLevel (resolveRename m.tbl rn) = false)
    (hlv : ∀ p, p ∈ intPairs (resolveRename m.tbl rn) →
      0 ≤ p.1 ∧ p.1 < (m.nvars : Int) ∧ 0 ≤ p.2 ∧ p.2 < (m.nvars : Int))
    (htg : ∀ p, p ∈ intPairs (resolveRename m.tbl rn) → ∀ l : Nat, p.2 = (l : Int) →
      l ∈ q ∨ (¬ dependsOn m.tbl trans l ∧ ¬ dependsOn m.tbl source l)) :
    ∃ r m', image trans source rn qvars fa m = (.ok r, m') ∧ Inv m' ∧ Ext m.tbl m'.tbl ∧
      m'.tbl.Mem r ∧ Frame m m' ∧
      ∀ a, den m'.tbl r a = true ↔
        qsem fa q (fun b => den m.tbl trans b && den m.tbl source b)
          (fun z => a (renOf (intPairs (resolveRename m.tbl rn)) z)) :=
  image_spec m hI hoff hV trans source hu hv rn qvars fa q hq hov hnl hlv htg

/-- C13 (`image`, renaming and `qvars` given BY NAME): declared names, pairwise distinct keys, no
key is a value, every target quantified or outside the supports; any order. -/
theorem C13_image_names (m : Mgr) (hI : Inv m) (hoff : m.lastLen = none) (hV : VarsBij m.tbl)
    (trans source : Int) (hu : m.tbl.Mem trans) (hv : m.tbl.Mem source)
    (l : List (String × String)) (qs : List String) (fa : Bool)
    (hkeys : (l.map (·.1)).Nodup)
    (hd : ∀ p, p ∈ l → m.tbl.vars.contains p.1 = true ∧ m.tbl.vars.contains p.2 = true)
    (hqd : ∀ s, s ∈ qs → m.tbl.vars.contains s = true)
    (hov : ∀ p p', p ∈ l → p' ∈ l → p.2 ≠ p'.1)
    (htg : ∀ p, p ∈ l → p.2 ∈ qs ∨ (¬ dependsOn m.tbl trans (lvlOf m.tbl p.2) ∧
      ¬ dependsOn m.tbl source (lvlOf m.tbl p.2))) :
    ∃ r m', image trans source (l.map fun p => (Key.name p.1, Key.name p.2))
        (qs.map Key.name) fa m = (.ok r, m') ∧ Inv m' ∧ Ext m.tbl m'.tbl ∧
      m'.tbl.Mem r ∧ Frame m m' ∧
      ∀ a, den m'.tbl r a = true ↔
        qsem fa (qs.map (lvlOf m.tbl)) (fun b => den m.tbl trans b && den m.tbl source b)
          (fun z => a (renOf
            (l.map fun p => ((lvlOf m.tbl p.1 : Int), (lvlOf m.tbl p.2 : Int))) z)) :=
  image_spec_names m hI hoff hV trans source hu hv l qs fa hkeys hd hqd hov htg

/-- C13 (the renaming given BY LEVEL, pairwise distinct keys): `resolveRename` and `intPairs`
return the items themselves -/
theorem C13_rename_levels (t : Tbl) (l : List (Int × Int)) (h : (l.map (·.1)).Nodup) :
    resolveRename t (l.map fun p => (Key.lvl p.1, Key.lvl p.2)) =
      l.map (fun p => (Key.lvl p.1, Key.lvl p.2)) ∧
    intPairs (l.map fun p => (Key.lvl p.1, Key.lvl p.2)) = l :=
  intPairs_resolveRename_levels t l h

/-- non-vacuity (`C13_image_names`, both quantifier kinds): the successors of the set `x ∨ xp`
under the relation `x ↔ xp`... with names: `image(x ↔ xp, x ∨ xp, {xp: x}, {x})` returns a
reference of `Q x. (x ↔ xp) ∧ (x ∨ xp)` with `xp` renamed to `x`; for `∃` this is `x` -/
example : (∀ fa, ∃ r m', image 3 4 [(.name "xp", .name "x")] [.name "x"] fa imgM = (.ok r, m')) ∧
    ∃ r m', image 3 4 [(.name "xp", .name "x")] [.name "x"] false imgM = (.ok r, m') ∧
      ∀ a, den m'.tbl r a = a 0 := by
  have key : ∀ fa, _ := fun fa => C13_image_names imgM imgM_inv rfl imgM_varsBij 3 4
    (imgM_mem _ (by decide)) (imgM_mem _ (by decide)) [("xp", "x")] ["x"] fa (by simp)
    (List.forall_mem_singleton.mpr ⟨imgM_contains_xp, imgM_contains_x⟩)
    (List.forall_mem_singleton.mpr imgM_contains_x)
    (by intro p p' hp hp'; simp at hp hp'; subst hp hp'; decide)
    (List.forall_mem_singleton.mpr (Or.inl List.mem_cons_self))
  refine ⟨fun fa => ?_, ?_⟩
  · obtain ⟨r, m', he, _⟩ := key fa
    exact ⟨r, m', he⟩
  · obtain ⟨r, m', he, _, _, _, _, hd⟩ := key false
    simp only [List.map, lvlOf_eq imgM_vars_x, lvlOf_eq imgM_vars_xp] at hd
    exact ⟨r, m', he, fun a => Bool.eq_iff_iff.mpr ((hd a).trans (imgM_image_sem a))⟩

/-- non-vacuity (`C13_image`, keys as levels; `C13_rename_levels`) -/
example : ∀ fa, ∃ r m', image 3 4 [(.lvl 1, .lvl 0)] [.lvl 0] fa imgM = (.ok r, m') ∧
    ∀ a, den m'.tbl r a = true ↔
      qsem fa [0] (fun b => den imgM.tbl 3 b && den imgM.tbl 4 b)
        (fun z => a (renOf [(1, 0)] z)) := by
  intro fa
  obtain ⟨hres, hip⟩ := C13_rename_levels imgM.tbl [(1, 0)] (by simp)
  simp only [List.map] at hres hip
  obtain ⟨r, m', he, _, _, _, _, hd⟩ := C13_image imgM imgM_inv rfl imgM_varsBij 3 4
    (imgM_mem _ (by decide)) (imgM_mem _ (by decide)) [(.lvl 1, .lvl 0)] [.lvl 0] fa [0]
    (by rfl) (by decide) (by decide) (by decide)
    (by
      rw [hres, hip]
      exact List.forall_mem_singleton.mpr fun l (hl : (0 : Int) = l) => by
        obtain rfl : l = 0 := by omega
        exact Or.inl List.mem_cons_self)
  rw [hres, hip] at hd
  exact ⟨r, m', he, hd⟩

/-- non-vacuity (`C13_image` for a pair that is NOT adjacent): order `a < b < c`; `image(c, TRUE,
{c: a}, {})` (levels `{2: 0}`, `|2 - 0| = 2`: the code only warns) returns a reference of `a` -/
example : ∃ r m', image 2 1 [(.lvl 2, .lvl 0)] [] false imgM3 = (.ok r, m') ∧
    ∀ a, den m'.tbl r a = a 0 := by
  have hip : intPairs (resolveRename imgM3.tbl [(.lvl 2, .lvl 0)]) = [(2, 0)] := by decide
  obtain ⟨r, m', he, _, _, _, _, hd⟩ := C13_image imgM3 imgM3_inv rfl imgM3_varsBij 2 1
    (imgM3_mem _ (by decide)) (imgM3_mem _ (by decide)) [(.lvl 2, .lvl 0)] [] false []
    (by rfl) (by decide) (by decide) (by decide)
    (by
      rw [hip]
      exact List.forall_mem_singleton.mpr fun l (hl : (0 : Int) = l) => by
        obtain rfl : l = 0 := by omega
        exact Or.inr ⟨imgM3_indep2_0, dependsOn_term rfl 0⟩)
  rw [hip] at hd
  refine ⟨r, m', he, fun a => Bool.eq_iff_iff.mpr ?_⟩
  rw [hd a]
  have e2 : renOf [(2, 0)] 2 = 0 := by decide
  constructor
  · rintro ⟨b, hb, hf⟩
    have hb2 := hb 2 (by simp)
    dsimp only at hb2 hf
    rw [imgM3_den2, den_one] at hf
    rw [e2] at hb2
    rw [← hb2]
    simpa using hf
  · intro ha
    refine ⟨_, AgreeOff.refl _ _, ?_⟩
    dsimp only
    rw [imgM3_den2, den_one, e2, ha]
    rfl

/-- C13 (`image` refuses): AssertionError, manager untouched, (1) when a key of the renaming is
also a value, (2) otherwise, for a renaming all of whose pairs are declared levels, when a rename
target is in the support of an operand and is not quantified -/
theorem C13_image_refuses (m : Mgr) (hI : Inv m) (hV : VarsBij m.tbl)
    (trans source : Int) (hu : m.tbl.Mem trans) (hv : m.tbl.Mem source)
    (rn : List (Key × Key)) (qvars : List Key) (fa : Bool) (q : List Nat)
    (hq : mapToLevelE m.tbl qvars = .ok q) :
    (renameOverlap (resolveRename m.tbl rn) = true →
      image trans source rn qvars fa m = (.error .assertion, m)) ∧
    (renameOverlap (resolveRename m.tbl rn) = false →
      renameNonLevel (resolveRename m.tbl rn) = false →
      (∀ p, p ∈ intPairs (resolveRename m.tbl rn) →
        0 ≤ p.1 ∧ p.1 < (m.nvars : Int) ∧ 0 ≤ p.2 ∧ p.2 < (m.nvars : Int)) →
      ∀ (p : Int × Int) (l : Nat), p ∈ intPairs (resolveRename m.tbl rn) → p.2 = (l : Int) →
        l ∉ q → (dependsOn m.tbl trans l ∨ dependsOn m.tbl source l) →
        image trans source rn qvars fa m = (.error .assertion, m)) :=
  ⟨image_refuses_overlap m hV trans source rn qvars fa q hq,
   fun hov hnl hlv p l hp hl hlq hdep =>
     image_refuses_target m hI hV trans source hu hv rn qvars fa q hq hov hnl hlv p hp l hl hlq
       hdep⟩

/-- non-vacuity (`C13_image_refuses`): (1) `{x: xp, xp: x}` overlaps; (2) `{xp: x}` with `x` in
the support of `trans = (x ↔ xp)` and nothing quantified -/
example : image 3 4 [(.lvl 0, .lvl 1), (.lvl 1, .lvl 0)] [] false imgM = (.error .assertion, imgM) ∧
    image 3 4 [(.lvl 1, .lvl 0)] [] false imgM = (.error .assertion, imgM) := by
  constructor
  · exact (C13_image_refuses imgM imgM_inv imgM_varsBij 3 4 (imgM_mem _ (by decide))
      (imgM_mem _ (by decide)) _ [] false [] (by rfl)).1 (by decide)
  · exact (C13_image_refuses imgM imgM_inv imgM_varsBij 3 4 (imgM_mem _ (by decide))
      (imgM_mem _ (by decide)) [(.lvl 1, .lvl 0)] [] false [] (by rfl)).2
      (by decide) (by decide) (by decide) (1, 0) 0 (by decide) rfl (by simp)
      (Or.inl imgM_dep3_0)

/-- the documented preconditions of `preimage` (pairs of declared levels, each adjacent, keys
disjoint from values; no level is renamed to an undeclared name) plus "no two keys with the same
value" -/
structure PreimagePre (m : Mgr) (rn : List (Key × Key)) : Prop where
  nonempty : resolveRename m.tbl rn ≠ [] → 0 < m.nvars
  noOverlap : renameOverlap (resolveRename m.tbl rn) = false
  noName : badKeys (resolveRename m.tbl rn) = []
  levels : ∀ p, p ∈ intPairs (resolveRename m.tbl rn) →
    0 ≤ p.1 ∧ p.1 < (m.nvars : Int) ∧ 0 ≤ p.2 ∧ p.2 < (m.nvars : Int)
  adjacent : ∀ p, p ∈ intPairs (resolveRename m.tbl rn) → (p.1 - p.2).natAbs = 1
  injective : ∀ p p', p ∈ intPairs (resolveRename m.tbl rn) →
    p' ∈ intPairs (resolveRename m.tbl rn) → p.2 = p'.2 → p.1 = p'.1

/-- what `preimage` is documented to return: `Q qvars. trans ∧ rename(target)` -/
def PreimagePost (m : Mgr) (trans target : Int) (rn : List (Key × Key)) (qvars : List Key)
    (fa : Bool) (q : List Nat) : Prop :=
  ∃ r m', preimage trans target rn qvars fa m = (.ok r, m') ∧ Inv m' ∧ Ext m.tbl m'.tbl ∧
    m'.tbl.Mem r ∧ Frame m m' ∧
    ∀ a, den m'.tbl r a = true ↔
      qsem fa q (fun b => den m.tbl trans b && den m.tbl target
        (fun j => b (renOf (intPairs (resolveRename m.tbl rn)) j))) a

/-- C13 (`preimage(trans, target, rename, qvars, bdd, forall)`), both quantifier kinds, keys as
names or levels — an instance of `C13_preimage`: under the documented preconditions AND the
hypothesis that the target is independent of every value of the renaming (the case in which
`_preimage_of` runs the fused recursion), the result is `Q qvars. trans ∧ rename(target)`. -/
theorem C13_preimage_partial (m : Mgr) (hI : Inv m) (hoff : m.lastLen = none)
    (hV : VarsBij m.tbl) (trans target : Int) (hu : m.tbl.Mem trans) (hv : m.tbl.Mem target)
    (rn : List (Key × Key)) (qvars : List Key) (fa : Bool) (q : List Nat)
    (hq : mapToLevelE m.tbl qvars = .ok q) (hpre : PreimagePre m rn)
    (hind : ∀ p, p ∈ intPairs (resolveRename m.tbl rn) → ∀ l : Nat, p.2 = (l : Int) →
      ¬ dependsOn m.tbl target l) :
    PreimagePost m trans target rn qvars fa q :=
  preimage_spec_full m hI hoff hV trans target hu hv rn qvars fa q hq hpre.nonempty
    hpre.noOverlap hpre.noName hpre.levels

/-- C13 (`preimage`, renaming and `qvars` given BY NAME), the same instance: declared names, pairwise
distinct keys, no key is a value, partners adjacent, no two keys with the same value, and the
target independent of every value of the renaming -/
theorem C13_preimage_names_partial (m : Mgr) (hI : Inv m) (hoff : m.lastLen = none)
    (hV : VarsBij m.tbl) (trans target : Int) (hu : m.tbl.Mem trans) (hv : m.tbl.Mem target)
    (l : List (String × String)) (qs : List String) (fa : Bool)
    (hkeys : (l.map (·.1)).Nodup)
    (hd : ∀ p, p ∈ l → m.tbl.vars.contains p.1 = true ∧ m.tbl.vars.contains p.2 = true)
    (hqd : ∀ s, s ∈ qs → m.tbl.vars.contains s = true)
    (hov : ∀ p p', p ∈ l → p' ∈ l → p.2 ≠ p'.1)
    (hadj : ∀ p, p ∈ l → ((lvlOf m.tbl p.1 : Int) - (lvlOf m.tbl p.2 : Int)).natAbs = 1)
    (hinj : ∀ p p', p ∈ l → p' ∈ l → p.2 = p'.2 → p.1 = p'.1)
    (hind : ∀ p, p ∈ l → ¬ dependsOn m.tbl target (lvlOf m.tbl p.2)) :
    ∃ r m', preimage trans target (l.map fun p => (Key.name p.1, Key.name p.2))
        (qs.map Key.name) fa m = (.ok r, m') ∧ Inv m' ∧ Ext m.tbl m'.tbl ∧
      m'.tbl.Mem r ∧ Frame m m' ∧
      ∀ a, den m'.tbl r a = true ↔
        qsem fa (qs.map (lvlOf m.tbl)) (fun b => den m.tbl trans b && den m.tbl target
          (fun j => b (renOf
            (l.map fun p => ((lvlOf m.tbl p.1 : Int), (lvlOf m.tbl p.2 : Int))) j))) a :=
  preimage_spec_partial_names m hI hoff hV trans target hu hv l qs fa hkeys hd hqd hov hadj hinj
    hind

/-- non-vacuity (`C13_preimage_partial`, `C13_preimage_names_partial`, both quantifier kinds):
`preimage(x ↔ xp, x, {x: xp}, {xp})`: the target `x` does not depend on `xp`; for `∃` the result
is `∃ xp. (x ↔ xp) ∧ xp`, that is `x` -/
example : (∀ fa, PreimagePost imgM 3 5 [(.lvl 0, .lvl 1)] [.lvl 1] fa [1]) ∧
    ∃ r m', preimage 3 5 [(.name "x", .name "xp")] [.name "xp"] false imgM = (.ok r, m') ∧
      ∀ a, den m'.tbl r a = a 0 := by
  constructor
  · intro fa
    have hip : intPairs (resolveRename imgM.tbl [(.lvl 0, .lvl 1)]) = [(0, 1)] := by decide
    refine C13_preimage_partial imgM imgM_inv rfl imgM_varsBij 3 5 (imgM_mem _ (by decide))
      (imgM_mem _ (by decide)) [(.lvl 0, .lvl 1)] [.lvl 1] fa [1] (by rfl) ?_ ?_
    · refine ⟨by decide, by decide, by decide, by decide, by decide, ?_⟩
      rw [hip]; exact inj_of_one_pair _
    · rw [hip]
      exact List.forall_mem_singleton.mpr fun l (hl : (1 : Int) = l) => by
        obtain rfl : l = 1 := by omega
        exact imgM_indep5_1
  · obtain ⟨r, m', he, _, _, _, _, hd⟩ := C13_preimage_names_partial imgM imgM_inv rfl
      imgM_varsBij 3 5 (imgM_mem _ (by decide)) (imgM_mem _ (by decide)) [("x", "xp")] ["xp"]
      false (by simp)
      (List.forall_mem_singleton.mpr ⟨imgM_contains_x, imgM_contains_xp⟩)
      (List.forall_mem_singleton.mpr imgM_contains_xp)
      (by intro p p' hp hp'; simp at hp hp'; subst hp hp'; decide)
      (List.forall_mem_singleton.mpr (by
        rw [lvlOf_eq imgM_vars_x, lvlOf_eq imgM_vars_xp]; decide))
      (inj_of_one_pair _)
      (List.forall_mem_singleton.mpr (by rw [lvlOf_eq imgM_vars_xp]; exact imgM_indep5_1))
    simp only [List.map, lvlOf_eq imgM_vars_x, lvlOf_eq imgM_vars_xp] at hd
    exact ⟨r, m', he, fun a => Bool.eq_iff_iff.mpr ((hd a).trans (imgM_preimage_sem a))⟩

/-- the preconditions of `preimage` WITHOUT "partners are neighbours": pairs of declared levels,
keys disjoint from values, no level renamed to an undeclared name -/
structure PreimagePreAny (m : Mgr) (rn : List (Key × Key)) : Prop where
  nonempty : resolveRename m.tbl rn ≠ [] → 0 < m.nvars
  noOverlap : renameOverlap (resolveRename m.tbl rn) = false
  noName : badKeys (resolveRename m.tbl rn) = []
  levels : ∀ p, p ∈ intPairs (resolveRename m.tbl rn) →
    0 ≤ p.1 ∧ p.1 < (m.nvars : Int) ∧ 0 ≤ p.2 ∧ p.2 < (m.nvars : Int)

/-- C13 (`preimage`, ANY variable order — finding F4d), an instance of `C13_preimage`: the hypotheses of
`C13_preimage_partial` minus adjacency (no two keys with the same value; the target independent
of every value of the renaming).  When the partners are neighbours the body runs the recursion
`_image`; otherwise it renames the target (`_copy_bdd` with the full level map), conjoins
(`ite(trans, r, FALSE)`) and quantifies.  Either way the result is
`Q qvars. trans ∧ rename(target)`. -/
theorem C13_preimage_any_order (m : Mgr) (hI : Inv m) (hoff : m.lastLen = none)
    (hV : VarsBij m.tbl) (trans target : Int) (hu : m.tbl.Mem trans) (hv : m.tbl.Mem target)
    (rn : List (Key × Key)) (qvars : List Key) (fa : Bool) (q : List Nat)
    (hq : mapToLevelE m.tbl qvars = .ok q) (hpre : PreimagePreAny m rn)
    (hinj : ∀ p p', p ∈ intPairs (resolveRename m.tbl rn) →
      p' ∈ intPairs (resolveRename m.tbl rn) → p.2 = p'.2 → p.1 = p'.1)
    (hind : ∀ p, p ∈ intPairs (resolveRename m.tbl rn) → ∀ l : Nat, p.2 = (l : Int) →
      ¬ dependsOn m.tbl target l) :
    PreimagePost m trans target rn qvars fa q :=
  preimage_spec_full m hI hoff hV trans target hu hv rn qvars fa q hq hpre.nonempty
    hpre.noOverlap hpre.noName hpre.levels

/-- C13 (`preimage`, some partners NOT neighbours): on this branch the FULL statement holds —
the literal preconditions suffice; neither injectivity of the renaming nor independence of the
target from the values is needed (findings F5 / F5b live in the recursion `_image`, which is
only run when all partners are neighbours) -/
theorem C13_preimage_not_neighbours (m : Mgr) (hI : Inv m) (hoff : m.lastLen = none)
    (hV : VarsBij m.tbl) (trans target : Int) (hu : m.tbl.Mem trans) (hv : m.tbl.Mem target)
    (rn : List (Key × Key)) (qvars : List Key) (fa : Bool) (q : List Nat)
    (hq : mapToLevelE m.tbl qvars = .ok q) (hpre : PreimagePreAny m rn)
    (hnadj : ¬ ∀ p, p ∈ intPairs (resolveRename m.tbl rn) → (p.1 - p.2).natAbs = 1) :
    PreimagePost m trans target rn qvars fa q :=
  preimage_spec_full m hI hoff hV trans target hu hv rn qvars fa q hq hpre.nonempty
    hpre.noOverlap hpre.noName hpre.levels

/-- non-vacuity (`C13_preimage_any_order`, `C13_preimage_not_neighbours`): order `a < b < c`;
`preimage(TRUE, c, {c: a}, {a})` — levels `{2: 0}`, `|2 - 0| = 2`: not neighbours; the target
`c` does not depend on `a` -/
example : ∀ fa, PreimagePost imgM3 1 2 [(.lvl 2, .lvl 0)] [.lvl 0] fa [0] := by
  intro fa
  have hip : intPairs (resolveRename imgM3.tbl [(.lvl 2, .lvl 0)]) = [(2, 0)] := by decide
  have hpre : PreimagePreAny imgM3 [(.lvl 2, .lvl 0)] := ⟨by decide, by decide, by decide, by decide⟩
  have hnadj : ¬ ∀ p, p ∈ intPairs (resolveRename imgM3.tbl [(.lvl 2, .lvl 0)]) →
      (p.1 - p.2).natAbs = 1 := by decide
  have h1 := C13_preimage_not_neighbours imgM3 imgM3_inv rfl imgM3_varsBij 1 2 (mem_one _)
    (imgM3_mem _ (by decide)) [(.lvl 2, .lvl 0)] [.lvl 0] fa [0] (by rfl) hpre hnadj
  have h2 := C13_preimage_any_order imgM3 imgM3_inv rfl imgM3_varsBij 1 2 (mem_one _)
    (imgM3_mem _ (by decide)) [(.lvl 2, .lvl 0)] [.lvl 0] fa [0] (by rfl) hpre
    (by rw [hip]; exact inj_of_one_pair _)
    (by
      rw [hip]
      exact List.forall_mem_singleton.mpr fun l (hl : (0 : Int) = l) => by
        obtain rfl : l = 0 := by omega
        exact imgM3_indep2_0)
  exact h2

/-- C13 (`preimage`) — THE FULL STATEMENT (findings F5 / F5b): under the literal
preconditions alone (`PreimagePreAny`: pairs of declared levels, keys disjoint from values, no
level renamed to an undeclared name) — ANY variable order, ANY renaming (two keys may share a
value), ANY target (it may depend on the values of the renaming) — the result is
`Q qvars. trans ∧ rename(target)`.  `_preimage_of` runs the fused recursion `_image` only when
its test `fused` holds — partners neighbours, no two keys with the same value, no value in the
support of the target: exactly the three hypotheses of `C13_preimage_partial`, under which the
recursion is right — and renames, conjoins, quantifies otherwise
(`C13_preimage_not_neighbours`' argument: `_copy_bdd` is a substitution). -/
theorem C13_preimage (m : Mgr) (hI : Inv m) (hoff : m.lastLen = none)
    (hV : VarsBij m.tbl) (trans target : Int) (hu : m.tbl.Mem trans) (hv : m.tbl.Mem target)
    (rn : List (Key × Key)) (qvars : List Key) (fa : Bool) (q : List Nat)
    (hq : mapToLevelE m.tbl qvars = .ok q) (hpre : PreimagePreAny m rn) :
    PreimagePost m trans target rn qvars fa q :=
  preimage_spec_full m hI hoff hV trans target hu hv rn qvars fa q hq hpre.nonempty
    hpre.noOverlap hpre.noName hpre.levels

/-- the statement under the documented preconditions (incl. "partners neighbours" and
"no two keys with the same value"; no hypothesis on the target): false of the fused recursion run
unconditionally (findings F5, F5b) -/
def C13_preimage_statement : Prop :=
  ∀ (m : Mgr), Inv m → m.lastLen = none → VarsBij m.tbl →
  ∀ (trans target : Int), m.tbl.Mem trans → m.tbl.Mem target →
  ∀ (rn : List (Key × Key)) (qvars : List Key) (fa : Bool) (q : List Nat),
    mapToLevelE m.tbl qvars = .ok q → PreimagePre m rn →
    PreimagePost m trans target rn qvars fa q

/-- it holds of the repaired code -/
theorem C13_preimage_statement_holds : C13_preimage_statement :=
  fun m hI hoff hV trans target hu hv rn qvars fa q hq hpre =>
    C13_preimage m hI hoff hV trans target hu hv rn qvars fa q hq
      ⟨hpre.nonempty, hpre.noOverlap, hpre.noName, hpre.levels⟩

/-- the witness of finding F5.  Order `x < xp`; `trans = ¬x ∧ ¬xp`; `target = x xor xp` (depends on
the value `xp` of the renaming: the test `fused` fails); `rename = {x: xp}`; `qvars = {xp}`;
existential.  Documented meaning: `∃ xp. ¬x ∧ ¬xp ∧ (xp xor xp)` = FALSE — and that is what the
call returns (the recursion `_image` alone returns `¬x`: `imgM_F5_run`). -/
example : ∃ r m', preimage (-4) (-3) [(.lvl 0, .lvl 1)] [.lvl 1] false imgM = (.ok r, m') ∧
    ∀ a, den m'.tbl r a = false := by
  have hres : resolveRename imgM.tbl [(.lvl 0, .lvl 1)] = [(.lvl 0, .lvl 1)] := by decide
  have hpairs : intPairs [(Key.lvl 0, Key.lvl 1)] = [(0, 1)] := by decide
  have hq : mapToLevelE imgM.tbl [.lvl 1] = .ok [1] := by rfl
  have hpre : PreimagePreAny imgM [(.lvl 0, .lvl 1)] := ⟨by decide, by decide, by decide, by decide⟩
  obtain ⟨r, m', he, _, _, _, _, hd⟩ := C13_preimage imgM imgM_inv rfl imgM_varsBij (-4) (-3)
    (imgM_mem _ (by decide)) (imgM_mem _ (by decide)) [(.lvl 0, .lvl 1)] [.lvl 1] false [1]
    hq hpre
  refine ⟨r, m', he, den_false_of_qsem hd fun b => ?_⟩
  rw [den_neg imgM.tbl imgM_inv.wf.toWF 3 _ (imgM_mem _ (by decide)), imgM_den3, hres, hpairs]
  have e0 : renOf [(0, 1)] 0 = 1 := by decide
  have e1 : renOf [(0, 1)] 1 = 1 := by decide
  simp [e0, e1]

/-- the witness of finding F5b.  Order `a < b < c`; `trans` = TRUE; `target = a ∧ ¬c`;
`rename = {a: b, c: b}` (two keys with the same value: the test `fused` fails); `qvars = {b}`;
existential.  Documented meaning: `∃ b. b ∧ ¬b` = FALSE — and that is what the call returns
(the recursion `_image` alone returns TRUE: `imgM3_noninj_run`). -/
example : ∃ r m', preimage 1 (-3) [(.lvl 0, .lvl 1), (.lvl 2, .lvl 1)] [.lvl 1] false imgM3 =
      (.ok r, m') ∧ ∀ a, den m'.tbl r a = false := by
  obtain ⟨hres, hpairs⟩ := C13_rename_levels imgM3.tbl [(0, 1), (2, 1)] (by simp)
  simp only [List.map] at hres hpairs
  have hq : mapToLevelE imgM3.tbl [.lvl 1] = .ok [1] := by rfl
  have hW := imgM3_inv.wf.toWF
  have hpre : PreimagePreAny imgM3 [(.lvl 0, .lvl 1), (.lvl 2, .lvl 1)] :=
    ⟨by decide, by decide, by decide, by decide⟩
  obtain ⟨r, m', he, _, _, _, _, hd⟩ := C13_preimage imgM3 imgM3_inv rfl imgM3_varsBij 1 (-3)
    (mem_one _) (imgM3_mem _ (by decide)) [(.lvl 0, .lvl 1), (.lvl 2, .lvl 1)] [.lvl 1] false
    [1] hq hpre
  refine ⟨r, m', he, den_false_of_qsem hd fun b => ?_⟩
  rw [den_neg imgM3.tbl hW 3 _ (imgM3_mem _ (by decide)), imgM3_den3, hres, hpairs]
  have e0 : renOf [(0, 1), (2, 1)] 0 = 1 := by decide
  have e2 : renOf [(0, 1), (2, 1)] 2 = 1 := by decide
  simp [e0, e2]

end DD
