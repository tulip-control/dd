/-
  DDProps.C13Counts — `image` / `preimage` keep the reference counts exact (C13 + C06/C17):
  for ANY arguments (well-formed or rejected), with reordering not enabled, the call — whether
  it returns or raises — leaves a manager with the invariant, every old node unchanged, the
  order and switches unchanged (`Kept`), and `RefExact` for the SAME ledger: the operation takes
  no reference of its own, so a following `collect_garbage` / reordering theorem applies.
  (The value of the result is `C13_image` / `C13_preimage` in DDProps.C13.)
-/
import DDProofs.ImageDynTotal
import DDProofs.GcExample
open Std

namespace DD

/-- C13 (`image`, counts): any arguments, reordering not enabled -/
theorem C13_image_counts (ext : Nat → Nat) (t s : Int) (rn : List (Key × Key)) (q : List Key)
    (fa : Bool) (m : Mgr) (hI : Inv m) (hr : RefExact m ext) (hoff : m.lastLen = none) :
    Kept m (image t s rn q fa m).2 ∧ RefExact (image t s rn q fa m).2 ext ∧
    (image t s rn q fa m).2.lastLen = none := by
  obtain ⟨_, k, rk⟩ := (image_decorated t s rn q fa m).off hI hoff
  exact ⟨k, (rk ext hr).1, k.frame.lastLen.trans hoff⟩

/-- C13 (`preimage`, counts): any arguments, reordering not enabled -/
theorem C13_preimage_counts (ext : Nat → Nat) (t s : Int) (rn : List (Key × Key)) (q : List Key)
    (fa : Bool) (m : Mgr) (hI : Inv m) (hr : RefExact m ext) (hoff : m.lastLen = none) :
    Kept m (preimage t s rn q fa m).2 ∧ RefExact (preimage t s rn q fa m).2 ext ∧
    (preimage t s rn q fa m).2.lastLen = none := by
  obtain ⟨_, k, rk⟩ := (preimage_decorated t s rn q fa m).off hI hoff
  exact ⟨k, (rk ext hr).1, k.frame.lastLen.trans hoff⟩

/-- non-vacuity: the example manager of C06 (variables `a`, `b`; the user holds `a ∧ b`) meets
the hypotheses; `image(a ∧ b, b, {}, {a})` on it -/
example : RefExact (image 4 3 [] [.name "a"] false exM).2 exExt :=
  (C13_image_counts exExt 4 3 [] [.name "a"] false exM exM_inv exM_refExact (by decide)).2.1
example : RefExact (preimage 4 3 [(.name "a", .name "b")] [] true exM).2 exExt :=
  (C13_preimage_counts exExt 4 3 _ [] true exM exM_inv exM_refExact (by decide)).2.1

end DD
