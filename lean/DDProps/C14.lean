/-
  DDProps.C14 — declaring and undeclaring variables keeps a valid order and all functions.
-/
import DDProofs.Undeclare
import DDProofs.UndeclareExample
namespace DD

/-- C14: a new name gets the next bottom level; the manager invariant, every node, every
function of an existing reference, the levels of the existing names, and the bijection
between names and 0..n-1 are all kept -/
theorem C14_add_var_new (m : Mgr) (hI : Inv m) (hO : OrderOK m.tbl) (var : String)
    (hnew : m.tbl.vars[var]? = none) :
    ∃ m', addVar var none m = (.ok m.nvars, m') ∧
      Inv m' ∧ OrderOK m'.tbl ∧ m'.tbl.nvars = m.tbl.nvars + 1 ∧
      m'.tbl.vars[var]? = some m.nvars ∧
      (∀ (v : String) (i : Nat), m.tbl.vars[v]? = some i → m'.tbl.vars[v]? = some i) ∧
      (∀ u, m.tbl.Mem u → m'.tbl.Mem u ∧ ∀ a, den m'.tbl u a = den m.tbl u a) ∧
      m'.tbl.succ = m.tbl.succ ∧ m'.ref = m.ref :=
  addVar_new_run m hI hO var hnew

/-- C14: `add_var` is idempotent for existing names (with or without their level); `declare(*names)`
is `add_var(name)` for each name -/
theorem C14_add_var_idempotent (m : Mgr) (var : String) (i : Nat) (hex : m.tbl.vars[var]? = some i) :
    addVar var none m = (.ok i, m) ∧ addVar var (some (i : Int)) m = (.ok i, m) :=
  addVar_existing m var i hex

/-- C14: a name at another level, or a level used by another name, is refused; nothing changes -/
theorem C14_add_var_refuses (m : Mgr) (var : String) :
    (∀ (i : Nat) (l : Int), m.tbl.vars[var]? = some i → l ≠ i → addVar var (some l) m = (.error .value, m)) ∧
    (∀ (l : Nat) (other : String), m.tbl.vars[var]? = none → m.tbl.l2v[l]? = some other →
      addVar var (some (l : Int)) m = (.error .value, m)) :=
  ⟨fun i l h1 h2 => addVar_conflict m var i l h1 h2,
   fun l other h1 h2 => addVar_level_in_use m var l other h1 h2⟩

/-- C14: `vars`, `var_levels`, `var_at_level`, `level_of_var` are lookups in two dictionaries, `vars`
and `_level_to_var`; the two are inverse bijections between the names and the levels 0..n-1 -/
theorem C14_views_agree (t : Tbl) (h : OrderOK t) :
    (∀ (v : String) (i : Nat), t.vars[v]? = some i → t.l2v[i]? = some v ∧ i < t.nvars) ∧
    (∀ (i : Nat) (v : String), t.l2v[i]? = some v → t.vars[v]? = some i ∧ i < t.nvars) ∧
    (∀ (i : Nat), i < t.nvars → ∃ v : String, t.l2v[i]? = some v ∧ t.vars[v]? = some i) :=
  h.views

/-- C14, removal, refusals: a name that is not declared, or a variable whose level still carries a
node, makes `undeclare_vars` raise `ValueError`, and the manager is exactly as it was -/
theorem C14_undeclare_refuses (m : Mgr) (vrs : List String)
    (h : ∃ v ∈ vrs, m.tbl.vars[v]? = none ∨
      ∃ l, m.tbl.vars[v]? = some l ∧ m.tbl.LevelHasNode l) :
    undeclareVars vrs m = (.error .value, m) :=
  undeclare_refuses m vrs h

/-- non-vacuity: an unknown name; a used variable (`a` carries node 3 in the example manager) -/
example : undeclareVars ["b", "z"] undeclExM = (.error .value, undeclExM) :=
  C14_undeclare_refuses _ _ ⟨"z", by simp, Or.inl undeclExM_lookups.2.2.1⟩
example : undeclareVars ["b", "a"] undeclExM = (.error .value, undeclExM) :=
  C14_undeclare_refuses _ _ ⟨"a", by simp, Or.inr undeclExM_a⟩

/-- C14, removal, success: when every named variable is declared and at a level without nodes
(no name: always), the call succeeds and
* removes exactly the named variables — with no name given, exactly the variables whose level
  carries no node (`rm` has no duplicates, all its names were declared);
* keeps every other variable, at the level `f l` where `f` compacts the kept levels;
* `vars` / `_level_to_var` again are inverse bijections onto `0..n'-1`;
* the kept variables keep their relative order;
* the manager invariant holds again (reduced, ordered, unique table; `_pred` in sync with `_succ`;
  empty computed table);
* node numbers and children are unchanged, levels are relabeled by `f`, strictly increasing on
  the levels in use (`Relabel`);
* every reference keeps its function BY NAME (`denN`);
* reference counts, the free-number hint and the roots are untouched. -/
theorem C14_undeclare_spec (m : Mgr) (hI : Inv m) (hO : OrderOK m.tbl) (vrs : List String)
    (hvrs : ∀ v ∈ vrs, ∃ l, m.tbl.vars[v]? = some l ∧ ¬ m.tbl.LevelHasNode l) :
    ∃ (rm : List String) (m' : Mgr) (f : Nat → Nat),
      undeclareVars vrs m = (.ok rm, m') ∧
      (∀ v, v ∈ rm ↔
        if vrs = [] then (∃ l, m.tbl.vars[v]? = some l ∧ ¬ m.tbl.LevelHasNode l) else v ∈ vrs) ∧
      (∀ v ∈ rm, m.tbl.vars.contains v = true) ∧ rm.Nodup ∧
      (∀ (v : String) (j : Nat), m'.tbl.vars[v]? = some j ↔
        ∃ l, m.tbl.vars[v]? = some l ∧ v ∉ rm ∧ j = f l) ∧
      OrderOK m'.tbl ∧
      (∀ (v w : String) (i j i' j' : Nat), m.tbl.vars[v]? = some i → m.tbl.vars[w]? = some j →
        m'.tbl.vars[v]? = some i' → m'.tbl.vars[w]? = some j' → (i < j ↔ i' < j')) ∧
      Inv m' ∧
      Relabel m.tbl m'.tbl f ∧
      (∀ u, m.tbl.Mem u → m'.tbl.Mem u ∧ ∀ σ, denN m'.tbl u σ = denN m.tbl u σ) ∧
      m'.ref = m.ref ∧ m'.minFree = m.minFree ∧ m'.cache.isEmpty = true ∧ m'.roots = m.roots :=
  have hfull := undeclFull_used m.tbl vrs
  ⟨_, _, undeclMap (undeclFull m.tbl vrs), undeclare_ok m hI.wf.toWF hO vrs hvrs,
    undeclRemoved_spec m.tbl hO vrs hvrs, undeclRemoved_declared _ _, undeclRemoved_nodup _ _,
    undeclState_vars_kept m hO vrs, (undeclState_order m _ hO).1, undeclState_rel_order m _ hO,
    undeclState_inv m _ hI hO hfull, undeclState_relabel m _ hI.wf.toWF hO hfull,
    undeclState_denN m _ hI hO hfull, rfl, rfl, Std.TreeMap.isEmpty_emptyc, rfl⟩

/-- non-vacuity: the example manager (variables a, b, c; nodes 2 = `c`, 3 = `a ∧ c`; no node at
the level of `b`) meets the hypotheses, with `b` named and with no name given -/
example : Inv undeclExM ∧ OrderOK undeclExM.tbl ∧
    (∀ v ∈ ["b"], ∃ l, undeclExM.tbl.vars[v]? = some l ∧ ¬ undeclExM.tbl.LevelHasNode l) ∧
    (∀ v ∈ ([] : List String), ∃ l, undeclExM.tbl.vars[v]? = some l ∧ ¬ undeclExM.tbl.LevelHasNode l) :=
  ⟨undeclExM_ok.1, undeclExM_ok.2, undeclExM_b, by simp⟩
/-- ... and the call then does remove `b` and moves `c` from level 2 to level 1 -/
example : (undeclareVars ["b"] undeclExM).1.toOption = some ["b"] ∧
    (undeclareVars ["b"] undeclExM).2.tbl.vars["c"]? = some 1 ∧
    (undeclareVars [] undeclExM).1.toOption = some ["b"] :=
  undeclExM_runs

/-- C14, removal (the full statement): for EVERY manager satisfying the invariant with a valid
order and EVERY list of names, `undeclare_vars` either succeeds — the invariant and the bijection
hold again, the removed names are exactly the variables that were declared and no longer are, the
kept variables keep their relative order, every reference keeps its function by name — or raises
`ValueError` leaving the manager exactly as it was. -/
theorem C14_undeclare (m : Mgr) (vrs : List String) (hI : Inv m) (hO : OrderOK m.tbl) :
    match undeclareVars vrs m with
    | (.ok removed, m') =>
      Inv m' ∧ OrderOK m'.tbl ∧
      (∀ v, v ∈ removed ↔ (m.tbl.vars.contains v ∧ ¬ m'.tbl.vars.contains v)) ∧
      (∀ (v w : String) (i j i' j' : Nat), m.tbl.vars[v]? = some i → m.tbl.vars[w]? = some j →
        m'.tbl.vars[v]? = some i' → m'.tbl.vars[w]? = some j' → (i < j ↔ i' < j')) ∧
      (∀ u, m.tbl.Mem u → m'.tbl.Mem u ∧ ∀ σ, denN m'.tbl u σ = denN m.tbl u σ)
    | (.error e, m') => e = .value ∧ m' = m := by
  have hfull := undeclFull_used m.tbl vrs
  rcases undeclare_total m hI.wf.toWF hO vrs with h | h <;> rw [h]
  · exact ⟨rfl, rfl⟩
  · exact ⟨undeclState_inv m _ hI hO hfull, (undeclState_order m _ hO).1,
      undeclRemoved_iff_dropped m hO vrs, undeclState_rel_order m _ hO,
      undeclState_denN m _ hI hO hfull⟩

/-- non-vacuity: both branches of `C14_undeclare` occur on the example manager -/
example : Inv undeclExM ∧ OrderOK undeclExM.tbl ∧
    (undeclareVars ["b"] undeclExM).1.toOption = some ["b"] ∧
    undeclareVars ["a"] undeclExM = (.error .value, undeclExM) :=
  ⟨undeclExM_ok.1, undeclExM_ok.2, undeclExM_runs.1,
   C14_undeclare_refuses _ _ ⟨"a", by simp, Or.inr undeclExM_a⟩⟩

/-- non-vacuity: the empty manager has a valid (empty) order and satisfies the invariant -/
example : Inv ({} : Mgr) ∧ OrderOK ({} : Mgr).tbl := ⟨Inv.init, OrderOK.empty⟩

end DD
