/-
  DDProps.C15 — MDD conversion and MDD operations preserve meaning.

  Property theorems about the model `DD/Mdd.lean` of `dd/mdd.py` (all states, all inputs,
  no bounds).  Integer assignments are functions level ↦ value; "valid" means every
  variable takes one of its `len` values.
-/
import DDProofs.MddTotal
import DDProofs.Reach2
import DDProofs.PredNodesReach
import DDProofs.MddCanon
import DDProofs.DynExample
namespace DD

/-- every `op in (...)` branch of `MDD.apply` in the current source computes the documented
connective for each of its spellings (all 8 operand valuations); `\A`, `\E` and their
spellings raise `NotImplementedError` -/
theorem C15_applyTable_sound : mddTableSound Gen.mddApplyTable = true := mddApplyTable_sound

theorem C15_applyTable_shape : Gen.mddApplyShapeOk = true ∧ Gen.arityShapeOk = true := by decide +kernel

/-- every alias of the vocabulary is handled by exactly one branch, in its arity class -/
theorem C15_vocab_complete : vocabComplete Gen.mddApplyTable = true := mddVocabComplete

/-- on the propositional connectives `MDD.apply` and `BDD.apply` use the same templates -/
theorem C15_templates_as_bdd :
    (Gen.allOps.all fun a =>
      docConn a == some .forall_ || docConn a == some .exists_ ||
      (findRow a Gen.mddApplyTable).map (·.templ) == (findRow a Gen.applyTable).map (·.templ)) = true := by
  decide +kernel

/-- `find_or_add(i, *nodes)` with all successors below level `i` (the documented precondition):
the result denotes "the successor selected by the value of variable `i`"; the invariant is
kept (ordered, first successor regular, reduced, unique, `_pred` in sync, allocator sound,
computed table sound) and no old reference changes its meaning -/
theorem C15_findOrAdd_spec (m : MddMgr) (h : MInv m) (i : Int) (nodes : List Int)
    (hlt : ∀ k ∈ nodes, i.toNat < m.tbl.levelOf k)
    (r : Int) (m' : MddMgr) (hr : mFindOrAdd i nodes m = (.ok r, m')) :
    MInv m' ∧ MExt m.tbl m'.tbl ∧ m'.tbl.Mem r ∧
    (∀ a k, nodes[a i.toNat]? = some k → denM m'.tbl r a = denM m'.tbl k a) ∧
    (∀ u, m.tbl.Mem u → ∀ a, denM m'.tbl u a = denM m.tbl u a) := by
  have F := mFindOrAdd_spec m h i nodes hlt r m' hr
  exact ⟨F.inv, F.ext, F.mem, F.den, F.toMStep.den h⟩

/-- `find_or_add(i, *nodes)` RETURNS NORMALLY when its documented requirements hold — `i` a level
of the manager, as many successors as the variable has values, all of them nodes of the manager
strictly below level `i` —: neither its argument checks nor the allocator assertions can fail.
The only other outcome of the MODEL is `MODEL-SCHEDULE-MISMATCH` (recorded `_free.pop()` that does
not fit). -/
theorem C15_findOrAdd_total (m : MddMgr) (h : MInv m) (i : Int) (nodes : List Int)
    (hi0 : 0 ≤ i) (hi : i.toNat < m.tbl.nvars) (hlen : nodes.length = m.tbl.arity i.toNat)
    (hne : nodes ≠ []) (hmem : ∀ k ∈ nodes, m.tbl.Mem k)
    (hlt : ∀ k ∈ nodes, i.toNat < m.tbl.levelOf k) :
    (∃ r m', mFindOrAdd i nodes m = (.ok r, m') ∧
      MInv m' ∧ MExt m.tbl m'.tbl ∧ m'.tbl.Mem r ∧
      (∀ a k, nodes[a i.toNat]? = some k → denM m'.tbl r a = denM m'.tbl k a) ∧
      (∀ u, m.tbl.Mem u → ∀ a, denM m'.tbl u a = denM m.tbl u a)) ∨
    (∃ m', mFindOrAdd i nodes m = (.error .sched, m') ∧ m.sched ≠ []) := by
  have T := mFindOrAddCore_total m h i.toNat nodes ⟨hi, hlen, hne, hmem⟩
  rw [← mFindOrAdd_nonneg hi0] at T
  rcases T.okOrSched with ⟨r, m', hr, _⟩ | hbad
  · exact Or.inl ⟨r, m', hr, C15_findOrAdd_spec m h i nodes hlt r m' hr⟩
  · exact Or.inr hbad

/-- (conditional form: whenever the call returns `w`, …) -/
theorem C15_ite_ok (m : MddMgr) (h : MInv m) (g u v : Int)
    (mg : m.tbl.Mem g) (mu : m.tbl.Mem u) (mv : m.tbl.Mem v)
    (w : Int) (m' : MddMgr) (hr : mIte g u v m = (.ok w, m')) :
    MInv m' ∧ MExt m.tbl m'.tbl ∧ m'.tbl.Mem w ∧
    (∀ a, MValid m.tbl a →
      denM m'.tbl w a = if denM m.tbl g a then denM m.tbl u a else denM m.tbl v a) ∧
    (∀ x, m.tbl.Mem x → ∀ a, denM m'.tbl x a = denM m.tbl x a) := by
  have I := mIte_spec m h g u v mg mu mv w m' hr
  exact ⟨I.inv, I.ext, I.mem, I.den, I.toMStep.den h⟩

/-- `ite(g, u, v)` on nodes of a manager satisfying the invariant RETURNS NORMALLY — no assertion,
no `KeyError`, no failed argument check of the inner `find_or_add` can occur, for every content of
the computed table and every state of the free list —, and the result is the pointwise
if-then-else on every valid integer assignment; old references keep their meaning.  The only other
outcome of the MODEL is its own report `MODEL-SCHEDULE-MISMATCH`, possible only when a recorded
`_free.pop()` result does not fit (not a behaviour of the code). -/
theorem C15_ite_spec (m : MddMgr) (h : MInv m) (g u v : Int)
    (mg : m.tbl.Mem g) (mu : m.tbl.Mem u) (mv : m.tbl.Mem v) :
    (∃ w m', mIte g u v m = (.ok w, m') ∧
      MInv m' ∧ MExt m.tbl m'.tbl ∧ m'.tbl.Mem w ∧
      (∀ a, MValid m.tbl a →
        denM m'.tbl w a = if denM m.tbl g a then denM m.tbl u a else denM m.tbl v a) ∧
      (∀ x, m.tbl.Mem x → ∀ a, denM m'.tbl x a = denM m.tbl x a)) ∨
    (∃ m', mIte g u v m = (.error .sched, m') ∧ m.sched ≠ []) := by
  rcases (mIte_out m h g u v mg mu mv).okOrSched with ⟨w, m', hr, I⟩ | hbad
  · exact Or.inl ⟨w, m', hr, I.inv, I.ext, I.mem, I.den, I.toMStep.den h⟩
  · exact Or.inr hbad

/-- with no recorded schedule `ite` is total -/
theorem C15_ite_total (m : MddMgr) (h : MInv m) (hs : m.sched = []) (g u v : Int)
    (mg : m.tbl.Mem g) (mu : m.tbl.Mem u) (mv : m.tbl.Mem v) :
    ∃ w m', mIte g u v m = (.ok w, m') ∧
      MInv m' ∧ MExt m.tbl m'.tbl ∧ m'.tbl.Mem w ∧ m'.sched = [] ∧
      (∀ a, MValid m.tbl a →
        denM m'.tbl w a = if denM m.tbl g a then denM m.tbl u a else denM m.tbl v a) ∧
      (∀ x, m.tbl.Mem x → ∀ a, denM m'.tbl x a = denM m.tbl x a) := by
  obtain ⟨w, m', hr, I⟩ := (mIte_out m h g u v mg mu mv).total hs
  exact ⟨w, m', hr, I.inv, I.ext, I.mem, I.sched hs, I.den, I.toMStep.den h⟩

/-- (conditional form) -/
theorem C15_apply_ok (m : MddMgr) (h : MInv m) (op : String) (c : Conn) (hc : docConn op = some c)
    (u : Int) (v w : Option Int) (r : Int) (m' : MddMgr)
    (hr : mApply op u v w m = (.ok r, m')) :
    MInv m' ∧ MExt m.tbl m'.tbl ∧ m'.tbl.Mem r ∧
    ∀ a, MValid m.tbl a →
      denM m'.tbl r a = c.eval (denM m.tbl u a) (denO m.tbl v a) (denO m.tbl w a) := by
  have A := mApply_spec m h op c hc u v w r m' hr
  exact ⟨A.inv, A.ext, A.mem, A.den⟩

/-- `apply(op, u, v, w)` RETURNS NORMALLY for every spelling `op` of a propositional connective `c`
of the vocabulary (every alias of the regenerated table that is implemented: `not`, the binary
connectives, `ite`), operands that are nodes of the manager, and exactly the operands the
connective takes (`ArgsShape`: `v`/`w` given iff the arity asks for them); the result denotes `c`
applied pointwise.  The only other outcome of the MODEL is `MODEL-SCHEDULE-MISMATCH` (recorded
allocator schedule that does not fit). -/
theorem C15_apply_spec (m : MddMgr) (h : MInv m) (op : String) (c : Conn) (hc : docConn op = some c)
    (hprop : c ≠ .forall_ ∧ c ≠ .exists_)
    (u : Int) (v w : Option Int) (hsh : ArgsShape c v w) (mu : m.tbl.Mem u)
    (mv : ∀ x, v = some x → m.tbl.Mem x) (mw : ∀ x, w = some x → m.tbl.Mem x) :
    (∃ r m', mApply op u v w m = (.ok r, m') ∧
      MInv m' ∧ MExt m.tbl m'.tbl ∧ m'.tbl.Mem r ∧
      ∀ a, MValid m.tbl a →
        denM m'.tbl r a = c.eval (denM m.tbl u a) (denO m.tbl v a) (denO m.tbl w a)) ∨
    (∃ m', mApply op u v w m = (.error .sched, m') ∧ m.sched ≠ []) := by
  rcases (mApply_out m h op c hc hprop u v w hsh mu mv mw).okOrSched with ⟨r, m', hr, A⟩ | hbad
  · exact Or.inl ⟨r, m', hr, A.inv, A.ext, A.mem, A.den⟩
  · exact Or.inr hbad

/-- with no recorded schedule `apply` is total on the implemented connectives -/
theorem C15_apply_total (m : MddMgr) (h : MInv m) (hs : m.sched = []) (op : String) (c : Conn)
    (hc : docConn op = some c) (hprop : c ≠ .forall_ ∧ c ≠ .exists_)
    (u : Int) (v w : Option Int) (hsh : ArgsShape c v w) (mu : m.tbl.Mem u)
    (mv : ∀ x, v = some x → m.tbl.Mem x) (mw : ∀ x, w = some x → m.tbl.Mem x) :
    ∃ r m', mApply op u v w m = (.ok r, m') ∧
      MInv m' ∧ MExt m.tbl m'.tbl ∧ m'.tbl.Mem r ∧
      ∀ a, MValid m.tbl a →
        denM m'.tbl r a = c.eval (denM m.tbl u a) (denO m.tbl v a) (denO m.tbl w a) := by
  obtain ⟨r, m', hr, A⟩ := (mApply_out m h op c hc hprop u v w hsh mu mv mw).total hs
  exact ⟨r, m', hr, A.inv, A.ext, A.mem, A.den⟩

/-- the quantifier spellings never succeed and leave the manager untouched -/
theorem C15_apply_quantifier (m : MddMgr) (op : String) (c : Conn) (hc : docConn op = some c)
    (hq : c = .forall_ ∨ c = .exists_) (u : Int) (v w : Option Int) :
    ∃ e, mApply op u v w m = (.error e, m) := by
  cases hres : mApply op u v w m with
  | mk r m' =>
    rcases mApply_cases op u v w m r m' hres with ⟨rfl, e, rfl⟩ | ⟨row, hrow, htempl, _⟩ |
      ⟨row, x, y, z, _, _, _, _, _, hrow, htempl, _⟩
    · exact ⟨e, rfl⟩
    · rw [mddRow_quant (checked_of_find mddApplyTable_sound hrow) hc hq] at htempl; cases htempl
    · rw [mddRow_quant (checked_of_find mddApplyTable_sound hrow) hc hq] at htempl; cases htempl

/-- equal functions ⇔ equal references (complemented edges included), in every manager that
satisfies the invariant, provided every integer variable has at least one value -/
theorem C15_canonical (m : MddMgr) (h : MInv m) (hpos : ∀ i, i < m.tbl.nvars → 0 < m.tbl.arity i)
    (u v : Int) (hu : m.tbl.Mem u) (hv : m.tbl.Mem v) :
    (∀ a, MValid m.tbl a → denM m.tbl u a = denM m.tbl v a) ↔ u = v :=
  mcanonical m.tbl h.wf hpos u v hu hv

/-- the stored diagram is ordered, has as many successors as the variable has values, the first
successor regular, not all successors equal, and no duplicate tuples -/
theorem C15_reduced_ordered (m : MddMgr) (h : MInv m) (u : Nat) (n : MNd) (hn : m.tbl.node? u = some n) :
    n.kids.length = m.tbl.arity n.lvl ∧ (∀ k ∈ n.kids, m.tbl.Mem k ∧ n.lvl < m.tbl.levelOf k) ∧
    (∃ k0 rest, n.kids = k0 :: rest ∧ 0 < k0) ∧ (∃ k ∈ n.kids, ∃ k' ∈ n.kids, k ≠ k') ∧
    (∀ u', m.tbl.node? u' = some n → u' = u) :=
  ⟨h.wf.kids_len _ _ hn, fun k hk => ⟨h.wf.kids_mem _ _ hn k hk, h.wf.kids_lt _ _ hn k hk⟩,
   h.wf.head_pos _ _ hn, h.wf.not_const _ _ hn, fun u' hn' => h.wf.unique _ _ _ hn' hn⟩

/-- `incref` / `decref`, whatever they return, keep the invariant and leave the node table as it is -/
theorem C15_incref_decref (m : MddMgr) (h : MInv m) (u : Int) (r : Except Err Unit) (m' : MddMgr)
    (hi : mIncref u m = (r, m') ∨ mDecref u m = (r, m')) : MInv m' ∧ m'.tbl = m.tbl := by
  rcases hi with hi | hi
  · exact mIncref_inv u m h r m' hi
  · exact mDecref_inv u m h r m' hi

/-- `collect_garbage(roots)`: with exact counts (`_ref[u]` = in-degree + references the user
holds, `ext`), the collection keeps the invariant and the counts exact, only removes nodes
(never creates or changes one), keeps every node the user holds, leaves — when called
without `roots` — only nodes with a positive count, keeps the meaning of every surviving
reference, and empties the computed table -/
theorem C15_gc_ok (m : MddMgr) (ext : Nat → Nat) (h : MInv m) (hx : MRefExact m ext)
    (roots : Option (List Int)) (m' : MddMgr) (hr : mCollectGarbage roots m = (.ok (), m')) :
    GcOK m ext roots.isNone m' :=
  mddGc_spec m ext h hx roots m' hr

/-- `collect_garbage(roots)` RETURNS NORMALLY and does all of the above, when the counts are exact
and the list it starts from (`roots`, references of EITHER sign; `self._ref` when `roots` is
`None`) consists of nodes of the manager: none of the four assertions of the loop, the
`_release` assertions, the `pop`s of `_succ` / `_pred` / `_ref` can fail, and the model's iteration
bound suffices.  (For `roots = None` the hypothesis says the keys of `_ref` are nodes — true in
every reachable state, `C15_reachable_sched`.)  No allocator schedule is involved. -/
theorem C15_gc_spec (m : MddMgr) (ext : Nat → Nat) (h : MInv m) (hx : MRefExact m ext)
    (roots : Option (List Int)) (hro : ∀ r, r ∈ gcRootList m roots → m.tbl.Mem r) :
    ∃ m', mCollectGarbage roots m = (.ok (), m') ∧ GcOK m ext roots.isNone m' :=
  mCollectGarbage_total m ext h hx roots hro

/-- C15, conversion part, at full strength: for a BDD manager that satisfies the reordering
invariant `ReorderInv ext mb` (manager invariant, name maps inverse bijections, exact counts
w.r.t. the ledger `ext` of the references the user holds, every root held) and a proper `dvars`
(`DvarsOK`: integer variables at the levels `0..n-1`, bit lists partitioning the declared BDD
variables), whenever `bdd_to_mdd` returns `(mdd, umap)` — for any recorded iteration orders of
swaps and of `bdd.levels()` — `B2MOK` holds:
* the MDD manager satisfies its invariant and has the variables `dvars`;
* for every `umap` entry `u ↦ r` and every reference `s` to node `u` (complemented or not),
  `flip(r, s)` takes on every valid integer assignment `α` the value of `s` on the encoded bits
  (`bitsOfInts dvars α`: bit `k` of `α[var]` for the `k`-th listed bit — first listed bit least
  significant);
* every BDD node the user holds, and the terminal, is a key of `umap`;
* the BDD manager keeps its invariant, the bits are in zones, and every held reference still is a
  node denoting the same function of the variable names. -/
def bddToMdd_statement : Prop :=
  ∀ (ext : Nat → Nat) (mb : Mgr) (dvars : List MVar) (lev : Option (List Nat)) (out : B2MOut) (mb' : Mgr),
    ReorderInv ext mb → DvarsOK mb.tbl dvars →
    bddToMdd dvars lev mb = (.ok out, mb') → B2MOK ext dvars mb out mb'

/-- C15, conversion part: the full statement, for ANY setting of dynamic reordering.  Built from
`collectGarbage_spec` (C06), `sortToOrder_exact` (C07: `reorder(bdd, order)` reaches exactly the
requested order and keeps every held reference's function of the names), the path-following
behaviour of `cofactor` when every level of a zone is assigned (`cofactor_path`: for any
`_last_len` / reordering context it creates nothing, requests no reordering and leaves the
manager as it was — so the zones cannot be disturbed mid-loop), canonicity ("a node depends on its
own level": the cofactor w.r.t. all bits of a zone lies in a later zone), and the MDD side
(`find_or_add` specification). -/
theorem C15_bddToMdd : bddToMdd_statement :=
  fun ext mb dvars lev out mb' h hd hr => bddToMdd_spec ext mb h dvars hd lev out mb' hr

/-- the statement, spelled out -/
theorem C15_bddToMdd_partial_off (ext : Nat → Nat) (mb : Mgr) (h : ReorderInv ext mb)
    (dvars : List MVar) (hd : DvarsOK mb.tbl dvars)
    (lev : Option (List Nat)) (out : B2MOut) (mb' : Mgr)
    (hr : bddToMdd dvars lev mb = (.ok out, mb')) : B2MOK ext dvars mb out mb' :=
  C15_bddToMdd ext mb dvars lev out mb' h hd hr

/-- the same, spelled out for one held reference `s` (either sign): it has an image, and
`flip(umap[|s|], s)` evaluates on every valid integer assignment to what the BDD reference — as
it was BEFORE the call, by variable names — evaluates to on the encoded bits -/
theorem C15_bddToMdd_held (ext : Nat → Nat) (mb : Mgr) (h : ReorderInv ext mb)
    (dvars : List MVar) (hd : DvarsOK mb.tbl dvars)
    (lev : Option (List Nat)) (out : B2MOut) (mb' : Mgr)
    (hr : bddToMdd dvars lev mb = (.ok out, mb')) (s : Int) (hs : 0 < ext s.natAbs) :
    ∃ r, out.umap.lookup s.natAbs = some r ∧ out.mdd.tbl.Mem r ∧
      ∀ α, MValid out.mdd.tbl α →
        denM out.mdd.tbl (flip r s) α = denN mb.tbl s (bitsOfInts dvars α) :=
  (bddToMdd_spec ext mb h dvars hd lev out mb' hr).image h hs

/-- C15, conversion, TOTALITY: for a manager satisfying the reordering invariant whose `_pred` keys
are triples (`KeysShaped` — what is lost by modelling tuples as lists; true of every manager the
model can build) and a complete description `DvarsFull` of the integer variables (levels
`0..n-1`, bit lists partitioning the declared variables, distinct names, at least one bit per
variable — the code reads `bits[0]` —, `len = 2 ** len(bitnames)` — the code's `find_or_add`
checks it), for ANY setting of dynamic reordering and ANY number of variables, with the default
iteration orders: `bdd_to_mdd(bdd, dvars)` returns normally and `B2MOK` holds.  None of the
assertions, dictionary lookups, `min()` of an empty set, `bits[0]`, `assert_consistent()`,
`cofactor`, `umap[...]`, `find_or_add` argument checks can fail. -/
theorem C15_bddToMdd_total (ext : Nat → Nat) (mb : Mgr) (h : ReorderInv ext mb)
    (hks : KeysShaped mb) (hs : mb.sched = []) (dvars : List MVar) (hd : DvarsFull mb.tbl dvars) :
    ∃ out mb', bddToMdd dvars none mb = (.ok out, mb') ∧ B2MOK ext dvars mb out mb' ∧
      KeysShaped mb' ∧ mb'.sched = [] :=
  bddToMdd_total ext mb h hks hs dvars hd

/-- the same for every recorded schedule of swaps and of `bdd.levels()`: the call returns normally
with `B2MOK`; the only alternative is the model's own report `MODEL-SCHEDULE-MISMATCH` (a recorded
order that is not a permutation of the level sets — not a behaviour of the code) -/
theorem C15_bddToMdd_anySchedule (ext : Nat → Nat) (mb : Mgr) (h : ReorderInv ext mb)
    (hks : KeysShaped mb) (dvars : List MVar) (hd : DvarsFull mb.tbl dvars)
    (lev : Option (List Nat)) :
    OkOrSched (fun out mb' => B2MOK ext dvars mb out mb' ∧ KeysShaped mb') (bddToMdd dvars lev mb) := by
  refine OkOr.mono (fun _ _ hq => ⟨hq.1, hq.2.2⟩) (OkOr.monoE ?_
    (bddToMdd_shaped ext mb h hks dvars hd lev (swapOKng ext) (fun _ hm => hm)
      (fun _ _ hR hng _ => ⟨hR, hng⟩)))
  rintro e (he | ⟨_, he⟩)
  · exact he
  · exact he

/-- total form of `C15_bddToMdd_held`: the call returns, and every held reference `s` (either sign)
has an image with `flip(umap[|s|], s)` = the function `s` denoted before the call, on the bits
encoded by any valid integer assignment -/
theorem C15_bddToMdd_held_total (ext : Nat → Nat) (mb : Mgr) (h : ReorderInv ext mb)
    (hks : KeysShaped mb) (hs : mb.sched = []) (dvars : List MVar) (hd : DvarsFull mb.tbl dvars) :
    ∃ out mb', bddToMdd dvars none mb = (.ok out, mb') ∧ MInv out.mdd ∧ Inv mb' ∧
      ∀ (s : Int), 0 < ext s.natAbs →
        ∃ r, out.umap.lookup s.natAbs = some r ∧ out.mdd.tbl.Mem r ∧
          ∀ α, MValid out.mdd.tbl α →
            denM out.mdd.tbl (flip r s) α = denN mb.tbl s (bitsOfInts dvars α) := by
  obtain ⟨out, mb', hr, B, _, _⟩ := bddToMdd_total ext mb h hks hs dvars hd
  exact ⟨out, mb', hr, B.mdd, B.bdd, fun _ hsx => B.image h hsx⟩

/-- the total forms of `ite` / `apply` apply to a converted MDD: `B2MOK` gives the invariant and
`out.mdd.sched = []` -/
theorem C15_converted_ite_total (ext : Nat → Nat) (dvars : List MVar) (mb : Mgr) (out : B2MOut)
    (mb' : Mgr) (B : B2MOK ext dvars mb out mb') (g u v : Int)
    (mg : out.mdd.tbl.Mem g) (mu : out.mdd.tbl.Mem u) (mv : out.mdd.tbl.Mem v) :
    ∃ w m', mIte g u v out.mdd = (.ok w, m') ∧ MReach dvars m' (fun _ => 0) ∧ m'.tbl.Mem w ∧
      (∀ a, MValid out.mdd.tbl a → denM m'.tbl w a =
        if denM out.mdd.tbl g a then denM out.mdd.tbl u a else denM out.mdd.tbl v a) := by
  obtain ⟨w, m', hr, _, _, hw, _, hden, _⟩ := C15_ite_total out.mdd B.mdd B.sched g u v mg mu mv
  exact ⟨w, m', hr, MReach.ite g u v w m' B.reach hr, hw, hden⟩

/-- C15, conversion, for every BDD manager REACHABLE by a guarded history of user operations
(`reachable_inv`): the hypotheses `ReorderInv`, `KeysShaped` (`reachable_predShape`) and
"no schedule left" of the totality theorems hold, so for a complete description `dvars` of the
integer variables `bdd_to_mdd` returns normally and is correct -/
theorem C15_bddToMdd_reachable (ops : List UOp) (hg : OpsGuarded ops St.init) (dvars : List MVar)
    (hd : DvarsFull (run ops St.init).m.tbl dvars) :
    ∃ out mb', bddToMdd dvars none (run ops St.init).m = (.ok out, mb') ∧
      B2MOK (run ops St.init).ext dvars (run ops St.init).m out mb' ∧
      KeysShaped mb' ∧ mb'.sched = [] := by
  have good : Good2 (run ops St.init).m (run ops St.init).ext := by
    have := reachable2_inv (ops.map .base) ((ops2Guarded_base ops St.init).mpr hg)
    rw [run2_base] at this
    exact this
  have rinv : ReorderInv (run ops St.init).ext (run ops St.init).m := good.good3.reorderInv_self
  have hks : KeysShaped (run ops St.init).m := keysShaped_iff_keysOK.mpr (reachable_predShape ops)
  exact bddToMdd_total _ _ rinv hks good.sched dvars hd

/-- C15, the conversion composes with the other operations.  Convert; take the image `r` of a held
BDD reference `s`; `incref(r)`; `collect_garbage()`: every step RETURNS NORMALLY, the MDD manager
is a reachable state again (so every theorem of this file applies to it), `flip(r, s)` is still a
node and still denotes — on every valid integer assignment — the function `s` denoted in the BDD
before the conversion, and exactly the nodes reachable from `r` remain.  And the BDD manager left
by the conversion satisfies every hypothesis again: a SECOND conversion returns normally and maps
`s` to a reference with the same meaning. -/
theorem C15_convert_incref_collect (ext : Nat → Nat) (mb : Mgr) (h : ReorderInv ext mb)
    (hks : KeysShaped mb) (hs : mb.sched = []) (dvars : List MVar) (hd : DvarsFull mb.tbl dvars)
    (s : Int) (hheld : 0 < ext s.natAbs) :
    ∃ out mb' r m1 m2,
      bddToMdd dvars none mb = (.ok out, mb') ∧ out.umap.lookup s.natAbs = some r ∧
      mIncref r out.mdd = (.ok (), m1) ∧ mCollectGarbage none m1 = (.ok (), m2) ∧
      MReach dvars m2 (mExtInc (fun _ => 0) r) ∧
      m2.tbl.Mem (flip r s) ∧
      (∀ α, MValid m2.tbl α →
        denM m2.tbl (flip r s) α = denN mb.tbl s (bitsOfInts dvars α)) ∧
      (∀ x n, out.mdd.tbl.node? x = some n →
        (m2.tbl.node? x = some n ↔ HeldReach out.mdd.tbl (mExtInc (fun _ => 0) r) x)) ∧
      ∃ out2 mb'' r2, bddToMdd dvars none mb' = (.ok out2, mb'') ∧
        out2.umap.lookup s.natAbs = some r2 ∧
        ∀ α, MValid out2.mdd.tbl α →
          denM out2.mdd.tbl (flip r2 s) α = denN mb.tbl s (bitsOfInts dvars α) := by
  obtain ⟨out, mb', hr, B, hks', hs'⟩ := bddToMdd_total ext mb h hks hs dvars hd
  obtain ⟨r, hlook, hmr, hden⟩ := B.image h hheld
  obtain ⟨m1, hinc, htbl, R1⟩ := B.reach.incref_total hmr
  obtain ⟨m2, hgc, R2, G, hexact⟩ := R1.collect none nofun
  have hmf : m2.tbl.Mem (flip r s) :=
    MTbl.mem_flip s (G.mem_held (htbl ▸ hmr) (by simp [mExtInc]))
  obtain ⟨out2, mb'', hr2, B2, _, _⟩ :=
    bddToMdd_total ext mb' B.reorder hks' hs' dvars (hd.transfer B.names)
  obtain ⟨r2, hlook2, _, hden2⟩ := B2.image B.reorder hheld
  refine ⟨out, mb', r, m1, m2, hr, hlook, hinc, hgc, R2, hmf, fun α hα => ?_, htbl ▸ hexact rfl,
    out2, mb'', r2, hr2, hlook2, fun α hα => ?_⟩
  · rw [G.den (flip r s) hmf α, htbl]
    exact hden α (htbl ▸ (G.sub.valid α).mp hα)
  · rw [hden2 α hα]
    exact B.held_signed h hheld _

/-- the hypotheses of the totality theorems are satisfiable by a non-trivial manager (the example
manager of C06/C07, held node 4 = `a ∧ b`, one integer variable over the bits `b`, `a` in an
order that forces a reordering): hence `bdd_to_mdd` provably returns on it, with a correct image of
the held node -/
example : ∃ out mb', bddToMdd [⟨"x", 0, 4, ["b", "a"]⟩] none exM = (.ok out, mb') ∧
    ∃ r, out.umap.lookup 4 = some r ∧ ∀ α, MValid out.mdd.tbl α →
      denM out.mdd.tbl r α = denN exM.tbl 4 (bitsOfInts [⟨"x", 0, 4, ["b", "a"]⟩] α) := by
  have hk : exM.tbl.vars.keys = ["a", "b"] := by decide +kernel
  have hd : DvarsFull exM.tbl [⟨"x", 0, 4, ["b", "a"]⟩] := by
    refine ⟨⟨List.Perm.refl _, ?_⟩, by decide, by decide, by decide⟩
    rw [hk]; exact List.Perm.swap _ _ _
  have hks : KeysShaped exM := KeysShaped.of_keys (by decide +kernel)
  obtain ⟨out, mb', hr, _, _, hall⟩ :=
    C15_bddToMdd_held_total exExt exM exM_reorderInv hks (by decide +kernel) _ hd
  obtain ⟨r, h1, _, h3⟩ := hall 4 (by decide)
  exact ⟨out, mb', hr, r, h1, fun α hα => by have := h3 α hα; simpa [flip] using this⟩

/-- the hypotheses of the conversion theorems are satisfiable by a non-trivial manager: the
example manager of C06/C07 (variables `a`, `b`; nodes 2 = `a`, 3 = `b`, 4 = `a ∧ b` held) with
one integer variable `x` over the bits `b` (least significant) and `a` — the requested zone
order differs from the current variable order, so the call reorders.  (The run itself cannot be
evaluated in the kernel — the memo of `cofactorF` is a `HashMap` —; successful runs are what the
correspondence check executes.) -/
example : ReorderInv exExt exM ∧ exM.lastLen = none ∧ 0 < exExt 4 ∧
    DvarsOK exM.tbl [⟨"x", 0, 4, ["b", "a"]⟩] := by
  refine ⟨exM_reorderInv, by decide, by decide, ⟨List.Perm.refl _, ?_⟩⟩
  have hk : exM.tbl.vars.keys = ["a", "b"] := by decide +kernel
  rw [hk]
  exact List.Perm.swap _ _ _

/-- C15, conversion part, the MDD half on its own: the main loop of `bdd_to_mdd`
(`b2mLoop`: per kept BDD node, `cofactor` per integer value, edges mapped through `umap`,
`mdd.find_or_add`) produces an MDD manager satisfying its invariant and a `umap` all of whose
entries denote the intended function `S u` — for ANY intended semantics `S` of BDD references
as functions of integer assignments — provided the BDD side delivers, at every iteration,
`BddSideOK`: the `i`-th successor is the `umap` image of a reference in a later zone that
agrees with `u` where the integer variable equals `i`.  (`C15_bddToMdd` discharges that hypothesis
for `S u α = denN mb u (bitsOfInts dvars α)`, from the specifications of `reorder` and `cofactor`
on the BDD side: C07/C04.) -/
theorem C15_bddToMdd_partial (S : Int → MAsg → Bool) (L : Nat → Nat)
    (hSneg : ∀ x α, x ≠ 0 → S (-x) α = !S x α)
    (rm : List Nat) (btv : List (String × MVar)) (P : Mgr → Prop) (K : Nat → Prop)
    (hBdd : ∀ u umap mb var succs mb1, P mb → K u →
      b2mIntSucc btv u umap mb = (.ok (var, succs), mb1) → P mb1 ∧ BddSideOK S L u umap var succs)
    (ord : List Nat) (dvars : List MVar) (mb : Mgr) (out : B2MOut) (mb' : Mgr)
    (hK : ∀ u, u ∈ ord → rm.contains u = false → K u) (hP : P mb)
    (hS1 : ∀ α, S 1 α = true) (hL1 : L 1 ≤ dvars.length)
    (hr : b2mLoop rm btv ord (MddMgr.new (some dvars)) [(1, 1)] mb = (.ok out, mb')) :
    P mb' ∧ MInv out.mdd ∧ out.mdd.tbl.vars = dvars ∧
    ∀ (u : Nat) (r : Int), out.umap.lookup u = some r →
      out.mdd.tbl.Mem r ∧ ∀ (s : Int), s.natAbs = u → ∀ α, MValid out.mdd.tbl α →
        denM out.mdd.tbl (flip r s) α = S s α := by
  obtain ⟨hP', hinv, hext, hU, _⟩ := b2mLoop_partial S L hSneg rm btv P K hBdd ord _ _ mb out mb' hK hP
    (MInv.init dvars) (UmapOK.init S L dvars hS1 hL1) hr
  exact ⟨hP', hinv, hext.vars.symm, fun u r hl =>
    ⟨(hU.ok u r hl).1, fun s hs α hα => hU.flip hSneg hinv.wf.toMWF hl s hs α hα⟩⟩

/-- the same, about `bdd_to_mdd` itself: whenever the call succeeds, and the preparation
(collect, reorder into zones, selection of the zone-entry nodes) establishes a property `P` of
the BDD manager under which every iteration's BDD side delivers `BddSideOK` for the nodes `K`
that the loop keeps, the returned MDD manager satisfies its invariant, has the variables
`dvars`, and every `umap` entry (complemented by `flip` when the BDD reference is) denotes the
intended function -/
theorem C15_bddToMdd_partial_call (S : Int → MAsg → Bool) (L : Nat → Nat)
    (hSneg : ∀ x α, x ≠ 0 → S (-x) α = !S x α) (hS1 : ∀ α, S 1 α = true)
    (dvars : List MVar) (lev : Option (List Nat)) (mb : Mgr) (out : B2MOut) (mb' : Mgr)
    (hL1 : L 1 ≤ dvars.length) (P : Mgr → Prop) (K : Nat → Prop)
    (hPrep : ∀ p mb1, b2mPrepare dvars mb = (.ok p, mb1) →
      P mb1 ∧
      (∀ ord, bddLevelsOrder p.tbl lev = .ok ord → ∀ u, u ∈ ord → p.rm.contains u = false → K u) ∧
      (∀ u umap mbx var succs mby, P mbx → K u →
        b2mIntSucc p.bitToVar u umap mbx = (.ok (var, succs), mby) →
        P mby ∧ BddSideOK S L u umap var succs))
    (hr : bddToMdd dvars lev mb = (.ok out, mb')) :
    P mb' ∧ MInv out.mdd ∧ out.mdd.tbl.vars = dvars ∧
    ∀ (u : Nat) (r : Int), out.umap.lookup u = some r →
      out.mdd.tbl.Mem r ∧ ∀ (s : Int), s.natAbs = u → ∀ α, MValid out.mdd.tbl α →
        denM out.mdd.tbl (flip r s) α = S s α := by
  obtain ⟨p, mb1, ord, hp, ho, hloop⟩ := bddToMdd_unfold dvars lev mb out mb' hr
  obtain ⟨hP, hK, hB⟩ := hPrep p mb1 hp
  exact C15_bddToMdd_partial S L hSneg p.rm p.bitToVar P K hB ord dvars mb1 out mb' (hK ord ho) hP
    hS1 hL1 hloop

/-- the hypotheses of `C15_bddToMdd_partial` are jointly satisfiable (degenerate instance: the
constant BDD, nothing to convert; `S` = "the reference is regular").  A non-degenerate instance
of the BDD-side hypothesis cannot be evaluated in the kernel (the memo of `cofactorF` is a
`HashMap`); it is exercised by the correspondence runs instead. -/
example : ∃ (S : Int → MAsg → Bool) (L : Nat → Nat) (P : Mgr → Prop) (K : Nat → Prop) (out : B2MOut) (mb' : Mgr),
    (∀ x α, x ≠ 0 → S (-x) α = !S x α) ∧ (∀ α, S 1 α = true) ∧ L 1 ≤ ([] : List MVar).length ∧
    (∀ u umap mb var succs mb1, P mb → K u →
      b2mIntSucc [] u umap mb = (.ok (var, succs), mb1) → P mb1 ∧ BddSideOK S L u umap var succs) ∧
    b2mLoop [] [] [] (MddMgr.new (some [])) [(1, 1)] {} = (.ok out, mb') :=
  ⟨fun x _ => decide (0 < x), fun _ => 0, fun _ => True, fun _ => False, _, _,
    by intro x α hx; by_cases h : 0 < x <;> simp [h] <;> omega,
    by intro α; rfl, Nat.le_refl _, by intro _ _ _ _ _ _ _ hK; exact absurd hK id, rfl⟩

/-- every state reachable from `MDD(dvars)` by calls of the user — `find_or_add` with successors
below the level (documented precondition), any `ite` that returns, `apply`, `incref`, `decref` of
a reference the user holds, `collect_garbage` with or without roots, AND calls that raise, in any
order — satisfies the invariant, and every stored count is exactly in-degree + number of
references the user holds.  The allocating calls (`MReach.foaS/iteS/applyS`) run under an
ARBITRARY recorded schedule of `_free.pop()` results, installed for the call and dropped
afterwards, and every choice the real `set.pop()` can make is accepted by the model
(`C15_allocate_acceptance`): the reachable set contains every run of the code, not only the
least-element runs. -/
theorem C15_reachable_inv (dv : List MVar) (m : MddMgr) (ext : Nat → Nat) (h : MReach dv m ext) :
    MInv m ∧ MRefExact m ext ∧ m.tbl.vars = dv :=
  h.inv

/-- between calls no recorded schedule is left, and the keys of `_ref` are nodes -/
theorem C15_reachable_sched (dv : List MVar) (m : MddMgr) (ext : Nat → Nat) (h : MReach dv m ext) :
    m.sched = [] ∧ RefKeys m :=
  ⟨h.sched_nil, h.refKeys⟩

/-- ACCEPTANCE of recorded `_free.pop()` results.  `_allocate`:
* with an empty `_free` takes `_max + 1` and does not consult the schedule;
* with a recorded pop `p` that IS an element of `_free` takes `p`;
* with nothing recorded takes the least element;
* reports `MODEL-SCHEDULE-MISMATCH` only for a recorded pop that is NOT an element of `_free`, and
  then changes nothing;
so for EVERY element `p` of `_free` some schedule makes the model take `p`. -/
theorem C15_allocate_acceptance (m : MddMgr) :
    (m.free = [] → mAllocate m = (.ok (m.max + 1), { m with max := m.max + 1 })) ∧
    (∀ p rest, m.sched = p :: rest → p ∈ m.free →
      mAllocate m = (.ok p, { m with free := m.free.erase p, sched := rest })) ∧
    (∀ f0 tl, m.free = f0 :: tl → m.sched = [] →
      mAllocate m = (.ok f0, { m with free := m.free.erase f0 })) ∧
    (∀ e m', mAllocate m = (.error e, m') →
      m' = m ∧ e = .sched ∧ ∃ p rest, m.sched = p :: rest ∧ m.free ≠ [] ∧ p ∉ m.free) ∧
    (∀ p, p ∈ m.free → ∃ sch, mAllocate { m with sched := sch } =
      (.ok p, { m with free := m.free.erase p, sched := [] })) :=
  ⟨(mAllocate_accepts m).1, (mAllocate_accepts m).2.1, (mAllocate_accepts m).2.2,
   fun e m' h => mAllocate_err m e m' h, fun p hp => mAllocate_any_choice m p hp⟩

/-- what a call that raises leaves, in a reachable state, for any recorded schedule `sch`:
`find_or_add` (any arguments — its checks precede every mutation; under the invariant the
allocator assertions cannot fire), `ite` (any operands: one that is not a node makes `level_of`
raise `KeyError` before anything is created; with nodes as operands nothing can raise), `apply`,
`incref`, `decref`, `collect_garbage` (any roots: one that is not counted makes `self.ref(u)` raise
before the loop starts) leave the manager EXACTLY as it was.  (For `ite` / `apply` the model's own
`MODEL-SCHEDULE-MISMATCH` is excluded: it is not a behaviour of the code.) -/
theorem C15_failed_call_unchanged (dv : List MVar) (m : MddMgr) (ext : Nat → Nat) (h : MReach dv m ext)
    (sch : List Nat) (e : Err) (m1 : MddMgr) :
    (∀ i nodes, mFindOrAdd i nodes { m with sched := sch } = (.error e, m1) →
      ({ m1 with sched := [] } : MddMgr) = m) ∧
    (∀ g u v, mIte g u v { m with sched := sch } = (.error e, m1) → e ≠ .sched →
      ({ m1 with sched := [] } : MddMgr) = m) ∧
    (∀ op u v w, mApply op u v w { m with sched := sch } = (.error e, m1) → e ≠ .sched →
      ({ m1 with sched := [] } : MddMgr) = m) ∧
    (∀ u, mIncref u m = (.error e, m1) → m1 = m) ∧
    (∀ u, mDecref u m = (.error e, m1) → m1 = m) ∧
    (∀ roots, mCollectGarbage roots m = (.error e, m1) → m1 = m) := by
  obtain ⟨hi, hx, _, hk, hs⟩ := h.all
  refine ⟨?_, ?_, ?_, ?_, ?_, ?_⟩
  · intro i nodes hr
    rw [mFindOrAdd_err _ (hi.setSched sch) i nodes e m1 hr, MddMgr.setSched_setSched_self _ hs]
  · intro g u v hr he
    rw [mIte_err _ (hi.setSched sch) g u v e m1 hr he, MddMgr.setSched_setSched_self _ hs]
  · intro op u v w hr he
    rw [mApply_err _ (hi.setSched sch) op u v w e m1 hr he, MddMgr.setSched_setSched_self _ hs]
  · intro u hr; exact mIncref_err u _ e m1 hr
  · intro u hr; exact (mDecref_err u _ e m1 hr).1
  · intro roots hr; exact mCollectGarbage_err _ _ hi hx hk roots e m1 hr

/-- an `ite` with an operand that is not a node has not touched the manager, whether it returns
(`g = ±1`, a hit in the computed table) or raises -/
theorem C15_ite_nonmember (m : MddMgr) (g u v : Int)
    (hn : ¬ (m.tbl.Mem g ∧ m.tbl.Mem u ∧ m.tbl.Mem v)) (r : Except Err Int) (m' : MddMgr)
    (hr : mIte g u v m = (r, m')) : m' = m :=
  mIte_nonmember m g u v hn r m' hr

/-- in every reachable state, equal functions ⇔ equal references -/
theorem C15_reachable_canonical (dv : List MVar) (m : MddMgr) (ext : Nat → Nat) (h : MReach dv m ext)
    (hpos : ∀ i, i < m.tbl.nvars → 0 < m.tbl.arity i)
    (u v : Int) (hu : m.tbl.Mem u) (hv : m.tbl.Mem v) :
    (∀ a, MValid m.tbl a → denM m.tbl u a = denM m.tbl v a) ↔ u = v :=
  C15_canonical m h.inv.1 hpos u v hu hv

/-- (conditional form) in every reachable state, a `collect_garbage()` that returns frees
exactly the unreferenced nodes -/
theorem C15_gc_exact_ok (dv : List MVar) (m : MddMgr) (ext : Nat → Nat) (h : MReach dv m ext)
    (m' : MddMgr) (hr : mCollectGarbage none m = (.ok (), m')) :
    MReach dv m' ext ∧
    (∀ x n, m.tbl.node? x = some n → (m'.tbl.node? x = some n ↔ HeldReach m.tbl ext x)) ∧
    (∀ x n, m'.tbl.node? x = some n → m.tbl.node? x = some n) ∧
    (∀ u, m'.tbl.Mem u → ∀ a, denM m'.tbl u a = denM m.tbl u a) := by
  obtain ⟨m'', hr', R, G, hex⟩ := h.collect none nofun
  cases hr.symm.trans hr'
  exact ⟨R, hex rfl, G.sub.nodes, G.den⟩

/-- in every reachable state `collect_garbage()` RETURNS NORMALLY and frees exactly the
unreferenced nodes: a node remains (with its tuple) iff it is reachable along successor edges from
a node the user holds; nothing is created; surviving references keep their meaning; the result is
reachable again -/
theorem C15_gc_exact (dv : List MVar) (m : MddMgr) (ext : Nat → Nat) (h : MReach dv m ext) :
    ∃ m', mCollectGarbage none m = (.ok (), m') ∧
    MReach dv m' ext ∧
    (∀ x n, m.tbl.node? x = some n → (m'.tbl.node? x = some n ↔ HeldReach m.tbl ext x)) ∧
    (∀ x n, m'.tbl.node? x = some n → m.tbl.node? x = some n) ∧
    (∀ u, m'.tbl.Mem u → ∀ a, denM m'.tbl u a = denM m.tbl u a) := by
  obtain ⟨m', hr, R, G, hex⟩ := h.collect none nofun
  exact ⟨m', hr, R, hex rfl, G.sub.nodes, G.den⟩

/-- in every reachable state `collect_garbage(roots)` RETURNS NORMALLY for any list of references
(of either sign) to nodes of the manager, with the guarantees of `C15_gc_ok` -/
theorem C15_gc_roots_total (dv : List MVar) (m : MddMgr) (ext : Nat → Nat) (h : MReach dv m ext)
    (rs : List Int) (hrs : ∀ r, r ∈ rs → m.tbl.Mem r) :
    ∃ m', mCollectGarbage (some rs) m = (.ok (), m') ∧ MReach dv m' ext ∧
      GcOK m ext false m' := by
  obtain ⟨m', hr, R, G, _⟩ := h.collect (some rs) (fun _ e => by cases e; exact hrs)
  exact ⟨m', hr, R, G⟩

/-! #### the order of `unused.pop()`

`unused` is a Python `set`, `unused.pop()` removes an arbitrary element; the model (and the
correspondence check) pop in one fixed order.  `MGcAny roots m m'` is the relation "some run of
`collect_garbage(roots)`, popping ANY element of the worklist each time, ends in `m'`". -/

/-- the model's run is one of the runs -/
theorem C15_gc_model_run (roots : Option (List Int)) (m m' : MddMgr)
    (hr : mCollectGarbage roots m = (.ok (), m')) : MGcAny roots m m' :=
  mCollectGarbage_any roots m m' hr

/-- no run can get stuck: from a good worklist (distinct nodes with count zero — what the loop
starts from and maintains) the iteration for ANY popped element raises nothing, leaves a good
worklist and one node less (so every run ends, after at most `len(_succ)` iterations) -/
theorem C15_gc_never_stuck (m : MddMgr) (ext : Nat → Nat) (hc : MInvCore m) (hx : MRefExact m ext)
    (work : List Int) (hw : WorkOK m work) (u : Int) (hu : u ∈ work) :
    ∃ work' m1, mGcStep u (work.erase u) m = (.ok work', m1) ∧
      MInvCore m1 ∧ MRefExact m1 ext ∧ WorkOK m1 work' ∧
      m1.tbl.succ.size + 1 = m.tbl.succ.size :=
  mGcStep_progress m ext hc hx work hw u hu

/-- EVERY strategy: let `σ` choose the element `unused.pop()` returns (any function of the worklist
and the manager that picks an element of the worklist).  In every reachable state, for any roots
that are nodes (either sign; or none), `collect_garbage` run with `σ` returns normally within one
iteration per node, is one of the runs `MGcAny`, has the guarantees `GcOK`, leaves a reachable
state's invariants, and — without roots — keeps exactly the nodes reachable from a held node. -/
theorem C15_gc_every_strategy (σ : List Int → MddMgr → Int) (hσ : ∀ w m, w ≠ [] → σ w m ∈ w)
    (dv : List MVar) (m : MddMgr) (ext : Nat → Nat) (h : MReach dv m ext)
    (roots : Option (List Int)) (hro : ∀ rs, roots = some rs → ∀ r, r ∈ rs → m.tbl.Mem r) :
    ∃ m', mCollectGarbageBy σ roots m = (.ok (), m') ∧ MGcAny roots m m' ∧
      GcOK m ext roots.isNone m' ∧
      (roots = none → ∀ x n, m.tbl.node? x = some n →
        (m'.tbl.node? x = some n ↔ HeldReach m.tbl ext x)) := by
  obtain ⟨hi, hx, _⟩ := h.inv
  obtain ⟨m', hr, hany, G⟩ := mCollectGarbageBy_total σ hσ m ext hi hx roots
    (gcRootList_mem m h.refKeys roots hro)
  refine ⟨m', hr, hany, G, ?_⟩
  rintro rfl x n hx'
  exact gcOK_exactly_reachable m ext hi m' G x n hx'

/-- freed numbers: after `collect_garbage` (any order) the number of every removed node is in
`_free`, what was in `_free` is still there, `_max` is unchanged; and `_allocate` hands out a
number — a freed one in particular — only as `_max + 1` when `_free` is empty, or by popping it
from `_free` -/
theorem C15_gc_freed_numbers (m : MddMgr) (ext : Nat → Nat) (h : MInv m) (hx : MRefExact m ext)
    (roots : Option (List Int)) (m' : MddMgr) (R : MGcAny roots m m') :
    (∀ x, x ∈ m.free → x ∈ m'.free) ∧
    (∀ x n, m.tbl.node? x = some n → m'.tbl.node? x = none → x ∈ m'.free) ∧
    m'.max = m.max ∧
    (∀ (mm : MddMgr) u mm', mAllocate mm = (.ok u, mm') →
      (mm.free = [] ∧ u = mm.max + 1 ∧ mm'.max = mm.max + 1 ∧ mm'.free = []) ∨
      (u ∈ mm.free ∧ mm'.free = mm.free.erase u ∧ mm'.max = mm.max)) := by
  obtain ⟨a, b, c⟩ := mGcAny_free m ext h hx roots m' R
  exact ⟨a, b, c, fun mm u mm' hr => mAllocate_source mm u mm' hr⟩

/-- every run, in any order, gives what `collect_garbage` promises; and without roots exactly the
nodes reachable from a held node remain -/
theorem C15_gc_anyOrder (m : MddMgr) (ext : Nat → Nat) (h : MInv m) (hx : MRefExact m ext)
    (roots : Option (List Int)) (m' : MddMgr) (R : MGcAny roots m m') :
    GcOK m ext roots.isNone m' ∧
    (roots = none → ∀ x n, m.tbl.node? x = some n →
      (m'.tbl.node? x = some n ↔ HeldReach m.tbl ext x)) := by
  have G := mGcAny_spec m ext h hx roots m' R
  refine ⟨G, ?_⟩
  rintro rfl x n hx'
  exact gcOK_exactly_reachable m ext h m' G x n hx'

/-- the result of `collect_garbage()` does not depend on the order: any two runs leave the same
nodes (same tuples), the same counters on them, and the same meaning of every reference -/
theorem C15_gc_order_independent (m : MddMgr) (ext : Nat → Nat) (h : MInv m) (hx : MRefExact m ext)
    (m' m'' : MddMgr) (R' : MGcAny none m m') (R'' : MGcAny none m m'') :
    (∀ x, m'.tbl.node? x = m''.tbl.node? x) ∧
    (∀ u, m'.tbl.Mem u → m'.ref[u.natAbs]? = m''.ref[u.natAbs]?) ∧
    (∀ u, m'.tbl.Mem u ↔ m''.tbl.Mem u) ∧
    (∀ u, m'.tbl.Mem u → ∀ a, denM m'.tbl u a = denM m''.tbl u a) :=
  mGcAny_order_independent m ext h hx m' m'' R' R''

/-- the recursion bound the model gives `ite` (`len(vars) + 2`) and the iteration bound of the
collection loop are never reached: neither operation ever reports `MODEL-OUT-OF-FUEL` -/
theorem C15_no_fuel (m : MddMgr) (e : Err) (m' : MddMgr) :
    (∀ g u v, MInv m → m.tbl.Mem g → m.tbl.Mem u → m.tbl.Mem v →
      mIte g u v m = (.error e, m') → e ≠ .fuel) ∧
    (∀ roots, mCollectGarbage roots m = (.error e, m') → e ≠ .fuel) :=
  ⟨fun g u v h mg mu mv hr => mIte_not_fuel m h g u v mg mu mv e m' hr,
   fun roots hr => mCollectGarbage_not_fuel roots m e m' hr⟩

/-! ### non-vacuity: a concrete, non-trivial reachable manager

Two integer variables `x ∈ {0,1,2}` (level 0) and `y ∈ {0,1}` (level 1); nodes:
`2 = (y = 0)`, `3 = (x: [node 2, true, false])`, `4` = a node whose first successor was
complemented on entry (so the reference returned is `-4`), `5` created by `ite` (warm
computed table), node 3 held, `6` created by `apply`.  (The model is evaluated in the kernel,
`decide +kernel`, once per fact or group of facts about a state.) -/

namespace C15Ex
theorem pair_eta {α : Type} {x : Except Err α × MddMgr} {r : Except Err α} (h : x.1 = r) :
    x = (r, x.2) :=
  Prod.ext h rfl

def dv : List MVar := [⟨"x", 0, 3, []⟩, ⟨"y", 1, 2, []⟩]
def m0 : MddMgr := MddMgr.new (some dv)
def s1 := mFindOrAdd 1 [1, -1] m0
def s2 := mFindOrAdd 0 [2, 1, -1] s1.2
def s3 := mFindOrAdd 0 [-1, 2, 1] s2.2
def s4 := mIte 3 (-4) (-2) s3.2
def s5 := mIncref 3 s4.2
def s6 := mApply "xor" 3 (some (-4)) none s5.2
-- collection: an unheld node is freed and its number re-used; a held node stays
def g1 := mCollectGarbage none s1.2
def g2 := mFindOrAdd 1 [-1, 1] g1.2
def h1 := mIncref (-2) s1.2
def h2 := mCollectGarbage none h1.2

/-- the main chain in one evaluation: what the six calls return, and the side conditions under
which they are steps of `MReach` -/
theorem chain :
    (s1.1 = .ok 2 ∧ s2.1 = .ok 3 ∧ s3.1 = .ok (-4) ∧ s4.1 = .ok (-5) ∧ s5.1 = .ok () ∧ s6.1 = .ok 6) ∧
    (∀ k ∈ [1, -1], (1 : Int).toNat < m0.tbl.levelOf k) ∧
    (∀ k ∈ [2, 1, -1], (0 : Int).toNat < s1.2.tbl.levelOf k) ∧
    (∀ k ∈ [-1, 2, 1], (0 : Int).toNat < s2.2.tbl.levelOf k) ∧ s4.2.tbl.Mem 3 := by
  decide +kernel

/-- the two collections after `s1` -/
theorem chainGc :
    (g1.1 = .ok () ∧ g2.1 = .ok (-2) ∧ h1.1 = .ok () ∧ h2.1 = .ok ()) ∧ s1.2.tbl.Mem (-2) := by
  decide +kernel

theorem e1 : s1 = (.ok 2, s1.2) := pair_eta chain.1.1
theorem e2 : s2 = (.ok 3, s2.2) := pair_eta chain.1.2.1
theorem e3 : s3 = (.ok (-4), s3.2) := pair_eta chain.1.2.2.1
theorem e4 : s4 = (.ok (-5), s4.2) := pair_eta chain.1.2.2.2.1
theorem e5 : s5 = (.ok (), s5.2) := pair_eta chain.1.2.2.2.2.1
theorem e6 : s6 = (.ok 6, s6.2) := pair_eta chain.1.2.2.2.2.2
theorem eg1 : g1 = (.ok (), g1.2) := pair_eta chainGc.1.1
theorem eg2 : g2 = (.ok (-2), g2.2) := pair_eta chainGc.1.2.1
theorem eh1 : h1 = (.ok (), h1.2) := pair_eta chainGc.1.2.2.1
theorem eh2 : h2 = (.ok (), h2.2) := pair_eta chainGc.1.2.2.2

theorem r1 : MReach dv s1.2 (fun _ => 0) :=
  MReach.foa 1 [1, -1] 2 _ MReach.init chain.2.1 e1
theorem r2 : MReach dv s2.2 (fun _ => 0) :=
  MReach.foa 0 [2, 1, -1] 3 _ r1 chain.2.2.1 e2
theorem r3 : MReach dv s3.2 (fun _ => 0) :=
  MReach.foa 0 [-1, 2, 1] (-4) _ r2 chain.2.2.2.1 e3
theorem r4 : MReach dv s4.2 (fun _ => 0) :=
  MReach.ite 3 (-4) (-2) (-5) _ r3 e4
theorem r5 : MReach dv s5.2 (mExtInc (fun _ => 0) 3) :=
  MReach.incref 3 _ r4 chain.2.2.2.2 e5
theorem r6 : MReach dv s6.2 (mExtInc (fun _ => 0) 3) :=
  MReach.apply "xor" .xor 3 (some (-4)) none 6 _ r5 (by decide) e6
theorem rg1 : MReach dv g1.2 (fun _ => 0) := MReach.gc none _ r1 eg1
theorem rh1 : MReach dv h1.2 (mExtInc (fun _ => 0) (-2)) := MReach.incref (-2) _ r1 chainGc.2 eh1

theorem hpos (m : MddMgr) (hv : m.tbl.vars = dv) : ∀ i, i < m.tbl.nvars → 0 < m.tbl.arity i := by
  intro i hi
  unfold MTbl.nvars at hi
  unfold MTbl.arity MTbl.varAt?
  rw [hv] at hi ⊢
  have : i = 0 ∨ i = 1 := by simp [dv] at hi; omega
  rcases this with rfl | rfl <;> decide

/-! a larger collection, checked by kernel evaluation (`decide +kernel`), and a pop that is NOT the
least element of `_free` -/

/-- what is observed of a collection: outcome, the remaining node numbers, `_free`, `_ref` -/
def gcObs (r : Except Err Unit × MddMgr) : Except Err Unit × List Nat × List Nat × List (Nat × Nat) :=
  (r.1, r.2.tbl.succ.keys, r.2.free, r.2.ref.toList)

-- `s3`: nodes 2 = (1, [1, -1]), 3 = (0, [2, 1, -1]), 4 = (0, [1, -2, -1]); hold node 3
def k1 := mIncref 3 s3.2
def k2 := mCollectGarbage none k1.2
def k3 := mCollectGarbage (some [-4]) k1.2
-- nothing held: everything is freed, `_free = {2, 3, 4}`
def g3 := mCollectGarbage none s3.2
-- the next `find_or_add` when `_free.pop()` returns 4 (the real `set.pop()` need not return the least)
def f4 := mFindOrAdd 1 [1, -1] { g3.2 with sched := [4] }
-- a recorded pop that is not in `_free`: only then the model reports a mismatch
def f7 := mFindOrAdd 1 [1, -1] { g3.2 with sched := [7] }

/-- the collections after `s3` and the allocation that follows, in one evaluation -/
theorem chainFree :
    (k1.1 = .ok () ∧ k2.1 = .ok () ∧ g3.1 = .ok () ∧ f4.1 = .ok 4) ∧ s3.2.tbl.Mem 3 ∧
    (∀ k ∈ [1, -1], (1 : Int).toNat < g3.2.tbl.levelOf k) := by
  decide +kernel

theorem ek1 : k1 = (.ok (), k1.2) := pair_eta chainFree.1.1
theorem ek2 : k2 = (.ok (), k2.2) := pair_eta chainFree.1.2.1
theorem eg3 : g3 = (.ok (), g3.2) := pair_eta chainFree.1.2.2.1
theorem ef4 : f4 = (.ok 4, f4.2) := pair_eta chainFree.1.2.2.2
theorem rk1 : MReach dv k1.2 (mExtInc (fun _ => 0) 3) := MReach.incref 3 _ r3 chainFree.2.1 ek1
theorem rg3 : MReach dv g3.2 (fun _ => 0) := MReach.gc none _ r3 eg3
/-- a reachable state in which node number 4 was re-used although 2 and 3 were free -/
theorem rf4 : MReach dv { f4.2 with sched := [] } (fun _ => 0) :=
  MReach.foaS [4] 1 [1, -1] 4 _ rg3 chainFree.2.2 ef4

end C15Ex

/-- a fresh `MDD(dvars)` satisfies the invariant -/
example (dv : List MVar) : MInv (MddMgr.new (some dv)) := MInv.init dv

open C15Ex in
/-- the hypotheses of the `find_or_add` / `ite` / `apply` / canonicity / structure theorems hold in
a manager with shared sub-nodes, a complemented edge, a warm computed table and a held node -/
example : MInv s6.2 ∧ MRefExact s6.2 (mExtInc (fun _ => 0) 3) ∧
    s6.2.tbl.node? 3 = some ⟨0, [2, 1, -1]⟩ ∧ s6.2.tbl.node? 4 = some ⟨0, [1, -2, -1]⟩ ∧
    s6.2.cache[iteKey 3 (-4) (-2)]? = some (-5) ∧ s6.2.ref[3]? = some 1 ∧
    (∀ i, i < s6.2.tbl.nvars → 0 < s6.2.tbl.arity i) :=
  have h : s6.2.tbl.node? 3 = some ⟨0, [2, 1, -1]⟩ ∧ s6.2.tbl.node? 4 = some ⟨0, [1, -2, -1]⟩ ∧
      s6.2.cache[iteKey 3 (-4) (-2)]? = some (-5) ∧ s6.2.ref[3]? = some 1 := by decide +kernel
  ⟨r6.inv.1, r6.inv.2.1, h.1, h.2.1, h.2.2.1, h.2.2.2, hpos _ r6.inv.2.2⟩

open C15Ex in
/-- the `find_or_add` theorem applies to the call that created node 3 (successors below level 0) -/
example : MInv s1.2 ∧ (∀ k ∈ [2, 1, -1], (0 : Int).toNat < s1.2.tbl.levelOf k) ∧
    mFindOrAdd 0 [2, 1, -1] s1.2 = (.ok 3, s2.2) :=
  ⟨r1.inv.1, chain.2.2.1, e2⟩

open C15Ex in
/-- the `ite` theorem applies to the call that produced node 5 (all three operands are nodes) -/
example : MInv s3.2 ∧ s3.2.tbl.Mem 3 ∧ s3.2.tbl.Mem (-4) ∧ s3.2.tbl.Mem (-2) ∧
    mIte 3 (-4) (-2) s3.2 = (.ok (-5), s4.2) :=
  have h : s3.2.tbl.Mem 3 ∧ s3.2.tbl.Mem (-4) ∧ s3.2.tbl.Mem (-2) := by decide +kernel
  ⟨r3.inv.1, h.1, h.2.1, h.2.2, e4⟩

open C15Ex in
/-- the `apply` theorem applies: `xor` is a spelling of a propositional connective -/
example : docConn "xor" = some .xor ∧ mApply "xor" 3 (some (-4)) none s5.2 = (.ok 6, s6.2) :=
  ⟨by decide, e6⟩

open C15Ex in
/-- the collection theorems apply and are not trivial: the unheld node 2 is freed and its number
is re-used by the next `find_or_add`; the held node 2 stays -/
example : MReach dv s1.2 (fun _ => 0) ∧ mCollectGarbage none s1.2 = (.ok (), g1.2) ∧
    (s1.2.tbl.node? 2).isSome = true ∧ g1.2.tbl.node? 2 = none ∧ g1.2.free = [2] ∧
    g2.2.tbl.node? 2 = some ⟨1, [1, -1]⟩ ∧ g2.2.free = [] ∧
    MReach dv h1.2 (mExtInc (fun _ => 0) (-2)) ∧ mCollectGarbage none h1.2 = (.ok (), h2.2) ∧
    h2.2.tbl.node? 2 = some ⟨1, [1, -1]⟩ :=
  have h : (s1.2.tbl.node? 2).isSome = true ∧ g1.2.tbl.node? 2 = none ∧ g1.2.free = [2] ∧
      g2.2.tbl.node? 2 = some ⟨1, [1, -1]⟩ ∧ g2.2.free = [] ∧
      h2.2.tbl.node? 2 = some ⟨1, [1, -1]⟩ := by decide +kernel
  ⟨r1, eg1, h.1, h.2.1, h.2.2.1, h.2.2.2.1, h.2.2.2.2.1, rh1, eh2, h.2.2.2.2.2⟩

open C15Ex in
/-- the TOTAL forms apply (all hypotheses hold in the example states, no recorded schedule): hence
`ite`, `apply`, `find_or_add` provably return there -/
example : (∃ w m', mIte 3 (-4) (-2) s3.2 = (.ok w, m') ∧ MInv m') ∧
    (∃ r m', mApply "xor" 3 (some (-4)) none s5.2 = (.ok r, m') ∧ MInv m') ∧
    (∃ r m', mApply "ite" 3 (some (-4)) (some 2) s5.2 = (.ok r, m') ∧ MInv m') := by
  have h3 : s3.2.sched = [] ∧ s3.2.tbl.Mem 3 ∧ s3.2.tbl.Mem (-4) ∧ s3.2.tbl.Mem (-2) := by
    decide +kernel
  have h5 : s5.2.sched = [] ∧ s5.2.tbl.Mem 3 ∧ s5.2.tbl.Mem (-4) ∧ s5.2.tbl.Mem 2 := by
    decide +kernel
  refine ⟨?_, ?_, ?_⟩
  · obtain ⟨w, m', hr, hi, _⟩ := C15_ite_total s3.2 r3.inv.1 h3.1 3 (-4) (-2)
      h3.2.1 h3.2.2.1 h3.2.2.2
    exact ⟨w, m', hr, hi⟩
  · obtain ⟨r, m', hr, hi, _⟩ := C15_apply_total s5.2 r5.inv.1 h5.1 "xor" .xor (by decide)
      ⟨by decide, by decide⟩ 3 (some (-4)) none
      ⟨by decide, fun _ => ⟨rfl, rfl⟩, by decide⟩ h5.2.1
      (fun x hx => by cases hx; exact h5.2.2.1) (fun x hx => by cases hx)
    exact ⟨r, m', hr, hi⟩
  · obtain ⟨r, m', hr, hi, _⟩ := C15_apply_total s5.2 r5.inv.1 h5.1 "ite" .ite (by decide)
      ⟨by decide, by decide⟩ 3 (some (-4)) (some 2)
      ⟨by decide, by decide, fun _ => ⟨rfl, rfl⟩⟩ h5.2.1
      (fun x hx => by cases hx; exact h5.2.2.1) (fun x hx => by cases hx; exact h5.2.2.2)
    exact ⟨r, m', hr, hi⟩

open C15Ex in
/-- the total collection theorems apply: in the reachable state `s6` (node 3 held, nodes 2–6
present) `collect_garbage()` and `collect_garbage([-4, 2])` provably return, and the full
collection keeps exactly the nodes reachable from node 3 -/
example : (∃ m', mCollectGarbage none s6.2 = (.ok (), m') ∧
      ∀ x n, s6.2.tbl.node? x = some n →
        (m'.tbl.node? x = some n ↔ HeldReach s6.2.tbl (mExtInc (fun _ => 0) 3) x)) ∧
    (∃ m', mCollectGarbage (some [-4, 2]) s6.2 = (.ok (), m') ∧
      m'.tbl.node? 3 = some ⟨0, [2, 1, -1]⟩) := by
  refine ⟨?_, ?_⟩
  · obtain ⟨m', hr, _, hex, _⟩ := C15_gc_exact dv s6.2 _ r6
    exact ⟨m', hr, hex⟩
  · have h : (∀ r ∈ [-4, 2], s6.2.tbl.Mem r) ∧ s6.2.tbl.node? 3 = some ⟨0, [2, 1, -1]⟩ := by
      decide +kernel
    obtain ⟨m', hr, _, G⟩ := C15_gc_roots_total dv s6.2 _ r6 [-4, 2] h.1
    exact ⟨m', hr, G.held 3 _ h.2 (by decide)⟩

/-! ### non-vacuity of the conversion theorems on a larger manager

Four Boolean variables `a, b, c, d` (levels 0–3) and the held node 5 = `a ? (c ∧ d) : ¬(b ?
(c ∧ d) : d)`, which depends on all four bits; two 2-bit integer variables with INTERLEAVED
bits, `x` over `c` (least significant), `a` and `y` over `d`, `b`, the integer order (`y` above
`x`) opposite to the listing.  The requested zone order `d, b, c, a` differs from the current
order, so the conversion reorders.  (The manager is built with the operations of the reachability
theorem of C06–C08, `reachable2_inv`, which yields the reordering invariant.) -/

namespace C15Ex2

def ops : List UOp2 :=
  [ .base (.declare "a" none), .base (.declare "b" none),
    .base (.declare "c" none), .base (.declare "d" none),
    .base (.findOrAdd 3 (-1) 1),   -- 2 = d
    .base (.findOrAdd 2 (-1) 2),   -- 3 = c ∧ d
    .base (.findOrAdd 1 2 3),      -- 4 = b ? (c ∧ d) : d
    .base (.findOrAdd 0 (-4) 3),   -- 5 = a ? (c ∧ d) : ¬4
    .base (.incref 5) ]

def st : St := run2 ops St.init
def mb : Mgr := st.m
def ex : Nat → Nat := st.ext

theorem guarded : Ops2Guarded ops St.init := by decide +kernel

theorem good : Good2 mb ex := reachable2_inv ops guarded

theorem rinv : ReorderInv ex mb := good.good3.reorderInv_self

def dv : List MVar := [⟨"x", 1, 4, ["c", "a"]⟩, ⟨"y", 0, 4, ["d", "b"]⟩]

/-- the closed facts about the example manager, in one evaluation -/
theorem facts : mb.tbl.node? 5 = some ⟨0, -4, 3⟩ ∧ 0 < ex 5 ∧ mb.tbl.vars.keys = ["a", "b", "c", "d"] ∧
    (mb.pred.keys.all fun k => match k with | [l, _, _] => decide (0 ≤ l) | _ => false) = true := by
  decide +kernel

theorem n5 : mb.tbl.node? 5 = some ⟨0, -4, 3⟩ := facts.1
theorem held5 : 0 < ex 5 := facts.2.1

theorem dfull : DvarsFull mb.tbl dv := by
  refine ⟨⟨by decide, ?_⟩, by decide, by decide, by decide⟩
  rw [facts.2.2.1]; decide

theorem ks : KeysShaped mb := KeysShaped.of_keys facts.2.2.2

end C15Ex2

open C15Ex2 in
/-- all hypotheses of `C15_bddToMdd_total` / `C15_bddToMdd_held_total` hold there: the conversion
provably returns, and the image of the held node 5 denotes its function on the encoded bits -/
example : ∃ out mb', bddToMdd dv none mb = (.ok out, mb') ∧
    ∃ r, out.umap.lookup 5 = some r ∧ ∀ α, MValid out.mdd.tbl α →
      denM out.mdd.tbl r α = denN mb.tbl 5 (bitsOfInts dv α) := by
  obtain ⟨out, mb', hr, _, _, hall⟩ :=
    C15_bddToMdd_held_total ex mb rinv ks good.sched dv dfull
  obtain ⟨r, h1, _, h3⟩ := hall 5 held5
  exact ⟨out, mb', hr, r, h1, fun α hα => by have := h3 α hα; simpa [flip] using this⟩

open C15Ex2 in
/-- and all hypotheses of `C15_convert_incref_collect`: convert, `incref` the image, collect,
convert again — every call provably returns and the images keep denoting node 5 -/
example : ∃ out mb' r m1 m2, bddToMdd dv none mb = (.ok out, mb') ∧
    out.umap.lookup 5 = some r ∧ mIncref r out.mdd = (.ok (), m1) ∧
    mCollectGarbage none m1 = (.ok (), m2) ∧
    (∀ α, MValid m2.tbl α → denM m2.tbl r α = denN mb.tbl 5 (bitsOfInts dv α)) ∧
    ∃ out2 mb'' r2, bddToMdd dv none mb' = (.ok out2, mb'') ∧ out2.umap.lookup 5 = some r2 := by
  obtain ⟨out, mb', r, m1, m2, h1, h2, h3, h4, _, _, h7, _, out2, mb'', r2, h9, h10, _⟩ :=
    C15_convert_incref_collect ex mb rinv ks good.sched dv dfull 5 held5
  exact ⟨out, mb', r, m1, m2, h1, h2, h3, h4,
    fun α hα => by have := h7 α hα; simpa [flip] using this, out2, mb'', r2, h9, h10⟩

open C15Ex in
/-- kernel-checked collections on a manager with three nodes, one of them held: the full
collection and the one from the root `-4` free node 4 only (its number enters `_free`, the count
of its successor 2 drops to 1); with nothing held all three nodes go and `_free = [2, 3, 4]` -/
example : gcObs k2 = (.ok (), [2, 3], [4], [(1, 4), (2, 1), (3, 1)]) ∧
    gcObs k3 = (.ok (), [2, 3], [4], [(1, 4), (2, 1), (3, 1)]) ∧
    gcObs g3 = (.ok (), [], [2, 3, 4], [(1, 0)]) := by
  refine ⟨?_, ?_, ?_⟩ <;> decide +kernel

open C15Ex in
/-- the reachable set is not restricted to least-element pops: with `_free = [2, 3, 4]` and the
recorded pop 4 the model's `find_or_add` takes number 4 (the state is `MReach`, `rf4`); the
mismatch report needs a recorded pop outside `_free` and changes nothing -/
example : g3.2.free = [2, 3, 4] ∧ f4.1 = .ok 4 ∧ f4.2.free = [2, 3] ∧
    f4.2.tbl.node? 4 = some ⟨1, [1, -1]⟩ ∧ MReach dv { f4.2 with sched := [] } (fun _ => 0) ∧
    f7.1 = .error .sched ∧ f7.2.free = [2, 3, 4] := by
  have h : g3.2.free = [2, 3, 4] ∧ f4.1 = .ok 4 ∧ f4.2.free = [2, 3] ∧
      f4.2.tbl.node? 4 = some ⟨1, [1, -1]⟩ ∧ f7.1 = .error .sched ∧ f7.2.free = [2, 3, 4] := by
    decide +kernel
  exact ⟨h.1, h.2.1, h.2.2.1, h.2.2.2.1, rf4, h.2.2.2.2⟩

open C15Ex in
/-- the every-strategy theorem applies (here: always pop the LAST element of the worklist) -/
example : ∃ m', mCollectGarbageBy (fun w _ => w.getLast?.getD 0) none k1.2 = (.ok (), m') ∧
    ∀ x n, k1.2.tbl.node? x = some n →
      (m'.tbl.node? x = some n ↔ HeldReach k1.2.tbl (mExtInc (fun _ => 0) 3) x) := by
  obtain ⟨m', hr, _, _, hex⟩ := C15_gc_every_strategy (fun w _ => w.getLast?.getD 0)
    (fun w _ hw => by
      cases h : w.getLast? with
      | none => rw [List.getLast?_eq_none_iff] at h; exact absurd h hw
      | some a => simpa using List.mem_of_getLast? h)
    dv k1.2 _ rk1 none (fun rs hrs => by cases hrs)
  exact ⟨m', hr, hex rfl⟩

end DD
