/-
  DDProps.C16 — a DDDMP file loads to the functions it describes.

  Model: `DD/Dddmp.lean` (abstract content of a text-mode file, `Parser._parse_header`'s
  tables, `_parse_body`/`_add_node`, `load`).  Specification: `DDProofs/DddmpProofs.lean`
  (`evalFile`: the node list of the file evaluated directly, by variable NAME;
  `DddmpFile.WF`: well-formed files — the terminal line is numbered 1, the other lines in ANY way).
-/
import DDProofs.DddmpFormat
import DDProofs.DddmpDecide
open Std
namespace DD

/-- a small file whose numbering differs from the order in which the loader recreates the
nodes (the witness of finding F1): two roots `a` and `¬ b`,
numbered in the order CUDD's writer would number them (then-child, else-child, node —
root by root); the loader creates level 1 (`b`) first -/
def dddmpWitness : DddmpFile := {
  varinfo := some 0, nnodes := some 3, nvars := some 2, nsuppvars := some 2,
  suppvarnames := some [.str "a", .str "b"], orderedvarnames := some [.str "a", .str "b"],
  ids := some [0, 1], permids := some [0, 1], nroots := some 2, rootids := some [2, -3],
  nodes := [⟨1, .str "T", 1, 0, 0⟩, ⟨2, .num 0, 0, 1, -1⟩, ⟨3, .num 1, 1, 1, -1⟩] }

/-- non-vacuity of `DddmpFile.WF`: the witness file is well-formed -/
theorem dddmpWitness_wf : dddmpWitness.WF := by decide

/-- non-trivial example files (one per mode): three support variables `x, y, z` written at the
levels 2, 5, 0 of a manager with 6 variables (so the order `z < x < y` differs from the
listing `x, y, z`, and `.permids` has gaps), indices `.ids = 4 7 1`; nodes
`3 = y`, `4 = x ∨ ¬y` (a COMPLEMENTED else-edge to node 3), `2 = if z then [4] else [3]`,
listed parent first and numbered against the order in which the loader rebuilds them;
roots `2` and `-4` (a complemented root).  `lx ly lz` are the labels of the three
variables in the mode `vi`; `ov` the optional `.orderedvarnames`. -/
def dddmpExWith (vi : Int) (ov : Option (List DddmpTok)) (lx ly lz : DddmpTok) : DddmpFile := {
  varinfo := some vi, nnodes := some 4, nvars := some 6, nsuppvars := some 3,
  suppvarnames := some [.str "x", .str "y", .str "z"], orderedvarnames := ov,
  ids := some [4, 7, 1], permids := some [2, 5, 0], nroots := some 2, rootids := some [2, -4],
  nodes := [⟨2, lz, 2, 4, 3⟩, ⟨1, .str "T", 1, 0, 0⟩, ⟨4, lx, 0, 1, -3⟩, ⟨3, ly, 1, 1, -1⟩] }

/-- the six variables of the writer, by level -/
def dddmpExOv : List DddmpTok := [.str "z", .str "w", .str "x", .str "q", .str "r", .str "y"]

/-- `.varinfo 0`, names from `.suppvarnames` -/
def dddmpChain : DddmpFile := dddmpExWith 0 none (.num 4) (.num 7) (.num 1)
def dddmpEx1s : DddmpFile := dddmpExWith 1 none (.num 2) (.num 5) (.num 0)
def dddmpEx0o : DddmpFile := dddmpExWith 0 (some dddmpExOv) (.num 4) (.num 7) (.num 1)
def dddmpEx1o : DddmpFile := dddmpExWith 1 (some dddmpExOv) (.num 2) (.num 5) (.num 0)
def dddmpEx3 : DddmpFile := dddmpExWith 3 (some dddmpExOv) (.str "x") (.str "y") (.str "z")

theorem dddmpChain_wf : dddmpChain.WF := by decide
theorem dddmpChain_headerOK : DddmpHeaderOK dddmpChain := by decide

/-- C16: for a well-formed file — whatever numbering it uses for its non-terminal nodes (the
terminal line is numbered 1: `DddmpNode.IsTerm`), with or without gaps in the levels, for each of
the variable-identification modes 0, 1, 3 —
`dd.dddmp.load` succeeds, the manager satisfies the invariant (hence is canonical, C02),
the loader's map sends every node number of the file to a reference that denotes, by
variable name, what the node list says, and the returned `roots` denote (as a set of
functions — `bdd.roots` is a `set`) exactly the root entries of the file.

The returned manager is a state every other property theorem starts from:
`GoodState m (fun _ => 0)` = `Inv` + `OrderOK` (name maps inverse bijections onto `0..n-1`) +
`RefExact` for the EMPTY ledger (the loader takes no reference, not even on the roots:
`find_or_add` counts stored edges only, and `bdd.roots` is a plain set) + dynamic
reordering not enabled + outside a reordering context; no recorded schedule; every root is a
node.  `dd.dddmp.load(fname)` always builds a NEW manager (`_bdd.BDD(new_levels)`): there is
no receiving manager, and a refused file (exception) returns nothing. -/
theorem C16_load_spec (f : DddmpFile) (hf : f.WF) :
    ∃ m umap, loadDddmpU f = .ok (m, umap) ∧ loadDddmp f = .ok m ∧ Inv m ∧
      (∀ x ∈ f.nodes, ∃ r, dictGet umap x.u = some r ∧ m.tbl.Mem r ∧
        ∀ α, den m.tbl r (dddmpAsgOf m.tbl α) = evalFile f α x.u) ∧
      DddmpRootsDenote f m ∧
      GoodState m (fun _ => 0) ∧ m.sched = [] ∧ (∀ r ∈ m.roots, m.tbl.Mem r) := by
  obtain ⟨m, umap, _, _, _, _, hL, h1, h2, hg, h4, h5, h7⟩ := dddmpLoad_loaded f hf
  exact ⟨m, umap, h1, h2, hg.inv, h4, h5, hg, hL.sched, h7⟩

example : ∃ m umap, loadDddmpU dddmpChain = .ok (m, umap) ∧ GoodState m (fun _ => 0) := by
  obtain ⟨m, umap, h, -, -, -, -, hg, -⟩ := C16_load_spec dddmpChain dddmpChain_wf
  exact ⟨m, umap, h, hg⟩

/-- C16, the roots clause alone -/
theorem C16_roots (f : DddmpFile) (hf : f.WF) :
    ∃ m, loadDddmp f = .ok m ∧ Inv m ∧ DddmpRootsDenote f m := by
  obtain ⟨m, _, _, h, hi, _, hr, _⟩ := C16_load_spec f hf
  exact ⟨m, h, hi, hr⟩

/-- C16, canonicity of the loaded manager spelled out: two references of the returned
manager are equal exactly when they denote the same function -/
theorem C16_canonical (f : DddmpFile) (hf : f.WF) :
    ∃ m, loadDddmp f = .ok m ∧ ∀ u v, m.tbl.Mem u → m.tbl.Mem v →
      ((∀ a, den m.tbl u a = den m.tbl v a) ↔ u = v) := by
  obtain ⟨m, h, hi, _⟩ := C16_roots f hf
  exact ⟨m, h, fun u v hu hv => canonical m.tbl hi.wf u v hu hv⟩

/-- C16 (chaining): the manager returned for a well-formed file satisfies the full
reachable-state invariant `GoodState` with the empty ledger, nothing else is set (no schedule,
trigger counter, computed table), every root is a node, the roots denote the file's root
entries, and the ORDER is the file's: one variable per entry of the header's `levels`
table, the variable of file level `k` at the rank of `k` (`DddmpLoaded.rank`; by mode:
`C16_order_ordered`, `C16_order_supp`) -/
theorem C16_load_good (f : DddmpFile) (hf : f.WF) :
    ∃ m, loadDddmp f = .ok m ∧ GoodState m (fun _ => 0) ∧ m.sched = [] ∧ m.fireIn = none ∧
      m.cache = {} ∧ (∀ r ∈ m.roots, m.tbl.Mem r) ∧ DddmpRootsDenote f m ∧
      ∀ i2p levels roots, dddmpHeader f = .ok (i2p, levels, roots) → DddmpLoaded levels m := by
  obtain ⟨m, _, _, _, _, hh, hL, _, h2, hg, _, h5, h7⟩ := dddmpLoad_loaded f hf
  refine ⟨m, h2, hg, hL.sched, hL.fire, hL.cache, h7, h5, fun _ _ _ hh' => ?_⟩
  -- the header has one result
  rw [hh] at hh'
  cases hh'
  exact hL

example : ∃ m, loadDddmp dddmpChain = .ok m ∧ GoodState m (fun _ => 0) := by
  obtain ⟨m, h, hg, -⟩ := C16_load_good dddmpChain dddmpChain_wf
  exact ⟨m, h, hg⟩

/-- the file's variables keep the relative order of their levels in the file (with
`OrderOK` and `nvars = levels.length` this determines the order of the loaded manager) -/
theorem C16_order_kept (f : DddmpFile) (hf : f.WF) :
    ∃ m, loadDddmp f = .ok m ∧ ∀ i2p levels roots, dddmpHeader f = .ok (i2p, levels, roots) →
      m.nvars = levels.length ∧
      (∀ var k, (var, k) ∈ levels → m.tbl.vars.contains var.show = true) ∧
      ∀ var k var' k' (i i' : Nat), (var, k) ∈ levels → (var', k') ∈ levels →
        m.tbl.vars[var.show]? = some i → m.tbl.vars[var'.show]? = some i' → k < k' → i < i' := by
  obtain ⟨m, h, -, -, -, -, -, -, hL⟩ := C16_load_good f hf
  refine ⟨m, h, fun i2p levels roots hh => ⟨(hL _ _ _ hh).nvars, ?_, ?_⟩⟩
  · intro var k hm
    obtain ⟨i, -, -, hv⟩ := (hL _ _ _ hh).rank var k hm
    rw [Std.TreeMap.contains_eq_isSome_getElem?, hv]; rfl
  · intro var k var' k' i i' hm hm' hi hi' hlt
    exact (hL _ _ _ hh).mono hm hm' hi hi' hlt

example : dddmpChain.WF := dddmpChain_wf

/-- with `.orderedvarnames` (distinct names): the order of the loaded manager IS that list -/
theorem C16_order_ordered (f : DddmpFile) (hf : f.WF) (hH : DddmpHeaderOK f) {ov : List DddmpTok}
    (ho : f.orderedvarnames = some ov) :
    ∃ m, loadDddmp f = .ok m ∧ m.nvars = ov.length ∧ ∀ (k : Nat) (var : DddmpTok), ov[k]? = some var →
      m.tbl.vars[var.show]? = some k ∧ m.tbl.l2v[k]? = some var.show := by
  obtain ⟨m, _, _, _, _, hh, hL, _, h, _⟩ := dddmpLoad_loaded f hf
  exact ⟨m, h, hL.of_ordered hh hH ho⟩

example : dddmpEx0o.WF ∧ DddmpHeaderOK dddmpEx0o ∧ dddmpEx0o.orderedvarnames = some dddmpExOv := by
  decide

/-- without `.orderedvarnames`: `suppvarnames[j]` sits at the rank of `permids[j]` among the
`.permids` — gaps closed, relative order kept -/
theorem C16_order_supp (f : DddmpFile) (hf : f.WF) (hH : DddmpHeaderOK f)
    (hv3 : f.varinfo ≠ some 3) (ho : f.orderedvarnames = none) {sv : List DddmpTok}
    (hs : f.suppvarnames = some sv) {permids : List Int} (hp : f.permids = some permids) :
    ∃ m, loadDddmp f = .ok m ∧ m.nvars = permids.length ∧
      ∀ (j : Nat) (var : DddmpTok) (k : Int), sv[j]? = some var → permids[j]? = some k →
        ∃ i : Nat, (sortInts permids)[i]? = some k ∧ m.tbl.vars[var.show]? = some i ∧
          m.tbl.l2v[i]? = some var.show := by
  obtain ⟨m, _, _, _, _, hh, hL, _, h, _⟩ := dddmpLoad_loaded f hf
  exact ⟨m, h, hL.of_supp hh hH hv3 ho hs hp⟩

/-- on the example: `z` (file level 0) gets level 0, `x` (2) level 1, `y` (5) level 2 -/
example : ∃ m, loadDddmp dddmpChain = .ok m ∧ m.nvars = 3 ∧ m.tbl.vars["z"]? = some 0 ∧
    m.tbl.vars["x"]? = some 1 ∧ m.tbl.vars["y"]? = some 2 := by
  obtain ⟨m, h, hn, hr⟩ := C16_order_supp dddmpChain dddmpChain_wf dddmpChain_headerOK (by decide)
    rfl (sv := [.str "x", .str "y", .str "z"]) rfl (permids := [2, 5, 0]) rfl
  -- `sortInts [2, 5, 0] = [0, 2, 5]` has no repetition: an entry determines its position
  have pos : ∀ {i j : Nat} {k : Int}, (sortInts [2, 5, 0])[i]? = some k → (sortInts [2, 5, 0])[j]? = some k →
      i = j := fun hi hj =>
    (List.getElem?_inj (List.getElem?_eq_some_iff.mp hi).1 (by decide)).mp (hi.trans hj.symm)
  refine ⟨m, h, hn, ?_, ?_, ?_⟩
  · obtain ⟨i, hi, hv, -⟩ := hr 2 (.str "z") 0 rfl rfl
    cases pos hi (j := 0) rfl; exact hv
  · obtain ⟨i, hi, hv, -⟩ := hr 0 (.str "x") 2 rfl rfl
    cases pos hi (j := 1) rfl; exact hv
  · obtain ⟨i, hi, hv, -⟩ := hr 1 (.str "y") 5 rfl rfl
    cases pos hi (j := 2) rfl; exact hv

/-- C16 (chaining, every history): after a successful load EVERY guarded history of user
operations (`UOp`: declarations, connectives, substitutions, quantification, `incref` /
`decref`, collections — any arguments, accepted or rejected) leads to a good state again:
the every-history theorems (`run_inv`, `run_held`, …) restart from the loaded manager -/
theorem C16_then_every_history (f : DddmpFile) (hf : f.WF) :
    ∃ m, loadDddmp f = .ok m ∧ ∀ ops : List UOp, OpsGuarded ops ⟨m, fun _ => 0⟩ →
      GoodState (run ops ⟨m, fun _ => 0⟩).m (run ops ⟨m, fun _ => 0⟩).ext := by
  obtain ⟨m, h, hg, -⟩ := C16_load_good f hf
  exact ⟨m, h, fun ops hops => run_inv ops ⟨m, fun _ => 0⟩ hg hops⟩

/-- non-vacuity: a guarded history on the loaded example (a declaration, a rejected call, a
connective on numbers that are nodes there, a collection) -/
example : ∃ m, loadDddmp dddmpChain = .ok m ∧
    GoodState (run [.declare "w" none, .ite 99 1 1, .apply "and" 4 (some (-3)) none, .collectGarbage]
      ⟨m, fun _ => 0⟩).m
      (run [.declare "w" none, .ite 99 1 1, .apply "and" 4 (some (-3)) none, .collectGarbage]
        ⟨m, fun _ => 0⟩).ext := by
  obtain ⟨m, h, hr⟩ := C16_then_every_history dddmpChain dddmpChain_wf
  exact ⟨m, h, hr _ ⟨trivial, trivial, trivial, trivial, trivial⟩⟩

/-- the user's `incref` of every element of a list -/
def holdOps (rs : List Int) : List UOp := rs.map .incref

theorem holdOps_guarded : ∀ (rs : List Int) (s : St), OpsGuarded (holdOps rs) s
  | [], _ => trivial
  | _ :: rs, s => ⟨trivial, holdOps_guarded rs _⟩

/-- C16 (chaining with the reordering theorems): the loader takes no reference on the roots;
once the user has taken one on each (`incref`, as the class documentation asks), the state
satisfies `ReorderInv` — the hypothesis of the C07 theorems on `swap` / sifting /
`reorder` and of `bdd_to_mdd` (C15) — for the ledger that counts these references, and the
node table, hence every denotation, is the loaded one -/
theorem C16_hold_roots (f : DddmpFile) (hf : f.WF) :
    ∃ m, loadDddmp f = .ok m ∧
      let s := run (holdOps m.roots) ⟨m, fun _ => 0⟩
      GoodState s.m s.ext ∧ ReorderInv s.ext s.m ∧ s.m.tbl = m.tbl ∧ s.m.roots = m.roots ∧
        s.m.sched = [] ∧ ∀ r ∈ m.roots, 0 < s.ext r.natAbs := by
  obtain ⟨m, h, hg, hsch, -, -, hmem, -⟩ := C16_load_good f hf
  obtain ⟨g, ht, hro, hsc, -, hpos⟩ := run_increfs m.roots ⟨m, fun _ => 0⟩ hg hmem
  refine ⟨m, h, g, g.reorderInv ?_, ht, hro, hsc.trans hsch, hpos⟩
  intro r hr
  rw [hro] at hr
  exact hpos r hr

example : ∃ m, loadDddmp dddmpChain = .ok m ∧
    ReorderInv (run (holdOps m.roots) ⟨m, fun _ => 0⟩).ext (run (holdOps m.roots) ⟨m, fun _ => 0⟩).m := by
  obtain ⟨m, h, -, hr, -⟩ := C16_hold_roots dddmpChain dddmpChain_wf
  exact ⟨m, h, hr⟩

/-! ### the file's semantics read off the format: one composed statement per mode

`evalFormat f α x` evaluates the node list with the DDDMP reading rule `dddmpNameOf` (header
LINES only: `.varinfo`, `.ids`, `.permids`, `.orderedvarnames`, `.suppvarnames`); none of
the loader's tables enters.  Hypotheses: `f.WF` (the file is accepted and its node list is
consistent), `DddmpHeaderOK f` (the header entries that identify variables are distinct),
and the mode.  Every statement includes complemented else-edges (a negative else-column) and
signed root entries (`DddmpShannon.sign`). -/

/-- C16 (format semantics), for a reading `R` of the labels that is `dddmpNameOf` in the mode
of the file and a fact `O` about the ORDER that the mode reads off `DddmpLoaded`: `C16_format`
and the seven `C16_varinfo…` below are this theorem with the two spelled out for a mode -/
theorem C16_format_core (f : DddmpFile) (hf : f.WF) (hH : DddmpHeaderOK f)
    {R : DddmpTok → DddmpTok → Prop} {O : Mgr → Prop}
    (hR : ∀ info var, dddmpNameOf f info = some var ↔ R info var)
    (hO : ∀ {i2p levels roots m}, dddmpHeader f = .ok (i2p, levels, roots) → DddmpLoaded levels m → O m) :
    ∃ m, loadDddmp f = .ok m ∧ GoodState m (fun _ => 0) ∧
      DddmpRootsDenoteBy (evalFormat f) f m ∧ DddmpShannon f R (evalFormat f) ∧ O m := by
  obtain ⟨m, _, _, _, _, hh, hL, _, h, hg, _, hr, _⟩ := dddmpLoad_loaded f hf
  exact ⟨m, h, hg, evalFile_eq_evalFormat_fun hf hH ▸ (dddmpRootsDenote_iff f m).mp hr,
    (evalFormat_shannon hf hH).reading hR, hO hh hL⟩

/-- C16 (format semantics, every mode, with or without names): the roots of the loaded manager denote, by
variable NAME, exactly the root entries of the file evaluated by the DDDMP rule; that
evaluation obeys the Shannon rule on every listed line; the manager is a good state -/
theorem C16_format (f : DddmpFile) (hf : f.WF) (hH : DddmpHeaderOK f) :
    ∃ m, loadDddmp f = .ok m ∧ GoodState m (fun _ => 0) ∧
      DddmpRootsDenoteBy (evalFormat f) f m ∧
      DddmpShannon f (fun info var => dddmpNameOf f info = some var) (evalFormat f) ∧
      ∀ α x, evalFile f α x = evalFormat f α x := by
  exact C16_format_core f hf hH (fun _ _ => Iff.rfl) fun _ _ => evalFile_eq_evalFormat hf hH

/-- C16, `.varinfo 3` (labels are names; `.orderedvarnames` lists the writer's variables by
level): roots = the file's root entries, where the line labelled `var` is a node of the
variable `var`; the order of the loaded manager is `.orderedvarnames` -/
theorem C16_varinfo3 (f : DddmpFile) (hf : f.WF) (hH : DddmpHeaderOK f)
    (hv : f.varinfo = some 3) {ov : List DddmpTok} (ho : f.orderedvarnames = some ov) :
    ∃ m, loadDddmp f = .ok m ∧ GoodState m (fun _ => 0) ∧
      DddmpRootsDenoteBy (evalFormat f) f m ∧
      DddmpShannon f (fun info var => info = var ∧ var ∈ ov) (evalFormat f) ∧
      m.nvars = ov.length ∧ ∀ (k : Nat) (var : DddmpTok), ov[k]? = some var →
        m.tbl.vars[var.show]? = some k ∧ m.tbl.l2v[k]? = some var.show := by
  exact C16_format_core f hf hH (dddmpNameOf_varinfo3 hv ho) fun hh hL => hL.of_ordered hh hH ho

/-- C16, `.varinfo 0` with `.orderedvarnames`: the line labelled `ids[j]` is a node of the
variable `orderedvarnames[permids[j]]`; the order of the loaded manager is `.orderedvarnames` -/
theorem C16_varinfo0_ordered (f : DddmpFile) (hf : f.WF) (hH : DddmpHeaderOK f)
    (hv : f.varinfo = some 0) {ids permids : List Int} (hi : f.ids = some ids)
    (hp : f.permids = some permids) {ov : List DddmpTok} (ho : f.orderedvarnames = some ov) :
    ∃ m, loadDddmp f = .ok m ∧ GoodState m (fun _ => 0) ∧
      DddmpRootsDenoteBy (evalFormat f) f m ∧
      DddmpShannon f (fun info var => ∃ (j : Nat) (i : Int) (k : Nat), info = .num i ∧
        ids[j]? = some i ∧ permids[j]? = some (k : Int) ∧ ov[k]? = some var) (evalFormat f) ∧
      m.nvars = ov.length ∧ ∀ (k : Nat) (var : DddmpTok), ov[k]? = some var →
        m.tbl.vars[var.show]? = some k ∧ m.tbl.l2v[k]? = some var.show := by
  exact C16_format_core f hf hH (dddmpNameOf_varinfo0_ordered hv hi hp (hH.ids_nodup hv hi) ho)
    fun hh hL => hL.of_ordered hh hH ho

/-- C16, `.varinfo 1` with `.orderedvarnames`: the line labelled with the level `k` (an entry
of `.permids`) is a node of the variable `orderedvarnames[k]` -/
theorem C16_varinfo1_ordered (f : DddmpFile) (hf : f.WF) (hH : DddmpHeaderOK f)
    (hv : f.varinfo = some 1) {permids : List Int} (hp : f.permids = some permids)
    {ov : List DddmpTok} (ho : f.orderedvarnames = some ov) :
    ∃ m, loadDddmp f = .ok m ∧ GoodState m (fun _ => 0) ∧
      DddmpRootsDenoteBy (evalFormat f) f m ∧
      DddmpShannon f (fun info var => ∃ k : Nat, info = .num (k : Int) ∧ (k : Int) ∈ permids ∧
        ov[k]? = some var) (evalFormat f) ∧
      m.nvars = ov.length ∧ ∀ (k : Nat) (var : DddmpTok), ov[k]? = some var →
        m.tbl.vars[var.show]? = some k ∧ m.tbl.l2v[k]? = some var.show := by
  exact C16_format_core f hf hH (dddmpNameOf_varinfo1_ordered hv hp (hH.permids_nodup (by rw [hv]; decide) hp) ho)
    fun hh hL => hL.of_ordered hh hH ho

/-- C16, `.varinfo 0` without `.orderedvarnames`: the line labelled `ids[j]` is a node of the
variable `suppvarnames[j]`; `suppvarnames[j]` gets the rank of `permids[j]` as its level -/
theorem C16_varinfo0_supp (f : DddmpFile) (hf : f.WF) (hH : DddmpHeaderOK f)
    (hv : f.varinfo = some 0) (ho : f.orderedvarnames = none) {ids permids : List Int}
    (hi : f.ids = some ids) (hp : f.permids = some permids) {sv : List DddmpTok}
    (hs : f.suppvarnames = some sv) :
    ∃ m, loadDddmp f = .ok m ∧ GoodState m (fun _ => 0) ∧
      DddmpRootsDenoteBy (evalFormat f) f m ∧
      DddmpShannon f (fun info var => ∃ (j : Nat) (i : Int), info = .num i ∧ ids[j]? = some i ∧
        sv[j]? = some var) (evalFormat f) ∧
      m.nvars = permids.length ∧
      ∀ (j : Nat) (var : DddmpTok) (k : Int), sv[j]? = some var → permids[j]? = some k →
        ∃ i : Nat, (sortInts permids)[i]? = some k ∧ m.tbl.vars[var.show]? = some i ∧
          m.tbl.l2v[i]? = some var.show := by
  exact C16_format_core f hf hH (dddmpNameOf_varinfo0_supp hv hi (hH.ids_nodup hv hi) ho hs)
    fun hh hL => hL.of_supp hh hH (by rw [hv]; decide) ho hs hp

/-- C16, `.varinfo 1` without `.orderedvarnames`: the line labelled `permids[j]` is a node of
the variable `suppvarnames[j]`; `suppvarnames[j]` gets the rank of `permids[j]` as its level -/
theorem C16_varinfo1_supp (f : DddmpFile) (hf : f.WF) (hH : DddmpHeaderOK f)
    (hv : f.varinfo = some 1) (ho : f.orderedvarnames = none) {permids : List Int}
    (hp : f.permids = some permids) {sv : List DddmpTok} (hs : f.suppvarnames = some sv) :
    ∃ m, loadDddmp f = .ok m ∧ GoodState m (fun _ => 0) ∧
      DddmpRootsDenoteBy (evalFormat f) f m ∧
      DddmpShannon f (fun info var => ∃ (j : Nat) (k : Int), info = .num k ∧
        permids[j]? = some k ∧ sv[j]? = some var) (evalFormat f) ∧
      m.nvars = permids.length ∧
      ∀ (j : Nat) (var : DddmpTok) (k : Int), sv[j]? = some var → permids[j]? = some k →
        ∃ i : Nat, (sortInts permids)[i]? = some k ∧ m.tbl.vars[var.show]? = some i ∧
          m.tbl.l2v[i]? = some var.show := by
  exact C16_format_core f hf hH (dddmpNameOf_varinfo1_supp hv hp (hH.permids_nodup (by rw [hv]; decide) hp) ho hs)
    fun hh hL => hL.of_supp hh hH (by rw [hv]; decide) ho hs hp

/-! non-vacuity of the five mode theorems: each example file meets the hypotheses, and on it
the reading of the format names `z`, `x`, `y` for the three lines -/

example : dddmpEx3.WF ∧ DddmpHeaderOK dddmpEx3 ∧ dddmpEx3.varinfo = some 3 := by decide
example : dddmpEx0o.WF ∧ DddmpHeaderOK dddmpEx0o ∧ dddmpEx0o.varinfo = some 0 := by decide
example : dddmpEx1o.WF ∧ DddmpHeaderOK dddmpEx1o ∧ dddmpEx1o.varinfo = some 1 := by decide
example : dddmpChain.WF ∧ DddmpHeaderOK dddmpChain ∧ dddmpChain.varinfo = some 0 ∧
    dddmpChain.orderedvarnames = none := by decide
example : dddmpEx1s.WF ∧ DddmpHeaderOK dddmpEx1s ∧ dddmpEx1s.varinfo = some 1 ∧
    dddmpEx1s.orderedvarnames = none := by decide

example : [dddmpChain, dddmpEx1s, dddmpEx0o, dddmpEx1o, dddmpEx3].map
      (fun f => f.nodes.map fun n => dddmpNameOf f n.info) =
    List.replicate 5 [some (.str "z"), none, some (.str "x"), some (.str "y")] := by decide

/-- on the `.varinfo 0` example: the loaded roots denote `if z then x ∨ ¬y else y` and
`¬(x ∨ ¬y)`, for every assignment of the names (the composed statement, instantiated; the
right-hand sides are evaluated on all 8 assignments of `x, y, z`) -/
example : ∃ m, loadDddmp dddmpChain = .ok m ∧ GoodState m (fun _ => 0) ∧
    (∃ r ∈ m.roots, ∀ α, den m.tbl r (dddmpAsgOf m.tbl α) = evalFormat dddmpChain α 2) ∧
    (∃ r ∈ m.roots, ∀ α, den m.tbl r (dddmpAsgOf m.tbl α) = evalFormat dddmpChain α (-4)) ∧
    ∀ x y z : Bool,
      evalFormat dddmpChain (fun s => if s = "x" then x else if s = "y" then y else z) 2 =
        (if z then (x || !y) else y) ∧
      evalFormat dddmpChain (fun s => if s = "x" then x else if s = "y" then y else z) (-4) =
        !(x || !y) := by
  obtain ⟨m, h, hg, hr, -, -, -⟩ := C16_varinfo0_supp dddmpChain dddmpChain_wf dddmpChain_headerOK
    rfl rfl (ids := [4, 7, 1]) rfl (permids := [2, 5, 0]) rfl
    (sv := [.str "x", .str "y", .str "z"]) rfl
  refine ⟨m, h, hg, ?_, ?_, by decide⟩
  · obtain ⟨r, hrm, -, hd⟩ := hr.1 2 (by decide)
    exact ⟨r, hrm, hd⟩
  · obtain ⟨r, hrm, -, hd⟩ := hr.1 (-4) (by decide)
    exact ⟨r, hrm, hd⟩

/-! ### files WITHOUT names (`.orderedvarnames` and `.suppvarnames` both absent)

The format then has no variable names.  `load` invents them: the variable at level `L` is the
Python `int` `permids[L]` (so the `j`-th support variable is called `permids[permids[j]]`); the
manager's `vars` has `int` keys (`DddmpTok.show` prints them; such variables can be used with
`bdd.var(3)` / `let` / `quantify`, not in `add_expr` texts, whose grammar has no bare numbers).
`C16_varinfo{0,1}_nameless` state the loader's convention from the header lines alone;
`C16_nameless_by_index` is the case in which the invented name is the variable's index `ids[j]`
in the writer (`permids[permids[j]] = ids[j]`, e.g. the identity order): only then does "by
variable name" mean something outside the loader. -/

/-- C16, `.varinfo 0` without names: the line labelled `ids[j]` is a node of the variable the
loader calls `permids[permids[j]]`; level `L` of the loaded manager is the variable `permids[L]` -/
theorem C16_varinfo0_nameless (f : DddmpFile) (hf : f.WF) (hH : DddmpHeaderOK f)
    (hv : f.varinfo = some 0) (ho : f.orderedvarnames = none) (hs : f.suppvarnames = none)
    {ids permids : List Int} (hi : f.ids = some ids) (hp : f.permids = some permids) :
    ∃ m, loadDddmp f = .ok m ∧ GoodState m (fun _ => 0) ∧
      DddmpRootsDenoteBy (evalFormat f) f m ∧
      DddmpShannon f (fun info var => ∃ (j : Nat) (i : Int) (k : Nat) (v : Int), info = .num i ∧
        ids[j]? = some i ∧ permids[j]? = some (k : Int) ∧ permids[k]? = some v ∧ var = .num v)
        (evalFormat f) ∧
      m.nvars = permids.length ∧ ∀ (L : Nat) (v : Int), permids[L]? = some v →
        m.tbl.vars[toString v]? = some L ∧ m.tbl.l2v[L]? = some (toString v) := by
  exact C16_format_core f hf hH (dddmpNameOf_varinfo0_nameless hv hi hp (hH.ids_nodup hv hi) ho hs)
    fun hh hL => hL.of_nameless hh hH (by rw [hv]; decide) ho hs hp

/-- C16, `.varinfo 1` without names: the line labelled with the level `k` (an entry of
`.permids`) is a node of the variable the loader calls `permids[k]` -/
theorem C16_varinfo1_nameless (f : DddmpFile) (hf : f.WF) (hH : DddmpHeaderOK f)
    (hv : f.varinfo = some 1) (ho : f.orderedvarnames = none) (hs : f.suppvarnames = none)
    {permids : List Int} (hp : f.permids = some permids) :
    ∃ m, loadDddmp f = .ok m ∧ GoodState m (fun _ => 0) ∧
      DddmpRootsDenoteBy (evalFormat f) f m ∧
      DddmpShannon f (fun info var => ∃ (k : Nat) (v : Int), info = .num (k : Int) ∧
        (k : Int) ∈ permids ∧ permids[k]? = some v ∧ var = .num v) (evalFormat f) ∧
      m.nvars = permids.length ∧ ∀ (L : Nat) (v : Int), permids[L]? = some v →
        m.tbl.vars[toString v]? = some L ∧ m.tbl.l2v[L]? = some (toString v) := by
  exact C16_format_core f hf hH (dddmpNameOf_varinfo1_nameless hv hp (hH.permids_nodup (by rw [hv]; decide) hp) ho hs)
    fun hh hL => hL.of_nameless hh hH (by rw [hv]; decide) ho hs hp

/-- the invented names are the indices of the writer: `permids[permids[j]] = ids[j]` for every
support variable `j` -/
def namelessCoherentB (ids permids : List Int) : Bool :=
  (List.range ids.length).all fun j =>
    match ids[j]?, permids[j]? with
    | some i, some k => decide (0 ≤ k) && permids[k.toNat]? == some i
    | _, _ => true

def NamelessCoherent (ids permids : List Int) : Prop := namelessCoherentB ids permids = true

instance (ids permids : List Int) : Decidable (NamelessCoherent ids permids) :=
  inferInstanceAs (Decidable (namelessCoherentB ids permids = true))

theorem NamelessCoherent.get {ids permids : List Int} (h : NamelessCoherent ids permids)
    {j : Nat} {i k : Int} (hi : ids[j]? = some i) (hk : permids[j]? = some k) :
    0 ≤ k ∧ permids[k.toNat]? = some i := by
  have hj : j ∈ List.range ids.length := List.mem_range.mpr (List.getElem?_eq_some_iff.mp hi).1
  have := List.all_eq_true.mp h j hj
  simp only [hi, hk, Bool.and_eq_true, decide_eq_true_eq, beq_iff_eq] at this
  exact this

/-- C16, files without names whose invented names are the writer's indices (`.varinfo 0`): the
line labelled `i` (an entry of `.ids`) is a node of the variable `i` — the roots of the loaded
manager denote the file's root entries as functions of the variable INDICES -/
theorem C16_nameless_by_index (f : DddmpFile) (hf : f.WF) (hH : DddmpHeaderOK f)
    (hv : f.varinfo = some 0) (ho : f.orderedvarnames = none) (hs : f.suppvarnames = none)
    {ids permids : List Int} (hi : f.ids = some ids) (hp : f.permids = some permids)
    (hc : NamelessCoherent ids permids) :
    ∃ m, loadDddmp f = .ok m ∧ GoodState m (fun _ => 0) ∧
      DddmpRootsDenoteBy (evalFormat f) f m ∧
      DddmpShannon f (fun info var => ∃ i : Int, info = .num i ∧ i ∈ ids ∧ var = .num i)
        (evalFormat f) := by
  obtain ⟨m, h, hg, hr, hsh, -⟩ := C16_varinfo0_nameless f hf hH hv ho hs hi hp
  obtain ⟨i2p, levels, roots, _, hh, _⟩ := hf
  obtain ⟨hlen, _, _⟩ := dddmpHeader_lengths hh hi hp
  refine ⟨m, h, hg, hr, hsh.reading ?_⟩
  intro info var
  constructor
  · rintro ⟨j, i, k, v, rfl, hji, hjk, hkv, rfl⟩
    obtain ⟨_, hk⟩ := hc.get hji hjk
    simp only [Int.toNat_natCast] at hk
    rw [hkv] at hk
    have hvi : v = i := Option.some.inj hk
    subst hvi
    exact ⟨v, rfl, List.mem_of_getElem? hji, rfl⟩
  · rintro ⟨i, rfl, hm, rfl⟩
    obtain ⟨j, hji⟩ := List.mem_iff_getElem?.mp hm
    have hjl : j < permids.length := by
      have := (List.getElem?_eq_some_iff.mp hji).1; omega
    obtain ⟨hk0, hk⟩ := hc.get hji (List.getElem?_eq_getElem hjl)
    refine ⟨j, i, permids[j].toNat, i, rfl, hji, ?_, hk, rfl⟩
    rw [Int.toNat_of_nonneg hk0]
    exact List.getElem?_eq_getElem hjl

/-- example files without names: the diagram of `dddmpExWith` (`z < x < y`) written by a manager
in which `z, x, y` have the indices 1, 0, 2 (levels 0, 1, 2): `.ids 0 1 2`, `.permids 1 0 2` -/
def dddmpExNameless (vi : Int) (lx ly lz : DddmpTok) : DddmpFile := {
  varinfo := some vi, nnodes := some 4, nvars := some 3, nsuppvars := some 3,
  ids := some [0, 1, 2], permids := some [1, 0, 2], nroots := some 2, rootids := some [2, -4],
  nodes := [⟨2, lz, 2, 4, 3⟩, ⟨1, .str "T", 1, 0, 0⟩, ⟨4, lx, 0, 1, -3⟩, ⟨3, ly, 1, 1, -1⟩] }

def dddmpExN0 : DddmpFile := dddmpExNameless 0 (.num 0) (.num 2) (.num 1)
def dddmpExN1 : DddmpFile := dddmpExNameless 1 (.num 1) (.num 2) (.num 0)

example : dddmpExN0.WF ∧ DddmpHeaderOK dddmpExN0 ∧ dddmpExN0.varinfo = some 0 ∧
    dddmpExN0.orderedvarnames = none ∧ dddmpExN0.suppvarnames = none ∧
    NamelessCoherent [0, 1, 2] [1, 0, 2] := by decide
example : dddmpExN1.WF ∧ DddmpHeaderOK dddmpExN1 ∧ dddmpExN1.varinfo = some 1 ∧
    dddmpExN1.orderedvarnames = none ∧ dddmpExN1.suppvarnames = none := by decide
/-- on both, the three lines are nodes of the variables `1` (`z`), `0` (`x`), `2` (`y`) -/
example : [dddmpExN0, dddmpExN1].map (fun f => f.nodes.map fun n => dddmpNameOf f n.info) =
    List.replicate 2 [some (.num 1), none, some (.num 0), some (.num 2)] := by decide
/-- the invented name is NOT the index in general: with `.ids 0 1 2`, `.permids 1 2 0` the
variable of index 0 (at level 1) is called `2` -/
example : dddmpNameOf { dddmpExN0 with permids := some [1, 2, 0] } (.num 0) = some (.num 2) ∧
    ¬ NamelessCoherent [0, 1, 2] [1, 2, 0] := by decide

/-- the accepted modes are exactly these: a well-formed file has `.varinfo` 0, 1 or 3, and
`.varinfo 3` needs `.orderedvarnames` -/
theorem C16_modes (f : DddmpFile) (hf : f.WF) :
    f.varinfo = some 0 ∨ f.varinfo = some 1 ∨
      (f.varinfo = some 3 ∧ ∃ ov, f.orderedvarnames = some ov) := by
  obtain ⟨i2p, levels, roots, _, hh, _⟩ := hf
  obtain ⟨ids, permids, _, _, _, _, hI, _, _⟩ := dddmpHeader_inv hh
  obtain ⟨t, _, ht, _, _⟩ := dddmpInfo2permid_inv hI
  exact dddmpInfoTable_ok_modes ht

/-- the assignment `a = true, b = false` -/
def dddmpWitnessAsg : String → Bool := fun s => s == "a"

/-- on the witness file the loader returns the roots `3` (= `a`) and `-2` (= `¬ b`) -/
theorem dddmpWitness_load :
    (loadDddmp dddmpWitness).toOption.map (fun m =>
      (m.roots, den m.tbl 3 (dddmpAsgOf m.tbl dddmpWitnessAsg), den m.tbl (-2) (dddmpAsgOf m.tbl dddmpWitnessAsg),
        evalFile dddmpWitness dddmpWitnessAsg 2, evalFile dddmpWitness dddmpWitnessAsg (-3))) =
    some ([3, -2], true, true, true, true) := by
  decide +kernel

/-- the variable-identification modes 2 (auxiliary ids) and 4 (none) are refused with
`NotImplementedError` as soon as the header is consistent, before anything is built -/
theorem C16_unsupported_varinfo (f : DddmpFile) (hv : f.varinfo = some 2 ∨ f.varinfo = some 4)
    (hc : dddmpAssertConsistent f = .ok ()) :
    loadDddmp f = .error .notImplemented := by
  obtain ⟨ids, permids, rootids, h1, h2, h3, -⟩ := assertConsistent_inv hc
  have hh : dddmpHeader f = .error .notImplemented := by
    unfold dddmpHeader
    simp only [hc, h1, h2, h3, dddmpInfo2permid_notImplemented hv]
  unfold loadDddmp loadDddmpU dddmpLoadCore
  rw [hh]
  rfl

/-- non-vacuity of `C16_unsupported_varinfo` -/
example : loadDddmp { dddmpWitness with varinfo := some 2 } = .error .notImplemented :=
  C16_unsupported_varinfo _ (Or.inl rfl) rfl

/-- non-vacuity: the hypotheses of the theorems above are met by `dddmpWitness` -/
example : dddmpWitness.WF := dddmpWitness_wf

/-! ### finding F1

`loadDddmpPreFix` (DD/Dddmp.lean) is `load` with the node NUMBERS of the file stored in `roots`
instead of the references the loader built for them.  The roots clause of C16 is false of it, on
the witness file. -/

theorem dddmpWitness_prefix_eval :
    (loadDddmpPreFix dddmpWitness).toOption.map (fun m =>
      (m.roots, den m.tbl 2 (dddmpAsgOf m.tbl dddmpWitnessAsg), den m.tbl (-3) (dddmpAsgOf m.tbl dddmpWitnessAsg),
        evalFile dddmpWitness dddmpWitnessAsg 2)) = some ([2, -3], false, false, true) := by
  decide +kernel

theorem dddmpPreFix_roots_false :
    ¬ (∀ f : DddmpFile, f.WF → ∃ m, loadDddmpPreFix f = .ok m ∧ Inv m ∧ DddmpRootsDenote f m) := by
  intro h
  obtain ⟨m, hm, _, hd, _⟩ := h dddmpWitness dddmpWitness_wf
  have key := dddmpWitness_prefix_eval
  rw [hm] at key
  simp only [Except.toOption, Option.map_some, Option.some.injEq, Prod.mk.injEq] at key
  obtain ⟨hr, h2, h3, he⟩ := key
  obtain ⟨r, hrm, _, hden⟩ := hd 2 (by simp [dddmpWitness])
  rw [hr] at hrm
  simp only [List.mem_cons, List.not_mem_nil, or_false] at hrm
  have := hden dddmpWitnessAsg
  rw [he] at this
  rcases hrm with rfl | rfl
  · rw [h2] at this; cases this
  · rw [h3] at this; cases this

end DD
