/-
  DDProps.C16Chain — the manager returned by `dd.dddmp.load` feeds the other property
  theorems: C01 (`apply`), C03 (`exist`) and C06 (`collect_garbage`) instantiated on the
  loaded manager, for EVERY well-formed file, with the results stated by variable NAME
  against the file's own evaluation `evalFile`; then on the concrete file `dddmpChain`
  (three variables whose order differs from the listing, a complemented else-edge, a
  complemented root, parent-first numbering).
-/
import DDProps.C16
import DDProps.C01
import DDProps.C03
import DDProps.C06
import DDProofs.DynExpr
open Std

namespace DD

/-- `DddmpRootsDenote` in the vocabulary of the by-name theorems (`denN`), in any good state whose
roots are nodes -/
theorem DddmpRootsDenote.byName {f : DddmpFile} {m : Mgr} {ext : Nat → Nat}
    (hr : DddmpRootsDenote f m) (hg : GoodState m ext) (hmem : ∀ r ∈ m.roots, m.tbl.Mem r) :
    (∀ ρ ∈ f.rootids.getD [], ∃ r ∈ m.roots, m.tbl.Mem r ∧ ∀ σ, denN m.tbl r σ = evalFile f σ ρ) ∧
    (∀ r ∈ m.roots, m.tbl.Mem r ∧ ∃ ρ ∈ f.rootids.getD [], ∀ σ, denN m.tbl r σ = evalFile f σ ρ) := by
  have hW := hg.inv.wf.toWF
  refine ⟨fun ρ hρ => ?_, fun r hrm => ?_⟩
  · obtain ⟨r, hrm, hm, hd⟩ := hr.1 ρ hρ
    exact ⟨r, hrm, hm, fun σ => (denN_eq_asgOf hW hg.order r hm σ).trans (hd σ)⟩
  · obtain ⟨ρ, hρ, hd⟩ := hr.2 r hrm
    exact ⟨hmem r hrm, ρ, hρ, fun σ => (denN_eq_asgOf hW hg.order r (hmem r hrm) σ).trans (hd σ)⟩

/-- C16 in the vocabulary of the by-name theorems (`denN`, used by C07, C09, C10, C14, C17):
the loaded manager is a good state whose roots denote, as functions of the variable names,
the root entries of the file -/
theorem C16_roots_denN (f : DddmpFile) (hf : f.WF) :
    ∃ m, loadDddmp f = .ok m ∧ GoodState m (fun _ => 0) ∧
      (∀ ρ ∈ f.rootids.getD [], ∃ r ∈ m.roots, m.tbl.Mem r ∧ ∀ σ, denN m.tbl r σ = evalFile f σ ρ) ∧
      (∀ r ∈ m.roots, m.tbl.Mem r ∧ ∃ ρ ∈ f.rootids.getD [], ∀ σ, denN m.tbl r σ = evalFile f σ ρ) := by
  obtain ⟨m, h, hg, -, -, -, hmem, hr, -⟩ := C16_load_good f hf
  exact ⟨m, h, hg, hr.byName hg hmem⟩

example : ∃ m, loadDddmp dddmpChain = .ok m ∧ GoodState m (fun _ => 0) := by
  obtain ⟨m, h, hg, -⟩ := C16_roots_denN dddmpChain dddmpChain_wf
  exact ⟨m, h, hg⟩

/-- load, then C01: every documented binary connective (any alias of the regenerated table)
applied to two loaded roots returns a node denoting, by name, that connective of the two
root entries of the file -/
theorem C16_then_apply (f : DddmpFile) (hf : f.WF) (op : String) (c : Conn)
    (hc : docConn op = some c) (h2 : c.arity = 2) (hq1 : c ≠ .forall_) (hq2 : c ≠ .exists_)
    (hall : Gen.allOps.contains op = true) (ρ₁ ρ₂ : Int) (h₁ : ρ₁ ∈ f.rootids.getD [])
    (h₂ : ρ₂ ∈ f.rootids.getD []) :
    ∃ m, loadDddmp f = .ok m ∧ ∃ r₁ ∈ m.roots, ∃ r₂ ∈ m.roots, ∃ r m',
      apply op r₁ (some r₂) none m = (.ok r, m') ∧ Inv m' ∧ m'.tbl.Mem r ∧ Frame m m' ∧
      ∀ σ, denN m'.tbl r σ = c.eval (evalFile f σ ρ₁) (evalFile f σ ρ₂) false := by
  obtain ⟨m, h, hg, hr, -⟩ := C16_roots_denN f hf
  obtain ⟨r₁, hr₁, hm₁, hd₁⟩ := hr ρ₁ h₁
  obtain ⟨r₂, hr₂, hm₂, hd₂⟩ := hr ρ₂ h₂
  obtain ⟨r, m', he, hI', -, hmr, hfr, hd⟩ :=
    C01_apply_binary m hg.inv hg.off op c hc h2 hq1 hq2 hall r₁ r₂ hm₁ hm₂
  refine ⟨m, h, r₁, hr₁, r₂, hr₂, r, m', he, hI', hmr, hfr, fun σ => ?_⟩
  show den m'.tbl r (m'.tbl.lift σ) = _
  rw [lift_congr hfr.l2v, hd, ← hd₁ σ, ← hd₂ σ]
  rfl

/-- the name `s` is one of the variables of the file (an entry of the header's `levels`) -/
def DddmpFile.declares (f : DddmpFile) (s : String) : Prop :=
  ∃ i2p levels roots var k, dddmpHeader f = .ok (i2p, levels, roots) ∧ (var, k) ∈ levels ∧
    var.show = s

/-- load, then C03: `exist(names, root)` over variables of the file returns a node denoting,
by name, the existential quantification of the root entry over those names -/
theorem C16_then_exist (f : DddmpFile) (hf : f.WF) (names : List String)
    (hdecl : ∀ s ∈ names, f.declares s) (ρ : Int) (hρ : ρ ∈ f.rootids.getD []) :
    ∃ m, loadDddmp f = .ok m ∧ ∃ r₁ ∈ m.roots, ∃ r m',
      existOp (names.map Key.name) r₁ m = (.ok r, m') ∧ Inv m' ∧ m'.tbl.Mem r ∧ Frame m m' ∧
      ∀ σ, denN m'.tbl r σ = true ↔
        ∃ τ : AsgN, (∀ s, s ∉ names → τ s = σ s) ∧ evalFile f τ ρ = true := by
  obtain ⟨m, h, hg, -, -, -, hmem, hr, hL⟩ := C16_load_good f hf
  obtain ⟨r₁, hr₁, hm₁, hd₁⟩ := (hr.byName hg hmem).1 ρ hρ
  have hW := hg.inv.wf.toWF
  have hdecl' : ∀ s ∈ names, m.tbl.vars.contains s = true := by
    intro s hs
    obtain ⟨i2p, levels, roots, var, k, hh, hm, rfl⟩ := hdecl s hs
    obtain ⟨i, -, -, hv⟩ := (hL _ _ _ hh).rank var k hm
    rw [TreeMap.contains_eq_isSome_getElem?, hv]; rfl
  obtain ⟨r, m1, he, hI', -, hmr, hfr, hd⟩ := C03_exist m hg.inv hg.off r₁ hm₁ names hdecl'
  refine ⟨m, h, r₁, hr₁, r, m1, he, hI', hmr, hfr, fun σ => ?_⟩
  show den m1.tbl r (m1.tbl.lift σ) = true ↔ _
  rw [lift_congr hfr.l2v, hd]
  have hq := qsem_lift hW hg.order r₁ hm₁ false names hdecl' σ
  simp only [qsem, qsemN, AgreeOff] at hq
  rw [hq]
  constructor
  · rintro ⟨τ, hτ, hv⟩
    exact ⟨τ, hτ, by rw [← hd₁ τ]; exact hv⟩
  · rintro ⟨τ, hτ, hv⟩
    exact ⟨τ, hτ, by rw [hd₁ τ]; exact hv⟩

theorem gcReach_nothing_held (t : Tbl) (u : Nat) : ¬ GcReach t (GcHeld (fun _ => 0)) u :=
  GcReach.closed (C := fun _ => False) (fun _ hs => Nat.lt_irrefl 0 hs) fun _ _ hk _ => ⟨hk, hk⟩

/-- load, then C06 WITHOUT holding the roots: the loader takes no reference, so a collection
issued right after `load` removes EVERY node of the loaded manager (the elements of
`bdd.roots` are then not nodes any more).  This is the documented discipline of `dd.bdd`
("to ensure that the target node of a returned edge is not garbage collected … increment its
reference counter"), applied to `bdd.roots`. -/
theorem C16_gc_unheld (f : DddmpFile) (hf : f.WF) :
    ∃ m, loadDddmp f = .ok m ∧ ∃ m', collectGarbage none m = (.ok (), m') ∧ Inv m' ∧
      RefExact m' (fun _ => 0) ∧ (∀ u, m'.tbl.node? u = none) ∧ m'.roots = m.roots := by
  obtain ⟨m, h, hg, -⟩ := C16_load_good f hf
  obtain ⟨m', he, hp⟩ := collectGarbage_spec m (fun _ => 0) hg.inv hg.exact
  refine ⟨m, h, m', he, hp.inv, hp.refExact, fun u => ?_, hp.sub.roots⟩
  cases hu : m'.tbl.node? u with
  | none => rfl
  | some n => exact absurd ((hp.nodes hg.inv.toInvS u n).mp hu).2 (gcReach_nothing_held _ _)

/-- load, `incref` every root, then C06: the collection succeeds, counts stay exact for the
ledger of these references, exactly the nodes reachable from the roots remain, and every root
entry of the file is still denoted, by name, by a root that is a node -/
theorem C16_then_gc (f : DddmpFile) (hf : f.WF) :
    ∃ m, loadDddmp f = .ok m ∧
      let s := run (holdOps m.roots) ⟨m, fun _ => 0⟩
      ∃ m', collectGarbage none s.m = (.ok (), m') ∧ Inv m' ∧ RefExact m' s.ext ∧
        (∀ u : Nat, (u = 1 ∨ (m'.tbl.node? u).isSome) ↔ (u = 1 ∨ GcReach m.tbl (GcHeld s.ext) u)) ∧
        ∀ ρ ∈ f.rootids.getD [], ∃ r ∈ m.roots, m'.tbl.Mem r ∧
          ∀ σ, denN m'.tbl r σ = evalFile f σ ρ := by
  obtain ⟨m, h, hg, -, -, -, hmem, hrd, -⟩ := C16_load_good f hf
  obtain ⟨g, ht, -, -, -, hpos⟩ := run_increfs m.roots ⟨m, fun _ => 0⟩ hg hmem
  have hr := (hrd.byName hg hmem).1
  refine ⟨m, h, ?_⟩
  intro s
  obtain ⟨m', he, hI', hR', hmem, -, hden, -, -, -, hl2v, -⟩ := C06_gc_exact s.m s.ext g.inv g.exact
  have ht' : s.m.tbl = m.tbl := ht
  refine ⟨m', he, hI', hR', by rw [← ht']; exact hmem, ?_⟩
  intro ρ hρ
  obtain ⟨r, hrm, hm, hd⟩ := hr ρ hρ
  have hkept : m'.tbl.Mem r := by
    have := (hmem r.natAbs).mpr (Or.inr (GcReach.root (hpos r hrm)))
    simpa [Tbl.Mem] using this
  refine ⟨r, hrm, hkept, fun σ => ?_⟩
  rw [← hd σ, ← ht']
  exact denN_of_same_l2v hl2v r σ fun a => hden r a hkept

/-! ### the chain on the concrete file `dddmpChain`

`x, y, z` at file levels 2, 5, 0; roots `2 = if z then x ∨ ¬y else y` and `-4 = ¬(x ∨ ¬y)`. -/

/-- load → `apply('and', root, root)` (C01): the conjunction of the two root entries, for
every assignment of the names; evaluated, it is `¬x ∧ y ∧ ¬z` -/
example : ∃ m, loadDddmp dddmpChain = .ok m ∧ ∃ r₁ ∈ m.roots, ∃ r₂ ∈ m.roots, ∃ r m',
    apply "and" r₁ (some r₂) none m = (.ok r, m') ∧ Inv m' ∧ m'.tbl.Mem r ∧
    (∀ σ, denN m'.tbl r σ = (evalFile dddmpChain σ 2 && evalFile dddmpChain σ (-4))) ∧
    ∀ x y z : Bool,
      (evalFile dddmpChain (fun s => if s = "x" then x else if s = "y" then y else z) 2 &&
        evalFile dddmpChain (fun s => if s = "x" then x else if s = "y" then y else z) (-4)) =
      (!x && y && !z) := by
  obtain ⟨m, h, r₁, hr₁, r₂, hr₂, r, m', he, hI, hm, -, hd⟩ :=
    C16_then_apply dddmpChain dddmpChain_wf "and" .and (by decide) (by decide) (by decide)
      (by decide) (by decide) 2 (-4) (by decide) (by decide)
  exact ⟨m, h, r₁, hr₁, r₂, hr₂, r, m', he, hI, hm, hd, by decide⟩

/-- load → `exist({'z'}, root)` (C03): on the first root, `∃ z. if z then x ∨ ¬y else y` -/
example : ∃ m, loadDddmp dddmpChain = .ok m ∧ ∃ r₁ ∈ m.roots, ∃ r m',
    existOp [Key.name "z"] r₁ m = (.ok r, m') ∧ m'.tbl.Mem r ∧
    ∀ σ, denN m'.tbl r σ = true ↔
      ∃ τ : AsgN, (∀ s, s ∉ ["z"] → τ s = σ s) ∧ evalFile dddmpChain τ 2 = true := by
  obtain ⟨m, h, r₁, hr₁, r, m', he, -, hm, -, hd⟩ :=
    C16_then_exist dddmpChain dddmpChain_wf ["z"] (by
      intro s hs
      simp only [List.mem_cons, List.not_mem_nil, or_false] at hs
      subst hs
      exact ⟨_, _, _, .str "z", 0, rfl, by decide, rfl⟩) 2 (by decide)
  exact ⟨m, h, r₁, hr₁, r, m', he, hm, hd⟩

/-- load → hold the roots → `collect_garbage()` (C06) -/
example : ∃ m, loadDddmp dddmpChain = .ok m ∧
    ∃ m', collectGarbage none (run (holdOps m.roots) ⟨m, fun _ => 0⟩).m = (.ok (), m') ∧ Inv m' ∧
      ∀ ρ ∈ [(2 : Int), -4], ∃ r ∈ m.roots, m'.tbl.Mem r ∧
        ∀ σ, denN m'.tbl r σ = evalFile dddmpChain σ ρ := by
  obtain ⟨m, h, m', he, hI, -, -, hr⟩ := C16_then_gc dddmpChain dddmpChain_wf
  exact ⟨m, h, m', he, hI, hr⟩

/-- … and without holding them everything is collected -/
example : ∃ m, loadDddmp dddmpChain = .ok m ∧ ∃ m', collectGarbage none m = (.ok (), m') ∧
    ∀ u, m'.tbl.node? u = none := by
  obtain ⟨m, h, m', he, -, -, hn, -⟩ := C16_gc_unheld dddmpChain dddmpChain_wf
  exact ⟨m, h, m', he, hn⟩

/-- the loaded manager computed on the model (kernel evaluation; the real `dd` gives the same
numbers, and the check `C16` replays load → `incref` → `apply` → `exist` → `collect_garbage`
on both): roots `4` and `-3`, order `z < x < y`, and NO reference on the root node 4
(count 0), one stored edge on node 3 -/
theorem dddmpChain_loaded :
    (loadDddmp dddmpChain).toOption.map (fun m => (m.roots, m.tbl.vars.toList, m.ref.toList)) =
    some ([4, -3], [("x", 1), ("y", 2), ("z", 0)], [(1, 4), (2, 2), (3, 1), (4, 0)]) := by
  decide +kernel

end DD
