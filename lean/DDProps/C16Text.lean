/-
  DDProps.C16Text — the text layer of `dd.dddmp.load` (model `DD/DddmpText.lean`): which header
  lines the parser REFUSES, which it accepts and IGNORES (`.add` among them: an ADD file is read
  as a BDD), how the file is cut into header and node lines (by the START of a line: a valid file
  whose variable is called `y.end` or `y.nodes` loads), and that a text which parses is
  loaded as its content — so that the theorems of `DDProps/C16.lean` apply to texts.

  The PLY lexer / LALR tables of the real code are tied to `dddmpLex` / `dddmpParseHeaderF` by the
  correspondence check (`harness/checks_dddmp.py`: every generated file as text AND as abstract
  content, header/body fuzzing), and by the `decide` obligations on the regenerated tables below.
-/
import DDProofs.DddmpTextProofs
import DDProps.C16
open Std
namespace DD

/-- the grammar of `dd/dddmp.py` the model was written for -/
def modelDddmpProductions : List (String × String) :=
  [("p_algebraic_dd", "algdd : ADD"), ("p_aux_ids", "auxids : AUXIDS integers"),
   ("p_dd_name", "diagram_name : DD name"), ("p_expression_name", "name : NAME"),
   ("p_file", "file : lines"), ("p_integers_end", "integers : number"),
   ("p_integers_iter", "integers : integers number"),
   ("p_line", "line : version | mode | varinfo | diagram_name | nnodes | nvars | nsupportvars | supportvars | orderedvars | varids | permids | auxids | nroots | rootids | algdd | rootnames"),
   ("p_lines_end", "lines : line"), ("p_lines_iter", "lines : lines line"),
   ("p_neg_number", "number : MINUS NUMBER"), ("p_nsupport_vars", "nsupportvars : NSUPPVARS number"),
   ("p_num_nodes", "nnodes : NNODES number"), ("p_num_roots", "nroots : NROOTS number"),
   ("p_num_vars", "nvars : NVARS number"), ("p_number", "number : NUMBER"),
   ("p_ordered_varnames", "orderedvars : ORDEREDVARNAMES varnames"),
   ("p_permuted_ids", "permids : PERMIDS integers"), ("p_root_ids", "rootids : ROOTIDS integers"),
   ("p_root_names", "rootnames : ROOTNAMES varnames"),
   ("p_support_varnames", "supportvars : SUPPVARNAMES varnames"),
   ("p_text_mode", "mode : FILEMODE NAME"), ("p_var_ids", "varids : IDS integers"),
   ("p_varinfo", "varinfo : VARINFO number"), ("p_varname", "varname : name | number"),
   ("p_varnames_end", "varnames : varname"), ("p_varnames_iter", "varnames : varnames varname"),
   ("p_version", "version : VERSION name MINUS number DOT number")]

/-- the header grammar, the reserved words, the token rules and their order in the current
source are the ones the model implements; every reserved word has a keyword of the model -/
theorem C16_header_tables :
    Gen.dddmpProductions = modelDddmpProductions ∧
    Gen.dddmpReserved.map (·.1) = [".add", ".auxids", ".dd", ".ids", ".mode", ".nnodes", ".nroots",
      ".nsuppvars", ".nvars", ".orderedvarnames", ".permids", ".rootids", ".rootnames",
      ".suppvarnames", ".varinfo", ".ver"] ∧
    (Gen.dddmpReserved.all fun r => (HKw.ofType r.2).isSome) = true ∧
    Gen.dddmpLexRuleOrder = ["KEYWORD", "NAME", "comment", "newline", "NUMBER", "DOT", "MINUS"] ∧
    Gen.dddmpTokenRules = [("DOT", "\\."), ("KEYWORD", "\\.[a-zA-Z][a-zA-Z]*"), ("MINUS", "\\-"),
      ("NAME", "[a-zA-Z_][a-zA-Z_@0-9'\\.]*"), ("NUMBER", "\\d+"), ("comment", "\\#.*"),
      ("newline", "\\n+")] ∧
    Gen.dddmpLexIgnore = " \t" :=
  ⟨rfl, rfl, by decide, rfl, rfl, rfl⟩

/-- C16 (refused headers): on a header in the grammar (`ls`: its lines in file order) the
semantic actions fail exactly when one of the lines is `.mode X` with `X ≠ A` (binary mode `B`
included: `Exception`) or `.rootnames …` (`NotImplementedError`); the FIRST such line in file
order decides the exception.  A header outside the grammar (the empty one, a keyword without its
arguments) is refused by `dddmpParseHeader` before any line is applied. -/
theorem C16_header_refused (ls : List DddmpLine) (f : DddmpFile) (e : Err) :
    dddmpApplyLines f ls = .error e ↔ (ls.filterMap DddmpLine.refusal).head? = some e := by
  rcases dddmpApplyLines_cases ls f with ⟨e', hr, he⟩ | ⟨hr, f', he⟩
  · rw [hr, he]; exact ⟨fun h => by cases h; rfl, fun h => by cases h; rfl⟩
  · rw [he, List.filterMap_eq_nil_iff.mpr hr]; exact ⟨nofun, nofun⟩

theorem C16_refusal_cases (l : DddmpLine) (e : Err) :
    l.refusal = some e ↔
      (∃ s, l = .mode s ∧ s ≠ "A" ∧ e = .other) ∨ (∃ ns, l = .rootnames ns ∧ e = .notImplemented) := by
  cases l with
  | mode s => by_cases hs : s = "A" <;> simp [DddmpLine.refusal, hs, eq_comm]
  | rootnames l => simp [DddmpLine.refusal, eq_comm]
  | _ => simp [DddmpLine.refusal]

/-- … every other header in the grammar is accepted: `.ver` (any name and numbers), `.mode A`,
`.dd`, `.add`, and the lines that carry content -/
theorem C16_header_accepted (ls : List DddmpLine) (f : DddmpFile) :
    (∃ f', dddmpApplyLines f ls = .ok f') ↔ ∀ l ∈ ls, l.refusal = none := by
  rcases dddmpApplyLines_cases ls f with ⟨e, hr, he⟩ | ⟨hr, hf⟩
  · rw [he]
    constructor
    · rintro ⟨_, h⟩; cases h
    · intro h; rw [List.filterMap_eq_nil_iff.mpr h] at hr; cases hr
  · exact ⟨fun _ => hr, fun _ => hf⟩

def dddmpErrOf {α : Type} : Except Err α → Option Err
  | .error e => some e
  | .ok _ => none

example : dddmpErrOf (dddmpApplyLines {} [.ver "DDDMP" 2 0, .add, .mode "B", .rootnames [.str "f"]]) = some .other ∧
    dddmpErrOf (dddmpApplyLines {} [.ver "DDDMP" 2 0, .rootnames [.str "f"], .mode "B"]) = some .notImplemented ∧
    (dddmpApplyLines {} [.ver "x" (-2) 0, .add, .mode "A", .dd "foo", .nvars 3]).toOption.map
      (fun f => (f.add, f.nvars)) = some (true, some 3) := by decide

/-- C16 (ignored headers): erasing the lines `.ver`, `.mode A`, `.dd`, `.add` from an accepted
header gives an accepted header, and `load` returns the same manager, the same map and the same
file semantics.  In particular `.add` — the mark of an ADD file — is silently accepted: the file
is read as a BDD. -/
theorem C16_header_ignored (ls : List DddmpLine) (f1 : DddmpFile)
    (h : dddmpApplyLines {} ls = .ok f1) (nodes : List DddmpNode) :
    ∃ f2, dddmpApplyLines {} (ls.filter fun l => !l.ignored) = .ok f2 ∧
      loadDddmpU { f2 with nodes := nodes } = loadDddmpU { f1 with nodes := nodes } ∧
      loadDddmp { f2 with nodes := nodes } = loadDddmp { f1 with nodes := nodes } ∧
      evalFile { f2 with nodes := nodes } = evalFile { f1 with nodes := nodes } ∧
      evalFormat { f2 with nodes := nodes } = evalFormat { f1 with nodes := nodes } := by
  obtain ⟨f2, h2, hc⟩ := dddmpApplyLines_filter ls {} {} f1 h rfl
  -- `content` only resets the ignored fields, so it commutes with setting `nodes`
  have hc' : ({ f2 with nodes := nodes } : DddmpFile).content =
      ({ f1 with nodes := nodes } : DddmpFile).content :=
    congrArg (fun g : DddmpFile => { g with nodes := nodes }) hc
  refine ⟨f2, h2, loadDddmpU_congr hc', ?_, ?_, ?_⟩
  · rw [← loadDddmp_content, hc', loadDddmp_content]
  · rw [← evalFile_content, hc', evalFile_content]
  · rw [← evalFormat_content, hc', evalFormat_content]

/-- `.add` alone -/
theorem C16_add_accepted (f : DddmpFile) :
    dddmpApplyLine f .add = .ok { f with add := true } ∧
      loadDddmpU { f with add := true } = loadDddmpU f := ⟨rfl, rfl⟩

/-- `.auxids` is only counted (`len(aux_var_ids) == n_support_vars`) -/
theorem C16_auxids_only_counted (f : DddmpFile) (l : List Int) (h : lenNe l f.nsuppvars = false) :
    loadDddmpU { f with auxids := some l } = loadDddmpU { f with auxids := none } := by
  have hc : dddmpAssertConsistent { f with auxids := some l } =
      dddmpAssertConsistent { f with auxids := none } := by
    simp only [dddmpAssertConsistent, h]
    rfl
  simp only [loadDddmpU, dddmpLoadCore, dddmpHeader, hc]
  rfl

/-- the header text is lexed, parsed by the grammar, and the actions run in file order -/
theorem C16_text_header (s : List Char) (t : HTok) (toks : List HTok) (ill : Bool)
    (ls : List DddmpLine)
    (hl : dddmpLex (joinNl (dddmpHeaderLines (pyLines s))) = (t :: toks, ill))
    (hs : dddmpSyntaxF ((t :: toks).length + 1) (t :: toks) ill = some ls) :
    dddmpHeaderOfText s = dddmpApplyLines {} ls := by
  unfold dddmpHeaderOfText dddmpParseHeader
  rw [hl]
  exact dddmpParseHeaderF_of_syntax _ _ _ _ _ hs

/-- C16 from the TEXT of a file: when the text parses to the content `f` (header in the grammar
with no refused line, every node line five columns with integers) and `f` is well-formed,
`dd.dddmp.load` on the text returns a manager with these clauses of `C16_load_good` for `f`: good
state for the empty ledger, no schedule, the roots are nodes and denote the file's root entries
(the loader's other fields and the order, `DddmpLoaded`, are read off `C16_load_good` through
`loadDddmpText_of_parse`) -/
theorem C16_text_load (s : List Char) (f : DddmpFile) (hp : dddmpParseText s = some f) (hf : f.WF) :
    ∃ m, loadDddmpText s = .ok m ∧ GoodState m (fun _ => 0) ∧ m.sched = [] ∧
      (∀ r ∈ m.roots, m.tbl.Mem r) ∧ DddmpRootsDenote f m := by
  obtain ⟨m, h, hg, hs, -, -, hr, hd, -⟩ := C16_load_good f hf
  exact ⟨m, by rw [loadDddmpText_of_parse hp]; exact h, hg, hs, hr, hd⟩

/-- the file of the chain example, as text: shuffled header lines, a comment, `.add`, `.dd`, a
list that runs over two lines, tabs, `\r\n` line ends -/
def dddmpChainText : String :=
  ".ver DDDMP-2.0\r\n.add\n.mode A\n.varinfo 0 # ids\n.dd chain\n.nnodes 4\n.nvars 6\n.nsuppvars 3\n" ++
  ".suppvarnames x y\n\tz\n.ids 4 7 1\n.permids 2 5 0\n.nroots 2\n.rootids 2 -4\n" ++
  ".nodes\n2 1 2 4 3\n1 T 1 0 0\n4 4 0 1 -3\n3 7 1 1 -1\n.end\nanything\n"

/-- the text parses to the file of the chain example, with the ignored lines recorded -/
theorem dddmpChainText_parse : dddmpParseText dddmpChainText.toList =
    some { dddmpChain with ver := some ("DDDMP", 2, 0), mode := some "A", ddname := some "chain",
                           add := true } := by
  unfold dddmpChainText
  -- a literal is `String.ofList` of its characters: `String.toList_ofList` hands the kernel the
  -- character list itself, which it would otherwise decode from the UTF-8 bytes (slow to check)
  repeat rw [String.toList_append]
  repeat rw [String.toList_ofList]
  decide +kernel

example : (dddmpParseText dddmpChainText.toList).map DddmpFile.content = some dddmpChain.content := by
  rw [dddmpChainText_parse]; rfl

example : ∃ f, dddmpParseText dddmpChainText.toList = some f ∧ f.WF ∧ f.add = true :=
  ⟨_, dddmpChainText_parse, by decide +kernel, rfl⟩

/-! ## the line dispatch: dotted variable names (finding F23)

`t_NAME` is `[a-zA-Z_][a-zA-Z_@0-9'\.]*`: `y.end` and `y.nodes` are variable names of the
format (CUDD stores whatever names the application passes; `dd.cudd` passes the names of its
variables, in which dots are usual).  `_parse_header` and `_parse_body` cut the file with
`line.startswith('.nodes')` / `line.startswith('.end')`.  With the substring test
`'.nodes' in line` / `'.end' in line` (finding F23) the node line `2 y.end 1 1 -1` ends the body
(`AssertionError`) and the header line `.orderedvarnames x y.nodes` ends the header (`TypeError`). -/

/-- a minimal valid `.varinfo 3` file: `x`, then the variable `y`; root 3 = `ite(x, TRUE, y)` -/
def dddmpDottedTextM (mode y : String) : String :=
  ".ver DDDMP-2.0\n" ++ mode ++ "\n.varinfo 3\n.nnodes 3\n.nvars 2\n.nsuppvars 2\n" ++
  ".orderedvarnames x " ++ y ++ "\n.suppvarnames x " ++ y ++ "\n.ids 0 1\n.permids 0 1\n.nroots 1\n.rootids 3\n" ++
  ".nodes\n1 T 1 0 0\n2 " ++ y ++ " 1 1 -1\n3 x 0 1 2\n.end\n"

def dddmpDottedText (y : String) : String := dddmpDottedTextM ".mode A" y

def dddmpDottedFile (y : String) : DddmpFile := {
  varinfo := some 3, nnodes := some 3, nvars := some 2, nsuppvars := some 2,
  suppvarnames := some [.str "x", .str y], orderedvarnames := some [.str "x", .str y],
  ids := some [0, 1], permids := some [0, 1], nroots := some 1, rootids := some [3],
  nodes := [⟨1, .str "T", 1, 0, 0⟩, ⟨2, .str y, 1, 1, -1⟩, ⟨3, .str "x", 0, 1, 2⟩],
  ver := some ("DDDMP", 2, 0), mode := some "A" }

/-- what such a file says: root 3 is `x ∨ y` -/
theorem dddmpDotted_meaning (y : String) (hy : y ≠ "x") (hT : y ≠ "T") (α : String → Bool) :
    evalFormat (dddmpDottedFile y) α 3 = (α "x" || α y) := by
  have e1 : (DddmpTok.str "x" == DddmpTok.str y) = false := by
    rw [beq_eq_false_iff_ne]; intro e; cases e; exact hy rfl
  have e2 : ¬ (DddmpTok.str y = DddmpTok.str "T") := by intro e; cases e; exact hT rfl
  have e3 : ¬ (DddmpTok.str "x" = DddmpTok.str "T") := by decide
  simp [evalFormat, dddmpDottedFile, evalNodesF, dddmpNameOf, DddmpTok.show, e1, e2, e3]

/-- C16 (dotted names): the valid `.varinfo 3` file whose second variable is
called `y.end` / `y.nodes` parses to its content, which is well-formed; `load` on the TEXT
returns a good state whose roots denote, by variable NAME, what the file says (root 3 = `x ∨ y`);
the variable is declared under its dotted name at level 1 -/
theorem C16_dotted_names_load (y : String) (hy : y = "y.end" ∨ y = "y.nodes") :
    dddmpParseText (dddmpDottedText y).toList = some (dddmpDottedFile y) ∧ (dddmpDottedFile y).WF ∧
    ∃ m, loadDddmpText (dddmpDottedText y).toList = .ok m ∧ GoodState m (fun _ => 0) ∧
      DddmpRootsDenoteBy (evalFormat (dddmpDottedFile y)) (dddmpDottedFile y) m ∧
      (∀ α, evalFormat (dddmpDottedFile y) α 3 = (α "x" || α y)) ∧
      m.nvars = 2 ∧ m.tbl.vars["x"]? = some 0 ∧ m.tbl.vars[y]? = some 1 := by
  have key : dddmpParseText (dddmpDottedText y).toList = some (dddmpDottedFile y) ∧
      (dddmpDottedFile y).WF ∧ DddmpHeaderOK (dddmpDottedFile y) := by
    unfold dddmpDottedText dddmpDottedTextM
    repeat rw [String.toList_append]
    rcases hy with rfl | rfl <;> (repeat rw [String.toList_ofList]) <;> decide +kernel
  obtain ⟨hp, hwf, hH⟩ := key
  refine ⟨hp, hwf, ?_⟩
  obtain ⟨m, h, hg, hr, -, hn, hord⟩ := C16_varinfo3 (dddmpDottedFile y) hwf hH rfl
    (ov := [.str "x", .str y]) rfl
  refine ⟨m, by rw [loadDddmpText_of_parse hp]; exact h, hg, hr, ?_, hn, ?_, ?_⟩
  · intro α
    exact dddmpDotted_meaning y (by rcases hy with rfl | rfl <;> decide)
      (by rcases hy with rfl | rfl <;> decide) α
  · exact (hord 0 (.str "x") rfl).1
  · exact (hord 1 (.str y) rfl).1

example : ((loadDddmpText (dddmpDottedText "y.end").toList).toOption.map fun m => (m.roots, m.nvars)) =
    some ([3], 2) := by
  rw [loadDddmpText_of_parse (C16_dotted_names_load "y.end" (.inl rfl)).1]
  decide +kernel

/-- the facts behind it: the header ends at the first line that STARTS with `.nodes`, the body at
the first line after it that starts with `.end` -/
theorem C16_line_dispatch (pre : List (List Char)) (l : List Char) (body : List (List Char))
    (l' : List Char) (post : List (List Char))
    (hpre : ∀ x ∈ pre, hasNodesMark x = false) (hl : hasNodesMark l = true)
    (hbody : ∀ x ∈ body, hasEndMark x = false) (hl' : hasEndMark l' = true) :
    dddmpHeaderLines (pre ++ l :: (body ++ l' :: post)) = pre ∧
      dddmpBodyLines (pre ++ l :: (body ++ l' :: post)) = body :=
  ⟨dddmpHeaderLines_cut pre l _ hpre hl, dddmpBodyLines_cut pre l body l' post hpre hl hbody hl'⟩

/-- … and a line that does not start with a dot is never a mark, whatever names stand on it:
every node line (it starts with the node number), every comment line -/
theorem C16_no_mark_inside (c : Char) (l : List Char) (h : c ≠ '.') :
    hasNodesMark (c :: l) = false ∧ hasEndMark (c :: l) = false := by
  have h' : ('.' == c) = false := by
    rw [beq_eq_false_iff_ne]; exact fun e => h e.symm
  simp [hasNodesMark, hasEndMark, List.isPrefixOf, h']

example : hasEndMark "2 y.end 1 1 -1\n".toList = false ∧
    hasNodesMark ".orderedvarnames x y.nodes\n".toList = false ∧
    hasNodesMark "# the .nodes follow\n".toList = false ∧
    hasNodesMark ".nodes\n".toList = true ∧ hasEndMark ".end\n".toList = true := by decide

/-- finding F23: under the substring test (`'.end' in line`) a name that contains the mark makes
every line on which it stands a mark -/
theorem C16_substring_dispatch_cut (a name b : List Char) :
    (isInfixC ['.', 'e', 'n', 'd'] name = true → isInfixC ['.', 'e', 'n', 'd'] (a ++ name ++ b) = true) ∧
    (isInfixC ['.', 'n', 'o', 'd', 'e', 's'] name = true →
      isInfixC ['.', 'n', 'o', 'd', 'e', 's'] (a ++ name ++ b) = true) :=
  ⟨isInfixC_append _ a name b, isInfixC_append _ a name b⟩

example : isInfixC ['.', 'e', 'n', 'd'] "2 y.end 1 1 -1\n".toList = true := by decide

/-! ## other refusals / quirks of the text, on the minimal file -/

example : dddmpErrOf (loadDddmpText (dddmpDottedTextM ".mode B" "y").toList) = some .other ∧
    dddmpErrOf (loadDddmpText (dddmpDottedTextM ".mode A .rootnames f" "y").toList) = some .notImplemented ∧
    dddmpErrOf (loadDddmpText (dddmpDottedTextM ".add" "y").toList) = none := by
  unfold dddmpDottedTextM
  repeat rw [String.toList_append]
  repeat rw [String.toList_ofList]
  decide +kernel

end DD
