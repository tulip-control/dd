/-
  DDProps.C17Capacity — C17 for the exception the rest of the development cannot raise:
  `RuntimeError('full: reached `self.max_nodes` nodes')`.

  The state `Mgr` has no capacity; `DD/Capacity.lean` adds `max_nodes` as a PARAMETER `cap` of a
  layer over the existing model (`findOrAddCap`, `iteCapF` / `iteCapRaw`, `iteCap`, `varCap`),
  so nothing proved before is touched.  Four groups:

  (a) REFINEMENT — `CapSim cap xc x`: the run with capacity IS the capacity-free run exactly
      when `CapOK` (nothing created, or the final `_min_free` below the capacity), and raises
      `RuntimeError` otherwise.  One relation, closed under `bind`; proved for `find_or_add`,
      `_ite`, the bodies of `BDD.ite` / `BDD.var`, and the decorated calls when the first
      attempt is not aborted.  Every theorem about those model functions transfers with the
      one explicit side condition (`C17_capacity_transfer`); `C17_capacity_ite` is C01's
      `C01_public_ite` transferred.  The other operations are lifted in DDProps.C17Capacity2 /
      C17Capacity3 (the refinement for `apply` without the quantifier aliases, the every-outcome
      statements for the rest); for `load` and `reorder` (no capacity-aware version; `swap` has
      one, `swapCap`, see (e)) the `.ok` conclusions remain statements about a manager whose
      `max_nodes` is not reached.
  (b) THE REFUSAL — a refused `find_or_add` leaves the manager as it was (`C17_full_unchanged`;
      literal store-and-delete variant: same content, same dump, `C17_full_unchanged_literal`);
      the code before commit 9f1005b does not (`C17_full_unrepaired`, and a concrete run).
  (c) LIFTED — `_ite` / `BDD.ite` / `BDD.var` that run into `full` half-way.
  (d) NON-VACUITY — three variables, `max_nodes = 7`: the 5th node creation is refused in the
      middle of an `ite` that creates three nodes.
  (e) WHAT IS NOT TRUE (finding F22) — `BDD.swap` reaches `find_or_add` in the middle of its
      rewrite of two levels; a refusal there leaves a manager that violates `Inv`
      (`C17_swap_full_refuted`, on a reachable manager).  Hence no statement (b)/(c) for `swap`,
      `reorder`, sifting, nor for a decorated call whose reordering request is served while the
      manager is at capacity: `C17_ite_full_dyn` is relative to `siftContract`, the contract of
      the CAPACITY-FREE `reorder` (the model of `reorder` inside `iteCap` has no capacity).
-/
import DDProofs.CapacityDecorated
import DDProofs.CapacitySwap
import DDProps.C01
import DDProps.C17
import DDProofs.Reach2
open Std

namespace DD

/-- C17/(a), GENERIC: `P` holds of the run with capacity whenever it holds of the capacity-free
run and that run needed no number `≥ cap` -/
theorem C17_capacity_transfer {α} (cap : Nat) (xc x : M α) (h : CapSim cap xc x) (m : Mgr)
    (P : Except Err α × Mgr → Prop) (hp : P (x m)) (hc : CapOK cap m (x m).2) : P (xc m) :=
  h.transfer m P hp hc

/-- the side condition is necessary and sufficient, and when it fails the answer is
`RuntimeError` -/
theorem C17_capacity_sharp {α} (cap : Nat) (xc x : M α) (h : CapSim cap xc x) (m : Mgr)
    (hx : (x m).1 ≠ .error .runtime) :
    (xc m = x m ↔ CapOK cap m (x m).2) ∧ (¬ CapOK cap m (x m).2 → (xc m).1 = .error .runtime) ∧
      m.minFree ≤ (x m).2.minFree :=
  ⟨h.iff m hx, (h m).full, (h m).mono⟩

/-- the relation is closed under sequencing: it lifts through every `M`-computation built with
`bind` from related pieces -/
theorem C17_capacity_bind {α β} (cap : Nat) (xc x : M α) (fc f : α → M β) (hx : CapSim cap xc x)
    (hf : ∀ a, CapSim cap (fc a) (f a)) : CapSim cap (xc >>= fc) (x >>= f) :=
  hx.bind hf

/-- the pieces: `find_or_add` (core and with the reordering request), `_ite` for every fuel,
`_ite` with the standard fuel, the body of `var`; any computation that leaves `_min_free`
alone is related to itself -/
theorem C17_capacity_refines (cap : Nat) :
    (∀ i v w, CapSim cap (findOrAddCapCore cap i v w) (findOrAddCore i v w)) ∧
    (∀ i v w, CapSim cap (findOrAddCap cap i v w) (findOrAdd i v w)) ∧
    (∀ f g u v, CapSim cap (iteCapF cap f g u v) (iteF f g u v)) ∧
    (∀ g u v, CapSim cap (iteCapRaw cap g u v) (iteRaw g u v)) ∧
    (∀ name, CapSim cap (varBodyG (findOrAddCap cap) name) (varBodyG findOrAdd name)) ∧
    (∀ {α} (x : M α), (∀ m, (x m).2.minFree = m.minFree) → CapSim cap x x) :=
  ⟨findOrAddCapCore_sim cap, findOrAddCap_sim cap, iteCapF_sim cap, iteCapRaw_sim cap,
   varCapBody_sim cap, fun x h => CapSim.same cap x h⟩

/-- the layer is the model of DD.Ops when instantiated with the capacity-free `find_or_add` -/
theorem C17_capacity_layer_is_model :
    (∀ f g u v, iteG findOrAdd f g u v = iteF f g u v) ∧
    (∀ g u v, iteRawG findOrAdd g u v = iteRaw g u v) ∧
    findOrAddOver findOrAddCore = findOrAdd :=
  ⟨iteG_findOrAdd, iteRawG_findOrAdd, findOrAddOver_core⟩

/-- the decorated calls: when the first attempt of the capacity-free body is not aborted by a
reordering request, `BDD.ite` / `BDD.var` with capacity are the capacity-free calls under the
side condition on what the DECORATED call leaves, and raise `RuntimeError` with the context
flag restored otherwise -/
theorem C17_capacity_decorated {α} (cap : Nat) (xc x : M α) (h : CapSim cap xc x) (m : Mgr)
    (hne : (x { m with ctx := true }).1 ≠ .error .needsReordering) :
    (CapOK cap m (tryToReorder x m).2 → tryToReorder xc m = tryToReorder x m) ∧
    (¬ CapOK cap m (tryToReorder x m).2 →
      (tryToReorder xc m).1 = .error .runtime ∧ (tryToReorder xc m).2.ctx = m.ctx) :=
  ⟨tryToReorder_sim_first cap xc x h m hne, tryToReorder_sim_first_full cap xc x h m hne⟩

/-- C01's `C01_public_ite` TRANSFERRED (reordering not enabled): with `max_nodes = cap`, under
the side condition on the state the capacity-free `ite` leaves, the public `ite` returns the
if-then-else; and when the side condition fails it raises `RuntimeError` -/
theorem C17_capacity_ite (cap : Nat) (m : Mgr) (hI : Inv m) (hoff : m.lastLen = none) (g u v : Int)
    (hg : m.tbl.Mem g) (hu : m.tbl.Mem u) (hv : m.tbl.Mem v) :
    (CapOK cap m (ite g u v m).2 →
      ∃ r m', iteCap cap g u v m = (.ok r, m') ∧ ItePost m g u v r m') ∧
    (¬ CapOK cap m (ite g u v m).2 → (iteCap cap g u v m).1 = .error .runtime) := by
  refine ⟨fun hc => ?_, (iteCap_vs_ite_off cap m hI hoff g u v).2⟩
  rw [(iteCap_vs_ite_off cap m hI hoff g u v).1 hc]
  exact C01_public_ite m hI hoff g u v hg hu hv

/-- C17/(b): `RuntimeError('full')` of `find_or_add` leaves the manager EXACTLY as it was: node
table, unique table, reference counts, `_min_free`, computed table, every other field.  (With
the reordering request in front, only the harness trigger of the request may be consumed.) -/
theorem C17_full_unchanged (cap : Nat) (m m' : Mgr) :
    (∀ (i : Nat) (v w : Int), findOrAddCapCore cap i v w m = (.error .runtime, m') → m' = m) ∧
    (∀ (i v w : Int), findOrAddCap cap i v w m = (.error .runtime, m') →
      ∃ f, m' = { m with fireIn := f }) :=
  ⟨fun i v w => findOrAddCapCore_full cap i v w m m', fun i v w => findOrAddCap_full cap i v w m m'⟩

/-- WHEN the call is refused: some node key is absent from the unique table (the proof's witness
is the node asked for; the statement does not say which), `_min_free` was free, and no integer
in `(_min_free, cap)` is free — `newMinFree`, the number the capacity-free call moves `_min_free`
to, is `≥ cap` -/
theorem C17_full_when (cap i : Nat) (v w : Int) (m m' : Mgr)
    (h : findOrAddCapCore cap i v w m = (.error .runtime, m')) :
    ∃ t : Nd, m.pred[t.key]? = none ∧ m.tbl.succ.contains m.minFree = false ∧
      cap ≤ (findOrAddCore i v w m).2.minFree ∧ m.minFree < (findOrAddCore i v w m).2.minFree := by
  obtain ⟨t, h1, _, h3, _, h5, h6⟩ := findOrAddCapWith_full _ cap i v w m m' h
  exact ⟨t, h1, h3, h5, h6⟩

/-- C17/(b), the code as written (store the node, search, `del` the three entries): the refused
call leaves a manager with the same CONTENT — every lookup in `_succ`, `_pred`, `_ref`, every
other field —, hence the same canonical dump and `len`; and the literal variant is the abstract
one in every other case -/
theorem C17_full_unchanged_literal (cap i : Nat) (v w : Int) (m : Mgr) (ext : Nat → Nat)
    (hI : Inv m) (hx : RefExact m ext) :
    (∀ m', findOrAddCapLit cap i v w m = (.error .runtime, m') →
      Mgr.SameContent m' m ∧ dumpState m' = dumpState m ∧ m'.len = m.len) ∧
    (findOrAddCapLit cap i v w m = findOrAddCapCore cap i v w m ∨
      (findOrAddCapCore cap i v w m = (.error .runtime, m) ∧
        ∃ m', findOrAddCapLit cap i v w m = (.error .runtime, m') ∧ Mgr.SameContent m' m)) :=
  ⟨fun m' h => findOrAddCapLit_full_exact cap i v w m m' ext hI hx h,
    findOrAddCapLit_same cap i v w m (hx.minFree_none hI)⟩

/-- what the code BEFORE commit 9f1005b leaves after `RuntimeError('full')`: NOT the manager of
the call — a node (the statement does not say which) is stored under the number `_min_free`
still names, with count 0, and every other counter is what it was: no count of a successor was
incremented -/
theorem C17_full_unrepaired (cap i : Nat) (v w : Int) (m m' : Mgr)
    (h : findOrAddCapOld cap i v w m = (.error .runtime, m')) :
    m' ≠ m ∧ ∃ t : Nd, m'.tbl.node? m'.minFree = some t ∧ m'.ref[m'.minFree]? = some 0 ∧
      ∀ k, k ≠ m.minFree → m'.ref[k]? = m.ref[k]? := by
  obtain ⟨t, _, h2, h3, h4, h5⟩ := findOrAddCapOld_full cap i v w m m' h
  exact ⟨h5, t, h2, h3, h4⟩

/-- C17/(c), `_ite` (the recursion, inside a context): operands in the manager, `max_nodes =
cap`.  Returns the if-then-else; or is aborted by a reordering request (armed context only); or
raises `RuntimeError` — the ONLY other exception.  In all three cases `StepK m m'`: the invariant
holds, every node that existed is there unchanged (those created before the refusal stay, as
garbage), variable order / threshold / flag / roots untouched, and the counts are exact for
every ledger they were exact for, none decreased. -/
theorem C17_ite_full (cap : Nat) (m : Mgr) (g u v : Int) (hI : Inv m)
    (hg : m.tbl.Mem g) (hu : m.tbl.Mem u) (hv : m.tbl.Mem v) :
    OutcomeX (fun e => e = .runtime) m (fun r m' => ItePost m g u v r m') (iteCapRaw cap g u v m) :=
  iteCapRaw_outX cap m g u v hI hg hu hv

/-- the same for `_ite` over ANY `find_or_add` with a three-outcome specification -/
theorem C17_ite_over (E : Err → Prop) (foa : Int → Int → Int → M Int) (hfoa : FoaX E foa)
    (m : Mgr) (g u v : Int) (hI : Inv m) (hg : m.tbl.Mem g) (hu : m.tbl.Mem u) (hv : m.tbl.Mem v) :
    OutcomeX E m (fun r m' => ItePost m g u v r m') (iteRawG foa g u v m) :=
  iteG_outX E foa hfoa (m.nvars + 2) m g u v hI hg hu hv (by omega)

/-- what `StepK` gives after a refusal half-way: invariant, old references valid with their
meaning, counts exact for the caller's ledger -/
theorem C17_ite_full_means (cap : Nat) (m m' : Mgr) (ext : Nat → Nat) (g u v : Int) (hI : Inv m)
    (hx : RefExact m ext) (hO : OrderOK m.tbl)
    (hg : m.tbl.Mem g) (hu : m.tbl.Mem u) (hv : m.tbl.Mem v)
    (h : iteCapRaw cap g u v m = (.error .runtime, m')) :
    Inv m' ∧ OrderOK m'.tbl ∧ RefExact m' ext ∧ Frame m m' ∧
    (∀ w, m.tbl.Mem w → m'.tbl.Mem w ∧ ∀ a, den m'.tbl w a = den m.tbl w a) ∧
    (∀ (k c : Nat), m.ref[k]? = some c → ∃ c' : Nat, m'.ref[k]? = some c' ∧ c ≤ c') := by
  have ho := C17_ite_full cap m g u v hI hg hu hv
  rw [h] at ho
  have hs : StepK m m' := ho.1
  obtain ⟨hx', hmono⟩ := hs.keep ext hx
  exact ⟨hs.inv, OrderOK.frame hs.frame hO, hx', hs.frame,
    fun w hw => ⟨hs.ext.mem hw, fun a => den_ext hs.ext hI.wf.toWF w a hw⟩, hmono⟩

/-- C17/(c), `BDD.ite` with `max_nodes = cap`, ARBITRARY integers, dynamic reordering enabled or
not: whatever it returns or raises (`RuntimeError('full')` in the first attempt or in the retry
after sifting included) — never the internal signal; `DynInv ext m'` (invariant, order bijection,
counts exact for the caller's ledger, the reordering-context flag cleared, no schedule left);
reordering enabled iff it was; same names; every held reference a member with the same function
by name; same roots.  Likewise `BDD.var`. -/
theorem C17_ite_full_dyn (cap : Nat) (ext : Nat → Nat) (m : Mgr) (hD : DynInv ext m) :
    (∀ g u v, DynTotal ext m (iteCap cap g u v m)) ∧ (∀ name, DynTotal ext m (varCap cap name m)) :=
  ⟨fun g u v => (iteCap_decorated cap g u v m).total hD,
    fun name => (varCap_decorated cap name m).total hD⟩

/-- held operands: the documented result, or an exception — and the only exception is
`RuntimeError` -/
theorem C17_ite_full_result (cap : Nat) (ext : Nat → Nat) (m : Mgr) (hD : DynInv ext m) (g u v : Int)
    (hg : HeldX ext g) (hu : HeldX ext u) (hv : HeldX ext v) :
    DynResult ext (IteDoc g u v) m (iteCap cap g u v m) ∧
    (∀ e m', iteCap cap g u v m = (.error e, m') → e = .runtime) :=
  have h := iteCap_resultIn cap ext m hD.toS g u v hg hu hv
  ⟨h.toK.toS.default hD.sched, fun _ _ he => (he ▸ h).raises hD.sched⟩

/-- reordering not enabled: result + `GoodState`, or `RuntimeError` + `Kept` + `GoodState` for the
SAME ledger — every theorem of the development applies to the manager after the refusal -/
theorem C17_ite_full_off (cap : Nat) (ext : Nat → Nat) (m : Mgr) (hG : GoodState m ext) (g u v : Int)
    (hg : m.tbl.Mem g) (hu : m.tbl.Mem u) (hv : m.tbl.Mem v) :
    (∃ r m', iteCap cap g u v m = (.ok r, m') ∧ ItePost m g u v r m' ∧ GoodState m' ext) ∨
    (∃ m', iteCap cap g u v m = (.error .runtime, m') ∧ Kept m m' ∧ GoodState m' ext) :=
  iteCap_off cap ext m hG g u v hg hu hv

/-- C17/(c), "subsequent operations behave normally": after ANY `ite` with capacity (a refused
one in particular) the next capacity-free `ite` on held operands — the manager's limit raised
again, or simply enough room — returns the if-then-else of the operands AS THEY WERE before the
refused call, and leaves a state in which everything applies again -/
theorem C17_full_then_normal (cap : Nat) (ext : Nat → Nat) (m : Mgr) (hD : DynInv ext m)
    (g0 u0 v0 : Int) (g u v : Int) (hg : HeldX ext g) (hu : HeldX ext u) (hv : HeldX ext v) :
    ∃ r m'', ite g u v (iteCap cap g0 u0 v0 m).2 = (.ok r, m'') ∧ DynInv ext m'' ∧ m''.tbl.Mem r ∧
      (∀ σ, denN m''.tbl r σ = if denN m.tbl g σ then denN m.tbl u σ else denN m.tbl v σ) ∧
      (∀ w, HeldX ext w → m''.tbl.Mem w ∧ ∀ σ, denN m''.tbl w σ = denN m.tbl w σ) := by
  obtain ⟨r, m'', he, a, b, -, c, d⟩ := C17_error_then_normal_dyn ext m _
    ((iteCap_decorated cap g0 u0 v0 m).total hD) g u v hg hu hv
  exact ⟨r, m'', he, a, b, c, d⟩

/-- … and the next `ite` WITH the same capacity, on ARBITRARY integers again: whatever it returns
or raises, `DynTotal` from the state the first call left (the refusal is repeatable, never
destructive); which result and which exception, for held operands: `C17_ite_full_result` -/
theorem C17_full_then_full (cap : Nat) (ext : Nat → Nat) (m : Mgr) (hD : DynInv ext m)
    (g0 u0 v0 : Int) (g u v : Int) :
    DynTotal ext (iteCap cap g0 u0 v0 m).2 (iteCap cap g u v (iteCap cap g0 u0 v0 m).2) :=
  (iteCap_decorated cap g u v _).total ((iteCap_decorated cap g0 u0 v0 m).total hD).2.inv

/-- the capacity layer of `swap` is the model of `swap` when nothing is refused … -/
theorem C17_swap_layer_is_model : swapG findOrAdd = swap := swapG_findOrAdd

/-- … and from a GOOD state (reachable by declare / var / ite / incref / collect_garbage) `swap`
with `max_nodes = 7` raises `RuntimeError` leaving a manager that violates the invariant, while
the capacity-free `swap` of the same state succeeds: C17 is FALSE for `swap` at capacity -/
theorem C17_swap_full_refuted :
    GoodState swapM swapSt.ext ∧
    raisedErr (swapCap 7 (.level 0) (.level 1) false swapM).1 = some .runtime ∧
    ¬ Inv (swapCap 7 (.level 0) (.level 1) false swapM).2 ∧
    raisedErr (swap (.level 0) (.level 1) false swapM).1 = none :=
  ⟨swapM_good, swapCap_breaks_inv⟩

/-! ## (d) non-vacuity

`capM`: variables `a < b < c`; nodes 2 = `a`, 3 = `b`, 4 = `c`, each held once by the caller;
`_min_free = 5`.  With `max_nodes = 7` the numbers 5 may still be used (6 is free) but 6 may not
(no free number in `(6, 7)`): the 5th node creation is refused.
`ite(b, a, c)` creates three nodes without capacity (`¬b ∧ c` at 5, `b ∨ c` at 6, the result at
7); with `max_nodes = 7` it stores node 5, and is refused at node 6: half-way. -/

def capOps : List UOp :=
  [.declare "a" none, .declare "b" none, .declare "c" none,
   .var "a", .incref 2, .var "b", .incref 3, .var "c", .incref 4]

def capSt : St := run capOps St.init
def capM : Mgr := capSt.m

theorem capM_good : GoodState capM capSt.ext := reachable_inv capOps (by decide)

theorem capM_dynInv : DynInv capSt.ext capM :=
  have h : capM.sched = [] ∧ capM.roots = [] ∧ 2 ≤ capM.nvars := by decide +kernel
  (capM_good.good3 h.1 h.2.1).dynInv h.2.2

theorem capM_held : HeldX capSt.ext 2 ∧ HeldX capSt.ext 3 ∧ HeldX capSt.ext 4 := by
  have h : 0 < capSt.ext 2 ∧ 0 < capSt.ext 3 ∧ 0 < capSt.ext 4 := by decide +kernel
  exact ⟨Or.inr h.1, Or.inr h.2.1, Or.inr h.2.2⟩

example : capM.minFree = 5 ∧ capM.len = 4 := by decide +kernel

/-- without capacity: three new nodes, result 7, `_min_free = 8` -/
example : (ite 3 2 4 capM).1.toOption = some 7 ∧ (ite 3 2 4 capM).2.minFree = 8 ∧
    (ite 3 2 4 capM).2.len = 7 := by decide +kernel

/-- the side condition of (a) decides: capacity 9 is enough, capacity 8 is not -/
example : CapOK 9 capM (ite 3 2 4 capM).2 ∧ ¬ CapOK 8 capM (ite 3 2 4 capM).2 := by decide +kernel

example : iteCap 9 3 2 4 capM = ite 3 2 4 capM := by
  have h : raisedErr (iteRaw 3 2 4 { capM with ctx := true }).1 = none ∧
      CapOK 9 capM (tryToReorder (iteRaw 3 2 4) capM).2 := by decide +kernel
  exact (C17_capacity_decorated 9 _ _ (iteCapRaw_sim 9 3 2 4) capM (fun he => by
    have := h.1
    rw [he] at this
    cases this)).1 h.2

/-- `max_nodes = 7`: refused half-way — node 5 was created (it stays, count 0, as garbage; its
children were counted), node 6 was refused; `_min_free = 6`; the flag is cleared; the three
held nodes are there -/
example : raisedErr (iteCap 7 3 2 4 capM).1 = some .runtime ∧
    (iteCap 7 3 2 4 capM).2.len = 5 ∧ (iteCap 7 3 2 4 capM).2.minFree = 6 ∧
    (iteCap 7 3 2 4 capM).2.ref[5]? = some 0 ∧ (iteCap 7 3 2 4 capM).2.ctx = false ∧
    (iteCap 7 3 2 4 capM).2.tbl.succ.contains 6 = false := by decide +kernel

/-- the same call on the LITERAL `find_or_add` (store, search, delete) leaves the same dump -/
example : raisedErr (iteCapL 7 3 2 4 capM).1 = some .runtime ∧
    dumpState (iteCapL 7 3 2 4 capM).2 = dumpState (iteCap 7 3 2 4 capM).2 := by decide +kernel

/-- … and on the UN-REPAIRED `find_or_add` it does not: node 6 stays stored while `_min_free`
still says 6, the children of node 6 are not counted -/
example : raisedErr (iteCapO 7 3 2 4 capM).1 = some .runtime ∧
    (iteCapO 7 3 2 4 capM).2.minFree = 6 ∧ (iteCapO 7 3 2 4 capM).2.tbl.succ.contains 6 = true ∧
    dumpState (iteCapO 7 3 2 4 capM).2 ≠ dumpState (iteCap 7 3 2 4 capM).2 := by decide +kernel

/-- a single refused `find_or_add`: `max_nodes = 6`, the node `(0, 4, 3)` at `_min_free = 5`;
repaired: the manager of the call; un-repaired: another manager -/
example : findOrAddCapCore 6 0 4 3 capM = (.error .runtime, capM) := by
  have h : raisedErr (findOrAddCapCore 6 0 4 3 capM).1 = some .runtime := by decide +kernel
  have hres := eq_of_fst_error (eq_error_of_raisedErr h)
  rw [hres, (C17_full_unchanged 6 capM _).1 0 4 3 hres]

example : raisedErr (findOrAddCapOld 6 0 4 3 capM).1 = some .runtime ∧
    (findOrAddCapOld 6 0 4 3 capM).2.tbl.succ.contains 5 = true ∧
    (findOrAddCapOld 6 0 4 3 capM).2.minFree = 5 ∧
    (findOrAddCapOld 6 0 4 3 capM).2.ref[4]? = capM.ref[4]? := by decide +kernel

/-- the theorems apply to this state -/
example : DynTotal capSt.ext capM (iteCap 7 3 2 4 capM) :=
  (C17_ite_full_dyn 7 capSt.ext capM capM_dynInv).1 3 2 4

/-- after the refusal, the caller goes on: `ite(b, a, c)` without the limit now returns, and the
result is the if-then-else of the three held functions as they were -/
example : ∃ r m'', ite 3 2 4 (iteCap 7 3 2 4 capM).2 = (.ok r, m'') ∧ DynInv capSt.ext m'' ∧
    ∀ σ, denN m''.tbl r σ = if denN capM.tbl 3 σ then denN capM.tbl 2 σ else denN capM.tbl 4 σ := by
  obtain ⟨r, m'', h1, h2, _, h4, _⟩ := C17_full_then_normal 7 capSt.ext capM capM_dynInv 3 2 4 3 2 4
    capM_held.2.1 capM_held.1 capM_held.2.2
  exact ⟨r, m'', h1, h2, h4⟩

example : (ite 3 2 4 (iteCap 7 3 2 4 capM).2).1.toOption = some 7 := by decide +kernel

end DD
