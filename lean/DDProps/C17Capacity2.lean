/-
  DDProps.C17Capacity2 — the capacity layer lifted to `BDD.apply`, for every operator of the
  vocabulary that does not quantify (`NonQuantOp op`: the connectives in all their spellings, the
  ternary `ite`, negation — whatever the regenerated table maps to `self.ite(a, b, c)` or `-u`).
  `applyCap cap = applyG (iteCap cap) quantify`, `applyG ite quantify = apply` (by `rfl`).
  `C17_apply_full_dyn` is, like `C17_ite_full_dyn`, about a call whose inner `reorder` has no
  capacity (DDProps.C17Capacity (e), F22).

  Lifted operation by operation in DDProps.C17Capacity3: `apply` with the quantifier aliases,
  `quantify` / `exist` / `forall`, `cofactor`, `let`, `compose`, `rename`, `cube`, `add_expr`,
  `copy_bdd`.  NOT lifted (no capacity-aware version; the harness checks it on the real code only,
  oracle `checks_capacity.op_scenario`): `load`.  Its `.ok` / totality theorems remain statements
  about a manager whose `max_nodes` is not reached.
-/
import DDProofs.CapacityDecorated
import DDProps.C01
import DDProps.C17Capacity
open Std

namespace DD

/-- the layer is the model -/
theorem C17_apply_layer_is_model : applyG ite quantify = apply := applyG_model

/-- `NonQuantOp` in the terms of `isQuantOp`: the operators the theorems below leave out are those
whose regenerated row is a quantifier template (which strings that covers: the `example` below) -/
theorem C17_apply_nonquant_iff (op : String) : NonQuantOp op ↔ isQuantOp op = false := by
  unfold NonQuantOp isQuantOp
  cases findRow op Gen.applyTable with
  | none => simp
  | some row =>
    cases h : row.templ <;> simp [h]

/-- C17/(a) for `apply` — `C01_apply_binary`, `C01_apply_not`, `C17_apply`, … TRANSFER: with
`max_nodes = cap`, reordering not enabled, an operator that is not a quantifier alias (`NonQuantOp`),
ANY arity and operands, `apply` is the capacity-free
`apply` (answer and state) when that call created nothing or left `_min_free < cap`, and raises
`RuntimeError` otherwise -/
theorem C17_capacity_apply (cap : Nat) (m : Mgr) (hI : Inv m) (hoff : m.lastLen = none)
    (op : String) (u : Int) (v w : Option Int) (hnq : NonQuantOp op) :
    (CapOK cap m (apply op u v w m).2 → applyCap cap op u v w m = apply op u v w m) ∧
    (¬ CapOK cap m (apply op u v w m).2 → (applyCap cap op u v w m).1 = .error .runtime) := by
  rw [← applyG_model]
  unfold applyCap
  refine applyG_rel (iteCap cap) ite quantify quantify op u v w m hnq
    (fun rc r => (CapOK cap m r.2 → rc = r) ∧ (¬ CapOK cap m r.2 → rc.1 = .error .runtime)) ?_ ?_
  · intro r _
    exact ⟨fun _ => rfl, fun hn => absurd (Or.inl rfl) hn⟩
  · intro a b c
    exact iteCap_vs_ite_off cap m hI hoff a b c

/-- `BDD.ite` with capacity on ARBITRARY integers (the hypothesis `Mem` of `C17_capacity_ite`
removed) -/
theorem C17_capacity_ite_any (cap : Nat) (m : Mgr) (hI : Inv m) (hoff : m.lastLen = none) (g u v : Int) :
    (CapOK cap m (ite g u v m).2 → iteCap cap g u v m = ite g u v m) ∧
    (¬ CapOK cap m (ite g u v m).2 → (iteCap cap g u v m).1 = .error .runtime) :=
  iteCap_vs_ite_off cap m hI hoff g u v

/-- `C01_apply_binary` transferred, as an instance: the connective of the operands, under the
side condition -/
theorem C17_capacity_apply_binary (cap : Nat) (m : Mgr) (hI : Inv m) (hoff : m.lastLen = none)
    (op : String) (c : Conn) (hc : docConn op = some c) (h2 : c.arity = 2)
    (hq1 : c ≠ .forall_) (hq2 : c ≠ .exists_) (hall : Gen.allOps.contains op = true)
    (hnq : NonQuantOp op) (u v : Int) (hu : m.tbl.Mem u) (hv : m.tbl.Mem v)
    (hcap : CapOK cap m (apply op u (some v) none m).2) :
    ∃ r m', applyCap cap op u (some v) none m = (.ok r, m') ∧ Inv m' ∧ Ext m.tbl m'.tbl ∧
      m'.tbl.Mem r ∧ Frame m m' ∧
      ∀ a, den m'.tbl r a = c.eval (den m.tbl u a) (den m.tbl v a) false := by
  rw [(C17_capacity_apply cap m hI hoff op u (some v) none hnq).1 hcap]
  exact C01_apply_binary m hI hoff op c hc h2 hq1 hq2 hall u v hu hv

/-- C17/(c) for `apply`: with `max_nodes = cap`, ANY operator string that is not a quantifier
alias, ANY arity and operands, dynamic reordering enabled or not, whatever it returns or raises
— `RuntimeError('full')` half-way through the `ite` included: never the internal signal, `DynInv`
for the caller's ledger (invariant, order bijection, exact counts, flag cleared), reordering
enabled iff it was, same names and roots, every held reference a member with the same function
by name (`DynTotal`) -/
theorem C17_apply_full_dyn (cap : Nat) (ext : Nat → Nat) (m : Mgr) (hD : DynInv ext m)
    (op : String) (u : Int) (v w : Option Int) (hnq : NonQuantOp op) :
    DynTotal ext m (applyCap cap op u v w m) :=
  (applyCap_decorated cap op u v w hnq m).total hD

/-- reordering not enabled: `Kept` and `GoodState` for the same ledger after ANY outcome -/
theorem C17_apply_full_off (cap : Nat) (ext : Nat → Nat) (m : Mgr) (hG : GoodState m ext)
    (op : String) (u : Int) (v w : Option Int) (hnq : NonQuantOp op) :
    Kept m (applyCap cap op u v w m).2 ∧ GoodState (applyCap cap op u v w m).2 ext :=
  ((applyCap_decorated cap op u v w hnq m).good_off hG).2

/-! ### non-vacuity, on `capM` (a, b, c; nodes 2, 3, 4 held; `_min_free = 5`) -/

example : NonQuantOp "and" ∧ NonQuantOp "<=>" ∧ NonQuantOp "ite" ∧ NonQuantOp "~" ∧ ¬ NonQuantOp "\\E" := by
  simp only [C17_apply_nonquant_iff]
  decide +kernel

/-- `apply('ite', b, a, c)` needs three nodes (5, 6, 7): refused half-way with `max_nodes = 7`
(node 5 stays), fine with 9; `a <=> b` needs one node: refused with `max_nodes = 6` -/
example : raisedErr (applyCap 7 "ite" 3 (some 2) (some 4) capM).1 = some .runtime ∧
    (applyCap 7 "ite" 3 (some 2) (some 4) capM).2.len = 5 ∧
    (applyCap 9 "ite" 3 (some 2) (some 4) capM).1.toOption = some 7 ∧
    (apply "ite" 3 (some 2) (some 4) capM).1.toOption = some 7 ∧
    raisedErr (applyCap 6 "<=>" 2 (some 3) none capM).1 = some .runtime ∧
    (applyCap 6 "<=>" 2 (some 3) none capM).2.len = 4 := by decide +kernel

example : DynTotal capSt.ext capM (applyCap 7 "<=>" 2 (some 3) none capM) :=
  C17_apply_full_dyn 7 capSt.ext capM capM_dynInv _ _ _ _
    ((C17_apply_nonquant_iff _).mpr (by decide +kernel))

end DD
