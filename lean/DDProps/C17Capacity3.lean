/-
  DDProps.C17Capacity3 — the capacity layer, operation by operation.

  Here: `_quantify` / `BDD.quantify` / `exist` / `forall` and the quantifier aliases of
  `apply` (so `apply` with capacity covers every operator: `applyCapQ`); `cofactor` / `let` with
  Boolean values; `compose` / `let` with functions; `rename` / `let` with names / `copy_bdd`;
  `cube`; `add_expr`.
  For each: the twin over an arbitrary `find_or_add` (and nested `ite`) is the model when
  instantiated with the capacity-free ones; over ANY `find_or_add` / `ite` with three-outcome
  specifications (documented result | aborted by a request | exception of `E`, always `StepK`) the
  recursion has one too (`_quantify`, `_cofactor`, `_compose`), resp. is total on arbitrary
  arguments (`_copy_bdd`, `cube`, `add_expr`); instance `max_nodes = cap`; the decorated call keeps
  `DynInv` after ANY outcome — the sifting served between the two attempts being the CAPACITY-FREE
  `reorder`, as for `C17_ite_full_dyn` (DDProps.C17Capacity (e), F22): every `_full_dyn` below is
  a statement about such a twin.
  NOT proved for `quantify`: the refinement under `CapOK` (it is compared line by line on
  `ddvcap`): `_quantify` calls the decorated `ite`, so `CapSim` would have to be relativised to
  states inside a context.
-/
import DDProofs.CapacityDecorated
import DDProps.C17Capacity2
open Std

namespace DD

/-- the layer is the model -/
theorem C17_quantify_layer_is_model :
    (∀ Q fa f u ov c, quantifyFG findOrAdd ite Q fa f u ov c = quantifyF Q fa f u ov c) ∧
    quantifyG findOrAdd ite = quantify ∧ applyG ite quantify = apply :=
  ⟨quantifyFG_model, quantifyG_model, applyG_model⟩

/-- GENERIC: `_quantify` over ANY `find_or_add` and nested `ite` with three-outcome
specifications: the documented quantification (memo sound) | aborted by a request | an exception of
`E` — always having only added nodes, counts exact -/
theorem C17_quantify_over (E : Err → Prop) (foa iteX : Int → Int → Int → M Int)
    (hfoa : FoaX E foa) (hite : IteNestedX E iteX) (Q : List Nat) (fa : Bool)
    (f : Nat) (m : Mgr) (u : Int) (ordvar : List Nat) (cache : HashMap Int Int)
    (hI : Inv m) (hq : Quiet m) (hu : m.tbl.Mem u) (hmemo : QMemo fa Q m.tbl cache)
    (hord : ∀ j, j ∈ Q → m.tbl.levelOf u ≤ j → j ∈ ordvar) (hf : m.nvars + 1 ≤ f + m.tbl.levelOf u) :
    OutcomeX2 E m (fun r c m' => QMemo fa Q m'.tbl c ∧ QEntry fa Q m'.tbl u r)
      (quantifyFG foa iteX Q fa f u ordvar cache m) :=
  quantifyFG_outX E foa iteX hfoa hite Q fa f m u ordvar cache hI hq hu hmemo hord hf

/-- C17 `_quantify` with `max_nodes = cap`: the only exception besides the signal is
`RuntimeError`, and whatever happens only nodes were added (`StepK`) -/
theorem C17_quantify_full (cap : Nat) (Q : List Nat) (fa : Bool) (f : Nat) (m : Mgr) (u : Int)
    (ordvar : List Nat) (cache : HashMap Int Int) (hI : Inv m) (hq : Quiet m) (hu : m.tbl.Mem u)
    (hmemo : QMemo fa Q m.tbl cache) (hord : ∀ j, j ∈ Q → m.tbl.levelOf u ≤ j → j ∈ ordvar)
    (hf : m.nvars + 1 ≤ f + m.tbl.levelOf u) :
    OutcomeX2 (fun e => e = .runtime) m (fun r c m' => QMemo fa Q m'.tbl c ∧ QEntry fa Q m'.tbl u r)
      (quantifyFG (findOrAddCap cap) (iteCap cap) Q fa f u ordvar cache m) :=
  quantifyFG_outX _ _ _ (findOrAddCap_foaX cap) (iteCap_nestedX cap) Q fa f m u ordvar cache
    hI hq hu hmemo hord hf

/-- C17 `BDD.quantify` / `exist` / `forall` with `max_nodes = cap`: ANY node, ANY names or levels,
dynamic reordering enabled or not, whatever it returns or raises — `RuntimeError('full')`
half-way included: `DynTotal` (never the signal; `DynInv` for the caller's ledger, flag cleared;
enabled iff it was; held references keep their function by name) -/
theorem C17_quantify_full_dyn (cap : Nat) (ext : Nat → Nat) (m : Mgr) (hD : DynInv ext m)
    (u : Int) (qvars : List Key) (fa : Bool) : DynTotal ext m (quantifyCap cap u qvars fa m) :=
  (quantifyCap_decorated cap u qvars fa m).total hD

/-- held node, declared names: the documented quantification by name, or an exception that is not
the signal with everything kept -/
theorem C17_quantify_full_result (cap : Nat) (ext : Nat → Nat) (m : Mgr) (hD : DynInv ext m)
    (u : Int) (hu : HeldX ext u) (fa : Bool) (names : List String)
    (hdecl : ∀ s ∈ names, m.tbl.vars.contains s = true) :
    DynResult ext (QuantDoc fa names u) m (quantifyCap cap u (names.map Key.name) fa m) :=
  -- the precondition and the documented result are those of `quantify` without capacity
  tryToReorder_rejected ext _ [u] _ (QuantDoc fa names u)
    (fun m0 hI0 hc hO hpre hmem => (quantifyBodyG_outX _ _ _ (findOrAddCap_foaX cap)
      (iteCap_nestedX cap) m0 hI0 (Or.inl hc) hO u (hmem u (by simp)) fa names hpre).toE)
    (quantify_docBody u fa names).pre (quantify_docBody u fa names).doc m hD
    (by simpa using hu) hdecl

/-- C17 `BDD.apply` with `max_nodes = cap`, EVERY operator of the vocabulary (the quantifier
aliases, which `C17_apply_full_dyn` excludes, included), ANY arity and operands: `DynTotal` -/
theorem C17_apply_all_full_dyn (cap : Nat) (ext : Nat → Nat) (m : Mgr) (hD : DynInv ext m)
    (op : String) (u : Int) (v w : Option Int) : DynTotal ext m (applyCapQ cap op u v w m) :=
  (applyCapQ_decorated cap op u v w m).total hD

/-! ### non-vacuity on `capM` (a, b, c; nodes 2, 3, 4 held; `_min_free = 5`) -/

/- (the memo of `_quantify` is a `HashMap`, which the kernel does not evaluate: the concrete
refusals half-way are the protocol lines of `checks_capacity.py`, replayed on `ddvcap`; here the
hypotheses of the theorems are met by `capM`) -/
example : DynTotal capSt.ext capM (quantifyCap 6 2 [Key.name "a"] false capM) :=
  C17_quantify_full_dyn 6 capSt.ext capM capM_dynInv _ _ _

example : DynResult capSt.ext (QuantDoc false ["a", "b"] 2) capM
    (quantifyCap 6 2 (["a", "b"].map Key.name) false capM) :=
  C17_quantify_full_result 6 capSt.ext capM capM_dynInv 2 capM_held.1 false ["a", "b"]
    (by decide +kernel)

example : DynTotal capSt.ext capM (applyCapQ 6 "\\E" 2 (some 3) none capM) :=
  C17_apply_all_full_dyn 6 capSt.ext capM capM_dynInv _ _ _ _

theorem C17_cofactor_layer_is_model :
    (∀ values f u ov c, cofactorFG findOrAdd values f u ov c = cofactorF values f u ov c) ∧
    cofactorG findOrAdd = cofactor ∧ (∀ d u, letBoolsG cofactor d u = letOp (.bools d) u) :=
  ⟨cofactorFG_model, cofactorG_model, letBoolsG_model⟩

/-- GENERIC: `_cofactor` over ANY `find_or_add` with a three-outcome specification -/
theorem C17_cofactor_over (E : Err → Prop) (foa : Int → Int → Int → M Int) (hfoa : FoaX E foa)
    (values : List (Nat × Bool)) (f : Nat) (m : Mgr) (u : Int) (ordvar : List Nat)
    (cache : HashMap Int Int) (hI : Inv m) (hu : m.tbl.Mem u) (hmemo : CofMemo values m.tbl cache)
    (hord : ∀ j, (values.lookup j).isSome = true → m.tbl.levelOf u ≤ j → j ∈ ordvar)
    (hf : m.nvars + 1 ≤ f + m.tbl.levelOf u) :
    OutcomeX2 E m (fun r c m' => CofMemo values m'.tbl c ∧ CofEntry values m'.tbl u r)
      (cofactorFG foa values f u ordvar cache m) :=
  cofactorFG_outX E foa hfoa values f m u ordvar cache hI hu hmemo hord hf

/-- C17 `_cofactor` with `max_nodes = cap`: restriction (memo sound) | aborted | `RuntimeError`,
always `StepK` -/
theorem C17_cofactor_full (cap : Nat) (values : List (Nat × Bool)) (f : Nat) (m : Mgr) (u : Int)
    (ordvar : List Nat) (cache : HashMap Int Int) (hI : Inv m) (hu : m.tbl.Mem u)
    (hmemo : CofMemo values m.tbl cache)
    (hord : ∀ j, (values.lookup j).isSome = true → m.tbl.levelOf u ≤ j → j ∈ ordvar)
    (hf : m.nvars + 1 ≤ f + m.tbl.levelOf u) :
    OutcomeX2 (fun e => e = .runtime) m
      (fun r c m' => CofMemo values m'.tbl c ∧ CofEntry values m'.tbl u r)
      (cofactorFG (findOrAddCap cap) values f u ordvar cache m) :=
  cofactorFG_outX _ _ (findOrAddCap_foaX cap) values f m u ordvar cache hI hu hmemo hord hf

/-- C17 `BDD.cofactor` and `BDD.let` with Boolean values, `max_nodes = cap`: ANY node, ANY
dictionary, whatever they return or raise: `DynTotal` -/
theorem C17_cofactor_full_dyn (cap : Nat) (ext : Nat → Nat) (m : Mgr) (hD : DynInv ext m) :
    (∀ u values, DynTotal ext m (cofactorCap cap u values m)) ∧
    (∀ d u, DynTotal ext m (letBoolsG (cofactorCap cap) d u m)) :=
  ⟨fun u values => (cofactorCap_decorated cap u values m).total hD,
    fun d u => (letBoolsCap_decorated cap d u m).total hD⟩

example : DynTotal capSt.ext capM (cofactorCap 6 2 [(Key.name "a", true)] capM) :=
  (C17_cofactor_full_dyn 6 capSt.ext capM capM_dynInv).1 _ _

theorem C17_compose_layer_is_model :
    (∀ j fu f g c, composeFG findOrAdd ite j fu f g c = composeF j fu f g c) ∧
    (∀ sub fu f c, vectorComposeFG findOrAdd ite sub fu f c = vectorComposeF sub fu f c) ∧
    composeG findOrAdd ite = compose ∧ (∀ d u, letRefsG compose d u = letOp (.refs d) u) :=
  ⟨composeFG_model, vectorComposeFG_model, composeG_model, letRefsG_model⟩

/-- GENERIC: `_compose` over ANY `find_or_add` / nested `ite` with three-outcome specifications -/
theorem C17_compose_over (E : Err → Prop) (foa iteX : Int → Int → Int → M Int)
    (hfoa : FoaX E foa) (hite : IteNestedX E iteX) (j fu : Nat) (m : Mgr) (f g : Int)
    (cache : HashMap (Int × Int) Int) (hI : Inv m) (hq : Quiet m) (hf : m.tbl.Mem f)
    (hg : m.tbl.Mem g) (hmemo : KMemo j m.tbl cache)
    (hfu : 2 * m.nvars + 1 ≤ fu + m.tbl.levelOf f + m.tbl.levelOf g) :
    OutcomeX2 E m (fun r c m' => KMemo j m'.tbl c ∧ KPost j m'.tbl f g r)
      (composeFG foa iteX j fu f g cache m) :=
  composeFG_outX E foa iteX hfoa hite j fu m f g cache hI hq hf hg hmemo hfu

/-- C17 `BDD.compose` and `BDD.let` with functions, `max_nodes = cap`: ANY node, ANY dictionary
(one variable: `_compose`; several: `_vector_compose`), whatever they return or raise: `DynTotal` -/
theorem C17_compose_full_dyn (cap : Nat) (ext : Nat → Nat) (m : Mgr) (hD : DynInv ext m) :
    (∀ f varSub, DynTotal ext m (composeCap cap f varSub m)) ∧
    (∀ d u, DynTotal ext m (letRefsG (composeCap cap) d u m)) :=
  ⟨fun f varSub => (composeCap_decorated cap f varSub m).total hD,
    fun d u => (letRefsCap_decorated cap d u m).total hD⟩

theorem C17_rename_layer_is_model :
    (∀ src lm fu u c, copyBddFG findOrAdd ite src lm fu u c = copyBddF src lm fu u c) ∧
    renameG findOrAdd ite = rename ∧ copyBddG findOrAdd ite = copyBdd ∧
    (∀ d u, letNamesG rename d u = letOp (.names d) u) :=
  ⟨copyBddFG_model, renameG_model, copyBddG_model, letNamesG_model⟩

/-- GENERIC: `_copy_bdd` over ANY `find_or_add` / nested `ite` that are total on arbitrary
integers (only nodes added, whatever they answer) is total: ANY node, level map, source table -/
theorem C17_copy_over (foa iteX : Int → Int → Int → M Int) (hvar : VarTotX foa) (hiteT : IteTotX iteX)
    (src : Option Tbl) (lm : List (Nat × Nat)) (fu : Nat) (u : Int) (cache : HashMap Nat Int)
    (m : Mgr) (hI : Inv m) (hc : m.ctx = true) : TotE m (copyBddFG foa iteX src lm fu u cache m) :=
  copyBddFG_totE foa iteX hvar hiteT src lm fu u cache m hI hc

/-- C17 `BDD.rename`, `BDD.let` with names, and `copy_bdd(u, from, to)` INTO a manager with
`max_nodes = cap`: ANY arguments, whatever they return or raise: `DynTotal` -/
theorem C17_rename_full_dyn (cap : Nat) (ext : Nat → Nat) (m : Mgr) (hD : DynInv ext m) :
    (∀ u dvars, DynTotal ext m (renameCap cap u dvars m)) ∧
    (∀ d u, DynTotal ext m (letNamesG (renameCap cap) d u m)) ∧
    (∀ src u, DynTotal ext m (copyBddCap cap src u m)) :=
  ⟨fun u dvars => (renameCap_decorated cap u dvars m).total hD,
    fun d u => (letNamesCap_decorated cap d u m).total hD,
    fun src u => (copyBddCap_decorated cap src u m).total hD⟩

example : DynTotal capSt.ext capM (composeCap 6 2 [("a", 3)] capM) :=
  (C17_compose_full_dyn 6 capSt.ext capM capM_dynInv).1 _ _
example : DynTotal capSt.ext capM (renameCap 6 3 [("b", "a")] capM) :=
  (C17_rename_full_dyn 6 capSt.ext capM capM_dynInv).1 _ _

theorem C17_cube_layer_is_model : cubeG var apply = cube := by
  funext dvars
  rw [cube_eq]
  rfl

/-- GENERIC: `cube` over ANY nested `var` / `apply` that are total on arbitrary arguments -/
theorem C17_cube_over (varX : String → M Int) (applyX : String → Int → Option Int → Option Int → M Int)
    (hv : VarNestedTot varX) (ha : ApplyNestedTot applyX) (m : Mgr) (hI : Inv m) (hc : m.ctx = true)
    (dvars : List (String × Bool)) : TotE m (cubeBodyG varX applyX dvars m) :=
  cubeBodyG_totE varX applyX hv ha m hI hc dvars

/-- C17 `BDD.cube` with `max_nodes = cap`: ANY names, whatever it returns or raises (refused after
some literals were already conjoined included): `DynTotal` -/
theorem C17_cube_full_dyn (cap : Nat) (ext : Nat → Nat) (m : Mgr) (hD : DynInv ext m)
    (dvars : List (String × Bool)) : DynTotal ext m (cubeCap cap dvars m) :=
  (cubeCap_decorated cap dvars m).total hD

example : DynTotal capSt.ext capM (cubeCap 6 [("a", true), ("b", false)] capM) :=
  C17_cube_full_dyn 6 capSt.ext capM capM_dynInv _

theorem C17_add_expr_layer_is_model :
    (∀ t, evalAstG var apply quantify rename t = evalAst t) ∧
    addExprG (evalAstG var apply quantify rename) = addExpr :=
  ⟨evalAstG_model, addExprG_model⟩

/-- GENERIC: the evaluation of ANY syntax tree over nested `var` / `apply` / `quantify` / `rename`
that are total on arbitrary arguments -/
theorem C17_add_expr_over (varX : String → M Int)
    (applyX : String → Int → Option Int → Option Int → M Int)
    (quantX : Int → List Key → Bool → M Int) (renameX : Int → List (String × String) → M Int)
    (hv : VarNestedTot varX) (ha : ApplyNestedTot applyX) (hq : QuantNestedTot quantX)
    (hr : RenameNestedTot renameX) (toks : List Tok) (m : Mgr) (hI : Inv m) (hc : m.ctx = true) :
    TotE m (addExprToksG (evalAstG varX applyX quantX renameX) toks m) :=
  addExprToksG_totE _ (evalAstG_totE _ _ _ _ hv ha hq hr) toks m hI hc

/-- C17 `BDD.add_expr` with `max_nodes = cap`: ANY text, whatever it returns or raises — refused
half-way through the formula, or a syntax error after some sub-formulas were built: `DynTotal` -/
theorem C17_add_expr_full_dyn (cap : Nat) (ext : Nat → Nat) (m : Mgr) (hD : DynInv ext m)
    (s : String) : DynTotal ext m (addExprCap cap s m) :=
  (addExprCap_decorated cap s m).total hD

example : DynTotal capSt.ext capM (addExprCap 6 "a /\\ (b \\/ ~ c)" capM) :=
  C17_add_expr_full_dyn 6 capSt.ext capM capM_dynInv _

end DD
