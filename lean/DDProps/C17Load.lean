/-
  C17 (readable file, ILL-FORMED content): `load` failing half-way — and, the statements being
  about EVERY content and EVERY outcome, also `load` succeeding.

  The loaders declare the file's variables first (`loadVars` / `declare`) and build nodes line
  by line, so a content that is rejected half-way HAS changed the manager: "nothing changed" is
  false (examples below).  What holds (findings F16 / F17 are the two places where it would not):
  `KeptV` (the invariant; every node that was there, its triple and its function; the level of every
  declared variable; the switches and the registered roots); EXACT COUNTS for the same ledger — the
  loader holds nothing when it raises (JSON: the `except BaseException:` clause of `_load_json`, F17;
  one reference per returned `Function` when it returns); and THE ORDER IS STILL A BIJECTION
  (`OrderOK`): always for `levels=False` and for JSON, for `levels=True` by the two pre-checks of
  `_load_pickle` (F16: refused before anything is declared, or every variable gets declared;
  "distinct names" says that `vars` is a dict — the model keeps its items as a list).
  Pickle: any `levels`, dynamic reordering enabled or not (the loader never looks at it outside a
  context).  JSON here: `load_order=False`, reordering not enabled; the other cases: DDProps/C17Load2.lean.
-/
import DDProofs.LoadJson2Off
import DDProofs.UsedExample
import DDProofs.DumpExamples
open Std
namespace DD

/-- C17: `BDD.load(file.p, levels)` on ANY content — well-formed or not, accepted or raising
half-way: `KeptV`, exact counts for the same ledger, the order a bijection if it was one (for
`levels=True`: and the names of the file are distinct) (`LoadLeaves`) -/
theorem C17_load_rejected (f : PickleFile) (levels : Bool) (m : Mgr) (hI : Inv m)
    (hc : m.ctx = false) : LoadLeaves f levels m (loadPickle f levels m).2 :=
  loadPickle_leaves f levels m hI hc

/-- C17: the same for `dd.autoref.BDD.load`; the counts are exact for the caller's ledger plus
one reference per returned `Function`, and for the caller's ledger when the call raised -/
theorem C17_load_rejected_autoref (f : PickleFile) (levels : Bool) (m : Mgr) (hI : Inv m)
    (hc : m.ctx = false) :
    KeptV m (loadPickleAutoref f levels m).2 ∧
    (OrderOK m.tbl → (levels = true → (f.vars.map (·.1)).Nodup) →
      OrderOK (loadPickleAutoref f levels m).2.tbl) ∧
    ∀ ext, RefExact m ext →
      match (loadPickleAutoref f levels m).1 with
      | .ok roots => RefExact (loadPickleAutoref f levels m).2 (extAdd ext (roots.values.map Int.natAbs))
      | .error _ => RefExact (loadPickleAutoref f levels m).2 ext :=
  loadPickleAutoref_leaves f levels m hI hc

/-- C17: `load_json(file, bdd, load_order=False)` on ANY content,
dynamic reordering not enabled, from a between-calls state with the counts exact for `e`:
`KeptV`, and again a between-calls state (`GoodState`: invariant, order a bijection, reordering
off, outside a context) with the counts exact for `e` plus one reference per returned `Function`
— for `e` itself when the call raised -/
theorem C17_load_json_rejected (f : JsonFile) (m : Mgr)
    (e : Nat → Nat) (hg : GoodState m e) : JsonLeaves e m (loadJson f false m) :=
  loadJson_false_any f m e hg

/-- C17: what `KeptV` gives the user -/
theorem C17_load_rejected_means (m m' : Mgr) (h : KeptV m m') (u : Int) (hu : m.tbl.Mem u) :
    Inv m' ∧ m'.tbl.Mem u ∧ (∀ a, den m'.tbl u a = den m.tbl u a) ∧
    (∀ (v : String) (i : Nat), m.tbl.vars[v]? = some i → m'.tbl.vars[v]? = some i) ∧
    m'.lastLen = m.lastLen ∧ m'.ctx = m.ctx ∧ m'.roots = m.roots :=
  ⟨h.inv, h.mem hu, h.den u hu, h.vars, h.lastLen, h.ctx, h.roots⟩

/-! ### the rejected loads do occur, and do change the manager -/

/-- a pickle whose node 3 has a child (7) that is not in the file -/
def fileDangling : PickleFile :=
  { vars := [("x", 0), ("y", 1)]
    succ := [⟨1, 2, none, none⟩, ⟨2, 1, some (-1), some 1⟩, ⟨3, 0, some (-1), some 7⟩]
    roots := .list [3] }

/-- the same content as JSON lines -/
def jsonDangling : JsonFile :=
  { levelOfVar := [("x", 0), ("y", 1)]
    roots := .list [3]
    nodes := [⟨2, 1, -1, 1⟩, ⟨3, 0, -1, 7⟩] }

/-- `KeyError` half-way: both variables are declared and the node of `y` is built -/
example : (loadPickle fileDangling false {}).1 = .error .key ∧
    (loadPickle fileDangling false {}).2.tbl.vars.toList = [("x", 0), ("y", 1)] ∧
    (loadPickle fileDangling false {}).2.tbl.succ.toList = [(2, ⟨1, -1, 1⟩)] := by decide +kernel

example : LoadLeaves fileDangling false {} (loadPickle fileDangling false {}).2 :=
  C17_load_rejected fileDangling false {} Inv.init rfl

/-- finding F17: the JSON reader on the same content raises `KeyError` at the second node line;
the variables are declared, the node of `y` is built, and the reference `_make_node` took for it
has been given back: count 0 (without the `except BaseException:` clause it stays 1) -/
example : (loadJson jsonDangling false {}).1 = .error .key ∧
    (loadJson jsonDangling false {}).2.tbl.vars.toList = [("x", 0), ("y", 1)] ∧
    (loadJson jsonDangling false {}).2.tbl.succ.toList = [(2, ⟨1, -1, 1⟩)] ∧
    (loadJson jsonDangling false {}).2.ref.toList = [(1, 3), (2, 0)] := by decide +kernel

example : JsonLeaves (fun _ => 0) {} (loadJson jsonDangling false {}) :=
  C17_load_json_rejected jsonDangling {} _ GoodState.init

/-- finding F16: `levels=True` into a manager (variables `q`, `r` at levels 0, 1) that has other
variables on the file's levels: refused by the pre-check (`ValueError`) with NOTHING declared
(without the pre-check `x` is declared at level 2 and the refusal comes at `y`, leaving a gap) -/
def fileF16 : PickleFile :=
  { vars := [("x", 2), ("y", 0), ("w", 1)]
    succ := [⟨1, 3, none, none⟩, ⟨2, 2, some (-1), some 1⟩]
    roots := .list [2] }

example : loadPickle fileF16 true (mgr2 "q" "r") = (.error .value, mgr2 "q" "r") :=
  loadPickle_refused fileF16 _ (Or.inr (by decide +kernel))

/-- `levels=True` into a manager that has the file's variables at other levels: refused
(`ValueError`) with nothing changed -/
example : (loadPickle fileDangling true (mgr2 "y" "x")).1 = .error .value ∧
    (loadPickle fileDangling true (mgr2 "y" "x")).2.tbl.vars.toList = [("x", 1), ("y", 0)] := by
  decide +kernel

/-! ### a USED receiving manager: `usedM` (four variables declared c, a, d, b; thirteen nodes;
the user holds `a ∧ b` once and the four-variable node 13 twice) and a file in ANOTHER order
(d < b < a < c) whose last node names a successor (9) that is not in the file -/

def fileBadUsed : PickleFile :=
  { vars := [("d", 0), ("b", 1), ("a", 2), ("c", 3)]
    succ := [⟨1, 4, none, none⟩, ⟨2, 3, some (-1), some 1⟩, ⟨3, 2, some (-1), some 2⟩,
             ⟨4, 1, some 3, some 2⟩, ⟨5, 0, some (-4), some 9⟩]
    roots := .list [5, -3] }

def jsonBadUsed : JsonFile :=
  { levelOfVar := [("d", 0), ("b", 1), ("a", 2), ("c", 3)]
    roots := .dict [("r", 5), ("s", -3)]
    nodes := [⟨2, 3, -1, 1⟩, ⟨3, 2, -1, 2⟩, ⟨4, 1, 3, 2⟩, ⟨5, 0, -4, 9⟩] }

/-- `levels=False`: `KeyError` after three nodes of the file were built (15, 16, 17) in the order
of the MANAGER; the thirteen old nodes and the user's counts (node 4: 1, node 13: 2) are what
they were; `levels=True`: refused by the pre-check (`ValueError`), nothing changed -/
example : (loadPickle fileBadUsed false usedM).1 = .error .key ∧
    (loadPickle fileBadUsed false usedM).2.tbl.succ.keys =
      [2, 3, 4, 5, 6, 7, 8, 9, 10, 11, 12, 13, 14, 15, 16, 17] ∧
    (loadPickle fileBadUsed false usedM).2.ref[4]? = some 1 ∧
    (loadPickle fileBadUsed false usedM).2.ref[13]? = some 2 ∧
    (loadPickle fileBadUsed true usedM).1 = .error .value ∧
    (loadPickle fileBadUsed true usedM).2.tbl.vars.toList = [("a", 1), ("b", 3), ("c", 0), ("d", 2)] ∧
    (loadPickle fileBadUsed true usedM).2.tbl.succ.keys = usedM.tbl.succ.keys := by decide +kernel

example : LoadLeaves fileBadUsed false usedM (loadPickle fileBadUsed false usedM).2 ∧
    RefExact (loadPickle fileBadUsed false usedM).2 usedExt :=
  have h := C17_load_rejected fileBadUsed false usedM usedM_good.inv usedM_good.ctx
  ⟨h, h.counts usedExt usedM_good.exact⟩

/-- the JSON reader on the same content: `KeyError` at the fourth node line; every reference the
shelf and the temporaries held has been given back — the counts are those of the pickle run -/
example : (loadJson jsonBadUsed false usedM).1 = .error .key ∧
    (loadJson jsonBadUsed false usedM).2.ref.toList = (loadPickle fileBadUsed false usedM).2.ref.toList := by
  decide +kernel

example : JsonLeaves usedExt usedM (loadJson jsonBadUsed false usedM) :=
  C17_load_json_rejected jsonBadUsed usedM usedExt usedM_good

/-! ### files whose own levels are not a permutation of `0..n-1`

The pre-check of the pairs against the manager is not enough for them: the range assertion
(`0 <= i < n`) and the refusal "level already used" of `add_var` would fire half-way, after an
earlier variable was declared above a free level.  `_load_pickle` therefore first checks
`sorted(levels) == list(range(n))`: both files are refused with NOTHING declared. -/

/-- levels 1 and 5 for two variables -/
def fileGapA : PickleFile :=
  { vars := [("a", 1), ("b", 5)], succ := [⟨1, 2, none, none⟩], roots := .list [1] }
/-- level 1 twice -/
def fileGapB : PickleFile :=
  { vars := [("a", 1), ("b", 1)], succ := [⟨1, 2, none, none⟩], roots := .list [1] }

example : loadPickle fileGapA true {} = (.error .value, {}) :=
  loadPickle_refused fileGapA _ (Or.inl (by decide))
example : loadPickle fileGapB true {} = (.error .value, {}) :=
  loadPickle_refused fileGapB _ (Or.inl (by decide))

/-- with `levels=False` the range assertion of the loop still stops `fileGapA` half-way
(`AssertionError((5, 2))` after `a` was declared) — at the NEXT FREE level, so without a gap;
`fileGapB` loads -/
example : (loadPickle fileGapA false {}).1 = .error .assertion ∧
    (loadPickle fileGapA false {}).2.tbl.vars.toList = [("a", 0)] ∧
    (loadPickle fileGapB false {}).1 = .ok (.list [1]) ∧
    (loadPickle fileGapB false {}).2.tbl.vars.toList = [("a", 0), ("b", 1)] := by decide +kernel

/-! ### a JSON file with a node line for the terminal's id

Finding F18: with the assertion `k > 0` alone a line `"1": […]` puts a node on the shelf under
the key 1, but `_node_from_int(1, …)` is the constant TRUE: the release loop never reaches the
shelf's entry; the file is ACCEPTED, returns the constant, and leaves the node built for the line
with one reference nobody holds.  The loader refuses `k <= 1` (`AssertionError`) before
anything is built. -/

def jsonIdOne : JsonFile :=
  { levelOfVar := [("x", 0)], roots := .list [1], nodes := [⟨1, 0, -1, 1⟩] }

example : (loadJson jsonIdOne false {}).1 = .error .assertion ∧
    (loadJson jsonIdOne false {}).2.tbl.succ.toList = [] ∧
    (loadJson jsonIdOne false {}).2.ref.toList = [(1, 1)] := by decide +kernel

example : JsonLeaves (fun _ => 0) {} (loadJson jsonIdOne false {}) :=
  C17_load_json_rejected jsonIdOne {} _ GoodState.init

end DD
