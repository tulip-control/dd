/-
  C17 (readable JSON file, ANY content — ill-formed included), the cases that
  DDProps/C17Load.lean left open, EVERY outcome.  `load_order=True` from ANY between-calls state
  (`C17_load_json_order_any`, `JsonOrderLeaves`): the explicit `reorder(order)` runs when the line
  `level_of_var` is read — at the BEGINNING, whether or not the load fails later; a successful load
  leaves dynamic reordering ENABLED and one that raises leaves it OFF, whatever it was.
  `load_order=False` with dynamic reordering ENABLED (`C17_load_json_rejected_dyn`): a sifting may run
  inside `bdd.var` / `bdd.ite` before the failure; the `except` loop releases the shelf by node NUMBER,
  and numbers are stable under `swap`; from every between-calls state, also with fewer than two
  variables: `C17_load_json_rejected_start`.  The loader never lets the internal signal escape
  (`C17_load_json_noSignal`).  Hypothesis for `load_order=True`: the table `level_of_var` has distinct
  names (a JSON object / Python `dict`; the model keeps its items as a list).  Witnesses of the findings
  F19, F20 are below (F18: DDProps/C17Load.lean).
-/
import DDProofs.LoadJson2OrderSched
import DDProofs.LoadJson2Few
import DDProofs.LoadJson2Off
import DDProps.C12Dyn
import DDProps.C17Load
open Std
namespace DD

/-- C17: `load_json(file, bdd, load_order=True)` on ANY content whose table `level_of_var` has
distinct names, from a state as between two calls (`LoadStart`: no recorded schedule, the
registered roots held by the caller; reordering enabled or not), EVERY outcome -/
theorem C17_load_json_order_any (f : JsonFile) (hnd : (f.levelOfVar.map (·.1)).Nodup) (m : Mgr)
    (e : Nat → Nat) (h : LoadStart e m) : JsonOrderLeaves f e m (loadJson f true m) :=
  loadJson_true_any f hnd m e h

/-- the same from the state the C09 / C17 theorems about the decorator use (`DynInv`: dynamic
reordering enabled or not) -/
theorem C17_load_json_order_any_dyn (f : JsonFile) (hnd : (f.levelOfVar.map (·.1)).Nodup) (m : Mgr)
    (e : Nat → Nat) (h : DynInv e m) : JsonOrderLeaves f e m (loadJson f true m) :=
  loadJson_true_any f hnd m e h.loadStart

/-- … and from a between-calls state with reordering off (`GoodState`), default schedule, the
registered roots held -/
theorem C17_load_json_order_any_off (f : JsonFile) (hnd : (f.levelOfVar.map (·.1)).Nodup) (m : Mgr)
    (e : Nat → Nat) (h : GoodState m e) (hs : m.sched = []) (hr : ∀ r ∈ m.roots, 0 < e r.natAbs) :
    JsonOrderLeaves f e m (loadJson f true m) :=
  loadJson_true_any f hnd m e ⟨h.inv, h.order, h.exact, h.ctx, hs, hr⟩

/-- C17: what `JsonOrderLeaves` gives the user of a load that RAISED: the invariant, the order a
bijection, the counts exact for the SAME ledger, every held reference a node with the same
function of the variable names, dynamic reordering OFF -/
theorem C17_load_json_order_rejected_means (f : JsonFile) (e : Nat → Nat) (m m' : Mgr) (er : Err)
    (h : JsonOrderLeaves f e m (.error er, m')) (u : Int) (hu : HeldX e u) :
    er ≠ .needsReordering ∧ Inv m' ∧ OrderOK m'.tbl ∧ RefExact m' e ∧ m'.lastLen = none ∧
    m'.ctx = false ∧ m'.roots = m.roots ∧ m'.tbl.Mem u ∧ (∀ σ, denN m'.tbl u σ = denN m.tbl u σ) :=
  ⟨fun he => h.noSignal (by rw [he]), h.inv, h.order, h.counts, h.switch, h.ctx, h.left.roots,
    (h.left.held u hu).1, (h.left.held u hu).2⟩

/-- C17: `load_json(file, bdd, load_order=False)` on ANY content into a manager with dynamic
reordering possibly ENABLED, EVERY outcome -/
theorem C17_load_json_rejected_dyn (f : JsonFile) (m : Mgr) (e : Nat → Nat) (hD : DynInv e m) :
    JsonLeavesDyn e m (loadJson f false m) :=
  loadJson_false_any_dyn f m e hD

/-- C17: what `JsonLeavesDyn` gives the user of a load that RAISED -/
theorem C17_load_json_rejected_dyn_means (e : Nat → Nat) (m m' : Mgr) (er : Err)
    (h : JsonLeavesDyn e m (.error er, m')) (hr : RefExact m e) (u : Int) (hu : HeldX e u) :
    er ≠ .needsReordering ∧ DynInv e m' ∧ m'.lastLen.isSome = m.lastLen.isSome ∧
    m'.roots = m.roots ∧ m'.tbl.Mem u ∧ (∀ σ, denN m'.tbl u σ = denN m.tbl u σ) :=
  have hm : m.tbl.Mem u := hu.mem hr
  ⟨fun he => h.noSignal (by rw [he]), h.state, h.left.enabled, h.left.roots,
    (h.left.held u hu hm).1, (h.left.held u hu hm).2⟩

/-- C17: `load_json(file, bdd, load_order=False)` on ANY content from EVERY state as between two
calls: dynamic reordering enabled or not, ANY number of declared variables (`JsonLeavesStart`).
With at least two variables once the line `level_of_var` is read this is
`C17_load_json_rejected_dyn` (the switch is what it was).  With FEWER than two and reordering
enabled, a request that fires inside `bdd.var` / `bdd.ite` makes `reorder(bdd)` raise (`ValueError`:
sifting needs two variables); the decorator lets it through with `_last_len = None`; `_make_node`
fails and the `except` clause releases the shelf: the state is good for the caller's ledger, every
held reference keeps its function, and dynamic reordering is never turned ON by the load (`switch`;
that it is OFF after that run is shown on the witness below) -/
theorem C17_load_json_rejected_start (f : JsonFile) (m : Mgr) (e : Nat → Nat) (h : LoadStart e m) :
    JsonLeavesStart f e m (loadJson f false m) :=
  loadJson_false_any_start f m e h

/-- C17 / C09: `load_json` never lets the internal reordering signal `_NeedsReordering` escape —
`load_order=True` from any between-calls state; `load_order=False` with reordering not enabled,
or enabled with two variables declared (`DynInv`) -/
theorem C17_load_json_noSignal (f : JsonFile) (m : Mgr) (e : Nat → Nat) :
    ((f.levelOfVar.map (·.1)).Nodup → LoadStart e m → (loadJson f true m).1 ≠ .error .needsReordering) ∧
    (GoodState m e → (loadJson f false m).1 ≠ .error .needsReordering) ∧
    (DynInv e m → (loadJson f false m).1 ≠ .error .needsReordering) :=
  ⟨fun hnd h => (loadJson_true_any f hnd m e h).noSignal,
    fun h => (loadJson_false_any_noSignal f m e h).1,
    fun h => (loadJson_false_any_dyn f m e h).noSignal⟩

/-- `b ∧ a` in the order b < a, then a THIRD node line whose successor 9 is not in the file -/
def jsonBad3 : JsonFile :=
  { levelOfVar := [("b", 0), ("a", 1)], roots := .list [3],
    nodes := [⟨2, 1, -1, 1⟩, ⟨3, 0, -1, 2⟩, ⟨5, 0, -1, 9⟩] }

/-- `load_order=True` into a fresh manager: `KeyError` at the third line; the variables are
declared and in the file's order, the two nodes are built, every reference of the shelf has been
given back (node 2: in-degree 1, node 3: 0), dynamic reordering is off -/
example : (loadJson jsonBad3 true {}).1 = .error .key ∧
    (loadJson jsonBad3 true {}).2.tbl.vars.toList = [("a", 1), ("b", 0)] ∧
    (loadJson jsonBad3 true {}).2.tbl.succ.toList = [(2, ⟨1, -1, 1⟩), (3, ⟨0, -1, 2⟩)] ∧
    (loadJson jsonBad3 true {}).2.ref.toList = [(1, 4), (2, 1), (3, 0)] ∧
    (loadJson jsonBad3 true {}).2.lastLen = none := by decide +kernel

example : JsonOrderLeaves jsonBad3 (fun _ => 0) {} (loadJson jsonBad3 true {}) :=
  C17_load_json_order_any jsonBad3 (by decide) {} _ Good3.init.loadStart

/-- the same file, `load_order=False`, into `exDyn` (variables a < b, the user holds node 4 =
`a ∧ b`, dynamic reordering ENABLED with the trigger armed): the request fires inside the first
decorated call of `_make_node`, sifting runs (the threshold moves from 1 to 6, the trigger is
consumed), the call is retried; the load then fails with `KeyError` at the third line; the counts
are exactly those before the call, reordering is still enabled -/
example : exDyn.lastLen = some 1 ∧ exDyn.fireIn = some 1 ∧
    exDyn.ref.toList = [(1, 6), (2, 0), (3, 1), (4, 1)] ∧
    (loadJson jsonBad3 false exDyn).1 = .error .key ∧
    (loadJson jsonBad3 false exDyn).2.lastLen = some 6 ∧
    (loadJson jsonBad3 false exDyn).2.fireIn = none ∧
    (loadJson jsonBad3 false exDyn).2.ref.toList = [(1, 6), (2, 0), (3, 1), (4, 1)] := by
  decide +kernel

example : JsonLeavesDyn exExt exDyn (loadJson jsonBad3 false exDyn) :=
  C17_load_json_rejected_dyn jsonBad3 exDyn exExt exDyn_dynInv

/-- … and `load_order=True` into the same manager: reordering is switched off first, the file's
order (b < a) is imposed, the load fails at the third line; reordering stays OFF -/
example : (loadJson jsonBad3 true exDyn).1 = .error .key ∧
    (loadJson jsonBad3 true exDyn).2.tbl.vars.toList = [("a", 1), ("b", 0)] ∧
    (loadJson jsonBad3 true exDyn).2.lastLen = none := by decide +kernel

example : JsonOrderLeaves jsonBad3 exExt exDyn (loadJson jsonBad3 true exDyn) :=
  C17_load_json_order_any_dyn jsonBad3 (by decide) exDyn exExt exDyn_dynInv

/-- one variable, one node -/
def jsonOne : JsonFile := { levelOfVar := [("x", 0)], roots := .list [2], nodes := [⟨2, 0, -1, 1⟩] }

/-- `BDD()` with dynamic reordering enabled and a request due -/
def fewM : Mgr := { ({} : Mgr) with lastLen := some 1, fireIn := some 1 }

/-- the request fires inside `bdd.var('x')`, `reorder(bdd)` raises `ValueError` (one variable),
the load fails with it; `x` is declared, nothing else is left, and dynamic reordering is OFF -/
example : (loadJson jsonOne false fewM).1 = .error .value ∧
    (loadJson jsonOne false fewM).2.tbl.vars.toList = [("x", 0)] ∧
    (loadJson jsonOne false fewM).2.tbl.succ.toList = [] ∧
    (loadJson jsonOne false fewM).2.ref.toList = [(1, 1)] ∧
    (loadJson jsonOne false fewM).2.lastLen = none := by decide +kernel

example : JsonLeavesStart jsonOne (fun _ => 0) fewM (loadJson jsonOne false fewM) :=
  C17_load_json_rejected_start jsonOne fewM _ (Good3.init.setRequest _ _).loadStart

/-! ### a USED receiving manager (`usedM`: c < a < d < b, thirteen nodes, node 4 held once, node
13 twice) and the ill-formed file `jsonBadUsed` in ANOTHER order (d < b < a < c) -/

/-- `load_order=True`: the file's order is imposed on the used manager (its thirteen nodes are
rewritten by the swaps, the garbage among them collected), then `KeyError` at the fourth line;
the user's counts are what they were, dynamic reordering is off -/
example : (loadJson jsonBadUsed true usedM).1 = .error .key ∧
    (loadJson jsonBadUsed true usedM).2.tbl.vars.toList = [("a", 2), ("b", 1), ("c", 3), ("d", 0)] ∧
    (loadJson jsonBadUsed true usedM).2.ref[4]? = some 1 ∧
    (loadJson jsonBadUsed true usedM).2.ref[13]? = some 2 ∧
    (loadJson jsonBadUsed true usedM).2.lastLen = none := by decide +kernel

example : JsonOrderLeaves jsonBadUsed usedExt usedM (loadJson jsonBadUsed true usedM) :=
  C17_load_json_order_any_off jsonBadUsed (by decide) usedM usedExt usedM_good usedM_shape.2.2.2.2.2.2
    (by rw [usedM_shape.2.2.2.2.2.1]; intro r hr; cases hr)

/-- finding F20: node 3 at level 1 names node 2, at level 0, as its successor.  Stored by
`find_or_add` as `(1, -1, 2)`, it makes `assert_consistent()` raise at the end with the node still in
the tables, and the next explicit `reorder` corrupts the manager.  The loader raises
`ValueError` before anything is stored for the line; the reference of node 2 has been given back -/
def jsonIllOrdered : JsonFile :=
  { levelOfVar := [("x", 0), ("y", 1)], roots := .list [3], nodes := [⟨2, 0, -1, 1⟩, ⟨3, 1, -1, 2⟩] }

example : (loadJson jsonIllOrdered true {}).1 = .error .value ∧
    (loadJson jsonIllOrdered true {}).2.tbl.succ.toList = [(2, ⟨0, -1, 1⟩)] ∧
    (loadJson jsonIllOrdered true {}).2.ref.toList = [(1, 3), (2, 0)] := by decide +kernel

/-- `load_order=False` builds the same content with `var` / `ite` and accepts it -/
example : (loadJson jsonIllOrdered false {}).1 = .ok (.list [4]) := by decide +kernel

/-- finding F19: node 3 is neither a root nor a successor of another line, so `ref < 3` fails for
it with `load_order=True`.  Asserted in the release loop, outside the `try:`, it leaves the
references of nodes 3 and 2 with nobody to give them back.  It is asserted inside the `try:`
and the handler releases the whole shelf -/
def jsonUnrooted : JsonFile :=
  { levelOfVar := [("x", 0), ("y", 1)], roots := .list [2], nodes := [⟨3, 1, -1, 1⟩, ⟨2, 0, -1, 1⟩] }

example : (loadJson jsonUnrooted true {}).1 = .error .assertion ∧
    (loadJson jsonUnrooted true {}).2.ref.toList = [(1, 5), (2, 0), (3, 0)] := by decide +kernel

/-- with `load_order=False` only `ref < 2` is asserted, which cannot fail: the file loads -/
example : (loadJson jsonUnrooted false {}).1 = .ok (.list [3]) := by decide +kernel

end DD
