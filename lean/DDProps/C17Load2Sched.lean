/-
  DDProps.C17Load2Sched — C17 / C12: `load_json(file, bdd, load_order=True)` on ANY content, EVERY
  outcome, for EVERY RECORDED SCHEDULE, and acceptance for its only schedule-consuming step.

  `C17_load_json_order_any` (DDProps.C17Load2) assumes the default schedule.  The load switches
  dynamic reordering off, declares the variables and runs the explicit `reorder(order)`; nothing
  else looks at the recorded schedule.  `C17_load_json_order_anySchedule`: `JsonOrderLeaves` with
  "a suffix of the schedule is left"; the header's `reorder(order)` answers `.sched` only if a
  schedule was recorded, and then too the manager is kept.  `C17_load_json_order_accepts`: the
  record of the choice-driven `reorder(order)` under ANY valid choice of iteration orders
  (DDProps.C07Accept), followed by anything, makes the header return — in the state of the
  choice-driven run, the continuation left.
-/
import DDProps.C17Load2
open Std
namespace DD

/-- C17: `load_json(load_order=True)`, ANY content, ANY recorded schedule, EVERY outcome -/
theorem C17_load_json_order_anySchedule (f : JsonFile) (hnd : (f.levelOfVar.map (·.1)).Nodup) (m : Mgr)
    (e : Nat → Nat) (h : LoadStartS e m) : JsonOrderLeavesS f e m (loadJson f true m) :=
  loadJson_true_anyS f hnd m e h

/-- the same from the state between two decorated calls, whatever schedule is recorded -/
theorem C17_load_json_order_anySchedule_dyn (f : JsonFile) (hnd : (f.levelOfVar.map (·.1)).Nodup)
    (m : Mgr) (e : Nat → Nat) (h : DynInvS e m) : JsonOrderLeavesS f e m (loadJson f true m) :=
  loadJson_true_anyS f hnd m e h.loadStartS

/-- with no recorded schedule: the statement of DDProps.C17Load2 -/
theorem C17_load_json_order_anySchedule_default (f : JsonFile) (m : Mgr) (e : Nat → Nat)
    (out : Except Err Roots × Mgr) (h : JsonOrderLeavesS f e m out) (hs : m.sched = []) :
    JsonOrderLeaves f e m out :=
  h.default hs

/-- C17 / C07 (acceptance): after `configure(reordering=False)` and the declarations (which always
succeed and do not look at the schedule), for every valid choice `c`, the record `sch` of the
choice-driven `reorder(order)` — followed by ANY `rest` — is accepted by the line `level_of_var`:
it returns in the state of the choice-driven run with exactly `rest` left; in particular the
load then does not fail with the header's `.sched` and ends with the variables sorted by the
file's numbers -/
theorem C17_load_json_order_accepts (f : JsonFile) (hnd : (f.levelOfVar.map (·.1)).Nodup) (m : Mgr)
    (e : Nat → Nat) (h : LoadStartS e m) (c : Choice) (hc : c.Valid) :
    ∃ m1, declare (f.levelOfVar.map (·.1)) { m with lastLen := none } = (.ok (), m1) ∧
      ∀ sch m2, reorderC c (some (orderOf f.levelOfVar)) [] m1 = (.ok ((), sch), m2) → ∀ rest,
        jsonHeader f true { m with lastLen := none, sched := sch ++ rest } =
          (.ok (), { m2 with sched := rest }) ∧
        SortedBy (orderOf f.levelOfVar)
          (loadJson f true { m with sched := sch ++ rest }).2 := by
  have g0 := h.goodOff
  obtain ⟨m1, ed, d⟩ := declare_ok (f.levelOfVar.map (·.1)) { m with lastLen := none } g0.inv g0.order
  have hRI : ReorderInv e m1 := d.reorderInv g0 h.roots
  refine ⟨m1, ed, fun sch m2 hrun rest => ?_⟩
  have hacc : jsonHeader f true { m with lastLen := none, sched := sch ++ rest } =
      (.ok (), { m2 with sched := rest }) :=
    jsonHeader_true_accepts f { m with lastLen := none } m1 e c hc ed hRI sch m2 hrun rest
  refine ⟨hacc, ?_⟩
  have hS : LoadStartS e { m with sched := sch ++ rest } :=
    ⟨h.inv.setSched _, h.order, h.refs.congr rfl rfl, h.ctx, h.roots⟩
  have hL := loadJson_true_anyS f hnd { m with sched := sch ++ rest } e hS
  exact hL.sorted (by
    show (jsonHeader f true { m with lastLen := none, sched := sch ++ rest }).1 = .ok ()
    rw [hacc])

/-- `jsonBad3` (DDProps.C17Load2) into `exDyn` (DDProofs.DynExample) with a schedule that does not describe a run: the
header's `reorder(order)` reports the mismatch, the load raises, and everything is kept -/
example : JsonOrderLeavesS jsonBad3 exExt { exDyn with sched := [.swap []] }
    (loadJson jsonBad3 true { exDyn with sched := [.swap []] }) :=
  C17_load_json_order_anySchedule_dyn jsonBad3 (by decide) _ exExt (exDyn_dynInv.withSched _)

/-- on `jsonBad3` into `exDyn`: under the bogus schedule `[.swap []]` the load raises the model's
`.sched` and leaves reordering off; the record of the header's `reorder(order)` under the default
choice has one item, and the header accepts it -/
theorem C17_load_order_sched_example :
    raisedErr (loadJson jsonBad3 true { exDyn with sched := [.swap []] }).1 = some .sched ∧
    (loadJson jsonBad3 true { exDyn with sched := [.swap []] }).2.lastLen = none ∧
    ((logOf (reorderC Choice.default (some (orderOf jsonBad3.levelOfVar)) []
        (declare (jsonBad3.levelOfVar.map (·.1)) { exDyn with lastLen := none }).2).1).map
      fun sch => (sch.length, (jsonHeader jsonBad3 true
        { exDyn with lastLen := none, sched := sch }).1.toOption.isSome)) = some (1, true) := by
  decide +kernel

end DD
