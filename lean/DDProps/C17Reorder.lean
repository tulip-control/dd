/-
  DDProps.C17Reorder — C17, "bad order": every way the table given to `reorder(bdd, order)`
  can be wrong, with what the code really does in each case.

  `_sort_to_order` checks ONLY `len(bdd.vars) != len(order)` up front (`ValueError`).  It never
  calls `_assert_valid_ordering`: the requested levels are just compared (`order[x] > order[y]`),
  the names are looked up when two adjacent levels are compared.  Hence a wrong number of entries is
  `ValueError` with nothing changed; a variable of the manager that is not listed is `KeyError` during
  the FIRST pass, possibly after some swaps (a good state in which every held reference keeps its
  function of the names, not the state before the call); duplicate levels, gaps, negative or too large
  levels are NOT rejected: the variables end sorted by the given numbers.
  Iteration orders of the level sets are schedule inputs (`Mgr.sched`) as in C07: for every schedule
  the only other outcome is the model's `MODEL-SCHEDULE-MISMATCH` (`.sched`); with no recorded
  schedule (`_total` form) that cannot happen.
-/
import DDProps.C07
import DD.ApiCore
open Std

namespace DD

/-- C17 (`reorder(bdd, order)`, any `order`), every schedule: in (2) and (5) the model's `.sched`
(the recorded schedule does not fit) is a further outcome, of which nothing is said here
(`C07_reorder_every_outcome`).
(1) wrong length: `ValueError`, state identical.
(2) right length, ANY content: the call returns, or raises `KeyError`; either way the state is
    good (`ReorderInv`: `Inv`, `OrderOK`, exact counts for the same ledger) and every held
    reference denotes the same function of the names, the same variables are declared
    (`ReorderRel`).
(3) right length, a declared variable is not listed, at least two variables: never returns
    normally (so, by (2): `KeyError` in a kept state, or the model's `.sched`).
(4) right length, at most one variable: accepted whatever the name and level, nothing changes.
(5) right length, every declared variable listed, levels ANY integers (duplicates, gaps,
    negative, `≥ n`): returns normally, variables sorted by the given numbers. -/
theorem C17_reorder_any_order (ext : Nat → Nat) (m : Mgr) (h : ReorderInv ext m)
    (order : List (String × Int)) :
    (m.nvars ≠ order.length → reorder (some order) m = (.error .value, m)) ∧
    (order.length = m.nvars →
      OkOrKey SchedErr (fun m' => ReorderInv ext m' ∧ ReorderRel ext m m' ∧ m'.nvars = m.nvars)
        (reorder (some order) m)) ∧
    (order.length = m.nvars → 2 ≤ m.nvars →
      (∃ v : String, m.tbl.vars.contains v = true ∧ order.lookup v = none) →
      ∃ e m', reorder (some order) m = (.error e, m')) ∧
    (order.length = m.nvars → m.nvars ≤ 1 → reorder (some order) m = (.ok (), m)) ∧
    (order.length = m.nvars → Covered order m.nvars m →
      OkOrSched (fun _ m' => ReorderInv ext m' ∧ ReorderRel ext m m' ∧ m'.nvars = m.nvars ∧
        SortedBy order m') (reorder (some order) m)) :=
    ⟨reorder_bad_length m order, fun hlen => sortToOrder_any (swapOK ext) order m h hlen,
    fun hlen h2 hmiss => sortToOrder_missing_name (swapOK ext) order m h hlen h2 hmiss,
    fun hlen h1 => sortToOrder_trivial order m hlen h1,
    fun hlen hc => C07_sortToOrder_sorted ext m h order hlen hc⟩

/-- C17 (`reorder(bdd, order)`, any `order`), default schedule: the call returns normally or
raises `KeyError`, nothing else (no assertion of `swap`, no `ValueError` of the root check);
the state afterwards is good and every held reference keeps its function; with a declared
variable missing from `order` (two or more variables) it is `KeyError`. -/
theorem C17_reorder_any_order_total (ext : Nat → Nat) (m : Mgr) (h : ReorderInv ext m)
    (hs0 : m.sched = []) (order : List (String × Int)) (hlen : order.length = m.nvars) :
    ∃ r m', reorder (some order) m = (r, m') ∧ (r = .ok () ∨ r = .error .key) ∧
      ReorderInv ext m' ∧ m'.sched = [] ∧ ReorderRel ext m m' ∧ m'.nvars = m.nvars ∧
      (2 ≤ m.nvars → (∃ v : String, m.tbl.vars.contains v = true ∧ order.lookup v = none) →
        r = .error .key) := by
  have hany := sortToOrder_any (swapOK_default ext) order m ⟨h, hs0⟩ hlen
  have hmiss := sortToOrder_missing_name (swapOK_default ext) order m ⟨h, hs0⟩ hlen
  show ∃ r m', sortToOrder order m = (r, m') ∧ _
  generalize sortToOrder order m = res at hany hmiss
  obtain ⟨r, m'⟩ := res
  cases r with
  | ok u =>
    obtain ⟨⟨hP, hs⟩, hR, hn⟩ := hany
    refine ⟨.ok u, m', rfl, Or.inl rfl, hP, hs, hR, hn, fun h2 hm => ?_⟩
    obtain ⟨e, m'', he⟩ := hmiss h2 hm
    cases he
  | error e =>
    rcases hany with hf | ⟨he, ⟨hP, hs⟩, hR, hn⟩
    · exact hf.elim
    · subst he
      exact ⟨_, m', rfl, Or.inr rfl, hP, hs, hR, hn, fun _ _ => rfl⟩

/-! ### non-vacuity on `exM` (variables `a` at level 0, `b` at level 1; the user holds `a ∧ b`) -/

/-- a table of the right length that lists an unknown name instead of `b`: refused with
`KeyError` (the hypotheses of clause (3) and of the `_total` form hold) -/
example : ∃ m', reorder (some [("a", 0), ("zzz", 1)]) exM = (.error .key, m') ∧
    ReorderInv exExt m' ∧ ReorderRel exExt exM m' := by
  obtain ⟨r, m', hrun, _, hP, _, hR, _, hk⟩ :=
    C17_reorder_any_order_total exExt exM exM_reorderInv (by decide) [("a", 0), ("zzz", 1)] (by decide)
  have : r = .error .key := hk (by decide) ⟨"b", by decide, by decide⟩
  subst this
  exact ⟨m', hrun, hP, hR⟩
/-- the model run itself: the exception is raised at the first comparison, before any swap -/
example : errOf (reorder (some [("a", 0), ("zzz", 1)]) exM).1 = some .key ∧
    (reorder (some [("a", 0), ("zzz", 1)]) exM).2.tbl.l2v.toList = [(0, "a"), (1, "b")] := by decide
/-- duplicate, negative and too large levels with every name listed meet clause (5): accepted -/
example : Covered [("a", 7), ("b", -2)] exM.nvars exM ∧ Covered [("a", 0), ("b", 0)] exM.nvars exM := by
  have h0 : exM.tbl.l2v[0]? = some "a" := by decide
  have h1 : exM.tbl.l2v[1]? = some "b" := by decide
  have hn : exM.nvars = 2 := by decide
  constructor <;>
  · intro i hi
    rw [hn] at hi
    match i, hi with
    | 0, _ => exact ⟨"a", _, h0, rfl⟩
    | 1, _ => exact ⟨"b", _, h1, rfl⟩
/-- wrong length -/
example : reorder (some [("a", 0)]) exM = (.error .value, exM) :=
  (C17_reorder_any_order exExt exM exM_reorderInv _).1 (by decide)

/-! ### `_assert_valid_ordering`

The only places where a table of levels is VALIDATED (`set(levels.values()) == set(range(n))`:
no duplicate level, no gap, nothing out of range) are the constructor `BDD(levels)` and
`_assert_isomorphic_orders` (used by `copy_bdd` / the loaders).  In the constructor it runs before
any field of the new manager exists, so a rejected table leaves no manager behind; names are not
checked at all (they are `dict` keys).  `apiValidOrdering` (DD.ApiCore) is the model of the check
(the driver's `BDD(levels)` line, `DD.newMgr`, inlines the same expression and answers
`AssertionError` with no manager). -/

/-- C17 (`_assert_valid_ordering(levels)`): accepted iff the levels are exactly `0..n-1` — every
number of `range(n)` occurs (so, with `n` entries: no duplicate, no gap) and every level is in
range; `_assert_isomorphic_orders` raises `AssertionError` for a bad table on either side, before
comparing anything -/
theorem C17_valid_ordering_spec (levels : List (String × Int)) :
    (apiValidOrdering levels = true ↔
      ((∀ i : Nat, i < levels.length → (i : Int) ∈ levels.map (·.2)) ∧
       (∀ k ∈ levels.map (·.2), 0 ≤ k ∧ k < (levels.length : Int)))) ∧
    (apiValidOrdering levels = false → ∀ other support,
      assertIsomorphicOrders levels other support = .error .assertion ∧
      (apiValidOrdering other = true →
        assertIsomorphicOrders other levels support = .error .assertion)) := by
  constructor
  · unfold apiValidOrdering
    simp only [Bool.and_eq_true, List.all_eq_true, List.mem_range, List.contains_iff_mem,
      decide_eq_true_eq]
  · intro hf other support
    constructor
    · simp [assertIsomorphicOrders, hf]
    · intro ho
      simp [assertIsomorphicOrders, hf, ho]

/-- duplicate level, gap, negative level, level `≥ n`: all refused; a permutation is accepted -/
example : apiValidOrdering [("a", 0), ("b", 0)] = false ∧
    apiValidOrdering [("a", 0), ("b", 2)] = false ∧
    apiValidOrdering [("a", -1), ("b", 0)] = false ∧
    apiValidOrdering [("a", 1), ("b", 0)] = true := by decide

end DD
