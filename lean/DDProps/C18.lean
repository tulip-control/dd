/-
  DDProps.C18 — structural views are faithful: Shannon expansion through `succ` /
  `low` / `high` / `var` / `negated`, `descendants`, `len`, and the graph exports
  (`to_nx`, `_to_dot`) evaluate to the denotation.
-/
import DDProofs.SatGraph
import DDProofs.GcSpec
import DDProofs.AutoMonad
import DDProofs.OrderAbs
import DDProofs.SatExample
import DDProofs.GcExample
namespace DD

/-- Shannon expansion through the user-visible views.  For a non-terminal `u` with
`succ(u) = (level, low, high)` (the entry of `abs(u)`), `negated = (u < 0)`:
`u = negated xor ite(var, high, low)`, at the level of assignments to levels and of
assignments to names (`var = var_at_level(level)`); `low`/`high` are references of the
manager at strictly larger levels, `high` is regular -/
theorem C18_expand_spec (t : Tbl) (hw : WF t) (u : Int) (n : Nd) (h1 : u.natAbs ≠ 1)
    (hn : t.succ[u.natAbs]? = some n) :
    (∀ a, den t u a = ((decide (u < 0)) ^^ (if a n.lvl then den t n.hi a else den t n.lo a))) ∧
    (∀ σ, denN t u σ =
      ((decide (u < 0)) ^^ (if σ (t.nameOf n.lvl) then denN t n.hi σ else denN t n.lo σ))) ∧
    t.Mem n.lo ∧ t.Mem n.hi ∧ 0 < n.hi ∧ t.levelOf u = n.lvl ∧
    n.lvl < t.levelOf n.lo ∧ n.lvl < t.levelOf n.hi :=
  ⟨fun a => den_node t hw u n a h1 hn, fun σ => den_node t hw u n (t.lift σ) h1 hn,
   hw.lo_mem _ _ hn, hw.hi_mem _ _ hn, hw.hi_pos _ _ hn, levelOf_node t u n h1 hn,
   hw.lo_lt _ _ hn, hw.hi_lt _ _ hn⟩

/-- the terminal: `succ` gives level `nvars` and no children; `1` is true, `-1` false -/
theorem C18_expand_terminal (t : Tbl) (u : Int) (h1 : u.natAbs = 1) :
    t.levelOf u = t.nvars ∧ ∀ a, den t u a = decide (0 < u) :=
  ⟨levelOf_term t u h1, fun a => den_terminal _ h1 a⟩

/-- `descendants(roots)`: succeeds (the fuel suffices) and is the strictly ascending list
(no duplicates) of exactly the nodes reachable from the roots; the terminal is among them
as soon as there is a root -/
theorem C18_descendants_spec (t : Tbl) (hw : WF t) (roots : List Int) (hm : ∀ r ∈ roots, t.Mem r) :
    ∃ l, descendants t roots = .ok l ∧ l.Pairwise (· < ·) ∧
      (∀ v, v ∈ l ↔ ∃ r ∈ roots, Reach t r.natAbs v) ∧ (roots ≠ [] → 1 ∈ l) := by
  obtain ⟨l, e, p, s⟩ := descendants_spec hw roots hm
  exact ⟨l, e, p, s, (reachSet_spec hw hm s).2.2⟩

/-- `len(bdd)` (`len(self._succ)`): the number of entries of the node table plus the terminal;
on a well-formed table this is the number of references `u > 0` of the manager: there is a
duplicate-free (strictly ascending) list of exactly the `u` with `u in bdd`, of that length -/
theorem C18_len_spec (m : Mgr) :
    m.len = m.tbl.succ.size + 1 ∧
    (WF m.tbl → ∃ l : List Nat, l.Pairwise (· < ·) ∧ (∀ u : Nat, u ∈ l ↔ m.tbl.Mem (u : Int)) ∧
      m.len = l.length) :=
  ⟨rfl, fun hw => ⟨iterNodes m.tbl, iterNodes_sorted _ hw, mem_iterNodes _,
    (iterNodes_length _).symm⟩⟩

/-- `len(bdd)` after `collect_garbage()`: the number of nodes reachable from the nodes the user
holds (ledger `ext`), the terminal included; never more than before -/
theorem C18_len_after_gc (m : Mgr) (ext : Nat → Nat) (hi : Inv m) (hr : RefExact m ext) :
    ∃ (m' : Mgr) (l : List Nat), collectGarbage none m = (.ok (), m') ∧ l.Pairwise (· < ·) ∧
      (∀ u : Nat, u ∈ l ↔ (u = 1 ∨ GcReach m.tbl (GcHeld ext) u)) ∧ m'.len = l.length ∧
      m'.len ≤ m.len := by
  obtain ⟨m', hrun, hp⟩ := collectGarbage_spec m ext hi hr
  refine ⟨m', iterNodes m'.tbl, hrun, iterNodes_sorted _ hp.inv.wf.toWF, ?_,
    (iterNodes_length _).symm, ?_⟩
  · intro u
    rw [mem_iterNodes, ← hp.mem_iff hi.toInvS u]
    simp [Tbl.Mem]
  · have := hp.sub.size; simp only [Mgr.len]; omega

/-- `len(u)` / `u.dag_size` of a `Function` (`len(self.manager.descendants([self.node]))`): on a
live handle it returns, without touching the state, the number of nodes reachable from the
handle's node — the terminal included (so a constant has size 1) -/
theorem C18_fLen_spec (a : AMgr) (hw : WF a.m.tbl) (hs : Nat) (s : Int)
    (hh : a.handles[hs]? = some s) (hm : a.m.tbl.Mem s) :
    ∃ l : List Nat, fLen hs a = (.ok l.length, a) ∧ l.Pairwise (· < ·) ∧
      (∀ v, v ∈ l ↔ Reach a.m.tbl s.natAbs v) ∧ 1 ∈ l := by
  obtain ⟨l, e, p, hl, h1⟩ := C18_descendants_spec a.m.tbl hw [s] (by simpa using hm)
  exact ⟨l, fLen_eval_of a hs s hh e, p, fun v => by rw [hl]; simp, h1 (by simp)⟩

/-- `u.level` and `u.var` of a `Function` on a live handle: pure reads; `level` is the level of
the node (`len(vars)` for the terminal); `var` is `None` for the terminal and otherwise
`var_at_level(level)`, which under `VarsOK` (every level has a name; part of `OrderOK`) is the
`t.nameOf n.lvl` in terms of which `C18_expand_spec` states the expansion by NAME -/
theorem C18_fLevel_fVar_spec (a : AMgr) (hw : WF a.m.tbl) (hv : VarsOK a.m.tbl) (hs : Nat) (s : Int)
    (hh : a.handles[hs]? = some s) (hm : a.m.tbl.Mem s) :
    fLevel hs a = (.ok (a.m.tbl.levelOf s), a) ∧
    (s.natAbs = 1 → fVar hs a = (.ok none, a)) ∧
    (∀ n, s.natAbs ≠ 1 → a.m.tbl.succ[s.natAbs]? = some n →
      fVar hs a = (.ok (some (a.m.tbl.nameOf n.lvl)), a) ∧
      varAtLevel (n.lvl : Int) a.m = (.ok (a.m.tbl.nameOf n.lvl), a.m)) := by
  refine ⟨fLevel_levelOf a hs s hh hm, fVar_term a hs s hh, fun n h1 hn => ?_⟩
  have hva := varAtLevel_ok a.m n.lvl _ (hv.l2v_eq (hw.lvl_lt _ _ hn))
  exact ⟨fVar_eval_of a hs s n hh h1 hn hva, hva⟩

/-- evaluating a faithful export (`GraphOK`) from any exported node gives the denotation,
whichever matching edge is followed -/
theorem C18_graph_eval (t : Tbl) (hw : WF t) (g : Graph) (hg : GraphOK t g) (r : Int)
    (hm : t.Mem r) (hr : HasKey g.1 r.natAbs) (a : Asg) (b : Bool) :
    EvalRoot g a r b ↔ b = den t r a :=
  graph_eval_of_ok hw hg r hm hr a b

/-- the same with an executable evaluator (follow the first matching edge; fuel `nvars + 1`):
on a faithful export it returns the value of the function of the root -/
theorem C18_graph_eval_exec (t : Tbl) (hw : WF t) (g : Graph) (hg : GraphOK t g) (r : Int)
    (hm : t.Mem r) (hr : HasKey g.1 r.natAbs) (a : Asg) :
    (evalGraphF g a (t.nvars + 1) r.natAbs).map (fun b => (decide (r < 0)) ^^ b) =
      some (den t r a) := by
  rw [evalGraphF_eq hw hg a (t.nvars + 1) r hm (by omega) hr, den_natAbs hw hm]
  rfl

/-- in a faithful export two edges with the same source and `value` mark are identical
(repeated edges of a `MultiDiGraph` are copies) -/
theorem C18_edges_functional (t : Tbl) (g : Graph) (hg : GraphOK t g)
    (e e' : Nat × Nat × Bool × Bool) (he : e ∈ g.2) (he' : e' ∈ g.2)
    (hs : e.1 = e'.1) (hv : e.2.2.1 = e'.2.2.1) : e = e' := by
  obtain ⟨u, v, b, c⟩ := e
  obtain ⟨u', v', b', c'⟩ := e'
  cases hs; cases hv
  obtain ⟨n, hn, rfl, rfl⟩ := hg.edge_eq he
  obtain ⟨n', hn', rfl, rfl⟩ := hg.edge_eq he'
  rw [hn] at hn'; cases hn'; rfl

/-- `to_nx(bdd, roots)`: succeeds (fuel suffices); exports exactly the nodes reachable from
the roots, each labelled with its level; evaluating the exported multigraph from any root
(or any exported node) gives the function of that reference -/
theorem C18_toNx_eval (t : Tbl) (hw : WF t) (roots : List Int) (hm : ∀ r ∈ roots, t.Mem r) :
    ∃ g, toNx t roots = .ok g ∧
      (∀ u, HasKey g.1 u ↔ ∃ r ∈ roots, Reach t r.natAbs u) ∧
      (∀ u l, (u, l) ∈ g.1 → l = t.levelOf (u : Int)) ∧
      (∀ r ∈ roots, ∀ a b, EvalRoot g a r b ↔ b = den t r a) ∧
      (∀ r : Int, t.Mem r → HasKey g.1 r.natAbs → ∀ a b, EvalRoot g a r b ↔ b = den t r a) := by
  obtain ⟨g, e, ok, s⟩ := toNx_ok hw roots hm
  obtain ⟨hl, hr⟩ := export_eval hw ok hm s
  exact ⟨g, e, s, hl, hr, fun r hmr hk => graph_eval_of_ok hw ok r hmr hk⟩

/-- `_to_dot(roots, bdd)` (node/edge content of the DOT text): with roots, exactly the
reachable nodes; with `roots=None`, all nodes of the manager; evaluating it gives `den` -/
theorem C18_toDot_eval (t : Tbl) (hw : WF t) :
    (∀ roots : List Int, roots ≠ [] → (∀ r ∈ roots, t.Mem r) →
      ∃ g, toDot t (some roots) = .ok g ∧
        (∀ u, HasKey g.1 u ↔ ∃ r ∈ roots, Reach t r.natAbs u) ∧
        (∀ u l, (u, l) ∈ g.1 → l = t.levelOf (u : Int)) ∧
        (∀ r ∈ roots, ∀ a b, EvalRoot g a r b ↔ b = den t r a)) ∧
    (∃ g, toDot t none = .ok g ∧
      (∀ u l, (u, l) ∈ g.1 → l = t.levelOf (u : Int)) ∧
      (∀ r : Int, t.Mem r → ∀ a b, EvalRoot g a r b ↔ b = den t r a)) := by
  constructor
  · intro roots hne hm
    obtain ⟨g, e, ok, s⟩ := toDot_some_ok hw roots hne hm
    exact ⟨g, e, s, export_eval hw ok hm s⟩
  · obtain ⟨g, e, ok, s⟩ := toDot_none_ok hw
    exact ⟨g, e, fun u l h => (ok.nodes u l h).2,
      fun r hr a b => graph_eval_of_ok hw ok r hr (s r hr) a b⟩

/-- `_to_dot(roots, bdd)`, the exact node/edge content of the DOT graph (the model has the
GRAPH, not the DOT text: layout attributes, the phantom rank nodes `L<i>` and the `ref<u>` marks of
the roots are only in the driver's answer line and in the differential check).
Vertices: exactly one per descendant of the roots (`ns` is strictly ascending, its members are
the reachable nodes), each with the level of the rank it is drawn in (`nvars` for the terminal).
Edges: for every non-terminal vertex `x` with `succ(x) = (i, v, w)` exactly two, in this order:
the low edge `(x, |v|, value=False, complemented = (v < 0))` — the code's `style='dashed'`, with
`taillabel='-1'` exactly when `v < 0` — and the high edge `(x, |w|, True, False)`
(`style='solid'`, never complemented); the terminal has no outgoing edge. -/
theorem C18_toDot_shape (t : Tbl) (hw : WF t) :
    (∀ roots : List Int, roots ≠ [] → (∀ r ∈ roots, t.Mem r) →
      ∃ ns, descendants t roots = .ok ns ∧ ns.Pairwise (· < ·) ∧
        (∀ v, v ∈ ns ↔ ∃ r ∈ roots, Reach t r.natAbs v) ∧
        toDot t (some roots) =
          .ok (ns.map (fun x => (x, t.levelOf (x : Int))), ns.flatMap (edgesOf t))) ∧
    toDot t none =
      .ok ((1 :: t.succ.keys).map (fun x => (x, t.levelOf (x : Int))),
           (1 :: t.succ.keys).flatMap (edgesOf t)) ∧
    edgesOf t 1 = [] ∧ t.levelOf (1 : Int) = t.nvars ∧
    (∀ x n, t.succ[x]? = some n →
      edgesOf t x = [(x, n.lo.natAbs, false, decide (n.lo < 0)), (x, n.hi.natAbs, true, false)] ∧
      t.levelOf (x : Int) = n.lvl) :=
  ⟨fun roots hne hm => toDot_some_shape hw roots hne hm, toDot_none_shape hw,
   edgesOf_terminal t hw, levelOf_term t 1 rfl,
   fun x n hn => ⟨edgesOf_node t x n hn, levelOf_nat_node hw hn⟩⟩

/-! ### non-vacuity on the table of `x ∧ y` -/

example : WF exTbl ∧ exTbl.Mem 3 ∧ exTbl.Mem (-3) := ⟨exTbl_wfu.toWF, exTbl_mem3, exTbl_mem_neg3⟩
example := C18_expand_spec exTbl exTbl_wfu.toWF (-3) ⟨0, -1, 2⟩ (by decide) (by decide)
example := C18_expand_terminal exTbl (-1) (by decide)
example := C18_descendants_spec exTbl exTbl_wfu.toWF [-3, 2] (by decide)
example : descendants exTbl [-3] = .ok [1, 2, 3] := by rfl
example : ({} : Mgr).len = 1 := by decide
example := (C18_len_spec exM).2 exM_inv.wf.toWF
example : exM.len = 4 := by decide
/-- after the collection of the example manager of C06 (user holds node 4 = `a ∧ b`; node 2 is
garbage) three nodes are left: 1, 3, 4 -/
example := C18_len_after_gc exM exExt exM_inv exM_refExact
example : (collectGarbage none exM).2.len = 3 := by decide +kernel
/-- a handle on node 3 (`x ∧ y`) of the example table: `len` is 3 (nodes 1, 2, 3) -/
example := C18_fLen_spec { m := { tbl := exTbl }, handles := ({} : Std.TreeMap Nat Int).insert 0 3 }
  exTbl_wfu.toWF 0 3 (by decide) exTbl_mem3
example : (fLen 0 { m := { tbl := exTbl }, handles := ({} : Std.TreeMap Nat Int).insert 0 3 }).1.toOption
    = some 3 := by decide
example := C18_fLevel_fVar_spec { m := { tbl := exTbl }, handles := ({} : Std.TreeMap Nat Int).insert 0 (-3) }
  exTbl_wfu.toWF exTbl_varsOK 0 (-3) (by decide) exTbl_mem_neg3
example : (fVar 0 { m := { tbl := exTbl }, handles := ({} : Std.TreeMap Nat Int).insert 0 (-3) }).1.toOption
    = some (some "x") := by decide
example := (C18_toDot_shape exTbl exTbl_wfu.toWF).1 [-3] (by simp) (by decide)
/-- the DOT graph of `¬(x ∧ y)`: three vertices, the low edges of both nodes complemented -/
example : toDot exTbl (some [-3]) = .ok ([(1, 2), (2, 1), (3, 0)],
    [(2, 1, false, true), (2, 1, true, false), (3, 1, false, true), (3, 2, true, false)]) := by rfl
example := C18_toNx_eval exTbl exTbl_wfu.toWF [3, -3] (by decide)
example : toNx exTbl [2] = .ok ([(2, 1), (1, 2)], [(2, 1, false, true), (2, 1, true, false)]) := by rfl
example := (C18_toDot_eval exTbl exTbl_wfu.toWF).1 [-3] (by simp) (by decide)
example := (C18_toDot_eval exTbl exTbl_wfu.toWF).2
/-- a faithful export exists for the example (hypotheses of `C18_graph_eval`,
`C18_graph_eval_exec`, `C18_edges_functional`) -/
example : ∃ g, GraphOK exTbl g ∧ HasKey g.1 (3 : Int).natAbs := by
  obtain ⟨g, _, ok, s⟩ := toNx_ok exTbl_wfu.toWF [3] (by decide)
  exact ⟨g, ok, (s _).mpr ⟨3, by simp, Reach.refl _⟩⟩

end DD
