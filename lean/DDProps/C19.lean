/-
  DDProps.C19 — C back ends: same operator meanings and a reference held for every handle.

  PARTIAL BY NATURE.  The Cython extensions cannot be built here (no CUDD, Sylvan, BuDDy).
  Every obligation below is a `decide` over tables that `harness/extract.py` regenerates from
  the TEXT of `dd/cudd.pyx`, `dd/cudd_zdd.pyx`, `dd/sylvan.pyx`, `dd/buddy.pyx` on every
  run (`Generated/CTables.lean`), so it is re-proved on whatever the current source says; the
  theorems that are not (`cApply_sound_forall`, `cQuant_roles_partial`, `cVocab_full`,
  `refTraces_exceptionSafe`, the second half of `cQuant_meaning_cube`) read such a decided table
  as a `∀`, through what the checker says of ONE row or path (`cRowSound_eval`, `cRowSound_quant`,
  `exitLeak_spec`), or are about the Boolean functions of DDProofs/CQuantCube.lean and hold for all
  inputs (`quantL_quantVars`).
  What the theorems are relative to (the trusted base of C19):

  * the reader `harness/cpyx.py` (line-structured splitting, `cdef`/cast rewriting, Python's
    `ast` on each function body; symbolic execution of `apply` once per spelling; explicit
    control-flow paths, plus one exit per call that may raise a Python exception — classified from
    the callee's name: not a C function declared `extern` / in the `.pxd` / cimported from libc,
    not a `cdef` function of the module without `raise`/`assert` that calls only such functions —
    per subscript of a Python object and per type test of a local declared `g: Function`, each taken
    through the enclosing `finally` blocks and the `except` handlers that may match
    (`refTraces_exceptionSafe`); `op`-correlations between successive `if` chains are not modelled;
    loops are unrolled 0, 1, 2 times with every iteration checked to be reference-neutral; references
    kept in C arrays / dicts / hash tables are followed through a ghost count per container, where
    the loops "dereference every element once" (also: "every element that is not NULL"), "set every
    slot to NULL" are recognised by their shape, and of the slots of an array only this is known:
    a loop that stores into it ran to its end, or every slot was set to NULL before);
  * the hand-written meaning of the C functions in `DD/CWrap.lean` (`cConst`, `cUn`, `cBin`,
    `cTer`, `cQuantSig`, `producerKind`, `isRefFn`, `isDerefFn`);
  * error guards in `apply` (`self.manager != u.manager`, `r is NULL`, …; listed in
    `CApplyTable.guards`) are assumed not to fire;
  * nothing is executed: no statement is made about the compiled extension modules.

  The functions with node events that the reader could not follow are listed in
  `Gen.cUncovered` (at present: the `_test_*` helpers only); no theorem speaks about them.
  The reader REFUSES a function (it becomes not followed, `uncovered_only_tests` fails) rather
  than guess: a node or a handle passed to a local name (an alias), to a computed callee or
  (raw node, or a handle made in the function) to something neither declared nor defined in the
  module; `incref`/`decref` on a value it cannot identify; an update or a test of `_ref` of another
  shape than `h._ref += k`, `h._ref = k`, `h._ref <rel> k`; node events inside a conditional
  expression or under `and`/`or` (as a statement these are followed both ways); a loop that stores
  into a constant slot of a C array.  Code outside the functions must not mention a reference-count
  function at all (`noModuleLevelRefCode`).  `allFunctionsSeen` ties the number of definition keywords of
  each file to the functions the reader found.
-/
import DD.Doc
import DD.CWrap
import Generated.Tables
import Generated.CTables
import DD.CWrapReviewed
import DDProofs.CQuantCube
namespace DD

def cBools : List Bool := [false, true]

theorem cBools_all_iff (p : Bool → Bool) : cBools.all p = true ↔ ∀ b, p b = true := by
  simp only [cBools, List.all_cons, List.all_nil, Bool.and_true, Bool.and_eq_true]
  exact (Bool.forall_bool (p := fun b => p b = true)).symm

/-- rows on which `apply` does not raise (an unrecognised row counts as accepted, so that
every obligation fails on it) -/
def CRow.accepted (r : CRow) : Bool :=
  match r.outcome with
  | .raises _ => false
  | _ => true

def isQuant : Conn → Bool
  | .forall_ | .exists_ => true
  | _ => false

/-- one accepted row computes the documented connective of its spelling:
propositional connectives on all 8 operand valuations and mentioning only the operands the
arity provides; a quantifier spelling must be a recognised quantifier call of the right
kind (its operand roles are the subject of `cQuant_roles`) -/
def cRowSound (r : CRow) : Bool :=
  match r.outcome with
  | .raises _ => true
  | .unknown _ => false
  | .ret e =>
    match docConn r.alias with
    | none => false
    | some c =>
      if isQuant c then
        (match cRoles e with
         | some q => q.forall_ == (c == .forall_)
         | none => false)
      else
        (c.arity ≥ 2 || !e.uses .v) && (c.arity ≥ 3 || !e.uses .w) &&
        cBools.all fun u => cBools.all fun v => cBools.all fun w =>
          evalC e u v w == some (c.eval u v w)

def cTableSound (t : CApplyTable) : Bool := t.rows.all cRowSound

theorem cRowSound_eval {r : CRow} {e : CExpr} {c : Conn} (h : cRowSound r = true)
    (he : r.outcome = .ret e) (hc : docConn r.alias = some c) (hq : isQuant c = false)
    (u v w : Bool) : evalC e u v w = some (c.eval u v w) := by
  simp only [cRowSound, he, hc, hq, Bool.false_eq_true, ↓reduceIte, Bool.and_eq_true,
    cBools_all_iff, beq_iff_eq] at h
  exact h.2 u v w

/-- **C19 (operator meanings).**  For each of the four back ends and every spelling that its
`apply` accepts, the C expression in that branch of the *source text* evaluates, under the
assumed meaning of the C functions (`DD/CWrap.lean`), to the documented connective of the
spelling (`DD/Doc.lean`, the same reference `Gen.applyTable` of `dd.bdd` is proved against)
for all 8 operand valuations; for a quantifier spelling, which has no value on Booleans, the branch
is a recognised quantifier call of the documented kind (its operand roles: `cQuant_roles`).
Source level only; see the header for what is trusted. -/
theorem cApply_sound : Gen.cApply.all cTableSound = true := by decide +kernel

/-- `cApply_sound` spelled out for the propositional connectives: for every back end `t`, every
row `r` of its `apply` table whose branch returns the C expression `e`, and every operand
valuation, `evalC e` is the documented connective of the spelling. -/
theorem cApply_sound_forall :
    ∀ t ∈ Gen.cApply, ∀ r ∈ t.rows, ∀ e c, r.outcome = .ret e → docConn r.alias = some c →
      isQuant c = false → ∀ u v w : Bool, evalC e u v w = some (c.eval u v w) :=
  fun t ht r hr _ _ he hc hq =>
    cRowSound_eval (List.all_eq_true.mp (List.all_eq_true.mp cApply_sound t ht) r hr) he hc hq

/-- the operator methods of the handles (`~u`, `u & v`, `u | v`, `u.implies(v)`, `u.equiv(v)`)
and `ite` of the managers, where a back end defines them, compute the connective of the
corresponding `apply` spelling (same evaluator, same trusted tables) -/
theorem cOperators_sound : (Gen.cOperators.all fun x => x.2.2.accepted && cRowSound x.2.2) = true := by
  decide +kernel

/-- all four back ends are present and each table lists the whole `dd._abc` vocabulary -/
theorem cApply_complete :
    Gen.cApply.map (·.backend) = [.cudd, .cuddZdd, .sylvan, .buddy] ∧
    (Gen.cApply.all fun t => Gen.allOps.all fun o => t.rows.any fun r => r.alias == o) = true := by
  decide +kernel

def atomOperand : Atom → Option COperand
  | .u => some .u | .v => some .v | .w => some .w
  | _ => none

/-- roles in `dd.bdd.BDD.apply`, read off the regenerated `Gen.applyTable`:
`(universal?, operand that supplies the variables, operand that is quantified)` -/
def refRoles (al : String) : Option (Bool × COperand × COperand) :=
  match Gen.applyTable.find? (fun r => r.aliases.contains al) with
  | some ⟨_, .quant fa a b⟩ =>
    match atomOperand a, atomOperand b with
    | some x, some y => some (fa, x, y)
    | _, _ => none
  | _ => none

/-- the reference: in `dd.bdd`, `apply('\A' | '\E', u, v)` quantifies the SECOND operand over
the support of the FIRST -/
theorem refRoles_eq :
    refRoles "\\A" = some (true, .u, .v) ∧ refRoles "forall" = some (true, .u, .v) ∧
    refRoles "\\E" = some (false, .u, .v) ∧ refRoles "exists" = some (false, .u, .v) := by decide +kernel

def cRowRoles (r : CRow) : Option (Bool × COperand × COperand) :=
  match r.outcome with
  | .ret e => (cRoles e).map fun q => (q.forall_, q.varsFrom, q.body)
  | _ => none

def isQuantAlias (al : String) : Bool :=
  match docConn al with
  | some c => isQuant c
  | none => false

theorem cRowSound_quant {r : CRow} (h : cRowSound r = true) (hacc : r.accepted = true)
    (hq : isQuantAlias r.alias = true) : ∃ e q, r.outcome = .ret e ∧ cRoles e = some q := by
  unfold cRowSound at h
  unfold CRow.accepted at hacc
  unfold isQuantAlias at hq
  cases ho : r.outcome with
  | raises _ => rw [ho] at hacc; cases hacc
  | unknown _ => rw [ho] at h; cases h
  | ret e =>
    cases hc : docConn r.alias with
    | none => rw [hc] at hq; cases hq
    | some c =>
      rw [hc] at hq
      simp only [ho, hc, hq, ↓reduceIte] at h
      cases hrl : cRoles e with
      | none => rw [hrl] at h; cases h
      | some q => exact ⟨e, q, rfl, hrl⟩

def cQuantOk (t : CApplyTable) : Bool :=
  t.rows.all fun r => !(r.accepted && isQuantAlias r.alias) || cRowRoles r == refRoles r.alias

/-- the full statement: every back end that accepts a quantifier spelling gives its operands
the roles they have in `dd.bdd` (first operand: variables, second operand: quantified) -/
def cQuant_roles_statement : Prop := Gen.cApply.all cQuantOk = true

def tableOf (b : Backend) : Option CApplyTable := Gen.cApply.find? (·.backend == b)

def rowOf (b : Backend) (al : String) : Option CRow :=
  (tableOf b).bind fun t => t.rows.find? (·.alias == al)

/-- the Sylvan entry (finding F6): `sylvan.pyx` `apply('\\A', u, v)` is
`sylvan_forall(v.node, u.node)`, and Sylvan's signature is `sylvan_forall(a, qvars)`: the SECOND
operand is quantified over the variables of the FIRST, as in `dd.bdd`, `cudd.pyx` and
`cudd_zdd.pyx`.  Same for `'\\E'`, `'forall'`, `'exists'`.  (Finding F6: with
`sylvan_forall(u.node, v.node)` the generated rows are `(·, .v, .u)`.) -/
theorem cQuant_roles_sylvan :
    (rowOf .sylvan "\\A").bind cRowRoles = some (true, .u, .v) ∧
    (rowOf .sylvan "forall").bind cRowRoles = some (true, .u, .v) ∧
    (rowOf .sylvan "\\E").bind cRowRoles = some (false, .u, .v) ∧
    (rowOf .sylvan "exists").bind cRowRoles = some (false, .u, .v) := by decide +kernel

/-- **C19 (operand roles)**: the full statement holds on the current source, for every back end -/
theorem cQuant_roles : cQuant_roles_statement := by
  unfold cQuant_roles_statement; decide +kernel

/-- the same without the Sylvan entry -/
theorem cQuant_roles_partial :
    (Gen.cApply.all fun t => t.backend == .sylvan || cQuantOk t) = true :=
  List.all_eq_true.mpr fun t ht => by rw [List.all_eq_true.mp cQuant_roles t ht, Bool.or_true]

/-- how the variable-supplying operand is used (data, not an obligation): `cudd.pyx` passes
`u.node` itself as the cube (CUDD returns NULL unless it is a positive cube), `cudd_zdd.pyx`
takes `self.support(u)` like `dd.bdd` -/
def cQuantMode (b : Backend) (al : String) : Option VarsMode :=
  match rowOf b al with
  | some ⟨_, .ret e, _⟩ => (cRoles e).map (·.mode)
  | _ => none

theorem cQuant_modes :
    cQuantMode .cudd "\\A" = some .cubeArg ∧ cQuantMode .cuddZdd "\\A" = some .supportOf ∧
    cQuantMode .sylvan "\\A" = some .cubeArg ∧ cQuantMode .buddy "\\A" = none := by decide +kernel

/-- the variables that an accepted quantifier branch abstracts, when the first operand `u` is the
positive cube of the list `S` and `L` lists the support of `u`.  ASSUMED meaning of the C calls in
`cubeArg` mode (CUDD `Cudd_bddExistAbstract(f, cube)` / `Cudd_bddUnivAbstract`, Sylvan
`sylvan_exists(a, variables)` / `sylvan_forall`): the variables that occur in the cube. -/
def quantVars (mode : VarsMode) (S L : List Nat) : List Nat :=
  match mode with
  | .cubeArg => S
  | .supportOf => L

/-- when `u` is the positive cube of `S` and `L` lists its support, both modes abstract the
variables of `L` -/
theorem quantL_quantVars (mode : VarsMode) (fa : Bool) (S L : List Nat) (v : CQuant.BFun)
    (hL : ∀ x, x ∈ L ↔ CQuant.DependsOn (CQuant.cubeOf S) x) :
    CQuant.quantL fa (quantVars mode S L) v = CQuant.quantL fa L v := by
  cases mode
  · exact CQuant.quant_cube_eq_support fa S L v hL
  · rfl

/-- **C19 (meaning of the quantifier spellings, gap between the back ends made precise).**
`cQuant_roles` says that every back end quantifies the SECOND operand over variables taken from
the FIRST; `cQuant_modes` says HOW they are taken: `dd.cudd` and `dd.sylvan` pass `u.node` as the
cube argument of the library, `dd.cudd_zdd` (like `dd.bdd`) computes `support(u)`.  This theorem:

1. on the regenerated tables, every accepted quantifier row of every back end is a recognised
   quantifier call with roles (variables from `u`, `v` quantified) in one of the two modes;
2. WHEN `u` IS A POSITIVE CUBE (`u = cubeOf S`), both modes abstract the same variables from any
   `v`, namely the support of `u` — the back ends agree with `dd.bdd`, whatever list `L` of the
   support is used (order, repetitions).

OBSERVATION (not a theorem about the libraries, which cannot be run here): for an operand `u`
that is NOT a positive cube (`or_not_cube`: `x ∨ y`) `dd.bdd` and `dd.cudd_zdd` still quantify over
`support(u)`, whereas CUDD's `Cudd_bddExistAbstract` is documented to return `NULL` when its
second argument is not a cube (`dd.cudd` then raises) and Sylvan's behaviour on a non-cube
variable set is not specified.  User code that is meant to keep its meaning when the import is
switched must therefore pass a conjunction of positive variables as the first operand. -/
theorem cQuant_meaning_cube :
    (Gen.cApply.all fun t => t.rows.all fun r =>
      !(r.accepted && isQuantAlias r.alias) ||
      match r.outcome with
      | .ret e => (cRoles e).any fun q => q.varsFrom == .u && q.body == .v &&
                    some q.forall_ == (docConn r.alias).map (· == .forall_)
      | _ => false) = true ∧
    ∀ (mode : VarsMode) (fa : Bool) (S L : List Nat) (v : CQuant.BFun),
      (∀ x, x ∈ L ↔ CQuant.DependsOn (CQuant.cubeOf S) x) →
      CQuant.quantL fa (quantVars mode S L) v = CQuant.quantL fa L v :=
  ⟨by decide +kernel, quantL_quantVars⟩

/-- non-vacuity: `u = x₀ ∧ x₂`, its support listed as `[2, 0, 2]`; `∃` of `v = x₀ ⊕ x₁` is `true`,
`∀` is `false`, in both modes -/
example : (∀ x, x ∈ [2, 0, 2] ↔ CQuant.DependsOn (CQuant.cubeOf [0, 2]) x) := by
  intro x
  rw [CQuant.dependsOn_cubeOf]
  simp only [List.mem_cons, List.not_mem_nil, or_false]
  omega
example : CQuant.quantL false (quantVars .cubeArg [0, 2] [2, 0, 2]) (fun a => a 0 != a 1) (fun _ => false) = true ∧
    CQuant.quantL true (quantVars .supportOf [0, 2] [2, 0, 2]) (fun a => a 0 != a 1) (fun _ => false) = false := by
  decide +kernel

/-- the reader's own table of quantifier signatures (`cpyx.QUANT_SIG`, used by the Python
oracle) and the one of `DD/CWrap.lean` give the same roles on every accepted quantifier row -/
def cRolesConsistent : Bool :=
  (Gen.cApply.all fun t => t.rows.all fun r =>
    !(r.accepted && isQuantAlias r.alias) ||
    (Gen.cQuantRolesPy.filter fun x => x.1 == t.backend && x.2.1 == r.alias).map (·.2.2)
      == (cRowRoles r).toList) &&
  (Gen.cQuantRolesPy.all fun x => (rowOf x.1 x.2.1).any fun r => r.accepted && isQuantAlias r.alias)

def acceptedOps (t : CApplyTable) : List String :=
  (t.rows.filter CRow.accepted).map (·.alias)

def sameSet (a b : List String) : Bool :=
  a.all (b.contains ·) && b.all (a.contains ·)

/-- spellings of the `dd._abc` vocabulary that a back end rejects (data) -/
def cMissing (t : CApplyTable) : List String :=
  Gen.allOps.filter fun o => !(acceptedOps t).contains o

def cVocabOk (t : CApplyTable) : Bool :=
  -- accepts exactly what it declares
  sameSet (acceptedOps t) t.declared &&
  -- nothing outside the package vocabulary, each with its documented arity class
  (acceptedOps t).all (fun o =>
    Gen.allOps.contains o &&
    match docConn o with
    | none => false
    | some c =>
      (c.arity == 1) == Gen.unaryOps.contains o &&
      (c.arity == 2) == Gen.binaryOps.contains o &&
      (c.arity == 3) == Gen.ternaryOps.contains o) &&
  -- a back end that starts with `assert_operator_arity(op, v, w, 'bdd')` declares, hence
  -- accepts, the whole vocabulary
  (!t.declaredViaAbc || sameSet t.declared Gen.allOps) &&
  -- no spelling is listed twice
  (t.rows.all fun r => (t.rows.filter fun s => s.alias == r.alias).length == 1)

/-- **C19 (vocabulary).**  Each back end's `apply` accepts exactly the vocabulary it declares
(the `dd._abc` vocabulary through `_utils.assert_operator_arity` for CUDD, CUDD-ZDD and
Sylvan; the module's own `Literal[...]` for BuDDy), all of it inside `dd._abc`'s vocabulary.
A smaller vocabulary (BuDDy) is data (`cMissing`), not a failure. -/
theorem cVocab : Gen.cApply.all cVocabOk = true := by decide +kernel

/-- the Python-side views emitted next to the tables (`Gen.cAcceptedPy`, `Gen.cQuantRolesPy`)
agree with what is derived here from the expression trees -/
theorem cTables_consistent :
    cRolesConsistent = true ∧
    (Gen.cApply.all fun t =>
      (Gen.cAcceptedPy.find? (·.1 == t.backend)).map (·.2) == some (acceptedOps t)) = true := by
  decide +kernel

/-- the three full back ends reject nothing of the vocabulary -/
theorem cVocab_full :
    (Gen.cApply.all fun t => !t.declaredViaAbc || (cMissing t).isEmpty) = true := by
  refine List.all_eq_true.mpr fun t ht => ?_
  have h := List.all_eq_true.mp cVocab t ht
  simp only [cVocabOk, sameSet, Bool.and_eq_true, Bool.or_eq_true, Bool.not_eq_true',
    List.all_eq_true] at h
  obtain ⟨⟨⟨⟨_, hacc⟩, _⟩, habc⟩, _⟩ := h
  cases hv : t.declaredViaAbc
  · rfl
  · rcases habc with h | ⟨_, hdecl⟩
    · rw [hv] at h; cases h
    -- the whole vocabulary is declared, and what is declared is accepted
    · simp only [cMissing, Bool.not_true, Bool.false_or, List.isEmpty_iff, List.filter_eq_nil_iff,
        Bool.not_eq_true', Bool.not_eq_false]
      exact fun o ho => hacc o (List.contains_iff_mem.mp (hdecl o ho))

/-- the `cdef DdRef` functions defined in a back end's own `.pyx` -/
def localsOf (b : Backend) : List String :=
  ((Gen.cLocalProducers.find? (·.1 == b)).map (·.2)).getD []

/-- what stands for the summary of an exit on which a `finally` / `except` block is refused -/
def refusedMark : List (String × Int) := [("<refused>", 0)]

/-- the exits on which an ordinary function still owns something, by the rules of `DD/CWrap.lean`:
`(back end, function, site, what is still owned)`, first occurrences, in table order -/
def exitLeaksLean : List (Backend × String × String × List (String × Int)) :=
  ((Gen.cRefTraces.filter (·.role == .plain)).flatMap fun m =>
    (m.paths.filter CPath.exceptional).filterMap fun p =>
      (exitLeak refusedMark (localsOf m.backend) m p).map fun h => (m.backend, m.name, p.exitSite, h)).eraseDups

/-- The obligations of this section that run the paths, in one statement (the kernel evaluates a
closed term once per declaration, and these runs share most of their work).  Each conjunct is stated
again below, where it is explained. -/
theorem refTraces_checked :
    (Gen.cRefTraces.all fun m =>
      methodOkF (Gen.cRefFieldBackends.contains m.backend) (localsOf m.backend) m) = true ∧
    (Gen.cRefTraces.all fun m => m.role != .plain || m.paths.all fun p =>
      p.exceptional || pathNoFloat (localsOf m.backend) m p) = true ∧
    exitLeaksLean = Gen.cExitLeaksPy ∧
    (Gen.cRefTraces.all fun m => m.role != .plain || m.paths.all fun p =>
      pathArraysFreed (localsOf m.backend) m p ||
      knownArrayLeaks.any fun k => k.1 == m.backend && k.2.1 == m.name && endsInRaiseOf k.2.2 p.events) = true ∧
    (Gen.cRefTraces.all derefKindsOk) = true ∧
    (Gen.cRefTraces.all fun m => m.role != .plain || m.paths.all fun p =>
      !pathPlainDrop (localsOf m.backend) m p ||
      reviewedPlainDrops.any fun k => k.1 == m.backend && k.2.1 == m.name &&
        (k.2.2 == "" || k.2.2 == endLabel p.events)) = true ∧
    (Gen.cRefTraces.all fun m => reviewedDeadAssertions.contains (m.backend, m.name) ||
      m.paths.all fun p => !pathInfeasible (localsOf m.backend) m p) = true := by
  decide +kernel

/-- **C19 (references).**  On every explicit path of every covered function
(`Gen.cRefTraces`; NOT the functions in `Gen.cUncovered`):

* an ordinary function ends every path (return or `raise`) holding no reference of its own:
  each `Cudd_Ref` / `cuddRef` / `sylvan_ref` / `bdd_addref` it performs on a node is matched
  by one dereference on that path, a node that arrives with a reference
  (`Dddmp_cuddBddLoad`) is dereferenced once, a dereference never happens without a
  reference or a handle to back it, no node is wrapped twice, and a raw node never escapes
  to Python without a handle (only `cdef DdRef` functions return raw nodes);
* `wrap(bdd, node)` hands the node to `Function.init` exactly once; `Function.init` /
  `Function.__cinit__` takes exactly one reference on it on every path that does not raise;
* `Function.__dealloc__` gives back exactly one reference on every path that does not
  raise, except the path guarded by `self._ref == 0` (CUDD wrappers: the user already gave
  it back through `decref`);
* `incref` / `decref` / `_incref` / `_decref` move exactly one reference; a call of one of them
  from an ordinary method on a handle it made (`self.incref(f)`) counts as a reference taken /
  given back on the handle's node;
* in the CUDD wrappers, whose handles carry the counter `_ref` (`refField_backends`): on every
  path of `Function.init`, `Function.__dealloc__`, `incref`, `decref` the change of `_ref`
  equals the references taken minus those given back (`fieldPathOk`; INVARIANT `_ref` = library
  references the handle owns; exception written into the definition: `decref(u, _direct=True)`),
  `_ref` is decremented only where the path conditions make it positive, `__dealloc__` gives
  nothing back only where they make it 0, `init` leaves it at exactly the one reference taken;
  no other function assigns to `_ref`;
* references parked in a container (`vector` of `_c_compose`, the memo `table` of
  `_compose_root` / `_compose`, `x` of `_multi_compose`, CUDD's hash table in
  `cuddHashTableQuitZdd`): a reference moves into the container when a node the function holds
  is stored; the loop that dereferences every element gives all of them back, once, over the
  allocated size, and is refused on a container that merely borrows; at the end of every path a
  container created by the function holds nothing, and a container of the caller is either left
  alone (what was stored is handed on with it) or consumed (released and freed).

A path on which the wrapper tests `x.ref <= 0` while it holds a reference on `x` (the
`cuddRef(x); if x.ref <= 0: raise AssertionError(…)` idiom of `_compose`, `_compose_root`,
`_c_compose`) cannot be taken and is skipped from that test on (`refNonPos`; listed by
`deadAssertions_where`: these assertions would leak what the function holds if they fired).
That every C array is also freed is a separate statement (`refTraces_arraysFreed`).

* loops: every iteration of an unrolled loop (`iterBegin … iterEnd`) ends with each node held exactly
  as often as when it began (references moved into a container aside): iterations are
  reference-neutral, so 0, 1, 2 iterations stand for any number;
* arrays: every slot is dereferenced (`derefAll`), or the array is handed to a call (`passC`), only
  after a loop that stores into it ran to its end (`fillBegin … fillEnd`); the guarded loop
  `if c[i] is not NULL: deref` (`derefNonNull`) also after `c[i] = NULL` for every slot (`nullInit`).

THIS theorem speaks about the paths that end in `return` / an explicit `raise` (and, for the
functions with a role, about all paths: an exit through an exception from a callee counts as a
raising path).  The exits of ordinary functions through exceptions raised INSIDE callees are the
subject of `refTraces_exceptionSafe`.
Relative to the reader and to `producerKind` / `isRefFn` / `isDerefFn` in `DD/CWrap.lean`.
Not modelled (hence not claimed): `MemoryError` other than through a call, exceptions from
iteration / attribute access / comparison of Python objects, "every iteration of a fill stores
once, into a different slot", and the interplay "`init` raised, `__dealloc__` still runs" (CUDD
wrappers are guarded by `_ref == 0`; `sylvan.pyx` dereferences the zero-initialised node attribute).
(Evaluated by the kernel in `refTraces_checked` — about 980 paths.) -/
theorem refTraces_balanced :
    (Gen.cRefTraces.all fun m =>
      methodOkF (Gen.cRefFieldBackends.contains m.backend) (localsOf m.backend) m) = true :=
  refTraces_checked.1

/-- the handles of the two CUDD wrappers carry the counter `_ref` (`cdef public int _ref` in the
class `Function`); Sylvan's and BuDDy's do not.  For the former, `refTraces_balanced` includes
`fieldPathOk`: on every path of `Function.init`, `Function.__dealloc__`, `incref`, `decref` the
change of `_ref` equals the library references taken minus those given back (INVARIANT: `_ref` =
library references the handle owns); the counter is decremented only where the path conditions
make it positive; `__dealloc__` keeps everything only where they make it 0.  The one exception is
spelled out in `fieldPathOk`: `decref(u, _direct=True)`. -/
theorem refField_backends : Gen.cRefFieldBackends = [.cudd, .cuddZdd] := by decide +kernel

/-- every definition keyword of the four files is accounted for: the number of logical lines
that begin a definition (`def`, `cpdef`, `async def`, `cdef … (` — counted from the keyword alone)
equals the number of functions the reader found plus the definitions nested in their bodies, and
every function found is followed (`Gen.cRefTraces`), listed as not followed (`Gen.cUncovered`), or
has no node event at all -/
theorem allFunctionsSeen :
    Gen.cFunctionCount.map (·.1) = [.cudd, .cuddZdd, .sylvan, .buddy] ∧
    (Gen.cFunctionCount.all fun x =>
      match x with
      | (b, tokens, found, nested, traced, uncovered, noEvents) =>
        tokens == found + nested && found == traced + uncovered + noEvents &&
        traced == (Gen.cRefTraces.filter (·.backend == b)).length &&
        uncovered == (Gen.cUncovered.filter (·.backend == b)).length) = true := by
  decide +kernel

/-- additional check, on the paths of ordinary functions that end in `return` / an explicit `raise`
(an exit through an exception from a callee is not run under this rule: what an `except` handler
does with a node after such an exit is not covered): an unprotected fresh node (no reference, no
handle, not in a container that owns a reference) is never used after a later node-creating C call
on the same path (such a call may garbage-collect), nor after a recursive dereference — of a node,
or of every element of a container — that may have freed it; a container is not handed on after
its references were given back, nor with a borrowed element that was left unprotected -/
theorem refTraces_noFloatingUse :
    (Gen.cRefTraces.all fun m => m.role != .plain || m.paths.all fun p =>
      p.exceptional || pathNoFloat (localsOf m.backend) m p) = true :=
  refTraces_checked.2.1

/-- the exit is one of the reviewed ones: same function, same site, and the function still owns
exactly what the review recorded -/
def exitLeakKnown (m : CMethod) (p : CPath) : Bool :=
  knownExceptionLeaks.any fun k => k.backend == m.backend && k.fn == m.name && k.site == p.exitSite &&
    some k.held == exitSummary (localsOf m.backend) m p

theorem exitLeak_spec (refused : List (String × Int)) (loc : List String) (m : CMethod) (p : CPath) :
    exitLeak refused loc m p =
      if pathBalanced loc m p then none else some ((exitSummary loc m p).getD refused) := by
  unfold exitLeak pathBalanced runPath runPathC exitSummary
  cases h : runPathS loc false m.returnsNode [] [] [] p.events with
  | fin s cs => simp only []; split <;> simp_all
  | stop v => simp only []; split <;> simp_all

/-- the two implementations of the rules — `DD/CWrap.lean` and its Python twin
`harness/checks_cwrap.py`, which searches for the concrete function and line when an obligation
fails — find the SAME exits that still own something, with the same summaries, on the regenerated
table (whatever the source says now, a seeded change included).  This is the conjunct of
`refTraces_checked` that runs every exceptional path; the theorems below work on the resulting list. -/
theorem exitLeaks_twins_agree : exitLeaksLean = Gen.cExitLeaksPy := refTraces_checked.2.2.1

def leakEntryKnown (x : Backend × String × String × List (String × Int)) : Bool :=
  x.2.2.2 != refusedMark &&
  knownExceptionLeaks.any fun k => k.backend == x.1 && k.fn == x.2.1 && k.site == x.2.2.1 && k.held == x.2.2.2

/-- every exit that still owns something is a reviewed one -/
theorem exitLeaks_all_known : exitLeaksLean.all leakEntryKnown = true := by
  rw [exitLeaks_twins_agree]; decide +kernel

/-- **C19 (references, exceptional exits).**  Every call in a followed function that may raise a
Python exception — anything but a C function (declared `extern` / in the `.pxd` / cimported from
libc or `cpython.mem`) and the module's own `cdef` functions that cannot raise (`Gen.cNoRaiseLocal`);
also a subscript of a Python object and the run-time type test of a local declared `g: Function` —
gives an exit `raiseIn callee#k line` through the enclosing `finally` blocks and the `except` handlers
that may match.  On every such exit of every ordinary function the references taken so far and not
yet given back, wrapped, or parked in a container that a `finally` releases are balanced, exactly as
on a `return` — EXCEPT on the exits listed in `knownExceptionLeaks` (DD/CWrapReviewed.lean), which
are identified by function, site and what is still owned there (`exitSummary`), so that a new call
between a `ref` and its `deref`, or a new reference held across an old call, is refused.
The functions with a role (`wrap`, `init`, `__dealloc__`, `incref`, `decref`) are covered by
`refTraces_balanced`: an exceptional exit counts as a raising path (takes nothing, gives nothing
back).  READ AGAINST THE STATEMENT OF C19 the listed exits are paths on which a temporary reference
is not released; all of them need a broken internal invariant or a `MemoryError`
(`exceptionLeaks_reachable`; finding F21 is the exit that a wrong argument reaches,
`cudd_zdd._c_compose` through `ZDD.let`, when the loop that fills `vector` stands outside the `try`). -/
theorem refTraces_exceptionSafe :
    ∀ m ∈ Gen.cRefTraces, m.role = .plain → ∀ p ∈ m.paths, p.exceptional = true →
      pathBalanced (localsOf m.backend) m p = true ∨ exitLeakKnown m p = true := by
  intro m hm hrole p hp hexc
  cases hb : pathBalanced (localsOf m.backend) m p with
  | true => exact Or.inl rfl
  | false =>
    right
    have hmem : (m.backend, m.name, p.exitSite,
        (exitSummary (localsOf m.backend) m p).getD refusedMark) ∈ exitLeaksLean := by
      unfold exitLeaksLean
      rw [List.mem_eraseDups, List.mem_flatMap]
      refine ⟨m, List.mem_filter.mpr ⟨hm, by simp [hrole]⟩, ?_⟩
      rw [List.mem_filterMap]
      refine ⟨p, List.mem_filter.mpr ⟨hp, hexc⟩, ?_⟩
      rw [exitLeak_spec, hb]
      rfl
    have hk := List.all_eq_true.mp exitLeaks_all_known _ hmem
    unfold leakEntryKnown at hk
    rw [Bool.and_eq_true] at hk
    obtain ⟨hne, hany⟩ := hk
    obtain ⟨k, hkmem, hkp⟩ := List.any_eq_true.mp hany
    unfold exitLeakKnown
    refine List.any_eq_true.mpr ⟨k, hkmem, ?_⟩
    simp only [Bool.and_eq_true, beq_iff_eq] at hkp ⊢
    obtain ⟨⟨⟨h1, h2⟩, h3⟩, h4⟩ := hkp
    refine ⟨⟨⟨h1, h2⟩, h3⟩, ?_⟩
    cases hs : exitSummary (localsOf m.backend) m p with
    | none =>
      rw [hs] at hne
      simp [Option.getD] at hne
    | some h =>
      rw [hs] at h4
      simp only [Option.getD_some] at h4
      rw [h4]

/-- every reviewed exit is still there (the observation is about the CURRENT source: when a leak is
repaired this fails until the entry is removed) -/
theorem exceptionLeaks_present :
    (knownExceptionLeaks.all fun k => exitLeaksLean.contains (k.backend, k.fn, k.site, k.held)) = true := by
  rw [exitLeaks_twins_agree]; decide +kernel

/-- no reviewed exit carries the label `userError` (reachable by a caller with a wrong argument): by
the labels, what is left needs a broken internal invariant or a `MemoryError`.  The label `reach` is
the reviewer's reading of the source, written by hand in `knownExceptionLeaks`
(DD/CWrapReviewed.lean); nothing regenerated enters this statement.  (Finding F21 is an exit that a
wrong argument reaches: `_c_compose` of cudd_zdd.pyx at the type test of `g = dvars[var]`.  The
source sets every slot of `vector` to NULL, fills it inside the `try`, and releases the slots that
are not NULL in the `finally`; with the fill loop outside the `try`, `refTraces_exceptionSafe` and
`refTraces_arraysFreed` fail for `_c_compose`.) -/
theorem exceptionLeaks_reachable :
    (knownExceptionLeaks.filter (·.reach == .userError)).map (fun k => (k.backend, k.fn, k.site)) = [] := by
  decide +kernel

/-- the exits are there: several hundred exceptional paths, and the functions whose discipline hinges
on a `try … finally` have exits INSIDE the `try` that run the `finally` (`free` after `raiseIn` is
impossible: the exit is the last event; so: a path with `free` that ends in `raiseIn`) -/
theorem exceptionalExits_covered :
    ((Gen.cRefTraces.map fun m => (m.paths.filter CPath.exceptional).length).sum ≥ 300) = true ∧
    (["_c_compose", "BDD._multi_compose", "BDD._swap"].all fun f => Gen.cRefTraces.any fun m =>
      m.name == f && m.paths.any fun p => p.exceptional &&
        p.events.any fun e => match e with | .free .. => true | _ => false) = true ∧
    -- `_c_compose` (cudd_zdd.pyx): an exit from INSIDE the loop that fills `vector` reaches the guarded
    -- release of the `finally` block
    (Gen.cRefTraces.any fun m => m.backend == .cuddZdd && m.name == "_c_compose" && m.paths.any fun p =>
      p.exceptional && (p.events.any fun e => match e with | .fillBegin _ => true | _ => false) &&
      !(p.events.any fun e => match e with | .fillEnd _ => true | _ => false) &&
      p.events.any fun e => match e with | .derefNonNull .. => true | _ => false) = true := by
  decide +kernel

/-- where a path relies on "a handle returned by `self.var(…)` keeps no node alive that the manager
does not keep alive anyway" (`permanentHandleCalls`, used by the `handleDrop` rule): in that back
end `BDD.var` is followed, wraps a node on some path, and wraps nothing but the result of a
`permanent` C call (`Cudd_bddIthVar`).  That EVERY returning path of `BDD.var` wraps — it returns
no handle made elsewhere — is true of the current traces and not part of the check. -/
def usesPermanentHandle (b : Backend) : Bool :=
  Gen.cRefTraces.any fun m => m.backend == b && m.paths.any fun p => p.events.any fun e =>
    match e with | .handleDrop _ via => permanentHandleCalls.contains via | _ => false

def wrapsOnlyPermanent (m : CMethod) : Bool :=
  (m.paths.any fun p => p.events.any fun e => match e with | .wrap _ => true | _ => false) &&
  m.paths.all fun p => p.events.all fun e =>
    match e with
    | .wrap x => p.events.any fun e' =>
        match e' with
        | .produce y fn _ => y == x && producerKind fn == some .permanent
        | _ => false
    | _ => true

theorem permanentHandles_ok :
    ([Backend.cudd, .cuddZdd, .sylvan, .buddy].all fun b => !usesPermanentHandle b ||
      Gen.cRefTraces.any fun m => m.backend == b && m.name == "BDD.var" && m.role == .plain &&
        wrapsOnlyPermanent m) = true ∧
    usesPermanentHandle .cudd = true := by decide +kernel

/-- every C array of node pointers that a path allocates is freed on that path, except on the
paths listed in `knownArrayLeaks` by function and exception (DD/CWrapReviewed.lean:
`BDD._multi_compose` raises `ValueError` out of the loop that fills the array; memory only, no
node reference is involved) -/
theorem refTraces_arraysFreed :
    (Gen.cRefTraces.all fun m => m.role != .plain || m.paths.all fun p =>
      pathArraysFreed (localsOf m.backend) m p ||
      knownArrayLeaks.any fun k => k.1 == m.backend && k.2.1 == m.name && endsInRaiseOf k.2.2 p.events) = true :=
  refTraces_checked.2.2.2.1

/-- **C19 (the right dereference).**  Every dereference in a followed function — of a node, of every
element of a container — uses a function of the method's back end (`allowedDerefs`: never
`Cudd_RecursiveDeref` on the nodes of `dd.cudd_zdd`, never `Cudd_RecursiveDerefZdd` in `dd.cudd`), and
`Function.__dealloc__` gives the reference of the handle back with the function that RECLAIMS the
node and releases its children (`disposalDerefs`: `Cudd_RecursiveDeref` / `Cudd_IterDerefBdd`,
`Cudd_RecursiveDerefZdd`, `sylvan_deref`, `bdd_delref`), not with `Cudd_Deref` / `cuddDeref`, which only
decrement.  (`decref(u, recursive=False)` of the CUDD wrappers offers the non-recursive function on
purpose; it is the caller's choice.) -/
theorem refTraces_derefKinds : (Gen.cRefTraces.all derefKindsOk) = true := refTraces_checked.2.2.2.2.1

/-- a node whose last reference is given back with CUDD's NON-recursive dereference is handed on
alive afterwards (returned, wrapped, stored) — it is never dropped, which would leave it and the
references it holds on its children unreclaimed — except in the functions of `reviewedPlainDrops` -/
theorem refTraces_noPlainDrop :
    (Gen.cRefTraces.all fun m => m.role != .plain || m.paths.all fun p =>
      !pathPlainDrop (localsOf m.backend) m p ||
      reviewedPlainDrops.any fun k => k.1 == m.backend && k.2.1 == m.name &&
        (k.2.2 == "" || k.2.2 == endLabel p.events)) = true :=
  refTraces_checked.2.2.2.2.2.1

/-- no code outside the functions (module level, class level; `extern` blocks aside) mentions a
reference-count function or method: `_bump = BDD.incref`, `_leak = lambda u: Cudd_Ref(u.node)` would be
reached through names the reader does not follow (a handle made in a function and passed to such a
name makes that function NOT followed) -/
theorem noModuleLevelRefCode : Gen.cModuleLevelRefs = [] := by decide +kernel

/-- the named assumption `directDecrefHandsOver` (`assumeDirectDecref`, DD/CWrap.lean): the callers of
`decref(u, _direct=True)` in the package are in `dd/_copy.py` only (regenerated by a search of
`dd/*.py`, `dd/*.pyx` for `_direct=True`) -/
theorem directDecref_users :
    (Gen.cDirectDecrefUsers.all fun x => x.1 == "dd/_copy.py") = true ∧ Gen.cDirectDecrefUsers ≠ [] := by decide +kernel

/-- … and it is the ONLY thing the assumption is used for: without it exactly the two `decref`
methods of the CUDD wrappers fail, everything else is unchanged -/
theorem directDecref_only_exception :
    ((Gen.cRefTraces.filter fun m =>
        (m.role == .refDec || m.role == .refInc || m.role == .handleInit || m.role == .handleDealloc) &&
        !fieldMethodOkA false (Gen.cRefFieldBackends.contains m.backend) m).map fun m => (m.backend, m.name))
      = [(.cudd, "BDD.decref"), (.cuddZdd, "ZDD.decref")] := by decide +kernel

/-- the paths that are skipped because they assume `x.ref <= 0` for a node on which a reference
is held, and that would otherwise end holding a reference, all belong to the three functions of
the ZDD composition (an observation about the source: `reviewedDeadAssertions`) -/
theorem deadAssertions_where :
    (Gen.cRefTraces.all fun m => reviewedDeadAssertions.contains (m.backend, m.name) ||
      m.paths.all fun p => !pathInfeasible (localsOf m.backend) m p) = true :=
  refTraces_checked.2.2.2.2.2.2

/-- the functions that are NOT followed by the reader (`Gen.cUncovered`, test helpers aside) are
exactly those reviewed by hand, with the text they had when reviewed (DD/CWrapReviewed.lean).
At present there is none: the seven functions that keep references in containers are followed. -/
theorem uncovered_reviewed : Gen.cUncoveredText = reviewedUncovered := by decide +kernel

/-- what is left out is the `_test_*` helpers (the reader marks them by this reason, from their name) -/
theorem uncovered_only_tests :
    (Gen.cUncovered.all fun u => u.reason == "test helper (not part of the wrapper API)") = true := by
  decide +kernel

/-- each function that memoizes in CUDD's computed table uses ONE tag, the same for its lookups
and its inserts, and no two functions share a tag (a shared tag makes one operator return what the
other computed: the table identifies an entry by operands and tag) -/
def cacheTagsOk (l : List (Backend × String × List String × List String)) : Bool :=
  l.all (fun x =>
    match x.2.2.1 ++ x.2.2.2 with
    | [] => false
    | t :: ts => ts.all (· == t) && !x.2.2.1.isEmpty && !x.2.2.2.isEmpty) &&
  (l.map fun x => (x.1, (x.2.2.1 ++ x.2.2.2).head?)).Nodup

theorem cacheTags_distinct : cacheTagsOk Gen.cCacheTags = true := by decide +kernel

/-- the check has teeth: `_forall` inserting under the tag of `_exist` is refused -/
example : cacheTagsOk [(.cuddZdd, "_forall", ["_exist_cache_id"], ["_exist_cache_id"]),
    (.cuddZdd, "_exist", ["_exist_cache_id"], ["_exist_cache_id"])] = false := by decide +kernel

def hasMethod (b : Backend) (name : String) (role : CRole) : Bool :=
  Gen.cRefTraces.any fun m => m.backend == b && m.name == name && m.role == role

/-- the functions the discipline hinges on were found and followed in every back end (so that
`refTraces_balanced` cannot hold vacuously for them) -/
theorem refTraces_core_covered :
    ([Backend.cudd, .cuddZdd, .sylvan].all fun b =>
      hasMethod b "wrap" .wrapFn && hasMethod b "Function.init" .handleInit &&
      hasMethod b "Function.__dealloc__" .handleDealloc) = true ∧
    (hasMethod .buddy "Function.__cinit__" .handleInit &&
      hasMethod .buddy "Function.__dealloc__" .handleDealloc) = true ∧
    (hasMethod .cudd "BDD.apply" .plain && hasMethod .cuddZdd "ZDD.apply" .plain &&
      hasMethod .sylvan "BDD.apply" .plain && hasMethod .buddy "BDD.apply" .plain) = true := by
  decide +kernel

def methodHas (b : Backend) (name : String) (f : CEv → Bool) : Bool :=
  Gen.cRefTraces.any fun m => m.backend == b && m.name == name && m.role == .plain &&
    m.paths.any fun p => p.events.any f

/-- the functions that keep references in containers are followed, and the events their discipline
hinges on were seen: the store into, and the release of, `vector` / `table`; the array handed to
`Cudd_bddVectorCompose`; the hash table consumed by `cuddHashTableQuitZdd`; the traversal marks -/
theorem refTraces_containers_covered :
    (methodHas .cuddZdd "_c_compose" (fun e => match e with | .store .. => true | _ => false) &&
     methodHas .cuddZdd "_c_compose" (fun e => match e with
       | .derefAll _ "Cudd_RecursiveDerefZdd" _ | .derefNonNull _ "Cudd_RecursiveDerefZdd" _ => true | _ => false) &&
     methodHas .cuddZdd "_c_compose" (fun e => match e with | .free .. => true | _ => false) &&
     methodHas .cuddZdd "_compose_root" (fun e => match e with | .derefAll _ _ "values" => true | _ => false) &&
     methodHas .cuddZdd "_compose" (fun e => match e with | .store .. => true | _ => false) &&
     methodHas .cuddZdd "_compose" (fun e => match e with | .load .. => true | _ => false) &&
     methodHas .cudd "BDD._multi_compose" (fun e => match e with | .passC _ "Cudd_bddVectorCompose" => true | _ => false) &&
     methodHas .cuddZdd "cuddHashTableQuitZdd" (fun e => match e with | .derefAll .. => true | _ => false) &&
     methodHas .cuddZdd "_support" (fun e => match e with | .setField .. => true | _ => false) &&
     methodHas .cuddZdd "_clear_markers" (fun e => match e with | .setField .. => true | _ => false)) = true := by
  decide +kernel

/-! ### non-vacuity -/

-- the evaluator distinguishes connectives: a swapped branch would be caught
example : cRowSound ⟨"and", .ret (.c2 "Cudd_bddOr" (.arg .u) (.arg .v)), 0⟩ = false := by decide +kernel
example : cRowSound ⟨"=>", .ret (.c3 "Cudd_bddIte" (.arg .v) (.arg .u) (.c0 "Cudd_ReadOne")), 0⟩ = false := by
  decide +kernel
example : cRowSound ⟨"and", .ret (.c2 "Cudd_bddAnd" (.arg .u) (.arg .v)), 0⟩ = true := by decide +kernel
example : cRowSound ⟨"and", .unknown "r = f(x)", 0⟩ = false := by decide +kernel
example : cRowSound ⟨"and", .ret (.c2 "Cudd_unknownFn" (.arg .u) (.arg .v)), 0⟩ = false := by decide +kernel
-- tables are not empty
example : (Gen.cApply.map fun t => (acceptedOps t).length) = [27, 27, 27, 9] := by decide +kernel
-- a dropped dereference, a double dereference and a leaked temporary reference are caught
example : runPath [] false false [] [.produce 0 "Cudd_bddAnd" [], .ref 0 "Cudd_Ref", .retHandle] ≠ .ok := by decide +kernel
example : runPath [] false false []
    [.produce 0 "Cudd_bddAnd" [], .wrap 0, .deref 0 "Cudd_RecursiveDeref", .retHandle] ≠ .ok := by decide +kernel
example : runPath [] false false []
    [.produce 0 "Dddmp_cuddBddLoad" [], .wrap 0, .retHandle] ≠ .ok := by decide +kernel
example : runPath [] false false []
    [.produce 0 "Dddmp_cuddBddLoad" [], .wrap 0, .deref 0 "Cudd_RecursiveDeref", .retHandle] = .ok := by decide +kernel
example : runPath [] true false []
    [.produce 0 "Cudd_bddAnd" [], .produce 1 "Cudd_bddOr" [], .wrap 0, .retHandle] ≠ .ok := by decide +kernel
example : (Gen.cRefTraces.length ≥ 100) = true := by decide +kernel

-- `decref` as written: guard, decrement, one reference back
example : fieldPathOk .refDec
    [.guard "_direct" false, .fieldTest "u" "<=" 0 false, .fieldAdd "u" (-1), .param 0 "u.node",
     .handleNode 0 "u", .deref 0 "_decref", .fieldTest "u" "==" 0 true, .retHandle] = true := by decide +kernel
-- seeded change C19h: `u._ref -= 1` deleted — the library reference goes, the counter stays; `__dealloc__`
-- will give the reference back a second time
example : fieldPathOk .refDec
    [.guard "_direct" false, .fieldTest "u" "<=" 0 false, .param 0 "u.node", .handleNode 0 "u",
     .deref 0 "_decref", .fieldTest "u" "==" 0 false, .retHandle] = false := by decide +kernel
-- the decrement without the guard that makes the counter positive
example : fieldPathOk .refDec
    [.fieldAdd "u" (-1), .param 0 "u.node", .handleNode 0 "u", .deref 0 "_decref", .retHandle] = false := by
  decide +kernel
-- `__dealloc__`: keeps everything only when the counter is known to be 0; a flipped guard is refused
example : fieldPathOk .handleDealloc
    [.fieldTest "self" "<" 0 false, .fieldTest "self" "==" 0 true, .retHandle] = true := by decide +kernel
example : fieldPathOk .handleDealloc
    [.fieldTest "self" "<" 0 false, .fieldTest "self" "!=" 0 true, .retHandle] = false := by decide +kernel
example : fieldPathOk .handleDealloc
    [.fieldTest "self" "<" 0 false, .fieldTest "self" "!=" 0 false, .fieldAdd "self" (-1),
     .param 0 "self.node", .handleNode 0 "self", .deref 0 "Cudd_RecursiveDeref", .retHandle] = false := by decide +kernel
-- `init`: from 0 to exactly what was taken
example : fieldPathOk .handleInit [.param 0 "node", .fieldSet "self" 1, .ref 0 "Cudd_Ref", .retHandle] = true := by
  decide +kernel
example : fieldPathOk .handleInit [.param 0 "node", .fieldSet "self" 2, .ref 0 "Cudd_Ref", .retHandle] = false := by
  decide +kernel
example : fieldPathOk .handleInit [.param 0 "node", .ref 0 "Cudd_Ref", .retHandle] = false := by decide +kernel
-- contradictory conditions: the path is not taken
example : fieldPathOk .refInc
    [.fieldTest "u" "<=" 0 false, .fieldTest "u" ">" 0 false, .raise "AssertionError"] = true := by decide +kernel
-- an ordinary method that touches the counter, or calls `incref` on a handle it made (seeded change C19g)
example : runPath [] false false [] [.fieldAdd "f" 1, .retHandle] ≠ .ok := by decide +kernel
example : runPath [] false false []
    [.produce 0 "Cudd_bddAnd" [], .wrap 0, .ref 0 "incref", .retHandle] ≠ .ok := by decide +kernel
example : runPath [] false false []
    [.produce 0 "Cudd_bddAnd" [], .wrap 0, .deref 0 "decref", .retHandle] ≠ .ok := by decide +kernel

-- the shape of `_c_compose`: fill the array, call, protect the result, release the array, free it
example : runPath ["_compose_root"] true false []
    [.alloc 0 "PyMem_Malloc" "n", .fillBegin 0, .param 1 "g.node", .ref 1 "cuddRef", .store 0 1, .fillEnd 0,
     .param 2 "u.node", .passC 0 "_compose_root", .produce 3 "_compose_root" [2],
     .ref 3 "cuddRef", .derefAll 0 "Cudd_RecursiveDerefZdd" "n", .deref 3 "cuddDeref",
     .free 0 "PyMem_Free", .wrap 3, .retHandle] = .ok := by decide +kernel
-- seeded change C19e: without `cuddRef(r)` … `cuddDeref(r)` the result floats while the vector is released
-- (balanced, but refused by the floating-node rule: the result may be one of the released nodes)
example : runPath ["_compose_root"] false false []
    [.alloc 0 "PyMem_Malloc" "n", .fillBegin 0, .param 1 "g.node", .ref 1 "cuddRef", .store 0 1, .fillEnd 0,
     .param 2 "u.node", .passC 0 "_compose_root", .produce 3 "_compose_root" [2],
     .derefAll 0 "Cudd_RecursiveDerefZdd" "n", .free 0 "PyMem_Free", .wrap 3, .retHandle] = .ok := by decide +kernel
example : runPath ["_compose_root"] true false []
    [.alloc 0 "PyMem_Malloc" "n", .fillBegin 0, .param 1 "g.node", .ref 1 "cuddRef", .store 0 1, .fillEnd 0,
     .param 2 "u.node", .passC 0 "_compose_root", .produce 3 "_compose_root" [2],
     .derefAll 0 "Cudd_RecursiveDerefZdd" "n", .free 0 "PyMem_Free", .wrap 3, .retHandle]
    = .bad "unprotected node used after a node-creating call or a recursive dereference" 3 := by decide +kernel
-- a reference stored into a container and never given back
example : runPath [] false false []
    [.alloc 0 "PyMem_Malloc" "n", .param 1 "g.node", .ref 1 "cuddRef", .store 0 1,
     .free 0 "PyMem_Free", .retHandle]
    = .bad "path ends while a container of this function still holds references" 0 := by decide +kernel
-- the memo was handed to the recursion and is dropped without releasing what it may hold
example : runPath ["_compose"] false true []
    [.param 0 "u", .cnew 1 "dict", .passC 1 "_compose", .produce 2 "_compose" [0], .retNode 2] ≠ .ok := by
  decide +kernel
-- every element is dereferenced although the container only borrows them (no `cuddRef` before the store)
example : runPath [] false false []
    [.alloc 0 "PyMem_Malloc" "n", .param 1 "g.node", .store 0 1,
     .derefAll 0 "Cudd_RecursiveDerefZdd" "n", .free 0 "PyMem_Free", .retHandle] ≠ .ok := by decide +kernel
-- released twice; released over a different bound; used after free; a callee releasing the caller's memo
example : runPath [] false false []
    [.alloc 0 "PyMem_Malloc" "n", .derefAll 0 "Cudd_RecursiveDerefZdd" "n",
     .derefAll 0 "Cudd_RecursiveDerefZdd" "n", .free 0 "PyMem_Free", .retHandle] ≠ .ok := by decide +kernel
example : runPath [] false false []
    [.alloc 0 "PyMem_Malloc" "n", .derefAll 0 "Cudd_RecursiveDerefZdd" "n - 1", .free 0 "PyMem_Free",
     .retHandle] ≠ .ok := by decide +kernel
example : runPath [] false false []
    [.alloc 0 "PyMem_Malloc" "n", .free 0 "PyMem_Free", .param 1 "u", .store 0 1, .retHandle] ≠ .ok := by decide +kernel
example : runPath [] false true []
    [.cparam 0 "table", .derefAll 0 "Cudd_RecursiveDerefZdd" "values", .retNull] ≠ .ok := by decide +kernel
-- an element loaded from a container is gone once the container's references were given back
example : runPath [] true true []
    [.cparam 0 "hash", .load 1 0, .derefAll 0 "Cudd_RecursiveDerefZdd" "n", .free 0 "FREE", .retNode 1] ≠ .ok := by
  decide +kernel
-- storing into the caller's memo hands the reference on (the shape of the end of `_compose`)
example : runPath [] true true []
    [.cparam 0 "table", .produce 1 "cuddZddIte" [], .ref 1 "cuddRef", .ref 1 "cuddRef", .store 0 1,
     .deref 1 "cuddDeref", .retNode 1] = .ok := by decide +kernel
-- … but not without the second `cuddRef`
example : runPath [] true true []
    [.cparam 0 "table", .produce 1 "cuddZddIte" [], .ref 1 "cuddRef", .store 0 1,
     .deref 1 "cuddDeref", .retNode 1] ≠ .ok := by decide +kernel
-- an array that is not freed is reported apart from the references
example : runPath [] false false [] [.alloc 0 "PyMem_Malloc" "n", .raise "ValueError"] = .arrayLeak 0 := by
  decide +kernel
-- `x.ref <= 0` is only impossible while a reference on `x` is held
example : runPath [] false false []
    [.produce 0 "cuddZddIte" [], .ref 0 "cuddRef", .refNonPos 0, .raise "AssertionError"] = .ok := by decide +kernel
example : runPath [] false false []
    [.produce 0 "cuddZddIte" [], .ref 0 "cuddRef", .deref 0 "cuddDeref", .ref 0 "cuddRef",
     .deref 0 "cuddDeref", .ref 0 "cuddRef", .raise "AssertionError"] ≠ .ok := by decide +kernel
-- a node stored into a field other than the collision chain is not understood
example : runPath [] false false [] [.param 0 "u", .param 1 "v", .setField 0 "T" 1, .retHandle] ≠ .ok := by
  decide +kernel
-- the followed functions are there
example : ((Gen.cRefTraces.filter fun m => m.paths.any fun p => p.events.any CEv.isContEv).length ≥ 7) = true := by
  decide +kernel

-- seeded change C19t: a temporary released with `cuddDeref` and dropped
example : pathPlainDrop ["_forall"] ⟨.cuddZdd, "_forall", 0, .plain, true, []⟩
    ⟨[.produce 0 "_forall" [], .ref 0 "cuddRef", .produce 1 "_forall" [], .isNull 1, .deref 0 "cuddDeref",
      .retNull]⟩ = true := by decide +kernel
-- … the idiom `cuddRef(r); …; cuddDeref(r); return r` is not
example : pathPlainDrop ["_find_or_add"] ⟨.cuddZdd, "_forall", 0, .plain, true, []⟩
    ⟨[.produce 0 "_find_or_add" [], .ref 0 "cuddRef", .deref 0 "cuddDeref", .retNode 0]⟩ = false := by decide +kernel
-- seeded change C19s: `__dealloc__` with `Cudd_Deref`; the BDD function in the ZDD wrapper
example : derefKindsOk ⟨.cudd, "Function.__dealloc__", 0, .handleDealloc, false,
    [⟨[.param 0 "self.node", .deref 0 "Cudd_Deref", .retHandle]⟩]⟩ = false := by decide +kernel
example : derefKindsOk ⟨.cuddZdd, "Function.__dealloc__", 0, .handleDealloc, false,
    [⟨[.param 0 "self.node", .deref 0 "Cudd_RecursiveDeref", .retHandle]⟩]⟩ = false := by decide +kernel
-- seeded change C19u: the result is recursively dereferenced to nothing and then returned
example : runPath ["_find_or_add"] true true []
    [.produce 0 "_find_or_add" [], .ref 0 "cuddRef", .deref 0 "Cudd_RecursiveDerefZdd", .retNode 0] ≠ .ok := by
  decide +kernel
-- seeded change C19r: a raw node inside a returned tuple arrives as `retNode` in a function that returns objects
example : runPath [] false false [] [.param 0 "u.node", .produce 1 "sylvan_low" [0], .retNode 1] ≠ .ok := by
  decide +kernel

-- seeded change C19m: a call that may raise between `Cudd_Ref` and `Cudd_RecursiveDerefZdd`
example : runPath [] false false []
    [.produce 0 "Cudd_zddIthVar" [], .ref 0 "Cudd_Ref", .raiseIn "self._add_var#0" 847] ≠ .ok := by decide +kernel
example : exitSummary [] ⟨.cuddZdd, "ZDD.add_var", 812, .plain, false, []⟩
    ⟨[.produce 0 "Cudd_zddIthVar" [], .ref 0 "Cudd_Ref", .raiseIn "self._add_var#0" 847]⟩
    = some [("Cudd_zddIthVar", 1)] := by decide +kernel
-- the same call after the release, or inside `try … finally: deref`, is fine
example : runPath [] false false []
    [.produce 0 "Cudd_zddIthVar" [], .ref 0 "Cudd_Ref", .deref 0 "Cudd_RecursiveDerefZdd",
     .raiseIn "self._add_var#0" 849] = .ok := by decide +kernel
-- `_c_compose` (finding F21): an exception in the second iteration of the fill loop; the
-- `finally` block releases the slots that are not NULL and frees the array
example : runPath ["_compose_root"] true false []
    [.alloc 0 "PyMem_Malloc" "n", .nullInit 0 "n", .fillBegin 0, .iterBegin, .param 1 "g.node",
     .ref 1 "cuddRef", .store 0 1, .iterEnd, .iterBegin, .derefNonNull 0 "Cudd_RecursiveDerefZdd" "n",
     .free 0 "PyMem_Free", .raiseIn "typetest#1" 4139] = .ok := by decide +kernel
-- … with the fill loop outside the `try` nothing releases the array and what it holds
example : exitSummary [] ⟨.cuddZdd, "_c_compose", 4109, .plain, false, []⟩
    ⟨[.alloc 0 "PyMem_Malloc" "n", .fillBegin 0, .iterBegin, .param 1 "g.node", .ref 1 "cuddRef",
      .store 0 1, .iterEnd, .iterBegin, .raiseIn "typetest#1" 4136]⟩
    = some [("container array", 0), ("array not freed", 0)] := by decide +kernel
-- seeded change C19n: the fill loop inside the `try` WITHOUT the initialisation: every slot is read
example : runPath [] false false []
    [.alloc 0 "PyMem_Malloc" "n", .fillBegin 0, .iterBegin, .derefAll 0 "Cudd_RecursiveDerefZdd" "n",
     .free 0 "PyMem_Free", .raiseIn "getitem#0" 4137]
    = .bad "every slot of an array is dereferenced, but the loop that fills it was not completed (or there is none)" 0 := by
  decide +kernel
-- the guard alone does not help: the slots that were not written are not NULL
example : runPath [] false false []
    [.alloc 0 "PyMem_Malloc" "n", .fillBegin 0, .iterBegin, .derefNonNull 0 "Cudd_RecursiveDerefZdd" "n",
     .free 0 "PyMem_Free", .raiseIn "getitem#0" 4137] ≠ .ok := by decide +kernel
-- NULL-initialisation over another bound, or after a store
example : runPath [] false false []
    [.alloc 0 "PyMem_Malloc" "n", .nullInit 0 "n - 1", .free 0 "PyMem_Free", .retHandle] ≠ .ok := by decide +kernel
example : runPath [] false false []
    [.alloc 0 "PyMem_Malloc" "n", .param 1 "g.node", .ref 1 "cuddRef", .store 0 1, .nullInit 0 "n",
     .free 0 "PyMem_Free", .retHandle] ≠ .ok := by decide +kernel
-- an array handed to a C function after the fill was left by `break`
example : runPath [] false false []
    [.alloc 0 "PyMem_Malloc" "n", .fillBegin 0, .iterBegin, .param 1 "g.node", .store 0 1, .iterBreak,
     .passC 0 "Cudd_bddVectorCompose", .free 0 "PyMem_Free", .retHandle] ≠ .ok := by decide +kernel
-- a loop iteration that keeps a reference (visible at the end of the iteration, whatever follows)
example : runPath [] false false []
    [.param 0 "u", .iterBegin, .ref 0 "Cudd_Ref", .iterEnd, .deref 0 "Cudd_RecursiveDeref", .retHandle]
    = .bad "a loop iteration ends holding (or having given away) a reference it did not hold when it began" 0 := by
  decide +kernel
example : runPath [] false false []
    [.param 0 "u", .iterBegin, .ref 0 "Cudd_Ref", .deref 0 "Cudd_RecursiveDeref", .iterEnd, .retHandle] = .ok := by
  decide +kernel
-- seeded change C19o: the handle of `x[0]` is dropped when `f` is rebound; `self.var` is exempt
example : runPath [] true false []
    [.alloc 0 "PyMem_Malloc" "n", .fillBegin 0, .iterBegin, .param 1 "f.node", .store 0 1, .iterEnd,
     .iterBegin, .handleDrop 1 "self.add_expr", .param 2 "f.node", .store 0 2, .iterEnd, .fillEnd 0,
     .passC 0 "Cudd_bddComputeCube", .produce 3 "Cudd_bddComputeCube" [], .free 0 "PyMem_Free",
     .wrap 3, .retHandle]
    = .bad "container with an unprotected element handed to Cudd_bddComputeCube after a node-creating call" 0 := by
  decide +kernel
example : runPath [] true false []
    [.alloc 0 "PyMem_Malloc" "n", .fillBegin 0, .iterBegin, .param 1 "f.node", .store 0 1, .iterEnd,
     .iterBegin, .handleDrop 1 "self.var", .param 2 "f.node", .store 0 2, .iterEnd, .fillEnd 0,
     .passC 0 "Cudd_bddComputeCube", .produce 3 "Cudd_bddComputeCube" [], .free 0 "PyMem_Free",
     .wrap 3, .retHandle] = .ok := by decide +kernel

end DD
