/-
  DDProps.C19Quant — the meaning of the quantifier spellings of the C back ends, stated PER ROW of
  the regenerated table, so that a changed row changes what the statement says.
  `cQuant_meaning_row` takes a row `r` of a table `t ∈ Gen.cApply` that accepts a quantifier
  spelling and concludes, for the roles READ OFF THAT ROW (`cRoles`: which operand is quantified,
  which supplies the variables, in which mode, which quantifier) and the roles of the same spelling
  in the regenerated `Gen.applyTable` of `dd/bdd.py` (`refRoles`): whenever the operand that
  supplies the variables is a positive cube, the function the back end's call denotes
  (`rowMeaning`) is the function `dd.bdd` computes (`refMeaning`), for every choice of the three
  operands.  The conclusion depends on the roles: for those of the Sylvan row of finding F6 it is
  false (`cQuant_meaning_row_sensitive`).
-/
import DDProps.C19
namespace DD
open CQuant

/-- what the C call of a quantifier row denotes, for operands with the denotations `fn`, when the
operand `o` (as a node) is the positive cube of `S o` and `L o` lists its support: the body
operand quantified over the variables the mode takes from the variable operand -/
def rowMeaning (q : QuantRoles) (S L : COperand → List Nat) (fn : COperand → BFun) : BFun :=
  quantL q.forall_ (quantVars q.mode (S q.varsFrom) (L q.varsFrom)) (fn q.body)

/-- what `dd.bdd.BDD.apply(alias, u, v)` denotes, for roles `(universal?, variables, body)` read
off `Gen.applyTable`: the body operand quantified over the support of the variable operand -/
def refMeaning (ρ : Bool × COperand × COperand) (L : COperand → List Nat)
    (fn : COperand → BFun) : BFun :=
  quantL ρ.1 (L ρ.2.1) (fn ρ.2.2)

def rowAgrees (r : CRow) : Bool :=
  match r.outcome, refRoles r.alias with
  | .ret e, some ρ =>
    match cRoles e with
    | some q => q.forall_ == ρ.1 && q.varsFrom == ρ.2.1 && q.body == ρ.2.2
    | none => false
  | _, _ => false

/-- a row that accepts a quantifier spelling returns a recognised quantifier call
(`cApply_sound`) whose roles are those the spelling has in `dd/bdd.py` (`cQuant_roles`) -/
theorem quantRow_roles (t : CApplyTable) (ht : t ∈ Gen.cApply) (r : CRow) (hr : r ∈ t.rows)
    (hacc : r.accepted = true) (hq : isQuantAlias r.alias = true) :
    ∃ (e : CExpr) (q : QuantRoles), r.outcome = .ret e ∧ cRoles e = some q ∧
      refRoles r.alias = some (q.forall_, q.varsFrom, q.body) := by
  obtain ⟨e, q, he, hrl⟩ :=
    cRowSound_quant (List.all_eq_true.mp (List.all_eq_true.mp cApply_sound t ht) r hr) hacc hq
  have hroles := List.all_eq_true.mp (List.all_eq_true.mp cQuant_roles t ht) r hr
  simp only [hacc, hq, cRowRoles, he, hrl, Bool.and_self, Bool.not_true, Bool.false_or,
    Option.map_some, beq_iff_eq] at hroles
  exact ⟨e, q, he, hrl, hroles.symm⟩

theorem rowAgrees_all :
    (Gen.cApply.all fun t => t.rows.all fun r =>
      !(r.accepted && isQuantAlias r.alias) || rowAgrees r) = true :=
  List.all_eq_true.mpr fun t ht => List.all_eq_true.mpr fun r hr => by
    cases hacc : r.accepted
    · rfl
    cases hq : isQuantAlias r.alias
    · rfl
    obtain ⟨e, q, he, hrl, href⟩ := quantRow_roles t ht r hr hacc hq
    simp only [rowAgrees, he, href, hrl, beq_self_eq_true, Bool.and_self, Bool.or_true]

/-- **C19 (meaning of a quantifier row).**  For EVERY back end table `t` of the regenerated
`Gen.cApply` and EVERY row `r` of it that accepts a quantifier spelling: the row returns a
recognised quantifier call with roles `q`, the spelling has roles `ρ` in `dd/bdd.py`'s regenerated
table, and for all operands — `S o` the variables whose positive cube the operand `o` is, `L o` any
list of the support of that cube, `fn o` the function of the operand — the back end's call and
`dd.bdd` denote the same function. -/
theorem cQuant_meaning_row (t : CApplyTable) (ht : t ∈ Gen.cApply) (r : CRow) (hr : r ∈ t.rows)
    (hacc : r.accepted = true) (hq : isQuantAlias r.alias = true) :
    ∃ (e : CExpr) (q : QuantRoles) (ρ : Bool × COperand × COperand),
      r.outcome = .ret e ∧ cRoles e = some q ∧ refRoles r.alias = some ρ ∧
      ∀ (S L : COperand → List Nat) (fn : COperand → BFun),
        (∀ o x, x ∈ L o ↔ DependsOn (cubeOf (S o)) x) →
        rowMeaning q S L fn = refMeaning ρ L fn := by
  obtain ⟨e, q, he, hrl, href⟩ := quantRow_roles t ht r hr hacc hq
  exact ⟨e, q, _, he, hrl, href, fun S L fn hL =>
    quantL_quantVars q.mode q.forall_ (S q.varsFrom) (L q.varsFrom) (fn q.body) (hL q.varsFrom)⟩

/-- in terms of `u`, `v`: with the reference roles of the current `dd/bdd.py` (`refRoles_eq`), the
conclusion reads "`v` quantified over the support of `u`" -/
theorem cQuant_meaning_row_uv (t : CApplyTable) (ht : t ∈ Gen.cApply) (r : CRow) (hr : r ∈ t.rows)
    (hacc : r.accepted = true) (hq : isQuantAlias r.alias = true)
    (fa : Bool) (href : refRoles r.alias = some (fa, .u, .v)) :
    ∃ (e : CExpr) (q : QuantRoles), r.outcome = .ret e ∧ cRoles e = some q ∧
      ∀ (S L : COperand → List Nat) (fn : COperand → BFun),
        (∀ o x, x ∈ L o ↔ DependsOn (cubeOf (S o)) x) →
        rowMeaning q S L fn = quantL fa (L .u) (fn .v) := by
  obtain ⟨e, q, ρ, he, hq', hρ, hm⟩ := cQuant_meaning_row t ht r hr hacc hq
  rw [href] at hρ
  cases hρ
  exact ⟨e, q, he, hq', hm⟩

/-- the conclusion depends on the row: for the roles of the row of finding F6
(`sylvan_forall(u.node, v.node)`: `u` quantified over the variables of `v`) the meaning statement
is false — `u = x₀`, `v = x₁`: the call denotes `∀x₁. x₀ = x₀`, `dd.bdd` computes `∀x₀. x₁ = x₁` -/
theorem cQuant_meaning_row_sensitive :
    ∃ (S L : COperand → List Nat) (fn : COperand → BFun),
      (∀ o x, x ∈ L o ↔ DependsOn (cubeOf (S o)) x) ∧
      rowMeaning ⟨true, .v, .u, .cubeArg⟩ S L fn ≠ refMeaning (true, .u, .v) L fn := by
  refine ⟨fun o => match o with | .u => [0] | .v => [1] | .w => [],
          fun o => match o with | .u => [0] | .v => [1] | .w => [],
          fun o => match o with | .u => fun a => a 0 | .v => fun a => a 1 | .w => fun _ => true,
          ?_, ?_⟩
  · intro o x
    rw [dependsOn_cubeOf]
  · intro h
    have := congrFun h (fun i => i == 0)
    revert this
    decide +kernel

/-- non-vacuity: all four back-end tables are there, sixteen accepted quantifier rows (four
spellings × CUDD, CUDD-ZDD, Sylvan, and none for BuDDy), and the theorem on the Sylvan row of
`\A` -/
example : Gen.cApply.map (·.backend) = [.cudd, .cuddZdd, .sylvan, .buddy] ∧
    (Gen.cApply.map fun t => (t.rows.filter fun r => r.accepted && isQuantAlias r.alias).length)
      = [4, 4, 4, 0] := by decide +kernel

example : ∃ t ∈ Gen.cApply, ∃ r ∈ t.rows, t.backend = .sylvan ∧ r.alias = "\\A" ∧
    r.accepted = true ∧ isQuantAlias r.alias = true ∧ refRoles r.alias = some (true, .u, .v) := by
  decide +kernel

end DD
