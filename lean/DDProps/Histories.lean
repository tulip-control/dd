/-
  DDProps.Histories — the "for EVERY history" capstone shared by C01, C02, C06, C14, C17.

  A history is a list of user operations `UOp` (declare / var / find_or_add / ite / apply /
  neg / cofactor / quantify / compose / rename / let / incref / decref / collect_garbage) with
  ARBITRARY arguments, run by `runOp` on the model from the empty manager `{}`; `OpsGuarded`
  only asks for the three caller obligations the code does not check (DESIGN 2.2).  Whatever
  the history — rejected calls, collections, re-used node numbers, warm computed table —
  `reachable_inv` gives `GoodState`, and the per-operation theorems of the property files
  apply.  `⟪ops⟫` is the state (manager + ledger of user-held references) after `ops`.
-/
import DDProofs.Reach
namespace DD

local notation "⟪" ops "⟫" => run ops St.init

/-- C02: after ANY history, two references are equal exactly when they denote the same function -/
theorem C02_canonical_every_history (ops : List UOp) (hg : OpsGuarded ops St.init) (u v : Int)
    (hu : ⟪ops⟫.m.tbl.Mem u) (hv : ⟪ops⟫.m.tbl.Mem v) :
    (∀ a, den ⟪ops⟫.m.tbl u a = den ⟪ops⟫.m.tbl v a) ↔ u = v :=
  canonical _ (reachable_inv ops hg).inv.wf u v hu hv

/-- C02 ("every route"): whatever operations produced them — connectives, raw `find_or_add`,
substitutions, before or after collections and rejected calls — two references that are nodes
after the history and denote the same function of the variable NAMES are the same reference -/
theorem C02_routes_agree (ops : List UOp) (hg : OpsGuarded ops St.init) (u v : Int)
    (hu : ⟪ops⟫.m.tbl.Mem u) (hv : ⟪ops⟫.m.tbl.Mem v)
    (hsame : ∀ σ, denN ⟪ops⟫.m.tbl u σ = denN ⟪ops⟫.m.tbl v σ) : u = v :=
  have hG := reachable_inv ops hg
  (C02_canonical_every_history ops hg u v hu hv).mp
    (den_of_denN_tbl hG.inv.wf.toWF hG.order u v hu hv hsame)

/-- C02 ("every route", across time): a reference `u` the user holds since the prefix `pre` and
does not release; ANY continuation `post` (collections, rejected calls, re-used numbers …) that
ends with a node `v` denoting what `u` denoted back then has `v = u` -/
theorem C02_routes_agree_held (pre post : List UOp) (hg : OpsGuarded (pre ++ post) St.init) (u v : Int)
    (hheld : ∀ p q, post = p ++ q → 0 < (run p ⟪pre⟫).ext u.natAbs)
    (hv : ⟪pre ++ post⟫.m.tbl.Mem v)
    (hsame : ∀ a, den ⟪pre ++ post⟫.m.tbl v a = den ⟪pre⟫.m.tbl u a) : v = u := by
  have hg' := (opsGuarded_append pre post St.init).mp hg
  have hpre := reachable_inv pre hg'.1
  obtain ⟨hm, hd⟩ := run_held post ⟪pre⟫ hpre hg'.2 u hheld
  rw [← run_append] at hm hd
  exact (C02_canonical_every_history (pre ++ post) hg v u hv hm).mp
    (fun a => (hsame a).trans (hd a).symm)

/-- C06: after ANY history the counters are exact w.r.t. the user's ledger (count = stored edges
+ references the user took and did not release, + 1 for the terminal), and a collection at that
point succeeds, leaves EXACTLY the nodes reachable from a held node (unchanged, same functions),
keeps the counts exact and empties the computed table -/
theorem C06_counts_exact_every_history (ops : List UOp) (hg : OpsGuarded ops St.init) :
    RefExact ⟪ops⟫.m ⟪ops⟫.ext ∧
    ∃ m', collectGarbage none ⟪ops⟫.m = (.ok (), m') ∧ GoodState m' ⟪ops⟫.ext ∧
      (∀ u n, m'.tbl.node? u = some n ↔
        (⟪ops⟫.m.tbl.node? u = some n ∧ GcReach ⟪ops⟫.m.tbl (GcHeld ⟪ops⟫.ext) u)) ∧
      (∀ (u : Int), m'.tbl.Mem u → ∀ a, den m'.tbl u a = den ⟪ops⟫.m.tbl u a) ∧
      (∀ (u c : Nat), m'.ref[u]? = some c → 0 < c) ∧
      (∀ key : List Int, m'.cache[key]? = none) := by
  have hG := reachable_inv ops hg
  obtain ⟨m', he, hp, rest⟩ := collectGarbage_exact _ _ hG.inv hG.exact
  exact ⟨hG.exact, m', he, hG.gc hp, rest⟩

/-- C06: a reference the user holds is never freed and never changes meaning, whatever the next
call is (collection and the user's own `decref` included) -/
theorem C06_held_every_history (ops : List UOp) (hg : OpsGuarded ops St.init) (op : UOp)
    (hop : OpGuard ⟪ops⟫.m ⟪ops⟫.ext op) (u : Int) (hu : 0 < ⟪ops⟫.ext u.natAbs) :
    ⟪ops⟫.m.tbl.Mem u ∧ (step op ⟪ops⟫).m.tbl.Mem u ∧
      ∀ a, den (step op ⟪ops⟫).m.tbl u a = den ⟪ops⟫.m.tbl u a :=
  step_held _ _ op (reachable_inv ops hg) hop u hu

/-- C17: after ANY history, a call that raises (any operation, any argument) leaves a good state:
the ledger is untouched, every node is still there unchanged, every reference — in particular
every reference the user holds — is valid with the same function, the order and the switches are
unchanged; hence EVERY theorem applies to the next call, whatever it is, and a collection right
after the failure behaves normally -/
theorem C17_error_then_normal (ops : List UOp) (hg : OpsGuarded ops St.init) (op : UOp)
    (hop : OpGuard ⟪ops⟫.m ⟪ops⟫.ext op) (e : Err) (hrej : (runOp op ⟪ops⟫.m).1 = .error e) :
    GoodState (step op ⟪ops⟫).m (step op ⟪ops⟫).ext ∧
    (step op ⟪ops⟫).ext = ⟪ops⟫.ext ∧
    Kept ⟪ops⟫.m (step op ⟪ops⟫).m ∧
    (∀ u : Int, ⟪ops⟫.m.tbl.Mem u →
      (step op ⟪ops⟫).m.tbl.Mem u ∧ ∀ a, den (step op ⟪ops⟫).m.tbl u a = den ⟪ops⟫.m.tbl u a) ∧
    (∀ u : Int, 0 < ⟪ops⟫.ext u.natAbs →
      (step op ⟪ops⟫).m.tbl.Mem u ∧ ∀ a, den (step op ⟪ops⟫).m.tbl u a = den ⟪ops⟫.m.tbl u a) ∧
    (∀ op2 : UOp, OpGuard (step op ⟪ops⟫).m (step op ⟪ops⟫).ext op2 →
      GoodState (step op2 (step op ⟪ops⟫)).m (step op2 (step op ⟪ops⟫)).ext) ∧
    (∃ m', collectGarbage none (step op ⟪ops⟫).m = (.ok (), m') ∧ GoodState m' ⟪ops⟫.ext) := by
  have hG := reachable_inv ops hg
  have hS : GoodState (step op ⟪ops⟫).m (step op ⟪ops⟫).ext := step_inv _ _ op hG hop
  obtain ⟨hk, hl⟩ := rejected_kept _ _ op hG hop e hrej
  refine ⟨hS, hl, hk, fun u hu => hk.den hG.inv u hu, fun u hu => ?_, fun op2 h2 => step_inv _ _ op2 hS h2, ?_⟩
  · exact hk.den hG.inv u (hG.exact.mem_of_ext_pos hu)
  · obtain ⟨m', he, -, hgood⟩ := collectGarbage_good _ _ hS
    exact ⟨m', he, hl ▸ hgood⟩

/-- C17: in a history, the state after every call — accepted or rejected — is good -/
theorem C17_every_prefix_good (pre post : List UOp) (hg : OpsGuarded (pre ++ post) St.init) :
    GoodState ⟪pre⟫.m ⟪pre⟫.ext :=
  reachable_inv pre ((opsGuarded_append pre post St.init).mp hg).1

/-- C01: after ANY history, `apply` of every spelling of a binary propositional connective returns
a node denoting that connective of the operands, in a good state with the same ledger -/
theorem C01_apply_every_history (ops : List UOp) (hg : OpsGuarded ops St.init)
    (op : String) (c : Conn) (hc : docConn op = some c) (h2 : c.arity = 2)
    (hq1 : c ≠ .forall_) (hq2 : c ≠ .exists_) (hall : Gen.allOps.contains op = true)
    (u v : Int) (hu : ⟪ops⟫.m.tbl.Mem u) (hv : ⟪ops⟫.m.tbl.Mem v) :
    ∃ r m', runOp (.apply op u (some v) none) ⟪ops⟫.m = (.ok (.ref r), m') ∧
      GoodState m' ⟪ops⟫.ext ∧ m'.tbl.Mem r ∧
      ∀ a, den m'.tbl r a = c.eval (den ⟪ops⟫.m.tbl u a) (den ⟪ops⟫.m.tbl v a) false := by
  have hG := reachable_inv ops hg
  obtain ⟨r, m', he, -, -, hm, -, hd⟩ :=
    apply_binary_spec ⟪ops⟫.m hG.inv hG.off op c hc h2 hq1 hq2 hall u v hu hv
  have hrun : runOp (.apply op u (some v) none) ⟪ops⟫.m = (.ok (.ref r), m') := by
    simp only [runOp, mapRes, he]
  exact ⟨r, m', hrun, step_inv_eq hG hrun trivial, hm, hd⟩

/-- C01: negation (`apply('not', u)`, every spelling) after ANY history -/
theorem C01_neg_every_history (ops : List UOp) (hg : OpsGuarded ops St.init)
    (op : String) (hc : docConn op = some .not) (hall : Gen.allOps.contains op = true)
    (u : Int) (hu : ⟪ops⟫.m.tbl.Mem u) :
    runOp (.apply op u none none) ⟪ops⟫.m = (.ok (.ref (-u)), ⟪ops⟫.m) ∧ ⟪ops⟫.m.tbl.Mem (-u) ∧
      ∀ a, den ⟪ops⟫.m.tbl (-u) a = !den ⟪ops⟫.m.tbl u a := by
  have hG := reachable_inv ops hg
  obtain ⟨he, hm, hd⟩ := apply_not_spec ⟪ops⟫.m hG.inv op hc hall u hu
  exact ⟨by simp only [runOp, mapRes, he], hm, hd⟩

/-- C01: `ite` after ANY history (warm computed table, re-used numbers, …) -/
theorem C01_ite_every_history (ops : List UOp) (hg : OpsGuarded ops St.init)
    (g u v : Int) (hgm : ⟪ops⟫.m.tbl.Mem g) (hu : ⟪ops⟫.m.tbl.Mem u) (hv : ⟪ops⟫.m.tbl.Mem v) :
    ∃ r m', runOp (.ite g u v) ⟪ops⟫.m = (.ok (.ref r), m') ∧
      GoodState m' ⟪ops⟫.ext ∧ m'.tbl.Mem r ∧
      ∀ a, den m'.tbl r a = if den ⟪ops⟫.m.tbl g a then den ⟪ops⟫.m.tbl u a else den ⟪ops⟫.m.tbl v a := by
  have hG := reachable_inv ops hg
  obtain ⟨r, m', he, hp⟩ := ite_spec_off' ⟪ops⟫.m hG.inv hG.off g u v hgm hu hv
  have hrun : runOp (.ite g u v) ⟪ops⟫.m = (.ok (.ref r), m') := by simp only [runOp, mapRes, he]
  exact ⟨r, m', hrun, step_inv_eq hG hrun trivial, hp.mem, hp.den⟩

/-- C01: `var(name)` of a declared variable denotes that variable, after ANY history -/
theorem C01_var_every_history (ops : List UOp) (hg : OpsGuarded ops St.init)
    (name : String) (j : Nat) (hj : ⟪ops⟫.m.tbl.vars[name]? = some j) :
    ∃ r m', runOp (.var name) ⟪ops⟫.m = (.ok (.ref r), m') ∧
      GoodState m' ⟪ops⟫.ext ∧ m'.tbl.Mem r ∧ ∀ a, den m'.tbl r a = a j := by
  have hG := reachable_inv ops hg
  obtain ⟨r, m', he, -, hm, hd⟩ := var_spec ⟪ops⟫.m hG.inv hG.off name j hj (hG.order.lt name j hj)
  have hrun : runOp (.var name) ⟪ops⟫.m = (.ok (.ref r), m') := by simp only [runOp, mapRes, he]
  exact ⟨r, m', hrun, step_inv_eq hG hrun trivial, hm, hd⟩

/-- C14: after ANY history `vars` / `_level_to_var` are inverse bijections onto `0 .. n-1`;
declaring a new name appends it at the bottom level and moves nothing else -/
theorem C14_order_every_history (ops : List UOp) (hg : OpsGuarded ops St.init) :
    OrderOK ⟪ops⟫.m.tbl ∧
    ∀ name : String, ⟪ops⟫.m.tbl.vars[name]? = none →
      ∃ m', runOp (.declare name none) ⟪ops⟫.m = (.ok (.lvl ⟪ops⟫.m.nvars), m') ∧
        GoodState m' ⟪ops⟫.ext ∧ m'.tbl.vars[name]? = some ⟪ops⟫.m.nvars ∧
        (∀ (v : String) (i : Nat), ⟪ops⟫.m.tbl.vars[v]? = some i → m'.tbl.vars[v]? = some i) ∧
        (∀ u, ⟪ops⟫.m.tbl.Mem u → m'.tbl.Mem u ∧ ∀ a, den m'.tbl u a = den ⟪ops⟫.m.tbl u a) := by
  have hG := reachable_inv ops hg
  refine ⟨hG.order, fun name hnew => ?_⟩
  obtain ⟨m', he, -, -, -, hv, hold, hden, -, -⟩ := addVar_new_run ⟪ops⟫.m hG.inv hG.order name hnew
  have hrun : runOp (.declare name none) ⟪ops⟫.m = (.ok (.lvl ⟪ops⟫.m.nvars), m') := by
    simp only [runOp, mapRes, he]
  exact ⟨_, hrun, step_inv_eq hG hrun trivial, hv, hold, hden⟩

/-- thirteen calls: explicit level, three REJECTED calls (unknown operator, unknown node, level
conflict), a collection that frees node 2, the re-creation of `a` at the re-used number 2, a
second route to `a ∧ b` (raw `find_or_add`), and the release of the held reference -/
def exHistory : List UOp :=
  [ .declare "a" none,                  -- level 0
    .declare "b" (some 1),              -- level 1 (explicit, no gap)
    .var "a",                           -- node 2
    .var "b",                           -- node 3
    .apply "and" 2 (some 3) none,       -- node 4 = a ∧ b
    .incref 4,                          -- the user holds node 4
    .apply "nand" 2 (some 3) none,      -- REJECTED: unknown operator
    .ite 7 1 (-1),                      -- REJECTED: unknown node
    .declare "a" (some 5),              -- REJECTED: `a` already has level 0
    .collectGarbage,                    -- frees node 2 (nobody holds `a`); keeps 3 and 4
    .var "a",                           -- RE-CREATED at the re-used number 2
    .findOrAdd 0 (-1) 3,                -- another route to a ∧ b: the SAME reference 4
    .decref 4 ]                         -- released

def resCode : Except Err Res → Int
  | .ok (.ref u) => u
  | .ok (.lvl n) => 1000 + n
  | .ok .unit => 0
  | .error _ => -1000

/-- the history respects the caller obligations (so every theorem above applies to it) … -/
theorem exHistory_guarded : OpsGuarded exHistory St.init := by decide +kernel

/-- … and does what the comments say: answers of the thirteen calls (`-1000` = rejected) -/
example : (results exHistory St.init).map resCode =
    [1000, 1001, 2, 3, 4, 0, -1000, -1000, -1000, 0, 2, 4, 0] := by decide +kernel

/-- answers can be compared by evaluation -/
local instance : DecidableEq (Except Err Res)
  | .ok a, .ok b => decidable_of_iff (a = b) ⟨congrArg _, Except.ok.inj⟩
  | .error a, .error b => decidable_of_iff (a = b) ⟨congrArg _, Except.error.inj⟩
  | .ok _, .error _ => isFalse nofun
  | .error _, .ok _ => isFalse nofun

/-! What the examples below need of the states along the history, one statement per state: the
kernel evaluates a closed term once per declaration. -/

/-- after six calls node 4 is held, and `apply "nand"` is rejected -/
theorem exHistory_at6 : 0 < ⟪exHistory.take 6⟫.ext 4 ∧
    (runOp (.apply "nand" 2 (some 3) none) ⟪exHistory.take 6⟫.m).1 = .error .value := by
  decide +kernel

/-- after the collection (ten calls), before the release (twelve calls), and a collection there -/
theorem exHistory_at12 : ⟪exHistory.take 10⟫.m.tbl.succ.keys = [3, 4] ∧
    ⟪exHistory.take 12⟫.m.tbl.succ.keys = [2, 3, 4] ∧ ⟪exHistory.take 12⟫.ext 4 = 1 ∧
    ⟪exHistory.take 12⟫.m.ref.toList = [(1, 6), (2, 0), (3, 1), (4, 1)] ∧
    ⟪exHistory.take 12 ++ [.collectGarbage]⟫.m.tbl.succ.keys = [3, 4] := by
  decide +kernel

/-- at the end: the nodes 2, 3, 4, two variables, nothing held (a collection frees everything) -/
theorem exHistory_end : ⟪exHistory⟫.m.tbl.Mem 2 ∧ ⟪exHistory⟫.m.tbl.Mem 3 ∧ ⟪exHistory⟫.m.tbl.Mem 4 ∧
    ⟪exHistory⟫.m.tbl.vars["c"]? = none ∧ ⟪exHistory⟫.m.nvars = 2 ∧
    ⟪exHistory ++ [.collectGarbage]⟫.m.tbl.succ.keys = [] := by
  decide +kernel

/-- the state before the release: nodes 2 (`a`, re-created), 3, 4; the user holds node 4 once -/
example : ⟪exHistory.take 12⟫.m.tbl.succ.keys = [2, 3, 4] ∧ ⟪exHistory.take 12⟫.ext 4 = 1 ∧
    ⟪exHistory.take 12⟫.m.ref.toList = [(1, 6), (2, 0), (3, 1), (4, 1)] :=
  ⟨exHistory_at12.2.1, exHistory_at12.2.2.1, exHistory_at12.2.2.2.1⟩

/-- the collection inside the history really freed node 2 -/
example : ⟪exHistory.take 10⟫.m.tbl.succ.keys = [3, 4] := exHistory_at12.1

example : GoodState ⟪exHistory⟫.m ⟪exHistory⟫.ext := reachable_inv exHistory exHistory_guarded

/-- C02 on the example: the two routes to `a ∧ b` gave the same reference, and it is the only
node denoting that function -/
example (v : Int) (hv : ⟪exHistory⟫.m.tbl.Mem v) :
    (∀ a, den ⟪exHistory⟫.m.tbl 4 a = den ⟪exHistory⟫.m.tbl v a) ↔ 4 = v :=
  C02_canonical_every_history exHistory exHistory_guarded 4 v exHistory_end.2.2.1 hv

/-- C02 across time on the example: node 4 is held from call 6 up to call 12; whatever node denotes
its function after the rejected calls, the collection and the re-creations is node 4 -/
example (v : Int) (hv : ⟪exHistory.take 6 ++ (exHistory.drop 6).take 6⟫.m.tbl.Mem v)
    (hsame : ∀ a, den ⟪exHistory.take 6 ++ (exHistory.drop 6).take 6⟫.m.tbl v a =
      den ⟪exHistory.take 6⟫.m.tbl 4 a) : v = 4 := by
  refine C02_routes_agree_held (exHistory.take 6) ((exHistory.drop 6).take 6)
    (opsGuarded_take 12 exHistory_guarded) 4 v ?_ hv hsame
  exact fun p q => of_takes (P := fun p => 0 < (run p ⟪exHistory.take 6⟫).ext (4 : Int).natAbs)
    (by decide +kernel)

/-- C06 on the example: counts exact at the end, and a final collection leaves exactly the nodes
reachable from held ones (none is held any more: everything is freed) -/
example : RefExact ⟪exHistory⟫.m ⟪exHistory⟫.ext :=
  (C06_counts_exact_every_history exHistory exHistory_guarded).1

example : ⟪exHistory.take 12 ++ [.collectGarbage]⟫.m.tbl.succ.keys = [3, 4] := exHistory_at12.2.2.2.2
example : ⟪exHistory ++ [.collectGarbage]⟫.m.tbl.succ.keys = [] := exHistory_end.2.2.2.2.2

/-- C17 on the example: the seventh call (`apply "nand"`) is rejected in the state reached by the
first six; the theorem's hypotheses hold there -/
theorem exHistory_rejected :
    (runOp (.apply "nand" 2 (some 3) none) ⟪exHistory.take 6⟫.m).1 = .error .value :=
  exHistory_at6.2

example : OpsGuarded (exHistory.take 6) St.init ∧ 0 < ⟪exHistory.take 6⟫.ext 4 :=
  ⟨opsGuarded_take 6 exHistory_guarded, exHistory_at6.1⟩

example : GoodState (step (.apply "nand" 2 (some 3) none) ⟪exHistory.take 6⟫).m
    (step (.apply "nand" 2 (some 3) none) ⟪exHistory.take 6⟫).ext :=
  (C17_error_then_normal (exHistory.take 6) (opsGuarded_take 6 exHistory_guarded)
    (.apply "nand" 2 (some 3) none) trivial
    .value exHistory_rejected).1

/-- C01 on the example: the operands are nodes after the whole history; `/\` is a spelling of `and` -/
example : ∃ r m', runOp (.apply "/\\" 2 (some 3) none) ⟪exHistory⟫.m = (.ok (.ref r), m') ∧
    GoodState m' ⟪exHistory⟫.ext ∧ m'.tbl.Mem r ∧
    ∀ a, den m'.tbl r a = (den ⟪exHistory⟫.m.tbl 2 a && den ⟪exHistory⟫.m.tbl 3 a) :=
  C01_apply_every_history exHistory exHistory_guarded "/\\" .and (by decide) (by decide)
    (by decide) (by decide) (by decide) 2 3 exHistory_end.1 exHistory_end.2.1

/-- C14 on the example: `c` is not declared after the history -/
example : ⟪exHistory⟫.m.tbl.vars["c"]? = none ∧ ⟪exHistory⟫.m.nvars = 2 :=
  ⟨exHistory_end.2.2.2.1, exHistory_end.2.2.2.2.1⟩

/-- a longer history with NINE more rejected calls (undeclared name, undeclared rename target,
unknown node, `incref`/`decref` of a non-node, negative and too large level, wrong arity,
conflicting level).  The calls of `quantify`/`compose`/`let` that reach the per-call memo are
not in this list only because the memo is a `Std.HashMap` (indices are `USize`, opaque to the
kernel), so `decide` cannot run them; the theorems cover them all the same. -/
def exHistory2 : List UOp := exHistory.take 12 ++
  [ .cofactor 4 [(.name "zz", true)],         -- REJECTED: undeclared name
    .rename 4 [("a", "c")],                   -- REJECTED: undeclared target
    .rename 99 [("a", "b")],                  -- REJECTED: unknown node
    .neg 4,                                   -- ¬(a ∧ b) = -4
    .apply "and" 4 none none,                 -- REJECTED: wrong arity
    .incref 99,                               -- REJECTED: not a node
    .decref 99,                               -- REJECTED: not a node
    .findOrAdd (-3) 1 1,                      -- REJECTED: negative level
    .findOrAdd 7 1 (-1),                      -- REJECTED: level out of range
    .declare "b" (some 0),                    -- REJECTED: `b` has level 1
    .apply "xor" 2 (some 3) none,             -- a ⊕ b = -5 : new node 5 = (a, ¬b, b), complemented
    .collectGarbage ]                         -- frees 5 and 2 again: only 4 (held) and its child 3 remain

theorem exHistory2_guarded : OpsGuarded exHistory2 St.init := by decide +kernel

/-- (checked by the kernel directly: the elaborator's own evaluator does not share the state
between the steps of the final cascade) -/
theorem exHistory2_results : (results exHistory2 St.init).map resCode =
    [1000, 1001, 2, 3, 4, 0, -1000, -1000, -1000, 0, 2, 4,
     -1000, -1000, -1000, -4, -1000, -1000, -1000, -1000, -1000, -1000, -5, 0] ∧
    ⟪exHistory2⟫.m.tbl.succ.keys = [3, 4] ∧ ⟪exHistory2⟫.ext 4 = 1 := by decide +kernel

example : GoodState ⟪exHistory2⟫.m ⟪exHistory2⟫.ext := reachable_inv exHistory2 exHistory2_guarded

end DD
