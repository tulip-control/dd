/-
  DDProps.Histories2 — the "for EVERY history" capstone with REORDERINGS in the history
  (C01, C02, C06, C07, C14, C17).

  DDProps.Histories quantifies over lists of `UOp` — no reordering.  Here a history is a list of
  `UOp2` (DDProofs.Calls): every `UOp` with arbitrary arguments, plus `bdd.swap(x, y)` (any names
  or levels), `reorder(bdd)` (sifting, any number of variables), `reorder(bdd, order)` (any
  dictionary) and `undeclare_vars(*names)` (any names) — accepted or REJECTED, each reordering
  with any recorded iteration order `sch` of the Python sets it walks through.  `Ops2Guarded` asks
  for the three caller obligations of DDProps.Histories and, for a reordering with a recorded
  schedule, that the model does not answer `MODEL-SCHEDULE-MISMATCH` (never the case for
  `sch = []`: `guard2_default`).  `reachable2_inv` gives `Good2` (= `GoodState`, no schedule
  left, no registered roots) after every such history; levels move under reorderings, so
  "keeps its meaning" is stated by variable NAME (`denN`).  `⟪ops⟫` is the state (manager +
  ledger of user-held references) after `ops`, from the empty manager.

  Part 2 (dynamic reordering ENABLED in the history) is at the end: `UOp3` adds `configure`.
-/
import DDProofs.Reach3
import DDProps.C09
namespace DD

local notation "⟪" ops "⟫" => run2 ops St.init

/-- C02: after ANY history — level swaps, siftings, reorderings to an order, removals of
variables, collections, rejected calls — two references are equal exactly when they denote the
same function of the variable NAMES (and exactly when they denote the same function of the
levels of the order the manager is in) -/
theorem C02_canonical_every_history2 (ops : List UOp2) (hg : Ops2Guarded ops St.init) (u v : Int)
    (hu : ⟪ops⟫.m.tbl.Mem u) (hv : ⟪ops⟫.m.tbl.Mem v) :
    ((∀ σ, denN ⟪ops⟫.m.tbl u σ = denN ⟪ops⟫.m.tbl v σ) ↔ u = v) ∧
    ((∀ a, den ⟪ops⟫.m.tbl u a = den ⟪ops⟫.m.tbl v a) ↔ u = v) :=
  (reachable2_inv ops hg).good3.canonical u v hu hv

/-- C02 ("every route", across time AND across orders): a reference `u` the user holds since the
prefix `pre` and does not release; ANY continuation `post` — reorderings included — that ends
with a node `v` denoting, by name, what `u` denoted back then has `v = u` -/
theorem C02_routes_agree_held2 (pre post : List UOp2) (hg : Ops2Guarded (pre ++ post) St.init) (u v : Int)
    (hheld : ∀ p q, post = p ++ q → 0 < (run2 p ⟪pre⟫).ext u.natAbs)
    (hv : ⟪pre ++ post⟫.m.tbl.Mem v)
    (hsame : ∀ σ, denN ⟪pre ++ post⟫.m.tbl v σ = denN ⟪pre⟫.m.tbl u σ) : v = u :=
  hist2.routes_agree (Good := fun s => Good2 s.m s.ext) (fun s o h hg => step2_inv s.m s.ext o h hg)
    (fun _ h => h.good3) (fun s o h hg => step2_heldSame s.m s.ext o h hg) pre post St.init Good2.init
    hg u v hheld hv hsame

/-- C06: after ANY history (reorderings included) the counters are exact w.r.t. the user's ledger,
and a collection at that point succeeds, leaves EXACTLY the nodes reachable from a held node
(unchanged, same functions), keeps the counts exact and empties the computed table -/
theorem C06_counts_exact_every_history2 (ops : List UOp2) (hg : Ops2Guarded ops St.init) :
    RefExact ⟪ops⟫.m ⟪ops⟫.ext ∧
    ∃ m', collectGarbage none ⟪ops⟫.m = (.ok (), m') ∧ Good2 m' ⟪ops⟫.ext ∧
      (∀ u n, m'.tbl.node? u = some n ↔
        (⟪ops⟫.m.tbl.node? u = some n ∧ GcReach ⟪ops⟫.m.tbl (GcHeld ⟪ops⟫.ext) u)) ∧
      (∀ (u : Int), m'.tbl.Mem u → ∀ a, den m'.tbl u a = den ⟪ops⟫.m.tbl u a) ∧
      (∀ (u c : Nat), m'.ref[u]? = some c → 0 < c) ∧
      (∀ key : List Int, m'.cache[key]? = none) := by
  have hG := reachable2_inv ops hg
  obtain ⟨m', he, hp, rest⟩ := collectGarbage_exact _ _ hG.good.inv hG.good.exact
  exact ⟨hG.good.exact, m', he, hG.gc hp, rest⟩

/-- C06: a reference the user holds is never freed and never changes meaning (by name), whatever
the next call is — a collection, a reordering, the user's own `decref` — and its counter is again
stored edges + the user's references for the ledger after the call -/
theorem C06_held_every_history2 (ops : List UOp2) (hg : Ops2Guarded ops St.init) (op : UOp2)
    (hop : OpGuard2 ⟪ops⟫.m ⟪ops⟫.ext op) (u : Int) (hu : 0 < ⟪ops⟫.ext u.natAbs) :
    ⟪ops⟫.m.tbl.Mem u ∧ (step2 op ⟪ops⟫).m.tbl.Mem u ∧
    (∀ σ, denN (step2 op ⟪ops⟫).m.tbl u σ = denN ⟪ops⟫.m.tbl u σ) ∧
    (step2 op ⟪ops⟫).m.ref[u.natAbs]? =
      some (indeg (step2 op ⟪ops⟫).m.tbl u.natAbs + (step2 op ⟪ops⟫).ext u.natAbs +
        (if u.natAbs = 1 then 1 else 0)) :=
  step2_held _ _ op (reachable2_inv ops hg) hop u hu

def UOp2.IsReorder (op : UOp2) : Prop :=
  (∃ sch x y, op = .swap sch x y) ∨ (∃ sch, op = .sift sch) ∨ (∃ sch o, op = .reorderTo sch o)

/-- C07 as a statement about histories: after ANY history, a level swap (any two names or levels),
a sifting (any number of variables), a reordering to a given order (any dictionary) — for every
recorded iteration order the model does not reject, and whether the call returns or raises —
leaves a good state with the SAME ledger and the same declared variables, and every reference
the user holds is a node before and after, under the same number, denotes the same function of
the variable names, and has the counter `stored edges + the user's references` -/
theorem C07_held_every_history2 (ops : List UOp2) (hg : Ops2Guarded ops St.init) (op : UOp2)
    (hre : op.IsReorder) (hop : OpGuard2 ⟪ops⟫.m ⟪ops⟫.ext op) :
    Good2 (step2 op ⟪ops⟫).m ⟪ops⟫.ext ∧ (step2 op ⟪ops⟫).ext = ⟪ops⟫.ext ∧
    (∀ s, (step2 op ⟪ops⟫).m.tbl.vars.contains s = ⟪ops⟫.m.tbl.vars.contains s) ∧
    (step2 op ⟪ops⟫).m.nvars = ⟪ops⟫.m.nvars ∧
    ∀ u : Int, 0 < ⟪ops⟫.ext u.natAbs →
      ⟪ops⟫.m.tbl.Mem u ∧ (step2 op ⟪ops⟫).m.tbl.Mem u ∧
      (∀ σ, denN (step2 op ⟪ops⟫).m.tbl u σ = denN ⟪ops⟫.m.tbl u σ) ∧
      (step2 op ⟪ops⟫).m.ref[u.natAbs]? =
        some (indeg (step2 op ⟪ops⟫).m.tbl u.natAbs + ⟪ops⟫.ext u.natAbs +
          (if u.natAbs = 1 then 1 else 0)) := by
  have hG := reachable2_inv ops hg
  obtain ⟨h', hrel⟩ := reorder_step _ _ hG op hop hre
  have hl : (step2 op ⟪ops⟫).ext = ⟪ops⟫.ext := by
    rcases hre with ⟨sch, x, y, rfl⟩ | ⟨sch, rfl⟩ | ⟨sch, o, rfl⟩ <;> rfl
  refine ⟨h', hl, hrel.names, hrel.nvars, fun u hu => ?_⟩
  have := step2_held _ _ op hG hop u hu
  rwa [show ledger2 op ⟪ops⟫.m ⟪ops⟫.ext = ⟪ops⟫.ext from hl] at this

/-- C07 (what the accepted calls do), after ANY history: `swap` on two adjacent levels exchanges
exactly the two names -/
theorem C07_swap_every_history2 (ops : List UOp2) (hg : Ops2Guarded ops St.init)
    (sch : List SchedItem) (xa ya : VarOrLevel) (x a b : Nat) (hx : x + 1 < ⟪ops⟫.m.nvars)
    (ha : Resolves ⟪ops⟫.m xa a) (hb : Resolves ⟪ops⟫.m ya b)
    (hab : (a = x ∧ b = x + 1) ∨ (a = x + 1 ∧ b = x))
    (hop : OpGuard2 ⟪ops⟫.m ⟪ops⟫.ext (.swap sch xa ya)) :
    (runOp2 (.swap sch xa ya) ⟪ops⟫.m).1 = .ok .unit ∧
    ∀ j, (step2 (.swap sch xa ya) ⟪ops⟫).m.tbl.l2v[j]? = ⟪ops⟫.m.tbl.l2v[swp x (x + 1) j]? := by
  have hG := reachable2_inv ops hg
  have hR := hG.reorderInv sch
  obtain ⟨r, hr, hq⟩ := OkOr.returns
    (swap_public_spec ⟪ops⟫.ext { ⟪ops⟫.m with sched := sch } hR xa ya x a b hx ha hb hab) hop
  exact ⟨withSched_ok (f := swap xa ya false) hr, hq.2.2.1.l2v⟩

/-- C07, after ANY history: `reorder(bdd, order)` with a bijective `order` reaches exactly it -/
theorem C07_reorderTo_every_history2 (ops : List UOp2) (hg : Ops2Guarded ops St.init)
    (sch : List SchedItem) (order : List (String × Int)) (ho : ReqOrder order ⟪ops⟫.m)
    (hop : OpGuard2 ⟪ops⟫.m ⟪ops⟫.ext (.reorderTo sch order)) :
    (runOp2 (.reorderTo sch order) ⟪ops⟫.m).1 = .ok .unit ∧
    ∀ v p, order.lookup v = some p → ⟪ops⟫.m.tbl.vars.contains v = true →
      (step2 (.reorderTo sch order) ⟪ops⟫).m.tbl.vars[v]? = some p.toNat ∧
      (step2 (.reorderTo sch order) ⟪ops⟫).m.tbl.l2v[p.toNat]? = some v := by
  have hG := reachable2_inv ops hg
  have hR := hG.reorderInv sch
  have ho' : ReqOrder order { ⟪ops⟫.m with sched := sch } := ⟨ho.len, ho.cover, ho.range, ho.inj⟩
  obtain ⟨r, hr, hq⟩ := OkOr.returns
    (sortToOrder_exact (swapOK ⟪ops⟫.ext) order { ⟪ops⟫.m with sched := sch } hR ho') hop
  exact ⟨withSched_ok (f := reorder (some order)) hr, hq.2.2.2⟩

/-- C07, after ANY history: sifting with at least two variables returns normally (none of its
size assertions can fire) and leaves no unreferenced node -/
theorem C07_sift_every_history2 (ops : List UOp2) (hg : Ops2Guarded ops St.init)
    (sch : List SchedItem) (h2 : 2 ≤ ⟪ops⟫.m.nvars)
    (hop : OpGuard2 ⟪ops⟫.m ⟪ops⟫.ext (.sift sch)) :
    (runOp2 (.sift sch) ⟪ops⟫.m).1 = .ok .unit ∧ NoGarbage (step2 (.sift sch) ⟪ops⟫).m := by
  have hG := reachable2_inv ops hg
  have hR := hG.reorderInv sch
  have h := applySifting_never_raises ⟪ops⟫.ext { ⟪ops⟫.m with sched := sch } hR h2
  have hop' : isSchedErr (applySifting { ⟪ops⟫.m with sched := sch }).1 = false := hop
  -- `reorder none` is unfolded to `applySifting` here: left to `exact`, the unifier does it
  -- through `step2` and `withSched`, which is slow to check
  simp only [step2, runOp2, withSched, reorder]
  generalize applySifting { ⟪ops⟫.m with sched := sch } = res at h hop'
  obtain ⟨r, hr, hq⟩ := h.returns hop'
  exact ⟨by rw [mapRes, hr], hq.1.2⟩

/-- C17: after ANY history, a call that raises — an embedded operation with any argument, a
`swap` of non-adjacent levels or unknown names (after its collection), sifting fewer than two
variables, a reordering to a dictionary that is no bijection (after some swaps), the removal of
a variable in use — leaves a good state: the ledger is untouched, the declared variables are the
same, every reference the user holds is a node with the same function of the variable names; an
embedded operation has only added nodes (`Kept`); hence EVERY theorem applies to the next call,
whatever it is, and a collection right after the failure behaves normally -/
theorem C17_error_then_normal2 (ops : List UOp2) (hg : Ops2Guarded ops St.init) (op : UOp2)
    (hop : OpGuard2 ⟪ops⟫.m ⟪ops⟫.ext op) (e : Err) (hrej : (runOp2 op ⟪ops⟫.m).1 = .error e) :
    Good2 (step2 op ⟪ops⟫).m (step2 op ⟪ops⟫).ext ∧
    (step2 op ⟪ops⟫).ext = ⟪ops⟫.ext ∧
    (∀ s, (step2 op ⟪ops⟫).m.tbl.vars.contains s = ⟪ops⟫.m.tbl.vars.contains s) ∧
    (∀ o, op = .base o → Kept ⟪ops⟫.m (step2 op ⟪ops⟫).m) ∧
    (∀ u : Int, 0 < ⟪ops⟫.ext u.natAbs →
      (step2 op ⟪ops⟫).m.tbl.Mem u ∧
      ∀ σ, denN (step2 op ⟪ops⟫).m.tbl u σ = denN ⟪ops⟫.m.tbl u σ) ∧
    (∀ op2 : UOp2, OpGuard2 (step2 op ⟪ops⟫).m (step2 op ⟪ops⟫).ext op2 →
      Good2 (step2 op2 (step2 op ⟪ops⟫)).m (step2 op2 (step2 op ⟪ops⟫)).ext) ∧
    (∃ m', collectGarbage none (step2 op ⟪ops⟫).m = (.ok (), m') ∧ Good2 m' ⟪ops⟫.ext) := by
  have hG := reachable2_inv ops hg
  have hS : Good2 (step2 op ⟪ops⟫).m (step2 op ⟪ops⟫).ext := step2_inv _ _ op hG hop
  have hl : (step2 op ⟪ops⟫).ext = ⟪ops⟫.ext := rejected2_ledger _ _ op hG hop e hrej
  refine ⟨hS, hl, rejected2_names _ _ op hG hop e hrej, ?_, step2_heldSame _ _ op hG hop,
    fun op2 h2 => step2_inv _ _ op2 hS h2, ?_⟩
  · rintro o rfl
    exact (rejected_kept _ _ o hG.good hop e hrej).1
  · obtain ⟨m', he, hp⟩ := collectGarbage_spec _ _ hS.good.inv hS.good.exact
    exact ⟨m', he, hl ▸ hS.gc hp⟩

/-- C17: in a history, the state after every call — accepted or rejected — is good -/
theorem C17_every_prefix_good2 (pre post : List UOp2) (hg : Ops2Guarded (pre ++ post) St.init) :
    Good2 ⟪pre⟫.m ⟪pre⟫.ext :=
  reachable2_inv pre ((ops2Guarded_append pre post St.init).mp hg).1

/-- C01: after ANY history — whatever operations, collections AND REORDERINGS the manager went
through — `apply` of every spelling of a binary propositional connective returns a node denoting
that connective of the operands, in a good state with the same ledger -/
theorem C01_apply_every_history2 (ops : List UOp2) (hg : Ops2Guarded ops St.init)
    (op : String) (c : Conn) (hc : docConn op = some c) (h2 : c.arity = 2)
    (hq1 : c ≠ .forall_) (hq2 : c ≠ .exists_) (hall : Gen.allOps.contains op = true)
    (u v : Int) (hu : ⟪ops⟫.m.tbl.Mem u) (hv : ⟪ops⟫.m.tbl.Mem v) :
    ∃ r m', runOp2 (.base (.apply op u (some v) none)) ⟪ops⟫.m = (.ok (.ref r), m') ∧
      Good2 m' ⟪ops⟫.ext ∧ m'.tbl.Mem r ∧
      ∀ a, den m'.tbl r a = c.eval (den ⟪ops⟫.m.tbl u a) (den ⟪ops⟫.m.tbl v a) false := by
  have hG := reachable2_inv ops hg
  obtain ⟨r, m', he, -, -, hm, -, hd⟩ :=
    apply_binary_spec ⟪ops⟫.m hG.good.inv hG.good.off op c hc h2 hq1 hq2 hall u v hu hv
  have hrun : runOp2 (.base (.apply op u (some v) none)) ⟪ops⟫.m = (.ok (.ref r), m') := by
    simp only [runOp2, runOp, mapRes, he]
  exact ⟨r, m', hrun, step2_inv_eq hG hrun trivial, hm, hd⟩

/-- C01: `ite` after ANY history (reorderings, warm computed table, re-used numbers, …) -/
theorem C01_ite_every_history2 (ops : List UOp2) (hg : Ops2Guarded ops St.init)
    (g u v : Int) (hgm : ⟪ops⟫.m.tbl.Mem g) (hu : ⟪ops⟫.m.tbl.Mem u) (hv : ⟪ops⟫.m.tbl.Mem v) :
    ∃ r m', runOp2 (.base (.ite g u v)) ⟪ops⟫.m = (.ok (.ref r), m') ∧
      Good2 m' ⟪ops⟫.ext ∧ m'.tbl.Mem r ∧
      ∀ a, den m'.tbl r a = if den ⟪ops⟫.m.tbl g a then den ⟪ops⟫.m.tbl u a else den ⟪ops⟫.m.tbl v a := by
  have hG := reachable2_inv ops hg
  obtain ⟨r, m', he, hp⟩ := ite_spec_off' ⟪ops⟫.m hG.good.inv hG.good.off g u v hgm hu hv
  have hrun : runOp2 (.base (.ite g u v)) ⟪ops⟫.m = (.ok (.ref r), m') := by
    simp only [runOp2, runOp, mapRes, he]
  exact ⟨r, m', hrun, step2_inv_eq hG hrun trivial, hp.mem, hp.den⟩

/-- C01: negation after ANY history -/
theorem C01_neg_every_history2 (ops : List UOp2) (hg : Ops2Guarded ops St.init)
    (op : String) (hc : docConn op = some .not) (hall : Gen.allOps.contains op = true)
    (u : Int) (hu : ⟪ops⟫.m.tbl.Mem u) :
    runOp2 (.base (.apply op u none none)) ⟪ops⟫.m = (.ok (.ref (-u)), ⟪ops⟫.m) ∧
      ⟪ops⟫.m.tbl.Mem (-u) ∧ ∀ a, den ⟪ops⟫.m.tbl (-u) a = !den ⟪ops⟫.m.tbl u a := by
  have hG := reachable2_inv ops hg
  obtain ⟨he, hm, hd⟩ := apply_not_spec ⟪ops⟫.m hG.good.inv op hc hall u hu
  exact ⟨by simp only [runOp2, runOp, mapRes, he], hm, hd⟩

/-- C01: `var(name)` of a declared variable denotes that variable — whatever level the
reorderings of the history left it at -/
theorem C01_var_every_history2 (ops : List UOp2) (hg : Ops2Guarded ops St.init)
    (name : String) (j : Nat) (hj : ⟪ops⟫.m.tbl.vars[name]? = some j) :
    ∃ r m', runOp2 (.base (.var name)) ⟪ops⟫.m = (.ok (.ref r), m') ∧
      Good2 m' ⟪ops⟫.ext ∧ m'.tbl.Mem r ∧ (∀ a, den m'.tbl r a = a j) ∧
      ∀ σ, denN m'.tbl r σ = σ name := by
  have hG := reachable2_inv ops hg
  obtain ⟨r, m', he, hk, hm, hd⟩ :=
    var_spec ⟪ops⟫.m hG.good.inv hG.good.off name j hj (hG.good.order.lt name j hj)
  have hrun : runOp2 (.base (.var name)) ⟪ops⟫.m = (.ok (.ref r), m') := by
    simp only [runOp2, runOp, mapRes, he]
  have hS : Good2 m' ⟪ops⟫.ext := step2_inv_eq hG hrun trivial
  refine ⟨r, m', hrun, hS, hm, hd, fun σ => ?_⟩
  unfold denN
  rw [hd]
  exact congrArg σ (hS.good.order.nameOf_level (by rw [hk.frame.vars]; exact hj))

/-- C14: after ANY history — swaps, siftings, reorderings, removals — `vars` / `_level_to_var`
are inverse bijections onto `0 .. n-1`; declaring a new name appends it at the bottom level and
moves nothing else -/
theorem C14_order_every_history2 (ops : List UOp2) (hg : Ops2Guarded ops St.init) :
    OrderOK ⟪ops⟫.m.tbl ∧
    ∀ name : String, ⟪ops⟫.m.tbl.vars[name]? = none →
      ∃ m', runOp2 (.base (.declare name none)) ⟪ops⟫.m = (.ok (.lvl ⟪ops⟫.m.nvars), m') ∧
        Good2 m' ⟪ops⟫.ext ∧ m'.tbl.vars[name]? = some ⟪ops⟫.m.nvars ∧
        (∀ (v : String) (i : Nat), ⟪ops⟫.m.tbl.vars[v]? = some i → m'.tbl.vars[v]? = some i) ∧
        (∀ u, ⟪ops⟫.m.tbl.Mem u → m'.tbl.Mem u ∧ ∀ a, den m'.tbl u a = den ⟪ops⟫.m.tbl u a) := by
  have hG := reachable2_inv ops hg
  refine ⟨hG.good.order, fun name hnew => ?_⟩
  obtain ⟨m', he, -, -, -, hv, hold, hden, -, -⟩ :=
    addVar_new_run ⟪ops⟫.m hG.good.inv hG.good.order name hnew
  have hrun : runOp2 (.base (.declare name none)) ⟪ops⟫.m = (.ok (.lvl ⟪ops⟫.m.nvars), m') := by
    simp only [runOp2, runOp, mapRes, he]
  exact ⟨_, hrun, step2_inv_eq hG hrun trivial, hv, hold, hden⟩

/-- C14: after ANY history, `undeclare_vars` with ANY names either raises `ValueError` leaving
the manager exactly as it was, or succeeds: good state, same ledger, every reference keeps its
function by name -/
theorem C14_undeclare_every_history2 (ops : List UOp2) (hg : Ops2Guarded ops St.init)
    (vrs : List String) :
    ((runOp2 (.undeclare vrs) ⟪ops⟫.m).1 = .error .value ∧
      (step2 (.undeclare vrs) ⟪ops⟫).m = ⟪ops⟫.m) ∨
    ((runOp2 (.undeclare vrs) ⟪ops⟫.m).1 = .ok .unit ∧
      Good2 (step2 (.undeclare vrs) ⟪ops⟫).m ⟪ops⟫.ext ∧
      ∀ u, ⟪ops⟫.m.tbl.Mem u → (step2 (.undeclare vrs) ⟪ops⟫).m.tbl.Mem u ∧
        ∀ σ, denN (step2 (.undeclare vrs) ⟪ops⟫).m.tbl u σ = denN ⟪ops⟫.m.tbl u σ) := by
  have hG := reachable2_inv ops hg
  rcases undeclare_step _ _ hG.good3 vrs with ⟨h1, h2⟩ | ⟨⟨rm, hok⟩, h2, hl, h3⟩
  · left
    refine ⟨?_, h2⟩
    show (mapRes _ (undeclareVars vrs ⟪ops⟫.m)).1 = _
    simp only [mapRes, h1]
  · right
    refine ⟨?_, h2.good2 (hl.trans hG.good.off), h3⟩
    show (mapRes _ (undeclareVars vrs ⟪ops⟫.m)).1 = _
    simp only [mapRes, hok]

/-- seventeen calls on three variables: `a ∧ b` is built and held; `swap(a, b)` (its collection
frees the node of `a`, the swap re-creates it at the re-used number 2, one level down); a
sifting with a recorded order of the variables; a reordering to the order b, c, a; a REJECTED
swap (not adjacent), the removal of `c`, a REJECTED reordering (wrong length), and the second
route to `a ∧ b` in the new order: the SAME reference 4 -/
def exHistoryR : List UOp2 :=
  [ .base (.declare "a" none), .base (.declare "b" none), .base (.declare "c" none),
    .base (.var "a"),                                -- node 2
    .base (.var "b"),                                -- node 3
    .base (.apply "and" 2 (some 3) none),            -- node 4 = a ∧ b
    .base (.incref 4),                               -- the user holds node 4
    .swap [] (.name "a") (.name "b"),                -- order b, a, c
    .sift [.sift ["c", "a", "b"]],                   -- Rudell sifting, recorded set order
    .reorderTo [] [("a", 2), ("b", 0), ("c", 1)],    -- order b, c, a
    .swap [] (.level 0) (.level 2),                  -- REJECTED: not adjacent
    .undeclare ["c"],                                -- order b, a
    .reorderTo [] [("a", 0)],                        -- REJECTED: one name, two variables
    .base (.var "a"),                                -- node 2 (level 1)
    .base (.var "b"),                                -- node 3 (level 0)
    .base (.apply "and" 2 (some 3) none),            -- the SAME reference 4
    .sift [] ]                                       -- two variables: returns normally

def resCode2 : Except Err Res → Int
  | .ok (.ref u) => u
  | .ok (.lvl n) => 1000 + n
  | .ok .unit => 0
  | .error _ => -1000

/-- the whole history in one statement (the kernel evaluates a closed term once per declaration):
its guards, the answers of its calls, and the state it ends in (two variables, `a` at level 1;
nodes 2 and 4 exist, node 4 held once) -/
theorem exHistoryR_run : Ops2Guarded exHistoryR St.init ∧
    (results2 exHistoryR St.init).map resCode2 =
      [1000, 1001, 1002, 2, 3, 4, 0, 0, 0, 0, -1000, 0, -1000, 2, 3, 4, 0] ∧
    ⟪exHistoryR⟫.m.tbl.vars.toList = [("a", 1), ("b", 0)] ∧ ⟪exHistoryR⟫.ext 4 = 1 ∧
    ¬ OpGuard2 ⟪exHistoryR⟫.m ⟪exHistoryR⟫.ext (.sift [.sift ["zz"]]) ∧
    ⟪exHistoryR⟫.m.tbl.Mem 4 ∧ ⟪exHistoryR⟫.m.tbl.Mem 2 ∧
    ⟪exHistoryR⟫.m.tbl.vars["a"]? = some 1 ∧
    ⟪exHistoryR⟫.m.tbl.vars["c"]? = none ∧ ⟪exHistoryR⟫.m.nvars = 2 := by
  decide +kernel

/-- the history respects the obligations (the recorded sifting order is a possible one) … -/
theorem exHistoryR_guarded : Ops2Guarded exHistoryR St.init := exHistoryR_run.1

/-- … and does what the comments say (`-1000` = rejected) -/
theorem exHistoryR_results : (results2 exHistoryR St.init).map resCode2 =
    [1000, 1001, 1002, 2, 3, 4, 0, 0, 0, 0, -1000, 0, -1000, 2, 3, 4, 0] := exHistoryR_run.2.1

/-- every prefix of the history respects the obligations -/
theorem exHistoryR_prefix (k : Nat) : Ops2Guarded (exHistoryR.take k) St.init :=
  ops2Guarded_take k exHistoryR_guarded

/-! What the examples below need of the states along the history, one statement per state. -/

/-- after seven calls, before the swap of `a` and `b`: node 4 is held, `a`, `b` are at the levels 0, 1 -/
theorem exHistoryR_at7 :
    OpGuard2 ⟪exHistoryR.take 7⟫.m ⟪exHistoryR.take 7⟫.ext (.swap [] (.name "a") (.name "b")) ∧
    0 < ⟪exHistoryR.take 7⟫.ext 4 ∧ 0 + 1 < ⟪exHistoryR.take 7⟫.m.nvars ∧
    ⟪exHistoryR.take 7⟫.m.tbl.vars["a"]? = some 0 ∧ ⟪exHistoryR.take 7⟫.m.tbl.vars["b"]? = some 1 := by
  decide +kernel

/-- the states between the eighth and the thirteenth call — after the swap (8
calls): before the sifting; after the sifting (9): before the reordering to the order b, c, a;
after that reordering (10): the swap of the levels 0 and 2 is admissible, and rejected; after 11
calls `c` can be removed; after 12 the order of the wrong length is rejected -/
theorem exHistoryR_mid :
    (⟪exHistoryR.take 8⟫.m.tbl.vars.toList = [("a", 1), ("b", 0), ("c", 2)] ∧
      2 ≤ ⟪exHistoryR.take 8⟫.m.nvars ∧
      OpGuard2 ⟪exHistoryR.take 8⟫.m ⟪exHistoryR.take 8⟫.ext (.sift [.sift ["c", "a", "b"]]) ∧
      0 < ⟪exHistoryR.take 8⟫.ext 4) ∧
    (reqOrderB [("a", 2), ("b", 0), ("c", 1)] ⟪exHistoryR.take 9⟫.m = true ∧
      OpGuard2 ⟪exHistoryR.take 9⟫.m ⟪exHistoryR.take 9⟫.ext (.reorderTo [] [("a", 2), ("b", 0), ("c", 1)]) ∧
      ⟪exHistoryR.take 9⟫.m.tbl.vars.contains "a" = true) ∧
    (⟪exHistoryR.take 10⟫.m.tbl.vars.toList = [("a", 2), ("b", 0), ("c", 1)] ∧
      OpGuard2 ⟪exHistoryR.take 10⟫.m ⟪exHistoryR.take 10⟫.ext (.swap [] (.level 0) (.level 2)) ∧
      (runOp2 (.swap [] (.level 0) (.level 2)) ⟪exHistoryR.take 10⟫.m).1 = .error .value) ∧
    (runOp2 (.undeclare ["c"]) ⟪exHistoryR.take 11⟫.m).1 = .ok .unit ∧
    (runOp2 (.reorderTo [] [("a", 0)]) ⟪exHistoryR.take 12⟫.m).1 = .error .value := by
  decide +kernel

/-- the orders along the way: after the swap, after the reordering to an order, at the end -/
example : ⟪exHistoryR.take 8⟫.m.tbl.vars.toList = [("a", 1), ("b", 0), ("c", 2)] ∧
    ⟪exHistoryR.take 10⟫.m.tbl.vars.toList = [("a", 2), ("b", 0), ("c", 1)] ∧
    ⟪exHistoryR⟫.m.tbl.vars.toList = [("a", 1), ("b", 0)] ∧ ⟪exHistoryR⟫.ext 4 = 1 :=
  ⟨exHistoryR_mid.1.1, exHistoryR_mid.2.2.1.1, exHistoryR_run.2.2.1, exHistoryR_run.2.2.2.1⟩

example : Good2 ⟪exHistoryR⟫.m ⟪exHistoryR⟫.ext := reachable2_inv exHistoryR exHistoryR_guarded

/-- a recorded schedule that is no permutation of the variables IS reported by the model: such a
history is excluded by the guard, not silently accepted -/
example : ¬ OpGuard2 ⟪exHistoryR⟫.m ⟪exHistoryR⟫.ext (.sift [.sift ["zz"]]) := exHistoryR_run.2.2.2.2.1

/-- with the default orders every reordering call is admissible after the history, whatever its
arguments -/
example (x y : VarOrLevel) (o : List (String × Int)) :
    OpGuard2 ⟪exHistoryR⟫.m ⟪exHistoryR⟫.ext (.swap [] x y) ∧
    OpGuard2 ⟪exHistoryR⟫.m ⟪exHistoryR⟫.ext (.reorderTo [] o) :=
  have h := guard2_default _ _ (reachable2_inv exHistoryR exHistoryR_guarded)
  ⟨h.1 x y, h.2.2.1 o⟩

/-- C02 on the example: node 4 is the only node denoting `a ∧ b` by name after the history -/
example (v : Int) (hv : ⟪exHistoryR⟫.m.tbl.Mem v) :
    (∀ σ, denN ⟪exHistoryR⟫.m.tbl 4 σ = denN ⟪exHistoryR⟫.m.tbl v σ) ↔ 4 = v :=
  (C02_canonical_every_history2 exHistoryR exHistoryR_guarded 4 v exHistoryR_run.2.2.2.2.2.1 hv).1

/-- node 4 is held from call 7 on, through the swap, the sifting and the reordering -/
theorem exHistoryR_held (p q : List UOp2) (hpq : (exHistoryR.drop 7).take 5 = p ++ q) :
    0 < (run2 p ⟪exHistoryR.take 7⟫).ext (4 : Int).natAbs :=
  of_takes (P := fun p => 0 < (run2 p ⟪exHistoryR.take 7⟫).ext (4 : Int).natAbs) (by decide +kernel) hpq

/-- C02 across time and orders on the example: whatever node denotes, after the swap, the
sifting, the reordering, the rejected swap and the removal of `c`, the function that node 4
denoted (by name) when it was taken, is node 4 -/
example (v : Int) (hv : ⟪exHistoryR.take 7 ++ (exHistoryR.drop 7).take 5⟫.m.tbl.Mem v)
    (hsame : ∀ σ, denN ⟪exHistoryR.take 7 ++ (exHistoryR.drop 7).take 5⟫.m.tbl v σ =
      denN ⟪exHistoryR.take 7⟫.m.tbl 4 σ) : v = 4 :=
  C02_routes_agree_held2 (exHistoryR.take 7) ((exHistoryR.drop 7).take 5) (exHistoryR_prefix 12) 4 v
    (fun p q h => exHistoryR_held p q h) hv hsame

/-- C06 on the example -/
example : RefExact ⟪exHistoryR⟫.m ⟪exHistoryR⟫.ext :=
  (C06_counts_exact_every_history2 exHistoryR exHistoryR_guarded).1

/-- C07 on the example: the eighth call is a swap issued after seven calls, with node 4 held -/
example : (UOp2.swap [] (.name "a") (.name "b")).IsReorder ∧
    Ops2Guarded (exHistoryR.take 7) St.init ∧
    OpGuard2 ⟪exHistoryR.take 7⟫.m ⟪exHistoryR.take 7⟫.ext (.swap [] (.name "a") (.name "b")) ∧
    0 < ⟪exHistoryR.take 7⟫.ext 4 :=
  ⟨Or.inl ⟨_, _, _, rfl⟩, exHistoryR_prefix 7, exHistoryR_at7.1, exHistoryR_at7.2.1⟩

/-- … its arguments denote the adjacent levels 0, 1 … -/
example : 0 + 1 < ⟪exHistoryR.take 7⟫.m.nvars ∧ Resolves ⟪exHistoryR.take 7⟫.m (.name "a") 0 ∧
    Resolves ⟪exHistoryR.take 7⟫.m (.name "b") 1 :=
  ⟨exHistoryR_at7.2.2.1, exHistoryR_at7.2.2.2.1, exHistoryR_at7.2.2.2.2⟩

/-- … the ninth a sifting with three variables, the tenth a reordering to a bijective order -/
example : 2 ≤ ⟪exHistoryR.take 8⟫.m.nvars ∧ (UOp2.sift [.sift ["c", "a", "b"]]).IsReorder ∧
    (UOp2.reorderTo [] [("a", 2), ("b", 0), ("c", 1)]).IsReorder :=
  ⟨exHistoryR_mid.1.2.1, Or.inr (Or.inl ⟨_, rfl⟩), Or.inr (Or.inr ⟨_, _, rfl⟩)⟩

/-- the tenth call asks for a bijective order of the three variables -/
theorem exHistoryR_reqOrder : ReqOrder [("a", 2), ("b", 0), ("c", 1)] ⟪exHistoryR.take 9⟫.m :=
  reqOrder_of_check exHistoryR_mid.2.1.1

/-- C07 applied to the example: the swap after seven calls keeps node 4 (held) a node with the
same function of `a`, `b`, `c` and the same counter equation … -/
example : ⟪exHistoryR.take 7⟫.m.tbl.Mem 4 ∧
    (step2 (.swap [] (.name "a") (.name "b")) ⟪exHistoryR.take 7⟫).m.tbl.Mem 4 ∧
    (∀ σ, denN (step2 (.swap [] (.name "a") (.name "b")) ⟪exHistoryR.take 7⟫).m.tbl 4 σ =
      denN ⟪exHistoryR.take 7⟫.m.tbl 4 σ) :=
  have h := (C07_held_every_history2 (exHistoryR.take 7) (exHistoryR_prefix 7) _ (Or.inl ⟨_, _, _, rfl⟩)
    exHistoryR_at7.1).2.2.2.2 4 exHistoryR_at7.2.1
  ⟨h.1, h.2.1, h.2.2.1⟩

/-- … it exchanges exactly the names at the levels 0 and 1 … -/
example : ∀ j, (step2 (.swap [] (.name "a") (.name "b")) ⟪exHistoryR.take 7⟫).m.tbl.l2v[j]? =
    ⟪exHistoryR.take 7⟫.m.tbl.l2v[swp 0 1 j]? :=
  (C07_swap_every_history2 (exHistoryR.take 7) (exHistoryR_prefix 7) [] (.name "a") (.name "b") 0 0 1
    exHistoryR_at7.2.2.1 exHistoryR_at7.2.2.2.1 exHistoryR_at7.2.2.2.2 (Or.inl ⟨rfl, rfl⟩)
    exHistoryR_at7.1).2

/-- … the sifting after eight calls returns normally and leaves no unreferenced node, and the
reordering after nine calls reaches exactly the requested order -/
example : NoGarbage (step2 (.sift [.sift ["c", "a", "b"]]) ⟪exHistoryR.take 8⟫).m :=
  (C07_sift_every_history2 (exHistoryR.take 8) (exHistoryR_prefix 8) _ exHistoryR_mid.1.2.1
    exHistoryR_mid.1.2.2.1).2

example : (step2 (.reorderTo [] [("a", 2), ("b", 0), ("c", 1)]) ⟪exHistoryR.take 9⟫).m.tbl.vars["a"]? =
    some 2 :=
  ((C07_reorderTo_every_history2 (exHistoryR.take 9) (exHistoryR_prefix 9) [] _ exHistoryR_reqOrder
    exHistoryR_mid.2.1.2.1).2 "a" 2 (by decide) exHistoryR_mid.2.1.2.2).1

/-- C06 on the example: the collection inside the swap, the sifting … never free node 4 -/
example : (step2 (.sift [.sift ["c", "a", "b"]]) ⟪exHistoryR.take 8⟫).m.tbl.Mem 4 :=
  (C06_held_every_history2 (exHistoryR.take 8) (exHistoryR_prefix 8) _ exHistoryR_mid.1.2.2.1 4
    exHistoryR_mid.1.2.2.2).2.1

/-- C17 on the example: the eleventh call (`swap` of the levels 0 and 2) is rejected in the state
reached by the first ten; so is the thirteenth (`reorder` to an order of the wrong length) -/
theorem exHistoryR_rejected :
    (runOp2 (.swap [] (.level 0) (.level 2)) ⟪exHistoryR.take 10⟫.m).1 = .error .value ∧
    (runOp2 (.reorderTo [] [("a", 0)]) ⟪exHistoryR.take 12⟫.m).1 = .error .value :=
  ⟨exHistoryR_mid.2.2.1.2.2, exHistoryR_mid.2.2.2.2⟩

example : Good2 (step2 (.swap [] (.level 0) (.level 2)) ⟪exHistoryR.take 10⟫).m
    (step2 (.swap [] (.level 0) (.level 2)) ⟪exHistoryR.take 10⟫).ext :=
  (C17_error_then_normal2 (exHistoryR.take 10) (exHistoryR_prefix 10) _ exHistoryR_mid.2.2.1.2.1
    .value exHistoryR_rejected.1).1

/-- C01 on the example: the operands are nodes after the whole history (the node of `b` alone,
held by nobody, was freed by the collection of the last sifting) -/
example : ∃ r m', runOp2 (.base (.apply "/\\" 2 (some 4) none)) ⟪exHistoryR⟫.m = (.ok (.ref r), m') ∧
    Good2 m' ⟪exHistoryR⟫.ext ∧ m'.tbl.Mem r ∧
    ∀ a, den m'.tbl r a = (den ⟪exHistoryR⟫.m.tbl 2 a && den ⟪exHistoryR⟫.m.tbl 4 a) :=
  C01_apply_every_history2 exHistoryR exHistoryR_guarded "/\\" .and (by decide) (by decide)
    (by decide) (by decide) (by decide) 2 4 exHistoryR_run.2.2.2.2.2.2.1 exHistoryR_run.2.2.2.2.2.1

/-- C01 (`ite`, negation, `var`) on the example -/
example : ∃ r m', runOp2 (.base (.ite 4 2 (-1))) ⟪exHistoryR⟫.m = (.ok (.ref r), m') ∧ m'.tbl.Mem r := by
  obtain ⟨r, m', h1, -, h3, -⟩ := C01_ite_every_history2 exHistoryR exHistoryR_guarded 4 2 (-1)
    exHistoryR_run.2.2.2.2.2.1 exHistoryR_run.2.2.2.2.2.2.1 (by decide)
  exact ⟨r, m', h1, h3⟩

example : runOp2 (.base (.apply "!" 4 none none)) ⟪exHistoryR⟫.m = (.ok (.ref (-4)), ⟪exHistoryR⟫.m) :=
  (C01_neg_every_history2 exHistoryR exHistoryR_guarded "!" (by decide) (by decide) 4
    exHistoryR_run.2.2.2.2.2.1).1

/-- `a` ended at level 1: `var("a")` denotes the variable `a` all the same -/
example : ∃ r m', runOp2 (.base (.var "a")) ⟪exHistoryR⟫.m = (.ok (.ref r), m') ∧
    ∀ σ, denN m'.tbl r σ = σ "a" := by
  obtain ⟨r, m', h1, -, -, -, h5⟩ :=
    C01_var_every_history2 exHistoryR exHistoryR_guarded "a" 1 exHistoryR_run.2.2.2.2.2.2.2.1
  exact ⟨r, m', h1, h5⟩

/-- C14 (removal) on the example: after eleven calls `c` carries no node -/
example : (runOp2 (.undeclare ["c"]) ⟪exHistoryR.take 11⟫.m).1 = .ok .unit := by
  rcases C14_undeclare_every_history2 (exHistoryR.take 11) (exHistoryR_prefix 11) ["c"] with h | h
  · exact absurd (h.1.symm.trans exHistoryR_mid.2.2.2.1) (by decide)
  · exact h.1

example : Good2 ⟪exHistoryR.take 5⟫.m ⟪exHistoryR.take 5⟫.ext :=
  C17_every_prefix_good2 (exHistoryR.take 5) (exHistoryR.drop 5)
    (by rw [List.take_append_drop]; exact exHistoryR_guarded)

/-- C14 on the example: `c` is not declared any more after the history -/
example : ⟪exHistoryR⟫.m.tbl.vars["c"]? = none ∧ ⟪exHistoryR⟫.m.nvars = 2 :=
  exHistoryR_run.2.2.2.2.2.2.2.2

/-- an embedded history is a history: the theorems of DDProps.Histories are instances -/
example (ops : List UOp) (hg : OpsGuarded ops St.init) :
    Good2 (run ops St.init).m (run ops St.init).ext := by
  rw [← run2_base]
  exact reachable2_inv _ ((ops2Guarded_base ops St.init).mpr hg)

/-! ## Part 2 — dynamic reordering switched ON in the history

`UOp3` (DDProofs.Calls) = `UOp2` + `configure(reordering=b)`.  `Good3` is `Good2` without the
clause `_last_len = None`.  `⟪ops⟫₃` is the state after `ops` from the empty manager.  The guard
is that of `UOp2`, nothing more: neither "operands held" nor "two variables declared" is needed
for the invariant; they are hypotheses of the theorems that describe RESULTS (C09) and of "the
switch is unchanged". -/

local notation "⟪" ops "⟫₃" => run3 ops St.init

/-- C17: every state of a history with `configure` in it — after every call, accepted or rejected —
is good -/
theorem C17_every_prefix_good3 (pre post : List UOp3) (hg : Ops3Guarded (pre ++ post) St.init) :
    Good3 ⟪pre⟫₃.m ⟪pre⟫₃.ext :=
  level3.prefix_good pre post St.init Good3.init hg

/-- C09 as a statement about histories: after ANY history — reordering enabled or not at that
point, whatever automatic and explicit reorderings, collections and rejected calls happened —
with two variables declared the manager is in the state `DynInv` from which every C09 theorem
starts; in particular (generic form) EVERY decorated body whose outcome is "documented result by
name, or aborted having only added nodes" is transparent there, for operands the user holds -/
theorem C09_every_history (ops : List UOp3) (hg : Ops3Guarded ops St.init)
    (h2 : 2 ≤ ⟪ops⟫₃.m.nvars) :
    DynInv ⟪ops⟫₃.ext ⟪ops⟫₃.m ∧
    ∀ {α : Type} (f : M α) (opnds : List Int) (Pre : Tbl → Prop) (Doc : Tbl → α → Tbl → Prop),
      (∀ m0 : Mgr, Inv m0 → m0.ctx = true → OrderOK m0.tbl → Pre m0.tbl →
        (∀ u ∈ opnds, m0.tbl.Mem u) → Outcome m0 (fun r m1 => Doc m0.tbl r m1.tbl) (f m0)) →
      (∀ t t', Bridge opnds t t' → Pre t → Pre t') →
      (∀ t t' r t'', Bridge opnds t t' → Pre t → Doc t' r t'' → Doc t r t'') →
      (∀ u ∈ opnds, HeldX ⟪ops⟫₃.ext u) → Pre ⟪ops⟫₃.m.tbl →
      ∃ r m', tryToReorder f ⟪ops⟫₃.m = (.ok r, m') ∧ DynPostG ⟪ops⟫₃.ext Doc ⟪ops⟫₃.m r m' ∧
        Good3 m' ⟪ops⟫₃.ext := by
  have hG := reachable3_inv ops hg
  have hD := hG.dynInv h2
  refine ⟨hD, fun f opnds Pre Doc hbody hpre hdoc hops hpre0 => ?_⟩
  obtain ⟨r, m', he, hp⟩ :=
    C09_decorator_transparent ⟪ops⟫₃.ext f opnds Pre Doc hbody hpre hdoc ⟪ops⟫₃.m hD hops hpre0
  exact ⟨r, m', he, hp, hp.inv.good3 (hp.roots.trans hG.roots)⟩

/-- C09 / C01: `ite` after ANY history, reordering possibly enabled, the request firing at
whichever node creation: for operands the user holds (or constants) the call returns normally;
the result denotes, BY NAME, the if-then-else of the operands as they were; the state is good
for the same ledger; reordering is enabled iff it was; every held reference keeps its function -/
theorem C01_ite_every_history_dyn (ops : List UOp3) (hg : Ops3Guarded ops St.init)
    (h2 : 2 ≤ ⟪ops⟫₃.m.nvars) (g u v : Int) (hgh : HeldX ⟪ops⟫₃.ext g) (hu : HeldX ⟪ops⟫₃.ext u)
    (hv : HeldX ⟪ops⟫₃.ext v) :
    ∃ r m', runOp3 (.op (.base (.ite g u v))) ⟪ops⟫₃.m = (.ok (.ref r), m') ∧
      Good3 m' ⟪ops⟫₃.ext ∧ m'.lastLen.isSome = ⟪ops⟫₃.m.lastLen.isSome ∧ m'.tbl.Mem r ∧
      (∀ σ, denN m'.tbl r σ =
        if denN ⟪ops⟫₃.m.tbl g σ then denN ⟪ops⟫₃.m.tbl u σ else denN ⟪ops⟫₃.m.tbl v σ) ∧
      (∀ w, HeldX ⟪ops⟫₃.ext w → m'.tbl.Mem w ∧ ∀ σ, denN m'.tbl w σ = denN ⟪ops⟫₃.m.tbl w σ) := by
  have hG := reachable3_inv ops hg
  obtain ⟨r, m', he, hp⟩ := C09_ite_transparent ⟪ops⟫₃.ext ⟪ops⟫₃.m (hG.dynInv h2) g u v hgh hu hv
  refine ⟨r, m', ?_, hp.inv.good3 (hp.roots.trans hG.roots), hp.enabled, hp.doc.1, hp.doc.2, hp.held⟩
  simp only [runOp3, runOp2, runOp, mapRes, he]

/-- C09 / C01: `apply` of every spelling of a binary propositional connective after ANY history,
reordering possibly enabled -/
theorem C01_apply_every_history_dyn (ops : List UOp3) (hg : Ops3Guarded ops St.init)
    (h2 : 2 ≤ ⟪ops⟫₃.m.nvars)
    (op : String) (c : Conn) (hc : docConn op = some c) (ha : c.arity = 2)
    (hq1 : c ≠ .forall_) (hq2 : c ≠ .exists_) (hall : Gen.allOps.contains op = true)
    (u v : Int) (hu : HeldX ⟪ops⟫₃.ext u) (hv : HeldX ⟪ops⟫₃.ext v) :
    ∃ r m', runOp3 (.op (.base (.apply op u (some v) none))) ⟪ops⟫₃.m = (.ok (.ref r), m') ∧
      Good3 m' ⟪ops⟫₃.ext ∧ m'.lastLen.isSome = ⟪ops⟫₃.m.lastLen.isSome ∧ m'.tbl.Mem r ∧
      (∀ σ, denN m'.tbl r σ = c.eval (denN ⟪ops⟫₃.m.tbl u σ) (denN ⟪ops⟫₃.m.tbl v σ) false) ∧
      (∀ w, HeldX ⟪ops⟫₃.ext w → m'.tbl.Mem w ∧ ∀ σ, denN m'.tbl w σ = denN ⟪ops⟫₃.m.tbl w σ) := by
  have hG := reachable3_inv ops hg
  obtain ⟨r, m', he, hp⟩ := C09_apply_binary_transparent ⟪ops⟫₃.ext ⟪ops⟫₃.m (hG.dynInv h2) op c hc ha
    hq1 hq2 hall u v hu hv
  refine ⟨r, m', ?_, hp.inv.good3 (hp.roots.trans hG.roots), hp.enabled, hp.doc.1, hp.doc.2, hp.held⟩
  simp only [runOp3, runOp2, runOp, mapRes, he]

/-- C02 with reordering switched on and off in the history: two nodes are equal exactly when they
denote the same function of the variable names -/
theorem C02_canonical_every_history3 (ops : List UOp3) (hg : Ops3Guarded ops St.init) (u v : Int)
    (hu : ⟪ops⟫₃.m.tbl.Mem u) (hv : ⟪ops⟫₃.m.tbl.Mem v) :
    (∀ σ, denN ⟪ops⟫₃.m.tbl u σ = denN ⟪ops⟫₃.m.tbl v σ) ↔ u = v :=
  ((reachable3_inv ops hg).canonical u v hu hv).1

/-- C06 / C07 with reordering switched on and off in the history: the counts are exact, and the
next call — a decorated operation that sifts the manager, an explicit reordering, a collection —
keeps every reference the user holds: a node under the same number, the same function by name,
counter = stored edges + the user's references; the internal signal never reaches the user; the
switch is changed by `configure` only (outside the situation `SwitchSafe` excludes: reordering
enabled, a decorated call, fewer than two variables) -/
theorem C06_held_every_history3 (ops : List UOp3) (hg : Ops3Guarded ops St.init) (op : UOp3)
    (hop : OpGuard3 ⟪ops⟫₃.m ⟪ops⟫₃.ext op) :
    RefExact ⟪ops⟫₃.m ⟪ops⟫₃.ext ∧ Good3 (step3 op ⟪ops⟫₃).m (step3 op ⟪ops⟫₃).ext ∧
    (runOp3 op ⟪ops⟫₃.m).1 ≠ .error .needsReordering ∧
    (SwitchSafe ⟪ops⟫₃.m op →
      (step3 op ⟪ops⟫₃).m.lastLen.isSome = op.switchAfter ⟪ops⟫₃.m.lastLen.isSome) ∧
    ∀ u : Int, 0 < ⟪ops⟫₃.ext u.natAbs →
      ⟪ops⟫₃.m.tbl.Mem u ∧ (step3 op ⟪ops⟫₃).m.tbl.Mem u ∧
      (∀ σ, denN (step3 op ⟪ops⟫₃).m.tbl u σ = denN ⟪ops⟫₃.m.tbl u σ) ∧
      (step3 op ⟪ops⟫₃).m.ref[u.natAbs]? =
        some (indeg (step3 op ⟪ops⟫₃).m.tbl u.natAbs + (step3 op ⟪ops⟫₃).ext u.natAbs +
          (if u.natAbs = 1 then 1 else 0)) :=
  have hG := reachable3_inv ops hg
  have ⟨a, b, c, d⟩ := level3.next_call _ hG op hop
  ⟨hG.exact, a, b, c, fun u hu => have ⟨d1, d2, d3, _, d5⟩ := d u hu; ⟨d1, d2, d3, d5⟩⟩

/-- C17 with reordering switched on and off in the history: after ANY history a call that raises
— reordering enabled or not, in the first attempt or in the RETRY after a sifting — never raises
the internal signal and leaves a good state: the ledger untouched, reordering enabled iff it was
(two variables declared), every held reference a node with the same function by name; hence every
theorem applies to the next call, whatever it is; and with two variables declared the next `ite` on
held operands returns the if-then-else of the operands AS THEY WERE BEFORE the rejected call, by
name -/
theorem C17_error_then_normal_dyn_history (ops : List UOp3) (hg : Ops3Guarded ops St.init) (op : UOp3)
    (hop : OpGuard3 ⟪ops⟫₃.m ⟪ops⟫₃.ext op) (e : Err) (hrej : (runOp3 op ⟪ops⟫₃.m).1 = .error e) :
    e ≠ .needsReordering ∧
    Good3 (step3 op ⟪ops⟫₃).m (step3 op ⟪ops⟫₃).ext ∧
    (step3 op ⟪ops⟫₃).ext = ⟪ops⟫₃.ext ∧
    (2 ≤ ⟪ops⟫₃.m.nvars → (step3 op ⟪ops⟫₃).m.lastLen.isSome = ⟪ops⟫₃.m.lastLen.isSome) ∧
    (∀ w : Int, HeldX ⟪ops⟫₃.ext w → (step3 op ⟪ops⟫₃).m.tbl.Mem w ∧
      ∀ σ, denN (step3 op ⟪ops⟫₃).m.tbl w σ = denN ⟪ops⟫₃.m.tbl w σ) ∧
    (∀ op2 : UOp3, OpGuard3 (step3 op ⟪ops⟫₃).m (step3 op ⟪ops⟫₃).ext op2 →
      Good3 (step3 op2 (step3 op ⟪ops⟫₃)).m (step3 op2 (step3 op ⟪ops⟫₃)).ext) ∧
    (2 ≤ (step3 op ⟪ops⟫₃).m.nvars → ∀ g u v : Int, HeldX ⟪ops⟫₃.ext g → HeldX ⟪ops⟫₃.ext u →
      HeldX ⟪ops⟫₃.ext v →
      ∃ r m'', runOp3 (.op (.base (.ite g u v))) (step3 op ⟪ops⟫₃).m = (.ok (.ref r), m'') ∧
        Good3 m'' ⟪ops⟫₃.ext ∧ m''.tbl.Mem r ∧
        ∀ σ, denN m''.tbl r σ =
          if denN ⟪ops⟫₃.m.tbl g σ then denN ⟪ops⟫₃.m.tbl u σ else denN ⟪ops⟫₃.m.tbl v σ) := by
  have hG := reachable3_inv ops hg
  obtain ⟨hne, hS, hl, hsw, -, hnext, -⟩ := level3.error_then_normal _ hG op hop e hrej
  have hH : Held2 ⟪ops⟫₃.ext ⟪ops⟫₃.m (step3 op ⟪ops⟫₃).m := step3_heldSame _ _ op hG hop
  refine ⟨hne, hS, hl, fun h2 => hsw (switchSafe_of_two _ op h2), fun w hw => hH.heldX hw, hnext, ?_⟩
  intro h2 g u v hgh hu hv
  rw [hl] at hS
  obtain ⟨r, m'', he, hp⟩ :=
    C09_ite_transparent ⟪ops⟫₃.ext (step3 op ⟪ops⟫₃).m (hS.dynInv h2) g u v hgh hu hv
  refine ⟨r, m'', ?_, hp.inv.good3 (hp.roots.trans hS.roots), hp.doc.1, fun σ => ?_⟩
  · simp only [runOp3, runOp2, runOp, mapRes, he]
  · rw [hp.doc.2 σ, (hH.heldX hgh).2 σ, (hH.heldX hu).2 σ, (hH.heldX hv).2 σ]

def resCode3 : Except Err Res → Int := resCode2

/-- a history with `configure`: explicit reorderings and a rejected call while reordering is
enabled, the switch turned off and on again -/
def exHistoryD : List UOp3 :=
  [ .op (.base (.declare "a" none)), .op (.base (.declare "b" none)), .op (.base (.declare "c" none)),
    .configure true,                                   -- reordering enabled from here on
    .op (.base (.var "a")),                            -- node 2
    .op (.base (.var "b")),                            -- node 3
    .op (.base (.apply "and" 2 (some 3) none)),        -- node 4 = a ∧ b
    .op (.base (.incref 4)),
    .op (.swap [] (.name "a") (.name "b")),            -- explicit swap, reordering enabled
    .op (.base (.ite 7 1 (-1))),                       -- REJECTED (unknown node), reordering enabled
    .op (.sift []),                                    -- explicit sifting, reordering enabled
    .configure false,
    .op (.base (.var "c")),                            -- node 3 (re-used), reordering not enabled
    .configure true,
    .op (.base (.apply "or" 4 (some 2) none)) ]        -- (a ∧ b) ∨ a = a : node 2

/-- the history: its guards and the answers of its calls -/
theorem exHistoryD_run : Ops3Guarded exHistoryD St.init ∧
    ((results3 exHistoryD St.init).map resCode3 =
      [1000, 1001, 1002, 0, 2, 3, 4, 0, 0, -1000, 0, 0, 3, 0, 2] ∧
    ⟪exHistoryD⟫₃.m.lastLen.isSome = true ∧ ⟪exHistoryD.take 12⟫₃.m.lastLen.isSome = false ∧
    ⟪exHistoryD⟫₃.ext 4 = 1 ∧ 2 ≤ ⟪exHistoryD⟫₃.m.nvars) := by decide +kernel

theorem exHistoryD_guarded : Ops3Guarded exHistoryD St.init := exHistoryD_run.1

theorem exHistoryD_results : (results3 exHistoryD St.init).map resCode3 =
    [1000, 1001, 1002, 0, 2, 3, 4, 0, 0, -1000, 0, 0, 3, 0, 2] ∧
    ⟪exHistoryD⟫₃.m.lastLen.isSome = true ∧ ⟪exHistoryD.take 12⟫₃.m.lastLen.isSome = false ∧
    ⟪exHistoryD⟫₃.ext 4 = 1 ∧ 2 ≤ ⟪exHistoryD⟫₃.m.nvars := exHistoryD_run.2

example : Good3 ⟪exHistoryD⟫₃.m ⟪exHistoryD⟫₃.ext := reachable3_inv exHistoryD exHistoryD_guarded

/-- C09 on the example: after the history reordering is enabled and node 4 is held -/
example : ∃ r m', runOp3 (.op (.base (.ite 4 4 (-1)))) ⟪exHistoryD⟫₃.m = (.ok (.ref r), m') ∧
    Good3 m' ⟪exHistoryD⟫₃.ext ∧ m'.lastLen.isSome = ⟪exHistoryD⟫₃.m.lastLen.isSome ∧ m'.tbl.Mem r ∧
    (∀ σ, denN m'.tbl r σ =
      if denN ⟪exHistoryD⟫₃.m.tbl 4 σ then denN ⟪exHistoryD⟫₃.m.tbl 4 σ
      else denN ⟪exHistoryD⟫₃.m.tbl (-1) σ) ∧
    (∀ w, HeldX ⟪exHistoryD⟫₃.ext w →
      m'.tbl.Mem w ∧ ∀ σ, denN m'.tbl w σ = denN ⟪exHistoryD⟫₃.m.tbl w σ) :=
  C01_ite_every_history_dyn exHistoryD exHistoryD_guarded exHistoryD_results.2.2.2.2 4 4 (-1)
    (Or.inr (by rw [show ((4 : Int).natAbs) = 4 from rfl, exHistoryD_results.2.2.2.1]; decide))
    (Or.inr (by rw [show ((4 : Int).natAbs) = 4 from rfl, exHistoryD_results.2.2.2.1]; decide))
    (Or.inl rfl)

/-- C09 on the example: the state after the history is the state the C09 theorems start from -/
example : DynInv ⟪exHistoryD⟫₃.ext ⟪exHistoryD⟫₃.m :=
  (C09_every_history exHistoryD exHistoryD_guarded exHistoryD_results.2.2.2.2).1

example (v : Int) (hv : ⟪exHistoryD⟫₃.m.tbl.Mem v) :
    (∀ σ, denN ⟪exHistoryD⟫₃.m.tbl 4 σ = denN ⟪exHistoryD⟫₃.m.tbl v σ) ↔ 4 = v :=
  C02_canonical_every_history3 exHistoryD exHistoryD_guarded 4 v
    ((reachable3_inv exHistoryD exHistoryD_guarded).exact.mem_of_ext_pos
      (by rw [show ((4 : Int).natAbs) = 4 from rfl, exHistoryD_results.2.2.2.1]; decide)) hv

/-- C06 / C07: the explicit swap issued while reordering is enabled (ninth call) -/
example : Good3 (step3 (.op (.swap [] (.name "a") (.name "b"))) ⟪exHistoryD.take 8⟫₃).m
    (step3 (.op (.swap [] (.name "a") (.name "b"))) ⟪exHistoryD.take 8⟫₃).ext :=
  (C06_held_every_history3 (exHistoryD.take 8) (ops3Guarded_take 8 exHistoryD_guarded) _
    (by decide +kernel)).2.1

example : Good3 ⟪exHistoryD.take 5⟫₃.m ⟪exHistoryD.take 5⟫₃.ext :=
  C17_every_prefix_good3 (exHistoryD.take 5) (exHistoryD.drop 5)
    (by rw [List.take_append_drop]; exact exHistoryD_guarded)

/-- C17 on the example: the tenth call (`ite` on an unknown node) is rejected while reordering is
enabled, in the state reached by the first nine -/
theorem exHistoryD_rejected :
    (runOp3 (.op (.base (.ite 7 1 (-1)))) ⟪exHistoryD.take 9⟫₃.m).1 = .error .key ∧
    ⟪exHistoryD.take 9⟫₃.m.lastLen.isSome = true := by
  decide +kernel

example : Good3 (step3 (.op (.base (.ite 7 1 (-1)))) ⟪exHistoryD.take 9⟫₃).m
    (step3 (.op (.base (.ite 7 1 (-1)))) ⟪exHistoryD.take 9⟫₃).ext :=
  (C17_error_then_normal_dyn_history (exHistoryD.take 9) (ops3Guarded_take 9 exHistoryD_guarded)
    (.op (.base (.ite 7 1 (-1)))) trivial .key exHistoryD_rejected.1).2.1

/-- ONE variable and reordering enabled: no guard excludes the decorated calls, the explicit
sifting is REJECTED (`ValueError`: `min()` of an empty dict) and leaves a good state -/
def exHistoryOne : List UOp3 :=
  [ .op (.base (.declare "x" none)), .configure true, .op (.base (.var "x")),
    .op (.base (.incref 2)), .op (.base (.apply "and" 2 (some (-2)) none)), .op (.sift []) ]

theorem exHistoryOne_guarded : Ops3Guarded exHistoryOne St.init := by decide +kernel

example : (results3 exHistoryOne St.init).map resCode3 = [1000, 0, 2, 0, -1, -1000] ∧
    ⟪exHistoryOne⟫₃.m.nvars = 1 ∧ ⟪exHistoryOne⟫₃.m.lastLen.isSome = true := by decide +kernel

example : Good3 ⟪exHistoryOne⟫₃.m ⟪exHistoryOne⟫₃.ext := reachable3_inv exHistoryOne exHistoryOne_guarded

end DD
