/-
  DDProps.Histories2Firing — the every-history theorems of DDProps.Histories2, Part 2, applied to
  the history in which dynamic reordering FIRES (`exBig`, DDProofs.FiringHistory: evaluated by the
  kernel up to the call that fires).
-/
import DDProps.Histories2
import DDProofs.FiringHistory
namespace DD

local notation "⟪" ops "⟫₃" => run3 ops St.init

/-- C09 / C01 on the call that fires: 69 calls were made, reordering is enabled, the operands 192 and
193 are held; the theorem says the call returns normally — although its first attempt is aborted
(`exBig_fires`) — and what it returns is the disjunction of the operands as they were, by name -/
example : ∃ r m', runOp3 (.op (.base (.apply "or" 192 (some 193) none))) ⟪exBig.take 69⟫₃.m =
      (.ok (.ref r), m') ∧
    Good3 m' ⟪exBig.take 69⟫₃.ext ∧ m'.lastLen.isSome = ⟪exBig.take 69⟫₃.m.lastLen.isSome ∧
    m'.tbl.Mem r ∧
    (∀ σ, denN m'.tbl r σ =
      Conn.or.eval (denN ⟪exBig.take 69⟫₃.m.tbl 192 σ) (denN ⟪exBig.take 69⟫₃.m.tbl 193 σ) false) ∧
    (∀ w, HeldX ⟪exBig.take 69⟫₃.ext w →
      m'.tbl.Mem w ∧ ∀ σ, denN m'.tbl w σ = denN ⟪exBig.take 69⟫₃.m.tbl w σ) :=
  C01_apply_every_history_dyn (exBig.take 69) (ops3Guarded_take 69 exBig_guarded) exBig_at69.1 "or" .or
    (by decide) (by decide) (by decide) (by decide) (by decide) 192 193
    (Or.inr exBig_at69.2.1) (Or.inr exBig_at69.2.2.1)

/-- the theorems apply to it: the state after the automatic sifting is good -/
example : Good3 ⟪exBig⟫₃.m ⟪exBig⟫₃.ext := reachable3_inv exBig exBig_guarded

end DD
