/-
  DDProps.Histories3 — the "for EVERY history" capstone over the WIDE alphabet, and from any start.

  `UOp4` (DDProofs.Reach4) = `UOp3` (every `UOp` with arbitrary arguments, `bdd.swap`, sifting,
  `reorder(bdd, order)`, `undeclare_vars`, `configure(reordering=…)`) plus `cube`, `add_expr` (any
  text), `image` / `preimage` (any nodes, renaming, quantified variables), the rooted
  `collect_garbage(roots)` (any integers), `reorder_to_pairs` (any dictionary, any recorded
  schedule), `copy_bdd(u, other, bdd)` (ANY source table and node), pickle `load(file, levels)`
  (ANY content) — accepted or REJECTED, dynamic reordering enabled or not.  Guards: the three
  caller obligations of DDProps.Histories; "the model does not report a schedule mismatch" for a
  reordering call with a recorded schedule; "`vars` is a dict" (distinct names) for the
  content given to `load(…, levels=True)`.  Nothing else: no well-formedness of files,
  tables, texts or renamings, no "operands held", no "two variables".

  Starting points (DDProofs.Reach4Start): the empty manager `BDD()`; the constructor
  `BDD(levels)` (`newMgrCore_start`); `copy.copy` (`mgrCopy_start`) and `reduction()`
  (`reduction_start`) of ANY reachable manager — the history goes on in the new manager
  (`reachable4_from`).  `⟪ops⟫` is the state after `ops` from the empty manager; the theorems
  `…_from` take any good start state `s`.

  The number in a theorem's name is that of its alphabet, not of the file: the theorems here are
  `…_every_history4`, those over `UOp5` (DDProps.Histories4, Histories5) `…_every_history5`.
-/
import DDProofs.Reach4
import DDProps.C09
import DDProofs.Reach4Start
namespace DD

local notation "⟪" ops "⟫" => run4 ops St.init

/-- C02: after ANY history over the wide alphabet, from ANY good start, two nodes are equal
exactly when they denote the same function of the variable NAMES (and of the levels) — whatever
route produced them: connectives, `find_or_add`, substitutions, parsing, cubes, images, copies
from other managers, loaded files, before or after reorderings and collections -/
theorem C02_canonical_every_history4_from (s : St) (hs : Good3 s.m s.ext) (ops : List UOp4)
    (hg : Ops4Guarded ops s) (u v : Int)
    (hu : (run4 ops s).m.tbl.Mem u) (hv : (run4 ops s).m.tbl.Mem v) :
    ((∀ σ, denN (run4 ops s).m.tbl u σ = denN (run4 ops s).m.tbl v σ) ↔ u = v) ∧
    ((∀ a, den (run4 ops s).m.tbl u a = den (run4 ops s).m.tbl v a) ↔ u = v) :=
  (reachable4_from ops s hs hg).canonical u v hu hv

theorem C02_canonical_every_history4 (ops : List UOp4) (hg : Ops4Guarded ops St.init) (u v : Int)
    (hu : ⟪ops⟫.m.tbl.Mem u) (hv : ⟪ops⟫.m.tbl.Mem v) :
    ((∀ σ, denN ⟪ops⟫.m.tbl u σ = denN ⟪ops⟫.m.tbl v σ) ↔ u = v) ∧
    ((∀ a, den ⟪ops⟫.m.tbl u a = den ⟪ops⟫.m.tbl v a) ↔ u = v) :=
  C02_canonical_every_history4_from St.init Good3.init ops hg u v hu hv

/-- C02 ("every route", across time and orders): a reference `u` held since the prefix `pre`;
ANY continuation that ends with a node `v` denoting, by name, what `u` denoted then has `v = u` -/
theorem C02_routes_agree_held4 (s : St) (hs : Good3 s.m s.ext) (pre post : List UOp4)
    (hg : Ops4Guarded (pre ++ post) s) (u v : Int)
    (hheld : ∀ p q, post = p ++ q → 0 < (run4 p (run4 pre s)).ext u.natAbs)
    (hv : (run4 (pre ++ post) s).m.tbl.Mem v)
    (hsame : ∀ σ, denN (run4 (pre ++ post) s).m.tbl v σ = denN (run4 pre s).m.tbl u σ) : v = u :=
  level4.routes_agree_held s hs pre post hg u v hheld hv hsame

/-- C06: after ANY history over the wide alphabet, from ANY good start, the counters are exact
w.r.t. the user's ledger, and a collection at that point succeeds, leaves EXACTLY the nodes
reachable from a held node (unchanged, same functions), keeps the counts exact and empties the
computed table -/
theorem C06_counts_exact_every_history4_from (s : St) (hs : Good3 s.m s.ext) (ops : List UOp4)
    (hg : Ops4Guarded ops s) :
    RefExact (run4 ops s).m (run4 ops s).ext ∧
    ∃ m', collectGarbage none (run4 ops s).m = (.ok (), m') ∧ Good3 m' (run4 ops s).ext ∧
      (∀ u n, m'.tbl.node? u = some n ↔
        ((run4 ops s).m.tbl.node? u = some n ∧ GcReach (run4 ops s).m.tbl (GcHeld (run4 ops s).ext) u)) ∧
      (∀ (u : Int), m'.tbl.Mem u → ∀ a, den m'.tbl u a = den (run4 ops s).m.tbl u a) ∧
      (∀ (u c : Nat), m'.ref[u]? = some c → 0 < c) ∧
      (∀ key : List Int, m'.cache[key]? = none) :=
  (reachable4_from ops s hs hg).counts_exact

theorem C06_counts_exact_every_history4 (ops : List UOp4) (hg : Ops4Guarded ops St.init) :
    RefExact ⟪ops⟫.m ⟪ops⟫.ext ∧
    ∃ m', collectGarbage none ⟪ops⟫.m = (.ok (), m') ∧ Good3 m' ⟪ops⟫.ext ∧
      (∀ u n, m'.tbl.node? u = some n ↔
        (⟪ops⟫.m.tbl.node? u = some n ∧ GcReach ⟪ops⟫.m.tbl (GcHeld ⟪ops⟫.ext) u)) ∧
      (∀ (u : Int), m'.tbl.Mem u → ∀ a, den m'.tbl u a = den ⟪ops⟫.m.tbl u a) ∧
      (∀ (u c : Nat), m'.ref[u]? = some c → 0 < c) ∧
      (∀ key : List Int, m'.cache[key]? = none) :=
  C06_counts_exact_every_history4_from St.init Good3.init ops hg

/-- C06 / C07 / C09: whatever the next call is — a load, a copy from another manager, an image, a
rooted collection, `reorder_to_pairs`, a decorated call that sifts the manager — a reference the
user holds is a node before and after under the same number, denotes the same function by name,
and its counter is stored edges + the user's references; the internal signal never reaches the
user; with two variables declared (or reordering not enabled) only `configure` changes the switch -/
theorem C06_held_every_history4 (s : St) (hs : Good3 s.m s.ext) (ops : List UOp4)
    (hg : Ops4Guarded ops s) (op : UOp4) (hop : OpGuard4 (run4 ops s).m (run4 ops s).ext op) :
    Good3 (step4 op (run4 ops s)).m (step4 op (run4 ops s)).ext ∧
    (runOp4 op (run4 ops s).m).1 ≠ .error .needsReordering ∧
    (((run4 ops s).m.lastLen.isSome = true → 2 ≤ (run4 ops s).m.nvars) →
      (step4 op (run4 ops s)).m.lastLen.isSome = op.switchAfter (run4 ops s).m.lastLen.isSome) ∧
    ∀ u : Int, 0 < (run4 ops s).ext u.natAbs →
      (run4 ops s).m.tbl.Mem u ∧ (step4 op (run4 ops s)).m.tbl.Mem u ∧
      (∀ σ, denN (step4 op (run4 ops s)).m.tbl u σ = denN (run4 ops s).m.tbl u σ) ∧
      (step4 op (run4 ops s)).m.ref[u.natAbs]? =
        some (indeg (step4 op (run4 ops s)).m.tbl u.natAbs + (step4 op (run4 ops s)).ext u.natAbs +
          (if u.natAbs = 1 then 1 else 0)) :=
  have ⟨a, b, c, d⟩ := level4.next_call _ (reachable4_from ops s hs hg) op hop
  ⟨a, b, c, fun u hu => have ⟨d1, d2, d3, _, d5⟩ := d u hu; ⟨d1, d2, d3, d5⟩⟩

/-- C17: after ANY history over the wide alphabet, from ANY good start, a call that raises — a
syntax error or an undeclared variable in `add_expr`, an undeclared name in `cube`, an image with
an overlapping renaming, `collect_garbage` of an integer that is no node, `reorder_to_pairs` of an
unknown name or of a variable with itself, a copy of a foreign node or of variables the target
does not declare, a file with a dangling successor … — never raises the internal signal and
leaves a good state: the ledger untouched, every held reference a node with the same function by
name; every theorem applies to the next call, whatever it is, and a collection right after the
failure behaves normally -/
theorem C17_error_then_normal4 (s : St) (hs : Good3 s.m s.ext) (ops : List UOp4)
    (hg : Ops4Guarded ops s) (op : UOp4) (hop : OpGuard4 (run4 ops s).m (run4 ops s).ext op) (e : Err)
    (hrej : (runOp4 op (run4 ops s).m).1 = .error e) :
    e ≠ .needsReordering ∧
    Good3 (step4 op (run4 ops s)).m (step4 op (run4 ops s)).ext ∧
    (step4 op (run4 ops s)).ext = (run4 ops s).ext ∧
    (((run4 ops s).m.lastLen.isSome = true → 2 ≤ (run4 ops s).m.nvars) →
      (step4 op (run4 ops s)).m.lastLen.isSome = (run4 ops s).m.lastLen.isSome) ∧
    (∀ w : Int, HeldX (run4 ops s).ext w → (step4 op (run4 ops s)).m.tbl.Mem w ∧
      ∀ σ, denN (step4 op (run4 ops s)).m.tbl w σ = denN (run4 ops s).m.tbl w σ) ∧
    (∀ op2 : UOp4, OpGuard4 (step4 op (run4 ops s)).m (step4 op (run4 ops s)).ext op2 →
      Good3 (step4 op2 (step4 op (run4 ops s))).m (step4 op2 (step4 op (run4 ops s))).ext) ∧
    (∃ m', collectGarbage none (step4 op (run4 ops s)).m = (.ok (), m') ∧ Good3 m' (run4 ops s).ext) :=
  level4.error_then_normal _ (reachable4_from ops s hs hg) op hop e hrej

/-- C17: in a history, the state after every call — accepted or rejected — is good -/
theorem C17_every_prefix_good4 (s : St) (hs : Good3 s.m s.ext) (pre post : List UOp4)
    (hg : Ops4Guarded (pre ++ post) s) : Good3 (run4 pre s).m (run4 pre s).ext :=
  level4.prefix_good pre post s hs hg

/-- C01 (reordering not enabled at that point): after ANY history over the wide alphabet, from ANY
good start, `apply` of every spelling of a binary propositional connective returns a node
denoting that connective of the operands -/
theorem C01_apply_every_history4 (s : St) (hs : Good3 s.m s.ext) (ops : List UOp4)
    (hg : Ops4Guarded ops s) (hoff : (run4 ops s).m.lastLen = none)
    (op : String) (c : Conn) (hc : docConn op = some c) (h2 : c.arity = 2)
    (hq1 : c ≠ .forall_) (hq2 : c ≠ .exists_) (hall : Gen.allOps.contains op = true)
    (u v : Int) (hu : (run4 ops s).m.tbl.Mem u) (hv : (run4 ops s).m.tbl.Mem v) :
    ∃ r m', runOp4 (.op (.op (.base (.apply op u (some v) none)))) (run4 ops s).m = (.ok (.ref r), m') ∧
      Good3 m' (run4 ops s).ext ∧ m'.tbl.Mem r ∧
      ∀ a, den m'.tbl r a = c.eval (den (run4 ops s).m.tbl u a) (den (run4 ops s).m.tbl v a) false := by
  have hG := reachable4_from ops s hs hg
  obtain ⟨r, m', he, -, -, hm, -, hd⟩ :=
    apply_binary_spec (run4 ops s).m hG.inv hoff op c hc h2 hq1 hq2 hall u v hu hv
  have hS := step4_inv _ _ (.op (.op (.base (.apply op u (some v) none)))) hG trivial
  have hrun : runOp4 (.op (.op (.base (.apply op u (some v) none)))) (run4 ops s).m =
      (.ok (.ref r), m') := by
    simp only [runOp4, runOp3, runOp2, runOp, mapRes, he]
  rw [hrun] at hS
  exact ⟨r, m', hrun, hS, hm, hd⟩

/-- C01 / C09 (reordering possibly enabled, the request firing at whichever node creation): for
operands the user holds, with two variables declared, the result denotes BY NAME the connective
of the operands as they were; the state is good; reordering is enabled iff it was -/
theorem C01_apply_every_history4_dyn (s : St) (hs : Good3 s.m s.ext) (ops : List UOp4)
    (hg : Ops4Guarded ops s) (h2 : 2 ≤ (run4 ops s).m.nvars)
    (op : String) (c : Conn) (hc : docConn op = some c) (ha : c.arity = 2)
    (hq1 : c ≠ .forall_) (hq2 : c ≠ .exists_) (hall : Gen.allOps.contains op = true)
    (u v : Int) (hu : HeldX (run4 ops s).ext u) (hv : HeldX (run4 ops s).ext v) :
    ∃ r m', runOp4 (.op (.op (.base (.apply op u (some v) none)))) (run4 ops s).m = (.ok (.ref r), m') ∧
      Good3 m' (run4 ops s).ext ∧ m'.lastLen.isSome = (run4 ops s).m.lastLen.isSome ∧ m'.tbl.Mem r ∧
      (∀ σ, denN m'.tbl r σ =
        c.eval (denN (run4 ops s).m.tbl u σ) (denN (run4 ops s).m.tbl v σ) false) ∧
      (∀ w, HeldX (run4 ops s).ext w → m'.tbl.Mem w ∧
        ∀ σ, denN m'.tbl w σ = denN (run4 ops s).m.tbl w σ) := by
  have hG := reachable4_from ops s hs hg
  obtain ⟨r, m', he, hp⟩ := C09_apply_binary_transparent (run4 ops s).ext (run4 ops s).m
    (hG.dynInv h2) op c hc ha hq1 hq2 hall u v hu hv
  refine ⟨r, m', ?_, hp.inv.good3 (hp.roots.trans hG.roots), hp.enabled, hp.doc.1, hp.doc.2, hp.held⟩
  simp only [runOp4, runOp3, runOp2, runOp, mapRes, he]

/-- C09 over the wide alphabet: after ANY history, with two variables declared, the manager is in
the state `DynInv` from which every C09 theorem (transparency of `ite`, `apply`, `quantify`, `let`,
`cube`, `add_expr`, `image`, `preimage`, copies) starts -/
theorem C09_every_history4 (s : St) (hs : Good3 s.m s.ext) (ops : List UOp4)
    (hg : Ops4Guarded ops s) (h2 : 2 ≤ (run4 ops s).m.nvars) :
    DynInv (run4 ops s).ext (run4 ops s).m :=
  (reachable4_from ops s hs hg).dynInv h2

def resCode4 : Except Err Res → Int
  | .ok (.ref u) => u
  | .ok (.lvl n) => 1000 + n
  | .ok .unit => 0
  | .error _ => -1000

def bop (o : UOp) : UOp4 := .op (.op (.base o))

/-- the table of ANOTHER manager (variables `c`, `a` in this order; node 4 = `c ∧ a`) -/
def exSrc : Tbl :=
  (run4 [bop (.declare "c" none), bop (.declare "a" none), bop (.var "a"), bop (.var "c"),
    bop (.apply "and" 3 (some 2) none)] St.init).m.tbl

/-- the content of a pickle: variables `a`, `d`; node 2 = `d`, node 3 = `a ∧ d`; root 3 -/
def exPickle : PickleFile :=
  { vars := [("a", 0), ("d", 1)],
    succ := [⟨1, 2, none, none⟩, ⟨2, 1, some (-1), some 1⟩, ⟨3, 0, some (-1), some 2⟩],
    roots := .list [3] }

/-- twenty-three calls: every new constructor, returning and raising; dynamic reordering is
enabled for the last four -/
def exHistory4 : List UOp4 :=
  [ bop (.declare "a" none), bop (.declare "b" none), bop (.declare "c" none),
    .addExpr "a /\\ b",                                   -- node 4 = a ∧ b  (2 = a, 3 = b)
    bop (.incref 4),                                       -- held
    .addExpr "a /\\",                                     -- REJECTED: syntax error
    .cube [("a", true), ("c", false)],                     -- a ∧ ¬c = -6  (5 = c)
    .cube [("nosuch", true)],                              -- REJECTED: undeclared name
    .gcRooted [5, 6],                                      -- rooted collection: frees 6, then 5
    .gcRooted [99],                                        -- REJECTED: 99 is not a node
    .reorderToPairs [] [("a", "c")],                       -- order b, a, c
    .reorderToPairs [] [("a", "a")],                       -- REJECTED: AssertionError
    .loadPickle exPickle false,                            -- declares `d`, builds a ∧ d
    .loadPickle { exPickle with succ := [⟨3, 0, some (-1), some 7⟩] } false,  -- REJECTED: dangling child
    .image (-1) 4 [] [] false,                             -- image of FALSE
    .preimage 4 (-1) [] [] false,
    .copyFrom exSrc 1,                                     -- the constant
    .image 4 4 [(.name "a", .name "c")] [.name "nosuch"] false,   -- REJECTED: undeclared name
    .op (.configure true),                                 -- reordering enabled from here on
    .addExpr "b \\/ c",                                   -- node 8
    .image 4 4 [] [.name "b"] false,                       -- ∃ b. a ∧ b  =  a  : node 2
    .preimage 4 4 [(.name "c", .name "a")] [.name "c"] false,     -- node 4
    .copyFrom exSrc 4 ]                                    -- c ∧ a copied from the other manager: node 9

/-- the history in one statement (the kernel evaluates a closed term once per declaration): the
guards of all twenty-three calls; the answers of the
first twenty and the state they lead to; after eighteen calls reordering is not enabled and the
nodes 2 and 4 exist; the fourteenth call raises `KeyError` -/
theorem exHistory4_run : Ops4Guarded exHistory4 St.init ∧
    ((results4 (exHistory4.take 20) St.init).map resCode4 =
      [1000, 1001, 1002, 4, 0, -1000, -6, -1000, 0, -1000, 0, -1000, 0, -1000, -1, -1, 1, -1000, 0, 8] ∧
    ⟪exHistory4.take 20⟫.m.tbl.vars.toList = [("a", 1), ("b", 0), ("c", 2), ("d", 3)] ∧
    ⟪exHistory4.take 20⟫.ext 4 = 1 ∧ ⟪exHistory4.take 20⟫.m.lastLen.isSome = true ∧
    2 ≤ ⟪exHistory4.take 20⟫.m.nvars) ∧
    (⟪exHistory4.take 18⟫.m.lastLen = none ∧
      ⟪exHistory4.take 18⟫.m.tbl.Mem 2 ∧ ⟪exHistory4.take 18⟫.m.tbl.Mem 4) ∧
    (runOp4 (.loadPickle { exPickle with succ := [⟨3, 0, some (-1), some 7⟩] } false)
      ⟪exHistory4.take 13⟫.m).1 = .error .key := by decide +kernel

theorem exHistory4_guarded : Ops4Guarded exHistory4 St.init := exHistory4_run.1

/-- the answers of the first twenty calls (kernel; `-1000` = raised).  The last three calls go
through per-call memo tables that are `Std.HashMap`s (indices are `USize`, opaque to the kernel):
the compiled evaluator gives `2, 4, 9` for them, and
`[(2,1,-1,1), (3,3,-1,1), (4,0,-1,2), (5,1,-1,3), (6,0,-1,1), (7,2,-1,1), (8,0,7,1), (9,1,-1,7)]`
(node, level, low, high) with the order `b, a, c, d` at the end. -/
theorem exHistory4_results : (results4 (exHistory4.take 20) St.init).map resCode4 =
    [1000, 1001, 1002, 4, 0, -1000, -6, -1000, 0, -1000, 0, -1000, 0, -1000, -1, -1, 1, -1000, 0, 8] ∧
    ⟪exHistory4.take 20⟫.m.tbl.vars.toList = [("a", 1), ("b", 0), ("c", 2), ("d", 3)] ∧
    ⟪exHistory4.take 20⟫.ext 4 = 1 ∧ ⟪exHistory4.take 20⟫.m.lastLen.isSome = true ∧
    2 ≤ ⟪exHistory4.take 20⟫.m.nvars := exHistory4_run.2.1

example : Good3 ⟪exHistory4⟫.m ⟪exHistory4⟫.ext := reachable4_inv exHistory4 exHistory4_guarded

/-- with the default schedule and `levels=False` the new calls are admissible whatever their
arguments -/
example (ps : List (String × String)) (f : PickleFile) :
    OpGuard4 ⟪exHistory4⟫.m ⟪exHistory4⟫.ext (.reorderToPairs [] ps) ∧
    OpGuard4 ⟪exHistory4⟫.m ⟪exHistory4⟫.ext (.loadPickle f false) :=
  have h := guard4_default _ _ (reachable4_inv exHistory4 exHistory4_guarded)
  ⟨h.1 ps, h.2 f⟩

/-- C02 on the example: node 4 is the only node denoting `a ∧ b` by name after the history -/
example (v : Int) (hv : ⟪exHistory4⟫.m.tbl.Mem v) (h4 : ⟪exHistory4⟫.m.tbl.Mem 4) :
    (∀ σ, denN ⟪exHistory4⟫.m.tbl 4 σ = denN ⟪exHistory4⟫.m.tbl v σ) ↔ 4 = v :=
  (C02_canonical_every_history4 exHistory4 exHistory4_guarded 4 v h4 hv).1

example : RefExact ⟪exHistory4⟫.m ⟪exHistory4⟫.ext :=
  (C06_counts_exact_every_history4 exHistory4 exHistory4_guarded).1

/-- C06 on the example: node 4 is held when the pickle is loaded (thirteenth call) and survives it
with its function and its counter equation -/
example : (step4 (.loadPickle exPickle false) ⟪exHistory4.take 12⟫).m.tbl.Mem 4 :=
  ((C06_held_every_history4 St.init Good3.init (exHistory4.take 12) (ops4Guarded_take 12 exHistory4_guarded)
    (.loadPickle exPickle false) (loadGuard_false _ _)).2.2.2 4 (by decide +kernel)).2.1

/-- C17 on the example: the fourteenth call (a file with a dangling successor) raises in the state
reached by thirteen calls -/
theorem exHistory4_rejected :
    (runOp4 (.loadPickle { exPickle with succ := [⟨3, 0, some (-1), some 7⟩] } false)
      ⟪exHistory4.take 13⟫.m).1 = .error .key := exHistory4_run.2.2.2

example : Good3 (step4 (.loadPickle { exPickle with succ := [⟨3, 0, some (-1), some 7⟩] } false)
      ⟪exHistory4.take 13⟫).m ⟪exHistory4.take 13⟫.ext := by
  have h := C17_error_then_normal4 St.init Good3.init (exHistory4.take 13)
    (ops4Guarded_take 13 exHistory4_guarded)
    (.loadPickle { exPickle with succ := [⟨3, 0, some (-1), some 7⟩] } false) (loadGuard_false _ _)
    .key exHistory4_rejected
  rw [← h.2.2.1]
  exact h.2.1

example : Good3 ⟪exHistory4.take 7⟫.m ⟪exHistory4.take 7⟫.ext :=
  C17_every_prefix_good4 St.init Good3.init (exHistory4.take 7) (exHistory4.drop 7)
    (by rw [List.take_append_drop]; exact exHistory4_guarded)

/-- C01 on the example: after eighteen calls reordering is not enabled -/
example : ∃ r m', runOp4 (.op (.op (.base (.apply "/\\" 2 (some 4) none)))) ⟪exHistory4.take 18⟫.m =
      (.ok (.ref r), m') ∧ Good3 m' ⟪exHistory4.take 18⟫.ext ∧ m'.tbl.Mem r ∧
    ∀ a, den m'.tbl r a = (den ⟪exHistory4.take 18⟫.m.tbl 2 a && den ⟪exHistory4.take 18⟫.m.tbl 4 a) :=
  C01_apply_every_history4 St.init Good3.init (exHistory4.take 18) (ops4Guarded_take 18 exHistory4_guarded)
    exHistory4_run.2.2.1.1 "/\\" .and (by decide) (by decide) (by decide) (by decide) (by decide) 2 4
    exHistory4_run.2.2.1.2.1 exHistory4_run.2.2.1.2.2

/-- … and after twenty calls it is, with node 4 held and four variables: the C09 form applies -/
example : ∃ r m', runOp4 (.op (.op (.base (.apply "or" 4 (some 4) none)))) ⟪exHistory4.take 20⟫.m =
      (.ok (.ref r), m') ∧ Good3 m' ⟪exHistory4.take 20⟫.ext ∧
    m'.lastLen.isSome = ⟪exHistory4.take 20⟫.m.lastLen.isSome ∧ m'.tbl.Mem r ∧
    (∀ σ, denN m'.tbl r σ = Conn.or.eval (denN ⟪exHistory4.take 20⟫.m.tbl 4 σ)
      (denN ⟪exHistory4.take 20⟫.m.tbl 4 σ) false) ∧
    (∀ w, HeldX ⟪exHistory4.take 20⟫.ext w → m'.tbl.Mem w ∧
      ∀ σ, denN m'.tbl w σ = denN ⟪exHistory4.take 20⟫.m.tbl w σ) :=
  have hh : HeldX ⟪exHistory4.take 20⟫.ext 4 :=
    Or.inr (by rw [show ((4 : Int).natAbs) = 4 from rfl, exHistory4_results.2.2.1]; decide)
  C01_apply_every_history4_dyn St.init Good3.init (exHistory4.take 20)
    (ops4Guarded_take 20 exHistory4_guarded) exHistory4_results.2.2.2.2 "or" .or (by decide)
    (by decide) (by decide) (by decide) (by decide)
    4 4 hh hh

example : DynInv ⟪exHistory4.take 20⟫.ext ⟪exHistory4.take 20⟫.m :=
  C09_every_history4 St.init Good3.init (exHistory4.take 20) (ops4Guarded_take 20 exHistory4_guarded)
    exHistory4_results.2.2.2.2

/-- from the constructor `BDD({'a': 1, 'b': 0})` -/
example (ops : List UOp4) (hg : Ops4Guarded ops ⟨(newMgrCore [("a", 1), ("b", 0)]).2, fun _ => 0⟩) :
    Good3 (run4 ops ⟨(newMgrCore [("a", 1), ("b", 0)]).2, fun _ => 0⟩).m
      (run4 ops ⟨(newMgrCore [("a", 1), ("b", 0)]).2, fun _ => 0⟩).ext :=
  reachable4_from ops _ (newMgrCore_start [("a", 1), ("b", 0)] (by decide) (by decide)).2.1.good3 hg

/-- … a concrete continuation: `a /\ b` is built in the manager the constructor made -/
example : Ops4Guarded [.addExpr "a /\\ b", .gcRooted [2]] ⟨(newMgrCore [("a", 1), ("b", 0)]).2, fun _ => 0⟩ ∧
    (results4 [.addExpr "a /\\ b", .gcRooted [2]] ⟨(newMgrCore [("a", 1), ("b", 0)]).2, fun _ => 0⟩).map
      resCode4 = [4, 0] := by decide +kernel

/-- from `copy.copy` of the manager reached by the first five calls (node 4 held): the ledger is
carried over, the history continues in the copy -/
example : ∃ b, mgrCopy ⟪exHistory4.take 5⟫.m = .ok b ∧
    Good3 (run4 [.addExpr "a \\/ b", .gcRooted [2]] ⟨b, ⟪exHistory4.take 5⟫.ext⟩).m
      (run4 [.addExpr "a \\/ b", .gcRooted [2]] ⟨b, ⟪exHistory4.take 5⟫.ext⟩).ext := by
  have hgd : ∀ s : St, Ops4Guarded [.addExpr "a \\/ b", .gcRooted [2]] s := fun _ => ⟨trivial, trivial, trivial⟩
  obtain ⟨b, he, hg, -, -⟩ := mgrCopy_start _ _
    (reachable4_inv (exHistory4.take 5) (ops4Guarded_take 5 exHistory4_guarded))
  have key : ∀ (b : Mgr) (ext : Nat → Nat), Good3 b ext →
      Good3 (run4 [.addExpr "a \\/ b", .gcRooted [2]] ⟨b, ext⟩).m
        (run4 [.addExpr "a \\/ b", .gcRooted [2]] ⟨b, ext⟩).ext :=
    fun b ext hb => reachable4_from _ ⟨b, ext⟩ hb (hgd _)
  exact ⟨b, he, key b _ hg⟩

/-- from `reduction()` of the manager reached by the whole history: a new manager, nothing held -/
example : ∃ b tr, reduction (1 :: ⟪exHistory4⟫.m.tbl.succ.keys) ⟪exHistory4⟫.m = (.ok b, ⟪exHistory4⟫.m) ∧
    ReductionPost ⟪exHistory4⟫.m.tbl ⟪exHistory4⟫.m.roots b tr ∧
    Good3 (run4 [.cube [("a", true)], .loadPickle exPickle false] ⟨b, fun _ => 0⟩).m
      (run4 [.cube [("a", true)], .loadPickle exPickle false] ⟨b, fun _ => 0⟩).ext := by
  have hG := reachable4_inv exHistory4 exHistory4_guarded
  have hgd : ∀ s : St, Ops4Guarded [.cube [("a", true)], .loadPickle exPickle false] s :=
    fun _ => ⟨trivial, loadGuard_false _ _, trivial⟩
  obtain ⟨b, tr, he, hg, -, hp⟩ := reduction_start _ _ hG _ (SuccOrder.ascending _ hG.inv.wf.toWF)
  exact ⟨b, tr, he, hp, reachable4_from [.cube [("a", true)], .loadPickle exPickle false] ⟨b, fun _ => 0⟩ hg (hgd _)⟩

end DD
