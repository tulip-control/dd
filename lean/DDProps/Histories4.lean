/-
  DDProps.Histories4 — the every-history capstone over `UOp5` (DDProofs.Reach5): the alphabet of
  DDProps.Histories3 plus `load_json` (`load_order=False`, ANY content) and `copy_vars`, from any
  good start state.

  Guards of the two new calls: for `load_json`, none (any content, dynamic reordering enabled or
  not: `OpGuard5`; `C12_loadJson_every_history5` describes the load at a point where reordering is
  not enabled); for `copy_vars`, its documented obligations (source order a bijection, what the
  target declares below the source's number of variables agrees with the source; `names` — the
  order in which the source's dict is visited — a permutation of its variables).  A JSON load that
  returns gives the user one reference per returned root: the ledger grows (`ledger5`); a load that
  raises leaves the ledger as it was.

  Not in the alphabet: `load_json(load_order=True)`, `dd.dddmp.load` — see DDProofs.Reach5.

  The theorems are named after the alphabet (`…_every_history5`), not after the file.
-/
import DDProofs.Reach5
namespace DD

local notation "⟪" ops "⟫" => run5 ops St.init

/-- C02: after ANY history over `UOp5`, from ANY good start, two nodes are equal exactly when they
denote the same function of the variable NAMES (and of the levels) — nodes made by JSON loads and
nodes that lived through `copy_vars` included -/
theorem C02_canonical_every_history5_from (s : St) (hs : Good3 s.m s.ext) (ops : List UOp5)
    (hg : Ops5Guarded ops s) (u v : Int)
    (hu : (run5 ops s).m.tbl.Mem u) (hv : (run5 ops s).m.tbl.Mem v) :
    ((∀ σ, denN (run5 ops s).m.tbl u σ = denN (run5 ops s).m.tbl v σ) ↔ u = v) ∧
    ((∀ a, den (run5 ops s).m.tbl u a = den (run5 ops s).m.tbl v a) ↔ u = v) :=
  (reachable5_from ops s hs hg).canonical u v hu hv

theorem C02_canonical_every_history5 (ops : List UOp5) (hg : Ops5Guarded ops St.init) (u v : Int)
    (hu : ⟪ops⟫.m.tbl.Mem u) (hv : ⟪ops⟫.m.tbl.Mem v) :
    ((∀ σ, denN ⟪ops⟫.m.tbl u σ = denN ⟪ops⟫.m.tbl v σ) ↔ u = v) ∧
    ((∀ a, den ⟪ops⟫.m.tbl u a = den ⟪ops⟫.m.tbl v a) ↔ u = v) :=
  C02_canonical_every_history5_from St.init Good3.init ops hg u v hu hv

/-- C02 ("every route", across time and orders) -/
theorem C02_routes_agree_held5 (s : St) (hs : Good3 s.m s.ext) (pre post : List UOp5)
    (hg : Ops5Guarded (pre ++ post) s) (u v : Int)
    (hheld : ∀ p q, post = p ++ q → 0 < (run5 p (run5 pre s)).ext u.natAbs)
    (hv : (run5 (pre ++ post) s).m.tbl.Mem v)
    (hsame : ∀ σ, denN (run5 (pre ++ post) s).m.tbl v σ = denN (run5 pre s).m.tbl u σ) : v = u :=
  level5.routes_agree_held s hs pre post hg u v hheld hv hsame

/-- C06: after ANY history over `UOp5`, from ANY good start, the counters are exact w.r.t. the
user's ledger — which counts, besides the user's own `incref`s, one reference per root that a JSON
load returned — and a collection at that point succeeds, leaves EXACTLY the nodes reachable from a
held node, keeps the counts exact and empties the computed table -/
theorem C06_counts_exact_every_history5_from (s : St) (hs : Good3 s.m s.ext) (ops : List UOp5)
    (hg : Ops5Guarded ops s) :
    RefExact (run5 ops s).m (run5 ops s).ext ∧
    ∃ m', collectGarbage none (run5 ops s).m = (.ok (), m') ∧ Good3 m' (run5 ops s).ext ∧
      (∀ u n, m'.tbl.node? u = some n ↔
        ((run5 ops s).m.tbl.node? u = some n ∧ GcReach (run5 ops s).m.tbl (GcHeld (run5 ops s).ext) u)) ∧
      (∀ (u : Int), m'.tbl.Mem u → ∀ a, den m'.tbl u a = den (run5 ops s).m.tbl u a) ∧
      (∀ (u c : Nat), m'.ref[u]? = some c → 0 < c) ∧
      (∀ key : List Int, m'.cache[key]? = none) :=
  (reachable5_from ops s hs hg).counts_exact

theorem C06_counts_exact_every_history5 (ops : List UOp5) (hg : Ops5Guarded ops St.init) :
    RefExact ⟪ops⟫.m ⟪ops⟫.ext ∧
    ∃ m', collectGarbage none ⟪ops⟫.m = (.ok (), m') ∧ Good3 m' ⟪ops⟫.ext ∧
      (∀ u n, m'.tbl.node? u = some n ↔
        (⟪ops⟫.m.tbl.node? u = some n ∧ GcReach ⟪ops⟫.m.tbl (GcHeld ⟪ops⟫.ext) u)) ∧
      (∀ (u : Int), m'.tbl.Mem u → ∀ a, den m'.tbl u a = den ⟪ops⟫.m.tbl u a) ∧
      (∀ (u c : Nat), m'.ref[u]? = some c → 0 < c) ∧
      (∀ key : List Int, m'.cache[key]? = none) :=
  C06_counts_exact_every_history5_from St.init Good3.init ops hg

/-- C06: whatever the next call is — a JSON load, `copy_vars`, anything of `UOp4` — a reference the
user holds is a node before and after under the same number, denotes the same function by name,
and its counter is stored edges + the user's references for the ledger after the call -/
theorem C06_held_every_history5 (s : St) (hs : Good3 s.m s.ext) (ops : List UOp5)
    (hg : Ops5Guarded ops s) (op : UOp5) (hop : OpGuard5 (run5 ops s).m (run5 ops s).ext op) :
    Good3 (step5 op (run5 ops s)).m (step5 op (run5 ops s)).ext ∧
    (((run5 ops s).m.lastLen.isSome = true → 2 ≤ (run5 ops s).m.nvars) →
      (step5 op (run5 ops s)).m.lastLen.isSome = op.switchAfter (run5 ops s).m.lastLen.isSome) ∧
    ∀ u : Int, 0 < (run5 ops s).ext u.natAbs →
      (run5 ops s).m.tbl.Mem u ∧ (step5 op (run5 ops s)).m.tbl.Mem u ∧
      (∀ σ, denN (step5 op (run5 ops s)).m.tbl u σ = denN (run5 ops s).m.tbl u σ) ∧
      (run5 ops s).ext u.natAbs ≤ (step5 op (run5 ops s)).ext u.natAbs + 1 ∧
      (step5 op (run5 ops s)).m.ref[u.natAbs]? =
        some (indeg (step5 op (run5 ops s)).m.tbl u.natAbs + (step5 op (run5 ops s)).ext u.natAbs +
          (if u.natAbs = 1 then 1 else 0)) :=
  have ⟨a, _, c, d⟩ := level5.next_call _ (reachable5_from ops s hs hg) op hop
  ⟨a, c, d⟩

/-- C17: after ANY history over `UOp5`, from ANY good start, a call that raises — a JSON file with
a dangling successor, a level out of range, an unknown root …, or any rejected call of `UOp4` —
leaves a good state: the ledger untouched (the JSON loader's `except` clause has released its
shelf), every held reference a node with the same function by name; every theorem applies to the
next call, whatever it is, and a collection right after the failure behaves normally -/
theorem C17_error_then_normal5 (s : St) (hs : Good3 s.m s.ext) (ops : List UOp5)
    (hg : Ops5Guarded ops s) (op : UOp5) (hop : OpGuard5 (run5 ops s).m (run5 ops s).ext op) (e : Err)
    (hrej : (runOp5 op (run5 ops s).m).1 = .error e) :
    e ≠ .needsReordering ∧
    Good3 (step5 op (run5 ops s)).m (step5 op (run5 ops s)).ext ∧
    (step5 op (run5 ops s)).ext = (run5 ops s).ext ∧
    (∀ w : Int, HeldX (run5 ops s).ext w → (step5 op (run5 ops s)).m.tbl.Mem w ∧
      ∀ σ, denN (step5 op (run5 ops s)).m.tbl w σ = denN (run5 ops s).m.tbl w σ) ∧
    (∀ op2 : UOp5, OpGuard5 (step5 op (run5 ops s)).m (step5 op (run5 ops s)).ext op2 →
      Good3 (step5 op2 (step5 op (run5 ops s))).m (step5 op2 (step5 op (run5 ops s))).ext) ∧
    (∃ m', collectGarbage none (step5 op (run5 ops s)).m = (.ok (), m') ∧ Good3 m' (run5 ops s).ext) :=
  have ⟨a, b, c, _, d⟩ := level5.error_then_normal _ (reachable5_from ops s hs hg) op hop e hrej
  ⟨a, b, c, d⟩

theorem C17_every_prefix_good5 (s : St) (hs : Good3 s.m s.ext) (pre post : List UOp5)
    (hg : Ops5Guarded (pre ++ post) s) : Good3 (run5 pre s).m (run5 pre s).ext :=
  level5.prefix_good pre post s hs hg

/-- C12: after ANY history (reordering not enabled at that point), `load_json` of ANY content:
returning, the state is good for the ledger plus one reference per returned root; raising, for the
unchanged ledger; in both cases every held reference keeps its function by name and every declared
variable its level -/
theorem C12_loadJson_every_history5 (s : St) (hs : Good3 s.m s.ext) (ops : List UOp5)
    (hg : Ops5Guarded ops s) (f : JsonFile) (hoff : (run5 ops s).m.lastLen = none) :
    Good3 (loadJson f false (run5 ops s).m).2
      (jsonLedger (loadJson f false (run5 ops s).m).1 (run5 ops s).ext) ∧
    Held2 (run5 ops s).ext (run5 ops s).m (loadJson f false (run5 ops s).m).2 ∧
    (∀ (v : String) (i : Nat), (run5 ops s).m.tbl.vars[v]? = some i →
      (loadJson f false (run5 ops s).m).2.tbl.vars[v]? = some i) :=
  have h := loadJson_step5 _ _ (reachable5_from ops s hs hg) f hoff
  ⟨h.1, h.2.1, h.2.2.2⟩

/-- C11: after ANY history, `copy_vars` from a source with a bijective order whose variables the
manager's declarations agree with: returns normally, the manager then declares exactly the
source's variables at the source's levels, is good for the same ledger, and every held reference
keeps its function by name -/
theorem C11_copyVars_every_history5 (s : St) (hs : Good3 s.m s.ext) (ops : List UOp5)
    (hg : Ops5Guarded ops s) (src : Tbl) (names : List String) (hO : OrderOK src)
    (hperm : names.Perm src.vars.keys)
    (hsub : ∀ (v : String) (i : Nat), (run5 ops s).m.tbl.vars[v]? = some i → src.vars[v]? = some i) :
    ∃ m', copyVarsCore src names (run5 ops s).m = (.ok (), m') ∧ Good3 m' (run5 ops s).ext ∧
      Held2 (run5 ops s).ext (run5 ops s).m m' ∧ m'.lastLen = (run5 ops s).m.lastLen ∧
      (∀ v : String, m'.tbl.vars[v]? = src.vars[v]?) :=
  copyVars_step5 _ _ (reachable5_from ops s hs hg) src names hO hperm hsub

def resCode5 : Except Err Res → Int
  | .ok (.ref u) => u
  | .ok (.lvl n) => 1000 + n
  | .ok .unit => 0
  | .error _ => -1000

def bop5 (o : UOp) : UOp5 := .op (.op (.op (.base o)))

/-- a JSON file: variables `a`, `d`; node 2 = `d`, node 3 = `a ∧ d`; root 3 -/
def exJson : JsonFile :=
  { levelOfVar := [("a", 0), ("d", 1)], roots := .list [3],
    nodes := [⟨2, 1, -1, 1⟩, ⟨3, 0, -1, 2⟩] }

/-- the same with a dangling successor -/
def exJsonBad : JsonFile := { exJson with nodes := [⟨2, 1, -1, 1⟩, ⟨3, 0, -1, 7⟩] }

/-- the variables of ANOTHER manager: `a`, `b`, `d`, `e` -/
def exSrc5 : Tbl :=
  (run5 [bop5 (.declare "a" none), bop5 (.declare "b" none), bop5 (.declare "d" none),
    bop5 (.declare "e" none)] St.init).m.tbl

/-- twelve calls: a JSON load that returns (the user gets a reference to the returned root, node
6 = `a ∧ d`), one that raises (`KeyError`: the node of `d` was built, the shelf is released),
`copy_vars` visiting the source's dict in two different orders (the first declares `e`, the second
finds everything declared), a rooted and a full collection in between, reordering enabled at the
end -/
def exHistory5 : List UOp5 :=
  [ bop5 (.declare "a" none), bop5 (.declare "b" none),
    .op (.addExpr "a /\\ b"),                       -- node 4
    bop5 (.incref 4),
    .loadJson exJson,                               -- declares `d`; returns node 6, now held
    .loadJson exJsonBad,                            -- REJECTED: dangling successor
    .copyVars exSrc5 ["e", "a", "d", "b"],          -- declares `e`
    .op (.gcRooted [2]),
    bop5 .collectGarbage,
    .op (.op (.configure true)),
    .copyVars exSrc5 ["a", "b", "d", "e"],          -- nothing left to declare
    .op (.addExpr "d \\/ e") ]                      -- node 7

/-- the history in one statement (the kernel evaluates a closed term once per declaration): its
guards, the answers of its calls and the state it ends in;
node 4 is held when the first file is loaded; the sixth call raises `KeyError` -/
theorem exHistory5_run : Ops5Guarded exHistory5 St.init ∧
    ((results5 exHistory5 St.init).map resCode5 = [1000, 1001, 4, 0, 0, -1000, 0, 0, 0, 0, 0, 7] ∧
    ⟪exHistory5⟫.m.tbl.vars.toList = [("a", 0), ("b", 1), ("d", 2), ("e", 3)] ∧
    ⟪exHistory5⟫.ext 4 = 1 ∧ ⟪exHistory5⟫.ext 6 = 1 ∧
    ⟪exHistory5⟫.m.ref.toList = [(1, 10), (2, 1), (3, 1), (4, 1), (5, 1), (6, 1), (7, 0)]) ∧
    0 < ⟪exHistory5.take 4⟫.ext 4 ∧
    (runOp5 (.loadJson exJsonBad) ⟪exHistory5.take 5⟫.m).1 = .error .key := by
  decide +kernel

theorem exHistory5_guarded : Ops5Guarded exHistory5 St.init := exHistory5_run.1

theorem exHistory5_results : (results5 exHistory5 St.init).map resCode5 =
    [1000, 1001, 4, 0, 0, -1000, 0, 0, 0, 0, 0, 7] ∧
    ⟪exHistory5⟫.m.tbl.vars.toList = [("a", 0), ("b", 1), ("d", 2), ("e", 3)] ∧
    ⟪exHistory5⟫.ext 4 = 1 ∧ ⟪exHistory5⟫.ext 6 = 1 ∧
    ⟪exHistory5⟫.m.ref.toList = [(1, 10), (2, 1), (3, 1), (4, 1), (5, 1), (6, 1), (7, 0)] :=
  exHistory5_run.2.1

example : Good3 ⟪exHistory5⟫.m ⟪exHistory5⟫.ext := reachable5_inv exHistory5 exHistory5_guarded

/-- C02 on the example -/
example (v : Int) (hv : ⟪exHistory5⟫.m.tbl.Mem v) :
    (∀ σ, denN ⟪exHistory5⟫.m.tbl 6 σ = denN ⟪exHistory5⟫.m.tbl v σ) ↔ 6 = v :=
  (C02_canonical_every_history5 exHistory5 exHistory5_guarded 6 v
    ((reachable5_inv exHistory5 exHistory5_guarded).exact.mem_of_ext_pos
      (by rw [show ((6 : Int).natAbs) = 6 from rfl, exHistory5_results.2.2.2.1]; decide)) hv).1

example : RefExact ⟪exHistory5⟫.m ⟪exHistory5⟫.ext :=
  (C06_counts_exact_every_history5 exHistory5 exHistory5_guarded).1

/-- C06 on the example: node 4 is held when the JSON file is loaded (fifth call) -/
example : (step5 (.loadJson exJson) ⟪exHistory5.take 4⟫).m.tbl.Mem 4 :=
  ((C06_held_every_history5 St.init Good3.init (exHistory5.take 4) (ops5Guarded_take 4 exHistory5_guarded)
    (.loadJson exJson) trivial).2.2 4 exHistory5_run.2.2.1).2.1

/-- C17 on the example: the sixth call raises in the state reached by five calls -/
theorem exHistory5_rejected :
    (runOp5 (.loadJson exJsonBad) ⟪exHistory5.take 5⟫.m).1 = .error .key := exHistory5_run.2.2.2

example : Good3 (step5 (.loadJson exJsonBad) ⟪exHistory5.take 5⟫).m
    (step5 (.loadJson exJsonBad) ⟪exHistory5.take 5⟫).ext :=
  (C17_error_then_normal5 St.init Good3.init (exHistory5.take 5) (ops5Guarded_take 5 exHistory5_guarded)
    (.loadJson exJsonBad) trivial .key exHistory5_rejected).2.1

example : Good3 ⟪exHistory5.take 7⟫.m ⟪exHistory5.take 7⟫.ext :=
  C17_every_prefix_good5 St.init Good3.init (exHistory5.take 7) (exHistory5.drop 7)
    (by rw [List.take_append_drop]; exact exHistory5_guarded)

/-- C12 on the example: after four calls reordering is not enabled (the hypothesis of
`C12_loadJson_every_history5`); no node line of the two files uses the terminal's id `1` -/
example : ⟪exHistory5.take 4⟫.m.lastLen = none ∧ (∀ ln ∈ exJson.nodes, ln.id ≠ 1) ∧
    (∀ ln ∈ exJsonBad.nodes, ln.id ≠ 1) := by decide +kernel

/-- C11 on the example: the source order is a bijection, `names` a permutation of its variables,
and after six calls the manager declares `a`, `b`, `d` at the source's levels -/
example : OrderOK exSrc5 ∧ ["e", "a", "d", "b"].Perm exSrc5.vars.keys ∧
    varsSubB exSrc5 ⟪exHistory5.take 6⟫.m.tbl = true := by
  have h : orderOKB exSrc5 = true ∧ ["e", "a", "d", "b"].Perm exSrc5.vars.keys ∧
      varsSubB exSrc5 ⟪exHistory5.take 6⟫.m.tbl = true := by decide +kernel
  exact ⟨orderOK_of_check h.1, h.2⟩

/-- the histories of DDProps.Histories3 are histories -/
example (ops : List UOp4) (hg : Ops4Guarded ops St.init) :
    Good3 (run4 ops St.init).m (run4 ops St.init).ext := by
  rw [← run5_op]
  exact reachable5_inv _ ((ops5Guarded_op ops St.init).mpr hg)

end DD
