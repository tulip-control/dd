/-
  DDProps.Histories4Sched — "for EVERY history" over `UOp4` with RECORDED SCHEDULES on the decorated
  calls (C09, C17, C06): the every-history theorems of DDProps.Histories3 run `cube`, `add_expr`,
  `image`, `preimage`, `copy_bdd` with the default iteration order only (`Good3.sched = []`); the
  differential check runs them with the schedule recorded from the real call.  A call is a pair
  (schedule, operation of `UOp4`), run as the driver runs a line (DDProofs.Reach4Sched).
-/
import DDProps.C07Accept
open Std

namespace DD

/-- C09 / C06 (every history, recorded schedules): from ANY good state, after any guarded history
whose decorated calls — of `UOp` and of `UOp4` — run under recorded schedules, the state is good:
invariant, order maps, counts exact for the user's ledger; with two variables the state is the
one the C09 / C17 theorems for every schedule start from (`DynInv`) -/
theorem C09_every_history4S (cs : List SCall4) (s : St) (h : Good3 s.m s.ext)
    (hg : Calls4GuardedS cs s) :
    Good3 (run4S cs s).m (run4S cs s).ext ∧
    (2 ≤ (run4S cs s).m.nvars → DynInv (run4S cs s).ext (run4S cs s).m) :=
  ⟨reachable4S_from cs s h hg, fun h2 => (reachable4S_from cs s h hg).dynInv h2⟩

/-- C09 (every history, recorded schedules): a reference the user holds and does not release stays
a node and keeps its function of the variable NAMES — siftings under recorded schedules inside
`cube`, `add_expr`, `image`, `preimage`, `copy_bdd` included -/
theorem C09_held_every_history4S (cs : List SCall4) (s : St) (h : Good3 s.m s.ext)
    (hg : Calls4GuardedS cs s) (u : Int)
    (hheld : ∀ (pre post : List SCall4), cs = pre ++ post → 0 < (run4S pre s).ext u.natAbs) :
    (run4S cs s).m.tbl.Mem u ∧ ∀ σ, denN (run4S cs s).m.tbl u σ = denN s.m.tbl u σ :=
  level4S.run_held cs s h hg u hheld

/-- C17 (every history, recorded schedules): the internal signal reaches the user in no call -/
theorem C17_noSignal_every_history4S (cs : List SCall4) (s : St) (h : Good3 s.m s.ext)
    (hg : Calls4GuardedS cs s) : ∀ r ∈ results4S cs s, r ≠ .error .needsReordering :=
  level4S.results_noSignal results4S (fun _ => rfl) (fun _ _ _ => rfl) cs s h hg

/-- the histories of DDProps.Histories3 are the histories without recorded schedules -/
theorem C09_history4S_default (ops : List UOp4) (s : St) :
    run4S (ops.map (SCall4.mk [])) s = run4 ops s :=
  hist4S.run_map hist4 (SCall4.mk []) (fun o _ => by cases o <;> rfl) ops s

/-- the guard of a call with a recorded schedule follows from "the schedule is the record of a
valid choice": the decorated operations of `UOp` and `cube`, `add_expr`, `image`, `preimage`,
`copy_bdd`, all with ANY arguments (`runOpC` / `runOp4C`: the choice-driven calls) -/
theorem C09_callGuard4S_of_choice (m : Mgr) (ext : Nat → Nat) (h : Good3 m ext) (h2 : 2 ≤ m.nvars)
    (c : Choice) (hc : c.Valid) (s : SchedItem) (sch : List SchedItem) :
    (∀ b : UOp, b.decorated = true → logOf (runOpC c b m).1 = some (s :: sch) →
      CallGuard4S m ext ⟨s :: sch, .op (.op (.base b))⟩) ∧
    (∀ o : UOp4, o.decoratedNew = true → logOf (runOp4C c o m).1 = some (s :: sch) →
      CallGuard4S m ext ⟨s :: sch, o⟩) :=
  ⟨fun b hdec hl => callGuardS_of_choice m ext h2 c hc b hdec s sch hl,
   fun o hdec hl => callGuard4S_new_of_choice m ext h h2 c hc o hdec s sch hl⟩

/-- every decorated operation `UOp4` adds accepts every valid choice: a schedule (the record, if
the choice-driven call returned) with which the scheduled call does what the choice-driven call
does, consumed exactly, `.sched` not among the outcomes -/
theorem C09_new_ops_accept_every_choice (ext : Nat → Nat) (c : Choice) (hc : c.Valid) (m : Mgr)
    (hD : DynInvS ext m) :
    (∀ d, AcceptsC c (cubeBody d) m) ∧ (∀ s, AcceptsC c (addExprToks (tokenize s)) m) ∧
    (∀ t s rn q fa, AcceptsF (imageC c t s rn q fa []) (image t s rn q fa) m) ∧
    (∀ t s rn q fa, AcceptsF (preimageC c t s rn q fa []) (preimage t s rn q fa) m) ∧
    (∀ src u, AcceptsC c (copyBddBody src u) m) :=
  ⟨fun d => cube_accepts ext c hc m hD d, fun s => addExpr_accepts ext c hc m hD s,
   fun t s rn q fa => image_accepts ext c hc m hD t s rn q fa,
   fun t s rn q fa => preimage_accepts ext c hc m hD t s rn q fa,
   fun src u => copyBdd_accepts c hc m src u⟩

/-- the decidable form of the guard is exact for the new operations too: replaying the choice read
off `sch` records `sch` iff `sch` is the record under some valid choice -/
theorem C09_encodes4_iff_choice (m : Mgr) (o : UOp4) (sch : List SchedItem) :
    logOf (runOp4C (Choice.ofSched sch) o m).1 = some sch ↔
      ∃ c : Choice, c.Valid ∧ logOf (runOp4C c o m).1 = some sch :=
  ⟨fun h => ⟨_, Choice.ofSched_valid sch, h⟩,
   fun ⟨c, hc, hl⟩ => runOp4C_encodes_of_choice c hc m sch o hl⟩

/-- the driver's call of `cube` under the record of a choice-driven call IS that call, with the
schedule consumed (acceptance, read off the record) -/
theorem runCall4S_cube_of_log (ext : Nat → Nat) (c : Choice) (hc : c.Valid) (m : Mgr)
    (hD : DynInvS ext m) (d : List (String × Bool)) (s : SchedItem) (sch : List SchedItem)
    (hl : logOf (runOp4C c (.cube d) m).1 = some (s :: sch)) :
    runCall4S ⟨s :: sch, .cube d⟩ m =
      (dropLog (runOp4C c (.cube d) m).1, setS [] (runOp4C c (.cube d) m).2) := by
  have e1 : runOp4C c (.cube d) m = mapResC .ref (tryToReorderC c (cubeBody d) [] m) := rfl
  have e2 : runCall4S ⟨s :: sch, .cube d⟩ m =
      clearSched (mapRes .ref (tryToReorder (cubeBody d) (setS (s :: sch) m))) := rfl
  rw [e1, logOf_mapResC] at hl
  have h := ((cube_accepts ext c hc m hD d).of_log hl).1 []
  rw [List.append_nil] at h
  rw [e2, h, e1]
  generalize tryToReorderC c (cubeBody d) [] m = x
  obtain ⟨e | ⟨r, log⟩, m1⟩ := x <;> rfl

/-- a history of two calls, through the outcome of the first -/
theorem run4S_two (c1 c2 : SCall4) (s : St) (r1 : Except Err Res) (x : Mgr)
    (h1 : runCall4S c1 s.m = (r1, x)) :
    results4S [c1, c2] s = [r1, (runCall4S c2 x).1] ∧ (run4S [c1, c2] s).m = (runCall4S c2 x).2 := by
  simp only [results4S, run4S, step4S, h1, and_self]

/-- from `exSchedM` (DDProps.C09Sched: three variables, reordering enabled, a request due):
`cube({a: True, b: True})` under the recorded schedule `exRevSched` (DDProps.C07Accept), then
`add_expr('a & c')` with the default schedule -/
def exHistory4S : List SCall4 :=
  [⟨exRevSched, .cube [("a", true), ("b", true)]⟩, ⟨[], .addExpr "a & c"⟩]

/-- ONE evaluation for the three statements below: the record of the choice-driven first call and
its result, and the second call from the state that call ends in (schedule consumed) -/
theorem exHistory4S_eval :
    logOf (runOp4C Choice.rev (.cube [("a", true), ("b", true)]) exSchedM).1 = some exRevSched ∧
    (dropLog (runOp4C Choice.rev (.cube [("a", true), ("b", true)]) exSchedM).1).toOption.isSome = true ∧
    (runCall4S ⟨[], .addExpr "a & c"⟩
      (setS [] (runOp4C Choice.rev (.cube [("a", true), ("b", true)]) exSchedM).2)).1.toOption.isSome = true ∧
    (runCall4S ⟨[], .addExpr "a & c"⟩
      (setS [] (runOp4C Choice.rev (.cube [("a", true), ("b", true)]) exSchedM).2)).2.tbl.l2v.toList =
        [(0, "a"), (1, "c"), (2, "b")] ∧
    (runCall4S ⟨[], .addExpr "a & c"⟩
      (setS [] (runOp4C Choice.rev (.cube [("a", true), ("b", true)]) exSchedM).2)).2.sched = [] := by
  unfold exSchedM
  decide +kernel

/-- the schedule of the first call is the record of the choice `Choice.rev` for that call, so its
guard is the one `C09_callGuard4S_of_choice` derives -/
theorem exHistory4S_record :
    logOf (runOp4C Choice.rev (.cube [("a", true), ("b", true)]) exSchedM).1 = some exRevSched :=
  exHistory4S_eval.1

theorem exHistory4S_guarded : Calls4GuardedS exHistory4S ⟨exSchedM, exSchedExt⟩ :=
  ⟨(C09_callGuard4S_of_choice exSchedM exSchedExt exSchedM_good3 exSchedM_dynInv.nvars Choice.rev
    Choice.rev_valid _ _).2 _ rfl exHistory4S_record, trivial, trivial⟩

theorem exHistory4S_results :
    (results4S exHistory4S ⟨exSchedM, exSchedExt⟩).map (fun r => r.toOption.isSome) = [true, true] ∧
    (run4S exHistory4S ⟨exSchedM, exSchedExt⟩).m.tbl.l2v.toList = [(0, "a"), (1, "c"), (2, "b")] ∧
    (run4S exHistory4S ⟨exSchedM, exSchedExt⟩).m.sched = [] := by
  -- the first call under its recorded schedule is the choice-driven call (acceptance)
  have hfirst : runCall4S ⟨exRevSched, .cube [("a", true), ("b", true)]⟩ exSchedM = (_, _) :=
    runCall4S_cube_of_log exSchedExt Choice.rev Choice.rev_valid exSchedM exSchedM_dynInv.toS _ _ _
      exHistory4S_record
  obtain ⟨hres, hm⟩ := run4S_two _ ⟨[], .addExpr "a & c"⟩ ⟨exSchedM, exSchedExt⟩ _ _ hfirst
  obtain ⟨-, h1, h2, h3, h4⟩ := exHistory4S_eval
  unfold exHistory4S
  rw [hres, hm]
  exact ⟨by rw [List.map_cons, List.map_cons, h1, h2]; rfl, h3, h4⟩

example : CallGuard4S exSchedM exSchedExt ⟨exRevSched, .cube [("a", true), ("b", true)]⟩ :=
  (C09_callGuard4S_of_choice exSchedM exSchedExt exSchedM_good3 exSchedM_dynInv.nvars Choice.rev
    Choice.rev_valid _ _).2 _ rfl exHistory4S_record

example : Good3 (run4S exHistory4S ⟨exSchedM, exSchedExt⟩).m (run4S exHistory4S ⟨exSchedM, exSchedExt⟩).ext :=
  (C09_every_history4S exHistory4S ⟨exSchedM, exSchedExt⟩ exSchedM_good3 exHistory4S_guarded).1

end DD
