/-
  DDProps.Histories5 — per-operation properties re-stated after EVERY guarded history over `UOp5`
  (the alphabet of DDProps.Histories4; hence the names `…_every_history5`, `…_reachable5`), with
  hypotheses that the history layer discharges.

  * The keys of `_pred`.  `KeysOK` / `PredShape` / `KeysShaped` / `PredNodes` — "every key of `_pred`
    is a node triple", what is lost by modelling tuples as lists — is a HYPOTHESIS of
    `C12_json_load_dyn`, `C12_manager_roundtrip`, `C15_bddToMdd_total`.  It holds in every state of
    every history over `UOp5` (`runOp5_keysOK`: no guard, no invariant needed), so those theorems hold
    after every guarded history WITHOUT it: `C12_json_load_dyn_reachable`,
    `C12_manager_roundtrip_reachable`, `C15_bddToMdd_reachable5`.
  * `load_json(load_order=False)` with reordering ENABLED as a step of a history
    (`loadJson_dyn_step5`, through `C12_json_load_dyn`; its hypothesis is `JsonWF`, which is not a
    decidable guard, so it is a lemma to chain histories with and not a case of `OpGuard5`);
    `copy_vars` under the weakest compatibility and for every outcome
    (`C11_copyVars_weakest_every_history5`, `C11_copyVars_any_outcome`, `copyVars_refused_gap`).
  * A manager loaded from a DDDMP file as the START of a history (`dddmp_start`).
  * `C03_quantify_every_history5`, `C04_let_every_history5`.
-/
import DDProofs.Reach5Keys
import DDProps.Histories4
import DDProps.C03
import DDProps.C12Dyn
import DDProps.C15
import DDProps.C16
import DDProofs.AutoValues
open Std
namespace DD

local notation "⟪" ops "⟫" => run5 ops St.init

/-- the invariant of reachable states INCLUDING the shape of the `_pred` keys, after every history
over the widest alphabet, from every such state -/
theorem C06_keys_every_history5 (s : St) (hs : GoodK s.m s.ext) (ops : List UOp5)
    (hg : Ops5Guarded ops s) :
    GoodK (run5 ops s).m (run5 ops s).ext ∧ PredNodes (run5 ops s).m ∧ KeysShaped (run5 ops s).m :=
  have h := reachable5K_from ops s hs hg
  ⟨h, h.predNodes, keysShaped_iff_keysOK.mpr h.keys⟩

/-- `load_json(load_order=False)` as a STEP, dynamic reordering possibly ENABLED, for every
well-formed content: from a good state with at least two variables the call returns; the result is
the one of `C12_json_load_dyn` (`JsonLoadedDyn`); the state is good, with the key shape, for the
ledger grown by one reference per returned `Function` — a history goes on from there -/
theorem loadJson_dyn_step5 (m : Mgr) (ext : Nat → Nat) (h : GoodK m ext) (h2 : 2 ≤ m.nvars)
    (f : JsonFile) (hf : JsonWF f) :
    ∃ roots' m', loadJson f false m = (.ok roots', m') ∧ JsonLoadedDyn f ext m roots' m' ∧
      GoodK m' (extAdd ext (roots'.values.map Int.natAbs)) ∧
      GoodK (runOp5 (.loadJson f) m).2 (ledger5 (.loadJson f) m ext) := by
  obtain ⟨roots', m', he, L⟩ := C12_json_load_dyn f m ext hf (h.good.dynInv h2) h.predNodes
  have hk : KeysOK m' := by
    have := ksm_loadJson_false f m h.keys
    rw [he] at this; exact this
  have hG : GoodK m' (extAdd ext (roots'.values.map Int.natAbs)) :=
    ⟨L.dyn.good3 (L.regRoots.trans h.good.roots), hk⟩
  refine ⟨roots', m', he, L, hG, ?_⟩
  have e1 : (runOp5 (.loadJson f) m).2 = m' := by simp only [runOp5, mapRes, he]
  have e2 : ledger5 (.loadJson f) m ext = extAdd ext (roots'.values.map Int.natAbs) := by
    show jsonLedger (loadJson f false m).1 ext = _
    rw [he]; rfl
  rw [e1, e2]; exact hG

/-- C12 after every history, without the key-shape hypothesis of `C12_json_load_dyn`: after any guarded history over
`UOp5` from any good state, reordering enabled or not, with at least two variables declared,
`load_json(load_order=False)` of every well-formed content returns with `JsonLoadedDyn`; and the
state it leaves is one histories start from -/
theorem C12_json_load_dyn_reachable (s : St) (hs : GoodK s.m s.ext) (ops : List UOp5)
    (hg : Ops5Guarded ops s) (h2 : 2 ≤ (run5 ops s).m.nvars) (f : JsonFile) (hf : JsonWF f) :
    ∃ roots' m', loadJson f false (run5 ops s).m = (.ok roots', m') ∧
      JsonLoadedDyn f (run5 ops s).ext (run5 ops s).m roots' m' ∧
      GoodK m' (extAdd (run5 ops s).ext (roots'.values.map Int.natAbs)) ∧
      ∀ (post : List UOp5), Ops5Guarded post (step5 (.loadJson f) (run5 ops s)) →
        GoodK (run5 (ops ++ .loadJson f :: post) s).m (run5 (ops ++ .loadJson f :: post) s).ext := by
  have hG := reachable5K_from ops s hs hg
  obtain ⟨roots', m', he, L, a, b⟩ := loadJson_dyn_step5 _ _ hG h2 f hf
  refine ⟨roots', m', he, L, a, fun post hp => ?_⟩
  rw [run5_append]
  exact reachable5K_from post (step5 (.loadJson f) (run5 ops s)) b hp

/-- C12, whole-manager round trip after every history, without the two hypotheses of
`C12_manager_roundtrip`: the manager
reached by any guarded history, dumped and loaded again, is stored as it was -/
theorem C12_manager_roundtrip_reachable (s : St) (hs : GoodK s.m s.ext) (ops : List UOp5)
    (hg : Ops5Guarded ops s) :
    ∃ m', loadManager (dumpManager (run5 ops s).m) = .ok m' ∧ MgrStored (run5 ops s).m m' :=
  have hG := reachable5K_from ops s hs hg
  C12_manager_roundtrip (run5 ops s).m hG.good.order.toDmp hG.keys

/-- C15, `bdd_to_mdd` after every history, without the key-shape hypothesis of `C15_bddToMdd_total`:
for any setting of
dynamic reordering and a complete description of the integer variables the conversion returns
normally with `B2MOK`; the key shape still holds afterwards -/
theorem C15_bddToMdd_reachable5 (s : St) (hs : GoodK s.m s.ext) (ops : List UOp5)
    (hg : Ops5Guarded ops s) (dvars : List MVar) (hd : DvarsFull (run5 ops s).m.tbl dvars) :
    ∃ out mb', bddToMdd dvars none (run5 ops s).m = (.ok out, mb') ∧
      B2MOK (run5 ops s).ext dvars (run5 ops s).m out mb' ∧ KeysOK mb' ∧ mb'.sched = [] := by
  have hG := reachable5K_from ops s hs hg
  obtain ⟨out, mb', he, hb, hk, hsd⟩ :=
    C15_bddToMdd_total (run5 ops s).ext (run5 ops s).m hG.good.reorderInv_self (keysShaped_iff_keysOK.mpr hG.keys)
      hG.good.sched dvars hd
  exact ⟨out, mb', he, hb, keysShaped_iff_keysOK.mp hk, hsd⟩

/-- `dddmp.load` as the start of a history.  `load` returns a manager whose attribute `roots`
holds the loaded roots WITHOUT a reference count for them (`C16_load_good`: the counts are exact
for the EMPTY ledger), while every operation of a history assumes what `reorder` / `collect_garbage`
need: a recorded root is a reference the user holds.  So the loaded manager itself is not a state of
the history layer (the first collection frees its roots, and `reorder(order)` then raises on the
recorded root).  What IS one: the manager after the user's assignment `bdd.roots = set()` (or after
`incref` of every root, which the ledger then records — not stated here): good for the empty
ledger, with the key shape, the nodes and the order being the loaded ones. -/
theorem dddmp_start (f : DddmpFile) (hf : f.WF) :
    ∃ m, loadDddmp f = .ok m ∧ GoodK { m with roots := [] } (fun _ => 0) ∧
      ({ m with roots := [] } : Mgr).lastLen = none ∧
      (∀ r ∈ m.roots, ({ m with roots := [] } : Mgr).tbl.Mem r) ∧ DddmpRootsDenote f m ∧
      ∀ (ops : List UOp5), Ops5Guarded ops ⟨{ m with roots := [] }, fun _ => 0⟩ →
        GoodK (run5 ops ⟨{ m with roots := [] }, fun _ => 0⟩).m
          (run5 ops ⟨{ m with roots := [] }, fun _ => 0⟩).ext := by
  obtain ⟨m, hl, hg, hs, -, -, hr, hd, -⟩ := C16_load_good f hf
  have hI : Inv ({ m with roots := [] } : Mgr) := hg.inv.congr rfl rfl rfl rfl rfl
  have hG : GoodK ({ m with roots := [] } : Mgr) (fun _ => 0) :=
    ⟨⟨hI, hg.order, hg.exact.congr rfl rfl, hg.ctx, hs, rfl⟩, (keysOK_loadDddmp f m hl).congr rfl⟩
  exact ⟨m, hl, hG, hg.off, hr, hd, fun ops ho => reachable5K_from ops _ hG ho⟩

/-- C11 after ANY history under the WEAKEST compatibility: the source order is a bijection, `names`
a permutation of its variables, and whatever the manager declares at a level below the source's
number of variables is what the source has there (`varsBelowB`, the guard of `.copyVars`) —
`copy_vars` returns normally, every source variable is then declared at its source level, what was
declared stays, the manager is good for the same ledger and every held reference keeps its
function by name -/
theorem C11_copyVars_weakest_every_history5 (s : St) (hs : Good3 s.m s.ext) (ops : List UOp5)
    (hg : Ops5Guarded ops s) (src : Tbl) (names : List String) (hO : OrderOK src)
    (hperm : names.Perm src.vars.keys)
    (hbelow : ∀ (v : String) (i : Nat), (run5 ops s).m.tbl.vars[v]? = some i → i < src.nvars →
      src.vars[v]? = some i) :
    ∃ m', copyVarsCore src names (run5 ops s).m = (.ok (), m') ∧ Good3 m' (run5 ops s).ext ∧
      Held2 (run5 ops s).ext (run5 ops s).m m' ∧ m'.lastLen = (run5 ops s).m.lastLen ∧
      (∀ (v : String) (l : Nat), src.vars[v]? = some l → m'.tbl.vars[v]? = some l) ∧
      (∀ (v : String) (i : Nat), (run5 ops s).m.tbl.vars[v]? = some i → m'.tbl.vars[v]? = some i) :=
  copyVars_step5w _ _ (reachable5_from ops s hs hg) src names hO hperm hbelow

/-- C11 / C17, `copy_vars`, EVERY outcome after ANY history, NO hypothesis on the source, the
visiting order or the target: returned or raised, the invariant holds, every node is there with
the same function of the LEVELS, every declared variable keeps its level, the switches are
untouched, the counts are exact for the same ledger, no schedule is left.  (A refusal can break
the ORDER only: `copyVars_refused_gap`.) -/
theorem C11_copyVars_any_outcome (s : St) (hs : Good3 s.m s.ext) (ops : List UOp5)
    (hg : Ops5Guarded ops s) (src : Tbl) (names : List String) :
    KeptV (run5 ops s).m (copyVarsCore src names (run5 ops s).m).2 ∧
    RefExact (copyVarsCore src names (run5 ops s).m).2 (run5 ops s).ext ∧
    (copyVarsCore src names (run5 ops s).m).2.sched = [] := by
  have hG := reachable5_from ops s hs hg
  obtain ⟨k, r⟩ := copyVarsCore_any src names (run5 ops s).m hG.inv
  exact ⟨k, r _ hG.exact, k.sched.trans hG.sched⟩

/-- source of the counterexample: variables `a`, `b`, `c` -/
def exSrcGap : Tbl :=
  (run5 [bop5 (.declare "a" none), bop5 (.declare "b" none), bop5 (.declare "c" none)] St.init).m.tbl

/-- target of the counterexample: one variable `x` -/
def exTgtGap : Mgr := (run5 [bop5 (.declare "x" none)] St.init).m

/-- why the guard cannot be dropped (F7): target `{x: 0}`, source `{a: 0, b: 1, c: 2}`, the
dict visited in the order `c, a, b`.  `add_var("c", 2)` succeeds (level 2 is free), then
`add_var("a", 0)` raises `ValueError` (level 0 is `x`): the call is refused having declared `c` at
level 2 with level 1 unnamed — the order of the manager is no bijection any more (`c` has a level
that is not below the number of variables).  Visiting `a` first is refused with nothing declared. -/
theorem copyVars_refused_gap :
    OrderOK exSrcGap ∧ ["c", "a", "b"].Perm exSrcGap.vars.keys ∧ Good3 exTgtGap (fun _ => 0) ∧
    varsBelowB exSrcGap exTgtGap.tbl = false ∧
    (copyVarsCore exSrcGap ["c", "a", "b"] exTgtGap).1 = .error .value ∧
    (copyVarsCore exSrcGap ["c", "a", "b"] exTgtGap).2.tbl.vars.toList = [("c", 2), ("x", 0)] ∧
    ¬ OrderOK (copyVarsCore exSrcGap ["c", "a", "b"] exTgtGap).2.tbl ∧
    (copyVarsCore exSrcGap ["a", "b", "c"] exTgtGap).2.tbl.vars.toList = [("x", 0)] := by
  have h : orderOKB exSrcGap = true ∧ ["c", "a", "b"].Perm exSrcGap.vars.keys ∧
      Ops5Guarded [bop5 (.declare "x" none)] St.init ∧ varsBelowB exSrcGap exTgtGap.tbl = false ∧
      (copyVarsCore exSrcGap ["c", "a", "b"] exTgtGap).1 = .error .value ∧
      (copyVarsCore exSrcGap ["c", "a", "b"] exTgtGap).2.tbl.vars.toList = [("c", 2), ("x", 0)] ∧
      (copyVarsCore exSrcGap ["c", "a", "b"] exTgtGap).2.tbl.vars["c"]? = some 2 ∧
      (copyVarsCore exSrcGap ["c", "a", "b"] exTgtGap).2.tbl.nvars = 2 ∧
      (copyVarsCore exSrcGap ["a", "b", "c"] exTgtGap).2.tbl.vars.toList = [("x", 0)] := by
    decide +kernel
  obtain ⟨h1, h2, h3, h4, h5, h6, hc, hn, h7⟩ := h
  refine ⟨orderOK_of_check h1, h2, reachable5_inv _ h3, h4, h5, h6, fun hO => ?_, h7⟩
  -- `c` sits at level 2 of a manager with two variables
  have := hO.lt "c" 2 hc
  rw [hn] at this
  exact Nat.lt_irrefl _ this

/-- what every capstone below concludes about the state after the call: good for the same ledger,
the switch as it was, every held reference a node with its function by name -/
def After5 (m : Mgr) (ext : Nat → Nat) (m' : Mgr) : Prop :=
  Good3 m' ext ∧ m'.lastLen.isSome = m.lastLen.isSome ∧ Held2 ext m m'

theorem base_step5 {m m' : Mgr} {ext : Nat → Nat} {o : UOp} {r : Except Err Res} (h : Good3 m ext)
    (he : runOp o m = (r, m')) (hgd : OpGuard m ext o) (hl : ledger o m ext = ext)
    (hsafe : m.lastLen.isSome = true → 2 ≤ m.nvars) : After5 m ext m' := by
  have hs := runOp5_stepL m ext (bop5 o) h hgd
  have a' : Good3 (runOp o m).2 (ledger o m ext) := hs.good
  have c' : (runOp o m).2.lastLen.isSome = m.lastLen.isSome := hs.switch hsafe
  have b' : Held2 ext m (runOp o m).2 := hs.held
  rw [he] at a' b' c'
  exact ⟨hl ▸ a', c', b'⟩

/-- the operands of a decorated call after a history: any nodes while dynamic reordering is not
enabled; references the user HOLDS (or the constants) once it is, and then two variables -/
def OperandsOK (m : Mgr) (ext : Nat → Nat) (opnds : List Int) : Prop :=
  (m.lastLen = none ∧ ∀ w ∈ opnds, m.tbl.Mem w) ∨ (2 ≤ m.nvars ∧ ∀ w ∈ opnds, HeldX ext w)

theorem OperandsOK.safe {m : Mgr} {ext : Nat → Nat} {l : List Int} (h : OperandsOK m ext l) :
    m.lastLen.isSome = true → 2 ≤ m.nvars := by
  intro hs
  rcases h with ⟨h0, -⟩ | ⟨h2, -⟩
  · rw [h0] at hs; cases hs
  · exact h2

/-- `quantify` on declared names in a good state, either mode: the documented result by name -/
theorem quantify_good5 (m : Mgr) (ext : Nat → Nat) (h : Good3 m ext) (u : Int) (fa : Bool)
    (names : List String) (hdecl : ∀ s ∈ names, m.tbl.vars.contains s = true)
    (hu : OperandsOK m ext [u]) :
    ∃ r m', quantify u (names.map Key.name) fa m = (.ok r, m') ∧ QuantDoc fa names u m.tbl r m'.tbl :=
  let ⟨r, m', he, hd, _⟩ := (quantify_docBody u fa names).good m ext h hu hdecl
  ⟨r, m', he, hd⟩

theorem cofactor_good5 (m : Mgr) (ext : Nat → Nat) (h : Good3 m ext) (u : Int)
    (vals : List (String × Bool)) (hdecl : ∀ p ∈ vals, m.tbl.vars.contains p.1 = true)
    (hu : OperandsOK m ext [u]) :
    ∃ r m', cofactor u (boolKeys vals) m = (.ok r, m') ∧ CofDoc vals u m.tbl r m'.tbl :=
  let ⟨r, m', he, hd, _⟩ := (cofactor_docBody u vals).good m ext h hu hdecl
  ⟨r, m', he, hd⟩

theorem compose_good5 (m : Mgr) (ext : Nat → Nat) (h : Good3 m ext) (f : Int)
    (varSub : List (String × Int)) (hdecl : ∀ p ∈ varSub, m.tbl.vars.contains p.1 = true)
    (hu : OperandsOK m ext (f :: varSub.map (·.2))) :
    ∃ r m', compose f varSub m = (.ok r, m') ∧ ComposeDoc varSub f m.tbl r m'.tbl :=
  let ⟨r, m', he, hd, _⟩ := (compose_docBody f varSub).good m ext h hu hdecl
  ⟨r, m', he, hd⟩

theorem rename_good5 (m : Mgr) (ext : Nat → Nat) (h : Good3 m ext) (u : Int)
    (dvars : List (String × String)) (hd : ∀ p ∈ dvars, m.tbl.vars.contains p.2 = true)
    (hu : OperandsOK m ext [u]) :
    ∃ r m', rename u dvars m = (.ok r, m') ∧ RenameDoc dvars u m.tbl r m'.tbl :=
  let ⟨r, m', he, hd, _⟩ := (rename_docBody u dvars).good m ext h hu hd
  ⟨r, m', he, hd⟩

/-- C03 after every history: `quantify(u, names, forall)` (`exist` / `forall`) issued at ANY
point of ANY guarded history over the widest alphabet (from any good state; reordering enabled or
not, a request firing at whichever node creation), on declared names and an operand that is any
node (reordering not enabled) or a held reference (enabled; two variables): the call RETURNS; its
result is a node that is true under `σ` exactly when some / every change of `σ` on `names` makes
`u` true — the function of the variable NAMES that `u` denoted before the call; the state is good
for the same ledger (the history goes on); the switch is as it was; every held reference keeps its
function by name -/
theorem C03_quantify_every_history5 (s : St) (hs : Good3 s.m s.ext) (ops : List UOp5)
    (hg : Ops5Guarded ops s) (u : Int) (fa : Bool) (names : List String)
    (hdecl : ∀ n ∈ names, (run5 ops s).m.tbl.vars.contains n = true)
    (hu : OperandsOK (run5 ops s).m (run5 ops s).ext [u]) :
    ∃ r m', runOp5 (bop5 (.quantify u (names.map Key.name) fa)) (run5 ops s).m = (.ok (.ref r), m') ∧
      m'.tbl.Mem r ∧
      (∀ σ, denN m'.tbl r σ = true ↔ qsemN fa names (denN (run5 ops s).m.tbl u) σ) ∧
      After5 (run5 ops s).m (run5 ops s).ext m' := by
  have hG := reachable5_from ops s hs hg
  obtain ⟨r, m', he, hd⟩ := quantify_good5 _ _ hG u fa names hdecl hu
  have e : runOp (.quantify u (names.map Key.name) fa) (run5 ops s).m = (.ok (.ref r), m') := by
    simp only [runOp, mapRes, he]
  exact ⟨r, m', e, hd.1, hd.2, base_step5 hG e trivial rfl hu.safe⟩

/-- C03 after every history, quantified variables given as LEVELS or names (`_map_to_level`),
reordering not enabled: the statement of `C03_quantify` by level, plus the state after -/
theorem C03_quantify_levels_every_history5 (s : St) (hs : Good3 s.m s.ext) (ops : List UOp5)
    (hg : Ops5Guarded ops s) (hoff : (run5 ops s).m.lastLen = none) (u : Int)
    (hu : (run5 ops s).m.tbl.Mem u) (qvars : List Key) (fa : Bool) (lv : List Nat)
    (hlv : mapToLevelE (run5 ops s).m.tbl qvars = .ok lv) :
    ∃ r m', runOp5 (bop5 (.quantify u qvars fa)) (run5 ops s).m = (.ok (.ref r), m') ∧
      m'.tbl.Mem r ∧
      (∀ a, den m'.tbl r a = true ↔
        (match fa with
         | true => ∀ b : Asg, (∀ j, j ∉ lv → b j = a j) → den (run5 ops s).m.tbl u b = true
         | false => ∃ b : Asg, (∀ j, j ∉ lv → b j = a j) ∧ den (run5 ops s).m.tbl u b = true)) ∧
      After5 (run5 ops s).m (run5 ops s).ext m' := by
  have hG := reachable5_from ops s hs hg
  obtain ⟨r, m', he, -, -, hm, -, hd⟩ := C03_quantify _ hG.inv hoff u hu qvars fa lv hlv
  have e : runOp (.quantify u qvars fa) (run5 ops s).m = (.ok (.ref r), m') := by
    simp only [runOp, mapRes, he]
  exact ⟨r, m', e, hm, hd, base_step5 hG e trivial rfl (fun h => by rw [hoff] at h; cases h)⟩

/-- C04 after every history: `let` in its three homogeneous forms (`{name: bool}` = cofactor,
`{name: reference}` = compose, `{name: name}` = rename) issued at ANY point of ANY guarded history
over the widest alphabet, on declared names and operands that are any nodes (reordering not
enabled) or held references (enabled; two variables): the call RETURNS the node of the documented
function of the variable NAMES — `u` with the named variables fixed / substituted by what the
given references denoted before the call / renamed —, the state is good for the same ledger, the
switch is as it was, every held reference keeps its function by name -/
theorem C04_let_every_history5 (s : St) (hs : Good3 s.m s.ext) (ops : List UOp5)
    (hg : Ops5Guarded ops s) (u : Int) :
    (∀ (vals : List (String × Bool)), vals ≠ [] →
      (∀ p ∈ vals, (run5 ops s).m.tbl.vars.contains p.1 = true) →
      OperandsOK (run5 ops s).m (run5 ops s).ext [u] →
      ∃ r m', runOp5 (bop5 (.let_ (.bools (boolKeys vals)) u)) (run5 ops s).m = (.ok (.ref r), m') ∧
        m'.tbl.Mem r ∧ (∀ σ, denN m'.tbl r σ = denN (run5 ops s).m.tbl u (ovrN vals σ)) ∧
        After5 (run5 ops s).m (run5 ops s).ext m') ∧
    (∀ (varSub : List (String × Int)), varSub ≠ [] →
      (∀ p ∈ varSub, (run5 ops s).m.tbl.vars.contains p.1 = true) →
      OperandsOK (run5 ops s).m (run5 ops s).ext (u :: varSub.map (·.2)) →
      ∃ r m', runOp5 (bop5 (.let_ (.refs varSub) u)) (run5 ops s).m = (.ok (.ref r), m') ∧
        m'.tbl.Mem r ∧
        (∀ σ, denN m'.tbl r σ = denN (run5 ops s).m.tbl u (subN (run5 ops s).m.tbl varSub σ)) ∧
        After5 (run5 ops s).m (run5 ops s).ext m') ∧
    (∀ (dvars : List (String × String)), dvars ≠ [] →
      (∀ p ∈ dvars, (run5 ops s).m.tbl.vars.contains p.2 = true) →
      OperandsOK (run5 ops s).m (run5 ops s).ext [u] →
      ∃ r m', runOp5 (bop5 (.let_ (.names dvars) u)) (run5 ops s).m = (.ok (.ref r), m') ∧
        m'.tbl.Mem r ∧
        (∀ σ, denN m'.tbl r σ = denN (run5 ops s).m.tbl u (fun n => σ (tgtName dvars n))) ∧
        After5 (run5 ops s).m (run5 ops s).ext m') := by
  have hG := reachable5_from ops s hs hg
  refine ⟨fun vals hne hdecl hu => ?_, fun varSub hne hdecl hu => ?_, fun dvars hne hd hu => ?_⟩
  · obtain ⟨r, m', he, hd⟩ := cofactor_good5 _ _ hG u vals hdecl hu
    have hne' : boolKeys vals ≠ [] := by
      cases vals with
      | nil => exact absurd rfl hne
      | cons _ _ => simp [boolKeys]
    have e : runOp (.let_ (.bools (boolKeys vals)) u) (run5 ops s).m = (.ok (.ref r), m') := by
      simp only [runOp, letOp_bools _ hne', mapRes, he]
    exact ⟨r, m', e, hd.1, hd.2, base_step5 hG e trivial rfl hu.safe⟩
  · obtain ⟨r, m', he, hd⟩ := compose_good5 _ _ hG u varSub hdecl hu
    have e : runOp (.let_ (.refs varSub) u) (run5 ops s).m = (.ok (.ref r), m') := by
      simp only [runOp, letOp_refs _ hne, mapRes, he]
    exact ⟨r, m', e, hd.1, hd.2, base_step5 hG e trivial rfl hu.safe⟩
  · obtain ⟨r, m', he, hd'⟩ := rename_good5 _ _ hG u dvars hd hu
    have e : runOp (.let_ (.names dvars) u) (run5 ops s).m = (.ok (.ref r), m') := by
      simp only [runOp, letOp_names _ hne, mapRes, he]
    exact ⟨r, m', e, hd'.1, hd'.2, base_step5 hG e trivial rfl hu.safe⟩

/-- the key shape on the example history of DDProps.Histories4 (twelve calls, both JSON loads, both
`copy_vars`, collections, reordering enabled at the end) -/
example : GoodK ⟪exHistory5⟫.m ⟪exHistory5⟫.ext ∧ PredNodes ⟪exHistory5⟫.m ∧ KeysShaped ⟪exHistory5⟫.m :=
  C06_keys_every_history5 St.init ⟨Good3.init, keysOK_init⟩ exHistory5 exHistory5_guarded

/-- `copy_vars` under the weakest guard on the example: a source with FEWER variables than the manager (`a`, `b` against `a`,
`b`, `d`, `e`).  The guard `varsSubB` (the manager declares nothing the source does not have)
fails, the weakest one (`varsBelowB`) holds; the call is a step of a guarded history (the thirteenth) -/
def exSrcAB : Tbl := (run5 [bop5 (.declare "a" none), bop5 (.declare "b" none)] St.init).m.tbl

/-- the state after the history in one statement (the kernel evaluates a closed term once per
declaration): what the examples below need of it, and how the smaller source `exSrcAB` compares
with it -/
theorem exHistory5_facts :
    (2 ≤ ⟪exHistory5⟫.m.nvars ∧ ⟪exHistory5⟫.m.lastLen = some 100 ∧
      ⟪exHistory5⟫.m.tbl.vars.keys = ["a", "b", "d", "e"] ∧
      (∀ n ∈ ["a", "d"], ⟪exHistory5⟫.m.tbl.vars.contains n = true)) ∧
    (varsSubB exSrcAB ⟪exHistory5⟫.m.tbl = false ∧ varsBelowB exSrcAB ⟪exHistory5⟫.m.tbl = true ∧
      orderOKB exSrcAB = true ∧ ["b", "a"].Perm exSrcAB.vars.keys) := by decide +kernel

/-- C12 there: reordering is ENABLED, four variables; `jsonBA` (`b ∧ a`, order b < a) is
well-formed: the load returns with `JsonLoadedDyn`, no key-shape hypothesis -/
example : ∃ roots' m', loadJson jsonBA false ⟪exHistory5⟫.m = (.ok roots', m') ∧
    JsonLoadedDyn jsonBA ⟪exHistory5⟫.ext ⟪exHistory5⟫.m roots' m' := by
  obtain ⟨roots', m', h, L, -⟩ := C12_json_load_dyn_reachable St.init ⟨Good3.init, keysOK_init⟩
    exHistory5 exHistory5_guarded exHistory5_facts.1.1 jsonBA jsonBA_wf
  exact ⟨roots', m', h, L⟩

example : ∃ m', loadManager (dumpManager ⟪exHistory5⟫.m) = .ok m' ∧ MgrStored ⟪exHistory5⟫.m m' :=
  C12_manager_roundtrip_reachable St.init ⟨Good3.init, keysOK_init⟩ exHistory5 exHistory5_guarded

/-- C15 there: two integer variables of two bits each over `a`, `b`, `d`, `e` -/
def exDvars5 : List MVar := [⟨"x", 0, 4, ["b", "a"]⟩, ⟨"y", 1, 4, ["e", "d"]⟩]

theorem exDvars5_full : DvarsFull ⟪exHistory5⟫.m.tbl exDvars5 := by
  refine ⟨⟨by decide, ?_⟩, by decide, by decide, by decide⟩
  rw [exHistory5_facts.1.2.2.1]; decide

example : ∃ out mb', bddToMdd exDvars5 none ⟪exHistory5⟫.m = (.ok out, mb') ∧
    B2MOK ⟪exHistory5⟫.ext exDvars5 ⟪exHistory5⟫.m out mb' := by
  obtain ⟨out, mb', h, b, -⟩ := C15_bddToMdd_reachable5 St.init ⟨Good3.init, keysOK_init⟩
    exHistory5 exHistory5_guarded exDvars5 exDvars5_full
  exact ⟨out, mb', h, b⟩

/-- fifteen calls: the twelve of `exHistory5`, `copy_vars` from the smaller source, then — with
reordering enabled — `∃ a. (a ∧ b)` (the existing node 3 = `b`) and `let a = (a ∧ d) in (a ∧ b)`
(node 9 = `a ∧ b ∧ d`) -/
def exHistory5b : List UOp5 :=
  exHistory5 ++ [ .copyVars exSrcAB ["b", "a"], bop5 (.quantify 4 [.name "a"] false),
    bop5 (.let_ (.refs [("a", 6)]) 4) ]

theorem exHistory5b_guarded : Ops5Guarded exHistory5b St.init := by decide +kernel

/-- how the smaller source compares with the manager after `exHistory5` (the guard of the
thirteenth call of `exHistory5b`) -/
example : varsSubB exSrcAB ⟪exHistory5⟫.m.tbl = false ∧ varsBelowB exSrcAB ⟪exHistory5⟫.m.tbl = true ∧
    OrderOK exSrcAB ∧ ["b", "a"].Perm exSrcAB.vars.keys :=
  ⟨exHistory5_facts.2.1, exHistory5_facts.2.2.1, orderOK_of_check exHistory5_facts.2.2.2.1, exHistory5_facts.2.2.2.2⟩

example : GoodK ⟪exHistory5b⟫.m ⟪exHistory5b⟫.ext := reachable5K_inv exHistory5b exHistory5b_guarded

example : ∃ m', copyVarsCore exSrcAB ["b", "a"] ⟪exHistory5⟫.m = (.ok (), m') ∧
    Good3 m' ⟪exHistory5⟫.ext := by
  obtain ⟨m', h, g, -⟩ := C11_copyVars_weakest_every_history5 St.init Good3.init exHistory5
    exHistory5_guarded exSrcAB ["b", "a"] (orderOK_of_check exHistory5_facts.2.2.2.1) exHistory5_facts.2.2.2.2
    (varsBelow_of_check exHistory5_facts.2.2.1)
  exact ⟨m', h, g⟩

/-- C03 / C04 on the example, reordering ENABLED: node 4 = `a ∧ b` and node 6 = `a ∧ d` are held -/
theorem exHistory5_operands : OperandsOK ⟪exHistory5⟫.m ⟪exHistory5⟫.ext [4] ∧
    OperandsOK ⟪exHistory5⟫.m ⟪exHistory5⟫.ext (4 :: [("a", (6 : Int))].map (·.2)) := by
  have h4 : HeldX ⟪exHistory5⟫.ext 4 := Or.inr (by rw [show (4 : Int).natAbs = 4 from rfl, exHistory5_results.2.2.1]; decide)
  have h6 : HeldX ⟪exHistory5⟫.ext 6 := Or.inr (by rw [show (6 : Int).natAbs = 6 from rfl, exHistory5_results.2.2.2.1]; decide)
  refine ⟨Or.inr ⟨exHistory5_facts.1.1, ?_⟩, Or.inr ⟨exHistory5_facts.1.1, ?_⟩⟩
  · intro w hw
    simp only [List.mem_cons, List.not_mem_nil, or_false] at hw
    subst hw; exact h4
  · intro w hw
    simp only [List.map_cons, List.map_nil, List.mem_cons, List.not_mem_nil, or_false] at hw
    rcases hw with rfl | rfl
    · exact h4
    · exact h6

example : ∃ r m', runOp5 (bop5 (.quantify 4 (["a"].map Key.name) false)) ⟪exHistory5⟫.m = (.ok (.ref r), m') ∧
    (∀ σ, denN m'.tbl r σ = true ↔ qsemN false ["a"] (denN ⟪exHistory5⟫.m.tbl 4) σ) ∧
    Good3 m' ⟪exHistory5⟫.ext := by
  obtain ⟨r, m', h, -, d, g, -⟩ := C03_quantify_every_history5 St.init Good3.init exHistory5
    exHistory5_guarded 4 false ["a"]
    (fun n hn => exHistory5_facts.1.2.2.2 n (by
      simp only [List.mem_cons, List.not_mem_nil, or_false] at hn ⊢; exact Or.inl hn))
    exHistory5_operands.1
  exact ⟨r, m', h, d, g⟩

example : ∃ r m', runOp5 (bop5 (.let_ (.refs [("a", 6)]) 4)) ⟪exHistory5⟫.m = (.ok (.ref r), m') ∧
    (∀ σ, denN m'.tbl r σ = denN ⟪exHistory5⟫.m.tbl 4 (subN ⟪exHistory5⟫.m.tbl [("a", 6)] σ)) ∧
    Good3 m' ⟪exHistory5⟫.ext := by
  obtain ⟨r, m', h, -, d, g, -⟩ := (C04_let_every_history5 St.init Good3.init exHistory5
    exHistory5_guarded 4).2.1 [("a", 6)] (by simp)
    (fun p hp => by
      simp only [List.mem_cons, List.not_mem_nil, or_false] at hp
      subst hp; exact exHistory5_facts.1.2.2.2 "a" (by simp))
    exHistory5_operands.2
  exact ⟨r, m', h, d, g⟩

/-- C03 / C04, reordering NOT enabled, an operand nobody holds: after three calls node 4 = `a ∧ b`
exists with no reference to it -/
example : OperandsOK ⟪exHistory5.take 3⟫.m ⟪exHistory5.take 3⟫.ext [4] ∧
    ⟪exHistory5.take 3⟫.ext 4 = 0 := by
  have h : ⟪exHistory5.take 3⟫.m.lastLen = none ∧ ⟪exHistory5.take 3⟫.m.mem 4 = true ∧
      ⟪exHistory5.take 3⟫.ext 4 = 0 := by decide +kernel
  refine ⟨Or.inl ⟨h.1, fun w hw => ?_⟩, h.2.2⟩
  simp only [List.mem_cons, List.not_mem_nil, or_false] at hw
  subst hw; exact (Mgr.mem_iff _ 4).mp h.2.1

/-- `dddmp_start` on the example file of C16 (`dddmpChain`: variables `z`, `x`, `y`; roots 4 and -3): the
loaded manager with `roots` cleared starts a history in which the user takes a reference to the
first loaded root, collects (nothing is freed: the node of the other root is a successor of the
first), declares a variable and builds a formula (node 7 = `x ∧ w`) -/
def exDddmpM : Mgr :=
  match loadDddmp dddmpChain with
  | .ok m => { m with roots := [] }
  | .error _ => {}

def exHistoryDddmp : List UOp5 :=
  [ bop5 (.incref 4), bop5 .collectGarbage, bop5 (.declare "w" none), .op (.addExpr "x /\\ w") ]

theorem exHistoryDddmp_guarded : Ops5Guarded exHistoryDddmp ⟨exDddmpM, fun _ => 0⟩ := by
  decide +kernel

theorem exHistoryDddmp_results :
    (results5 exHistoryDddmp ⟨exDddmpM, fun _ => 0⟩).map resCode5 = [0, 0, 1003, 7] ∧
    (run5 exHistoryDddmp ⟨exDddmpM, fun _ => 0⟩).m.ref.toList =
      [(1, 9), (2, 2), (3, 1), (4, 1), (5, 0), (6, 1), (7, 0)] := by decide +kernel

example : GoodK (run5 exHistoryDddmp ⟨exDddmpM, fun _ => 0⟩).m
    (run5 exHistoryDddmp ⟨exDddmpM, fun _ => 0⟩).ext := by
  obtain ⟨m, hl, -, -, -, -, hrun⟩ := dddmp_start dddmpChain dddmpChain_wf
  have e : exDddmpM = { m with roots := [] } := by unfold exDddmpM; rw [hl]
  rw [e]
  exact hrun exHistoryDddmp (by rw [← e]; exact exHistoryDddmp_guarded)

end DD
