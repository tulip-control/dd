/-
  DDProps.Tables — proof obligations on the tables regenerated from /repo by
  harness/extract.py.  They are re-checked (by `decide`, a kernel computation
  over the whole finite table) on whatever the current source defines.
-/
import DD.Doc
import DD.Apply
namespace DD

def atomB (u v w : Bool) : Atom → Bool
  | .u => u | .v => v | .w => w
  | .nu => !u | .nv => !v | .nw => !w
  | .one => true | .mone => false
  | .bad => false

def atomOk : Atom → Bool
  | .bad => false
  | _ => true

def bools : List Bool := [false, true]

/-- the template of a row computes the documented connective of the alias -/
def rowSound (r : ApplyRow) (al : String) : Bool :=
  match docConn al, r.templ with
  | some .not, .neg => true
  | some .forall_, .quant true .u .v => true
  | some .exists_, .quant false .u .v => true
  | some c, .ite a b d =>
    c != .forall_ && c != .exists_ && c != .not &&
    atomOk a && atomOk b && atomOk d &&
    ((atomUsesW a || atomUsesW b || atomUsesW d) == (c.arity == 3)) &&
    bools.all fun u => bools.all fun v => bools.all fun w =>
      (if atomB u v w a then atomB u v w b else atomB u v w d) == c.eval u v w
  | _, _ => false

def tableSound (tbl : List ApplyRow) : Bool :=
  tbl.all fun r => r.aliases.all fun al => rowSound r al

/-- every alias of the vocabulary is handled by exactly one branch, with its arity class -/
def vocabComplete (tbl : List ApplyRow) : Bool :=
  Gen.allOps.all (fun o => (tbl.filter fun r => r.aliases.contains o).length == 1) &&
  (tbl.all fun r => r.aliases.all fun al => Gen.allOps.contains al) &&
  Gen.allOps.all (fun o =>
    match docConn o with
    | none => false
    | some c =>
      (c.arity == 1) == Gen.unaryOps.contains o &&
      (c.arity == 2) == Gen.binaryOps.contains o &&
      (c.arity == 3) == Gen.ternaryOps.contains o)

/-- `BDD.apply`: every branch of the current source computes the documented connective
for each of its spellings (all 8 operand valuations) -/
theorem applyTable_sound : tableSound Gen.applyTable = true := by decide +kernel

theorem applyTable_shape : Gen.applyShapeOk = true ∧ Gen.arityShapeOk = true := by decide

theorem vocab_complete : vocabComplete Gen.applyTable = true := by decide +kernel

/-- all spellings of one connective share one template -/
theorem spellings_same_template :
    (Gen.allOps.all fun a => Gen.allOps.all fun b =>
      docConn a != docConn b ||
      (findRow a Gen.applyTable).map (·.templ) == (findRow b Gen.applyTable).map (·.templ)) = true := by
  decide +kernel

/-- the reordering thresholds the model was written for -/
theorem reorder_constants :
    Gen.reorderFactor = 2 ∧ Gen.growthFactor = 2 ∧ Gen.reorderStarts = 100 := by decide

end DD
